import BV.Model.MatchFinder
import BV.Lemmas.HasherLoop
/-! Soundness of the match-length functions: whatever they return is a common prefix length. -/
namespace BV.MatchFinder
open BV.Hasher

def Agree (data : ByteArray) (p q n : Nat) : Prop :=
  p + n ≤ data.size ∧ q + n ≤ data.size ∧
    ∀ k, k < n → (data.get! (p + k)).toNat = (data.get! (q + k)).toNat

theorem Agree.mono {data : ByteArray} {p q n m : Nat} (h : Agree data p q n) (hm : m ≤ n) :
    Agree data p q m :=
  ⟨by have := h.1; omega, by have := h.2.1; omega, fun k hk => h.2.2 k (by omega)⟩

/-- the two `firstDiff` functions of the model (on the data buffer, on a dictionary word) are this recursion over two
byte sequences `a`, `b`: `none` = equal on `[0, n)`, `some i` = first difference -/
theorem firstDiffBy_spec (F : Nat → Option Nat) (a b : Nat → Nat) (h0 : F 0 = none)
    (hs : ∀ n, F (n + 1) = match F n with
      | some i => some i
      | none => if a n ≠ b n then some n else none) : ∀ n,
    (F n = none → ∀ k, k < n → a k = b k) ∧ (∀ i, F n = some i → i < n ∧ ∀ k, k < i → a k = b k) := by
  intro n
  induction n with
  | zero => exact ⟨fun _ k hk => absurd hk (Nat.not_lt_zero _), fun i h => by rw [h0] at h; cases h⟩
  | succ n ih =>
    obtain ⟨ih1, ih2⟩ := ih
    rw [hs]
    cases hfd : F n with
    | some j =>
      refine ⟨fun h => (by cases h), fun i h => ?_⟩
      injection h with h; subst h
      obtain ⟨a1, b1⟩ := ih2 j hfd
      exact ⟨by omega, b1⟩
    | none =>
      have hall := ih1 hfd
      by_cases hne : a n ≠ b n
      · simp only [if_pos hne]
        refine ⟨fun h => (by cases h), fun i h => ?_⟩
        injection h with h; subst h
        exact ⟨by omega, hall⟩
      · simp only [if_neg hne]
        refine ⟨fun _ k hk => ?_, fun i h => by cases h⟩
        by_cases hkn : k = n
        · subst hkn; exact Decidable.of_not_not hne
        · exact hall k (by omega)

theorem firstDiff_spec (data : ByteArray) (p q : Nat) : ∀ n,
    (firstDiff data p q n = none → ∀ k, k < n → (data.get! (p + k)).toNat = (data.get! (q + k)).toNat) ∧
    (∀ i, firstDiff data p q n = some i →
      i < n ∧ ∀ k, k < i → (data.get! (p + k)).toNat = (data.get! (q + k)).toNat) :=
  firstDiffBy_spec (firstDiff data p q) (fun k => (data.get! (p + k)).toNat) (fun k => (data.get! (q + k)).toNat) rfl
    fun _ => rfl

theorem cmpRun_some_none {data : ByteArray} {p q n : Nat} (h : cmpRun data p q n = some none) :
    Agree data p q n := by
  unfold cmpRun at h
  split at h
  · rename_i hb
    injection h with h
    exact ⟨hb.1, hb.2, (firstDiff_spec data p q n).1 h⟩
  · cases h

theorem cmpRun_some_some {data : ByteArray} {p q n i : Nat} (h : cmpRun data p q n = some (some i)) :
    i < n ∧ Agree data p q i := by
  unfold cmpRun at h
  split at h
  · rename_i hb
    injection h with h
    obtain ⟨a, b⟩ := (firstDiff_spec data p q n).2 i h
    exact ⟨a, by omega, by omega, b⟩
  · cases h

theorem findMatchLengthWithLimit_sound {data : ByteArray} {p q limit r : Nat}
    (h : findMatchLengthWithLimit data p q limit = some r) : r ≤ limit ∧ Agree data p q r := by
  unfold findMatchLengthWithLimit at h
  cases hc : cmpRun data p q limit with
  | none => simp [hc] at h
  | some o =>
    cases o with
    | none =>
      simp only [hc, Option.some.injEq] at h
      subst h
      exact ⟨Nat.le_refl _, cmpRun_some_none hc⟩
    | some i =>
      simp only [hc, Option.some.injEq] at h
      subst h
      obtain ⟨a, b⟩ := cmpRun_some_some hc
      exact ⟨by omega, b⟩

def EqUpTo (data : ByteArray) (p q n : Nat) : Prop :=
  ∀ k, k < n → (data.get! (p + k)).toNat = (data.get! (q + k)).toNat

theorem EqUpTo.append {data : ByteArray} {p q a b : Nat} (h1 : EqUpTo data p q a)
    (h2 : EqUpTo data (p + a) (q + a) b) : EqUpTo data p q (a + b) := by
  intro k hk
  by_cases hka : k < a
  · exact h1 k hka
  · have := h2 (k - a) (by omega)
    rwa [show p + a + (k - a) = p + k by omega, show q + a + (k - a) = q + k by omega] at this

theorem Agree.append {data : ByteArray} {p q a b : Nat} (h1 : Agree data p q a)
    (h2 : Agree data (p + a) (q + a) b) : Agree data p q (a + b) :=
  ⟨by have := h2.1; omega, by have := h2.2.1; omega, EqUpTo.append h1.2.2 h2.2.2⟩

theorem cmpChunks_sound (data : ByteArray) (p q : Nat) : ∀ (cs : List Nat) (off m : Nat) (st : Bool)
    (off' m' : Nat), cmpChunks data p q cs off m = some (st, off', m') →
    EqUpTo data p q off → m ≤ off →
    ∃ t, m' ≤ t ∧ t ≤ off + cs.sum ∧ EqUpTo data p q t ∧
      (st = true → p + t ≤ data.size ∧ q + t ≤ data.size) ∧
      (st = false → off' = off + cs.sum ∧ t = off') := by
  intro cs
  induction cs with
  | nil =>
    intro off m st off' m' h ha hm
    simp only [cmpChunks, Option.some.injEq, Prod.mk.injEq] at h
    obtain ⟨rfl, rfl, rfl⟩ := h
    exact ⟨off, hm, by simp, ha, fun hh => (by cases hh), fun _ => ⟨by simp, rfl⟩⟩
  | cons c cs ih =>
    intro off m st off' m' h ha hm
    simp only [cmpChunks] at h
    cases hc : cmpRun data (p + off) (q + off) c with
    | none => simp [hc] at h
    | some o =>
      cases o with
      | some i =>
        simp only [hc, Option.some.injEq, Prod.mk.injEq] at h
        obtain ⟨rfl, rfl, rfl⟩ := h
        obtain ⟨hi, hag⟩ := cmpRun_some_some hc
        refine ⟨off + i, ?_, by simp only [List.sum_cons]; omega, ha.append hag.2.2,
          fun _ => ⟨by have := hag.1; omega, by have := hag.2.1; omega⟩, fun hf => (by cases hf)⟩
        exact Nat.le_trans (Nat.mod_le _ _) (by omega)
      | none =>
        simp only [hc] at h
        have hag := cmpRun_some_none hc
        obtain ⟨t, h1, h2, h3, h4, h5⟩ := ih (off + c) ((m + c) % U32) st off' m' h (ha.append hag.2.2)
          (Nat.le_trans (Nat.mod_le _ _) (by omega))
        exact ⟨t, h1, by simp only [List.sum_cons]; omega, h3, h4,
          fun hf => by obtain ⟨a, b⟩ := h5 hf; exact ⟨by simp only [List.sum_cons]; omega, b⟩⟩

theorem chunks_sum_le (limit : Nat) : (chunks limit).sum + limit % 8 ≤ limit := by
  unfold chunks
  split
  · simp; omega
  · simp only []
    split
    · simp only [List.sum_cons, List.sum_replicate_nat]; omega
    · split
      · simp only [List.sum_cons, List.sum_replicate_nat]; omega
      · split
        · simp only [List.sum_cons, List.sum_replicate_nat]; omega
        · simp only [List.sum_cons, List.sum_append, List.sum_replicate_nat]; omega

theorem complex_sound {data : ByteArray} {p q limit r : Nat}
    (h : complexFindMatchLengthWithLimit data p q limit = some r) : r ≤ limit ∧ Agree data p q r := by
  unfold complexFindMatchLengthWithLimit at h
  have hsum := chunks_sum_le limit
  have h0 : EqUpTo data p q 0 := fun k hk => absurd hk (Nat.not_lt_zero _)
  cases hc : cmpChunks data p q (chunks limit) 0 0 with
  | none => simp [hc] at h
  | some x =>
    obtain ⟨st, off', m'⟩ := x
    obtain ⟨t, h1, h2, h3, h4, h5⟩ := cmpChunks_sound data p q _ 0 0 st off' m' hc h0 (Nat.le_refl _)
    cases st with
    | true =>
      simp only [hc, Option.some.injEq] at h
      subst h
      obtain ⟨b1, b2⟩ := h4 rfl
      exact ⟨by omega, by omega, by omega, fun k hk => h3 k (by omega)⟩
    | false =>
      obtain ⟨e1, e2⟩ := h5 rfl
      simp only [hc] at h
      split at h
      · rename_i hb
        cases hfd : firstDiff data (p + off') (q + off') (limit % 8) with
        | some i =>
          simp only [hfd, Option.some.injEq] at h
          subst h
          obtain ⟨hi, hall⟩ := (firstDiff_spec data (p + off') (q + off') (limit % 8)).2 i hfd
          have hag : EqUpTo data (p + t) (q + t) i := by rw [e2]; exact hall
          exact ⟨by omega, by omega, by omega, fun k hk => (h3.append hag) k (by omega)⟩
        | none =>
          simp only [hfd, Option.some.injEq] at h
          subst h
          have hall := (firstDiff_spec data (p + off') (q + off') (limit % 8)).1 hfd
          have hag : EqUpTo data (p + t) (q + t) (limit % 8) := by rw [e2]; exact hall
          exact ⟨by omega, by omega, by omega, fun k hk => (h3.append hag) k (by omega)⟩
      · cases h

theorem min4_sound {data : ByteArray} {p q limit r : Nat}
    (h : findMatchLengthWithLimitMin4 data p q limit = some r) : r ≤ limit ∧ Agree data p q r := by
  unfold findMatchLengthWithLimitMin4 at h
  cases hw1 : win data p 5 with
  | none => simp [hw1] at h
  | some w1 =>
    cases hw2 : win data q 5 with
    | none => simp [hw1, hw2] at h
    | some w2 =>
      simp only [hw1, hw2] at h
      have hp := (win_eq_some hw1).1
      have hq := (win_eq_some hw2).1
      have ag0 : Agree data p q 0 := ⟨by omega, by omega, fun k hk => absurd hk (Nat.not_lt_zero _)⟩
      split at h
      · injection h with h; subst h; exact ⟨Nat.zero_le _, ag0⟩
      · rename_i heq
        have heq' : le (w1.take 4) = le (w2.take 4) := Decidable.of_not_not heq
        have t1 := win_sub hw1 0 4 (by omega)
        have t2 := win_sub hw2 0 4 (by omega)
        simp only [Nat.add_zero, List.drop_zero] at t1 t2
        have hlist := le_inj _ _ (by rw [win_length t1, win_length t2]) (win_lt t1) (win_lt t2) heq'
        have ag4 : Agree data p q 4 := by
          refine ⟨by omega, by omega, fun k hk => ?_⟩
          rw [← win_getD t1 k hk, ← win_getD t2 k hk, hlist]
        split at h
        · injection h with h; subst h
          exact ⟨Nat.min_le_left _ _, ag4.mono (Nat.min_le_right _ _)⟩
        · rename_i hcond
          have hlim : ¬ limit ≤ 4 := fun hh => hcond (Or.inl hh)
          have h5 : w1.getD 4 0 = w2.getD 4 0 := Decidable.of_not_not (fun hh => hcond (Or.inr hh))
          rw [win_getD hw1 4 (by omega), win_getD hw2 4 (by omega)] at h5
          have ag5 : Agree data p q 5 := by
            refine ⟨by omega, by omega, fun k hk => ?_⟩
            by_cases hk4 : k < 4
            · exact ag4.2.2 k hk4
            · have : k = 4 := by omega
              subst this; exact h5
          cases hc : complexFindMatchLengthWithLimit data (p + 5) (q + 5) (limit - 5) with
          | none => simp [hc] at h
          | some n =>
            simp only [hc, Option.some.injEq] at h
            subst h
            obtain ⟨hn, hag⟩ := complex_sound hc
            refine ⟨by omega, ?_⟩
            have := ag5.append hag
            rwa [Nat.add_comm 5 n] at this

theorem min4_ge4 {data : ByteArray} {p q limit r : Nat}
    (h : findMatchLengthWithLimitMin4 data p q limit = some r) (hr : r ≠ 0) (hl : 4 ≤ limit) : 4 ≤ r := by
  unfold findMatchLengthWithLimitMin4 at h
  cases hw1 : win data p 5 with
  | none => simp [hw1] at h
  | some w1 =>
    cases hw2 : win data q 5 with
    | none => simp [hw1, hw2] at h
    | some w2 =>
      simp only [hw1, hw2] at h
      split at h
      · injection h with h; exact absurd h.symm hr
      · split at h
        · injection h with h; subst h; omega
        · cases hc : complexFindMatchLengthWithLimit data (p + 5) (q + 5) (limit - 5) with
          | none => simp [hc] at h
          | some n => simp only [hc, Option.some.injEq] at h; omega

end BV.MatchFinder
