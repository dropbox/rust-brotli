import BV.Lemmas.HeaderSpec
import BV.Lemmas.StreamLts
/-
The pieces the stream machine writes itself, under the independent RFC 7932 §9.2 reader
`BV.HeaderSpec.readMetaBlock` (the one the streaming reader of BV/Props/C04Run.lean is built on):
the sync padding block behind ANY carry (0..7 bits, or the 14 bits of a large-window header) and a
whole metadata block (header for `n ≤ 2^24` bytes, zero fill, `n` payload bytes), at every bit position
congruent to the carry modulo 8.
-/
namespace BV.Stream
open BV.Bits

theorem pad_readMetaBlock (lbb pos : Nat) (hp : pos % 8 = lbb % 8) (rest : List Bool) :
    BV.HeaderSpec.readMetaBlock pos (padBits lbb ++ rest)
      = some (BV.HeaderSpec.MetaBlock.metadata [], pos + (padBits lbb).length, rest) := by
  have hk : (8 - (pos + 1 + 2 + 3 + 8 * 0) % 8) % 8 = 8 * ((lbb + 6 + 7) / 8) - lbb - 6 := by omega
  simp only [padBits, syncBits, List.cons_append, List.nil_append, BV.HeaderSpec.readMetaBlock]
  simp [BV.HeaderSpec.takeVal, valOf, BV.HeaderSpec.skipPad, BV.HeaderSpec.takeBytes, hk]
  omega

theorem takeBytes_exact : ∀ (n : Nat) (bits rest : List Bool), bits.length = 8 * n →
    ∃ bytes, BV.HeaderSpec.takeBytes n (bits ++ rest) = some (bytes, rest) := by
  intro n
  induction n with
  | zero =>
    intro bits rest h
    have : bits = [] := List.eq_nil_of_length_eq_zero (by omega)
    subst this
    exact ⟨[], rfl⟩
  | succ n ih =>
    intro bits rest h
    have h8 : 8 ≤ (bits ++ rest).length := by rw [List.length_append]; omega
    obtain ⟨bytes, hb⟩ := ih (bits.drop 8) rest (by rw [List.length_drop]; omega)
    refine ⟨valOf ((bits ++ rest).take 8) :: bytes, ?_⟩
    unfold BV.HeaderSpec.takeBytes BV.HeaderSpec.takeVal
    rw [if_pos h8]
    simp only []
    rw [List.drop_append_of_le_length (by omega), hb]

/-- `hmin`: `v` does not fit in fewer than `k` length bytes, which the reader checks -/
theorem readMeta_build (k v : Nat) (hk : k ≤ 3) (hv : v < 2 ^ (8 * k))
    (hmin : k ≤ 1 ∨ 2 ^ (8 * (k - 1)) ≤ v) (pos : Nat) (payload rest : List Bool)
    (hpl : payload.length = 8 * (if k = 0 then 0 else v + 1)) :
    ∃ bytes, BV.HeaderSpec.readMetaBlock pos
        ([false, true, true, false] ++ bitsOf 2 k ++ bitsOf (8 * k) v
          ++ List.replicate ((8 - (pos + 6 + 8 * k) % 8) % 8) false ++ payload ++ rest)
      = some (BV.HeaderSpec.MetaBlock.metadata bytes,
          pos + 6 + 8 * k + (8 - (pos + 6 + 8 * k) % 8) % 8 + payload.length, rest) := by
  have hbits : bitsOf 2 k = [k % 2 == 1, k / 2 % 2 == 1] := by simp [bitsOf]
  have hkk : valOf [k % 2 == 1, k / 2 % 2 == 1] = k := by
    have : k = 0 ∨ k = 1 ∨ k = 2 ∨ k = 3 := by omega
    rcases this with rfl | rfl | rfl | rfl <;> rfl
  obtain ⟨bytes, hbytes⟩ := takeBytes_exact (if k = 0 then 0 else v + 1) payload rest hpl
  refine ⟨bytes, ?_⟩
  rw [hbits]
  simp only [List.cons_append, List.nil_append, List.append_assoc, BV.HeaderSpec.readMetaBlock]
  have t1 : ∀ R : List Bool, BV.HeaderSpec.takeVal 2 (true :: true :: R) = some (3, R) := by
    intro R; simp [BV.HeaderSpec.takeVal, valOf]
  have t2 : ∀ R : List Bool, BV.HeaderSpec.takeVal 2 ((k % 2 == 1) :: (k / 2 % 2 == 1) :: R) = some (k, R) := by
    intro R
    have := hkk
    simp [BV.HeaderSpec.takeVal, this]
  have t3 : ∀ R : List Bool, BV.HeaderSpec.takeVal (8 * k) (bitsOf (8 * k) v ++ R) = some (v, R) := by
    intro R
    unfold BV.HeaderSpec.takeVal
    rw [if_pos (by rw [List.length_append, bitsOf_length]; omega)]
    rw [List.take_append_of_le_length (by rw [bitsOf_length]; exact Nat.le_refl _),
      List.take_of_length_le (by rw [bitsOf_length]; exact Nat.le_refl _),
      List.drop_append_of_le_length (by rw [bitsOf_length]; exact Nat.le_refl _),
      List.drop_of_length_le (by rw [bitsOf_length]; exact Nat.le_refl _), valOf_bitsOf_lt hv]
    rfl
  have hnot : ¬ (k > 1 ∧ v / 2 ^ (8 * (k - 1)) = 0) := by
    intro ⟨hk1, hz⟩
    rcases hmin with h | h
    · omega
    · have hpos : 0 < 2 ^ (8 * (k - 1)) := Nat.pow_pos (by omega)
      have : 1 ≤ v / 2 ^ (8 * (k - 1)) := (Nat.le_div_iff_mul_le hpos).mpr (by omega)
      omega
  simp only [Bool.false_eq_true, if_false, t1, t2, t3, hnot]
  have hpe : pos + 1 + 2 + 3 + 8 * k = pos + 6 + 8 * k := by omega
  simp only [hpe]
  have hsk : BV.HeaderSpec.skipPad (pos + 6 + 8 * k)
      (List.replicate ((8 - (pos + 6 + 8 * k) % 8) % 8) false ++ (payload ++ rest)) = some (payload ++ rest) := by
    unfold BV.HeaderSpec.skipPad
    simp
  simp only [hsk]
  rw [if_pos trivial, hbytes, hpl]
  rfl

theorem md_block_readMetaBlock (n lbb pos : Nat) (hn : n ≤ 16777216) (hp : pos % 8 = lbb % 8)
    (payload rest : List Bool) (hpl : payload.length = 8 * n) :
    ∃ bytes, BV.HeaderSpec.readMetaBlock pos (mdHeaderTail n lbb ++ payload ++ rest)
      = some (BV.HeaderSpec.MetaBlock.metadata bytes, pos + (mdHeaderTail n lbb ++ payload).length, rest) ∧
      (pos + (mdHeaderTail n lbb ++ payload).length) % 8 = 0 := by
  obtain ⟨k, hk, k2, k3, k4, hkpl⟩ : ∃ k, (if n = 0 then 0 else mdNbytes n) = k ∧ k ≤ 3 ∧ n - 1 < 2 ^ (8 * k)
      ∧ (k ≤ 1 ∨ 2 ^ (8 * (k - 1)) ≤ n - 1) ∧ (if k = 0 then 0 else n - 1 + 1) = n := by
    by_cases h0 : n = 0
    · subst h0
      exact ⟨0, rfl, Nat.zero_le _, Nat.one_pos, Or.inl (Nat.zero_le _), rfl⟩
    · obtain ⟨k1, k2, k3, k4⟩ := mdNbytes_spec (by omega : 1 ≤ n) hn
      exact ⟨mdNbytes n, if_neg h0, k2, k3, k4, by rw [if_neg (by omega)]; omega⟩
  have e : mdHeader n = [false, true, true, false] ++ bitsOf 2 k ++ bitsOf (8 * k) (n - 1) := by
    unfold mdHeader; rw [hk]
  have hl : (mdHeader n).length = 6 + 8 * k := by rw [mdHeader_length, hk]
  obtain ⟨bytes, hb⟩ := readMeta_build k (n - 1) k2 k3 k4 pos payload rest (by rw [hkpl, hpl])
  have hpad : (8 - (lbb + (mdHeader n).length) % 8) % 8 = (8 - (pos + 6 + 8 * k) % 8) % 8 := by
    rw [hl]; omega
  refine ⟨bytes, ?_, ?_⟩
  · unfold mdHeaderTail
    rw [hpad, e, hb]
    simp only [List.length_append, List.length_replicate, bitsOf_length, List.length_cons, List.length_nil,
      Option.some.injEq, Prod.mk.injEq, true_and, and_true]
    omega
  · unfold mdHeaderTail
    simp only [List.length_append, List.length_replicate, hpl, hl]
    omega

end BV.Stream
