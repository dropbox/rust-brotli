import BV.Lemmas.StreamChunk
import BV.Lemmas.StreamSchedRun
/-!
Input-chunking independence (C05): on the ring-free machine, a PROCESS request followed by another request
is the second request with the concatenated input — provided the second request is a PROCESS, or still has a
byte of its own, or the first request does not end on an input-block boundary (`vmerge`; along whole runs in
Props/C05Chunk: `vmerge_end`, `merged_requests`).
Block boundaries are a function of the cumulative position: a copy of `n` bytes moves the block counter by
exactly `n` (`rbs_vCopy`).
-/

namespace BV.Stream
open BV.Bits

inductive VPath (o : Oracle) (op : Nat) : Abs → Nat → Abs → Prop
  | nil (a : Abs) : VPath o op a 0 a
  | cons {a a1 b : Abs} {n : Nat} : vstep o op a = some a1 → ¬ FlushStep a a1 → VPath o op a1 n b → VPath o op a (n + 1) b

theorem vpath_walk {o : Oracle} {op : Nat} {a b : Abs} {n : Nat} :
    VPath o op a n b ↔ Walk (vstep o op) FlushStep a n b := by
  constructor
  · intro h
    induction h with
    | nil a => exact .nil a
    | cons hs hf _ ih => exact .cons hs hf ih
  · intro h
    induction h with
    | nil a => exact .nil a
    | cons hs hf _ ih => exact .cons hs hf ih

theorem VPath.append {o : Oracle} {op : Nat} {a b c : Abs} {n m : Nat} (h1 : VPath o op a n b) (h2 : VPath o op b m c) :
    VPath o op a (n + m) c :=
  vpath_walk.mpr ((vpath_walk.mp h1).append (vpath_walk.mp h2))

theorem vpath_split {o : Oracle} {op : Nat} {a b c : Abs} {n m : Nat} (h1 : VPath o op a n b) (h2 : VPath o op a (n + m) c) :
    VPath o op b m c :=
  vpath_walk.mpr ((vpath_walk.mp h1).split (vpath_walk.mp h2))

def VEnd (o : Oracle) (op : Nat) (a b : Abs) : Bool → Prop
  | false => ∃ n, VPath o op a n b
  | true => ∃ n x, VPath o op a n x ∧ vstep o op x = some b ∧ FlushStep x b

theorem vend_at {o : Oracle} {op : Nat} {a b : Abs} {d : Bool} :
    VEnd o op a b d ↔ ∃ n, At (vstep o op) FlushStep a n b d := by
  cases d <;> simp only [VEnd, At, vpath_walk]

theorem vend_final_eq {o : Oracle} {op : Nat} {a b1 b2 : Abs} {d1 d2 : Bool}
    (h1 : VEnd o op a b1 d1) (h2 : VEnd o op a b2 d2)
    (f1 : d1 = true ∨ vstep o op b1 = none) (f2 : d2 = true ∨ vstep o op b2 = none) : b1 = b2 := by
  obtain ⟨_, a1⟩ := vend_at.mp h1
  obtain ⟨_, a2⟩ := vend_at.mp h2
  exact (a1.final_eq a2 f1 f2).2

/-- `hint`: with an explicit size hint `update_size_hint` is the identity -/
structure VGood (a : Abs) : Prop where
  init : a.s.isInitialized = true
  nf : ¬ fastMode a.s.params
  ncat : a.s.params.catable = false
  hint : a.s.params.sizeHint ≠ 0
  bs : a.s.blockSize < two64
  nowrap : a.s.inputPos + a.input.length < two64
  inlen : a.availIn = a.input.length

theorem encPayloadPure_frame (s : St) (ans : Ans) (w0 w : Writer) (hdr : Nat) (il ff : Bool) :
    (encPayloadPure s ans w0 w hdr il ff).frame = s.frame := by
  unfold encPayloadPure
  simp only []
  split
  · split <;> rfl
  · split
    · rfl
    · split <;> rfl

theorem uEnc_frame {o : Oracle} {s s' : St} {site : Nat} {il ff : Bool} {p : Bytes}
    (h : uEnc o s site il ff = some (s', p)) : s'.frame = s.frame := by
  unfold uEnc encPre3 at h
  cases hr : encPrelude (encMagic (encStart s il) s.carry).1 (encMagic (encStart s il) s.carry).2.1
      (encMagic (encStart s il) s.carry).2.2 (s.unprocessed % two32) with
  | ok r =>
    obtain ⟨a2, w, hdr⟩ := r
    rw [hr] at h
    simp only [uEncOf, Option.some.injEq, Prod.mk.injEq] at h
    obtain ⟨rfl, _⟩ := h
    have f1 := (encPrelude_frame hr).frame
    have f2 := (encMagic_frame (encStart s il) s.carry).frame
    have f3 := encPayloadPure_frame a2 (o s.nEnc (reqOf s site il ff)) s.carry w hdr il ff
    have f4 : (encStart s il).frame = s.frame := rfl
    have f5 : ∀ x : St, (core x).frame = x.frame := fun _ => rfl
    rw [f5, f3, f1, f2, f4]
  | panic => rw [hr] at h; simp [uEncOf] at h
  | fuel => rw [hr] at h; simp [uEncOf] at h

theorem updateSizeHint_id {s : St} (h : s.params.sizeHint ≠ 0) (n : Nat) : updateSizeHint s n = s := by
  unfold updateSizeHint
  rw [if_neg h]

theorem blockSize_of_params {s s' : St} (h : s'.params = s.params) : s'.blockSize = s.blockSize := by
  unfold St.blockSize; rw [h]

theorem VGood.of_eq {a b : Abs} (h : VGood a) (hp : b.s.params = a.s.params) (hi : b.s.isInitialized = a.s.isInitialized)
    (hw : b.s.inputPos + b.input.length < two64) (hl : b.availIn = b.input.length) : VGood b :=
  ⟨hi.trans h.init, by rw [hp]; exact h.nf, by rw [hp]; exact h.ncat, by rw [hp]; exact h.hint,
    by rw [blockSize_of_params hp]; exact h.bs, hw, hl⟩

theorem uEncStep_good {o : Oracle} {op : Nat} {a a' : Abs} (hint : a.s.params.sizeHint ≠ 0)
    (h : uEncStep o op a = some a') :
    ∃ s' p, uEnc o a.s 0 (decide (a.availIn = 0 ∧ op = 2)) (decide (a.availIn = 0 ∧ op = 1)) = some (s', p)
      ∧ a' = ⟨core (markAfterEncode s' (decide (a.availIn = 0 ∧ op = 2)) (decide (a.availIn = 0 ∧ op = 1))), a.out ++ p, a.input, a.availIn⟩
      ∧ s'.frame = a.s.frame := by
  unfold uEncStep at h
  rw [updateSizeHint_id hint] at h
  cases hu : uEnc o a.s 0 (decide (a.availIn = 0 ∧ op = 2)) (decide (a.availIn = 0 ∧ op = 1)) with
  | none => rw [hu] at h; simp [uEncOut] at h
  | some r =>
    obtain ⟨s', p⟩ := r
    rw [hu] at h
    simp only [uEncOut, Option.some.injEq] at h
    exact ⟨s', p, rfl, h.symm, uEnc_frame hu⟩

theorem markAfterEncode_frame5 (s : St) (a b : Bool) :
    (markAfterEncode s a b).params = s.params ∧ (markAfterEncode s a b).inputPos = s.inputPos
    ∧ (markAfterEncode s a b).isInitialized = s.isInitialized := by
  unfold markAfterEncode
  cases a <;> cases b <;> exact ⟨rfl, rfl, rfl⟩

theorem vstep_copy {o : Oracle} {op k : Nat} {a : Abs} (hi : a.s.isInitialized = true) (hnf : ¬ fastMode a.s.params)
    (hin : a.availIn = a.input.length) (hc : remainingInputBlockSize a.s ≠ 0 ∧ a.availIn ≠ 0)
    (hk : min (remainingInputBlockSize a.s) a.availIn = k) :
    vstep o op a = some ⟨core (vCopySt a.s k), a.out, a.input.drop k, (a.input.drop k).length⟩ := by
  rw [vstep_slow hi hnf, if_pos hc]
  unfold vCopy
  rw [hk, if_neg (by omega), List.length_drop, hin]

theorem vstep_enc {o : Oracle} {op : Nat} {a : Abs} (hG : VGood a)
    (hnc : ¬ (remainingInputBlockSize a.s ≠ 0 ∧ a.availIn ≠ 0)) (hnp : ¬ PadDue a.s)
    (he : a.s.streamState = .processing ∧ (remainingInputBlockSize a.s = 0 ∨ op ≠ 0)) :
    vstep o op a = uEncOut (uEnc o a.s 0 (decide (a.availIn = 0 ∧ op = 2)) (decide (a.availIn = 0 ∧ op = 1))) a
      (decide (a.availIn = 0 ∧ op = 2)) (decide (a.availIn = 0 ∧ op = 1)) := by
  rw [vstep_slow hG.init hG.nf, if_neg hnc, if_neg hnp, if_pos he]
  unfold uEncStep
  rw [updateSizeHint_id hG.hint]

theorem vstep_good {o : Oracle} {op : Nat} {a a' : Abs} (hG : VGood a) (h : vstep o op a = some a') : VGood a' := by
  by_cases hc : remainingInputBlockSize a.s ≠ 0 ∧ a.availIn ≠ 0
  · rw [vstep_copy hG.init hG.nf hG.inlen hc rfl] at h
    cases h
    have hw := hG.nowrap
    have hl := hG.inlen
    refine hG.of_eq rfl rfl ?_ rfl
    show (a.s.inputPos + min (remainingInputBlockSize a.s) a.availIn) % two64
      + (a.input.drop (min (remainingInputBlockSize a.s) a.availIn)).length < two64
    rw [List.length_drop, Nat.mod_eq_of_lt (by omega)]
    omega
  · rw [vstep_slow hG.init hG.nf, if_neg hc] at h
    by_cases hp : PadDue a.s
    · rw [if_pos hp] at h
      cases h
      exact hG.of_eq rfl rfl hG.nowrap hG.inlen
    · rw [if_neg hp] at h
      by_cases he : a.s.streamState = .processing ∧ (remainingInputBlockSize a.s = 0 ∨ op ≠ 0)
      · rw [if_pos he] at h
        obtain ⟨s', p, _, rfl, f⟩ := uEncStep_good hG.hint h
        replace f := St.frame_eq f
        obtain ⟨f1, f2, _, _, f5, _, _⟩ := f
        obtain ⟨m1, m2, m3⟩ := markAfterEncode_frame5 s' (decide (a.availIn = 0 ∧ op = 2)) (decide (a.availIn = 0 ∧ op = 1))
        have hp : (core (markAfterEncode s' (decide (a.availIn = 0 ∧ op = 2)) (decide (a.availIn = 0 ∧ op = 1)))).params = a.s.params := m1.trans f1
        refine hG.of_eq hp (m3.trans f5) ?_ hG.inlen
        show (markAfterEncode s' _ _).inputPos + a.input.length < two64
        rw [m2, f2]; exact hG.nowrap
      · rw [if_neg he] at h
        by_cases hf : a.s.streamState = .flushRequested
        · rw [if_pos hf] at h
          cases h
          exact hG.of_eq rfl rfl hG.nowrap hG.inlen
        · rw [if_neg hf] at h
          cases h

theorem vgood_erA {a : Abs} : VGood (erA a) ↔ VGood a :=
  ⟨fun h => h.of_eq rfl rfl h.nowrap h.inlen, fun h => h.of_eq rfl rfl h.nowrap h.inlen⟩

theorem upath_er {o : Oracle} {op : Nat} {a b : Abs} {n : Nat} (h : UPath o op a n b) (hG : VGood a) :
    VPath o op (erA a) n (erA b) ∧ VGood b := by
  induction h with
  | nil _ => exact ⟨.nil _, hG⟩
  | @cons a a1 b n hs hf _ ih =>
    have hv := ustep_er hG.init hG.nf hG.ncat hs
    have hG1 : VGood a1 := vgood_erA.mp (vstep_good (vgood_erA.mpr hG) hv)
    obtain ⟨p, g⟩ := ih hG1
    exact ⟨.cons hv hf p, g⟩

theorem rpath_er {o : Oracle} {op : Nat} {a b : Abs} {d : Bool} (h : RPath o op a b d) (hG : VGood a) :
    VEnd o op (erA a) (erA b) d ∧ VGood b := by
  cases d with
  | false =>
    obtain ⟨n, p⟩ := h
    obtain ⟨q, g⟩ := upath_er p hG
    exact ⟨⟨n, q⟩, g⟩
  | true =>
    obtain ⟨n, x, p, hs, hf⟩ := h
    obtain ⟨q, g⟩ := upath_er p hG
    have hv := ustep_er g.init g.nf g.ncat hs
    exact ⟨⟨n, erA x, q, hv, hf⟩, vgood_erA.mp (vstep_good (vgood_erA.mpr g) hv)⟩

theorem uEnc_some (o : Oracle) (s : St) (site : Nat) (il ff : Bool) (hcat : s.params.catable = false) :
    ∃ r, uEnc o s site il ff = some r :=
  ⟨_, uEnc_ncat o hcat site il ff⟩

theorem uEncStep_some (o : Oracle) (op : Nat) (a : Abs) (hG : VGood a) : ∃ a', uEncStep o op a = some a' := by
  unfold uEncStep
  rw [updateSizeHint_id hG.hint]
  obtain ⟨⟨s', p⟩, hr⟩ := uEnc_some o a.s 0 (decide (a.availIn = 0 ∧ op = 2)) (decide (a.availIn = 0 ∧ op = 1)) hG.ncat
  rw [hr]
  exact ⟨_, rfl⟩

theorem final_er {o : Oracle} {op : Nat} {b : Abs} (hG : VGood b) (hin : b.input = []) (h : ustep o op b = none) :
    vstep o op (erA b) = none := by
  have hav : b.availIn = 0 := by rw [hG.inlen, hin]; rfl
  have hc : ¬ (remainingInputBlockSize b.s ≠ 0 ∧ b.availIn ≠ 0) := fun hh => hh.2 hav
  rw [ustep_slow hG.init hG.nf, if_neg hc] at h
  have hp : ¬ PadDue b.s := fun hp => by rw [if_pos hp] at h; cases h
  rw [if_neg hp] at h
  have he : ¬ (b.s.streamState = .processing ∧ (remainingInputBlockSize b.s = 0 ∨ op ≠ 0)) := fun he => by
    rw [if_pos he] at h
    obtain ⟨a', ha'⟩ := uEncStep_some o op b hG
    rw [ha'] at h; cases h
  rw [if_neg he] at h
  have hf : ¬ (b.s.streamState = .flushRequested) := fun hf => by rw [if_pos hf] at h; cases h
  rw [vstep_slow (a := erA b) hG.init hG.nf]
  exact (if_neg hc).trans ((if_neg hp).trans ((if_neg he).trans (if_neg hf)))

theorem wsub64_add (a b k : Nat) : wsub64 ((a + k) % two64) b = (wsub64 a b + k) % two64 := by
  unfold wsub64 two64
  omega

theorem rbs_vCopy {s : St} {k : Nat} (hbs : s.blockSize < two64) (hk : k ≤ remainingInputBlockSize s) :
    remainingInputBlockSize (core (vCopySt s k)) = remainingInputBlockSize s - k := by
  have hB : (core (vCopySt s k)).blockSize = s.blockSize := rfl
  have hu : (core (vCopySt s k)).unprocessed = (s.unprocessed + k) % two64 := by
    unfold St.unprocessed
    exact wsub64_add s.inputPos s.lastProcessedPos k
  have hlt : s.unprocessed < two64 := Nat.mod_lt _ (by unfold two64; omega)
  unfold remainingInputBlockSize at hk ⊢
  simp only [hB, hu] at hk ⊢
  generalize s.unprocessed = d at *
  generalize s.blockSize = B at *
  by_cases h1 : d ≥ B
  · rw [if_pos h1] at hk ⊢
    have hk0 : k = 0 := by omega
    subst hk0
    rw [Nat.add_zero, Nat.mod_eq_of_lt hlt, if_pos h1]
  · rw [if_neg h1] at hk ⊢
    rw [Nat.mod_eq_of_lt (by omega)]
    split <;> omega

theorem vCopySt_add (s : St) (j k : Nat) : core (vCopySt (core (vCopySt s j)) k) = core (vCopySt s (j + k)) := by
  unfold vCopySt core
  simp only [St.mk.injEq, and_true, true_and]
  unfold two64
  omega

structure VPos (s : St) : Prop where
  fl : s.lastFlushPos ≤ s.lastProcessedPos
  lp : s.lastProcessedPos ≤ s.inputPos
  ub : s.inputPos - s.lastProcessedPos ≤ s.blockSize

theorem VPos.unprocessed {s : St} (h : VPos s) (hlt : s.inputPos < two64) : s.unprocessed = s.inputPos - s.lastProcessedPos :=
  wsub64_eq h.lp hlt

theorem encPayloadPure_pos (s : St) (ans : Ans) (w0 w : Writer) (hdr : Nat) (il ff : Bool)
    (h1 : s.lastFlushPos ≤ s.lastProcessedPos) (h2 : s.lastProcessedPos ≤ s.inputPos) :
    (encPayloadPure s ans w0 w hdr il ff).lastFlushPos ≤ (encPayloadPure s ans w0 w hdr il ff).lastProcessedPos
    ∧ (encPayloadPure s ans w0 w hdr il ff).lastProcessedPos ≤ s.inputPos
    ∧ (encPayloadPure s ans w0 w hdr il ff).inputPos = s.inputPos
    ∧ (s.unprocessed ≠ 0 → s.inputPos < two64 → (encPayloadPure s ans w0 w hdr il ff).lastProcessedPos = s.inputPos) := by
  unfold encPayloadPure
  simp only []
  split
  · split
    · rename_i hz
      exact ⟨h1, h2, rfl, fun hne _ => absurd hz.1 hne⟩
    · exact ⟨Nat.le_refl _, Nat.le_refl _, rfl, fun _ _ => rfl⟩
  · split
    · exact ⟨Nat.le_trans h1 h2, Nat.le_refl _, rfl, fun _ _ => rfl⟩
    · split
      · rename_i hz
        refine ⟨h1, h2, rfl, fun hne hlt => ?_⟩
        have : s.lastProcessedPos = s.inputPos := by have := hz.2; omega
        exact this
      · exact ⟨Nat.le_refl _, Nat.le_refl _, rfl, fun _ _ => rfl⟩

theorem uEnc_pos {o : Oracle} {s s' : St} {site : Nat} {il ff : Bool} {p : Bytes} (hcat : s.params.catable = false)
    (hP : VPos s) (h : uEnc o s site il ff = some (s', p)) :
    s'.lastFlushPos ≤ s'.lastProcessedPos ∧ s'.lastProcessedPos ≤ s.inputPos ∧ s'.inputPos = s.inputPos
    ∧ (s.unprocessed ≠ 0 → s.inputPos < two64 → s'.lastProcessedPos = s.inputPos) := by
  rw [uEnc_ncat o hcat] at h
  simp only [uEncOf, Option.some.injEq, Prod.mk.injEq] at h
  obtain ⟨rfl, _⟩ := h
  have m := encMagic_frame (encStart s il) s.carry
  generalize hM : ({ (encMagic (encStart s il) s.carry).1 with isFirstMb := .bothCatable } : St) = a2
  have e1 : a2.lastFlushPos = s.lastFlushPos := by rw [← hM]; exact m.lastFlushPos
  have e2 : a2.lastProcessedPos = s.lastProcessedPos := by rw [← hM]; exact m.lastProcessedPos
  have e3 : a2.inputPos = s.inputPos := by rw [← hM]; exact (St.frame_eq m.frame).inputPos
  have eu : a2.unprocessed = s.unprocessed := by unfold St.unprocessed; rw [e2, e3]
  obtain ⟨r1, r2, r3, r4⟩ := encPayloadPure_pos a2 (o s.nEnc (reqOf s site il ff)) s.carry
    (encMagic (encStart s il) s.carry).2.1 (encMagic (encStart s il) s.carry).2.2 il ff
    (by rw [e1, e2]; exact hP.fl) (by rw [e2, e3]; exact hP.lp)
  refine ⟨r1, by rw [← e3]; exact r2, r3.trans e3, fun hne hlt => ?_⟩
  rw [← e3]
  exact r4 (by rw [eu]; exact hne) (by rw [e3]; exact hlt)

theorem VPos.copy {s : St} {k : Nat} (hP : VPos s) (hk : k ≤ remainingInputBlockSize s) (hk0 : k ≠ 0)
    (hw : s.inputPos + k < two64) : VPos (core (vCopySt s k)) := by
  have hlp := hP.lp
  have h1 := rbs_of_le hlp (by omega) hP.ub
  have hip : (core (vCopySt s k)).inputPos = s.inputPos + k := Nat.mod_eq_of_lt hw
  refine ⟨hP.fl, ?_, ?_⟩
  · show s.lastProcessedPos ≤ (core (vCopySt s k)).inputPos
    rw [hip]; omega
  · show (core (vCopySt s k)).inputPos - s.lastProcessedPos ≤ s.blockSize
    rw [hip]; omega

def NotBoundary (s : St) (c1 : Bytes) : Prop := (s.inputPos - s.lastProcessedPos + c1.length) % s.blockSize ≠ 0

theorem NotBoundary.copy {s : St} {c : Bytes} {k : Nat} (hP : VPos s) (hk : k ≤ c.length) (hw : s.inputPos + k < two64)
    (h : NotBoundary s c) : NotBoundary (core (vCopySt s k)) (c.drop k) := by
  have hlp := hP.lp
  have hip : (core (vCopySt s k)).inputPos = s.inputPos + k := Nat.mod_eq_of_lt hw
  unfold NotBoundary at h ⊢
  show ((core (vCopySt s k)).inputPos - s.lastProcessedPos + (c.drop k).length) % s.blockSize ≠ 0
  rw [hip, List.length_drop]
  have e : s.inputPos + k - s.lastProcessedPos + (c.length - k) = s.inputPos - s.lastProcessedPos + c.length := by omega
  rw [e]; exact h

structure VStart (s : St) (inp : Bytes) : Prop where
  good : VGood ⟨s, [], inp, inp.length⟩
  proc : s.streamState = .processing
  pos : VPos s

theorem VStart.toGood {s : St} {inp : Bytes} (h : VStart s inp) (out : Bytes) : VGood ⟨s, out, inp, inp.length⟩ :=
  h.good.of_eq rfl rfl h.good.nowrap rfl

theorem VStart.of_good {a : Abs} (hG : VGood a) (hp : a.s.streamState = .processing) (hpos : VPos a.s) : VStart a.s a.input :=
  ⟨hG.of_eq rfl rfl hG.nowrap rfl, hp, hpos⟩

theorem noflush_of_processing {a b : Abs} (h : a.s.streamState = .processing) : ¬ FlushStep a b := by
  intro hf; rw [hf.1] at h; cases h

theorem VStart.left {s : St} {a b : Bytes} (h : VStart s (a ++ b)) : VStart s a := by
  have hw := h.good.nowrap
  simp only [List.length_append] at hw
  exact ⟨h.good.of_eq rfl rfl (by show s.inputPos + a.length < two64; omega) rfl, h.proc, h.pos⟩

theorem vstep_rest {o : Oracle} {a : Abs} (hi : a.s.isInitialized = true) (hnf : ¬ fastMode a.s.params)
    (hp : a.s.streamState = .processing) (hav : a.availIn = 0) (hb : remainingInputBlockSize a.s ≠ 0) :
    vstep o 0 a = none := by
  have e2 : ¬ PadDue a.s := fun h => by have h1 := h.1; rw [hp] at h1; cases h1
  have e3 : ¬ (a.s.streamState = .processing ∧ (remainingInputBlockSize a.s = 0 ∨ (0 : Nat) ≠ 0)) :=
    fun h => h.2.elim hb (fun h0 => h0 rfl)
  have e4 : ¬ (a.s.streamState = .flushRequested) := by rw [hp]; simp
  rw [vstep_slow hi hnf, if_neg (fun h => h.2 hav), if_neg e2, if_neg e3, if_neg e4]

/-- the payload-encoder request `vstep` issues in configuration `a`, if any -/
def vreq (op : Nat) (a : Abs) : List Req :=
  if a.s.isInitialized = false then []
  else if fastMode a.s.params then []
  else if remainingInputBlockSize a.s ≠ 0 ∧ a.availIn ≠ 0 then []
  else if PadDue a.s then []
  else if a.s.streamState = .processing ∧ (remainingInputBlockSize a.s = 0 ∨ op ≠ 0) then
    [reqOf a.s 0 (decide (a.availIn = 0 ∧ op = 2)) (decide (a.availIn = 0 ∧ op = 1))]
  else []

def vlog (o : Oracle) (op : Nat) : Nat → Abs → List Req
  | 0, _ => []
  | n + 1, a =>
    match vstep o op a with
    | some a1 => vreq op a ++ vlog o op n a1
    | none => []

theorem vlog_succ {o : Oracle} {op : Nat} {a a1 : Abs} (n : Nat) (h : vstep o op a = some a1) :
    vlog o op (n + 1) a = vreq op a ++ vlog o op n a1 := by
  simp only [vlog, h]

theorem vlog_append {o : Oracle} {op : Nat} {a b : Abs} {n : Nat} (h : VPath o op a n b) (m : Nat) :
    vlog o op (n + m) a = vlog o op n a ++ vlog o op m b := by
  induction h with
  | nil _ => simp [vlog]
  | @cons a a1 b n hs _ _ ih =>
    have : n + 1 + m = (n + m) + 1 := by omega
    rw [this, vlog_succ _ hs, vlog_succ _ hs, ih, List.append_assoc]

theorem vreq_copy {op : Nat} {a : Abs} (hi : a.s.isInitialized = true) (hnf : ¬ fastMode a.s.params)
    (hc : remainingInputBlockSize a.s ≠ 0 ∧ a.availIn ≠ 0) : vreq op a = [] := by
  unfold vreq
  rw [if_neg (by rw [hi]; simp), if_neg hnf, if_pos hc]

theorem vreq_enc {op : Nat} {a : Abs} (hi : a.s.isInitialized = true) (hnf : ¬ fastMode a.s.params)
    (hc : ¬ (remainingInputBlockSize a.s ≠ 0 ∧ a.availIn ≠ 0)) (hp : ¬ PadDue a.s)
    (he : a.s.streamState = .processing ∧ (remainingInputBlockSize a.s = 0 ∨ op ≠ 0)) :
    vreq op a = [reqOf a.s 0 (decide (a.availIn = 0 ∧ op = 2)) (decide (a.availIn = 0 ∧ op = 1))] := by
  unfold vreq
  rw [if_neg (by rw [hi]; simp), if_neg hnf, if_neg hc, if_neg hp, if_pos he]

/-- `c1` as a PROCESS request and then `(op2, c2)`, against the single request `(op2, c1 ++ c2)` (ring-free machine).
Second disjunct: where `c1` ends inside an input block, the copy step of the merged request runs on into `c2`, past the
configuration `C` in which the second request starts, and lands one copy step behind `C`.  The proviso is sharp: after a
`c1` that ends on a block boundary, a FLUSH / FINISH without input issues a request of its own for the empty rest, where
the merged request puts its flag on the full block. -/
theorem vmerge {o : Oracle} {op2 : Nat} {c2 : Bytes} :
    ∀ (n : Nat) (s : St) (out c1 : Bytes) (b1 : Abs),
      VPath o 0 ⟨s, out, c1, c1.length⟩ n b1 → vstep o 0 b1 = none → b1.input = [] → VStart s (c1 ++ c2) →
      (op2 = 0 ∨ c2 ≠ [] ∨ NotBoundary s c1) →
      ∃ m x, VPath o op2 ⟨s, out, c1 ++ c2, (c1 ++ c2).length⟩ m x ∧
        (x = ⟨b1.s, b1.out, c2, c2.length⟩ ∨
         (vstep o op2 ⟨b1.s, b1.out, c2, c2.length⟩ = some x ∧ ¬ FlushStep ⟨b1.s, b1.out, c2, c2.length⟩ x
          ∧ vreq op2 ⟨b1.s, b1.out, c2, c2.length⟩ = []))
        ∧ vlog o op2 m ⟨s, out, c1 ++ c2, (c1 ++ c2).length⟩ = vlog o 0 n ⟨s, out, c1, c1.length⟩ := by
  intro n
  induction n with
  | zero =>
    intro s out c1 b1 hp _ hin _ _
    cases hp
    have hc1 : c1 = [] := hin
    subst hc1
    exact ⟨0, _, .nil _, Or.inl (by simp), rfl⟩
  | succ n ih =>
    intro s out c1 b1 hp hterm hin hS hsafe
    cases hp with
    | @cons _ a1 _ _ hs hnf hrest =>
    have hG := hS.toGood out
    have hnpd : ¬ PadDue s := fun hh => by have h1 := hh.1; rw [hS.proc] at h1; cases h1
    have hlen : (c1 ++ c2).length = c1.length + c2.length := List.length_append
    have hipw : s.inputPos + c1.length < two64 := (hS.left.toGood out).nowrap
    have hu := hS.pos.unprocessed (by omega : s.inputPos < two64)
    have hlp := hS.pos.lp
    by_cases hc : remainingInputBlockSize s ≠ 0 ∧ c1.length ≠ 0
    · have hcm : remainingInputBlockSize s ≠ 0 ∧ (c1 ++ c2).length ≠ 0 := ⟨hc.1, by rw [hlen]; omega⟩
      have hvM : vreq op2 ⟨s, out, c1 ++ c2, (c1 ++ c2).length⟩ = [] := vreq_copy hG.init hG.nf hcm
      have hvA : vreq 0 ⟨s, out, c1, c1.length⟩ = [] := vreq_copy (a := ⟨s, out, c1, c1.length⟩) hG.init hG.nf hc
      by_cases hr : remainingInputBlockSize s ≤ c1.length
      · -- the block fills inside `c1`: the same step in both machines
        have hsA : vstep o 0 ⟨s, out, c1, c1.length⟩ = some ⟨core (vCopySt s (remainingInputBlockSize s)), out,
            c1.drop (remainingInputBlockSize s), (c1.drop (remainingInputBlockSize s)).length⟩ :=
          vstep_copy hG.init hG.nf rfl hc (Nat.min_eq_left hr)
        have hsM : vstep o op2 ⟨s, out, c1 ++ c2, (c1 ++ c2).length⟩ = some ⟨core (vCopySt s (remainingInputBlockSize s)), out,
            (c1 ++ c2).drop (remainingInputBlockSize s), ((c1 ++ c2).drop (remainingInputBlockSize s)).length⟩ :=
          vstep_copy hG.init hG.nf rfl hcm (Nat.min_eq_left (Nat.le_trans hr (by rw [hlen]; exact Nat.le_add_right _ _)))
        rw [List.drop_append_of_le_length hr] at hsM
        rw [hsA] at hs
        cases hs
        have hwr : s.inputPos + remainingInputBlockSize s < two64 := by omega
        have hS1 : VStart (core (vCopySt s (remainingInputBlockSize s))) (c1.drop (remainingInputBlockSize s) ++ c2) := by
          have g := vstep_good hG hsM
          exact ⟨g.of_eq rfl rfl g.nowrap rfl, hS.proc, hS.pos.copy (Nat.le_refl _) hc.1 hwr⟩
        have hsafe1 : op2 = 0 ∨ c2 ≠ [] ∨ NotBoundary (core (vCopySt s (remainingInputBlockSize s))) (c1.drop (remainingInputBlockSize s)) :=
          hsafe.imp_right (Or.imp_right (NotBoundary.copy hS.pos hr hwr))
        obtain ⟨m, x, hpx, hx, hlog⟩ := ih _ _ _ _ hrest hterm hin hS1 hsafe1
        refine ⟨m + 1, x, .cons hsM (noflush_of_processing hS.proc) hpx, hx, ?_⟩
        rw [vlog_succ _ hsM, vlog_succ _ hsA, hlog, hvM, hvA]
      · -- `c1` ends inside the block: the PROCESS request stops there, the merged request copies on
        have hr' : c1.length < remainingInputBlockSize s := by omega
        have hsA : vstep o 0 ⟨s, out, c1, c1.length⟩ = some ⟨core (vCopySt s c1.length), out, [], 0⟩ := by
          have := vstep_copy (o := o) (op := 0) (a := ⟨s, out, c1, c1.length⟩) hG.init hG.nf rfl hc (Nat.min_eq_right (Nat.le_of_lt hr'))
          rw [List.drop_length] at this
          exact this
        rw [hsA] at hs
        cases hs
        have hrbs1 : remainingInputBlockSize (core (vCopySt s c1.length)) = remainingInputBlockSize s - c1.length :=
          rbs_vCopy hG.bs (Nat.le_of_lt hr')
        have hend : vstep o 0 ⟨core (vCopySt s c1.length), out, [], 0⟩ = none :=
          vstep_rest (a := ⟨core (vCopySt s c1.length), out, [], 0⟩) hG.init hG.nf hS.proc rfl (by rw [hrbs1]; omega)
        obtain ⟨rfl, rfl⟩ : n = 0 ∧ b1 = ⟨core (vCopySt s c1.length), out, [], 0⟩ := by
          cases hrest with
          | nil _ => exact ⟨rfl, rfl⟩
          | cons hs' _ _ => rw [hend] at hs'; cases hs'
        have hlog1 : ∀ z, vstep o op2 ⟨s, out, c1 ++ c2, (c1 ++ c2).length⟩ = some z →
            vlog o op2 1 ⟨s, out, c1 ++ c2, (c1 ++ c2).length⟩ = vlog o 0 (0 + 1) ⟨s, out, c1, c1.length⟩ := by
          intro z hz
          rw [vlog_succ _ hz, vlog_succ _ hsA, hvM, hvA]
          rfl
        -- the merged request copies `j` bytes of `c2` in the same step
        generalize hj : min (remainingInputBlockSize s - c1.length) c2.length = j
        have hmin : min (remainingInputBlockSize s) (c1 ++ c2).length = c1.length + j := by rw [hlen]; omega
        have hsM : vstep o op2 ⟨s, out, c1 ++ c2, (c1 ++ c2).length⟩ = some ⟨core (vCopySt s (c1.length + j)), out,
            (c1 ++ c2).drop (c1.length + j), ((c1 ++ c2).drop (c1.length + j)).length⟩ :=
          vstep_copy hG.init hG.nf rfl hcm hmin
        rw [List.drop_length_add_append] at hsM
        refine ⟨1, _, .cons hsM (noflush_of_processing hS.proc) (.nil _), ?_, hlog1 _ hsM⟩
        by_cases hc2 : c2 = []
        · subst hc2
          have hj0 : j = 0 := by rw [← hj]; exact Nat.min_zero _
          subst hj0
          exact Or.inl rfl
        · -- the second request starts with that copy
          have hcC : remainingInputBlockSize (core (vCopySt s c1.length)) ≠ 0 ∧ c2.length ≠ 0 :=
            ⟨by rw [hrbs1]; omega, fun hh => hc2 (List.eq_nil_of_length_eq_zero hh)⟩
          have hsC : vstep o op2 ⟨core (vCopySt s c1.length), out, c2, c2.length⟩
              = some ⟨core (vCopySt (core (vCopySt s c1.length)) j), out, c2.drop j, (c2.drop j).length⟩ :=
            vstep_copy (a := ⟨core (vCopySt s c1.length), out, c2, c2.length⟩) hG.init hG.nf rfl hcC (by rw [hrbs1]; exact hj)
          rw [vCopySt_add] at hsC
          exact Or.inr ⟨hsC, noflush_of_processing hS.proc,
            vreq_copy (a := ⟨core (vCopySt s c1.length), out, c2, c2.length⟩) hG.init hG.nf hcC⟩
    · have hr0 : remainingInputBlockSize s = 0 := by
        false_or_by_contra
        rename_i hne
        have := vstep_rest (o := o) (a := ⟨s, out, c1, c1.length⟩) hG.init hG.nf hS.proc
          (by false_or_by_contra; rename_i h0; exact hc ⟨hne, h0⟩) hne
        rw [this] at hs; cases hs
      have heA : s.streamState = .processing ∧ (remainingInputBlockSize s = 0 ∨ (0 : Nat) ≠ 0) := ⟨hS.proc, Or.inl hr0⟩
      have heM : s.streamState = .processing ∧ (remainingInputBlockSize s = 0 ∨ op2 ≠ 0) := ⟨hS.proc, Or.inl hr0⟩
      have hncM : ¬ (remainingInputBlockSize s ≠ 0 ∧ (c1 ++ c2).length ≠ 0) := fun hh => hh.1 hr0
      have huB : s.inputPos - s.lastProcessedPos = s.blockSize := by
        have := rbs_of_le hS.pos.lp (by omega) hS.pos.ub; have := hS.pos.ub; omega
      -- both requests are issued without `is_last` / `force_flush`
      have hflA : decide (c1.length = 0 ∧ (0 : Nat) = 2) = false ∧ decide (c1.length = 0 ∧ (0 : Nat) = 1) = false := by simp
      have hflM : decide ((c1 ++ c2).length = 0 ∧ op2 = 2) = false ∧ decide ((c1 ++ c2).length = 0 ∧ op2 = 1) = false := by
        have hne : op2 = 0 ∨ (c1 ++ c2).length ≠ 0 := by
          refine hsafe.imp_right fun h0 hh => ?_
          rw [hlen] at hh
          rcases h0 with h0 | h0
          · exact h0 (List.eq_nil_of_length_eq_zero (by omega))
          · unfold NotBoundary at h0
            rw [huB, show c1.length = 0 by omega, Nat.add_zero, Nat.mod_self] at h0
            exact h0 rfl
        rcases hne with rfl | hne
        · simp
        · exact ⟨decide_eq_false (fun hh => hne hh.1), decide_eq_false (fun hh => hne hh.1)⟩
      have hsA := vstep_enc (o := o) (op := 0) (a := ⟨s, out, c1, c1.length⟩) (hS.left.toGood out) hc hnpd heA
      have hsM := vstep_enc (o := o) (op := op2) hG hncM hnpd heM
      have hvM : vreq op2 ⟨s, out, c1 ++ c2, (c1 ++ c2).length⟩ = [reqOf s 0 false false] := by
        rw [vreq_enc (a := ⟨s, out, c1 ++ c2, (c1 ++ c2).length⟩) hG.init hG.nf hncM hnpd heM]
        simp only [hflM.1, hflM.2]
      have hvA : vreq 0 ⟨s, out, c1, c1.length⟩ = [reqOf s 0 false false] := by
        rw [vreq_enc (a := ⟨s, out, c1, c1.length⟩) hG.init hG.nf hc hnpd heA]
        simp only [hflA.1, hflA.2]
      simp only [hflA.1, hflA.2] at hsA
      simp only [hflM.1, hflM.2] at hsM
      obtain ⟨⟨s', p⟩, hu'⟩ := uEnc_some o s 0 false false hG.ncat
      have hmk : markAfterEncode s' false false = s' := by
        unfold markAfterEncode; simp
      rw [hu'] at hsA hsM
      simp only [uEncOut, hmk] at hsA hsM
      rw [hsA] at hs
      cases hs
      have hf := uEnc_frame hu'
      replace hf := St.frame_eq hf
      obtain ⟨q1, q2, q3, q4⟩ := uEnc_pos hG.ncat hS.pos hu'
      have hlpE : s'.lastProcessedPos = s.inputPos :=
        q4 (by rw [hu, huB]; exact Nat.pos_iff_ne_zero.mp (blockSize_pos s)) (by have := hf.inputPos; omega)
      have hBs : s'.blockSize = s.blockSize := blockSize_of_params hf.params
      have hS1 : VStart (core s') (c1 ++ c2) := by
        have g := vstep_good hG hsM
        refine ⟨g.of_eq rfl rfl g.nowrap rfl, hf.streamState.trans hS.proc, q1, ?_, ?_⟩
        · show s'.lastProcessedPos ≤ s'.inputPos
          rw [q3]; exact q2
        · show s'.inputPos - s'.lastProcessedPos ≤ s'.blockSize
          rw [q3, hlpE, Nat.sub_self]; exact Nat.zero_le _
      have hsafe1 : op2 = 0 ∨ c2 ≠ [] ∨ NotBoundary (core s') c1 := by
        refine hsafe.imp_right (Or.imp_right fun h => ?_)
        unfold NotBoundary at h ⊢
        show (s'.inputPos - s'.lastProcessedPos + c1.length) % s'.blockSize ≠ 0
        rw [q3, hlpE, hBs, Nat.sub_self, Nat.zero_add]
        rw [huB, Nat.add_mod_left] at h
        exact h
      obtain ⟨m, x, hpx, hx, hlog⟩ := ih _ _ _ _ hrest hterm hin hS1 hsafe1
      refine ⟨m + 1, x, .cons hsM (noflush_of_processing hS.proc) hpx, hx, ?_⟩
      rw [vlog_succ _ hsM, vlog_succ _ hsA, hlog, hvM, hvA]

end BV.Stream
