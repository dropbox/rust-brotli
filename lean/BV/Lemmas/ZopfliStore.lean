import BV.Model.Zopfli
/-! `H10.store` (the modelled `Store` of the binary-tree hasher) as an equation: the bucket of the position's hash is
read and overwritten, and the tree walk from the old bucket entry rewrites the forest. -/
namespace BV.Zopfli.H10
open BV.Hasher BV.MatchFinder BV.Zopfli

/-- The shape of `storeAndFind` as far as the returned state goes, over an arbitrary hash `H` and tree walk `W`.
It is written with the matcher constants and `have`s of `storeAndFind` itself, and `W` has the arity of the partially
applied `walk`, so that `store_eq` below is an instance of it with no reduction step at all. The trap: any reduction under
the second `match` of the unfolded definition (one beta step in the walk argument is enough) sends the kernel into
minutes of work ending in "deep recursion"; two `match`es written out afresh would not be recognised as the model's. -/
theorem storeAndFind_shape (H : Nat → Option Nat) (c : Nat) (bk : Array Nat) (v L : Nat) (rr : Bool) (hr : rr = true)
    (W : Bool → Nat → Nat → Walk → Option Walk) (fr : Array Nat) :
    Option.map (fun x : Nat × List Match × H10St => x.snd.snd)
      (have cm := c
       have reroot := rr
       computeShortestPathFromNodes.match_1 (fun _ => Option (Nat × List Match × H10St)) (H cm)
        (fun _ => none) fun key =>
        computeShortestPathFromNodes.match_1 (fun _ => Option (Nat × List Match × H10St)) bk[key]?
          (fun _ => none) fun prev =>
          have buckets := if reroot = true then bk.set! key v else bk
          have left := L
          storeAndFind.match_1 (fun _ => Option (Nat × List Match × H10St))
            (W reroot 0 64 ⟨fr, prev, left, left + 1, 0, 0, 0, []⟩) (fun _ => none)
            fun w => some (w.bestLen, w.found.reverse, ⟨buckets, w.forest⟩))
      = (H c).bind fun key => bk[key]?.bind fun prev =>
          (W true 0 64 ⟨fr, prev, L, L + 1, 0, 0, 0, []⟩).map fun w => ⟨bk.set! key v, w.forest⟩ := by
  subst hr
  dsimp only
  generalize H c = h
  cases h with
  | none => rfl
  | some key =>
    dsimp only [Option.bind_some]
    cases bk[key]? with
    | none => rfl
    | some prev =>
      dsimp only [Option.bind_some]
      cases W true 0 64 ⟨fr, prev, L, L + 1, 0, 0, 0, []⟩ <;> rfl

theorem store_eq (windowMask invalid : Nat) (data : ByteArray) (mask ix : Nat) (st : H10St) :
    store windowMask invalid data mask ix st =
      (hashBytes data (ix &&& mask)).bind fun key => st.buckets[key]?.bind fun prev =>
        (walk windowMask invalid data mask ix 128 (MatchFinder.wsub windowMask 16 + 1) true 0 64
          ⟨st.forest, prev, 2 * (ix &&& windowMask), 2 * (ix &&& windowMask) + 1, 0, 0, 0, []⟩).map
          fun w => ⟨st.buckets.set! key (ix % U32), w.forest⟩ := by
  unfold store storeAndFind
  exact storeAndFind_shape (hashBytes data) (ix &&& mask) st.buckets (ix % U32) (2 * (ix &&& windowMask))
    (decide (128 ≥ 128)) (by decide)
    (walk windowMask invalid data mask ix 128 (MatchFinder.wsub windowMask 16 + 1)) st.forest

theorem store_eq_some (windowMask invalid : Nat) (data : ByteArray) (mask ix key prev : Nat) (bk fr fr' : Array Nat)
    (hk : hashBytes data (ix &&& mask) = some key) (hp : bk[key]? = some prev)
    (hw : (walk windowMask invalid data mask ix 128 (MatchFinder.wsub windowMask 16 + 1) true 0 64
      ⟨fr, prev, 2 * (ix &&& windowMask), 2 * (ix &&& windowMask) + 1, 0, 0, 0, []⟩).map (·.forest) = some fr') :
    store windowMask invalid data mask ix ⟨bk, fr⟩ = some ⟨bk.set! key (ix % U32), fr'⟩ := by
  rw [store_eq, hk, Option.bind_some, hp, Option.bind_some]
  cases hx : walk windowMask invalid data mask ix 128 (MatchFinder.wsub windowMask 16 + 1) true 0 64
      ⟨fr, prev, 2 * (ix &&& windowMask), 2 * (ix &&& windowMask) + 1, 0, 0, 0, []⟩ with
  | none => rw [hx] at hw; cases hw
  | some w => rw [hx] at hw; cases hw; rfl

end BV.Zopfli.H10
