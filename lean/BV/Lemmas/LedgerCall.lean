/-
A growth site frees what it replaces (C09 `replace_frees_old`), for a whole call: a `compress_stream` call is any
number of `encode_data` rounds, each round reaches the growth sites in a fixed order; whatever block sits in a field
when a round re-allocates that field is freed through the instance's allocator.

The IR logger's `CommandQueue`: for EVERY number of commands and EVERY number of pushes the queue's
allocations are balanced (one live queue block at any time, each growth frees the block it replaces,
`free` releases the last one), the queue is never over-full (so `free(..).unwrap()` cannot panic), and
the encoder's slots are untouched — one callee for which the assumption built into `scopedActs` (temporaries of a
call are freed inside it) is proved.
-/
import BV.Lemmas.LedgerEntry

namespace BV.Ledger

def Act.writes (s : Slot) : Act → Bool
  | .free t => decide (t = s)
  | .alloc _ t _ => decide (t = s)
  | .lose t => decide (t = s)
  | .move src dst => decide (src = s) || decide (dst = s)

theorem act_frame (w : W) (a : Act) (s : Slot) (h : a.writes s = false) : (w.act a).enc.get s = w.enc.get s := by
  cases a <;> simp only [W.act, Act.writes] at h ⊢ <;> (try split) <;> simp_all [Enc.get_set]

theorem acts_frame (w : W) (as : List Act) (s : Slot) (h : ∀ a ∈ as, a.writes s = false) :
    (w.acts as).enc.get s = w.enc.get s := by
  induction as generalizing w with
  | nil => rfl
  | cons a as ih =>
    rw [acts_cons, ih _ (fun x hx => h x (by simp [hx])), act_frame w a s (h a (by simp))]

/-- the four slots that have a growth site (`isGrowthSlot`, `growthSite` of C09 list the same four) -/
def CsDelta.grows (d : CsDelta) : Slot → Bool
  | .storage => d.storage.isSome
  | .table => d.table.isSome
  | .ring => d.ring.isSome
  | .commands => d.commands.isSome
  | _ => false

def roundActs (m8 : Nat) (d : CsDelta) : List Act :=
  csActs m8 d.storage.isSome d.q1bufs.isSome d.table.isSome d.ring.isSome d.commands.isSome d.hasher.length d.temps

theorem roundActs_eq_opActs (fl : Flags) (m8 : Nat) (d : CsDelta) : opActs fl m8 (.cs d) = roundActs m8 d := rfl

def callActs (m8 : Nat) (ds : List CsDelta) : List Act := ds.flatMap (roundActs m8)

def freesFirst (s : Slot) : List Act → Bool
  | [] => false
  | a :: as => if a = .free s then true else if a.writes s then false else freesFirst s as

theorem acts_freesFirst (s : Slot) (b : BlockId) : ∀ (as : List Act) (w : W), freesFirst s as = true →
    b ∈ w.enc.get s → Ev.free w.m8 b ∈ (w.acts as).log := by
  intro as
  induction as with
  | nil => intro w h; simp [freesFirst] at h
  | cons a as ih =>
    intro w h hb
    rw [acts_cons]
    by_cases ha : a = .free s
    · subst ha
      exact (acts_log_prefix _ as).subset (List.mem_append_right _ (List.mem_map.mpr ⟨b, hb, rfl⟩))
    · simp only [freesFirst, ha, if_false] at h
      cases hw : a.writes s
      · simp [hw] at h
        have := ih (w.act a) h (by rw [act_frame w a s hw]; exact hb)
        rwa [act_m8] at this
      · simp [hw] at h

theorem freesFirst_append_of_not_writes {s : Slot} {as : List Act} (h : as.all (fun a => !a.writes s) = true)
    (bs : List Act) : freesFirst s (as ++ bs) = freesFirst s bs := by
  induction as with
  | nil => rfl
  | cons a as ih =>
    rw [List.all_cons, Bool.and_eq_true, Bool.not_eq_true'] at h
    have hne : a ≠ .free s := fun e => by rw [e, Act.writes, decide_eq_false_iff_not] at h; exact h.1 rfl
    rw [List.cons_append, freesFirst, if_neg hne, h.1, ih h.2]
    rfl

/-- the sites that come before the growth site of the field do not write it, and the growth site begins by freeing it
    (or allocates into a local first) -/
theorem round_freesFirst (m8 : Nat) (d : CsDelta) (s : Slot) (hs : d.grows s = true) :
    freesFirst s (roundActs m8 d) = true := by
  have skip : ∀ (c : Bool) {as : List Act} (bs : List Act), as.all (fun a => !a.writes s) = true →
      freesFirst s ((if c then as else []) ++ bs) = freesFirst s bs := fun c _ bs h => by
    cases c
    · rfl
    · exact freesFirst_append_of_not_writes h bs
  simp only [roundActs, csActs, ringOpt, List.append_assoc]
  cases s <;> first | cases hs | simp only [CsDelta.grows] at hs
  · rw [hs]; rfl
  · rw [skip _ _ rfl, skip _ _ rfl, skip _ _ rfl, skip _ _ rfl, hs]; rfl
  · rw [skip _ _ rfl, skip _ _ rfl, skip _ _ rfl, hs]; rfl
  · rw [skip _ _ rfl, skip _ _ rfl, hs]; rfl

theorem callActs_append (m8 : Nat) (as bs : List CsDelta) : callActs m8 (as ++ bs) = callActs m8 as ++ callActs m8 bs := by
  simp [callActs]

theorem callActs_owned (m8 : Nat) (ds : List CsDelta) : ∀ a ∈ callActs m8 ds, a.owned m8 := by
  intro a ha
  simp only [callActs, List.mem_flatMap] at ha
  obtain ⟨d, _, had⟩ := ha
  exact all_owned (csActs_ok true m8 ..) a had

/-- `u`: the world in which the queue was created -/
structure QInv (u : W) (s : W × CQ) : Prop where
  inv : Inv s.1
  m8 : s.1.m8 = u.m8
  lost : s.1.lost = u.lost
  tmp : ∃ x, s.1.enc.tmp = [x]
  tmp2 : s.1.enc.tmp2 = []
  others : ∀ t, t ≠ .tmp → t ≠ .tmp2 → s.1.enc.get t = u.enc.get t
  notOver : s.2.overfull = false
  le : s.2.loc ≤ s.2.cap
  pos : 0 < s.2.cap

theorem cqGrow_owned (m8 : Nat) : ∀ a ∈ cqGrowActs m8, a.owned m8 :=
  all_owned (lose := true) (by simp [cqGrowActs, Act.okB])

theorem cqGrow_frame (m8 : Nat) (t : Slot) (h1 : t ≠ .tmp) (h2 : t ≠ .tmp2) : ∀ a ∈ cqGrowActs m8, a.writes t = false := by
  intro a ha
  simp [cqGrowActs] at ha
  rcases ha with rfl | rfl | rfl <;> simp [Act.writes, Ne.symm h1, Ne.symm h2]

theorem QInv.new (u : W) (hu : Inv u) (ht : u.enc.tmp = []) (ht2 : u.enc.tmp2 = []) (n : Nat) : QInv u (cqNew u n) := by
  refine ⟨?_, ?_, ?_, ?_, ?_, ?_, rfl, Nat.zero_le _, by simp [cqNew]⟩
  · exact hu.act (.alloc u.m8 .tmp 1) rfl
  · simp [cqNew, acts_m8]
  · simp [cqNew, W.acts, W.act]
  · exact ⟨⟨u.m8, u.next⟩, by simp [cqNew, W.acts, W.act, Enc.get, Enc.set, fresh, ht]⟩
  · simp [cqNew, W.acts, W.act, Enc.get, Enc.set, ht2]
  · exact fun t h1 _ => act_frame u (.alloc u.m8 .tmp 1) t (decide_eq_false (Ne.symm h1))

theorem QInv.push {u : W} {s : W × CQ} (h : QInv u s) : QInv u (cqPush s) ∧ (cqPush s).2.loc = s.2.loc + 1 := by
  obtain ⟨x, hx⟩ := h.tmp
  have hpos := h.pos
  have hle := h.le
  by_cases hfull : s.2.loc = s.2.cap
  · -- full: grow, then store.  After the doubling `loc = cap < 2 * cap`, so the second test of `cqPush` (is the
    -- grown queue still full?) fails and `overfull` is not set: this is why the queue's `free` cannot panic
    have hne : s.2.cap ≠ s.2.cap * 2 := by omega
    have e : cqPush s = (s.1.acts (cqGrowActs s.1.m8), ⟨s.2.cap * 2, s.2.cap + 1, s.2.overfull⟩) := by
      simp [cqPush, hfull, hne]
    rw [e]
    refine ⟨⟨h.inv.acts _ (cqGrow_owned _), (acts_m8 ..).trans h.m8, ?_, ⟨⟨s.1.m8, s.1.next⟩, ?_⟩, ?_,
      fun t h1 h2 => ?_, h.notOver, ?_, ?_⟩, by rw [hfull]⟩
    · simp [cqGrowActs, W.acts, W.act]; exact h.lost
    · simp [cqGrowActs, W.acts, W.act, Enc.get, Enc.set, fresh, hx, h.tmp2]
    · simp [cqGrowActs, W.acts, W.act, Enc.get, Enc.set, fresh, hx, h.tmp2]
    · rw [acts_frame _ _ t (cqGrow_frame _ t h1 h2)]
      exact h.others t h1 h2
    · show s.2.cap + 1 ≤ s.2.cap * 2; omega
    · show 0 < s.2.cap * 2; omega
  · have e : cqPush s = (s.1, ⟨s.2.cap, s.2.loc + 1, s.2.overfull⟩) := by simp [cqPush, hfull]
    rw [e]
    exact ⟨⟨h.inv, h.m8, h.lost, ⟨x, hx⟩, h.tmp2, h.others, h.notOver, by show s.2.loc + 1 ≤ s.2.cap; omega, hpos⟩, rfl⟩

theorem QInv.pushN {u : W} : ∀ (k : Nat) (s : W × CQ), QInv u s →
    QInv u (cqPushN k s) ∧ (cqPushN k s).2.loc = s.2.loc + k := by
  intro k
  induction k with
  | zero => intro s h; exact ⟨h, rfl⟩
  | succ k ih =>
    intro s h
    obtain ⟨h1, h2⟩ := h.push
    obtain ⟨h3, h4⟩ := ih (cqPush s) h1
    exact ⟨h3, by simp only [cqPushN]; omega⟩

structure QFreed (u : W) (r : W × Bool) : Prop where
  inv : Inv r.1
  enc : r.1.enc = u.enc
  lost : r.1.lost = u.lost
  m8 : r.1.m8 = u.m8
  notOver : r.2 = true

theorem queue_balanced (u : W) (hu : Inv u) (ht : u.enc.tmp = []) (ht2 : u.enc.tmp2 = []) (n pushes : Nat) :
    QFreed u (cqFree (cqPushN pushes (cqNew u n))) := by
  obtain ⟨h, _⟩ := QInv.pushN pushes _ (QInv.new u hu ht ht2 n)
  obtain ⟨x, hx⟩ := h.tmp
  refine ⟨?_, ?_, ?_, ?_, ?_⟩
  · exact h.inv.act (.free .tmp) trivial
  · apply Enc.ext_get
    intro t
    by_cases h1 : t = .tmp
    · subst h1; simp [cqFree, W.acts, W.act, Enc.get, Enc.set, ht]
    · have hfr : ((cqFree (cqPushN pushes (cqNew u n))).1).enc.get t = (cqPushN pushes (cqNew u n)).1.enc.get t :=
        act_frame _ (.free .tmp) t (decide_eq_false (Ne.symm h1))
      rw [hfr]
      by_cases h2 : t = .tmp2
      · subst h2
        show (cqPushN pushes (cqNew u n)).1.enc.tmp2 = u.enc.tmp2
        rw [h.tmp2, ht2]
      · exact h.others t h1 h2
  · simp [cqFree, W.acts, W.act]; exact h.lost
  · simp [cqFree, acts_m8]; exact h.m8
  · simp [cqFree, h.notOver]

end BV.Ledger
