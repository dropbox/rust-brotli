/-
C17: behind their histogram scans the two entry points (`BuildAndStoreHuffmanTree`, `BrotliBuildAndStoreHuffmanTreeFast`)
are one function, `finish`, applied to each builder's tree construction and complex description.  What `finish` achieves is
in `HuffmanEntryPoints`.
-/
import BV.Lemmas.HuffmanCreate
import BV.Lemmas.HuffmanPrefix

namespace BV.Lemmas.HuffmanEntry
open BV.Bits BV.Huffman BV.Lemmas.HuffmanCanon BV.Lemmas.HuffmanShape BV.Lemmas.HuffmanSort
open BV.Lemmas.HuffmanMerge BV.Lemmas.HuffmanBuild BV.Lemmas.HuffmanFib BV.Lemmas.HuffmanCreate

theorem convert_take (depth : List Nat) (len : Nat) (bits : List Nat) (h : len ≤ depth.length) :
    convertBitDepthsToSymbols depth len bits
      = convertBitDepthsToSymbols (depth.take len) (depth.take len).length bits := by
  have hl : (depth.take len).length = len := by rw [List.length_take]; omega
  unfold convertBitDepthsToSymbols
  rw [hl]
  have h1 : ¬ len > depth.length := by omega
  have h2 : ¬ len > (depth.take len).length := by omega
  simp only [h1, ↓reduceIte, List.take_take, Nat.min_self, Nat.lt_irrefl, gt_iff_lt]

theorem zeroOff_zeroPrefix (data : List Nat) (m : Nat) (rest : List Nat) :
    ZeroOff data m (List.replicate m 0 ++ rest) := by
  intro v hv _
  rw [List.getD_eq_getElem?_getD, List.getElem?_append_left (by simpa using hv)]
  simp [hv]

def GoodBits (len : Nat) (depth' bits bits' : List Nat) : Prop :=
  bits'.length = bits.length ∧ (∀ k, len ≤ k → bits'.getD k 0 = bits.getD k 0) ∧
  ∀ i, i < len → bits'.getD i 0 =
    if depth'.getD i 0 ≠ 0 then
      reverseBits (depth'.getD i 0) ((canonicalCodes (depth'.take len)).getD i 0)
    else bits.getD i 0

theorem convert_goodBits (depth' bits : List Nat) (len M : Nat) (hM : M ≤ 15)
    (hl : len ≤ depth'.length) (hlim : ∀ v, v < len → depth'.getD v 0 ≤ M) (h16 : len < 65536)
    (hb : len ≤ bits.length) :
    ∃ bits', convertBitDepthsToSymbols depth' len bits = .ok bits' ∧
      GoodBits len depth' bits bits' := by
  have hlt : (depth'.take len).length = len := by rw [List.length_take]; omega
  have hd : ∀ x ∈ depth'.take len, x ≤ 15 :=
    fun x hx => Nat.le_trans (take_le_of_getD depth' len M hl hlim x hx) hM
  obtain ⟨b2, h1, h2, h3, h4⟩ := convert_spec (depth'.take len) bits hd (by omega) (by omega)
  rw [hlt] at h1 h3 h4
  refine ⟨b2, by rw [convert_take depth' len bits hl, hlt]; exact h1, h2, h3, fun i hi => ?_⟩
  have hg : (depth'.take len).getD i 0 = depth'.getD i 0 := by
    simp [List.getD_eq_getElem?_getD, hi]
  rw [h4 i hi, hg]

theorem goodBits_of_convert (depth' bits bits' : List Nat) (len M : Nat) (hM : M ≤ 15)
    (hl : len ≤ depth'.length) (hlim : ∀ v, v < len → depth'.getD v 0 ≤ M) (h16 : len < 65536)
    (hb : len ≤ bits.length) (h : convertBitDepthsToSymbols depth' len bits = .ok bits') :
    GoodBits len depth' bits bits' := by
  obtain ⟨b, e, g⟩ := convert_goodBits depth' bits len M hM hl hlim h16 hb
  rw [e] at h
  injection h with h
  exact h ▸ g

theorem zeroPrefix_ok (depth : List Nat) (n : Nat) (h : n ≤ depth.length) :
    zeroPrefix depth n = .ok (List.replicate n 0 ++ depth.drop n) := by
  simp [zeroPrefix, show ¬ n > depth.length by omega]

/-- limit 15 needs no retry beyond `count_limit = 2^15`: a tree higher than 15 over leaves of weight `≥ 2^15` would weigh
at least `fib 18 · 2^15 = 2584 · 2^15`, more than `2^25 + 704 · 2^15` -/
theorem build_front (histogram : List Nat) (len : Nat) (tree : List Node) (rest : List Nat)
    (hlen : len ≤ histogram.length) (h704 : len ≤ 704)
    (hsum : (histogram.take len).sum ≤ 2 ^ 25)
    (hn2 : 2 ≤ ((histogram.take len).filter (· ≠ 0)).length)
    (htl : 2 * len + 1 ≤ tree.length) :
    ∃ d1, createHuffmanTree histogram len 15 tree (List.replicate len 0 ++ rest) = .ok d1 ∧
      GoodDepth histogram len 15 (List.replicate len 0 ++ rest) d1 := by
  have hf : fib (15 + 3) = 2584 := by decide
  have h1 : len * 2 ^ 15 ≤ 704 * 2 ^ 15 := Nat.mul_le_mul_right _ h704
  have e1 : (2:Nat) ^ 15 = 32768 := by decide
  have e2 : (2:Nat) ^ 25 = 33554432 := by decide
  rw [e1] at h1
  rw [e2] at hsum
  exact create_total_gen histogram len 15 15 (by decide) hlen (by omega) hn2
    tree htl (List.replicate len 0 ++ rest) (by simp)
    (zeroOff_zeroPrefix _ _ _) (by decide) (by rw [e1]; omega) (by rw [hf, e1]; omega)

/-- as `build_front`: limit 14 needs no retry beyond `count_limit = 2^16` -/
theorem fast_front (histogram : List Nat) (length : Nat) (rest : List Nat)
    (hl : length ≤ histogram.length) (h704 : length ≤ 704)
    (hsum : (histogram.take length).sum ≤ 2 ^ 25)
    (hn2 : 2 ≤ ((histogram.take length).filter (· ≠ 0)).length) :
    ∃ d1, fastLoop histogram length createFuel 1 (List.replicate (2 * length + 1) default)
        (List.replicate length 0 ++ rest) = .ok d1 ∧
      GoodDepth histogram length 14 (List.replicate length 0 ++ rest) d1 := by
  have hf : fib 17 = 1597 := by decide
  have e1 : (2:Nat) ^ 16 = 65536 := by decide
  have e2 : (2:Nat) ^ 25 = 33554432 := by decide
  have h1 : length * 2 ^ 16 ≤ 704 * 2 ^ 16 := Nat.mul_le_mul_right _ h704
  rw [e1] at h1
  rw [e2] at hsum
  exact fast_total histogram length 16 hl (by omega) hn2
    (List.replicate length 0 ++ rest) (by simp)
    (zeroOff_zeroPrefix _ _ _) (by decide) (by rw [e1]; omega) (by rw [hf, e1]; omega)

/-- `count` symbols in use, the first four of them in `syms`, `len` table entries concerned -/
def finish (count : Nat) (syms : List Nat) (len maxBits : Nat)
    (mkTree : List Nat → Out (List Nat)) (complex : List Nat → Writer → Out Writer)
    (depth bits : List Nat) (w : Writer) : Out (List Nat × List Nat × Writer) := do
  let s0 ← getAt syms 0
  if count ≤ 1 then
    let w ← writeBits 4 1 w
    let w ← writeBits (maxBits % 256) s0 w
    let depth ← setAt depth s0 0
    let bits ← setAt bits s0 0
    .ok (depth, bits, w)
  else
    let depth ← zeroPrefix depth len
    let depth ← mkTree depth
    let bits ← convertBitDepthsToSymbols depth len bits
    if count ≤ 4 then
      let w ← storeSimpleHuffmanTree depth syms count maxBits w
      .ok (depth, bits, w)
    else
      let w ← complex depth w
      .ok (depth, bits, w)

theorem build_eq_finish (h : List Nat) (len A : Nat) (tree : List Node) (depth bits : List Nat)
    (w : Writer) :
    buildAndStoreHuffmanTree h len A tree depth bits w =
      scanHistogram h len 0 0 [0, 0, 0, 0] >>= fun p =>
        finish p.1 p.2 len (bitWidth 64 ((A + u64 - 1) % u64)) (createHuffmanTree h len 15 tree)
          (fun d w => storeHuffmanTree d len tree w) depth bits w := rfl

def fastComplex (len : Nat) (d : List Nat) (w : Writer) : Out Writer := do
  let w ← storeStaticCodeLengthCode w
  if len > d.length then .panic else fastRleLoop 8 (d.take len) w

/-- The simple description the fast builder writes inline is `StoreSimpleHuffmanTree`
(`count - 1` and `count.wrapping_sub(1)` agree from 1 on). -/
theorem fast_eq_finish (h : List Nat) (total maxBits : Nat) (depth bits : List Nat) (w : Writer) :
    buildAndStoreHuffmanTreeFast h total maxBits depth bits w =
      fastScan h total 0 0 [0, 0, 0, 0] >>= fun p =>
        finish p.1 p.2.1 p.2.2 maxBits
          (fastLoop h p.2.2 createFuel 1 (List.replicate (2 * p.2.2 + 1) default))
          (fastComplex p.2.2) depth bits w := by
  unfold buildAndStoreHuffmanTreeFast
  cases fastScan h total 0 0 [0, 0, 0, 0] with
  | panic => rfl
  | fuel => rfl
  | ok p =>
    obtain ⟨count, syms, len⟩ := p
    simp only [Out.bind_ok, finish, storeSimpleHuffmanTree, fastComplex]
    by_cases h1 : count ≤ 1
    · simp only [h1, ↓reduceIte]
    · by_cases h4 : count ≤ 4
      · have hm := BV.pred_mod count u64 (by omega) (by unfold u64; omega)
        simp only [h1, h4, ↓reduceIte, hm, Out.bind_assoc]
      · simp only [h1, h4, ↓reduceIte, Out.bind_assoc, Out.ite_bind, Out.bind_panic]

theorem finish_tables {count : Nat} {syms : List Nat} {len maxBits : Nat}
    {mkTree : List Nat → Out (List Nat)} {complex : List Nat → Writer → Out Writer}
    {depth bits : List Nat} {w : Writer} {depth' bits' : List Nat} {w' : Writer}
    (h : finish count syms len maxBits mkTree complex depth bits w = .ok (depth', bits', w'))
    (hc : 2 ≤ count) :
    ∃ d0, zeroPrefix depth len = .ok d0 ∧ mkTree d0 = .ok depth' ∧
      convertBitDepthsToSymbols depth' len bits = .ok bits' := by
  simp only [finish, show ¬ count ≤ 1 by omega, ↓reduceIte, Out.bind_eq_ok] at h
  obtain ⟨_, _, d0, h0, d1, h1, b1, h2, h⟩ := h
  refine ⟨d0, h0, ?_⟩
  split at h <;> simp only [Out.bind_eq_ok, Out.ok.injEq, Prod.mk.injEq] at h <;>
    obtain ⟨_, _, rfl, rfl, _⟩ := h <;> exact ⟨h1, h2⟩

end BV.Lemmas.HuffmanEntry
