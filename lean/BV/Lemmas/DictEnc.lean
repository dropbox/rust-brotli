/-
C10, encoder side: what `set_custom_dictionary` (model `BV.Dict.setCustomDictionary`, mirrored from
`src/enc/encode.rs`) leaves behind, in closed form.  The two paths of `RingBufferWrite` for the very first
write (small first allocation / full allocation with tail mirror) both put byte `i` of the written
string at `data_mo[2 + i]`, i.e. at stream position `i`.
-/
import BV.Model.Dict
import BV.Lemmas.Header

namespace BV.Dict
open BV.Header

/-- a ring buffer after `RingBufferSetup`, before its first write.  `bound`: the full allocation `2 + total + 7` (two context
bytes in front, seven bytes of slack behind) stays inside `u32` -/
structure Fresh (rb : Ring) (wb tb : Nat) : Prop where
  size : rb.size = 2 ^ wb
  mask : rb.mask = 2 ^ wb - 1
  tail : rb.tailSize = 2 ^ tb
  total : rb.totalSize = 2 ^ wb + 2 ^ tb
  cur : rb.curSize = 0
  pos : rb.pos = 0
  dlen : rb.dataLen = 0
  bound : 2 ^ wb + 2 ^ tb + 9 < 2 ^ 32

theorem ringBufferInitBuffer_fresh (buflen : Nat) (rb : Ring) (h0 : rb.dataLen = 0) (hb : 2 + buflen < 2 ^ 32) :
    ringBufferInitBuffer buflen rb =
      some { rb with data := fun _ => 0, dataLen := 2 + buflen + 7, curSize := buflen, bufferIndex := 2 } := by
  unfold ringBufferInitBuffer
  simp only [h0, Nat.mod_eq_of_lt hb, ne_eq, not_true_eq_false, false_and, ite_false, Nat.lt_irrefl, gt_iff_lt, ite_self]

theorem lgblock_range (p : Params) :
    10 ≤ (ensureInitialized true p).params.lgblock ∧ (ensureInitialized true p).params.lgblock ≤ 30 := by
  have h1 := sanitized_lgwin_range p
  have h2 := sanitize_quality true p
  simp only [ensureInitialized, computeLgBlock, lit, litsLgb, BV.Gen.lits_ComputeLgBlock, List.getD_cons_zero,
    List.getD_cons_succ]
  generalize (sanitizeParams true p).lgwin = w at *
  generalize (sanitizeParams true p).quality = q at *
  generalize (sanitizeParams true p).lgblock = b at *
  split
  · omega
  · split
    · omega
    · split
      · split <;> omega
      · omega

def encL (p0 : Params) : Nat := (ensureInitialized true p0).params.lgwin.toNat
def encB (p0 : Params) : Nat := (ensureInitialized true p0).params.lgblock.toNat
def encQ (p0 : Params) : Int := (ensureInitialized true p0).params.quality

theorem encL_range (p0 : Params) : 10 ≤ encL p0 ∧ encL p0 ≤ 30 ∧ (p0.largeWindow = false → encL p0 ≤ 24) := by
  have h := sanitized_lgwin_range p0
  unfold encL
  rw [init_params_lgwin]
  exact ⟨by omega, by omega, fun hlw => by have := h.2.2 hlw; omega⟩

theorem encInit_zero (p0 : Params) (s : Enc) (h : encInit p0 = some s) :
    s.lastFlushPos = 0 ∧ s.lastProcessedPos = 0 ∧ s.customDictionary = false ∧ s.recoderPos = 0 := by
  unfold encInit at h
  simp only at h
  cases hr : ringBufferSetup (ensureInitialized true p0).params with
  | none => rw [hr] at h; cases h
  | some rb => rw [hr] at h; cases h; exact ⟨rfl, rfl, rfl, rfl⟩

theorem encInit_fresh (p0 : Params) :
    ∃ s, encInit p0 = some s ∧ s.params = (ensureInitialized true p0).params ∧
      Fresh s.ring (1 + max (encL p0) (encB p0)) (encB p0) ∧ s.inputPos = 0 ∧ s.prevByte = 0 ∧ s.prevByte2 = 0 := by
  have hL := encL_range p0
  have hB := lgblock_range p0
  have hl := sanitized_lgwin_range p0
  unfold encInit ringBufferSetup computeRbBits
  simp only [lit, BV.Gen.lits_ComputeRbBits, List.getD_cons_zero]
  unfold encL encB at *
  rw [init_params_lgwin] at *
  generalize (ensureInitialized true p0).params.lgblock = b at *
  generalize (sanitizeParams true p0).lgwin = w at *
  have hwb : ((1 : Nat) : Int) + max w b = ((1 + max w.toNat b.toNat : Nat) : Int) := by omega
  rw [if_neg (by omega)]
  refine ⟨_, rfl, rfl, ?_, rfl, rfl, rfl⟩
  have e1 : (((1 : Nat) : Int) + max w b).toNat = 1 + max w.toNat b.toNat := by omega
  have hp1 : 2 ^ (1 + max w.toNat b.toNat) ≤ 2 ^ 31 := Nat.pow_le_pow_right (by decide) (by omega)
  have hp2 : 2 ^ b.toNat ≤ 2 ^ 30 := Nat.pow_le_pow_right (by decide) (by omega)
  have hw0 : 0 < 2 ^ (1 + max w.toNat b.toNat) := Nat.two_pow_pos _
  have hb0 : 0 < 2 ^ b.toNat := Nat.two_pow_pos _
  refine { size := ?_, mask := ?_, tail := ?_, total := ?_, cur := rfl, pos := rfl, dlen := rfl, bound := by omega }
  · show 2 ^ _ = _; rw [e1]
  · show 2 ^ _ - 1 = _; rw [e1]
  · rfl
  · show (2 ^ _ + 2 ^ _) % 2 ^ 32 = _; rw [e1, Nat.mod_eq_of_lt]; omega

/-- effective dictionary length of the encoder: the tail that fits the window.  (`Dec.dEff`, BV/Model/Dict.lean, is the decoder's
copy of the formula; `decoderFor_dEff`, BV/Props/C10.lean, identifies the two.) -/
def encDEff (L size : Nat) : Nat := min size (2 ^ L - 16)

theorem encDEff_bounds (p0 : Params) (size : Nat) :
    encDEff (encL p0) size ≤ size ∧ encDEff (encL p0) size ≤ 2 ^ encL p0 - 16 ∧ (0 < size → 0 < encDEff (encL p0) size) := by
  have hpow : 2 ^ 10 ≤ 2 ^ encL p0 := Nat.pow_le_pow_right (by decide) (encL_range p0).1
  unfold encDEff
  generalize 2 ^ encL p0 = W at *
  omega

theorem ringBufferWrite_first (rb : Ring) (wb tb : Nat) (F : Fresh rb wb tb) (bytes : Nat → Nat) (blen n : Nat)
    (hs : n ≤ 2 ^ wb) (h30 : n ≤ 2 ^ 30) (hb : n ≤ blen) :
    ∃ rb', ringBufferWrite bytes blen n rb = some rb' ∧ rb'.pos = n ∧ rb'.mask = rb.mask ∧ rb'.bufferIndex = 2 ∧
      2 + n + 7 ≤ rb'.dataLen ∧ ∀ i, i < n → rb'.data (2 + i) = bytes i := by
  have hB := F.bound
  have hw0 : 0 < 2 ^ wb := Nat.two_pow_pos wb
  unfold ringBufferWrite
  by_cases hn : n < 2 ^ tb
  · -- small first allocation
    rw [if_pos ⟨F.pos, by rw [F.tail]; exact hn⟩, Nat.mod_eq_of_lt (by omega),
      ringBufferInitBuffer_fresh n { rb with pos := n } F.dlen (by omega)]
    simp only [show ¬ (2 + n > 2 + n + 7 ∨ n > blen) by omega, if_false]
    refine ⟨_, rfl, rfl, rfl, rfl, Nat.le_refl _, fun i hi => ?_⟩
    simp [blit, hi]
  · -- full allocation with tail mirror
    have hn : 2 ^ tb ≤ n := by omega
    have ht0 : 0 < 2 ^ tb := Nat.two_pow_pos tb
    have hmod : n % 2 ^ 32 = n := Nat.mod_eq_of_lt (by omega)
    rw [if_neg (by rw [F.tail]; omega), if_pos (by rw [F.cur, F.total]; omega),
      ringBufferInitBuffer_fresh _ _ F.dlen (by rw [F.total]; omega)]
    simp only [F.total, F.size]
    simp only [show ¬ (2 + 2 ^ wb < 2 ∨ 2 + 2 ^ wb - 1 ≥ 2 + (2 ^ wb + 2 ^ tb) + 7) by omega, if_false]
    simp only [F.pos, Nat.zero_and, ringBufferWriteTail, F.tail, ht0, if_true, Nat.sub_zero,
      Nat.add_zero, Nat.min_eq_right hn]
    simp only [show ¬ (2 + 2 ^ wb + 2 ^ tb > 2 + (2 ^ wb + 2 ^ tb) + 7 ∨ 2 ^ tb > blen) by omega, if_false]
    simp only [Nat.zero_add, hs, if_true, show ¬ (2 + n > 2 + (2 ^ wb + 2 ^ tb) + 7 ∨ n > blen) by omega, if_false]
    simp only [show ¬ ((2 : Nat) < 2 ∨ 2 + 2 ^ wb - 1 ≥ 2 + (2 ^ wb + 2 ^ tb) + 7 ∨ 2 + 2 ^ wb < 2) by omega, if_false,
      hmod, show ¬ (n > 2 ^ 30) by omega]
    refine ⟨_, rfl, rfl, rfl, rfl, by simp; omega, ?_⟩
    intro i hi
    simp only [blit]
    simp [hi]
    omega

theorem copyInput_first (s : Enc) (wb tb : Nat) (F : Fresh s.ring wb tb) (bytes : Nat → Nat) (blen n : Nat)
    (hs : n ≤ 2 ^ wb) (h30 : n ≤ 2 ^ 30) (hb : n ≤ blen) (h0 : s.inputPos = 0) :
    ∃ s', copyInputToRingBuffer bytes blen n s = some s' ∧ s'.inputPos = n ∧ s'.ring.pos = n ∧
      s'.ring.mask = 2 ^ wb - 1 ∧ s'.ring.bufferIndex = 2 ∧ s'.params = s.params ∧
      s'.prevByte2 = s.prevByte2 ∧ s'.customDictionary = s.customDictionary ∧
      ∀ i, i < n → s'.ring.data (2 + i) = bytes i := by
  obtain ⟨rb', hw, hpos, hmask, hbi, hlen, hdata⟩ := ringBufferWrite_first s.ring wb tb F bytes blen n hs h30 hb
  unfold copyInputToRingBuffer
  rw [hw]
  have hmod : (s.inputPos + n) % 2 ^ 64 = n := by rw [h0, Nat.zero_add]; exact Nat.mod_eq_of_lt (by omega)
  simp only [hmod]
  by_cases hle : rb'.pos ≤ rb'.mask
  · rw [if_pos hle, if_neg (by rw [hbi, hpos]; omega)]
    refine ⟨_, rfl, rfl, hpos, by rw [← F.mask]; exact hmask, hbi, rfl, rfl, rfl, ?_⟩
    intro i hi
    show (if rb'.bufferIndex + rb'.pos ≤ 2 + i ∧ 2 + i < rb'.bufferIndex + rb'.pos + 7 then 0 else rb'.data (2 + i)) = bytes i
    rw [if_neg (by rw [hbi, hpos]; omega)]
    exact hdata i hi
  · rw [if_neg hle]
    exact ⟨_, rfl, rfl, hpos, by rw [← F.mask]; exact hmask, hbi, rfl, rfl, rfl, hdata⟩

/-- the encoder after `set_custom_dictionary` took a dictionary of `size` bytes with effective length `d'` -/
structure DictUsed (p0 : Params) (size : Nat) (dict : Nat → Nat) (d' : Nat) (s : Enc) : Prop where
  params : s.params = (ensureInitialized true p0).params
  custom : s.customDictionary = true
  inputPos : s.inputPos = d'
  flushed : s.lastFlushPos = d'
  processed : s.lastProcessedPos = d'
  recoder : s.recoderPos = d'
  ringPos : s.ring.pos = d'
  prev1 : s.prevByte = dict (size - 1)
  prev2 : s.prevByte2 = (if 2 ≤ d' then dict (size - 2) else 0)
  ringAt : ∀ i, i < d' → s.ring.at i = dict (size - d' + i)

theorem setCustomDictionary_used (p0 : Params) (size : Nat) (dict : Nat → Nat)
    (hsz : 0 < size) (hq : 2 ≤ encQ p0) :
    ∃ s, setCustomDictionary p0 size dict size = some s ∧ DictUsed p0 size dict (encDEff (encL p0) size) s := by
  obtain ⟨s0, hinit, hpar, hF, hip, hpb, hpb2⟩ := encInit_fresh p0
  have hL := encL_range p0
  have hlw : ¬ (s0.params.lgwin < 0 ∨ s0.params.lgwin ≥ 64) := by
    rw [hpar]; unfold encL at hL; omega
  have hqq : ¬ (size = 0 ∨ s0.params.quality = 0 ∨ s0.params.quality = 1) := by
    rw [hpar]; unfold encQ at hq; omega
  have hLeq : s0.params.lgwin.toNat = encL p0 := by rw [hpar]; rfl
  have hpow2 : 2 ^ encL p0 ≤ 2 ^ 30 := Nat.pow_le_pow_right (by decide) hL.2.1
  have hwbL : 2 ^ encL p0 ≤ 2 ^ (1 + max (encL p0) (encB p0)) := Nat.pow_le_pow_right (by decide) (by omega)
  -- truncated or not, what is copied is the last `d'` bytes of the dictionary
  have hcut : (if size > 2 ^ encL p0 - 16 then
        if size - (2 ^ encL p0 - 16) > size then none
        else some (size - (2 ^ encL p0 - 16), size - (size - (2 ^ encL p0 - 16)), 2 ^ encL p0 - 16)
      else some (0, size, size)) =
      some (size - encDEff (encL p0) size, encDEff (encL p0) size, encDEff (encL p0) size) := by
    unfold encDEff
    generalize 2 ^ encL p0 - 16 = W
    split
    · rw [if_neg (by omega), Nat.min_eq_right (by omega), show size - (size - W) = W by omega]
    · rw [Nat.min_eq_left (by omega), Nat.sub_self]
  obtain ⟨hdle, hdw, hd0⟩ := encDEff_bounds p0 size
  have hd0 := hd0 hsz
  generalize encDEff (encL p0) size = d' at *
  obtain ⟨s1, hc, h1, h2, h3, h4, h5, h7, h8, h9⟩ :=
    copyInput_first { s0 with customDictionary := true } _ _ hF (fun i => dict (size - d' + i))
      d' d' (by omega) (by omega) (Nat.le_refl _) hip
  unfold setCustomDictionary
  rw [hinit]
  simp only [hlw, hqq, if_false, hLeq, hcut, hc, Nat.lt_irrefl, gt_iff_lt, hd0, if_true]
  have hat : ∀ i, i < d' → s1.ring.at i = dict (size - d' + i) := by
    intro i hi
    show s1.ring.data (s1.ring.bufferIndex + (i &&& s1.ring.mask)) = _
    rw [h3, h4, Nat.and_two_pow_sub_one_eq_mod, Nat.mod_eq_of_lt (by omega)]
    exact h9 i hi
  clear hlw hqq hcut hinit hc hF hpow2 hwbL hL hLeq hdw hq h9 h3 h4
  -- `prev_byte2` is written only if the tail has two bytes
  by_cases h2' : 1 < d'
  · rw [if_pos h2']
    exact ⟨_, rfl, h5.trans hpar, h8, h1, rfl, rfl, rfl, h2, congrArg dict (by omega),
      by rw [if_pos (by omega)]; exact congrArg dict (by omega), hat⟩
  · rw [if_neg h2']
    exact ⟨_, rfl, h5.trans hpar, h8, h1, rfl, rfl, rfl, h2, congrArg dict (by omega),
      by rw [if_neg (by omega)]; exact h7.trans hpb2, hat⟩

end BV.Dict
