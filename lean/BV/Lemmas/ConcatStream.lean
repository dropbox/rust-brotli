/-
Specification of `stream`: total under the invariant, cursors in bounds,
protocol progress.
-/
import BV.Lemmas.ConcatShift

namespace BV.Concat
open Outcome BV.Gen

structure StreamPost (inp : List Nat) (cap : Nat) (r : Ret) : Prop where
  inv : Inv r.st
  started : Started r.st
  consumed_le : r.consumed ≤ inp.length
  produced_le : r.produced.length ≤ cap
  progress : (r.code = NEEDS_MORE_INPUT ∧ r.consumed = inp.length) ∨
    (r.code = NEEDS_MORE_OUTPUT ∧ r.produced.length = cap) ∨
    (r.code = NOT_CRAFTED_FOR_APPEND ∨ r.code = INVALID_WINDOW_SIZE ∨ r.code = WINDOW_SIZE_LARGER ∨
      r.code = NOT_CRAFTED_FOR_CONCAT)

theorem StreamPost.ends {inp : List Nat} {cap : Nat} {r : Ret} (h : StreamPost inp cap r) :
    (r.code = NEEDS_MORE_INPUT ∧ r.consumed = inp.length) ∨ (r.code = NEEDS_MORE_OUTPUT ∧ r.produced.length = cap) ∨
      isTerminal r.code = true := by
  rcases h.progress with p | p | p
  · exact Or.inl p
  · exact Or.inr (Or.inl p)
  · refine Or.inr (Or.inr ?_)
    rcases p with p | p | p | p <;> rw [p] <;> decide

theorem list_len2 (l : List Nat) (h : l.length = 2) : ∃ x y, l = [x, y] := by
  match l, h with
  | [x, y], _ => exact ⟨x, y, rfl⟩

theorem drop_take_succ (l : List Nat) (i k : Nat) (h : i < l.length) :
    (l.drop i).take (k + 1) = l[i] :: (l.drop (i + 1)).take k := by
  rw [List.drop_eq_getElem_cons h, List.take_succ_cons]

theorem take_one_drop (l : List Nat) (i : Nat) (h : i < l.length) : (l.drop i).take 1 = [l[i]] := by
  rw [drop_take_succ l i 0 h]; rfl

theorem ite_ret (c : Prop) [Decidable c] (st : State) (a b n : Nat) (p : List Nat) :
    (if c then ok (Ret.mk st a n p) else ok ⟨st, b, n, p⟩) = ok ⟨st, if c then a else b, n, p⟩ := by
  split <;> rfl

/-- the two tail bytes and the next `k` input bytes form one queue: its first `k` go out, its last two stay as the
tail (`k` = what room and input allow) -/
theorem streamCopy_eq (s : State) (inp : List Nat) (inOff : Nat) (out : List Nat) (cap k : Nat)
    (hin : inOff ≤ inp.length) (hout : out.length ≤ cap)
    (hk : min (cap - out.length) (inp.length - inOff) = k) :
    ∃ x y, ([s.last_bytes.1, s.last_bytes.2] ++ (inp.drop inOff).take k).drop k = [x, y] ∧
      streamCopy s inp inOff out cap = ok ⟨{ s with last_bytes := (x, y) },
        if out.length + k = cap then NEEDS_MORE_OUTPUT else NEEDS_MORE_INPUT, inOff + k,
        out ++ ([s.last_bytes.1, s.last_bytes.2] ++ (inp.drop inOff).take k).take k⟩ := by
  unfold streamCopy
  by_cases c1 : cap = out.length
  · have k0 : k = 0 := by omega
    subst k0
    refine ⟨_, _, rfl, ?_⟩
    rw [if_pos c1, if_pos (by omega)]
    simp only [List.take_zero, List.append_nil, Nat.add_zero]
  rw [if_neg c1]
  by_cases c2 : inp.length = inOff
  · have k0 : k = 0 := by omega
    subst k0
    refine ⟨_, _, rfl, ?_⟩
    rw [if_pos c2, if_neg (by omega)]
    simp only [List.take_zero, List.append_nil, Nat.add_zero]
  rw [if_neg c2, if_neg (by omega), if_neg (by omega)]
  dsimp only
  rw [hk, if_neg (by omega)]
  have hlt : inOff < inp.length := by omega
  by_cases c3 : k = 1
  · subst c3
    refine ⟨s.last_bytes.2, inp[inOff], by rw [take_one_drop inp inOff hlt]; rfl, ?_⟩
    rw [if_pos rfl, push, if_pos (by omega), bind_ok, idx, List.getElem?_eq_getElem hlt]
    simp only [bind_ok, List.length_append, List.length_cons, List.length_nil, Nat.zero_add, ite_ret]
    rw [take_one_drop inp inOff hlt]
    rfl
  · obtain ⟨j, rfl⟩ : ∃ j, k = j + 2 := ⟨k - 2, by omega⟩
    have hW : ((inp.drop inOff).take (j + 2)).length = j + 2 := by
      rw [List.length_take, List.length_drop]; omega
    obtain ⟨x, y, hxy⟩ := list_len2 (((inp.drop inOff).take (j + 2)).drop j) (by rw [List.length_drop, hW]; omega)
    refine ⟨x, y, hxy, ?_⟩
    rw [if_neg c3, if_neg (by omega), if_neg (by omega), if_neg (by omega), Nat.add_sub_cancel, hxy]
    dsimp only
    have hnew : (((inp.drop inOff).take (j + 2)).take j).length = j := by rw [List.length_take, hW]; omega
    rw [if_neg (by simp only [List.length_append, List.length_cons, List.length_nil]; omega),
      if_neg (by rw [hnew]; simp)]
    have e2 : inOff + 2 + j = inOff + (j + 2) := by omega
    simp only [List.length_append, List.length_cons, hnew, ite_ret, e2, List.cons_append,
      List.nil_append, List.take_succ_cons, List.append_assoc]

theorem streamCopy_sat (s : State) (inp : List Nat) (inOff : Nat) (out : List Nat) (cap : Nat)
    (hI : Inv s) (hS : Started s) (hns : s.last_byte_sanitized = false)
    (hin : inOff ≤ inp.length) (hout : out.length ≤ cap) :
    (streamCopy s inp inOff out cap).sat (fun r => StreamPost inp cap r ∧
      r.st.new_stream_pending = s.new_stream_pending ∧ inOff ≤ r.consumed ∧ out.length ≤ r.produced.length) := by
  obtain ⟨x, y, _, e⟩ := streamCopy_eq s inp inOff out cap _ hin hout rfl
  rw [e, sat_ok]
  generalize hk : min (cap - out.length) (inp.length - inOff) = k
  have hlen : (out ++ ([s.last_bytes.1, s.last_bytes.2] ++ (inp.drop inOff).take k).take k).length
      = out.length + k := by
    simp only [List.length_append, List.length_take, List.length_cons, List.length_nil, List.length_drop]; omega
  refine ⟨⟨⟨hI.len_le, hI.off_lt, hI.ws0, hI.san, fun e => by rw [hns] at e; simp at e, hI.pend⟩, hS, by dsimp only; omega,
    by dsimp only; omega, ?_⟩, rfl,
    by dsimp only; omega, by dsimp only; omega⟩
  dsimp only
  by_cases hf : out.length + k = cap
  · rw [if_pos hf]; exact Or.inr (Or.inl ⟨rfl, by omega⟩)
  · rw [if_neg hf]; exact Or.inl ⟨rfl, by omega⟩

theorem Inv.bump {s : State} (h : Inv s) (hp : s.new_stream_pending = none) (hws : s.window_size ≠ 0)
    (lb : Nat × Nat) (len : Nat) (hl : len ≤ 2) : Inv { s with last_bytes := lb, last_bytes_len := len } := by
  refine ⟨hl, h.off_lt, fun e => absurd e hws, fun e => ?_, fun e => ?_, fun d hd => ?_⟩
  · have := (h.san e).1; rw [hp] at this; simp at this
  · have := (h.san e).1; rw [hp] at this; simp at this
  · exact h.pend d hd

theorem setLast_sat (lb : Nat × Nat) (i v : Nat) (h : i < 2) : (setLast lb i v).sat (fun _ => True) := by
  unfold setLast
  refine sat_ite (fun _ => by simp) (fun _ => ?_)
  refine sat_ite (fun _ => by simp) (fun _ => by omega)

theorem streamTail_len2 (s : State) (inp : List Nat) (inOff : Nat) (out : List Nat) (cap : Nat)
    (hp : s.new_stream_pending = none) (h2 : s.last_bytes_len = 2) :
    streamTail s inp inOff out cap = streamCopy s inp inOff out cap := by
  unfold streamTail
  rw [if_neg (by rw [hp]; simp), if_neg (by simp [h2])]

theorem streamTail_blocked (s : State) (inp : List Nat) (inOff : Nat) (out : List Nat) (cap : Nat)
    (hp : s.new_stream_pending = none) (h2 : s.last_bytes_len ≠ 2) (hb : cap = out.length ∨ inp.length = inOff) :
    streamTail s inp inOff out cap =
      ok ⟨s, if cap = out.length then NEEDS_MORE_OUTPUT else NEEDS_MORE_INPUT, inOff, out⟩ := by
  unfold streamTail
  rw [if_neg (by rw [hp]; simp), if_pos h2]
  by_cases c1 : cap = out.length
  · rw [if_pos c1, if_pos c1]
  · rw [if_neg c1, if_neg c1]
    rcases hb with hb | hb
    · exact absurd hb c1
    · rw [if_pos hb]

theorem streamTail_fill (s : State) (inp : List Nat) (inOff : Nat) (out : List Nat) (cap : Nat)
    (hp : s.new_stream_pending = none) (hl : s.last_bytes_len < 2) (hc : cap ≠ out.length)
    (hlt : inOff < inp.length) :
    streamTail s inp inOff out cap =
      streamTail { s with last_bytes := if s.last_bytes_len = 0 then (inp[inOff], s.last_bytes.2)
                                        else (s.last_bytes.1, inp[inOff]),
                          last_bytes_len := s.last_bytes_len + 1 } inp (inOff + 1) out cap := by
  have h01 : s.last_bytes_len = 0 ∨ s.last_bytes_len = 1 := by omega
  have hg := List.getElem?_eq_getElem hlt
  conv => lhs; unfold streamTail
  rw [if_neg (by rw [hp]; simp), if_pos (by omega), if_neg hc, if_neg (by omega)]
  generalize hs' : ({ s with last_bytes := if s.last_bytes_len = 0 then (inp[inOff], s.last_bytes.2)
      else (s.last_bytes.1, inp[inOff]), last_bytes_len := s.last_bytes_len + 1 } : State) = s'
  have hp' : s'.new_stream_pending = none := by rw [← hs']; exact hp
  rcases h01 with l | l
  · by_cases hone : inp.length = inOff + 1
    · rw [streamTail_blocked s' inp (inOff + 1) out cap hp' (by rw [← hs']; simp [l]) (.inr hone), if_neg hc, ← hs']
      simp [idx, setLast, l, hc, hone]
    · unfold streamTail
      rw [← hs']
      simp [idx, hg, List.getElem?_eq_getElem (show inOff + 1 < inp.length by omega), setLast, l, hc, hone, hp]
  · rw [streamTail_len2 s' inp (inOff + 1) out cap hp' (by rw [← hs']; simp [l]), ← hs']
    simp [idx, hg, setLast, l]

/-- the case principle of `streamTail`; `n = 2 - last_bytes_len` counts the tail bytes still to fill.  In `fill` the
outcome `x` is arbitrary: the motive is carried back along the equation `streamTail_fill`, not recomputed -/
theorem streamTail_induct (inp out : List Nat) (cap : Nat) {M : State → Nat → Outcome Ret → Prop}
    (copy : ∀ s k, s.new_stream_pending = none → s.last_bytes_len = 2 → k ≤ inp.length →
      M s k (streamCopy s inp k out cap))
    (blocked : ∀ s k, s.new_stream_pending = none → s.last_bytes_len < 2 → k ≤ inp.length →
      cap = out.length ∨ inp.length = k →
      M s k (ok ⟨s, if cap = out.length then NEEDS_MORE_OUTPUT else NEEDS_MORE_INPUT, k, out⟩))
    (fill : ∀ s k (hlt : k < inp.length) x, s.new_stream_pending = none → s.last_bytes_len < 2 → cap ≠ out.length →
      M { s with last_bytes := if s.last_bytes_len = 0 then (inp[k], s.last_bytes.2) else (s.last_bytes.1, inp[k]),
                 last_bytes_len := s.last_bytes_len + 1 } (k + 1) x → M s k x) :
    ∀ (n : Nat) (s : State) (k : Nat), s.last_bytes_len + n = 2 → s.new_stream_pending = none → k ≤ inp.length →
      M s k (streamTail s inp k out cap) := by
  intro n
  induction n with
  | zero => intro s k h2 hp hk; rw [streamTail_len2 s inp k out cap hp h2]; exact copy s k hp h2 hk
  | succ n ih =>
    intro s k hn hp hk
    by_cases hb : cap = out.length ∨ inp.length = k
    · rw [streamTail_blocked s inp k out cap hp (by omega) hb]; exact blocked s k hp (by omega) hk hb
    · have hlt : k < inp.length := by omega
      rw [streamTail_fill s inp k out cap hp (by omega) (fun e => hb (.inl e)) hlt]
      exact fill s k hlt _ hp (by omega) (fun e => hb (.inl e)) (ih _ (k + 1) (by dsimp only; omega) hp hlt)

theorem streamTail_sat (s : State) (inp : List Nat) (inOff : Nat) (out : List Nat) (cap : Nat)
    (hI : Inv s) (hp : s.new_stream_pending = none) (hws : s.window_size ≠ 0)
    (hin : inOff ≤ inp.length) (hout : out.length ≤ cap) :
    (streamTail s inp inOff out cap).sat (fun r => StreamPost inp cap r ∧
      inOff ≤ r.consumed ∧ out.length ≤ r.produced.length) := by
  refine streamTail_induct inp out cap
    (M := fun s k x => Inv s → s.window_size ≠ 0 → x.sat (fun r => StreamPost inp cap r ∧
      k ≤ r.consumed ∧ out.length ≤ r.produced.length))
    ?_ ?_ ?_ (2 - s.last_bytes_len) s inOff (by have := hI.len_le; omega) hp hin hI hws
  · intro s k hp _ hk hI hws
    refine sat_mono (streamCopy_sat s inp k out cap hI (fun e => absurd e hws) (hI.unsan hp) hk hout) ?_
    intro r ⟨a, _, c, d⟩
    exact ⟨a, c, d⟩
  · intro s k _ _ hk hb hI hws
    rw [sat_ok]
    refine ⟨⟨hI, fun e => absurd e hws, hk, hout, ?_⟩, Nat.le_refl _, Nat.le_refl _⟩
    dsimp only
    by_cases c1 : cap = out.length
    · rw [if_pos c1]; exact Or.inr (Or.inl ⟨rfl, c1.symm⟩)
    · rw [if_neg c1]; exact Or.inl ⟨rfl, by rcases hb with e | e; exact absurd e c1; exact e.symm⟩
  · intro s k hlt x hp hl _ ih hI hws
    refine sat_mono (ih (hI.bump hp hws _ _ (by omega)) hws) ?_
    intro r ⟨a, c, d⟩
    exact ⟨a, by omega, d⟩

theorem stream_sat (s : State) (inp : List Nat) (cap : Nat) (hI : Inv s) (hS : Started s) :
    (stream s inp cap).sat (StreamPost inp cap) := by
  unfold stream
  cases hp : s.new_stream_pending with
  | none =>
    dsimp only
    have hws : s.window_size ≠ 0 := fun e => by have := hS e; rw [hp] at this; simp at this
    exact sat_mono (streamTail_sat s inp 0 [] cap hI hp hws (Nat.zero_le _) (Nat.zero_le _)) (fun _ h => h.1)
  | some nsp0 =>
    dsimp only
    refine sat_bind _ (flush_inv s [] cap hI (Nat.zero_le _) (by rw [hp]; rfl)) ?_
    intro r1 ⟨hf, hI1⟩
    obtain ⟨s1, out1, fr⟩ := r1
    dsimp only at hf hI1 ⊢
    have hp1 : s1.new_stream_pending = some nsp0 := by rw [← hp]; exact hf.pending
    have hS1 : Started s1 := fun _ => by rw [hp1]; rfl
    have hole1 : out1.length ≤ cap := hf.out_le
    have hfull1 : fr = NEEDS_MORE_OUTPUT → cap ≤ 0 := hf.full
    refine sat_ite (fun hne => ?_) (fun hne => ?_)
    · rw [sat_ok]
      refine ⟨hI1, hS1, Nat.zero_le _, hf.out_le, ?_⟩
      rcases hf.code with h | h | h
      · exact absurd h hne
      · have h1 := hfull1 h
        exact Or.inr (Or.inl ⟨h, by show out1.length = cap; omega⟩)
      · exact Or.inr (Or.inr (Or.inl h))
    have hfr : fr = SUCCESS := by simpa using hne
    have hsan1 := hf.sanit hfr
    obtain ⟨hr5, hwr⟩ := hI.pend nsp0 hp
    have hstep : (if nsp0.num_bytes_written.isNone = true ∧ nsp0.num_bytes_read < NUM_STREAM_HEADER_BYTES then
          (headerLoop nsp0 inp 0).bind fun x =>
            ok (x.1, x.2, { s1 with new_stream_pending := some x.1 })
        else ok (nsp0, 0, s1)).sat (fun x =>
          Inv x.2.2 ∧ x.2.2.new_stream_pending = some x.1 ∧ x.2.1 ≤ inp.length ∧
          x.2.2.last_byte_sanitized = true ∧
          (x.1.num_bytes_written = none → x.1.sufficient = false → x.2.1 = inp.length)) := by
      refine sat_ite (fun hc => ?_) (fun hc => ?_)
      · refine sat_bind _ (headerLoop_sat inp nsp0 0 hr5) ?_
        intro x ⟨a1, a2, a3, a4, a5, a6⟩
        rw [sat_ok]
        refine ⟨⟨hI1.len_le, hI1.off_lt, hI1.ws0, fun _ => ⟨rfl, (hI1.san hsan1).2⟩, hI1.tail, ?_⟩, rfl,
          by simpa using a4, hsan1, ?_⟩
        · intro d hd
          simp only [Option.some.injEq] at hd
          subst hd
          refine ⟨a2, fun w hw => ?_⟩
          rw [a1] at hw
          rw [hw] at hc
          simp at hc
        · intro _ hns
          rcases a6 with a6 | a6
          · rw [a6] at hns; simp at hns
          · simpa using a6
      · rw [sat_ok]
        refine ⟨hI1, hp1, Nat.zero_le _, hsan1, ?_⟩
        intro hw hns
        exfalso
        apply hc
        refine ⟨by rw [hw]; rfl, ?_⟩
        rw [hdr5]
        rcases Nat.lt_or_ge nsp0.num_bytes_read 5 with h | h
        · exact h
        · have := (sufficient_iff nsp0).mpr (Or.inr (by omega))
          rw [this] at hns; simp at hns
    refine sat_bind _ hstep ?_
    intro x ⟨hI2, hp2, hoff, hsan2, hexh⟩
    obtain ⟨nsp, inOff, s2⟩ := x
    dsimp only at hI2 hp2 hoff hsan2 hexh ⊢
    have hS2 : Started s2 := fun _ => by rw [hp2]; rfl
    refine sat_ite (fun hc => ?_) (fun hc => ?_)
    · rw [sat_ok]
      refine ⟨hI2, hS2, hoff, hf.out_le, Or.inl ⟨rfl, ?_⟩⟩
      have hw : nsp.num_bytes_written = none := by
        cases h : nsp.num_bytes_written with
        | none => rfl
        | some w => rw [h] at hc; simp at hc
      exact hexh hw (by simpa using hc.2)
    refine sat_ite (fun hfull => ?_) (fun hfull => ?_)
    · rw [sat_ok]
      exact ⟨hI2, hS2, hoff, hf.out_le, Or.inr (Or.inl ⟨rfl, hfull.symm⟩)⟩
    have hsuf : nsp.num_bytes_written = none → nsp.sufficient = true := by
      intro hw
      cases hsf : nsp.sufficient with
      | true => rfl
      | false => exfalso; apply hc; rw [hw, hsf]; simp
    have hlt : out1.length < cap := by omega
    refine sat_bind _ (shiftAndCheck_sat s2 nsp out1 cap hI2 hsan2 hp2 hsuf hlt) ?_
    intro r3 h3
    obtain ⟨s3, out3, sr⟩ := r3
    dsimp only at h3 ⊢
    have herr3 : sr ≥ 124 → s3 = s2 := fun h => (h3.err h).1
    refine sat_ite (fun hne3 => ?_) (fun hne3 => ?_)
    · rw [sat_ok]
      have hcode := h3.code
      dsimp only at hcode
      refine ⟨h3.inv, ?_, hoff, h3.out_le, ?_⟩
      · show Started s3
        rcases hcode with h | h | h | h | h
        · exact absurd h hne3
        · intro e; exact absurd e (h3.wsne (by rw [h]; simp))
        · rw [herr3 (by rw [h]; simp)]; exact hS2
        · rw [herr3 (by rw [h]; simp)]; exact hS2
        · rw [herr3 (by rw [h]; simp)]; exact hS2
      · rcases hcode with h | h | h | h | h
        · exact absurd h hne3
        · exact Or.inr (Or.inl ⟨h, h3.more h⟩)
        · exact Or.inr (Or.inr (Or.inr (Or.inl h)))
        · exact Or.inr (Or.inr (Or.inr (Or.inr (Or.inl h))))
        · exact Or.inr (Or.inr (Or.inr (Or.inr (Or.inr h))))
    have hsr : sr = SUCCESS := by simpa using hne3
    have hws3 : s3.window_size ≠ 0 := h3.wsne (by rw [hsr]; simp)
    refine sat_ite (fun hfull3 => ?_) (fun hfull3 => ?_)
    · rw [sat_ok]
      exact ⟨h3.inv, fun e => absurd e hws3, hoff, h3.out_le, Or.inr (Or.inl ⟨rfl, hfull3⟩)⟩
    exact sat_mono (streamTail_sat s3 inp inOff out3 cap h3.inv (h3.done hsr).1 hws3 hoff h3.out_le)
      (fun _ h => h.1)

end BV.Concat
