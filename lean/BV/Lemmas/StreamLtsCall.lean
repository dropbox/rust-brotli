import BV.Lemmas.StreamLtsLoops
/-
One `compress_stream` call that returns a value: refused, or a sequence of atomic steps that ends where its
loop breaks (`call_cases`).  What is known of a call (contract, completion, what every atom keeps) is read
off that description.
-/
namespace BV.Stream
open BV.Bits

theorem call_cases {o : Oracle} {fuel op cap : Nat} {input : Bytes} {s s' : St} {io' : Io} {r : Bool}
    (hop : op ≤ 3) (hI : Inv s) (hw : s.inputPos + input.length < two64)
    (h : compressStream o fuel s op input cap = .ok (s', io', r)) :
    r = Contract.accepts (absC s) op input.length ∧
    ((r = false ∧ (s' = s ∨ s' = updateSizeHint s 0) ∧ io' = Io.start input cap) ∨
     (r = true ∧ op = 3 ∧ (∃ evs, Steps o 3 (s, Io.start input cap) (.tau 2 :: evs) (s', io')) ∧ MdExit input.length s' io') ∨
     (r = true ∧ op ≤ 2 ∧ s.remainingMetadata = u32Max ∧ (s.streamState ≠ .processing → input.length = 0) ∧
       ∃ s1, Trail o op (s, Io.start input cap) (s1, io') ∧ s' = checkFlushComplete s1 ∧ MainExit op s input.length s1 io')) := by
  rcases compressStream_dispatch (o := o) (fuel := fuel) (cap := cap) (input := input) hop hI with
    ⟨hacc, s0, hs0, he⟩ | ⟨hacc, ⟨rfl, hP, he⟩ | ⟨hop2, hrm, hnp, hloop⟩⟩
  · rw [he] at h; cases h
    exact ⟨hacc.symm, Or.inl ⟨rfl, hs0, rfl⟩⟩
  · rw [he] at h
    obtain ⟨rfl, ⟨evs, hevs⟩, hx⟩ := mdLoop_run hP h
    exact ⟨hacc.symm, Or.inr (Or.inl ⟨rfl, rfl,
      ⟨evs, .cons (Step.mdEnter (io := Io.start input cap) hI rfl (md_entry_of_accepts hI hacc)) hevs⟩, hx⟩)⟩
  · rcases hloop with ⟨hfm, he⟩ | ⟨he, hnf⟩
    · rw [he] at h
      unfold compressStreamFast at h
      rw [if_neg (by rcases hfm.1 with h1 | h1 <;> simp [h1])] at h
      cases hfl : fastLoop o op fuel s (Io.start input cap) with
      | ok x =>
        rw [hfl] at h; cases h
        obtain ⟨htr, hx, _⟩ := fastLoop_run (X := fun _ _ => True) hop2 hfm hI hrm hnp trivial
          (fun _ _ _ _ _ _ _ => trivial) hfl
        exact ⟨hacc.symm, Or.inr (Or.inr ⟨rfl, hop2, hrm, hnp, _, htr, rfl, hx⟩)⟩
      | panic => rw [hfl] at h; cases h
      | fuel => rw [hfl] at h; cases h
    · rw [he] at h
      obtain ⟨rfl, s1, htr, hs1, hx, _⟩ := slowLoop_run (io := Io.start input cap) (X := fun _ _ => True) hop2 hnf hI hrm hw hnp
        trivial (fun _ _ _ _ _ _ _ => trivial) h
      exact ⟨hacc.symm, Or.inr (Or.inr ⟨rfl, hop2, hrm, hnp, s1, htr, hs1, hx⟩)⟩

theorem call_main {o : Oracle} {fuel op cap : Nat} {input : Bytes} {s s' : St} {io' : Io}
    (hop2 : op ≤ 2) (hI : Inv s) (hw : s.inputPos + input.length < two64)
    (h : compressStream o fuel s op input cap = .ok (s', io', true)) :
    s.remainingMetadata = u32Max ∧ (s.streamState ≠ .processing → input.length = 0) ∧
    ∃ s1, Trail o op (s, Io.start input cap) (s1, io') ∧ s' = checkFlushComplete s1 ∧ MainExit op s input.length s1 io' := by
  rcases (call_cases (Nat.le_succ_of_le hop2) hI hw h).2 with ⟨hr, _⟩ | ⟨_, h3, _⟩ | ⟨_, _, hx⟩
  · cases hr
  · omega
  · exact hx

/-- `updateSizeHint s 0`: `update_size_hint(0)` runs before the metadata checks that refuse the call -/
theorem refused_unchanged {o : Oracle} {fuel op cap : Nat} {input : Bytes} {s s' : St} {io' : Io}
    (hop : op ≤ 3) (hI : Inv s) (hw : s.inputPos + input.length < two64)
    (h : compressStream o fuel s op input cap = .ok (s', io', false)) :
    (s' = s ∨ s' = updateSizeHint s 0) ∧ io' = Io.start input cap := by
  rcases (call_cases hop hI hw h).2 with ⟨_, hx⟩ | ⟨hr, _⟩ | ⟨hr, _⟩
  · exact hx
  · cases hr
  · cases hr

theorem call_steps2 {o : Oracle} {fuel op cap : Nat} {input : Bytes} {s s' : St} {io' : Io}
    (hop2 : op ≤ 2) (hI : Inv s) (hw : s.inputPos + input.length < two64)
    (h : compressStream o fuel s op input cap = .ok (s', io', true)) :
    ∃ evs s1, Steps o op (s, Io.start input cap) evs (s1, io') ∧ (∀ e ∈ evs, e ≠ .tau 0)
      ∧ Step o op (s1, io') (.tau 0) (s', io') ∧ s' = checkFlushComplete s1
      ∧ ExitOK op s1 io' := by
  obtain ⟨_, _, s1, ⟨evs, h1, h2⟩, rfl, hx⟩ := call_main hop2 hI hw h
  exact ⟨evs, s1, h1, h2, Step.cfc hx.inv hop2 hx.rm hx.noPad hx.idle, rfl, hx.exit⟩

theorem call_steps {o : Oracle} {fuel op cap : Nat} {input : Bytes} {s s' : St} {io' : Io}
    (hop : op ≤ 3) (hI : Inv s) (hw : s.inputPos + input.length < two64)
    (h : compressStream o fuel s op input cap = .ok (s', io', true)) :
    ∃ evs, Steps o op (s, Io.start input cap) evs (s', io') := by
  rcases (call_cases hop hI hw h).2 with ⟨hr, _⟩ | ⟨_, rfl, ⟨evs, hevs⟩, _⟩ | ⟨_, hop2, _, _, s1, ⟨evs, hevs, _⟩, rfl, hx⟩
  · cases hr
  · exact ⟨_, hevs⟩
  · exact ⟨evs ++ [.tau 0], hevs.append (.one (Step.cfc hx.inv hop2 hx.rm hx.noPad hx.idle))⟩

theorem call_steps_fresh {o : Oracle} {fuel op cap : Nat} {input : Bytes} {s s' : St} {io' : Io}
    (hop : op ≤ 3) (hf : IsFresh s) (hw : input.length < two64)
    (h : compressStream o fuel s op input cap = .ok (s', io', true)) :
    ∃ evs, Steps o op (s, Io.start input cap) (.window (ensureInitialized s).carry :: evs) (s', io') := by
  rw [compressStream_ensure] at h
  have hI := (inv_fresh hf).1
  have hip : (ensureInitialized s).inputPos = 0 := by
    obtain ⟨p, rfl⟩ := hf
    simp [ensureInitialized, St.new]
  obtain ⟨evs, hevs⟩ := call_steps hop hI (by rw [hip]; omega) h
  exact ⟨evs, .cons (Step.init hf) hevs⟩

theorem call_induct {o : Oracle} {fuel op cap : Nat} {input : Bytes} {s s' : St} {io' : Io} {r : Bool}
    (P : St × Io → Prop) (hstep : ∀ c e c1, P c → Step o op c e c1 → P c1)
    (hhint : ∀ io, P (s, io) → P (updateSizeHint s 0, io))
    (hop : op ≤ 3) (hI : Inv s) (hw : s.inputPos + input.length < two64)
    (h : compressStream o fuel s op input cap = .ok (s', io', r)) (h0 : P (s, Io.start input cap)) : P (s', io') := by
  cases r with
  | false =>
    obtain ⟨hs, rfl⟩ := refused_unchanged hop hI hw h
    rcases hs with rfl | rfl
    · exact h0
    · exact hhint _ h0
  | true =>
    obtain ⟨evs, hevs⟩ := call_steps hop hI hw h
    exact Steps.induct P hstep hevs h0

theorem call_fresh {o : Oracle} {fuel op cap : Nat} {input : Bytes} {s : St} {r : St × Io × Bool} (hf : IsFresh s)
    (hw : s.inputPos + input.length < two64) (h : compressStream o fuel s op input cap = .ok r) :
    Inv (ensureInitialized s) ∧ (ensureInitialized s).inputPos + input.length < two64
      ∧ compressStream o fuel (ensureInitialized s) op input cap = .ok r := by
  rw [compressStream_ensure] at h
  have hip : (ensureInitialized s).inputPos = 0 := by
    obtain ⟨p, rfl⟩ := hf
    simp [ensureInitialized, St.new]
  exact ⟨(inv_fresh hf).1, by rw [hip]; omega, h⟩

theorem call_induct_run {o : Oracle} {fuel op cap : Nat} {input : Bytes} {s s' : St} {io' : Io} {r : Bool}
    (P : St × Io → Prop) (hstep : ∀ c e c1, P c → Step o op c e c1 → P c1)
    (hhint : ∀ s io, Inv s → P (s, io) → P (updateSizeHint s 0, io))
    (hop : op ≤ 3) (hR : IsFresh s ∨ Inv s) (hw : s.inputPos + input.length < two64)
    (h : compressStream o fuel s op input cap = .ok (s', io', r)) (h0 : P (s, Io.start input cap)) : P (s', io') := by
  rcases hR with hf | hI
  · obtain ⟨hI, hw', h'⟩ := call_fresh hf hw h
    exact call_induct P hstep (fun io => hhint _ io hI) hop hI hw' h' (hstep _ _ _ h0 (Step.init hf))
  · exact call_induct P hstep (fun io => hhint _ io hI) hop hI hw h h0

theorem compressStream_lbb {o : Oracle} {fuel op cap : Nat} {input : Bytes} {s s' : St} {io' : Io} {r : Bool}
    (hop : op ≤ 3) (hI : Inv s) (hw : s.inputPos + input.length < two64) (hl : s.lastBytesBits ≤ 14)
    (h : compressStream o fuel s op input cap = .ok (s', io', r)) : s'.lastBytesBits ≤ 14 :=
  call_induct (fun c => c.1.lastBytesBits ≤ 14) step_lbb (fun _ h => by rw [updateSizeHint_eq]; exact h) hop hI hw h hl

theorem compressStream_refines {o : Oracle} {fuel op cap : Nat} {input : Bytes} {s s' : St} {io' : Io} {r : Bool}
    (hop : op ≤ 3) (hI : Inv s) (hw : s.inputPos + input.length < two64)
    (h : compressStream o fuel s op input cap = .ok (s', io', r)) :
    r = Contract.accepts (absC s) op input.length ∧
    (r = true → Inv s' ∧ io'.availIn ≤ input.length ∧
      Contract.succ (absC s) op input.length (input.length - io'.availIn) (absC s')) := by
  obtain ⟨hacc, hcase⟩ := call_cases hop hI hw h
  refine ⟨hacc, fun hr => ?_⟩
  rcases hcase with ⟨hf, _⟩ | ⟨_, rfl, _, hx⟩ | ⟨_, hop2, hrm, hnp, s1, _, rfl, hx⟩
  · rw [hf] at hr; cases hr
  · have key : (∃ r', absC s' = .metadata r' ∧ r' ≤ input.length ∧ input.length - io'.availIn = input.length - r') ∨
        (absC s' = .processing ∧ input.length - io'.availIn = input.length) := by
      rcases hx.inv with hM | hD
      · have hne : s'.remainingMetadata ≠ u32Max := by have := hM.rmLe; have := u32Max_gt; omega
        exact Or.inl ⟨_, absC_md hM.inv.init hne, by rw [← hM.avail]; exact hM.availLe, by rw [hM.avail]⟩
      · exact Or.inr ⟨absC_processing hD.1.init hD.2.1 hD.2.2.1, by rw [hD.2.2.2]; rfl⟩
    have hI' : Inv s' ∧ io'.availIn ≤ input.length := by
      rcases hx.inv with hM | hD
      · exact ⟨hM.inv, hM.availLe⟩
      · exact ⟨hD.1, by rw [hD.2.2.2]; exact Nat.zero_le _⟩
    refine ⟨hI'.1, hI'.2, ?_⟩
    rw [hr, eq_comm, accepts_absC hI] at hacc
    by_cases hrm : s.remainingMetadata ≠ u32Max
    · rw [if_pos hrm] at hacc
      have hn : input.length = s.remainingMetadata := by simpa using hacc
      rw [absC_md hI.init hrm, ← hn]; exact key
    · rw [if_neg hrm] at hacc
      have hpr : s.streamState = .processing :=
        Decidable.of_not_not fun hnp => by rw [if_neg hnp] at hacc; simp at hacc
      rw [absC_processing hI.init (Decidable.of_not_not hrm) hpr]
      unfold Contract.succ
      rw [if_pos rfl]; exact key
  · obtain ⟨e1, _, _, e4⟩ := exit_contract hop2 hI hrm hx.inv hx.rm hx.availLe hnp hx.st hx.pend
    exact ⟨e1, hx.availLe, e4⟩

theorem compressStream_drained {o : Oracle} {fuel op cap : Nat} {input : Bytes} {s s' : St} {io' : Io}
    (hop : op ≤ 2) (hI : Inv s) (hw : s.inputPos + input.length < two64)
    (h : compressStream o fuel s op input cap = .ok (s', io', true)) :
    (io'.availOut ≠ 0 → s'.pending.length = 0) ∧ (s'.pending.length = 0 → Drained op s.streamState s' io') := by
  obtain ⟨_, _, s1, _, rfl, hx⟩ := call_main hop hI hw h
  rw [show (checkFlushComplete s1).pending = s1.pending by rw [checkFlushComplete_eq]]
  exact ⟨fun hroom => Decidable.byContradiction fun hp => hx.full ⟨hp, hroom⟩,
    fun hp => drained_of_exit hx.inv hx.idle hx.st hx.noPad (hx.quiet hp) hp⟩

theorem metadata_drained {o : Oracle} {fuel cap : Nat} {input : Bytes} {s s' : St} {io' : Io}
    (hI : Inv s) (hw : s.inputPos + input.length < two64)
    (h : compressStream o fuel s 3 input cap = .ok (s', io', true)) :
    (io'.availOut ≠ 0 → s'.pending.length = 0) ∧
    (s'.pending.length = 0 → s'.remainingMetadata = u32Max ∧ s'.streamState = .processing ∧ io'.availIn = 0) := by
  rcases (call_cases (Nat.le_refl 3) hI hw h).2 with ⟨hr, _⟩ | ⟨_, _, _, hx⟩ | ⟨_, hop2, _⟩
  · cases hr
  · refine ⟨fun hroom => hx.brk.elim (fun h1 => absurd h1.2 hroom) (·.1), fun hp => ?_⟩
    rcases hx.inv with hM | hD
    · have := hM.rmLe; have := u32Max_gt
      have := hx.brk.resolve_left (fun h1 => h1.1 hp)
      omega
    · exact ⟨hD.2.1, hD.2.2.1, hD.2.2.2⟩
  · omega

end BV.Stream
