/-
Slot-emptiness flags of single calls, as rewrite rules (used to evaluate `flagAfter` on the fixed parts
of the entry points, whose calls have symbolic parameters).

One allocator's share of a multi-threaded call (`epJob`), for every way the coordinator and the job may
treat the output block and the input copy: which slots are empty when it ends.
-/
import BV.Lemmas.LedgerEntry

namespace BV.Ledger

def opFlag (fl : Flags) (m8 : Nat) (s : Slot) (b : Bool) (op : Op) : Bool := emptyAfterL s b (opActs fl m8 op)

theorem flagAfter_nil (fl : Flags) (m8 : Nat) (s : Slot) (b : Bool) : flagAfter fl m8 s b [] = b := rfl

theorem flagAfter_cons (fl : Flags) (m8 : Nat) (s : Slot) (b : Bool) (op : Op) (ops : List Op) :
    flagAfter fl m8 s b (op :: ops) = flagAfter fl m8 s (opFlag fl m8 s b op) ops := rfl

theorem opFlag_create (fl : Flags) (m8 : Nat) (s : Slot) (b : Bool) (ffi : Bool) :
    opFlag fl m8 s b (.create ffi) = (b && (!ffi || decide (s ≠ .self))) := by
  cases ffi <;> cases s <;> cases b <;> rfl

theorem opFlag_allocMem (fl : Flags) (m8 : Nat) (s : Slot) (b : Bool) :
    opFlag fl m8 s b .allocMem = (b && decide (s ≠ .mem)) := by
  cases s <;> cases b <;> rfl

theorem opFlag_allocInput (fl : Flags) (m8 : Nat) (s : Slot) (b : Bool) :
    opFlag fl m8 s b .allocInput = (b && decide (s ≠ .input)) := by
  cases s <;> cases b <;> rfl

theorem opFlag_freeMem (fl : Flags) (m8 : Nat) (s : Slot) (b : Bool) :
    opFlag fl m8 s b .freeMem = (b || decide (s = .mem)) := by
  cases s <;> cases b <;> rfl

theorem opFlag_freeInput (fl : Flags) (m8 : Nat) (s : Slot) (b : Bool) :
    opFlag fl m8 s b .freeInput = (b || decide (s = .input)) := by
  cases s <;> cases b <;> rfl

theorem opFlag_cleanup (fl : Flags) (m8 : Nat) (s : Slot) (b : Bool) :
    opFlag fl m8 s b .cleanup = (b || s.isField) := by
  cases s <;> cases b <;> rfl

theorem opFlag_ffiDestroy (m8 : Nat) (s : Slot) (b : Bool) :
    opFlag Flags.allTrue m8 s b .ffiDestroy = (b || s.isField || decide (s = .self)) := by
  cases s <;> cases b <;> rfl

theorem opFlag_mkExt (fl : Flags) (m8 : Nat) (s : Slot) (b : Bool) (x : Nat) (xs : List Nat) :
    opFlag fl m8 s b (.mkExt (x :: xs)) = (b && decide (s ≠ .ext)) := by
  cases s <;> cases b <;> simp [opFlag, opActs, emptyAfterL, Act.emptyAfter]

theorem opFlag_oneshotHasher (fl : Flags) (m8 : Nat) (s : Slot) (hs : s.isField = false) (b : Bool) (o : Nat)
    (lens : List Nat) : opFlag fl m8 s b (.oneshotHasher o lens) = b := by
  cases s <;> simp [Slot.isField] at hs <;> cases b <;> rfl

theorem opFlag_setDict (fl : Flags) (m8 : Nat) (s : Slot) (hs : s.isField = false) (ring : Option Nat)
    (hasher : List Nat) : opFlag fl m8 s true (.setDict ring hasher) = true :=
  body_keeps fl m8 s hs _ rfl

theorem opFlag_setDictExt_ext (fl : Flags) (m8 : Nat) (b : Bool) (ring : Option Nat) (fresh : List Nat) :
    opFlag fl m8 .ext b (.setDictExt ring fresh) = true := by
  have hmove : emptyAfterL .ext b (hasherReplaceActs fl ++ [.move .ext .hasher]) = true := by
    unfold hasherReplaceActs
    cases fl.setDictFrees <;> cases b <;> rfl
  have htrunc : emptyAfterL .ext true (if fresh.length = 0 then []
      else [if fl.setDictTruncFrees then .free .hasher else .lose .hasher]) = true := by
    split
    · rfl
    · cases fl.setDictTruncFrees <;> rfl
  simp only [opFlag, opActs, emptyAfterL_append] at hmove ⊢
  rw [hmove, htrunc, ringOpt_keeps m8 _ rfl, hasherAlloc_keeps m8 _ rfl]

theorem opFlag_setDictExt (fl : Flags) (m8 : Nat) (s : Slot) (hs : s.isField = false) (ring : Option Nat)
    (fresh : List Nat) : opFlag fl m8 s true (.setDictExt ring fresh) = true := by
  have hmove : emptyAfterL s true [.move .ext .hasher] = true := by
    cases s <;> first | rfl | cases hs
  have htrunc : emptyAfterL s true (if fresh.length = 0 then []
      else [if fl.setDictTruncFrees then .free .hasher else .lose .hasher]) = true := by
    split
    · rfl
    · cases fl.setDictTruncFrees <;> cases s <;> first | rfl | cases hs
  exact keeps_append (keeps_append (keeps_append (keeps_append (hasherReplaceActs_keeps fl hs) hmove) htrunc)
    (ringOpt_keeps m8 _ hs)) (hasherAlloc_keeps m8 _ hs)

def jobPre (slice : Bool) (ext : List Nat) (dict : Option (Option Nat × List Nat)) : List Op :=
  (if slice then [.allocInput] else []) ++ (if ext = [] then [] else [.mkExt ext]) ++ [.allocMem, .create false] ++
  (match dict with
   | none => []
   | some (ring, fresh) => [if ext = [] then .setDict ring fresh else .setDictExt ring fresh])

def jobPost (memFreed inputFreed : Bool) : List Op :=
  [.cleanup] ++ (if memFreed then [.freeMem] else []) ++ (if inputFreed then [.freeInput] else [])

theorem epJob_eq (fl : Flags) (hpd : fl.partDestroys = true) (slice : Bool) (ext : List Nat)
    (dict : Option (Option Nat × List Nat)) (body : List Op) (ok : Bool) :
    epJob fl slice ext dict body ok = jobPre slice ext dict ++ body ++
      jobPost (if ok then fl.multiFreesOutputs else fl.partErrFrees) (slice && fl.sliceFreesInput) := by
  have hm : (if ok then (if fl.multiFreesOutputs then [Op.freeMem] else []) else (if fl.partErrFrees then [.freeMem] else []))
      = if (if ok then fl.multiFreesOutputs else fl.partErrFrees) = true then [.freeMem] else [] := by
    cases ok <;> rfl
  have hf : (if slice ∧ fl.sliceFreesInput then [Op.freeInput] else [])
      = if (slice && fl.sliceFreesInput) = true then [.freeInput] else [] := by
    cases slice <;> cases fl.sliceFreesInput <;> rfl
  simp only [epJob, jobPre, jobPost, condCleanup, hpd, hm, hf, if_true, List.append_assoc]
  cases dict <;> rfl

/-- `hd`: the pre-computed hasher the prefix makes (`ext`) is handed to the instance by `setDictExt`, so without a
dictionary the slot `ext` would stay full -/
theorem jobPre_keeps (fl : Flags) (m8 : Nat) (slice : Bool) (ext : List Nat) (dict : Option (Option Nat × List Nat))
    (hd : dict = none → ext = []) {s : Slot} (hs : s.isField = false) (hm : s ≠ .mem)
    (hi : s = .input → slice = false) : flagAfter fl m8 s true (jobPre slice ext dict) = true := by
  have hI : flagAfter fl m8 s true (if slice then [.allocInput] else []) = true := by
    cases slice
    · rfl
    · have : s ≠ .input := fun e => nomatch hi e
      simp [flagAfter_cons, flagAfter_nil, opFlag_allocInput, this]
  simp only [jobPre, flagAfter_append, hI]
  rcases dict with _ | ⟨ring, fresh⟩
  · simp [hd rfl, flagAfter_cons, flagAfter_nil, opFlag_allocMem, opFlag_create, hm]
  · rcases ext with _ | ⟨x, xs⟩
    · simp [flagAfter_cons, flagAfter_nil, opFlag_allocMem, opFlag_create, hm, opFlag_setDict fl m8 s hs]
    · by_cases he : s = .ext
      · subst he
        simp [flagAfter_cons, flagAfter_nil, opFlag_setDictExt_ext]
      · simp [flagAfter_cons, flagAfter_nil, opFlag_mkExt, opFlag_allocMem, opFlag_create, hm, he,
          opFlag_setDictExt fl m8 s hs]

theorem jobPost_flag (fl : Flags) (m8 : Nat) (s : Slot) (b memFreed inputFreed : Bool) :
    flagAfter fl m8 s b (jobPost memFreed inputFreed) =
      (b || s.isField || (memFreed && decide (s = .mem)) || (inputFreed && decide (s = .input))) := by
  cases memFreed <;> cases inputFreed <;>
    simp [jobPost, flagAfter_cons, flagAfter_nil, opFlag_cleanup, opFlag_freeMem, opFlag_freeInput]

/-- how one allocator's share of a multi-threaded call ends: all is empty but, unless somebody frees them, the output block
    and the input copy -/
structure JobEnded (fl' : Flags) (slice ok : Bool) (w : W) : Prop where
  inv : Inv w
  lost : w.lost = []
  others : ∀ s, s ≠ .mem → s ≠ .input → w.enc.get s = []
  mem : (if ok then fl'.multiFreesOutputs else fl'.partErrFrees) = true → w.enc.mem = []
  input : (slice = true → fl'.sliceFreesInput = true) → w.enc.input = []

/-- two flag records: `fl` are the site flags the calls run under, `fl'` shapes the entry point (who frees the output
    block and the input copy); they differ for an un-joined job, which runs the current sites (`Flags.allTrue`) in the
    entry point `epJob Flags.unjoined` that nobody cleans up after -/
theorem job_ends {fl : Flags} (hfl : fl.sitesOk = true) (fl' : Flags) (hpd : fl'.partDestroys = true) (m8 q : Nat)
    (slice ok : Bool) (ext : List Nat) (dict : Option (Option Nat × List Nat)) (hd : dict = none → ext = [])
    (body : List Op) (hb : ∀ op ∈ body, op.isBody = true) {w : W}
    (h : run fl (W.init m8 q) (epJob fl' slice ext dict body ok) = .ok w) : JobEnded fl' slice ok w := by
  rw [epJob_eq fl' hpd] at h
  obtain ⟨hi, hl, he⟩ := ep_empty_slots hfl m8 q _ body _ hb h
  simp only [jobPost_flag] at he
  refine ⟨hi, hl, fun s hm hin => he s ?_, fun hmf => he .mem (by simp [hmf]), fun hif => he .input ?_⟩
  · cases hs : s.isField
    · simp [jobPre_keeps fl m8 slice ext dict hd hs hm (fun e => absurd e hin)]
    · simp
  · cases hsl : slice
    · simp [jobPre_keeps fl m8 false ext dict hd (s := .input) rfl nofun (fun _ => rfl), Slot.isField]
    · simp [hif hsl]

end BV.Ledger
