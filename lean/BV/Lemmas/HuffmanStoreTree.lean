/-
C17: `BrotliStoreHuffmanTree` as a whole, read back by the
RFC 7932 §3.5 reader (`readPrefixCode`).
-/
import BV.Lemmas.HuffmanStoreIO
import BV.Lemmas.HuffmanHeader
import BV.Lemmas.HuffmanCreate

namespace BV.Lemmas.HuffmanStoreTree
open BV.Gen BV.Bits BV.Huffman BV.Lemmas.HuffmanBits BV.Lemmas.HuffmanCanon BV.Lemmas.HuffmanPrefix
open BV.Lemmas.HuffmanRead BV.Lemmas.HuffmanRle BV.Lemmas.HuffmanStoreRead BV.Lemmas.HuffmanStoreIO
open BV.Lemmas.HuffmanHeader BV.Lemmas.HuffmanMerge BV.Lemmas.HuffmanCreate

theorem shape_writeLoop (useNZ useZ : Bool) :
    ∀ (n : Nat) (l : List Nat), l.length = n → (∀ x ∈ l, x < 16) → ∀ prev,
      ∀ e ∈ writeLoop useNZ useZ prev l, EntryShape 16 e := by
  intro n l hn hlt prev
  rw [writeLoop_eq useNZ useZ n l hn]
  exact rleWith_forall _ _ (EntryShape 16) (· < 16) (fun prev v reps hv => shape_writeBlock 16 prev v reps hv)
    n l hn hlt prev

theorem histoLoop_spec (ss : List Nat) : ∀ (h : List Nat), h.length = 18 →
    (∀ s ∈ ss, s < 18) → (∀ l, l < 18 → h.getD l 0 + countLen ss l < u32) →
    ∃ h', histoLoop ss h = .ok h' ∧ h'.length = 18 ∧
      ∀ l, l < 18 → h'.getD l 0 = h.getD l 0 + countLen ss l :=
  countLoop_spec u32 18 histoLoop (fun _ => rfl) (fun _ _ _ => rfl) ss

theorem nz_cons (h : Nat) (t : List Nat) :
    ((h :: t).filter (· ≠ 0)).length = (if h = 0 then 0 else 1) + (t.filter (· ≠ 0)).length := by
  by_cases h0 : h = 0
  · simp [h0]
  · simp [h0]; omega

theorem numCodesLoop_spec (hs : List Nat) : ∀ (i nc c : Nat), nc ≤ 1 →
    (numCodesLoop hs i nc c).1 = min 2 (nc + (hs.filter (· ≠ 0)).length) ∧
    (nc = 1 → (numCodesLoop hs i nc c).2 = c) ∧
    (nc = 0 → ∀ p, p < hs.length → hs.getD p 0 ≠ 0 → (∀ q, q < p → hs.getD q 0 = 0) →
      (numCodesLoop hs i nc c).2 = i + p) := by
  induction hs with
  | nil => intro i nc c h1; exact ⟨by simp [numCodesLoop]; omega, fun _ => rfl, fun _ p hp => by simp at hp⟩
  | cons h t ih =>
    intro i nc c h1
    rw [nz_cons]
    simp only [numCodesLoop]
    by_cases h0 : h = 0
    · obtain ⟨a, b, d⟩ := ih (i + 1) nc c h1
      simp only [h0, ne_eq, not_true_eq_false, ↓reduceIte, Nat.zero_add]
      refine ⟨a, b, fun hn p hp hnz hz => ?_⟩
      obtain ⟨p, rfl⟩ : ∃ p', p = p' + 1 := ⟨p - 1, by
        rcases Nat.eq_zero_or_pos p with rfl | hp0
        · exact absurd (by simpa using h0) hnz
        · omega⟩
      rw [d hn p (by simpa using hp) (by simpa using hnz)
        (fun q hq => by simpa using hz (q + 1) (by omega))]
      omega
    · simp only [ne_eq, h0, not_false_eq_true, ↓reduceIte]
      by_cases hn : nc = 0
      · obtain ⟨a, b, _⟩ := ih (i + 1) 1 i (Nat.le_refl 1)
        subst hn
        rw [if_pos rfl, Nat.zero_add]
        refine ⟨a, fun h => absurd h (by decide), fun _ p _ _ hz => ?_⟩
        rw [b rfl]
        rcases Nat.eq_zero_or_pos p with rfl | hp0
        · rfl
        · exact absurd (by simpa using hz 0 hp0) h0
      · obtain rfl : nc = 1 := by omega
        rw [if_neg (by decide), if_pos rfl]
        exact ⟨by omega, fun _ => rfl, fun h => absurd h (by decide)⟩

theorem kraft_scale (L k : Nat) (l : List Nat) (h : ∀ x ∈ l, x ≤ L) :
    kraftSum (L + k) l = 2 ^ k * kraftSum L l := by
  induction l with
  | nil => simp [kraftSum]
  | cons x xs ih =>
    have hx := h x (by simp)
    have ih' := ih (fun y hy => h y (List.mem_cons_of_mem _ hy))
    unfold kraftSum at ih' ⊢
    simp only [List.map_cons, List.sum_cons, ih', Nat.mul_add]
    by_cases h0 : x = 0
    · simp [h0]
    · simp only [h0, ↓reduceIte]
      have : L + k - x = k + (L - x) := by omega
      rw [this, Nat.pow_add]

theorem kraft_complete_15 (M : Nat) (hM : M ≤ 15) (l : List Nat) (h : ∀ x ∈ l, x ≤ M)
    (hk : kraftSum M l = 2 ^ M) : kraftSum 15 l = 32768 := by
  have := kraft_scale M (15 - M) l h
  rw [show M + (15 - M) = 15 by omega, hk, ← Nat.pow_add, show 15 - M + M = 15 by omega] at this
  exact this

theorem writeHuffmanTree_eq (d : List Nat) (h704 : d.length ≤ 704) :
    writeHuffmanTree d d.length 704 =
      .ok ((writeHuffmanTreeWith (rleSwitches d).1 (rleSwitches d).2 d).map (·.1),
           (writeHuffmanTreeWith (rleSwitches d).1 (rleSwitches d).2 d).map (·.2)) := by
  unfold writeHuffmanTree
  have h1 := trim_length_le d
  have h2 := writeLoop_length (rleSwitches d).1 (rleSwitches d).2 _ (trimTrailingZeros d) rfl
    (by unfold u64; omega) 8
  have h3 : (writeHuffmanTreeWith (rleSwitches d).1 (rleSwitches d).2 d).length ≤ 704 := by
    unfold writeHuffmanTreeWith; omega
  simp only [Nat.lt_irrefl, gt_iff_lt, ↓reduceIte, List.take_length,
    show ¬ 704 < (writeHuffmanTreeWith (rleSwitches d).1 (rleSwitches d).2 d).length by omega]

theorem eq_singleton_of_nodup (l : List Nat) (a : Nat) (hn : l.Nodup) (hm : ∀ v, v ∈ l ↔ v = a) :
    l = [a] := by
  cases l with
  | nil => exact absurd ((hm a).mpr rfl) (by simp)
  | cons x xs =>
    have hx : x = a := (hm x).mp (by simp)
    subst hx
    cases xs with
    | nil => rfl
    | cons y ys =>
      have hy : y = x := (hm y).mp (by simp)
      subst hy
      simp at hn

theorem single_facts (n s : Nat) (hs : s < n) (hn : n < 65536) :
    convertBitDepthsToSymbols ((List.replicate n 0).set s 1) n (List.replicate n 0)
      = .ok (List.replicate n 0) ∧
    kraftSum 5 ((List.replicate n 0).set s 1) = 16 ∧
    (List.range n).filter (fun t => ((List.replicate n 0).set s 1).getD t 0 != 0) = [s] ∧
    (∀ x ∈ (List.replicate n 0).set s 1, x ≤ 5) := by
  have hd : ∀ t, ((List.replicate n 0).set s 1).getD t 0 = if s = t then 1 else 0 := fun t => by
    rw [getD_set _ s t 1 0 (by simpa using hs), getD_replicate]
  have hlen : ((List.replicate n 0).set s 1).length = n := by simp
  have h5 : ∀ x ∈ (List.replicate n 0).set s 1, x ≤ 1 := fun x hx => by
    rcases List.mem_or_eq_of_mem_set hx with h | h
    · rw [List.eq_of_mem_replicate h]; omega
    · omega
  refine ⟨?_, ?_, ?_, fun x hx => Nat.le_trans (h5 x hx) (by decide)⟩
  · obtain ⟨b, hb, hbl, _, hbg⟩ := convert_spec ((List.replicate n 0).set s 1) (List.replicate n 0)
      (fun x hx => Nat.le_trans (h5 x hx) (by decide)) (by rw [hlen]; exact hn) (by simp)
    rw [hlen] at hb hbg
    rw [hb]
    congr 1
    apply ext_getD _ _ 0 hbl
    intro i hi
    rw [hbl, List.length_replicate] at hi
    rw [hbg i hi, hd i]
    by_cases hsi : s = i
    · subst hsi
      -- the first code of length 1 is 0, and no earlier symbol has a code word
      have hc : countLen (((List.replicate n 0).set s 1).take s) 1 = 0 := by
        rw [List.take_set_of_le (Nat.le_refl s), List.take_replicate]
        unfold countLen
        rw [List.length_eq_zero_iff, List.filter_eq_nil_iff]
        intro x hx; rw [List.eq_of_mem_replicate hx]; decide
      rw [if_pos rfl, if_pos (by decide), canonicalCodes_getD _ s (by rw [hlen]; exact hs), hd s,
        if_pos rfl, if_neg (by decide), hc, show firstCode ((List.replicate n 0).set s 1) 1 = 0 from rfl, getD_replicate]
      decide
    · rw [if_neg hsi, if_neg (by decide)]
  · rw [BV.Lemmas.HuffmanShape.kraftSum_set 5 _ s 1 (by simpa using hs) (getD_replicate _ _ _) (by decide),
      kraftSum_replicate_zero]
  · apply eq_singleton_of_nodup _ s (List.nodup_range.filter _)
    intro v
    rw [List.mem_filter, List.mem_range, hd v]
    by_cases hsv : s = v
    · subst hsv; simp [hs]
    · have : ¬ v = s := fun h => hsv h.symm
      simp [hsv, this]
/-- the `n == 1` branch of `BrotliCreateHuffmanTree` -/
theorem create_single (histo : List Nat) (s0 : Nat) (tree : List Node) (hl : histo.length = 18)
    (hs0 : s0 < 18) (hnz : histo.getD s0 0 ≠ 0)
    (hz : ∀ q, q < 18 → q ≠ s0 → histo.getD q 0 = 0) (htl : 37 ≤ tree.length) :
    createHuffmanTree histo 18 5 tree (List.replicate 18 0)
      = .ok ((List.replicate 18 0).set s0 1) := by
  have hdesc : descNZ histo 18 = [s0] := by
    apply eq_singleton_of_nodup _ _ (nodup_descNZ histo 18)
    intro v
    rw [mem_descNZ]
    constructor
    · rintro ⟨h1, h2⟩
      by_cases hv : v = s0
      · exact hv
      · exact absurd (hz v h1 hv) h2
    · rintro rfl; exact ⟨hs0, hnz⟩
  obtain ⟨tree1, hc1, hc2, _, hc4⟩ := collectLeaves_spec histo 1 18 tree 0 (by omega) (by omega)
    (by rw [hdesc]; simp; omega)
  rw [hdesc] at hc1 hc4
  have h0 := hc4 0 (by simp)
  simp only [Nat.zero_add, List.length_cons, List.length_nil, List.getD_cons_zero] at hc1 h0
  unfold createHuffmanTree
  have hf : createFuel = 33 + 1 := rfl
  rw [hf, createLoop]
  simp only [hc1, Out.bind_ok, ↓reduceIte]
  have hg : getAt tree1 0 = .ok (leafNode histo 1 s0) := by
    simp [getAt, h0]
  rw [hg]
  simp only [Out.bind_ok, leafNode, BV.Lemmas.HuffmanShape.asUsize_natCast]
  rw [setAt_of_lt _ s0 _ (by simp; omega)]
  rfl

theorem filter_range_getD (l : List Nat) (q : Nat → Bool) :
    ((List.range l.length).filter fun t => q (l.getD t 0)).length = (l.filter q).length := by
  have h : (List.range l.length).map (fun s => l.getD s 0) = l := by
    have := map_range_getD l id
    simpa using this
  conv => rhs; rw [← h, List.filter_map, List.length_map]
  rfl

theorem countLen_pos_of_mem (l : List Nat) (x : Nat) (h : x ∈ l) : 1 ≤ countLen l x := by
  unfold countLen
  apply List.length_pos_iff.mpr
  intro hf
  have : x ∈ l.filter (· == x) := List.mem_filter.mpr ⟨h, by simp⟩
  rw [hf] at this; simp at this

theorem forall_mem_of_getD (l : List Nat) (b : Nat) (h : ∀ v, v < l.length → l.getD v 0 ≤ b) :
    ∀ x ∈ l, x ≤ b := by
  intro x hx
  obtain ⟨i, hi, hix⟩ := List.getElem_of_mem hx
  have := h i hi
  rw [List.getD_eq_getElem?_getD, List.getElem?_eq_getElem hi] at this
  simpa [hix] using this

theorem nz_count_eq (cl histo : List Nat) (hc : cl.length = 18) (hh : histo.length = 18)
    (hsupp : ∀ t, t < 18 → (cl.getD t 0 ≠ 0 ↔ histo.getD t 0 ≠ 0)) :
    ((List.range cl.length).filter fun t => cl.getD t 0 != 0).length
      = (histo.filter (· ≠ 0)).length := by
  have e2 := filter_range_getD histo (fun x => x != 0)
  have hfun : (fun x : Nat => x != 0) = (fun x : Nat => decide (x ≠ 0)) := by
    funext x; by_cases hx : x = 0 <;> simp [hx]
  rw [hfun] at e2
  rw [← e2, hc, hh]
  congr 1
  apply List.filter_congr
  intro t ht
  have := hsupp t (List.mem_range.mp ht)
  generalize cl.getD t 0 = a at this
  generalize histo.getD t 0 = b at this
  by_cases ha : a = 0
  · by_cases hb : b = 0
    · rw [ha, hb]
    · exact absurd ha (this.mpr hb)
  · by_cases hb : b = 0
    · exact absurd hb (this.mp ha)
    · have h1 : (a != 0) = true := by simpa using ha
      have h2 : (b != 0) = true := by simpa using hb
      rw [h1, h2]

theorem one_nz (l : List Nat) : ∀ i, i < l.length → l.getD i 0 ≠ 0 → 1 ≤ (l.filter (· ≠ 0)).length := by
  induction l with
  | nil => intro i hi; simp at hi
  | cons h t ih =>
    intro i hi hne
    rw [nz_cons]
    cases i with
    | zero =>
      have : h ≠ 0 := by simpa using hne
      simp only [this, ↓reduceIte]; omega
    | succ i =>
      have := ih i (by simpa using hi) (by simpa using hne)
      omega

theorem two_nz (l : List Nat) : ∀ i j, i < j → j < l.length → l.getD i 0 ≠ 0 → l.getD j 0 ≠ 0 →
    2 ≤ (l.filter (· ≠ 0)).length := by
  induction l with
  | nil => intro i j _ hj; simp at hj
  | cons h t ih =>
    intro i j hij hj hi0 hj0
    rw [nz_cons]
    obtain ⟨j', rfl⟩ : ∃ j', j = j' + 1 := ⟨j - 1, by omega⟩
    cases i with
    | zero =>
      have : h ≠ 0 := by simpa using hi0
      have h1 := one_nz t j' (by simpa using hj) (by simpa using hj0)
      simp only [this, ↓reduceIte]; omega
    | succ i =>
      have := ih i j' (by omega) (by simpa using hj) (by simpa using hi0) (by simpa using hj0)
      omega

theorem readPrefixCode_complex (A hskip : Nat) (cl d : List Nat) (body ebits : List Bool)
    (h4 : hskip < 4) (h1 : hskip ≠ 1)
    (hcl : readClLens (kStorageOrder.drop hskip) 32 (List.replicate 18 0) (body ++ ebits)
      = some (cl, ebits))
    (rest : List Bool)
    (hgo : readLensGo cl A (A + 1) ⟨[], 8, none⟩ ebits = some (d, rest)) :
    readPrefixCode A (bitsOf 2 hskip ++ (body ++ ebits)) = some (d, rest) := by
  have ho : rfcClOrder = kStorageOrder := by decide
  unfold readPrefixCode
  rw [takeBits_bitsOf 2 hskip _ (by omega)]
  simp only [Option.bind_eq_bind, Option.bind_some, h1, ↓reduceIte, ho, hcl, hgo]

theorem complex_roundtrip {clW cl clBits : List Nat} {symBits : Nat → List Bool}
    {used : Nat → Prop} (hio : SymIO clW cl clBits symBits used)
    (hl : cl.length = 18) (h5 : ∀ x ∈ cl, x ≤ 5) (numCodes : Nat)
    (hmode : (1 < numCodes ∧ kraftSum 5 cl = 32) ∨ (numCodes ≤ 1 ∧ kraftSum 5 cl < 32))
    (A : Nat) (E : List (Nat × Nat)) (hvalid : ∀ e ∈ E, ValidEntryU used e) (hElen : E.length ≤ A)
    (o : List Nat) (hout : (run ⟨[], 8, none⟩ E).out = o) (hne : o ≠ [])
    (hlast : o.getLast hne ≠ 0) (h15 : ∀ x ∈ o, x ≤ 15) (hlen : o.length ≤ A)
    (hk : kraftSum 15 o = 32768) (w rest : List Bool) :
    ∃ hdr, storeHuffmanTreeOfHuffmanTreeToBitMask numCodes cl w = .ok (w ++ hdr) ∧
      storeHuffmanTreeToBitMask clW clBits E (w ++ hdr)
        = .ok (w ++ (hdr ++ (E.map (entryBitsU symBits)).flatten)) ∧
      readPrefixCode A (hdr ++ (E.map (entryBitsU symBits)).flatten ++ rest)
        = some (o ++ List.replicate (A - o.length) 0, rest) := by
  obtain ⟨hskip, body, hw, hs4, hs1, hrd⟩ := header_roundtrip cl hl h5 numCodes hmode w
    ((E.map (entryBitsU symBits)).flatten ++ rest)
  refine ⟨bitsOf 2 hskip ++ body, hw, ?_, ?_⟩
  · rw [storeEntriesU hio E _ hvalid, List.append_assoc]
  · subst hout
    have hwf : WF ⟨[], 8, none⟩ := fun v c h => by simp at h
    have hpre := prefix_conditions E ⟨[], 8, none⟩ hwf A hne hlast h15 hlen hk
    have hgo := readEntriesU hio A E ⟨[], 8, none⟩ (A + 1) rest hvalid (by omega) hpre hlen hk
    simp only [List.append_assoc]
    exact readPrefixCode_complex A hskip cl _ body _ hs4 hs1 hrd rest hgo

theorem store_tree_roundtrip_ctx0 (d : List Nat) (A : Nat) (tree : List Node) (w rest : List Bool)
    (h704 : d.length ≤ 704)
    (hd : ∀ x ∈ d, x ≤ 15) (hk : kraftSum 15 d = 32768) (htl : 37 ≤ tree.length)
    (hA : A ≤ d.length) (hz : ∀ i, A ≤ i → i < d.length → d.getD i 0 = 0) :
    ∃ bits, storeHuffmanTree d d.length tree w = .ok (w ++ bits) ∧
      readPrefixCode A (bits ++ rest) = some (d.take A, rest) := by
  have h64 : d.length < 2 ^ 64 := by
    have : (704 : Nat) < 2 ^ 64 := by decide
    omega
  obtain ⟨E, hE⟩ : ∃ E, E = writeHuffmanTreeWith (rleSwitches d).1 (rleSwitches d).2 d := ⟨_, rfl⟩
  have hd' : ∀ x ∈ trimTrailingZeros d, x < 16 :=
    trim_lt d (fun x hx => Nat.lt_succ_of_le (hd x hx))
  have hshape : ∀ e ∈ E, EntryShape 16 e := by
    rw [hE]; exact shape_writeLoop _ _ _ _ rfl hd' 8
  have hElen : E.length ≤ 704 := by
    have h1 := trim_length_le d
    have h2 := writeLoop_length (rleSwitches d).1 (rleSwitches d).2 _ (trimTrailingZeros d) rfl
      (by unfold u64; omega) 8
    rw [hE]; unfold writeHuffmanTreeWith; omega
  have hsyms18 : ∀ s ∈ E.map (·.1), s < 18 := by
    intro s hs
    obtain ⟨e, he, rfl⟩ := List.mem_map.mp hs
    rcases hshape e he with h | h | h <;> omega
  obtain ⟨histo, hh1, hh2, hh3⟩ := histoLoop_spec (E.map (·.1)) (List.replicate 18 0) (by simp)
    hsyms18 (by
      intro l _
      have := countLen_le (E.map (·.1)) l
      rw [getD_replicate]; simp at this; unfold u32; omega)
  have hhist : ∀ l, l < 18 → histo.getD l 0 = countLen (E.map (·.1)) l := by
    intro l hl; rw [hh3 l hl, getD_replicate, Nat.zero_add]
  have hh704 : ∀ x ∈ histo, x ≤ 704 := by
    apply forall_mem_of_getD
    intro v hv
    rw [hhist v (by omega)]
    have := countLen_le (E.map (·.1)) v
    simp at this; omega
  have hused : ∀ e ∈ E, histo.getD e.1 0 ≠ 0 := by
    intro e he
    have h18 : e.1 < 18 := hsyms18 e.1 (List.mem_map.mpr ⟨e, he, rfl⟩)
    rw [hhist e.1 h18]
    have := countLen_pos_of_mem (E.map (·.1)) e.1 (List.mem_map.mpr ⟨e, he, rfl⟩)
    omega
  have hzip : (E.map (·.1)).zip (E.map (·.2)) = E := by
    rw [List.zip_map', List.map_id'' (by intro x; rfl)]
  have hEne : E ≠ [] := by
    intro h
    have hrt := writeLoop_roundtrip (rleSwitches d).1 (rleSwitches d).2 _ (trimTrailingZeros d) rfl
      (by unfold u64; have := trim_length_le d; omega) hd' 8 ⟨[], 8, none⟩ rfl (by intro x _; rfl)
    have hkt : kraftSum 15 (trimTrailingZeros d) = 32768 := by rw [kraftSum_trim]; exact hk
    have he : writeLoop (rleSwitches d).1 (rleSwitches d).2 8 (trimTrailingZeros d) = [] := by
      rw [hE] at h; exact h
    rw [he] at hrt
    simp only [run_nil, List.nil_append] at hrt
    rw [← hrt] at hkt
    simp [kraftSum] at hkt
  have hnz1 : 1 ≤ (histo.filter (· ≠ 0)).length := by
    obtain ⟨e, he⟩ := List.exists_mem_of_ne_nil E hEne
    have h18 : e.1 < 18 := hsyms18 e.1 (List.mem_map.mpr ⟨e, he, rfl⟩)
    have hne := hused e he
    apply List.length_pos_iff.mpr
    intro hf
    have : histo.getD e.1 0 ∈ histo.filter (· ≠ 0) := by
      apply List.mem_filter.mpr
      refine ⟨?_, by simpa using hne⟩
      rw [List.getD_eq_getElem?_getD, List.getElem?_eq_getElem (by omega)]; simp
    rw [hf] at this; simp at this
  unfold storeHuffmanTree
  rw [writeHuffmanTree_eq d h704, ← hE]
  simp only [Out.bind_ok, hh1, hzip]
  by_cases hnz2 : 2 ≤ (histo.filter (· ≠ 0)).length
  · have hnum : (numCodesLoop histo 0 0 0).1 = 2 := by
      rw [(numCodesLoop_spec histo 0 0 0 (by omega)).1]; omega
    cases hpair : numCodesLoop histo 0 0 0 with
    | mk nc code =>
    rw [hpair] at hnum
    simp only at hnum
    subst hnum
    simp only
    have hf : BV.Lemmas.HuffmanFib.fib (5 + 3) = 21 := by decide
    have hsum := sum_le_mul histo 704 hh704
    rw [hh2] at hsum
    obtain ⟨cl, hcl1, hcl2, hcl3, hcl4, hcl5⟩ := create_total histo 5 13 (by decide) (by omega)
      hnz2 tree (by omega) (by decide) (by rw [hh2]; omega) (by rw [hf, hh2]; omega)
    rw [hh2] at hcl1 hcl2 hcl3 hcl4
    have hcl1' : createHuffmanTree histo 18 5 tree (List.replicate 18 0) = .ok cl := hcl1
    rw [hcl1']
    simp only [Out.bind_ok]
    have hcl5m : ∀ x ∈ cl, x ≤ 5 := forall_mem_of_getD cl 5 (by rw [hcl2]; exact hcl4)
    have hcl15 : ∀ x ∈ cl, x ≤ 15 := fun x hx => by have := hcl5m x hx; omega
    obtain ⟨clBits, hb1, hb2, _, hb4⟩ := convert_spec cl (List.replicate 18 0) hcl15 (by omega)
      (by simp; omega)
    rw [hcl2] at hb1 hb4
    rw [hb1]
    simp only [Out.bind_ok]
    have hk5 : kraftSum 5 cl = 32 := hcl5
    have hcode : ClCode cl clBits :=
      { hlen := hcl2, hblen := by simpa using hb2, hall := hcl15,
        hk := by
          have := kraft_scale 5 10 cl hcl5m
          rw [show 5 + 10 = 15 from rfl, hk5] at this
          rw [this]; decide,
        h2 := by
          rw [nz_count_eq cl histo hcl2 hh2 hcl3]; exact hnz2,
        hbits := by
          intro s hs hne
          rw [hb4 s hs, if_pos hne] }
    have hio := symIO_of_clCode cl clBits hcode
    have hvalid : ∀ e ∈ writeHuffmanTreeWith (rleSwitches d).1 (rleSwitches d).2 d,
        ValidEntryU (fun s => cl.getD s 0 ≠ 0) e := by
      rw [← hE]
      intro e he
      have h18 : e.1 < 18 := hsyms18 e.1 (List.mem_map.mpr ⟨e, he, rfl⟩)
      exact (hshape e he).valid (Nat.le_refl _) ((hcl3 e.1 h18).mpr (hused e he))
    obtain ⟨hskip, body, hw, hs4, hs1, hrd⟩ := header_roundtrip cl hcl2 hcl5m 2
      (Or.inl ⟨by decide, hk5⟩) w
      ((E.map (entryBitsU fun s => bitsOf (cl.getD s 0) (clBits.getD s 0))).flatten ++ rest)
    rw [hw]
    simp only [Out.bind_ok, show ¬ (2 = 1) by decide, ↓reduceIte]
    obtain ⟨hst, hgo⟩ := store_entries_roundtripA hio d A hd h64 hk hA hz (rleSwitches d).1
      (rleSwitches d).2 hvalid (w ++ (bitsOf 2 hskip ++ body)) rest
    rw [← hE] at hst hgo
    refine ⟨bitsOf 2 hskip ++ body ++
      (E.map (entryBitsU fun s => bitsOf (cl.getD s 0) (clBits.getD s 0))).flatten, ?_, ?_⟩
    · rw [hst]; simp only [List.append_assoc]
    · simp only [List.append_assoc]
      exact readPrefixCode_complex A hskip cl (d.take A) body _ hs4 hs1 hrd rest hgo
  · -- a single code-length symbol in use: its code word has zero length
    obtain ⟨e0, he0⟩ := List.exists_mem_of_ne_nil E hEne
    have hs0 : e0.1 < 18 := hsyms18 e0.1 (List.mem_map.mpr ⟨e0, he0, rfl⟩)
    have hs0nz := hused e0 he0
    have hothers : ∀ q, q < 18 → q ≠ e0.1 → histo.getD q 0 = 0 := by
      intro q hq hne
      by_cases hz : histo.getD q 0 = 0
      · exact hz
      · exfalso
        apply hnz2
        rcases Nat.lt_or_gt_of_ne hne with h | h
        · exact two_nz histo q e0.1 h (by omega) hz hs0nz
        · exact two_nz histo e0.1 q h (by omega) hs0nz hz
    generalize e0.1 = s0 at hs0 hs0nz hothers
    have hpair : numCodesLoop histo 0 0 0 = (1, s0) := by
      obtain ⟨a, _, d⟩ := numCodesLoop_spec histo 0 0 0 (by omega)
      exact Prod.ext (by rw [a]; omega)
        (by simpa using d rfl s0 (by omega) hs0nz fun q hq => hothers q (by omega) (by omega))
    rw [hpair]
    simp only [Nat.zero_add]
    rw [create_single histo s0 tree hh2 hs0 hs0nz hothers htl]
    simp only [Out.bind_ok]
    obtain ⟨hcv, hk16, hfilt, h5⟩ := single_facts 18 s0 hs0 (by decide)
    rw [hcv]
    simp only [Out.bind_ok]
    have hcl18 : ((List.replicate 18 0).set s0 1).length = 18 := by simp
    have hio : SymIO (List.replicate 18 0) ((List.replicate 18 0).set s0 1) (List.replicate 18 0)
        (fun _ => []) (fun s => s = s0) :=
      { hlenW := by simp, hlenB := by simp,
        hw := by
          intro s w _ _
          simp only [getD_replicate]
          exact writeBits_ok 0 0 w (by decide) (by decide),
        hr := by
          intro s rest _ hs
          subst hs
          unfold readSym
          rw [hcl18, hfilt]
          rfl }
    have hvalid : ∀ e ∈ writeHuffmanTreeWith (rleSwitches d).1 (rleSwitches d).2 d,
        ValidEntryU (fun s => s = s0) e := by
      rw [← hE]
      intro e he
      have h18 : e.1 < 18 := hsyms18 e.1 (List.mem_map.mpr ⟨e, he, rfl⟩)
      exact (hshape e he).valid (Nat.le_refl _)
        (Decidable.byContradiction fun hes => hused e he (hothers e.1 h18 hes))
    obtain ⟨hskip, body, hw, hs4, hs1, hrd⟩ := header_roundtrip ((List.replicate 18 0).set s0 1)
      hcl18 h5 1 (Or.inr ⟨by decide, by rw [hk16]; decide⟩) w
      ((E.map (entryBitsU fun _ => [])).flatten ++ rest)
    rw [hw]
    simp only [Out.bind_ok, ↓reduceIte]
    rw [setAt_of_lt _ s0 0 (by simp; omega), List.set_set, List.set_replicate_self]
    simp only [Out.bind_ok]
    obtain ⟨hst, hgo⟩ := store_entries_roundtripA hio d A hd h64 hk hA hz (rleSwitches d).1
      (rleSwitches d).2 hvalid (w ++ (bitsOf 2 hskip ++ body)) rest
    rw [← hE] at hst hgo
    refine ⟨bitsOf 2 hskip ++ body ++ (E.map (entryBitsU fun _ => [])).flatten, ?_, ?_⟩
    · rw [hst]; simp only [List.append_assoc]
    · simp only [List.append_assoc]
      exact readPrefixCode_complex A hskip _ (d.take A) body _ hs4 hs1 hrd rest hgo

theorem store_tree_roundtrip (d : List Nat) (tree : List Node) (h704 : d.length ≤ 704)
    (hd : ∀ x ∈ d, x ≤ 15) (hk : kraftSum 15 d = 32768) (htl : 37 ≤ tree.length) :
    ∃ w, storeHuffmanTree d d.length tree [] = .ok w ∧
      readPrefixCode d.length w = some (d, []) := by
  obtain ⟨bits, h1, h2⟩ := store_tree_roundtrip_ctx0 d d.length tree [] [] h704 hd hk htl
    (Nat.le_refl _) (fun i h1 h2 => by omega)
  refine ⟨bits, by simpa using h1, ?_⟩
  simpa using h2

theorem storeHuffmanTree_take (depths : List Nat) (num : Nat) (tree : List Node) (w : Writer)
    (h : num ≤ depths.length) :
    storeHuffmanTree depths num tree w = storeHuffmanTree (depths.take num) num tree w := by
  have hl : (depths.take num).length = num := by rw [List.length_take]; omega
  unfold storeHuffmanTree writeHuffmanTree
  have h1 : ¬ num > depths.length := by omega
  have h2 : ¬ num > (depths.take num).length := by omega
  simp only [h1, h2, ↓reduceIte, List.take_take, Nat.min_self]

/-- `A ≤ num` with `depths[A..num]` zero: e.g. the distance code, 140 histogram entries stored, 64 symbols read -/
theorem store_tree_roundtrip_ctx (depths : List Nat) (num A : Nat) (tree : List Node)
    (w rest : List Bool) (hnum : num ≤ depths.length) (h704 : num ≤ 704)
    (hd : ∀ x ∈ depths.take num, x ≤ 15) (hk : kraftSum 15 (depths.take num) = 32768)
    (htl : 37 ≤ tree.length) (hA : A ≤ num)
    (hz : ∀ i, A ≤ i → i < num → depths.getD i 0 = 0) :
    ∃ bits, storeHuffmanTree depths num tree w = .ok (w ++ bits) ∧
      readPrefixCode A (bits ++ rest) = some (depths.take A, rest) := by
  have hl : (depths.take num).length = num := by rw [List.length_take]; omega
  obtain ⟨bits, h1, h2⟩ := store_tree_roundtrip_ctx0 (depths.take num) A tree w rest (by omega) hd hk
    htl (by omega) (by
      intro i hi1 hi2
      rw [hl] at hi2
      have := hz i hi1 hi2
      rw [List.getD_eq_getElem?_getD, List.getElem?_take, if_pos hi2, ← List.getD_eq_getElem?_getD]
      exact this)
  rw [hl] at h1
  refine ⟨bits, by rw [storeHuffmanTree_take depths num tree w hnum]; exact h1, ?_⟩
  rw [h2, List.take_take, Nat.min_eq_left hA]

end BV.Lemmas.HuffmanStoreTree
