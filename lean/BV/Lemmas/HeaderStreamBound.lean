/-
Two things.  The stored (uncompressed) meta-block and the empty last one bit for bit (`namespace BV.MetaBlock`:
`storedHeader_ok` … `stored_true_ok`, over `encodeMlen_spec`), which the meta-block and fragment writers' round trips
rest on as well.  And C08, the never-flushed stream: the exact length of the payload-independent head of a stream
(`BV.Header.streamStart`) and the arithmetic that bounds the total by `BrotliEncoderMaxCompressedSize` under two
hypotheses about the payload encoder (`Guard`, `BlocksOK`).
-/
import BV.Lemmas.HeaderStored
import BV.Lemmas.HeaderStart

namespace BV.Stored
open BV.Bits BV.Header BV.Bits.Out BV.HeaderSpec

theorem log2_range (n k : Nat) (hn : n ≠ 0) : (Nat.log2 n + 1 ≤ k ↔ n < 2 ^ k) := by
  rw [← Nat.log2_lt hn]; omega

/-- `BrotliEncodeMlen` as `BV.Header.encodeMlen` models it (with the source's assertions; `storeUncompressedMetaBlockHeader`
calls it).  `BV.PrefixArith.encodeMlen` models the function a second time, for the meta-block and fragment writers:
`mlen_exact` (C18) is about that one, and `encodeMlen_nibs` (FragmentRaw) gives it this same closed form -/
theorem encodeMlen_spec (len : Nat) (h1 : 1 ≤ len) (h2 : len ≤ 2 ^ 24) :
    encodeMlen (len % 2 ^ 32) = ok (len - 1, 4 * nibsOf len, nibsOf len - 4) := by
  have hm : len % 2 ^ 32 = len := Nat.mod_eq_of_lt (by omega)
  rw [hm]
  by_cases hone : len = 1
  · subst hone; decide
  · have hne : len - 1 ≠ 0 := by omega
    have hw : (len + 2 ^ 32 - 1) % 2 ^ 32 = len - 1 := by omega
    have k16 := log2_range (len - 1) 16 hne
    have k20 := log2_range (len - 1) 20 hne
    have k24 := log2_range (len - 1) 24 hne
    simp only [encodeMlen, hone, if_false, hw, log2Floor]
    generalize Nat.log2 (len - 1) + 1 = lg at *
    have hlg24 : lg ≤ 24 := k24.mpr (by omega)
    have g1 : ¬ ¬ len > 0 := by omega
    have g2 : ¬ ¬ len ≤ 2 ^ 24 := by omega
    have g3 : ¬ ¬ lg ≤ 24 := by omega
    simp only [g1, g2, g3, if_false]
    have hmn : (if lg < 16 then 16 else lg + 3) / 4 = nibsOf len := by
      simp only [nibsOf]
      by_cases c16 : len ≤ 2 ^ 16
      · have : lg ≤ 16 := k16.mpr (by omega)
        simp only [c16, if_true]
        split <;> omega
      · have a : ¬ lg ≤ 16 := fun h => by have := k16.mp h; omega
        have : ¬ lg < 16 := by omega
        simp only [c16, this, if_false]
        by_cases c20 : len ≤ 2 ^ 20
        · have b : lg ≤ 20 := k20.mpr (by omega)
          simp only [c20, if_true]; omega
        · have a : ¬ lg ≤ 20 := fun h => by have := k20.mp h; omega
          simp only [c20, if_false]; omega
    rw [hmn, Nat.mul_comm]

end BV.Stored

namespace BV.MetaBlock
open BV.Bits BV.HeaderSpec
open BV.Header (storeUncompressedMetaBlock storeUncompressedMetaBlockHeader writeEmptyLastMetaBlock appendBytes lit litsUnc)
open BV.Stored (nibsOf nibsOf_range encodeMlen_spec mlen_fits)

/-- header of a stored meta-block: ISLAST = 0, MNIBBLES, MLEN − 1, ISUNCOMPRESSED = 1 -/
def storedHeaderBits (len : Nat) : List Bool :=
  false :: (bitsOf 2 (nibsOf len - 4) ++ (bitsOf (4 * (4 + (nibsOf len - 4))) (len - 1) ++ [true]))

def padTo8 (n : Nat) : List Bool := List.replicate ((8 - n % 8) % 8) false

theorem jump_hdr (w : Writer) : BV.Header.jumpToByteBoundary w = w ++ padTo8 w.length := by
  rw [BV.Header.jump_eq]; rfl

theorem storedHeader_ok (len : Nat) (w : Writer) (h1 : 1 ≤ len) (h2 : len ≤ 2 ^ 24) :
    storeUncompressedMetaBlockHeader len w = .ok (w ++ storedHeaderBits len) := by
  obtain ⟨n4, n6⟩ := nibsOf_range len
  have hx := (mlen_fits len h1 h2).1
  simp only [storeUncompressedMetaBlockHeader, lit, litsUnc,
    BV.Gen.lits_StoreUncompressedMetaBlockHeader, List.getD_cons_zero, List.getD_cons_succ,
    encodeMlen_spec len h1 h2]
  have hm : 4 * nibsOf len % 256 = 4 * nibsOf len := by omega
  rw [writeBits_bind 1 0 _ _ (by decide) (by decide)]
  simp only [Out.bind_ok]
  rw [writeBits_bind 2 (nibsOf len - 4) _ _ (by omega) (by decide), hm,
    writeBits_bind (4 * nibsOf len) (len - 1) _ _ hx (by omega), writeBits_ok 1 1 _ (by decide) (by decide)]
  have e : 4 + (nibsOf len - 4) = nibsOf len := by omega
  simp [storedHeaderBits, bitsOf, e, List.append_assoc]

def storedBits (data : List Nat) (pos : Nat) : List Bool :=
  storedHeaderBits data.length ++ (padTo8 (pos + (storedHeaderBits data.length).length) ++ data.flatMap (bitsOf 8))

theorem storedHeaderBits_length (len : Nat) : (storedHeaderBits len).length = 1 + 2 + 4 * (4 + (nibsOf len - 4)) + 1 := by
  simp [storedHeaderBits, bitsOf_length]; omega

theorem stored_false_ok (data : List Nat) (w : Writer) (h1 : 1 ≤ data.length) (h2 : data.length ≤ 2 ^ 24) :
    storeUncompressedMetaBlock false data w = .ok (w ++ storedBits data w.length) := by
  simp only [storeUncompressedMetaBlock, storedHeader_ok data.length w h1 h2, Out.bind_ok, Bool.false_eq_true,
    if_false, jump_hdr, appendBytes, storedBits, List.length_append, List.append_assoc]

def emptyLastBits (pos : Nat) : List Bool := [true, true] ++ padTo8 (pos + 2)

theorem writeEmptyLast_ok (w : Writer) : writeEmptyLastMetaBlock w = .ok (w ++ emptyLastBits w.length) := by
  simp only [writeEmptyLastMetaBlock, lit, BV.Gen.lits_WriteEmptyLastMetaBlock, List.getD_cons_zero,
    List.getD_cons_succ]
  rw [writeBits_bind 1 1 _ _ (by decide) (by decide), writeBits_bind 1 1 _ _ (by decide) (by decide)]
  simp [jump_hdr, emptyLastBits, bitsOf, List.append_assoc]

theorem stored_true_ok (data : List Nat) (w : Writer) (h1 : 1 ≤ data.length) (h2 : data.length ≤ 2 ^ 24) :
    storeUncompressedMetaBlock true data w
      = .ok (w ++ (storedBits data w.length ++ emptyLastBits (w.length + (storedBits data w.length).length))) := by
  have hf := stored_false_ok data w h1 h2
  simp only [storeUncompressedMetaBlock, Bool.false_eq_true, if_false] at hf
  simp only [storeUncompressedMetaBlock, if_true, lit, BV.Gen.lits_store_uncompressed_meta_block,
    List.getD_cons_zero, List.getD_cons_succ]
  cases hh : storeUncompressedMetaBlockHeader data.length w with
  | panic => rw [hh] at hf; simp at hf
  | fuel => rw [hh] at hf; simp at hf
  | ok w1 =>
    rw [hh] at hf
    simp only [Out.bind_ok] at hf ⊢
    injection hf with hf
    rw [hf, writeBits_bind 1 1 _ _ (by decide) (by decide), writeBits_bind 1 1 _ _ (by decide) (by decide)]
    simp [jump_hdr, emptyLastBits, bitsOf, List.append_assoc, Nat.add_assoc]

end BV.MetaBlock

namespace BV.Stored
open BV.Bits BV.Header BV.Bits.Out BV.HeaderSpec BV.MetaBlock

theorem storeUncompressed_false (data : List Nat) (w : Writer) (h1 : 1 ≤ data.length) (h2 : data.length ≤ 2 ^ 24) :
    ∃ b, storeUncompressedMetaBlock false data w = ok b ∧
      b.length = (w.length + (4 + 4 * nibsOf data.length) + 7) / 8 * 8 + 8 * data.length := by
  have := nibsOf_range data.length
  refine ⟨_, stored_false_ok data w h1 h2, ?_⟩
  simp only [storedBits, padTo8, List.length_append, storedHeaderBits_length, List.length_replicate, flatMap_bitsOf_length]
  omega

theorem writeEmptyLast_length (w : Writer) :
    ∃ f, writeEmptyLastMetaBlock w = ok f ∧ f.length = (w.length + 2 + 7) / 8 * 8 :=
  ⟨_, writeEmptyLast_ok w, by simp [emptyLastBits, padTo8]; omega⟩

end BV.Stored

namespace BV.Header
open BV.Bits BV.HeaderSpec BV.Bits.Out BV.Stored

/-- bit length of the payload-independent head: window bits, then (magic) the 14 bits of the
metadata header (`magicHeaderBits`) padded to a byte plus `4 + k` payload bytes, then (prelude) the
20 header bits of an uncompressed meta-block padded to a byte plus the bytes -/
def headLen (W : Nat) (magic : Bool) (k pre : Nat) : Nat :=
  let l1 := if magic then (W + 14 + 7) / 8 * 8 + 8 * (4 + k) else W
  if pre ≠ 0 then (l1 + 20 + 7) / 8 * 8 + 8 * pre else l1

theorem headLen_true (W k pre : Nat) :
    headLen W true k pre = 8 * ((W + 21) / 8 + 4 + k) + (if pre = 0 then 0 else 24 + 8 * pre) := by
  unfold headLen
  simp only [if_true, ne_eq, ite_not]
  split <;> omega

theorem headLen_false (W k pre : Nat) :
    headLen W false k pre = if pre = 0 then W else (W + 27) / 8 * 8 + 8 * pre := by
  unfold headLen
  simp only [Bool.false_eq_true, if_false, ne_eq, ite_not]

/-- 64: with at most 14 window bits the magic block ends within `8 * ((14 + 21) / 8 + 4)` = 64 bits of the start, `k` aside -/
theorem headLen_le (W k pre : Nat) (magic : Bool) (hW : W ≤ 14) :
    headLen W magic k pre ≤ 64 + 8 * k + (if pre = 0 then 0 else 24 + 8 * pre) := by
  cases magic
  · rw [headLen_false]; split <;> omega
  · rw [headLen_true]; omega

/-- a head that is the whole stream (`pre` = input length), closed by the empty last meta-block, fits the
closed form of `BrotliEncoderMaxCompressedSize` (`max_closed`).  104 is `headLen_le`'s 64 with `k` ≤ 5 hint bytes -/
theorem whole_fits (H pre : Nat) (hH : H ≤ 104 + (if pre = 0 then 0 else 24 + 8 * pre)) (hpre : pre ≤ 2) :
    (H + 2 + 7) / 8 * 8 / 8 ≤
      if pre = 0 then 17 else if pre < 2 ^ 14 then pre + 22 else pre + 4 * (pre / 2 ^ 14) + 23 := by
  have h3 : pre = 0 ∨ pre = 1 ∨ pre = 2 := by omega
  rcases h3 with rfl | rfl | rfl
  · have : H ≤ 104 := hH
    show _ ≤ 17; omega
  · have : H ≤ 136 := hH
    show _ ≤ 23; omega
  · have : H ≤ 144 := hH
    show _ ≤ 24; omega

theorem partial_fits (H pre n Pm : Nat) (hH : H ≤ 104 + (if pre = 0 then 0 else 24 + 8 * pre)) (hpre : pre ≤ 2)
    (hn : pre < n) (hb : Pm / 8 ≤ H / 8 + (n - pre) + 4 * (n / 2 ^ 14) + 4) :
    (Pm + 2 + 7) / 8 ≤ if n = 0 then 17 else if n < 2 ^ 14 then n + 22 else n + 4 * (n / 2 ^ 14) + 23 := by
  rw [if_neg (by omega)]
  by_cases h14 : n < 2 ^ 14
  · rw [if_pos h14]
    rw [Nat.div_eq_of_lt h14] at hb
    split at hH <;> omega
  · rw [if_neg h14]
    generalize n / 2 ^ 14 = q at hb ⊢
    split at hH <;> omega

theorem encodeDataHead_length (p : Params) (input : List Nat) (w : Writer) (r : Writer × Nat)
    (hh : p.sizeHint < 2 ^ 64) (h : encodeDataHead p input w = ok r) :
    r.2 = (if p.catable then min 2 input.length else 0) ∧
    r.1.length = headLen w.length p.magicNumber (encodeBase128 p.sizeHint).length r.2 := by
  unfold encodeDataHead at h
  obtain ⟨a, h1, h⟩ := (bind_eq_ok _ _ _).mp h
  simp only [] at h
  obtain ⟨b, h2, h⟩ := (bind_eq_ok _ _ _).mp h
  cases h
  refine ⟨rfl, ?_⟩
  have ha : a.length = if p.magicNumber then (w.length + 14 + 7) / 8 * 8 + 8 * (4 + (encodeBase128 p.sizeHint).length)
      else w.length := by
    cases hm : p.magicNumber
    · simp [hm] at h1 ⊢; cases h1; rfl
    · simp only [hm, if_true] at h1 ⊢
      rw [writeMeta_eq p w hh] at h1
      cases h1
      rw [List.length_append, flatMap_bitsOf_length, magicPayload_length, jump_length]
      simp [magicHeaderBits]
  simp only [headLen]
  generalize hk : (if p.catable = true then min 2 input.length else 0) = k at h2 ⊢
  have hk2 : k ≤ 2 ∧ k ≤ input.length := by
    rw [← hk]; split <;> omega
  by_cases hk0 : k = 0
  · simp [hk0] at h2 ⊢
    cases h2
    rw [ha]
  · simp only [hk0, ne_eq, not_false_eq_true, if_true] at h2 ⊢
    have hl : (input.take k).length = k := by simp; omega
    obtain ⟨b', hb', hbl⟩ := storeUncompressed_false (input.take k) a (by omega) (by omega)
    rw [hb'] at h2
    cases h2
    have hn : nibsOf k = 4 := if_pos (by omega)
    rw [hbl, hl, hn, ha]

theorem closeIfDone_length {w : Writer} {left k : Nat} {magic : Bool} {st : Start}
    (h : closeIfDone w left magic k = ok st) :
    st.prelude = k ∧ (st.whole = true ↔ left = 0) ∧
    st.bits.length = if left = 0 then (w.length + 2 + 7) / 8 * 8 else w.length := by
  unfold closeIfDone at h
  by_cases hl : left = 0
  · simp only [hl, if_true] at h ⊢
    obtain ⟨a, h1, h⟩ := (bind_eq_ok _ _ _).mp h; cases h
    obtain ⟨f, hf, hfl⟩ := writeEmptyLast_length w
    rw [hf] at h1
    cases h1
    exact ⟨rfl, by simp, hfl⟩
  · simp only [hl, if_false] at h ⊢
    cases h
    exact ⟨rfl, by simp, rfl⟩

theorem lastBytesBits_le (p : Params) : (ensureInitialized true p).lastBytesBits ≤ 14 ∧
    1 ≤ (ensureInitialized true p).lastBytesBits := by
  obtain ⟨h1, h2, h3⟩ := clampWindow_range p.quality p.lgwin p.largeWindow
  have hb : (ensureInitialized true p).lastBytesBits
      = (encodeWindowBits (clampWindow p.quality p.lgwin p.largeWindow) p.largeWindow).2 := by
    have := header_lgwin p
    have hl := init_params_large p
    simp only [ensureInitialized] at *
    rw [this, hl]
  obtain ⟨w, hw⟩ : ∃ w : Nat, clampWindow p.quality p.lgwin p.largeWindow = (w : Int) :=
    ⟨(clampWindow p.quality p.lgwin p.largeWindow).toNat, by omega⟩
  rw [hb, hw, wbits_count w (by omega) (by omega)]
  split <;> try split <;> try split
  all_goals omega

/-- per-meta-block guard of `WriteMetaBlockInternal` ("stored when bigger than
input + 4"): a meta-block of `len` input bytes that starts at bit `P` ends at a
bit `P'` whose whole-byte position is at most `len + 4` further (`+ 5` for
`len > 2^20`, where the uncompressed header has 6 length nibbles) -/
def Guard (P len P' : Nat) : Prop := P' / 8 ≤ P / 8 + len + 4 + (if len > 2 ^ 20 then 1 else 0)

instance (P len P' : Nat) : Decidable (Guard P len P') := by unfold Guard; infer_instance

inductive Run : Nat → List Nat → Nat → Prop
  | nil (P : Nat) : Run P [] P
  | cons {P len P' P'' : Nat} {lens : List Nat} : Guard P len P' → Run P' lens P'' → Run P (len :: lens) P''

/-- without a flush a meta-block is only emitted when a whole input block
(`2^lgblock ≥ 2^14` bytes, the first one shortened by the `extra` prelude bytes)
has been consumed: every meta-block but the last covers at least 2^14 bytes -/
def BlocksOK : Nat → List Nat → Prop
  | _, [] => True
  | _, [_] => True
  | extra, len :: l2 :: rest => 2 ^ 14 ≤ len + extra ∧ BlocksOK 0 (l2 :: rest)

theorem run_bound {P P' : Nat} {lens : List Nat} (h : Run P lens P') :
    ∀ e, BlocksOK e lens →
      P' / 8 + (if lens = [] then 4 else 0) ≤ P / 8 + lens.sum + 4 * ((lens.sum + e) / 2 ^ 14) + 4 := by
  induction h with
  | nil P => intro e _; simp
  | @cons P len P' P'' lens hg hr ih =>
    intro e hb
    simp only [Guard] at hg
    cases lens with
    | nil =>
      cases hr
      simp only [List.sum_cons, List.sum_nil, Nat.add_zero, reduceCtorEq, if_false]
      split at hg <;> omega
    | cons l2 rest =>
      obtain ⟨hb1, hb2⟩ := hb
      have := ih 0 hb2
      simp only [reduceCtorEq, if_false, List.sum_cons, Nat.add_zero] at this ⊢
      split at hg <;> omega

theorem streamStart_length (p : Params) (input : List Nat) (st : Start)
    (hq : 2 ≤ p.quality) (hh : p.sizeHint < 2 ^ 64) (hs : streamStart true p input = ok st) :
    st.prelude = (if p.catable then min 2 input.length else 0) ∧
    (st.whole = true ↔ input.length = st.prelude) ∧
    st.bits.length =
      (if input.length = st.prelude then
        (headLen (ensureInitialized true p).lastBytesBits p.magicNumber
          (encodeBase128 (effectiveParams p input.length).sizeHint).length st.prelude + 2 + 7) / 8 * 8
       else headLen (ensureInitialized true p).lastBytesBits p.magicNumber
          (encodeBase128 (effectiveParams p input.length).sizeHint).length st.prelude) := by
  have hqs : (ensureInitialized true p).params.quality = min 11 (max 0 p.quality) := by
    rw [init_params_quality, sanitize_quality]
  have e2 : (effectiveParams p input.length).catable = p.catable := rfl
  have e5 : (effectiveParams p input.length).magicNumber = p.magicNumber := rfl
  have hhint := effective_sizeHint_lt p input.length hh
  unfold streamStart at hs
  simp only [] at hs
  split at hs
  · rename_i hc
    rw [hqs] at hc
    omega
  · obtain ⟨r, h1, hs⟩ := (bind_eq_ok _ _ _).mp hs
    obtain ⟨l1, l2⟩ := encodeDataHead_length (effectiveParams p input.length) input _ r hhint h1
    obtain ⟨c1, c2, c3⟩ := closeIfDone_length hs
    rw [e2] at l1
    rw [e5] at l2
    have hr2 : r.2 ≤ input.length := by rw [l1]; split <;> omega
    have hlen : (pendingWriter (ensureInitialized true p)).length = (ensureInitialized true p).lastBytesBits := by
      simp [pendingWriter]
    rw [hlen] at l2
    refine ⟨c1.trans l1, ?_, ?_⟩
    · rw [c2, c1]; omega
    · rw [c3, c1, l2]
      have : (input.length - r.2 = 0) ↔ (input.length = r.2) := by omega
      simp only [this]

/-- 2^35: a size hint of at most five base-128 bytes -/
theorem effective_hint_lt35 (p : Params) (n : Nat) (hh : p.sizeHint < 2 ^ 35) :
    (effectiveParams p n).sizeHint < 2 ^ 35 :=
  effective_sizeHint_lt_of _ (by decide) p n hh

theorem stream_total_bound (p : Params) (input : List Nat) (st : Start)
    (hq : 2 ≤ p.quality) (hh : p.sizeHint < 2 ^ 35) (hn : input.length < 2 ^ 54)
    (hs : streamStart true p input = ok st) :
    (st.whole = true → st.bits.length / 8 ≤ maxCompressedSize input.length) ∧
    (st.whole = false → ∀ lens Pm, Run st.bits.length lens Pm → BlocksOK st.prelude lens →
        lens.sum + st.prelude = input.length → (Pm + 2 + 7) / 8 ≤ maxCompressedSize input.length) := by
  obtain ⟨s1, s2, s3⟩ := streamStart_length p input st hq (by omega) hs
  obtain ⟨w1, w2⟩ := lastBytesBits_le p
  have hk : (encodeBase128 (effectiveParams p input.length).sizeHint).length ≤ 5 :=
    encodeBase128_length_le _ 5 (by decide) (by decide)
      (by have := effective_hint_lt35 p input.length hh; omega)
      (by have := effective_hint_lt35 p input.length hh; omega)
  have hk1 := (encodeBase128_spec (effectiveParams p input.length).sizeHint
      (by have := effective_hint_lt35 p input.length hh; omega) []).2.1
  have hmax := max_closed input.length hn
  generalize (encodeBase128 (effectiveParams p input.length).sizeHint).length = k at *
  generalize (ensureInitialized true p).lastBytesBits = W at *
  have hpre : st.prelude ≤ 2 ∧ st.prelude ≤ input.length := by rw [s1]; split <;> omega
  generalize st.prelude = pre at *
  generalize input.length = n at *
  have hH : headLen W p.magicNumber k pre ≤ 104 + (if pre = 0 then 0 else 24 + 8 * pre) :=
    Nat.le_trans (headLen_le W k pre p.magicNumber w1) (by omega)
  generalize headLen W p.magicNumber k pre = H at s3 hH
  rw [hmax]
  constructor
  · intro hw
    have hnp : n = pre := s2.mp hw
    rw [s3, if_pos hnp, hnp]
    exact whole_fits H pre hH hpre.1
  · intro hw lens Pm hrun hblocks hsum
    have hnp : ¬ n = pre := fun h => Bool.false_ne_true (hw ▸ s2.mpr h)
    rw [if_neg hnp] at s3
    have hb := run_bound hrun pre hblocks
    have hne : lens ≠ [] := by
      intro h; subst h; simp at hsum; omega
    rw [if_neg hne, s3, hsum] at hb
    exact partial_fits H pre n Pm hH hpre.1 (by omega) (by omega)

end BV.Header
