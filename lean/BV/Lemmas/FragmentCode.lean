import BV.Lemmas.HuffmanCanon
import BV.Model.Fragment
/-
Tools for `BuildAndStoreCommandPrefixCode` (two-pass).  `canon_embed`: the RFC canonical code of a symbol depends only
on the non-zero lengths and their order.  `q1Perm_map`, `q1Bits_map`, `q1Scatter_map`: the `memcpy` / scatter steps only
MOVE entries, so what they do to any depth array is what they do to the labels 0..127 (`perm_labels`, `scatter_labels`,
`bits_labels`, evaluated), mapped through the array.
-/
namespace BV.Fragment
open BV.Bits BV.Huffman
open BV.Lemmas.HuffmanCanon (canonicalCodes_getD countLen_append)

def nz (l : List Nat) : List Nat := l.filter (· ≠ 0)

theorem countLen_nz (l : List Nat) (k : Nat) (hk : k ≠ 0) : countLen l k = countLen (nz l) k := by
  unfold countLen nz
  rw [List.filter_filter]
  congr 1
  apply List.filter_congr
  intro x _
  by_cases h : x = k
  · subst h; simp [hk]
  · simp [h]

theorem firstCode_nz (a b : List Nat) (h : nz a = nz b) : ∀ l, firstCode a l = firstCode b l := by
  intro l
  induction l with
  | zero => rfl
  | succ l ih =>
    unfold firstCode
    rw [ih]
    by_cases h0 : l = 0
    · simp [h0]
    · simp only [h0, if_false]
      rw [countLen_nz a l h0, countLen_nz b l h0, h]

theorem canon_embed (a b : List Nat) (i j : Nat) (hi : i < a.length) (hj : j < b.length)
    (hall : nz a = nz b) (hpre : nz (a.take i) = nz (b.take j)) (hv : a.getD i 0 = b.getD j 0) :
    (canonicalCodes a).getD i 0 = (canonicalCodes b).getD j 0 := by
  rw [canonicalCodes_getD a i hi, canonicalCodes_getD b j hj, hv]
  by_cases h0 : b.getD j 0 = 0
  · rw [if_pos h0, if_pos h0]
  · rw [if_neg h0, if_neg h0, firstCode_nz a b hall, countLen_nz _ _ h0, countLen_nz (b.take j) _ h0, hpre]

theorem kraftSum_nz (L : Nat) (l : List Nat) : kraftSum L l = kraftSum L (nz l) := by
  unfold kraftSum nz
  induction l with
  | nil => rfl
  | cons x xs ih =>
    by_cases h : x = 0
    · subst h
      simp [ih]
    · simp [h, ih]

theorem nz_length_eq (l : List Nat) : (nz l).length = (l.filter (· ≠ 0)).length := rfl

theorem nz_map_filter (f : Nat → Nat) (p : Nat → Bool) : ∀ (l : List Nat), (∀ k ∈ l, p k = false → f k = 0) →
    nz (l.map f) = nz ((l.filter p).map f)
  | [], _ => rfl
  | k :: ks, h => by
    have ih := nz_map_filter f p ks (fun x hx => h x (List.mem_cons_of_mem _ hx))
    by_cases hp : p k = true
    · simp only [List.map_cons, List.filter_cons, hp, if_true]
      unfold nz at ih ⊢
      simp only [List.filter_cons, ih]
    · have hp' : p k = false := by simpa using hp
      have hz := h k (by simp) hp'
      simp only [List.map_cons, List.filter_cons, hp', Bool.false_eq_true, if_false]
      unfold nz at ih ⊢
      simp only [List.filter_cons, hz, ne_eq, not_true_eq_false, decide_false, Bool.false_eq_true, if_false, ih]

theorem memcpyL_map (f : Nat → Nat) (dst : List Nat) (dOff : Nat) (src : List Nat) (sOff n : Nat) (r : List Nat)
    (h : memcpyL dst dOff src sOff n = .ok r) :
    memcpyL (dst.map f) dOff (src.map f) sOff n = .ok (r.map f) := by
  unfold memcpyL at h ⊢
  simp only [List.length_map]
  split at h
  · cases h
  · rename_i hc
    rw [if_neg hc]
    injection h with h
    subst h
    simp [List.map_append, List.map_take, List.map_drop]

theorem setAt_map (f : Nat → Nat) (l : List Nat) (i v : Nat) (r : List Nat) (h : setAt l i v = .ok r) :
    setAt (l.map f) i (f v) = .ok (r.map f) := by
  obtain ⟨hi, rfl⟩ := setAt_eq_ok h
  rw [setAt_of_lt _ _ _ (by simpa using hi), List.map_set]

theorem scatter8_map (f : Nat → Nat) (base : Nat) (src : List Nat) (off : Nat) :
    ∀ (k : Nat) (dst r : List Nat), scatter8 dst base src off k = .ok r →
      scatter8 (dst.map f) base (src.map f) off k = .ok (r.map f)
  | 0, dst, r, h => by
    simp only [scatter8] at h ⊢
    injection h with h; subst h; rfl
  | k + 1, dst, r, h => by
    simp only [scatter8] at h ⊢
    obtain ⟨d1, h1, h⟩ := (Out.bind_eq_ok _ _ _).mp h
    obtain ⟨v, h2, h3⟩ := (Out.bind_eq_ok _ _ _).mp h
    rw [scatter8_map f base src off k dst d1 h1, Out.bind_ok, getAt_map f h2, Out.bind_ok]
    exact setAt_map f d1 _ v r h3

theorem q1Perm_map (f : Nat → Nat) (depth cd r : List Nat) (h : q1Perm depth cd = .ok r) :
    q1Perm (depth.map f) (cd.map f) = .ok (r.map f) := by
  unfold q1Perm at h ⊢
  obtain ⟨c1, h1, h⟩ := (Out.bind_eq_ok _ _ _).mp h
  obtain ⟨c2, h2, h⟩ := (Out.bind_eq_ok _ _ _).mp h
  obtain ⟨c3, h3, h⟩ := (Out.bind_eq_ok _ _ _).mp h
  obtain ⟨c4, h4, h⟩ := (Out.bind_eq_ok _ _ _).mp h
  obtain ⟨c5, h5, h⟩ := (Out.bind_eq_ok _ _ _).mp h
  rw [memcpyL_map f _ _ _ _ _ _ h1, Out.bind_ok, memcpyL_map f _ _ _ _ _ _ h2, Out.bind_ok,
    memcpyL_map f _ _ _ _ _ _ h3, Out.bind_ok, memcpyL_map f _ _ _ _ _ _ h4, Out.bind_ok,
    memcpyL_map f _ _ _ _ _ _ h5, Out.bind_ok, memcpyL_map f _ _ _ _ _ _ h]

theorem q1Bits_map (f : Nat → Nat) (bits cb r : List Nat) (h : q1Bits bits cb = .ok r) :
    q1Bits (bits.map f) (cb.map f) = .ok (r.map f) := by
  unfold q1Bits at h ⊢
  obtain ⟨c1, h1, h⟩ := (Out.bind_eq_ok _ _ _).mp h
  obtain ⟨c2, h2, h⟩ := (Out.bind_eq_ok _ _ _).mp h
  obtain ⟨c3, h3, h⟩ := (Out.bind_eq_ok _ _ _).mp h
  obtain ⟨c4, h4, h⟩ := (Out.bind_eq_ok _ _ _).mp h
  obtain ⟨c5, h5, h⟩ := (Out.bind_eq_ok _ _ _).mp h
  rw [memcpyL_map f _ _ _ _ _ _ h1, Out.bind_ok, memcpyL_map f _ _ _ _ _ _ h2, Out.bind_ok,
    memcpyL_map f _ _ _ _ _ _ h3, Out.bind_ok, memcpyL_map f _ _ _ _ _ _ h4, Out.bind_ok,
    memcpyL_map f _ _ _ _ _ _ h5, Out.bind_ok, memcpyL_map f _ _ _ _ _ _ h]

theorem q1Scatter_map (f : Nat → Nat) (depth cd z64 r : List Nat) (h : q1Scatter depth cd z64 = .ok r) :
    q1Scatter (depth.map f) (cd.map f) (z64.map f) = .ok (r.map f) := by
  unfold q1Scatter at h ⊢
  simp only [] at h ⊢
  obtain ⟨c1, h1, h⟩ := (Out.bind_eq_ok _ _ _).mp h
  obtain ⟨c2, h2, h⟩ := (Out.bind_eq_ok _ _ _).mp h
  obtain ⟨c3, h3, h⟩ := (Out.bind_eq_ok _ _ _).mp h
  obtain ⟨c4, h4, h⟩ := (Out.bind_eq_ok _ _ _).mp h
  obtain ⟨c5, h5, h⟩ := (Out.bind_eq_ok _ _ _).mp h
  obtain ⟨c6, h6, h⟩ := (Out.bind_eq_ok _ _ _).mp h
  obtain ⟨c7, h7, h⟩ := (Out.bind_eq_ok _ _ _).mp h
  have e : z64.map f ++ (cd.map f).drop 64 = (z64 ++ cd.drop 64).map f := by
    rw [List.map_append, List.map_drop]
  rw [e, memcpyL_map f _ _ _ _ _ _ h1, Out.bind_ok, memcpyL_map f _ _ _ _ _ _ h2, Out.bind_ok,
    memcpyL_map f _ _ _ _ _ _ h3, Out.bind_ok, memcpyL_map f _ _ _ _ _ _ h4, Out.bind_ok,
    memcpyL_map f _ _ _ _ _ _ h5, Out.bind_ok, scatter8_map f _ _ _ _ _ _ h6, Out.bind_ok,
    scatter8_map f _ _ _ _ _ _ h7, Out.bind_ok, scatter8_map f _ _ _ _ _ _ h]

/-- `cmd_depth[0..64]` for the bit patterns: which command code sits at each position -/
def idxP : List Nat :=
  List.range' 24 24 ++ List.range' 0 8 ++ List.range' 48 8 ++ List.range' 8 8 ++ List.range' 56 8 ++ List.range' 16 8

/-- which command code the stored 704-entry vector holds at symbol `s` (128 = none) -/
def invSym (s : Nat) : Nat :=
  if s < 8 then 24 + s
  else if 64 ≤ s ∧ s < 72 then 32 + (s - 64)
  else if s = 128 then 0
  else if 128 < s ∧ s < 136 then 40 + (s - 128)
  else if 136 ≤ s ∧ s < 192 ∧ s % 8 = 0 then (s - 128) / 8
  else if 192 ≤ s ∧ s < 200 then 48 + (s - 192)
  else if 256 ≤ s ∧ s < 320 ∧ s % 8 = 0 then 8 + (s - 256) / 8
  else if 384 ≤ s ∧ s < 392 then 56 + (s - 384)
  else if 448 ≤ s ∧ s < 512 ∧ s % 8 = 0 then 16 + (s - 448) / 8
  else 128

/-- `bits[0..64]`: which position of the permuted bit patterns each command code reads -/
def idxB : List Nat :=
  List.range' 24 8 ++ List.range' 40 8 ++ List.range' 56 8 ++ List.range' 0 24 ++ List.range' 32 8 ++ List.range' 48 8

theorem perm_labels : q1Perm (List.range 128) (List.replicate 704 128) = .ok (idxP ++ List.replicate 640 128) := by
  decide +kernel

theorem scatter_labels : q1Scatter (List.range 128) (idxP ++ List.replicate 640 128) (List.replicate 64 128)
    = .ok ((List.range 704).map invSym) := by decide +kernel

theorem bits_labels : q1Bits (List.replicate 128 64) (List.range 64)
    = .ok (idxB ++ (List.range' 40 8 ++ List.replicate 56 64)) := by decide +kernel

end BV.Fragment
