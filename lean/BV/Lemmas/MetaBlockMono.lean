import BV.Model.Huffman
/-
C01 / meta-block writers: the RFC 7932 §3.4/§3.5 prefix-code reader only looks at the bits it
consumes: a description that `readPrefixCode` accepts is accepted with the same result whatever follows it.
(Used for the two static code descriptions of the fast writer, which are evaluated in isolation.)
-/

namespace BV.MetaBlock
open BV.Gen BV.Bits BV.Huffman

theorem takeBits_append (n : Nat) (bs x : List Bool) (v : Nat) (r : List Bool)
    (h : takeBits n bs = some (v, r)) : takeBits n (bs ++ x) = some (v, r ++ x) := by
  unfold takeBits at h ⊢
  split at h
  · rename_i hn
    injection h with h
    injection h with h1 h2
    rw [if_pos (by rw [List.length_append]; omega), List.take_append_of_le_length hn,
      List.drop_append_of_le_length hn, h1, h2]
  · cases h

def vlcPat : List Bool → Option (Nat × List Bool)
  | false :: false :: r => some (0, r)
  | true :: true :: true :: false :: r => some (1, r)
  | true :: true :: false :: r => some (2, r)
  | false :: true :: r => some (3, r)
  | true :: false :: r => some (4, r)
  | true :: true :: true :: true :: r => some (5, r)
  | _ => none

theorem readClVlc_eq (bs : List Bool) : readClVlc bs = vlcPat bs := by
  rcases bs with _ | ⟨b0, _ | ⟨b1, _ | ⟨b2, _ | ⟨b3, t⟩⟩⟩⟩
  · rfl
  · cases b0 <;> rfl
  · cases b0 <;> cases b1 <;> rfl
  · cases b0 <;> cases b1 <;> cases b2 <;> rfl
  · cases b0 <;> cases b1 <;> cases b2 <;> cases b3 <;>
      simp [readClVlc, rfcClVlc, takeBits, valOf, vlcPat]

theorem vlcPat_append (bs x : List Bool) (v : Nat) (r : List Bool) (h : vlcPat bs = some (v, r)) :
    vlcPat (bs ++ x) = some (v, r ++ x) := by
  rcases bs with _ | ⟨b0, _ | ⟨b1, _ | ⟨b2, _ | ⟨b3, t⟩⟩⟩⟩
  · simp [vlcPat] at h
  · cases b0 <;> simp [vlcPat] at h
  · cases b0 <;> cases b1 <;> simp [vlcPat] at h <;> (obtain ⟨rfl, rfl⟩ := h; simp [vlcPat])
  · cases b0 <;> cases b1 <;> cases b2 <;> simp [vlcPat] at h <;> (obtain ⟨rfl, rfl⟩ := h; simp [vlcPat])
  · cases b0 <;> cases b1 <;> cases b2 <;> cases b3 <;> simp [vlcPat] at h <;>
      (obtain ⟨rfl, rfl⟩ := h; simp [vlcPat])

theorem readClVlc_append (bs x : List Bool) (v : Nat) (r : List Bool) (h : readClVlc bs = some (v, r)) :
    readClVlc (bs ++ x) = some (v, r ++ x) := by
  rw [readClVlc_eq] at h ⊢
  exact vlcPat_append bs x v r h

theorem readClLens_append (x : List Bool) : ∀ (os : List Nat) (space : Nat) (cl : List Nat) (bs : List Bool)
    (cl' : List Nat) (r : List Bool), readClLens os space cl bs = some (cl', r) →
    readClLens os space cl (bs ++ x) = some (cl', r ++ x) := by
  intro os
  induction os with
  | nil => intro space cl bs cl' r h; simp only [readClLens] at h ⊢; injection h with h; injection h with h1 h2; rw [h1, h2]
  | cons o os ih =>
    intro space cl bs cl' r h
    unfold readClLens at h ⊢
    cases hv : readClVlc bs with
    | none => rw [hv] at h; cases h
    | some p =>
      obtain ⟨v, rest⟩ := p
      rw [hv] at h
      rw [readClVlc_append bs x v rest hv]
      simp only at h ⊢
      split at h
      · split at h
        · injection h with h; injection h with h1 h2
          rename_i c1 c2
          rw [if_pos c1, if_pos c2, h1, h2]
        · rename_i c1 c2
          rw [if_pos c1, if_neg c2]
          exact ih _ _ _ _ _ h
      · rename_i c1
        rw [if_neg c1]
        exact ih _ _ _ _ _ h

theorem readSymGo_append (lens codes : List Nat) (x : List Bool) : ∀ (f l acc : Nat) (bs : List Bool) (s : Nat)
    (r : List Bool), readSymGo lens codes f l acc bs = some (s, r) →
    readSymGo lens codes f l acc (bs ++ x) = some (s, r ++ x) := by
  intro f
  induction f with
  | zero => intro l acc bs s r h; simp [readSymGo] at h
  | succ f ih =>
    intro l acc bs s r h
    cases bs with
    | nil => simp [readSymGo] at h
    | cons b bs =>
      simp only [readSymGo, List.cons_append] at h ⊢
      split at h
      · injection h with h; injection h with h1 h2
        rw [h1, h2]
      · exact ih _ _ _ _ _ h

theorem readSym_append (lens : List Nat) (bs x : List Bool) (s : Nat) (r : List Bool)
    (h : readSym lens bs = some (s, r)) : readSym lens (bs ++ x) = some (s, r ++ x) := by
  unfold readSym at h ⊢
  split at h
  · injection h with h; injection h with h1 h2
    rw [h1, h2]
  · exact readSymGo_append _ _ _ _ _ _ _ _ _ h

theorem readLensGo_append (cl : List Nat) (A : Nat) (x : List Bool) : ∀ (f : Nat) (s : ExpandState) (bs : List Bool)
    (d : List Nat) (r : List Bool), readLensGo cl A f s bs = some (d, r) →
    readLensGo cl A f s (bs ++ x) = some (d, r ++ x) := by
  intro f
  induction f with
  | zero => intro s bs d r h; simp [readLensGo] at h
  | succ f ih =>
    intro s bs d r h
    unfold readLensGo at h ⊢
    simp only at h ⊢
    split at h
    · rename_i c1
      rw [if_pos c1]
      split at h
      · cases h
      · rename_i c2
        rw [if_neg c2]
        injection h with h; injection h with h1 h2
        rw [h1, h2]
    · rename_i c1
      rw [if_neg c1]
      cases hs : readSym cl bs with
      | none => rw [hs] at h; cases h
      | some p =>
        obtain ⟨sym, rest⟩ := p
        rw [hs] at h
        rw [readSym_append cl bs x sym rest hs]
        simp only at h ⊢
        split at h
        · rename_i c2
          rw [if_pos c2]
          exact ih _ _ _ _ h
        · rename_i c2
          rw [if_neg c2]
          cases ht : takeBits (if sym = 16 then 2 else 3) rest with
          | none => rw [ht] at h; cases h
          | some q =>
            obtain ⟨extra, rest2⟩ := q
            rw [ht] at h
            rw [takeBits_append _ rest x extra rest2 ht]
            simp only at h ⊢
            exact ih _ _ _ _ h

theorem readPrefixCode_append (A : Nat) (bs x : List Bool) (l : List Nat) (r : List Bool)
    (h : readPrefixCode A bs = some (l, r)) (hc : ∀ r0, takeBits 2 bs ≠ some (1, r0)) :
    readPrefixCode A (bs ++ x) = some (l, r ++ x) := by
  unfold readPrefixCode at h ⊢
  cases h2 : takeBits 2 bs with
  | none => rw [h2] at h; simp at h
  | some p =>
    obtain ⟨hskip, r0⟩ := p
    have hne : hskip ≠ 1 := fun e => hc r0 (by rw [h2, e])
    rw [h2] at h
    rw [takeBits_append 2 bs x hskip r0 h2]
    simp only [Option.bind_eq_bind, Option.bind_some, hne, if_false] at h ⊢
    cases hcl : readClLens (List.drop hskip rfcClOrder) 32 (List.replicate 18 0) r0 with
    | none => rw [hcl] at h; simp at h
    | some q =>
      obtain ⟨cl, r1⟩ := q
      rw [hcl] at h
      rw [readClLens_append x _ _ _ _ _ _ hcl]
      simp only [Option.bind_some] at h ⊢
      exact readLensGo_append cl A x _ _ _ _ _ h

end BV.MetaBlock
