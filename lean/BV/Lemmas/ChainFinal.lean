/-
The exact final decoder state of one `CreateBackwardReferences` call under the chain's hypotheses, and `faithful`
(the additional command hypothesis of the quality ≥ 4 writer theorems `full_metablock_roundtrip` / `wmbi_full_roundtrip`)
for its command array.  `BlockOK` is BV/Props/C01Chain.lean's.
-/
import BV.Props.C01Chain
import BV.Lemmas.CbrOpen
import BV.Lemmas.ReplayFaithful

namespace BV.Props.C01Chain
open BV.Hasher BV.MatchFinder BV.Recoder BV.PrefixArith BV.MetaBlock BV.Cbr BV.Catable

/-- the decoder's final ring is the first four entries of the `dist_cache` the call RETURNS: the statement
`commands_lockstep` leaves to the harness oracle -/
theorem cbr_final_state {H : Type} (ops : HasherOps H) (p : Params) (large : Bool) (wo : WordOracle)
    (data : ByteArray) (k tail : Nat) (hist mb : Bytes) (lo : Nat)
    (hb : BlockOK p large data k tail hist mb lo) (hops : OpsOK (SlotOK wo) ops p data k)
    (numBytes position : Nat) (h0 : H) (cache : List Int) (lastInsertLen numLiterals : Nat) (res : Result H)
    (hpos : position = hist.length + lastInsertLen) (hmb : mb.length = lastInsertLen + numBytes)
    (hc : CacheI32 cache) (hcl : 4 ≤ cache.length)
    (h : createBackwardReferences ops p numBytes position h0 cache lastInsertLen numLiterals = some res) :
    decSteps wo 0 0 (maxBackwardLimit p) mb ⟨hist, cache.take 4, 0⟩ (closeMetaBlock res.cmds res.lastInsertLen)
      = some ⟨hist ++ mb, res.cache.take 4, mb.length⟩ ∧ CacheI32 res.cache ∧ 4 ≤ res.cache.length := by
  have h32 : mb.length < 2 ^ 32 := by have := hb.len; omega
  obtain ⟨d', hopen, hout, hcur, hring, hci, hcl', _⟩ := cbr_open (C := ⟨wo, data, k, hist, mb, lo⟩) hops
    (hb.emitHyp wo)
    numBytes position h0 cache lastInsertLen numLiterals res hpos hmb hb.total hc hcl h
  simp only [hb.np, hb.nd] at hopen
  have hdec := openSteps_dec _ _ _ _ _ _ _ _ hopen
  have hlast : res.lastInsertLen = mb.length - d'.cursor := by simp only at hcur; omega
  have hclose := decSteps_close wo 0 0 (maxBackwardLimit p) hist mb d' hout (by simp only at hcur; omega) h32
  refine ⟨?_, hci, hcl'⟩
  rw [closeMetaBlock_split, decSteps_append _ _ _ _ _ _ _ _ _ hdec, hlast, hclose, hring]

theorem cbr_faithful {H : Type} (ops : HasherOps H) (p : Params) (large : Bool) (wo : WordOracle)
    (data : ByteArray) (k tail : Nat) (hist mb : Bytes) (lo : Nat)
    (hb : BlockOK p large data k tail hist mb lo) (hops : OpsOK (SlotOK wo) ops p data k)
    (numBytes position : Nat) (h0 : H) (cache : List Int) (lastInsertLen numLiterals : Nat) (res : Result H)
    (hpos : position = hist.length + lastInsertLen) (hmb : mb.length = lastInsertLen + numBytes)
    (hc : CacheI32 cache) (hcl : 4 ≤ cache.length)
    (h : createBackwardReferences ops p numBytes position h0 cache lastInsertLen numLiterals = some res) :
    faithful wo 0 0 (maxBackwardLimit p) mb hist ⟨hist, cache.take 4, 0⟩ (closeMetaBlock res.cmds res.lastInsertLen) :=
  faithful_of_final wo 0 0 (maxBackwardLimit p) mb hist _ ⟨hist, cache.take 4, 0⟩ (res.cache.take 4) (by simp)
    (cbr_final_state ops p large wo data k tail hist mb lo hb hops numBytes position h0 cache lastInsertLen numLiterals
      res hpos hmb hc hcl h).1

end BV.Props.C01Chain
