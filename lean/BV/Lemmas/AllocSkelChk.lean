import BV.Model.AllocSkel
/-!
Soundness of the static checker `BV.Skel.chk` for the path semantics `BV.Skel.run`, for EVERY script
(every branch choice, loop count, zero-length allocation).
-/
namespace BV.Skel
open BV.Ledger

def Abs (m : List Var) (s : St) : Prop := ∀ p ∈ s.store, p.1 ∈ m

theorem Abs.mono {a b : List Var} {s : St} (h : ∀ v ∈ a, v ∈ b) (ha : Abs a s) : Abs b s :=
  fun p hp => h _ (ha p hp)

theorem subsetB_mem {a b : List Var} (h : subsetB a b = true) : ∀ v ∈ a, v ∈ b := by
  intro v hv
  simp only [subsetB, List.all_eq_true] at h
  have := h v hv
  simpa using this

/-- the abstract state `x` is reachable and over-approximates the places that hold a block.  The two exits of
`Post` are `Covers o.rets r.st` and `Covers o.normal r.st` written out, so a `Covers` fact fills them as it is -/
abbrev Covers (x : Option (List Var)) (s : St) : Prop := ∃ m, x = some m ∧ Abs m s

theorem Covers.joinO_left {x : Option (List Var)} (y : Option (List Var)) {s : St} (h : Covers x s) :
    Covers (joinO x y) s := by
  obtain ⟨a, rfl, h⟩ := h
  cases y with
  | none => exact ⟨a, rfl, h⟩
  | some b => exact ⟨_, rfl, h.mono fun v hv => List.mem_append_left _ hv⟩

theorem Covers.joinO_right (x : Option (List Var)) {y : Option (List Var)} {s : St} (h : Covers y s) :
    Covers (joinO x y) s := by
  obtain ⟨b, rfl, h⟩ := h
  cases x with
  | none => exact ⟨b, rfl, h⟩
  | some a =>
    refine ⟨_, rfl, h.mono fun v hv => ?_⟩
    by_cases hva : v ∈ a
    · exact List.mem_append_left _ hva
    · exact List.mem_append_right _ (by simp [List.mem_filter, hv, hva])

def Post (o : AOut) (s : St) (r : Res) : Prop :=
  r.st.lost = s.lost ∧
  (r.returned = true → ∃ m', o.rets = some m' ∧ Abs m' r.st) ∧
  (r.returned = false → ∃ m', o.normal = some m' ∧ Abs m' r.st)

theorem at_nil_of_not_mem {m : List Var} {s : St} (h : Abs m s) {v : Var} (hv : v ∉ m) : s.at v = [] := by
  simp only [St.at, List.map_eq_nil_iff, List.filter_eq_nil_iff]
  intro p hp
  have := h p hp
  simp only [decide_eq_true_eq]
  intro e
  exact hv (e ▸ this)

theorem doAlloc_sound {m : List Var} {s : St} (h : Abs m s) {v : Var} (hv : v ∉ m) (nz : Bool) :
    (doAlloc s v nz).lost = s.lost ∧ Abs (v :: m) (doAlloc s v nz) := by
  have hat := at_nil_of_not_mem h hv
  cases nz
  · refine ⟨by simp [doAlloc, hat], ?_⟩
    intro p hp
    simp only [doAlloc, St.without, Bool.false_eq_true, if_false, List.mem_filter] at hp
    exact List.mem_cons_of_mem _ (h p hp.1)
  · refine ⟨by simp [doAlloc, hat], ?_⟩
    intro p hp
    simp only [doAlloc, St.without, if_true, List.mem_append, List.mem_filter, List.mem_singleton] at hp
    rcases hp with hp | hp
    · exact List.mem_cons_of_mem _ (h p hp.1)
    · subst hp; exact List.mem_cons_self

theorem doFree_sound {m : List Var} {s : St} (h : Abs m s) (v : Var) :
    (doFree s v).lost = s.lost ∧ Abs (m.filter (fun u => u != v)) (doFree s v) := by
  refine ⟨rfl, ?_⟩
  intro p hp
  simp only [doFree, St.without, List.mem_filter] at hp
  simp only [List.mem_filter]
  refine ⟨h p hp.1, ?_⟩
  simpa using hp.2

theorem doMove_sound {m : List Var} {s : St} (h : Abs m s) (src dst : Var) (hne : src ≠ dst)
    (hd : m.any (fun u => isPre dst u) = false) :
    (doMove s src dst).lost = s.lost ∧ Abs (m.map (retag src dst)) (doMove s src dst) := by
  have hnone : s.store.filter (fun p => isPre dst p.1) = [] := by
    simp only [List.filter_eq_nil_iff]
    intro p hp hpre
    have hm := h p hp
    have : m.any (fun u => isPre dst u) = true := List.any_eq_true.mpr ⟨p.1, hm, hpre⟩
    rw [hd] at this
    exact Bool.noConfusion this
  refine ⟨by simp [doMove, hne, hnone], ?_⟩
  intro p hp
  simp only [doMove, hne, if_false, List.mem_map, List.mem_filter] at hp
  obtain ⟨q, ⟨hq, _⟩, rfl⟩ := hp
  exact List.mem_map.mpr ⟨q.1, h q hq, rfl⟩

theorem doExit_sound {m : List Var} {s : St} (h : Abs m s) (tag : Nat)
    (ht : m.any (fun v => v.head? == some tag) = false) :
    (doExit s tag).lost = s.lost ∧ Abs m (doExit s tag) := by
  have hnone : s.store.filter (fun p => p.1.head? = some tag) = [] := by
    simp only [List.filter_eq_nil_iff]
    intro p hp hhead
    have hm := h p hp
    have : m.any (fun v => v.head? == some tag) = true :=
      List.any_eq_true.mpr ⟨p.1, hm, by simpa using hhead⟩
    rw [ht] at this
    exact Bool.noConfusion this
  refine ⟨by simp [doExit, hnone], ?_⟩
  intro p hp
  simp only [doExit, List.mem_filter] at hp
  exact h p hp.1

theorem loopInv_spec (body : List Var → Option AOut) : ∀ (k : Nat) (m inv : List Var) (o : AOut),
    loopInv body k m = some (inv, o) →
    (∀ v ∈ m, v ∈ inv) ∧ body inv = some o ∧ (∀ m', o.normal = some m' → ∀ v ∈ m', v ∈ inv) := by
  intro k
  induction k with
  | zero => intro m inv o h; simp [loopInv] at h
  | succ k ih =>
    intro m inv o h
    simp only [loopInv] at h
    cases hb : body m with
    | none => simp [hb] at h
    | some o1 =>
      simp only [hb] at h
      cases hn : o1.normal with
      | none =>
        simp only [hn, Option.some.injEq, Prod.mk.injEq] at h
        obtain ⟨rfl, rfl⟩ := h
        exact ⟨fun _ h => h, hb, by intro m' hm'; rw [hn] at hm'; cases hm'⟩
      | some m1 =>
        simp only [hn] at h
        by_cases hs : subsetB m1 m = true
        · simp only [hs, if_true, Option.some.injEq, Prod.mk.injEq] at h
          obtain ⟨rfl, rfl⟩ := h
          refine ⟨fun _ h => h, hb, ?_⟩
          intro m' hm'
          rw [hn] at hm'
          cases hm'
          exact subsetB_mem hs
        · simp only [hs] at h
          obtain ⟨h1, h2, h3⟩ := ih _ inv o h
          exact ⟨fun v hv => h1 v (List.mem_append_left _ hv), h2, h3⟩

theorem iter_sound (f : St × List Nat → Res) (inv : List Var) (o : AOut)
    (hf : ∀ s sc, Abs inv s → Post o s (f (s, sc)))
    (hn : ∀ m', o.normal = some m' → ∀ v ∈ m', v ∈ inv) :
    ∀ (n : Nat) (s : St) (sc : List Nat), Abs inv s →
      (iter f n (s, sc)).st.lost = s.lost ∧
      ((iter f n (s, sc)).returned = true → Covers o.rets (iter f n (s, sc)).st) ∧
      ((iter f n (s, sc)).returned = false → Abs inv (iter f n (s, sc)).st) := by
  intro n
  induction n with
  | zero => intro s sc h; exact ⟨rfl, by simp [iter], fun _ => h⟩
  | succ n ih =>
    intro s sc h
    obtain ⟨p1, p2, p3⟩ := hf s sc h
    simp only [iter]
    by_cases hr : (f (s, sc)).returned = true
    · simp only [hr, if_true]
      exact ⟨p1, fun _ => p2 hr, nofun⟩
    · have hr' : (f (s, sc)).returned = false := by simpa using hr
      simp only [hr', Bool.false_eq_true, if_false]
      obtain ⟨m', hm', ha⟩ := p3 hr'
      have hinv : Abs inv (f (s, sc)).st := Abs.mono (hn m' hm') ha
      obtain ⟨q1, q2, q3⟩ := ih (f (s, sc)).st (f (s, sc)).script hinv
      exact ⟨q1.trans p1, q2, q3⟩

theorem chk_sound (sk : Sk) : ∀ (m : List Var) (o : AOut) (s : St) (sc : List Nat),
    chk sk m = some o → Abs m s → Post o s (run sk (s, sc)) := by
  induction sk with
  | skip =>
    intro m o s sc h ha
    simp only [chk, Option.some.injEq] at h
    subst h
    exact ⟨rfl, by simp [run], fun _ => ⟨m, rfl, ha⟩⟩
  | alloc ty v =>
    intro m o s sc h ha
    simp only [chk] at h
    by_cases hv : m.contains v = true
    · rw [if_pos hv] at h; cases h
    · simp only [hv, Bool.false_eq_true, if_false, Option.some.injEq] at h
      subst h
      have hv' : v ∉ m := by simpa using hv
      obtain ⟨h1, h2⟩ := doAlloc_sound ha hv' (sc.headD 1 != 0)
      exact ⟨h1, by simp [run], fun _ => ⟨_, rfl, h2⟩⟩
  | free ty v =>
    intro m o s sc h ha
    simp only [chk, Option.some.injEq] at h
    subst h
    obtain ⟨h1, h2⟩ := doFree_sound ha v
    exact ⟨h1, by simp [run], fun _ => ⟨_, rfl, h2⟩⟩
  | move src dst =>
    intro m o s sc h ha
    simp only [chk] at h
    by_cases he : src = dst
    · simp only [he, if_true, Option.some.injEq] at h
      subst h
      refine ⟨by simp [run, doMove, he], by simp [run], fun _ => ⟨m, rfl, ?_⟩⟩
      simpa [run, doMove, he] using ha
    · simp only [he, if_false] at h
      by_cases hd : m.any (fun u => isPre dst u) = true
      · simp [hd] at h
      · have hd' : m.any (fun u => isPre dst u) = false := by simpa using hd
        simp only [hd', Bool.false_eq_true, if_false, Option.some.injEq] at h
        subst h
        obtain ⟨h1, h2⟩ := doMove_sound ha src dst he hd'
        exact ⟨h1, by simp [run], fun _ => ⟨_, rfl, h2⟩⟩
  | seq a b iha ihb =>
    intro m o s sc h ha
    simp only [chk] at h
    cases hca : chk a m with
    | none => simp [hca] at h
    | some o1 =>
      simp only [hca] at h
      obtain ⟨p1, p2, p3⟩ := iha m o1 s sc hca ha
      cases hn : o1.normal with
      | none =>
        simp only [hn, Option.some.injEq] at h
        subst h
        -- the first part cannot end normally
        have hr : (run a (s, sc)).returned = true := by
          cases hrr : (run a (s, sc)).returned with
          | true => rfl
          | false => obtain ⟨m', hm', _⟩ := p3 hrr; rw [hn] at hm'; cases hm'
        simp only [run, hr, if_true]
        exact ⟨p1, p2, p3⟩
      | some m1 =>
        simp only [hn] at h
        cases hcb : chk b m1 with
        | none => simp [hcb] at h
        | some o2 =>
          simp only [hcb, Option.some.injEq] at h
          subst h
          simp only [run]
          by_cases hr : (run a (s, sc)).returned = true
          · simp only [hr, if_true]
            exact ⟨p1, fun _ => Covers.joinO_left _ (p2 hr), fun h' => by rw [hr] at h'; cases h'⟩
          · have hr' : (run a (s, sc)).returned = false := by simpa using hr
            simp only [hr', Bool.false_eq_true, if_false]
            obtain ⟨m', hm', hab⟩ := p3 hr'
            rw [hn] at hm'
            cases hm'
            obtain ⟨q1, q2, q3⟩ := ihb m1 o2 (run a (s, sc)).st (run a (s, sc)).script hcb hab
            exact ⟨q1.trans p1, fun hq => Covers.joinO_right _ (q2 hq), q3⟩
  | alt a b iha ihb =>
    intro m o s sc h ha
    simp only [chk] at h
    cases hca : chk a m with
    | none => simp [hca] at h
    | some o1 =>
      cases hcb : chk b m with
      | none => simp [hca, hcb] at h
      | some o2 =>
        simp only [hca, hcb, Option.some.injEq] at h
        subst h
        simp only [run]
        by_cases hc : sc.headD 0 = 0
        · simp only [hc, if_true]
          obtain ⟨p1, p2, p3⟩ := iha m o1 s sc.tail hca ha
          exact ⟨p1, fun hq => Covers.joinO_left _ (p2 hq), fun hq => Covers.joinO_left _ (p3 hq)⟩
        · simp only [hc, if_false]
          obtain ⟨p1, p2, p3⟩ := ihb m o2 s sc.tail hcb ha
          exact ⟨p1, fun hq => Covers.joinO_right _ (p2 hq), fun hq => Covers.joinO_right _ (p3 hq)⟩
  | loop b ihb =>
    intro m o s sc h ha
    simp only [chk] at h
    cases hl : loopInv (chk b) 64 m with
    | none => simp [hl] at h
    | some r =>
      obtain ⟨inv, o1⟩ := r
      simp only [hl, Option.some.injEq] at h
      subst h
      obtain ⟨h1, h2, h3⟩ := loopInv_spec (chk b) 64 m inv o1 hl
      have hinv : Abs inv s := Abs.mono h1 ha
      obtain ⟨q1, q2, q3⟩ := iter_sound (run b) inv o1 (fun s' sc' hs' => ihb inv o1 s' sc' h2 hs') h3
        (sc.headD 0) s sc.tail hinv
      simp only [run]
      exact ⟨q1, q2, fun hq => ⟨inv, rfl, q3 hq⟩⟩
  | ret =>
    intro m o s sc h ha
    simp only [chk, Option.some.injEq] at h
    subst h
    exact ⟨rfl, fun _ => ⟨m, rfl, ha⟩, by simp [run]⟩
  | scope tag b ihb =>
    intro m o s sc h ha
    simp only [chk] at h
    cases hcb : chk b m with
    | none => simp [hcb] at h
    | some o1 =>
      simp only [hcb] at h
      obtain ⟨p1, p2, p3⟩ := ihb m o1 s sc hcb ha
      obtain ⟨j, hj, habj⟩ : Covers (joinO o1.normal o1.rets) (run b (s, sc)).st := by
        cases hr : (run b (s, sc)).returned with
        | true => exact Covers.joinO_right _ (p2 hr)
        | false => exact Covers.joinO_left _ (p3 hr)
      simp only [hj] at h
      by_cases ht : j.any (fun v => v.head? == some tag) = true
      · simp [ht] at h
      · have ht' : j.any (fun v => v.head? == some tag) = false := by simpa using ht
        simp only [ht', Bool.false_eq_true, if_false, Option.some.injEq] at h
        subst h
        obtain ⟨e1, e2⟩ := doExit_sound habj tag ht'
        simp only [run]
        exact ⟨e1.trans p1, by simp, fun _ => ⟨j, rfl, e2⟩⟩
  | call f site binds =>
    intro m o s sc h _
    simp [chk] at h
  | «opaque» f =>
    intro m o s sc h ha
    simp only [chk, Option.some.injEq] at h
    subst h
    exact ⟨rfl, by simp [run], fun _ => ⟨m, rfl, ha⟩⟩

theorem balancedFrom_sound (m0 : List Var) (esc : List Nat) (root : Sk) (h : balancedFrom m0 esc root = true)
    (s : St) (ha : Abs m0 s) (sc : List Nat) :
    (run root (s, sc)).st.lost = s.lost ∧
    ∀ p ∈ (run root (s, sc)).st.store, ∃ a, p.1.head? = some a ∧ a ∈ esc := by
  unfold balancedFrom at h
  cases hc : chk root m0 with
  | none => simp [hc] at h
  | some o =>
    obtain ⟨p1, p2, p3⟩ := chk_sound root m0 o s sc hc ha
    refine ⟨p1, ?_⟩
    obtain ⟨on, ort⟩ := o
    cases ort with
    | some r => cases on <;> simp [hc] at h
    | none =>
      have hr : (run root (s, sc)).returned = false := by
        cases hrr : (run root (s, sc)).returned with
        | false => rfl
        | true => obtain ⟨m', hm', _⟩ := p2 hrr; cases hm'
      obtain ⟨m', hm', hab⟩ := p3 hr
      cases on with
      | none => cases hm'
      | some mm =>
        simp only [Option.some.injEq] at hm'
        subst hm'
        simp only [hc, List.all_eq_true] at h
        intro p hp
        have := h p.1 (hab p hp)
        cases hh : p.1.head? with
        | none => simp [hh] at this
        | some a => exact ⟨a, rfl, by simpa [hh] using this⟩

theorem balancedEsc_sound (esc : List Nat) (root : Sk) (h : balancedEsc esc root = true) (s : St)
    (hs : s.store = []) (sc : List Nat) :
    (run root (s, sc)).st.lost = s.lost ∧
    ∀ p ∈ (run root (s, sc)).st.store, ∃ a, p.1.head? = some a ∧ a ∈ esc :=
  balancedFrom_sound [] esc root h s (by intro p hp; rw [hs] at hp; cases hp) sc

theorem entryVars_nil (root : Sk) : entryVars [] root = [] := by
  simp only [entryVars, List.filter_eq_nil_iff]
  intro v _
  cases v.head? <;> simp

theorem store_nil_of_no_esc {l : List (Var × BlockId)}
    (h : ∀ p ∈ l, ∃ a, p.1.head? = some a ∧ a ∈ ([] : List Nat)) : l = [] :=
  List.eq_nil_iff_forall_not_mem.mpr fun p hp => by
    obtain ⟨_, _, ha⟩ := h p hp
    cases ha

theorem balanced_sound (root : Sk) (h : balanced root = true) (s : St) (hs : s.store = []) (sc : List Nat) :
    (run root (s, sc)).st.lost = s.lost ∧ (run root (s, sc)).st.store = [] :=
  (balancedEsc_sound [] root h s hs sc).imp_right store_nil_of_no_esc

end BV.Skel
