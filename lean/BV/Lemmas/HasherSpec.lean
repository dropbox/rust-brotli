import BV.Lemmas.HasherLoop
/-!
Reference semantics of a `BasicHasher` index (written independently of the update code):
the table is a map slot ↦ position, and indexing a range of positions leaves in every slot the
LAST position of the range that is filed under that slot; slots no position is filed under keep
their old content.
-/
namespace BV.Hasher
namespace Basic

def slotOf (P : BasicP) (data : ByteArray) (mask ix : Nat) : Option Nat :=
  match win data (ix &&& mask) 8 with
  | none => none
  | some w => some ((P.hash w % U32 + (ix / 8) % P.sweep % U32) % U32)

def lastWriter (slot : Nat → Option Nat) (s : Nat) : Nat → Nat → Option Nat
  | 0, _ => none
  | n + 1, t => if slot (s + n) = some t then some (s + n) else lastWriter slot s n t

theorem store_some {P : BasicP} {data : ByteArray} {mask ix : Nat} {b b' : Tab}
    (h : store P data mask ix b = some b') :
    ∃ t, slotOf P data mask ix = some t ∧ ∃ ht : t < b.size, b' = b.set t (ix % U32) ht := by
  unfold store hashAt at h
  unfold slotOf
  cases hw : win data (ix &&& mask) 8 with
  | none => simp [hw] at h
  | some w =>
    simp only [hw, Option.map_some] at h
    split at h
    · cases h
    · refine ⟨_, rfl, ?_⟩
      rw [Nat.shiftRight_eq_div_pow] at h
      unfold wr at h
      split at h
      · rename_i hlt
        exact ⟨hlt, by injection h with h; exact h.symm⟩
      · cases h

theorem fold_store_spec (P : BasicP) (data : ByteArray) (mask s : Nat) :
    ∀ (n : Nat) (b b' : Tab), forRange (store P data mask) s n b = some b' →
      b'.size = b.size ∧ ∀ t,
        (∀ ix, lastWriter (slotOf P data mask) s n t = some ix → b'[t]? = some (ix % U32)) ∧
        (lastWriter (slotOf P data mask) s n t = none → b'[t]? = b[t]?) := by
  intro n
  induction n with
  | zero =>
    intro b b' h
    simp only [forRange_zero, Option.some.injEq] at h
    subst h
    exact ⟨rfl, fun t => ⟨fun ix hix => by simp [lastWriter] at hix, fun _ => rfl⟩⟩
  | succ n ih =>
    intro b b' h
    rw [forRange_snoc] at h
    cases h1 : forRange (store P data mask) s n b with
    | none => simp [h1] at h
    | some b1 =>
      simp only [h1, Option.bind_some] at h
      obtain ⟨hsz, hsp⟩ := ih b b1 h1
      obtain ⟨t0, hslot, ht0, rfl⟩ := store_some h
      refine ⟨by simp [hsz], fun t => ?_⟩
      simp only [lastWriter, hslot, Option.some.injEq]
      by_cases htt : t0 = t
      · subst htt
        simp only [if_true, Option.some.injEq]
        exact ⟨fun ix hix => by subst hix; simp, fun hc => by cases hc⟩
      · simp only [htt, if_false]
        rw [Array.getElem?_set_ne ht0 htt]
        exact hsp t

end Basic

/-!
Reference semantics of an `AdvHasher` index: every key owns a ring of `block_size` slots and a
16-bit counter; the `j`-th position (counting from 0) with a given key that is indexed after the
counter stood at `c` goes to ring slot `(c + j) mod 2^16 & block_mask` of that key's block, the
counter ends at `(c + number of positions with that key) mod 2^16`, and a slot keeps the LAST
position that was sent to it.
-/

/-- hypotheses on the hash parameters of an `AdvHasher`:
* `keyBound`: `key << block_bits` computed in `u32` (`Store`) and in `usize` (batched paths) agree,
  i.e. keys are below `2^(32 - block_bits)` (bucket_bits + block_bits ≤ 32 for every real kind);
* `coh`: when the look-ahead is 4 (the only case in which the batched paths run) the
  specialization's `load_and_mix_word` is the inline formula the batched paths hard-code. -/
structure AdvP.Ok (P : AdvP) : Prop where
  keyBound : ∀ w, ((P.mixWord w >>> P.shift) % U32) <<< P.blockBits < U32
  coh : P.lookahead = 4 → ∀ w : List Nat, w.length = 4 → (∀ b ∈ w, b < 256) →
    (P.mixWord w >>> P.shift) % U32 = Adv.mixInline P (le w)

namespace Adv

def keyOf (P : AdvP) (data : ByteArray) (mask ix : Nat) : Option Nat :=
  match win data (ix &&& mask) P.lookahead with
  | none => none
  | some w => some ((P.mixWord w >>> P.shift) % U32)

def countKey (keyOf : Nat → Option Nat) (s : Nat) : Nat → Nat → Nat
  | 0, _ => 0
  | n + 1, key => countKey keyOf s n key + (if keyOf (s + n) = some key then 1 else 0)

def slotOf (P : AdvP) (keyOf : Nat → Option Nat) (num0 : Tab) (s ix : Nat) : Option Nat :=
  match keyOf ix with
  | none => none
  | some key =>
    some ((key <<< P.blockBits) +
      (((num0.getD key 0 + countKey keyOf s (ix - s) key) % U16) &&& P.blockMask))

theorem store_some {P : AdvP} {data : ByteArray} {mask ix : Nat} {num b : Tab} {st' : AdvSt}
    (h : store P data mask ix ⟨num, b⟩ = some st') :
    ∃ key, keyOf P data mask ix = some key ∧ ∃ hk : key < num.size,
      ∃ hi : (num[key] &&& P.blockMask) + (key <<< P.blockBits) % U32 < b.size,
        st' = ⟨num.set key ((num[key] + 1) % U16) hk,
               b.set ((num[key] &&& P.blockMask) + (key <<< P.blockBits) % U32) (ix % U32) hi⟩ := by
  simp only [store, hashAt] at h
  unfold keyOf
  cases hw : win data (ix &&& mask) P.lookahead with
  | none => simp [hw] at h
  | some w =>
    simp only [hw, Option.map_some] at h
    refine ⟨_, rfl, ?_⟩
    by_cases hk : (P.mixWord w >>> P.shift) % U32 < num.size
    · refine ⟨hk, ?_⟩
      simp only [rd, hk, dite_true] at h
      unfold wr at h
      split at h
      · cases h
      · rename_i b1 hb
        split at hb
        · rename_i hi
          refine ⟨hi, ?_⟩
          injection hb with hb
          subst hb
          simp only [hk, dite_true] at h
          injection h with h
          exact h.symm
        · cases hb
    · simp [rd, hk] at h

theorem fold_store_spec (P : AdvP) (hP : P.Ok)
    (data : ByteArray) (mask s : Nat) (num0 b0 : Tab) (hu16 : ∀ key, num0.getD key 0 < U16) :
    ∀ (n : Nat) (st' : AdvSt), forRange (store P data mask) s n ⟨num0, b0⟩ = some st' →
      st'.num.size = num0.size ∧ st'.buckets.size = b0.size ∧
      (∀ key, key < num0.size →
        st'.num[key]? = some ((num0.getD key 0 + countKey (keyOf P data mask) s n key) % U16)) ∧
      ∀ t,
        (∀ ix, Basic.lastWriter (slotOf P (keyOf P data mask) num0 s) s n t = some ix →
          st'.buckets[t]? = some (ix % U32)) ∧
        (Basic.lastWriter (slotOf P (keyOf P data mask) num0 s) s n t = none →
          st'.buckets[t]? = b0[t]?) := by
  intro n
  induction n with
  | zero =>
    intro st' h
    simp only [forRange_zero, Option.some.injEq] at h
    subst h
    refine ⟨rfl, rfl, fun key hkey => ?_, fun t => ⟨fun ix hix => by simp [Basic.lastWriter] at hix, fun _ => rfl⟩⟩
    simp only [countKey, Nat.add_zero, Nat.mod_eq_of_lt (hu16 key)]
    simp [Array.getD, hkey]
  | succ n ih =>
    intro st' h
    rw [forRange_snoc] at h
    cases h1 : forRange (store P data mask) s n ⟨num0, b0⟩ with
    | none => simp [h1] at h
    | some st1 =>
      obtain ⟨num1, b1⟩ := st1
      simp only [h1, Option.bind_some] at h
      obtain ⟨hsn, hsb, hnum, hbk⟩ := ih ⟨num1, b1⟩ h1
      simp only at hsn hsb hnum hbk
      obtain ⟨key, hkey, hklt, hi, rfl⟩ := store_some h
      have hv : num1[key] = (num0.getD key 0 + countKey (keyOf P data mask) s n key) % U16 := by
        have := hnum key (hsn ▸ hklt)
        rw [Array.getElem?_eq_getElem hklt] at this
        exact Option.some.inj this
      obtain ⟨w, hw⟩ : ∃ w, key = (P.mixWord w >>> P.shift) % U32 := by
        unfold keyOf at hkey
        split at hkey
        · cases hkey
        · rename_i w _; exact ⟨w, (Option.some.inj hkey).symm⟩
      have hkb : (key <<< P.blockBits) % U32 = key <<< P.blockBits := by
        rw [hw]; exact Nat.mod_eq_of_lt (hP.keyBound w)
      refine ⟨by simp [hsn], by simp [hsb], fun key' hkey' => ?_, fun t => ?_⟩
      · simp only [countKey, hkey, Option.some.injEq]
        by_cases hkk : key = key'
        · subst hkk
          simp only [if_true, Array.getElem?_set_self, hv]
          rw [Nat.mod_add_mod, Nat.add_assoc]
        · simp only [hkk, if_false, Nat.add_zero]
          rw [Array.getElem?_set_ne hklt hkk]
          exact hnum key' hkey'
      · have hslot : slotOf P (keyOf P data mask) num0 s (s + n)
            = some ((num1[key] &&& P.blockMask) + (key <<< P.blockBits) % U32) := by
          simp only [slotOf, hkey, Nat.add_sub_cancel_left, hkb, hv, Nat.add_comm]
        simp only [Basic.lastWriter, hslot, Option.some.injEq]
        by_cases htt : (num1[key] &&& P.blockMask) + (key <<< P.blockBits) % U32 = t
        · subst htt
          simp only [if_true, Option.some.injEq]
          exact ⟨fun ix hix => by subst hix; simp, fun hc => by cases hc⟩
        · simp only [htt, if_false]
          rw [Array.getElem?_set_ne hi htt]
          exact hbk t

end Adv
end BV.Hasher
