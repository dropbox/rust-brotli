import BV.Lemmas.StreamTop
/-
The stream machine as a labelled transition system: every iteration of the three loops of
`compress_stream` is ONE atomic step (`Step`) — or none, when the loop breaks; three more atoms stand for what
a call does outside its loops (`init`: first use, `mdEnter`, `cfc`: `check_flush_complete`) — and a call is a
sequence of atomic steps (`Steps`).  Each atom carries the guard under which the code takes it
and the state invariant at its source; the labels (`Ev`) say what it adds to the emitted bit stream.
-/
namespace BV.Stream
open BV.Bits

inductive Ev where
  | window (bits : List Bool)                 -- first use: the stream header bits become the carry
  | copy (chunk : Bytes)
  | push
  | pad (lbb : Nat)                           -- byte-padding (sync) block behind a carry of `lbb` bits
  | enc (k : Nat) (req : Req) (pre : Nat) (skel : List Bool) (taken : Bool)
        -- `encode_data`, invocation `k`, request `req`: the skeleton wrote `skel` (magic-number block,
        -- stored prelude of `pre` input bytes); `taken`: the payload encoder's bits behind it were emitted
  | fast (k : Nat) (req : Req)
  | mdHeader (n lbb : Nat)                    -- metadata block header for `n` bytes behind `lbb` carry bits
  | mdBody (bytes : Bytes)
  | tau (k : Nat)                             -- bookkeeping only: 0 check_flush_complete, 1 flush request on an empty block, 2 metadata entry, 3 metadata block complete
deriving Repr, DecidableEq

def encEv (o : Oracle) (s : St) (site : Nat) (il ff : Bool) : Ev :=
  .enc s.nEnc (reqOf s site il ff) ((encMid s il).1.lastFlushPos - s.lastFlushPos)
    ((encMid s il).2.drop s.carry.length) (encTakes (encMid s il).1 (o s.nEnc (reqOf s site il ff)) il ff)

def padBits (lbb : Nat) : List Bool := syncBits ++ List.replicate (8 * ((lbb + 6 + 7) / 8) - lbb - 6) false

def mdHeaderTail (n lbb : Nat) : List Bool :=
  mdHeader n ++ List.replicate ((8 - (lbb + (mdHeader n).length) % 8) % 8) false

def Ev.bits (o : Oracle) : Ev → List Bool
  | .window b => b
  | .pad lbb => padBits lbb
  | .enc k req _ skel taken => skel ++ (if taken then (o k req).bits.drop skel.length else [])
  | .fast k req => (o k req).bits
  | .mdHeader n lbb => mdHeaderTail n lbb
  | .mdBody bytes => bytesBits bytes
  | _ => []

def Ev.req : Ev → Option Req
  | .enc _ r _ _ _ => some r
  | .fast _ r => some r
  | _ => none

abbrev slowIl (op : Nat) (io : Io) : Bool := decide (io.availIn = 0 ∧ op = 2)
abbrev slowFf (op : Nat) (io : Io) : Bool := decide (io.availIn = 0 ∧ op = 1)

def copyN (s : St) (io : Io) : Nat := min (remainingInputBlockSize s) io.availIn

def fastBs (s : St) (io : Io) : Nat := min (2 ^ s.params.lgwin.toNat) io.availIn
def fastReq (op : Nat) (s : St) (io : Io) : Req :=
  { site := 2, lo := fastBs s io, hi := s.inputPos, isLast := decide (io.availIn = fastBs s io ∧ op = 2),
    forceFlush := decide (io.availIn = fastBs s io ∧ op = 1) }
def fastMaxOut (s : St) (io : Io) : Nat := (2 * fastBs s io + 503) % two64
def fastInplace (s : St) (io : Io) : Bool := decide (fastMaxOut s io ≤ io.availOut)
def fastS1 (s : St) (io : Io) : St := fastStorage s (fastInplace s io) (fastMaxOut s io)
def fastRes (o : Oracle) (op : Nat) (s : St) (io : Io) : St × Io :=
  fastEncode (fastS1 s io) io (o s.nEnc (fastReq op s io)) (fastReq op s io) (fastBs s io) (fastInplace s io)
    (fastReq op s io).isLast (fastReq op s io).forceFlush

def PadDue (s : St) : Prop := s.streamState = .flushRequested ∧ s.lastBytesBits ≠ 0

theorem push_false_noPad {s s' : St} {io io' : Io} (h : injectFlushOrPushOutput s io = .ok (s', io', false)) : ¬ PadDue s :=
  (push_false h).2.2.1

inductive Step (o : Oracle) (op : Nat) : St × Io → Ev → St × Io → Prop
  | init {s : St} {io : Io} (hf : IsFresh s) :
      Step o op (s, io) (.window (ensureInitialized s).carry) (ensureInitialized s, io)
  | copy {s s1 : St} {io : Io} (hI : Inv s) (hw : s.inputPos + io.availIn < two64) (hop : op ≤ 2) (hnf : ¬ fastMode s.params)
      (hst : s.streamState = .processing) (hrm : s.remainingMetadata = u32Max)
      (hc : remainingInputBlockSize s ≠ 0 ∧ io.availIn ≠ 0) (hn : copyN s io ≤ io.input.length)
      (h : copyInputToRingBuffer s (io.input.take (copyN s io)) io.input.length = .ok s1) :
      Step o op (s, io) (.copy (io.input.take (copyN s io)))
        (s1, { io with input := io.input.drop (copyN s io), availIn := io.availIn - copyN s io })
  | pad {s s1 : St} {io : Io} (hI : Inv s) (hc : PadDue s) (hz : io.availIn = 0)
      (h : injectBytePaddingBlock s = .ok s1) : Step o op (s, io) (.pad s.lastBytesBits) (s1, io)
  | push {s s1 : St} {io io1 : Io} (hI : Inv s) (hc : ¬ PadDue s)
      (h : injectFlushOrPushOutput s io = .ok (s1, io1, true)) : Step o op (s, io) .push (s1, io1)
  | encSlow {s s2 : St} {io : Io} {req : Req} (hI : Inv s) (hop : op ≤ 2) (hnf : ¬ fastMode s.params) (hrm : s.remainingMetadata = u32Max)
      (hnc : ¬ (remainingInputBlockSize s ≠ 0 ∧ io.availIn ≠ 0)) (hnp : ¬ PadDue s)
      (hpend : s.pending = []) (hst : s.streamState = .processing)
      (hgo : remainingInputBlockSize s = 0 ∨ op ≠ 0)
      (h : encodeData o (updateSizeHint s io.availIn) 0 (slowIl op io) (slowFf op io) = .ok (s2, true, req)) :
      Step o op (s, io) (encEv o (updateSizeHint s io.availIn) 0 (slowIl op io) (slowFf op io))
        (markAfterEncode s2 (slowIl op io) (slowFf op io), { io with reqs := io.reqs ++ [req] })
  | cfc {s : St} {io : Io} (hI : Inv s) (hop : op ≤ 2) (hrm : s.remainingMetadata = u32Max) (hnp : ¬ PadDue s)
      (hfl : s.streamState ≠ .processing → io.availIn = 0) :
      Step o op (s, io) (.tau 0) (checkFlushComplete s, io)
  | fastFlush {s : St} {io : Io} (hI : Inv s) (hfm : fastMode s.params) (hrm : s.remainingMetadata = u32Max)
      (hnp : ¬ PadDue s) (hpend : s.pending = [])
      (hst : s.streamState = .processing) (hop1 : op = 1) (hz : io.availIn = 0) :
      Step o op (s, io) (.tau 1) ({ s with streamState := .flushRequested }, io)
  | fastBlock {s : St} {io : Io} (hI : Inv s) (hfm : fastMode s.params) (hop : op ≤ 2) (hrm : s.remainingMetadata = u32Max)
      (hnp : ¬ PadDue s) (hpend : s.pending = [])
      (hst : s.streamState = .processing) (hgo : io.availIn ≠ 0 ∨ op ≠ 0)
      (hnf : ¬ ((fastReq op s io).forceFlush = true ∧ fastBs s io = 0))
      (hcap : ¬ fastCap (fastS1 s io) io (fastInplace s io) < 2) (hin : ¬ fastBs s io > io.input.length)
      (hfit : ¬ (s.lastBytesBits + (o s.nEnc (fastReq op s io)).bits.length) / 8 + 2 > fastCap (fastS1 s io) io (fastInplace s io)) :
      Step o op (s, io) (.fast s.nEnc (fastReq op s io)) ((fastRes o op s io).1, (fastRes o op s io).2)
  | mdEnter {s : St} {io : Io} (hI : Inv s) (hop : op = 3)
      (hentry : (s.remainingMetadata ≠ u32Max ∧ io.availIn = s.remainingMetadata) ∨
                (s.remainingMetadata = u32Max ∧ s.streamState = .processing ∧ io.availIn ≤ 16777216)) :
      Step o op (s, io) (.tau 2) (mdEnter (updateSizeHint s 0) io.availIn, io)
  | mdEnc {s s' : St} {io : Io} {req : Req} {n : Nat} (hM : MdInv n s io) (hop : op = 3) (hpend : s.pending = [])
      (hne : s.inputPos ≠ s.lastFlushPos) (h : encodeData o s 1 false true = .ok (s', true, req)) :
      Step o op (s, io) (encEv o s 1 false true) (s', { io with reqs := io.reqs ++ [req] })
  | mdHead {s : St} {io : Io} {n : Nat} (hM : MdInv n s io) (hop : op = 3) (hpend : s.pending = [])
      (hlf : s.inputPos = s.lastFlushPos) (hst : s.streamState = .metadataHead)
      (hok : ¬ (s.carry.length + 6) / 8 + 8 > 16) :
      Step o op (s, io) (.mdHeader s.remainingMetadata s.lastBytesBits) (mdHeadSt s, io)
  | mdDone {s : St} {io : Io} {n : Nat} (hM : MdInv n s io) (hop : op = 3) (hpend : s.pending = [])
      (hlf : s.inputPos = s.lastFlushPos) (hst : s.streamState = .metadataBody) (hz : s.remainingMetadata = 0) :
      Step o op (s, io) (.tau 3) (mdDoneSt s, io)
  | mdOut {s : St} {io : Io} {n : Nat} (hM : MdInv n s io) (hop : op = 3) (hpend : s.pending = [])
      (hlf : s.inputPos = s.lastFlushPos) (hst : s.streamState = .metadataBody) (hnz : s.remainingMetadata ≠ 0)
      (hao : io.availOut ≠ 0) (hle : ¬ mdOutN s io > io.input.length) :
      Step o op (s, io) (.mdBody (io.input.take (mdOutN s io))) (mdOutSt s io, mdOutIo s io)
  | mdTiny {s : St} {io : Io} {n : Nat} (hM : MdInv n s io) (hop : op = 3) (hpend : s.pending = [])
      (hlf : s.inputPos = s.lastFlushPos) (hst : s.streamState = .metadataBody) (hnz : s.remainingMetadata ≠ 0)
      (hao : io.availOut = 0) (hle : ¬ mdTinyN s > io.input.length) :
      Step o op (s, io) (.mdBody (io.input.take (mdTinyN s))) (mdTinySt s io, mdTinyIo s io)

/- `cases` on a `Step` tries to unify the target configuration with that of `Step.fastBlock` and would
unfold `fastRes` (the whole quality 0/1 block, down to the 64-bit literals) before giving up: proofs by
cases on a step make `fastRes` irreducible locally and open it with this equation -/
theorem fastRes_eq (o : Oracle) (op : Nat) (s : St) (io : Io) :
    fastRes o op s io = fastEncode (fastS1 s io) io (o s.nEnc (fastReq op s io)) (fastReq op s io) (fastBs s io) (fastInplace s io)
      (fastReq op s io).isLast (fastReq op s io).forceFlush := rfl

theorem isFreshInit {s : St} (h : IsFresh s) : s.isInitialized = false := by
  obtain ⟨p, rfl⟩ := h
  rfl

inductive Steps (o : Oracle) (op : Nat) : St × Io → List Ev → St × Io → Prop
  | nil (c : St × Io) : Steps o op c [] c
  | cons {c c1 c2 : St × Io} {e : Ev} {es : List Ev} : Step o op c e c1 → Steps o op c1 es c2 → Steps o op c (e :: es) c2

theorem Steps.one {o : Oracle} {op : Nat} {c c1 : St × Io} {e : Ev} (h : Step o op c e c1) : Steps o op c [e] c1 :=
  .cons h (.nil _)

theorem Steps.append {o : Oracle} {op : Nat} {c c1 c2 : St × Io} {es fs : List Ev}
    (h1 : Steps o op c es c1) (h2 : Steps o op c1 fs c2) : Steps o op c (es ++ fs) c2 := by
  induction h1 with
  | nil _ => exact h2
  | cons hs _ ih => exact .cons hs (ih h2)

theorem Steps.induct {o : Oracle} {op : Nat} (P : St × Io → Prop)
    (hstep : ∀ c e c1, P c → Step o op c e c1 → P c1)
    {c c1 : St × Io} {es : List Ev} (h : Steps o op c es c1) (h0 : P c) : P c1 := by
  induction h with
  | nil _ => exact h0
  | cons hs _ ih => exact ih (hstep _ _ _ h0 hs)

end BV.Stream
