/-
C14, the stages of one iteration of `process_command_queue` other than the literals, and `step` as their sequence
(`step_some`); `OracleOK` ties the recoder's dictionary callee to the word oracle of the spec side.
-/
import BV.Lemmas.RecoderDist
import BV.Lemmas.RecoderLit
namespace BV.Recoder
open BV.PrefixArith

theorem dictSizeBits_le (cl : Nat) : dictSizeBits.getD cl 0 ≤ 11 := by
  have hall : ∀ x ∈ dictSizeBits, x ≤ 11 := by decide
  rw [List.getD_eq_getElem?_getD]
  cases h : dictSizeBits[cl]? with
  | none => exact Nat.zero_le _
  | some x => exact hall x (List.mem_of_getElem? h)

theorem bumpBlock_spec (w : WordOracle) (window : Nat) (mb : Bytes) (sp : Split) (mk : Nat → IR)
    (hmk : ∀ t, Emits w window mb [mk t] []) (sub counter : Nat) (out : List IR) (sub' counter' : Nat) (out' : List IR)
    (h : bumpBlock sp mk sub counter out = some (sub', counter', out')) :
    ∃ xs, out' = out ++ xs ∧ Emits w window mb xs [] := by
  unfold bumpBlock at h
  split at h
  · cases h
  simp only at h
  split at h
  · split at h
    · split at h
      · cases h; exact ⟨[mk _], rfl, hmk _⟩
      · cases h
    · cases h; exact ⟨[], by simp, Emits.nil w window mb⟩
  · cases h; exact ⟨[], by simp, Emits.nil w window mb⟩

/-- relation between the recoder's dictionary callee (`TransformDictionaryWord` on the word found at
`dictionary_offset`) and the (word length, word id, transform) oracle of a consumer / of the RFC -/
structure OracleOK (expand : Nat → Nat → Option Bytes) (w : WordOracle) : Prop where
  agree : ∀ cl off, 4 ≤ cl → cl ≤ 24 →
    expand cl off = w cl (off % 2 ^ (dictSizeBits.getD cl 0)) (off / 2 ^ (dictSizeBits.getD cl 0))
  small : ∀ ws id tr word, w ws id tr = some word → tr < 256 ∧ word.length < 256

/-- the `% 256` and `% 2 ^ 32` are the command's `u8` / `u32` fields; none truncates (`OracleOK.small`, `cl ≤ 24`, `dictSizeBits_le`) -/
theorem Emits.dict {expand : Nat → Nat → Option Bytes} {w : WordOracle} (hO : OracleOK expand w) (window : Nat)
    (mb : Bytes) {cl off : Nat} {word : Bytes} (h4 : 4 ≤ cl) (h24 : cl ≤ 24) (hw : expand cl off = some word) :
    Emits w window mb [IR.dict (cl % 256) (off / 2 ^ dictSizeBits.getD cl 0 % 256) (word.length % 256)
      (off % 2 ^ dictSizeBits.getD cl 0 % 2 ^ 32)] word := by
  rw [hO.agree cl off h4 h24] at hw
  obtain ⟨htr, hwl⟩ := hO.small _ _ _ _ hw
  have hid : off % 2 ^ dictSizeBits.getD cl 0 < 2 ^ 32 :=
    Nat.lt_of_lt_of_le (Nat.mod_lt _ (Nat.two_pow_pos _))
      (Nat.pow_le_pow_right (by decide) (Nat.le_trans (dictSizeBits_le cl) (by decide)))
  intro o
  simp only [replayIR]
  rw [Nat.mod_eq_of_lt (by omega : cl < 256), Nat.mod_eq_of_lt htr, Nat.mod_eq_of_lt hwl, Nat.mod_eq_of_lt hid, hw]
  simp

section
variable {e : Env} {cache : List Int} {interim : Pair} {mbLen : Nat} {out : List IR} {idx : Nat} {off : Int}
  {fd maxd copyLen : Nat}

theorem copyPart_copy (h : fd ≤ maxd) :
    copyPart e cache interim mbLen out idx off fd maxd copyLen =
      some (min mbLen copyLen, mbLen - min mbLen copyLen,
        if idx ≠ 1 ∨ off ≠ 0 then toI32 fd :: cache.take 3 else cache,
        if min mbLen copyLen ≠ 0 then out ++ [IR.copy (fd % 2 ^ 32) (min mbLen copyLen % 2 ^ 32)] else out) := by
  unfold copyPart
  rw [if_neg (by omega)]

/-- what a static dictionary reference that does not panic returns; the three indices are: bytes taken, `mb_len` left, IR -/
inductive DictPart (e : Env) (interim : Pair) (mbLen : Nat) (out : List IR) (id copyLen : Nat) : Nat → Nat → List IR → Prop
  | fits (word : Bytes) : e.expand copyLen id = some word → word.length ≤ mbLen →
      word = (interim.splitAt word.length).1.bytes →
      DictPart e interim mbLen out id copyLen word.length (mbLen - word.length)
        (out ++ [IR.dict (copyLen % 256) (id / 2 ^ dictSizeBits.getD copyLen 0 % 256) (word.length % 256)
          (id % 2 ^ dictSizeBits.getD copyLen 0 % 2 ^ 32)])
  | cut (word : Bytes) : e.expand copyLen id = some word → mbLen < word.length →
      DictPart e interim mbLen out id copyLen word.length 0
        (if mbLen ≠ 0 then out ++ pushLiterals false (interim.splitAt mbLen).1 else out)

theorem copyPart_dict {actual mbLen' : Nat} {cache' : List Int} {out' : List IR} (h : maxd < fd)
    (hm : copyPart e cache interim mbLen out idx off fd maxd copyLen = some (actual, mbLen', cache', out')) :
    4 ≤ copyLen ∧ copyLen ≤ 24 ∧ cache' = cache ∧ DictPart e interim mbLen out (fd - maxd - 1) copyLen actual mbLen' out' := by
  unfold copyPart at hm
  rw [if_pos h] at hm
  by_cases hcl : copyLen < 4 ∨ copyLen ≥ 25
  · rw [if_pos hcl] at hm; cases hm
  rw [if_neg hcl] at hm
  simp only at hm
  split at hm
  · cases hm
  split at hm
  · cases hm
  rename_i word hw
  refine ⟨by omega, by omega, ?_⟩
  by_cases hfit : word.length ≤ mbLen
  · rw [if_pos hfit] at hm
    by_cases heq : word = (interim.splitAt word.length).1.bytes
    · rw [if_pos heq] at hm; cases hm; exact ⟨rfl, .fits word hw hfit heq⟩
    · rw [if_neg heq] at hm; cases hm
  · rw [if_neg hfit] at hm
    have key := DictPart.cut (out := out) (interim := interim) word hw (Nat.lt_of_not_le hfit)
    by_cases hz : mbLen ≠ 0
    · rw [if_pos hz] at hm key; cases hm; exact ⟨rfl, key⟩
    · rw [if_neg hz] at hm key; cases hm
      obtain rfl : mbLen = 0 := by omega
      exact ⟨rfl, key⟩

end

theorem step_some {e : Env} {s s' : St} {cmd : Cmd} {k : Nat} (hk : min (cmd.insertLen % 2 ^ 32) s.mbLen = k)
    (h : step e s cmd = some s') :
    ∃ idx off fd lsub lc mbLen1 out1 actual mbLen2 cache2 out2 csub cc out3 dsub dc out4,
      distanceIndexAndOffset cmd e.dp = some (idx, off) ∧ finalDistance s.cache idx off = some fd ∧
      litPart e s (s.iter.splitAt k).1 = some (lsub, lc, mbLen1, out1) ∧
      copyPart e s.cache (s.iter.splitAt k).2 mbLen1 out1 idx off fd
        (min (s.nbe + (s.iter.splitAt k).1.len) (windowSize e.lgwin)) (copyLenCode cmd.copyLenField) =
          some (actual, mbLen2, cache2, out2) ∧
      bumpBlock e.btc IR.bsc s.csub s.cc out2 = some (csub, cc, out3) ∧
      (if copyLenCode cmd.copyLenField ≠ 0 ∧ cmd.cmdPrefix ≥ 128 then bumpBlock e.btd IR.bsd s.dsub s.dc out3
        else some (s.dsub, s.dc, out3)) = some (dsub, dc, out4) ∧
      s' = { iter := ((s.iter.splitAt k).2.splitAt actual).2, mbLen := mbLen2,
             nbe := s.nbe + (s.iter.splitAt k).1.len + ((s.iter.splitAt k).2.splitAt actual).1.len,
             cache := cache2, lc := lc, cc := cc, dc := dc, lsub := lsub, csub := csub, dsub := dsub,
             out := out4 } := by
  unfold step at h
  simp only [hk] at h
  split at h
  · cases h
  rename_i idx off hdi
  split at h
  · cases h
  rename_i fd hfd
  split at h
  · cases h
  split at h
  · cases h
  rename_i lsub lc mbLen1 out1 hlp
  split at h
  · cases h
  rename_i actual mbLen2 cache2 out2 hcp
  split at h
  · cases h
  rename_i csub cc out3 hb1
  split at h
  · cases h
  rename_i dsub dc out4 hb2
  exact ⟨idx, off, fd, lsub, lc, mbLen1, out1, actual, mbLen2, cache2, out2, csub, cc, out3, dsub, dc, out4,
    hdi, hfd, hlp, hcp, hb1, hb2, (Option.some.inj h).symm⟩

theorem stepAll_cons_some {e : Env} {s s' : St} {c : Cmd} {cs : List Cmd} :
    stepAll e s (c :: cs) = some s' ↔ ∃ s1, step e s c = some s1 ∧ stepAll e s1 cs = some s' := by
  rw [stepAll]
  cases step e s c <;> simp

end BV.Recoder
