/-
Helper lemmas for C02: totality (no panic, no hang), buffer bounds and the ownership flag of
`CompressMulti`, on top of the concatenator's invariant and the postconditions of its two calls (`stream_sat`,
`finish_sat`).
-/
import BV.Lemmas.MultiStitch
import BV.Lemmas.ConcatStream

namespace BV.Lemmas.Multi
open BV.Multi BV.Multi.Res BV.Concat

def Clean (jobs : Nat → JobRes) (t : Nat) : Prop := ∀ i, i < t → jobs i ≠ .panic ∧ jobs i ≠ .spin

structure AccOk (cap : Nat) (a : Acc) : Prop where
  inv : BV.Concat.Inv a.cat
  le : a.out.length ≤ cap

theorem acc0_ok (cap : Nat) : AccOk cap acc0 := ⟨.new, Nat.zero_le _⟩

theorem stitchOk_total (cap : Nat) (a : Acc) (bytes : List Nat) (h : AccOk cap a) :
    ∃ a', stitchOk cap a bytes = ok a' ∧ AccOk cap a' := by
  obtain ⟨r, hr, hP⟩ := sat_iff.mp
    (stream_sat _ bytes (cap - a.out.length) h.inv.newBrotliFile (started_newBrotliFile a.cat))
  refine ⟨_, by unfold stitchOk; rw [hr], hP.inv, ?_⟩
  have := hP.produced_le
  have := h.le
  simp only [List.length_append]; omega

theorem stitchArm_total (cap : Nat) (a : Acc) (bytes : List Nat) (h : AccOk cap a) :
    ∃ a', stitchArm cap a bytes = ok a' ∧ AccOk cap a' := by
  unfold stitchArm
  cases hr : a.res with
  | ok k => exact stitchOk_total cap a bytes h
  | error e => exact ⟨a, rfl, h⟩

theorem errArm_ok (cap : Nat) (a : Acc) (h : AccOk cap a) : AccOk cap (errArm a) := by
  unfold errArm
  cases a.res with
  | ok k => exact ⟨h.inv, h.le⟩
  | error e => exact h

def joinedFine : Joined → Prop
  | .ok _ => True
  | .err => True
  | _ => False

theorem stitch_total (cap : Nat) : ∀ (js : List Joined) (a : Acc), (∀ j, j ∈ js → joinedFine j) → AccOk cap a →
    ∃ a', stitch cap js a = ok (.inl a') ∧ AccOk cap a' := by
  intro js
  induction js with
  | nil => intro a _ h; exact ⟨a, rfl, h⟩
  | cons j js ih =>
    intro a hj h
    have hjs : ∀ j', j' ∈ js → joinedFine j' := fun j' hm => hj j' (List.mem_cons_of_mem _ hm)
    have hj0 := hj j List.mem_cons_self
    cases j with
    | never => exact absurd hj0 (by simp [joinedFine])
    | execErr => exact absurd hj0 (by simp [joinedFine])
    | ok bytes =>
      obtain ⟨a1, h1, hk1⟩ := stitchArm_total cap a bytes h
      obtain ⟨a', h2, hk2⟩ := ih a1 hjs hk1
      exact ⟨a', by simp only [stitch, h1, bind_ok, h2], hk2⟩
    | err =>
      obtain ⟨a', h2, hk2⟩ := ih (errArm a) hjs (errArm_ok cap a h)
      exact ⟨a', by simp only [stitch, h2], hk2⟩

theorem joined_fine (sp : Spawner) (r : JobRes) (h1 : r ≠ .panic) (h2 : r ≠ .spin) : joinedFine (joined sp r) := by
  cases r <;> simp_all [joined, joinedFine]

theorem onCaller_clean (i : Nat) (r : JobRes) (h1 : r ≠ .panic) (h2 : r ≠ .spin) : onCaller i r = ok r := by
  cases r <;> simp_all [onCaller]

theorem inlineSpawns_clean (jobs : Nat → JobRes) : ∀ (is : List Nat),
    (∀ i, i ∈ is → jobs i ≠ .panic ∧ jobs i ≠ .spin) → inlineSpawns jobs is = ok () := by
  intro is
  induction is with
  | nil => intro _; rfl
  | cons i is ih =>
    intro h
    have hi := h i List.mem_cons_self
    simp only [inlineSpawns, onCaller_clean i (jobs i) hi.1 hi.2, bind_ok]
    exact ih fun j hj => h j (List.mem_cons_of_mem _ hj)

theorem finishUp_total (cap : Nat) (a : Acc) (h : AccOk cap a) :
    ∃ r, finishUp cap a = ok r ∧ r.returned = true ∧ r.out.length ≤ cap := by
  unfold finishUp
  cases hr : a.res with
  | error e => exact ⟨_, rfl, rfl, h.le⟩
  | ok k =>
    obtain ⟨f, hf, hP⟩ := sat_iff.mp (finish_sat a.cat (cap - a.out.length) h.inv)
    have := hP.bound
    have := h.le
    refine ⟨⟨finishRes f.code (a.out ++ f.produced).length, a.out ++ f.produced, true⟩, by simp only [hf], rfl, ?_⟩
    simp only [List.length_append]; omega

theorem stitch_inr (cap : Nat) : ∀ (js : List Joined) (a : Acc) (e : TErr),
    stitch cap js a = ok (.inr e) → Joined.execErr ∈ js ∧ e = .threadExec := by
  intro js
  induction js with
  | nil => intro a e h; simp [stitch] at h
  | cons j js ih =>
    intro a e h
    cases j with
    | never => simp [stitch] at h
    | execErr => simp [stitch] at h; exact ⟨List.mem_cons_self, h.symm⟩
    | ok bytes =>
      simp only [stitch] at h
      obtain ⟨a1, _, h2⟩ := bind_eq_ok h
      obtain ⟨hm, he⟩ := ih a1 e h2
      exact ⟨List.mem_cons_of_mem _ hm, he⟩
    | err =>
      simp only [stitch] at h
      obtain ⟨hm, he⟩ := ih _ e h
      exact ⟨List.mem_cons_of_mem _ hm, he⟩

theorem joined_execErr_iff (sp : Spawner) (r : JobRes) : joined sp r = .execErr ↔ sp = .threads ∧ r = .panic := by
  cases r <;> cases sp <;> simp [joined]

end BV.Lemmas.Multi
