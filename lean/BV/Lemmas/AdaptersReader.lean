/-
C11, reader half: `CompressorReaderCustomIo::{read, copy_to_front}` over an arbitrary encoder
oracle and an arbitrary script of the wrapped reader.

`short_reads_transparent`, strong form: two readers that differ only in the script of the wrapped
reader (both scripts free of hard errors and premature `Ok(0)`) make the same encoder calls, return
the same results and stay related — by simulation.
-/
import BV.Lemmas.AdaptersFill
import BV.Lemmas.AdaptersHyp
import BV.Lemmas.AdaptersLoop

namespace BV.Adapters
variable {σ : Type}

def Reader.WF (r : Reader σ) : Prop := r.inputOffset ≤ r.inputLen ∧ r.inputLen ≤ r.buf.length

def Reader.window (r : Reader σ) : Bytes := (r.buf.take r.inputLen).drop r.inputOffset

def Reader.total (r : Reader σ) : Bytes := fed r.elog ++ r.window ++ r.src.data

/-- the state in which the refill loop does not touch the wrapped reader unless the window is empty -/
def Reader.Full (r : Reader σ) : Prop := r.eof = true ∨ r.inputLen = r.buf.length ∨ r.inputLen = r.inputOffset

theorem Reader.window_length (r : Reader σ) (h : r.WF) : r.window.length = r.inputLen - r.inputOffset := by
  have := h.2
  simp only [Reader.window, List.length_drop, List.length_take]; omega

theorem Reader.input_eq_window (r : Reader σ) (h : r.WF) :
    (r.buf.drop r.inputOffset).take (r.inputLen - r.inputOffset) = r.window := by
  unfold Reader.window
  rw [List.take_drop]
  congr 2
  have := h.1; omega

theorem Reader.Full_of_window_nil (r : Reader σ) (h : r.WF) (hw : r.window = []) : r.Full := by
  have : r.inputLen - r.inputOffset = 0 := by rw [← Reader.window_length r h, hw]; rfl
  exact Or.inr (Or.inr (by have := h.1; omega))

theorem Reader.new_WF (b : Nat) (e : σ) (src : Source) : (Reader.new b e src).WF := by
  simp [Reader.WF, Reader.new]

theorem Reader.new_Full (b : Nat) (e : σ) (src : Source) : (Reader.new b e src).Full := Or.inr (Or.inr rfl)

/-- the branch condition of `copy_to_front` (reader.rs) under which the window moves to the front -/
def Reader.compacts (r : Reader σ) : Prop :=
  r.inputOffset = r.buf.length ∨ (r.inputOffset + 256 > r.buf.length ∧ r.inputLen - r.inputOffset < r.inputOffset)

structure Reader.Fronted (r r' : Reader σ) : Prop where
  wf : r'.WF
  window : r'.window = r.window
  bufLen : r'.buf.length = r.buf.length
  enc : r'.enc = r.enc
  elog : r'.elog = r.elog
  src : r'.src = r.src
  eof : r'.eof = r.eof
  errInvalid : r'.errInvalid = r.errInvalid
  totalOut : r'.totalOut = r.totalOut
  moved : r.compacts → r'.inputOffset = 0 ∧ r'.inputLen = r.inputLen - r.inputOffset ∧ r'.buf.take r'.inputLen = r.window
  kept : ¬ r.compacts → r'.inputOffset = r.inputOffset ∧ r'.inputLen = r.inputLen ∧ r'.buf = r.buf

theorem Reader.copyToFront_spec (r : Reader σ) (h : r.WF) : ∃ r', r.copyToFront = some r' ∧ Reader.Fronted r r' := by
  have hwl := Reader.window_length r h
  have hin := Reader.input_eq_window r h
  obtain ⟨h1, h2⟩ := h
  unfold Reader.copyToFront
  rw [if_neg (Nat.not_lt.mpr h1)]
  simp only
  by_cases c1 : r.inputOffset = r.buf.length
  · rw [if_pos c1]
    have hw0 : r.window = [] := List.eq_nil_of_length_eq_zero (by rw [hwl]; omega)
    refine ⟨_, rfl, ⟨Nat.le_refl _, Nat.zero_le _⟩, ?_, rfl, rfl, rfl, rfl, rfl, rfl, rfl,
      fun _ => ⟨rfl, ?_, ?_⟩, fun hn => absurd (Or.inl c1) hn⟩
    · rw [hw0]; rfl
    · show 0 = _; omega
    · rw [hw0]; rfl
  · rw [if_neg c1]
    by_cases c2 : r.inputOffset + 256 > r.buf.length ∧ r.inputLen - r.inputOffset < r.inputOffset
    · rw [if_pos c2, if_neg (by rw [List.length_drop]; omega), hin]
      have hfront : ∀ rest : Bytes, (r.window ++ rest).take (r.inputLen - r.inputOffset) = r.window :=
        fun rest => List.take_left' hwl
      have hlen : (r.window ++ r.buf.drop (r.inputLen - r.inputOffset)).length = r.buf.length := by
        rw [List.length_append, hwl, List.length_drop]; omega
      refine ⟨_, rfl, ⟨Nat.zero_le _, ?_⟩, ?_, hlen, rfl, rfl, rfl, rfl, rfl, rfl,
        fun _ => ⟨rfl, rfl, hfront _⟩, fun hn => absurd (Or.inr c2) hn⟩
      · show r.inputLen - r.inputOffset ≤ _; rw [hlen]; omega
      · show List.drop 0 (List.take _ _) = _; rw [List.drop_zero]; exact hfront _
    · rw [if_neg c2]
      exact ⟨_, rfl, ⟨h1, h2⟩, rfl, rfl, rfl, rfl, rfl, rfl, rfl, rfl,
        fun hc => absurd hc (not_or.mpr ⟨c1, c2⟩), fun _ => ⟨rfl, rfl, rfl⟩⟩

/-- `copy_to_front` as `read` uses it — only once the window is empty — keeps the buffer "full or
empty"; called with bytes still waiting (as the pub method allows) it compacts them to the front and
the next refill tops the load up: that is why `read` guards the call with `avail_in == 0` -/
theorem copyToFront_Full (r r' : Reader σ) (hF : r.Full) (hempty : r.inputLen = r.inputOffset)
    (h : r.copyToFront = some r') : r'.Full := by
  unfold Reader.copyToFront at h
  split at h
  · cases h
  · simp only at h
    split at h
    · cases h; exact Or.inr (Or.inr rfl)
    · split at h
      · split at h
        · cases h
        · cases h; exact Or.inr (Or.inr (by simp only [hempty, Nat.sub_self]))
      · cases h; exact hF

structure Reader.Filled (r r1 : Reader σ) (e : Option Nat) (moved : Bytes) (newL : List LogE) : Prop where
  wf : r1.WF
  inputOffset : r1.inputOffset = r.inputOffset
  bufLen : r1.buf.length = r.buf.length
  enc : r1.enc = r.enc
  elog : r1.elog = r.elog
  errInvalid : r1.errInvalid = r.errInvalid
  totalOut : r1.totalOut = r.totalOut
  tail : r1.src.tail = r.src.tail
  eofKept : r.eof = true → r1.eof = true
  loopOver : e = none → ¬(r1.inputLen < r.buf.length ∧ r1.eof = false)
  window : r1.window = r.window ++ moved
  data : r.src.data = moved ++ r1.src.data
  inputLen : r1.inputLen = r.inputLen + moved.length
  log : r1.src.log = newL ++ r.src.log
  errLog : ∀ c, e = some c → ∃ x ∈ newL, x.res = .err c
  okLog : e = none → ∀ x ∈ newL, ∀ c, x.res ≠ .err c

theorem Reader.fill_spec (r : Reader σ) (h : r.WF) {r1 : Reader σ} {e : Option Nat} (hf : r.fill = (r1, e)) :
    ∃ (moved : Bytes) (newL : List LogE), Reader.Filled r r1 e moved newL := by
  obtain ⟨moved, newL, k⟩ := fillBuf_spec r.buf r.inputLen r.eof r.src 0 h.2
  cases hf
  refine ⟨moved, newL, ⟨?_, ?_⟩, rfl, k.bufLen, rfl, rfl, rfl, rfl, k.tail, k.eofKept, k.loopOver, ?_, k.data, k.lenEq, k.log,
    fun c hc => ⟨_, k.errLog c hc, rfl⟩, k.okLog⟩
  · show r.inputOffset ≤ (fillBuf r.buf r.inputLen r.eof r.src 0).len
    rw [k.lenEq]; have := h.1; omega
  · show (fillBuf r.buf r.inputLen r.eof r.src 0).len ≤ (fillBuf r.buf r.inputLen r.eof r.src 0).buf.length
    rw [k.bufLen]; exact k.lenLe
  · show ((fillBuf r.buf r.inputLen r.eof r.src 0).buf.take (fillBuf r.buf r.inputLen r.eof r.src 0).len).drop r.inputOffset = _
    rw [k.filled, Reader.window, List.drop_append_of_le_length]
    rw [List.length_take]; have := h.1; have := h.2; omega

theorem Reader.Filled.total {r r1 : Reader σ} {e : Option Nat} {moved : Bytes} {newL : List LogE}
    (f : Reader.Filled r r1 e moved newL) : r1.total = r.total := by
  simp only [Reader.total, f.elog, f.window, f.data, List.append_assoc]

theorem Reader.fill_no_top_up (r : Reader σ) (hwf : r.WF) (hF : r.Full) (hw : r.window ≠ []) :
    r.fill = ({ r with bufAcc := r.bufAcc + 1 }, none) := by
  have hcond : ¬ (r.inputLen < r.buf.length ∧ r.eof = false) := by
    rcases hF with h | h | h
    · intro hh; rw [h] at hh; cases hh.2
    · intro hh; omega
    · exfalso
      apply hw
      have := Reader.window_length r hwf
      exact List.eq_nil_of_length_eq_zero (by rw [this, h]; exact Nat.sub_self _)
  have hfb : fillBuf r.buf r.inputLen r.eof r.src 0 = ⟨r.buf, r.inputLen, r.eof, r.src, none, 0⟩ := by
    rw [fillBuf]; rw [dif_neg hcond]
  unfold Reader.fill
  simp [hfb]

theorem Reader.Filled.isFull {r r1 : Reader σ} {moved : Bytes} {newL : List LogE}
    (f : Reader.Filled r r1 none moved newL) : r1.Full := by
  have := f.loopOver rfl
  by_cases he : r1.eof = true
  · exact Or.inl he
  · right; left
    have he' : r1.eof = false := by simpa using he
    have h1 : ¬ r1.inputLen < r.buf.length := fun hh => this ⟨hh, he'⟩
    have h2 := f.wf.2
    rw [f.bufLen] at h2 ⊢
    omega

def Reader.nextOp (r1 : Reader σ) : Op := feedOp (r1.inputLen - r1.inputOffset)

structure Reader.Stepped (E : Enc σ) (cap : Nat) (r1 : Reader σ) (st : σ × EncAns) (r2 : Reader σ) : Prop where
  wf : r2.WF
  window : r2.window = r1.window.drop st.2.consumed
  enc : r2.enc = st.1
  elog : r2.elog = ⟨r1.nextOp, r1.window, cap, st.2, E.hasMore st.1, E.isFinished st.1⟩ :: r1.elog
  src : r2.src = r1.src
  eof : r2.eof = r1.eof
  errInvalid : r2.errInvalid = r1.errInvalid
  buf : r2.buf = r1.buf
  inputLen : r2.inputLen = r1.inputLen
  inputOffset : r2.inputOffset = r1.inputOffset + st.2.consumed
  totalOut : r2.totalOut = (if st.2.produced.length > 0 then st.2.tot else r1.totalOut)

theorem Reader.afterStep_spec (E : Enc σ) (cap : Nat) (r1 : Reader σ) (h : r1.WF) (st : σ × EncAns)
    (hst : st = E.step r1.enc r1.nextOp r1.window cap) (hc : st.2.consumed ≤ r1.window.length) :
    Reader.Stepped E cap r1 st (r1.afterStep E cap) := by
  have hwl := Reader.window_length r1 h
  subst hst
  unfold Reader.afterStep
  simp only [Reader.input_eq_window r1 h]
  refine ⟨⟨?_, h.2⟩, by simp only [Reader.window, List.drop_drop]; rfl, rfl, rfl, rfl, rfl, rfl, rfl, rfl, rfl, rfl⟩
  have := h.1
  exact (by omega : r1.inputOffset + (E.step r1.enc r1.nextOp r1.window cap).2.consumed ≤ r1.inputLen)

theorem Reader.Stepped.total {E : Enc σ} {cap : Nat} {r1 r2 : Reader σ} {st : σ × EncAns}
    (k : Reader.Stepped E cap r1 st r2) : r2.total = r1.total := by
  simp only [Reader.total, k.elog, k.window, k.src, fed_cons, List.append_assoc]
  rw [← List.append_assoc (r1.window.take st.2.consumed), List.take_append_drop]

def Reader.settle (r2 : Reader σ) : Option (Reader σ) :=
  if r2.inputLen - r2.inputOffset = 0 then r2.copyToFront else some r2

def Reader.verdict (E : Enc σ) (ans : EncAns) (r3 : Reader σ) : RIter σ :=
  if ans.ok = false then
    (if r3.errInvalid then .stop { r3 with errInvalid := false } (.done (.error .invalidData)) else .stop r3 .panic)
  else if E.isFinished r3.enc then .stop r3 (.done (.ok ans.produced))
  else if ans.produced.length ≠ 0 then .stop r3 (.done (.ok ans.produced))
  else .cont r3

theorem Reader.verdict_cont {E : Enc σ} {ans : EncAns} {r3 r' : Reader σ} (h : Reader.verdict E ans r3 = .cont r') :
    r' = r3 ∧ ans.ok = true ∧ E.isFinished r3.enc = false ∧ ans.produced = [] := by
  unfold Reader.verdict at h
  split at h
  · split at h <;> cases h
  · next hok =>
    split at h
    · cases h
    · next hfin =>
      split at h
      · cases h
      · next hp =>
        cases h
        exact ⟨rfl, by simpa using hok, by simpa using hfin, List.eq_nil_of_length_eq_zero (by simpa using hp)⟩

theorem Reader.verdict_stop {E : Enc σ} {ans : EncAns} {r3 r' : Reader σ} {o : Out (Except Err Bytes)}
    (h : Reader.verdict E ans r3 = .stop r' o) :
    o ≠ .livelock ∧ (o = .panic → r3.errInvalid = false) ∧
    ∀ bs, o = .done (.ok bs) →
      r' = r3 ∧ bs = ans.produced ∧ ans.ok = true ∧ (E.isFinished r3.enc = true ∨ bs ≠ []) := by
  unfold Reader.verdict at h
  split at h
  · split at h
    · cases h; exact ⟨by simp, by simp, by simp⟩
    · next hne => cases h; exact ⟨by simp, fun _ => by simpa using hne, by simp⟩
  · next hok =>
    have hok' : ans.ok = true := by simpa using hok
    split at h
    · next hfin =>
      cases h
      refine ⟨by simp, by simp, fun bs hb => ?_⟩
      cases hb; exact ⟨rfl, rfl, hok', Or.inl hfin⟩
    · split at h
      · next hp =>
        cases h
        refine ⟨by simp, by simp, fun bs hb => ?_⟩
        cases hb
        exact ⟨rfl, rfl, hok', Or.inr (fun hn => hp (by rw [hn]; rfl))⟩
      · cases h

theorem Reader.iter_fill_err (E : Enc σ) (cap : Nat) (r r1 : Reader σ) (c : Nat) (hf : r.fill = (r1, some c)) :
    Reader.iter E cap r = .stop r1 (.done (.error (.inner c))) := by
  unfold Reader.iter; rw [hf]

structure Reader.Settled (E : Enc σ) (cap : Nat) (r1 : Reader σ) (st : σ × EncAns) (r' : Reader σ) : Prop where
  wf : r'.WF
  full : r'.Full
  window : r'.window = r1.window.drop st.2.consumed
  enc : r'.enc = st.1
  elog : r'.elog = ⟨r1.nextOp, r1.window, cap, st.2, E.hasMore st.1, E.isFinished st.1⟩ :: r1.elog
  src : r'.src = r1.src
  eof : r'.eof = r1.eof
  errInvalid : r'.errInvalid = r1.errInvalid
  total : r'.total = r1.total

theorem Reader.iter_of_fill (E : Enc σ) (cap : Nat) {r r1 : Reader σ} (hf : r.fill = (r1, none)) (hwf : r1.WF) :
    Reader.iter E cap r =
      if (E.step r1.enc r1.nextOp r1.window cap).2.consumed > r1.window.length ∨
          (E.step r1.enc r1.nextOp r1.window cap).2.produced.length > cap then .stop (r1.afterStep E cap) .panic
      else match (r1.afterStep E cap).settle with
        | none => .stop (r1.afterStep E cap) .panic
        | some r3 => Reader.verdict E (E.step r1.enc r1.nextOp r1.window cap).2 r3 := by
  have hwl := Reader.window_length r1 hwf
  have hs : (r1.afterStep E cap).settle =
      if r1.inputLen - r1.inputOffset - (E.step r1.enc r1.nextOp r1.window cap).2.consumed = 0
      then (r1.afterStep E cap).copyToFront else some (r1.afterStep E cap) := by
    simp only [Reader.settle, Reader.afterStep, Reader.input_eq_window r1 hwf, Nat.sub_add_eq]; rfl
  unfold Reader.iter
  rw [hf, hs]
  simp only [if_neg (Nat.not_lt.mpr hwf.1), Reader.input_eq_window r1 hwf]
  show (if _ ∨ _ ∨ r1.window.length ≠ r1.inputLen - r1.inputOffset then _ else _) = _
  simp only [hwl, ne_eq, not_true_eq_false, or_false, Reader.verdict, Bool.not_eq_true']
  rfl

theorem Reader.iter_cases (E : Enc σ) (cap : Nat) (r r1 : Reader σ) (h : r.WF) (hf : r.fill = (r1, none))
    (st : σ × EncAns) (hst : st = E.step r1.enc r1.nextOp r1.window cap) :
    (¬(st.2.consumed ≤ r1.window.length ∧ st.2.produced.length ≤ cap) ∧ ∃ r2, Reader.iter E cap r = .stop r2 .panic) ∨
    (st.2.consumed ≤ r1.window.length ∧ st.2.produced.length ≤ cap ∧
      ∃ r3 : Reader σ, Reader.Settled E cap r1 st r3 ∧ Reader.iter E cap r = Reader.verdict E st.2 r3) := by
  obtain ⟨_, _, f⟩ := Reader.fill_spec r h hf
  have wf1 := f.wf
  have hwl := Reader.window_length r1 wf1
  rw [Reader.iter_of_fill E cap hf wf1, ← hst]
  by_cases hs : st.2.consumed ≤ r1.window.length ∧ st.2.produced.length ≤ cap
  · refine Or.inr ⟨hs.1, hs.2, ?_⟩
    rw [if_neg (by omega)]
    have a := Reader.afterStep_spec E cap r1 wf1 st hst hs.1
    have key : ∃ r3, (r1.afterStep E cap).settle = some r3 ∧ Reader.Settled E cap r1 st r3 := by
      unfold Reader.settle
      split
      · next hz =>
        obtain ⟨r', c1, c⟩ := Reader.copyToFront_spec (r1.afterStep E cap) a.wf
        have hw : r'.window = [] := by
          rw [c.window, a.window]
          exact List.eq_nil_of_length_eq_zero (by rw [List.length_drop, hwl]; rw [a.inputLen, a.inputOffset] at hz; omega)
        exact ⟨r', c1, c.wf, Reader.Full_of_window_nil r' c.wf hw, c.window.trans a.window, c.enc.trans a.enc,
          c.elog.trans a.elog, c.src.trans a.src, c.eof.trans a.eof, c.errInvalid.trans a.errInvalid,
          by simp only [Reader.total, c.elog, c.window, c.src]; exact a.total⟩
      · refine ⟨_, rfl, a.wf, ?_, a.window, a.enc, a.elog, a.src, a.eof, a.errInvalid, a.total⟩
        rcases f.isFull with hF | hF | hF
        · exact Or.inl (a.eof.trans hF)
        · exact Or.inr (Or.inl (by rw [a.inputLen, a.buf]; exact hF))
        · exact Or.inr (Or.inr (by rw [a.inputLen, a.inputOffset]; have := hs.1; omega))
    obtain ⟨r3, k0, k⟩ := key
    rw [k0]
    exact ⟨r3, k, rfl⟩
  · exact Or.inl ⟨hs, by rw [if_pos (by omega)]; exact ⟨_, rfl⟩⟩

structure Reader.IterOk (E : Enc σ) (cap : Nat) (r r1 : Reader σ) (st : σ × EncAns) (r' : Reader σ) : Prop where
  fill : r.fill = (r1, none)
  ans : st = E.step r1.enc r1.nextOp r1.window cap
  consumed : st.2.consumed ≤ r1.window.length
  produced : st.2.produced.length ≤ cap
  ok : st.2.ok = true
  settled : Reader.Settled E cap r1 st r'

theorem Reader.iter_cont (E : Enc σ) (cap : Nat) (r r' : Reader σ) (h : r.WF) (hi : Reader.iter E cap r = .cont r') :
    ∃ (r1 : Reader σ) (st : σ × EncAns), Reader.IterOk E cap r r1 st r' ∧ st.2.produced = [] ∧ E.isFinished st.1 = false := by
  cases hfl : r.fill with
  | mk r1 o =>
    cases o with
    | some c => rw [Reader.iter_fill_err E cap r r1 c hfl] at hi; cases hi
    | none =>
      rcases Reader.iter_cases E cap r r1 h hfl _ rfl with ⟨_, r2, hpanic⟩ | ⟨hcons, hprod, r3, k, hverd⟩
      · rw [hpanic] at hi; cases hi
      · rw [hverd] at hi
        obtain ⟨rfl, hok, hfin, hp⟩ := Reader.verdict_cont hi
        exact ⟨r1, _, ⟨hfl, rfl, hcons, hprod, hok, k⟩, hp, by rw [← k.enc]; exact hfin⟩

structure Reader.Stopped (E : Enc σ) (cap : Nat) (r r' : Reader σ) (o : Out (Except Err Bytes)) : Prop where
  live : o ≠ .livelock
  panic : o = .panic → EncSane E → r.errInvalid = false
  done : ∀ bs, o = .done (.ok bs) → ∃ (r1 : Reader σ) (st : σ × EncAns),
    Reader.IterOk E cap r r1 st r' ∧ bs = st.2.produced ∧ (E.isFinished st.1 = true ∨ bs ≠ [])

theorem Reader.iter_stop (E : Enc σ) (cap : Nat) (r r' : Reader σ) (o : Out (Except Err Bytes)) (h : r.WF)
    (hi : Reader.iter E cap r = .stop r' o) : Reader.Stopped E cap r r' o := by
  cases hfl : r.fill with
  | mk r1 oo =>
    obtain ⟨_, _, f⟩ := Reader.fill_spec r h hfl
    cases oo with
    | some c =>
      rw [Reader.iter_fill_err E cap r r1 c hfl] at hi; cases hi
      exact ⟨by simp, by simp, by simp⟩
    | none =>
      rcases Reader.iter_cases E cap r r1 h hfl _ rfl with ⟨hns, r2, hpanic⟩ | ⟨hcons, hprod, r3, k, hverd⟩
      · rw [hpanic] at hi; cases hi
        exact ⟨by simp, fun _ hs => absurd ⟨hs.consumed_le _ _ _ _, hs.produced_le _ _ _ _⟩ hns, by simp⟩
      · rw [hverd] at hi
        obtain ⟨hlive, hnopanic, hdone⟩ := Reader.verdict_stop hi
        refine ⟨hlive, fun hp _ => by rw [← f.errInvalid, ← k.errInvalid]; exact hnopanic hp, fun bs hb => ?_⟩
        obtain ⟨rfl, rfl, hok, hfb⟩ := hdone bs hb
        exact ⟨r1, _, ⟨hfl, rfl, hcons, hprod, hok, k⟩, rfl, by rw [← k.enc]; exact hfb⟩

theorem readLoop_fuelLoop (E : Enc σ) (cap : Nat) :
    FuelLoop (Reader.readLoop E cap) (fun r t => Reader.iter E cap r = .stop t.1 t.2)
      (fun r r' => Reader.iter E cap r = .cont r') (fun r => (r, .livelock)) :=
  ⟨fun _ => rfl, fun fuel r t h => by simp only [Reader.readLoop, h], fun fuel r r' h => by simp only [Reader.readLoop, h],
    fun r => by
      cases h : Reader.iter E cap r with
      | stop r' o => exact Or.inl ⟨(r', o), rfl⟩
      | cont r' => exact Or.inr ⟨r', rfl⟩⟩

def Reader.todo (r : Reader σ) : Nat := r.src.data.length + r.window.length

def Reader.measure (rank : σ → Nat) (r : Reader σ) : Nat × Nat × Nat := (r.todo, eofFlag r.eof, rank r.enc)

theorem Reader.iter_cont_measure (E : Enc σ) (ops : Op → Prop) (rank : σ → Nat) (hp : EncProgress E ops rank)
    (hops : ops .process ∧ ops .finish) (cap : Nat) (hcap : 0 < cap)
    (r r' : Reader σ) (h : r.WF) (hi : Reader.iter E cap r = .cont r') :
    r'.WF ∧ lex3.rel (Reader.measure rank r') (Reader.measure rank r) := by
  obtain ⟨r1, st, k, _, hnotfin⟩ := Reader.iter_cont E cap r r' h hi
  obtain ⟨moved, newL, f⟩ := Reader.fill_spec r h k.fill
  have hcons := k.consumed
  have hok := k.ok
  refine ⟨k.settled.wf, lex3_feed (T1 := r1.todo) (F1 := eofFlag r1.eof) (k := st.2.consumed) ?_ (eofFlag_mono f.eofKept) ?_ ?_ ?_ ?_⟩
  · simp only [Reader.todo, f.window, f.data, List.length_append]; omega
  · simp only [Reader.todo, k.settled.window, k.settled.src, List.length_drop]; omega
  · rw [k.settled.eof]
  · simp only [Reader.todo]; omega
  · intro hc
    have hop : r1.nextOp = feedOp r1.window.length := by rw [Reader.window_length r1 f.wf]; rfl
    rw [k.settled.enc, ← f.enc, k.ans, hop]
    rw [k.ans, hop] at hok hnotfin hc
    exact hp.feed hops r1.enc r1.window cap hcap hok hc hnotfin

theorem Reader.read_eq (E : Enc σ) (fuel : Nat) (r : Reader σ) (hwf : r.WF) {cap : Nat} (hc : cap ≠ 0) :
    Reader.read E fuel r cap = Reader.readLoop E cap fuel r := by
  unfold Reader.read
  rw [if_neg hc, if_neg (Nat.not_lt.mpr hwf.1)]

structure Reader.Run (cap : Nat) (r r' : Reader σ) (newE : List ERec) (newL : List LogE) : Prop where
  wf : r'.WF
  full : r'.Full
  total : r'.total = r.total
  errInvalid : r'.errInvalid = r.errInvalid
  tail : r'.src.tail = r.src.tail
  elog : r'.elog = newE ++ r.elog
  calls : ∀ rc ∈ newE, rc.cap = cap ∧ rc.ans.ok = true ∧ rc.ans.produced.length ≤ cap
  log : r'.src.log = newL ++ r.src.log
  noErr : ∀ x ∈ newL, ∀ c, x.res ≠ .err c

theorem Reader.Run.trans {cap : Nat} {r r1 r2 : Reader σ} {e1 e2 : List ERec} {l1 l2 : List LogE}
    (h1 : Reader.Run cap r r1 e1 l1) (h2 : Reader.Run cap r1 r2 e2 l2) : Reader.Run cap r r2 (e2 ++ e1) (l2 ++ l1) :=
  ⟨h2.wf, h2.full, h2.total.trans h1.total, h2.errInvalid.trans h1.errInvalid, h2.tail.trans h1.tail,
    by rw [h2.elog, h1.elog, List.append_assoc], List.forall_mem_append.mpr ⟨h2.calls, h1.calls⟩,
    by rw [h2.log, h1.log, List.append_assoc], List.forall_mem_append.mpr ⟨h2.noErr, h1.noErr⟩⟩

theorem Reader.IterOk.run {E : Enc σ} {cap : Nat} {r r1 r' : Reader σ} {st : σ × EncAns} (hwf : r.WF)
    (k : Reader.IterOk E cap r r1 st r') :
    ∃ newL, Reader.Run cap r r' [⟨r1.nextOp, r1.window, cap, st.2, E.hasMore st.1, E.isFinished st.1⟩] newL := by
  obtain ⟨moved, newL, f⟩ := Reader.fill_spec r hwf k.fill
  exact ⟨newL, k.settled.wf, k.settled.full, k.settled.total.trans f.total, k.settled.errInvalid.trans f.errInvalid,
    by rw [k.settled.src, f.tail], by rw [k.settled.elog, f.elog]; rfl,
    fun rc hrc => by cases List.mem_singleton.mp hrc; exact ⟨rfl, k.ok, k.produced⟩, by rw [k.settled.src, f.log],
    f.okLog rfl⟩

structure Reader.ReturnedOk (E : Enc σ) (cap : Nat) (r r' : Reader σ) (bs : Bytes) (newE : List ERec) (newL : List LogE) :
    Prop where
  run : Reader.Run cap r r' newE newL
  out : emitted newE = bs
  ne : newE ≠ []
  fin : E.isFinished r'.enc = true ∨ bs ≠ []

theorem readLoop_ok (E : Enc σ) (cap fuel : Nat) (r r' : Reader σ) (bs : Bytes) (hwf : r.WF)
    (h : Reader.readLoop E cap fuel r = (r', .done (.ok bs))) :
    ∃ (newE : List ERec) (newL : List LogE), Reader.ReturnedOk E cap r r' bs newE newL := by
  have := (readLoop_fuelLoop E cap).rule (I := Reader.WF)
    (Q := fun r t => ∀ bs, t.2 = .done (.ok bs) → ∃ newE newL, Reader.ReturnedOk E cap r t.1 bs newE newL)
    (fun _ _ _ hb => by cases hb)
    (fun r t hwf hi bs hb => by
      obtain ⟨r1, st, k, rfl, hfin⟩ := (Reader.iter_stop E cap r _ _ hwf hi).done bs hb
      obtain ⟨newL, hR⟩ := k.run hwf
      exact ⟨_, newL, hR, by simp [emitted], by simp, by rw [k.settled.enc]; exact hfin⟩)
    (fun r r2 hwf hi => by
      obtain ⟨r1, st, k, hnone, _⟩ := Reader.iter_cont E cap r r2 hwf hi
      obtain ⟨newL0, hR0⟩ := k.run hwf
      refine ⟨k.settled.wf, fun t hQ bs hb => ?_⟩
      obtain ⟨newE, newL, hR⟩ := hQ bs hb
      exact ⟨_, _, hR0.trans hR.run, by rw [emitted_append, hR.out]; simp [emitted, hnone], by simp, hR.fin⟩)
    fuel r hwf bs
  rw [h] at this
  exact this rfl

/-- equal up to the script / log of the wrapped reader, the access counter, and the bytes of the
own buffer beyond the fill level -/
structure Reader.Sim (a b : Reader σ) : Prop where
  off : a.inputOffset = b.inputOffset
  len : a.inputLen = b.inputLen
  blen : a.buf.length = b.buf.length
  valid : a.buf.take a.inputLen = b.buf.take b.inputLen
  eof : a.eof = b.eof
  errInvalid : a.errInvalid = b.errInvalid
  enc : a.enc = b.enc
  totalOut : a.totalOut = b.totalOut
  elog : a.elog = b.elog
  data : a.src.data = b.src.data
  ffa : a.src.faultFree
  ffb : b.src.faultFree
  wf : a.WF

theorem Reader.Sim.wfb {a b : Reader σ} (h : Reader.Sim a b) : b.WF := by
  have := h.wf; unfold Reader.WF at *; rw [← h.off, ← h.len, ← h.blen]; exact this

theorem Reader.Sim.window {a b : Reader σ} (h : Reader.Sim a b) : a.window = b.window := by
  unfold Reader.window; rw [h.valid, h.off]

theorem Reader.fill_sim {a b : Reader σ} (h : Reader.Sim a b) :
    a.fill.2 = none ∧ b.fill.2 = none ∧ Reader.Sim a.fill.1 b.fill.1 := by
  have fa := fillBuf_faultFree a.buf a.inputLen a.eof a.src 0 h.wf.2 h.ffa
  have fb := fillBuf_faultFree b.buf b.inputLen b.eof b.src 0 h.wfb.2 h.ffb
  obtain ⟨_, _, f⟩ := Reader.fill_spec a h.wf (r1 := a.fill.1) (e := a.fill.2) rfl
  exact ⟨fa.errNone, fb.errNone, h.off, (fa.lenEq.trans (by rw [h.len, h.blen, h.eof, h.data])).trans fb.lenEq.symm,
    (fa.bufLen.trans h.blen).trans fb.bufLen.symm,
    (fa.filled.trans (by rw [h.valid, h.blen, h.len, h.eof, h.data])).trans fb.filled.symm,
    (fa.eofEq.trans (by rw [h.eof, h.data, h.blen, h.len])).trans fb.eofEq.symm, h.errInvalid, h.enc, h.totalOut, h.elog,
    (fa.data.trans (by rw [h.data, h.blen, h.len, h.eof])).trans fb.data.symm, fa.ff, fb.ff, f.wf⟩

theorem Reader.afterStep_sim (E : Enc σ) (cap : Nat) {a b : Reader σ} (h : Reader.Sim a b)
    (hc : (E.step a.enc a.nextOp a.window cap).2.consumed ≤ a.window.length) :
    Reader.Sim (a.afterStep E cap) (b.afterStep E cap) := by
  have hop : b.nextOp = a.nextOp := by unfold Reader.nextOp; rw [h.off, h.len]
  have hst : E.step a.enc a.nextOp a.window cap = E.step b.enc b.nextOp b.window cap := by
    rw [hop, h.enc, h.window]
  have x := Reader.afterStep_spec E cap a h.wf _ rfl hc
  have y := Reader.afterStep_spec E cap b h.wfb _ hst (by rw [← h.window]; exact hc)
  exact ⟨by rw [x.inputOffset, y.inputOffset, h.off], by rw [x.inputLen, y.inputLen, h.len], by rw [x.buf, y.buf, h.blen],
    by rw [x.buf, y.buf, x.inputLen, y.inputLen, h.valid], by rw [x.eof, y.eof, h.eof],
    by rw [x.errInvalid, y.errInvalid, h.errInvalid], x.enc.trans y.enc.symm, by rw [x.totalOut, y.totalOut, h.totalOut],
    by rw [x.elog, y.elog, hop, h.window, h.elog], by rw [x.src, y.src, h.data], by rw [x.src]; exact h.ffa,
    by rw [y.src]; exact h.ffb, x.wf⟩

theorem Reader.copyToFront_sim {a b : Reader σ} (h : Reader.Sim a b) :
    ∃ a' b', a.copyToFront = some a' ∧ b.copyToFront = some b' ∧ Reader.Sim a' b' := by
  obtain ⟨a', ha, x⟩ := Reader.copyToFront_spec a h.wf
  obtain ⟨b', hb, y⟩ := Reader.copyToFront_spec b h.wfb
  have hcb : a.compacts ↔ b.compacts := by unfold Reader.compacts; rw [h.off, h.len, h.blen]
  have frame : a'.inputOffset = b'.inputOffset → a'.inputLen = b'.inputLen →
      a'.buf.take a'.inputLen = b'.buf.take b'.inputLen → Reader.Sim a' b' := fun o l v =>
    ⟨o, l, by rw [x.bufLen, y.bufLen, h.blen], v, by rw [x.eof, y.eof, h.eof], by rw [x.errInvalid, y.errInvalid, h.errInvalid],
      by rw [x.enc, y.enc, h.enc], by rw [x.totalOut, y.totalOut, h.totalOut], by rw [x.elog, y.elog, h.elog],
      by rw [x.src, y.src, h.data], by rw [x.src]; exact h.ffa, by rw [y.src]; exact h.ffb, x.wf⟩
  refine ⟨a', b', ha, hb, ?_⟩
  by_cases c : a.compacts
  · obtain ⟨x1, x2, x3⟩ := x.moved c
    obtain ⟨y1, y2, y3⟩ := y.moved (hcb.mp c)
    exact frame (x1.trans y1.symm) (by rw [x2, y2, h.len, h.off]) (by rw [x3, y3, h.window])
  · obtain ⟨x1, x2, x3⟩ := x.kept c
    obtain ⟨y1, y2, y3⟩ := y.kept (fun hb' => c (hcb.mpr hb'))
    exact frame (by rw [x1, y1, h.off]) (by rw [x2, y2, h.len]) (by rw [x3, y3, x2, y2]; exact h.valid)

def RIter.Sim : RIter σ → RIter σ → Prop
  | .stop a o, .stop b o' => o = o' ∧ (o ≠ .panic → Reader.Sim a b)
  | .cont a, .cont b => Reader.Sim a b
  | _, _ => False

theorem Reader.Sim.disarm {a b : Reader σ} (h : Reader.Sim a b) :
    Reader.Sim { a with errInvalid := false } { b with errInvalid := false } :=
  ⟨h.off, h.len, h.blen, h.valid, h.eof, rfl, h.enc, h.totalOut, h.elog, h.data, h.ffa, h.ffb, h.wf⟩

theorem Reader.settle_sim {a b : Reader σ} (h : Reader.Sim a b) :
    ∃ a' b', a.settle = some a' ∧ b.settle = some b' ∧ Reader.Sim a' b' := by
  unfold Reader.settle
  rw [← h.off, ← h.len]
  split
  · exact Reader.copyToFront_sim h
  · exact ⟨_, _, rfl, rfl, h⟩

theorem Reader.verdict_sim (E : Enc σ) (ans : EncAns) {a b : Reader σ} (h : Reader.Sim a b) :
    RIter.Sim (Reader.verdict E ans a) (Reader.verdict E ans b) := by
  unfold Reader.verdict
  rw [← h.errInvalid, show E.isFinished b.enc = E.isFinished a.enc by rw [h.enc]]
  split
  · split
    · exact ⟨rfl, fun _ => h.disarm⟩
    · exact ⟨rfl, fun hne => absurd rfl hne⟩
  · split
    · exact ⟨rfl, fun _ => h⟩
    · split
      · exact ⟨rfl, fun _ => h⟩
      · exact h

theorem Reader.iter_sim (E : Enc σ) (cap : Nat) {a b : Reader σ} (h : Reader.Sim a b) :
    RIter.Sim (Reader.iter E cap a) (Reader.iter E cap b) := by
  obtain ⟨fa, fb, hs1⟩ := Reader.fill_sim h
  rw [Reader.iter_of_fill E cap (Prod.ext rfl fa) hs1.wf, Reader.iter_of_fill E cap (Prod.ext rfl fb) hs1.wfb]
  have hop : b.fill.1.nextOp = a.fill.1.nextOp := by unfold Reader.nextOp; rw [hs1.off, hs1.len]
  rw [hop, ← hs1.enc, ← hs1.window]
  split
  · exact ⟨rfl, fun hne => absurd rfl hne⟩
  · next hsane =>
    obtain ⟨a3, b3, ka, kb, hs3⟩ := Reader.settle_sim (Reader.afterStep_sim E cap hs1 (Nat.le_of_not_lt fun hh => hsane (Or.inl hh)))
    rw [ka, kb]
    exact Reader.verdict_sim E _ hs3

end BV.Adapters
