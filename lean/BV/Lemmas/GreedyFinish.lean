import BV.Lemmas.GreedySplit
/-!
C01 / greedy builder: `FinishBlock` keeps the splitter's invariant.  A block recorded behind the list is `Inv.push` (first block,
new block type, merge with the second-to-last type); the last block growing is `Inv.extend` (merge with the last type).
-/

namespace BV.Greedy
open BV.Bits BV.Recoder BV.MetaBlock

def flat (rb : List Blk) : List (Nat × Nat) := (rb.reverse.map (fun b => b.chunk)).flatten

theorem flat_cons (b : Blk) (rb : List Blk) : flat (b :: rb) = flat rb ++ b.chunk := by
  simp [flat]

theorem doneCount_cons (b : Blk) (rb : List Blk) : doneCount (b :: rb) = b.chunk.length + doneCount rb := by
  simp [doneCount]

theorem allExact {F : Type} {N A K HH : Nat} {s : BS F} {rb : List Blk} {pend : List (Nat × Nat)}
    (h : Inv N A K HH s rb pend 0) : ∀ b ∈ rb, b.chunk.length = b.len := by
  intro b hb
  cases rb with
  | nil => simp at hb
  | cons b0 rest =>
    rcases List.mem_cons.mp hb with e | e
    · subst e; have := h.chunkHead b rfl; omega
    · exact h.chunkTail b e

theorem flat_length (rb : List Blk) : (flat rb).length = doneCount rb := by
  induction rb with
  | nil => rfl
  | cons b rest ih => rw [flat_cons, List.length_append, ih, doneCount_cons]; omega

structure Step {F : Type} (N A K HH : Nat) (s : BS F) (rb : List Blk) (pend : List (Nat × Nat)) (len : Nat) (s' : BS F)
    (rb' : List Blk) : Prop where
  inv : Inv N A K HH s' rb' [] (len - pend.length)
  ne : rb' ≠ []
  flat : flat rb' = flat rb ++ pend
  bs : s'.blockSize = 0
  min : s'.minBlockSize = s.minBlockSize
  mt : s.minBlockSize ≤ s'.targetBlockSize
  tb : s'.targetBlockSize ≤ s.targetBlockSize + s.minBlockSize
  slots : s'.slots.length = s.slots.length

theorem slotEntropy_length {F : Type} (ops : FOps F) (a : Nat) (slot : Slot) : (slotEntropy ops a slot).length = slot.length := by
  simp [slotEntropy]

theorem clearIfRoom_spec {F : Type} {N A K HH : Nat} {s : BS F} {rb : List Blk} {pend : List (Nat × Nat)} {k : Nat}
    (h : Inv N A K HH s rb pend k) (curr : Nat) (hh : s.histosSize = s.slots.length) :
    ∃ slots', clearIfRoom s curr = .ok slots' ∧ slots'.length = s.slots.length ∧
      (∀ t, t ≠ curr → slots'.getD t [] = s.slots.getD t []) ∧
      (slotTotal (slots'.getD curr []) = 0) ∧
      (∀ slot ∈ slots', Shaped s.nc s.H slot) ∧ (∀ slot ∈ slots', ∀ c x, A ≤ x → cnt slot c x = 0) := by
  unfold clearIfRoom
  by_cases hc : curr < s.histosSize
  · rw [if_pos hc, setAt_of_lt _ _ _ (by omega)]
    refine ⟨_, rfl, by simp, fun t ht => getD_set_ne _ _ _ _ _ (fun e => ht e.symm), ?_, ?_, ?_⟩
    · rw [getD_set_eq _ _ _ _ (by omega)]; exact zeroSlot_total _ _
    · intro slot hs
      rcases List.mem_or_eq_of_mem_set hs with h1 | h1
      · exact h.shaped slot h1
      · rw [h1]; exact zeroSlot_shaped _ _
    · intro slot hs c x hx
      rcases List.mem_or_eq_of_mem_set hs with h1 | h1
      · exact h.zeroAbove slot h1 c x hx
      · rw [h1]; exact zeroSlot_cnt _ _ _ _
  · rw [if_neg hc]
    refine ⟨_, rfl, rfl, fun _ _ => rfl, ?_, h.shaped, h.zeroAbove⟩
    rw [getD_of_le _ _ _ (by omega)]; rfl

theorem mod32 (x : Nat) (h : x ≤ 2 ^ 25) : x % two32 = x := Nat.mod_eq_of_lt (by unfold two32; omega)
theorem mod64 (x : Nat) (h : x ≤ 2 ^ 25) : x % two64 = x := Nat.mod_eq_of_lt (by unfold two64; omega)

/-- Of the histograms only what the caller did to them is asked for; the rest of the bookkeeping follows from how the
split's arrays and the type registers were set. -/
theorem Inv.push {F : Type} {N A K HH : Nat} {s s' : BS F} {rb : List Blk} {pend : List (Nat × Nat)} {τ len : Nat}
    (h : Inv N A K HH s rb pend 0)
    (hnc : s'.nc = s.nc) (hH : s'.H = s.H) (hmin : s'.minBlockSize = s.minBlockSize)
    (hmbt : s'.maxBlockTypes = s.maxBlockTypes)
    (hty : s'.types = s.types.set rb.length τ) (hle : s'.lengths = s.lengths.set rb.length len)
    (hnb : s'.numBlocks = rb.length + 1)
    (hl1 : pend.length ≤ len) (hl2 : s.minBlockSize ≤ len) (hl3 : len ≤ pend.length + s.minBlockSize)
    (hnt : s.numTypes ≤ s'.numTypes) (hmax : s'.numTypes ≤ s.maxBlockTypes) (hntnb : s'.numTypes ≤ rb.length + 1)
    (hτ : τ < s'.numTypes) (hτ0 : rb = [] → τ = 0) (hcurr : s'.curr = s'.numTypes) (hlast0 : s'.last0 = τ)
    (hlast1 : s'.last1 = s.last0) (hsingle : s'.numTypes = 1 → rb = [])
    (hent : ∃ e e', s'.lastEntropy = e ++ e' ∧ e.length = s'.nc ∧ (s'.numTypes = 1 → e = e'))
    (hslen : s'.slots.length = s.slots.length) (hshaped : ∀ slot ∈ s'.slots, Shaped s.nc s.H slot)
    (hzero : ∀ slot ∈ s'.slots, ∀ c x, A ≤ x → cnt slot c x = 0)
    (hcov : ∀ b ∈ rb, ∀ c x, cnt (s.slots.getD b.t []) c x ≠ 0 → cnt (s'.slots.getD b.t []) c x ≠ 0)
    (hpcov : ∀ c x, cnt (s.slots.getD s.curr []) c x ≠ 0 → cnt (s'.slots.getD τ []) c x ≠ 0)
    (htot : ∀ t, t < s'.numTypes → slotTotal (s'.slots.getD t []) ≤ pend.length + doneCount rb)
    (hptot : slotTotal (s'.slots.getD s'.numTypes []) = 0) :
    Inv N A K HH s' (⟨τ, len, pend⟩ :: rb) [] (len - pend.length) := by
  have hroom := room h
  have hex := allExact h
  have htotal := h.total
  cases s'
  dsimp only at *
  subst hnc hH hmin hmbt
  refine { h with
           tlen := by rw [hty, List.length_set]; exact h.tlen,
           llen := by rw [hle, List.length_set]; exact h.llen,
           slen := by rw [hslen]; exact h.slen,
           shaped := hshaped, zeroAbove := hzero, nb := hnb,
           typesEq := by
             rw [hty, List.length_cons, take_set_succ _ _ _ (by rw [h.tlen]; exact hroom), h.typesEq]
             simp,
           lensEq := by
             rw [hle, List.length_cons, take_set_succ _ _ _ (by rw [h.llen]; exact hroom), h.lensEq]
             simp,
           chunkTail := hex, chunkHead := ?_, chunkMin := ?_, slackLe := by show len - pend.length ≤ s.minBlockSize; omega,
           total := by rw [doneCount_cons]; show pend.length + doneCount rb ≤ N; omega,
           nt0 := fun e => absurd e (List.cons_ne_nil _ _), curr := fun _ => hcurr,
           ntPos := fun _ => Nat.lt_of_le_of_lt (Nat.zero_le _) hτ, ntMax := hmax, ntNb := hntnb,
           tlt := ?_, t0 := ?_, last0 := ?_, last1 := fun b hb => hlast1.trans (h.last0 b hb), last1' := ?_,
           single := fun h1 => by rw [hsingle h1]; rfl, ent := fun _ => hent, cov := ?_,
           pcov := (fun _ hp => nomatch hp), tot := by rw [doneCount_cons]; exact htot,
           ptot := by rw [hcurr, hptot]; exact Nat.le_refl _ }
  · intro b hb
    cases hb
    show pend.length + (len - pend.length) = len
    omega
  · intro b hb
    rcases List.mem_cons.mp hb with rfl | hb
    · exact hl2
    · exact h.chunkMin b hb
  · intro b hb
    rcases List.mem_cons.mp hb with rfl | hb
    · exact hτ
    · exact Nat.lt_of_lt_of_le (h.tlt b hb) hnt
  · intro b hb
    by_cases hne : rb = []
    · subst hne; cases hb; exact hτ0 rfl
    · rw [List.getLast?_cons_of_ne_nil hne] at hb
      exact h.t0 b hb
  · intro b hb
    cases hb
    exact hlast0
  · intro hlen
    have hnil : rb = [] := List.length_eq_zero_iff.mp (Nat.le_zero.mp (Nat.le_of_succ_le_succ hlen))
    rw [hlast1]; exact (h.nt0 hnil).2.2
  · intro b hb p hp
    rcases List.mem_cons.mp hb with rfl | hb
    · exact ⟨(h.pcov p hp).1, hpcov _ _ (h.pcov p hp).2⟩
    · exact ⟨(h.cov b hb p hp).1, hcov b hb _ _ (h.cov b hb p hp).2⟩

theorem firstBlock_inv {F : Type} (ops : FOps F) {N A K HH : Nat} {s : BS F} {pend : List (Nat × Nat)}
    (h : Inv N A K HH s [] pend 0) (hh : s.histosSize = s.slots.length) (hmt : s.minBlockSize ≤ s.targetBlockSize)
    (hl1 : pend.length ≤ s.blockSize) (hl2 : s.minBlockSize ≤ s.blockSize) (hl3 : s.blockSize ≤ pend.length + s.minBlockSize) :
    ∃ s', firstBlock ops s = .ok s' ∧ Step N A K HH s [] pend s.blockSize s' [⟨0, s.blockSize, pend⟩] ∧
      s'.histosSize = s.histosSize := by
  have hb := h.bound
  have htot : pend.length ≤ N := by have := h.total; rwa [show doneCount [] = 0 from rfl, Nat.zero_add] at this
  obtain ⟨hnt, hcurr, hl0⟩ := h.nt0 rfl
  have hsl : 0 < s.slots.length := by have := curr_lt h; omega
  have hmb := maxBlocks_pos N s.minBlockSize
  obtain ⟨slots', e1, e2, e3, e4, e5, e6⟩ := clearIfRoom_spec h ((s.curr + 1) % two64) hh
  have hc1 : (s.curr + 1) % two64 = 1 := by rw [hcurr]; rfl
  have hn1 : (s.numTypes + 1) % two64 = 1 := by rw [hnt]; rfl
  have hnb1 : (s.numBlocks + 1) % two64 = 1 := by rw [h.nb]; rfl
  rw [hc1] at e1 e3 e4
  have hbs : s.blockSize % two32 = s.blockSize := mod32 _ (by omega)
  have hp0 := h.ptot
  rw [hcurr] at hp0
  unfold firstBlock
  rw [setAt_of_lt _ _ _ (by rw [h.llen]; exact hmb), Out.bind_ok, setAt_of_lt _ _ _ (by rw [h.tlen]; exact hmb), Out.bind_ok,
    getAt_getD _ 0 [] hsl, Out.bind_ok]
  simp only [hc1, hn1, hnb1, hbs]
  rw [e1, Out.bind_ok]
  refine ⟨_, rfl, ⟨?_, List.cons_ne_nil _ _, flat_cons _ _, rfl, rfl, hmt, Nat.le_add_right _ _, e2⟩, rfl⟩
  refine Inv.push h rfl rfl rfl rfl rfl rfl rfl hl1 hl2 hl3 (by rw [hnt]; exact Nat.zero_le _) h.mbt1 (Nat.le_refl _)
    Nat.one_pos (fun _ => rfl) rfl hl0 (by rw [hl0]; exact h.last1' (Nat.zero_le _)) (fun _ => rfl)
    ⟨_, _, rfl, by rw [slotEntropy_length]; exact (h.shaped _ (slot_mem s 0 hsl)).1, fun _ => rfl⟩
    e2 e5 e6 (fun _ hb => nomatch hb) (fun c x hx => by rw [e3 0 (by decide)]; rw [hcurr] at hx; exact hx) ?_ e4
  intro t ht
  have ht0 : t = 0 := Nat.lt_one_iff.mp ht
  rw [ht0, e3 0 (by decide)]
  exact Nat.le_trans hp0 (Nat.le_add_right _ _)

theorem splitBlock_inv {F : Type} {N A K HH : Nat} {s : BS F} {rb : List Blk} {pend : List (Nat × Nat)} (e : List F)
    (h : Inv N A K HH s rb pend 0) (hne : rb ≠ []) (hh : s.histosSize = s.slots.length) (he : e.length = s.nc)
    (hlt : s.numTypes < s.maxBlockTypes)
    (hl1 : pend.length ≤ s.blockSize) (hl2 : s.minBlockSize ≤ s.blockSize) (hl3 : s.blockSize ≤ pend.length + s.minBlockSize) :
    ∃ s', splitBlock s e = .ok s' ∧ Step N A K HH s rb pend s.blockSize s' (⟨s.numTypes, s.blockSize, pend⟩ :: rb) ∧
      s'.histosSize = s.histosSize := by
  have hb := h.bound
  have htot := h.total
  have hroom := room h
  have hcurr := h.curr hne
  have hntp := h.ntPos hne
  have hmbt := h.mbt
  have hnbN := blocks_le_N h
  obtain ⟨slots', e1, e2, e3, e4, e5, e6⟩ := clearIfRoom_spec h ((s.curr + 1) % two64) hh
  have hc1 : (s.curr + 1) % two64 = s.numTypes + 1 := by rw [hcurr]; exact mod64 _ (by omega)
  have hn1 : (s.numTypes + 1) % two64 = s.numTypes + 1 := mod64 _ (by omega)
  have hnb1 : (rb.length + 1) % two64 = rb.length + 1 := mod64 _ (by omega)
  have hbs : s.blockSize % two32 = s.blockSize := mod32 _ (by omega)
  have hn256 : s.numTypes % 256 = s.numTypes := Nat.mod_eq_of_lt (by omega)
  rw [hc1] at e1 e3 e4
  unfold splitBlock
  rw [h.nb, setAt_of_lt _ _ _ (by rw [h.llen]; exact hroom), Out.bind_ok, setAt_of_lt _ _ _ (by rw [h.tlen]; exact hroom),
    Out.bind_ok]
  simp only [hc1, hn1, hnb1, hbs, hn256, ite_self]
  rw [e1, Out.bind_ok]
  refine ⟨_, rfl, ⟨?_, List.cons_ne_nil _ _, flat_cons _ _, rfl, rfl, Nat.le_refl _, Nat.le_add_left _ _, e2⟩, rfl⟩
  refine Inv.push h rfl rfl rfl rfl rfl rfl rfl hl1 hl2 hl3 (Nat.le_succ _) hlt (Nat.succ_le_succ h.ntNb)
    (Nat.lt_succ_self _) (fun e0 => absurd e0 hne) rfl rfl rfl (fun h1 => absurd (Nat.succ.inj h1) (by omega))
    ⟨e, _, rfl, he, fun h1 => absurd (Nat.succ.inj h1) (by omega)⟩ e2 e5 e6
    (fun b hb c x hx => by rw [e3 b.t (Nat.ne_of_lt (Nat.lt_succ_of_lt (h.tlt b hb)))]; exact hx)
    (fun c x hx => by rw [e3 s.numTypes (Nat.ne_of_lt (Nat.lt_succ_self _)), ← hcurr]; exact hx) ?_ e4
  intro t ht
  rw [e3 t (Nat.ne_of_lt ht)]
  rcases Nat.lt_succ_iff_lt_or_eq.mp ht with htn | rfl
  · exact Nat.le_trans (h.tot t htn) (Nat.le_add_left _ _)
  · rw [← hcurr]; exact Nat.le_trans h.ptot (Nat.le_add_right _ _)

/-- the histogram update of both merge branches: `histograms[τ] = current + histograms[τ]` (`add`), then the current
histograms are cleared (`clear`), which leaves `slots'`.  The other fields are what `Inv.push` and `Inv.extend` ask of the new
slots, under the names of their hypotheses. -/
structure Merged {F : Type} (A : Nat) (s : BS F) (rb : List Blk) (pend : List (Nat × Nat)) (τ : Nat) (slots' : List Slot) :
    Prop where
  add : setAt s.slots τ (addSlot (s.slots.getD s.curr []) (s.slots.getD τ []))
    = .ok (s.slots.set τ (addSlot (s.slots.getD s.curr []) (s.slots.getD τ [])))
  clear : setAt (s.slots.set τ (addSlot (s.slots.getD s.curr []) (s.slots.getD τ []))) s.curr (zeroSlot s.nc s.H) = .ok slots'
  slen : slots'.length = s.slots.length
  shaped : ∀ slot ∈ slots', Shaped s.nc s.H slot
  zero : ∀ slot ∈ slots', ∀ c x, A ≤ x → cnt slot c x = 0
  cov : ∀ t, t < s.numTypes → ∀ c x, cnt (s.slots.getD t []) c x ≠ 0 → cnt (slots'.getD t []) c x ≠ 0
  pcov : ∀ c x, cnt (s.slots.getD s.curr []) c x ≠ 0 → cnt (slots'.getD τ []) c x ≠ 0
  tot : ∀ t, t < s.numTypes → slotTotal (slots'.getD t []) ≤ pend.length + doneCount rb
  ptot : slotTotal (slots'.getD s.numTypes []) = 0

/-- No count wraps in the merge (the totals stay below `2^32`), so nothing counted so far is lost. -/
theorem merged_slots {F : Type} {N A K HH : Nat} {s : BS F} {rb : List Blk} {pend : List (Nat × Nat)}
    (h : Inv N A K HH s rb pend 0) (hne : rb ≠ []) (τ : Nat) (hτ : τ < s.numTypes) : ∃ slots', Merged A s rb pend τ slots' := by
  have hcurr := h.curr hne
  have hcl := curr_lt h
  have hτl : τ < s.slots.length := by omega
  have hsc := h.shaped _ (slot_mem s s.curr hcl)
  have hsτ := h.shaped _ (slot_mem s τ hτl)
  have hcomb := addSlot_shaped s.nc s.H _ _ hsc hsτ
  have hgτ : ((s.slots.set τ (addSlot (s.slots.getD s.curr []) (s.slots.getD τ []))).set s.curr (zeroSlot s.nc s.H)).getD τ []
      = addSlot (s.slots.getD s.curr []) (s.slots.getD τ []) := by
    rw [getD_set_ne _ _ _ _ _ (by omega), getD_set_eq _ _ _ _ hτl]
  have hother : ∀ t, t < s.numTypes → t ≠ τ →
      ((s.slots.set τ (addSlot (s.slots.getD s.curr []) (s.slots.getD τ []))).set s.curr (zeroSlot s.nc s.H)).getD t []
        = s.slots.getD t [] := by
    intro t ht hne'
    rw [getD_set_ne _ _ _ _ _ (by omega), getD_set_ne _ _ _ _ _ (fun e => hne' e.symm)]
  have hsum : ∀ c x, cnt (addSlot (s.slots.getD s.curr []) (s.slots.getD τ [])) c x
      = cnt (s.slots.getD s.curr []) c x + cnt (s.slots.getD τ []) c x := by
    intro c x
    rw [addSlot_cnt s.nc s.H _ _ hsc hsτ]
    have h1 := Nat.le_trans (cnt_le_total (s.slots.getD s.curr []) c x) h.ptot
    have h2 := Nat.le_trans (cnt_le_total (s.slots.getD τ []) c x) (h.tot τ hτ)
    have hb := h.bound
    have htot := h.total
    exact Nat.mod_eq_of_lt (by unfold two32; omega)
  refine ⟨_, setAt_of_lt _ _ _ hτl, setAt_of_lt _ _ _ (by rw [List.length_set]; exact hcl), by simp, ?_, ?_, ?_, ?_, ?_, ?_⟩
  · intro slot hs
    rcases List.mem_or_eq_of_mem_set hs with h1 | h1
    · rcases List.mem_or_eq_of_mem_set h1 with h2 | h2
      · exact h.shaped slot h2
      · rw [h2]; exact hcomb
    · rw [h1]; exact zeroSlot_shaped _ _
  · intro slot hs c x hx
    rcases List.mem_or_eq_of_mem_set hs with h1 | h1
    · rcases List.mem_or_eq_of_mem_set h1 with h2 | h2
      · exact h.zeroAbove slot h2 c x hx
      · rw [h2, hsum, h.zeroAbove _ (slot_mem s s.curr hcl) c x hx, h.zeroAbove _ (slot_mem s τ hτl) c x hx]
    · rw [h1]; exact zeroSlot_cnt _ _ _ _
  · intro t ht c x hx
    by_cases hbt : t = τ
    · rw [hbt, hgτ, hsum]; rw [hbt] at hx; omega
    · rw [hother t ht hbt]; exact hx
  · intro c x hx
    rw [hgτ, hsum]; omega
  · intro t ht
    by_cases hbt : t = τ
    · rw [hbt, hgτ]
      exact Nat.le_trans (addSlot_total_le _ _) (Nat.add_le_add h.ptot (h.tot τ hτ))
    · rw [hother t ht hbt]
      exact Nat.le_trans (h.tot t ht) (Nat.le_add_left _ _)
  · rw [← hcurr, getD_set_eq _ _ _ _ (by rw [List.length_set]; exact hcl)]
    exact zeroSlot_total _ _

theorem mergeSecondBlock_inv {F : Type} {N A K HH : Nat} {s : BS F} {rb : List Blk} {pend : List (Nat × Nat)} (ce1 : List F)
    (h : Inv N A K HH s rb pend 0) (h2 : 2 ≤ s.numTypes) (he : ce1.length = s.nc)
    (hl1 : pend.length ≤ s.blockSize) (hl2 : s.minBlockSize ≤ s.blockSize) (hl3 : s.blockSize ≤ pend.length + s.minBlockSize) :
    ∃ s', mergeSecondBlock s (addSlot (s.slots.getD s.curr []) (s.slots.getD s.last1 [])) ce1 = .ok s' ∧
      Step N A K HH s rb pend s.blockSize s' (⟨s.last1, s.blockSize, pend⟩ :: rb) ∧ s'.histosSize = s.histosSize := by
  have hnb := h.ntNb
  obtain ⟨b0, b1, rest, rfl⟩ : ∃ b0 b1 rest, rb = b0 :: b1 :: rest := by
    cases rb with
    | nil => simp at hnb; omega
    | cons b0 r =>
      cases r with
      | nil => simp at hnb; omega
      | cons b1 rest => exact ⟨b0, b1, rest, rfl⟩
  have hne : (b0 :: b1 :: rest) ≠ [] := List.cons_ne_nil _ _
  have hb := h.bound
  have htot := h.total
  have hroom : rest.length + 2 < maxBlocks N s.minBlockSize := room h
  have hnbN : rest.length + 2 ≤ N := blocks_le_N h
  have hl1' := h.last1 b1 rfl
  have hτ : s.last1 < s.numTypes := by rw [hl1']; exact h.tlt b1 (by simp)
  obtain ⟨slots', m⟩ := merged_slots h hne s.last1 hτ
  have hty := h.typesEq
  simp only [List.length_cons, List.map_cons, List.reverse_cons, List.append_assoc] at hty
  have hty1 : s.types.take (rest.length + 1) = (rest.map (fun b => b.t)).reverse ++ [b1.t] := by
    apply take_of_take_succ s.types _ b0.t (rest.length + 1)
    · rw [hty]; simp
    · simp
  obtain ⟨hg, hgl⟩ := getD_of_take_succ s.types _ b1.t rest.length hty1 (by simp)
  have hix : (rest.length + 2 + two64 - 2) % two64 = rest.length :=
    wsub_of_le (Nat.le_add_left 2 _) (by unfold two64; omega)
  have hnb1 : (rest.length + 2 + 1) % two64 = rest.length + 2 + 1 := mod64 _ (by omega)
  have hbs : s.blockSize % two32 = s.blockSize := mod32 _ (by omega)
  unfold mergeSecondBlock
  rw [h.nb, show (b0 :: b1 :: rest).length = rest.length + 2 from rfl, setAt_of_lt _ _ _ (by rw [h.llen]; exact hroom),
    Out.bind_ok, hix, getAt_getD _ _ 0 hgl, Out.bind_ok, setAt_of_lt _ _ _ (by rw [h.tlen]; exact hroom), Out.bind_ok, m.add,
    Out.bind_ok, m.clear, Out.bind_ok]
  simp only [hnb1, hbs, hg]
  refine ⟨_, rfl, ⟨?_, List.cons_ne_nil _ _, flat_cons _ _, rfl, rfl, Nat.le_refl _, Nat.le_add_left _ _, m.slen⟩, rfl⟩
  exact Inv.push h rfl rfl rfl rfl (by rw [hl1']; rfl) rfl rfl hl1 hl2 hl3 (Nat.le_refl _) h.ntMax (Nat.le_succ_of_le hnb) hτ
    (fun e => absurd e hne) (h.curr hne) rfl rfl (fun h1 => absurd (h1 ▸ h2 : 2 ≤ 1) (by decide))
    ⟨ce1, _, rfl, he, fun h1 => absurd (h1 ▸ h2 : 2 ≤ 1) (by decide)⟩ m.slen m.shaped m.zero (fun b hb => m.cov b.t (h.tlt b hb))
    m.pcov m.tot m.ptot

theorem Inv.extend {F : Type} {N A K HH : Nat} {s s' : BS F} {b0 : Blk} {rest : List Blk} {pend : List (Nat × Nat)}
    {len : Nat} (h : Inv N A K HH s (b0 :: rest) pend 0)
    (hnc : s'.nc = s.nc) (hH : s'.H = s.H) (hmin : s'.minBlockSize = s.minBlockSize)
    (hmbt : s'.maxBlockTypes = s.maxBlockTypes)
    (hty : s'.types = s.types) (hle : s'.lengths = s.lengths.set rest.length (b0.len + len))
    (hnb : s'.numBlocks = s.numBlocks)
    (hl1 : pend.length ≤ len) (hl3 : len ≤ pend.length + s.minBlockSize)
    (hnt : s'.numTypes = s.numTypes) (hcurr : s'.curr = s.curr) (hlast0 : s'.last0 = s.last0) (hlast1 : s'.last1 = s.last1)
    (hent : ∃ e e', s'.lastEntropy = e ++ e' ∧ e.length = s'.nc ∧ (s'.numTypes = 1 → e = e'))
    (hslen : s'.slots.length = s.slots.length) (hshaped : ∀ slot ∈ s'.slots, Shaped s.nc s.H slot)
    (hzero : ∀ slot ∈ s'.slots, ∀ c x, A ≤ x → cnt slot c x = 0)
    (hcov : ∀ b ∈ b0 :: rest, ∀ c x, cnt (s.slots.getD b.t []) c x ≠ 0 → cnt (s'.slots.getD b.t []) c x ≠ 0)
    (hpcov : ∀ c x, cnt (s.slots.getD s.curr []) c x ≠ 0 → cnt (s'.slots.getD b0.t []) c x ≠ 0)
    (htot : ∀ t, t < s.numTypes → slotTotal (s'.slots.getD t []) ≤ pend.length + doneCount (b0 :: rest))
    (hptot : slotTotal (s'.slots.getD s.numTypes []) = 0) :
    Inv N A K HH s' (⟨b0.t, b0.len + len, b0.chunk ++ pend⟩ :: rest) [] (len - pend.length) := by
  have hex := allExact h
  have hb0 := hex b0 List.mem_cons_self
  have htotal := h.total
  have hne : b0 :: rest ≠ [] := List.cons_ne_nil _ _
  have hlens := h.lensEq
  simp only [List.length_cons, List.map_cons, List.reverse_cons] at hlens
  have hdc : doneCount (b0 :: rest) = b0.chunk.length + doneCount rest := doneCount_cons _ _
  cases s'
  dsimp only at *
  subst hnc hH hmin hmbt hty hnb hnt hcurr hlast0 hlast1
  refine { h with
           llen := by rw [hle, List.length_set]; exact h.llen,
           slen := by rw [hslen]; exact h.slen,
           shaped := hshaped, zeroAbove := hzero,
           lensEq := by
             rw [hle, List.length_cons,
               take_set_succ _ _ _ (getD_of_take_succ s.lengths _ b0.len rest.length hlens (by simp)).2,
               take_of_take_succ s.lengths _ b0.len rest.length hlens (by simp)]
             simp,
           chunkHead := ?_, chunkMin := ?_, slackLe := by show len - pend.length ≤ s.minBlockSize; omega,
           total := by rw [doneCount_cons]; show (b0.chunk ++ pend).length + doneCount rest ≤ N; rw [List.length_append]; omega,
           nt0 := fun e => absurd e (List.cons_ne_nil _ _), curr := fun _ => h.curr hne,
           ntPos := fun _ => h.ntPos hne, tlt := ?_, t0 := ?_,
           last0 := fun b hb => by cases hb; exact h.last0 b0 rfl,
           ent := fun _ => hent, cov := ?_, pcov := (fun _ hp => nomatch hp), tot := ?_,
           ptot := by show slotTotal (List.getD _ s.curr []) ≤ 0; rw [h.curr hne, hptot]; exact Nat.le_refl _ }
  · intro b hb
    cases hb
    show (b0.chunk ++ pend).length + (len - pend.length) = b0.len + len
    rw [List.length_append]; omega
  · intro b hb
    rcases List.mem_cons.mp hb with rfl | hb
    · exact Nat.le_trans (h.chunkMin b0 List.mem_cons_self) (Nat.le_add_right _ _)
    · exact h.chunkMin b (List.mem_cons_of_mem _ hb)
  · intro b hb
    rcases List.mem_cons.mp hb with rfl | hb
    · exact h.tlt b0 List.mem_cons_self
    · exact h.tlt b (List.mem_cons_of_mem _ hb)
  · intro b hb
    cases rest with
    | nil => cases hb; exact h.t0 b0 rfl
    | cons r rs =>
      rw [List.getLast?_cons_of_ne_nil (List.cons_ne_nil _ _)] at hb
      exact h.t0 b (by rw [List.getLast?_cons_of_ne_nil (List.cons_ne_nil _ _)]; exact hb)
  · intro b hb p hp
    rcases List.mem_cons.mp hb with rfl | hb
    · rcases List.mem_append.mp hp with hp | hp
      · have hc := h.cov b0 List.mem_cons_self p hp
        exact ⟨hc.1, hcov b0 List.mem_cons_self _ _ hc.2⟩
      · exact ⟨(h.pcov p hp).1, hpcov _ _ (h.pcov p hp).2⟩
    · have hc := h.cov b (List.mem_cons_of_mem _ hb) p hp
      exact ⟨hc.1, hcov b (List.mem_cons_of_mem _ hb) _ _ hc.2⟩
  · intro t ht
    refine Nat.le_trans (htot t ht) ?_
    rw [doneCount_cons, doneCount_cons]
    show _ ≤ (b0.chunk ++ pend).length + doneCount rest
    rw [List.length_append]; omega

theorem mergeLastBlock_inv {F : Type} {N A K HH : Nat} {s : BS F} {b0 : Blk} {rest : List Blk} {pend : List (Nat × Nat)}
    (ce0 : List F) (h : Inv N A K HH s (b0 :: rest) pend 0) (he : ce0.length = s.nc)
    (hl1 : pend.length ≤ s.blockSize) (hl3 : s.blockSize ≤ pend.length + s.minBlockSize)
    (hmt : s.minBlockSize ≤ s.targetBlockSize) (htb : s.targetBlockSize ≤ 2 ^ 24) :
    ∃ s', mergeLastBlock s (addSlot (s.slots.getD s.curr []) (s.slots.getD s.last0 [])) ce0 = .ok s' ∧
      Step N A K HH s (b0 :: rest) pend s.blockSize s' (⟨b0.t, b0.len + s.blockSize, b0.chunk ++ pend⟩ :: rest) ∧
      s'.histosSize = s.histosSize := by
  have hne : (b0 :: rest) ≠ [] := List.cons_ne_nil _ _
  have hb := h.bound
  have htot := h.total
  have hnbN : rest.length + 1 ≤ N := blocks_le_N h
  have hl0 := h.last0 b0 rfl
  have hτ : s.last0 < s.numTypes := by rw [hl0]; exact h.tlt b0 List.mem_cons_self
  obtain ⟨slots', m⟩ := merged_slots h hne s.last0 hτ
  have hb0 := allExact h b0 List.mem_cons_self
  have hle := h.lensEq
  simp only [List.length_cons, List.map_cons, List.reverse_cons] at hle
  obtain ⟨hg, hgl⟩ := getD_of_take_succ s.lengths _ b0.len rest.length hle (by simp)
  have hdc : doneCount (b0 :: rest) = b0.chunk.length + doneCount rest := doneCount_cons _ _
  have hix : (rest.length + 1 + two64 - 1) % two64 = rest.length :=
    wsub_of_le (Nat.le_add_left 1 _) (by unfold two64; omega)
  have hbs : s.blockSize % two32 = s.blockSize := mod32 _ (by omega)
  have hsum : (b0.len + s.blockSize) % two32 = b0.len + s.blockSize := mod32 _ (by omega)
  unfold mergeLastBlock
  rw [h.nb, show (b0 :: rest).length = rest.length + 1 from rfl]
  simp only [hix]
  rw [getAt_getD _ _ 0 hgl, Out.bind_ok, setAt_of_lt _ _ _ hgl, Out.bind_ok, m.add, Out.bind_ok, m.clear, Out.bind_ok]
  simp only [hbs, hg, hsum]
  refine ⟨_, rfl, ⟨?_, List.cons_ne_nil _ _, by rw [flat_cons, flat_cons, List.append_assoc], rfl, rfl, ?_, ?_, m.slen⟩, rfl⟩
  · exact Inv.extend h rfl rfl rfl rfl rfl rfl h.nb.symm hl1 hl3 rfl rfl rfl rfl
      ⟨ce0, _, rfl, he, fun h1 => by rw [if_pos h1]⟩ m.slen m.shaped m.zero (fun b hb => m.cov b.t (h.tlt b hb))
      (fun c x hx => by rw [← hl0]; exact m.pcov c x hx) m.tot m.ptot
  · show s.minBlockSize ≤ if _ then _ else _
    split
    · rw [mod64 _ (by omega)]; omega
    · exact hmt
  · show (if _ then _ else _) ≤ _
    split
    · exact Nat.mod_le _ _
    · omega

/-- the only assumption on the float oracle: `x < x - 20.0` is false (true of IEEE-754 arithmetic for every `x`,
NaN and infinities included).  It is what keeps the "merge with the second-to-last type" branch from being taken
while there is a single block type, where `diff[0]` and `diff[1]` are the same computation. -/
def OracleOK {F : Type} (ops : FOps F) : Prop := ∀ x, ops.lt x (ops.sub x ops.c20) = false

theorem decision_same {F : Type} (ops : FOps F) (hirr : OracleOK ops) (nt mbt : Nat) (thr d : F) :
    decision ops nt mbt thr d d ≠ .mergeSecond := by
  unfold decision
  split
  · simp
  · rw [hirr d]; simp

theorem decision_split {F : Type} (ops : FOps F) (nt mbt : Nat) (thr d0 d1 : F) (h : decision ops nt mbt thr d0 d1 = .split) :
    nt < mbt := by
  unfold decision at h
  by_cases hc : (decide (nt < mbt) && ops.gt d0 thr && ops.gt d1 thr) = true
  · simp only [Bool.and_eq_true, decide_eq_true_eq] at hc
    exact hc.1.1
  · rw [if_neg hc] at h
    split at h <;> cases h

theorem laterBlock_inv {F : Type} (ops : FOps F) (hirr : OracleOK ops) {N A K HH : Nat} {s : BS F} {rb : List Blk}
    {pend : List (Nat × Nat)} (h : Inv N A K HH s rb pend 0) (hne : rb ≠ []) (hh : s.histosSize = s.slots.length)
    (hl1 : pend.length ≤ s.blockSize) (hl2 : s.minBlockSize ≤ s.blockSize) (hl3 : s.blockSize ≤ pend.length + s.minBlockSize)
    (hmt : s.minBlockSize ≤ s.targetBlockSize) (htb : s.targetBlockSize ≤ 2 ^ 24) :
    ∃ s' rb', laterBlock ops s = .ok s' ∧ Step N A K HH s rb pend s.blockSize s' rb' ∧ s'.histosSize = s.histosSize := by
  obtain ⟨b0, rest, rfl⟩ : ∃ b0 rest, rb = b0 :: rest := by
    cases rb with
    | nil => exact absurd rfl hne
    | cons b0 rest => exact ⟨b0, rest, rfl⟩
  have hcurr := h.curr hne
  have hcl := curr_lt h
  have hl0 := h.last0 b0 rfl
  have hτ0 : s.last0 < s.numTypes := by rw [hl0]; exact h.tlt b0 List.mem_cons_self
  have hτ1 : s.last1 < s.numTypes := by
    cases rest with
    | nil => rw [h.last1' (Nat.le_refl _)]; exact h.ntPos hne
    | cons b1 r => rw [h.last1 b1 rfl]; exact h.tlt b1 (by simp)
  have hsc := h.shaped _ (slot_mem s s.curr hcl)
  have hs0 := h.shaped _ (slot_mem s s.last0 (by omega))
  have hs1 := h.shaped _ (slot_mem s s.last1 (by omega))
  unfold laterBlock
  rw [getAt_getD _ _ [] hcl, Out.bind_ok, getAt_getD _ _ [] (by omega : s.last0 < s.slots.length), Out.bind_ok,
    getAt_getD _ _ [] (by omega : s.last1 < s.slots.length), Out.bind_ok]
  dsimp only
  generalize hd : decision ops s.numTypes s.maxBlockTypes s.splitThreshold _ _ = d
  cases d with
  | split =>
    obtain ⟨s', e⟩ := splitBlock_inv (slotEntropy ops s.alphabetSize (s.slots.getD s.curr [])) h hne hh
      (by rw [slotEntropy_length]; exact hsc.1) (decision_split ops _ _ _ _ _ hd) hl1 hl2 hl3
    exact ⟨s', _, e⟩
  | mergeSecond =>
    -- with one block type both differences are the same computation
    have h2 : 2 ≤ s.numTypes := by
      apply Classical.byContradiction
      intro hn
      have h1 : s.numTypes = 1 := by have := h.ntPos hne; omega
      have e0 : s.last0 = 0 := by omega
      have e1 : s.last1 = 0 := by omega
      obtain ⟨e, e', ee, el, eq⟩ := h.ent hne
      have eq' := eq h1
      subst eq'
      have et : s.lastEntropy.take s.nc = e := by rw [ee, ← el]; exact List.take_left' rfl
      have ed : s.lastEntropy.drop s.nc = e := by rw [ee, ← el]; exact List.drop_left' rfl
      rw [e0, e1, et, ed] at hd
      exact decision_same ops hirr _ _ _ _ hd
    obtain ⟨s', e⟩ := mergeSecondBlock_inv (slotEntropy ops s.alphabetSize
      (addSlot (s.slots.getD s.curr []) (s.slots.getD s.last1 []))) h h2
      (by rw [slotEntropy_length]; exact (addSlot_shaped s.nc s.H _ _ hsc hs1).1) hl1 hl2 hl3
    exact ⟨s', _, e⟩
  | mergeLast =>
    obtain ⟨s', e⟩ := mergeLastBlock_inv (slotEntropy ops s.alphabetSize
      (addSlot (s.slots.getD s.curr []) (s.slots.getD s.last0 []))) h
      (by rw [slotEntropy_length]; exact (addSlot_shaped s.nc s.H _ _ hsc hs0).1) hl1 hl3 hmt htb
    exact ⟨s', _, e⟩

theorem finishBlock_inv {F : Type} (ops : FOps F) (hirr : OracleOK ops) {N A K HH : Nat} {s : BS F} {rb : List Blk}
    {pend : List (Nat × Nat)} (isFinal : Bool) (h : Inv N A K HH s rb pend 0) (hbs : s.blockSize = pend.length)
    (hh : s.histosSize = s.slots.length) (hmt : s.minBlockSize ≤ s.targetBlockSize) (htb : s.targetBlockSize ≤ 2 ^ 24) :
    ∃ s' rb', finishBlock ops s isFinal = .ok s' ∧ Step N A K HH s rb pend (max pend.length s.minBlockSize) s' rb' ∧
      (isFinal = false → s'.histosSize = s.histosSize) ∧
      (isFinal = true → s'.histosSize = s'.numTypes ∧ s'.splitNumBlocks = rb'.length) := by
  have hmin := h.min1
  have h1 := h.setBlockSize (max pend.length s.minBlockSize)
  have hl1 : pend.length ≤ max pend.length s.minBlockSize := Nat.le_max_left _ _
  have hl2 : s.minBlockSize ≤ max pend.length s.minBlockSize := Nat.le_max_right _ _
  have hl3 : max pend.length s.minBlockSize ≤ pend.length + s.minBlockSize :=
    Nat.max_le.mpr ⟨Nat.le_add_right _ _, Nat.le_add_left _ _⟩
  have key : ∃ s' rb', (if s.numBlocks = 0 then firstBlock ops { s with blockSize := max pend.length s.minBlockSize }
        else if max pend.length s.minBlockSize > 0 then laterBlock ops { s with blockSize := max pend.length s.minBlockSize }
        else .ok { s with blockSize := max pend.length s.minBlockSize }) = .ok s' ∧
      Step N A K HH s rb pend (max pend.length s.minBlockSize) s' rb' ∧ s'.histosSize = s.histosSize := by
    by_cases hz : s.numBlocks = 0
    · rw [if_pos hz]
      have hrb : rb = [] := List.length_eq_zero_iff.mp (h.nb.symm.trans hz)
      subst hrb
      obtain ⟨s', e1, e2, e3⟩ := firstBlock_inv ops h1 hh hmt hl1 hl2 hl3
      exact ⟨s', _, e1, ⟨e2.inv, e2.ne, e2.flat, e2.bs, e2.min, e2.mt, e2.tb, e2.slots⟩, e3⟩
    · rw [if_neg hz, if_pos (Nat.lt_of_lt_of_le hmin hl2)]
      have hne : rb ≠ [] := fun hrb => hz (by rw [h.nb, hrb]; rfl)
      obtain ⟨s', rb', e1, e2, e3⟩ := laterBlock_inv ops hirr h1 hne hh hl1 hl2 hl3 hmt htb
      exact ⟨s', rb', e1, ⟨e2.inv, e2.ne, e2.flat, e2.bs, e2.min, e2.mt, e2.tb, e2.slots⟩, e3⟩
  obtain ⟨s', rb', e1, e2, e3⟩ := key
  unfold finishBlock
  dsimp only
  rw [hbs, e1, Out.bind_ok]
  cases isFinal with
  | false => exact ⟨s', rb', rfl, e2, fun _ => e3, fun hc => nomatch hc⟩
  | true =>
    exact ⟨{ s' with histosSize := s'.numTypes, splitNumBlocks := s'.numBlocks }, rb', rfl,
      ⟨{ e2.inv with }, e2.ne, e2.flat, e2.bs, e2.min, e2.mt, e2.tb, e2.slots⟩, (fun hc => nomatch hc), fun _ => ⟨rfl, e2.inv.nb⟩⟩

end BV.Greedy
