import BV.Lemmas.StreamTiny
import BV.Lemmas.StreamLtsCall
/-!
`storage_` is never indexed past its end: the invariant `StoreOK` (the pending bytes lie inside
`storage_` behind the cursor, with two bytes of slack while a padding block may still be appended
behind them), its preservation by every atomic step, and — with `TinyOK` — `PendingInBuffer`, which is what
the C-ABI proofs (C13) assume of every state a stream call hands back (there as `OutOk`, Lemmas/FFIStream).

The capacity check of `encode_data` on `storage_` never fires: `get_brotli_storage` asks for enough
(`2 * span + 527` for a meta-block over `span` bytes) for every answer within the `OracleOK` size bound
(`encodeData_panic_only_prelude`). The same for a one-shot block, and that under `StoreOK` the padding
block, the push and `take_output` stay inside, is proved where it is stated (Props C01).
-/

namespace BV.Stream
open BV.Bits

/-- `fits`: the 2 bytes are room for a padding block (at most 2 bytes for a carry below 8 bits), as long as one can
still be appended behind the pending bytes; with nothing pending the padding block goes to `tiny_buf_`, not here -/
structure StoreOK (s : St) : Prop where
  fits : ∀ off, s.nextOut = .dyn off →
    off + s.pending.length + (if s.lastBytesBits = 0 ∨ s.pending.length = 0 then 0 else 2) ≤ s.storageSize
  carry : ∀ off, s.nextOut = .dyn off → s.lastBytesBits < 8

/-- the same `match` as `OutOk` of Lemmas/FFIStream, which imports this file -/
def PendingInBuffer (s : St) : Prop :=
  match s.nextOut with
  | .dyn off => off + s.pending.length ≤ s.storageSize
  | .tiny off => off + s.pending.length ≤ 16
  | .none => True

theorem pendingInBuffer_of {s : St} (hS : StoreOK s) (hT : TinyOK s) : PendingInBuffer s := by
  unfold PendingInBuffer
  cases hn : s.nextOut with
  | dyn off => have := hS.fits off hn; simp only; omega
  | tiny off => exact (hT.fits off hn).1
  | none => trivial

theorem storeOK_of_eq {s s' : St} (hS : StoreOK s) (h1 : s'.nextOut = s.nextOut) (h2 : s'.pending = s.pending)
    (h3 : s'.lastBytesBits = s.lastBytesBits) (h4 : s.storageSize ≤ s'.storageSize) : StoreOK s' := by
  refine ⟨?_, ?_⟩
  · intro off ho
    have := hS.fits off (h1 ▸ ho)
    rw [h2, h3]
    omega
  · intro off ho
    rw [h3]; exact hS.carry off (h1 ▸ ho)

theorem storeOK_notDyn {s : St} (h : ∀ off, s.nextOut ≠ .dyn off) : StoreOK s :=
  ⟨fun off ho => absurd ho (h off), fun off ho => absurd ho (h off)⟩

theorem pad_store {s s1 : St} (h : injectBytePaddingBlock s = .ok s1) : StoreOK s1 := by
  unfold injectBytePaddingBlock at h
  split at h
  · split at h
    · rename_i off hno
      split at h
      · simp at h
      · rename_i hok
        simp only [Out.ok.injEq] at h
        subst h
        refine ⟨?_, ?_⟩
        · intro off' ho
          simp only [padResult] at ho ⊢
          rw [hno] at ho
          injection ho with ho
          subst ho
          simp only [List.length_append, sealBytes, List.length_map, List.length_range, true_or, ↓reduceIte]
          omega
        · intro off' _; simp [padResult]
    · rename_i off hno
      split at h
      · simp at h
      · simp only [Out.ok.injEq] at h
        subst h
        apply storeOK_notDyn
        intro off' ho
        simp [padResult, hno] at ho
    · simp at h
  · simp only [Out.ok.injEq] at h
    subst h
    apply storeOK_notDyn
    intro off' ho
    simp [padResult] at ho

theorem storeOK_advance {s s' : St} {c : Nat} (hS : StoreOK s) (hc : c ≤ s.pending.length)
    (h1 : s'.nextOut = nextOutIncrement s.nextOut c) (h2 : s'.pending = s.pending.drop c)
    (h3 : s'.lastBytesBits = s.lastBytesBits) (hst : s'.storageSize = s.storageSize) : StoreOK s' := by
  have hdyn : ∀ off, s'.nextOut = .dyn off → ∃ o, s.nextOut = .dyn o ∧ (o + c) % two32 = off := by
    intro off ho
    rw [h1] at ho
    cases hno : s.nextOut with
    | none => rw [hno] at ho; simp [nextOutIncrement] at ho
    | tiny o => rw [hno] at ho; simp [nextOutIncrement] at ho
    | dyn o =>
      rw [hno] at ho
      simp only [nextOutIncrement, NextOut.dyn.injEq] at ho
      exact ⟨o, rfl, ho⟩
  refine ⟨?_, ?_⟩
  · intro off ho
    obtain ⟨o, hno, ho⟩ := hdyn off ho
    have hf := hS.fits o hno
    have hm := Nat.mod_le (o + c) two32
    rw [h2, h3, hst, List.length_drop, ← ho]
    split at hf <;> split <;> omega
  · intro off ho
    obtain ⟨o, hno, -⟩ := hdyn off ho
    rw [h3]; exact hS.carry o hno

theorem push_store {s s1 : St} {io io1 : Io} {b : Bool} (hS : StoreOK s) (hc : ¬ PadDue s)
    (h : injectFlushOrPushOutput s io = .ok (s1, io1, b)) : StoreOK s1 := by
  rcases push_shape hc h with rfl | ⟨h1, h2, h3, _, _, _⟩
  · exact hS
  · exact storeOK_advance hS (Nat.min_le_left _ _) h1 h2 h3 (push_frame h).storageSize

theorem encode_store {o : Oracle} {s s' : St} {site : Nat} {il ff : Bool} {req : Req} (hS : StoreOK s)
    (hpend : s.pending = []) (h : encodeData o s site il ff = .ok (s', true, req)) : StoreOK s' := by
  obtain ⟨_, _, hdr, hM, hpay⟩ := encodeData_spec h
  obtain ⟨_, hw2, hcase⟩ := encPayload_spec hpay
  have hst : s'.storageSize = (encMid s il).1.storageSize := (encPayload_frame hpay).storageSize
  rcases hcase with ⟨_, c1, _, c3, _, _, c7⟩ | ⟨_, c1, _, c3, _, _, c7, c8⟩
  · -- only what the skeleton wrote is handed out
    rcases hM.shape with ⟨a1, a2, _, a4⟩ | ⟨a1, a2, _, _, a5⟩
    · have hlen : s'.pending.length ≤ (encMid s il).2.length / 8 := by
        rw [c1, List.length_take]
        exact Nat.le_trans (Nat.min_le_right _ _) (wholeBytes_length _)
      refine ⟨?_, fun _ _ => by rw [c3, a4]; exact (carryOf_lt _).2⟩
      intro off ho
      rw [c7, a1] at ho
      injection ho with ho
      rw [hst, ← ho]
      split <;> omega
    · have hp0 : s'.pending.length = 0 := by rw [c1, a2]; simp
      refine ⟨?_, ?_⟩
      · intro off ho
        have hf := hS.fits off (by rw [← a1, ← c7]; exact ho)
        rw [hpend] at hf
        simp only [List.length_nil, Nat.add_zero, or_true, ↓reduceIte] at hf
        have := hM.grow
        rw [hst, hp0]
        simp only [or_true, ↓reduceIte]
        omega
      · intro off ho
        rw [c3, a5]
        exact hS.carry off (by rw [← a1, ← c7]; exact ho)
  · -- the whole meta-block is staged at `storage_[0]`
    refine ⟨?_, ?_⟩
    · intro off ho
      rw [c7] at ho
      injection ho with ho
      have := wholeBytes_length (payBits (o s.nEnc (reqOf s site il ff)) s.carry (encMid s il).2)
      rw [c1, hst, ← ho]
      split <;> omega
    · intro _ _
      rw [c3]; exact (carryOf_lt _).2

theorem fast_store {s1 : St} (ans : Ans) (ip il ff : Bool) (hS1 : StoreOK s1)
    (hp : s1.pending = []) (hfit : ip = false → (s1.lastBytesBits + ans.bits.length) / 8 + 2 ≤ s1.storageSize) :
    StoreOK (fastSt s1 ans ip il ff) := by
  cases ip
  · have hfit' := hfit rfl
    refine ⟨?_, ?_⟩
    · intro off ho
      simp only [fastSt, Bool.false_eq_true, ↓reduceIte] at ho ⊢
      injection ho with ho
      have hl := wholeBytes_length (s1.carry ++ ans.bits)
      rw [List.length_append, s1.carry_length] at hl
      rw [← ho]
      split <;> omega
    · intro off _
      exact (carryOf_lt _).2
  · refine ⟨?_, ?_⟩
    · intro off ho
      simp only [fastSt, ↓reduceIte] at ho ⊢
      have hf := hS1.fits off ho
      rw [hp] at hf ⊢
      simp only [List.length_nil, Nat.add_zero, or_true, ↓reduceIte] at hf ⊢
      exact hf
    · intro off _
      exact (carryOf_lt _).2

theorem step_storeOK {o : Oracle} {op : Nat} {s s' : St} {io io' : Io} {e : Ev} (hS : StoreOK s)
    (hs : Step o op (s, io) e (s', io')) : StoreOK s' := by
  rcases hs.effect with ⟨hf, _, rfl, _⟩ | ⟨hI, ha⟩
  · obtain ⟨p, rfl⟩ := hf
    exact storeOK_notDyn (fun off ho => by cases ho)
  · cases ha with
    | pad hc hz he => exact pad_store he
    | push hc hp he => exact push_store hS hc he
    | @enc k _ _ _ _ _ _ hE hI0 hpend he hfr =>
      have h1 : StoreOK (s.hint k) := storeOK_of_eq hS rfl rfl rfl (Nat.le_refl _)
      have h2 := encode_store h1 (show (s.hint k).pending = [] from hpend) he
      exact storeOK_of_eq h2 rfl rfl rfl (Nat.le_refl _)
    | flushed => exact storeOK_notDyn (fun off ho => by cases ho)
    | @fastBlock ss hfm hop hrm hnp hpend hst hgo hnf hss hcap hin hfit =>
      exact fast_store _ _ _ _ (storeOK_of_eq (s' := { s with storageSize := ss }) hS rfl rfl rfl hss.1) hpend
        (fun hip => by rw [hip] at hfit; exact Nat.le_of_not_gt hfit)
    | mdHead => exact storeOK_notDyn (fun off ho => by cases ho)
    | mdTiny => exact storeOK_notDyn (fun off ho => by cases ho)
    | _ => exact storeOK_of_eq hS rfl rfl rfl (Nat.le_refl _)

theorem storeOK_fresh {s : St} (h : IsFresh s) : StoreOK s := by
  apply storeOK_notDyn
  intro off ho
  obtain ⟨p, rfl⟩ := h
  simp [St.new] at ho

theorem storeOK_call {o : Oracle} {fuel op cap : Nat} {input : Bytes} {s s' : St} {io' : Io} {r : Bool}
    (hop : op ≤ 3) (hR : IsFresh s ∨ Inv s) (hw : s.inputPos + input.length < two64) (hS : StoreOK s)
    (h : compressStream o fuel s op input cap = .ok (s', io', r)) : StoreOK s' :=
  call_induct_run (fun c => StoreOK c.1) (fun _ _ _ hc hs => step_storeOK hc hs)
    (fun s _ _ hc => by rw [updateSizeHint_eq]; exact storeOK_of_eq hc rfl rfl rfl (Nat.le_refl _)) hop hR hw h hS

theorem storeOK_take {s s' : St} {size : Nat} {out : Bytes} (hS : StoreOK s) (h : takeOutput s size = .ok (s', out)) :
    StoreOK s' := by
  rcases takeOutput_cases h with ⟨rfl, _⟩ | ⟨rfl, _⟩
  · exact hS
  · have h1 : StoreOK (takeAdvance s (takeCount s size)) := storeOK_advance hS (takeCount_le s size) rfl rfl rfl rfl
    unfold checkFlushComplete
    split
    · apply storeOK_notDyn; intro off ho; simp at ho
    · exact h1

/-- arithmetic of the two `storage_` checks of `encode_data`. `176`: the most bits the skeleton writes
itself behind the carry (`EncMidOK.wlen`); `2 * span + 500` bytes: the size bound on an answer over `span`
bytes (`OracleOK.fits`); `2 * span + 527`: what `get_brotli_storage` is asked for (`wantStorage`). -/
theorem storage_arith {wl w0l bl span st : Nat} (hw0 : w0l ≤ 14) (hw0le : w0l ≤ wl) (hwl : wl ≤ w0l + 176)
    (hb : bl ≤ 8 * (2 * span + 500)) (hst : 2 * span + 527 ≤ st) :
    wl / 8 + 2 ≤ st ∧ (wl + (bl - (wl - w0l))) / 8 + 2 ≤ st := by
  constructor
  · omega
  · omega

theorem encPayload_no_panic {s : St} {ans : Ans} {w0 w : Writer} {hdr span : Nat} {il ff : Bool}
    (hw0 : w0.length ≤ 14) (hw0le : w0.length ≤ w.length) (hwl : w.length ≤ w0.length + 176)
    (hb : ans.bits.length ≤ 8 * (2 * span + 500)) (hst : 2 * span + 527 ≤ s.storageSize) :
    encPayload s ans w0 w hdr il ff ≠ .panic := by
  obtain ⟨a1, a2⟩ := storage_arith hw0 hw0le hwl hb hst
  have a2' : ¬ ((w ++ ans.bits.drop (w.drop w0.length).length).length / 8 + 2 > s.storageSize) := by
    simp only [List.length_append, List.length_drop]
    omega
  have a1' : ¬ (w.length / 8 + 2 > s.storageSize) := by omega
  unfold encPayload
  simp only
  rw [if_neg a1']
  repeat' split
  all_goals first
    | (intro hh; cases hh; done)
    | (rename_i hbad; exact absurd hbad a2')

/-- `4611686018427387904 = 2^62`: with the input position below it, `2 * span + 527` does not wrap in `u64` -/
theorem wantStorage_eq {s : St} (hI : Inv s) (hsmall : s.inputPos < 4611686018427387904) :
    wantStorage s = 2 * (s.inputPos - s.lastFlushPos) + 527 := by
  unfold wantStorage
  have h1 := hI.fl_le
  have h2 := hI.lp_le
  have hu := hI.unprocessed
  have hf : wsub64 s.inputPos s.lastFlushPos = s.inputPos - s.lastFlushPos := wsub64_eq (by omega) hI.ip_lt
  have hb : s.unprocessed % two32 ≤ s.unprocessed := Nat.mod_le _ _
  rw [hf]
  generalize s.unprocessed % two32 = m at hb
  have hmax : max m (s.inputPos - s.lastFlushPos) = s.inputPos - s.lastFlushPos := by
    apply Nat.max_eq_right; omega
  rw [hmax]
  apply Nat.mod_eq_of_lt
  unfold two64
  omega

theorem encodeData_panic_cases {o : Oracle} {s : St} {site : Nat} {il ff : Bool}
    (h : encodeData o s site il ff = .panic) :
    (encEntry s il).storageSize < 2 ∨
    encRest (encMagic (encEntry s il) s.carry) (o s.nEnc (reqOf s site il ff)) s.carry (s.unprocessed % two32) il ff = .panic := by
  unfold encodeData at h
  split at h
  · simp at h
  · split at h
    · simp at h
    · split at h
      · rename_i hlt
        exact Or.inl hlt
      · split at h
        · rename_i hrest
          exact Or.inr hrest
        · simp at h
        · simp at h

theorem encRest_panic {m : St × Writer × Nat} {ans : Ans} {w0 : Writer} {bytes : Nat} {il ff : Bool}
    (h : encRest m ans w0 bytes il ff = .panic) :
    encPre3 m bytes = .panic ∨ ∃ s2 w hdr, encPre3 m bytes = .ok (s2, w, hdr) ∧ encPayload s2 ans w0 w hdr il ff = .panic := by
  unfold encRest at h
  split at h
  · rename_i hp
    exact Or.inl hp
  · simp at h
  · rename_i s2 w hdr hp
    exact Or.inr ⟨s2, w, hdr, hp, h⟩

theorem encodeData_panic_only_prelude {o : Oracle} {s : St} {site : Nat} {il ff : Bool} (hO : OracleOK o) (hsite : site ≠ 2)
    (hI : Inv s) (hl : s.lastBytesBits ≤ 14) (hsmall : s.inputPos < 4611686018427387904)
    (h : encodeData o s site il ff = .panic) :
    encPre3 (encMagic (encEntry s il) s.carry) (s.unprocessed % two32) = .panic := by
  have hwant := wantStorage_eq hI hsmall
  have hent : wantStorage s ≤ (encEntry s il).storageSize := by rw [encEntry_eq]; exact Nat.le_max_right _ _
  rcases encodeData_panic_cases h with hlt | hrest
  · omega
  · rcases encRest_panic hrest with hp | ⟨s2, w, hdr, hpre3, hpay⟩
    · exact hp
    · exfalso
      have hpre' : encPrelude (encMagic (encEntry s il) s.carry).1 (encMagic (encEntry s il) s.carry).2.1
          (encMagic (encEntry s il) s.carry).2.2 (s.unprocessed % two32) = .ok (s2, w, hdr) := hpre3
      have hcl := s.carry_length
      have hml := encMagic_wlen (encEntry s il) s.carry
      have hpl := encPrelude_wlen hpre'
      have hcar : (encEntry s il).carry = s.carry := by rw [encEntry_eq]; rfl
      have hsh := encMagic_coh (encEntry s il)
      rw [hcar] at hsh
      obtain ⟨hcoh, x1, hx1⟩ := hsh
      obtain ⟨_, x2, hx2⟩ := encPrelude_coh hcoh hpre'
      have hwle : s.carry.length ≤ w.length := by
        rw [hx2, hx1, List.length_append, List.length_append]; omega
      have hss : s2.storageSize = (encEntry s il).storageSize := by
        rw [(encPrelude_frame hpre').storageSize, (encMagic_frame (encEntry s il) s.carry).storageSize]
      have hfit := hO.fits s.nEnc (reqOf s site il ff)
      have hsite' : (reqOf s site il ff).site = site := rfl
      rw [hsite', if_neg hsite] at hfit
      have hspan : max ((reqOf s site il ff).hi - (reqOf s site il ff).lo) ((reqOf s site il ff).hi - (reqOf s site il ff).lf)
          = s.inputPos - s.lastFlushPos := by
        show max (s.inputPos - s.lastProcessedPos) (s.inputPos - s.lastFlushPos) = s.inputPos - s.lastFlushPos
        have := hI.fl_le
        apply Nat.max_eq_right; omega
      rw [hspan] at hfit
      refine encPayload_no_panic (span := s.inputPos - s.lastFlushPos) (by rw [hcl]; exact hl) hwle ?_ hfit ?_ hpay
      · rw [hcl] at hml ⊢; omega
      · rw [hss]; omega

end BV.Stream
