/-
The bit writer on whole-byte payloads and on padding, against the matching primitives of the specification reader
(`BV.HeaderSpec`); `encode_base_128` against the specification reader `decodeBase128` (C15 `base128_roundtrip`).
-/
import BV.Model.Header
import BV.Lemmas.HeaderSpec
import BV.Lemmas.Bits

namespace BV.Header
open BV.Bits BV.HeaderSpec BV.Bits.Out
attribute [simp] bitsOf_length

theorem takeVal_bitsOf (n v : Nat) (r : List Bool) (h : v < 2 ^ n) :
    takeVal n (bitsOf n v ++ r) = some (v, r) := by
  simp [takeVal, valOf_bitsOf, Nat.mod_eq_of_lt h]

theorem writeBytes_ok (bs : List Nat) (w : Writer) (h : ∀ b ∈ bs, b < 256) :
    writeBytes 8 bs w = ok (w ++ bs.flatMap (bitsOf 8)) := by
  induction bs generalizing w with
  | nil => simp [writeBytes]
  | cons b bs ih =>
    have hb : b < 2 ^ 8 := h b (by simp)
    simp only [writeBytes, writeBits_ok 8 b w hb (by decide)]
    show writeBytes 8 bs (w ++ bitsOf 8 b) = _
    rw [ih _ (fun x hx => h x (by simp [hx]))]
    simp

theorem takeBytes_bytes (bs : List Nat) (r : List Bool) (h : ∀ b ∈ bs, b < 256) :
    takeBytes bs.length (bs.flatMap (bitsOf 8) ++ r) = some (bs, r) := by
  induction bs with
  | nil => simp [takeBytes]
  | cons b bs ih =>
    have hb : b < 2 ^ 8 := h b (by simp)
    simp only [List.length_cons, takeBytes, List.flatMap_cons, List.append_assoc]
    rw [takeVal_bitsOf 8 b _ hb]
    simp only [ih (fun x hx => h x (by simp [hx]))]

theorem jump_eq (w : Writer) : jumpToByteBoundary w = w ++ List.replicate ((8 - w.length % 8) % 8) false := by
  simp only [jumpToByteBoundary, lit, BV.Gen.lits_JumpToByteBoundary, List.getD_cons_zero, List.getD_cons_succ]
  congr 2
  omega

theorem jump_length (w : Writer) : (jumpToByteBoundary w).length = (w.length + 7) / 8 * 8 := by
  rw [jump_eq]; simp; omega

theorem appendBytes_length (data : List Nat) (w : Writer) : (appendBytes data w).length = w.length + 8 * data.length := by
  rw [appendBytes, List.length_append, flatMap_bitsOf_length]

theorem skipPad_pad (pos : Nat) (r : List Bool) :
    skipPad pos (List.replicate ((8 - pos % 8) % 8) false ++ r) = some r := by
  simp [skipPad]

theorem or128 (x : Nat) (h : x < 128) : x ||| 128 = x + 128 := or_eq_add_shift x 1 7 h

/-- the four literals one step of the loop uses (mask `0x7f`, shift 7, the `0` it compares with, the continuation bit
`0x80`), as arithmetic -/
theorem b128_step (v : Nat) :
    (v &&& lit litsB128 2) = v % 128 ∧ (v >>> lit litsB128 3) = v / 128 ∧ lit litsB128 4 = 0 ∧ lit litsB128 5 = 128 := by
  refine ⟨?_, ?_, rfl, rfl⟩
  · show v &&& 127 = v % 128
    exact Nat.and_two_pow_sub_one_eq_mod v 7
  · show v >>> 7 = v / 128
    exact Nat.shiftRight_eq_div_pow v 7

/-- `j` counts the 7-bit digits of `v`; the fuel only has to cover them -/
theorem encodeBase128Loop_spec : ∀ (fuel j v : Nat) (acc : List Nat) (rest : List Nat), 0 < j → j ≤ fuel → v < 128 ^ j →
    ∃ enc, encodeBase128Loop fuel v acc = acc ++ enc ∧ decodeBase128 (enc ++ rest) = some (v, rest) ∧
      1 ≤ enc.length ∧ enc.length ≤ j ∧ ∀ b ∈ enc, b < 256 := by
  intro fuel
  induction fuel with
  | zero => intro j v acc rest h1 h2; omega
  | succ fuel ih =>
    intro j v acc rest hj hf hv
    obtain ⟨e1, e2, e3, e4⟩ := b128_step v
    unfold encodeBase128Loop
    simp only [e1, e2, e3, e4]
    by_cases hz : v / 128 = 0
    · simp only [hz, ne_eq, not_true_eq_false, ↓reduceIte]
      refine ⟨[v % 128], rfl, ?_, by simp, by simp; omega, ?_⟩
      · have : v < 128 := by omega
        simp [decodeBase128, Nat.mod_eq_of_lt this, this]
      · intro b hb; simp at hb; omega
    · simp only [hz, ne_eq, not_false_eq_true, ↓reduceIte]
      have hj2 : 2 ≤ j := by
        rcases Nat.lt_or_ge j 2 with h | h
        · have : j = 1 := by omega
          subst this; simp at hv; omega
        · exact h
      have hv' : v / 128 < 128 ^ (j - 1) := by
        rw [Nat.div_lt_iff_lt_mul (by decide)]
        have : 128 ^ j = 128 ^ (j - 1) * 128 := by
          rw [← Nat.pow_succ]; congr 1; omega
        omega
      obtain ⟨enc, h1, h2, h3, h4, h5⟩ := ih (j - 1) (v / 128) (acc ++ [v % 128 ||| 128]) rest (by omega) (by omega) hv'
      have hor := or128 (v % 128) (Nat.mod_lt _ (by decide))
      refine ⟨(v % 128 + 128) :: enc, ?_, ?_, by simp, by simp; omega, ?_⟩
      · rw [h1, hor]; simp
      · simp only [List.cons_append, decodeBase128]
        have : ¬ (v % 128 + 128 < 128) := by omega
        simp only [this, ↓reduceIte, h2]
        congr 2
        omega
      · intro b hb
        simp at hb
        rcases hb with rfl | hb
        · have := Nat.mod_lt v (show 128 > 0 by decide); omega
        · exact h5 b hb

theorem encodeBase128_spec (v : Nat) (hv : v < 2 ^ 64) (rest : List Nat) :
    decodeBase128 (encodeBase128 v ++ rest) = some (v, rest) ∧
    1 ≤ (encodeBase128 v).length ∧ (encodeBase128 v).length ≤ 10 ∧ ∀ b ∈ encodeBase128 v, b < 256 := by
  have h := encodeBase128Loop_spec 10 10 v [] rest (by decide) (by decide) (by omega)
  obtain ⟨enc, h1, h2, h3, h4, h5⟩ := h
  have : encodeBase128 v = enc := by
    simp only [encodeBase128, Nat.mod_eq_of_lt hv, BV.Gen.MAX_SIZE_ENCODING]
    simpa using h1
  rw [this]
  exact ⟨h2, h3, h4, h5⟩

theorem encodeBase128_length_le (v j : Nat) (h1 : 0 < j) (h2 : j ≤ 10) (hv : v < 128 ^ j) (hv64 : v < 2 ^ 64) :
    (encodeBase128 v).length ≤ j := by
  obtain ⟨enc, e, _, _, hl, _⟩ := encodeBase128Loop_spec 10 j v [] [] h1 h2 hv
  simp only [encodeBase128, Nat.mod_eq_of_lt hv64, BV.Gen.MAX_SIZE_ENCODING]
  rw [e]; simpa using hl

end BV.Header
