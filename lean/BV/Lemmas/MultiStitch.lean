/-
Helper lemmas for C02/C06: the stitch loop of `CompressMulti` against a reference splice.  The reference (spec side)
is the concatenator driven the way its API prescribes: per member `new_brotli_file`, then ONE `stream` call with all
the room that is left, which must consume the member (`NeedsMoreInput`, or `Success`); then `finish`, which must
answer `Success` (`spliceMembers`, `spliceFinish`, `spliceAll`).  `stitch_ok_iff` is the one induction: the loop over
joined results ends `Ok` exactly when all results are `Ok` and `spliceMembers` succeeds on their bytes.
-/
import BV.Model.Multi

namespace BV.Lemmas.Multi
open BV.Multi BV.Multi.Res

def goodCode (c : Nat) : Prop := c = BV.Concat.SUCCESS ∨ c = BV.Concat.NEEDS_MORE_INPUT

instance (c : Nat) : Decidable (goodCode c) := by unfold goodCode; infer_instance

def spliceMembers (cap : Nat) : List (List Nat) → BV.Concat.State → List Nat → Option (BV.Concat.State × List Nat)
  | [], s, out => some (s, out)
  | b :: bs, s, out =>
    match BV.Concat.stream (BV.Concat.newBrotliFile s) b (cap - out.length) with
    | .ok r => if goodCode r.code then spliceMembers cap bs r.st (out ++ r.produced) else none
    | .panic _ => none

def spliceFinish (cap : Nat) (s : BV.Concat.State) (out : List Nat) : Option (List Nat) :=
  match BV.Concat.finish s (cap - out.length) with
  | .ok f => if f.code = BV.Concat.SUCCESS then some (out ++ f.produced) else none
  | .panic _ => none

/-- the reference: what a correct stitcher leaves in `output[..k]`; `none` = some call did not answer as required -/
def spliceAll (cap : Nat) (bs : List (List Nat)) : Option (List Nat) :=
  match spliceMembers cap bs BV.Concat.State.new [] with
  | some (s, out) => spliceFinish cap s out
  | none => none

theorem bind_eq_ok {α β : Type} {x : Res α} {f : α → Res β} {v : β} (h : x.bind f = ok v) :
    ∃ a, x = ok a ∧ f a = ok v := by
  cases x with
  | panic s => simp [Res.bind] at h
  | hang => simp [Res.bind] at h
  | ok a => exact ⟨a, rfl, h⟩

theorem bind_ok {α β : Type} (a : α) (f : α → Res β) : (ok a : Res α).bind f = f a := rfl

def isErr (r : Except TErr Nat) : Prop := ∃ e, r = .error e
def isOk (r : Except TErr Nat) : Prop := ∃ k, r = .ok k

theorem not_isErr_ok {k : Nat} : ¬ isErr (.ok k) := by intro ⟨e, h⟩; cases h

theorem codeToRes_good {c n : Nat} (h : goodCode c) : codeToRes c n = .ok n := by
  unfold codeToRes; unfold goodCode at h; rw [if_pos h]

theorem codeToRes_bad {c n : Nat} (h : ¬ goodCode c) : isErr (codeToRes c n) := by
  unfold codeToRes; unfold goodCode at h; rw [if_neg h]
  by_cases h2 : c = BV.Concat.NEEDS_MORE_OUTPUT
  · rw [if_pos h2]; exact ⟨_, rfl⟩
  · rw [if_neg h2]; exact ⟨_, rfl⟩

theorem joined_ok_iff (sp : Spawner) (r : JobRes) (b : List Nat) : joined sp r = .ok b ↔ r = .ok b := by
  cases r <;> cases sp <;> simp [joined]

theorem stitch_append (cap : Nat) : ∀ (xs ys : List Joined) (a : Acc),
    stitch cap (xs ++ ys) a = (stitch cap xs a).bind fun
      | .inl a' => stitch cap ys a'
      | .inr e => ok (.inr e) := by
  intro xs
  induction xs with
  | nil => intro ys a; rfl
  | cons j xs ih =>
    intro ys a
    cases j with
    | never => rfl
    | execErr => rfl
    | err => exact ih ys (errArm a)
    | ok bytes =>
      simp only [List.cons_append, stitch]
      cases stitchArm cap a bytes with
      | ok a1 => exact ih ys a1
      | panic s => rfl
      | hang => rfl

theorem errArm_res (a : Acc) : ∃ e, (errArm a).res = .error e := by
  unfold errArm
  cases h : a.res with
  | ok k => exact ⟨_, rfl⟩
  | error e => exact ⟨e, h⟩

def Tight (a : Acc) : Prop := ∀ k, a.res = .ok k → k = a.out.length

theorem stitch_ok_iff (cap : Nat) : ∀ (js : List Joined) (a : Acc) (k : Nat) (s' : BV.Concat.State) (out' : List Nat),
    Tight a →
    (stitch cap js a = ok (.inl ⟨.ok k, out', s'⟩) ↔
      k = out'.length ∧ isOk a.res ∧
        ∃ bs, js = bs.map Joined.ok ∧ spliceMembers cap bs a.cat a.out = some (s', out')) := by
  intro js
  induction js with
  | nil =>
    intro a k s' out' ht
    obtain ⟨res, out, cat⟩ := a
    simp only [stitch, ok.injEq, Sum.inl.injEq, Acc.mk.injEq]
    constructor
    · rintro ⟨rfl, rfl, rfl⟩
      exact ⟨ht k rfl, ⟨k, rfl⟩, [], rfl, rfl⟩
    · rintro ⟨rfl, ⟨k0, hk0⟩, bs, hbs, hsp⟩
      cases bs with
      | cons _ _ => cases hbs
      | nil =>
        simp only [spliceMembers, Option.some.injEq, Prod.mk.injEq] at hsp
        obtain ⟨rfl, rfl⟩ := hsp
        exact ⟨by rw [hk0, ht k0 hk0], rfl, rfl⟩
  | cons j js ih =>
    intro a k s' out' ht
    -- neither side holds for a list that does not begin with `Ok(bytes)`
    have no : ∀ {P : Prop}, (∀ b bs, j :: js ≠ (b :: bs).map Joined.ok) → (P → False) →
        (P ↔ k = out'.length ∧ isOk a.res ∧
          ∃ bs, j :: js = bs.map Joined.ok ∧ spliceMembers cap bs a.cat a.out = some (s', out')) :=
      fun hj hP => ⟨fun h => (hP h).elim, fun ⟨_, _, bs, hbs, _⟩ => by
        cases bs with
        | nil => cases hbs
        | cons b bs => exact (hj b bs hbs).elim⟩
    cases j with
    | never => exact no (fun _ _ h => by cases h) (fun h => by cases h)
    | execErr => exact no (fun _ _ h => by cases h) (fun h => by simp [stitch] at h)
    | err =>
      refine no (fun _ _ h => by cases h) fun h => ?_
      obtain ⟨e, he⟩ := errArm_res a
      obtain ⟨_, ⟨k1, hk1⟩, _⟩ := (ih (errArm a) k s' out' (fun _ h => by rw [he] at h; cases h)).mp h
      rw [he] at hk1; cases hk1
    | ok bytes =>
      cases hres : a.res with
      | error e =>
        have e1 : stitch cap (.ok bytes :: js) a = stitch cap js a := by simp only [stitch, stitchArm, hres, bind_ok]
        rw [e1, ih a k s' out' ht]
        simp only [hres, isOk, reduceCtorEq, exists_false, false_and, and_false]
      | ok k0 =>
        have e1 : stitch cap (.ok bytes :: js) a = (stitchOk cap a bytes).bind fun a' => stitch cap js a' := by
          simp only [stitch, stitchArm, hres]
        rw [e1]
        unfold stitchOk
        cases hs : BV.Concat.stream (BV.Concat.newBrotliFile a.cat) bytes (cap - a.out.length) with
        | panic t =>
          refine ⟨fun h => (by cases h), fun ⟨_, _, bs, hbs, hsp⟩ => ?_⟩
          cases bs with
          | nil => cases hbs
          | cons b bs => cases hbs; simp only [spliceMembers, hs] at hsp; cases hsp
        | ok r =>
          simp only [bind_ok]
          by_cases hg : goodCode r.code
          · rw [codeToRes_good hg, ih _ k s' out' (fun k' hk' => by cases hk'; rfl)]
            refine and_congr_right fun _ => ⟨fun ⟨_, bs, hbs, hsp⟩ => ⟨⟨k0, rfl⟩, bytes :: bs, by rw [hbs]; rfl, ?_⟩,
              fun ⟨_, bs, hbs, hsp⟩ => ⟨⟨_, rfl⟩, ?_⟩⟩
            · simp only [spliceMembers, hs, if_pos hg]; exact hsp
            · cases bs with
              | nil => cases hbs
              | cons b bs =>
                cases hbs
                simp only [spliceMembers, hs, if_pos hg] at hsp
                exact ⟨bs, rfl, hsp⟩
          · obtain ⟨e, he⟩ := codeToRes_bad (n := (a.out ++ r.produced).length) hg
            rw [he]
            refine ⟨fun h => ?_, fun ⟨_, _, bs, hbs, hsp⟩ => ?_⟩
            · obtain ⟨_, ⟨_, hk1⟩, _⟩ := (ih _ k s' out' (fun _ h => by cases h)).mp h
              cases hk1
            · cases bs with
              | nil => cases hbs
              | cons b bs => cases hbs; simp only [spliceMembers, hs, if_neg hg] at hsp; cases hsp

end BV.Lemmas.Multi
