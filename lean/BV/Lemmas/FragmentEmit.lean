/-
The command words `CreateCommands` emits (`EmitInsertLen`, `EmitCopyLen`, `EmitCopyLenLastDistance`, `EmitDistance` of
the two-pass file) carry, under the RFC 7932 §4/§5 tables that `stepQ1` reads them with, exactly the length / distance
they were built from.  Lengths (`LenWord`): the code is fixed by the (half-)octave of the length; distances: C18
`dist_encode_exact` (`EmitDistance` is `PrefixEncodeCopyDistance` with NPOSTFIX = NDIRECT = 0).
-/
import BV.Lemmas.FragmentTab
import BV.Props.C18
import BV.Lemmas.ListNat
namespace BV.Fragment
open BV.Bits BV.MetaBlock BV.Huffman BV.PrefixArith BV.Recoder

def cpBase (code : Nat) : Nat :=
  match rfcCopyTable[(rfcCmdDecode (q1Symbol code)).2.1]? with | some (cb, _) => cb | none => 0

/-- the insert-and-copy symbol of command code `code` implies distance symbol 0 -/
def impl0 (code : Nat) : Bool := (rfcCmdDecode (q1Symbol code)).2.2

/-- `e < 2^24`: `extra << 8` must fit the `u32` word; this is where the bound `mlen < 16777216` of the replay lemmas comes from -/
theorem cmdWord_eq (c e : Nat) (hc : c < 256) (he : e < 16777216) :
    cmdWord c e = c + 256 * e ∧ cmdWord c e % 256 = c ∧ cmdWord c e / 256 = e := by
  have e32 : two32 = 4294967296 := rfl
  have h2 : c ||| e * 256 = c + e * 256 := by simpa [Nat.shiftLeft_eq] using BV.or_shl c e 8 (by omega)
  have h3 : cmdWord c e = c + 256 * e := by
    unfold cmdWord
    rw [Nat.mod_eq_of_lt (show e * 256 < two32 by omega), h2]
    exact (Nat.mod_eq_of_lt (by omega)).trans (by omega)
  refine ⟨h3, ?_, ?_⟩ <;> rw [h3] <;> omega

def LenWord (B : Nat → Nat) (lo hi n w : Nat) : Prop :=
  ∃ code extra, w = code + 256 * extra ∧ lo ≤ code ∧ code ≤ hi ∧
    extra < 2 ^ kNumExtraBits.getD code 0 ∧ B code + extra = n

/-- the bounds default to `omega`: each bucket lemma's code range is widened to the range of the whole function in passing -/
theorem LenWord.mono {B : Nat → Nat} {lo hi lo' hi' n w : Nat} (h : LenWord B lo hi n w)
    (h1 : lo' ≤ lo := by omega) (h2 : hi ≤ hi' := by omega) : LenWord B lo' hi' n w :=
  let ⟨c, e, a, b, d, f, g⟩ := h; ⟨c, e, a, by omega, by omega, f, g⟩

theorem LenWord.parts {B : Nat → Nat} {lo hi n w : Nat} (h : LenWord B lo hi n w) (hhi : hi < 256) :
    lo ≤ w % 256 ∧ w % 256 ≤ hi ∧ w / 256 < 2 ^ kNumExtraBits.getD (w % 256) 0 ∧ B (w % 256) + w / 256 = n := by
  obtain ⟨c, e, rfl, a, b, d, g⟩ := h
  rw [show (c + 256 * e) % 256 = c by omega, show (c + 256 * e) / 256 = e by omega]
  exact ⟨a, b, d, g⟩

theorem lenWord_direct {B : Nat → Nat} (c n : Nat) (hB : B c = n) (hE : kNumExtraBits.getD c 0 = 0) :
    LenWord B c c n c :=
  ⟨c, 0, rfl, Nat.le_refl _, Nat.le_refl _, by rw [hE]; decide, by omega⟩

theorem lenWord_linear {B : Nat → Nat} (c off k e n : Nat) (hB : B c = off) (hE : kNumExtraBits.getD c 0 = k)
    (hn : e + off = n := by omega) (hc : c < 256 := by omega) (hk : k ≤ 24 := by omega) (h2 : e < 2 ^ k := by omega) :
    LenWord B c c n (cmdWord c e) :=
  ⟨c, e, (cmdWord_eq c _ hc (Nat.lt_of_lt_of_le h2 (Nat.pow_le_pow_right (by decide) hk))).1, Nat.le_refl _,
    Nat.le_refl _, by rw [hE]; exact h2, by omega⟩

theorem prefix_split (t a : Nat) (h1 : 2 * a ≤ t) (h2 : t < 4 * a) :
    2 ≤ t / a ∧ t / a ≤ 3 ∧ t / a * a ≤ t ∧ t - t / a * a < a := by
  have ha : 0 < a := by omega
  have := Nat.div_add_mod t a
  have := Nat.mod_lt t ha
  have h3 : t / a < 4 := (Nat.div_lt_iff_lt_mul ha).mpr h2
  have h4 : 2 ≤ t / a := (Nat.le_div_iff_mul_le ha).mpr h1
  have : a * (t / a) = t / a * a := Nat.mul_comm _ _
  exact ⟨h4, by omega, by omega, by omega⟩

theorem log2_bucket (t lo hi : Nat) (hlo : 2 ^ lo ≤ t) (hhi : t < 2 * 2 ^ hi) :
    lo ≤ Nat.log2 t ∧ Nat.log2 t ≤ hi ∧ 2 ^ Nat.log2 t ≤ t ∧ t < 2 * 2 ^ Nat.log2 t := by
  have ht : t ≠ 0 := by have := Nat.pow_pos (a := 2) (n := lo) (by decide); omega
  have l2 : Nat.log2 t < hi + 1 := (Nat.log2_lt ht).mpr (by rw [Nat.pow_succ]; omega)
  have l4 := Nat.lt_log2_self (n := t)
  rw [Nat.pow_succ] at l4
  exact ⟨(Nat.le_log2 ht).mpr hlo, by omega, Nat.log2_self_le ht, by omega⟩

theorem halfOctave_word (B : Nat → Nat) (K off lo hi t n : Nat)
    (tab : ∀ nb < hi + 1, ∀ p < 4, lo ≤ nb → 2 ≤ p →
      B (nb * 2 + p + K) = p * 2 ^ nb + off ∧ kNumExtraBits.getD (nb * 2 + p + K) 0 = nb)
    (hn : t + off = n := by omega) (hlo : 2 * 2 ^ lo ≤ t := by omega) (hhi : t < 4 * 2 ^ hi := by omega)
    (hK : hi * 2 + K + 3 < 256 := by omega) (h24 : hi + 2 ≤ 24 := by omega) :
    LenWord B (lo * 2 + K + 2) (hi * 2 + K + 3) n
      (cmdWord ((log2 t - 1) * 2 + t / 2 ^ (log2 t - 1) + K) (t - t / 2 ^ (log2 t - 1) * 2 ^ (log2 t - 1))) := by
  unfold log2
  obtain ⟨l1, l2, l3, l4⟩ := log2_bucket t (lo + 1) (hi + 1) (by rw [Nat.pow_succ]; omega) (by rw [Nat.pow_succ]; omega)
  have e : Nat.log2 t = (Nat.log2 t - 1) + 1 := by omega
  rw [e, Nat.pow_succ] at l3 l4
  obtain ⟨b3, b4, b5, b6⟩ := prefix_split t (2 ^ (Nat.log2 t - 1)) (by omega) (by omega)
  obtain ⟨a1, a2⟩ := tab (Nat.log2 t - 1) (by omega) (t / 2 ^ (Nat.log2 t - 1)) (by omega) (by omega) b3
  have : t < 2 ^ 24 := Nat.lt_of_lt_of_le (by rw [Nat.pow_succ, Nat.pow_succ]; omega)
    (Nat.pow_le_pow_right (by decide) h24)
  exact ⟨_, _, (cmdWord_eq _ _ (by omega) (by omega)).1, by omega, by omega, by rw [a2]; exact b6, by rw [a1]; omega⟩

theorem octave_word (B : Nat → Nat) (K off lo hi t n : Nat)
    (tab : ∀ nb < hi + 1, lo ≤ nb → B (nb + K) = 2 ^ nb + off ∧ kNumExtraBits.getD (nb + K) 0 = nb)
    (hn : t + off = n := by omega) (hlo : 2 ^ lo ≤ t := by omega) (hhi : t < 2 * 2 ^ hi := by omega)
    (hK : hi + K < 256 := by omega) (h24 : hi + 1 ≤ 24 := by omega) :
    LenWord B (lo + K) (hi + K) n (cmdWord (log2 t + K) (t - 2 ^ log2 t)) := by
  unfold log2
  obtain ⟨l1, l2, l3, l4⟩ := log2_bucket t lo hi hlo hhi
  obtain ⟨a1, a2⟩ := tab (Nat.log2 t) (by omega) l1
  have : t < 2 ^ 24 := Nat.lt_of_lt_of_le (by rw [Nat.pow_succ]; omega) (Nat.pow_le_pow_right (by decide) h24)
  exact ⟨_, _, (cmdWord_eq _ _ (by omega) (by omega)).1, by omega, by omega, by rw [a2]; omega, by rw [a1]; omega⟩

theorem insTab : (∀ c < 6, kInsertOffset.getD c 0 = c ∧ kNumExtraBits.getD c 0 = 0) ∧
    (∀ nb < 6, ∀ p < 4, 1 ≤ nb → 2 ≤ p →
      kInsertOffset.getD (nb * 2 + p + 2) 0 = p * 2 ^ nb + 2 ∧ kNumExtraBits.getD (nb * 2 + p + 2) 0 = nb) ∧
    (∀ nb < 11, 6 ≤ nb → kInsertOffset.getD (nb + 10) 0 = 2 ^ nb + 66 ∧ kNumExtraBits.getD (nb + 10) 0 = nb) ∧
    kInsertOffset.getD 21 0 = 2114 ∧ kNumExtraBits.getD 21 0 = 12 ∧ kInsertOffset.getD 22 0 = 6210 ∧
    kNumExtraBits.getD 22 0 = 14 ∧ kInsertOffset.getD 23 0 = 22594 ∧ kNumExtraBits.getD 23 0 = 24 := by decide

theorem insert_word (n : Nat) (h : n < 16777216) :
    emitInsertLenQ1 n % 256 < 24 ∧
    kInsertOffset.getD (emitInsertLenQ1 n % 256) 0 + emitInsertLenQ1 n / 256 = n ∧
    emitInsertLenQ1 n / 256 < 2 ^ kNumExtraBits.getD (emitInsertLenQ1 n % 256) 0 ∧
    (1 ≤ n → emitInsertLenQ1 n % 256 ≠ 0) := by
  obtain ⟨t0, tA, tB, o21, n21, o22, n22, o23, n23⟩ := insTab
  have hw : LenWord (kInsertOffset.getD · 0) 0 23 n (emitInsertLenQ1 n) := by
    unfold emitInsertLenQ1
    by_cases h6 : n < 6
    · rw [if_pos h6]
      exact (lenWord_direct n n (t0 n h6).1 (t0 n h6).2).mono
    rw [if_neg h6]
    by_cases h130 : n < 130
    · rw [if_pos h130]
      exact (halfOctave_word _ 2 2 1 5 (n - 2) n tA).mono
    rw [if_neg h130]
    by_cases h2114 : n < 2114
    · rw [if_pos h2114]
      exact (octave_word _ 10 66 6 10 (n - 66) n tB).mono
    rw [if_neg h2114]
    by_cases h1 : n < 6210
    · rw [if_pos h1]
      exact (lenWord_linear 21 2114 12 _ n o21 n21).mono
    rw [if_neg h1]
    by_cases h2 : n < 22594
    · rw [if_pos h2]
      exact (lenWord_linear 22 6210 14 _ n o22 n22).mono
    rw [if_neg h2]
    exact (lenWord_linear 23 22594 24 _ n o23 n23).mono
  obtain ⟨_, a, b, c⟩ := hw.parts (by omega)
  refine ⟨by omega, c, b, fun h1 h0 => ?_⟩
  rw [h0] at b c
  rw [(t0 0 (by omega)).1] at c
  rw [(t0 0 (by omega)).2] at b
  omega

theorem impl0_codes : (∀ c < 40, 24 ≤ c → impl0 c = true) ∧ ∀ c < 64, 40 < c → impl0 c = false :=
  ⟨by decide, by decide⟩

theorem cpTab : (∀ c < 48, 42 ≤ c → cpBase c + 38 = c ∧ kNumExtraBits.getD c 0 = 0) ∧
    (∀ nb < 6, ∀ p < 4, 1 ≤ nb → 2 ≤ p →
      cpBase (nb * 2 + p + 44) = p * 2 ^ nb + 6 ∧ kNumExtraBits.getD (nb * 2 + p + 44) 0 = nb) ∧
    (∀ nb < 11, 6 ≤ nb → cpBase (nb + 52) = 2 ^ nb + 70 ∧ kNumExtraBits.getD (nb + 52) 0 = nb) ∧
    cpBase 63 = 2118 ∧ kNumExtraBits.getD 63 0 = 24 :=
  ⟨by decide, by decide, by decide, by decide, by decide⟩

/-- the copy codes 41..63 are the cells of the insert-and-copy alphabet that carry an explicit distance -/
theorem copy_word (n : Nat) (h4 : 4 ≤ n) (h : n < 16777216) : LenWord cpBase 41 63 n (emitCopyLenQ1 n) := by
  have e32 : two32 = 4294967296 := rfl
  obtain ⟨t0, tA, tB, b63, n63⟩ := cpTab
  unfold emitCopyLenQ1
  by_cases h10 : n < 10
  · rw [if_pos h10, Nat.mod_eq_of_lt (by omega)]
    obtain ⟨a1, a2⟩ := t0 (n + 38) (by omega) (by omega)
    exact (lenWord_direct (n + 38) n (by omega) a2).mono
  rw [if_neg h10]
  by_cases h134 : n < 134
  · rw [if_pos h134]
    exact (halfOctave_word _ 44 6 1 5 (n - 6) n tA).mono
  rw [if_neg h134]
  by_cases h2118 : n < 2118
  · rw [if_pos h2118]
    exact (octave_word _ 52 70 6 10 (n - 70) n tB).mono
  rw [if_neg h2118]
  exact (lenWord_linear 63 2118 24 _ n b63 n63).mono

theorem cplTab : (∀ c < 32, 24 ≤ c → cpBase c + 22 = c ∧ kNumExtraBits.getD c 0 = 0) ∧
    (∀ nb < 5, ∀ p < 4, 1 ≤ nb → 2 ≤ p →
      cpBase (nb * 2 + p + 28) = p * 2 ^ nb + 6 ∧ kNumExtraBits.getD (nb * 2 + p + 28) 0 = nb) ∧
    (∀ q < 4, 2 ≤ q → cpBase (q + 54) = 32 * q + 6 ∧ kNumExtraBits.getD (q + 54) 0 = 5) :=
  ⟨by decide, by decide, by decide⟩

/-- the word carries `n − 2` (the two first bytes went with the insert).  Below 72 it is a cell with implied distance
(codes 24..39); those cells end there, so from 72 on it is an explicit-distance cell followed by the distance code 64
(= the last distance again) -/
theorem copy_last_word (n : Nat) (h4 : 4 ≤ n) (h : n < 16777216) :
    (n < 72 ∧ ∃ w, emitCopyLenLastDistanceQ1 n = [w] ∧ LenWord cpBase 24 39 (n - 2) w) ∨
    (72 ≤ n ∧ ∃ w, emitCopyLenLastDistanceQ1 n = [w, 64] ∧ LenWord cpBase 41 63 (n - 2) w) := by
  have e32 : two32 = 4294967296 := rfl
  obtain ⟨t0, tA, tC⟩ := cplTab
  obtain ⟨_, _, tB, b63, n63⟩ := cpTab
  unfold emitCopyLenLastDistanceQ1
  by_cases h12 : n < 12
  · obtain ⟨a1, a2⟩ := t0 (n + 20) (by omega) (by omega)
    rw [if_pos h12, Nat.mod_eq_of_lt (by omega)]
    exact Or.inl ⟨by omega, _, rfl, (lenWord_direct (n + 20) (n - 2) (by omega) a2).mono⟩
  rw [if_neg h12]
  by_cases h72 : n < 72
  · rw [if_pos h72]
    exact Or.inl ⟨h72, _, rfl, (halfOctave_word _ 28 6 1 4 (n - 8) (n - 2) tA).mono⟩
  rw [if_neg h72]
  by_cases h136 : n < 136
  · obtain ⟨a1, a2⟩ := tC ((n - 8) / 32) (by omega) (by omega)
    rw [if_pos h136]
    have lw : LenWord cpBase 41 63 (n - 2) (cmdWord ((n - 8) / 32 + 54) ((n - 8) % 32)) :=
      ⟨_, _, (cmdWord_eq _ _ (by omega) (by omega)).1, by omega, by omega, by rw [a2]; omega, by rw [a1]; omega⟩
    exact Or.inr ⟨by omega, _, rfl, lw⟩
  rw [if_neg h136]
  by_cases h2120 : n < 2120
  · rw [if_pos h2120]
    exact Or.inr ⟨by omega, _, rfl, (octave_word _ 52 70 6 10 (n - 72) (n - 2) tB).mono⟩
  rw [if_neg h2120]
  exact Or.inr ⟨by omega, _, rfl,
    (lenWord_linear 63 2118 24 _ (n - 2) b63 n63).mono⟩

/-- command code `64 + ds` stands for the RFC distance symbol `ds` (NPOSTFIX = NDIRECT = 0).  `EmitDistance` adds 3 before
taking the logarithm, hence `d < 2^18 − 3` -/
theorem distance_word (d : Nat) (h1 : 1 ≤ d) (h2 : d < 262144 - 3) :
    ∃ w, emitDistanceQ1 d = some w ∧ 80 ≤ w % 256 ∧ w % 256 < 128 ∧
      w / 256 < 2 ^ kNumExtraBits.getD (w % 256) 0 ∧
      rfcDistDecode 0 0 (w % 256 - 64) (w / 256) = d := by
  have e32 : two32 = 4294967296 := rfl
  have h16 := BV.Lemmas.PrefixArith.short_codes_is_16
  obtain ⟨f1, f2, f3, f4, f5⟩ := BV.Props.C18.dist_encode_exact 0 0 (d + 15) (by omega)
  have hne : d + 3 ≠ 0 := by omega
  have hlog : Nat.log2 (d + 3) < 18 := (Nat.log2_lt hne).mpr (by omega)
  have hlog2 : 2 ≤ Nat.log2 (d + 3) := (Nat.le_log2 hne).mpr (by omega)
  have hpe : prefixEncodeCopyDistance (d + 15) 0 0 =
      ⟨16 + (2 * (Nat.log2 (d + 3) - 1 - 1) + (d + 3) / 2 ^ (Nat.log2 (d + 3) - 1) % 2),
       Nat.log2 (d + 3) - 1,
       d + 3 - (2 + (d + 3) / 2 ^ (Nat.log2 (d + 3) - 1) % 2) * 2 ^ (Nat.log2 (d + 3) - 1)⟩ := by
    unfold prefixEncodeCopyDistance log2Floor
    rw [h16, if_neg (by omega)]
    simp only [Nat.add_zero, Nat.zero_add, Nat.pow_zero, Nat.mod_one, Nat.mul_one, Nat.div_one, Nat.sub_zero]
    have : 2 ^ 2 + (d + 15 - 16) = d + 3 := by omega
    rw [this]
  rw [hpe] at f1 f2 f3 f4 f5
  simp only [] at f1 f2 f3 f4 f5
  -- prefix, bit count and extra get names: `omega` cannot work with the `log2` / power terms themselves
  generalize hp : (d + 3) / 2 ^ (Nat.log2 (d + 3) - 1) % 2 = pfx at f1 f2 f3 f4 f5
  have hp2 : pfx < 2 := by rw [← hp]; exact Nat.mod_lt _ (by decide)
  generalize hnb : Nat.log2 (d + 3) - 1 = nb at f1 f2 f3 f4 f5 hp
  have hnb17 : nb ≤ 16 := by omega
  generalize hex : d + 3 - (2 + pfx) * 2 ^ nb = ex at f1 f2 f3 f4 f5
  have hex24 : ex < 16777216 := by
    have : (2 : Nat) ^ nb ≤ 2 ^ 16 := Nat.pow_le_pow_right (by decide) hnb17
    have : (2 : Nat) ^ 16 = 65536 := by decide
    omega
  obtain ⟨_, e1, e2⟩ := cmdWord_eq (2 * (nb - 1) + pfx + 80) ex (by omega) hex24
  refine ⟨cmdWord (2 * (nb - 1) + pfx + 80) ex, ?_, ?_, ?_, ?_, ?_⟩
  · unfold emitDistanceQ1 log2
    have : (d + 3) % two32 = d + 3 := Nat.mod_eq_of_lt (by omega)
    simp only [this]
    rw [if_neg (by omega), hnb, hp, hex]
  · rw [e1]; omega
  · rw [e1]; omega
  · rw [e1, e2]
    obtain ⟨hd1, _⟩ := dist_all (2 * (nb - 1) + pfx + 80) (by omega) (by omega)
    rw [if_neg (by omega)] at hd1
    rw [← hd1]
    have : 2 * (nb - 1) + pfx + 80 - 64 = 16 + (2 * (nb - 1) + pfx) := by omega
    rw [this, ← f1]
    exact f3
  · rw [e1, e2]
    have : 2 * (nb - 1) + pfx + 80 - 64 = 16 + (2 * (nb - 1) + pfx) := by omega
    rw [this]
    omega

end BV.Fragment
