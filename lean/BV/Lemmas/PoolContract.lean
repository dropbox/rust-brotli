/-
Helper lemmas for C07: the programs the property quantifies over — sequences of
batches (≤ MAX_THREADS spawns, then the joins of exactly these jobs in ANY order, then `u`),
followed by `d` — satisfy the decidable caller contract.
-/
import BV.Model.Pool

namespace BV.Lemmas.Pool
open BV.Gen BV.Pool

theorem contractFrom_spawn {nsp : Nat} {joined : List Nat} {dropped : Bool} {idx : Nat} {r : List Op} :
    contractFrom nsp joined dropped (.spawn idx :: r) = true ↔
      dropped = false ∧ nsp < joined.length + MAX_THREADS ∧
        contractFrom (nsp + 1) joined dropped r = true := by
  simp only [contractFrom, Bool.and_eq_true, Bool.not_eq_true', decide_eq_true_eq, and_assoc]

theorem contractFrom_join {nsp : Nat} {joined : List Nat} {dropped : Bool} {n : Nat} {r : List Op} :
    contractFrom nsp joined dropped (.join n :: r) = true ↔
      dropped = false ∧ n < nsp ∧ n ∉ joined ∧ contractFrom nsp (n :: joined) dropped r = true := by
  simp only [contractFrom, Bool.and_eq_true, Bool.not_eq_true', decide_eq_true_eq, and_assoc,
    List.contains_eq_mem, decide_eq_false_iff_not]

theorem contractFrom_unwrap {nsp : Nat} {joined : List Nat} {dropped : Bool} {r : List Op} :
    contractFrom nsp joined dropped (.unwrapInput :: r) = contractFrom nsp joined dropped r := rfl

theorem contractFrom_drop {nsp : Nat} {joined : List Nat} {dropped : Bool} {r : List Op} :
    contractFrom nsp joined dropped (.dropPool :: r) = true ↔
      dropped = false ∧ contractFrom nsp joined true r = true := by
  simp only [contractFrom, Bool.and_eq_true, Bool.not_eq_true']

def batchOps (base : Nat) (idxs order : List Nat) : List Op :=
  idxs.map Op.spawn ++ order.map (fun i => Op.join (base + i)) ++ [.unwrapInput]

def batchesOps : Nat → List (List Nat × List Nat) → List Op
  | _, [] => []
  | base, (idxs, order) :: bs => batchOps base idxs order ++ batchesOps (base + idxs.length) bs

def BatchesOk (bs : List (List Nat × List Nat)) : Prop :=
  ∀ b, b ∈ bs → b.1.length ≤ MAX_THREADS ∧ b.2.Perm (List.range b.1.length)

theorem contract_spawns (nsp : Nat) (joined : List Nat) (l : List Nat) (rest : List Op)
    (h : nsp + l.length ≤ joined.length + MAX_THREADS) :
    contractFrom nsp joined false (l.map Op.spawn ++ rest)
      = contractFrom (nsp + l.length) joined false rest := by
  induction l generalizing nsp with
  | nil => simp
  | cons a t ih =>
    simp only [List.map_cons, List.cons_append, contractFrom, List.length_cons] at h ⊢
    have hlt : nsp < joined.length + MAX_THREADS := by omega
    rw [ih (nsp + 1) (by omega)]
    simp [hlt]
    congr 1; omega

theorem contract_joins (nsp base : Nat) (joined : List Nat) (order : List Nat) (rest : List Op)
    (hnd : order.Nodup) (hlt : ∀ i, i ∈ order → base + i < nsp)
    (hnj : ∀ i, i ∈ order → base + i ∉ joined) :
    contractFrom nsp joined false (order.map (fun i => Op.join (base + i)) ++ rest)
      = contractFrom nsp ((order.map (base + ·)).reverse ++ joined) false rest := by
  induction order generalizing joined with
  | nil => simp
  | cons a t ih =>
    have hnd' := List.nodup_cons.mp hnd
    simp only [List.map_cons, List.cons_append, contractFrom]
    have h1 : base + a < nsp := hlt a List.mem_cons_self
    have h2 : base + a ∉ joined := hnj a List.mem_cons_self
    rw [ih ((base + a) :: joined) hnd'.2 (fun i hi => hlt i (List.mem_cons_of_mem _ hi)) ?_]
    · simp [h1, h2]
    · intro i hi hm
      rcases List.mem_cons.mp hm with e | hm
      · have : i = a := by omega
        subst this; exact hnd'.1 hi
      · exact hnj i (List.mem_cons_of_mem _ hi) hm

/-- `ht` asks much of the tail, but `[.dropPool]` meets it and `contract_of_batches` needs no other -/
theorem contract_batches (base : Nat) (joined : List Nat) (bs : List (List Nat × List Nat))
    (hok : BatchesOk bs) (hlen : joined.length = base) (hbd : ∀ x, x ∈ joined → x < base)
    (tail : List Op) (ht : ∀ nsp j, contractFrom nsp j false tail = true) :
    contractFrom base joined false (batchesOps base bs ++ tail) = true := by
  induction bs generalizing base joined with
  | nil => simpa [batchesOps] using ht base joined
  | cons b bs ih =>
    obtain ⟨idxs, order⟩ := b
    obtain ⟨hk, hperm⟩ := hok (idxs, order) List.mem_cons_self
    simp only at hk hperm
    simp only [batchesOps, batchOps, List.append_assoc]
    rw [contract_spawns base joined idxs _ (by omega)]
    have hmem : ∀ i, i ∈ order → i < idxs.length := fun i hi => by
      simpa using hperm.subset hi
    rw [contract_joins (base + idxs.length) base joined order _
      (hperm.nodup_iff.mpr List.nodup_range)
      (fun i hi => by have := hmem i hi; omega)
      (fun i hi hm => by have := hbd _ hm; omega)]
    simp only [List.cons_append, List.nil_append, contractFrom]
    apply ih _ _ (fun b hb => hok b (List.mem_cons_of_mem _ hb))
    · simp [hlen, hperm.length_eq]; omega
    · intro x hx
      rcases List.mem_append.mp hx with hx | hx
      · obtain ⟨i, hi, rfl⟩ := List.mem_map.mp (List.mem_reverse.mp hx)
        have := hmem i hi; omega
      · have := hbd x hx; omega

theorem contract_of_batches (bs : List (List Nat × List Nat)) (hok : BatchesOk bs) :
    contract (batchesOps 0 bs ++ [.dropPool]) = true := by
  unfold contract
  apply contract_batches 0 [] bs hok rfl (by simp)
  intro nsp j
  simp [contractFrom]

end BV.Lemmas.Pool
