/-
C17: `SortHuffmanTreeItems` permutes the first `n` items
and leaves the rest alone (whatever the comparator) and never panics; with a comparator that
refines the order of the counts (`CmpOK`) its last pass, gap 1, leaves them sorted by count.
-/
import BV.Lemmas.HuffmanCanon

namespace BV.Lemmas.HuffmanSort
open BV.Gen BV.Bits BV.Huffman BV.Lemmas.HuffmanCanon

theorem set_set_perm {α : Type} [BEq α] [LawfulBEq α] (l : List α) (i j : Nat) (hi : i < l.length)
    (hj : j < l.length) (hij : i ≠ j) (t : α) : ((l.set j l[i]).set i t).Perm (l.set j t) := by
  rw [List.perm_iff_count]
  intro a
  have hi' : i < (l.set j l[i]).length := by simp [hi]
  rw [List.count_set hi', List.count_set hj, List.count_set hj]
  have e : (l.set j l[i])[i] = l[i] := by
    rw [List.getElem_set_ne (fun h => hij h.symm)]
  rw [e]
  have hc : (if (l[j] == a) = true then 1 else 0) ≤ List.count a l := by
    split
    · rename_i h
      have : l[j] = a := by simpa using h
      rw [← this]
      exact List.count_pos_iff.mpr (List.getElem_mem hj)
    · omega
  omega

theorem gapShift_spec (cmp : Node → Node → Bool) (tmp : Node) (gap : Nat) (hg : 1 ≤ gap) :
    ∀ (f : Nat) (items : List Node) (j : Nat), j < items.length → j + 1 ≤ f →
    ∃ items' j', gapShift cmp tmp gap f items j = .ok (items', j') ∧ j' ≤ j ∧
      items'.length = items.length ∧ (items'.set j' tmp).Perm (items.set j tmp) ∧
      ∀ q, j < q → items'[q]? = items[q]? := by
  intro f
  induction f with
  | zero => intro items j _ hf; omega
  | succ f ih =>
    intro items j hj hf
    simp only [gapShift]
    by_cases hge : j ≥ gap
    · simp only [hge, ↓reduceIte]
      have hjg : j - gap < items.length := by omega
      rw [getAt_of_lt items (j - gap) hjg]
      simp only [Out.bind_ok]
      by_cases hc : cmp tmp items[j - gap] = true
      · simp only [hc, ↓reduceIte, setAt_of_lt items j _ hj, Out.bind_ok]
        obtain ⟨items', j', h1, h2, h3, h4, h5⟩ :=
          ih (items.set j items[j - gap]) (j - gap) (by simp; omega) (by omega)
        refine ⟨items', j', h1, by omega, by simpa using h3, ?_, ?_⟩
        · exact h4.trans (set_set_perm items (j - gap) j hjg hj (by omega) tmp)
        · intro q hq
          rw [h5 q (by omega), List.getElem?_set_ne (by omega)]
      · simp only [hc]
        exact ⟨items, j, rfl, Nat.le_refl _, rfl, List.Perm.refl _, fun _ _ => rfl⟩
    · simp only [hge, ↓reduceIte]
      exact ⟨items, j, rfl, Nat.le_refl _, rfl, List.Perm.refl _, fun _ _ => rfl⟩

theorem gapInsert_spec (cmp : Node → Node → Bool) (gap : Nat) (hg : 1 ≤ gap)
    (items : List Node) (i : Nat) (hi : i < items.length) :
    ∃ items', gapInsert cmp gap items i = .ok items' ∧ items'.Perm items ∧
      ∀ q, i < q → items'[q]? = items[q]? := by
  unfold gapInsert
  rw [getAt_of_lt items i hi]
  simp only [Out.bind_ok]
  obtain ⟨items', j', h1, h2, h3, h4, h5⟩ :=
    gapShift_spec cmp items[i] gap hg (i + 1) items i hi (Nat.le_refl _)
  simp only [h1, Out.bind_ok]
  have hj' : j' < items'.length := by omega
  rw [setAt_of_lt items' j' _ hj']
  refine ⟨_, rfl, ?_, ?_⟩
  · have : items.set i items[i] = items := List.set_getElem_self hi
    rw [this] at h4; exact h4
  · intro q hq
    rw [List.getElem?_set_ne (by omega), h5 q hq]

theorem gapPass_spec (cmp : Node → Node → Bool) (gap : Nat) (hg : 1 ≤ gap) :
    ∀ (cnt i : Nat) (items : List Node), i + cnt ≤ items.length →
    ∃ items', gapPass cmp gap cnt i items = .ok items' ∧ items'.Perm items ∧
      ∀ q, i + cnt ≤ q → items'[q]? = items[q]? := by
  intro cnt
  induction cnt with
  | zero => intro i items _; exact ⟨items, rfl, List.Perm.refl _, fun _ _ => rfl⟩
  | succ cnt ih =>
    intro i items h
    simp only [gapPass]
    obtain ⟨it1, h1, h2, h3⟩ := gapInsert_spec cmp gap hg items i (by omega)
    simp only [h1, Out.bind_ok]
    obtain ⟨it2, k1, k2, k3⟩ := ih (i + 1) it1 (by rw [h2.length_eq]; omega)
    refine ⟨it2, k1, k2.trans h2, ?_⟩
    intro q hq
    rw [k3 q (by omega), h3 q (by omega)]

theorem shellPasses_spec (cmp : Node → Node → Bool) (n : Nat) :
    ∀ (gaps : List Nat), (∀ g ∈ gaps, 1 ≤ g) → ∀ (items : List Node), n ≤ items.length →
    ∃ items', shellPasses cmp n gaps items = .ok items' ∧ items'.Perm items ∧
      ∀ q, n ≤ q → items'[q]? = items[q]? := by
  intro gaps
  induction gaps with
  | nil => intro _ items _; exact ⟨items, rfl, List.Perm.refl _, fun _ _ => rfl⟩
  | cons g gs ih =>
    intro hg items hn
    simp only [shellPasses]
    have hgs : ∀ x ∈ gs, 1 ≤ x := fun x hx => hg x (List.mem_cons_of_mem _ hx)
    by_cases h : g ≤ n
    · obtain ⟨it1, h1, h2, h3⟩ := gapPass_spec cmp g (hg g (by simp)) (n - g) g items (by omega)
      simp only [h1, Out.bind_ok]
      obtain ⟨it2, k1, k2, k3⟩ := ih hgs it1 (by rw [h2.length_eq]; exact hn)
      refine ⟨it2, k1, k2.trans h2, ?_⟩
      intro q hq
      rw [k3 q hq, h3 q (by omega)]
    · have : n - g = 0 := by omega
      rw [this]
      simp only [gapPass, Out.bind_ok]
      exact ih hgs items hn

theorem sortItems_spec (cmp : Node → Node → Bool) (items : List Node) (n : Nat)
    (hn : n ≤ items.length) :
    ∃ items', sortItems cmp items n = .ok items' ∧ items'.Perm items ∧
      ∀ q, n ≤ q → items'[q]? = items[q]? := by
  unfold sortItems
  by_cases h13 : n < 13
  · simp only [h13, ↓reduceIte]
    by_cases h0 : n = 0
    · subst h0
      exact ⟨items, rfl, List.Perm.refl _, fun _ _ => rfl⟩
    · obtain ⟨it1, h1, h2, h3⟩ := gapPass_spec cmp 1 (Nat.le_refl _) (n - 1) 1 items (by omega)
      exact ⟨it1, h1, h2, fun q hq => h3 q (by omega)⟩
  · simp only [h13, ↓reduceIte]
    refine shellPasses_spec cmp n _ ?_ items hn
    intro g hg
    have hall : ∀ x ∈ kShellGaps, 1 ≤ x := by decide
    exact hall g (List.mem_of_mem_drop hg)

theorem sortItems_take (cmp : Node → Node → Bool) (items items' : List Node) (n : Nat)
    (hn : n ≤ items.length) (h : sortItems cmp items n = .ok items') :
    items'.length = items.length ∧ (items'.take n).Perm (items.take n) ∧
      ∀ q, n ≤ q → items'[q]? = items[q]? := by
  obtain ⟨it, h1, h2, h3⟩ := sortItems_spec cmp items n hn
  rw [h] at h1
  injection h1 with h1
  subst h1
  refine ⟨h2.length_eq, ?_, h3⟩
  have hd : items'.drop n = items.drop n := by
    apply List.ext_getElem?
    intro k
    rw [List.getElem?_drop, List.getElem?_drop]
    exact h3 _ (by omega)
  have e1 : items' = items'.take n ++ items.drop n := by
    rw [← hd, List.take_append_drop]
  have e2 : items = items.take n ++ items.drop n := (List.take_append_drop n items).symm
  rw [e1] at h2
  conv at h2 => rhs; rw [e2]
  exact (List.perm_append_right_iff _).mp h2

def CmpOK (cmp : Node → Node → Bool) : Prop :=
  (∀ a b, cmp a b = true → a.count ≤ b.count) ∧ (∀ a b, cmp a b = false → b.count ≤ a.count)

theorem cmpSort_ok : CmpOK cmpSort := by
  constructor
  · intro a b h
    unfold cmpSort at h
    split at h
    · simp at h; omega
    · rename_i hc; simp at hc; omega
  · intro a b h
    unfold cmpSort at h
    split at h
    · simp at h; omega
    · rename_i hc; simp at hc; omega

theorem cmpSimple_ok : CmpOK cmpSimple := by
  constructor
  · intro a b h; simp [cmpSimple] at h; omega
  · intro a b h; simp [cmpSimple] at h; omega

def cntOf (items : List Node) (q : Nat) : Nat :=
  match items[q]? with
  | some nd => nd.count
  | none => 0

def SortedUpTo (items : List Node) (k : Nat) : Prop :=
  ∀ p q, p < q → q < k → cntOf items p ≤ cntOf items q

theorem cntOf_congr (a b : List Node) (q : Nat) (h : a[q]? = b[q]?) : cntOf a q = cntOf b q := by
  simp [cntOf, h]

theorem gapShift1_spec (cmp : Node → Node → Bool) (hc : CmpOK cmp) (tmp : Node)
    (items : List Node) (i : Nat) (hi : i < items.length) :
    ∀ (f : Nat) (cur : List Node) (j : Nat), j ≤ i → j + 1 ≤ f → cur.length = items.length →
    (∀ p, p ≤ j → cur[p]? = items[p]?) →
    (∀ p, j < p → p ≤ i → cur[p]? = items[p - 1]? ∧ tmp.count ≤ cntOf items (p - 1)) →
    ∃ cur' j', gapShift cmp tmp 1 f cur j = .ok (cur', j') ∧ j' ≤ i ∧ cur'.length = items.length ∧
      (∀ p, p < j' → cur'[p]? = items[p]?) ∧
      (∀ p, j' < p → p ≤ i → cur'[p]? = items[p - 1]? ∧ tmp.count ≤ cntOf items (p - 1)) ∧
      (j' = 0 ∨ cntOf items (j' - 1) ≤ tmp.count) := by
  intro f
  induction f with
  | zero => intro cur j _ hf; omega
  | succ f ih =>
    intro cur j hji hf hlen hpre hpost
    simp only [gapShift]
    by_cases hge : j ≥ 1
    · simp only [hge, ↓reduceIte]
      have hj1 : j - 1 < cur.length := by omega
      rw [getAt_of_lt cur (j - 1) hj1]
      simp only [Out.bind_ok]
      have hx : cur[j - 1]? = items[j - 1]? := hpre (j - 1) (by omega)
      have hxc : (cur[j - 1]).count = cntOf items (j - 1) := by
        rw [← cntOf_congr cur items (j - 1) hx]
        simp [cntOf, List.getElem?_eq_getElem hj1]
      by_cases hcm : cmp tmp cur[j - 1] = true
      · simp only [hcm, ↓reduceIte]
        rw [setAt_of_lt cur j _ (by omega)]
        simp only [Out.bind_ok]
        apply ih (cur.set j cur[j - 1]) (j - 1) (by omega) (by omega) (by simp [hlen])
        · intro p hp
          rw [List.getElem?_set_ne (by omega)]
          exact hpre p (by omega)
        · intro p hp1 hp2
          by_cases hpj : p = j
          · subst hpj
            rw [List.getElem?_set_self (by omega)]
            refine ⟨?_, ?_⟩
            · rw [← hx, List.getElem?_eq_getElem hj1]
            · rw [← hxc]; exact hc.1 _ _ hcm
          · rw [List.getElem?_set_ne (fun h => hpj h.symm)]
            exact hpost p (by omega) hp2
      · have hcm' : cmp tmp cur[j - 1] = false := by
          cases h : cmp tmp cur[j - 1] with
          | true => exact absurd h hcm
          | false => rfl
        simp only [hcm', Bool.false_eq_true, ↓reduceIte]
        refine ⟨cur, j, rfl, hji, hlen, fun p hp => hpre p (by omega), hpost, Or.inr ?_⟩
        rw [← hxc]; exact hc.2 _ _ hcm'
    · simp only [hge, ↓reduceIte]
      exact ⟨cur, j, rfl, hji, hlen, fun p hp => hpre p (by omega), hpost, Or.inl (by omega)⟩

theorem gapInsert1_sorted (cmp : Node → Node → Bool) (hc : CmpOK cmp) (items : List Node) (i : Nat)
    (hi : i < items.length) (hs : SortedUpTo items i) (items' : List Node)
    (h : gapInsert cmp 1 items i = .ok items') : SortedUpTo items' (i + 1) := by
  unfold gapInsert at h
  rw [getAt_of_lt items i hi] at h
  simp only [Out.bind_ok] at h
  obtain ⟨cur', j', h1, h2, h3, h4, h5, h6⟩ :=
    gapShift1_spec cmp hc items[i] items i hi (i + 1) items i (Nat.le_refl _) (Nat.le_refl _) rfl
      (fun _ _ => rfl) (fun p hp1 hp2 => by omega)
  rw [h1] at h
  simp only [Out.bind_ok] at h
  rw [setAt_of_lt cur' j' _ (by omega)] at h
  injection h with h
  subst h
  have hci : (items[i]).count = cntOf items i := by
    simp [cntOf, List.getElem?_eq_getElem hi]
  have c_lt : ∀ p, p < j' → cntOf (cur'.set j' items[i]) p = cntOf items p := by
    intro p hp
    apply cntOf_congr
    rw [List.getElem?_set_ne (by omega)]; exact h4 p hp
  have c_eq : cntOf (cur'.set j' items[i]) j' = cntOf items i := by
    simp [cntOf, List.getElem?_set_self (show j' < cur'.length by omega), hci]
  have c_gt : ∀ p, j' < p → p ≤ i → cntOf (cur'.set j' items[i]) p = cntOf items (p - 1) ∧
      cntOf items i ≤ cntOf items (p - 1) := by
    intro p hp1 hp2
    have := h5 p hp1 hp2
    refine ⟨?_, by rw [← hci]; exact this.2⟩
    simp only [cntOf]
    rw [List.getElem?_set_ne (by omega), this.1]
  intro p q hpq hq
  by_cases hqj : q < j'
  · rw [c_lt p (by omega), c_lt q hqj]; exact hs p q hpq (by omega)
  · by_cases hqe : q = j'
    · subst hqe
      rw [c_lt p hpq, c_eq]
      rcases h6 with h0 | h6
      · omega
      · rw [hci] at h6
        by_cases hp1 : p = q - 1
        · rw [hp1]; exact h6
        · have := hs p (q - 1) (by omega) (by omega)
          omega
    · have hq2 := c_gt q (by omega) (by omega)
      rw [hq2.1]
      by_cases hpj : p < j'
      · rw [c_lt p hpj]
        by_cases hpe : p = q - 1
        · rw [hpe]; exact Nat.le_refl _
        · exact hs p (q - 1) (by omega) (by omega)
      · by_cases hpe : p = j'
        · subst hpe; rw [c_eq]; exact hq2.2
        · have hp2 := c_gt p (by omega) (by omega)
          rw [hp2.1]
          exact hs (p - 1) (q - 1) (by omega) (by omega)

theorem gapPass1_sorted (cmp : Node → Node → Bool) (hc : CmpOK cmp) :
    ∀ (cnt i : Nat) (items items' : List Node), i + cnt ≤ items.length → SortedUpTo items i →
    gapPass cmp 1 cnt i items = .ok items' → SortedUpTo items' (i + cnt) := by
  intro cnt
  induction cnt with
  | zero => intro i items items' _ hs h; simp [gapPass] at h; subst h; exact hs
  | succ cnt ih =>
    intro i items items' hlen hs h
    simp only [gapPass] at h
    obtain ⟨it1, h1, h2, _⟩ := gapInsert_spec cmp 1 (Nat.le_refl _) items i (by omega)
    rw [h1] at h
    simp only [Out.bind_ok] at h
    have hs1 := gapInsert1_sorted cmp hc items i (by omega) hs it1 h1
    have := ih (i + 1) it1 items' (by rw [h2.length_eq]; omega) hs1 h
    have e : i + 1 + cnt = i + (cnt + 1) := by omega
    rw [e] at this; exact this

theorem shellPasses_sorted (cmp : Node → Node → Bool) (hc : CmpOK cmp) (n : Nat) (hn : 1 ≤ n) :
    ∀ (gaps : List Nat), (∀ g ∈ gaps, 1 ≤ g) → gaps.getLast? = some 1 →
    ∀ (items items' : List Node), n ≤ items.length →
    shellPasses cmp n gaps items = .ok items' → SortedUpTo items' n := by
  intro gaps
  induction gaps with
  | nil => intro _ h; simp at h
  | cons g gs ih =>
    intro hg hlast items items' hlen h
    simp only [shellPasses] at h
    have hgs : ∀ x ∈ gs, 1 ≤ x := fun x hx => hg x (List.mem_cons_of_mem _ hx)
    cases gs with
    | nil =>
      simp at hlast
      subst hlast
      cases hp : gapPass cmp 1 (n - 1) 1 items with
      | panic => rw [hp] at h; simp at h
      | fuel => rw [hp] at h; simp at h
      | ok it1 =>
        rw [hp] at h
        simp only [Out.bind_ok, shellPasses] at h
        injection h with h
        subst h
        have := gapPass1_sorted cmp hc (n - 1) 1 items it1 (by omega)
          (fun p q hpq hq => by omega) hp
        have e : 1 + (n - 1) = n := by omega
        rw [e] at this; exact this
    | cons g2 gs2 =>
      have hlast' : (g2 :: gs2).getLast? = some 1 := by
        simpa [List.getLast?_cons_cons] using hlast
      by_cases hgn : g ≤ n
      · obtain ⟨it1, h1, h2, _⟩ := gapPass_spec cmp g (hg g (by simp)) (n - g) g items (by omega)
        rw [h1] at h
        simp only [Out.bind_ok] at h
        exact ih hgs hlast' it1 items' (by rw [h2.length_eq]; exact hlen) h
      · have : n - g = 0 := by omega
        rw [this] at h
        simp only [gapPass, Out.bind_ok] at h
        exact ih hgs hlast' items items' hlen h

theorem sortItems_sorted (cmp : Node → Node → Bool) (hc : CmpOK cmp) (items items' : List Node)
    (n : Nat) (hn : n ≤ items.length) (h : sortItems cmp items n = .ok items') :
    SortedUpTo items' n := by
  unfold sortItems at h
  by_cases h13 : n < 13
  · simp only [h13, ↓reduceIte] at h
    by_cases h0 : n = 0
    · intro p q _ hq; omega
    · have := gapPass1_sorted cmp hc (n - 1) 1 items items' (by omega)
        (fun p q hpq hq => by omega) h
      have e : 1 + (n - 1) = n := by omega
      rw [e] at this; exact this
  · simp only [h13, ↓reduceIte] at h
    refine shellPasses_sorted cmp hc n (by omega) _ ?_ ?_ items items' hn h
    · intro g hg
      have hall : ∀ x ∈ kShellGaps, 1 ≤ x := by decide
      exact hall g (List.mem_of_mem_drop hg)
    · split <;> decide

end BV.Lemmas.HuffmanSort
