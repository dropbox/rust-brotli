import BV.Lemmas.HasherBasic
import BV.Lemmas.HasherAdv
/-! `runPieces`: a range indexed piece by piece through any mix of the two entry points — the vehicle of C19's partition
theorems (`runPieces_eq_fold`); clone; size invariants; the concrete kinds meet the hash hypotheses. -/
namespace BV.Hasher

def runPieces {σ : Type} (range bulk : Nat → Nat → σ → Option σ) :
    Nat → List (Bool × Nat) → σ → Option σ
  | _, [], st => some st
  | s, (b, c) :: rest, st =>
    match (if b then bulk s c st else range s c st) with
    | none => none
    | some st' => runPieces range bulk c rest st'

def Sorted : Nat → List (Bool × Nat) → Prop
  | _, [] => True
  | s, (_, c) :: rest => s ≤ c ∧ Sorted c rest

def endOf : Nat → List (Bool × Nat) → Nat
  | s, [] => s
  | _, (_, c) :: rest => endOf c rest

theorem le_endOf : ∀ (ps : List (Bool × Nat)) (s : Nat), Sorted s ps → s ≤ endOf s ps
  | [], _, _ => Nat.le_refl _
  | (_, c) :: rest, s, h => Nat.le_trans h.1 (le_endOf rest c h.2)

theorem runPieces_snoc {σ : Type} (range bulk : Nat → Nat → σ → Option σ) (c : Nat) :
    ∀ (ps : List (Bool × Nat)) (s : Nat) (st : σ),
      runPieces range bulk s (ps ++ [(true, c)]) st = (runPieces range bulk s ps st).bind (bulk (endOf s ps) c)
  | [], s, st => by
    simp only [List.nil_append, runPieces, endOf, if_true, Option.bind_some]
    cases bulk s c st <;> rfl
  | (b, c') :: rest, s, st => by
    simp only [List.cons_append, runPieces, endOf]
    cases (if b = true then bulk s c' st else range s c' st) with
    | none => rfl
    | some st' => exact runPieces_snoc range bulk c rest c' st'

theorem endOf_snoc (c : Nat) : ∀ (ps : List (Bool × Nat)) (s : Nat), endOf s (ps ++ [(true, c)]) = c
  | [], _ => rfl
  | (_, c') :: rest, _ => by simp only [List.cons_append, endOf]; exact endOf_snoc c rest c'

theorem sorted_snoc (c : Nat) : ∀ (ps : List (Bool × Nat)) (s : Nat), Sorted s ps → endOf s ps ≤ c →
    Sorted s (ps ++ [(true, c)])
  | [], _, _, h => ⟨h, trivial⟩
  | (_, c') :: rest, _, hs, h => ⟨hs.1, sorted_snoc c rest c' hs.2 h⟩

theorem runPieces_eq_fold {σ : Type} {f : Nat → σ → Option σ} {range bulk : Nat → Nat → σ → Option σ}
    {I : σ → Prop} {bound : Nat}
    (hI : ∀ i x y, I x → f i x = some y → I y)
    (hr : ∀ s e st, I st → e ≤ bound → range s e st = forRange f s (e - s) st)
    (hb : ∀ s e st, I st → e ≤ bound → bulk s e st = forRange f s (e - s) st) :
    ∀ (ps : List (Bool × Nat)) (s : Nat) (st : σ), I st → Sorted s ps → endOf s ps ≤ bound →
      runPieces range bulk s ps st = forRange f s (endOf s ps - s) st
  | [], s, st, _, _, _ => by simp [runPieces, endOf, forRange_zero]
  | (b, c) :: rest, s, st, hst, hs, he => by
    have hce := le_endOf rest c hs.2
    have hcb : c ≤ bound := Nat.le_trans hce he
    have hstep : (if b then bulk s c st else range s c st) = forRange f s (c - s) st := by
      cases b
      · simpa using hr s c st hst hcb
      · simpa using hb s c st hst hcb
    simp only [runPieces, endOf, hstep]
    have hsplit : endOf c rest - s = (c - s) + (endOf c rest - c) := by have := hs.1; omega
    rw [hsplit, forRange_add, show s + (c - s) = c by have := hs.1; omega]
    cases h1 : forRange f s (c - s) st with
    | none => rfl
    | some st' =>
      simp only [Option.bind_some]
      exact runPieces_eq_fold hI hr hb rest c st' (forRange_inv hI _ _ _ _ hst h1) hs.2 he

theorem Adv.store_sizesAsserted {P : AdvP} {data : ByteArray} {mask ix : Nat} {st st' : AdvSt}
    (hs : Adv.sizesAsserted P st = true) (h : Adv.store P data mask ix st = some st') :
    Adv.sizesAsserted P st' = true := by
  obtain ⟨num, b⟩ := st
  obtain ⟨_, _, _, _, rfl⟩ := Adv.store_some h
  simp only [Adv.sizesAsserted, Array.size_set] at *
  exact hs

/-- freshly allocated tables (`InitializeH5/H6`) satisfy the two `assert_eq!` -/
theorem Adv.init_sizesAsserted (P : AdvP) :
    Adv.sizesAsserted P ⟨Array.replicate P.bucketSize 0,
      Array.replicate (P.bucketSize * (1 <<< P.blockBits)) 0⟩ = true := by
  simp [Adv.sizesAsserted]

theorem cloneTab_eq (src : Tab) : cloneTab src = some src := by
  unfold cloneTab
  simp only [Array.size_replicate, if_true]
  congr 1
  apply Array.ext
  · simp
  · intro i h1 h2
    simp [Array.getD, h2]

theorem Adv.clone_eq (st : AdvSt) : Adv.clone st = some st := by
  simp [Adv.clone, cloneTab_eq]

theorem shr_lt_of_lt {x a b : Nat} (hx : x < 2 ^ a) (hb : b ≤ a) : x >>> (a - b) < 2 ^ b := by
  rw [Nat.shiftRight_eq_div_pow, Nat.div_lt_iff_lt_mul (Nat.pow_pos (by decide)), ← Nat.pow_add]
  rw [show b + (a - b) = a by omega]; exact hx

theorem basicP_ok (bucketBits sweep hashLen : Nat) (hb : bucketBits ≤ 31) (hs : sweep ≤ 2 ^ 31) :
    (basicP bucketBits sweep hashLen).Ok := by
  constructor
  intro w
  simp only [basicP, basicHash]
  have h1 : (le w <<< (64 - 8 * hashLen)) % U64 * kHashMul64 % U64 < 2 ^ 64 :=
    Nat.mod_lt _ (by decide)
  have h2 := shr_lt_of_lt h1 (show bucketBits ≤ 64 by omega)
  have h3 : 2 ^ bucketBits ≤ 2 ^ 31 := Nat.pow_le_pow_right (by decide) hb
  have h4 : (2:Nat) ^ 31 + 2 ^ 31 = U32 := by decide
  omega

theorem H2_ok : H2.Ok := basicP_ok 16 1 5 (by decide) (by decide)
theorem H3_ok : H3.Ok := basicP_ok 16 2 5 (by decide) (by decide)
theorem H4_ok : H4.Ok := basicP_ok 17 4 5 (by decide) (by decide)
theorem H54_ok : H54.Ok := basicP_ok 20 4 7 (by decide) (by decide)

theorem shl_lt {x a b : Nat} (hx : x < 2 ^ a) : x <<< b < 2 ^ (a + b) := by
  rw [Nat.shiftLeft_eq, Nat.pow_add]
  exact Nat.mul_lt_mul_of_lt_of_le hx (Nat.le_refl _) (Nat.pow_pos (by decide))

/-- `H5Sub`/`HQ5Sub`/`HQ7Sub` (bucket_bits + block_bits ≤ 32, as for every configuration
`ChooseHasher` produces: at most 15 + 9) -/
theorem adv32P_ok (bucketBits blockBits : Nat) (h : bucketBits + blockBits ≤ 32) :
    (adv32P bucketBits blockBits).Ok := by
  have hm : (0xffffffff : Nat) = 2 ^ 32 - 1 := by decide
  have key : ∀ x : Nat, ((x &&& 0xffffffff) >>> (32 - bucketBits)) < 2 ^ bucketBits := by
    intro x
    apply shr_lt_of_lt _ (by omega)
    rw [hm, Nat.and_two_pow_sub_one_eq_mod]; exact Nat.mod_lt _ (by decide)
  have hU : 2 ^ (bucketBits + blockBits) ≤ U32 :=
    Nat.le_trans (Nat.pow_le_pow_right (by decide) h) (by decide)
  have hB : 2 ^ bucketBits ≤ U32 :=
    Nat.le_trans (Nat.pow_le_pow_right (by decide) (show bucketBits ≤ 32 by omega)) (by decide)
  constructor
  · intro w
    simp only [adv32P]
    have := key (le w * kHashMul32)
    rw [Nat.mod_eq_of_lt (by omega)]
    exact Nat.lt_of_lt_of_le (shl_lt this) hU
  · intro _ w hl hb
    simp only [adv32P, Adv.mixInline]
    have := key (le w * kHashMul32)
    rw [Nat.mod_eq_of_lt (by omega)]
    have hle : le w < 2 ^ 32 := by
      have := le_lt_of_bytes w hb
      rw [hl] at this
      exact this
    rw [hm, Nat.and_two_pow_sub_one_eq_mod (le w), Nat.mod_eq_of_lt hle]

/-- `H6Sub` (look-ahead 8: the batched paths are never entered, `coh` is vacuous) -/
theorem adv64P_ok (bucketBits blockBits hashLen : Nat) (h : bucketBits + blockBits ≤ 32) :
    (adv64P bucketBits blockBits hashLen).Ok := by
  have hU : 2 ^ (bucketBits + blockBits) ≤ U32 :=
    Nat.le_trans (Nat.pow_le_pow_right (by decide) h) (by decide)
  have hB : 2 ^ bucketBits ≤ U32 :=
    Nat.le_trans (Nat.pow_le_pow_right (by decide) (show bucketBits ≤ 32 by omega)) (by decide)
  constructor
  · intro w
    simp only [adv64P]
    have h1 : (le w &&& ((1 <<< (8 * hashLen)) - 1)) * kHashMul64Long % U64 < 2 ^ 64 :=
      Nat.mod_lt _ (by decide)
    have := shr_lt_of_lt h1 (show bucketBits ≤ 64 by omega)
    rw [Nat.mod_eq_of_lt (by omega)]
    exact Nat.lt_of_lt_of_le (shl_lt this) hU
  · intro h8; simp [adv64P] at h8

end BV.Hasher
