/-
Hypotheses on the Rust calls under the C ABI wrappers (checked on every twin call by the harness)
and the small lemmas of C13.
-/
import BV.Model.FFI
namespace BV.FFI

/-- `compress_stream` moves offset and counter together (C20's obligation; the harness checks
`offset + available = what was offered` on every twin call) -/
structure CursorsAgree (c : StreamCall) (a : StreamAns) : Prop where
  inEq : a.inOff + a.availIn = c.availIn
  outEq : a.outOff + a.availOut = c.availOut

/-- the `total_out` cell is stored exactly by the calls that deliver bytes, with the encoder's
running total (encode.rs `inject_flush_or_push_output`, the in-place branch of the fast path, the
metadata copy) -/
def TotalTracks (c : StreamCall) (a : StreamAns) : Prop :=
  a.toWritten = if a.outOff = 0 then none else some (c.encTotal + a.outOff)

theorem ptrAdd_some (p k : Nat) : ptrAdd (some p) k = some (p + k) := rfl
theorem ptrAdd_zero (p : Option Nat) : ptrAdd p 0 = p := by cases p <;> rfl

inductive Hand where
  | take (size : Nat)     -- `BrotliEncoderTakeOutput(&size)`
  | push (k : Nat)        -- a stream call copies `min k pending` bytes to the caller's buffer
deriving DecidableEq, Repr

def handOut : Bytes → List Hand → List Bytes × Bytes
  | pending, [] => ([], pending)
  | pending, .take size :: rest =>
    let (bs, _, left) := takeOutput pending size
    let (chunks, final) := handOut left rest
    (bs :: chunks, final)
  | pending, .push k :: rest =>
    let (chunks, final) := handOut (pending.drop (min k pending.length)) rest
    (pending.take (min k pending.length) :: chunks, final)

theorem takeOutput_spec (pending : Bytes) (size : Nat) :
    (takeOutput pending size).1 ++ (takeOutput pending size).2.2 = pending ∧
    (takeOutput pending size).2.1 = (takeOutput pending size).1.length ∧
    (takeOutput pending size).1.length = (if size = 0 then pending.length else min size pending.length) := by
  unfold takeOutput
  by_cases hs : size = 0
  · subst hs
    by_cases hp : pending.length = 0
    · have : pending = [] := List.eq_nil_of_length_eq_zero hp
      subst this; simp
    · simp [hp]
  · by_cases hm : min size pending.length = 0
    · have hp : pending.length = 0 := by omega
      have : pending = [] := List.eq_nil_of_length_eq_zero hp
      subst this; simp [hs]
    · simp [hs, hm, List.length_take]

end BV.FFI
