import BV.Lemmas.CmdReplay
import BV.Model.Zopfli
/-! One command of `BrotliZopfliCreateCommands`: a SOUND node (`NodeOK`) is a sound reference in the sense of
BV/Lemmas/CmdReplay.lean, so the command built from it keeps decoder and encoder in step (`ccStep_good`).

The spec side (`NodeOK`, `ringAfter`) speaks about the text `hist ++ mb`, the RFC 7932 distance rules (`rfcDistance`, C14's
transcription) and the decoder's word oracle only — not about the ring buffer, the match finder or the cost model. -/
namespace BV.Zopfli
open BV.Hasher BV.MatchFinder BV.Recoder BV.PrefixArith BV.MetaBlock BV.Cbr

/-- what a Zopfli node must describe for the command built from it to be decodable, when its copy starts at text length
`abs` and the decoder's ring of last distances is `ring` (the insert part needs nothing: literals are the text).  `code`: a
non-zero short code `dcode_insert_length >> 27 = c` stands for distance symbol `c - 1`; the `63` / `64` of `kind`: the word
length (= length code) lies within the 7-bit delta of the copy length. -/
structure NodeOK {K : Type} (wo : WordOracle) (window md : Nat) (T : Bytes) (abs : Nat) (ring : List Int)
    (n : Node K) : Prop where
  fit : abs + n.copyLength ≤ T.length
  code : n.shortCode = 0 ∨
    (n.shortCode ≤ 16 ∧ ∃ u, rfcDistance 0 0 ring (n.shortCode - 1) 0 = some ((n.distance : Int), u))
  kind :
    (1 ≤ n.distance ∧ n.distance ≤ min abs window ∧ 2 ≤ n.copyLength ∧ n.lengthCode = n.copyLength ∧
      ∀ j, j < n.copyLength → T.getD (abs - n.distance + j) 0 = T.getD (abs + j) 0) ∨
    (n.distance > min abs window ∧ n.distance ≤ md ∧ n.shortCode = 0 ∧
      4 ≤ n.lengthCode ∧ n.lengthCode ≤ 24 ∧ n.copyLength ≠ 0 ∧
      n.lengthCode ≤ n.copyLength + 63 ∧ n.copyLength ≤ n.lengthCode + 64 ∧
      wo n.lengthCode ((n.distance - min abs window - 1) % 2 ^ dictSizeBits.getD n.lengthCode 0)
          ((n.distance - min abs window - 1) / 2 ^ dictSizeBits.getD n.lengthCode 0)
        = some ((T.drop abs).take n.copyLength))

/-- RFC 7932 §4: only a copy whose distance symbol is not 0 pushes its distance (`Cbr.refRing` on the fields of the node) -/
def ringAfter {K : Type} (window abs : Nat) (ring : List Int) (n : Node K) : List Int :=
  if n.distance ≤ min abs window ∧ n.distanceCode ≠ 0 then (n.distance : Int) :: ring.take 3 else ring

theorem copyLength_lt {K : Type} (n : Node K) : n.copyLength < 2 ^ 25 := by
  unfold Node.copyLength
  rw [show (0x01ffffff : Nat) = 2 ^ 25 - 1 by decide, Nat.and_two_pow_sub_one_eq_mod]
  exact Nat.mod_lt _ (by decide)

theorem distanceCode_long {K : Type} (n : Node K) (h0 : n.shortCode = 0) (hd : n.distance + 16 < 2 ^ 32) :
    n.distanceCode = n.distance + 15 := by
  have hU : U32 = 4294967296 := rfl
  unfold Node.distanceCode wsub32
  rw [if_pos h0]
  simp only [hU]
  omega

theorem distanceCode_short {K : Type} (n : Node K) (h0 : n.shortCode ≠ 0) : n.distanceCode = n.shortCode - 1 := by
  unfold Node.distanceCode
  rw [if_neg h0]

/-- `L0`: the pending literals of the previous call, the first bytes of the meta-block -/
structure ZSync (hist mb : Bytes) (L0 : Nat) (s : CC) (d : DecSt) (ring : List Int) : Prop where
  out : d.out = hist ++ mb.take d.cursor
  cur : d.cursor + s.lastInsertLen = L0 + s.pos
  nf : s.first = false → s.lastInsertLen = 0
  dring : d.ring = ring
  cache : s.cache.take 4 = ring
  ci : CacheI32 s.cache
  clen : 4 ≤ s.cache.length

theorem ccStep_eq {K : Type} (np nd base window : Nat) (nodes : Array (Node K)) (s : CC) (nx : Node K)
    (c0 c1 c2 c3 : Int) (rest : List Int) (hn : nodes[s.pos + s.offset]? = some nx)
    (hc : s.cache = c0 :: c1 :: c2 :: c3 :: rest) :
    ccStep np nd base window nodes s = some
      (commandInit np nd (if s.first then nx.insertLength + s.lastInsertLen else nx.insertLength) nx.copyLength
          nx.lengthCode nx.distanceCode,
        { pos := s.pos + nx.insertLength + nx.copyLength, offset := nx.nextOf, first := false,
          cache := pushDistance window (base + (s.pos + nx.insertLength)) nx.distance nx.distanceCode c0 c1 c2 c3 rest,
          lastInsertLen := if s.first then 0 else s.lastInsertLen,
          numLiterals := s.numLiterals + (if s.first then nx.insertLength + s.lastInsertLen else nx.insertLength) }) := by
  unfold ccStep
  simp only [hn, hc]
  -- the model tests `¬ (distance > max_distance)`
  rw [show pushDistance window (base + (s.pos + nx.insertLength)) nx.distance nx.distanceCode c0 c1 c2 c3 rest
      = if ¬ (nx.distance > min (base + (s.pos + nx.insertLength)) window) ∧ nx.distanceCode > 0
        then toI32 nx.distance :: c0 :: c1 :: c2 :: rest else c0 :: c1 :: c2 :: c3 :: rest by
    unfold pushDistance; simp only [gt_iff_lt, Nat.not_lt]]
  by_cases h : ¬ (nx.distance > min (base + (s.pos + nx.insertLength)) window) ∧ nx.distanceCode > 0
  · rw [if_pos h, if_pos h]
  · rw [if_neg h, if_neg h]

theorem NodeOK.copy_code {K : Type} {wo : WordOracle} {window md : Nat} {T : Bytes} {abs : Nat} {ring : List Int}
    {n : Node K} (hok : NodeOK wo window md T abs ring n) (large : Bool) {c0 c1 c2 c3 : Int}
    (hring : ring = [c0, c1, c2, c3]) (hci : CacheI32 [c0, c1, c2, c3]) (hwin : window ≤ 2 ^ 30)
    (hstdw : large = false → window ≤ 2 ^ 26 - 4) (k1 : 1 ≤ n.distance) (k2 : n.distance ≤ min abs window) :
    n.distanceCode < 2 ^ 31 ∧ (large = false → n.distanceCode < 2 ^ 26 + 12) ∧
    ∃ u, rfcDistance 0 0 ring (prefixEncodeCopyDistance n.distanceCode 0 0).sym
      (prefixEncodeCopyDistance n.distanceCode 0 0).extra = some ((n.distance : Int), u) ∧
      u = decide (n.distanceCode ≠ 0) := by
  have hd31 : n.distance < 2 ^ 31 := by omega
  by_cases h0 : n.shortCode = 0
  · rw [distanceCode_long n h0 (by omega)]
    obtain ⟨code, _, _, hcd, hrfc⟩ := computeDistanceCode_sound 0 0 n.distance 0 c0 c1 c2 c3 [] k1 hd31 hci
    have hcode : code = n.distance + 15 := hcd (by omega)
    subst hcode
    exact ⟨by omega, fun hl => by have := hstdw hl; omega, _, by rw [hring]; exact hrfc, rfl⟩
  · rcases hok.code with h0' | ⟨h16, u, hu⟩
    · exact absurd h0' h0
    · rw [distanceCode_short n h0, short_direct 0 0 _ (by omega)]
      exact ⟨by omega, fun _ => by omega, u, hu, rfcDistance_flag 0 0 ring _ 0 _ u hu⟩

theorem NodeOK.ref {K : Type} {wo : WordOracle} {window md : Nat} {T : Bytes} {abs : Nat} {ring : List Int}
    {n : Node K} (hok : NodeOK wo window md T abs ring n) (large : Bool) {c0 c1 c2 c3 : Int}
    (hring : ring = [c0, c1, c2, c3]) (hci : CacheI32 [c0, c1, c2, c3]) (hwin : window ≤ 2 ^ 30) (hmd : md + 15 < 2 ^ 31)
    (hstdw : large = false → window ≤ 2 ^ 26 - 4) (hstdm : large = false → md ≤ 2 ^ 26 - 4) :
    RefOK wo window T abs ring n.copyLength n.lengthCode n.distance n.distanceCode ∧
      (large = false → n.distanceCode < 2 ^ 26 + 12) := by
  rcases hok.kind with ⟨k1, k2, k3, k4, k5⟩ | ⟨k1, k2, k3, k4, k5, k6, k7, k8, k9⟩
  · obtain ⟨hc31, hcstd, u, hrfc, hu⟩ := hok.copy_code large hring hci hwin hstdw k1 k2
    exact ⟨.copy k1 k2 k3 k4 hc31 (hu ▸ hrfc) k5, hcstd⟩
  · have hcode := distanceCode_long n k3 (by omega)
    exact ⟨.word k1 hcode (by omega) k4 k5 k6 k7 k8 k9, fun hl => by have := hstdm hl; omega⟩

theorem ccStep_good {K : Type} (wo : WordOracle) (window md : Nat) (large : Bool) (hist mb : Bytes) (L0 numBytes : Nat)
    (nodes : Array (Node K)) (hwin : window ≤ 2 ^ 30) (hmd : md + 15 < 2 ^ 31)
    (hstdw : large = false → window ≤ 2 ^ 26 - 4) (hstdm : large = false → md ≤ 2 ^ 26 - 4)
    (hmb24 : mb.length ≤ 2 ^ 24) (hmbl : mb.length = L0 + numBytes)
    {s s' : CC} {d : DecSt} {ring : List Int} {nx : Node K} {cmd : Cmd}
    (hsync : ZSync hist mb L0 s d ring)
    (hnode : nodes[s.pos + s.offset]? = some nx)
    (hok : NodeOK wo window md (hist ++ mb) (hist.length + L0 + s.pos + nx.insertLength) ring nx)
    (hle : s.pos + nx.insertLength + nx.copyLength ≤ numBytes)
    (hst : ccStep 0 0 (hist.length + L0) window nodes s = some (cmd, s')) :
    ∃ d', decStep wo 0 0 window mb d cmd = some d' ∧
      ZSync hist mb L0 s' d' (ringAfter window (hist.length + L0 + s.pos + nx.insertLength) ring nx) ∧
      s'.pos = s.pos + nx.insertLength + nx.copyLength ∧ s'.offset = nx.nextOf ∧
      d.cursor + cmd.insertLen ≠ mb.length ∧ copyLen cmd ≠ 0 ∧
      d'.cursor = d.cursor + cmd.insertLen + copyLen cmd ∧
      cmdOK (distAlphabetSize large 0 0) 0 0 cmd = true := by
  obtain ⟨c0, c1, c2, c3, rest, hcache⟩ := exists_cons4 hsync.clen
  rw [ccStep_eq 0 0 _ window nodes s nx c0 c1 c2 c3 rest hnode hcache] at hst
  simp only [Option.some.injEq, Prod.mk.injEq] at hst
  obtain ⟨rfl, rfl⟩ := hst
  have hring : ring = [c0, c1, c2, c3] := by rw [← hsync.cache, hcache]; rfl
  have hci : CacheI32 (c0 :: c1 :: c2 :: c3 :: rest) := hcache ▸ hsync.ci
  -- only the first command carries the pending literals of the previous call
  obtain ⟨hins, hls⟩ : (if s.first then nx.insertLength + s.lastInsertLen else nx.insertLength)
      = nx.insertLength + s.lastInsertLen ∧ (if s.first then 0 else s.lastInsertLen) = 0 := by
    cases hf : s.first with
    | true => simp
    | false => simp [hsync.nf hf]
  rw [hins]
  have hcur := hsync.cur
  obtain ⟨href, hstd⟩ := hok.ref large hring hci hwin hmd hstdw hstdm
  rw [← hsync.dring] at href
  obtain ⟨hdec, f1, f5, hne, hcmd⟩ := href.replays (ins := nx.insertLength + s.lastInsertLen) hsync.out (by omega) (by omega) hmb24 large hstd
  obtain ⟨r1, r2, r3⟩ := cache_after hci hwin nx.distance nx.distanceCode (hist.length + L0 + (s.pos + nx.insertLength))
  refine ⟨_, hdec, ⟨rfl, by simp only [hls]; omega, fun _ => hls, by rw [hsync.dring]; rfl, ?_, ?_, ?_⟩, rfl, rfl,
    by rw [f1]; omega, by rw [f5]; exact hne, by rw [f1, f5], hcmd⟩
  · simp only [ringAfter, hcache, hring, ← Nat.add_assoc] at r1 ⊢
    exact r1
  · simp only [hcache]; exact r2
  · simp only [hcache]; exact r3

end BV.Zopfli
