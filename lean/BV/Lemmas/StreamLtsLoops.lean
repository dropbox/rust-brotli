import BV.Lemmas.StreamEffect
/-
Every iteration of the three loops is one atomic step (or a `break` that leaves the
configuration alone); every loop run is a sequence of atomic steps that ends in the iteration that
breaks, with what the loop invariant says there (`MainExit`, `MdExit`).
-/
namespace BV.Stream
open BV.Bits

theorem FastInv.nonprocZero {op : Nat} {c0 : SState} {n : Nat} {s : St} {io : Io}
    (hP : FastInv op c0 n s io) : s.streamState ≠ .processing → io.availIn = 0 := by
  intro hne
  rcases hP.st with h1 | ⟨_, h2, _⟩
  · exact hP.nonproc (by rw [← h1]; exact hne)
  · exact h2

/-- why a loop of `compress_stream` breaks: none of its actions applies -/
def ExitOK (op : Nat) (s : St) (io : Io) : Prop :=
  (fastMode s.params ∧ ¬ (s.pending.length = 0 ∧ s.streamState = .processing ∧ (io.availIn ≠ 0 ∨ op ≠ 0))) ∨
  (¬ fastMode s.params ∧ ¬ (remainingInputBlockSize s ≠ 0 ∧ io.availIn ≠ 0)
    ∧ ¬ (s.pending.length = 0 ∧ s.streamState = .processing ∧ (remainingInputBlockSize s = 0 ∨ op ≠ 0)))

theorem ExitOK.nonzero {op : Nat} {s : St} {io : Io} (h : ExitOK op s io) (h0 : op ≠ 0) :
    ¬ (s.pending.length = 0 ∧ s.streamState = .processing) := by
  intro hh
  rcases h with ⟨_, h1⟩ | ⟨_, _, h1⟩
  · exact h1 ⟨hh.1, hh.2, Or.inr h0⟩
  · exact h1 ⟨hh.1, hh.2, Or.inr h0⟩

theorem push_step {o : Oracle} {op : Nat} {s s' : St} {io io' : Io} (hI : Inv s)
    (hnz : s.streamState ≠ .processing → io.availIn = 0) (hp : injectFlushOrPushOutput s io = .ok (s', io', true)) :
    ∃ e, e ≠ .tau 0 ∧ Step o op (s, io) e (s', io') := by
  by_cases hpd : PadDue s
  · unfold injectFlushOrPushOutput at hp
    rw [if_pos (show s.streamState = .flushRequested ∧ s.lastBytesBits ≠ 0 from hpd)] at hp
    split at hp
    · rename_i s2 hpad
      simp only [Out.ok.injEq, Prod.mk.injEq] at hp
      obtain ⟨rfl, rfl, _⟩ := hp
      exact ⟨_, (fun hh => by cases hh), Step.pad hI hpd (hnz (by rw [hpd.1]; simp)) hpad⟩
    · simp at hp
    · simp at hp
  · exact ⟨_, (fun hh => by cases hh), Step.push hI hpd hp⟩

theorem slowStep_steps {o : Oracle} {op : Nat} {c0 : SState} {n total : Nat} {s s' : St} {io io' : Io} {c : Ctl}
    (hop : op ≤ 2) (hnf : ¬ fastMode s.params) (hP : SlowInv op c0 n total s io) (h : slowStep o op s io = .ok (s', io', c)) :
    (c = .cont ∧ ∃ e, e ≠ .tau 0 ∧ Step o op (s, io) e (s', io')) ∨
    (c = .brk ∧ s' = s ∧ io' = io ∧ Step o op (s, io) (.tau 0) (checkFlushComplete s, io)
      ∧ ExitOK op s io) := by
  have hI := hP.inv
  have hw : s.inputPos + io.availIn < two64 := by rw [hP.sum]; exact hP.nowrap
  have hnz := hP.idle
  rcases slowStep_ok h with ⟨hc, hn, hcp, rfl, rfl⟩ |
    ⟨hc, ⟨hp, rfl⟩ | ⟨hp, ⟨hcond, s2, res, req, henc, rfl, hres⟩ | ⟨hne, rfl, rfl, rfl⟩⟩⟩
  · have hst : s.streamState = .processing := Decidable.byContradiction fun hh => hc.2 (hnz hh)
    exact Or.inl ⟨rfl, _, (fun hh => by cases hh), Step.copy hI hw hop hnf hst hP.rm hc hn hcp⟩
  · exact Or.inl ⟨rfl, push_step hI hnz hp⟩
  · have hst : (updateSizeHint s io.availIn).streamState = .processing := by
      rw [updateSizeHint_eq]; exact hcond.2.1
    have hres' : res = true := encodeData_succeeds (inv_updateSizeHint hI io.availIn) (by rw [hst]; simp) henc
    subst hres'
    rcases hres with ⟨hf, _⟩ | ⟨_, rfl, rfl⟩
    · cases hf
    · exact Or.inl ⟨rfl, _, (fun hh => by unfold encEv at hh; cases hh),
        Step.encSlow hI hop hnf hP.rm hc (push_false_noPad hp) (List.eq_nil_of_length_eq_zero hcond.1) hcond.2.1 hcond.2.2 henc⟩
  · exact Or.inr ⟨rfl, rfl, rfl, Step.cfc hI hop hP.rm (push_false_noPad hp) hnz, Or.inr ⟨hnf, hc, hne⟩⟩

/-- `.tau 0` is `check_flush_complete`, which a call runs once, behind the trail -/
def Trail (o : Oracle) (op : Nat) (c0 c : St × Io) : Prop := ∃ evs, Steps o op c0 evs c ∧ ∀ e ∈ evs, e ≠ .tau 0

theorem Trail.refl {o : Oracle} {op : Nat} (c : St × Io) : Trail o op c c := ⟨[], .nil _, fun _ h => by cases h⟩

theorem Trail.snoc {o : Oracle} {op : Nat} {c0 c c1 : St × Io} {e : Ev} (h : Trail o op c0 c) (hs : Step o op c e c1)
    (hne : e ≠ .tau 0) : Trail o op c0 c1 := by
  obtain ⟨evs, h1, h2⟩ := h
  refine ⟨evs ++ [e], h1.append (.one hs), fun e' he' => ?_⟩
  rcases List.mem_append.mp he' with h | h
  · exact h2 _ h
  · rw [List.mem_singleton.mp h]; exact hne

/-- `s`, `n`: state and bytes on offer at entry of an accepted PROCESS / FLUSH / FINISH call; `s1`, `io'`: state and
cursors of the iteration that breaks (one-shot loop or main loop alike) -/
structure MainExit (op : Nat) (s : St) (n : Nat) (s1 : St) (io' : Io) : Prop where
  inv : Inv s1
  rm : s1.remainingMetadata = u32Max
  availLe : io'.availIn ≤ n
  st : StateMove op s.streamState s1 io'
  idle : s1.streamState ≠ .processing → io'.availIn = 0
  pend : s.streamState = .finished → s1.pending.length ≤ s.pending.length
  noPad : ¬ PadDue s1
  full : ¬ (s1.pending.length ≠ 0 ∧ io'.availOut ≠ 0)
  exit : ExitOK op s1 io'
  fm : fastMode s1.params ↔ fastMode s.params

theorem slowLoop_run {o : Oracle} {op fuel : Nat} {s s' : St} {io io' : Io} {r : Bool} {X : St → Io → Prop}
    (hop : op ≤ 2) (hnf : ¬ fastMode s.params) (hI : Inv s) (hrm : s.remainingMetadata = u32Max)
    (hw : s.inputPos + io.availIn < two64) (hacc : s.streamState ≠ .processing → io.availIn = 0) (hX0 : X s io)
    (hX : ∀ t tio t' tio', SlowInv op s.streamState io.availIn (s.inputPos + io.availIn) t tio → X t tio →
      slowStep o op t tio = .ok (t', tio', .cont) → X t' tio')
    (h : slowLoop o op fuel s io = .ok (s', io', r)) :
    r = true ∧ ∃ s1, Trail o op (s, io) (s1, io') ∧ s' = checkFlushComplete s1 ∧ MainExit op s io.availIn s1 io'
      ∧ X s1 io' := by
  let P : St → Io → Prop := fun t tio =>
    SlowInv op s.streamState io.availIn (s.inputPos + io.availIn) t tio ∧
    (s.streamState = .finished → t.pending.length ≤ s.pending.length) ∧ ¬ fastMode t.params ∧ Trail o op (s, io) (t, tio)
    ∧ X t tio
  have hP0 : P s io := ⟨⟨hI, rfl, hw, hrm, Nat.le_refl _, hacc, Or.inl rfl⟩, fun _ => Nat.le_refl _, hnf, .refl _, hX0⟩
  have hstep : ∀ t tio t' tio' c, P t tio → slowStep o op t tio = .ok (t', tio', c) → c ≠ .fail ∧ P t' tio' := by
    intro t tio t' tio' c ⟨hS, hpend, hnft, htr, hx⟩ hs
    obtain ⟨c1, c2⟩ := slowInv_step hS hs
    have hpend' : s.streamState = .finished → t'.pending.length ≤ s.pending.length := by
      intro hfin
      have htst : t.streamState = .finished := by
        rcases hS.st with h1 | ⟨h1, _⟩
        · rw [h1]; exact hfin
        · rw [hfin] at h1; cases h1
      exact Nat.le_trans (slowStep_pending_finished htst (hS.nonproc (by rw [hfin]; simp)) hs) (hpend hfin)
    rcases slowStep_steps hop hnft hS hs with ⟨rfl, e, hne, he⟩ | ⟨_, rfl, rfl, _⟩
    · exact ⟨c1, c2, hpend', fun hh => hnft ((fastMode_of_mode (step_mode he hS.inv.init)).mp hh), htr.snoc he hne,
        hX _ _ _ _ hS hx hs⟩
    · exact ⟨c1, c2, hpend', hnft, htr, hx⟩
  obtain ⟨hr, s1, ⟨hS, hpend, hnf1, htr, hx⟩, rfl, hbrk⟩ := slowLoop_exit P hstep fuel s io s' io' r hP0 h
  obtain ⟨_, _, f1, f2, f3, f4⟩ := slowStep_brk hbrk
  exact ⟨hr, s1, htr, rfl, ⟨hS.inv, hS.rm, hS.availLe, hS.st, hS.idle, hpend, f2, f3, Or.inr ⟨hnf1, f1, f4⟩,
    ⟨fun hh => absurd hh hnf1, fun hh => absurd hh hnf⟩⟩, hx⟩

theorem slowLoop_steps {o : Oracle} {op : Nat} {c0 : SState} {n total : Nat} (hop : op ≤ 2) :
    ∀ fuel s io s' io' r, ¬ fastMode s.params → SlowInv op c0 n total s io → slowLoop o op fuel s io = .ok (s', io', r) →
      ∃ evs s1, Steps o op (s, io) evs (s1, io') ∧ (∀ e ∈ evs, e ≠ .tau 0) ∧ Step o op (s1, io') (.tau 0) (s', io')
        ∧ s' = checkFlushComplete s1 ∧ ExitOK op s1 io' := by
  intro fuel s io s' io' r hnf hP h
  obtain ⟨_, s1, ⟨evs, h1, h2⟩, rfl, hx, _⟩ :=
    slowLoop_run (X := fun _ _ => True) hop hnf hP.inv hP.rm (by rw [hP.sum]; exact hP.nowrap) hP.idle trivial
      (fun _ _ _ _ _ _ _ => trivial) h
  exact ⟨evs, s1, h1, h2, Step.cfc hx.inv hop hx.rm hx.noPad hx.idle, rfl, hx.exit⟩

theorem fastStep_steps {o : Oracle} {op : Nat} {c0 : SState} {n : Nat} {s s' : St} {io io' : Io} {b : Bool}
    (hop : op ≤ 2) (hP : FastInv op c0 n s io) (h : fastStep o op s io = .ok (s', io', b)) :
    (b = true ∧ ∃ e, e ≠ .tau 0 ∧ Step o op (s, io) e (s', io')) ∨
    (b = false ∧ s' = s ∧ io' = io ∧ ¬ PadDue s ∧ ExitOK op s io) := by
  have hI := hP.inv
  have hnz := hP.nonprocZero
  rcases fastStep_ok h with ⟨hp, rfl⟩ | ⟨hp, ⟨hne, rfl, rfl, rfl⟩ | ⟨hcond, rfl, bs, il, ff, rfl, rfl, rfl, hcase⟩⟩
  · exact Or.inl ⟨rfl, push_step hI hnz hp⟩
  · exact Or.inr ⟨rfl, rfl, rfl, push_false_noPad hp, Or.inl ⟨hP.fm, hne⟩⟩
  have p1 := push_false_noPad hp
  have hpend : s.pending = [] := List.eq_nil_of_length_eq_zero hcond.1
  rcases hcase with ⟨hff, hs', hio⟩ | ⟨hnf, ipl, s1, req, hipl, hs1, hreq, hcap, hin, hfit, rfl, rfl⟩
  · rw [hs', hio]
    have hff1 : io.availIn = fastBs s io ∧ op = 1 := of_decide_eq_true hff.1
    exact Or.inl ⟨rfl, _, (fun hh => by cases hh), Step.fastFlush hI hP.fm hP.rm p1 hpend hcond.2.1 hff1.2 (hff1.1.trans hff.2)⟩
  · rw [hs1, hipl] at hcap hfit ⊢
    rw [hreq] at hfit ⊢
    refine Or.inl ⟨rfl, .fast s.nEnc (fastReq op s io), (fun hh => by cases hh), ?_⟩
    change Step o op (s, io) _ ((fastRes o op s io).1, (fastRes o op s io).2)
    exact Step.fastBlock hI hP.fm hop hP.rm p1 hpend hcond.2.1 hcond.2.2 hnf hcap hin hfit

theorem fastLoop_run {o : Oracle} {op fuel : Nat} {s s' : St} {io io' : Io} {X : St → Io → Prop}
    (hop : op ≤ 2) (hfm : fastMode s.params) (hI : Inv s) (hrm : s.remainingMetadata = u32Max)
    (hacc : s.streamState ≠ .processing → io.availIn = 0) (hX0 : X s io)
    (hX : ∀ t tio t' tio', FastInv op s.streamState io.availIn t tio → X t tio →
      fastStep o op t tio = .ok (t', tio', true) → X t' tio')
    (h : fastLoop o op fuel s io = .ok (s', io')) :
    Trail o op (s, io) (s', io') ∧ MainExit op s io.availIn s' io' ∧ X s' io' := by
  let P : St → Io → Prop := fun t tio =>
    FastInv op s.streamState io.availIn t tio ∧
    (s.streamState = .finished → t.pending.length ≤ s.pending.length) ∧ Trail o op (s, io) (t, tio) ∧ X t tio
  have hP0 : P s io := ⟨⟨hI, hfm, hrm, Nat.le_refl _, hacc, Or.inl rfl⟩, fun _ => Nat.le_refl _, .refl _, hX0⟩
  have hstep : ∀ t tio t' tio' b, P t tio → fastStep o op t tio = .ok (t', tio', b) → P t' tio' := by
    intro t tio t' tio' b ⟨hS, hpend, htr, hx⟩ hs
    have hpend' : s.streamState = .finished → t'.pending.length ≤ s.pending.length := by
      intro hfin
      have htst : t.streamState = .finished := by
        rcases hS.st with h1 | ⟨h1, _⟩
        · rw [h1]; exact hfin
        · rw [hfin] at h1; cases h1
      exact Nat.le_trans (fastStep_pending_finished hS.inv hS.fm htst hs) (hpend hfin)
    rcases fastStep_steps hop hS hs with ⟨rfl, e, hne, he⟩ | ⟨_, rfl, rfl, _⟩
    · exact ⟨fastInv_step hS hs, hpend', htr.snoc he hne, hX _ _ _ _ hS hx hs⟩
    · exact ⟨hS, hpend', htr, hx⟩
  obtain ⟨⟨hS, hpend, htr, hx⟩, hbrk⟩ := fastLoop_exit P hstep fuel s io s' io' hP0 h
  obtain ⟨_, _, f2, f3, f4⟩ := fastStep_brk hbrk
  exact ⟨htr, ⟨hS.inv, hS.rm, hS.availLe, hS.st, hS.nonprocZero, hpend, f2, f3, Or.inl ⟨hS.fm, f4⟩,
    ⟨fun _ => hfm, fun _ => hS.fm⟩⟩, hx⟩

theorem MainExit.quiet {op n : Nat} {s s1 : St} {io' : Io} (hx : MainExit op s n s1 io') (hp : s1.pending.length = 0)
    (hpr : s1.streamState = .processing) : op = 0 ∧ io'.availIn = 0 := by
  rcases hx.exit with ⟨_, h4⟩ | ⟨_, h1, h4⟩
  · exact ⟨Decidable.byContradiction fun h0 => h4 ⟨hp, hpr, Or.inr h0⟩,
      Decidable.byContradiction fun hz => h4 ⟨hp, hpr, Or.inl hz⟩⟩
  · have hop0 : op = 0 := Decidable.byContradiction fun h0 => h4 ⟨hp, hpr, Or.inr h0⟩
    have hrbs : remainingInputBlockSize s1 ≠ 0 := fun hh => h4 ⟨hp, hpr, Or.inl hh⟩
    exact ⟨hop0, Decidable.byContradiction fun hz => h1 ⟨hrbs, hz⟩⟩

theorem fastLoop_steps {o : Oracle} {op : Nat} {c0 : SState} {n : Nat} (hop : op ≤ 2) :
    ∀ fuel s io s' io', FastInv op c0 n s io → fastLoop o op fuel s io = .ok (s', io') →
      FastInv op c0 n s' io' ∧ ¬ PadDue s' ∧ ExitOK op s' io'
        ∧ ∃ evs, Steps o op (s, io) evs (s', io') ∧ (∀ e ∈ evs, e ≠ .tau 0) := by
  intro fuel s io s' io' hP h
  obtain ⟨htr, hx, _⟩ := fastLoop_run (X := fun _ _ => True) hop hP.fm hP.inv hP.rm hP.nonprocZero trivial
    (fun _ _ _ _ _ _ _ => trivial) h
  exact ⟨(fastLoop_exit (FastInv op c0 n) (fun _ _ _ _ _ hp hs => fastInv_step hp hs) fuel s io s' io' hP h).1,
    hx.noPad, hx.exit, htr⟩

theorem mdStep_steps {o : Oracle} {n : Nat} {s s' : St} {io io' : Io} {c : Ctl}
    (hP : MdInv n s io) (h : processMetadataStep o s io = .ok (s', io', c)) :
    (∃ e, Step o 3 (s, io) e (s', io')) ∨ (c = .brk ∧ s' = s ∧ io' = io) := by
  have hI := hP.inv
  have hnf : s.streamState ≠ .finished := by rcases hP.st with h1 | h1 <;> rw [h1] <;> simp
  have hnpd : ¬ PadDue s := by
    intro hh
    rcases hP.st with h1 | h1 <;> rw [hh.1] at h1 <;> cases h1
  rcases mdStep_ok h with ⟨hp, _⟩ | ⟨_, ⟨_, rfl, rfl, rfl⟩ | ⟨hpend, henc | ⟨hlf, hhd | ⟨hnh, hdone | ⟨hnz, hout | htiny⟩⟩⟩⟩⟩
  · exact Or.inl ⟨_, Step.push hI hnpd hp⟩
  · exact Or.inr ⟨rfl, rfl, rfl⟩
  all_goals have hp0 : s.pending = [] := List.eq_nil_of_length_eq_zero hpend
  · obtain ⟨hne, res, req, henc, rfl, _⟩ := henc
    have hres : res = true := encodeData_succeeds hI hnf henc
    subst hres
    exact Or.inl ⟨_, Step.mdEnc hP rfl hp0 hne henc⟩
  · obtain ⟨hst, rfl, rfl, _, hok⟩ := hhd
    exact Or.inl ⟨_, Step.mdHead hP rfl hp0 hlf hst hok⟩
  all_goals have hbody : s.streamState = .metadataBody := hP.st.resolve_left hnh
  · obtain ⟨hz, rfl, rfl, _⟩ := hdone
    exact Or.inl ⟨_, Step.mdDone hP rfl hp0 hlf hbody hz⟩
  · obtain ⟨hao, hle, rfl, rfl, _⟩ := hout
    exact Or.inl ⟨_, Step.mdOut hP rfl hp0 hlf hbody hnz hao (Nat.not_lt.mpr hle)⟩
  · obtain ⟨hao, hle, rfl, rfl, _⟩ := htiny
    exact Or.inl ⟨_, Step.mdTiny hP rfl hp0 hlf hbody hnz hao (Nat.not_lt.mpr hle)⟩

structure MdExit (n : Nat) (s' : St) (io' : Io) : Prop where
  inv : MdInv n s' io' ∨ MdDone s' io'
  brk : (s'.pending.length ≠ 0 ∧ io'.availOut = 0) ∨ (s'.pending.length = 0 ∧ s'.remainingMetadata = u32Max)

theorem mdLoop_run {o : Oracle} {n fuel : Nat} {s s' : St} {io io' : Io} {r : Bool} (hP : MdInv n s io)
    (h : processMetadataLoop o fuel s io = .ok (s', io', r)) :
    r = true ∧ (∃ evs, Steps o 3 (s, io) evs (s', io')) ∧ MdExit n s' io' := by
  let P : St → Io → Prop := fun t tio => MdInv n t tio ∧ ∃ evs, Steps o 3 (s, io) evs (t, tio)
  have hstep : ∀ t tio t' tio', P t tio → processMetadataStep o t tio = .ok (t', tio', .cont) → P t' tio' := by
    intro t tio t' tio' ⟨hM, evs, hevs⟩ hs
    refine ⟨(mdStep_spec hM hs).2.resolve_right (fun hh => by cases hh.1), ?_⟩
    rcases mdStep_steps hM hs with ⟨e, he⟩ | ⟨hc, _⟩
    · exact ⟨evs ++ [e], hevs.append (.one he)⟩
    · cases hc
  obtain ⟨s1, io1, ⟨hM1, evs, hevs⟩, hlast⟩ := mdLoop_induct P hstep fuel s io s' io' r ⟨hP, [], .nil _⟩ h
  obtain ⟨hnf, hres⟩ := mdStep_spec hM1 hlast
  obtain rfl : r = true := by cases r <;> first | rfl | exact absurd rfl hnf
  refine ⟨rfl, ?_, hres.imp_right (·.2), mdStep_brk hlast⟩
  rcases mdStep_steps hM1 hlast with ⟨e, he⟩ | ⟨_, rfl, rfl⟩
  · exact ⟨evs ++ [e], hevs.append (.one he)⟩
  · exact ⟨evs, hevs⟩

theorem mdLoop_steps {o : Oracle} {n : Nat} :
    ∀ fuel s io s' io' r, MdInv n s io → processMetadataLoop o fuel s io = .ok (s', io', r) →
      ∃ evs, Steps o 3 (s, io) evs (s', io') :=
  fun _ _ _ _ _ _ hP h => (mdLoop_run hP h).2.1

end BV.Stream
