/-
C14, the literals: `InputPair::split_at` keeps the frozen literal offsets equal to the position inside the meta-block slice
(`Rep`), so the literal commands of a run — cut at literal block-type switches and at the ring-buffer wrap — replay to exactly
the bytes consumed, for EVERY block-split description (also inconsistent ones, as long as the model does not panic).
-/
import BV.Model.Recoder
import BV.Lemmas.ListNat

namespace BV.Recoder

structure Queue.Ok (q : Queue) : Prop where
  cap_pos : 0 < q.cap
  le : q.items.length ≤ q.cap
  not_over : q.overfull = false

theorem Queue.new_ok (n : Nat) : (Queue.new n).Ok :=
  ⟨by show 0 < n * 17 / 16 + 4; omega, by show ([] : List IR).length ≤ n * 17 / 16 + 4; simp, rfl⟩

theorem Queue.push_ok (q : Queue) (v : IR) (h : q.Ok) :
    (q.push v).Ok ∧ (q.push v).items = q.items ++ [v] := by
  have h1 := h.cap_pos
  have h2 := h.le
  unfold Queue.push
  by_cases hfull : q.items.length = q.cap
  · simp only [hfull, if_true]
    rw [if_pos (by omega)]
    exact ⟨⟨by show 0 < q.cap * 2; omega, by show (q.items ++ [v]).length ≤ q.cap * 2; simp; omega, h.not_over⟩, rfl⟩
  · simp only [hfull, if_false]
    rw [if_pos hfull]
    exact ⟨⟨h1, by show (q.items ++ [v]).length ≤ q.cap; simp; omega, h.not_over⟩, rfl⟩

theorem Queue.pushAll_lossless (vs : List IR) : ∀ (q : Queue), q.Ok →
    (q.pushAll vs).Ok ∧ (q.pushAll vs).items = q.items ++ vs := by
  induction vs with
  | nil => intro q h; exact ⟨h, by simp [Queue.pushAll]⟩
  | cons v vs ih =>
    intro q h
    obtain ⟨h1, h2⟩ := Queue.push_ok q v h
    obtain ⟨h3, h4⟩ := ih (q.push v) h1
    refine ⟨by simpa [Queue.pushAll] using h3, ?_⟩
    show (List.foldl Queue.push (q.push v) vs).items = _
    have : (Queue.pushAll (q.push v) vs).items = (q.push v).items ++ vs := h4
    unfold Queue.pushAll at this
    rw [this, h2]
    simp

theorem replayIR_append (w : WordOracle) (window : Nat) (mb : Bytes) :
    ∀ (xs ys : List IR) (out : Bytes),
      replayIR w window mb (xs ++ ys) out =
        match replayIR w window mb xs out with
        | some o => replayIR w window mb ys o
        | none => none := by
  intro xs
  induction xs with
  | nil => intro ys out; rfl
  | cons x xs ih =>
    intro ys out
    cases x with
    | lit off len he =>
      simp only [List.cons_append, replayIR]
      split
      · exact ih ys _
      · rfl
    | copy dist n =>
      simp only [List.cons_append, replayIR]
      split
      · exact ih ys _
      · rfl
    | dict ws tr fs id =>
      simp only [List.cons_append, replayIR]
      split
      · split
        · exact ih ys _
        · rfl
      · rfl
    | bsl t => simp only [List.cons_append, replayIR]; exact ih ys _
    | bsc t => simp only [List.cons_append, replayIR]; exact ih ys _
    | bsd t => simp only [List.cons_append, replayIR]; exact ih ys _

theorem replayIR_append_some (w : WordOracle) (window : Nat) (mb : Bytes) (xs ys : List IR) (out o : Bytes)
    (h : replayIR w window mb xs out = some o) :
    replayIR w window mb (xs ++ ys) out = replayIR w window mb ys o := by
  rw [replayIR_append, h]

structure Rep (mb : Bytes) (p : Pair) (c : Nat) : Prop where
  bytes : p.bytes = (mb.drop c).take p.len
  bound : c + p.len ≤ mb.length
  offA : p.a.data ≠ [] → p.a.off = c
  offB : p.b.data ≠ [] → p.b.off = c + p.a.data.length

theorem mkPair_rep (i0 i1 : Bytes) : Rep (i0 ++ i1) (mkPair i0 i1) 0 := by
  refine ⟨?_, ?_, fun _ => rfl, fun _ => by simp [mkPair]⟩
  · simp only [Pair.bytes, Pair.len, mkPair, List.drop_zero]
    rw [List.take_of_length_le (by simp)]
  · simp [Pair.len, mkPair]

theorem Pair.splitAt_len (p : Pair) (loc : Nat) :
    (p.splitAt loc).1.len = min loc p.len ∧ (p.splitAt loc).2.len = p.len - loc := by
  unfold Pair.splitAt Pair.len
  split <;> simp only [List.length_take, List.length_drop, List.length_nil] <;> omega

theorem Pair.splitAt_bytes (p : Pair) (loc : Nat) :
    (p.splitAt loc).1.bytes = p.bytes.take loc ∧ (p.splitAt loc).2.bytes = p.bytes.drop loc := by
  unfold Pair.splitAt Pair.bytes
  split
  · rename_i h
    simp only [List.nil_append]
    constructor
    · rw [List.take_append, List.take_of_length_le h, ← List.take_eq_take_min]
    · rw [List.drop_append, List.drop_eq_nil_of_le h, List.nil_append, Nat.min_def]
      split
      · rfl
      · rw [List.drop_length, List.drop_eq_nil_of_le (by omega)]
  · rename_i h
    simp only [List.append_nil]
    constructor
    · rw [List.take_append, show loc - p.a.data.length = 0 by omega]; simp
    · rw [List.drop_append, show loc - p.a.data.length = 0 by omega]; simp

theorem Rep.splitAt {mb : Bytes} {p : Pair} {c : Nat} (h : Rep mb p c) (loc : Nat) (hl : loc ≤ p.len) :
    Rep mb (p.splitAt loc).1 c ∧ Rep mb (p.splitAt loc).2 (c + loc) ∧
      (p.splitAt loc).1.len = loc ∧ (p.splitAt loc).2.len + loc = p.len := by
  obtain ⟨l1, l2⟩ := p.splitAt_len loc
  obtain ⟨b1, b2⟩ := p.splitAt_bytes loc
  have hb := h.bytes
  have hbound := h.bound
  refine ⟨⟨?_, by rw [l1]; omega, ?_, ?_⟩, ⟨?_, by rw [l2]; omega, ?_, ?_⟩, by omega, by omega⟩
  · rw [b1, l1, hb, List.take_take, Nat.min_eq_left hl]
  · unfold Pair.splitAt; split
    · exact h.offA
    · intro _; exact h.offA (by intro hnil; rename_i hh; rw [hnil] at hh; simp at hh)
  · unfold Pair.splitAt; split
    · intro hne
      simp only at hne ⊢
      exact h.offB (by intro hnil; rw [hnil] at hne; simp at hne)
    · intro hne; simp at hne
  · rw [b2, l2, hb, List.drop_take, List.drop_drop]
  · unfold Pair.splitAt; split
    · intro hne; simp at hne
    · intro _
      simp only
      rw [h.offA (by intro hnil; rename_i hh; rw [hnil] at hh; simp at hh)]
  · unfold Pair.splitAt; split
    · rename_i hge
      intro hne
      simp only at hne ⊢
      have hlen : p.len = p.a.data.length + p.b.data.length := rfl
      have hk : loc - p.a.data.length ≤ p.b.data.length := by omega
      have hbne : p.b.data ≠ [] := by intro hnil; rw [hnil] at hne; simp at hne
      rw [h.offB hbne]
      simp
      omega
    · rename_i hlt
      intro hne
      simp only at hne ⊢
      rw [h.offB hne]
      simp
      omega

theorem Rep.a_eq {mb : Bytes} {p : Pair} {c : Nat} (h : Rep mb p c) :
    p.a.data = (mb.drop c).take p.a.data.length := by
  have hb := h.bytes
  have hlen : p.len = p.a.data.length + p.b.data.length := rfl
  have := congrArg (List.take p.a.data.length) hb
  rw [Pair.bytes, List.take_left, List.take_take, Nat.min_eq_left (by omega)] at this
  exact this

theorem Rep.b_eq {mb : Bytes} {p : Pair} {c : Nat} (h : Rep mb p c) :
    p.b.data = (mb.drop (c + p.a.data.length)).take p.b.data.length := by
  have hb := h.bytes
  have hlen : p.len = p.a.data.length + p.b.data.length := rfl
  have := congrArg (List.drop p.a.data.length) hb
  rw [Pair.bytes, List.drop_left, List.drop_take, List.drop_drop, hlen, Nat.add_sub_cancel_left] at this
  exact this

theorem pushHalf_replay (w : WordOracle) (window : Nat) (mb : Bytes) (he : Bool) (r : Ref) (c : Nat)
    (hd : r.data = (mb.drop c).take r.data.length) (hoff : r.data ≠ [] → r.off = c)
    (hb : c + r.data.length ≤ mb.length) (h32 : mb.length < 2 ^ 32) (rest : List IR) (out : Bytes) :
    replayIR w window mb ((if r.data.length ≠ 0 then [IR.lit r.off (r.data.length % 2 ^ 32) he] else []) ++ rest) out =
      replayIR w window mb rest (out ++ r.data) := by
  by_cases h0 : r.data.length = 0
  · rw [if_neg (fun h => h h0), List.length_eq_zero_iff.mp h0, List.append_nil]; rfl
  · rw [if_pos h0, hoff (fun h => h0 (h ▸ rfl))]
    simp only [List.cons_append, List.nil_append, replayIR]
    rw [Nat.mod_eq_of_lt (by omega), if_pos hb, ← hd]

def Emits (w : WordOracle) (window : Nat) (mb : Bytes) (xs : List IR) (bs : Bytes) : Prop :=
  ∀ out, replayIR w window mb xs out = some (out ++ bs)

theorem Emits.nil (w : WordOracle) (window : Nat) (mb : Bytes) : Emits w window mb [] [] := by
  intro out; simp [replayIR]

theorem Emits.append {w : WordOracle} {window : Nat} {mb : Bytes} {xs ys : List IR} {a b : Bytes}
    (h1 : Emits w window mb xs a) (h2 : Emits w window mb ys b) : Emits w window mb (xs ++ ys) (a ++ b) := by
  intro out
  rw [replayIR_append_some w window mb xs ys out _ (h1 out), h2, List.append_assoc]

theorem Emits.bsl (w : WordOracle) (window : Nat) (mb : Bytes) (t : Nat) : Emits w window mb [IR.bsl t] [] := by
  intro out; simp [replayIR]
theorem Emits.bsc (w : WordOracle) (window : Nat) (mb : Bytes) (t : Nat) : Emits w window mb [IR.bsc t] [] := by
  intro out; simp [replayIR]
theorem Emits.bsd (w : WordOracle) (window : Nat) (mb : Bytes) (t : Nat) : Emits w window mb [IR.bsd t] [] := by
  intro out; simp [replayIR]

theorem Emits.pushLiterals (w : WordOracle) (window : Nat) (mb : Bytes) (he : Bool) (p : Pair) (c : Nat)
    (h : Rep mb p c) (h32 : mb.length < 2 ^ 32) : Emits w window mb (pushLiterals he p) p.bytes := by
  intro out
  have hbound := h.bound
  have hlen : p.len = p.a.data.length + p.b.data.length := rfl
  unfold Recoder.pushLiterals
  rw [pushHalf_replay w window mb he p.a c h.a_eq h.offA (by omega) h32,
    ← List.append_nil (if p.b.data.length ≠ 0 then _ else _),
    pushHalf_replay w window mb he p.b _ h.b_eq h.offB (by omega) h32, List.append_assoc]
  rfl

theorem pushLiterals_nil (he : Bool) (p : Pair) (h : p.len = 0) : pushLiterals he p = [] := by
  unfold Pair.len at h
  unfold pushLiterals
  have h1 : p.a.data.length = 0 := by omega
  have h2 : p.b.data.length = 0 := by omega
  simp [h1, h2]

theorem Pair.bytes_len (p : Pair) : p.bytes.length = p.len := by
  simp [Pair.bytes, Pair.len]

theorem litLoop_spec (w : WordOracle) (window : Nat) (mb : Bytes) (he : Bool) (bt : Split) (h32 : mb.length < 2 ^ 32) :
    ∀ (fuel : Nat) (tmp : Pair) (sub counter mbLen : Nat) (acc : List IR) (c : Nat)
      (tmp' : Pair) (sub' counter' mbLen' : Nat) (acc' : List IR),
      Rep mb tmp c →
      litLoop he bt fuel tmp sub counter mbLen acc = some (tmp', sub', counter', mbLen', acc') →
      ∃ lits k, acc' = acc ++ lits ∧ Rep mb tmp' (c + k) ∧ k + tmp'.len = tmp.len ∧ mbLen' + k = mbLen ∧
        tmp'.len ≤ sub' ∧ Emits w window mb lits ((mb.drop c).take k) := by
  intro fuel
  induction fuel with
  | zero => intro tmp sub counter mbLen acc c tmp' sub' counter' mbLen' acc' _ h; simp [litLoop] at h
  | succ fuel ih =>
    intro tmp sub counter mbLen acc c tmp' sub' counter' mbLen' acc' hrep h
    unfold litLoop at h
    by_cases hgt : tmp.len > sub
    · rw [if_pos hgt] at h
      simp only at h
      obtain ⟨rA, rB, lA', lB⟩ := hrep.splitAt sub (by omega)
      by_cases hmb : mbLen < (tmp.splitAt sub).1.len
      · rw [if_pos hmb] at h; cases h
      · rw [if_neg hmb] at h
        have hA : ∃ litsA, (if (tmp.splitAt sub).1.len ≠ 0 then acc ++ pushLiterals he (tmp.splitAt sub).1 else acc) = acc ++ litsA ∧
            Emits w window mb litsA ((mb.drop c).take sub) := by
          by_cases hz : (tmp.splitAt sub).1.len ≠ 0
          · rw [if_pos hz]
            refine ⟨_, rfl, ?_⟩
            have := Emits.pushLiterals w window mb he _ c rA h32
            rw [rA.bytes, lA'] at this
            exact this
          · rw [if_neg hz]
            refine ⟨[], by simp, ?_⟩
            have : sub = 0 := by omega
            rw [this]; simpa using Emits.nil w window mb
        obtain ⟨litsA, eA, emA⟩ := hA
        rw [eA] at h
        split at h
        · split at h
          · rename_i l t _ _
            obtain ⟨lits, k, e1, r1, k1, m1, s1, em1⟩ := ih _ _ _ _ _ (c + sub) _ _ _ _ _ rB h
            refine ⟨litsA ++ [IR.bsl t] ++ lits, sub + k, by rw [e1]; simp, by rw [← Nat.add_assoc]; exact r1, by omega,
              by omega, s1, ?_⟩
            have := (emA.append (Emits.bsl w window mb t)).append em1
            rw [List.append_nil, take_drop_add] at this
            exact this
          · cases h
        · obtain ⟨lits, k, e1, r1, k1, m1, s1, em1⟩ := ih _ _ _ _ _ (c + sub) _ _ _ _ _ rB h
          refine ⟨litsA ++ lits, sub + k, by rw [e1]; simp, by rw [← Nat.add_assoc]; exact r1, by omega, by omega, s1, ?_⟩
          have := emA.append em1
          rw [take_drop_add] at this
          exact this
    · rw [if_neg hgt] at h
      cases h
      exact ⟨[], 0, by simp, by simpa using hrep, by omega, by omega, by omega, by simpa using Emits.nil w window mb⟩

theorem litPart_spec (w : WordOracle) (window : Nat) (mb : Bytes) (h32 : mb.length < 2 ^ 32)
    (e : Env) (s : St) (inserts : Pair) (c : Nat) (lsub lc mbLen' : Nat) (out' : List IR)
    (hrep : Rep mb inserts c) (h : litPart e s inserts = some (lsub, lc, mbLen', out')) :
    ∃ lits, out' = s.out ++ lits ∧ mbLen' + inserts.len = s.mbLen ∧ Emits w window mb lits inserts.bytes := by
  unfold litPart at h
  by_cases hz : inserts.len ≠ 0
  · rw [if_pos hz] at h
    cases hl : litLoop e.he e.btl (inserts.len + e.btl.types.length + 2) inserts s.lsub s.lc s.mbLen s.out with
    | none => rw [hl] at h; cases h
    | some r =>
      obtain ⟨tmp, sub, counter, mbLen, out⟩ := r
      rw [hl] at h
      simp only at h
      obtain ⟨lits, k, e1, r1, k1, m1, s1, em1⟩ := litLoop_spec w window mb e.he e.btl h32 _ _ _ _ _ _ c _ _ _ _ _ hrep hl
      have emT := Emits.pushLiterals w window mb e.he tmp (c + k) r1 h32
      have hbytes : (mb.drop c).take k ++ tmp.bytes = inserts.bytes := by
        rw [r1.bytes, hrep.bytes, take_drop_add, k1]
      have hem := hbytes ▸ em1.append emT
      by_cases htz : tmp.len ≠ 0
      · rw [if_pos htz] at h
        by_cases hbad : mbLen < tmp.len ∨ sub < tmp.len % 2 ^ 32
        · rw [if_pos hbad] at h; cases h
        · rw [if_neg hbad] at h
          cases h
          exact ⟨lits ++ pushLiterals e.he tmp, by rw [e1]; simp, by omega, hem⟩
      · rw [if_neg htz] at h
        cases h
        exact ⟨lits ++ pushLiterals e.he tmp, by rw [e1]; simp, by omega, hem⟩
  · rw [if_neg hz] at h
    cases h
    have hb : inserts.bytes = [] := by
      have : inserts.bytes.length = 0 := by rw [inserts.bytes_len]; omega
      exact List.length_eq_zero_iff.mp this
    exact ⟨[], by simp, by omega, by rw [hb]; exact Emits.nil w window mb⟩

/-- the fuel `litPart` passes is enough: `none` is always a real panic site of the Rust loop, never a lack of fuel -/
theorem litLoop_fuel_succ (he : Bool) (bt : Split) :
    ∀ (fuel : Nat) (tmp : Pair) (sub counter mbLen : Nat) (acc : List IR),
      tmp.len ≤ 2 ^ 31 → fuel ≥ tmp.len + (bt.types.length - counter) + 1 →
      litLoop he bt (fuel + 1) tmp sub counter mbLen acc = litLoop he bt fuel tmp sub counter mbLen acc := by
  intro fuel
  induction fuel with
  | zero => intro tmp sub counter mbLen acc _ h; omega
  | succ f ih =>
    intro tmp sub counter mbLen acc h31 hf
    rw [litLoop, litLoop]
    by_cases hgt : tmp.len > sub
    · rw [if_pos hgt, if_pos hgt]
      simp only
      obtain ⟨lA, lB⟩ := tmp.splitAt_len sub
      by_cases hmb : mbLen < (tmp.splitAt sub).1.len
      · rw [if_pos hmb, if_pos hmb]
      · rw [if_neg hmb, if_neg hmb]
        by_cases hty : bt.types.length > counter + 1
        · rw [if_pos hty, if_pos hty]
          cases bt.lengths[counter + 1]? with
          | none => rfl
          | some l =>
            cases bt.types[counter + 1]? with
            | none => rfl
            | some t =>
              simp only
              apply ih
              · rw [lB]; omega
              · rw [lB]; omega
        · rw [if_neg hty, if_neg hty]
          -- the next iteration exits at once: remaining length ≤ 2^31
          have hle : ¬ ((tmp.splitAt sub).2.len > 2 ^ 31) := by rw [lB]; omega
          obtain ⟨g, rfl⟩ : ∃ g, f = g + 1 := ⟨f - 1, by omega⟩
          rw [litLoop, litLoop, if_neg hle, if_neg hle]
    · rw [if_neg hgt, if_neg hgt]

theorem litLoop_fuel_enough (he : Bool) (bt : Split) (k fuel : Nat) (tmp : Pair) (sub counter mbLen : Nat) (acc : List IR)
    (h31 : tmp.len ≤ 2 ^ 31) (hf : fuel ≥ tmp.len + (bt.types.length - counter) + 1) :
    litLoop he bt (fuel + k) tmp sub counter mbLen acc = litLoop he bt fuel tmp sub counter mbLen acc := by
  induction k with
  | zero => rfl
  | succ k ih =>
    rw [← Nat.add_assoc, litLoop_fuel_succ he bt (fuel + k) tmp sub counter mbLen acc h31 (by omega), ih]

end BV.Recoder
