/-
Serialisation round trip of the concatenator state (`serialize_to_buffer` /
`deserialize_from_buffer`, and the 120-byte `BroccoliState` of the C ABI).
-/
import BV.Lemmas.ConcatBasic
namespace BV.Concat
open Outcome BV.Gen

theorem exists21 (l : List Nat) (h : 21 ≤ l.length) :
    ∃ a0 a1 a2 a3 a4 a5 a6 a7 a8 a9 a10 a11 a12 a13 a14 a15 a16 a17 a18 a19 a20 tl,
      l = a0 :: a1 :: a2 :: a3 :: a4 :: a5 :: a6 :: a7 :: a8 :: a9 :: a10 :: a11 :: a12 :: a13 :: a14 :: a15 ::
          a16 :: a17 :: a18 :: a19 :: a20 :: tl := by
  obtain ⟨a0, t0, rfl, h0⟩ := exists_cons l 20 h
  obtain ⟨a1, t1, rfl, h1⟩ := exists_cons t0 19 h0
  obtain ⟨a2, t2, rfl, h2⟩ := exists_cons t1 18 h1
  obtain ⟨a3, t3, rfl, h3⟩ := exists_cons t2 17 h2
  obtain ⟨a4, t4, rfl, h4⟩ := exists_cons t3 16 h3
  obtain ⟨a5, t5, rfl, h5⟩ := exists_cons t4 15 h4
  obtain ⟨a6, t6, rfl, h6⟩ := exists_cons t5 14 h5
  obtain ⟨a7, t7, rfl, h7⟩ := exists_cons t6 13 h6
  obtain ⟨a8, t8, rfl, h8⟩ := exists_cons t7 12 h7
  obtain ⟨a9, t9, rfl, h9⟩ := exists_cons t8 11 h8
  obtain ⟨a10, t10, rfl, h10⟩ := exists_cons t9 10 h9
  obtain ⟨a11, t11, rfl, h11⟩ := exists_cons t10 9 h10
  obtain ⟨a12, t12, rfl, h12⟩ := exists_cons t11 8 h11
  obtain ⟨a13, t13, rfl, h13⟩ := exists_cons t12 7 h12
  obtain ⟨a14, t14, rfl, h14⟩ := exists_cons t13 6 h13
  obtain ⟨a15, t15, rfl, h15⟩ := exists_cons t14 5 h14
  obtain ⟨a16, t16, rfl, h16⟩ := exists_cons t15 4 h15
  obtain ⟨a17, t17, rfl, h17⟩ := exists_cons t16 3 h16
  obtain ⟨a18, t18, rfl, h18⟩ := exists_cons t17 2 h17
  obtain ⟨a19, t19, rfl, h19⟩ := exists_cons t18 1 h18
  obtain ⟨a20, t20, rfl, h20⟩ := exists_cons t19 0 h19
  exact ⟨a0, a1, a2, a3, a4, a5, a6, a7, a8, a9, a10, a11, a12, a13, a14, a15, a16, a17, a18, a19, a20, t20, rfl⟩

theorem flags_decode (a b c d : Bool) :
    (decide ((if d then b2n a ||| (b2n b <<< 6) ||| (b2n c <<< 5) ||| (1 <<< 7) else b2n a ||| (b2n b <<< 6) ||| (b2n c <<< 5)) &&& 1 ≠ 0) = a) ∧
    (decide ((if d then b2n a ||| (b2n b <<< 6) ||| (b2n c <<< 5) ||| (1 <<< 7) else b2n a ||| (b2n b <<< 6) ||| (b2n c <<< 5)) &&& (1 <<< 6) ≠ 0) = b) ∧
    (decide ((if d then b2n a ||| (b2n b <<< 6) ||| (b2n c <<< 5) ||| (1 <<< 7) else b2n a ||| (b2n b <<< 6) ||| (b2n c <<< 5)) &&& (1 <<< 5) ≠ 0) = c) ∧
    (decide ((if d then b2n a ||| (b2n b <<< 6) ||| (b2n c <<< 5) ||| (1 <<< 7) else b2n a ||| (b2n b <<< 6) ||| (b2n c <<< 5)) &&& (1 <<< 7) ≠ 0) = d) := by
  cases a <;> cases b <;> cases c <;> cases d <;> decide

/-- the flag byte written by `serialize_to_buffer` -/
def flagByte (s : State) : Nat :=
  let f := b2n s.last_byte_sanitized ||| (b2n s.new_stream_pending.isSome <<< 6) ||| (b2n s.any_bytes_emitted <<< 5)
  match s.new_stream_pending with
  | some d => if d.num_bytes_written.isSome then f ||| (1 <<< 7) else f
  | none => f

theorem flagByte_decode (s : State) :
    decide (flagByte s &&& 1 ≠ 0) = s.last_byte_sanitized ∧
    decide (flagByte s &&& (1 <<< 6) ≠ 0) = s.new_stream_pending.isSome ∧
    decide (flagByte s &&& (1 <<< 5) ≠ 0) = s.any_bytes_emitted ∧
    decide (flagByte s &&& (1 <<< 7) ≠ 0) =
      (match s.new_stream_pending with
       | some d => d.num_bytes_written.isSome
       | none => false) := by
  unfold flagByte
  cases s.new_stream_pending with
  | none => exact flags_decode s.last_byte_sanitized false s.any_bytes_emitted false
  | some d => exact flags_decode s.last_byte_sanitized true s.any_bytes_emitted d.num_bytes_written.isSome

def serialized (s : State) (a2 a3 a4 a5 a6 a7 a12 a13 a14 a15 a16 a17 a18 a19 a20 : Nat) (tl : List Nat) : List Nat :=
  match s.new_stream_pending with
  | none => s.last_bytes.1 :: s.last_bytes.2 :: a2 :: a3 :: a4 :: a5 :: a6 :: a7 :: s.last_bytes_len :: flagByte s ::
      s.last_byte_bit_offset :: s.window_size :: a12 :: a13 :: a14 :: a15 :: a16 :: a17 :: a18 :: a19 :: a20 :: tl
  | some d => s.last_bytes.1 :: s.last_bytes.2 :: a2 :: a3 :: a4 :: a5 :: a6 :: a7 :: s.last_bytes_len :: flagByte s ::
      s.last_byte_bit_offset :: s.window_size :: d.num_bytes_read :: d.num_bytes_written.getD 0 :: a14 :: a15 ::
      d.bytes_so_far.b0 :: d.bytes_so_far.b1 :: d.bytes_so_far.b2 :: d.bytes_so_far.b3 :: d.bytes_so_far.b4 :: tl

theorem serialize_explicit (s : State) (a0 a1 a2 a3 a4 a5 a6 a7 a8 a9 a10 a11 a12 a13 a14 a15 a16 a17 a18 a19 a20 : Nat)
    (tl : List Nat) :
    serializeToBuffer s (a0 :: a1 :: a2 :: a3 :: a4 :: a5 :: a6 :: a7 :: a8 :: a9 :: a10 :: a11 :: a12 :: a13 :: a14 ::
      a15 :: a16 :: a17 :: a18 :: a19 :: a20 :: tl)
      = ok (some (serialized s a2 a3 a4 a5 a6 a7 a12 a13 a14 a15 a16 a17 a18 a19 a20 tl)) := by
  unfold serializeToBuffer
  rw [if_neg (by simp [hdr5]), if_neg (by simp)]
  obtain ⟨⟨l0, l1⟩, len, san, any, off, ws, pend⟩ := s
  cases pend with
  | none => simp [setB, setAt, serialized, flagByte]
  | some d =>
    obtain ⟨⟨b0, b1, b2, b3, b4⟩, rd, wr⟩ := d
    cases wr with
    | none => simp [setB, setAt, serialized, flagByte, hdr5, B5.toList]
    | some w => simp [setB, setAt, serialized, flagByte, hdr5, B5.toList]

theorem deserialize_cons (l0 l1 a2 a3 a4 a5 a6 a7 len fl off ws rd wr a14 a15 c0 c1 c2 c3 c4 : Nat) (tl : List Nat) :
    deserializeFromBuffer (l0 :: l1 :: a2 :: a3 :: a4 :: a5 :: a6 :: a7 :: len :: fl :: off :: ws :: rd :: wr ::
      a14 :: a15 :: c0 :: c1 :: c2 :: c3 :: c4 :: tl)
      = ok (some { last_bytes := (l0, l1), last_bytes_len := len,
                   last_byte_sanitized := decide (fl &&& 1 ≠ 0),
                   last_byte_bit_offset := off,
                   any_bytes_emitted := decide (fl &&& (1 <<< 5) ≠ 0),
                   window_size := ws,
                   new_stream_pending :=
                     if fl &&& (1 <<< 6) ≠ 0 then
                       some ⟨⟨c0, c1, c2, c3, c4⟩, rd, if fl &&& (1 <<< 7) ≠ 0 then some wr else none⟩
                     else none }) := by
  unfold deserializeFromBuffer
  rw [if_neg (by simp [hdr5])]
  by_cases h7 : fl &&& 128 = 0
  · simp +arith [idx, hdr5, B5.ofList?, h7]
  · simp +arith [idx, hdr5, B5.ofList?, h7]

theorem deserialize_explicit (s : State) (a2 a3 a4 a5 a6 a7 a12 a13 a14 a15 a16 a17 a18 a19 a20 : Nat) (tl : List Nat) :
    deserializeFromBuffer (serialized s a2 a3 a4 a5 a6 a7 a12 a13 a14 a15 a16 a17 a18 a19 a20 tl) = ok (some s) := by
  obtain ⟨f1, f2, f3, f4⟩ := flagByte_decode s
  obtain ⟨⟨l0, l1⟩, len, san, any, off, ws, pend⟩ := s
  cases pend with
  | none =>
    simp only [serialized, deserialize_cons]
    rw [f1, f3, if_neg (of_decide_eq_false f2)]
  | some d =>
    obtain ⟨⟨b0, b1, b2, b3, b4⟩, rd, wr⟩ := d
    simp only [serialized, deserialize_cons]
    rw [f1, f3, if_pos (of_decide_eq_true f2)]
    cases wr with
    | none => rw [if_neg (of_decide_eq_false f4)]
    | some w => rw [if_pos (of_decide_eq_true f4)]; rfl

theorem deserialize_serialize (s : State) (buf : List Nat) (h : 21 ≤ buf.length) :
    ∃ buf', serializeToBuffer s buf = ok (some buf') ∧ buf'.length = buf.length ∧
      deserializeFromBuffer buf' = ok (some s) := by
  obtain ⟨a0, a1, a2, a3, a4, a5, a6, a7, a8, a9, a10, a11, a12, a13, a14, a15, a16, a17, a18, a19, a20, tl, rfl⟩ :=
    exists21 buf h
  refine ⟨_, serialize_explicit s _ _ _ _ _ _ _ _ _ _ _ _ _ _ _ _ _ _ _ _ _ _, ?_, deserialize_explicit s _ _ _ _ _ _ _ _ _ _ _ _ _ _ _ _⟩
  unfold serialized; cases s.new_stream_pending <;> simp +arith

theorem saveRestore_id (s : State) : saveRestore s = ok s := by
  obtain ⟨buf', h1, _, h3⟩ := deserialize_serialize s zeroBuf120 (by decide)
  simp [saveRestore, toBroccoli, fromBroccoli, h1, h3]

theorem toBroccoli_ok (s : State) : ∃ cur, toBroccoli s = ok cur ∧ fromBroccoli cur = ok s ∧ cur.length = 120 := by
  obtain ⟨buf', h1, h2, h3⟩ := deserialize_serialize s zeroBuf120 (by decide)
  refine ⟨buf', by simp [toBroccoli, h1], by simp [fromBroccoli, h3], ?_⟩
  rw [h2]; decide

end BV.Concat
