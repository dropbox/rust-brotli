/- The scripted wrapped streams and `write_all` of writer.rs; no encoder oracle involved. -/
import BV.Model.Adapters
namespace BV.Adapters

/-- what a LOG shows of a fault (`Beh.faultFree`, `Sink.faultFree` are what a SCRIPT promises).  `Ok(0)` is a fault only
of a write (kind 0) of a non-empty slice: for a read it is EOF, for a flush the normal answer. -/
def LogE.faulty (e : LogE) : Bool :=
  match e.res with
  | .err _ => true
  | .n 0 => e.kind == 0 && e.req != 0
  | _ => false

def Beh.faultFree : Beh → Bool
  | .full => true
  | .atMost k => k != 0
  | .intr => true
  | .err _ => false
  | .zero => false

def Tail.faultFree : Tail → Bool
  | .full => true
  | .atMost k => k != 0
  | .err _ => false
  | .zero => false

/-- a wrapped writer that may be slow (short writes, `Interrupted`) but never fails and never
answers `Ok(0)` -/
def Sink.faultFree (s : Sink) : Prop := (∀ b ∈ s.script, b.faultFree = true) ∧ s.tail.faultFree = true

theorem retryCall_spec (tail : Tail) (kind req avail : Nat) (script : List Beh) (log : List LogE) :
    ∃ (n : Nat) (r : Except Nat Nat),
      retryCall tail kind req avail script log =
        (script.drop (n + 1), ⟨kind, req, exceptToRes r⟩ :: (List.replicate n ⟨kind, req, .intr⟩ ++ log), r) ∧
      script.take n = List.replicate n .intr ∧
      (match script[n]? with
       | none => r = tailRes tail avail
       | some b => behRes b avail = exceptToRes r) := by
  induction script generalizing log with
  | nil => exact ⟨0, _, rfl, rfl, rfl⟩
  | cons b rest ih =>
    cases b with
    | intr =>
      obtain ⟨n, r, h1, h2, h3⟩ := ih (⟨kind, req, .intr⟩ :: log)
      refine ⟨n + 1, r, ?_, by rw [List.take_succ_cons, h2]; rfl, by simpa using h3⟩
      simp only [retryCall, behRes, h1, List.drop_succ_cons, List.replicate_succ', List.append_assoc,
        List.singleton_append]
    | full => exact ⟨0, .ok avail, rfl, rfl, rfl⟩
    | atMost m => exact ⟨0, .ok (min avail m), rfl, rfl, rfl⟩
    | err c => exact ⟨0, .error c, rfl, rfl, rfl⟩
    | zero => exact ⟨0, .ok 0, rfl, rfl, rfl⟩

theorem retryCall_le (tail : Tail) (kind req avail : Nat) (script : List Beh) (log : List LogE) :
    ∀ k, (retryCall tail kind req avail script log).2.2 = .ok k → k ≤ avail := by
  obtain ⟨n, r, h1, _, h3⟩ := retryCall_spec tail kind req avail script log
  rw [h1]
  rintro k rfl
  split at h3
  · cases tail <;> simp [tailRes] at h3 <;> omega
  · next b _ => cases b <;> simp [behRes, exceptToRes] at h3 <;> omega

theorem retryCall_log (tail : Tail) (kind req avail : Nat) (script : List Beh) (log : List LogE) :
    ∃ pre : List LogE,
      (retryCall tail kind req avail script log).2.1 =
        ⟨kind, req, exceptToRes (retryCall tail kind req avail script log).2.2⟩ :: (pre ++ log) ∧
      ∀ e ∈ pre, e = ⟨kind, req, .intr⟩ := by
  obtain ⟨n, r, h1, _⟩ := retryCall_spec tail kind req avail script log
  exact ⟨_, by rw [h1], fun e he => List.eq_of_mem_replicate he⟩

theorem retryCall_script (tail : Tail) (kind req avail : Nat) (script : List Beh) (log : List LogE) :
    ∃ used, script = used ++ (retryCall tail kind req avail script log).1 := by
  obtain ⟨n, r, h1, _⟩ := retryCall_spec tail kind req avail script log
  exact ⟨script.take (n + 1), by rw [h1, List.take_append_drop]⟩

theorem retryCall_faultFree (tail : Tail) (kind req avail : Nat) (script : List Beh) (log : List LogE)
    (hs : ∀ b ∈ script, b.faultFree = true) (ht : tail.faultFree = true) :
    ∃ k, (retryCall tail kind req avail script log).2.2 = .ok k ∧ (0 < avail → 0 < k) := by
  obtain ⟨n, r, h1, _, h3⟩ := retryCall_spec tail kind req avail script log
  rw [h1]
  split at h3
  · subst h3
    cases tail with
    | full => exact ⟨avail, rfl, id⟩
    | atMost m =>
      have : m ≠ 0 := by simpa [Tail.faultFree] using ht
      exact ⟨min avail m, rfl, by omega⟩
    | err c => simp [Tail.faultFree] at ht
    | zero => simp [Tail.faultFree] at ht
  · next b hb =>
    have hbf := hs b (List.mem_of_getElem? hb)
    obtain ⟨k, hk, hpos⟩ : ∃ k, exceptToRes r = .n k ∧ (0 < avail → 0 < k) := by
      cases b with
      | full => exact ⟨avail, h3.symm, id⟩
      | atMost m =>
        have : m ≠ 0 := by simpa [Beh.faultFree] using hbf
        exact ⟨min avail m, h3.symm, by omega⟩
      | intr => cases r <;> cases h3
      | err c => simp [Beh.faultFree] at hbf
      | zero => simp [Beh.faultFree] at hbf
    cases r with
    | ok k' => exact ⟨k', rfl, by cases hk; exact hpos⟩
    | error c => cases hk

structure Sink.Wrote (s s' : Sink) (data : Bytes) (r : Except Nat Nat) : Prop where
  tail : s'.tail = s.tail
  fscript : s'.fscript = s.fscript
  log : ∃ pre, s'.log = ⟨0, data.length, exceptToRes r⟩ :: (pre ++ s.log) ∧ ∀ e ∈ pre, e = ⟨0, data.length, .intr⟩
  got : match r with
    | .ok k => k ≤ data.length ∧ s'.got = s.got ++ data.take k
    | .error _ => s'.got = s.got

theorem Sink.write_cases (s s' : Sink) (data : Bytes) (r : Except Nat Nat) (h : s.write data = (s', r)) :
    Sink.Wrote s s' data r := by
  unfold Sink.write at h
  obtain ⟨pre, hp, hq⟩ := retryCall_log s.tail 0 data.length data.length s.script s.log
  have hle := retryCall_le s.tail 0 data.length data.length s.script s.log
  split at h
  · next sc lg k heq =>
    cases h
    simp only [heq] at hp
    exact ⟨rfl, rfl, ⟨pre, hp, hq⟩, ⟨hle k (by rw [heq]), rfl⟩⟩
  · next sc lg c heq =>
    cases h
    simp only [heq] at hp
    exact ⟨rfl, rfl, ⟨pre, hp, hq⟩, rfl⟩

theorem Sink.write_faultFree (s : Sink) (data : Bytes) (hf : s.faultFree) :
    (s.write data).1.faultFree := by
  obtain ⟨used, hu⟩ := retryCall_script s.tail 0 data.length data.length s.script s.log
  constructor
  · intro b hb
    apply hf.1
    have : (s.write data).1.script = (retryCall s.tail 0 data.length data.length s.script s.log).1 := by
      unfold Sink.write; split <;> simp_all
    rw [hu]; rw [this] at hb
    exact List.mem_append_right _ hb
  · rw [(Sink.write_cases s (s.write data).1 data (s.write data).2 rfl).tail]; exact hf.2

theorem Sink.write_faultFree_ok (s : Sink) (data : Bytes) (hf : s.faultFree) (hd : data ≠ []) :
    ∃ k, (s.write data).2 = .ok k ∧ 0 < k := by
  obtain ⟨k, hk, hk0⟩ := retryCall_faultFree s.tail 0 data.length data.length s.script s.log hf.1 hf.2
  refine ⟨k, ?_, hk0 (List.length_pos_iff.mpr hd)⟩
  unfold Sink.write
  split
  · next sc lg k' heq => simp [heq] at hk; simp [hk]
  · next sc lg c heq => simp [heq] at hk

theorem intr_not_faulty (kind req : Nat) : (LogE.faulty ⟨kind, req, .intr⟩) = false := rfl

theorem faulty_n_pos (kind req k : Nat) (hk : k ≠ 0) : LogE.faulty ⟨kind, req, .n k⟩ = false := by
  cases k with
  | zero => exact absurd rfl hk
  | succ n => rfl

def bytesOf : List LogE → Nat
  | [] => 0
  | e :: rest => (match e.res with | .n k => k | _ => 0) + bytesOf rest

def answered : List LogE → Nat
  | [] => 0
  | e :: rest => (match e.res with | .intr => 0 | _ => 1) + answered rest

theorem bytesOf_append (a b : List LogE) : bytesOf (a ++ b) = bytesOf a + bytesOf b := by
  induction a with
  | nil => simp [bytesOf]
  | cons e r ih => simp [bytesOf, ih]; omega

theorem answered_append (a b : List LogE) : answered (a ++ b) = answered a + answered b := by
  induction a with
  | nil => simp [answered]
  | cons e r ih => simp [answered, ih]; omega

theorem bytesOf_intr (pre : List LogE) (kind req : Nat) (h : ∀ e ∈ pre, e = ⟨kind, req, .intr⟩) :
    bytesOf pre = 0 ∧ answered pre = 0 := by
  induction pre with
  | nil => simp [bytesOf, answered]
  | cons e r ih =>
    have he := h e (List.mem_cons_self ..)
    have hr := ih (fun e' h' => h e' (List.mem_cons_of_mem _ h'))
    subst he
    simp [bytesOf, answered, hr.1, hr.2]

theorem sinkFlushGo_spec (fsc : List Beh) (log : List LogE) :
    ∃ pre, (sinkFlushGo fsc log).2.1 = pre ++ log ∧
      ((sinkFlushGo fsc log).2.2 = .ok () → ∀ e ∈ pre, e.faulty = false) := by
  induction fsc generalizing log with
  | nil => exact ⟨[⟨2, 0, .n 0⟩], rfl, fun _ e he => by cases List.mem_singleton.mp he; rfl⟩
  | cons b rest ih =>
    simp only [sinkFlushGo]
    cases flushRes b with
    | intr =>
      obtain ⟨pre, p1, p2⟩ := ih (⟨2, 0, .intr⟩ :: log)
      exact ⟨pre ++ [⟨2, 0, .intr⟩], by rw [p1, List.append_assoc]; rfl,
        fun hok => List.forall_mem_append.mpr ⟨p2 hok, List.forall_mem_singleton.mpr rfl⟩⟩
    | err c => exact ⟨[⟨2, 0, .err c⟩], rfl, fun h => by cases h⟩
    | n k => exact ⟨[⟨2, 0, .n 0⟩], rfl, fun _ e he => by cases List.mem_singleton.mp he; rfl⟩

theorem Sink.flush_spec (s : Sink) :
    ∃ pre, s.flush.1.log = pre ++ s.log ∧ (s.flush.2 = .ok () → ∀ e ∈ pre, e.faulty = false) :=
  sinkFlushGo_spec s.fscript s.log

structure Sink.Drained (s s' : Sink) (rest : Bytes) (new : List LogE) (p : Bytes) : Prop where
  log : s'.log = new ++ s.log
  got : s'.got = s.got ++ p
  isPrefix : p <+: rest
  tail : s'.tail = s.tail
  fscript : s'.fscript = s.fscript
  bytes : bytesOf new = p.length
  calls : answered new ≤ p.length + 1

theorem Sink.Wrote.drained {s s' : Sink} {rest : Bytes} {r : Except Nat Nat} (h : Sink.Wrote s s' rest r)
    (hr : r = .ok 0 ∨ ∃ c, r = .error c) :
    ∃ pre, Sink.Drained s s' rest (⟨0, rest.length, exceptToRes r⟩ :: pre) [] := by
  obtain ⟨pre, hl, hp⟩ := h.log
  have hz := bytesOf_intr pre _ _ hp
  have hg := h.got
  refine ⟨pre, hl, ?_, List.nil_prefix, h.tail, h.fscript, ?_, ?_⟩
  · rcases hr with rfl | ⟨c, rfl⟩
    · simpa using hg.2
    · simpa using hg
  · rcases hr with rfl | ⟨c, rfl⟩ <;> simp [bytesOf, exceptToRes, hz.1]
  · rcases hr with rfl | ⟨c, rfl⟩ <;> simp [answered, exceptToRes, hz.2]

theorem copyDrain_spec (s : Sink) (rest : Bytes) :
    ∃ (new : List LogE) (p : Bytes), Sink.Drained s (copyDrain s rest).1 rest new p ∧
      ((copyDrain s rest).2 = .ok () → p = rest ∧ ∀ e ∈ new, e.faulty = false) ∧
      (∀ de, (copyDrain s rest).2 = .error de → ∃ e ∈ new, e.faulty = true) := by
  fun_induction copyDrain s rest
  case case1 s => exact ⟨[], [], ⟨rfl, by simp, List.nil_prefix, rfl, rfl, rfl, Nat.zero_le _⟩, by simp, by simp⟩
  case case2 s rest hb s' c hx =>
    obtain ⟨pre, hD⟩ := (Sink.write_cases _ _ _ _ hx).drained (Or.inr ⟨c, rfl⟩)
    exact ⟨_, [], hD, by simp, fun de _ => ⟨_, List.mem_cons_self .., rfl⟩⟩
  case case3 s rest hb s' k hx hk ih =>
    have hW := Sink.write_cases _ _ _ _ hx
    obtain ⟨pre, hl, hp⟩ := hW.log
    obtain ⟨hle, hg⟩ := hW.got
    obtain ⟨new', p', i, iok, ierr⟩ := ih
    have hz := bytesOf_intr pre _ _ hp
    have hkpos : 0 < k := Nat.pos_of_ne_zero hk
    refine ⟨new' ++ ⟨0, rest.length, .n k⟩ :: pre, rest.take k ++ p', ⟨?_, ?_, ?_, by rw [i.tail, hW.tail],
      by rw [i.fscript, hW.fscript], ?_, ?_⟩, ?_, ?_⟩
    · rw [i.log, hl]; simp [exceptToRes]
    · rw [i.got, hg]; simp
    · have : rest = rest.take k ++ rest.drop k := (List.take_append_drop k rest).symm
      conv => rhs; rw [this]
      exact (List.prefix_append_right_inj _).mpr i.isPrefix
    · rw [bytesOf_append]; simp [bytesOf, hz.1, i.bytes, List.length_take]; omega
    · have := i.calls
      rw [answered_append]; simp [answered, hz.2, List.length_take]; omega
    · intro hok
      obtain ⟨hall, hclean⟩ := iok hok
      exact ⟨by rw [hall, List.take_append_drop], List.forall_mem_append.mpr
        ⟨hclean, List.forall_mem_cons.mpr ⟨faulty_n_pos _ _ _ hk, fun e h => by rw [hp e h]; rfl⟩⟩⟩
    · intro de hde
      obtain ⟨e, he, hf'⟩ := ierr de hde
      exact ⟨e, List.mem_append_left _ he, hf'⟩
  case case4 s rest hb s' k hx hk =>
    have hk0 : k = 0 := by simpa using hk
    subst hk0
    obtain ⟨pre, hD⟩ := (Sink.write_cases _ _ _ _ hx).drained (Or.inl rfl)
    have hpos : rest.length ≠ 0 := fun h0 => hb (List.eq_nil_of_length_eq_zero h0)
    exact ⟨_, [], hD, by simp, fun de _ => ⟨_, List.mem_cons_self .., by simp [LogE.faulty, exceptToRes, hpos]⟩⟩

theorem copyDrain_faultFree (s : Sink) (rest : Bytes) (hf : s.faultFree) :
    (copyDrain s rest).2 = .ok () ∧ (copyDrain s rest).1.got = s.got ++ rest ∧ (copyDrain s rest).1.faultFree := by
  fun_induction copyDrain s rest
  case case1 s => simp [hf]
  case case2 s rest hb s' c hx =>
    obtain ⟨k, hk, _⟩ := Sink.write_faultFree_ok s rest hf hb
    rw [hx] at hk; simp at hk
  case case3 s rest hb s' k hx hk ih =>
    have hf' : s'.faultFree := by have := Sink.write_faultFree s rest hf; rwa [hx] at this
    obtain ⟨i1, i2, i3⟩ := ih hf'
    obtain ⟨hle, hg⟩ := (Sink.write_cases _ _ _ _ hx).got
    refine ⟨i1, ?_, i3⟩
    rw [i2, hg, List.append_assoc, List.take_append_drop]
  case case4 s rest hb s' k hx hk =>
    obtain ⟨k', hk', hpos⟩ := Sink.write_faultFree_ok s rest hf hb
    rw [hx] at hk'; simp at hk'; omega

/-- `write_all` is `copyDrain` (`writeAll_eq_copyDrain`); only what becomes of a zero-length write differs, and depends on
the two stock error values `ez`, `ei` -/
def writeAllEnd (ez ei : Bool) : Except DrainErr Unit → Bool × Bool × Except Err Unit
  | .ok () => (ez, ei, .ok ())
  | .error (.inner c) => (ez, ei, .error (.inner c))
  | .error .zero =>
    if ez then (false, ei, .error .writeZero)
    else if ei then (false, false, .error .invalidData) else (false, false, .ok ())

theorem writeAll_eq_copyDrain (ez ei : Bool) (s : Sink) (buf : Bytes) :
    writeAll ez ei s buf =
      ((writeAllEnd ez ei (copyDrain s buf).2).1, (writeAllEnd ez ei (copyDrain s buf).2).2.1, (copyDrain s buf).1,
        (writeAllEnd ez ei (copyDrain s buf).2).2.2) := by
  fun_induction writeAll ez ei s buf
  case case1 s => rw [copyDrain, dif_pos rfl]; rfl
  case case2 s buf hb s' c hx => rw [copyDrain, dif_neg hb, hx]; rfl
  case case3 s buf hb s' k hx hk ih => rw [copyDrain, dif_neg hb, hx]; simp only [dif_pos hk]; exact ih
  case case4 s buf hb s' k hx hk hez => rw [copyDrain, dif_neg hb, hx]; simp only [dif_neg hk, writeAllEnd, hez, if_true]
  case case5 s buf hb s' k hx hk hez hei =>
    rw [copyDrain, dif_neg hb, hx]; simp only [dif_neg hk, writeAllEnd, hez, hei, if_true, if_false, Bool.false_eq_true]
  case case6 s buf hb s' k hx hk hez hei =>
    rw [copyDrain, dif_neg hb, hx]; simp only [dif_neg hk, writeAllEnd, hez, hei, if_false, Bool.false_eq_true]

theorem writeAll_spec (ez ei : Bool) (s : Sink) (buf : Bytes) :
    ∃ (new : List LogE) (p : Bytes), Sink.Drained s (writeAll ez ei s buf).2.2.1 buf new p ∧
      ((writeAll ez ei s buf).2.2.2 = .ok () → (ez = true ∨ ei = true) →
          p = buf ∧ (∀ e ∈ new, e.faulty = false) ∧
          (writeAll ez ei s buf).1 = ez ∧ (writeAll ez ei s buf).2.1 = ei) := by
  obtain ⟨new, p, hD, hdone, _⟩ := copyDrain_spec s buf
  rw [writeAll_eq_copyDrain]
  refine ⟨new, p, hD, fun hok harm => ?_⟩
  -- with a stock error value left, `Ok` can only come from a loop that ended with `Ok`
  cases hr : (copyDrain s buf).2 with
  | ok u => cases u; obtain ⟨e1, e2⟩ := hdone hr; exact ⟨e1, e2, rfl, rfl⟩
  | error de =>
    rw [hr] at hok
    cases de with
    | inner c => cases hok
    | zero =>
      rcases harm with h | h
      · subst h; cases hok
      · subst h; cases ez <;> cases hok

theorem writeAll_faultFree (ez ei : Bool) (s : Sink) (buf : Bytes) (hf : s.faultFree) :
    (writeAll ez ei s buf).1 = ez ∧ (writeAll ez ei s buf).2.1 = ei ∧
    (writeAll ez ei s buf).2.2.2 = .ok () ∧
    (writeAll ez ei s buf).2.2.1.got = s.got ++ buf ∧
    (writeAll ez ei s buf).2.2.1.faultFree := by
  obtain ⟨h1, h2, h3⟩ := copyDrain_faultFree s buf hf
  rw [writeAll_eq_copyDrain, h1]
  exact ⟨rfl, rfl, rfl, h2, h3⟩

end BV.Adapters
