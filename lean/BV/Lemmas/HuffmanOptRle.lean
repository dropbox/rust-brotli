/-
C17: `BrotliOptimizeHuffmanCountsForRle`, every loop walked once (`Out.Spec`: what the result satisfies, and that the loop
returns).  The function returns when histogram and `good_for_rle` buffer have `length` entries; it raises the total by at most
`2 · length + 1`, keeps the length and leaves the entries from `length` on alone (`optimize_spec`); on `u32` counts it keeps
every occurring symbol (a non-zero count stays non-zero) and the `u32` range (`Keep`, `optimize_keep`).  It does NOT keep
zeros zero.
-/
import BV.Lemmas.HuffmanCanon

namespace BV.Lemmas.HuffmanOptRle
open BV.Bits BV.Huffman BV.Lemmas.HuffmanCanon
open BV.Bits.Out (Spec)

structure Keep (orig cur : List Nat) : Prop where
  hlen : cur.length = orig.length
  hnz : ∀ p, orig.getD p 0 ≠ 0 → cur.getD p 0 ≠ 0
  hu32 : ∀ x ∈ cur, x < u32

theorem Keep.refl (l : List Nat) (h : ∀ x ∈ l, x < u32) : Keep l l :=
  ⟨rfl, fun _ h => h, h⟩

theorem mem_set_lt (l : List Nat) (i v b : Nat) (hl : ∀ x ∈ l, x < b) (hv : v < b) :
    ∀ x ∈ l.set i v, x < b := by
  intro x hx
  rcases List.mem_or_eq_of_mem_set hx with h | h
  · exact hl x h
  · rw [h]; exact hv

def rs (l : List Nat) (a s : Nat) : Nat := ((l.drop a).take s).sum

theorem rs_succ (l : List Nat) (a s : Nat) (h : a + s < l.length) : rs l a (s + 1) = rs l a s + l.getD (a + s) 0 := by
  unfold rs
  rw [List.take_succ, List.sum_append, List.getElem?_drop, List.getElem?_eq_getElem h, List.getD_eq_getElem?_getD,
    List.getElem?_eq_getElem h]
  simp

theorem rs_set_ge (l : List Nat) (a s j v : Nat) (h : a + s ≤ j) : rs (l.set j v) a s = rs l a s := by
  unfold rs
  rw [List.drop_set, if_neg (by omega), List.take_set_of_le (by omega)]

theorem strideCount_mul_le (stride sum : Nat) (hs : 1 ≤ stride) : stride * strideCount stride sum ≤ sum + stride := by
  unfold strideCount
  simp only
  by_cases h0 : sum = 0
  · rw [if_pos h0]; omega
  · rw [if_neg h0]
    have hm : (sum + stride / 2) % u64 ≤ sum + stride / 2 := Nat.mod_le _ _
    generalize (sum + stride / 2) % u64 = m at hm
    by_cases hc : m / stride = 0
    · rw [if_pos hc]; omega
    · rw [if_neg hc]
      have := Nat.mul_div_le m stride
      have := Nat.div_le_self stride 2
      omega

theorem countNonzeroLoop_spec {t : Prop} (counts : List Nat) : ∀ (c i acc : Nat), i + c ≤ counts.length →
    Spec t (countNonzeroLoop counts c i acc) (fun _ => True)
  | 0, _, _, _ => Spec.ok trivial
  | c + 1, i, acc, h => by
    simp only [countNonzeroLoop]
    exact Spec.seq (Spec.getAt counts i 0 (by omega)) fun _ _ => countNonzeroLoop_spec counts c (i + 1) _ (by omega)

theorem trimLoop_spec {t : Prop} (counts : List Nat) : ∀ (l : Nat), l ≤ counts.length →
    Spec t (trimLoop counts l) (fun r => r ≤ l)
  | 0, _ => Spec.ok (Nat.le_refl _)
  | l + 1, h => by
    simp only [trimLoop]
    exact Spec.seq (Spec.getAt counts l 0 (by omega)) fun _ _ =>
      Spec.ite (fun _ => (trimLoop_spec counts l (by omega)).mono fun _ hr => Nat.le_succ_of_le hr)
        fun _ => Spec.ok (Nat.le_refl _)

theorem smallestLoop_spec {t : Prop} (counts : List Nat) : ∀ (c i nz sm : Nat), i + c ≤ counts.length →
    Spec t (smallestLoop counts c i nz sm) (fun r => r.1 ≤ nz + c)
  | 0, _, _, _, _ => Spec.ok (Nat.le_refl _)
  | c + 1, i, nz, sm, h => by
    simp only [smallestLoop]
    exact Spec.seq (Spec.getAt counts i 0 (by omega)) fun _ _ =>
      Spec.ite (fun _ => (smallestLoop_spec counts c (i + 1) (nz + 1) _ (by omega)).mono fun _ hr => by omega)
        fun _ => (smallestLoop_spec counts c (i + 1) nz sm (by omega)).mono fun _ hr => by omega

theorem fillLoop_spec {t : Prop} : ∀ (c i : Nat) (cur : List Nat), i + c + 1 ≤ cur.length →
    Spec t (fillLoop c i cur) (fun r => r.sum ≤ cur.sum + c ∧ r.length = cur.length ∧
      (∀ p, i + c ≤ p → r.getD p 0 = cur.getD p 0) ∧ ∀ orig, Keep orig cur → Keep orig r)
  | 0, _, cur, _ => Spec.ok ⟨Nat.le_refl _, rfl, fun _ _ => rfl, fun _ h => h⟩
  | c + 1, i, cur, h => by
    simp only [fillLoop]
    refine Spec.seq (Spec.getAt cur (i - 1) 0 (by omega)) fun a _ => ?_
    refine Spec.seq (Spec.getAt cur i 0 (by omega)) fun b hb => ?_
    refine Spec.seq (Spec.getAt cur (i + 1) 0 (by omega)) fun d _ => ?_
    refine Spec.seq (P := fun cur1 => cur1.sum ≤ cur.sum + 1 ∧ cur1.length = cur.length ∧
      (∀ p, i + 1 ≤ p → cur1.getD p 0 = cur.getD p 0) ∧ ∀ orig, Keep orig cur → Keep orig cur1)
      (Spec.ite (fun hw => (Spec.setAt cur i 1 (by omega)).mono ?_)
        fun _ => Spec.ok ⟨Nat.le_succ _, rfl, fun _ _ => rfl, fun _ h => h⟩)
      fun cur1 ⟨h1, h2, h3, h4⟩ => (fillLoop_spec c (i + 1) cur1 (by omega)).mono ?_
    · rintro _ rfl
      have := sum_set cur i 1 (by omega)
      rw [← hb, hw.2.1] at this
      refine ⟨by omega, List.length_set .., fun p hp => getD_set_ne _ _ _ _ _ (by omega), fun orig hk => ?_⟩
      -- a zero between two non-zero counts becomes 1: nothing that occurs is lost
      refine ⟨by rw [List.length_set]; exact hk.hlen, fun p hp => ?_, mem_set_lt cur i 1 u32 hk.hu32 (by decide)⟩
      rw [getD_set _ _ _ _ 0 (by omega)]
      split
      · decide
      · exact hk.hnz p hp
    · rintro r ⟨a1, a2, a3, a4⟩
      exact ⟨by omega, by rw [a2, h2], fun p hp => by rw [a3 p (by omega), h3 p (by omega)],
        fun orig hk => a4 orig (h4 orig hk)⟩

theorem setRun_run {t : Prop} (i v : Nat) (hi : i < u64) : ∀ (c k lo : Nat) (arr : List Nat), lo + c + k = i →
    i ≤ arr.length → Spec t (setRun i v c k arr) (fun r => r.length = arr.length ∧
      (∀ p, p < lo ∨ lo + c ≤ p → r.getD p 0 = arr.getD p 0) ∧ (∀ p, lo ≤ p → p < lo + c → r.getD p 0 = v) ∧
      r.sum + rs arr lo c = arr.sum + c * v)
  | 0, _, _, arr, _, _ => Spec.ok ⟨rfl, fun _ _ => rfl, fun p h1 h2 => absurd h2 (by omega), by simp [rs]⟩
  | c + 1, k, lo, arr, h, hl => by
    simp only [setRun]
    have hidx : (i + u64 - k + u64 - 1) % u64 = lo + c := by
      have : i + u64 - k + u64 - 1 = (lo + c) + 2 * u64 := by omega
      rw [this, Nat.add_mul_mod_self_right, Nat.mod_eq_of_lt (by omega)]
    have hj : lo + c < arr.length := by omega
    rw [hidx]
    refine Spec.seq (Spec.setAt arr (lo + c) v hj) fun arr1 h1 => ?_
    rw [h1]
    refine (setRun_run i v hi c (k + 1) lo _ (by omega) (by rw [List.length_set]; exact hl)).mono ?_
    rintro r ⟨a1, a2, a4, a3⟩
    refine ⟨by rw [a1, List.length_set], fun p hp => ?_, fun p hp1 hp2 => ?_, ?_⟩
    · rw [a2 p (by omega), getD_set_ne _ _ _ _ _ (by omega)]
    · by_cases hp : p = lo + c
      · rw [hp, a2 (lo + c) (Or.inr (Nat.le_refl _)), getD_set_eq _ _ _ _ hj]
      · exact a4 p hp1 (by omega)
    · have e1 := sum_set arr (lo + c) v hj
      rw [rs_set_ge _ _ _ _ _ (Nat.le_refl _)] at a3
      rw [rs_succ arr lo c hj, Nat.succ_mul]
      omega

theorem markLoop_spec {t : Prop} (counts : List Nat) (length : Nat) (hlen : length ≤ counts.length) (hl64 : length < u64) :
    ∀ (c i symbol step : Nat) (good : List Nat), i + c = length + 1 → step ≤ i → length ≤ good.length →
    Spec t (markLoop counts length c i symbol step good) (fun r => r.length = good.length)
  | 0, _, _, _, _, _, _, _ => Spec.ok rfl
  | c + 1, i, symbol, step, good, hic, hst, hg => by
    simp only [markLoop]
    refine Spec.seq (P := fun _ => True)
      (Spec.ite (fun _ => Spec.ok trivial) fun _ => (Spec.getAt counts i 0 (by omega)).mono fun _ _ => trivial)
      fun ci _ => Spec.ite (fun _ => ?_) fun _ =>
        markLoop_spec counts length hlen hl64 c (i + 1) symbol (step + 1) good (by omega) (by omega) hg
    refine Spec.seq (P := fun g1 => g1.length = good.length) (Spec.ite (fun _ =>
      (setRun_run i 1 (by omega) step 0 (i - step) good (by omega) (by omega)).mono fun _ h => h.1) fun _ => Spec.ok rfl)
      fun g1 hg1 => ?_
    exact (markLoop_spec counts length hlen hl64 c (i + 1) _ 1 g1 (by omega) (by omega) (by omega)).mono
      fun r hr => hr.trans hg1

theorem strideBreak_spec {t : Prop} (counts good : List Nat) (length i limit : Nat) (hi : i ≤ length)
    (hc : length ≤ counts.length) (hg : length ≤ good.length) :
    Spec t (strideBreak counts good length i limit) (fun _ => True) := by
  unfold strideBreak
  refine Spec.ite (fun _ => Spec.ok trivial) fun _ => Spec.seq (Spec.getAt good i 0 (by omega)) fun _ _ =>
    Spec.ite (fun _ => Spec.ok trivial) fun _ => ?_
  exact Spec.seq (P := fun _ => True)
    (Spec.ite (fun _ => (Spec.getAt good (i - 1) 0 (by omega)).mono fun _ _ => trivial) fun _ => Spec.ok trivial)
    fun _ _ => Spec.ite (fun _ => Spec.ok trivial) fun _ =>
      Spec.seq (Spec.getAt counts i 0 (by omega)) fun _ _ => Spec.ok trivial

theorem strideLimit_spec {t : Prop} (counts : List Nat) (length i : Nat) (h2 : 2 ≤ length) (hl64 : length < u64)
    (hc : length ≤ counts.length) : Spec t (strideLimit counts length i) (fun _ => True) := by
  unfold strideLimit
  have e : (length + u64 - 2) % u64 = length - 2 := by
    rw [show length + u64 - 2 = (length - 2) + u64 by omega, Nat.add_mod_right]
    exact Nat.mod_eq_of_lt (by omega)
  rw [e]
  exact Spec.ite (fun _ => Spec.seq (Spec.getAt counts i 0 (by omega)) fun _ _ =>
      Spec.seq (Spec.getAt counts (i + 1) 0 (by omega)) fun _ _ =>
        Spec.seq (Spec.getAt counts (i + 2) 0 (by omega)) fun _ _ => Spec.ok trivial)
    fun _ => Spec.ite (fun _ => Spec.seq (Spec.getAt counts i 0 (by omega)) fun _ _ => Spec.ok trivial)
      fun _ => Spec.ok trivial

/-- `stride < 2^31` keeps `sum + stride / 2 ≤ stride · (2^32 − 1) + stride / 2` below `2^64` -/
theorem strideCount_spec (stride sum : Nat) (hs : 3 ≤ stride) (hst : stride < 2147483648)
    (hsum : sum ≤ stride * 4294967295) :
    strideCount stride sum < u32 ∧ (sum ≠ 0 → strideCount stride sum ≠ 0) ∧
      (sum = 0 → strideCount stride sum = 0) := by
  unfold strideCount
  have hmod : (sum + stride / 2) % u64 = sum + stride / 2 := by
    apply Nat.mod_eq_of_lt; unfold u64; omega
  rw [hmod]
  have hlt : (sum + stride / 2) / stride < 4294967296 := by
    rw [Nat.div_lt_iff_lt_mul (by omega)]; omega
  refine ⟨?_, ?_, ?_⟩
  · unfold u32
    by_cases h0 : sum = 0
    · simp [h0]
    · simp only [h0, ↓reduceIte]
      split <;> omega
  · intro h0
    simp only [h0, ↓reduceIte]
    split <;> omega
  · intro h0; simp [h0]

/-- the `Keep` half of the stride invariant: counts are `u32`, so `sum` is the exact total of the current stride (no wrap),
and a stride of total 0 holds only zeros (it may be overwritten with `strideCount … 0 = 0`) -/
def KeepStride (orig cur : List Nat) (stride sum a i : Nat) : Prop :=
  Keep orig cur ∧ sum ≤ stride * 4294967295 ∧ (sum = 0 → ∀ p, a ≤ p → p < i → cur.getD p 0 = 0)

/-- `B` = the histogram total at loop entry.  The histogram has grown by at most one per cell left behind (`cur.sum ≤ B + a`):
a finished stride of total `Σ` is overwritten with `stride` copies of about `Σ / stride`, which adds at most `stride`. -/
theorem strideLoop_spec {t : Prop} (good : List Nat) (length B : Nat) (h2 : 2 ≤ length) (hl64 : length < u64)
    (hg : t → length ≤ good.length) :
    ∀ (c i : Nat) (cur : List Nat) (stride limit sum a : Nat),
    i + c = length + 1 → length ≤ cur.length → a + stride = i → sum ≤ rs cur a stride → cur.sum ≤ B + a →
    Spec t (strideLoop good length c i cur stride limit sum) (fun r => r.sum ≤ B + length + 1 ∧ r.length = cur.length ∧
      (∀ p, length ≤ p → r.getD p 0 = cur.getD p 0) ∧
      ∀ orig, length < 2147483648 → KeepStride orig cur stride sum a i → Keep orig r) := by
  intro c
  induction c with
  | zero => intro i cur _ _ _ _ hic _ _ _ hs; exact Spec.ok ⟨by omega, rfl, fun _ _ => rfl, fun _ _ hk => hk.1⟩
  | succ c ih =>
    intro i cur stride limit sum a hic hlen hst hsum hs
    have hi : i ≤ length := by omega
    have hi64 : i < u64 := by omega
    simp only [strideLoop]
    refine Spec.seq (Spec.under fun ht => strideBreak_spec cur good length i limit hi hlen (hg ht)) fun brk _ => ?_
    obtain ⟨s1, sum1, a1, e1, e2, hst1, hs1, hsum1, hbrk, hnb⟩ : ∃ s1 sum1 a1, (if brk = true then 0 else stride) = s1 ∧
        (if brk = true then 0 else sum) = sum1 ∧ a1 + s1 = i ∧ cur.sum ≤ B + a1 ∧ sum1 ≤ rs cur a1 s1 ∧
        (brk = true → s1 = 0 ∧ sum1 = 0 ∧ a1 = i) ∧ (brk = false → s1 = stride ∧ sum1 = sum ∧ a1 = a) := by
      cases brk
      · exact ⟨_, _, a, rfl, rfl, hst, hs, hsum, (fun h => nomatch h), fun _ => ⟨rfl, rfl, rfl⟩⟩
      · exact ⟨_, _, i, rfl, rfl, rfl, by omega, Nat.zero_le _, fun _ => ⟨rfl, rfl, rfl⟩, fun h => nomatch h⟩
    rw [e1, e2]
    refine Spec.seq (P := fun cur1 => cur1.length = cur.length ∧ cur1.sum ≤ B + a1 ∧ sum1 ≤ rs cur1 a1 s1 ∧
      (∀ p, i ≤ p → cur1.getD p 0 = cur.getD p 0) ∧
      ∀ orig, length < 2147483648 → KeepStride orig cur stride sum a i → KeepStride orig cur1 s1 sum1 a1 i)
      (Spec.ite (fun hw => ?_) fun hw => Spec.ok ⟨rfl, hs1, hsum1, fun _ _ => rfl, fun orig _ hk => ?_⟩)
      fun cur1 ⟨hl1, hc1, hr1, hf1, hk1⟩ => ?_
    · obtain ⟨rfl, rfl, rfl⟩ := hbrk hw.1
      have hs4 : 1 ≤ stride := by rcases hw.2 with h4 | h3 <;> omega
      refine (setRun_run a1 _ hi64 stride 0 a cur hst (by omega)).mono ?_
      rintro cur1 ⟨hl1, hv1, hin1, hov⟩
      have hm := strideCount_mul_le stride sum hs4
      have hmod : stride * (strideCount stride sum % u32) ≤ stride * strideCount stride sum :=
        Nat.mul_le_mul_left _ (Nat.mod_le _ _)
      refine ⟨hl1, by omega, Nat.zero_le _, fun p hp => hv1 p (Or.inr (hst ▸ hp)), fun orig hL hk => ?_⟩
      -- the finished stride `[a, a1)` is overwritten with its rounded mean, which is 0 only if the stride was all zero
      obtain ⟨hk, hsb, hz⟩ := hk
      have hs3 : 3 ≤ stride := by rcases hw.2 with h4 | h3 <;> omega
      obtain ⟨c1, c2, c3⟩ := strideCount_spec stride sum hs3 (by omega) hsb
      rw [Nat.mod_eq_of_lt c1] at hin1
      have hval : ∀ p, cur1.getD p 0 = if a ≤ p ∧ p < a1 then strideCount stride sum else cur.getD p 0 := by
        intro p
        by_cases hwin : a ≤ p ∧ p < a1
        · rw [if_pos hwin, hin1 p hwin.1 (by omega)]
        · rw [if_neg hwin, hv1 p (by omega)]
      refine ⟨⟨by rw [hl1]; exact hk.hlen, fun p hp => ?_, fun x hx => ?_⟩, Nat.zero_le _, fun _ p h1 h2 => absurd h2 (by omega)⟩
      · rw [hval p]
        split
        · rename_i hwin
          by_cases hs0 : sum = 0
          · exact absurd (hz hs0 p hwin.1 hwin.2) (hk.hnz p hp)
          · exact c2 hs0
        · exact hk.hnz p hp
      · obtain ⟨p, hp, rfl⟩ := List.getElem_of_mem hx
        have := hval p
        rw [getD_of_lt cur1 p 0 hp] at this
        rw [this]
        split
        · exact c1
        · exact hk.hu32 _ (getD_mem cur p 0 (hl1 ▸ hp))
    · cases hb : brk with
      | false =>
        obtain ⟨rfl, rfl, rfl⟩ := hnb hb
        exact hk
      | true =>
        obtain ⟨rfl, rfl, rfl⟩ := hbrk hb
        exact ⟨hk.1, Nat.zero_le _, fun _ p h1 h2 => absurd h2 (by omega)⟩
    · have hlen1 : length ≤ cur1.length := by rw [hl1]; exact hlen
      refine Spec.seq (Spec.ite (fun _ => strideLimit_spec cur1 length i h2 hl64 hlen1)
        fun _ => Spec.ok trivial) fun limit1 _ => ?_
      refine Spec.ite (fun hil => ?_) fun hil => ?_
      · have hi1 : i < cur1.length := Nat.lt_of_lt_of_le (Nat.lt_of_le_of_ne hi hil) hlen1
        refine Spec.seq (Spec.getAt cur1 i 0 hi1) fun x hx => ?_
        have hrs := rs_succ cur1 a1 s1 (by rw [hst1]; exact hi1)
        rw [hst1, ← hx] at hrs
        refine (ih (i + 1) cur1 (s1 + 1) _ _ a1 ((Nat.add_right_comm i 1 c).trans hic) hlen1 (congrArg Nat.succ hst1)
          (by rw [hrs]; exact Nat.le_trans (Nat.mod_le _ _) (Nat.add_le_add_right hr1 x)) hc1).mono ?_
        rintro r ⟨a1', a2, a3, a4⟩
        refine ⟨a1', by rw [a2, hl1], fun p hp => by rw [a3 p hp, hf1 p (Nat.le_trans hi hp)], fun orig hL hk => ?_⟩
        -- the next cell joins the stride: `sum + x` does not wrap, and is 0 only if both are
        obtain ⟨k1, k2, k3⟩ := hk1 orig hL hk
        have hx32 : x < 4294967296 := hx ▸ k1.hu32 _ (getD_mem cur1 i 0 hi1)
        have hnw : (sum1 + x) % u64 = sum1 + x := Nat.mod_eq_of_lt (by unfold u64; omega)
        refine a4 orig hL ⟨k1, by rw [hnw, Nat.succ_mul]; omega, fun h0 p h1 h2 => ?_⟩
        rw [hnw] at h0
        by_cases hpi : p = i
        · rw [hpi, ← hx]; omega
        · exact k3 (by omega) p h1 (by omega)
      · have hc0 : c = 0 := by omega
        subst hc0
        exact Spec.ok ⟨by omega, hl1, fun p hp => hf1 p (Nat.le_trans hi hp), fun orig hL hk => (hk1 orig hL hk).1⟩

/-- the first loop reads `counts[0 .. length0)`: the function returns only if the histogram is that long -/
theorem countNonzeroLoop_le (counts : List Nat) : ∀ (c i acc r : Nat), countNonzeroLoop counts c i acc = .ok r →
    c = 0 ∨ i + c ≤ counts.length
  | 0, _, _, _, _ => Or.inl rfl
  | c + 1, i, acc, r, h => by
    simp only [countNonzeroLoop] at h
    obtain ⟨x, hx, h⟩ := (Out.bind_eq_ok _ _ _).mp h
    have := (getAt_eq_ok 0 hx).1
    rcases countNonzeroLoop_le counts c (i + 1) _ r h with h0 | h0 <;> omega

/-- `2 * length0 + 1`: the fill loop adds at most `length`, the smoothing loop at most `length + 1` -/
theorem optimize_spec (length0 : Nat) (counts good : List Nat) (hl : length0 ≤ counts.length) (hl64 : length0 < u64) :
    Spec (length0 ≤ good.length) (optimizeHuffmanCountsForRle length0 counts good) (fun r =>
      r.sum ≤ counts.sum + 2 * length0 + 1 ∧ r.length = counts.length ∧ (∀ p, length0 ≤ p → r.getD p 0 = counts.getD p 0) ∧
      ((∀ x ∈ counts, x < u32) → counts.length < 2147483648 → Keep counts r)) := by
  have keep : Spec (length0 ≤ good.length) (.ok counts) (fun r =>
      r.sum ≤ counts.sum + 2 * length0 + 1 ∧ r.length = counts.length ∧ (∀ p, length0 ≤ p → r.getD p 0 = counts.getD p 0) ∧
      ((∀ x ∈ counts, x < u32) → counts.length < 2147483648 → Keep counts r)) :=
    Spec.ok ⟨Nat.le_trans (Nat.le_add_right _ _) (Nat.le_add_right _ _), rfl, fun _ _ => rfl, fun hb _ => Keep.refl counts hb⟩
  unfold optimizeHuffmanCountsForRle
  refine Spec.seq (countNonzeroLoop_spec counts length0 0 0 (by rw [Nat.zero_add]; exact hl)) fun _ _ =>
    Spec.ite (fun _ => keep) fun _ => ?_
  refine Spec.seq (trimLoop_spec counts length0 hl) fun length hll => Spec.ite (fun _ => keep) fun _ => ?_
  have hlc : length ≤ counts.length := Nat.le_trans hll hl
  refine Spec.seq (smallestLoop_spec counts length 0 0 1073741824 (by rw [Nat.zero_add]; exact hlc)) fun ns hnz => ?_
  obtain ⟨nonzeros, smallest⟩ := ns
  have hnz : nonzeros ≤ length := by rw [← Nat.zero_add length]; exact hnz
  refine Spec.ite (fun _ => keep) fun _ => ?_
  refine Spec.seq (P := fun c1 => c1.sum ≤ counts.sum + length ∧ c1.length = counts.length ∧
    (∀ p, length ≤ p → c1.getD p 0 = counts.getD p 0) ∧ ((∀ x ∈ counts, x < u32) → Keep counts c1))
    (Spec.ite (fun _ => (fillLoop_spec (length - 1 - 1) 1 counts (by omega)).mono ?_) fun _ =>
      Spec.ok ⟨Nat.le_add_right _ _, rfl, fun _ _ => rfl, Keep.refl counts⟩) fun c1 ⟨f1, f2, f3, f4⟩ => ?_
  · rintro c1 ⟨a1, a2, a3, a4⟩
    exact ⟨by omega, a2, fun p hp => a3 p (by omega), fun hb => a4 counts (Keep.refl counts hb)⟩
  have hfr : ∀ p, length0 ≤ p → c1.getD p 0 = counts.getD p 0 := fun p hp => f3 p (Nat.le_trans hll hp)
  refine Spec.ite (fun _ => Spec.ok ⟨by omega, f2, hfr, fun hb _ => f4 hb⟩) fun _ => ?_
  have hlen28 : 28 ≤ length := by omega
  have hl1 : length ≤ c1.length := by rw [f2]; exact hlc
  have hl2 : length < u64 := Nat.lt_of_le_of_lt hll hl64
  have hc28 : 28 ≤ c1.length := Nat.le_trans hlen28 hl1
  have hget : ∀ i, i < 28 → i < c1.length := fun i hi => Nat.lt_of_lt_of_le hi hc28
  refine Spec.seq (Spec.getAt c1 0 0 (hget 0 (by decide))) fun symbol _ => ?_
  refine Spec.seq (Spec.under fun hg => markLoop_spec c1 length hl1 hl2 (length + 1) 0 symbol 0
    (good.map fun _ => 0) (Nat.zero_add _) (Nat.le_refl _) (by rw [List.length_map]; exact Nat.le_trans hll hg))
    fun good1 hg1 => ?_
  refine Spec.seq (Spec.getAt c1 0 0 (hget 0 (by decide))) fun _ _ => ?_
  refine Spec.seq (Spec.getAt c1 1 0 (hget 1 (by decide))) fun _ _ => ?_
  refine Spec.seq (Spec.getAt c1 2 0 (hget 2 (by decide))) fun _ _ => ?_
  refine (strideLoop_spec good1 length c1.sum (Nat.le_trans (by decide) hlen28) hl2
    (fun hg => by rw [hg1 hg, List.length_map]; exact Nat.le_trans hll hg)
    (length + 1) 0 c1 0 _ 0 0 (Nat.zero_add _) hl1 rfl (Nat.zero_le _) (Nat.le_refl _)).mono ?_
  rintro r ⟨a1, a2, a3, a4⟩
  exact ⟨by omega, by rw [a2, f2], fun p hp => by rw [a3 p (Nat.le_trans hll hp), hfr p hp], fun hb hL =>
    a4 counts (by omega) ⟨f4 hb, Nat.zero_le _, fun _ p _ h2 => absurd h2 (Nat.not_lt_zero _)⟩⟩

theorem optimize_keep (length0 : Nat) (counts good r : List Nat) (hb : ∀ x ∈ counts, x < u32)
    (hl : counts.length < 2147483648)
    (h : optimizeHuffmanCountsForRle length0 counts good = .ok r) : Keep counts r := by
  by_cases h0 : length0 ≤ counts.length
  · exact ((optimize_spec length0 counts good h0 (by unfold u64; omega)).1 r h).2.2.2 hb hl
  · exfalso
    unfold optimizeHuffmanCountsForRle at h
    obtain ⟨nzc, h1, _⟩ := (Out.bind_eq_ok _ _ _).mp h
    rcases countNonzeroLoop_le counts length0 0 0 nzc h1 with h2 | h2 <;> omega

end BV.Lemmas.HuffmanOptRle
