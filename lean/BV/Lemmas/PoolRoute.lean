/-
Helper lemmas for C07: result routing and exactly-once execution
(invariant `InvR`, on top of `Inv`).
-/
import BV.Lemmas.PoolReach

namespace BV.Lemmas.Pool
open BV.Gen BV.FixedQueue BV.Pool BV.Lemmas.FixedQueue

theorem forall_set {P : WPc → Prop} {ws : List WPc} (h : ∀ p, p ∈ ws → P p) (i : Nat) {p' : WPc}
    (hp' : P p') : ∀ p, p ∈ ws.set i p' → P p := by
  intro p hp
  rcases List.mem_or_eq_of_mem_set hp with h1 | h1
  · exact h p h1
  · subst h1; exact hp'

theorem forall_map_wake {P : WPc → Prop} {ws : List WPc} (h : ∀ p, p ∈ ws → P p)
    (hw : ∀ p, P p → P p.wake) : ∀ p, p ∈ ws.map WPc.wake → P p := by
  intro p hp
  obtain ⟨q, hq, rfl⟩ := List.mem_map.mp hp
  exact hw q (h q hq)

def okW (sp : List Job) : WPc → Prop
  | .atRun j => j ∈ sp
  | .atLockB r => Job.mk r.workId r.value ∈ sp
  | _ => True

theorem okW_wake {sp : List Job} (p : WPc) (h : okW sp p) : okW sp p.wake := by
  cases p <;> exact h

theorem okW_mono {sp : List Job} (x : Job) (p : WPc) (h : okW sp p) : okW (sp ++ [x]) p := by
  cases p <;> simp only [okW] at h ⊢ <;> exact List.mem_append_left _ h

def spawnIdxs : List Op → List Nat
  | [] => []
  | .spawn i :: r => i :: spawnIdxs r
  | _ :: r => spawnIdxs r

/-- routing: wherever a job or its reply is (jobs queue, a worker, results queue, a logged `join`), it
carries the (work id, index) pair it was spawned with; `p0` is the whole program -/
structure InvR (p0 : List Op) (s : State) : Prop where
  routeJ : ∀ j, j ∈ s.jobs.items → j ∈ s.spawned
  routeW : ∀ p, p ∈ s.workers → okW s.spawned p
  routeR : ∀ r, r ∈ s.results.items → Job.mk r.workId r.value ∈ s.spawned
  routeH : ∀ t id v, (t, Ev.join id v) ∈ s.hist → Job.mk id v ∈ s.spawned
  /-- a job has been run once iff it is past `atRun`: at `atLockB`, in results, or joined -/
  runs : ∀ id, runCount id s.hist
      = wsum (hasIdB id) s.workers + cntR id s.results.items + (joinedIds s.hist).count id
  progIdx : spawnIdxs p0 = s.spawned.map Job.index ++ spawnIdxs s.prog

theorem invR_init (n : Nat) (p : List Op) : InvR p (init n p) := by
  refine ⟨?_, ?_, ?_, ?_, ?_, ?_⟩
  · intro j hj; simp [init, items_new] at hj
  · intro q hq
    simp only [init, List.mem_replicate] at hq
    rw [hq.2]; trivial
  · intro r hr; simp [init, items_new] at hr
  · intro t id v h; simp [init] at h
  · intro id; simp [init, items_new, runCount, wsum_replicate, hasIdB, cntR, joinedIds]
  · simp [init]

theorem InvR.log {p0 : List Op} {s : State} (R : InvR p0 s) (t : Nat) (e : Ev)
    (he : quiet e = true) : InvR p0 (s.log t e) := by
  refine ⟨R.routeJ, R.routeW, R.routeR, fun t' id v hm => ?_, fun id => ?_, R.progIdx⟩
  · rcases List.mem_cons.mp hm with hm | hm
    · cases hm; cases he
    · exact R.routeH t' id v hm
  · rw [log_hist, runCount_cons_of_quiet he, joinedIds_cons_of_quiet he]
    exact R.runs id

theorem InvR.notifyAll {p0 : List Op} {s : State} (R : InvR p0 s) : InvR p0 s.notifyAll :=
  ⟨R.routeJ, forall_map_wake R.routeW okW_wake, R.routeR, R.routeH,
    fun id => (wsum_map_wake _ (hasIdB_wake id) _).symm ▸ R.runs id, R.progIdx⟩

theorem InvR.setW {p0 : List Op} {s : State} (R : InvR p0 s) {i : Nat} {p : WPc}
    (hw : s.workers[i]? = some p) (p' : WPc) (hok : okW s.spawned p')
    (hB : ∀ id, hasIdB id p' = hasIdB id p) : InvR p0 (s.setW i p') :=
  ⟨R.routeJ, forall_set R.routeW i hok, R.routeR, R.routeH,
    fun id => (wsum_set_eq _ hw (hB id)).symm ▸ R.runs id, R.progIdx⟩

theorem InvR.sub {p0 : List Op} {s : State} (R : InvR p0 s) (q : SPc) (pr : List Op) (imm : Bool)
    (hp : spawnIdxs s.prog = spawnIdxs pr) :
    InvR p0 { s with spc := q, prog := pr, immediateShutdown := imm } :=
  ⟨R.routeJ, R.routeW, R.routeR, R.routeH, R.runs, hp ▸ R.progIdx⟩

theorem invR_step {p0 : List Op} {s s' : State} {c : Choice} (I : Inv s) (R : InvR p0 s)
    (h : step s c = .ok s') : InvR p0 s' := by
  cases trans_of_step I h with
  | exitA i hw => exact (R.setW hw .exited trivial fun _ => rfl).log _ _ rfl
  | waitW i hw => exact (R.setW hw .waiting trivial fun _ => rfl).log _ _ rfl
  | wake i hw => exact (R.setW hw .atLockA trivial fun _ => rfl).log _ _ rfl
  | spurW tid hw => exact (R.setW hw .woken trivial fun _ => rfl).log _ _ rfl
  | pop i j jobs' hw _ _ hit =>
    refine InvR.log ?_ _ _ rfl
    refine ⟨fun x hx => R.routeJ x (hit ▸ List.mem_cons_of_mem _ hx),
      forall_set (forall_map_wake R.routeW okW_wake) i (R.routeJ j (hit ▸ List.mem_cons_self)),
      R.routeR, R.routeH, fun id => ?_, R.progIdx⟩
    have := R.runs id
    have := wsum_set_wake_eq (hasIdB id) (hasIdB_wake id) (p' := .atRun j) hw rfl
    simp; omega
  | run i j hw =>
    have hj : okW s.spawned (.atRun j) := R.routeW _ (List.mem_iff_getElem?.mpr ⟨i, hw⟩)
    refine ⟨R.routeJ, forall_set R.routeW i hj, R.routeR, fun t id v hm => ?_, fun id => ?_,
      R.progIdx⟩
    · rcases List.mem_cons.mp hm with hm | hm
      · cases hm
      · exact R.routeH t id v hm
    · have := R.runs id
      have := wsum_set (hasIdB id) (.atLockB ⟨j.workId, j.index⟩) hw
      simp only [hasIdB] at this
      simp; omega
  | publish i r results' hw _ _ hit =>
    have hr : okW s.spawned (.atLockB r) := R.routeW _ (List.mem_iff_getElem?.mpr ⟨i, hw⟩)
    refine InvR.log ?_ _ _ rfl
    refine ⟨R.routeJ, forall_set (forall_map_wake R.routeW okW_wake) i trivial, fun x hx => ?_,
      R.routeH, fun id => ?_, R.progIdx⟩
    · rcases List.mem_append.mp (hit ▸ hx) with hx | hx
      · exact R.routeR x hx
      · cases List.mem_singleton.mp hx; exact hr
    · have := R.runs id
      have := wsum_set_wake (hasIdB id) (hasIdB_wake id) .atLockA hw
      simp only [hasIdB] at this
      simp [hit, cntR_append]; omega
  | spawn idx rest jobs' _ hp _ _ _ _ hit =>
    refine InvR.log ?_ _ _ rfl
    refine ⟨fun x hx => ?_,
      forall_map_wake (fun p hp => okW_mono _ p (R.routeW p hp)) okW_wake,
      fun x hx => List.mem_append_left _ (R.routeR x hx),
      fun t id v hm => List.mem_append_left _ (R.routeH t id v hm),
      fun id => (wsum_map_wake _ (hasIdB_wake id) _).symm ▸ R.runs id, ?_⟩
    · rcases List.mem_append.mp (hit ▸ hx) with hx | hx
      · exact List.mem_append_left _ (R.routeJ x hx)
      · exact List.mem_append_right _ hx
    · simpa [hp, spawnIdxs] using R.progIdx
  | join n rest j r results' _ hp _ _ _ _ hperm hid =>
    have hr := R.routeR r (hperm.subset List.mem_cons_self)
    refine ⟨R.routeJ, R.routeW, fun x hx => R.routeR x (hperm.subset (List.mem_cons_of_mem _ hx)),
      fun t id v hm => ?_, fun id => ?_, by simpa [hp, spawnIdxs] using R.progIdx⟩
    · rcases List.mem_cons.mp hm with hm | hm
      · cases hm; exact hid ▸ hr
      · exact R.routeH t id v hm
    · have := R.runs id
      rw [← cntR_perm id hperm, cntR_cons, hid] at this
      simp [count_cons_nat]; omega
  | joinWait => exact (R.sub .waiting _ _ rfl).log _ _ rfl
  | unwrap rest _ hp => exact (R.sub .ready rest _ (by rw [hp]; rfl)).log _ _ rfl
  | dropPark rest t e _ _ _ he => exact (R.notifyAll.sub (.joining t) _ true rfl).log _ _ he
  | dropDone rest e _ hp _ he =>
    exact (R.notifyAll.sub .ready rest true (by rw [notifyAll_prog, hp]; rfl)).log _ _ he
  | joinPark t rest t' e _ _ _ _ _ he => exact (R.sub (.joining t') _ _ rfl).log _ _ he
  | joinDone t rest e _ hp _ _ _ he => exact (R.sub .ready rest _ (by rw [hp]; rfl)).log _ _ he
  | spurS => exact (R.sub .woken _ _ rfl).log _ _ rfl

theorem invR_reachable {n : Nat} {p : List Op} (hc : contract p = true) {s : State}
    (hr : Reachable n p s) : InvR p s := by
  induction hr with
  | init => exact invR_init n p
  | step hr' hs ih => exact invR_step (inv_reachable hc hr') ih hs

theorem hasIdB_le_hasId (id : Nat) (p : WPc) : hasIdB id p ≤ hasId id p := by
  cases p <;> simp [hasIdB, hasId]

theorem run_once_of_inv {p0 : List Op} {s : State} (I : Inv s) (R : InvR p0 s) (id : Nat) :
    runCount id s.hist ≤ 1 ∧ (id ∈ joinedIds s.hist → runCount id s.hist = 1) := by
  have h1 := R.runs id
  have h2 := I.part id
  have h3 := wsum_le (hasIdB id) (hasId id) (hasIdB_le_hasId id) s.workers
  have h4 := below_le id s.curWorkId
  refine ⟨by omega, fun hm => ?_⟩
  have : 0 < (joinedIds s.hist).count id := List.count_pos_iff.mpr hm
  omega

theorem spawned_at {s : State} (I : Inv s) {id v : Nat} (h : Job.mk id v ∈ s.spawned) :
    s.spawned[id]? = some ⟨id, v⟩ := by
  obtain ⟨k, hk, hkv⟩ := List.mem_iff_getElem.mp h
  have h1 : (s.spawned.map Job.workId)[k]? = some id := by
    simp [List.getElem?_eq_getElem hk, hkv]
  rw [I.spawnedIds] at h1
  have hk' : k < s.curWorkId := by
    have := congrArg List.length I.spawnedIds
    simp at this; omega
  rw [List.getElem?_range hk'] at h1
  cases h1
  rw [List.getElem?_eq_getElem hk, hkv]

theorem join_value_of_inv {p0 : List Op} {s : State} (I : Inv s) (R : InvR p0 s) {t id v : Nat}
    (h : (t, Ev.join id v) ∈ s.hist) : (spawnIdxs p0)[id]? = some v := by
  have h1 := spawned_at I (R.routeH t id v h)
  have hlt : id < s.spawned.length := by
    rcases Nat.lt_or_ge id s.spawned.length with h | h
    · exact h
    · rw [List.getElem?_eq_none h] at h1; cases h1
  rw [R.progIdx, List.getElem?_append_left (by simpa using hlt)]
  simp [h1]

end BV.Lemmas.Pool
