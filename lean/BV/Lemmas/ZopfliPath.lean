import BV.Lemmas.ZopfliCmd
import BV.Lemmas.CbrOpen
/-! `BrotliZopfliCreateCommands` along a SOUND path of Zopfli nodes (`PathOK`): decoder and encoder stay in lock step. -/
namespace BV.Zopfli
open BV.Hasher BV.MatchFinder BV.Recoder BV.PrefixArith BV.MetaBlock BV.Cbr

/-- `base` = text length at block offset 0; the walk ends at the `next` offset `!0` -/
inductive PathOK {K : Type} (wo : WordOracle) (window md : Nat) (T : Bytes) (base numBytes : Nat)
    (nodes : Array (Node K)) : Nat → Nat → List Int → Prop
  | done {pos : Nat} {ring : List Int} : pos ≤ numBytes → PathOK wo window md T base numBytes nodes pos 0xffffffff ring
  | step {pos offset : Nat} {ring : List Int} (nx : Node K) : offset ≠ 0xffffffff →
      nodes[pos + offset]? = some nx →
      NodeOK wo window md T (base + pos + nx.insertLength) ring nx →
      pos + nx.insertLength + nx.copyLength ≤ numBytes →
      PathOK wo window md T base numBytes nodes (pos + nx.insertLength + nx.copyLength) nx.nextOf
        (ringAfter window (base + pos + nx.insertLength) ring nx) →
      PathOK wo window md T base numBytes nodes pos offset ring

theorem PathOK.inv {K : Type} {wo : WordOracle} {window md : Nat} {T : Bytes} {base numBytes : Nat}
    {nodes : Array (Node K)} {pos offset : Nat} {ring : List Int}
    (h : PathOK wo window md T base numBytes nodes pos offset ring) :
    (offset = 0xffffffff ∧ pos ≤ numBytes) ∨
    (offset ≠ 0xffffffff ∧ ∃ nx, nodes[pos + offset]? = some nx ∧
      NodeOK wo window md T (base + pos + nx.insertLength) ring nx ∧
      pos + nx.insertLength + nx.copyLength ≤ numBytes ∧
      PathOK wo window md T base numBytes nodes (pos + nx.insertLength + nx.copyLength) nx.nextOf
        (ringAfter window (base + pos + nx.insertLength) ring nx)) := by
  cases h with
  | done hp => exact Or.inl ⟨rfl, hp⟩
  | step nx h1 h2 h3 h4 h5 => exact Or.inr ⟨h1, nx, h2, h3, h4, h5⟩

def NodesOK {K : Type} (wo : WordOracle) (window md : Nat) (T : Bytes) (base numBytes : Nat)
    (nodes : Array (Node K)) (ring : List Int) : Prop :=
  ∃ n0, nodes[0]? = some n0 ∧ PathOK wo window md T base numBytes nodes 0 n0.nextOf ring

theorem ccLoop_open {K : Type} (wo : WordOracle) (window md : Nat) (large : Bool) (hist mb : Bytes) (L0 numBytes : Nat)
    (nodes : Array (Node K)) (hwin : window ≤ 2 ^ 30) (hmd : md + 15 < 2 ^ 31)
    (hstdw : large = false → window ≤ 2 ^ 26 - 4) (hstdm : large = false → md ≤ 2 ^ 26 - 4)
    (hmb24 : mb.length ≤ 2 ^ 24) (hmbl : mb.length = L0 + numBytes) :
    ∀ (fuel : Nat) (s s' : CC) (d : DecSt) (ring : List Int) (cmds : List Cmd),
      ccLoop 0 0 (hist.length + L0) window nodes fuel s = some (cmds, s') →
      PathOK wo window md (hist ++ mb) (hist.length + L0) numBytes nodes s.pos s.offset ring →
      ZSync hist mb L0 s d ring →
      ∃ d' ring', ZSync hist mb L0 s' d' ring' ∧ s'.pos ≤ numBytes ∧
        (∀ c ∈ cmds, cmdOK (distAlphabetSize large 0 0) 0 0 c = true) ∧
        openSteps wo 0 0 window mb d cmds = some d' := by
  intro fuel
  induction fuel with
  | zero => intro s s' d ring cmds h; rw [ccLoop] at h; cases h
  | succ fuel ih =>
    intro s s' d ring cmds h hp hs
    rw [ccLoop] at h
    rcases hp.inv with ⟨hoff, hle⟩ | ⟨hoff, nx, hnode, hok, hle, hrest⟩
    · rw [if_pos hoff] at h
      obtain ⟨rfl, rfl⟩ := Prod.mk.inj (Option.some.inj h)
      exact ⟨d, ring, hs, hle, fun c hc => (by cases hc), rfl⟩
    · rw [if_neg hoff] at h
      cases hst : ccStep 0 0 (hist.length + L0) window nodes s with
      | none => simp only [hst] at h; cases h
      | some r =>
        obtain ⟨cmd, s1⟩ := r
        simp only [hst] at h
        cases hl : ccLoop 0 0 (hist.length + L0) window nodes fuel s1 with
        | none => simp only [hl] at h; cases h
        | some r2 =>
          obtain ⟨cs, s2⟩ := r2
          simp only [hl, Option.some.injEq, Prod.mk.injEq] at h
          obtain ⟨rfl, rfl⟩ := h
          obtain ⟨d1, e1, e2, e3, e4, e5, e6, e7, e8⟩ := ccStep_good wo window md large hist mb L0 numBytes nodes hwin hmd
            hstdw hstdm hmb24 hmbl hs hnode hok hle hst
          rw [← e3, ← e4] at hrest
          obtain ⟨d', ring', a, b, c, ds⟩ := ih s1 s2 d1 _ cs hl hrest e2
          exact ⟨d', ring', a, b, List.forall_mem_cons.mpr ⟨e8, c⟩, openSteps_cons_some.mpr ⟨⟨e5, e6⟩, d1, e1, e7, ds⟩⟩

theorem zopfli_lockstep {K : Type} (wo : WordOracle) (window md : Nat) (large : Bool) (hist mb : Bytes)
    (nodes : Array (Node K)) (numBytes position : Nat) (cache : List Int) (lastInsertLen numLiterals : Nat)
    (res : CmdResult)
    (hwin : window ≤ 2 ^ 30) (hmd : md + 15 < 2 ^ 31)
    (hstdw : large = false → window ≤ 2 ^ 26 - 4) (hstdm : large = false → md ≤ 2 ^ 26 - 4)
    (hmb24 : mb.length ≤ 2 ^ 24)
    (hpos : position = hist.length + lastInsertLen) (hmb : mb.length = lastInsertLen + numBytes)
    (hc : CacheI32 cache) (hcl : 4 ≤ cache.length)
    (hn : NodesOK wo window md (hist ++ mb) position numBytes nodes (cache.take 4))
    (h : zopfliCreateCommands 0 0 numBytes position window nodes cache lastInsertLen numLiterals = some res) :
    (∀ c ∈ closeMetaBlock res.cmds res.lastInsertLen, cmdOK (distAlphabetSize large 0 0) 0 0 c = true) ∧
    lockstep wo 0 0 window mb ⟨hist, cache.take 4, 0⟩ 0 (closeMetaBlock res.cmds res.lastInsertLen) = true ∧
    replayCommands wo 0 0 window mb (cache.take 4) hist (closeMetaBlock res.cmds res.lastInsertLen)
      = some (hist ++ mb) := by
  obtain ⟨n0, hn0, hpath⟩ := hn
  subst hpos
  unfold zopfliCreateCommands at h
  simp only [hn0] at h
  cases hl : ccLoop 0 0 (hist.length + lastInsertLen) window nodes (numBytes + 2)
      ⟨0, n0.nextOf, true, cache, lastInsertLen, numLiterals⟩ with
  | none => simp only [hl] at h; cases h
  | some r =>
    obtain ⟨cmds, s'⟩ := r
    simp only [hl, Option.some.injEq] at h
    subst h
    obtain ⟨d', ring', hs', hple, hgood, hopen⟩ := ccLoop_open wo window md large hist mb lastInsertLen numBytes
      nodes hwin hmd hstdw hstdm hmb24 hmb _ _ _ _ _ _ hl hpath
      (⟨by simp, by simp only []; omega, fun hf => (by cases hf), rfl, rfl, hc, hcl⟩ :
        ZSync hist mb lastInsertLen ⟨0, n0.nextOf, true, cache, lastInsertLen, numLiterals⟩ ⟨hist, cache.take 4, 0⟩ _)
    have hp24 : (2 : Nat) ^ 24 = 16777216 := by decide
    have hU : U64 = 18446744073709551616 := rfl
    have hcur := hs'.cur
    obtain ⟨a, b, c⟩ := openSteps_close (lil := s'.lastInsertLen + wsub numBytes s'.pos) hopen hs'.out
      (by rw [wsub_eq (by omega) (by omega), if_pos hple]; omega) (by omega) hgood
      (fun l _ hl => cmdOK_initInsert large l (by omega))
    exact ⟨b, a, c⟩

end BV.Zopfli
