import BV.Lemmas.MatchSound
import BV.Model.Zopfli
/-! `FindAllMatchesH10`: soundness of the short-distance loop at its head (a first layer of `MatchOK`). -/
namespace BV.Zopfli
open BV.Hasher BV.MatchFinder BV.Recoder BV.PrefixArith BV

def RingMatch (data : ByteArray) (mask curIx maxLength maxBackward : Nat) (x : Match) : Prop :=
  ∃ backward len, x = Match.init backward len ∧ 1 ≤ backward ∧ backward ≤ maxBackward ∧ backward ≤ curIx ∧
    len ≤ maxLength ∧ Agree data ((curIx - backward) &&& mask) (curIx &&& mask) len

theorem shortLoop_sound (data : ByteArray) (mask curIx maxLength maxBackward stop : Nat)
    (hcur : curIx < 2 ^ 63) (hmb : maxBackward ≤ curIx) :
    ∀ (fuel i bestLen : Nat) (acc : List Match) (r : Nat × List Match),
      Zopfli.H10.shortLoop data mask curIx maxLength maxBackward stop fuel i bestLen acc = some r →
      (i < curIx ∨ i = U64 - 1) →
      (∀ x ∈ acc, RingMatch data mask curIx maxLength maxBackward x) →
      ∀ x ∈ r.2, RingMatch data mask curIx maxLength maxBackward x := by
  have hU : U64 = 18446744073709551616 := rfl
  intro fuel
  induction fuel with
  | zero =>
    intro i bestLen acc r h _ hacc
    rw [Zopfli.H10.shortLoop] at h
    injection h with h; subst h; exact hacc
  | succ fuel ih =>
    intro i bestLen acc r h hi hacc
    rw [Zopfli.H10.shortLoop] at h
    by_cases hc : i > stop ∧ bestLen ≤ 2
    · rw [if_pos hc] at h
      extract_lets backward cm prev at h
      have hbdef : backward = wsub curIx i := rfl
      have hcm : cm = curIx &&& mask := rfl
      have hprev : prev = i &&& mask := rfl
      clear_value backward cm prev
      by_cases hbk : backward > maxBackward
      · rw [if_pos hbk] at h
        injection h with h; subst h; exact hacc
      rw [if_neg hbk] at h
      -- the position is below `cur_ix`, so the distance is `cur_ix - i`
      have hilt : i < curIx := by
        rcases hi with h1 | h1
        · exact h1
        · exfalso
          rw [hbdef, h1, wsub_eq (by omega) (by omega)] at hbk
          split at hbk <;> omega
      have hbe : backward = curIx - i := by
        rw [hbdef, wsub_eq (by omega) (by omega), if_pos (by omega)]
      have hi1 : wsub i 1 = i - 1 := by
        rw [wsub_eq (by omega) (by omega), if_pos (by omega)]
      have hnext : i - 1 < curIx ∨ i - 1 = U64 - 1 := Or.inl (by omega)
      rw [hi1] at h
      cases ha : byteAt data cm with
      | none => simp -zeta only [ha] at h <;> cases h
      | some a =>
      cases hb : byteAt data prev with
      | none => simp -zeta only [ha, hb] at h <;> cases h
      | some b =>
      simp -zeta only [ha, hb] at h
      by_cases hab : a = b
      · rw [if_pos hab] at h
        cases ha1 : byteAt data (cm + 1) with
        | none => simp -zeta only [ha1] at h <;> cases h
        | some a1 =>
        cases hb1 : byteAt data (prev + 1) with
        | none => simp -zeta only [ha1, hb1] at h <;> cases h
        | some b1 =>
        simp -zeta only [ha1, hb1] at h
        by_cases hab1 : a1 = b1
        · rw [if_pos hab1] at h
          cases hfm : findMatchLengthWithLimit data prev cm maxLength with
          | none => simp -zeta only [hfm] at h <;> cases h
          | some len =>
          simp -zeta only [hfm] at h
          by_cases hlen : len > bestLen
          · rw [if_pos hlen] at h
            refine ih (i - 1) len _ r h hnext ?_
            intro x hx
            rcases List.mem_cons.mp hx with rfl | hx
            · obtain ⟨hl, hag⟩ := findMatchLengthWithLimit_sound hfm
              refine ⟨backward, len, rfl, by omega, by omega, by omega, hl, ?_⟩
              rw [hbe, show curIx - (curIx - i) = i by omega, ← hprev, ← hcm]
              exact hag
            · exact hacc x hx
          · rw [if_neg hlen] at h
            exact ih (i - 1) bestLen acc r h hnext hacc
        · rw [if_neg hab1] at h
          exact ih (i - 1) bestLen acc r h hnext hacc
      · rw [if_neg hab] at h
        exact ih (i - 1) bestLen acc r h hnext hacc
    · rw [if_neg hc] at h
      injection h with h; subst h; exact hacc

end BV.Zopfli
