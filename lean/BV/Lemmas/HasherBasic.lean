import BV.Lemmas.HasherLoop
/-! `BasicHasher`: the 4-at-a-time path equals four `Store`s; `StoreRange` is the fold of `Store`. -/
namespace BV.Hasher

/-- the hypothesis on the hash parameter of a `BasicHasher`: `key.wrapping_add(off)` (u32) in
`Store` and `mixed + off` (usize) in `StoreRangeOptBasic` agree, i.e. key + sweep offset does not
leave `u32`.  (H2/H3/H4/H54: keys are below `2^20`.) -/
structure BasicP.Ok (P : BasicP) : Prop where
  noWrap : ∀ w, P.hash w + P.sweep ≤ U32

namespace Basic

theorem idx_noWrap {P : BasicP} (hP : P.Ok) (w : List Nat) (x : Nat) (hs : P.sweep ≠ 0) :
    (P.hash w % U32 + x % P.sweep % U32) % U32 = P.hash w % U32 + x % P.sweep := by
  have h1 := hP.noWrap w
  have h2 : x % P.sweep < P.sweep := Nat.mod_lt _ (Nat.pos_of_ne_zero hs)
  rw [Nat.mod_eq_of_lt (a := P.hash w) (by omega), Nat.mod_eq_of_lt (a := x % P.sweep) (by omega),
    Nat.mod_eq_of_lt (by omega)]

theorem store_of_win {P : BasicP} {data : ByteArray} {mask ix : Nat} {w : List Nat}
    (h : win data (ix &&& mask) 8 = some w) (b : Tab) :
    store P data mask ix b =
      if P.sweep = 0 then none
      else wr b ((P.hash w % U32 + (ix >>> 3) % P.sweep % U32) % U32) (ix % U32) := by
  simp [store, hashAt, h]

theorem store_of_win_none {P : BasicP} {data : ByteArray} {mask ix : Nat}
    (h : win data (ix &&& mask) 8 = none) (b : Tab) : store P data mask ix b = none := by
  simp [store, hashAt, h]

/-- one iteration of the `StoreRangeOptBasic` loop is four `Store`s: peel one `Store` per written slot,
each time the same three steps (`store_of_win`, `idx_noWrap`, the write fails on both sides or goes on) -/
theorem chunk_eq {P : BasicP} (hP : P.Ok) (data : ByteArray) (k ixStart c : Nat) (b : Tab) :
    chunk P data (2 ^ k - 1) ixStart c b
      = forRange (store P data (2 ^ k - 1)) (ixStart + c * 4) 4 b := by
  unfold chunk
  simp only []
  split
  · exact forRange_shift (store P data (2 ^ k - 1)) (ixStart + c * 4) 4 0 b
  · rename_i hns
    have hc := fun j hj => ringmask_consecutive (ixStart + c * 4) k j hns hj
    cases hw : win data ((ixStart + c * 4) &&& (2 ^ k - 1)) 11 with
    | none =>
      simp only [hash4, hw]
      symm
      apply forRange_last_none (store P data (2 ^ k - 1)) 3
      intro y
      apply store_of_win_none
      rw [hc 3 (by omega)]
      exact win_none_of_le hw (by omega)
    | some w11 =>
      have h0 := win_sub hw 0 8 (by omega)
      have h1 := win_sub hw 1 8 (by omega)
      have h2 := win_sub hw 2 8 (by omega)
      have h3 := win_sub hw 3 8 (by omega)
      rw [← hc 1 (by omega)] at h1
      rw [← hc 2 (by omega)] at h2
      rw [← hc 3 (by omega)] at h3
      simp only [Nat.add_zero, List.drop_zero] at h0
      simp only [hash4, hw]
      rw [forRange_four, store_of_win h0]
      by_cases hs : P.sweep = 0
      · simp [hs]
      · simp only [hs, if_false, idx_noWrap hP _ _ hs]
        cases wr b (P.hash (List.take 8 w11) % U32 + ((ixStart + c * 4) >>> 3) % P.sweep)
            ((ixStart + c * 4) % U32) with
        | none => rfl
        | some b1 =>
          simp only [Option.bind_some]
          rw [store_of_win h1]
          simp only [hs, if_false, idx_noWrap hP _ _ hs]
          cases wr b1 (P.hash (List.take 8 (List.drop 1 w11)) % U32 + ((ixStart + c * 4 + 1) >>> 3) % P.sweep)
              ((ixStart + c * 4 + 1) % U32) with
          | none => rfl
          | some b2 =>
            simp only [Option.bind_some]
            rw [store_of_win h2]
            simp only [hs, if_false, idx_noWrap hP _ _ hs]
            cases wr b2 (P.hash (List.take 8 (List.drop 2 w11)) % U32 + ((ixStart + c * 4 + 2) >>> 3) % P.sweep)
                ((ixStart + c * 4 + 2) % U32) with
            | none => rfl
            | some b3 =>
              simp only [Option.bind_some]
              rw [store_of_win h3]
              simp only [hs, if_false, idx_noWrap hP _ _ hs]

theorem storeRange_eq_fold {P : BasicP} (hP : P.Ok) (data : ByteArray) (k s e : Nat) (b : Tab) :
    storeRange P data (2 ^ k - 1) s e b = forRange (store P data (2 ^ k - 1)) s (e - s) b := by
  unfold storeRange storeRangeOptBasic
  by_cases hge : e ≥ s + 8 * 2
  · have hfun : chunk P data (2 ^ k - 1) s
        = fun c y => forRange (store P data (2 ^ k - 1)) (s + c * 4) 4 y := by
      funext c y; exact chunk_eq hP data k s c y
    simp only [hge, if_true, hfun]
    rw [forRange_chunks (store P data (2 ^ k - 1)) 4 s ((e - s) / 4) 0 b]
    simp only [Nat.zero_mul, Nat.add_zero]
    have hsplit : e - s = (e - s) / 4 * 4 + (e - (s + (e - s) / 4 * 4)) := by omega
    conv => rhs; rw [hsplit, forRange_add]
    cases forRange (store P data (2 ^ k - 1)) s ((e - s) / 4 * 4) b <;> rfl
  · simp only [hge, if_false]

end Basic
end BV.Hasher
