/-
Facts behind BV/Props/C15Window.lean: what the generated head of `ensure_initialized` (BV/Gen/FnC15.lean)
computes.
-/
import BV.Model.Window
import BV.Lemmas.Header

namespace BV.Window
open BV.Gen.FnC15

theorem sanitize_eq (gp : GenParams) :
    SanitizeParams gp =
      { gp with quality := min 11 (max 0 gp.quality),
                lgwin := max 10 (min (if gp.large_window then 30 else 24) gp.lgwin),
                appendable := gp.catable || gp.appendable } := by
  rw [← BV.Header.clamp_eq]
  unfold SanitizeParams check_large_window_ok
  simp only [decide_eq_true_eq, Bool.and_true]
  by_cases h1 : gp.lgwin < 10
  · simp only [if_pos h1]
    cases gp.catable <;> rfl
  · simp only [if_neg h1]
    by_cases h2 : gp.lgwin > 24
    · simp only [if_pos h2]
      cases gp.large_window
      · cases gp.catable <;> rfl
      · simp only [if_true]
        by_cases h3 : gp.lgwin > 30
        · simp only [if_pos h3]; cases gp.catable <;> rfl
        · simp only [if_neg h3]; cases gp.catable <;> rfl
    · simp only [if_neg h2]; cases gp.catable <;> rfl

theorem choose_plain (g : GenParams)
    (h : g.quality < 4 ∨ (g.mode ≠ 2 ∧ g.dist.distance_postfix_bits = 0 ∧ g.dist.num_direct_distance_codes = 0)) :
    ChooseDistanceParams g = BrotliInitDistanceParams g 0 0 := by
  unfold ChooseDistanceParams
  by_cases hq : g.quality ≥ 4
  · obtain ⟨h1, h2, h3⟩ := h.resolve_left (by omega)
    have hm : (g.mode == 2) = false := by simpa using h1
    simp only [hq, decide_true, if_true, hm, h2, h3, Bool.false_eq_true, if_false]
    rfl
  · simp only [hq, decide_false, Bool.false_eq_true, if_false]

theorem init_dist_plain (g : GenParams) :
    (BrotliInitDistanceParams g 0 0).dist
      = ⟨0, 0, if g.large_window then 140 else 64, if g.large_window then 0x7FFFFFC else 0x3FFFFFC⟩ := by
  unfold BrotliInitDistanceParams BROTLI_DISTANCE_ALPHABET_SIZE
  cases g.large_window <;> rfl

end BV.Window
