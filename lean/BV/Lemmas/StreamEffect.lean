import BV.Lemmas.StreamLts
import BV.Lemmas.StreamTerm
import BV.Lemmas.StreamFast
/-
What an atomic step does to the configuration, with every model function already opened.  A frame is
stated as an EQUATION, `f s = { s with a := .., b := .. }`, one per model function (`*_eq`, each in the lemma file of
its function: StreamBasic, StreamInv, StreamStep, StreamFast, StreamMeta; `encodeData_withEnc` for `encode_data`).  `Atom`
lists the atoms of an initialised encoder (`Step` without `init`; `cfc` is `flushed` or `idle`; `encSlow` and `mdEnc` are
`enc`, told apart by `EncSite`) with the successor written as such an update of the source state, so that
"this atom leaves field `x` alone" is `rfl` whatever `x` is, and a theorem by cases on `Atom` needs an
argument only for the kinds that touch what it is about (one `| _ =>` closes the rest).
`Step.effect` is the only case analysis of `Step` itself.

Trap: after `rcases h.effect with .. | ⟨hI, ha⟩`, `cases ha` puts `h : Step ..` back BEHIND the fields of
the alternative, where it shadows a field named `h`; name the step `hs`, or `clear` it first.
-/
namespace BV.Stream
open BV.Bits

attribute [local irreducible] fastRes

/-- where `encode_data` is called from, as `EncSite op s io site k il ff st` (`k`: the size hint it runs under):
the main loop (site 0, on the state with its size hint refreshed, the stream state marked afterwards) or the
metadata loop (site 1, a forced flush of buffered input, stream state kept) -/
inductive EncSite (op : Nat) (s : St) (io : Io) : Nat → Nat → Bool → Bool → SState → Prop
  | main (hop : op ≤ 2) (hnf : ¬ fastMode s.params) (hrm : s.remainingMetadata = u32Max)
      (hnc : ¬ (remainingInputBlockSize s ≠ 0 ∧ io.availIn ≠ 0)) (hnp : ¬ PadDue s) (hst : s.streamState = .processing)
      (hgo : remainingInputBlockSize s = 0 ∨ op ≠ 0) :
      EncSite op s io 0 (updateSizeHint s io.availIn).params.sizeHint (slowIl op io) (slowFf op io)
        (markState s.streamState (slowIl op io) (slowFf op io))
  | md {n : Nat} (hM : MdInv n s io) (hop : op = 3) (hne : s.inputPos ≠ s.lastFlushPos) :
      EncSite op s io 1 s.params.sizeHint false true s.streamState

theorem EncSite.site_ne {op : Nat} {s : St} {io : Io} {site k : Nat} {il ff : Bool} {st : SState}
    (h : EncSite op s io site k il ff st) : site ≠ 2 := by
  cases h <;> omega

theorem EncSite.body {op : Nat} {s : St} {io : Io} {site k : Nat} {il ff : Bool} {st : SState}
    (h : EncSite op s io site k il ff st) (hb : s.streamState = .metadataBody ∨ st = .metadataBody) :
    s.streamState = .metadataBody ∧ s.inputPos ≠ s.lastFlushPos := by
  cases h with
  | main hop hnf hrm hnc hnp hst =>
    rcases hb with hb | hb
    · cases hst.symm.trans hb
    · cases hst.symm.trans (markState_body hb)
  | md hM hop hne => exact ⟨hb.elim id id, hne⟩

inductive Atom (o : Oracle) (op : Nat) (s : St) (io : Io) : Ev → St → Io → Prop
  | copy {r : Ring} {f : Bytes} (hw : s.inputPos + io.availIn < two64) (hop : op ≤ 2) (hnf : ¬ fastMode s.params)
      (hst : s.streamState = .processing) (hrm : s.remainingMetadata = u32Max)
      (hc : remainingInputBlockSize s ≠ 0 ∧ io.availIn ≠ 0) (hn : copyN s io ≤ io.input.length)
      (he : copyInputToRingBuffer s (io.input.take (copyN s io)) io.input.length
            = .ok { s with ring := r, inputPos := s.inputPos + copyN s io, first2 := f }) :
      Atom o op s io (.copy (io.input.take (copyN s io)))
        { s with ring := r, inputPos := s.inputPos + copyN s io, first2 := f }
        { io with input := io.input.drop (copyN s io), availIn := io.availIn - copyN s io }
  | pad {nx : NextOut} (hc : PadDue s) (hz : io.availIn = 0) (he : injectBytePaddingBlock s = .ok (padResult s nx)) :
      Atom o op s io (.pad s.lastBytesBits) (padResult s nx) io
  | push (hc : ¬ PadDue s) (hp : s.pending.length ≠ 0 ∧ io.availOut ≠ 0)
      (he : injectFlushOrPushOutput s io = .ok (pushSt s (min s.pending.length io.availOut),
            pushIo s io (min s.pending.length io.availOut), true)) :
      Atom o op s io .push (pushSt s (min s.pending.length io.availOut)) (pushIo s io (min s.pending.length io.availOut))
  | enc {k site : Nat} {il ff : Bool} {s2 : St} {req : Req} {st : SState} (hE : EncSite op s io site k il ff st)
      (hI : Inv (s.hint k)) (hpend : s.pending = [])
      -- `hfr`: `s2` differs from `s.hint k` only in the fields `encode_data` writes
      (he : encodeData o (s.hint k) site il ff = .ok (s2, true, req)) (hfr : s2 = (s.hint k).withEnc s2) :
      Atom o op s io (encEv o (s.hint k) site il ff) { s2 with streamState := st } { io with reqs := io.reqs ++ [req] }
  | flushed (hop : op ≤ 2) (hrm : s.remainingMetadata = u32Max) (hnp : ¬ PadDue s) (hz : io.availIn = 0)
      (hfl : s.streamState = .flushRequested) (hp : s.pending.length = 0) :
      Atom o op s io (.tau 0) { s with streamState := .processing, nextOut := .none } io
  | idle (hop : op ≤ 2) (hrm : s.remainingMetadata = u32Max) (hnp : ¬ PadDue s)
      (hfl : s.streamState ≠ .processing → io.availIn = 0)
      (hn : ¬ (s.streamState = .flushRequested ∧ s.pending.length = 0)) : Atom o op s io (.tau 0) s io
  | fastFlush (hfm : fastMode s.params) (hrm : s.remainingMetadata = u32Max)
      (hnp : ¬ PadDue s) (hpend : s.pending = [])
      (hst : s.streamState = .processing) (hop1 : op = 1) (hz : io.availIn = 0) :
      Atom o op s io (.tau 1) { s with streamState := .flushRequested } io
  | fastBlock {ss : Nat} (hfm : fastMode s.params) (hop : op ≤ 2) (hrm : s.remainingMetadata = u32Max)
      (hnp : ¬ PadDue s) (hpend : s.pending = [])
      (hst : s.streamState = .processing) (hgo : io.availIn ≠ 0 ∨ op ≠ 0)
      (hnf : ¬ ((fastReq op s io).forceFlush = true ∧ fastBs s io = 0))
      (hss : s.storageSize ≤ ss ∧ (fastInplace s io = false → fastMaxOut s io ≤ ss))
      (hcap : ¬ (if fastInplace s io then io.availOut else ss) < 2) (hin : ¬ fastBs s io > io.input.length)
      (hfit : ¬ (s.lastBytesBits + (o s.nEnc (fastReq op s io)).bits.length) / 8 + 2 >
                (if fastInplace s io then io.availOut else ss)) :
      Atom o op s io (.fast s.nEnc (fastReq op s io))
        (fastSt { s with storageSize := ss } (o s.nEnc (fastReq op s io)) (fastInplace s io) (fastReq op s io).isLast
          (fastReq op s io).forceFlush)
        (fastIo { s with storageSize := ss } io (o s.nEnc (fastReq op s io)) (fastReq op s io) (fastBs s io) (fastInplace s io))
  | mdEnter {rm : Nat} {st : SState} (hop : op = 3)
      (hentry : (s.remainingMetadata ≠ u32Max ∧ io.availIn = s.remainingMetadata) ∨
                (s.remainingMetadata = u32Max ∧ s.streamState = .processing ∧ io.availIn ≤ 16777216))
      (hmv : (s.streamState = .processing ∧ rm = io.availIn % two32 ∧ st = .metadataHead) ∨
             (s.streamState ≠ .processing ∧ rm = s.remainingMetadata ∧ st = s.streamState)) :
      Atom o op s io (.tau 2)
        { s.hint (updateSizeHint s 0).params.sizeHint with remainingMetadata := rm, streamState := st } io
  | mdHead {n : Nat} (hM : MdInv n s io) (hop : op = 3) (hpend : s.pending = [])
      (hlf : s.inputPos = s.lastFlushPos) (hst : s.streamState = .metadataHead)
      (hok : ¬ (s.carry.length + 6) / 8 + 8 > 16) :
      Atom o op s io (.mdHeader s.remainingMetadata s.lastBytesBits) (mdHeadSt s) io
  | mdDone {n : Nat} (hM : MdInv n s io) (hop : op = 3) (hpend : s.pending = [])
      (hlf : s.inputPos = s.lastFlushPos) (hst : s.streamState = .metadataBody) (hz : s.remainingMetadata = 0) :
      Atom o op s io (.tau 3) (mdDoneSt s) io
  | mdOut {n : Nat} (hM : MdInv n s io) (hop : op = 3) (hpend : s.pending = [])
      (hlf : s.inputPos = s.lastFlushPos) (hst : s.streamState = .metadataBody) (hnz : s.remainingMetadata ≠ 0)
      (hao : io.availOut ≠ 0) (hle : ¬ mdOutN s io > io.input.length) :
      Atom o op s io (.mdBody (io.input.take (mdOutN s io))) (mdOutSt s io) (mdOutIo s io)
  | mdTiny {n : Nat} (hM : MdInv n s io) (hop : op = 3) (hpend : s.pending = [])
      (hlf : s.inputPos = s.lastFlushPos) (hst : s.streamState = .metadataBody) (hnz : s.remainingMetadata ≠ 0)
      (hao : io.availOut = 0) (hle : ¬ mdTinyN s > io.input.length) :
      Atom o op s io (.mdBody (io.input.take (mdTinyN s))) (mdTinySt s io) (mdTinyIo s io)

theorem Step.effect {o : Oracle} {op : Nat} {s s' : St} {io io' : Io} {e : Ev} (h : Step o op (s, io) e (s', io')) :
    (IsFresh s ∧ e = .window (ensureInitialized s).carry ∧ s' = ensureInitialized s ∧ io' = io) ∨
    (Inv s ∧ Atom o op s io e s' io') := by
  cases h with
  | init hf => exact Or.inl ⟨hf, rfl, rfl, rfl⟩
  | copy hI hw hop hnf hst hrm hc hn h =>
    have hlen : (io.input.take (copyN s io)).length = copyN s io := by rw [List.length_take]; omega
    have hlt : s.inputPos + copyN s io < two64 := by
      have : copyN s io ≤ io.availIn := Nat.min_le_right _ _
      omega
    have e1 := copy_eq hI.init h
    rw [hlen, Nat.mod_eq_of_lt hlt] at e1
    rw [e1] at h ⊢
    exact Or.inr ⟨hI, .copy hw hop hnf hst hrm hc hn h⟩
  | pad hI hc hz h =>
    obtain ⟨nx, rfl⟩ := pad_result h
    exact Or.inr ⟨hI, .pad hc hz h⟩
  | push hI hc h =>
    rcases push_ok h with ⟨hp, _⟩ | ⟨_, hq, rfl, rfl, _⟩ | ⟨_, _, _, _, hb⟩
    · exact absurd hp hc
    · exact Or.inr ⟨hI, .push hc hq h⟩
    · cases hb
  | encSlow hI hop hnf hrm hnc hnp hpend hst hgo h =>
    rename_i s2 req
    rw [markAfterEncode_eq]
    have hfr := encodeData_withEnc h
    have hst2 : s2.streamState = s.streamState := by
      rw [hfr, updateSizeHint_eq]; rfl
    rw [hst2]
    have hI2 := inv_updateSizeHint hI io.availIn
    have hev : encEv o (updateSizeHint s io.availIn) 0 (slowIl op io) (slowFf op io) =
        encEv o (s.hint (updateSizeHint s io.availIn).params.sizeHint) 0 (slowIl op io) (slowFf op io) := by
      rw [← updateSizeHint_eq]
    rw [hev]
    rw [updateSizeHint_eq] at h hI2 hfr
    exact Or.inr ⟨hI, .enc (.main hop hnf hrm hnc hnp hst hgo) hI2 hpend h hfr⟩
  | cfc hI hop hrm hnp hfl =>
    by_cases hc : s.streamState = .flushRequested ∧ s.pending.length = 0
    · have : checkFlushComplete s = { s with streamState := .processing, nextOut := .none } := by
        unfold checkFlushComplete; rw [if_pos hc]
      rw [this]
      exact Or.inr ⟨hI, .flushed hop hrm hnp (hfl (by rw [hc.1]; simp)) hc.1 hc.2⟩
    · have : checkFlushComplete s = s := by unfold checkFlushComplete; rw [if_neg hc]
      rw [this]
      exact Or.inr ⟨hI, .idle hop hrm hnp hfl hc⟩
  | fastFlush hI hfm hrm hnp hpend hst hop1 hz => exact Or.inr ⟨hI, .fastFlush hfm hrm hnp hpend hst hop1 hz⟩
  | fastBlock hI hfm hop hrm hnp hpend hst hgo hnf hcap hin hfit =>
    obtain ⟨_, _, _, _, _, _, _, _, _, hStorageGrow, hStorageFit⟩ := fastStorage_frame s (fastInplace s io) (fastMaxOut s io)
    have e1 : fastS1 s io = { s with storageSize := (fastS1 s io).storageSize } := by
      unfold fastS1 fastStorage
      split
      · rfl
      · exact growStorage_eq _ _
    have hcp : fastCap (fastS1 s io) io (fastInplace s io) =
        if fastInplace s io then io.availOut else (fastS1 s io).storageSize := rfl
    rw [hcp] at hcap hfit
    have : ((fastRes o op s io).1, (fastRes o op s io).2) =
        (fastSt { s with storageSize := (fastS1 s io).storageSize } (o s.nEnc (fastReq op s io)) (fastInplace s io)
            (fastReq op s io).isLast (fastReq op s io).forceFlush,
         fastIo { s with storageSize := (fastS1 s io).storageSize } io (o s.nEnc (fastReq op s io)) (fastReq op s io)
            (fastBs s io) (fastInplace s io)) := by
      rw [fastRes_eq, fastEncode_eq, ← e1]
    have h1 := congrArg Prod.fst this
    have h2 := congrArg Prod.snd this
    simp only at h1 h2
    rw [h1, h2]
    exact Or.inr ⟨hI, .fastBlock hfm hop hrm hnp hpend hst hgo hnf ⟨hStorageGrow, hStorageFit⟩ hcap hin hfit⟩
  | mdEnter hI hop hentry =>
    rw [updateSizeHint_eq]
    generalize hk : (updateSizeHint s 0).params.sizeHint = k
    by_cases hp : s.streamState = .processing
    · have : BV.Stream.mdEnter (s.hint k) io.availIn =
          { s.hint k with remainingMetadata := io.availIn % two32, streamState := .metadataHead } := if_pos hp
      rw [this, ← hk]
      exact Or.inr ⟨hI, .mdEnter hop hentry (Or.inl ⟨hp, rfl, rfl⟩)⟩
    · have : BV.Stream.mdEnter (s.hint k) io.availIn =
          { s.hint k with remainingMetadata := s.remainingMetadata, streamState := s.streamState } := if_neg hp
      rw [this, ← hk]
      exact Or.inr ⟨hI, .mdEnter hop hentry (Or.inr ⟨hp, rfl, rfl⟩)⟩
  | mdEnc hM hop hpend hne h =>
    have hfr := encodeData_withEnc h
    have hs : s = s.hint s.params.sizeHint := rfl
    rw [hs] at h hfr
    have hst2 : s' = { s' with streamState := s.streamState } := by
      conv => lhs; rw [hfr]
      rw [hfr]; rfl
    rw [hst2]
    exact Or.inr ⟨hM.inv, .enc (.md hM hop hne) hM.inv hpend h hfr⟩
  | mdHead hM hop hpend hlf hst hok => exact Or.inr ⟨hM.inv, .mdHead hM hop hpend hlf hst hok⟩
  | mdDone hM hop hpend hlf hst hz => exact Or.inr ⟨hM.inv, .mdDone hM hop hpend hlf hst hz⟩
  | mdOut hM hop hpend hlf hst hnz hao hle => exact Or.inr ⟨hM.inv, .mdOut hM hop hpend hlf hst hnz hao hle⟩
  | mdTiny hM hop hpend hlf hst hnz hao hle => exact Or.inr ⟨hM.inv, .mdTiny hM hop hpend hlf hst hnz hao hle⟩

theorem mdEnter_params (s : St) (n : Nat) : (mdEnter s n).params = s.params := by
  unfold mdEnter
  split <;> rfl

theorem fastStorage_params (s : St) (ip : Bool) (n : Nat) : (fastStorage s ip n).params = s.params :=
  (St.frame_eq (fastStorage_frame s ip n).1).params

/-- what the dispatch and the quality class depend on -/
def St.mode (s : St) : Int × Bool × Bool := (s.params.quality, s.params.catable, s.params.magic)

theorem fastMode_of_mode {s s' : St} (h : s'.mode = s.mode) : fastMode s'.params ↔ fastMode s.params := by
  unfold St.mode at h
  simp only [Prod.mk.injEq] at h
  unfold fastMode
  rw [h.1, h.2.1, h.2.2]

theorem step_mode {o : Oracle} {op : Nat} {s s' : St} {io io' : Io} {e : Ev}
    (h : Step o op (s, io) e (s', io')) (hi : s.isInitialized = true) : s'.mode = s.mode := by
  rcases h.effect with ⟨hf, _⟩ | ⟨_, ha⟩
  · rw [isFreshInit hf] at hi; cases hi
  · cases ha with
    | enc _ _ _ _ hfr => rw [hfr]; rfl
    | _ => rfl

/-- the carry stays below 15 bits: the stream header has at most 14, everything else leaves fewer than 8 or none
(configurations as pairs: the shape `call_induct` takes) -/
theorem step_lbb {o : Oracle} {op : Nat} (c : St × Io) (e : Ev) (c1 : St × Io)
    (hl : c.1.lastBytesBits ≤ 14) (hs : Step o op c e c1) : c1.1.lastBytesBits ≤ 14 := by
  obtain ⟨s, io⟩ := c
  obtain ⟨s1, io1⟩ := c1
  rcases hs.effect with ⟨hf, _, rfl, _⟩ | ⟨_, ha⟩
  · exact ensureInitialized_lbb _ (isFreshInit hf)
  · cases ha with
    | pad => exact Nat.zero_le _
    | enc _ _ _ he =>
      rcases encodeData_lbb he with h8 | h8
      · exact Nat.le_trans (Nat.le_of_lt h8) (by decide)
      · exact h8 ▸ hl
    | fastBlock => exact Nat.le_trans (Nat.le_of_lt (carryOf_lt _).2) (by decide)
    | mdHead => exact Nat.zero_le _
    | _ => exact hl

end BV.Stream
