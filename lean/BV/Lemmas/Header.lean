/-
The header model (`BV/Model/Header.lean`) for C15: parameter sanitising, the window bits and their RFC reading.
The statements unfold the literals harvested from the Rust source (`BV.Gen.lits_*`): a changed constant in `/repo`
re-checks these proofs.
-/
import BV.Model.Header
import BV.Lemmas.HeaderSpec

namespace BV.Header
open BV.Bits BV.HeaderSpec

theorem clamp_eq (lgwin : Int) (large : Bool) :
    (if lgwin < 10 then 10 else if lgwin > 24 then
        if large then (if lgwin > 30 then 30 else lgwin) else 24 else lgwin)
      = max 10 (min (if large then 30 else 24) lgwin) := by
  cases large <;> simp only [Bool.false_eq_true, if_true, if_false] <;> omega

/-- about `BV.Header.sanitizeParams`, the header model's `SanitizeParams` (`ok`: large windows allowed by the build).
The stream machine carries its own copy, `BV.Stream.sanitize`, with a lemma of the same name beside it (StreamRunFrame) -/
theorem sanitize_lgwin_eq (ok : Bool) (p : Params) :
    (sanitizeParams ok p).lgwin = max 10 (min (if p.largeWindow && ok then 30 else 24) p.lgwin) :=
  clamp_eq p.lgwin (p.largeWindow && ok)

theorem sanitize_lgwin (p : Params) :
    (sanitizeParams true p).lgwin = max 10 (min (if p.largeWindow then 30 else 24) p.lgwin) := by
  rw [sanitize_lgwin_eq, Bool.and_true]

theorem sanitize_lgwin_no_large (p : Params) :
    (sanitizeParams false p).lgwin = max 10 (min 24 p.lgwin) := by
  rw [sanitize_lgwin_eq, Bool.and_false]; rfl

theorem sanitize_quality (ok : Bool) (p : Params) :
    (sanitizeParams ok p).quality = min 11 (max 0 p.quality) := by
  simp only [sanitizeParams, lit, litsSan, BV.Gen.lits_SanitizeParams, List.getD_cons_zero, List.getD_cons_succ]
  simp

theorem sanitizeParams_eq (ok : Bool) (p : Params) :
    sanitizeParams ok p = { p with quality := min 11 (max 0 p.quality),
                                   lgwin := max 10 (min (if p.largeWindow && ok then 30 else 24) p.lgwin),
                                   appendable := p.appendable || p.catable } := by
  have hq := sanitize_quality ok p
  have hl := sanitize_lgwin_eq ok p
  unfold sanitizeParams at hq hl ⊢
  simp only [] at hq hl ⊢
  rw [hq, hl]
  cases p.catable <;> cases p.appendable <;> rfl

/-- the range in which `EncodeWindowBits` is called: its `i32` subtractions and
shifts are exact there -/
theorem sanitized_lgwin_range (p : Params) :
    10 ≤ (sanitizeParams true p).lgwin ∧ (sanitizeParams true p).lgwin ≤ 30 ∧
    (p.largeWindow = false → (sanitizeParams true p).lgwin ≤ 24) := by
  rw [sanitize_lgwin]
  cases p.largeWindow <;> simp <;> omega

theorem init_params_lgwin (p : Params) :
    (ensureInitialized true p).params.lgwin = (sanitizeParams true p).lgwin := rfl

theorem init_params_quality (p : Params) :
    (ensureInitialized true p).params.quality = (sanitizeParams true p).quality := rfl

theorem init_params_large (p : Params) :
    (ensureInitialized true p).params.largeWindow = p.largeWindow := rfl

theorem header_lgwin (p : Params) :
    headerLgwin (ensureInitialized true p).params = clampWindow p.quality p.lgwin p.largeWindow := by
  show (if (sanitizeParams true p).quality = 0 ∨ (sanitizeParams true p).quality = 1
      then max (sanitizeParams true p).lgwin 18 else (sanitizeParams true p).lgwin) = _
  have hq : (min 11 (max 0 p.quality) = 0 ∨ min 11 (max 0 p.quality) = 1) ↔ p.quality ≤ 1 := by omega
  rw [sanitize_lgwin, sanitize_quality]
  simp only [hq]
  rfl

theorem clampWindow_range (q w : Int) (lw : Bool) :
    10 ≤ clampWindow q w lw ∧ clampWindow q w lw ≤ 30 ∧ (lw = false → clampWindow q w lw ≤ 24) := by
  unfold clampWindow
  dsimp only
  cases lw <;> simp only [Bool.false_eq_true, if_true, if_false, reduceCtorEq, false_implies, and_true, forall_const] <;>
    omega

/-- case by case and `rfl`, not `decide` over `Fin 31` as in `wbits_count` below: `rest` is free here, and `rfl` still
computes through the known prefix where `decide` has no instance to evaluate -/
theorem wbits_roundtrip_small (w : Nat) (h1 : 10 ≤ w) (h2 : w ≤ 24) (rest : List Bool) :
    readWbits (bitsOf (encodeWindowBits w false).2 (encodeWindowBits w false).1 ++ rest)
      = some (w, false, rest) := by
  have : w = 10 ∨ w = 11 ∨ w = 12 ∨ w = 13 ∨ w = 14 ∨ w = 15 ∨ w = 16 ∨ w = 17 ∨ w = 18 ∨ w = 19 ∨
      w = 20 ∨ w = 21 ∨ w = 22 ∨ w = 23 ∨ w = 24 := by omega
  rcases this with h | h | h | h | h | h | h | h | h | h | h | h | h | h | h <;> subst h <;> rfl

theorem wbits_roundtrip_large (w : Nat) (h1 : 10 ≤ w) (h2 : w ≤ 30) (rest : List Bool) :
    readWbits (bitsOf (encodeWindowBits w true).2 (encodeWindowBits w true).1 ++ rest)
      = some (w, true, rest) := by
  have : w = 10 ∨ w = 11 ∨ w = 12 ∨ w = 13 ∨ w = 14 ∨ w = 15 ∨ w = 16 ∨ w = 17 ∨ w = 18 ∨ w = 19 ∨
      w = 20 ∨ w = 21 ∨ w = 22 ∨ w = 23 ∨ w = 24 ∨ w = 25 ∨ w = 26 ∨ w = 27 ∨ w = 28 ∨ w = 29 ∨ w = 30 := by
    omega
  rcases this with h | h | h | h | h | h | h | h | h | h | h | h | h | h | h | h | h | h | h | h | h <;>
    subst h <;> rfl

theorem wbits_count (w : Nat) (h1 : 10 ≤ w) (h2 : w ≤ 30) (lw : Bool) :
    (encodeWindowBits w lw).2 =
      if lw then 14 else if w = 16 then 1 else if 18 ≤ w then 4 else 7 := by
  have all : ∀ (w : Fin 31) (lw : Bool), 10 ≤ w.val → (encodeWindowBits w.val lw).2 =
      if lw then 14 else if w.val = 16 then 1 else if 18 ≤ w.val then 4 else 7 := by decide
  exact all ⟨w, by omega⟩ lw h1

/-- `last_bytes_` has no bit above `last_bytes_bits_` (the two bytes put into the
storage carry nothing but the header) -/
theorem wbits_high_zero (w : Nat) (h1 : 10 ≤ w) (h2 : w ≤ 30) (lw : Bool) (h3 : lw = false → w ≤ 24) :
    (encodeWindowBits w lw).1 / 2 ^ (encodeWindowBits w lw).2 = 0 := by
  have all : ∀ (w : Fin 31) (lw : Bool), 10 ≤ w.val → (lw = false → w.val ≤ 24) →
      (encodeWindowBits w.val lw).1 / 2 ^ (encodeWindowBits w.val lw).2 = 0 := by decide
  exact all ⟨w, by omega⟩ lw h1 h3

theorem pending_eq (p : Params) :
    pendingWriter (ensureInitialized true p) =
      bitsOf (encodeWindowBits (clampWindow p.quality p.lgwin p.largeWindow) p.largeWindow).2
             (encodeWindowBits (clampWindow p.quality p.lgwin p.largeWindow) p.largeWindow).1 := by
  have h := header_lgwin p
  simp only [pendingWriter, ensureInitialized] at *
  rw [h]
  rfl

end BV.Header
