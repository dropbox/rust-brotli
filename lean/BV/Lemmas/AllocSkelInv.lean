import BV.Model.AllocSkel
import BV.Lemmas.LedgerJudge
/-!
The ledger-level reading of the skeleton semantics `BV.Skel.run`: along ANY path of ANY skeleton the judge's
live set is exactly the blocks held by tracked places plus the blocks lost, and nothing bad is recorded.  This
needs no checker.  `SInv s` is a structure of its own with the five fields of the ledger invariant `BV.Ledger.Books`,
taken at `s.log`, `s.next`, `s.m8`, `s.held`, `s.lost`; `SInv.books` and `Books.sinv` pass between the two, and every
operation of the path semantics is one of the three moves of `Books` (`repartition`, `alloc`, `free`).  With `chk_sound`
it turns `skeleton_balanced` into a statement about alloc / free EVENTS (`skeleton_balanced_events`; both in
Props/C09Skel, whose statements name `SInv`).
-/
namespace BV.Skel
open BV.Ledger

structure SInv (s : St) : Prop where
  bad : (judge s.log).bad = 0
  live : ∀ b, (judge s.log).live.count b = s.held.count b + s.lost.count b
  ser : ∀ b ∈ (judge s.log).seen, b.n < s.next
  nodup : (judge s.log).live.Nodup
  own : ∀ b, 0 < s.held.count b → b.alloc = s.m8

theorem count_split (l : List (Var × BlockId)) (p q : Var × BlockId → Bool) (hq : ∀ x, q x = !p x) (b : BlockId) :
    ((l.filter p).map (·.2)).count b + ((l.filter q).map (·.2)).count b = (l.map (·.2)).count b := by
  induction l with
  | nil => simp
  | cons x xs ih =>
    simp only [List.filter_cons, hq x, List.map_cons, List.count_cons]
    cases hp : p x <;> simp [List.count_cons] <;> omega

theorem at_without (s : St) (v : Var) (b : BlockId) :
    (s.at v).count b + ((s.without v).map (·.2)).count b = s.held.count b := by
  have := count_split s.store (fun p => decide (p.1 = v)) (fun p => decide (p.1 ≠ v)) (by intro x; simp) b
  simpa [St.at, St.without, St.held] using this

theorem SInv.books {s : St} (h : SInv s) : Books s.log s.next s.m8 s.held s.lost :=
  ⟨h.bad, h.live, h.ser, h.own⟩

theorem _root_.BV.Ledger.Books.sinv {s : St} {log : List Ev} {next m8 : Nat} {held lost : List BlockId}
    (h : Books log next m8 held lost) (hlog : s.log = log := by rfl) (hnext : s.next = next := by rfl)
    (hm8 : s.m8 = m8 := by rfl) (hheld : s.held = held := by rfl) (hlost : s.lost = lost := by rfl) : SInv s := by
  subst hlog hnext hm8 hheld hlost
  exact ⟨h.bad, h.live, h.ser, (judge_wf _).nodup, h.own⟩

theorem SInv.doAlloc {s : St} (h : SInv s) (v : Var) (nz : Bool) : SInv (doAlloc s v nz) := by
  have hb := h.books.repartition (held' := (s.without v).map (·.2)) (lost' := s.lost ++ s.at v)
    (fun b => by rw [List.count_append, ← at_without s v b]; omega)
    (fun b => Nat.le.intro ((Nat.add_comm ..).trans (at_without s v b)))
  cases nz with
  | false => exact hb.sinv
  | true =>
    exact (hb.alloc 1 (held' := (s.without v ++ [(v, (⟨s.m8, s.next⟩ : BlockId))]).map (·.2)) fun b => by
      rw [List.map_append, List.count_append]; rfl).sinv

theorem SInv.doFree {s : St} (h : SInv s) (v : Var) : SInv (doFree s v) :=
  (h.books.free (s.at v) (held' := (s.without v).map (·.2)) fun b =>
    (Nat.add_comm ..).trans (at_without s v b)).sinv

theorem SInv.doMove {s : St} (h : SInv s) (src dst : Var) : SInv (doMove s src dst) := by
  by_cases he : src = dst
  · rw [BV.Skel.doMove, if_pos he]; exact h
  · have hsplit := count_split s.store (fun p => isPre dst p.1) (fun p => !isPre dst p.1) (fun _ => rfl)
    rw [BV.Skel.doMove, if_neg he]
    refine (h.books.repartition (held' := (s.store.filter (fun p => !isPre dst p.1)).map (·.2))
      (lost' := s.lost ++ (s.store.filter (fun p => isPre dst p.1)).map (·.2)) (fun b => ?_)
      (fun b => Nat.le.intro ((Nat.add_comm ..).trans (hsplit b)))).sinv (hheld := ?_)
    · rw [List.count_append, St.held, ← hsplit b]; omega
    · simp only [St.held, List.map_map]; rfl

theorem SInv.doExit {s : St} (h : SInv s) (tag : Nat) : SInv (doExit s tag) := by
  have hsplit := count_split s.store (fun p => decide (p.1.head? = some tag))
    (fun p => decide (p.1.head? ≠ some tag)) (by intro x; simp)
  refine (h.books.repartition (held' := (s.store.filter (fun p => decide (p.1.head? ≠ some tag))).map (·.2))
    (lost' := s.lost ++ (s.store.filter (fun p => decide (p.1.head? = some tag))).map (·.2)) (fun b => ?_)
    (fun b => Nat.le.intro ((Nat.add_comm ..).trans (hsplit b)))).sinv
  rw [List.count_append, St.held, ← hsplit b]; omega

theorem run_induct (R : St → St → Prop) (hrefl : ∀ s, R s s) (htrans : ∀ {a b c}, R a b → R b c → R a c)
    (halloc : ∀ s v nz, R s (doAlloc s v nz)) (hfree : ∀ s v, R s (doFree s v))
    (hmove : ∀ s a b, R s (doMove s a b)) (hexit : ∀ s tag, R s (doExit s tag)) (sk : Sk) :
    ∀ (s : St) (sc : List Nat), R s (run sk (s, sc)).st := by
  induction sk with
  | alloc ty v => exact fun s sc => halloc s v _
  | free ty v => exact fun s sc => hfree s v
  | move a b => exact fun s sc => hmove s a b
  | seq a b iha ihb =>
    intro s sc
    simp only [BV.Skel.run]
    split
    · exact iha s sc
    · exact htrans (iha s sc) (ihb _ _)
  | alt a b iha ihb =>
    intro s sc
    simp only [BV.Skel.run]
    split
    · exact iha _ _
    · exact ihb _ _
  | loop b ihb =>
    intro s sc
    simp only [BV.Skel.run]
    generalize sc.headD 0 = n
    generalize sc.tail = sc
    induction n generalizing s sc with
    | zero => exact hrefl s
    | succ n ih =>
      simp only [BV.Skel.iter]
      split
      · exact ihb s sc
      · exact htrans (ihb s sc) (ih _ _)
  | scope tag b ihb => exact fun s sc => htrans (ihb s sc) (hexit _ tag)
  | _ => exact fun s sc => hrefl s

theorem SInv.run (sk : Sk) : ∀ (s : St) (sc : List Nat), SInv s → SInv (run sk (s, sc)).st :=
  run_induct (fun s s' => SInv s → SInv s') (fun _ h => h) (fun h1 h2 h => h2 (h1 h))
    (fun _ v nz h => h.doAlloc v nz) (fun _ v h => h.doFree v) (fun _ a b h => h.doMove a b)
    (fun _ tag h => h.doExit tag) sk

theorem run_log_prefix (sk : Sk) : ∀ (s : St) (sc : List Nat), ∃ evs, (run sk (s, sc)).st.log = s.log ++ evs := by
  refine run_induct (fun s s' => ∃ evs, s'.log = s.log ++ evs) (fun _ => ⟨[], by simp⟩) ?_ ?_ (fun _ _ => ⟨_, rfl⟩)
    ?_ (fun _ _ => ⟨[], by simp [BV.Skel.doExit]⟩) sk
  · rintro _ _ _ ⟨e1, h1⟩ ⟨e2, h2⟩
    exact ⟨e1 ++ e2, by rw [h2, h1, List.append_assoc]⟩
  · intro s v nz
    cases nz
    · exact ⟨[], by simp [BV.Skel.doAlloc]⟩
    · exact ⟨[Ev.alloc ⟨s.m8, s.next⟩], by simp [BV.Skel.doAlloc]⟩
  · intro s a b
    exact ⟨[], by unfold BV.Skel.doMove; split <;> simp⟩

theorem SInv.init (m8 : Nat) : SInv { m8 := m8 } := by
  refine ⟨rfl, ?_, ?_, ?_, ?_⟩ <;> simp [judge, St.held]

end BV.Skel
