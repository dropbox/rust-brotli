/-
For C02 `ranges_tile`: the pieces `[i*n/t, (i+1)*n/t)` tile `[0, n)`.
-/
import BV.Model.Multi

namespace BV.Lemmas.Multi
open BV.Multi BV.Multi.Res

/-- the boundary function of `get_range` -/
def bnd (t n k : Nat) : Nat := k * n / t

theorem bnd_zero (t n : Nat) : bnd t n 0 = 0 := by simp [bnd]

theorem bnd_top (t n : Nat) (ht : 0 < t) : bnd t n t = n := by
  unfold bnd; rw [Nat.mul_comm]; exact Nat.mul_div_cancel n ht

theorem bnd_mono (t n : Nat) {a b : Nat} (h : a ≤ b) : bnd t n a ≤ bnd t n b :=
  Nat.div_le_div_right (Nat.mul_le_mul_right n h)

theorem bnd_le (t n k : Nat) (ht : 0 < t) (hk : k ≤ t) : bnd t n k ≤ n := by
  have := bnd_mono t n hk
  rwa [bnd_top t n ht] at this

theorem mul_lt_of_lt (i t n : Nat) (hi : i < t) (hnt : n * t < U64) : (i + 1) * n < U64 ∧ i * n < U64 := by
  have h1 : (i + 1) * n ≤ t * n := Nat.mul_le_mul_right n hi
  have h2 : i * n ≤ (i + 1) * n := Nat.mul_le_mul_right n (Nat.le_succ i)
  have h3 : t * n = n * t := Nat.mul_comm t n
  omega

/-- `t = alloc_per_thread.len()` is a `usize` -/
theorem getRange_eq (i t n : Nat) (hi : i < t) (ht64 : t < U64) (hnt : n * t < U64) :
    getRange i t n = ok (bnd t n i, bnd t n (i + 1)) := by
  obtain ⟨h1, h2⟩ := mul_lt_of_lt i t n hi hnt
  have ht : t ≠ 0 := by omega
  unfold getRange
  rw [if_neg (by omega), if_neg ht, if_neg (by omega), if_neg (by omega)]
  rfl

theorem getRangeWrap_eq (i t n : Nat) (hi : i < t) (ht64 : t < U64) (hnt : n * t < U64) :
    getRangeWrap i t n = ok (bnd t n i, bnd t n (i + 1)) := by
  obtain ⟨h1, h2⟩ := mul_lt_of_lt i t n hi hnt
  have ht : t ≠ 0 := by omega
  unfold getRangeWrap
  rw [if_neg ht, Nat.mod_eq_of_lt h2, Nat.mod_eq_of_lt (show i + 1 < U64 by omega), Nat.mod_eq_of_lt h1]
  rfl

theorem pieces_prefix {α : Type} (l : List α) (t n : Nat) :
    ∀ k, ((List.range k).flatMap fun i => (l.drop (bnd t n i)).take (bnd t n (i + 1) - bnd t n i))
      = l.take (bnd t n k) := by
  intro k
  induction k with
  | zero => simp [bnd_zero]
  | succ k ih =>
    rw [List.range_succ, List.flatMap_append, ih]
    simp only [List.flatMap_cons, List.flatMap_nil, List.append_nil]
    have hm : bnd t n k ≤ bnd t n (k + 1) := bnd_mono t n (Nat.le_succ k)
    have e : bnd t n (k + 1) = bnd t n k + (bnd t n (k + 1) - bnd t n k) := by omega
    conv => rhs; rw [e, List.take_add]

end BV.Lemmas.Multi
