/-
C14 `slices_tile`: which input ranges `encode_data` hands to the meta-block callback.  The stream model
(BV/Model/Stream.lean) treats the payload encoder as an oracle and does not mention the callback; the small
callback-invocation interface is defined here (`loggedSlices`: the logging sites of `encode_data` /
`WriteMetaBlockInternal` over the model's own `encPrelude` / `encPayload` case split).
-/
import BV.Lemmas.StreamStep
namespace BV.Slices
open BV.Stream BV.Bits

/-- an input range `[lo, hi)` handed to the meta-block callback as its `InputPair` -/
abbrev Slice := Nat × Nat

def Chain : List Slice → Nat → Nat → Prop
  | [], a, b => a = b
  | r :: rest, a, b => r.1 = a ∧ r.1 < r.2 ∧ Chain rest r.2 b

theorem chain_append : ∀ (xs ys : List Slice) (a b c : Nat), Chain xs a b → Chain ys b c → Chain (xs ++ ys) a c := by
  intro xs
  induction xs with
  | nil => intro ys a b c h1 h2; simp only [Chain] at h1; subst h1; exact h2
  | cons r xs ih =>
    intro ys a b c h1 h2
    obtain ⟨e1, e2, e3⟩ := h1
    exact ⟨e1, e2, ih ys _ b c e3 h2⟩

theorem chain_le : ∀ (xs : List Slice) (a b : Nat), Chain xs a b → a ≤ b := by
  intro xs
  induction xs with
  | nil => intro a b h; simp only [Chain] at h; omega
  | cons r xs ih =>
    intro a b h
    obtain ⟨e1, e2, e3⟩ := h
    have := ih _ _ e3
    omega

def cover (input : Bytes) (sl : List Slice) : Bytes :=
  (sl.map fun r => (input.drop r.1).take (r.2 - r.1)).flatten

theorem chain_cover (input : Bytes) : ∀ (xs : List Slice) (a b : Nat), Chain xs a b →
    cover input xs = (input.drop a).take (b - a) := by
  intro xs
  induction xs with
  | nil => intro a b h; simp only [Chain] at h; subst h; simp [cover]
  | cons r xs ih =>
    intro a b h
    obtain ⟨e1, e2, e3⟩ := h
    have hle := chain_le _ _ _ e3
    have := ih _ _ e3
    unfold cover at this ⊢
    simp only [List.map_cons, List.flatten_cons]
    rw [this, ← e1]
    have hsplit : b - r.1 = (r.2 - r.1) + (b - r.2) := by omega
    rw [hsplit, List.take_add, List.drop_drop]
    congr 3
    omega

/-! ### where `encode_data` reaches `LogMetaBlock` (the callback-invocation interface on top of the stream model)

`src/enc/encode.rs`, `encode_data` with `params.log_meta_block`:
* the catable prelude calls `store_uncompressed_meta_block(.., last_flush_pos_, .., n, .., suppress = false, callback)`:
  one slice `[last_flush_pos_, last_flush_pos_ + n)`, `n = min(2, bytes)`;
* quality 0/1 (`compress_fragment_*`) never reach the callback;
* when a meta-block is emitted, `WriteMetaBlockInternal(last_flush_pos_, input_pos_ − last_flush_pos_)` logs
  through exactly one of its paths (`wmbLogs`). -/

/-- slices logged by the three paths of `WriteMetaBlockInternal` for the range `[lf, hi)`; the two un-modelled
decisions are parameters: `shouldCompress` (`should_compress(..)`) and `fallback` (the compressed attempt came out
larger than `bytes + 4`, so the storage is rewound and the block stored raw with `suppress_meta_block_logging = true`).
Both branches of the last `if` are `[]` on purpose: the fallback logs nothing more, whichever way it goes. -/
def wmbLogs (lf hi : Nat) (shouldCompress fallback : Bool) : List Slice :=
  if hi - lf = 0 then []                                   -- `bytes == 0`: empty last meta-block, nothing logged
  else if !shouldCompress then [(lf, hi)]                  -- store_uncompressed_meta_block(.., suppress = false)
  else
    [(lf, hi)]                                             -- store_meta_block{,_fast,_trivial}: LogMetaBlock of the compressed attempt
      ++ (if fallback then [] else [])                     -- store_uncompressed_meta_block(.., suppress = TRUE): not logged again

theorem wmb_logs_once (lf hi : Nat) (sc fb : Bool) (h : lf < hi) : wmbLogs lf hi sc fb = [(lf, hi)] := by
  unfold wmbLogs
  rw [if_neg (by omega)]
  cases sc <;> cases fb <;> simp

def preludeSlices (s : St) (bytes : Nat) : List Slice :=
  if s.isFirstMb = .bothCatable then []
  else if !s.params.catable then []
  else if bytes ≠ 0 then [(s.lastFlushPos, s.lastFlushPos + min 2 bytes)]
  else []

def payloadSlices (s2 : St) (ans : Ans) (sc fb isLast forceFlush : Bool) : List Slice :=
  if s2.params.quality = 0 ∨ s2.params.quality = 1 then []
  else if !isLast ∧ !forceFlush ∧ !ans.emit then []
  else if !isLast ∧ s2.inputPos = s2.lastFlushPos then []
  else wmbLogs s2.lastFlushPos s2.inputPos sc fb

def restSlices (m : St × Writer × Nat) (ans : Ans) (sc fb : Bool) (bytes : Nat) (il ff : Bool) : List Slice :=
  preludeSlices m.1 bytes ++
    (match encPrelude m.1 m.2.1 m.2.2 bytes with
     | .ok (s2, _, _) => payloadSlices s2 ans sc fb il ff
     | _ => [])

def loggedSlices (o : Oracle) (sc fb : Bool) (s : St) (site : Nat) (il ff : Bool) : List Slice :=
  if s.isLastBlockEmitted then [] else if s.unprocessed > s.blockSize then []
  else restSlices (encMagic (encEntry s il) s.carry) (o s.nEnc (reqOf s site il ff)) sc fb (s.unprocessed % two32) il ff

theorem prelude_chain {s s2 : St} {w w2 : Writer} {hdr hdr2 bytes : Nat}
    (h : encPrelude s w hdr bytes = .ok (s2, w2, hdr2)) :
    Chain (preludeSlices s bytes) s.lastFlushPos s2.lastFlushPos := by
  unfold encPrelude at h
  unfold preludeSlices
  simp only at h
  by_cases h1 : s.isFirstMb = .bothCatable
  · rw [if_pos h1] at h ⊢; cases h; rfl
  rw [if_neg h1] at h ⊢
  by_cases h2 : (!s.params.catable) = true
  · rw [if_pos h2] at h ⊢; cases h; rfl
  rw [if_neg h2] at h ⊢
  by_cases h3 : bytes ≠ 0
  · rw [if_pos h3] at h ⊢
    split at h
    · cases h
    split at h
    · cases h
    cases h
    exact ⟨rfl, by show s.lastFlushPos < s.lastFlushPos + min 2 bytes; omega, rfl⟩
  · rw [if_neg h3] at h ⊢; cases h; rfl

theorem payload_chain {s2 s' : St} {ans : Ans} {w0 w : Writer} {hdr : Nat} {sc fb il ff res : Bool}
    (hq : 2 ≤ s2.params.quality) (hle : s2.lastFlushPos ≤ s2.inputPos)
    (h : encPayload s2 ans w0 w hdr il ff = .ok (s', res)) :
    Chain (payloadSlices s2 ans sc fb il ff) s2.lastFlushPos s'.lastFlushPos := by
  unfold encPayload at h
  unfold payloadSlices
  simp only at h
  have hq01 : ¬ (s2.params.quality = 0 ∨ s2.params.quality = 1) := by omega
  rw [if_neg hq01]
  by_cases hst : w.length / 8 + 2 > s2.storageSize
  · rw [if_pos hst] at h; cases h
  rw [if_neg hst, if_neg hq01] at h
  by_cases h1 : (!il ∧ !ff ∧ !ans.emit)
  · rw [if_pos h1] at h ⊢; cases h; rfl
  rw [if_neg h1] at h ⊢
  by_cases h2 : (!il ∧ s2.inputPos = s2.lastFlushPos)
  · rw [if_pos h2] at h ⊢; cases h; rfl
  rw [if_neg h2] at h ⊢
  split at h
  · cases h
  cases h
  show Chain (wmbLogs s2.lastFlushPos s2.inputPos sc fb) s2.lastFlushPos s2.inputPos
  by_cases hz : s2.lastFlushPos < s2.inputPos
  · rw [wmb_logs_once _ _ _ _ hz]; exact ⟨rfl, hz, rfl⟩
  · have : s2.inputPos = s2.lastFlushPos := by omega
    unfold wmbLogs; rw [if_pos (by omega), this]; rfl

theorem rest_chain {m : St × Writer × Nat} {ans : Ans} {w0 : Writer} {sc fb : Bool} {bytes : Nat} {il ff res : Bool} {s' : St}
    (hq : 2 ≤ m.1.params.quality) (hle : m.1.lastFlushPos + min 2 bytes ≤ m.1.inputPos)
    (h : encRest m ans w0 bytes il ff = .ok (s', res)) :
    Chain (restSlices m ans sc fb bytes il ff) m.1.lastFlushPos s'.lastFlushPos := by
  obtain ⟨s2, w, hdr, hp, h⟩ := encRest_ok h
  unfold restSlices
  rw [hp]
  have hf := (encPrelude_frame hp).frame
  replace hf := St.frame_eq hf
  have hle2 : s2.lastFlushPos ≤ s2.inputPos := by
    rcases encPrelude_pos hp with ⟨p1, _⟩ | ⟨p1, _⟩ <;> rw [p1, hf.inputPos] <;> omega
  exact chain_append _ _ _ _ _ (prelude_chain hp) (payload_chain (sc := sc) (fb := fb) (by rw [hf.params]; exact hq) hle2 h)

theorem logged_chain {o : Oracle} {sc fb : Bool} {s s' : St} {site : Nat} {il ff : Bool} {req : Req} (hI : Inv s)
    (hq : 2 ≤ s.params.quality) (h : encodeData o s site il ff = .ok (s', true, req)) :
    Chain (loggedSlices o sc fb s site il ff) s.lastFlushPos s'.lastFlushPos := by
  obtain ⟨_, hc⟩ := encodeData_ok_cases h
  rcases hc with ⟨_, hh, _⟩ | ⟨_, _, hh, _⟩ | ⟨h1, h2, hrest⟩
  · simp at hh
  · simp at hh
  · have m1 := (encMagic_frame (encEntry s il) s.carry).frame
    have m2 := (encMagic_frame (encEntry s il) s.carry).lastFlushPos
    have e1 := (encEntry_fields s il).1
    have e2 := (encEntry_fields s il).2.1
    have hm := m1.trans e1
    replace hm := St.frame_eq hm
    have mlf : (encMagic (encEntry s il) s.carry).1.lastFlushPos = s.lastFlushPos := m2.trans e2
    have hu : s.unprocessed = s.inputPos - s.lastProcessedPos := hI.unprocessed
    have hb : s.unprocessed % two32 ≤ s.unprocessed := Nat.mod_le _ _
    have hq' : 2 ≤ (encMagic (encEntry s il) s.carry).1.params.quality := by rw [hm.params]; exact hq
    have hip := hm.inputPos
    have hls : loggedSlices o sc fb s site il ff =
        restSlices (encMagic (encEntry s il) s.carry) (o s.nEnc (reqOf s site il ff)) sc fb (s.unprocessed % two32) il ff := by
      unfold loggedSlices
      simp only [h1, Bool.false_eq_true, if_false, h2]
    rw [hls, ← mlf]
    have h3 := hI.fl_le
    have h4 := hI.lp_le
    generalize s.unprocessed % two32 = b at hb hrest ⊢
    generalize o s.nEnc (reqOf s site il ff) = ans at hrest ⊢
    generalize encMagic (encEntry s il) s.carry = m at hrest hq' hip mlf ⊢
    exact rest_chain hq' (by omega) hrest

/-- `enc`: an `encode_data` invocation from any call site (`compress_stream`, `process_metadata`); `other`: every step that
does not touch `last_flush_pos_` (copying input into the ring buffer, pushing output, byte padding, metadata bytes,
`check_flush_complete`, a failed `encode_data`, marking the stream state) -/
inductive Hist (o : Oracle) : St → List Slice → St → Prop
  | start (s : St) : Hist o s [] s
  | enc {s0 s s' : St} {sl : List Slice} (sc fb : Bool) (site : Nat) (il ff : Bool) (req : Req) :
      Hist o s0 sl s → Inv s → 2 ≤ s.params.quality → encodeData o s site il ff = .ok (s', true, req) →
      Hist o s0 (sl ++ loggedSlices o sc fb s site il ff) s'
  | other {s0 s s' : St} {sl : List Slice} :
      Hist o s0 sl s → s'.lastFlushPos = s.lastFlushPos → Hist o s0 sl s'

theorem hist_chain {o : Oracle} {s0 s : St} {sl : List Slice} (h : Hist o s0 sl s) :
    Chain sl s0.lastFlushPos s.lastFlushPos := by
  induction h with
  | start => rfl
  | enc sc fb site il ff req _ hI hq he ih => exact chain_append _ _ _ _ _ ih (logged_chain hI hq he)
  | other _ he ih => rw [he]; exact ih

/-- mirrors the control flow of `slowStep` -/
def slowStepSlices (o : Oracle) (sc fb : Bool) (op : Nat) (s : St) (io : Io) : List Slice :=
  if remainingInputBlockSize s ≠ 0 ∧ io.availIn ≠ 0 then []
  else match injectFlushOrPushOutput s io with
    | .ok (s1, io1, false) =>
      if s1.pending.length = 0 ∧ s1.streamState = .processing ∧ (remainingInputBlockSize s = 0 ∨ op ≠ 0) then
        loggedSlices o sc fb (updateSizeHint s1 io1.availIn) 0 (decide (io1.availIn = 0 ∧ op = 2)) (decide (io1.availIn = 0 ∧ op = 1))
      else []
    | _ => []

def slowLoopSlices (o : Oracle) (sc fb : Bool) (op : Nat) : Nat → St → Io → List Slice
  | 0, _, _ => []
  | fuel + 1, s, io =>
    match slowStep o op s io with
    | .ok (s', io', .cont) => slowStepSlices o sc fb op s io ++ slowLoopSlices o sc fb op fuel s' io'
    | _ => slowStepSlices o sc fb op s io

theorem slowStep_hist {o : Oracle} {sc fb : Bool} {op : Nat} {s0 s s' : St} {sl : List Slice} {io io' : Io} {c : Ctl}
    (hH : Hist o s0 sl s) (hI : Inv s) (hq : 2 ≤ s.params.quality)
    (h : slowStep o op s io = .ok (s', io', c)) :
    Hist o s0 (sl ++ slowStepSlices o sc fb op s io) s' ∧ s'.params.quality = s.params.quality := by
  unfold slowStepSlices
  rcases slowStep_ok h with ⟨hc, _, hcp, _, _⟩ |
    ⟨hc, ⟨hp, _⟩ | ⟨hp, ⟨hcond, s2, res, req, he, _, hres⟩ | ⟨hcond, rfl, _, _⟩⟩⟩
  · obtain ⟨c1, _, _, _, _, c6, _⟩ := copy_fields hI.init hcp
    rw [if_pos hc, List.append_nil]
    exact ⟨Hist.other hH c6, by rw [c1]⟩
  · have fa := (push_frame hp).lastFlushPos
    have f := St.frame_eq (push_frame hp).frame
    rw [if_neg hc, hp, List.append_nil]
    exact ⟨Hist.other hH fa, by rw [f.params]⟩
  · rw [if_neg hc, hp]
    simp only
    rw [if_pos hcond]
    have hI2 := inv_updateSizeHint hI io.availIn
    obtain ⟨_, u2, _, _, _, _, _, _, u9, u10, _⟩ := updateSizeHint_fields s io.availIn
    rcases hres with ⟨rfl, _⟩ | ⟨rfl, rfl, _⟩
    · exact absurd (encodeData_succeeds hI2 (by rw [u9, hcond.2.1]; simp) he) (by simp)
    obtain ⟨fe, _⟩ := encodeData_frame he
    replace fe := St.frame_eq fe
    obtain ⟨k1, _, _, _, k5, _⟩ := markAfterEncode_fields s2 (decide (io.availIn = 0 ∧ op = 2)) (decide (io.availIn = 0 ∧ op = 1))
    exact ⟨Hist.other (Hist.enc sc fb 0 _ _ req (Hist.other hH u10) hI2 (by rw [u2]; exact hq) he) k5,
      by rw [k1, fe.params, u2]⟩
  · rw [if_neg hc, hp]
    simp only
    rw [if_neg hcond, List.append_nil]
    exact ⟨hH, trivial⟩

theorem slowLoop_hist {o : Oracle} {sc fb : Bool} {op : Nat} {c0 : SState} {n total : Nat} :
    ∀ (fuel : Nat) (s0 s s' : St) (sl : List Slice) (io io' : Io) (r : Bool),
      Hist o s0 sl s → SlowInv op c0 n total s io → 2 ≤ s.params.quality →
      slowLoop o op fuel s io = .ok (s', io', r) →
      Hist o s0 (sl ++ slowLoopSlices o sc fb op fuel s io) s' ∧ s'.params.quality = s.params.quality := by
  intro fuel
  induction fuel with
  | zero => intro s0 s s' sl io io' r _ _ _ h; simp [slowLoop] at h
  | succ k ih =>
    intro s0 s s' sl io io' r hH hP hq h
    unfold slowLoop at h
    unfold slowLoopSlices
    cases hs : slowStep o op s io with
    | panic => rw [hs] at h; cases h
    | fuel => rw [hs] at h; cases h
    | ok r1 =>
      obtain ⟨s1, io1, c⟩ := r1
      rw [hs] at h
      obtain ⟨h1, q1⟩ := slowStep_hist (sc := sc) (fb := fb) hH hP.inv hq hs
      obtain ⟨_, hP1⟩ := slowInv_step hP hs
      cases c with
      | fail =>
        cases h
        exact ⟨h1, q1⟩
      | cont =>
        simp only at h ⊢
        obtain ⟨h2, q2⟩ := ih s0 s1 s' _ io1 io' r h1 hP1 (by rw [q1]; exact hq) h
        exact ⟨by rw [← List.append_assoc]; exact h2, by rw [q2, q1]⟩
      | brk =>
        cases h
        exact ⟨Hist.other h1 (by rw [checkFlushComplete_eq]), by rw [checkFlushComplete_eq]; exact q1⟩

/-- `hflushed` is what FLUSH / FINISH establish (C01 `requests_tile_input`) -/
theorem slices_tile {o : Oracle} {s0 s : St} {sl : List Slice} (input : Bytes)
    (h : Hist o s0 sl s) (hflushed : s.lastFlushPos = s.inputPos) :
    Chain sl s0.lastFlushPos s.inputPos ∧
    cover input sl = (input.drop s0.lastFlushPos).take (s.inputPos - s0.lastFlushPos) := by
  have hc := hist_chain h
  rw [hflushed] at hc
  exact ⟨hc, chain_cover input sl _ _ hc⟩

end BV.Slices
