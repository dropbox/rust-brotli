import BV.Lemmas.StreamEnc
/-
The emitted bit stream: `bits(delivered bytes ++ pending bytes) ++ carry` (`emitted`; `CarryOK`: the carry is a proper
value).  Packing lemmas and what each primitive appends to it.  "Frame" here is the framing of the output; `Frame`,
`St.frame` and the `*Frame` structures of StreamBasic are the unchanged fields of the state, another matter.
-/
namespace BV.Stream
open BV.Bits

theorem bitsOf_byteOf (bs : List Bool) (h : 8 ≤ bs.length) : bitsOf 8 (byteOf bs) = bs.take 8 := by
  unfold byteOf
  have hl : (bs.take 8).length = 8 := by rw [List.length_take]; omega
  have := bitsOf_valOf (bs.take 8)
  rw [hl] at this
  exact this

theorem packBytes_whole : ∀ (q k : Nat) (w : List Bool), 8 * q ≤ w.length → w.length ≤ k →
    bytesBits ((packBytes k w).take q) = w.take (8 * q) := by
  intro q
  induction q with
  | zero => intro k w _ _; simp [bytesBits]
  | succ q ih =>
    intro k w h1 h2
    match k, w with
    | 0, w => simp at h2; subst h2; simp at h1
    | k + 1, [] => simp at h1
    | k + 1, b :: bs =>
      simp only [packBytes, List.take_succ_cons, bytesBits]
      have hlen : 8 ≤ (b :: bs).length := by omega
      rw [bitsOf_byteOf (b :: bs) hlen]
      have hd : 8 * q ≤ ((b :: bs).drop 8).length := by rw [List.length_drop]; simp only [List.length_cons] at h1 ⊢; omega
      have hk : ((b :: bs).drop 8).length ≤ k := by rw [List.length_drop]; simp only [List.length_cons] at h2 ⊢; omega
      rw [ih k ((b :: bs).drop 8) hd hk]
      rw [← List.take_add]
      congr 1
      omega

theorem bytesBits_wholeBytes (w : Writer) : bytesBits (wholeBytes w) = w.take (8 * (w.length / 8)) := by
  unfold wholeBytes toBytes
  exact packBytes_whole (w.length / 8) w.length w (by omega) (Nat.le_refl _)

theorem pack_unpack (w : Writer) :
    bytesBits (wholeBytes w) ++ bitsOf (carryOf w).2 (carryOf w).1 = w := by
  rw [bytesBits_wholeBytes]
  unfold carryOf
  simp only
  have hl : (w.drop (8 * (w.length / 8))).length = w.length % 8 := by
    rw [List.length_drop]; omega
  have := bitsOf_valOf (w.drop (8 * (w.length / 8)))
  rw [hl] at this
  rw [this, List.take_append_drop]

theorem carryOf_lt (w : Writer) : (carryOf w).1 < 2 ^ (carryOf w).2 ∧ (carryOf w).2 < 8 := by
  unfold carryOf
  simp only
  have hl : (w.drop (8 * (w.length / 8))).length = w.length % 8 := by
    rw [List.length_drop]; omega
  have := valOf_lt (w.drop (8 * (w.length / 8)))
  rw [hl] at this
  exact ⟨this, Nat.mod_lt _ (by omega)⟩

theorem packBytes_length : ∀ (k : Nat) (v : List Bool), v.length ≤ k → (packBytes k v).length = (v.length + 7) / 8 := by
  intro k
  induction k with
  | zero => intro v hv; simp at hv; subst hv; rfl
  | succ k ih =>
    intro v hv
    match v with
    | [] => rfl
    | b :: bs =>
      simp only [packBytes, List.length_cons]
      rw [ih _ (by rw [List.length_drop]; simp only [List.length_cons] at hv ⊢; omega)]
      rw [List.length_drop]
      simp only [List.length_cons]
      omega

theorem toBytes_length (w : Writer) : (toBytes w).length = (w.length + 7) / 8 :=
  packBytes_length w.length w (Nat.le_refl _)

theorem bytesBits_toBytes (w : Writer) (h : w.length % 8 = 0) : bytesBits (toBytes w) = w := by
  have hq : 8 * (w.length / 8) = w.length := by omega
  have h1 := bytesBits_wholeBytes w
  have : wholeBytes w = toBytes w := by
    unfold wholeBytes
    apply List.take_of_length_le
    rw [toBytes_length]; omega
  rw [this, hq, List.take_of_length_le (Nat.le_refl _)] at h1
  exact h1

def emitted (delivered : Bytes) (s : St) : List Bool := bytesBits (delivered ++ s.pending) ++ s.carry

theorem emitted_def (x : Bytes) (t : St) : emitted x t = bytesBits (x ++ t.pending) ++ bitsOf t.lastBytesBits t.lastBytes := rfl

def CarryOK (s : St) : Prop := s.lastBytes < 2 ^ s.lastBytesBits

theorem emitted_push {d : Bytes} {s s' : St} {io io' : Io} {b : Bool} (hst : s.streamState ≠ .flushRequested)
    (h : injectFlushOrPushOutput s io = .ok (s', io', b)) :
    emitted (d ++ io'.out) s' = emitted (d ++ io.out) s := by
  obtain ⟨hOut, _, _, hLastBytes, hLastBytesBits, _⟩ := push_conserve hst h
  unfold emitted St.carry
  rw [hLastBytes, hLastBytesBits, List.append_assoc, hOut, List.append_assoc]

theorem emitted_encPayload {d : Bytes} {s s' : St} {ans : Ans} {w0 w : Writer} {hdr : Nat} {il ff res : Bool}
    (h : encPayload s ans w0 w hdr il ff = .ok (s', res)) (hw : Coh' s w hdr) :
    emitted d s' = bytesBits d ++ w ++ (if encTakes s ans il ff then ans.bits.drop (w.drop w0.length).length else []) := by
  obtain ⟨_, _, hcase⟩ := encPayload_spec h
  rw [emitted_def]
  rcases hcase with ⟨ht, c1, c2, c3, _⟩ | ⟨ht, c1, c2, c3, _⟩
  · rw [ht, c1, c2, c3, bytesBits_append, List.append_assoc]
    simp only [Bool.false_eq_true, ↓reduceIte, List.append_nil]
    refine congrArg (fun x => bytesBits d ++ x) ?_
    rcases hw with ⟨e1, e2, e3⟩ | ⟨e1, e2⟩
    · rw [e1, e2, e3]
      have : (wholeBytes w).take (w.length / 8) = wholeBytes w := by
        apply List.take_of_length_le
        unfold wholeBytes; rw [List.length_take]; omega
      rw [this, pack_unpack]
    · rw [e1, List.take_zero, e2]; rfl
  · rw [ht, c1, c2, c3, bytesBits_append, List.append_assoc, pack_unpack]
    simp only [↓reduceIte]
    unfold payBits
    rw [List.append_assoc]

theorem emitted_encode {o : Oracle} {d : Bytes} {s s' : St} {site : Nat} {il ff : Bool} {req : Req}
    (h : encodeData o s site il ff = .ok (s', true, req)) (hpend : s.pending = []) :
    emitted d s' = emitted d s ++ ((encMid s il).2.drop s.carry.length ++
      (if encTakes (encMid s il).1 (o s.nEnc (reqOf s site il ff)) il ff
       then (o s.nEnc (reqOf s site il ff)).bits.drop ((encMid s il).2.drop s.carry.length).length else [])) := by
  obtain ⟨_, _, hdr, hM, hpay⟩ := encodeData_spec h
  have hem : emitted d s = bytesBits d ++ s.carry := by unfold emitted; rw [hpend, List.append_nil]
  rw [emitted_encPayload hpay hM.coh, hem, List.append_assoc, List.append_assoc, ← List.append_assoc s.carry, ← hM.skel]

end BV.Stream
