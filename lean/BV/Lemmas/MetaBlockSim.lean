import BV.Lemmas.MetaBlockCmd
/-!
C01 / meta-block writers: the data loop.  The literal loop of `StoreDataWithHuffmanCodes` over a ring
buffer that holds the meta-block bytes, read back by `readLiterals`.

The command loop: `StoreDataWithHuffmanCodes` on a command array that
satisfies `cmdOK` and `lockstep`, read by `readCommands`, is a run of C14's RFC decoder `decSteps` on the
same raw command array.
-/

namespace BV.MetaBlock
open BV.Gen BV.Bits BV.Huffman BV.PrefixArith BV.Recoder
open BV.Lemmas.HuffmanRead (takeBits_bitsOf)

/-- the writer's `pos` after `k` bytes of the meta-block (`wrapping_add` on `usize`) -/
def posOf (start k : Nat) : Nat := (start + k) % two64

theorem posOf_add (start k n : Nat) : (posOf start k + n) % two64 = posOf start (k + n) := by
  unfold posOf
  rw [Nat.mod_add_mod, Nat.add_assoc]

theorem posOf_zero (start : Nat) (h : start < two64) : posOf start 0 = start := by
  unfold posOf; rw [Nat.add_zero, Nat.mod_eq_of_lt h]

def RingHolds (ring : Bytes) (mask start : Nat) (mb : Bytes) : Prop :=
  ∀ k, k < mb.length → getAt ring (posOf start k &&& mask) = .ok (mb.getD k 0)

theorem drop_take_succ (l : List Nat) (k n : Nat) (h : k < l.length) :
    (l.drop k).take (n + 1) = l.getD k 0 :: (l.drop (k + 1)).take n := BV.drop_take_succ l k n 0 h

theorem storeLits_ok (ring : Bytes) (mask start : Nat) (mb : Bytes) (litD litB : List Nat) (lit : Code)
    (hR : RingHolds ring mask start mb) :
    ∀ (n k : Nat) (w : Writer), k + n ≤ mb.length → (∀ b ∈ (mb.drop k).take n, SymIO litD litB lit b) →
      ∃ lb, storeLits ring mask litD litB n (posOf start k) w = .ok (w ++ lb, posOf start (k + n)) ∧
        ∀ acc rest, readLiterals lit n acc (lb ++ rest) = some (acc ++ (mb.drop k).take n, rest) := by
  intro n
  induction n with
  | zero =>
    intro k w _ _
    refine ⟨[], by simp [storeLits], ?_⟩
    intro acc rest
    simp [readLiterals]
  | succ n ih =>
    intro k w hk hS
    have hk' : k < mb.length := by omega
    rw [drop_take_succ mb k n hk'] at hS
    obtain ⟨sb, hs, hr⟩ := hS (mb.getD k 0) (List.mem_cons_self ..)
    obtain ⟨lb, h1, h2⟩ := ih (k + 1) (w ++ sb) (by omega) (fun b hb => hS b (List.mem_cons_of_mem _ hb))
    refine ⟨sb ++ lb, ?_, ?_⟩
    · unfold storeLits
      rw [hR k hk', Out.bind_ok, hs w, Out.bind_ok, posOf_add, h1]
      rw [List.append_assoc, show k + 1 + n = k + (n + 1) by omega]
    · intro acc rest
      unfold readLiterals
      rw [List.append_assoc, hr]
      simp only
      rw [h2, drop_take_succ mb k n hk']
      simp

def litsOf (mb : Bytes) : Nat → List Cmd → List Nat
  | _, [] => []
  | k, c :: cs => (mb.drop k).take c.insertLen ++ litsOf mb (k + c.insertLen + copyLen c) cs

theorem readInsert_ok (lit cmd : Code) (mlen k : Nat) (out : Bytes) (c : Cmd) (ib ie cb ce : Nat)
    (sb lb rest : List Bool) (L : Bytes) (hf : CmdLens c ib ie cb ce)
    (hread : ∀ r, cmd.read (sb ++ r) = some (c.cmdPrefix, r)) (hk : c.insertLen ≤ mlen - k)
    (hlits : ∀ acc r, readLiterals lit c.insertLen acc (lb ++ r) = some (acc ++ L, r)) :
    readInsert lit cmd mlen k out
        (sb ++ ((bitsOf ie (c.insertLen - ib) ++ bitsOf ce (copyLenCode c.copyLenField - cb)) ++ (lb ++ rest)))
      = some (c.insertLen, copyLenCode c.copyLenField, (rfcCmdDecode c.cmdPrefix).2.2, out ++ L, rest) := by
  unfold readInsert
  rw [hread]
  simp only [show ¬ c.cmdPrefix ≥ 704 from Nat.not_le.mpr hf.sym, if_false, hf.insRow, hf.copyRow]
  rw [List.append_assoc, takeBits_bitsOf ie _ _ hf.ins_lt]
  simp only
  rw [takeBits_bitsOf ce _ _ hf.copy_lt]
  simp only
  rw [Nat.add_sub_cancel' hf.ib_le, Nat.add_sub_cancel' hf.cb_le, if_neg (by omega), hlits]
  simp

/-- discharges the hypothesis `inputPairCheck … = .ok ()` of the writer theorems (`trivial_core`, `fast_core`, `full_core`) -/
theorem inputPairCheck_ok_of_le (ring : Bytes) (start len mask : Nat) (hr : mask + 1 ≤ ring.length)
    (hl : len ≤ mask + 1) : inputPairCheck ring start len mask = .ok () := by
  have hm : start &&& mask ≤ mask := Nat.and_le_right
  have key : inputPairFromMaskedInput ring start len mask ≠ none := by
    unfold inputPairFromMaskedInput
    simp only
    by_cases hwrap : (start &&& mask) + len > mask + 1
    · rw [if_pos hwrap, if_pos ⟨by omega, by omega⟩]; simp
    · rw [if_neg hwrap, if_pos (by omega)]; simp
  unfold inputPairCheck
  cases h : inputPairFromMaskedInput ring start len mask with
  | none => exact absurd h key
  | some p => rfl

theorem inputPairCheck_ok (ring : Bytes) (start len mask : Nat) (hr : ring.length = mask + 1)
    (hl : len ≤ ring.length) : inputPairCheck ring start len mask = .ok () :=
  inputPairCheck_ok_of_le ring start len mask (by omega) (by omega)

theorem decStep_eq (wo : WordOracle) (np nd window : Nat) (mb : Bytes) (s : DecSt) (c : Cmd) :
    decStep wo np nd window mb s c =
      if mb.length - s.cursor = 0 then none else
      if c.insertLen > mb.length - s.cursor then none else
      if s.cursor + c.insertLen = mb.length then
        some { s with out := s.out ++ (mb.drop s.cursor).take c.insertLen, cursor := s.cursor + c.insertLen }
      else
        (applyCopy wo window np nd mb.length (s.cursor + c.insertLen) (copyLenCode c.copyLenField)
          (s.out ++ (mb.drop s.cursor).take c.insertLen) s.ring (c.distPrefix % 1024) c.distExtra).map
          fun r => ⟨r.2.out, r.2.ring, s.cursor + c.insertLen + r.1⟩ := by
  unfold decStep applyCopy
  refine ite_congr rfl (fun _ => rfl) fun _ => ite_congr rfl (fun _ => rfl) fun _ => ite_congr rfl (fun _ => rfl) fun _ => ?_
  rcases rfcDistance np nd s.ring (c.distPrefix % 1024) c.distExtra with _ | ⟨d, upd⟩
  · rfl
  · simp only [apply_ite (Option.map _), Option.map_none, Option.map_some]
    refine ite_congr rfl (fun _ => rfl) fun _ => ite_congr rfl (fun _ => rfl) fun _ => ite_congr rfl (fun _ => rfl) fun _ => ?_
    split <;> simp only [*, apply_ite (Option.map _), Option.map_none, Option.map_some]

theorem nbits_le (np nd ds extra : Nat) (h : ¬ ds < 16 + nd) (hlt : rfcDistDecode np nd ds extra < 2 ^ 31) :
    rfcDistNBits np nd ds ≤ 30 := by
  unfold rfcDistDecode at hlt
  simp only [h, if_false] at hlt
  generalize rfcDistNBits np nd ds = nb at *
  generalize (ds - nd - 16) / 2 ^ np % 2 = q at *
  generalize (ds - nd - 16) % 2 ^ np = r at *
  have h1 : 2 * 2 ^ nb ≤ (2 + q) * 2 ^ nb := Nat.mul_le_mul_right _ (by omega)
  have h2 : (2 + q) * 2 ^ nb - 4 + extra ≤ ((2 + q) * 2 ^ nb - 4 + extra) * 2 ^ np :=
    Nat.le_mul_of_pos_right _ (Nat.pow_pos (by decide))
  rcases Nat.lt_or_ge nb 31 with h3 | h3
  · omega
  · have h4 : 2 ^ 31 ≤ 2 ^ nb := Nat.pow_le_pow_right (by decide) h3
    generalize (2 + q) * 2 ^ nb = X at *
    generalize 2 ^ nb = Y at *
    have p31 : (2 : Nat) ^ 31 = 2147483648 := by decide
    rw [p31] at hlt h4
    omega

theorem takeBits_zero (bs : List Bool) : takeBits 0 bs = some (0, bs) := by
  simp [takeBits, valOf]

theorem distExtra_ok (A np nd : Nat) (c : Cmd) (hc : cmdOK A np nd c = true) (hcl : copyLen c ≠ 0) :
    ∃ xb, (∀ w, writeBits ((c.distPrefix / 1024) % 256) c.distExtra w = .ok (w ++ xb)) ∧
      (∀ rest, takeBits (if c.distPrefix % 1024 < 16 + nd then 0 else rfcDistNBits np nd (c.distPrefix % 1024))
        (xb ++ rest) = some (c.distExtra, rest)) ∧
      (c.cmdPrefix < 128 → c.distPrefix % 1024 = 0 ∧ c.distExtra = 0) := by
  have H := cmdOK_elim hc
  have hp16 := H.dp
  have hnb : c.distPrefix / 1024 % 256 = c.distPrefix / 1024 := Nat.mod_eq_of_lt (by omega)
  by_cases hshort : c.distPrefix % 1024 < 16 + nd
  · obtain ⟨h0, hx0⟩ := H.short hcl hshort
    refine ⟨[], fun w => ?_, fun rest => ?_, fun h128 => ⟨H.imp h128, hx0⟩⟩
    · rw [hnb, h0, hx0, writeBits_ok 0 0 _ (by decide) (by decide)]
      simp [bitsOf]
    · rw [if_pos hshort, List.nil_append, takeBits_zero, hx0]
  · obtain ⟨hn, hx, hD⟩ := H.long hcl hshort
    have h30 := nbits_le np nd _ _ hshort hD
    rw [hn] at hx
    refine ⟨bitsOf (rfcDistNBits np nd (c.distPrefix % 1024)) c.distExtra, fun w => ?_, fun rest => ?_,
      fun h128 => absurd (H.imp h128) (by omega)⟩
    · rw [hnb, hn, writeBits_ok _ _ _ hx (by omega)]
    · rw [if_neg hshort, takeBits_bitsOf _ _ _ hx]

theorem readCopy_ok (wo : WordOracle) (window np nd A : Nat) (distD distB : List Nat) (dist : Code) (c : Cmd)
    (hc : cmdOK A np nd c = true) (hcl : copyLen c ≠ 0)
    (hio : c.cmdPrefix ≥ 128 → SymIO distD distB dist (c.distPrefix % 1024)) :
    ∃ dbits, (∀ w, (if copyLen c ≠ 0 ∧ c.cmdPrefix ≥ 128 then do
          let w ← storeSym distD distB (c.distPrefix % 1024) w
          writeBits ((c.distPrefix / 1024) % 256) c.distExtra w
        else Out.ok w) = .ok (w ++ dbits)) ∧
      ∀ mlen done cl out ring rest,
        readCopy wo window np nd dist mlen done (rfcCmdDecode c.cmdPrefix).2.2 cl out ring (dbits ++ rest)
          = (applyCopy wo window np nd mlen done cl out ring (c.distPrefix % 1024) c.distExtra).map
              fun ns => (ns.1, ns.2, rest) := by
  obtain ⟨xd, x1, x2, x3⟩ := distExtra_ok A np nd c hc hcl
  have himp0 : (rfcCmdDecode c.cmdPrefix).2.2 = decide (c.cmdPrefix / 64 < 2) := rfl
  by_cases h128 : c.cmdPrefix ≥ 128
  · obtain ⟨sb, hs, hr⟩ := hio h128
    have hfalse : (rfcCmdDecode c.cmdPrefix).2.2 = false := by rw [himp0]; simp; omega
    refine ⟨sb ++ xd, fun w => ?_, fun mlen done cl out ring rest => ?_⟩
    · rw [if_pos ⟨hcl, h128⟩, hs w, Out.bind_ok, x1, List.append_assoc]
    · unfold readCopy
      rw [hfalse]
      simp only [Bool.false_eq_true, if_false, List.append_assoc, hr, x2]
      cases applyCopy wo window np nd mlen done cl out ring (c.distPrefix % 1024) c.distExtra <;> rfl
  · obtain ⟨y1, y2⟩ := x3 (by omega)
    have htrue : (rfcCmdDecode c.cmdPrefix).2.2 = true := by rw [himp0]; simp; omega
    refine ⟨[], fun w => by rw [if_neg fun h => h128 h.2, List.append_nil], fun mlen done cl out ring rest => ?_⟩
    unfold readCopy
    rw [htrue, y1, y2]
    simp only [if_true, List.nil_append, show (0 : Nat) < 16 + nd by omega, takeBits_zero]
    cases applyCopy wo window np nd mlen done cl out ring 0 0 <;> rfl

theorem lockstep_cursor (wo : WordOracle) (np nd window : Nat) (mb : Bytes) (s : DecSt) (p : Nat) (cs : List Cmd)
    (h : lockstep wo np nd window mb s p cs = true) : s.cursor = p := by
  cases cs with
  | nil => simp [lockstep] at h; exact h.1
  | cons c cs => simp only [lockstep, Bool.and_eq_true, decide_eq_true_eq] at h; exact h.1

theorem rdst_eta (r : RdSt) : (⟨r.out, r.ring⟩ : RdSt) = r := by cases r; rfl

theorem lockstep_head {wo : WordOracle} {np nd window : Nat} {mb : Bytes} {s : DecSt} {p : Nat} {c : Cmd} {cs : List Cmd}
    (h : lockstep wo np nd window mb s p (c :: cs) = true) :
    s.cursor = p ∧ p < mb.length ∧ p + c.insertLen ≤ mb.length ∧
    ((p + c.insertLen = mb.length ∧ cs = [] ∧ copyLen c = 0 ∧ decStep wo np nd window mb s c =
        some { s with out := s.out ++ (mb.drop p).take c.insertLen, cursor := p + c.insertLen }) ∨
     (p + c.insertLen ≠ mb.length ∧ copyLen c ≠ 0 ∧ ∃ r : RdSt,
        applyCopy wo window np nd mb.length (p + c.insertLen) (copyLenCode c.copyLenField)
          (s.out ++ (mb.drop p).take c.insertLen) s.ring (c.distPrefix % 1024) c.distExtra = some (copyLen c, r) ∧
        decStep wo np nd window mb s c = some ⟨r.out, r.ring, p + c.insertLen + copyLen c⟩ ∧
        lockstep wo np nd window mb ⟨r.out, r.ring, p + c.insertLen + copyLen c⟩ (p + c.insertLen + copyLen c) cs
          = true)) := by
  simp only [lockstep, Bool.and_eq_true, decide_eq_true_eq] at h
  obtain ⟨rfl, h⟩ := h
  rw [decStep_eq] at h ⊢
  by_cases hrem : mb.length - s.cursor = 0
  · simp [hrem] at h
  by_cases hins : c.insertLen > mb.length - s.cursor
  · simp [hrem, hins] at h
  rw [if_neg hrem, if_neg hins] at h ⊢
  refine ⟨rfl, by omega, by omega, ?_⟩
  by_cases hterm : s.cursor + c.insertLen = mb.length
  · rw [if_pos hterm] at h ⊢
    simp only [hterm, if_true, Bool.and_eq_true, decide_eq_true_eq, List.isEmpty_iff] at h
    exact Or.inl ⟨hterm, h.1, h.2, rfl⟩
  · rw [if_neg hterm] at h ⊢
    cases hac : applyCopy wo window np nd mb.length (s.cursor + c.insertLen) (copyLenCode c.copyLenField)
        (s.out ++ (mb.drop s.cursor).take c.insertLen) s.ring (c.distPrefix % 1024) c.distExtra with
    | none => simp [hac] at h
    | some nr =>
      obtain ⟨n, r⟩ := nr
      rw [hac] at h
      simp only [Option.map_some, hterm, if_false, Bool.and_eq_true, decide_eq_true_eq] at h
      have hn : n = copyLen c := by have := lockstep_cursor _ _ _ _ _ _ _ _ h.2; simp only at this; omega
      subst hn
      exact Or.inr ⟨hterm, h.1, r, rfl, rfl, h.2⟩

theorem storeData_sim (wo : WordOracle) (window np nd A : Nat) (ring : Bytes) (mask start : Nat) (mb : Bytes)
    (litD litB cmdD cmdB distD distB : List Nat) (lit cmd dist : Code)
    (hR : RingHolds ring mask start mb) :
    ∀ (cmds : List Cmd) (ds : DecSt) (w : Writer),
      lockstep wo np nd window mb ds ds.cursor cmds = true →
      (∀ b ∈ litsOf mb ds.cursor cmds, SymIO litD litB lit b) →
      (∀ c ∈ cmds, cmdOK A np nd c = true) →
      (∀ c ∈ cmds, SymIO cmdD cmdB cmd c.cmdPrefix) →
      (∀ c ∈ cmds, copyLen c ≠ 0 → c.cmdPrefix ≥ 128 → SymIO distD distB dist (c.distPrefix % 1024)) →
      ∃ db fin, storeData ring mask litD litB cmdD cmdB distD distB cmds (posOf start ds.cursor) w = .ok (w ++ db) ∧
        decSteps wo np nd window mb ds cmds = some fin ∧ fin.cursor = mb.length ∧
        ∀ (rest : List Bool) (f : Nat), cmds.length + 1 ≤ f →
          readCommands wo window np nd lit cmd dist mb.length f ds.cursor ⟨ds.out, ds.ring⟩ (db ++ rest)
            = some (⟨fin.out, fin.ring⟩, rest) := by
  intro cmds
  induction cmds with
  | nil =>
    intro ds w hl _ _ _ _
    simp only [lockstep, Bool.and_eq_true, decide_eq_true_eq] at hl
    refine ⟨[], ds, by simp [storeData], rfl, hl.2, ?_⟩
    intro rest f hf
    obtain ⟨f', rfl⟩ : ∃ f', f = f' + 1 := ⟨f - 1, by simp at hf; omega⟩
    simp [readCommands, hl.2]
  | cons c cs ih =>
    intro ds w hl hlit hok hcmd hdist
    simp only [litsOf] at hlit
    obtain ⟨_, hrem, hins, hcase⟩ := lockstep_head hl
    have hcok := hok c (by simp)
    obtain ⟨ib, ie, cb, ce, hf⟩ := cmd_facts A np nd c hcok
    have hextra := hf.extra
    obtain ⟨sb, hs, hr⟩ := hcmd c (by simp)
    obtain ⟨xb, hxb⟩ : ∃ xb, xb = bitsOf ie (c.insertLen - ib) ++ bitsOf ce (copyLenCode c.copyLenField - cb) := ⟨_, rfl⟩
    rw [← hxb] at hextra
    obtain ⟨lb, hl1, hl2⟩ := storeLits_ok ring mask start mb litD litB lit hR c.insertLen ds.cursor (w ++ sb ++ xb) hins
      (fun b hb => hlit b (List.mem_append_left _ hb))
    have hri := fun out r => readInsert_ok lit cmd mb.length ds.cursor out c ib ie cb ce sb lb r
      ((mb.drop ds.cursor).take c.insertLen) hf hr (by omega) hl2
    rw [← hxb] at hri
    rcases hcase with ⟨hterm, rfl, hc0, hdec⟩ | ⟨hterm, hcl, r, hac, hdec, hl'⟩
    · refine ⟨sb ++ (xb ++ lb), ⟨ds.out ++ (mb.drop ds.cursor).take c.insertLen, ds.ring, ds.cursor + c.insertLen⟩, ?_,
        by simp only [decSteps, hdec], hterm, ?_⟩
      · unfold storeData
        rw [hs w, Out.bind_ok, hextra, Out.bind_ok, hl1, Out.bind_ok]
        simp only [hc0, ne_eq, not_true_eq_false, false_and, if_false, Out.bind_ok, storeData]
        simp [List.append_assoc]
      · intro rest f hf
        obtain ⟨f', rfl⟩ : ∃ f', f = f' + 1 := ⟨f - 1, by simp at hf; omega⟩
        unfold readCommands
        rw [if_neg (by omega)]
        simp only [List.append_assoc]
        rw [hri]
        simp only [hterm, if_true]
    · obtain ⟨dbits, hdw, hdr⟩ := readCopy_ok wo window np nd A distD distB dist c hcok hcl (hdist c (by simp) hcl)
      obtain ⟨db', fin, h1, h2, h3, h4⟩ := ih ⟨r.out, r.ring, ds.cursor + c.insertLen + copyLen c⟩
        (w ++ sb ++ xb ++ lb ++ dbits) hl' (fun b hb => hlit b (List.mem_append_right _ hb))
        (fun x hx => hok x (List.mem_cons_of_mem _ hx)) (fun x hx => hcmd x (List.mem_cons_of_mem _ hx))
        (fun x hx => hdist x (List.mem_cons_of_mem _ hx))
      refine ⟨sb ++ (xb ++ (lb ++ (dbits ++ db'))), fin, ?_, by simp only [decSteps, hdec]; exact h2, h3, ?_⟩
      · unfold storeData
        rw [hs w, Out.bind_ok, hextra, Out.bind_ok, hl1, Out.bind_ok]
        simp only
        rw [hdw, Out.bind_ok, posOf_add, h1]
        simp [List.append_assoc]
      · intro rest f hf
        obtain ⟨f', rfl⟩ : ∃ f', f = f' + 1 := ⟨f - 1, by simp at hf; omega⟩
        unfold readCommands
        rw [if_neg (by omega)]
        simp only [List.append_assoc]
        rw [hri]
        simp only [hterm, if_false]
        rw [hdr, hac]
        exact h4 rest f' (by simp at hf; omega)

/-- every command of a lockstep array produces at least one byte, so the reader's fuel `MLEN + 1` suffices -/
theorem lockstep_length (wo : WordOracle) (np nd window : Nat) (mb : Bytes) :
    ∀ (cs : List Cmd) (s : DecSt) (p : Nat), lockstep wo np nd window mb s p cs = true →
      p + cs.length ≤ mb.length := by
  intro cs
  induction cs with
  | nil => intro s p h; simp [lockstep] at h; simp; omega
  | cons c cs ih =>
    intro s p h
    obtain ⟨_, hp, _, ⟨_, rfl, _⟩ | ⟨_, hcl, r, _, _, hl⟩⟩ := lockstep_head h
    · exact hp
    · have := ih _ _ hl
      simp only [List.length_cons]
      omega

end BV.MetaBlock
