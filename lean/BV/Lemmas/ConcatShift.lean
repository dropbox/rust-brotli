/-
Specifications of the header look-ahead loop and of `shift_and_check_new_stream_header`: the
copy-out in closed form (`shiftCopyOut_eq`), the realignment byte by byte (`rbyte`,
`shiftRealign_bytes`), and the header decision separated from the output buffer (`shiftHead`,
`shiftAndCheck_factor`).
-/
import BV.Lemmas.ConcatFlush

namespace BV.Concat
open Outcome BV.Gen

theorem B5.get?_lt (b : B5) (i : Nat) (h : i < 5) : ∃ v, b.get? i = some v := by
  have : i = 0 ∨ i = 1 ∨ i = 2 ∨ i = 3 ∨ i = 4 := by omega
  rcases this with rfl | rfl | rfl | rfl | rfl <;> simp [B5.get?]

theorem B5.set?_lt (b : B5) (i v : Nat) (h : i < 5) : ∃ b', b.set? i v = some b' := by
  have : i = 0 ∨ i = 1 ∨ i = 2 ∨ i = 3 ∨ i = 4 := by omega
  rcases this with rfl | rfl | rfl | rfl | rfl <;> simp [B5.set?]

theorem B5.ofList?_len5 (l : List Nat) (h : l.length = 5) : ∃ b, B5.ofList? l = some b ∧ b.toList = l := by
  match l, h with
  | [a, b, c, d, e], _ => exact ⟨_, rfl, rfl⟩

@[simp] theorem B5.toList_length (b : B5) : b.toList.length = 5 := rfl

theorem sufficient_iff (d : NewStreamData) :
    d.sufficient = true ↔ (d.num_bytes_read = 4 ∧ (127 &&& d.bytes_so_far.b0) ≠ 17) ∨ d.num_bytes_read = 5 := by
  unfold NewStreamData.sufficient
  by_cases h : d.num_bytes_read = 4 ∧ (127 &&& d.bytes_so_far.b0) ≠ 17
  · simp [h]
  · rw [if_neg h]; simp [h]

/-- what the look-ahead loop, started with `nsp` at input offset `off`, leaves: `r.1` the look-ahead, `r.2` the offset
reached -/
structure HeaderLoopPost (nsp : NewStreamData) (inp : List Nat) (off : Nat) (r : NewStreamData × Nat) : Prop where
  written : r.1.num_bytes_written = nsp.num_bytes_written
  read_le : r.1.num_bytes_read ≤ 5
  ge : off ≤ r.2
  le : r.2 ≤ off + inp.length
  moved : r.2 + nsp.num_bytes_read = off + r.1.num_bytes_read
  done : r.1.sufficient = true ∨ r.2 = off + inp.length

theorem headerLoop_sat : ∀ (inp : List Nat) (nsp : NewStreamData) (off : Nat), nsp.num_bytes_read ≤ 5 →
    (headerLoop nsp inp off).sat (HeaderLoopPost nsp inp off) := by
  intro inp
  induction inp with
  | nil => intro nsp off h; exact ⟨rfl, h, Nat.le_refl _, Nat.le_refl _, rfl, Or.inr rfl⟩
  | cons b rest ih =>
    intro nsp off h
    unfold headerLoop
    refine sat_ite (fun hs => ?_) (fun hs => ?_)
    · exact ⟨rfl, h, Nat.le_refl _, Nat.le_add_right _ _, rfl, Or.inl hs⟩
    · have hlt : nsp.num_bytes_read < 5 := by
        rcases Nat.lt_or_ge nsp.num_bytes_read 5 with h5 | h5
        · exact h5
        · exact absurd ((sufficient_iff nsp).mpr (Or.inr (by omega))) hs
      obtain ⟨b', hb'⟩ := B5.set?_lt nsp.bytes_so_far nsp.num_bytes_read b hlt
      rw [hb']
      dsimp only
      refine sat_ite (fun _ => by omega) (fun _ => ?_)
      refine sat_mono (ih _ (off + 1) (by dsimp only; omega)) ?_
      intro r ⟨h1, h2, h3, h4, h5, h6⟩
      dsimp only at h1 h5
      refine ⟨h1, h2, by omega, by simp only [List.length_cons]; omega, by omega, ?_⟩
      simp only [List.length_cons]
      rcases h6 with h6 | h6
      · exact Or.inl h6
      · exact Or.inr (by omega)

structure CopyOutPost (s : State) (cap : Nat) (r : State × List Nat × Nat) : Prop where
  code : r.2.2 = SUCCESS ∨ r.2.2 = NEEDS_MORE_OUTPUT
  out_le : r.2.1.length ≤ cap
  ws : r.1.window_size = s.window_size
  off_lt : r.1.last_byte_bit_offset < 8
  more : r.2.2 = NEEDS_MORE_OUTPUT → r.2.1.length = cap ∧ r.1.last_bytes_len = s.last_bytes_len ∧
    r.1.last_byte_sanitized = s.last_byte_sanitized ∧
    r.1.last_byte_bit_offset = s.last_byte_bit_offset ∧ r.1.last_bytes = s.last_bytes ∧
    ∃ d, r.1.new_stream_pending = some d ∧ d.num_bytes_read ≤ 5 ∧
      ∃ w, d.num_bytes_written = some w ∧ w < d.num_bytes_read
  done : r.2.2 = SUCCESS → r.1.new_stream_pending = none ∧ r.1.last_bytes_len = 1 ∧
    r.1.last_byte_sanitized = false ∧ r.1.last_byte_bit_offset = 0

/-- header bytes read and not yet written out (`held` during a copy-out: `held_copying`) -/
def owedOf (d : NewStreamData) (w : Nat) : List Nat :=
  (d.bytes_so_far.toList.drop w).take (d.num_bytes_read - w)

theorem owedOf_length (d : NewStreamData) (w : Nat) (h : d.num_bytes_read ≤ 5) :
    (owedOf d w).length = d.num_bytes_read - w := by
  unfold owedOf
  simp only [List.length_take, List.length_drop, B5.toList_length]; omega

/-- When all goes out, the last byte written (of this header or before it) is taken back as the one-byte
tail; `hne`: the final `*out_offset -= 1` has a byte to take back. -/
theorem shiftCopyOut_eq (s : State) (d : NewStreamData) (out : List Nat) (cap w : Nat)
    (hw : d.num_bytes_written = some w) (hwr : w ≤ d.num_bytes_read) (hr5 : d.num_bytes_read ≤ 5)
    (hout : out.length ≤ cap) (hne : out ≠ [] ∨ (w < d.num_bytes_read ∧ out.length < cap)) :
    shiftCopyOut s d out cap =
      if cap - out.length < d.num_bytes_read - w then
        ok ({ (if cap - out.length ≠ 0 then { s with any_bytes_emitted := true } else s) with
              new_stream_pending := some { d with num_bytes_written := some (w + (cap - out.length)) } },
            out ++ (owedOf d w).take (cap - out.length), NEEDS_MORE_OUTPUT)
      else
        ok ({ (if d.num_bytes_read - w ≠ 0 then { s with any_bytes_emitted := true } else s) with
              new_stream_pending := none, last_byte_sanitized := false, last_byte_bit_offset := 0,
              last_bytes_len := 1, last_bytes := ((out ++ owedOf d w).getLast?.getD 0, 0) },
            (out ++ owedOf d w).dropLast, SUCCESS) := by
  have hH := owedOf_length d w hr5
  unfold shiftCopyOut
  rw [hw]
  dsimp only
  rw [hdr5, if_neg (by omega), if_neg (by omega), if_neg (by omega), if_neg (by omega),
    Nat.mod_eq_of_lt (by omega), if_neg (by omega)]
  by_cases hlt : cap - out.length < d.num_bytes_read - w
  · rw [if_pos hlt, Nat.min_eq_left (by omega), if_pos (by omega)]
    unfold owedOf
    rw [List.take_take, Nat.min_eq_left (by omega)]
  · rw [if_neg hlt, Nat.min_eq_right (by omega), if_neg (by omega)]
    show (match (out ++ owedOf d w).getLast? with | none => _ | some b => _) = _
    cases hg : (out ++ owedOf d w).getLast? with
    | none =>
      rw [List.getLast?_eq_none_iff, List.append_eq_nil_iff] at hg
      rcases hne with h | h
      · exact absurd hg.1 h
      · have := congrArg List.length hg.2
        rw [hH] at this
        simp at this
        omega
    | some b =>
      dsimp only
      rw [if_neg (by
        have : 0 < (out ++ owedOf d w).length := List.length_pos_iff.mpr (fun e => by rw [e] at hg; cases hg)
        rw [List.length_append, hH] at this
        rw [List.length_append, show (List.take _ _).length = _ from hH]
        omega)]
      rfl

theorem shiftCopyOut_sat (s : State) (nsp : NewStreamData) (out : List Nat) (cap w : Nat)
    (hw : nsp.num_bytes_written = some w) (hwr : w ≤ nsp.num_bytes_read) (hr : nsp.num_bytes_read ≤ 5)
    (hout : out.length ≤ cap) (hoff : s.last_byte_bit_offset < 8)
    (hne : out ≠ [] ∨ (w < nsp.num_bytes_read ∧ out.length < cap)) :
    (shiftCopyOut s nsp out cap).sat (CopyOutPost s cap) := by
  have hH := owedOf_length nsp w hr
  rw [shiftCopyOut_eq s nsp out cap w hw hwr hr hout hne]
  split
  · rw [sat_ok]
    have hl : (out ++ (owedOf nsp w).take (cap - out.length)).length = cap := by
      rw [List.length_append, List.length_take, hH]; omega
    refine ⟨Or.inr rfl, Nat.le_of_eq hl, ?_, ?_, fun _ => ⟨hl, ?_, ?_, ?_, ?_, _, rfl, hr, _, rfl, ?_⟩,
      fun h => by simp at h⟩
    all_goals dsimp only
    all_goals first | omega | (split <;> first | rfl | exact hoff)
  · rw [sat_ok]
    refine ⟨Or.inl rfl, ?_, ?_, Nat.zero_lt_succ _, fun h => by simp at h, fun _ => ⟨rfl, rfl, rfl, rfl⟩⟩
    · show (out ++ owedOf nsp w).dropLast.length ≤ cap
      rw [List.length_dropLast, List.length_append, hH]; omega
    · dsimp only; split <;> rfl

theorem B5.get?_eq (b : B5) (i : Nat) : b.get? i = b.toList[i]? := by
  match i with
  | 0 => rfl | 1 => rfl | 2 => rfl | 3 => rfl | 4 => rfl
  | n + 5 => simp [B5.get?, B5.toList]

theorem packB5_loop (b : B5) : ∀ n i acc, i + n ≤ 5 →
    forRange (fun index acc =>
        match b.get? index with
        | none => Outcome.panic .shiftBsfIndex
        | some v => if index * 8 ≥ 64 then Outcome.panic .shiftShl64 else ok (acc ||| (v <<< (index * 8))))
      n i acc = packLE .shiftShl64 ((b.toList.drop i).take n) i acc := by
  intro n
  induction n with
  | zero => intro i acc _; rfl
  | succ n ih =>
    intro i acc h
    have hi : i < b.toList.length := by rw [B5.toList_length]; omega
    rw [List.drop_eq_getElem_cons hi, List.take_succ_cons, forRange, packLE, B5.get?_eq,
      List.getElem?_eq_getElem hi]
    dsimp only
    rw [if_neg (by omega), if_neg (by omega), bind_ok]
    exact ih (i + 1) _ (by omega)

theorem packB5_eq_packLE (b : B5) (n : Nat) (h : n ≤ 5) :
    packB5 b n = packLE .shiftShl64 (b.toList.take n) 0 0 :=
  packB5_loop b n 0 0 (by omega)

theorem packB5_sat (b : B5) (n : Nat) (h : n ≤ 5) : (packB5 b n).sat (fun _ => True) := by
  rw [packB5_eq_packLE b n h]
  exact packLE_sat _ _ 0 0 (by rw [List.length_take, B5.toList_length]; omega)

theorem or_shr_shl_self (A k : Nat) : A ||| ((A >>> k) <<< k) = A := by
  apply Nat.eq_of_testBit_eq
  intro j
  rw [Nat.testBit_or, Nat.testBit_shiftLeft, Nat.testBit_shiftRight]
  by_cases h : j ≥ k
  · have : k + (j - k) = j := by omega
    simp [h, this]
  · simp [h]

theorem byte_split (k : Nat) (hk : k < 8) : 256 = 2 ^ k * 2 ^ (8 - k) := by
  rw [← Nat.pow_add, show k + (8 - k) = 8 by omega]

theorem field_shl_lt (x k : Nat) (hk : k < 8) : x % 2 ^ (8 - k) * 2 ^ k < 256 := by
  rw [byte_split k hk, Nat.mul_comm]
  exact Nat.mul_lt_mul_of_pos_left (Nat.mod_lt _ (Nat.pow_pos (by decide))) (Nat.pow_pos (by decide))

/-- a later realigned byte: OR-ing in the low part of the next source byte adds nothing new -/
theorem realign_next (x k : Nat) (hk : k < 8) :
    ((x >>> (8 - k)) % 256) ||| ((((x >>> 8) &&& ((1 <<< (8 - k)) - 1)) <<< k) % 256) = (x >>> (8 - k)) % 256 := by
  have e : x >>> 8 = x >>> (8 - k) >>> k := by rw [← Nat.shiftRight_add, show 8 - k + k = 8 by omega]
  rw [e]
  generalize x >>> (8 - k) = y
  -- the bits OR-ed in are bits `k..7` of `y % 256`, which are there already
  have key : y >>> k % 2 ^ (8 - k) = (y % 256) >>> k := by
    rw [Nat.shiftRight_eq_div_pow, Nat.shiftRight_eq_div_pow, byte_split k hk, Nat.mod_mul_right_div_self]
  rw [Nat.one_shiftLeft, Nat.and_two_pow_sub_one_eq_mod, Nat.shiftLeft_eq, Nat.mod_eq_of_lt (field_shl_lt _ k hk),
    ← Nat.shiftLeft_eq, key, or_shr_shl_self]

/-- byte `j` the realignment leaves in `realigned_header`, as the code computes it: the tail byte `t`
with the first `8-k` bits of `X` OR-ed in above it, then `X` in steps of eight bits from bit `8-k` on -/
def rbyte (t X k : Nat) : Nat → Nat
  | 0 => t ||| (((X &&& ((1 <<< (8 - k)) - 1)) <<< k) % 256)
  | j + 1 => ((X >>> (8 * j)) >>> (8 - k)) % 256

/-- loop invariant of the realignment loop before iteration `i`.  Nothing is asked of `t`. -/
structure RealignInv (t X k : Nat) (i : Nat) (rh : List Nat) : Prop where
  len : rh.length = 6
  below : ∀ j, j < i → rh[j]? = some (rbyte t X k j)
  cur : rh[i]? = some (if i = 0 then t else rbyte t X k i)
  above : ∀ j, i < j → j < 6 → rh[j]? = some 0

theorem realignStep_inv (t X k i : Nat) (rh : List Nat) (hk : k < 8) (hi : i < 5)
    (h : RealignInv t X k i rh) : (realignStep X k i rh).sat (RealignInv t X k (i + 1)) := by
  unfold realignStep
  refine sat_ite (fun _ => by omega) (fun _ => ?_)
  dsimp only
  refine sat_ite (fun _ => by omega) (fun _ => ?_)
  have hlen := h.len
  simp only [idx, h.cur, bind_ok, setAt]
  rw [if_pos (by omega)]
  simp only [bind_ok]
  rw [if_pos (by simp; omega)]
  rw [sat_ok]
  have hval : ((if i = 0 then t else rbyte t X k i) |||
      (((X >>> (i * 8)) &&& ((1 <<< (8 - k)) - 1)) <<< k) % 256) = rbyte t X k i := by
    by_cases h0 : i = 0
    · subst h0; simp only [if_true, Nat.zero_mul, Nat.shiftRight_zero, rbyte]
    · rw [if_neg h0]
      obtain ⟨j, rfl⟩ : ∃ j, i = j + 1 := ⟨i - 1, by omega⟩
      have e : X >>> ((j + 1) * 8) = (X >>> (8 * j)) >>> 8 := by
        rw [← Nat.shiftRight_add]; congr 1; omega
      rw [e]
      exact realign_next (X >>> (8 * j)) k hk
  have hnext : (X >>> (i * 8)) >>> (8 - k) % 256 = rbyte t X k (i + 1) := by
    rw [Nat.mul_comm]; rfl
  rw [hval, hnext]
  refine ⟨by simp [hlen], ?_, ?_, ?_⟩
  · intro j hj
    rw [List.getElem?_set, List.getElem?_set]
    by_cases e1 : i + 1 = j
    · omega
    · rw [if_neg e1]
      by_cases e2 : i = j
      · subst e2; rw [if_pos rfl, if_pos (by omega)]
      · rw [if_neg e2]; exact h.below j (by omega)
  · rw [List.getElem?_set, if_pos rfl, if_pos (by simp; omega)]
    simp
  · intro j hj hj6
    rw [List.getElem?_set, List.getElem?_set, if_neg (by omega), if_neg (by omega)]
    exact h.above j (by omega) hj6

/-- after `a` iterations: the bytes below `dst` untouched, `a` header bytes copied behind them -/
structure CopyInv (b : B5) (src dst : Nat) (rh0 : List Nat) (a : Nat) (rh : List Nat) : Prop where
  len : rh.length = 6
  below : ∀ j, j < dst → rh[j]? = rh0[j]?
  done : ∀ c, c < a → rh[dst + c]? = b.toList[src + c]?

theorem copyWholeLoop_inv (b : B5) (src dst n : Nat) (rh0 : List Nat) (hs : src + n ≤ 5) (hd : dst + n ≤ 6)
    (hl : rh0.length = 6) :
    (copyWholeLoop b src dst n rh0).sat (CopyInv b src dst rh0 n) := by
  unfold copyWholeLoop
  refine sat_mono (forRange_sat _ (CopyInv b src dst rh0) n 0 rh0
    ⟨hl, fun _ _ => rfl, fun c hc => by omega⟩ ?_) (fun r h => by simpa using h)
  intro i rh _ hi hI
  obtain ⟨v, hv⟩ := B5.get?_lt b (src + i) (by omega)
  rw [hv]
  dsimp only
  unfold setAt
  rw [if_pos (by rw [hI.len]; omega), sat_ok]
  refine ⟨by simp [hI.len], fun j hj => ?_, fun c hc => ?_⟩
  · rw [List.getElem?_set, if_neg (by omega)]; exact hI.below j hj
  · rw [List.getElem?_set]
    by_cases e : dst + i = dst + c
    · rw [if_pos e, if_pos (by rw [hI.len]; omega)]
      have : c = i := by omega
      subst this
      rw [← B5.get?_eq, hv]
    · rw [if_neg e]; exact hI.done c (by omega)

/-- The realigned header, byte by byte.  `H` is the little-endian value of the look-ahead bytes and
`(H >>> wo) &&& (2^(v-wo) - 1)` the member's header bits between its window field and `v`; the first
`⌈(k + v - wo)/8⌉` bytes written are `rbyte`s (`k` the tail's bit offset), and the member's look-ahead bytes from
`⌈v/8⌉` on follow them unchanged.  `r0` is the byte pushed to the output. -/
theorem shiftRealign_bytes (s : State) (nsp : NewStreamData) (wo v H : Nat) (out : List Nat) (cap : Nat)
    (hoff : s.last_byte_bit_offset < 8)
    (hr : nsp.num_bytes_read ≤ 5) (hH : packB5 nsp.bytes_so_far nsp.num_bytes_read = ok H)
    (hwo : wo ≤ 14) (hv : wo + 2 ≤ v) (hsrc : (v + 7) / 8 ≤ nsp.num_bytes_read) (hout : out.length < cap) :
    ∃ r0 nsp', shiftRealign s nsp wo v out cap
        = ok ({ s with any_bytes_emitted := true }, nsp', out ++ [r0]) ∧
      nsp'.num_bytes_written = some 0 ∧
      nsp'.num_bytes_read + 1 = (s.last_byte_bit_offset + v - wo + 7) / 8 + (nsp.num_bytes_read - (v + 7) / 8) ∧
      (∀ j, j < (s.last_byte_bit_offset + v - wo + 7) / 8 →
        (r0 :: nsp'.bytes_so_far.toList.take nsp'.num_bytes_read)[j]? =
          some (rbyte s.last_bytes.1 ((H >>> wo) &&& ((1 <<< (v - wo)) - 1)) s.last_byte_bit_offset j)) ∧
      (∀ a, a < nsp.num_bytes_read - (v + 7) / 8 →
        (r0 :: nsp'.bytes_so_far.toList.take nsp'.num_bytes_read)[(s.last_byte_bit_offset + v - wo + 7) / 8 + a]? =
          nsp.bytes_so_far.toList[(v + 7) / 8 + a]?) := by
  unfold shiftRealign
  dsimp only
  rw [hH]
  simp only [bind_ok]
  -- the byte positions, once; below they are plain variables
  have hpos : 1 ≤ (v - wo + 7) / 8 ∧ (v - wo + 7) / 8 ≤ 5 ∧
      (v - wo + 7) / 8 ≤ (s.last_byte_bit_offset + v - wo + 7) / 8 ∧
      (s.last_byte_bit_offset + v - wo + 7) / 8 ≤ (v - wo + 7) / 8 + 1 ∧
      (s.last_byte_bit_offset + v - wo + 7) / 8 + (nsp.num_bytes_read - (v + 7) / 8) ≤ 6 ∧ v - wo < 64 := by omega
  generalize (v - wo + 7) / 8 = nv at *
  generalize (s.last_byte_bit_offset + v - wo + 7) / 8 = dest at *
  generalize (v + 7) / 8 = src at *
  obtain ⟨p1, p2, p3, p4, p5, p6⟩ := hpos
  rw [if_neg (by omega), if_neg (by omega)]
  have hinv0 : RealignInv s.last_bytes.1 ((H >>> wo) &&& ((1 <<< (v - wo)) - 1)) s.last_byte_bit_offset
      0 [s.last_bytes.1, 0, 0, 0, 0, 0] := by
    refine ⟨rfl, fun j hj => by omega, by simp, fun j h1 h6 => ?_⟩
    have : j = 1 ∨ j = 2 ∨ j = 3 ∨ j = 4 ∨ j = 5 := by omega
    rcases this with rfl | rfl | rfl | rfl | rfl <;> rfl
  obtain ⟨rh1, e1, inv1⟩ := sat_iff.mp (forRange_sat _ (RealignInv _ _ _) nv 0 _ hinv0
    fun i a _ hi hI => realignStep_inv _ _ _ i a hoff (by omega) hI)
  rw [Nat.zero_add] at inv1
  rw [e1]
  simp only [bind_ok]
  rw [if_neg (by omega), if_neg (by omega)]
  obtain ⟨rh2, e2, inv2⟩ := sat_iff.mp (copyWholeLoop_inv nsp.bytes_so_far (src)
    (dest) (nsp.num_bytes_read - src) rh1 (by omega) (by omega) inv1.len)
  rw [e2]
  simp only [bind_ok]
  have hfinal : ∀ j, j < dest → rh2[j]? = some
      (rbyte s.last_bytes.1 ((H >>> wo) &&& ((1 <<< (v - wo)) - 1)) s.last_byte_bit_offset j) := by
    intro j hj
    rw [inv2.below j hj]
    by_cases hjn : j < nv
    · exact inv1.below j hjn
    · have : j = nv := by omega
      subst this
      rw [inv1.cur, if_neg (by omega)]
  have h0 := hfinal 0 (by omega)
  simp only [idx, h0, bind_ok, push]
  rw [if_pos hout]
  simp only [bind_ok]
  have hsum : dest + (nsp.num_bytes_read - src) < 256 := by omega
  rw [Nat.mod_eq_of_lt hsum, if_neg (by omega)]
  obtain ⟨b5, hb5, hb5l⟩ := B5.ofList?_len5 (rh2.drop 1) (by simp [inv2.len])
  rw [hb5]
  refine ⟨_, _, rfl, rfl, by dsimp only; omega, ?_, ?_⟩
  · intro j hj
    dsimp only
    rw [hb5l]
    cases j with
    | zero => simp
    | succ j' =>
      rw [List.getElem?_cons_succ, List.getElem?_take, if_pos (by omega), List.getElem?_drop]
      rw [Nat.add_comm 1 j']
      exact hfinal (j' + 1) hj
  · intro a ha
    dsimp only
    rw [hb5l]
    have hd1 : 1 ≤ dest := by omega
    obtain ⟨dd, hdd⟩ : ∃ dd, dest = dd + 1 := ⟨_, (Nat.sub_add_cancel hd1).symm⟩
    have e : dd + 1 + a = (dd + a) + 1 := by omega
    rw [hdd, e, List.getElem?_cons_succ, List.getElem?_take, if_pos (by omega), List.getElem?_drop]
    have := inv2.done a ha
    rw [hdd] at this
    rw [← this]
    congr 1; omega

structure ShiftPost (s : State) (out : List Nat) (cap : Nat) (r : State × List Nat × Nat) : Prop where
  code : r.2.2 = SUCCESS ∨ r.2.2 = NEEDS_MORE_OUTPUT ∨ r.2.2 = INVALID_WINDOW_SIZE ∨
    r.2.2 = WINDOW_SIZE_LARGER ∨ r.2.2 = NOT_CRAFTED_FOR_CONCAT
  out_le : r.2.1.length ≤ cap
  inv : Inv r.1
  err : r.2.2 ≥ 124 → r.1 = s ∧ r.2.1 = out
  wsne : r.2.2 < 124 → r.1.window_size ≠ 0
  more : r.2.2 = NEEDS_MORE_OUTPUT → r.2.1.length = cap
  done : r.2.2 = SUCCESS → r.1.new_stream_pending = none ∧ r.1.last_bytes_len = 1

/-- `s0`, `out0` are arbitrary: they occur only in `ShiftPost.err`, which is about the rejection codes, and a
copy-out never answers one -/
theorem post_of_copyOut (s0 s : State) (out0 : List Nat) (cap : Nat) (r : State × List Nat × Nat)
    (h : CopyOutPost s cap r) (hws : s.window_size ≠ 0) (hlen : s.last_bytes_len ≤ 1)
    (htail : s.last_bytes_len ≠ 0 → s.last_bytes.2 = 0 ∧ s.last_bytes.1 < 2 ^ s.last_byte_bit_offset) :
    ShiftPost s0 out0 cap r := by
  have hcode := h.code
  constructor
  · rcases hcode with h | h
    · exact Or.inl h
    · exact Or.inr (Or.inl h)
  · exact h.out_le
  · rcases hcode with hc | hc
    · obtain ⟨a, b, c, d⟩ := h.done hc
      refine ⟨by omega, h.off_lt, fun e => ?_, fun e => ?_, fun e => ?_, fun d hd => ?_⟩
      · rw [h.ws] at e; exact absurd e hws
      · rw [c] at e; simp at e
      · rw [c] at e; simp at e
      · rw [a] at hd; simp at hd
    · obtain ⟨a, b, b', c, clb, d, hd, hd5, w, hw, hwlt⟩ := h.more hc
      refine ⟨by omega, h.off_lt, fun e => ?_, fun _ => ?_, fun _ hl => ?_, fun d' hd' => ?_⟩
      · rw [h.ws] at e; exact absurd e hws
      · rw [hd]; exact ⟨rfl, by omega⟩
      · rw [clb, c]; exact htail (by omega)
      · rw [hd] at hd'
        simp only [Option.some.injEq] at hd'
        subst hd'
        refine ⟨hd5, fun w' hw' => ?_⟩
        rw [hw] at hw'
        simp only [Option.some.injEq] at hw'
        subst hw'
        exact ⟨hwlt, by rw [h.ws]; exact hws⟩
  · intro hge
    rcases hcode with hc | hc <;> rw [hc] at hge <;> simp at hge
  · intro _; rw [h.ws]; exact hws
  · intro hc; exact (h.more hc).1
  · intro hc; exact ⟨(h.done hc).1, (h.done hc).2.1⟩

theorem post_of_err (s : State) (out : List Nat) (cap code : Nat) (hI : Inv s) (hout : out.length ≤ cap)
    (hc : code = INVALID_WINDOW_SIZE ∨ code = WINDOW_SIZE_LARGER ∨ code = NOT_CRAFTED_FOR_CONCAT) :
    ShiftPost s out cap (s, out, code) := by
  constructor
  · rcases hc with h | h | h
    · exact Or.inr (Or.inr (Or.inl h))
    · exact Or.inr (Or.inr (Or.inr (Or.inl h)))
    · exact Or.inr (Or.inr (Or.inr (Or.inr h)))
  · exact hout
  · exact hI
  · intro _; exact ⟨rfl, rfl⟩
  · intro hlt; rcases hc with h | h | h <;> rw [h] at hlt <;> simp at hlt
  · intro hm; rcases hc with h | h | h <;> rw [h] at hm <;> simp at hm
  · intro hm; rcases hc with h | h | h <;> rw [h] at hm <;> simp at hm

/-- the output buffer enters `shiftRealign` only through the final push: the run on `out` / `cap` is the run on `[]` / `1`
with `out ++ ·`; this is what makes `shiftHead` buffer-free -/
theorem shiftRealign_rel (s : State) (nsp : NewStreamData) (wo v : Nat) (out : List Nat) (cap : Nat)
    (h : out.length < cap) :
    shiftRealign s nsp wo v out cap
      = Outcome.map (fun r => (r.1, r.2.1, out ++ r.2.2)) (shiftRealign s nsp wo v [] 1) := by
  unfold shiftRealign push
  have h1 : ([] : List Nat).length < 1 := by simp
  simp only [h, h1, if_true]
  cases packB5 nsp.bytes_so_far nsp.num_bytes_read with
  | panic t => simp
  | ok bsf =>
    simp only [bind_ok]
    by_cases c1 : v < wo
    · simp [c1]
    rw [if_neg c1, if_neg c1]
    by_cases c2 : v - wo ≥ 64
    · simp [c2]
    rw [if_neg c2, if_neg c2]
    cases forRange (realignStep ((bsf >>> wo) &&& ((1 <<< (v - wo)) - 1)) s.last_byte_bit_offset)
        ((v - wo + 7) / 8) 0 [s.last_bytes.1, 0, 0, 0, 0, 0] with
    | panic t => simp
    | ok rh =>
      simp only [bind_ok]
      by_cases c3 : s.last_byte_bit_offset + v < wo
      · simp [c3]
      rw [if_neg c3, if_neg c3]
      by_cases c4 : nsp.num_bytes_read < (v + 7) / 8
      · simp [c4]
      rw [if_neg c4, if_neg c4]
      cases copyWholeLoop nsp.bytes_so_far ((v + 7) / 8) ((s.last_byte_bit_offset + v - wo + 7) / 8)
          (nsp.num_bytes_read - (v + 7) / 8) rh with
      | panic t => simp
      | ok rh2 =>
        simp only [bind_ok]
        cases idx Site.shiftRhIndex rh2 0 with
        | panic t => simp
        | ok r0 =>
          simp only [bind_ok]
          by_cases c5 : ((s.last_byte_bit_offset + v - wo + 7) / 8 + (nsp.num_bytes_read - (v + 7) / 8)) % 256 < 1
          · simp [c5]
          rw [if_neg c5, if_neg c5]
          cases B5.ofList? (rh2.drop 1) with
          | none => simp
          | some b5 => simp

/-- The decision part of `shift_and_check_new_stream_header` for a fresh header, without any
reference to the output buffer: either a terminal code, or the state / pending data with which
the copy-out starts and the bytes `q` the header writes first. -/
def shiftHead (s : State) (nsp : NewStreamData) : Outcome (Nat ⊕ (State × NewStreamData × List Nat)) :=
  if nsp.num_bytes_read > NUM_STREAM_HEADER_BYTES then Outcome.panic .shiftSliceRead else
  (parseWindowSize (nsp.bytes_so_far.toList.take nsp.num_bytes_read)).bind fun pw =>
  match pw with
  | none => ok (.inl INVALID_WINDOW_SIZE)
  | some (windowSize, windowOffset) =>
    if s.window_size = 0 then
      if s.last_byte_bit_offset ≠ 0 then Outcome.panic .shiftAssertOffset0 else
      ok (.inr ({ s with window_size := windowSize ||| (if windowOffset = 14 then LARGE_WINDOW_FLAG else 0),
                         any_bytes_emitted := true },
                { nsp with num_bytes_written := some 1 }, [nsp.bytes_so_far.b0]))
    else
      if windowSize > (s.window_size &&& NOT_LARGE_WINDOW_FLAG) then ok (.inl WINDOW_SIZE_LARGER) else
      if (decide (windowOffset = 14)) ≠ (decide ((s.window_size &&& LARGE_WINDOW_FLAG) ≠ 0)) then
        ok (.inl NOT_CRAFTED_FOR_CONCAT) else
      (detectVarlenOffset (nsp.bytes_so_far.toList.take nsp.num_bytes_read)).bind fun vo =>
      match vo with
      | none => ok (.inl NOT_CRAFTED_FOR_CONCAT)
      | some varlenOffset =>
        if (varlenOffset + 7) / 8 > nsp.num_bytes_read then ok (.inl NOT_CRAFTED_FOR_CONCAT) else
        (shiftRealign s nsp windowOffset varlenOffset [] 1).bind fun r => ok (.inr r)

def shiftFinish (s : State) (out : List Nat) (cap : Nat) :
    Nat ⊕ (State × NewStreamData × List Nat) → Outcome (State × List Nat × Nat)
  | .inl c => ok (s, out, c)
  | .inr (s', n', q) => shiftCopyOut s' n' (out ++ q) cap

theorem shiftAndCheck_factor (s : State) (nsp : NewStreamData) (out : List Nat) (cap : Nat)
    (hw : nsp.num_bytes_written = none) (hout : out.length < cap) :
    shiftAndCheckNewStreamHeader s nsp out cap = (shiftHead s nsp).bind (shiftFinish s out cap) := by
  unfold shiftAndCheckNewStreamHeader shiftHead
  rw [hw]
  dsimp only
  by_cases c0 : nsp.num_bytes_read > NUM_STREAM_HEADER_BYTES
  · simp [c0]
  rw [if_neg c0, if_neg c0]
  cases parseWindowSize (nsp.bytes_so_far.toList.take nsp.num_bytes_read) with
  | panic t => simp
  | ok pw =>
    simp only [bind_ok]
    cases pw with
    | none => simp [shiftFinish]
    | some wo =>
      obtain ⟨wsz, wo⟩ := wo
      dsimp only
      by_cases c1 : s.window_size = 0
      · rw [if_pos c1, if_pos c1]
        by_cases c2 : s.last_byte_bit_offset ≠ 0
        · rw [if_pos c2, if_pos c2]; simp
        rw [if_neg c2, if_neg c2]
        unfold push
        rw [if_pos hout]
        simp [shiftFinish]
      rw [if_neg c1, if_neg c1]
      by_cases c3 : wsz > (s.window_size &&& NOT_LARGE_WINDOW_FLAG)
      · rw [if_pos c3, if_pos c3]; simp [shiftFinish]
      rw [if_neg c3, if_neg c3]
      by_cases c4 : (decide (wo = 14)) ≠ (decide ((s.window_size &&& LARGE_WINDOW_FLAG) ≠ 0))
      · rw [if_pos c4, if_pos c4]; simp [shiftFinish]
      rw [if_neg c4, if_neg c4]
      cases detectVarlenOffset (nsp.bytes_so_far.toList.take nsp.num_bytes_read) with
      | panic t => simp
      | ok vo =>
        simp only [bind_ok]
        cases vo with
        | none => simp [shiftFinish]
        | some v =>
          dsimp only
          by_cases c5 : (v + 7) / 8 > nsp.num_bytes_read
          · rw [if_pos c5, if_pos c5]; simp [shiftFinish]
          rw [if_neg c5, if_neg c5, shiftRealign_rel s nsp wo v out cap hout]
          cases shiftRealign s nsp wo v [] 1 with
          | panic t => simp
          | ok r => simp [shiftFinish]

theorem shiftHead_sat (s : State) (nsp : NewStreamData) (hI : Inv s) (hr5 : nsp.num_bytes_read ≤ 5)
    (hsuf : nsp.sufficient = true) :
    (shiftHead s nsp).sat (fun r =>
      match r with
      | .inl c => c = INVALID_WINDOW_SIZE ∨ c = WINDOW_SIZE_LARGER ∨ c = NOT_CRAFTED_FOR_CONCAT
      | .inr (s', n', q) =>
        (∃ ws, ws ≠ 0 ∧ s' = { s with window_size := ws, any_bytes_emitted := true }) ∧
        (∃ w, n'.num_bytes_written = some w ∧ w ≤ n'.num_bytes_read) ∧ n'.num_bytes_read ≤ 5 ∧ q.length = 1) := by
  have hrd := ((sufficient_iff nsp).mp hsuf).imp And.left id
  unfold shiftHead
  rw [hdr5]
  refine sat_ite (fun _ => by omega) (fun _ => ?_)
  have hlen : (List.take nsp.num_bytes_read nsp.bytes_so_far.toList).length = nsp.num_bytes_read := by
    simp only [List.length_take, B5.toList_length]; omega
  obtain ⟨pw, hpweq, hpw2⟩ := sat_iff.mp (parseWindowSize_sat (List.take nsp.num_bytes_read nsp.bytes_so_far.toList)
    (by omega))
  rw [hpweq, bind_ok]
  cases pw with
  | none => exact Or.inl rfl
  | some wo =>
    obtain ⟨wsz, wo⟩ := wo
    obtain ⟨hw10, hw30, hwo⟩ := hpw2 wsz wo rfl
    dsimp only
    refine sat_ite (fun h0 => ?_) (fun h0 => ?_)
    · refine sat_ite (fun hc => absurd (hI.ws0 h0).2 hc) (fun _ => ?_)
      refine ⟨⟨_, ?_, rfl⟩, ⟨1, rfl, by dsimp only; omega⟩, hr5, rfl⟩
      have := @Nat.left_le_or wsz (if wo = 14 then LARGE_WINDOW_FLAG else 0)
      omega
    · refine sat_ite (fun _ => Or.inr (Or.inl rfl)) (fun _ => ?_)
      refine sat_ite (fun _ => Or.inr (Or.inr rfl)) (fun _ => ?_)
      refine sat_bind _ (detectVarlenOffset_sat (List.take nsp.num_bytes_read nsp.bytes_so_far.toList)
        (by omega) (by omega)) ?_
      intro vo hvo
      cases vo with
      | none => exact Or.inr (Or.inr rfl)
      | some v =>
        dsimp only
        refine sat_ite (fun _ => Or.inr (Or.inr rfl)) (fun hsrc => ?_)
        obtain ⟨w', o', hpe, _, hov⟩ := hvo v rfl
        rw [hpweq] at hpe
        simp only [Outcome.ok.injEq, Option.some.injEq, Prod.mk.injEq] at hpe
        obtain ⟨_, rfl⟩ := hpe
        have hoff := hI.off_lt
        obtain ⟨H, hH, -⟩ := sat_iff.mp (packB5_sat nsp.bytes_so_far nsp.num_bytes_read hr5)
        obtain ⟨r0, nsp', e, hw, hrd', -, -⟩ :=
          shiftRealign_bytes s nsp wo v H [] 1 hoff hr5 hH (by omega) hov (by omega) (by simp)
        rw [e, bind_ok]
        exact ⟨⟨s.window_size, h0, rfl⟩, ⟨0, hw, Nat.zero_le _⟩, by omega, rfl⟩

theorem shiftAndCheck_sat (s : State) (nsp : NewStreamData) (out : List Nat) (cap : Nat) (hI : Inv s)
    (hsan : s.last_byte_sanitized = true)
    (hp : s.new_stream_pending = some nsp)
    (hsuf : nsp.num_bytes_written = none → nsp.sufficient = true) (hout : out.length < cap) :
    (shiftAndCheckNewStreamHeader s nsp out cap).sat (ShiftPost s out cap) := by
  obtain ⟨hr5, hwr⟩ := hI.pend nsp hp
  have hlen1 := (hI.san hsan).2
  cases hw : nsp.num_bytes_written with
  | some w =>
    obtain ⟨hwlt, hws⟩ := hwr w hw
    unfold shiftAndCheckNewStreamHeader
    rw [hw]
    dsimp only
    refine sat_ite (fun h => absurd h hws) (fun _ => ?_)
    refine sat_mono (shiftCopyOut_sat s nsp out cap w hw (by omega) hr5 (by omega) hI.off_lt
      (Or.inr ⟨hwlt, hout⟩)) ?_
    intro r hr
    exact post_of_copyOut s s out cap r hr hws hlen1 (hI.tail hsan)
  | none =>
    rw [shiftAndCheck_factor s nsp out cap hw hout]
    refine sat_bind _ (shiftHead_sat s nsp hI hr5 (hsuf hw)) ?_
    intro r hr
    cases r with
    | inl c => exact post_of_err s out cap c hI (by omega) hr
    | inr x =>
      obtain ⟨s', n', q⟩ := x
      obtain ⟨⟨ws, hws, rfl⟩, ⟨w, hw', hwle⟩, hr5', hq1⟩ := hr
      have hq : q ≠ [] := fun e => by rw [e] at hq1; simp at hq1
      refine sat_mono (shiftCopyOut_sat _ n' (out ++ q) cap w hw' hwle hr5'
        (by rw [List.length_append, hq1]; omega) hI.off_lt (Or.inl (by simp [hq]))) ?_
      intro r' hr'
      exact post_of_copyOut s _ out cap r' hr' hws hlen1 (hI.tail hsan)

end BV.Concat
