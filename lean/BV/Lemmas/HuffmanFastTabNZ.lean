/-
C17: the precomputed table `kNonZeroRepsDepth/Bits` of the fast builder is, entry by
entry, a chain of repeat codes 16 written with the static code-length code
(kernel-checked for all 704 entries).
-/
import BV.Lemmas.HuffmanFastTabZ

namespace BV.Lemmas.HuffmanFastTab
open BV.Gen BV.Bits BV.Huffman

def nzEntriesF (r : Nat) : List (Nat × Nat) := (repDigitsF 2 10 r).reverse.map fun e => (16, e)

theorem nzEntriesF_eq (r : Nat) (h : r < 1024) :
    nzEntriesF r = (repDigits 2 r).reverse.map fun e => (16, e) := by
  have hp : (2:Nat) ^ 10 = 1024 := by decide
  unfold nzEntriesF
  rw [repDigitsF_eq 2 (by decide) 10 r (by omega)]

theorem nonzero_table_chk : chkTab nzEntriesF kNonZeroRepsDepth kNonZeroRepsBits 0 = true := by
  decide +kernel

end BV.Lemmas.HuffmanFastTab
