/-
Facts about the spec-side judge (`BV.Ledger.judge`): its own invariant, that its counters of misbehaviour only
grow, and the ledger invariant `Books` with its three moves (re-partition, allocation of fresh blocks, free of held
blocks).
-/
import BV.Model.Ledger
namespace BV.Ledger

theorem judge_append (log evs : List Ev) : judge (log ++ evs) = evs.foldl Judge.step (judge log) := by
  simp [judge, List.foldl_append]

theorem judge_snoc (log : List Ev) (e : Ev) : judge (log ++ [e]) = (judge log).step e :=
  judge_append log [e]

def Judge.bad (j : Judge) : Nat := j.foreign + j.double + j.unknown + j.realloc

theorem clean_iff_bad (j : Judge) : j.clean = true ↔ j.bad = 0 := by
  simp [Judge.clean, Judge.bad]

theorem step_bad_mono (j : Judge) (ev : Ev) : j.bad ≤ (j.step ev).bad := by
  cases ev with
  | alloc x => simp only [Judge.step]; split <;> simp [Judge.bad]
  | free via x =>
    simp only [Judge.step]
    split
    · split <;> simp [Judge.bad] <;> omega
    · split <;> simp [Judge.bad] <;> omega
  | drop x => simp [Judge.step, Judge.bad]

theorem foldl_bad_mono (evs : List Ev) (j : Judge) : j.bad ≤ (evs.foldl Judge.step j).bad := by
  induction evs generalizing j with
  | nil => exact Nat.le_refl _
  | cons e es ih => exact Nat.le_trans (step_bad_mono j e) (ih (j.step e))

theorem mem_fresh {a next k : Nat} {b : BlockId} :
    b ∈ fresh a next k ↔ b.alloc = a ∧ next ≤ b.n ∧ b.n < next + k := by
  induction k generalizing next with
  | zero => simp [fresh]
  | succ k ih =>
    simp only [fresh, List.mem_cons, ih]
    constructor
    · rintro (h | ⟨h1, h2, h3⟩)
      · subst h; simp
      · exact ⟨h1, by omega, by omega⟩
    · rintro ⟨h1, h2, h3⟩
      by_cases hn : b.n = next
      · left
        cases b
        simp_all
      · right
        exact ⟨h1, by omega, by omega⟩

/-- `nodup` is not needed by `Books`; the slot and the path invariant `Inv`, `SInv` state it, and take it from here -/
structure Judge.WF (j : Judge) : Prop where
  sub : ∀ b ∈ j.live, b ∈ j.seen
  nodup : j.live.Nodup

theorem Judge.WF.step {j : Judge} (h : j.WF) (ev : Ev) : (j.step ev).WF := by
  cases ev with
  | alloc x =>
    by_cases hx : x ∈ j.seen
    · simp only [Judge.step, hx, if_true]; exact ⟨h.sub, h.nodup⟩
    · simp only [Judge.step, hx, if_false]
      refine ⟨fun b hb => ?_, List.nodup_cons.mpr ⟨fun hm => hx (h.sub x hm), h.nodup⟩⟩
      rcases List.mem_cons.mp hb with hb | hb
      · exact hb ▸ List.mem_cons_self
      · exact List.mem_cons_of_mem _ (h.sub b hb)
  | free via x =>
    simp only [Judge.step]
    split
    · split <;> exact ⟨fun b hb => h.sub b (List.mem_of_mem_erase hb), h.nodup.erase x⟩
    · split <;> exact ⟨h.sub, h.nodup⟩
  | drop x => exact ⟨h.sub, h.nodup⟩

theorem judge_wf (log : List Ev) : (judge log).WF := by
  suffices ∀ j : Judge, j.WF → (log.foldl Judge.step j).WF from this {} ⟨nofun, List.nodup_nil⟩
  induction log with
  | nil => exact fun j h => h
  | cons e es ih => exact fun j h => ih _ (h.step e)

/-- shared by the slot model (`Inv`) and the path model of the allocation skeletons (`BV.Skel.SInv`) -/
structure Books (log : List Ev) (next m8 : Nat) (held lost : List BlockId) : Prop where
  bad : (judge log).bad = 0
  live : ∀ b, (judge log).live.count b = held.count b + lost.count b
  ser : ∀ b ∈ (judge log).seen, b.n < next
  own : ∀ b, 0 < held.count b → b.alloc = m8

variable {log : List Ev} {next m8 : Nat} {held lost held' lost' : List BlockId}

theorem Books.repartition (h : Books log next m8 held lost)
    (hsum : ∀ b, held'.count b + lost'.count b = held.count b + lost.count b)
    (hle : ∀ b, held'.count b ≤ held.count b) : Books log next m8 held' lost' :=
  ⟨h.bad, fun b => by rw [h.live b, hsum b], h.ser, fun b hb => h.own b (by have := hle b; omega)⟩

theorem Books.alloc_one (h : Books log next m8 held lost)
    (hheld : ∀ b, held'.count b = held.count b + [(⟨m8, next⟩ : BlockId)].count b) :
    Books (log ++ [Ev.alloc ⟨m8, next⟩]) (next + 1) m8 held' lost := by
  have hns : (⟨m8, next⟩ : BlockId) ∉ (judge log).seen := fun hm => Nat.lt_irrefl _ (h.ser _ hm)
  have hlive : (judge (log ++ [Ev.alloc ⟨m8, next⟩])).live = ⟨m8, next⟩ :: (judge log).live := by
    simp [judge_append, Judge.step, hns]
  have hseen : (judge (log ++ [Ev.alloc ⟨m8, next⟩])).seen = ⟨m8, next⟩ :: (judge log).seen := by
    simp [judge_append, Judge.step, hns]
  have hbad : (judge (log ++ [Ev.alloc ⟨m8, next⟩])).bad = (judge log).bad := by
    simp [judge_append, Judge.step, hns, Judge.bad]
  refine ⟨hbad.trans h.bad, fun b => ?_, fun b hb => ?_, fun b hb => ?_⟩
  · rw [hlive, hheld b, List.count_cons, h.live b, List.count_cons, List.count_nil]
    omega
  · rw [hseen] at hb
    rcases List.mem_cons.mp hb with rfl | hb
    · exact Nat.lt_succ_self _
    · exact Nat.lt_succ_of_lt (h.ser b hb)
  · rw [hheld b, List.count_cons, List.count_nil] at hb
    by_cases hx : (⟨m8, next⟩ : BlockId) = b
    · exact hx ▸ rfl
    · exact h.own b (by simp only [beq_iff_eq, hx, if_false] at hb; omega)

theorem Books.alloc (h : Books log next m8 held lost) (k : Nat)
    (hheld : ∀ b, held'.count b = held.count b + (fresh m8 next k).count b) :
    Books (log ++ (fresh m8 next k).map Ev.alloc) (next + k) m8 held' lost := by
  induction k generalizing log next held with
  | zero =>
    -- no block: a re-partition into the same counts, over the same log (`fresh m8 next 0 = []`) and the same `next`
    simpa [fresh] using h.repartition (lost' := lost) (fun b => by rw [hheld b]; rfl) fun b => Nat.le_of_eq (hheld b)
  | succ k ih =>
    have h1 := h.alloc_one (held' := ⟨m8, next⟩ :: held) fun b => by
      rw [List.count_cons, List.count_cons, List.count_nil]; omega
    have := ih h1 fun b => by rw [hheld b, fresh, List.count_cons, List.count_cons]; omega
    simpa [fresh, Nat.add_assoc, Nat.add_comm 1 k] using this

theorem Books.free_one (h : Books log next m8 held lost) (x : BlockId)
    (hheld : ∀ b, held'.count b + [x].count b = held.count b) :
    Books (log ++ [Ev.free m8 x]) next m8 held' lost := by
  have hpos : 0 < held.count x := by have := hheld x; rw [List.count_cons_self] at this; omega
  have hx : x ∈ (judge log).live := List.count_pos_iff.mp (by rw [h.live x]; omega)
  have hm : x.alloc = m8 := h.own x hpos
  have hlive : (judge (log ++ [Ev.free m8 x])).live = (judge log).live.erase x := by
    simp [judge_append, Judge.step, hx, hm]
  have hseen : (judge (log ++ [Ev.free m8 x])).seen = (judge log).seen := by
    simp [judge_append, Judge.step, hx, hm]
  have hbad : (judge (log ++ [Ev.free m8 x])).bad = (judge log).bad := by
    simp [judge_append, Judge.step, hx, hm, Judge.bad]
  refine ⟨hbad.trans h.bad, fun b => ?_, fun b hb => h.ser b (hseen ▸ hb),
    fun b hb => h.own b (by have := hheld b; omega)⟩
  rw [hlive, List.count_erase, h.live b, ← hheld b, List.count_cons, List.count_nil]
  omega

theorem Books.free (h : Books log next m8 held lost) (bs : List BlockId)
    (hheld : ∀ b, held'.count b + bs.count b = held.count b) :
    Books (log ++ bs.map (Ev.free m8)) next m8 held' lost := by
  induction bs generalizing log held with
  | nil =>
    simpa using h.repartition (lost' := lost) (fun b => by rw [← hheld b]; rfl) fun b => Nat.le_of_eq (hheld b)
  | cons x xs ih =>
    have hpos : 0 < held.count x := by have := hheld x; rw [List.count_cons_self] at this; omega
    have h1 := h.free_one x (held' := held.erase x) fun b => by
      by_cases hb : b = x
      · subst hb; rw [List.count_erase_self, List.count_cons_self, List.count_nil]; omega
      · rw [List.count_erase_of_ne hb, List.count_cons_of_ne (Ne.symm hb), List.count_nil]; rfl
    have := ih h1 fun b => by
      have := hheld b
      rw [List.count_cons] at this
      rw [List.count_erase]
      omega
    simpa using this

end BV.Ledger
