/-
C01 / meta-block writers: `StoreCompressedMetaBlockHeader` is read back by the RFC 7932
§9.2 header reader `BV.HeaderSpec.readMetaBlock` (written for C08/C15, independent of the writers),
plus `StoreVarLenUint8` against the §9.2 variable-length code reader, the small bit-stream lemmas shared by the other
`MetaBlock*` lemma files, and `Cat.one`, the reader's state of a category with one block type.
-/
import BV.Model.MetaBlockFull
import BV.Lemmas.HeaderBits
import BV.Lemmas.Bits
import BV.Lemmas.HuffmanRead
import BV.Props.C18

namespace BV.MetaBlock
open BV.Gen BV.Bits BV.Huffman BV.PrefixArith BV.Recoder BV.HeaderSpec
open BV.Header (takeVal_bitsOf skipPad_pad)
open BV.Lemmas.HuffmanRead (takeBits_bitsOf)

theorem bind_eq_ok {α β : Type} (x : Out α) (f : α → Out β) (b : β) :
    (x >>= f) = .ok b ↔ ∃ a, x = .ok a ∧ f a = .ok b :=
  Out.bind_eq_ok x f b

theorem bitsOf_one_one : bitsOf 1 1 = [true] := by decide
theorem bitsOf_one_zero : bitsOf 1 0 = [false] := by decide

def headerBits (isLast : Bool) (length : Nat) : List Bool :=
  (if isLast then [true, false] else [false]) ++ bitsOf 2 (encodeMlen length).2.2 ++
    bitsOf (encodeMlen length).2.1 (encodeMlen length).1 ++ (if isLast then [] else [false])

theorem storeHeader_ok (isLast : Bool) (length : Nat) (w : Writer) (h1 : 1 ≤ length)
    (h2 : length ≤ 2 ^ 24) :
    storeCompressedMetaBlockHeader isLast length w = .ok (w ++ headerBits isLast length) := by
  obtain ⟨e1, e2, e3, e4, _⟩ := BV.Props.C18.mlen_exact length h1 h2
  have p24 : (2 : Nat) ^ 24 = 16777216 := by decide
  have hm : length % two32 = length := Nat.mod_eq_of_lt (by unfold two32; omega)
  have hnb : (encodeMlen length).2.1 ≤ 24 := by omega
  have hnb' : (encodeMlen length).2.1 % 256 = (encodeMlen length).2.1 := Nat.mod_eq_of_lt (by omega)
  have hnib : (encodeMlen length).2.2 < 2 ^ 2 := by omega
  unfold storeCompressedMetaBlockHeader headerBits
  cases isLast
  · simp only [Bool.false_eq_true, if_false, hm]
    rw [writeBits_ok 1 0 w (by decide) (by decide)]
    simp only [Out.bind_ok, show ¬ (length = 0 ∨ length > 16777216) by omega, if_false, hnb']
    rw [writeBits_ok 2 _ _ hnib (by decide)]
    simp only [Out.bind_ok]
    rw [writeBits_ok _ _ _ e4 (by omega)]
    simp only [Out.bind_ok]
    rw [writeBits_ok 1 0 _ (by decide) (by decide)]
    simp [bitsOf_one_zero, List.append_assoc]
  · simp only [if_true, hm]
    rw [writeBits_ok 1 1 w (by decide) (by decide)]
    simp only [Out.bind_ok]
    rw [writeBits_ok 1 0 _ (by decide) (by decide)]
    simp only [Out.bind_ok, show ¬ (length = 0 ∨ length > 16777216) by omega, if_false, hnb']
    rw [writeBits_ok 2 _ _ hnib (by decide)]
    simp only [Out.bind_ok]
    rw [writeBits_ok _ _ _ e4 (by omega)]
    simp [bitsOf_one_one, bitsOf_one_zero, List.append_assoc]

theorem headerBits_length (isLast : Bool) (length : Nat) :
    (headerBits isLast length).length = (if isLast then 2 else 1) + 2 + (encodeMlen length).2.1 +
      (if isLast then 0 else 1) := by
  unfold headerBits
  cases isLast <;> simp [bitsOf_length] <;> omega

theorem readHeader_ok (isLast : Bool) (length pos : Nat) (rest : List Bool) (h1 : 1 ≤ length)
    (h2 : length ≤ 2 ^ 24) :
    readMetaBlock pos (headerBits isLast length ++ rest)
      = some (MetaBlock.compressed length isLast, pos + (headerBits isLast length).length, rest) := by
  obtain ⟨e1, e2, e3, e4, e5⟩ := BV.Props.C18.mlen_exact length h1 h2
  have hl := headerBits_length isLast length
  generalize hmn : (encodeMlen length).2.2 = mn at *
  generalize hnb : (encodeMlen length).2.1 = nb at *
  generalize hx : (encodeMlen length).1 = x at *
  have hne : ¬ (4 + mn > 4 ∧ x / 2 ^ (4 * (4 + mn - 1)) = 0) := by
    rintro ⟨a, b⟩
    have hp : 0 < 2 ^ (4 * (4 + mn - 1)) := Nat.pow_pos (by decide)
    have := (Nat.div_eq_zero_iff_lt hp).mp b
    have h5 := e5 (by omega)
    rw [show 4 * (mn + 3) = 4 * (4 + mn - 1) by omega] at h5
    omega
  have hnb4 : nb = 4 * (4 + mn) := by omega
  subst hnb4
  rw [hl]
  unfold headerBits
  rw [hmn, hnb, hx]
  cases isLast
  · simp only [Bool.false_eq_true, if_false, List.append_assoc, List.cons_append, List.nil_append,
      readMetaBlock]
    rw [takeVal_bitsOf 2 mn _ (by omega)]
    simp only [show ¬ mn = 3 by omega, if_false]
    rw [takeVal_bitsOf (4 * (4 + mn)) x _ e4]
    simp only [hne, if_false]
    simp
    omega
  · simp only [if_true, List.append_assoc, List.cons_append, List.nil_append, readMetaBlock]
    rw [takeVal_bitsOf 2 mn _ (by omega)]
    simp only [show ¬ mn = 3 by omega, if_false]
    rw [takeVal_bitsOf (4 * (4 + mn)) x _ e4]
    simp only [hne, if_false, List.append_nil]
    simp
    omega

theorem varLen8_roundtrip (k : Nat) (hk : k < 256) (w : Writer) :
    ∃ vb, storeVarLenUint8M k w = .ok (w ++ vb) ∧ ∀ rest, readVarLen8 (vb ++ rest) = some (k, rest) := by
  unfold storeVarLenUint8M
  by_cases h0 : k = 0
  · subst h0
    refine ⟨[false], by rw [if_pos rfl, writeBits_ok 1 0 w (by decide) (by decide)]; rfl, ?_⟩
    intro rest; simp [readVarLen8]
  · rw [if_neg h0]
    obtain ⟨lo, hi⟩ := BV.Lemmas.PrefixArith.log2_bounds k h0
    rw [Nat.pow_succ] at hi
    have hL : log2Floor k < 8 := by
      rcases Nat.lt_or_ge (log2Floor k) 8 with h | h
      · exact h
      · have := Nat.pow_le_pow_right (show 0 < 2 by decide) h
        have e : (2 : Nat) ^ 8 = 256 := by decide
        omega
    generalize hLL : log2Floor k = L at *
    generalize hX : 2 ^ L = X at *
    have hsub : (k + two64 - X) % two64 = k - X :=
      wsub_of_le (by omega) (by unfold two64; omega)
    refine ⟨[true] ++ bitsOf 3 L ++ bitsOf L (k - X), ?_, ?_⟩
    · rw [writeBits_ok 1 1 w (by decide) (by decide), Out.bind_ok,
        writeBits_ok 3 L _ (by omega) (by decide), Out.bind_ok, Nat.mod_eq_of_lt (by omega), hX, hsub,
        writeBits_ok L (k - X) _ (by rw [hX]; omega) (by omega)]
      simp [bitsOf, List.append_assoc]
    · intro rest
      simp only [List.append_assoc, List.cons_append, List.nil_append, readVarLen8]
      rw [takeBits_bitsOf 3 L _ (by omega)]
      simp only
      rw [takeBits_bitsOf L (k - X) _ (by rw [hX]; omega)]
      simp only [hX]
      congr 2
      omega

/-- the state of a block category with one block type, as `readCatHeader` returns it for `NBLTYPES = 1`: no codes are read,
the block has type 0 and count `2^24`; `Cat.next` leaves this state as it is (`nbl < 2`) -/
def Cat.one : Cat := ⟨1, Code.single 0, Code.single 0, 0, 16777216, 1⟩

end BV.MetaBlock
