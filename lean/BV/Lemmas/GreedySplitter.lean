import BV.Lemmas.GreedyFinish
import BV.Lemmas.MetaBlockFullAsm
/-!
C01 / greedy builder: one splitter from `Init…` through `AddSymbol` on a whole symbol stream (`feed`) to the final `FinishBlock`
(`splitter_ok`), and what it then hands to the writer (`Finished`): `SplitOK`, the block lengths, `HistosOK`, and histograms that
cover the symbols emitted under them (`Covers`) for the block type sequence the writer derives from the split (`remTypes`).
-/

namespace BV.Greedy
open BV.Bits BV.Recoder BV.MetaBlock

def feed {F : Type} (ops : FOps F) : BS F → List (Nat × Nat) → Out (BS F)
  | s, [] => .ok s
  | s, p :: ps => (addSymbol ops s p.2 p.1).bind fun s => feed ops s ps

theorem feed_append {F : Type} (ops : FOps F) (s : BS F) (a b : List (Nat × Nat)) :
    feed ops s (a ++ b) = (feed ops s a).bind fun s => feed ops s b := by
  induction a generalizing s with
  | nil => rfl
  | cons p ps ih =>
    simp only [List.cons_append, feed]
    cases addSymbol ops s p.2 p.1 with
    | ok s' => exact ih s'
    | panic => rfl
    | fuel => rfl

theorem Inv.addItem {F : Type} {N A K HH : Nat} {s : BS F} {rb : List Blk} {pend : List (Nat × Nat)}
    (h : Inv N A K HH s rb pend 0) (p : Nat × Nat) (hctx : p.1 < s.nc) (hsym : p.2 < A)
    (hroom : doneCount rb + pend.length + 1 ≤ N) :
    ∃ slot', addItem s.slots s.curr p.1 p.2 = .ok (s.slots.set s.curr slot') ∧
      ∀ x, Inv N A K HH { s with slots := s.slots.set s.curr slot', blockSize := x } rb (pend ++ [p]) 0 := by
  have hcl := curr_lt h
  obtain ⟨slot', a1, a2, a3, a4⟩ := addItem_spec s.nc s.H s.slots s.curr p.1 p.2 hcl (h.shaped _ (slot_mem s s.curr hcl)) hctx
    (Nat.lt_of_lt_of_le hsym h.AH)
  have hptot := h.ptot
  have hcnt : ∀ c x, (cnt (s.slots.getD s.curr []) c x + 1) % two32 = cnt (s.slots.getD s.curr []) c x + 1 := by
    intro c x
    have := cnt_le_total (s.slots.getD s.curr []) c x
    have := h.bound
    exact Nat.mod_eq_of_lt (by unfold two32; omega)
  have hcurr_ne : ∀ t, t < s.numTypes → s.curr ≠ t := by
    intro t ht e
    by_cases hne : rb = []
    · have := (h.nt0 hne).1; omega
    · have := h.curr hne; omega
  refine ⟨slot', a1, fun x =>
    { h with
      slen := by rw [List.length_set]; exact h.slen
      shaped := ?_, zeroAbove := ?_, total := by rw [List.length_append]; exact hroom, cov := ?_, pcov := ?_
      tot := fun t ht => by
        show slotTotal ((s.slots.set s.curr slot').getD t []) ≤ _
        rw [getD_set_ne _ _ _ _ _ (hcurr_ne t ht)]; exact h.tot t ht
      ptot := by
        show slotTotal ((s.slots.set s.curr slot').getD s.curr []) ≤ _
        rw [getD_set_eq _ _ _ _ hcl, List.length_append]
        exact Nat.le_trans a3 (Nat.add_le_add_right hptot 1) }⟩
  · intro slot hs
    rcases List.mem_or_eq_of_mem_set hs with h1 | h1
    · exact h.shaped slot h1
    · rw [h1]; exact a2
  · intro slot hs c x hx
    rcases List.mem_or_eq_of_mem_set hs with h1 | h1
    · exact h.zeroAbove slot h1 c x hx
    · rw [h1, a4 c x, if_neg (fun hh : c = p.1 ∧ x = p.2 => Nat.lt_irrefl _ (Nat.lt_of_lt_of_le (hh.2 ▸ hsym) hx))]
      exact h.zeroAbove _ (slot_mem s s.curr hcl) c x hx
  · intro b hb0 q hq
    show _ ∧ cnt ((s.slots.set s.curr slot').getD b.t []) q.1 q.2 ≠ 0
    rw [getD_set_ne _ _ _ _ _ (hcurr_ne b.t (h.tlt b hb0))]
    exact h.cov b hb0 q hq
  · intro q hq
    show _ ∧ cnt ((s.slots.set s.curr slot').getD s.curr []) q.1 q.2 ≠ 0
    rw [getD_set_eq _ _ _ _ hcl, a4 q.1 q.2]
    rcases List.mem_append.mp hq with hq' | hq'
    · refine ⟨(h.pcov q hq').1, ?_⟩
      split
      · rw [hcnt]; exact Nat.succ_ne_zero _
      · exact (h.pcov q hq').2
    · rw [List.mem_singleton.mp hq', if_pos ⟨rfl, rfl⟩, hcnt]
      exact ⟨hctx, Nat.succ_ne_zero _⟩

theorem addSymbol_inv {F : Type} (ops : FOps F) (hirr : OracleOK ops) {N A K HH : Nat} {s : BS F} {rb : List Blk}
    {pend : List (Nat × Nat)} (h : Inv N A K HH s rb pend 0) (hd : Dyn s rb pend) (p : Nat × Nat) (hctx : p.1 < s.nc)
    (hsym : p.2 < A) (hroom : doneCount rb + pend.length + 1 ≤ N) :
    ∃ s' rb' pend', addSymbol ops s p.2 p.1 = .ok s' ∧ Inv N A K HH s' rb' pend' 0 ∧ Dyn s' rb' pend' ∧
      flat rb' ++ pend' = flat rb ++ pend ++ [p] ∧ s'.minBlockSize = s.minBlockSize ∧ s'.nc = s.nc := by
  obtain ⟨slot', a1, h2⟩ := h.addItem p hctx hsym hroom
  have hb := h.bound
  have hbs1 : (s.blockSize + 1) % two64 = pend.length + 1 := by rw [hd.bs]; exact mod64 _ (by omega)
  have hlen : (pend ++ [p]).length = pend.length + 1 := List.length_append
  have hhh : s.histosSize = (s.slots.set s.curr slot').length := by rw [List.length_set]; exact hd.hh
  unfold addSymbol
  rw [a1, Out.bind_ok]
  dsimp only
  rw [hbs1]
  by_cases hfin : pend.length + 1 = s.targetBlockSize
  · rw [if_pos hfin]
    have htb : s.targetBlockSize ≤ 2 ^ 24 := by omega
    obtain ⟨s', rb', e1, st, e3, _⟩ := finishBlock_inv ops hirr false (h2 (pend.length + 1)) hlen.symm hhh hd.mt htb
    have hmt := hd.mt
    have hmx : max (pend ++ [p]).length s.minBlockSize - (pend ++ [p]).length = 0 := by
      rw [hlen, hfin, Nat.max_eq_left hmt, Nat.sub_self]
    have e2 := st.inv
    rw [hmx] at e2
    have e5 : doneCount rb' = doneCount rb + (pend.length + 1) := by
      have := congrArg List.length st.flat
      rwa [List.length_append, flat_length, flat_length, hlen] at this
    have e7 : s'.minBlockSize = s.minBlockSize := st.min
    have e8 : s.minBlockSize ≤ s'.targetBlockSize := st.mt
    have e9 : s'.targetBlockSize ≤ s.targetBlockSize + s.minBlockSize := st.tb
    refine ⟨s', rb', [], e1, e2, ⟨st.bs, by rw [st.bs]; exact Nat.lt_of_lt_of_le h.min1 e8, by rw [e7]; exact e8,
      by rw [e7, e5, hfin]; exact Nat.le_trans e9 (Nat.add_le_add_right (Nat.le_add_left _ _) _),
      by rw [e3 rfl, st.slots]; exact hhh⟩, by rw [List.append_nil, st.flat, List.append_assoc], e7, ?_⟩
    rw [e2.ncEq, h.ncEq]
  · rw [if_neg hfin]
    have hlt := hd.lt
    have hbs := hd.bs
    exact ⟨_, rb, pend ++ [p], rfl, h2 _, ⟨hlen.symm, Nat.lt_of_le_of_ne (hbs ▸ hlt) hfin, hd.mt, hd.tb, hhh⟩,
      by rw [List.append_assoc], rfl, rfl⟩

theorem feed_inv {F : Type} (ops : FOps F) (hirr : OracleOK ops) {N A K HH : Nat} : ∀ (syms : List (Nat × Nat)) (s : BS F)
    (rb : List Blk) (pend : List (Nat × Nat)), Inv N A K HH s rb pend 0 → Dyn s rb pend →
    (∀ p ∈ syms, p.1 < K ∧ p.2 < A) → doneCount rb + pend.length + syms.length ≤ N →
    ∃ s' rb' pend', feed ops s syms = .ok s' ∧ Inv N A K HH s' rb' pend' 0 ∧ Dyn s' rb' pend' ∧
      flat rb' ++ pend' = flat rb ++ pend ++ syms ∧ s'.minBlockSize = s.minBlockSize
  | [], s, rb, pend, h, hd, _, _ => ⟨s, rb, pend, rfl, h, hd, by simp, rfl⟩
  | p :: ps, s, rb, pend, h, hd, hs, hn => by
    have hp := hs p (List.mem_cons_self)
    simp only [List.length_cons] at hn
    obtain ⟨s1, rb1, pend1, a1, a2, a3, a4, a5, _⟩ := addSymbol_inv ops hirr h hd p (by rw [h.ncEq]; exact hp.1) hp.2 (by omega)
    have hlen : doneCount rb1 + pend1.length = doneCount rb + pend.length + 1 := by
      have := congrArg List.length a4
      simp only [List.length_append, flat_length, List.length_singleton] at this
      exact this
    obtain ⟨s2, rb2, pend2, b1, b2, b3, b4, b5⟩ := feed_inv ops hirr ps s1 rb1 pend1 a2 a3
      (fun q hq => hs q (List.mem_cons_of_mem _ hq)) (by omega)
    refine ⟨s2, rb2, pend2, ?_, b2, b3, ?_, by rw [b5, a5]⟩
    · simp only [feed]; rw [a1]; exact b1
    · rw [b4, a4]; simp

theorem flatten_length_uniform {α : Type} (K : Nat) : ∀ (ls : List (List α)), (∀ l ∈ ls, l.length = K) →
    ls.flatten.length = ls.length * K
  | [], _ => by simp
  | l :: ls, h => by
    rw [List.flatten_cons, List.length_append, flatten_length_uniform K ls (fun x hx => h x (List.mem_cons_of_mem _ hx)),
      h l List.mem_cons_self, List.length_cons, Nat.add_mul, Nat.one_mul, Nat.add_comm]

theorem flatten_getD_uniform {α : Type} (K : Nat) (d : α) : ∀ (ls : List (List α)) (t i : Nat), (∀ l ∈ ls, l.length = K) →
    i < K → ls.flatten.getD (t * K + i) d = (ls.getD t []).getD i d
  | [], t, i, _, _ => by simp
  | l :: ls, 0, i, h, hi => by
    have hl := h l List.mem_cons_self
    simp only [Nat.zero_mul, Nat.zero_add, List.flatten_cons, List.getD_cons_zero]
    rw [List.getD_eq_getElem?_getD, List.getElem?_append_left (by omega), ← List.getD_eq_getElem?_getD]
  | l :: ls, t + 1, i, h, hi => by
    have hl := h l List.mem_cons_self
    have := flatten_getD_uniform K d ls t i (fun x hx => h x (List.mem_cons_of_mem _ hx)) hi
    simp only [List.flatten_cons, List.getD_cons_succ]
    rw [List.getD_eq_getElem?_getD, List.getElem?_append_right (by rw [hl, Nat.add_mul]; omega), ← List.getD_eq_getElem?_getD,
      show (t + 1) * K + i - l.length = t * K + i by rw [hl, Nat.add_mul]; omega]
    exact this

theorem getD_map_sum : ∀ (l : List (List Nat)) (i : Nat), (l.map List.sum).getD i 0 = (l.getD i []).sum
  | [], _ => by simp
  | _ :: _, 0 => by simp
  | _ :: l, i + 1 => by simpa using getD_map_sum l i

theorem toSplit_ok {F : Type} {N A K HH : Nat} {s : BS F} {rb : List Blk} {slack : Nat}
    (h : Inv N A K HH s rb [] slack) (hne : rb ≠ []) (hnb : s.splitNumBlocks = rb.length) : SplitOK s.toSplit := by
  have hT : s.toSplit.types = (rb.map (fun b => b.t)).reverse := by
    show s.types.take s.splitNumBlocks = _; rw [hnb]; exact h.typesEq
  have hL : s.toSplit.lengths = (rb.map (fun b => b.len)).reverse := by
    show s.lengths.take s.splitNumBlocks = _; rw [hnb]; exact h.lensEq
  have hlenT : s.toSplit.types.length = rb.length := by rw [hT]; simp
  have hpos : 1 ≤ rb.length := List.length_pos_iff.mpr hne
  have hbl := blocks_le h
  have hsum := lens_sum h hne
  have htot := h.total
  have hsl := h.slackLe
  have hbd := h.bound
  have hmin := h.min1
  refine ⟨by rw [hlenT]; exact hnb, by rw [hL, hlenT]; simp, by omega, ?_, ?_, ?_, h.ntPos hne,
    Nat.le_trans h.ntMax h.mbt, ?_, by rw [hlenT]; exact h.single⟩
  · rw [hlenT]
    have : rb.length * 1 ≤ rb.length * s.minBlockSize := Nat.mul_le_mul_left _ hmin
    simp only [List.length_nil] at htot
    omega
  · rw [hT]
    obtain ⟨b, hb⟩ : ∃ b, rb.getLast? = some b := by
      cases hl : rb.getLast? with
      | none => exact absurd (List.getLast?_eq_none_iff.mp hl) hne
      | some b => exact ⟨b, rfl⟩
    have h0 := h.t0 b hb
    have : (rb.map (fun b => b.t)).reverse.head? = some b.t := by
      rw [List.head?_reverse, List.getLast?_map, hb]; rfl
    rw [List.getD_eq_getElem?_getD, ← List.head?_eq_getElem?, this]
    exact h0
  · intro j hj
    have hm : s.toSplit.types.getD j 0 ∈ s.toSplit.types := getD_mem _ _ _ hj
    rw [hT] at hm
    simp only [List.mem_reverse, List.mem_map] at hm
    obtain ⟨b, hb, e⟩ := hm
    show s.toSplit.types.getD j 0 < s.numTypes
    rw [hT, ← e]; exact h.tlt b hb
  · intro j hj
    have hm : s.toSplit.lengths.getD j 0 ∈ s.toSplit.lengths := getD_mem _ _ _ (by rw [hL]; rw [hlenT] at hj; simpa using hj)
    rw [hL] at hm
    simp only [List.mem_reverse, List.mem_map] at hm
    obtain ⟨b, hb, e⟩ := hm
    rw [hL, ← e]
    refine ⟨Nat.le_trans hmin (h.chunkMin b hb), ?_⟩
    have := le_sum_of_mem (rb.map (fun b => b.len)) b.len (List.mem_map.mpr ⟨b, hb, rfl⟩)
    simp only [List.length_nil] at htot
    omega

theorem toSplit_lengths {F : Type} {N A K HH : Nat} {s : BS F} {rb : List Blk} {slack : Nat}
    (h : Inv N A K HH s rb [] slack) (hne : rb ≠ []) (hnb : s.splitNumBlocks = rb.length) :
    s.toSplit.lengths.sum = (flat rb).length + slack ∧ slack ≤ s.minBlockSize ∧
      ∀ l ∈ s.toSplit.lengths, s.minBlockSize ≤ l := by
  have hL : s.toSplit.lengths = (rb.map (fun b => b.len)).reverse := by
    show s.lengths.take s.splitNumBlocks = _; rw [hnb]; exact h.lensEq
  refine ⟨?_, h.slackLe, ?_⟩
  · rw [hL, List.sum_reverse, lens_sum h hne, flat_length]
  · intro l hl
    rw [hL] at hl
    simp only [List.mem_reverse, List.mem_map] at hl
    obtain ⟨b, hb, rfl⟩ := hl
    exact h.chunkMin b hb

theorem flat_getD {F : Type} {N A K HH : Nat} {s : BS F} {rb : List Blk} {slack : Nat}
    (h : Inv N A K HH s rb [] slack) (t i : Nat) (hi : i < K) :
    s.flat.getD (t * K + i) [] = (s.slots.getD t []).getD i [] :=
  flatten_getD_uniform K [] s.slots t i (fun l hl => by rw [← h.ncEq]; exact (h.shaped l hl).1) hi

theorem numTypes_le_slots {F : Type} {N A K HH : Nat} {s : BS F} {rb : List Blk} {slack : Nat}
    (h : Inv N A K HH s rb [] slack) : s.numTypes ≤ s.slots.length := by
  rw [h.slen, Nat.le_min]
  refine ⟨Nat.le_trans h.ntNb ?_, Nat.le_succ_of_le h.ntMax⟩
  have hbl := blocks_le h
  have htot : doneCount rb ≤ N := h.total
  have hsl := h.slackLe
  unfold maxBlocks
  rw [← Nat.add_div_right N h.min1, Nat.le_div_iff_mul_le h.min1]
  omega

theorem histos_exact {F : Type} {N A K HH : Nat} {s : BS F} {rb : List Blk} {slack : Nat}
    (h : Inv N A K HH s rb [] slack) (i : Nat) (hi : i < s.numTypes * K) :
    (s.flat.getD i []).length = HH ∧ (s.flat.getD i []).sum ≤ N ∧ ∀ k, A ≤ k → (s.flat.getD i []).getD k 0 = 0 := by
  have hK : 1 ≤ K := by rw [← h.ncEq]; exact h.nc1
  have hns := numTypes_le_slots h
  have hd : i = i / K * K + i % K := by rw [Nat.mul_comm]; exact (Nat.div_add_mod i K).symm
  have hm : i % K < K := Nat.mod_lt _ hK
  have ht : i / K < s.numTypes := by rw [Nat.div_lt_iff_lt_mul hK]; exact hi
  rw [hd, flat_getD h _ _ hm]
  have hmem := slot_mem s (i / K) (Nat.lt_of_lt_of_le ht hns)
  have hsh := h.shaped _ hmem
  refine ⟨by rw [hsh.getD (i % K) (by rw [h.ncEq]; exact hm), h.hEq], ?_, fun k hk => h.zeroAbove _ hmem (i % K) k hk⟩
  have h2 : ((s.slots.getD (i / K) []).getD (i % K) []).sum ≤ slotTotal (s.slots.getD (i / K) []) := by
    rw [← getD_map_sum]; exact getD_le_sum _ _
  have htot : doneCount rb ≤ N := h.total
  exact Nat.le_trans h2 (Nat.le_trans (h.tot _ ht) htot)

theorem histos_ok {F : Type} {N A K HH : Nat} {s : BS F} {rb : List Blk} {slack : Nat}
    (h : Inv N A K HH s rb [] slack) (hne : rb ≠ []) : HistosOK s.flat (s.numTypes * K) HH A := by
  have hfl : s.flat.length = s.slots.length * K :=
    flatten_length_uniform K s.slots (fun l hl => by rw [← h.ncEq]; exact (h.shaped l hl).1)
  have hK : 1 ≤ K := by rw [← h.ncEq]; exact h.nc1
  have hmK : s.maxBlockTypes * K ≤ 256 := by rw [← h.ncEq]; exact h.mbtK
  refine ⟨by rw [hfl]; exact Nat.mul_le_mul_right _ (numTypes_le_slots h), Nat.mul_le_mul (h.ntPos hne) hK,
    Nat.le_trans (Nat.mul_le_mul_right _ h.ntMax) hmK, fun i hi => ?_⟩
  obtain ⟨e1, e2, e3⟩ := histos_exact h i hi
  have := h.bound
  exact ⟨by rw [e1]; exact Nat.le_refl _, by omega, e3⟩

def Cov1 (histos : List (List Nat)) (eff : List Nat) (m t : Nat) (p : Nat × Nat) : Prop :=
  (histos.getD (eff.getD (t * m + p.1) 0) []).getD p.2 0 ≠ 0

theorem covers_exact (histos : List (List Nat)) (eff : List Nat) (m t : Nat) (R : List Nat) (s2 : List (Nat × Nat)) :
    ∀ (ss : List (Nat × Nat)), (∀ p ∈ ss, Cov1 histos eff m t p) → Covers histos eff m R s2 →
      Covers histos eff m (List.replicate ss.length t ++ R) (ss ++ s2)
  | [], _, h => by simpa using h
  | p :: ss, hc, h => by
    rw [List.length_cons, List.replicate_succ]
    exact ⟨hc p List.mem_cons_self, covers_exact histos eff m t R s2 ss (fun q hq => hc q (List.mem_cons_of_mem _ hq)) h⟩

theorem covers_last (histos : List (List Nat)) (eff : List Nat) (m t n : Nat) (ss : List (Nat × Nat)) (h : ss.length ≤ n)
    (hc : ∀ p ∈ ss, Cov1 histos eff m t p) : Covers histos eff m (List.replicate n t) ss := by
  have := covers_exact histos eff m t (List.replicate (n - ss.length) t) [] ss hc (by simp [Covers])
  rwa [List.append_nil, List.replicate_append_replicate, Nat.add_sub_cancel' h] at this

def typeSeq (fb : List Blk) : List Nat := fb.flatMap (fun b => List.replicate b.len b.t)

theorem covers_blocks (histos : List (List Nat)) (eff : List Nat) (m : Nat) (φ : Nat × Nat → Nat × Nat)
    (R : List Nat) (s2 : List (Nat × Nat)) (hR : Covers histos eff m R s2) :
    ∀ (fb : List Blk) (spec : List (Nat × Nat)), spec.map φ = (fb.map (fun b => b.chunk)).flatten →
      (∀ b ∈ fb, b.chunk.length = b.len) → (∀ b ∈ fb, ∀ p ∈ spec, φ p ∈ b.chunk → Cov1 histos eff m b.t p) →
      Covers histos eff m (typeSeq fb ++ R) (spec ++ s2)
  | [], spec, hm, _, _ => by
    simp only [List.map_nil, List.flatten_nil, List.map_eq_nil_iff] at hm
    subst hm; simpa [typeSeq] using hR
  | b :: fb, spec, hm, hx, hc => by
    simp only [List.map_cons, List.flatten_cons] at hm
    obtain ⟨l1, l2, rfl, h1, h2⟩ := List.map_eq_append_iff.mp hm
    have ih := covers_blocks histos eff m φ R s2 hR fb l2 h2 (fun c hc' => hx c (List.mem_cons_of_mem _ hc'))
      (fun c hc' p hp => hc c (List.mem_cons_of_mem _ hc') p (List.mem_append_right _ hp))
    have hl : l1.length = b.len := by
      rw [← hx b List.mem_cons_self, ← h1, List.length_map]
    have := covers_exact histos eff m b.t (typeSeq fb ++ R) (l2 ++ s2) l1
      (fun p hp => hc b List.mem_cons_self p (List.mem_append_left _ hp) (by rw [← h1]; exact List.mem_map_of_mem hp)) ih
    rw [hl] at this
    simpa [typeSeq, List.append_assoc] using this

theorem flatMap_zip_map : ∀ (fb : List Blk),
    ((fb.map (fun b => b.t)).zip (fb.map (fun b => b.len))).flatMap (fun tl => List.replicate tl.2 tl.1)
      = fb.flatMap (fun b => List.replicate b.len b.t)
  | [] => rfl
  | c :: cs => by simp only [List.map_cons, List.zip_cons_cons, List.flatMap_cons, flatMap_zip_map cs]

theorem remTypes_typeSeq (nt nb : Nat) : ∀ (fb : List Blk), fb ≠ [] →
    remTypes ⟨nt, nb, fb.map (fun b => b.t), fb.map (fun b => b.len)⟩ 0 ((fb.map (fun b => b.len)).getD 0 0) = typeSeq fb
  | [], h => absurd rfl h
  | b :: fb, _ => by
    unfold remTypes typeSeq
    simp only [List.map_cons, List.getD_cons_zero, Nat.zero_add, List.zip_cons_cons, List.drop_succ_cons, List.drop_zero,
      List.flatMap_cons]
    rw [flatMap_zip_map fb]

theorem covers_result {F : Type} {N A K HH : Nat} {s : BS F} {rb : List Blk} {slack : Nat}
    (h : Inv N A K HH s rb [] slack) (hne : rb ≠ []) (hnb : s.splitNumBlocks = rb.length)
    (eff : List Nat) (m : Nat) (g : Nat → Nat) (spec : List (Nat × Nat))
    (hspec : flat rb = spec.map (fun p => (g p.1, p.2)))
    (heff : ∀ t c, t < s.numTypes → c < m → eff.getD (t * m + c) 0 = t * K + g c)
    (hm : ∀ p ∈ spec, p.1 < m) :
    Covers s.flat eff m (remTypes s.toSplit 0 (s.toSplit.lengths.getD 0 0)) spec := by
  have hT : s.toSplit.types = (rb.reverse.map (fun b => b.t)) := by
    show s.types.take s.splitNumBlocks = _; rw [hnb, h.typesEq, List.map_reverse]
  have hL : s.toSplit.lengths = (rb.reverse.map (fun b => b.len)) := by
    show s.lengths.take s.splitNumBlocks = _; rw [hnb, h.lensEq, List.map_reverse]
  have hsp : s.toSplit = ⟨s.numTypes, s.splitNumBlocks, rb.reverse.map (fun b => b.t), rb.reverse.map (fun b => b.len)⟩ := by
    have : s.toSplit = ⟨s.toSplit.numTypes, s.toSplit.numBlocks, s.toSplit.types, s.toSplit.lengths⟩ := rfl
    rw [this, hT, hL]; rfl
  rw [hsp, remTypes_typeSeq _ _ rb.reverse (by simpa using hne)]
  have hcov : ∀ b ∈ rb, ∀ p, p ∈ spec → (g p.1, p.2) ∈ b.chunk → Cov1 s.flat eff m b.t p := by
    intro b hb p hp hq
    have hc := h.cov b hb _ hq
    unfold Cov1
    rw [heff b.t p.1 (h.tlt b hb) (hm p hp), flat_getD h b.t (g p.1) (by rw [← h.ncEq]; exact hc.1)]
    exact hc.2
  obtain ⟨b0, rest, rfl⟩ : ∃ b0 rest, rb = b0 :: rest := by
    cases rb with
    | nil => exact absurd rfl hne
    | cons b0 rest => exact ⟨b0, rest, rfl⟩
  rw [flat_cons] at hspec
  obtain ⟨l1, l2, rfl, h1, h2⟩ := List.map_eq_append_iff.mp hspec.symm
  have hlast : Covers s.flat eff m (List.replicate b0.len b0.t) l2 := by
    apply covers_last
    · have := h.chunkHead b0 rfl
      rw [← h2, List.length_map] at this; omega
    · intro p hp
      exact hcov b0 List.mem_cons_self p (List.mem_append_right _ hp) (by rw [← h2]; exact List.mem_map_of_mem (f := fun p => (g p.1, p.2)) hp)
  have := covers_blocks s.flat eff m (fun p => (g p.1, p.2)) (List.replicate b0.len b0.t) l2 hlast rest.reverse l1
    (by rw [h1]; rfl)
    (fun b hb => h.chunkTail b (by simpa using hb))
    (fun b hb p hp hq => by
      have hb' : b ∈ rest := by simpa using hb
      exact hcov b (List.mem_cons_of_mem _ hb') p (List.mem_append_left _ hp) hq)
  simpa [typeSeq, List.reverse_cons, List.flatMap_append] using this

/-- in `covers`, `g` sends a context as the writer sees it to the static context the builder counted the symbol under
(`fun _ => 0` for a plain splitter) -/
structure Finished {F : Type} (N A K HH m : Nat) (syms : List (Nat × Nat)) (s : BS F) : Prop where
  split : SplitOK s.toSplit
  size : s.histosSize = s.numTypes
  histos : HistosOK s.flat (s.numTypes * K) HH A
  sharp : ∀ i, i < s.numTypes * K → (s.flat.getD i []).length = HH ∧ (s.flat.getD i []).sum ≤ N
  lens : syms.length ≤ s.toSplit.lengths.sum ∧ s.toSplit.lengths.sum ≤ syms.length + m ∧ ∀ l ∈ s.toSplit.lengths, m ≤ l
  covers : ∀ (eff : List Nat) (c : Nat) (g : Nat → Nat) (spec : List (Nat × Nat)),
    syms = spec.map (fun p => (g p.1, p.2)) →
    (∀ t x, t < s.numTypes → x < c → eff.getD (t * c + x) 0 = t * K + g x) → (∀ p ∈ spec, p.1 < c) →
    Covers s.flat eff c (remTypes s.toSplit 0 (s.toSplit.lengths.getD 0 0)) spec

theorem splitter_ok {F : Type} (ops : FOps F) (hirr : OracleOK ops) (plain : Bool) (nc H alphabetSize minBlockSize : Nat)
    (thr : F) (N A : Nat) (hnc1 : 1 ≤ nc) (hnc : nc ≤ 13) (hp : plain = true → nc = 1) (hmin : 1 ≤ minBlockSize)
    (hal : alphabetSize ≤ H) (hAH : A ≤ H) (hb : N + minBlockSize ≤ 2 ^ 24) (syms : List (Nat × Nat))
    (hs : ∀ p ∈ syms, p.1 < nc ∧ p.2 < A) (hn : syms.length ≤ N) :
    ∃ s0 s1 s, initBS ops plain nc H alphabetSize minBlockSize thr N = .ok s0 ∧ feed ops s0 syms = .ok s1 ∧
      finishBlock ops s1 true = .ok s ∧ Finished N A nc H minBlockSize syms s := by
  obtain ⟨s0, i1, i2, i3, i4⟩ := initBS_inv ops plain nc H alphabetSize minBlockSize thr N A hnc1 hnc hp hmin hal hAH hb
  obtain ⟨s1, rb1, pend1, f1, a2, a3, a4, a5⟩ := feed_inv ops hirr syms s0 [] [] i2 i3 hs (by simpa [doneCount] using hn)
  have htb : s1.targetBlockSize ≤ 2 ^ 24 := by have := a3.tb; have := a2.total; have := a2.bound; omega
  obtain ⟨s, rb, f2, st, _, e12⟩ := finishBlock_inv ops hirr true a2 a3.bs a3.hh a3.mt htb
  obtain ⟨f6, f7⟩ := e12 rfl
  have f5 : flat rb = syms := by rw [st.flat, a4]; simp [flat]
  obtain ⟨x1, x2, x3⟩ := toSplit_lengths st.inv st.ne f7
  rw [f5, a5, i4] at x1
  rw [st.min, a5, i4] at x2 x3
  exact ⟨s0, s1, s, i1, f1, f2, toSplit_ok st.inv st.ne f7, f6, histos_ok st.inv st.ne,
    fun i hi => ⟨(histos_exact st.inv i hi).1, (histos_exact st.inv i hi).2.1⟩,
    ⟨by rw [x1]; exact Nat.le_add_right _ _, by rw [x1]; exact Nat.add_le_add_left x2 _, x3⟩,
    fun eff c g spec hsp heff hm => covers_result st.inv st.ne f7 eff c g spec (by rw [f5, hsp]) heff hm⟩

end BV.Greedy
