import BV.Model.Bits
import BV.Lemmas.ListNat

/-
What the shared pieces of `BV/Model/Bits.lean` do: inversion of `>>=` in the outcome monad, checked list access, the LSB-first
bit lists `bitsOf`/`valOf` as inverse bijections between `n`-bit lists and numbers below `2 ^ n`, `writeBits` when its two
assertions hold, and a program logic for `Out` (`Post`, `Ret`, `Spec`).
-/

namespace BV.Bits
open Out

theorem Out.bind_eq_ok {α β : Type} (x : Out α) (f : α → Out β) (b : β) :
    (x >>= f) = ok b ↔ ∃ a, x = ok a ∧ f a = ok b := by
  cases x <;> simp

theorem Out.bind_assoc {α β γ : Type} (x : Out α) (f : α → Out β) (g : β → Out γ) :
    (x >>= f >>= g) = x >>= fun a => f a >>= g := by
  cases x <;> rfl

theorem Out.ite_bind {α β : Type} {c : Prop} [Decidable c] (x y : Out α) (k : α → Out β) :
    ((if c then x else y) >>= k) = if c then x >>= k else y >>= k := by
  split <;> rfl

/- Of the three forms, `getAt_getD` is the one to reach for: the models' values are read back with `getD`. -/
theorem getAt_of_getElem? {α : Type} (l : List α) (i : Nat) (x : α) (h : l[i]? = some x) : getAt l i = ok x := by
  simp [getAt, h]

theorem getAt_of_lt {α : Type} (l : List α) (i : Nat) (h : i < l.length) : getAt l i = ok l[i] :=
  getAt_of_getElem? l i _ (List.getElem?_eq_getElem h)

theorem getAt_getD {α : Type} (l : List α) (i : Nat) (d : α) (h : i < l.length) : getAt l i = ok (l.getD i d) :=
  getAt_of_getElem? l i _ (getElem?_getD l i d h)

theorem getAt_eq_ok {α : Type} {l : List α} {i : Nat} {x : α} (d : α) (h : getAt l i = ok x) :
    i < l.length ∧ x = l.getD i d ∧ x ∈ l := by
  unfold getAt at h
  cases hi : l[i]? with
  | none => rw [hi] at h; cases h
  | some y =>
    rw [hi] at h; cases h
    obtain ⟨hlt, rfl⟩ := List.getElem?_eq_some_iff.mp hi
    exact ⟨hlt, (getD_of_lt l i d hlt).symm, List.getElem_mem hlt⟩

theorem getAt_map {α β : Type} (f : α → β) {l : List α} {i : Nat} {x : α} (h : getAt l i = ok x) :
    getAt (l.map f) i = ok (f x) := by
  unfold getAt at h ⊢
  rw [List.getElem?_map]
  cases hi : l[i]? with
  | none => rw [hi] at h; cases h
  | some y => rw [hi] at h; cases h; rfl

theorem setAt_of_lt {α : Type} (l : List α) (i : Nat) (v : α) (h : i < l.length) : setAt l i v = ok (l.set i v) := by
  simp [setAt, h]

theorem setAt_eq_ok {α : Type} {l r : List α} {i : Nat} {v : α} (h : setAt l i v = ok r) :
    i < l.length ∧ r = l.set i v := by
  unfold setAt at h
  split at h
  · injection h with h; exact ⟨by assumption, h.symm⟩
  · cases h

theorem bitsOf_length (n v : Nat) : (bitsOf n v).length = n := by
  induction n generalizing v with
  | zero => rfl
  | succ k ih => simp [bitsOf, ih]

theorem bitsOf_zero (n : Nat) : bitsOf n 0 = List.replicate n false := by
  induction n with
  | zero => rfl
  | succ k ih => simp [bitsOf, ih, List.replicate_succ]

theorem bitsOf_add (a b v : Nat) : bitsOf (a + b) v = bitsOf a v ++ bitsOf b (v / 2 ^ a) := by
  induction a generalizing v with
  | zero => simp [bitsOf]
  | succ k ih =>
    rw [show k + 1 + b = (k + b) + 1 by omega]
    simp only [bitsOf, ih, List.cons_append]
    rw [Nat.div_div_eq_div_mul, Nat.pow_succ, Nat.mul_comm]

theorem valOf_bitsOf (n v : Nat) : valOf (bitsOf n v) = v % 2 ^ n := by
  induction n generalizing v with
  | zero => simp [bitsOf, valOf, Nat.mod_one]
  | succ k ih =>
    simp only [bitsOf, valOf, ih]
    have h2 : v % 2 ^ (k + 1) = v % 2 + 2 * (v / 2 % 2 ^ k) := by
      rw [Nat.pow_succ, Nat.mul_comm, Nat.mod_mul]
    rw [h2]
    rcases Nat.mod_two_eq_zero_or_one v with h | h <;> simp [h]

theorem valOf_bitsOf_lt {n v : Nat} (h : v < 2 ^ n) : valOf (bitsOf n v) = v := by
  rw [valOf_bitsOf, Nat.mod_eq_of_lt h]

theorem valOf_lt (bs : List Bool) : valOf bs < 2 ^ bs.length := by
  induction bs with
  | nil => simp [valOf]
  | cons b t ih =>
    simp only [valOf, List.length_cons, Nat.pow_succ]
    cases b <;> simp <;> omega

theorem bitsOf_valOf (bs : List Bool) : bitsOf bs.length (valOf bs) = bs := by
  induction bs with
  | nil => rfl
  | cons b t ih =>
    simp only [List.length_cons, bitsOf, valOf]
    cases b
    · simp only [Bool.false_eq_true, ↓reduceIte, Nat.zero_add, Nat.mul_mod_right]
      rw [Nat.mul_div_cancel_left _ (by decide : 0 < 2), ih]; rfl
    · simp only [↓reduceIte, Nat.add_mul_mod_self_left]
      rw [show (1 + 2 * valOf t) / 2 = valOf t by omega, ih]; rfl

theorem bitsOf_mod (n v : Nat) : bitsOf n (v % 2 ^ n) = bitsOf n v := by
  have h := bitsOf_valOf (bitsOf n v)
  rwa [bitsOf_length, valOf_bitsOf] at h

theorem bitsOf_congr (n a b : Nat) (h : a % 2 ^ n = b % 2 ^ n) : bitsOf n a = bitsOf n b := by
  rw [← bitsOf_mod n a, ← bitsOf_mod n b, h]

theorem bitsOf_pair (m n a b : Nat) (ha : a < 2 ^ m) :
    bitsOf (m + n) (b * 2 ^ m ||| a) = bitsOf m a ++ bitsOf n b := by
  have hp : 0 < 2 ^ m := Nat.pow_pos (by decide)
  rw [Nat.mul_comm, ← Nat.two_pow_add_eq_or_of_lt ha b, bitsOf_add]
  congr 1
  · rw [← bitsOf_mod, Nat.mul_add_mod, bitsOf_mod]
  · rw [Nat.mul_add_div hp, Nat.div_eq_of_lt ha, Nat.add_zero]

theorem flatMap_bitsOf_length (k : Nat) (l : List Nat) : (l.flatMap (bitsOf k)).length = k * l.length := by
  induction l with
  | nil => rfl
  | cons x xs ih => simp only [List.flatMap_cons, List.length_append, bitsOf_length, ih, List.length_cons, Nat.mul_succ]; omega

theorem writeBits_ok (n v : Nat) (w : Writer) (hv : v < 2 ^ n) (hn : n ≤ 56) :
    writeBits n v w = ok (w ++ bitsOf n v) := by
  unfold writeBits
  rw [Nat.div_eq_of_lt hv, if_neg (by simp), if_neg (by omega)]

theorem writeBits_bind {β : Type} (n v : Nat) (w : Writer) (k : Writer → Out β) (hv : v < 2 ^ n) (hn : n ≤ 56) :
    (writeBits n v w >>= k) = k (w ++ bitsOf n v) := by
  rw [writeBits_ok n v w hv hn]; rfl

theorem writeBits_eq_ok {n v : Nat} {w w' : Writer} (h : writeBits n v w = ok w') :
    w' = w ++ bitsOf n v ∧ v < 2 ^ n ∧ n ≤ 56 := by
  unfold writeBits at h
  split at h
  · cases h
  · split at h
    · cases h
    · rename_i h1 h2
      injection h with h
      exact ⟨h.symm, (Nat.div_eq_zero_iff_lt (Nat.pow_pos (by decide))).mp (by simpa using h1), by omega⟩

end BV.Bits

/-
A program logic for `Out`, so that computations are reasoned about without unfolding them.  `Post` and `Ret` compose along `>>=`
and `if`; the `bind` rules hand the continuation the value and the equation that produced it.  `Spec t` pairs the two, so that
one walk over a function of the model gives both what its result satisfies and that it returns (no panic, enough fuel) when `t` holds.
-/
namespace BV.Bits.Out
variable {α β : Type}

def Post (x : Out α) (P : α → Prop) : Prop := ∀ a, x = .ok a → P a

theorem Post.ok {a : α} {P : α → Prop} (h : P a) : Post (.ok a) P := fun _ e => by cases e; exact h

theorem Post.panic {P : α → Prop} : Post .panic P := fun _ e => by cases e

theorem Post.fuel {P : α → Prop} : Post .fuel P := fun _ e => by cases e

theorem Post.mono {x : Out α} {P Q : α → Prop} (hx : Post x P) (h : ∀ a, P a → Q a) : Post x Q :=
  fun a e => h a (hx a e)

theorem Post.bind {x : Out α} {k : α → Out β} {Q : β → Prop} (hk : ∀ a, x = .ok a → Post (k a) Q) :
    Post (x >>= k) Q := fun b e =>
  let ⟨a, ea, eb⟩ := (bind_eq_ok x k b).mp e
  hk a ea b eb

theorem Post.seq {x : Out α} {k : α → Out β} {P : α → Prop} {Q : β → Prop} (hx : Post x P)
    (hk : ∀ a, P a → Post (k a) Q) : Post (x >>= k) Q := .bind fun a e => hk a (hx a e)

theorem Post.ite {c : Prop} [Decidable c] {t e : Out α} {P : α → Prop} (ht : c → Post t P) (he : ¬c → Post e P) :
    Post (if c then t else e) P := by
  by_cases h : c
  · rw [if_pos h]; exact ht h
  · rw [if_neg h]; exact he h

def Ret (x : Out α) (P : α → Prop) : Prop := ∃ a, x = .ok a ∧ P a

theorem Ret.ok {a : α} {P : α → Prop} (h : P a) : Ret (.ok a) P := ⟨a, rfl, h⟩

theorem Ret.mono {x : Out α} {P Q : α → Prop} (hx : Ret x P) (h : ∀ a, P a → Q a) : Ret x Q :=
  let ⟨a, e, ha⟩ := hx; ⟨a, e, h a ha⟩

theorem Ret.bind {x : Out α} {k : α → Out β} {P : α → Prop} {Q : β → Prop} (hx : Ret x P)
    (hk : ∀ a, x = .ok a → P a → Ret (k a) Q) : Ret (x >>= k) Q := by
  obtain ⟨a, e, ha⟩ := hx
  rw [e]
  exact hk a e ha

theorem Ret.ite {c : Prop} [Decidable c] {t e : Out α} {P : α → Prop} (ht : c → Ret t P) (he : ¬c → Ret e P) :
    Ret (if c then t else e) P := by
  by_cases h : c
  · rw [if_pos h]; exact ht h
  · rw [if_neg h]; exact he h

theorem Ret.of_eq {x : Out α} {a : α} (h : x = .ok a) : Ret x (· = a) := ⟨a, h, rfl⟩

theorem Ret.getAt {l : List α} {i : Nat} (d : α) (h : i < l.length) : Ret (getAt l i) (· = l.getD i d) :=
  .of_eq (getAt_getD l i d h)

theorem Ret.setAt {l : List α} {i : Nat} (v : α) (h : i < l.length) : Ret (setAt l i v) (· = l.set i v) :=
  .of_eq (setAt_of_lt l i v h)

/-- `t` is what returning needs; what holds of the result regardless belongs in `P`.  The `Post` half holds without `t`,
so a caller that only wants the property of the result owes no room hypothesis. -/
def Spec (t : Prop) (x : Out α) (P : α → Prop) : Prop := x.Post P ∧ (t → x.Ret P)

namespace Spec
variable {t t' : Prop} {P Q : α → Prop}

theorem ok {a : α} (h : P a) : Spec t (.ok a) P := ⟨.ok h, fun _ => .ok h⟩

theorem panic (h : ¬t) : Spec t (.panic : Out α) P := ⟨.panic, fun ht => absurd ht h⟩

theorem fuel (h : ¬t) : Spec t (.fuel : Out α) P := ⟨.fuel, fun ht => absurd ht h⟩

theorem mono {x : Out α} (hx : Spec t x P) (h : ∀ a, P a → Q a) : Spec t x Q :=
  ⟨hx.1.mono h, fun ht => (hx.2 ht).mono h⟩

theorem weaken {x : Out α} (hx : Spec t' x P) (ht : t → t') : Spec t x P := ⟨hx.1, fun h => hx.2 (ht h)⟩

theorem bind {x : Out α} {k : α → Out β} {R : β → Prop} (hx : Spec t' x P) (ht : t → t')
    (hk : ∀ a, x = .ok a → P a → Spec t (k a) R) : Spec t (x >>= k) R :=
  ⟨.bind fun a e => (hk a e (hx.1 a e)).1, fun h => (hx.2 (ht h)).bind fun a e ha => (hk a e ha).2 h⟩

theorem seq {x : Out α} {k : α → Out β} {R : β → Prop} (hx : Spec t x P) (hk : ∀ a, P a → Spec t (k a) R) :
    Spec t (x >>= k) R :=
  hx.bind id fun a _ => hk a

theorem ite {c : Prop} [Decidable c] {x y : Out α} (h1 : c → Spec t x P) (h2 : ¬c → Spec t y P) :
    Spec t (if c then x else y) P :=
  ⟨.ite (fun hc => (h1 hc).1) fun hc => (h2 hc).1, fun ht => .ite (fun hc => (h1 hc).2 ht) fun hc => (h2 hc).2 ht⟩

/-- `Out` is deterministic: the property of whatever is returned, and that something is returned, suffice -/
theorem intro {x : Out α} (hp : x.Post P) (hr : t → x.Ret Q) : Spec t x P :=
  ⟨hp, fun h => let ⟨a, e, _⟩ := hr h; ⟨a, e, hp a e⟩⟩

theorem of_ret {x : Out α} (h : x.Ret P) : Spec t x P :=
  .intro (fun r e => by obtain ⟨a, ea, hp⟩ := h; rw [ea] at e; cases e; exact hp) fun _ => h

/-- for a callee whose specification has a side hypothesis that only `t` supplies; the price is the postcondition `t → P` -/
theorem under {x : Out α} (h : t → Spec t x P) : Spec t x (fun r => t → P r) :=
  ⟨fun r e ht => (h ht).1 r e, fun ht => ((h ht).2 ht).mono fun _ hp _ => hp⟩

theorem getAt (l : List α) (i : Nat) (d : α) (h : i < l.length) : Spec t (getAt l i) (· = l.getD i d) :=
  of_ret (.getAt d h)

theorem setAt (l : List α) (i : Nat) (v : α) (h : i < l.length) : Spec t (setAt l i v) (· = l.set i v) :=
  of_ret (.setAt v h)

end Spec

end BV.Bits.Out
