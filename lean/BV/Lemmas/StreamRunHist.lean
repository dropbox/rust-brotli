import BV.Lemmas.StreamRing2
import BV.Lemmas.StreamOut
import BV.Lemmas.StreamRunLog
/-
One call of a history: `runCall` has a LOG (list of events) that determines the delivered bit
stream, the positions, the request list and the ring content (`RunFacts`), and along which every
step-wise abstraction of the stream machine (`Sim`) moves (`runCall_sim`).  Inside a `compress_stream`
call the same facts are carried atom by atom as `CallFacts`; `run_induct` peels a history into its calls.
-/
namespace BV.Stream
open BV.Bits

structure RunOK (s : St) : Prop where
  inv : IsFresh s ∨ Inv s
  frame : FrameInv s

theorem frameInv_isFresh {s : St} (h : IsFresh s) : FrameInv s := by
  obtain ⟨p, rfl⟩ := h
  refine ⟨by simp [CarryOK, St.new], ?_⟩
  intro hb; simp [St.new] at hb

theorem runOK_fresh {s : St} (h : IsFresh s) : RunOK s := ⟨Or.inl h, frameInv_isFresh h⟩

theorem isFresh_fields {s : St} (h : IsFresh s) :
    s.isInitialized = false ∧ s.pending = [] ∧ s.inputPos = 0 ∧ s.nextOut = .none ∧ s.lastBytesBits = 0 := by
  obtain ⟨p, rfl⟩ := h
  simp [St.new]

theorem logPos_ip_le (p : Pos) (log : List Ev) : (logPos p log).ip ≤ p.ip + logUsed log := by
  induction log generalizing p with
  | nil => simp [logPos, logUsed]
  | cons e es ih =>
    have h1 := ih (e.step p)
    have h2 : (e.step p).ip ≤ p.ip + e.used := by
      cases e <;> simp [Ev.step, Ev.used]
    show (logPos (e.step p) es).ip ≤ p.ip + logUsed (e :: es)
    simp only [logUsed, List.map_cons, List.sum_cons] at h1 ⊢
    omega

theorem takeOutput_fields {s s' : St} {size : Nat} {out : Bytes} (h : takeOutput s size = .ok (s', out)) :
    s'.lastBytes = s.lastBytes ∧ s'.lastBytesBits = s.lastBytesBits ∧ s'.pos = s.pos ∧ s'.params = s.params ∧ s'.ring = s.ring
    ∧ s'.remainingMetadata = s.remainingMetadata
    ∧ (s'.streamState = s.streamState ∨ (s.streamState = .flushRequested ∧ s'.streamState = .processing)) := by
  rcases takeOutput_cases h with ⟨rfl, _⟩ | ⟨rfl, _⟩
  · exact ⟨rfl, rfl, rfl, rfl, rfl, rfl, Or.inl rfl⟩
  · rw [checkFlushComplete_eq]
    refine ⟨rfl, rfl, rfl, rfl, rfl, rfl, ?_⟩
    show (checkFlushComplete _).streamState = _ ∨ _
    rw [checkFlushComplete_state]
    split
    · rename_i hc; exact Or.inr ⟨hc.1, rfl⟩
    · exact Or.inl rfl

theorem setParameter_params (s : St) (id v : Nat) : ∃ p, (setParameter s id v).1 = { s with params := p } := by
  unfold setParameter
  split
  · exact ⟨s.params, rfl⟩
  · split
    · exact ⟨_, rfl⟩
    · exact ⟨s.params, rfl⟩

theorem take_facts {s s' : St} {size : Nat} {out : Bytes} (hR : RunOK s) (h : takeOutput s size = .ok (s', out)) (d : Bytes) :
    RunOK s' ∧ emitted (d ++ out) s' = emitted d s ∧ s'.pos = s.pos ∧ s'.isInitialized = s.isInitialized
    ∧ s'.params = s.params ∧ s'.ring = s.ring := by
  obtain ⟨hlb, hlbb, hpos, hpar, hring, _, _⟩ := takeOutput_fields h
  rcases hR.inv with hf | hI
  · rw [takeOutput_fresh hf] at h
    simp only [Out.ok.injEq, Prod.mk.injEq] at h
    obtain ⟨rfl, rfl⟩ := h
    exact ⟨hR, by rw [List.append_nil], rfl, rfl, rfl, rfl⟩
  · obtain ⟨hI', hp, _, hst⟩ := takeOutput_spec hI h
    have hip : s'.inputPos = s.inputPos := congrArg Pos.ip hpos
    have hlf : s'.lastFlushPos = s.lastFlushPos := congrArg Pos.lf hpos
    refine ⟨⟨Or.inr hI', ⟨carryOK_eq hR.frame.carry hlb hlbb, ?_⟩⟩, ?_, hpos, by rw [hI'.init, hI.init], hpar, hring⟩
    · intro hb
      rcases hst with h1 | ⟨_, _, h1⟩
      · rw [hlbb, hip, hlf]; exact hR.frame.body (h1 ▸ hb)
      · rw [h1] at hb; cases hb
    · rw [emitted_def, emitted_def, hlb, hlbb, hp, List.append_assoc]

/-- the stream header is emitted once, by the first `compress_stream` call -/
def WinShape (s0 s : St) (log : List Ev) : Prop :=
  (s0.isInitialized = false ∧ s.isInitialized = false ∧ log = []) ∨
  (s0.isInitialized = false ∧ s.isInitialized = true ∧ ∃ b rest, log = .window b :: rest ∧ NoWindow rest) ∨
  (s0.isInitialized = true ∧ s.isInitialized = true ∧ NoWindow log)

theorem winShape_nil {s0 s : St} (h : s.isInitialized = s0.isInitialized) : WinShape s0 s [] := by
  cases hi : s0.isInitialized
  · exact Or.inl ⟨hi, by rw [h, hi], rfl⟩
  · exact Or.inr (Or.inr ⟨hi, by rw [h, hi], fun _ he => by cases he⟩)

theorem winShape_trans {s0 s1 s2 : St} {l1 l2 : List Ev} (h1 : WinShape s0 s1 l1) (h2 : WinShape s1 s2 l2) :
    WinShape s0 s2 (l1 ++ l2) := by
  rcases h1 with ⟨a1, a2, a3⟩ | ⟨a1, a2, b, r, a3, a4⟩ | ⟨a1, a2, a3⟩
  · subst a3
    rcases h2 with ⟨b1, b2, b3⟩ | ⟨b1, b2, b3⟩ | ⟨b1, _, _⟩
    · exact Or.inl ⟨a1, b2, by rw [b3]; rfl⟩
    · exact Or.inr (Or.inl ⟨a1, b2, b3⟩)
    · rw [a2] at b1; cases b1
  · rcases h2 with ⟨b1, _, _⟩ | ⟨b1, _, _⟩ | ⟨_, b2, b3⟩
    · rw [a2] at b1; cases b1
    · rw [a2] at b1; cases b1
    · exact Or.inr (Or.inl ⟨a1, b2, b, r ++ l2, by rw [a3]; rfl, noWindow_append a4 b3⟩)
  · rcases h2 with ⟨b1, _, _⟩ | ⟨b1, _, _⟩ | ⟨_, b2, b3⟩
    · rw [a2] at b1; cases b1
    · rw [a2] at b1; cases b1
    · exact Or.inr (Or.inr ⟨a1, b2, noWindow_append a3 b3⟩)

theorem WinShape.nil_of_uninit {s0 s : St} {log : List Ev} (h : WinShape s0 s log) (hi : s.isInitialized = false) : log = [] := by
  rcases h with ⟨_, _, a3⟩ | ⟨_, a2, _⟩ | ⟨_, a2, _⟩
  · exact a3
  · rw [hi] at a2; cases a2
  · rw [hi] at a2; cases a2

theorem WinShape.init {s0 s : St} {log : List Ev} (h : WinShape s0 s log) (hi : s0.isInitialized = true) : s.isInitialized = true := by
  rcases h with ⟨a1, _, _⟩ | ⟨a1, _, _⟩ | ⟨_, a2, _⟩
  · rw [hi] at a1; cases a1
  · rw [hi] at a1; cases a1
  · exact a2

def RingSt (s : St) (inp : Bytes) : Prop := (IsFresh s ∧ inp = []) ∨ RingInv s inp

theorem logCopy_append (a b : List Ev) : logCopy (a ++ b) = logCopy a ++ logCopy b := by
  induction a with
  | nil => rfl
  | cons e es ih => rw [List.cons_append, logCopy_cons, logCopy_cons, ih, List.append_assoc]

structure RunFacts (o : Oracle) (s0 : St) (t0 : Trace) (s : St) (t : Trace) (log : List Ev) : Prop where
  ok : RunOK s
  bits : deliveredBits t s = deliveredBits t0 s0 ++ logBits o log
  pos : s.pos = logPos s0.pos log
  lok : LogOK s0.pos log
  reqs : t.reqs = t0.reqs ++ logReqs log
  win : WinShape s0 s log
  q : s0.isInitialized = true → s.q01 = s0.q01
  cl : LogCl o s.q01 s0.pos log
  closed : t.closed = t0.closed ++ closedFlags o s.q01 s0.nEnc (logReqs log)
  ring : ∀ inp, RingSt s0 inp → RingSt s (inp ++ logCopy log)

theorem logPos_k (p : Pos) (log : List Ev) : (logPos p log).k = p.k + (logReqs log).length := by
  induction log generalizing p with
  | nil => rfl
  | cons e es ih =>
    show (logPos (e.step p) es).k = p.k + (logReqs (e :: es)).length
    rw [ih]
    cases e <;> simp [Ev.step, logReqs, Ev.req, List.filterMap_cons] <;> omega

theorem RunFacts.nil (o : Oracle) {s s' : St} {t t' : Trace} (ok : RunOK s')
    (bits : deliveredBits t' s' = deliveredBits t s) (pos : s'.pos = s.pos) (init : s'.isInitialized = s.isInitialized)
    (q : s.isInitialized = true → s'.q01 = s.q01) (reqs : t'.reqs = t.reqs) (closed : t'.closed = t.closed)
    (ring : ∀ inp, RingSt s inp → RingSt s' inp) : RunFacts o s t s' t' [] where
  ok := ok
  bits := by simp [logBits, bits]
  pos := pos
  lok := trivial
  reqs := by simp [logReqs, reqs]
  win := winShape_nil init
  q := q
  cl := trivial
  closed := by simp [logReqs, closedFlags, closed]
  ring := fun inp hh => by simpa [logCopy] using ring inp hh

theorem RunFacts.refl (o : Oracle) {s : St} (t : Trace) (h : RunOK s) : RunFacts o s t s t [] :=
  .nil o h rfl rfl rfl (fun _ => rfl) rfl rfl (fun _ hh => hh)

theorem RunFacts.trans {o : Oracle} {s0 s1 s2 : St} {t0 t1 t2 : Trace} {l1 l2 : List Ev}
    (h1 : RunFacts o s0 t0 s1 t1 l1) (h2 : RunFacts o s1 t1 s2 t2 l2) : RunFacts o s0 t0 s2 t2 (l1 ++ l2) := by
  have hq12 : l1 = [] ∨ s2.q01 = s1.q01 := by
    cases hi : s1.isInitialized
    · exact Or.inl (h1.win.nil_of_uninit hi)
    · exact Or.inr (h2.q hi)
  have hk : s1.nEnc = s0.nEnc + (logReqs l1).length := by
    have := congrArg Pos.k h1.pos
    rw [logPos_k] at this
    exact this
  exact {
    ok := h2.ok
    bits := by rw [h2.bits, h1.bits, logBits_append, List.append_assoc]
    pos := by rw [h2.pos, h1.pos, logPos_append]
    lok := logOK_append h1.lok (by rw [← h1.pos]; exact h2.lok)
    reqs := by rw [h2.reqs, h1.reqs, logReqs_append, List.append_assoc]
    win := winShape_trans h1.win h2.win
    q := fun hi0 => by rw [h2.q (h1.win.init hi0), h1.q hi0]
    cl := by
      rcases hq12 with rfl | hq
      · have : s1.pos = s0.pos := h1.pos
        rw [← this]; exact h2.cl
      · refine logCl_append (by rw [hq]; exact h1.cl) ?_
        rw [← h1.pos]; exact h2.cl
    closed := by
      rw [h2.closed, h1.closed, logReqs_append, closedFlags_append, List.append_assoc, hk]
      rcases hq12 with rfl | hq
      · simp [logReqs, closedFlags]
      · rw [hq]
    ring := fun inp hh => by rw [logCopy_append, ← List.append_assoc]; exact h2.ring _ (h1.ring _ hh) }

def CallOK (s : St) : Call → Prop
  | .stream op chunk _ => op ≤ 3 ∧ s.inputPos + chunk.length < two64
  | _ => True

def Path {α : Type} (T : α → Ev → α → Prop) : α → List Ev → α → Prop
  | a, [], b => a = b
  | a, e :: es, b => ∃ a1, T a e a1 ∧ Path T a1 es b

theorem Path.append {α : Type} {T : α → Ev → α → Prop} {a b c : α} {l1 l2 : List Ev}
    (h1 : Path T a l1 b) (h2 : Path T b l2 c) : Path T a (l1 ++ l2) c := by
  induction l1 generalizing a with
  | nil => cases h1; exact h2
  | cons e es ih => obtain ⟨a1, t, p⟩ := h1; exact ⟨a1, t, ih p⟩

/-- A step-wise abstraction of the stream machine with abstract states `α`: `R a s` relates an abstract state to an
encoder state, `T a e a'` is the transition an event may make, `opOK` the operations it is claimed for.  Besides
the atoms (`step`) the relation has to survive what else a history does to the state: `take_output` (`take`) and
`set_parameter` (`setp`), which emit no event, so `a` stays, and `update_size_hint(0)` (`hint`), which a refused
`compress_stream` call has run before it returns.  The log of a history is then a `Path` of `T` (`run_sim`). -/
structure Sim (o : Oracle) (α : Type) where
  T : α → Ev → α → Prop
  R : α → St → Prop
  opOK : Nat → Prop
  step : ∀ {op : Nat} {s s' : St} {io io' : Io} {e : Ev} {a : α}, opOK op → R a s → Step o op (s, io) e (s', io') →
    ∃ a', R a' s' ∧ T a e a'
  take : ∀ {s s' : St} {size : Nat} {out : Bytes} {a : α}, R a s → takeOutput s size = .ok (s', out) → R a s'
  setp : ∀ {s : St} {id v : Nat} {a : α}, R a s → R a (setParameter s id v).1
  hint : ∀ {s : St} {a : α}, R a s → R a (updateSizeHint s 0)

def CallOp (P : Nat → Prop) : Call → Prop
  | .stream op _ _ => P op
  | _ => True

theorem step_ringSt {o : Oracle} {op : Nat} {s s' : St} {io io' : Io} {e : Ev} {inp : Bytes} (hR : RingSt s inp)
    (hs : Step o op (s, io) e (s', io')) : RingSt s' (inp ++ e.copied) := by
  rcases hR with ⟨hf, rfl⟩ | hi
  · rcases hs.effect with ⟨_, rfl, rfl, _⟩ | ⟨hI, _⟩
    · obtain ⟨r1, r2⟩ := ring_ok_fresh hf
      exact Or.inr ⟨(inv_fresh hf).1.init, r1, r2, ring_alloc_fresh hf⟩
    · exact absurd hI.init (by rw [isFreshInit hf]; simp)
  · exact Or.inr (step_ring hi hs)

theorem call_inv_run {o : Oracle} {fuel op cap : Nat} {input : Bytes} {s s' : St} {io' : Io} {r : Bool}
    (hop : op ≤ 3) (hR : IsFresh s ∨ Inv s) (hw : s.inputPos + input.length < two64)
    (h : compressStream o fuel s op input cap = .ok (s', io', r)) : Inv s' := by
  have key : ∀ si, Inv si → si.inputPos + input.length < two64 →
      compressStream o fuel si op input cap = .ok (s', io', r) → Inv s' := by
    intro si hI hwi hc
    cases r
    · rcases (refused_unchanged hop hI hwi hc).1 with rfl | rfl
      · exact hI
      · exact inv_updateSizeHint hI 0
    · exact ((compressStream_refines hop hI hwi hc).2 rfl).1
  rcases hR with hf | hI
  · obtain ⟨hI, hw', h'⟩ := call_fresh hf hw h
    exact key _ hI hw' h'
  · exact key s hI hw h

/-- What a `compress_stream` call has done when it stands at `c`, having started in `s` (a state a history can be
in) with `n` bytes on offer and `d` delivered before; `log` = its atoms so far, seen through `S`.  These are the
fields of `RunFacts` for an unfinished call — stated of the cursors `c.2` where `RunFacts` has a trace — with `sim`
for the abstraction and `used` for the input consumed; `runCall_sim` reads `RunFacts` off them at the call's end. -/
structure CallFacts {o : Oracle} {α : Type} (S : Sim o α) (d : Bytes) (s : St) (n : Nat) (c : St × Io) (log : List Ev) :
    Prop where
  sim : ∀ a, S.R a s → ∃ a', S.R a' c.1 ∧ Path S.T a log a'
  start : c.1.isInitialized = false → c.1 = s
  frame : FrameInv c.1
  bits : emitted (d ++ c.2.out) c.1 = emitted d s ++ logBits o log
  pos : c.1.pos = logPos s.pos log
  lok : LogOK s.pos log
  reqs : c.2.reqs = logReqs log
  used : logUsed log + c.2.input.length = n
  win : WinShape s c.1 log
  q : c.1.isInitialized = true → c.1.q01 = (ensureInitialized s).q01
  cl : LogCl o c.1.q01 s.pos log
  ring : ∀ inp, RingSt s inp → RingSt c.1 (inp ++ logCopy log)

theorem CallFacts.refl {o : Oracle} {α : Type} (S : Sim o α) (d : Bytes) {s : St} (hF : FrameInv s) (input : Bytes) (cap : Nat) :
    CallFacts S d s input.length (s, Io.start input cap) [] :=
  ⟨fun a ha => ⟨a, ha, rfl⟩, fun _ => rfl, hF, by simp [Io.start, logBits], rfl, trivial, rfl, by simp [logUsed, Io.start],
    winShape_nil rfl, fun hi => by rw [ensureInitialized_id hi], trivial, fun inp hh => by simpa [logCopy] using hh⟩

theorem CallFacts.step {o : Oracle} {α : Type} {S : Sim o α} {d : Bytes} {s : St} {n op : Nat} {s1 s2 : St} {io1 io2 : Io}
    {log : List Ev} {e : Ev} (hc : CallFacts S d s n (s1, io1) log) (hco : S.opOK op)
    (hs : Step o op (s1, io1) e (s2, io2)) : CallFacts S d s n (s2, io2) (log ++ [e]) := by
  obtain ⟨p1, p2, p3, p4, p5⟩ := step_pos hs
  obtain ⟨i1, i2⟩ := step_initialized hs
  have eC : logCopy [e] = e.copied := by rw [logCopy_cons]; simp [logCopy]
  have hun : s1.isInitialized = false → s1 = s ∧ log = [] ∧ ∃ b, e = .window b ∧ s2 = ensureInitialized s := by
    intro hi
    obtain rfl := hc.start hi
    have hl : log = [] := hc.win.nil_of_uninit hi
    rcases hs.effect with ⟨_, rfl, rfl, _⟩ | ⟨hI, _⟩
    · exact ⟨rfl, hl, _, rfl, rfl⟩
    · exact absurd hI.init (by rw [hi]; simp)
  have hq : s1.isInitialized = true → s2.q01 = s1.q01 := step_q01 hs
  refine ⟨fun a ha => ?_, fun hi => absurd i1 (by rw [hi]; simp), step_frameInv hc.frame hs, ?_, ?_, ?_, ?_, ?_, ?_, ?_, ?_,
    fun inp hh => ?_⟩
  · obtain ⟨a1, r1, q1⟩ := hc.sim a ha
    obtain ⟨a2, r2, t2⟩ := S.step hco r1 hs
    exact ⟨a2, r2, q1.append ⟨a2, t2, rfl⟩⟩
  · rw [step_emitted hc.frame hs d, hc.bits, logBits_append, List.append_assoc]
    simp [logBits]
  · rw [p1, hc.pos, logPos_append]; rfl
  · exact logOK_append hc.lok (by rw [← hc.pos]; exact ⟨p2, trivial⟩)
  · rw [p3, hc.reqs, logReqs_append]
    cases he : e.req <;> simp [logReqs, he]
  · have := hc.used
    have hl : io2.input.length = io1.input.length - e.used := by rw [p4, List.length_drop]
    rw [logUsed_append]
    simp only [logUsed, List.map_cons, List.map_nil, List.sum_cons, List.sum_nil] at this ⊢
    omega
  · refine winShape_trans hc.win ?_
    cases hi : s1.isInitialized
    · obtain ⟨_, _, b, rfl, _⟩ := hun hi
      exact Or.inr (Or.inl ⟨hi, i1, b, [], rfl, fun _ he => by cases he⟩)
    · refine Or.inr (Or.inr ⟨hi, i1, fun e' he' b hb => ?_⟩)
      obtain rfl := List.mem_singleton.mp he'
      have := i2 b hb
      rw [hi] at this; cases this
  · intro _
    cases hi : s1.isInitialized
    · obtain ⟨_, _, _, _, rfl⟩ := hun hi
      rfl
    · exact (hq hi).trans (hc.q hi)
  · cases hi : s1.isInitialized
    · obtain ⟨rfl, rfl, b, rfl, _⟩ := hun hi
      exact ⟨trivial, trivial⟩
    · refine logCl_append (by rw [hq hi]; exact hc.cl) ?_
      rw [← hc.pos, hq hi]
      exact ⟨step_cl hs, trivial⟩
  · rw [logCopy_append, eC, ← List.append_assoc]
    exact step_ringSt (hc.ring inp hh) hs

theorem CallFacts.hint {o : Oracle} {α : Type} {S : Sim o α} {d : Bytes} {s : St} {n : Nat} {s1 : St} {io1 : Io}
    {log : List Ev} (hc : CallFacts S d s n (s1, io1) log) (hI : Inv s1) :
    CallFacts S d s n (updateSizeHint s1 0, io1) log := by
  have hu := updateSizeHint_eq s1 0
  rw [hu]
  -- only `params.sizeHint` differs: every field the facts look at is the same by `rfl`
  refine ⟨fun a ha => ?_, fun hi => absurd hI.init (by rw [show s1.isInitialized = false from hi]; simp),
    frameInv_of_eq hc.frame rfl rfl rfl rfl rfl, hc.bits, hc.pos, hc.lok, hc.reqs, hc.used,
    hc.win, hc.q, hc.cl, fun inp hh => ?_⟩
  · obtain ⟨a1, r1, q1⟩ := hc.sim a ha
    exact ⟨a1, by rw [← hu]; exact S.hint r1, q1⟩
  · rcases hc.ring inp hh with ⟨hf, _⟩ | hi
    · exact absurd hI.init (by rw [isFreshInit hf]; simp)
    · exact Or.inr (ringInv_of_eq hi rfl rfl rfl)

theorem runCall_sim {o : Oracle} {α : Type} (S : Sim o α) {fuel : Nat} {s s' : St} {t t' : Trace} {c : Call} (hR : RunOK s) (hc : CallOK s c)
    (hco : CallOp S.opOK c) (h : runCall o fuel s t c = .ok (s', t')) :
    s'.inputPos ≤ s.inputPos + c.len ∧ ∃ log, (∀ a, S.R a s → ∃ a', S.R a' s' ∧ Path S.T a log a') ∧ RunFacts o s t s' t' log := by
  cases c with
  | setParam id v =>
    simp only [runCall, Out.ok.injEq, Prod.mk.injEq] at h
    obtain ⟨rfl, rfl⟩ := h
    rcases hR.inv with hf | hI
    · have hf' := setParameter_fresh hf id v
      obtain ⟨_, hp, hip, _, hl⟩ := isFresh_fields hf
      obtain ⟨_, hp', hip', _, hl'⟩ := isFresh_fields hf'
      refine ⟨by rw [hip', hip]; exact Nat.zero_le _, [], (fun a ha => ⟨a, S.setp ha, rfl⟩),
        .nil o (runOK_fresh hf') ?_ ?_ (by rw [isFreshInit hf, isFreshInit hf'])
          (fun hi => by rw [isFreshInit hf] at hi; cases hi) rfl rfl fun inp hh => ?_⟩
      · simp only [deliveredBits]
        rw [hp, hp']
        unfold St.carry
        rw [hl, hl']
        rfl
      · obtain ⟨p, rfl⟩ := hf
        obtain ⟨p', hp'⟩ := hf'
        rw [hp']; rfl
      · rcases hh with ⟨_, hi⟩ | hi
        · exact Or.inl ⟨hf', hi⟩
        · have := hi.init; rw [isFreshInit hf] at this; cases this
    · have : setParameter s id v = (s, false) := by simp [setParameter, hI.init]
      rw [this]
      exact ⟨Nat.le_add_right _ _, [], (fun a ha => ⟨a, ha, rfl⟩), .nil o hR rfl rfl rfl (fun _ => rfl) rfl rfl fun _ hh => hh⟩
  | take size =>
    simp only [runCall] at h
    split at h
    · rename_i s1 out htake
      simp only [Out.ok.injEq, Prod.mk.injEq] at h
      obtain ⟨rfl, rfl⟩ := h
      obtain ⟨hR', hb, hp, hini, hpar, hring⟩ := take_facts hR htake t.delivered
      have hipe : s1.inputPos = s.inputPos := congrArg Pos.ip hp
      refine ⟨by rw [hipe]; exact Nat.le_add_right _ _, [], (fun a ha => ⟨a, S.take ha htake, rfl⟩),
        .nil o hR' hb hp hini (fun _ => by unfold St.q01; rw [hpar]) rfl rfl fun inp hh => ?_⟩
      rcases hh with ⟨hf, hi⟩ | hi
      · left
        have hs1 : s1 = s := by
          rw [takeOutput_fresh hf] at htake
          simp only [Out.ok.injEq, Prod.mk.injEq] at htake
          exact htake.1.symm
        rw [hs1]; exact ⟨hf, hi⟩
      · right
        exact ringInv_of_eq hi hring (by rw [hpar]) hini
    · simp at h
    · simp at h
  | stream op chunk cap =>
    obtain ⟨hop, hw⟩ := hc
    simp only [runCall] at h
    split at h
    · rename_i s1 io r hcs
      simp only [Out.ok.injEq, Prod.mk.injEq] at h
      obtain ⟨rfl, rfl⟩ := h
      obtain ⟨log, f⟩ := call_induct_run (fun c => ∃ log, CallFacts S t.delivered s chunk.length c log)
        (fun _ _ _ ⟨_, hf⟩ hs => ⟨_, hf.step hco hs⟩) (fun _ _ hI ⟨log, hf⟩ => ⟨log, hf.hint hI⟩) hop hR.inv hw hcs
        ⟨[], CallFacts.refl S t.delivered hR.frame chunk cap⟩
      have hI1 := call_inv_run hop hR.inv hw hcs
      have hnE : (ensureInitialized s).nEnc = s.nEnc := by
        rcases hR.inv with hf | hI
        · exact congrArg Pos.k (step_pos (Step.init (o := o) (op := op) (io := Io.start chunk cap) hf)).1
        · rw [ensureInitialized_id hI.init]
      refine ⟨?_, log, f.sim, ⟨Or.inr hI1, f.frame⟩, ?_, f.pos, f.lok, ?_, f.win,
        fun hi => by rw [f.q hI1.init, ensureInitialized_id hi], f.cl, ?_, f.ring⟩
      · have h1 := logPos_ip_le s.pos log
        have h2 := f.used
        have h3 : s1.inputPos = (logPos s.pos log).ip := congrArg Pos.ip f.pos
        have h5 : s.pos.ip = s.inputPos := rfl
        simp only [Call.len]
        omega
      · simp only [deliveredBits, Trace.afterStream]
        exact f.bits
      · simp only [Trace.afterStream]
        rw [f.reqs]
      · simp only [Trace.afterStream]
        rw [f.reqs, f.q hI1.init, hnE]
    · simp at h
    · simp at h

def Sim.unit (o : Oracle) : Sim o Unit where
  T := fun _ _ _ => True
  R := fun _ _ => True
  opOK := fun _ => True
  step := fun _ _ _ => ⟨(), trivial, trivial⟩
  take := fun _ _ => trivial
  setp := fun _ => trivial
  hint := fun _ => trivial

def Sim.prod {o : Oracle} {α β : Type} (S1 : Sim o α) (S2 : Sim o β) : Sim o (α × β) where
  T := fun a e b => S1.T a.1 e b.1 ∧ S2.T a.2 e b.2
  R := fun a s => S1.R a.1 s ∧ S2.R a.2 s
  opOK := fun op => S1.opOK op ∧ S2.opOK op
  step := fun hop ha h => by
    obtain ⟨a1, r1, t1⟩ := S1.step hop.1 ha.1 h
    obtain ⟨a2, r2, t2⟩ := S2.step hop.2 ha.2 h
    exact ⟨(a1, a2), ⟨r1, r2⟩, t1, t2⟩
  take := fun ha h => ⟨S1.take ha.1 h, S2.take ha.2 h⟩
  setp := fun ha => ⟨S1.setp ha.1, S2.setp ha.2⟩
  hint := fun ha => ⟨S1.hint ha.1, S2.hint ha.2⟩

theorem path_prod {o : Oracle} {α β : Type} (S1 : Sim o α) (S2 : Sim o β) {log : List Ev} {a b : α × β}
    (h : Path (S1.prod S2).T a log b) : Path S1.T a.1 log b.1 ∧ Path S2.T a.2 log b.2 := by
  induction log generalizing a with
  | nil =>
    have : a = b := h
    subst this
    exact ⟨rfl, rfl⟩
  | cons e es ih =>
    obtain ⟨a1, ⟨t1, t2⟩, p⟩ := h
    obtain ⟨p1, p2⟩ := ih p
    exact ⟨⟨a1.1, t1, p1⟩, ⟨a1.2, t2, p2⟩⟩

theorem runCall_facts {o : Oracle} {fuel : Nat} {s s' : St} {t t' : Trace} {c : Call} (hR : RunOK s) (hc : CallOK s c)
    (h : runCall o fuel s t c = .ok (s', t')) :
    s'.inputPos ≤ s.inputPos + c.len ∧ ∃ log, RunFacts o s t s' t' log := by
  obtain ⟨hip, log, _, f⟩ := runCall_sim (Sim.unit o) hR hc (by cases c <;> trivial) h
  exact ⟨hip, log, f⟩

theorem run_induct {o : Oracle} {fuel : Nat} (P : St → Trace → Prop) {calls : List Call}
    (hcall : ∀ {s s' : St} {t t' : Trace} {c : Call}, c ∈ calls → RunOK s → CallOK s c →
      runCall o fuel s t c = .ok (s', t') → P s t → P s' t')
    {s0 s : St} {t0 t : Trace} (hR : RunOK s0) (hops : HistOK calls) (hw : s0.inputPos + histLen calls < two64)
    (h : run o fuel calls s0 t0 = .ok (s, t)) (h0 : P s0 t0) : P s t := by
  induction calls generalizing s0 t0 with
  | nil =>
    simp only [run, Out.ok.injEq, Prod.mk.injEq] at h
    obtain ⟨rfl, rfl⟩ := h
    exact h0
  | cons c cs ih =>
    simp only [run] at h
    split at h
    · rename_i s1 t1 hc
      have hcok : CallOK s0 c := by
        cases c with
        | stream op chunk cap =>
          simp only [histLen, Call.len] at hw
          exact ⟨hops.1, by omega⟩
        | setParam id v => trivial
        | take n => trivial
      obtain ⟨hip, l1, f1⟩ := runCall_facts hR hcok hc
      have hops' : HistOK cs := by
        cases c with
        | stream op chunk cap => exact hops.2
        | setParam id v => exact hops
        | take n => exact hops
      have hw' : s1.inputPos + histLen cs < two64 := by
        simp only [histLen] at hw
        omega
      exact ih (fun hm => hcall (List.mem_cons_of_mem _ hm)) f1.ok hops' hw' h
        (hcall List.mem_cons_self hR hcok hc h0)
    · simp at h
    · simp at h

end BV.Stream
