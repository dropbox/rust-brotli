/-
The state invariant of the concatenator (`Inv`; `Started`: a member has been announced) and the
specifications of `flush_previous_stream`, `append_eof_metablock_to_last_bytes`, `finish`.
-/
import BV.Lemmas.ConcatBasic

namespace BV.Concat
open Outcome BV.Gen

/-- field ranges that hold in every state reachable through the public API -/
structure Inv (s : State) : Prop where
  len_le : s.last_bytes_len ≤ 2
  off_lt : s.last_byte_bit_offset < 8
  /-- before the first header is accepted nothing is buffered -/
  ws0 : s.window_size = 0 → s.last_bytes_len = 0 ∧ s.last_byte_bit_offset = 0
  /-- a stripped tail waits for the next member's header and occupies one byte -/
  san : s.last_byte_sanitized = true → s.new_stream_pending.isSome = true ∧ s.last_bytes_len ≤ 1
  tail : s.last_byte_sanitized = true → s.last_bytes_len ≠ 0 →
    s.last_bytes.2 = 0 ∧ s.last_bytes.1 < 2 ^ s.last_byte_bit_offset
  /-- the look-ahead holds at most its five bytes; a copy-out in progress has bytes left to write and
  a header to write them behind -/
  pend : ∀ d, s.new_stream_pending = some d → d.num_bytes_read ≤ 5 ∧
    ∀ w, d.num_bytes_written = some w → w < d.num_bytes_read ∧ s.window_size ≠ 0

/-- the caller announced a member (`new_brotli_file`) before streaming into a fresh instance -/
def Started (s : State) : Prop := s.window_size = 0 → s.new_stream_pending.isSome = true

theorem Inv.new : Inv State.new :=
  ⟨by decide, by decide, fun _ => ⟨rfl, rfl⟩, fun h => by simp [State.new] at h,
    fun h => by simp [State.new] at h, fun d hd => by simp [State.new] at hd⟩

theorem Inv.unsan {s : State} (h : Inv s) (hp : s.new_stream_pending = none) : s.last_byte_sanitized = false := by
  cases hs : s.last_byte_sanitized with
  | false => rfl
  | true => have := (h.san hs).1; rw [hp] at this; simp at this

theorem started_newBrotliFile (s : State) : Started (newBrotliFile s) := fun _ => rfl

theorem Inv.newBrotliFile {s : State} (h : Inv s) : Inv (newBrotliFile s) := by
  refine ⟨h.len_le, h.off_lt, h.ws0, fun e => ⟨rfl, (h.san e).2⟩, h.tail, fun d hd => ?_⟩
  simp only [BV.Concat.newBrotliFile, Option.some.injEq] at hd
  subst hd
  exact ⟨by decide, fun w hw => by simp [NewStreamData.new] at hw⟩

theorem findHighLoop_sat (lb max : Nat) (hmax : max ≤ 16) :
    ∀ fuel i idx0, i + fuel = max → idx0 < max →
      (findHighLoop lb max fuel i idx0).sat (fun index => index < max) := by
  intro fuel
  induction fuel with
  | zero => intro i idx0 h h0; simpa [findHighLoop] using h0
  | succ f ih =>
    intro i idx0 h h0
    unfold findHighLoop
    refine sat_ite (fun _ => by omega) (fun _ => ?_)
    refine sat_ite (fun _ => by omega) (fun _ => ?_)
    dsimp only
    refine sat_ite (fun _ => by omega) (fun _ => ?_)
    refine sat_ite (fun _ => by simp; omega) (fun _ => ?_)
    exact ih (i+1) _ (by omega) (by omega)

/-- `r` is the model's triple: `r.1` the state, `r.2.1` the output, `r.2.2` the code (so in `CopyOutPost`, `ShiftPost`) -/
structure FlushPost (s : State) (out : List Nat) (cap : Nat) (r : State × List Nat × Nat) : Prop where
  code : r.2.2 = SUCCESS ∨ r.2.2 = NEEDS_MORE_OUTPUT ∨ r.2.2 = NOT_CRAFTED_FOR_APPEND
  unchanged : r.2.2 ≠ SUCCESS → r.1 = s ∧ r.2.1 = out
  full : r.2.2 = NEEDS_MORE_OUTPUT → cap ≤ out.length
  pending : r.1.new_stream_pending = s.new_stream_pending
  ws : r.1.window_size = s.window_size
  len_le : r.1.last_bytes_len ≤ s.last_bytes_len
  len1 : r.2.2 = SUCCESS → r.1.last_bytes_len ≤ 1
  off_lt : r.1.last_byte_bit_offset < 8
  len0 : s.last_bytes_len = 0 → r.1.last_byte_bit_offset = s.last_byte_bit_offset
  out_le : r.2.1.length ≤ cap
  out_ge : out.length ≤ r.2.1.length
  sanit : r.2.2 = SUCCESS → r.1.last_byte_sanitized = true

theorem flush_sanitized (s : State) (out : List Nat) (cap : Nat) (h : s.last_byte_sanitized = true) :
    flushPreviousStream s out cap = ok (s, out, SUCCESS) := by
  unfold flushPreviousStream; simp [h]

theorem flushFin_lt8 (s : State) (out : List Nat) (index : Nat) (h : index < 8) :
    flushFin s out index = ok ({ (if s.last_bytes_len = 2 ∧ index < 8 then { s with last_bytes_len := 1 } else s) with
      last_byte_bit_offset := index, last_byte_sanitized := true }, out, SUCCESS) := by
  unfold flushFin
  simp [h]

theorem flushStrip_lt8 (s : State) (out : List Nat) (cap lb index : Nat) (h : index < 8) :
    flushStrip s out cap lb index =
      flushFin { s with last_bytes := ((lb &&& ((1 <<< index) - 1)) % 256, ((lb &&& ((1 <<< index) - 1)) >>> 8) % 256) }
        out index := by
  unfold flushStrip
  have h1 : ¬ (index ≥ 8 ∧ cap ≤ out.length) := fun c => by omega
  have h2 : ¬ index ≥ 16 := by omega
  have h3 : ¬ index ≥ 8 := by omega
  rw [if_neg h1, if_neg h2]
  dsimp only
  rw [if_neg h3]

theorem flushStrip_ge8_room (s : State) (out : List Nat) (cap lb index : Nat) (h : index ≥ 8) (h16 : index < 16)
    (hroom : out.length < cap) (hl : 1 ≤ s.last_bytes_len) :
    flushStrip s out cap lb index =
      flushFin { s with last_bytes := (((lb &&& ((1 <<< index) - 1)) >>> 8) % 256, 0), any_bytes_emitted := true,
                        last_bytes_len := s.last_bytes_len - 1 }
        (out ++ [(lb &&& ((1 <<< index) - 1)) % 256]) (index - 8) := by
  unfold flushStrip push
  have h1 : ¬ (index ≥ 8 ∧ cap ≤ out.length) := fun c => by omega
  rw [if_neg h1, if_neg (by omega)]
  dsimp only
  rw [if_pos h, if_pos (by omega), if_pos hroom]
  simp only [bind_ok]
  rw [if_neg (by omega)]

theorem flush_unsanitized (s : State) (out : List Nat) (cap : Nat) (hs : s.last_byte_sanitized = false)
    (h0 : s.last_bytes_len ≠ 0) :
    flushPreviousStream s out cap =
      if s.last_bytes_len * 8 ≥ 256 then Outcome.panic .flushLenMul8 else
      if s.last_bytes_len * 8 < 1 then Outcome.panic .flushMaxSub1 else
      (findHighLoop (s.last_bytes.1 + (s.last_bytes.2 <<< 8)) (s.last_bytes_len * 8) (s.last_bytes_len * 8) 0
        (s.last_bytes_len * 8 - 1)).bind fun index =>
      if index = 0 then ok (s, out, NOT_CRAFTED_FOR_APPEND) else
      if ((s.last_bytes.1 + (s.last_bytes.2 <<< 8)) >>> (index - 1)) ≠ 3 then ok (s, out, NOT_CRAFTED_FOR_APPEND) else
      flushStrip s out cap (s.last_bytes.1 + (s.last_bytes.2 <<< 8)) (index - 1) := by
  unfold flushPreviousStream
  simp only [hs, Bool.false_eq_true, not_false_eq_true, if_true, h0, if_false]

theorem flush_empty (s : State) (out : List Nat) (cap : Nat) (hs : s.last_byte_sanitized = false)
    (h0 : s.last_bytes_len = 0) :
    flushPreviousStream s out cap = ok ({ s with last_byte_sanitized := true }, out, SUCCESS) := by
  unfold flushPreviousStream; simp [hs, h0]

/-- On an unsanitised, non-empty tail the output buffer matters only inside `flushStrip`. -/
theorem flush_strip_or (s : State) (hs : s.last_byte_sanitized = false) (h0 : s.last_bytes_len ≠ 0) :
    (∃ t, 2 < s.last_bytes_len ∧ ∀ out cap, flushPreviousStream s out cap = Outcome.panic t) ∨
    (∀ out cap, flushPreviousStream s out cap = ok (s, out, NOT_CRAFTED_FOR_APPEND)) ∨
    (∃ i, (s.last_bytes_len ≤ 2 → i + 1 < s.last_bytes_len * 8) ∧ ∀ out cap, flushPreviousStream s out cap
      = flushStrip s out cap (s.last_bytes.1 + (s.last_bytes.2 <<< 8)) i) := by
  by_cases a1 : s.last_bytes_len * 8 ≥ 256
  · exact Or.inl ⟨_, by omega, fun out cap => by rw [flush_unsanitized s out cap hs h0, if_pos a1]⟩
  by_cases a2 : s.last_bytes_len * 8 < 1
  · exact Or.inl ⟨_, by omega, fun out cap => by rw [flush_unsanitized s out cap hs h0, if_neg a1, if_pos a2]⟩
  have hloop := fun hl : s.last_bytes_len ≤ 2 =>
    findHighLoop_sat (s.last_bytes.1 + (s.last_bytes.2 <<< 8)) (s.last_bytes_len * 8) (by omega)
      (s.last_bytes_len * 8) 0 (s.last_bytes_len * 8 - 1) (by omega) (by omega)
  cases hfl : findHighLoop (s.last_bytes.1 + (s.last_bytes.2 <<< 8)) (s.last_bytes_len * 8)
      (s.last_bytes_len * 8) 0 (s.last_bytes_len * 8 - 1) with
  | panic t =>
    refine Or.inl ⟨t, Nat.lt_of_not_le fun hl => ?_, fun out cap => by
      rw [flush_unsanitized s out cap hs h0, if_neg a1, if_neg a2, hfl]; rfl⟩
    have := hloop hl
    rw [hfl] at this
    exact this
  | ok index =>
    by_cases a3 : index = 0
    · exact Or.inr (Or.inl fun out cap => by
        rw [flush_unsanitized s out cap hs h0, if_neg a1, if_neg a2, hfl, bind_ok, if_pos a3])
    by_cases a4 : ((s.last_bytes.1 + (s.last_bytes.2 <<< 8)) >>> (index - 1)) ≠ 3
    · exact Or.inr (Or.inl fun out cap => by
        rw [flush_unsanitized s out cap hs h0, if_neg a1, if_neg a2, hfl, bind_ok, if_neg a3, if_pos a4])
    · refine Or.inr (Or.inr ⟨index - 1, fun hl => ?_, fun out cap => by
        rw [flush_unsanitized s out cap hs h0, if_neg a1, if_neg a2, hfl, bind_ok, if_neg a3, if_neg a4]⟩)
      have := hloop hl
      rw [hfl, sat_ok] at this
      omega

theorem flushStrip_ge8_full (s : State) (out : List Nat) (cap lb index : Nat) (h : index ≥ 8)
    (hfull : cap ≤ out.length) : flushStrip s out cap lb index = ok (s, out, NEEDS_MORE_OUTPUT) := by
  unfold flushStrip
  rw [if_pos ⟨h, hfull⟩]

theorem flush_sat (s : State) (out : List Nat) (cap : Nat) (hlen : s.last_bytes_len ≤ 2)
    (hoff : s.last_byte_bit_offset < 8) (hsan : s.last_byte_sanitized = true → s.last_bytes_len ≤ 1)
    (hout : out.length ≤ cap) :
    (flushPreviousStream s out cap).sat (FlushPost s out cap) := by
  cases hs : s.last_byte_sanitized with
  | true =>
    have := hsan hs
    rw [flush_sanitized s out cap hs, sat_ok]
    constructor <;> simp [SUCCESS, *]
  | false =>
    by_cases h0 : s.last_bytes_len = 0
    · rw [flush_empty s out cap hs h0, sat_ok]
      constructor <;> simp [SUCCESS, *]
    rcases flush_strip_or s hs h0 with ⟨t, hgt, _⟩ | hn | ⟨i, hi, he⟩
    · omega
    · rw [hn, sat_ok]
      constructor <;> simp [SUCCESS, NOT_CRAFTED_FOR_APPEND, NEEDS_MORE_OUTPUT, *]
    have hi := hi hlen
    rw [he]
    by_cases h8 : i ≥ 8
    · by_cases hroom : out.length < cap
      · rw [flushStrip_ge8_room s out cap _ i h8 (by omega) hroom (by omega), flushFin_lt8 _ _ _ (by omega),
          if_neg (by dsimp only; omega), sat_ok]
        constructor <;> simp [SUCCESS, *] <;> omega
      · rw [flushStrip_ge8_full s out cap _ i h8 (by omega), sat_ok]
        constructor <;> simp [SUCCESS, NEEDS_MORE_OUTPUT, *] <;> omega
    · rw [flushStrip_lt8 s out cap _ i (by omega), flushFin_lt8 _ _ _ (by omega), sat_ok]
      dsimp only
      by_cases hc : s.last_bytes_len = 2
      · rw [if_pos ⟨hc, by omega⟩]
        constructor <;> simp [SUCCESS, *] <;> omega
      · rw [if_neg (fun c => hc c.1)]
        constructor <;> simp [SUCCESS, *] <;> omega

theorem mask_lo (x i : Nat) (hi : i < 8) :
    (x &&& ((1 <<< i) - 1)) % 256 < 2 ^ i ∧ ((x &&& ((1 <<< i) - 1)) >>> 8) % 256 = 0 := by
  rw [Nat.one_shiftLeft, Nat.and_two_pow_sub_one_eq_mod, Nat.shiftRight_eq_div_pow]
  have h1 : x % 2 ^ i < 2 ^ i := Nat.mod_lt _ (Nat.pow_pos (by decide))
  have h2 : 2 ^ i ≤ 2 ^ 7 := Nat.pow_le_pow_right (by decide) (by omega)
  have h3 : x % 2 ^ i / 2 ^ 8 = 0 := Nat.div_eq_of_lt (by omega)
  rw [h3]
  exact ⟨by omega, rfl⟩

theorem mask_hi (x i : Nat) (h8 : 8 ≤ i) (h16 : i < 16) :
    ((x &&& ((1 <<< i) - 1)) >>> 8) % 256 < 2 ^ (i - 8) := by
  rw [Nat.one_shiftLeft, Nat.and_two_pow_sub_one_eq_mod, Nat.shiftRight_eq_div_pow]
  have h1 : x % 2 ^ i < 2 ^ i := Nat.mod_lt _ (Nat.pow_pos (by decide))
  have e : 2 ^ i = 2 ^ 8 * 2 ^ (i - 8) := by rw [← Nat.pow_add]; congr 1; omega
  have h2 : x % 2 ^ i / 2 ^ 8 < 2 ^ (i - 8) := by
    apply Nat.div_lt_of_lt_mul; rw [← e]; exact h1
  have h3 : 2 ^ (i - 8) ≤ 2 ^ 7 := Nat.pow_le_pow_right (by decide) (by omega)
  have : x % 2 ^ i / 2 ^ 8 % 256 = x % 2 ^ i / 2 ^ 8 := Nat.mod_eq_of_lt (by omega)
  rw [this]; exact h2

theorem flush_tail (s : State) (out : List Nat) (cap : Nat) (hlen : s.last_bytes_len ≤ 2)
    (hns : s.last_byte_sanitized = false) (r : State × List Nat × Nat)
    (h : flushPreviousStream s out cap = ok r) (hc : r.2.2 = SUCCESS) (hl : r.1.last_bytes_len ≠ 0) :
    r.1.last_bytes.2 = 0 ∧ r.1.last_bytes.1 < 2 ^ r.1.last_byte_bit_offset := by
  by_cases h0 : s.last_bytes_len = 0
  · rw [flush_empty s out cap hns h0, Outcome.ok.injEq] at h
    subst h; exact absurd h0 hl
  rcases flush_strip_or s hns h0 with ⟨t, _, hp⟩ | hn | ⟨i, hi16, hi⟩
  · rw [hp] at h; cases h
  · rw [hn, Outcome.ok.injEq] at h; subst h; simp at hc
  rw [hi] at h
  have hi16 := hi16 hlen
  by_cases h8 : i ≥ 8
  · by_cases hroom : out.length < cap
    · rw [flushStrip_ge8_room s out cap _ _ h8 (by omega) hroom (by omega), flushFin_lt8 _ _ _ (by omega)] at h
      simp only [Outcome.ok.injEq] at h
      subst h
      dsimp only
      refine ⟨by split <;> rfl, ?_⟩
      have := mask_hi (s.last_bytes.1 + (s.last_bytes.2 <<< 8)) i h8 (by omega)
      split <;> exact this
    · rw [flushStrip_ge8_full s out cap _ _ h8 (by omega), Outcome.ok.injEq] at h
      subst h; simp at hc
  · rw [flushStrip_lt8 s out cap _ _ (by omega), flushFin_lt8 _ _ _ (by omega)] at h
    simp only [Outcome.ok.injEq] at h
    subst h
    dsimp only
    obtain ⟨m1, m2⟩ := mask_lo (s.last_bytes.1 + (s.last_bytes.2 <<< 8)) i (by omega)
    refine ⟨?_, ?_⟩
    · split <;> exact m2
    · split <;> exact m1

theorem flush_inv (s : State) (out : List Nat) (cap : Nat) (hI : Inv s) (hout : out.length ≤ cap)
    (hp : s.new_stream_pending.isSome = true) :
    (flushPreviousStream s out cap).sat (fun r => FlushPost s out cap r ∧ Inv r.1) := by
  obtain ⟨r, hreq, hr⟩ := sat_iff.mp (flush_sat s out cap hI.len_le hI.off_lt (fun h => (hI.san h).2) hout)
  rw [hreq, sat_ok]
  refine ⟨hr, ?_⟩
  by_cases hc : r.2.2 = SUCCESS
  · refine ⟨?_, hr.off_lt, ?_, ?_, ?_, ?_⟩
    · have := hr.len_le; have := hI.len_le; omega
    · intro h; rw [hr.ws] at h
      have h0 := hI.ws0 h
      have h1 := hr.len_le
      have h2 := hr.len0 h0.1
      omega
    · intro _
      rw [hr.pending]
      exact ⟨hp, hr.len1 hc⟩
    · intro _ hl
      cases hs : s.last_byte_sanitized with
      | true =>
        rw [flush_sanitized s out cap hs] at hreq
        simp only [Outcome.ok.injEq] at hreq
        subst hreq
        exact hI.tail hs hl
      | false => exact flush_tail s out cap hI.len_le hs r hreq hc hl
    · intro d hd
      rw [hr.pending] at hd
      rw [hr.ws]
      exact hI.pend d hd
  · obtain ⟨e, _⟩ := hr.unchanged hc
    rw [e]; exact hI

theorem appendEof_sat (s : State) (hs : s.last_byte_sanitized = true) (hl : s.last_bytes_len = 1)
    (ho : s.last_byte_bit_offset < 8) :
    (appendEofMetablockToLastBytes s).sat (fun r =>
      r.last_byte_sanitized = false ∧ 1 ≤ r.last_bytes_len ∧ r.last_bytes_len ≤ 2 ∧
      r.last_byte_bit_offset < 8 ∧ r.new_stream_pending = s.new_stream_pending ∧
      r.window_size = s.window_size ∧ r.any_bytes_emitted = s.any_bytes_emitted) := by
  unfold appendEofMetablockToLastBytes
  refine sat_ite (fun h => by simp [hs] at h) (fun _ => ?_)
  dsimp only
  refine sat_ite (fun _ => by omega) (fun _ => ?_)
  refine sat_ite (fun _ => by omega) (fun _ => ?_)
  refine sat_ite (fun _ => by omega) (fun _ => ?_)
  refine sat_ite (fun _ => by omega) (fun _ => ?_)
  refine sat_ite (fun _ => by omega) (fun _ => ?_)
  refine sat_ite (fun _ => ?_) (fun _ => ?_)
  · refine sat_ite (fun _ => ?_) (fun _ => ?_)
    · refine sat_ite (fun _ => by omega) (fun _ => ?_)
      show _ ∧ _ ∧ _ ∧ _ ∧ _ ∧ _ ∧ _
      refine ⟨rfl, ?_, ?_, ?_, rfl, rfl, rfl⟩ <;> dsimp only <;> omega
    · show _ ∧ _ ∧ _ ∧ _ ∧ _ ∧ _ ∧ _
      refine ⟨rfl, ?_, ?_, ?_, rfl, rfl, rfl⟩ <;> dsimp only <;> omega
  · show _ ∧ _ ∧ _ ∧ _ ∧ _ ∧ _ ∧ _
    refine ⟨rfl, ?_, ?_, ?_, rfl, rfl, rfl⟩ <;> dsimp only <;> omega

theorem finishLoop_sat (cap : Nat) : ∀ (len : Nat) (s : State) (out : List Nat), out.length ≤ cap →
    (finishLoop cap len s out).sat (fun r =>
      r.1.last_byte_sanitized = s.last_byte_sanitized ∧ r.1.last_byte_bit_offset = s.last_byte_bit_offset ∧
      r.1.window_size = s.window_size ∧ r.1.new_stream_pending = s.new_stream_pending ∧
      r.1.last_bytes_len + r.2.1.length = len + out.length ∧ r.2.1.length ≤ cap ∧
      (r.2.2 = none → r.1.last_bytes_len = 0 ∧ (len ≠ 0 → r.1.any_bytes_emitted = true) ∧
        (len = 0 → r.1.any_bytes_emitted = s.any_bytes_emitted)) ∧
      (∀ c, r.2.2 = some c → c = NEEDS_MORE_OUTPUT ∧ r.2.1.length = cap ∧ r.1.last_bytes_len ≠ 0)) := by
  intro len
  induction len with
  | zero => intro s out h; simp [finishLoop, h]
  | succ n ih =>
    intro s out h
    unfold finishLoop
    refine sat_ite (fun hc => ?_) (fun hc => ?_)
    · simp [hc]
    · unfold push
      rw [if_pos (by omega)]
      simp only [bind_ok]
      refine sat_mono (ih _ (out ++ [s.last_bytes.1]) (by simp; omega)) ?_
      intro r hr
      simp only [List.length_append, List.length_cons, List.length_nil] at hr
      obtain ⟨h1, h2, h3, h4, h5, h6, h7, h8⟩ := hr
      refine ⟨h1, h2, h3, h4, by omega, h6, ?_, h8⟩
      intro hn
      obtain ⟨a, b, c⟩ := h7 hn
      refine ⟨a, fun _ => ?_, fun h => by omega⟩
      by_cases hz : n = 0
      · rw [c hz]
      · exact b hz

structure FinishPost (s : State) (cap : Nat) (r : Ret) : Prop where
  inv : Inv r.st
  ws : r.st.window_size = s.window_size
  pending : r.st.new_stream_pending = s.new_stream_pending
  consumed : r.consumed = 0
  bound : r.produced.length ≤ cap
  code : r.code = SUCCESS ∨ (r.code = NEEDS_MORE_OUTPUT ∧ r.produced.length = cap)
  total : r.st.last_bytes_len + r.produced.length ≤ 2
  nmo : r.code = NEEDS_MORE_OUTPUT → r.st.last_bytes_len ≠ 0 ∨ cap = 0
  done : r.code = SUCCESS → r.st.last_bytes_len = 0 ∧ r.st.any_bytes_emitted = true

theorem finish_sat (s : State) (cap : Nat) (hI : Inv s) : (finish s cap).sat (FinishPost s cap) := by
  unfold finish
  have h1 : (if s.last_byte_sanitized = true ∧ s.last_bytes_len ≠ 0 then appendEofMetablockToLastBytes s
      else ok s).sat (fun s1 => s1.last_bytes_len ≤ 2 ∧ s1.last_byte_bit_offset < 8 ∧
        s1.new_stream_pending = s.new_stream_pending ∧ s1.window_size = s.window_size ∧
        (s1.last_byte_sanitized = true → s.last_byte_sanitized = true ∧ s1.last_bytes_len = 0) ∧
        (s.window_size = 0 → s1.last_bytes_len = 0 ∧ s1.last_byte_bit_offset = 0)) := by
    refine sat_ite (fun hc => ?_) (fun hc => ?_)
    · have hl : s.last_bytes_len = 1 := by have := (hI.san hc.1).2; omega
      refine sat_mono (appendEof_sat s hc.1 hl hI.off_lt) ?_
      intro r ⟨a, b, c, d, e, f, _⟩
      refine ⟨c, d, e, f, fun h => by simp [a] at h, fun h => ?_⟩
      have := (hI.ws0 h).1; omega
    · show _ ∧ _ ∧ _ ∧ _ ∧ _ ∧ _
      refine ⟨hI.len_le, hI.off_lt, rfl, rfl, fun h => ⟨h, ?_⟩, hI.ws0⟩
      by_cases h0 : s.last_bytes_len = 0
      · exact h0
      · exact absurd ⟨h, h0⟩ hc
  refine sat_bind _ h1 ?_
  intro s1 ⟨a1, a2, a3, a4, a5, a6⟩
  refine sat_bind _ (finishLoop_sat cap s1.last_bytes_len s1 [] (by simp)) ?_
  intro r ⟨b1, b2, b3, b4, b5, b6, b7, b8⟩
  simp only [List.length_nil, Nat.add_zero] at b5
  have hinv : ∀ (st : State), st.last_bytes_len = r.1.last_bytes_len →
      st.last_byte_bit_offset = r.1.last_byte_bit_offset → st.window_size = r.1.window_size →
      st.new_stream_pending = r.1.new_stream_pending → st.last_byte_sanitized = r.1.last_byte_sanitized →
      Inv st := by
    intro st e1 e2 e3 e4 e5
    refine ⟨by omega, by omega, ?_, ?_, ?_, ?_⟩
    · intro h
      have := a6 (by omega)
      omega
    · intro h
      rw [e5, b1] at h
      obtain ⟨hs, hz⟩ := a5 h
      rw [e4, b4, a3, e1]
      exact ⟨(hI.san hs).1, by omega⟩
    · intro h hl
      rw [e5, b1] at h
      obtain ⟨hs, hz⟩ := a5 h
      omega
    · intro d hd
      rw [e4, b4, a3] at hd
      rw [e3, b3, a4]
      exact hI.pend d hd
  obtain ⟨r1, r2, r3⟩ := r
  dsimp only at *
  cases r3 with
  | some c =>
    obtain ⟨hc1, hc2, hc3⟩ := b8 c rfl
    dsimp only
    rw [sat_ok]
    exact ⟨hinv _ rfl rfl rfl rfl rfl, by rw [b3, a4], by rw [b4, a3], rfl, b6, Or.inr ⟨hc1, hc2⟩, by show r1.last_bytes_len + r2.length ≤ 2; omega,
      fun _ => Or.inl hc3, fun h => by simp [hc1] at h⟩
  | none =>
    obtain ⟨n1, n2, n3⟩ := b7 rfl
    dsimp only
    refine sat_ite (fun he => ?_) (fun he => ?_)
    · have hlen0 : s1.last_bytes_len = 0 := by
        by_cases hz : s1.last_bytes_len = 0
        · exact hz
        · have := n2 hz; simp [this] at he
      refine sat_ite (fun hfull => ?_) (fun hfull => ?_)
      · rw [sat_ok]
        exact ⟨hinv _ rfl rfl rfl rfl rfl, by rw [b3, a4], by rw [b4, a3], rfl, b6,
          Or.inr ⟨rfl, hfull.symm⟩, by show r1.last_bytes_len + r2.length ≤ 2; omega,
          fun _ => Or.inr (by omega), fun h => by simp at h⟩
      · unfold push
        rw [if_pos (by omega)]
        simp only [bind_ok]
        rw [sat_ok]
        refine ⟨hinv _ rfl rfl rfl rfl rfl, by simp [b3, a4], by simp [b4, a3], rfl, ?_, Or.inl rfl, ?_,
          fun h => by simp at h, fun _ => ⟨n1, rfl⟩⟩
        · simp; omega
        · simp; omega
    · rw [sat_ok]
      refine ⟨hinv _ rfl rfl rfl rfl rfl, by rw [b3, a4], by rw [b4, a3], rfl, b6, Or.inl rfl, by show r1.last_bytes_len + r2.length ≤ 2; omega,
        fun h => by simp at h, fun _ => ⟨n1, by simpa using he⟩⟩

end BV.Concat
