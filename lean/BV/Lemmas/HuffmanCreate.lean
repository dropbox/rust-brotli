/-
C17: the retry loops of `BrotliCreateHuffmanTree` and
of `BrotliBuildAndStoreHuffmanTreeFast`.  A round with `count_limit = cl` is *light* when
`roundWeight … cl < fib (M + 3) · cl`: then its tree is within the limit `M` (`round_spec`) and the
loop ends.  `Retries` states one round for every amount of fuel left, so that fuel never matters;
doubling `count_limit` makes round `R` light (`round_weights`, `Retries.total`).
-/
import BV.Lemmas.HuffmanBuild

namespace BV.Lemmas.HuffmanCreate
open BV.Bits BV.Huffman BV.Lemmas.HuffmanCanon BV.Lemmas.HuffmanShape BV.Lemmas.HuffmanSort
open BV.Lemmas.HuffmanMerge BV.Lemmas.HuffmanBuild BV.Lemmas.HuffmanFib

def roundWeight (data : List Nat) (m cl : Nat) : Nat := ((descNZ data m).map (wOf data cl)).sum

def ZeroOff (data : List Nat) (m : Nat) (depth : List Nat) : Prop :=
  ∀ v, v < m → data.getD v 0 = 0 → depth.getD v 0 = 0

structure GoodDepth (data : List Nat) (m M : Nat) (depth depth' : List Nat) : Prop where
  hlen : depth'.length = depth.length
  hframe : ∀ x, m ≤ x → depth'[x]? = depth[x]?
  hsupp : ∀ v, v < m → (depth'.getD v 0 ≠ 0 ↔ data.getD v 0 ≠ 0)
  hlim : ∀ v, v < m → depth'.getD v 0 ≤ M
  hkraft : kraftSum M (depth'.take m) = 2 ^ M
  /-- a code over `n` symbols has no code word longer than `n - 1` -/
  hcnt : ∀ v, v < m → depth'.getD v 0 + 1 ≤ (descNZ data m).length

theorem take_le_of_getD (d : List Nat) (m M : Nat) (hm : m ≤ d.length)
    (hlim : ∀ v, v < m → d.getD v 0 ≤ M) : ∀ x ∈ d.take m, x ≤ M := by
  intro x hx
  obtain ⟨i, hi, hxi⟩ := List.getElem_of_mem hx
  rw [List.length_take] at hi
  have := hlim i (by omega)
  rw [List.getD_eq_getElem?_getD, List.getElem?_eq_getElem (by omega)] at this
  rw [List.getElem_take] at hxi
  simp only [Option.getD_some] at this
  omega

theorem GoodDepth.take_le {data : List Nat} {m M : Nat} {d0 d1 : List Nat}
    (hg : GoodDepth data m M d0 d1) (hm : m ≤ d1.length) : ∀ x ∈ d1.take m, x ≤ M :=
  take_le_of_getD d1 m M hm hg.hlim

/-- `2 * m < 32768`: node indices are `i16`; `< 4294967295`, not `< 2^32`: every node count stays below the
sentinels' `u32::MAX`, so none wraps and none ties with a sentinel. -/
theorem round_spec (cmp : Node → Node → Bool) (hcmp : CmpOK cmp) (data : List Nat) (m M cl : Nat)
    (hM : M ≤ 15)
    (hm : m ≤ data.length) (hm16 : 2 * m < 32768) (hn2 : 2 ≤ (descNZ data m).length)
    (tree : List Node) (depth : List Nat) (htl : 2 * m + 1 ≤ tree.length)
    (hdl : m ≤ depth.length) (hz : ZeroOff data m depth)
    (hW : roundWeight data m cl < 4294967295) :
    ∃ tree1 tree2 done depth', collectLeaves data cl m tree 0 = .ok (tree1, (descNZ data m).length) ∧
      buildNodes cmp tree1 (descNZ data m).length = .ok tree2 ∧ tree2.length = tree.length ∧
      setDepth ((2 * (descNZ data m).length - 1 : Nat) : Int) tree2 depth (M : Int)
            = .ok (done, depth') ∧
      (done = true → GoodDepth data m M depth depth') ∧
      (done = false → depth'.length = depth.length ∧ ZeroOff data m depth' ∧
            ∀ x, m ≤ x → depth'[x]? = depth[x]?) ∧
      (roundWeight data m cl < fib (M + 3) * cl → done = true) := by
  have hnm := length_descNZ_le data m
  obtain ⟨tree1, hc1, hc2, _, hc4⟩ := collectLeaves_spec data cl m tree 0 hm (by omega) (by omega)
  simp only [Nat.zero_add] at hc1 hc4
  obtain ⟨tree2, t, hb1, hb2, hb3, hb4, hb5⟩ := buildNodes_spec cmp hcmp data cl (descNZ data m)
    tree1 (descNZ data m).length rfl hn2 (by omega) (by omega) hc4 hW
  have hlvlen : t.leaves.length = (descNZ data m).length := hb4.length_eq
  have hmem : ∀ v, v ∈ t.leaves ↔ v < m ∧ data.getD v 0 ≠ 0 := by
    intro v; rw [hb4.mem_iff, mem_descNZ]
  have hlv : ∀ v ∈ t.leaves, v < depth.length := fun v hv => by
    have := (hmem v).mp hv; omega
  have hsz : t.size ≤ setDepthFuel := by
    have := T.size_eq t
    unfold setDepthFuel; omega
  have hsd := setDepth_spec tree2 M hM t (2 * (descNZ data m).length - 1) depth hb3 hlv hsz
  by_cases hfit : t.height ≤ M
  · refine ⟨tree1, tree2, true, assign t 0 depth, hc1, hb1, by rw [hb2, hc2], hsd.1 hfit, ?_,
      (fun h => Bool.noConfusion h), fun _ => rfl⟩
    intro _
    have h2 : 2 ≤ t.leaves.length := by omega
    refine
      { hlen := assign_length _ _ _, hframe := ?_, hsupp := ?_, hlim := ?_, hkraft := ?_,
        hcnt := ?_ }
    · intro x hx
      exact assign_other t 0 depth x (fun h => by have := (hmem x).mp h; omega)
    · intro v hv
      by_cases hd : data.getD v 0 = 0
      · have hnl : v ∉ t.leaves := fun h => ((hmem v).mp h).2 hd
        rw [getD_of_getElem? _ _ _ (assign_other t 0 depth v hnl), hz v hv hd]
        constructor
        · intro h; exact absurd rfl h
        · intro h; exact absurd hd h
      · obtain ⟨x, h1, h2, _⟩ := assign_leaf_pos t h2 depth v ((hmem v).mpr ⟨hv, hd⟩) hlv
        simp only [List.getD_eq_getElem?_getD, h1, Option.getD_some]
        constructor
        · intro _; exact hd
        · intro _; omega
    · intro v hv
      by_cases hd : data.getD v 0 = 0
      · have hnl : v ∉ t.leaves := fun h => ((hmem v).mp h).2 hd
        rw [getD_of_getElem? _ _ _ (assign_other t 0 depth v hnl), hz v hv hd]
        omega
      · obtain ⟨x, h1, _, h3⟩ := assign_leaf_pos t h2 depth v ((hmem v).mpr ⟨hv, hd⟩) hlv
        simp only [List.getD_eq_getElem?_getD, h1, Option.getD_some]
        omega
    · rw [assign_take]
      have heq : assign t 0 (depth.take m) = assign t 0 (List.replicate m 0) := by
        apply List.ext_getElem?
        intro x
        apply assign_pointwise t 0 _ _ x (by simp; omega)
          (by intro v hv; have := (hmem v).mp hv; simp; omega)
        by_cases hx : x ∈ t.leaves
        · exact Or.inl hx
        · right
          rw [List.getElem?_take, List.getElem?_replicate]
          by_cases hxm : x < m
          · rw [if_pos hxm, if_pos hxm]
            have hd : data.getD x 0 = 0 := by
              by_cases hd : data.getD x 0 = 0
              · exact hd
              · exact absurd ((hmem x).mpr ⟨hxm, hd⟩) hx
            have := hz x hxm hd
            rw [List.getD_eq_getElem?_getD, List.getElem?_eq_getElem (by omega)] at this
            rw [List.getElem?_eq_getElem (by omega)]
            simpa using this
          · rw [if_neg hxm, if_neg hxm]
      rw [heq, kraft_assign M t 0 (List.replicate m 0) (hb4.nodup_iff.mpr (nodup_descNZ data m))
        (by
          intro v hv
          have := (hmem v).mp hv
          exact ⟨by simp; omega, getD_replicate m v 0⟩) (Or.inl h2),
        kraftT_eq M t 0 (by omega)]
      rw [kraftSum_replicate_zero]; simp
    · intro v hv
      have hh := T.height_succ_le t
      by_cases hd : data.getD v 0 = 0
      · have hnl : v ∉ t.leaves := fun h => ((hmem v).mp h).2 hd
        rw [getD_of_getElem? _ _ _ (assign_other t 0 depth v hnl), hz v hv hd]
        omega
      · obtain ⟨x, h1, _, h3⟩ := assign_leaf_pos t h2 depth v ((hmem v).mpr ⟨hv, hd⟩) hlv
        simp only [List.getD_eq_getElem?_getD, h1, Option.getD_some]
        omega
  · obtain ⟨d', h1, h2, h3⟩ := hsd.2 (by omega)
    refine ⟨tree1, tree2, false, d', hc1, hb1, by rw [hb2, hc2], h1, (fun h => Bool.noConfusion h),
      fun _ => ⟨h2, ?_, ?_⟩, ?_⟩
    · intro v hv hd
      have hnl : v ∉ t.leaves := fun h => ((hmem v).mp h).2 hd
      rw [getD_of_getElem? _ _ _ (h3 v hnl)]
      exact hz v hv hd
    · intro x hx
      exact h3 x (fun h => by have := (hmem x).mp h; omega)
    · intro hlt
      exfalso
      have hmono : fib (M + 3) ≤ fib (t.height + 2) := fib_mono (by omega)
      have := Nat.mul_le_mul_right cl hmono
      unfold roundWeight at hlt
      omega

def clSeq (cl : Nat) : Nat → Nat
  | 0 => cl
  | r + 1 => clSeq (cl * 2 % 4294967296) r

theorem asI32_of_lt (x : Nat) (h : x < 2147483648) : asI32 x = (x : Int) := by
  unfold asI32
  have : x % 4294967296 = x := Nat.mod_eq_of_lt (by omega)
  rw [this, if_pos h]

theorem GoodDepth.trans_frame {data : List Nat} {m M : Nat} {d0 d1 d2 : List Nat}
    (h : GoodDepth data m M d1 d2) (hl : d1.length = d0.length)
    (hf : ∀ x, m ≤ x → d1[x]? = d0[x]?) : GoodDepth data m M d0 d2 :=
  { hlen := h.hlen.trans hl, hframe := fun x hx => (h.hframe x hx).trans (hf x hx),
    hsupp := h.hsupp, hlim := h.hlim, hkraft := h.hkraft, hcnt := h.hcnt }

/-- `L` takes fuel, `count_limit`, tree, depth.  Both cases hold for EVERY amount of fuel left (`∀ g`), so that more
fuel never changes a result. -/
def Retries {ρ : Type} (L : Nat → Nat → List Node → List Nat → Out ρ) (dep : ρ → List Nat)
    (data : List Nat) (m M : Nat) : Prop :=
  ∀ cl tree depth, 2 * m + 1 ≤ tree.length → m ≤ depth.length → ZeroOff data m depth →
    roundWeight data m cl < 4294967295 →
    (∃ r, (∀ g, L (g + 1) cl tree depth = .ok r) ∧ GoodDepth data m M depth (dep r)) ∨
    (¬ roundWeight data m cl < fib (M + 3) * cl ∧ ∃ tree' depth', 2 * m + 1 ≤ tree'.length ∧
      depth'.length = depth.length ∧ ZeroOff data m depth' ∧
      (∀ x, m ≤ x → depth'[x]? = depth[x]?) ∧
      ∀ g, L (g + 1) cl tree depth = L g (cl * 2 % 4294967296) tree' depth')

theorem Retries.total {ρ : Type} {L : Nat → Nat → List Node → List Nat → Out ρ}
    {dep : ρ → List Nat} {data : List Nat} {m M : Nat} (hL : Retries L dep data m M) :
    ∀ (R cl : Nat) (tree : List Node) (depth : List Nat), 2 * m + 1 ≤ tree.length →
    m ≤ depth.length → ZeroOff data m depth →
    (∀ r, r < R + 1 → roundWeight data m (clSeq cl r) < 4294967295) →
    roundWeight data m (clSeq cl R) < fib (M + 3) * clSeq cl R →
    ∀ g, R < g → ∃ r, L g cl tree depth = .ok r ∧ GoodDepth data m M depth (dep r) := by
  intro R
  induction R with
  | zero =>
    intro cl tree depth htl hdl hz hW hfit g hg
    obtain ⟨g, rfl⟩ : ∃ g', g = g' + 1 := ⟨g - 1, by omega⟩
    rcases hL cl tree depth htl hdl hz (hW 0 (by omega)) with ⟨r, he, hgd⟩ | ⟨hno, _⟩
    · exact ⟨r, he g, hgd⟩
    · exact absurd hfit hno
  | succ R ih =>
    intro cl tree depth htl hdl hz hW hfit g hg
    obtain ⟨g, rfl⟩ : ∃ g', g = g' + 1 := ⟨g - 1, by omega⟩
    rcases hL cl tree depth htl hdl hz (hW 0 (by omega)) with
      ⟨r, he, hgd⟩ | ⟨_, tree', depth', htl', hl, hz', hfr, he⟩
    · exact ⟨r, he g, hgd⟩
    · obtain ⟨r, her, hgd⟩ := ih (cl * 2 % 4294967296) tree' depth' htl' (by omega) hz'
        (fun r hr => hW (r + 1) (by omega)) hfit g (by omega)
      exact ⟨r, by rw [he g]; exact her, hgd.trans_frame hl hfr⟩

theorem createLoop_retries (data : List Nat) (m M : Nat) (hM : M ≤ 15) (hm : m ≤ data.length)
    (hm16 : 2 * m < 32768) (hn2 : 2 ≤ (descNZ data m).length) :
    Retries (createLoop data m (M : Int)) Prod.snd data m M := by
  intro cl tree depth htl hdl hz hW
  obtain ⟨tree1, tree2, done, depth', h1, h2, h3, hs, hgood, hbad, hstop⟩ :=
    round_spec cmpSort cmpSort_ok data m M cl hM hm hm16 hn2 tree depth htl hdl hz hW
  have hn1 : ¬ (descNZ data m).length = 1 := by omega
  have hn0 : ¬ (descNZ data m).length = 0 := by omega
  have hnm := length_descNZ_le data m
  have step : ∀ g, createLoop data m (M : Int) (g + 1) cl tree depth =
      if done then .ok (tree2, depth')
      else createLoop data m (M : Int) g (cl * 2 % 4294967296) tree2 depth' := fun g => by
    simp only [createLoop, h1, Out.bind_ok, hn1, hn0, ↓reduceIte, h2,
      asI32_of_lt (2 * (descNZ data m).length - 1) (by omega), hs]
  cases done with
  | true => exact Or.inl ⟨(tree2, depth'), fun g => by rw [step g]; rfl, hgood rfl⟩
  | false =>
    obtain ⟨hl, hz', hfr⟩ := hbad rfl
    exact Or.inr ⟨fun hfit => absurd (hstop hfit) (by simp), tree2, depth', by omega, hl, hz', hfr,
      fun g => by rw [step g]; rfl⟩

theorem fastLoop_retries (data : List Nat) (m : Nat) (hm : m ≤ data.length)
    (hm16 : 2 * m < 32768) (hn2 : 2 ≤ (descNZ data m).length) :
    Retries (fastLoop data m) id data m 14 := by
  intro cl tree depth htl hdl hz hW
  obtain ⟨tree1, tree2, done, depth', h1, h2, h3, hs, hgood, hbad, hstop⟩ :=
    round_spec cmpSimple cmpSimple_ok data m 14 cl (by omega) hm hm16 hn2 tree depth htl hdl hz hW
  have hcast : (2 * ((descNZ data m).length : Int) - 1) =
      ((2 * (descNZ data m).length - 1 : Nat) : Int) := by omega
  have hs' : setDepth (↑(2 * (descNZ data m).length - 1)) tree2 depth 14
      = .ok (done, depth') := hs
  have step : ∀ g, fastLoop data m (g + 1) cl tree depth =
      if done then .ok depth' else fastLoop data m g (cl * 2 % 4294967296) tree2 depth' :=
    fun g => by simp only [fastLoop, h1, Out.bind_ok, h2, hcast, hs']
  cases done with
  | true => exact Or.inl ⟨depth', fun g => by rw [step g]; rfl, hgood rfl⟩
  | false =>
    obtain ⟨hl, hz', hfr⟩ := hbad rfl
    exact Or.inr ⟨fun hfit => absurd (hstop hfit) (by simp), tree2, depth', by omega, hl, hz', hfr,
      fun g => by rw [step g]; rfl⟩

theorem descNZ_take_filter (data : List Nat) (m : Nat) (hm : m ≤ data.length) :
    (descNZ data m).length = ((data.take m).filter (· ≠ 0)).length ∧
    ∀ cl, roundWeight data m cl = ((data.take m).map fun d => if d = 0 then 0 else max d cl).sum := by
  induction m with
  | zero => exact ⟨by simp [descNZ], fun cl => by simp [roundWeight, descNZ]⟩
  | succ m ih =>
    obtain ⟨ih1, ih2⟩ := ih (by omega)
    have hm' : m < data.length := by omega
    have ht : data.take (m + 1) = data.take m ++ [data.getD m 0] := by
      rw [List.take_add_one, List.getD_eq_getElem?_getD, List.getElem?_eq_getElem hm']; simp
    rw [ht]
    by_cases hd : data.getD m 0 = 0
    · refine ⟨?_, fun cl => ?_⟩
      · simp only [descNZ, hd, ↓reduceIte, List.filter_append, List.length_append, ih1]
        simp
      · have := ih2 cl
        simp only [roundWeight, descNZ, hd, ↓reduceIte] at this ⊢
        rw [this]; simp
    · refine ⟨?_, fun cl => ?_⟩
      · simp only [descNZ, hd, ↓reduceIte, List.filter_append, List.length_append, ih1,
          List.length_cons]
        generalize data.getD m 0 = x at hd
        have : List.filter (fun x => decide (x ≠ 0)) [x] = [x] := by
          simp [hd]
        rw [this]; rfl
      · have := ih2 cl
        simp only [roundWeight, descNZ, hd, ↓reduceIte, List.map_cons, List.sum_cons] at this ⊢
        rw [this]
        simp only [List.map_append, List.sum_append, List.map_cons, List.map_nil, List.sum_cons,
          List.sum_nil, hd, ↓reduceIte, wOf]
        omega

theorem clSeq_one (r : Nat) (hr : r ≤ 31) : clSeq 1 r = 2 ^ r := by
  have gen : ∀ r c, c * 2 ^ r < 4294967296 → clSeq c r = c * 2 ^ r := by
    intro r
    induction r with
    | zero => intro c _; simp [clSeq]
    | succ r ih =>
      intro c hc
      have e : c * 2 ^ (r + 1) = (c * 2) * 2 ^ r := by rw [Nat.pow_succ]; ac_rfl
      have hp : 1 ≤ 2 ^ r := Nat.pow_pos (by decide)
      have hc2 : c * 2 < 4294967296 := by
        have : c * 2 * 1 ≤ c * 2 * 2 ^ r := Nat.mul_le_mul_left _ hp
        omega
      simp only [clSeq]
      rw [Nat.mod_eq_of_lt hc2, ih (c * 2) (by omega), e]
  have := gen r 1 (by
    have : (2:Nat) ^ r ≤ 2 ^ 31 := Nat.pow_le_pow_right (by decide) hr
    have : (2:Nat) ^ 31 < 4294967296 := by decide
    omega)
  simpa using this

theorem zeroOff_replicate (data : List Nat) (m k : Nat) : ZeroOff data m (List.replicate k 0) :=
  fun v _ _ => getD_replicate k v 0

theorem sum_max_le (data : List Nat) (cl : Nat) :
    (data.map fun d => if d = 0 then 0 else max d cl).sum ≤ data.sum + data.length * cl := by
  induction data with
  | nil => simp
  | cons d ds ih =>
    simp only [List.map_cons, List.sum_cons, List.length_cons, Nat.add_mul, Nat.one_mul]
    split <;> omega

theorem round_weights (data : List Nat) (m R F : Nat) (hm : m ≤ data.length) (hR : R ≤ 31)
    (hW : (data.take m).sum + m * 2 ^ R < 4294967295)
    (hfit : (data.take m).sum + m * 2 ^ R < F * 2 ^ R) :
    (∀ r, r < R + 1 → roundWeight data m (clSeq 1 r) < 4294967295) ∧
      roundWeight data m (clSeq 1 R) < F * clSeq 1 R := by
  have hrw : ∀ cl, roundWeight data m cl ≤ (data.take m).sum + m * cl := by
    intro cl
    rw [(descNZ_take_filter data m hm).2 cl]
    have := sum_max_le (data.take m) cl
    rw [List.length_take, Nat.min_eq_left hm] at this
    exact this
  refine ⟨?_, ?_⟩
  · intro r hr
    rw [clSeq_one r (by omega)]
    have h1 := hrw (2 ^ r)
    have h2 : (2:Nat) ^ r ≤ 2 ^ R := Nat.pow_le_pow_right (by decide) (by omega)
    have h3 := Nat.mul_le_mul_left m h2
    omega
  · rw [clSeq_one R hR]
    have := hrw (2 ^ R)
    omega

theorem create_total_gen (data : List Nat) (m M R : Nat) (hM : M ≤ 15) (hm : m ≤ data.length)
    (hm16 : m ≤ 16383) (hn2 : 2 ≤ ((data.take m).filter (· ≠ 0)).length) (tree : List Node)
    (htl : 2 * m + 1 ≤ tree.length) (depth : List Nat) (hdl : m ≤ depth.length)
    (hz : ZeroOff data m depth) (hR : R ≤ 31)
    (hW : (data.take m).sum + m * 2 ^ R < 4294967295)
    (hfit : (data.take m).sum + m * 2 ^ R < fib (M + 3) * 2 ^ R) :
    ∃ depth', createHuffmanTree data m (M : Int) tree depth = .ok depth' ∧
      GoodDepth data m M depth depth' := by
  have hnz : 2 ≤ (descNZ data m).length := by
    rw [(descNZ_take_filter data m hm).1]; exact hn2
  obtain ⟨hWr, hfitR⟩ := round_weights data m R _ hm hR hW hfit
  obtain ⟨r, he, hg⟩ := (createLoop_retries data m M hM hm (by omega) hnz).total R 1 tree depth htl
    hdl hz hWr hfitR createFuel (by unfold createFuel; omega)
  refine ⟨r.2, ?_, hg⟩
  unfold createHuffmanTree
  rw [he]
  rfl

/-- `hW`: round `R` is reached without `u32` overflow of the node counts; `hfit`: it is light
enough for the limit (the Fibonacci bound on the height of a tree whose lightest leaf weighs `2^R`) -/
theorem create_total (data : List Nat) (M R : Nat) (hM : M ≤ 15) (hlen : data.length ≤ 16383)
    (hn2 : 2 ≤ (data.filter (· ≠ 0)).length) (tree : List Node)
    (htl : 2 * data.length + 1 ≤ tree.length) (hR : R ≤ 31)
    (hW : data.sum + data.length * 2 ^ R < 4294967295)
    (hfit : data.sum + data.length * 2 ^ R < fib (M + 3) * 2 ^ R) :
    ∃ depth, createHuffmanTree data data.length (M : Int) tree (List.replicate data.length 0)
        = .ok depth ∧ depth.length = data.length ∧
      (∀ v, v < data.length → (depth.getD v 0 ≠ 0 ↔ data.getD v 0 ≠ 0)) ∧
      (∀ v, v < data.length → depth.getD v 0 ≤ M) ∧ kraftSum M depth = 2 ^ M := by
  obtain ⟨depth, hd, hg⟩ := create_total_gen data data.length M R hM (Nat.le_refl _) hlen
    (by rw [List.take_length]; exact hn2) tree htl (List.replicate data.length 0) (by simp)
    (zeroOff_replicate _ _ _) hR (by rw [List.take_length]; exact hW)
    (by rw [List.take_length]; exact hfit)
  have hl : depth.length = data.length := by simpa using hg.hlen
  refine ⟨depth, hd, hl, hg.hsupp, hg.hlim, ?_⟩
  have := hg.hkraft
  rwa [← hl, List.take_length] at this

theorem fast_total (data : List Nat) (m R : Nat) (hm : m ≤ data.length) (hm16 : m ≤ 16383)
    (hn2 : 2 ≤ ((data.take m).filter (· ≠ 0)).length) (depth : List Nat) (hdl : m ≤ depth.length)
    (hz : ZeroOff data m depth) (hR : R ≤ 31)
    (hW : (data.take m).sum + m * 2 ^ R < 4294967295)
    (hfit : (data.take m).sum + m * 2 ^ R < fib 17 * 2 ^ R) :
    ∃ depth', fastLoop data m createFuel 1 (List.replicate (2 * m + 1) default) depth = .ok depth' ∧
      GoodDepth data m 14 depth depth' := by
  have hnz : 2 ≤ (descNZ data m).length := by
    rw [(descNZ_take_filter data m hm).1]; exact hn2
  obtain ⟨hWr, hfitR⟩ := round_weights data m R _ hm hR hW hfit
  exact (fastLoop_retries data m hm (by omega) hnz).total R 1 (List.replicate (2 * m + 1) default)
    depth (by simp) hdl hz hWr hfitR createFuel (by unfold createFuel; omega)

theorem setDepth_kraft (pool : List Node) (M : Nat) (hM : M ≤ 15) (t : T) (p len : Nat)
    (ht : IsTree pool p t) (hnd : t.leaves.Nodup) (hlv : ∀ v ∈ t.leaves, v < len)
    (h2 : 2 ≤ t.leaves.length) (hsz : t.size ≤ setDepthFuel) :
    (t.height ≤ M → ∃ depth, setDepth (p : Int) pool (List.replicate len 0) (M : Int)
        = .ok (true, depth) ∧ kraftSum M depth = 2 ^ M ∧ ∀ x ∈ depth, x ≤ M) ∧
    (M < t.height → ∃ depth, setDepth (p : Int) pool (List.replicate len 0) (M : Int)
        = .ok (false, depth)) := by
  have hsd := setDepth_spec pool M hM t p (List.replicate len 0) ht (by simpa using hlv) hsz
  constructor
  · intro hfit
    refine ⟨_, hsd.1 hfit, ?_, ?_⟩
    · rw [kraft_assign M t 0 _ hnd (fun v hv => ⟨by simpa using hlv v hv, getD_replicate len v 0⟩)
        (Or.inl h2), kraftT_eq M t 0 (by omega)]
      rw [kraftSum_replicate_zero]; simp
    · intro x hx
      obtain ⟨v, hv, hxv⟩ := List.getElem_of_mem hx
      rw [assign_length] at hv
      by_cases hvl : v ∈ t.leaves
      · obtain ⟨y, h1, _, h3⟩ := assign_leaf_pos t h2 (List.replicate len 0) v hvl
          (by simpa using hlv)
        rw [List.getElem?_eq_getElem (by rw [assign_length]; exact hv)] at h1
        injection h1 with h1
        omega
      · have := assign_other t 0 (List.replicate len 0) v hvl
        rw [List.getElem?_eq_getElem (by rw [assign_length]; exact hv),
          List.getElem?_eq_getElem hv] at this
        injection this with this
        rw [← hxv, this]; simp
  · intro hno
    obtain ⟨d', h1, _, _⟩ := hsd.2 hno
    exact ⟨d', h1⟩

end BV.Lemmas.HuffmanCreate
