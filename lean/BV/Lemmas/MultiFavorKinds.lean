/-
The CONCRETE match-index kinds (BV/Model/Hasher.lean: `BasicHasher` H2/H3/H4/H54, `AdvHasher`
H5/H5q5/H5q7/H6, `H9`) as instances of the abstract `HasherModel` of BV/Lemmas/MultiFavor.lean, and
the two facts C06 `favor_cpu_equiv` needs of `BulkStoreRange(data, usize::MAX, lo, hi)`:

* ADDITIVE over consecutive ranges — from C19 (`BulkStoreRange` = the fold of `Store`) and
  `forRange_add`;
* LOCAL: storing positions `< hi` reads `data[.. hi + StoreLookahead() − 1)` only — because `Store`
  at position `ix` reads the window `[ix & mask, (ix & mask) + StoreLookahead())` and nothing else
  of the buffer (`Basic.store_local`, `Adv.store_local`, `H9.store_local`).

An index is an `Option`: `none` = the Rust code panicked (slice index / `split_at`); a panicked
index stays panicked (`liftBulk`).  So every equation below also says that the two sides panic
together.  The input of the abstract interface is a `List Nat` (bytes); `toBA` makes it the
`ByteArray` of the hasher model.

For `AdvHasher` additivity is only known FROM THE EMPTY INDEX and for positions up to a bound
(`AdditiveFrom`, `LocalFrom` of BV/Lemmas/MultiFavor.lean): its fold theorem needs the table-size
invariant (true of the constructor's tables, kept by `Store`) and positions `≤ 2^64` (they are
`usize`s).

Then the two readings of the shared index that the properties use: `prebuilt_is_partition` (it is C19's
`runPieces` over the cut points of the favor loop) and `jobIndex` (what the job's encoder ends up with, with or
without a handed index).
-/
import BV.Lemmas.MultiFavor
import BV.Lemmas.HasherMisc

namespace BV.Lemmas.Multi
open BV.Multi BV.Hasher

def toBA (l : List Nat) : ByteArray := ByteArray.mk (l.map Nat.toUInt8).toArray

theorem toBA_size (l : List Nat) : (toBA l).size = l.length := by
  simp [toBA, ByteArray.size]

/-- with `get!` a read out of range is the default byte, so the equation needs no bound on `l` -/
theorem toBA_get_take (l : List Nat) (k i : Nat) (h : i < k) :
    (toBA (l.take k)).get! i = (toBA l).get! i := by
  simp only [toBA, ByteArray.get!]
  simp [h]

theorem win_take (l : List Nat) (k p n : Nat) (h : p + n ≤ k) :
    win (toBA (l.take k)) p n = win (toBA l) p n := by
  unfold win
  rw [toBA_size, toBA_size, List.length_take]
  by_cases hl : p + n ≤ l.length
  · rw [if_pos (by omega), if_pos hl]
    congr 1
    apply List.map_congr_left
    intro j hj
    simp only [List.mem_range] at hj
    rw [toBA_get_take l k (p + j) (by omega)]
  · rw [if_neg (by omega), if_neg hl]

def Agree (d d' : ByteArray) (k : Nat) : Prop := ∀ p n, p + n ≤ k → win d p n = win d' p n

theorem agree_of_take {l l' : List Nat} {k : Nat} (h : l.take k = l'.take k) :
    Agree (toBA l) (toBA l') k := by
  intro p n hpn
  rw [← win_take l k p n hpn, ← win_take l' k p n hpn, h]

theorem and_add_le {ix L k : Nat} (mask : Nat) (h : ix + L ≤ k) : (ix &&& mask) + L ≤ k :=
  Nat.le_trans (Nat.add_le_add_right Nat.and_le_left L) h

theorem Basic.store_local {P : BasicP} {d d' : ByteArray} {mask ix k : Nat} (h : Agree d d' k)
    (hk : ix + 8 ≤ k) (b : Tab) : Basic.store P d mask ix b = Basic.store P d' mask ix b := by
  unfold Basic.store Basic.hashAt
  rw [h _ _ (and_add_le mask hk)]

theorem Adv.store_local {P : AdvP} {d d' : ByteArray} {mask ix k : Nat} (h : Agree d d' k)
    (hk : ix + P.lookahead ≤ k) (st : AdvSt) :
    Adv.store P d mask ix st = Adv.store P d' mask ix st := by
  unfold Adv.store Adv.hashAt
  rw [h _ _ (and_add_le mask hk)]

theorem H9.store_local {P : H9P} {d d' : ByteArray} {mask ix k : Nat} (h : Agree d d' k)
    (hk : ix + 4 ≤ k) (st : AdvSt) : H9.store P d mask ix st = H9.store P d' mask ix st := by
  unfold H9.store
  rw [h _ _ (and_add_le mask hk)]

def liftBulk {σ : Type} (bulk : ByteArray → Nat → Nat → Nat → σ → Option σ) :
    Option σ → List Nat → Nat → Nat → Option σ :=
  fun h d lo hi => h.bind (bulk (toBA d) USIZE_MAX lo hi)

theorem liftBulk_additive {σ : Type} {bulk : ByteArray → Nat → Nat → Nat → σ → Option σ}
    {store : ByteArray → Nat → σ → Option σ} {I : σ → Prop} {bound : Nat}
    (hfold : ∀ d s e st, I st → e ≤ bound → bulk d USIZE_MAX s e st = forRange (store d) s (e - s) st)
    (hI : ∀ d i x y, I x → store d i x = some y → I y)
    (h : Option σ) (hh : ∀ x, h = some x → I x) (d : List Nat) (a b c : Nat)
    (hab : a ≤ b) (hbc : b ≤ c) (hc : c ≤ bound) :
    liftBulk bulk (liftBulk bulk h d a b) d b c = liftBulk bulk h d a c := by
  cases h with
  | none => rfl
  | some x =>
    have hx := hh x rfl
    simp only [liftBulk, Option.bind_some]
    rw [hfold _ a b x hx (by omega), hfold _ a c x hx hc,
      show c - a = (b - a) + (c - b) by omega, forRange_add, show a + (b - a) = b by omega]
    cases h1 : forRange (store (toBA d)) a (b - a) x with
    | none => rfl
    | some y =>
      simp only [Option.bind_some]
      exact hfold _ b c y (forRange_inv (hI (toBA d)) _ _ _ _ hx h1) hc

theorem liftBulk_local {σ : Type} {bulk : ByteArray → Nat → Nat → Nat → σ → Option σ}
    {store : ByteArray → Nat → σ → Option σ} {I : σ → Prop} {bound L : Nat} (hL : 1 ≤ L)
    (hfold : ∀ d s e st, I st → e ≤ bound → bulk d USIZE_MAX s e st = forRange (store d) s (e - s) st)
    (hloc : ∀ d d' ix st k, Agree d d' k → ix + L ≤ k → store d ix st = store d' ix st)
    (h : Option σ) (hh : ∀ x, h = some x → I x) (d d' : List Nat) (a b : Nat) (hb : b ≤ bound)
    (hd : d.take (b + (L - 1)) = d'.take (b + (L - 1))) :
    liftBulk bulk h d a b = liftBulk bulk h d' a b := by
  cases h with
  | none => rfl
  | some x =>
    have hx := hh x rfl
    simp only [liftBulk, Option.bind_some]
    rw [hfold _ a b x hx hb, hfold _ a b x hx hb]
    apply forRange_congr
    intro i y h1 h2
    exact hloc _ _ i y _ (agree_of_take hd) (by omega)

theorem liftBulk_additive_plain {σ : Type} {bulk : ByteArray → Nat → Nat → Nat → σ → Option σ}
    {store : ByteArray → Nat → σ → Option σ} {empty : Option σ}
    (hfold : ∀ d s e st, bulk d USIZE_MAX s e st = forRange (store d) s (e - s) st) :
    Additive (⟨empty, liftBulk bulk⟩ : HasherModel (Option σ)) :=
  fun h d a b c hab hbc => liftBulk_additive (I := fun _ => True) (bound := c) (fun d s e st _ _ => hfold d s e st)
    (fun _ _ _ _ _ _ => trivial) h (fun _ _ => trivial) d a b c hab hbc (Nat.le_refl _)

theorem liftBulk_local_plain {σ : Type} {bulk : ByteArray → Nat → Nat → Nat → σ → Option σ}
    {store : ByteArray → Nat → σ → Option σ} {empty : Option σ} {L : Nat} (hL : 1 ≤ L)
    (hfold : ∀ d s e st, bulk d USIZE_MAX s e st = forRange (store d) s (e - s) st)
    (hloc : ∀ d d' ix st k, Agree d d' k → ix + L ≤ k → store d ix st = store d' ix st) :
    Local (⟨empty, liftBulk bulk⟩ : HasherModel (Option σ)) (L - 1) :=
  fun h d d' a b hd => liftBulk_local hL (I := fun _ => True) (bound := b) (fun d s e st _ _ => hfold d s e st) hloc
    h (fun _ _ => trivial) d d' a b (Nat.le_refl _) hd

/-- `BasicHasher<T>` with a bucket table of `len` cells (`alloc_cell` hands out zeroed cells) -/
def basicModel (P : BasicP) (len : Nat) : HasherModel (Option Tab) :=
  ⟨some (Array.replicate len 0), liftBulk (Basic.bulkStoreRange P)⟩

/-- `AdvHasher<Spec, Alloc>` as `InitializeH5` / `InitializeH6` allocate it -/
def advModel (P : AdvP) : HasherModel (Option AdvSt) :=
  ⟨some ⟨Array.replicate P.bucketSize 0, Array.replicate (P.bucketSize * (1 <<< P.blockBits)) 0⟩,
   liftBulk (Adv.bulkStoreRange P)⟩

/-- `H9` as `InitializeH9` allocates it: `1 << H9_BUCKET_BITS` counters, `H9_BLOCK_SIZE << H9_BUCKET_BITS` cells (the
model's `H9.BLOCK_BITS = 8` is the difference of the exponents) -/
def h9Model (P : H9P) : HasherModel (Option AdvSt) :=
  ⟨some ⟨Array.replicate (1 <<< 15) 0, Array.replicate (1 <<< 23) 0⟩, liftBulk (H9.bulkStoreRange P)⟩

theorem basic_fold {P : BasicP} (hP : P.Ok) (d : ByteArray) (s e : Nat) (st : Tab) :
    Basic.bulkStoreRange P d USIZE_MAX s e st = forRange (Basic.store P d USIZE_MAX) s (e - s) st := by
  rw [usize_max_eq]
  exact Basic.storeRange_eq_fold hP d 64 s e st

theorem basicModel_additive {P : BasicP} (hP : P.Ok) (len : Nat) : Additive (basicModel P len) :=
  liftBulk_additive_plain (store := fun d => Basic.store P d USIZE_MAX) (basic_fold hP)

/-- `StoreLookahead() = 8` -/
theorem basicModel_local {P : BasicP} (hP : P.Ok) (len : Nat) : Local (basicModel P len) 7 :=
  liftBulk_local_plain (L := 8) (by decide) (store := fun d => Basic.store P d USIZE_MAX) (basic_fold hP)
    fun _ _ _ st _ h hk => Basic.store_local h hk st

theorem h9Model_additive (P : H9P) : Additive (h9Model P) :=
  liftBulk_additive_plain (store := fun d => H9.store P d USIZE_MAX) fun _ _ _ _ => rfl

/-- `StoreLookahead() = 4` -/
theorem h9Model_local (P : H9P) : Local (h9Model P) 3 :=
  liftBulk_local_plain (L := 4) (by decide) (store := fun d => H9.store P d USIZE_MAX) (fun _ _ _ _ => rfl)
    fun _ _ _ st _ h hk => H9.store_local h hk st

theorem advModel_empty_sizes (P : AdvP) (x : AdvSt) (hx : (advModel P).empty = some x) :
    Adv.sizesAsserted P x = true := by
  cases Option.some.inj hx
  exact Adv.init_sizesAsserted P

/-- `AdvHasher::BulkStoreRange` is the 32-positions-at-a-time `BulkStoreRangeOptMemFetch` + tail loop: it is the fold of
`Store` only on tables of the asserted sizes and for `usize` positions, hence `AdditiveFrom` -/
theorem advModel_additive {P : AdvP} (hP : P.Ok) : AdditiveFrom (advModel P) (2 ^ 64) := by
  intro d b c hbc hc
  exact liftBulk_additive (I := fun st => Adv.sizesAsserted P st = true) (bound := 2 ^ 64)
    (store := fun d => Adv.store P d USIZE_MAX)
    (fun d s e st hst he => Adv.bulkStoreRange_eq_fold hP d USIZE_MAX s e he st hst)
    (fun _ _ _ _ hx h => Adv.store_sizesAsserted hx h)
    (advModel P).empty (advModel_empty_sizes P) d 0 b c (Nat.zero_le _) hbc hc

theorem advModel_local {P : AdvP} (hP : P.Ok) (hl : 1 ≤ P.lookahead) :
    LocalFrom (advModel P) (P.lookahead - 1) (2 ^ 64) := by
  intro d d' b hb hd
  exact liftBulk_local (L := P.lookahead) hl (I := fun st => Adv.sizesAsserted P st = true) (bound := 2 ^ 64)
    (store := fun d => Adv.store P d USIZE_MAX)
    (fun d s e st hst he => Adv.bulkStoreRange_eq_fold hP d USIZE_MAX s e he st hst)
    (fun _ _ _ st _ h hk => Adv.store_local h hk st)
    (advModel P).empty (advModel_empty_sizes P) d d' 0 b hb hd

/-- H10 over an opaque per-position `Store(data, usize::MAX, ix)` and an opaque empty forest:
`BulkStoreRange` is the plain loop (C19 `bulk_eq_fold_store_h10`) -/
def h10Model {σ : Type} (store : ByteArray → Nat → σ → Option σ) (empty : σ) : HasherModel (Option σ) :=
  ⟨some empty, liftBulk fun d _ s e st => BV.Hasher.H10.bulkStoreRange (store d) s e st⟩

theorem h10Model_additive {σ : Type} (store : ByteArray → Nat → σ → Option σ) (empty : σ) :
    Additive (h10Model store empty) :=
  liftBulk_additive_plain (bulk := fun d _ s e st => BV.Hasher.H10.bulkStoreRange (store d) s e st) (store := store)
    fun _ _ _ _ => rfl

/-- for H10 `L = StoreLookahead() = 128`, the `max_length` handed to `StoreAndFindMatchesH10` -/
theorem h10Model_local {σ : Type} (store : ByteArray → Nat → σ → Option σ) (empty : σ) (L : Nat) (hL : 1 ≤ L)
    (hloc : ∀ d d' ix st k, Agree d d' k → ix + L ≤ k → store d ix st = store d' ix st) :
    Local (h10Model store empty) (L - 1) :=
  liftBulk_local_plain (bulk := fun d _ s e st => BV.Hasher.H10.bulkStoreRange (store d) s e st) hL (store := store)
    (fun _ _ _ _ => rfl) hloc

/-- the `BulkStoreRange` calls the favor loop has made when it hands the index to job `j`, as the
cut points of C19's `runPieces` (every piece through the bulk entry point), with `stored_end` -/
def favorPieces (t n overlap : Nat) : Nat → List (Bool × Nat) × Nat
  | 0 => ([], 0)
  | j + 1 =>
    let p := favorPieces t n overlap j
    if bnd t n (j + 1) > overlap ∧ bnd t n (j + 1) - overlap > p.2 then
      (p.1 ++ [(true, bnd t n (j + 1) - overlap)], bnd t n (j + 1) - overlap)
    else p

theorem favorPieces_sorted (t n overlap : Nat) : ∀ j,
    Sorted 0 (favorPieces t n overlap j).1 ∧ endOf 0 (favorPieces t n overlap j).1 = (favorPieces t n overlap j).2 := by
  intro j
  induction j with
  | zero => exact ⟨trivial, rfl⟩
  | succ j ih =>
    simp only [favorPieces]
    split
    · rename_i hg
      exact ⟨sorted_snoc _ _ 0 ih.1 (by rw [ih.2]; omega), endOf_snoc _ _ 0⟩
    · exact ih

/-- the tie to C19's partition theorems: Props/C06Hasher `shared_index_is_partition` applies
`partition_irrelevant_basic` to the right-hand side; the `_adv`, `_h9`, `_h10` forms fit the same way and are not
instantiated -/
theorem prebuilt_is_partition {σ : Type} (bulk : ByteArray → Nat → Nat → Nat → σ → Option σ) (empty : σ)
    (input : List Nat) (t n overlap : Nat) : ∀ j,
    prebuilt (⟨some empty, liftBulk bulk⟩ : HasherModel (Option σ)) input t n overlap j =
      (runPieces (bulk (toBA input) USIZE_MAX) (bulk (toBA input) USIZE_MAX) 0 (favorPieces t n overlap j).1 empty,
       (favorPieces t n overlap j).2) := by
  intro j
  induction j with
  | zero => rfl
  | succ j ih =>
    simp only [prebuilt, favorPieces, ih]
    split
    · rw [runPieces_snoc, (favorPieces_sorted t n overlap j).2]
      rfl
    · rfl

/-- the match index job `thread_index ≥ 1` compresses with after
`set_custom_dictionary_with_optional_precomputed_hasher(size, &input[..size], opt)` (encode.rs),
RELEASE build; `opt = none` is `UnionHasher::Uninit` (favor off), `some h` the clone of the shared
index `CompressMulti` handed in.
* `dict_size == 0 || quality < 2`: early return with `self.hasher_ = opt_hasher` (an `Uninit` one is
  set up — empty — by the first `encode_data`);
* prefix longer than `2^lgwin − 16`: the handed index is destroyed and the job indexes
  the kept tail itself (`HasherPrependCustomDictionary` → `StoreLookaheadThenStore`);
* otherwise a handed index is kept as it is, and without one the job indexes its prefix itself.
(A DEBUG build indexes the prefix itself in every case and `debug_assert!`s that the result equals
the handed index: `favor_cpu_equiv` is the statement that this assertion holds.) -/
def jobIndex {H : Type} (M : HasherModel H) (input : List Nat) (size lgwin quality overlap : Nat)
    (opt : Option H) : H :=
  if (dictPlan size lgwin quality).used = false then opt.getD M.empty
  else if (dictPlan size lgwin quality).dropped ≠ 0 then selfbuilt M input size lgwin quality overlap
  else
    match opt with
    | some h => h
    | none => selfbuilt M input size lgwin quality overlap

theorem jobIndex_favor_irrelevant {H : Type} (M : HasherModel H) (overlap bound : Nat)
    (hA : AdditiveFrom M bound) (hL : LocalFrom M overlap bound)
    (input : List Nat) (t n lgwin quality j : Nat) (hq : 2 ≤ quality) (hl : 10 ≤ lgwin)
    (hj : j + 1 ≤ t) (hn : n ≤ bound) :
    jobIndex M input (bnd t n (j + 1)) lgwin quality overlap (some (prebuilt M input t n overlap (j + 1)).1)
      = jobIndex M input (bnd t n (j + 1)) lgwin quality overlap none := by
  unfold jobIndex
  by_cases hz : bnd t n (j + 1) = 0
  · rw [prebuilt_closed_from M bound hA input t n overlap (by omega) hn (j + 1) hj, hz, dictPlan_zero]
    simp
  by_cases hfit : bnd t n (j + 1) ≤ 2 ^ lgwin - 16
  · rw [dictPlan_fits hq hz hfit]
    exact favor_cpu_equiv_from M overlap bound hA hL input t n lgwin quality j hq hl hj hn hfit
  · have hd : bnd t n (j + 1) - (2 ^ lgwin - 16) ≠ 0 := by omega
    rw [dictPlan_truncated hq (by omega)]
    simp only [Bool.true_eq_false, if_false, ne_eq, hd, not_false_eq_true, if_true]

end BV.Lemmas.Multi
