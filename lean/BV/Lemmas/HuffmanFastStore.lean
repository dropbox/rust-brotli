/-
C17: the serialisation of `BrotliBuildAndStoreHuffmanTreeFast` with more
than four symbols (static code-length code + the precomputed repeat tables
`kZeroReps*` / `kNonZeroReps*`) is read back by the RFC 7932 §3.5 reader.
-/
import BV.Lemmas.HuffmanSimple
import BV.Lemmas.HuffmanFastTabNZ

namespace BV.Lemmas.HuffmanFastStore
open BV.Gen BV.Bits BV.Huffman BV.Lemmas.HuffmanCanon BV.Lemmas.HuffmanRead BV.Lemmas.HuffmanRle
open BV.Lemmas.HuffmanStoreRead BV.Lemmas.HuffmanStoreIO BV.Lemmas.HuffmanHeader
open BV.Lemmas.HuffmanCreate BV.Lemmas.HuffmanEntry BV.Lemmas.HuffmanSimple BV.Lemmas.HuffmanFib
open BV.Lemmas.HuffmanFastTab

theorem zeroReps_length : kZeroRepsDepth.length = 704 ∧ kZeroRepsBits.length = 704 := by
  decide +kernel

theorem nonZeroReps_length : kNonZeroRepsDepth.length = 704 ∧ kNonZeroRepsBits.length = 704 := by
  decide +kernel

theorem zero_row (reps : Nat) (h : reps ≤ 703) :
    kZeroRepsDepth.getD reps 0 ≤ 56 ∧ kZeroRepsBits.getD reps 0 < 2 ^ kZeroRepsDepth.getD reps 0 ∧
    bitsOf (kZeroRepsDepth.getD reps 0) (kZeroRepsBits.getD reps 0)
      = ((writeRepsZeros reps).map sBits).flatten := by
  have := chkTab_spec zEntriesF _ _ 0 zero_table_chk reps (by rw [zeroReps_length.1]; omega)
    (by rw [zeroReps_length.2]; omega)
  rwa [Nat.zero_add, zEntriesF_eq reps (by omega)] at this

theorem nonzero_row (r : Nat) (h : r ≤ 703) :
    kNonZeroRepsDepth.getD r 0 ≤ 56 ∧
    kNonZeroRepsBits.getD r 0 < 2 ^ kNonZeroRepsDepth.getD r 0 ∧
    bitsOf (kNonZeroRepsDepth.getD r 0) (kNonZeroRepsBits.getD r 0)
      = (((repDigits 2 r).reverse.map fun e => (16, e)).map sBits).flatten := by
  have := chkTab_spec nzEntriesF _ _ 0 nonzero_table_chk r (by rw [nonZeroReps_length.1]; omega)
    (by rw [nonZeroReps_length.2]; omega)
  rwa [Nat.zero_add, nzEntriesF_eq r (by omega)] at this

def fastBlock (prev v reps : Nat) : List (Nat × Nat) :=
  if v = 0 then writeRepsZeros reps
  else (if prev ≠ v then [(v, 0)] else []) ++ tailF v (if prev ≠ v then reps - 1 else reps)

def fastEntries : Nat → List Nat → List (Nat × Nat) :=
  rleWith (fun v rest => 1 + runLen v rest) fastBlock

theorem fastEntries_cons (prev v : Nat) (rest : List Nat) :
    fastEntries prev (v :: rest) = fastBlock prev v (1 + runLen v rest) ++
      fastEntries (if v = 0 then prev else v) (rest.drop (runLen v rest)) := by
  unfold fastEntries
  rw [rleWith, Nat.add_sub_cancel_left]

def RunsOK (l : List Nat) : Prop :=
  ∀ k v rest, l.drop k = v :: rest → 1 + runLen v rest ≤ 703

theorem RunsOK.drop {l : List Nat} (h : RunsOK l) (j : Nat) : RunsOK (l.drop j) := by
  intro k v rest hk
  rw [List.drop_drop] at hk
  exact h _ v rest hk

theorem static_sym_fact : ∀ v : Fin 15,
    kCodeLengthDepth.getD v.val 0 ≤ 56 ∧ kCodeLengthDepth.getD v.val 0 ≠ 0 ∧
    kCodeLengthBits.getD v.val 0 < 2 ^ kCodeLengthDepth.getD v.val 0 := by decide

theorem sBits_lit (v : Nat) (hv : v ≤ 14) :
    sBits (v, 0) = bitsOf (kCodeLengthDepth.getD v 0) (kCodeLengthBits.getD v 0) := by
  unfold sBits entryBitsU
  simp only [show ¬ v = 16 by omega, show ¬ v = 17 by omega, ↓reduceIte, List.append_nil]

theorem writeClRepeat_spec (v : Nat) (hv : v ≤ 14) : ∀ (r : Nat) (w : Writer),
    writeClRepeat v r w = .ok (w ++ ((List.replicate r (v, 0)).map sBits).flatten) := by
  obtain ⟨h56, _, hlt⟩ := static_sym_fact ⟨v, by omega⟩
  simp only at h56 hlt
  intro r
  induction r with
  | zero => intro w; simp [writeClRepeat]
  | succ r ih =>
    intro w
    simp only [writeClRepeat]
    rw [getAt_getD kCodeLengthDepth v 0 (by
        have : kCodeLengthDepth.length = 18 := by decide
        omega),
      getAt_getD kCodeLengthBits v 0 (by
        have : kCodeLengthBits.length = 18 := by decide
        omega)]
    simp only [Out.bind_ok, writeBits_ok _ _ w hlt h56, ih]
    simp [List.replicate_succ, sBits_lit v hv, List.append_assoc]

theorem fastRleLoop_spec : ∀ (n : Nat) (l : List Nat), l.length = n → (∀ x ∈ l, x ≤ 14) →
    RunsOK l → ∀ (prev : Nat) (w : Writer),
    fastRleLoop prev l w = .ok (w ++ ((fastEntries prev l).map sBits).flatten) := by
  intro n
  induction n using Nat.strongRecOn with
  | _ n ih =>
    intro l hn hl hr prev w
    cases l with
    | nil => rw [fastRleLoop, fastEntries, rleWith]; simp
    | cons v rest =>
      rw [fastRleLoop, fastEntries_cons]
      have hrl := runLen_le v rest
      have hreps : 1 + runLen v rest ≤ 703 := hr 0 v rest rfl
      have hdl : (rest.drop (runLen v rest)).length < n := by
        rw [List.length_drop, ← hn]; simp; omega
      have hrest : ∀ x ∈ rest.drop (runLen v rest), x ≤ 14 := fun x hx =>
        hl x (List.mem_cons_of_mem _ (List.mem_of_mem_drop hx))
      have hrok : RunsOK (rest.drop (runLen v rest)) := by
        have := hr.drop (runLen v rest + 1)
        rw [List.drop_succ_cons] at this
        exact this
      have hv : v ≤ 14 := hl v (by simp)
      by_cases hv0 : v = 0
      · simp only [hv0, ↓reduceIte, fastBlock]
        subst hv0
        obtain ⟨h56, hlt, hbits⟩ := zero_row (1 + runLen 0 rest) hreps
        rw [getAt_getD kZeroRepsDepth _ 0 (by rw [zeroReps_length.1]; omega),
          getAt_getD kZeroRepsBits _ 0 (by rw [zeroReps_length.2]; omega)]
        simp only [Out.bind_ok]
        rw [Nat.mod_eq_of_lt (by omega), writeBits_ok _ _ w hlt h56]
        simp only [Out.bind_ok]
        rw [ih _ hdl _ rfl hrest hrok, hbits]
        simp [List.append_assoc]
      · simp only [hv0, ↓reduceIte, fastBlock, tailF]
        generalize hr' : (if prev ≠ v then 1 + runLen v rest - 1 else 1 + runLen v rest) = r
        have hr703 : r ≤ 703 := by rw [← hr']; split <;> omega
        have h1 : (if prev ≠ v then writeClRepeat v 1 w else Out.ok w)
            = .ok (w ++ ((if prev ≠ v then [(v, 0)] else []).map sBits).flatten) := by
          split
          · rw [writeClRepeat_spec v hv 1 w]; rfl
          · simp
        rw [h1]
        simp only [Out.bind_ok]
        by_cases h3 : r < 3
        · simp only [h3, ↓reduceIte]
          rw [writeClRepeat_spec v hv r _]
          simp only [Out.bind_ok]
          rw [ih _ hdl _ rfl hrest hrok]
          simp [List.append_assoc]
        · simp only [h3, ↓reduceIte]
          obtain ⟨h56, hlt, hbits⟩ := nonzero_row (r - 3) (by omega)
          rw [getAt_getD kNonZeroRepsDepth _ 0 (by rw [nonZeroReps_length.1]; omega),
            getAt_getD kNonZeroRepsBits _ 0 (by rw [nonZeroReps_length.2]; omega)]
          simp only [Out.bind_ok]
          rw [Nat.mod_eq_of_lt (by omega), writeBits_ok _ _ _ hlt h56]
          simp only [Out.bind_ok]
          rw [ih _ hdl _ rfl hrest hrok, hbits]
          simp [List.append_assoc]

theorem fastBlock_ok (prev v reps : Nat) (s : ExpandState) (hv : v < 16) (h1 : 1 ≤ reps)
    (hp : s.prevNonZero = prev) (h0 : pendingRepeat s v = 0) : BlockOK (fastBlock prev v reps) s v reps := by
  unfold fastBlock
  split
  · next h => subst h; exact zerosBlock reps h1 s h0
  · next h =>
    exact BlockOK.lit_tail (tailF v) prev v reps h hv h1 s hp h0 fun r s1 => tailBlockF v r h hv s1

theorem fastEntries_roundtrip :
    ∀ (n : Nat) (l : List Nat), l.length = n → (∀ x ∈ l, x < 16) →
    ∀ (prev : Nat) (s : ExpandState), s.prevNonZero = prev → Good s l →
      (run s (fastEntries prev l)).out = s.out ++ l := by
  intro n l hn hlt prev s hp hg
  exact rleWith_roundtrip _ _ (fun v rest => ⟨by omega, by omega, fun _ => by omega⟩) (l.length + 1)
    (fun prev v reps s hv h1 _ hp h0 => fastBlock_ok prev v reps s hv h1 hp h0)
    n l hn (by omega) hlt prev s hp hg

theorem fastEntries_ok : ∀ (n : Nat) (l : List Nat), l.length = n → (∀ x ∈ l, x ≤ 14) →
    ∀ prev, (∀ e ∈ fastEntries prev l, EntryShape 15 e) ∧ (fastEntries prev l).length ≤ l.length := by
  intro n l hn hl prev
  constructor
  · refine rleWith_forall _ _ (EntryShape 15) (· ≤ 14) (fun prev v reps hv => ?_) n l hn hl prev
    unfold fastBlock
    split
    · exact shape_zeros 15 reps (by decide)
    · exact shape_lit 15 v (by omega) _ _ (shape_tailF 15 v _ (by omega))
  · refine rleWith_length _ _ (fun v rest => ⟨by omega, by omega, fun _ => by omega⟩) (l.length + 1)
      (fun prev v reps h1 _ => ?_) n l hn (by omega) prev
    unfold fastBlock
    split
    · exact writeRepsZeros_length reps h1
    · have := tailF_length v (if prev ≠ v then reps - 1 else reps)
      rw [List.length_append]
      split <;> simp_all <;> omega

theorem kraftSum_replicate (L n v : Nat) (hv : v ≠ 0) :
    kraftSum L (List.replicate n v) = n * 2 ^ (L - v) := by
  induction n with
  | zero => simp [kraftSum]
  | succ n ih =>
    unfold kraftSum at ih ⊢
    simp only [List.replicate_succ, List.map_cons, List.sum_cons, ih, hv, ↓reduceIte, Nat.add_mul,
      Nat.one_mul]
    omega

theorem static_clcode : ClCode kCodeLengthDepth kCodeLengthBits :=
  { hlen := by decide, hblen := by decide, hall := by decide, hk := by decide, h2 := by decide,
    hbits := by decide }

theorem no_704_flat : ∀ v : Fin 15, v.val ≠ 0 → 704 * 2 ^ (14 - v.val) ≠ 16384 := by decide

theorem runsOK_of_kraft (l : List Nat) (hlen : l.length ≤ 704) (h14 : ∀ x ∈ l, x ≤ 14)
    (hk : kraftSum 14 l = 2 ^ 14) : RunsOK l := by
  intro k v rest hd
  have hrl := runLen_le v rest
  have hdl : (l.drop k).length = l.length - k := List.length_drop
  rw [hd] at hdl
  simp only [List.length_cons] at hdl
  by_cases hk0 : k = 0
  · subst hk0
    simp only [List.drop_zero] at hd
    by_cases hfull : 1 + runLen v rest ≤ 703
    · exact hfull
    · exfalso
      have hrun : runLen v rest = rest.length := by omega
      have hall : l = List.replicate 704 v := by
        rw [hd]
        have := take_runLen v rest rest.length (by omega)
        rw [List.take_length] at this
        rw [this, ← List.replicate_succ]
        congr 1; omega
      have hv14 : v ≤ 14 := h14 v (by rw [hd]; simp)
      by_cases hv0 : v = 0
      · rw [hall, hv0] at hk
        have : kraftSum 14 (List.replicate 704 0) = 0 := kraftSum_replicate_zero 14 704
        rw [this] at hk
        exact absurd hk (by decide)
      · rw [hall, kraftSum_replicate 14 704 v hv0] at hk
        exact no_704_flat ⟨v, by omega⟩ hv0 hk
  · omega

/-- the 40 constant bits of `StoreStaticCodeLengthCode` are what the generic code-length-code
writer produces for the static code (`kCodeLengthDepth`, `num_codes = 2`) -/
theorem static_header_fact :
    storeHuffmanTreeOfHuffmanTreeToBitMask 2 kCodeLengthDepth [] = .ok (bitsOf 40 0xff55555554) ∧
    kraftSum 5 kCodeLengthDepth = 32 ∧ (∀ x ∈ kCodeLengthDepth, x ≤ 5) ∧
    kCodeLengthDepth.length = 18 := by
  refine ⟨by decide +kernel, by decide, by decide, by decide⟩

theorem sBits_eq : (fun e => sBits e)
    = entryBitsU (fun s => bitsOf (kCodeLengthDepth.getD s 0) (kCodeLengthBits.getD s 0)) := rfl

theorem fastComplex_roundtrip (h d0 d1 : List Nat) (len A : Nat) (w rest : List Bool)
    (hg : GoodDepth h len 14 d0 d1) (hd1len : len ≤ d1.length) (h704 : len ≤ 704) (hlen1 : 1 ≤ len)
    (hlastnz : h.getD (len - 1) 0 ≠ 0) (hA : len ≤ A) :
    ∃ sbits, fastComplex len d1 w = .ok (w ++ sbits) ∧
      readPrefixCode A (sbits ++ rest) = some (d1.take len ++ List.replicate (A - len) 0, rest) := by
  have hlt : (d1.take len).length = len := by rw [List.length_take]; omega
  have hd14 : ∀ x ∈ d1.take len, x ≤ 14 := hg.take_le hd1len
  have hne : d1.take len ≠ [] := by
    intro h; rw [h] at hlt; simp at hlt; omega
  have hlastd : (d1.take len).getLast hne ≠ 0 := by
    have := (hg.hsupp (len - 1) (by omega)).mpr hlastnz
    rw [List.getD_eq_getElem?_getD, List.getElem?_eq_getElem (by omega)] at this
    simpa [List.getLast_eq_getElem, hlt] using this
  obtain ⟨hok, hElen⟩ := fastEntries_ok _ (d1.take len) rfl hd14 8
  obtain ⟨hsf, hk32, h5, hl18⟩ := static_header_fact
  obtain ⟨hdr, hw, _, hrd⟩ := BV.Lemmas.HuffmanStoreTree.complex_roundtrip
    (symIO_of_clCode kCodeLengthDepth kCodeLengthBits static_clcode) hl18 h5 2
    (Or.inl ⟨by decide, hk32⟩) A (fastEntries 8 (d1.take len))
    (fun e he => (hok e he).valid (by decide) (by
      have hnz : ∀ v : Fin 18, v.val ≠ 15 → kCodeLengthDepth.getD v.val 0 ≠ 0 := by decide
      have h18 : e.1 < 18 ∧ e.1 ≠ 15 := by rcases hok e he with h | h | h <;> omega
      exact hnz ⟨e.1, h18.1⟩ h18.2))
    (by omega) (d1.take len)
    (by
      have := fastEntries_roundtrip _ (d1.take len) rfl
        (fun x hx => by have := hd14 x hx; omega) 8 ⟨[], 8, none⟩ rfl (by intro x _; rfl)
      simpa using this)
    hne hlastd (fun x hx => by have := hd14 x hx; omega) (by omega)
    (BV.Lemmas.HuffmanStoreTree.kraft_complete_15 14 (by decide) _ hd14 hg.hkraft) [] rest
  rw [hsf] at hw; injection hw with hw
  rw [List.nil_append] at hw; subst hw
  refine ⟨bitsOf 40 0xff55555554 ++ ((fastEntries 8 (d1.take len)).map sBits).flatten, ?_, ?_⟩
  · unfold fastComplex
    rw [show storeStaticCodeLengthCode w = .ok (w ++ bitsOf 40 0xff55555554) from
      writeBits_ok 40 0xff55555554 w (by decide) (by decide), Out.bind_ok, if_neg (by omega),
      fastRleLoop_spec _ (d1.take len) rfl hd14
        (runsOK_of_kraft (d1.take len) (by omega) hd14 hg.hkraft) 8 _, List.append_assoc]
  · rw [hlt] at hrd; exact hrd

end BV.Lemmas.HuffmanFastStore
