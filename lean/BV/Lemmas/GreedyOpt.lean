/-
C01 / greedy builder: `BrotliOptimizeHistograms` behind the builder — it always returns, and the rewritten
histograms still satisfy the hypotheses of the writer theorem.
-/
import BV.Lemmas.HuffmanOptRle
import BV.Lemmas.GreedyMain

namespace BV.Greedy
open BV.Gen BV.Bits BV.Huffman BV.Recoder BV.MetaBlock BV.Lemmas.HuffmanOptRle
open BV.Bits.Out (Spec)

theorem optimize_sum (length0 : Nat) (counts good r : List Nat) (hl : length0 ≤ counts.length)
    (hs : counts.sum + 2 * length0 + 1 < 2 ^ 40)
    (h : optimizeHuffmanCountsForRle length0 counts good = .ok r) :
    r.sum ≤ counts.sum + 2 * length0 + 1 ∧ r.length = counts.length ∧ ∀ p, length0 ≤ p → r.getD p 0 = counts.getD p 0 :=
  have ⟨h1, h2, h3, _⟩ := (optimize_spec length0 counts good hl (by unfold u64; omega)).1 r h
  ⟨h1, h2, h3⟩

theorem optimize_total (length0 : Nat) (counts good : List Nat) (hl : length0 ≤ counts.length) (hg : length0 ≤ good.length)
    (hl64 : length0 < 2 ^ 32) : ∃ r, optimizeHuffmanCountsForRle length0 counts good = .ok r :=
  ((optimize_spec length0 counts good hl (by unfold u64; omega)).2 hg).imp fun _ h => h.1

structure Rewritten (mbs mbs' : MBSplit) (A : Nat) : Prop where
  lit : mbs'.lit = mbs.lit
  cmd : mbs'.cmd = mbs.cmd
  dist : mbs'.dist = mbs.dist
  litCmap : mbs'.litCmap = mbs.litCmap
  litCmapSize : mbs'.litCmapSize = mbs.litCmapSize
  distCmap : mbs'.distCmap = mbs.distCmap
  distCmapSize : mbs'.distCmapSize = mbs.distCmapSize
  ls : mbs'.litHistosSize = mbs.litHistosSize
  cs : mbs'.cmdHistosSize = mbs.cmdHistosSize
  ds : mbs'.distHistosSize = mbs.distHistosSize
  hl : HistosOK mbs'.litHistos mbs'.litHistosSize 256 256
  hc : HistosOK mbs'.cmdHistos mbs'.cmdHistosSize 704 704
  hd : HistosOK mbs'.distHistos mbs'.distHistosSize A A
  kl : ∀ i x, (mbs.litHistos.getD i []).getD x 0 ≠ 0 → (mbs'.litHistos.getD i []).getD x 0 ≠ 0
  kc : ∀ i x, (mbs.cmdHistos.getD i []).getD x 0 ≠ 0 → (mbs'.cmdHistos.getD i []).getD x 0 ≠ 0
  kd : ∀ i x, (mbs.distHistos.getD i []).getD x 0 ≠ 0 → (mbs'.distHistos.getD i []).getD x 0 ≠ 0

theorem Rewritten.refl (mbs : MBSplit) (A : Nat) (hM : MBOK mbs A) : Rewritten mbs mbs A :=
  ⟨rfl, rfl, rfl, rfl, rfl, rfl, rfl, rfl, rfl, rfl, hM.hl, hM.hc, hM.hd, fun _ _ h => h, fun _ _ h => h, fun _ _ h => h⟩

theorem covers_mono (h h' : List (List Nat)) (eff : List Nat) (m : Nat)
    (hk : ∀ i x, (h.getD i []).getD x 0 ≠ 0 → (h'.getD i []).getD x 0 ≠ 0) :
    ∀ (ts : List Nat) (ss : List (Nat × Nat)), Covers h eff m ts ss → Covers h' eff m ts ss
  | _, [], _ => by simp [Covers]
  | [], _ :: _, hc => by simp [Covers] at hc
  | t :: ts, (ctx, sym) :: ss, hc => ⟨hk _ _ hc.1, covers_mono h h' eff m hk ts ss hc.2⟩

theorem rewritten_histograms_wellformed (mbs mbs' : MBSplit) (A : Nat) (mode : Nat) (hist mb : Bytes) (cmds : List Cmd)
    (hr : Rewritten mbs mbs' A) (hM : MBOK mbs A)
    (hcL : Covers mbs.litHistos (effMap mbs.litCmap mbs.litCmapSize mbs.lit.numTypes 64) 64
      (remTypes mbs.lit 0 (mbs.lit.lengths.getD 0 0)) (litSymsOf mode hist mb 0 cmds))
    (hcI : Covers mbs.cmdHistos (trivialMap mbs.cmd.numTypes 1) 1
      (remTypes mbs.cmd 0 (mbs.cmd.lengths.getD 0 0)) (cmds.map fun c => (0, c.cmdPrefix)))
    (hcD : Covers mbs.distHistos (effMap mbs.distCmap mbs.distCmapSize mbs.dist.numTypes 4) 4
      (remTypes mbs.dist 0 (mbs.dist.lengths.getD 0 0)) (distSymsOf cmds)) :
    MBOK mbs' A ∧
    Covers mbs'.litHistos (effMap mbs'.litCmap mbs'.litCmapSize mbs'.lit.numTypes 64) 64
      (remTypes mbs'.lit 0 (mbs'.lit.lengths.getD 0 0)) (litSymsOf mode hist mb 0 cmds) ∧
    Covers mbs'.cmdHistos (trivialMap mbs'.cmd.numTypes 1) 1
      (remTypes mbs'.cmd 0 (mbs'.cmd.lengths.getD 0 0)) (cmds.map fun c => (0, c.cmdPrefix)) ∧
    Covers mbs'.distHistos (effMap mbs'.distCmap mbs'.distCmapSize mbs'.dist.numTypes 4) 4
      (remTypes mbs'.dist 0 (mbs'.dist.lengths.getD 0 0)) (distSymsOf cmds) := by
  refine ⟨⟨by rw [hr.lit]; exact hM.lit, by rw [hr.cmd]; exact hM.cmd, by rw [hr.dist]; exact hM.dist, hr.hl, hr.hc, hr.hd,
    by rw [hr.cs, hr.cmd]; exact hM.csz, by rw [hr.litCmapSize, hr.ls, hr.lit]; exact hM.l0,
    by rw [hr.litCmapSize, hr.ls, hr.lit, hr.litCmap]; exact hM.l1, by rw [hr.distCmapSize, hr.ds, hr.dist]; exact hM.d0,
    by rw [hr.distCmapSize, hr.ds, hr.dist, hr.distCmap]; exact hM.d1⟩, ?_, ?_, ?_⟩
  · rw [hr.litCmap, hr.litCmapSize, hr.lit]; exact covers_mono _ _ _ _ hr.kl _ _ hcL
  · rw [hr.cmd]; exact covers_mono _ _ _ _ hr.kc _ _ hcI
  · rw [hr.distCmap, hr.distCmapSize, hr.dist]; exact covers_mono _ _ _ _ hr.kd _ _ hcD

/-- histogram `i` of the result depends on histogram `i` of the input alone: the loop never reads what it has written -/
theorem optimizeHistos_run (length : Nat) : ∀ (size : Nat) (hs : List (List Nat)), size ≤ hs.length →
    Spec (length ≤ 704 ∧ ∀ i, i < size → length ≤ (hs.getD i []).length) (optimizeHistos length hs size) (fun r =>
      r.length = hs.length ∧
      (∀ i, i < size → optimizeHuffmanCountsForRle length (hs.getD i []) (List.replicate 704 0) = .ok (r.getD i [])) ∧
      (∀ i, size ≤ i → r.getD i [] = hs.getD i []))
  | 0, hs, _ => Spec.ok (a := hs) ⟨rfl, fun i hi => absurd hi (Nat.not_lt_zero _), fun _ _ => rfl⟩
  | n + 1, hs, hn => by
    unfold optimizeHistos
    rw [List.range_succ, foldlM_append_out]
    refine Spec.seq ((optimizeHistos_run length n hs (Nat.le_of_succ_le hn)).weaken
      fun ht => ⟨ht.1, fun i hi => ht.2 i (Nat.lt_succ_of_lt hi)⟩) fun r1 ⟨a1, a2, a3⟩ => ?_
    have hnl : n < r1.length := by rw [a1]; exact hn
    simp only [List.foldlM_cons, List.foldlM_nil]
    refine Spec.seq ?_ fun _ hr => Spec.ok hr
    refine Spec.seq (Spec.getAt r1 n [] hnl) fun h hh => ?_
    rw [hh, a3 n (Nat.le_refl _)]
    refine Spec.seq (P := fun h' => optimizeHuffmanCountsForRle length (hs.getD n []) (List.replicate 704 0) = .ok h')
      ⟨fun _ e => e, fun ht => (optimize_total length _ _ (ht.2 n (Nat.lt_succ_self n))
        (by rw [List.length_replicate]; exact ht.1) (Nat.lt_of_le_of_lt ht.1 (by decide))).imp fun _ e => ⟨e, e⟩⟩
      fun h' h2 => ?_
    refine (Spec.setAt r1 n h' hnl).mono fun r hr => ?_
    rw [hr]
    refine ⟨by rw [List.length_set, a1], fun i hi => ?_, fun i hi => ?_⟩
    · by_cases hin : i = n
      · rw [hin, getD_set_eq _ _ _ _ hnl]; exact h2
      · rw [getD_set_ne _ _ _ _ _ (fun e => hin e.symm)]; exact a2 i (by omega)
    · rw [getD_set_ne _ _ _ _ _ (by omega)]; exact a3 i (by omega)

theorem optimizeHistos_ok (length H A size : Nat) (hs r : List (List Nat)) (hH : length ≤ H) (hlA : length ≤ A) (hH704 : H ≤ 704)
    (hok : HistosOK hs size H A)
    (hsharp : ∀ i, i < size → (hs.getD i []).length = H ∧ (hs.getD i []).sum ≤ 2 ^ 24)
    (h : optimizeHistos length hs size = .ok r) :
    HistosOK r size H A ∧ ∀ i x, (hs.getD i []).getD x 0 ≠ 0 → (r.getD i []).getD x 0 ≠ 0 := by
  obtain ⟨a1, a2, a3⟩ := (optimizeHistos_run length size hs hok.sz).1 r h
  refine ⟨⟨by rw [a1]; exact hok.sz, hok.sz1, hok.sz256, fun i hi => ?_⟩, fun i x hx => ?_⟩
  · obtain ⟨hl, hsum⟩ := hsharp i hi
    obtain ⟨b1, b2, b3⟩ := optimize_sum length (hs.getD i []) _ (r.getD i []) (by omega) (by omega) (a2 i hi)
    refine ⟨by rw [b2, hl]; exact Nat.le_refl _, by omega, fun k hk => ?_⟩
    rw [b3 k (by omega)]; exact (hok.each i hi).2.2 k hk
  · by_cases hi : i < size
    · obtain ⟨hl, hsum⟩ := hsharp i hi
      have hb : ∀ y ∈ hs.getD i [], y < u32 := by
        intro y hy
        have := le_sum_of_mem _ y hy
        unfold u32; omega
      exact (optimize_keep length (hs.getD i []) _ (r.getD i []) hb (by omega) (a2 i hi)).hnz x hx
    · rw [a3 i (by omega)]; exact hx

end BV.Greedy
