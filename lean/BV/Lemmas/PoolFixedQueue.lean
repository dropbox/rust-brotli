/-
Helper lemmas for C07: `FixedQueue` refines a list, operation by operation and for whole
operation sequences against an abstract list queue (`specRun`).
Of the constant `MAX_THREADS` the proofs use only `0 < MAX_THREADS`.
-/
import BV.Model.FixedQueue

namespace BV.Lemmas.FixedQueue
open BV.Gen BV.FixedQueue

variable {α : Type}

theorem slot_inj {s i j : Nat} (hi : i < MAX_THREADS) (hj : j < MAX_THREADS)
    (h : slot (s + i) = slot (s + j)) : i = j := by
  have h' : (s + i) % MAX_THREADS = (s + j) % MAX_THREADS := congrArg Fin.val h
  rcases Nat.le_total i j with hij | hij
  · have h0 := Nat.sub_mod_eq_zero_of_mod_eq h'.symm
    have e : s + j - (s + i) = j - i := by omega
    rw [e, Nat.mod_eq_of_lt (by omega)] at h0
    omega
  · have h0 := Nat.sub_mod_eq_zero_of_mod_eq h'
    have e : s + i - (s + j) = i - j := by omega
    rw [e, Nat.mod_eq_of_lt (by omega)] at h0
    omega

theorem slot_ne {s i j : Nat} (hi : i < MAX_THREADS) (hj : j < MAX_THREADS) (h : i ≠ j) :
    slot (s + i) ≠ slot (s + j) := fun e => h (slot_inj hi hj e)

theorem slot_add_max (s : Nat) : slot (s + MAX_THREADS) = slot s := by
  simp [slot]

theorem at_put (q : FixedQueue α) (i j : Fin MAX_THREADS) (v : Option α) :
    (q.put i v).at j = if i = j then v else q.at j := by
  unfold FixedQueue.at FixedQueue.put
  simp only [Vector.getElem_set]
  by_cases h : i = j
  · simp [h]
  · have : i.val ≠ j.val := fun e => h (Fin.ext e)
    simp [h, this]

@[simp] theorem put_size (q : FixedQueue α) (i : Fin MAX_THREADS) (v : Option α) :
    (q.put i v).size = q.size := rfl
@[simp] theorem put_start (q : FixedQueue α) (i : Fin MAX_THREADS) (v : Option α) :
    (q.put i v).start = q.start := rfl

structure WF (q : FixedQueue α) : Prop where
  size_le : q.size ≤ MAX_THREADS
  full : ∀ i, i < q.size → (q.at (slot (q.start + i))).isSome
  empty : ∀ i, q.size ≤ i → i < MAX_THREADS → q.at (slot (q.start + i)) = none

theorem filterMap_getElem?_range (l : List α) :
    (List.range l.length).filterMap (fun i => l[i]?) = l := by
  induction l with
  | nil => rfl
  | cons a t ih =>
    rw [List.length_cons, List.range_succ_eq_map, List.filterMap_cons]
    simp only [List.getElem?_cons_zero, List.filterMap_map]
    congr 1

theorem filterMap_congr_mem {β : Type} {f g : β → Option α} {l : List β}
    (h : ∀ x, x ∈ l → f x = g x) : l.filterMap f = l.filterMap g := by
  induction l with
  | nil => rfl
  | cons a t ih =>
    simp only [List.filterMap_cons, h a (List.mem_cons_self)]
    rw [ih (fun x hx => h x (List.mem_cons_of_mem _ hx))]

theorem items_eq_of (q : FixedQueue α) (l : List α) (h1 : l.length = q.size)
    (h2 : ∀ i (h : i < l.length), q.at (slot (q.start + i)) = some l[i]) : q.items = l := by
  unfold FixedQueue.items
  rw [← h1]
  rw [filterMap_congr_mem (g := fun i => l[i]?)]
  · exact filterMap_getElem?_range l
  · intro i hi
    have hi' : i < l.length := by simpa using hi
    rw [h2 i hi', List.getElem?_eq_getElem hi']

theorem exists_list_of_isSome (g : Nat → Option α) (n : Nat) (h : ∀ i, i < n → (g i).isSome) :
    ∃ l : List α, l.length = n ∧ ∀ i (hi : i < l.length), g i = some l[i] := by
  induction n with
  | zero => exact ⟨[], rfl, fun i hi => absurd hi (by simp)⟩
  | succ n ih =>
    obtain ⟨l, hl, hg⟩ := ih (fun i hi => h i (by omega))
    have hn := h n (by omega)
    obtain ⟨x, hx⟩ := Option.isSome_iff_exists.mp hn
    refine ⟨l ++ [x], by simp [hl], ?_⟩
    intro i hi
    rw [List.getElem_append]
    by_cases c : i < l.length
    · simp [c, hg i c]
    · have : i = n := by simp at hi; omega
      subst this
      simp [hl, hx]

theorem WF.items_spec {q : FixedQueue α} (w : WF q) :
    q.items.length = q.size ∧
    ∀ i (h : i < q.items.length), q.at (slot (q.start + i)) = some q.items[i] := by
  obtain ⟨l, hl, hg⟩ := exists_list_of_isSome (fun i => q.at (slot (q.start + i))) q.size w.full
  have := items_eq_of q l hl hg
  rw [this]
  exact ⟨hl, hg⟩

theorem WF.length_items {q : FixedQueue α} (w : WF q) : q.items.length = q.size := w.items_spec.1

theorem WF.at_items {q : FixedQueue α} (w : WF q) (i : Nat) (h : i < q.items.length) :
    q.at (slot (q.start + i)) = some q.items[i] := w.items_spec.2 i h

theorem WF.window {q : FixedQueue α} (w : WF q) {i : Nat} (hi : i < MAX_THREADS) :
    q.at (slot (q.start + i)) = q.items[i]? := by
  have hl := w.length_items
  by_cases c : i < q.size
  · rw [w.at_items i (by omega), List.getElem?_eq_getElem]
  · rw [w.empty i (by omega) hi, List.getElem?_eq_none (by omega)]

theorem WF.of_window {q : FixedQueue α} {l : List α} (hl : l.length = q.size)
    (hM : q.size ≤ MAX_THREADS) (h : ∀ i, i < MAX_THREADS → q.at (slot (q.start + i)) = l[i]?) :
    WF q ∧ q.items = l := by
  refine ⟨⟨hM, fun i hi => ?_, fun i hi hi2 => ?_⟩, items_eq_of q l hl fun i hi => ?_⟩
  · rw [h i (by omega), List.getElem?_eq_getElem (by omega)]; rfl
  · rw [h i hi2, List.getElem?_eq_none (by omega)]
  · rw [h i (by omega), List.getElem?_eq_getElem hi]

theorem new_at (i : Fin MAX_THREADS) : (new : FixedQueue α).at i = none := by
  simp [new, FixedQueue.at]

theorem wf_new : WF (new : FixedQueue α) :=
  ⟨Nat.zero_le _, fun i hi => absurd hi (by simp [new]), fun i _ _ => new_at _⟩

theorem items_new : (new : FixedQueue α).items = [] := rfl

theorem slot_surj (start : Nat) (x : Fin MAX_THREADS) :
    ∃ i, i < MAX_THREADS ∧ slot (start + i) = x := by
  have hM := max_threads_pos
  have hx := x.isLt
  have hr : start % MAX_THREADS < MAX_THREADS := Nat.mod_lt _ hM
  have hdm := Nat.div_add_mod start MAX_THREADS
  by_cases c : start % MAX_THREADS ≤ x.val
  · refine ⟨x.val - start % MAX_THREADS, by omega, ?_⟩
    apply Fin.ext
    show (start + (x.val - start % MAX_THREADS)) % MAX_THREADS = x.val
    have : start + (x.val - start % MAX_THREADS) = MAX_THREADS * (start / MAX_THREADS) + x.val := by omega
    rw [this, Nat.mul_add_mod, Nat.mod_eq_of_lt hx]
  · refine ⟨x.val + MAX_THREADS - start % MAX_THREADS, by omega, ?_⟩
    apply Fin.ext
    show (start + (x.val + MAX_THREADS - start % MAX_THREADS)) % MAX_THREADS = x.val
    have : start + (x.val + MAX_THREADS - start % MAX_THREADS)
        = MAX_THREADS * (start / MAX_THREADS + 1) + x.val := by
      rw [Nat.mul_add, Nat.mul_one]; omega
    rw [this, Nat.mul_add_mod, Nat.mod_eq_of_lt hx]

theorem empty_queue_eq_new {α : Type} {q : FixedQueue α} (w : WF q) (h : q.size = 0) :
    q = { (new : FixedQueue α) with start := q.start } := by
  obtain ⟨data, size, start⟩ := q
  simp only at h
  subst h
  simp only [new, FixedQueue.mk.injEq, and_true]
  apply Vector.ext
  intro i hi
  obtain ⟨k, hk, hs⟩ := slot_surj start ⟨i, hi⟩
  have := w.empty k (Nat.zero_le _) hk
  simp only [FixedQueue.at, hs] at this
  rw [Vector.getElem_replicate]
  exact this

theorem push_full (q : FixedQueue α) (x : α) (h : q.size = MAX_THREADS) : q.push x = none := by
  simp [FixedQueue.push, h]

theorem push_spec {q : FixedQueue α} (w : WF q) (x : α) (h : q.size < MAX_THREADS) :
    ∃ q', q.push x = some q' ∧ WF q' ∧ q'.items = q.items ++ [x] ∧ q'.size = q.size + 1 ∧
      q'.start = q.start := by
  have hl := w.length_items
  obtain ⟨w', hit⟩ := WF.of_window (l := q.items ++ [x])
    (q := { q.put (slot (q.start + q.size)) (some x) with size := q.size + 1 })
    (by rw [List.length_append, hl]; rfl) (Nat.succ_le_of_lt h) fun i hi => by
      show (q.put (slot (q.start + q.size)) (some x)).at (slot (q.start + i)) = _
      rw [at_put]
      by_cases c : i = q.size
      · subst c
        rw [if_pos rfl, List.getElem?_append_right (by omega), hl, Nat.sub_self]; rfl
      · rw [if_neg (slot_ne h hi (Ne.symm c)), w.window hi]
        by_cases c2 : i < q.size
        · rw [List.getElem?_append_left (by omega)]
        · rw [List.getElem?_eq_none (by omega),
            List.getElem?_eq_none (by rw [List.length_append, List.length_singleton]; omega)]
  exact ⟨_, by simp [FixedQueue.push, Nat.ne_of_lt h], w', hit, rfl, rfl⟩

theorem pop_empty (q : FixedQueue α) (h : q.size = 0) : q.pop = (none, q) := by
  simp [FixedQueue.pop, h]

theorem pop_spec {q : FixedQueue α} (w : WF q) :
    (q.size = 0 ∧ q.items = [] ∧ q.pop = (none, q)) ∨
    ∃ x q', q.pop = (some x, q') ∧ WF q' ∧ q.items = x :: q'.items ∧ q.size = q'.size + 1 := by
  have hl := w.length_items
  by_cases h0 : q.size = 0
  · exact .inl ⟨h0, List.eq_nil_of_length_eq_zero (by omega), pop_empty q h0⟩
  right
  have hM := w.size_le
  have e : q.pop = (q.at (slot q.start),
      { q.put (slot q.start) none with start := q.start + 1, size := q.size - 1 }) := by
    simp [FixedQueue.pop, h0]
  obtain ⟨a, t, hi⟩ := List.exists_cons_of_length_pos (l := q.items) (by omega)
  have a0 : q.at (slot q.start) = some a := by
    simpa [hi] using w.window (i := 0) max_threads_pos
  obtain ⟨w', hit⟩ := WF.of_window (l := q.items.tail)
    (q := { q.put (slot q.start) none with start := q.start + 1, size := q.size - 1 })
    (by rw [List.length_tail, hl]) (Nat.le_trans (Nat.sub_le _ _) hM) fun i hi => by
      show (q.put (slot q.start) none).at (slot (q.start + 1 + i)) = _
      rw [List.getElem?_tail, at_put]
      by_cases c : i + 1 < MAX_THREADS
      · have hne : slot q.start ≠ slot (q.start + (i + 1)) := by
          have := slot_ne (s := q.start) (i := 0) (j := i + 1) (by omega) c (by omega)
          rwa [Nat.add_zero] at this
        rw [show q.start + 1 + i = q.start + (i + 1) by omega, if_neg hne, w.window c]
      · rw [show q.start + 1 + i = q.start + MAX_THREADS by omega, slot_add_max, if_pos rfl,
          List.getElem?_eq_none (by omega)]
  exact ⟨a, _, by rw [e, a0], w', by rw [hit, hi]; rfl, by show q.size = q.size - 1 + 1; omega⟩

/-- what `remove` does to the abstract list when the first match is at position `k`:
the head is moved into the hole, the rest keeps its order (for `k = 0` the tail; otherwise the
tail with the head written at `k - 1`: the body computes the `set` first and discards it for `k = 0`) -/
def removeAbs (l : List α) (k : Nat) : List α :=
  match l with
  | [] => []
  | a :: t => (t.set (k - 1) a |> fun t' => if k = 0 then t else t')

theorem removeAbs_zero (l : List α) : removeAbs l 0 = l.tail := by
  cases l <;> simp [removeAbs]

theorem removeAbs_succ (a : α) (t : List α) (k : Nat) : removeAbs (a :: t) (k + 1) = t.set k a := by
  simp [removeAbs]

theorem length_removeAbs (l : List α) (k : Nat) : (removeAbs l k).length = l.length - 1 := by
  cases l with
  | nil => rfl
  | cons a t => by_cases h : k = 0 <;> simp [removeAbs, h]

theorem getElem?_removeAbs (l : List α) (k i : Nat) (hk : k < l.length) :
    (removeAbs l k)[i]? = if i + 1 = k then l[0]? else l[i + 1]? := by
  cases l with
  | nil => simp at hk
  | cons a t =>
    cases k with
    | zero => simp [removeAbs]
    | succ k =>
      have hk' : k < t.length := by simpa using hk
      rw [removeAbs_succ, List.getElem?_set]
      by_cases c : k = i
      · subst c; simp [hk']
      · rw [if_neg c, if_neg (fun e => c (Nat.succ.inj e).symm), List.getElem?_cons_succ]

theorem set_perm (t : List α) (k : Nat) (a : α) (h : k < t.length) :
    (t[k] :: t.set k a).Perm (a :: t) := by
  induction t generalizing k with
  | nil => simp at h
  | cons b t ih =>
    cases k with
    | zero =>
      simp only [List.getElem_cons_zero, List.set_cons_zero]
      exact List.Perm.swap a b t
    | succ k =>
      have h' : k < t.length := by simpa using h
      simp only [List.getElem_cons_succ, List.set_cons_succ]
      have := ih k h'
      exact (List.Perm.swap b t[k] (t.set k a)).trans ((this.cons b).trans (List.Perm.swap a b t))

theorem removeAbs_perm (l : List α) (k : Nat) (h : k < l.length) :
    (l[k] :: removeAbs l k).Perm l := by
  cases l with
  | nil => simp at h
  | cons a t =>
    cases k with
    | zero => simp [removeAbs]
    | succ k =>
      simp only [removeAbs_succ, List.getElem_cons_succ]
      exact set_perm t k a (by simpa using h)

theorem removeAt_eq (q : FixedQueue α) (k : Nat) :
    q.removeAt k = some (q.at (slot (q.start + k)),
      { ((q.put (slot (q.start + k)) none).put (slot q.start) none).put (slot (q.start + k))
          ((q.put (slot (q.start + k)) none).at (slot q.start)) with
        start := q.start + 1, size := q.size - 1 }) := by
  have hisNone : ((q.put (slot (q.start + k)) none).put (slot q.start) none).at
      (slot (q.start + k)) = none := by
    simp only [at_put]; split <;> simp
  unfold FixedQueue.removeAt
  simp only [hisNone]
  rfl

theorem removeAt_isSome (q : FixedQueue α) (k : Nat) : (q.removeAt k).isSome := by
  rw [removeAt_eq]; rfl

theorem remove_isSome (q : FixedQueue α) (f : Option α → Bool) : (q.remove f).isSome := by
  unfold FixedQueue.remove
  split
  · rfl
  · generalize q.size = fuel
    generalize 0 = index
    induction fuel generalizing index with
    | zero => rfl
    | succ n ih =>
      unfold FixedQueue.removeLoop
      split
      · exact removeAt_isSome q index
      · exact ih (index + 1)

theorem removeAt_spec {q : FixedQueue α} (w : WF q) (k : Nat) (hk : k < q.size) :
    ∃ q' x, q.removeAt k = some (some x, q') ∧ q.items[k]? = some x ∧ WF q' ∧
      q'.items = removeAbs q.items k ∧ q'.size = q.size - 1 := by
  have hl := w.length_items
  have hM := w.size_le
  have hk' : k < q.items.length := by omega
  have hpos : 0 < q.items.length := by omega
  have a0 := w.at_items 0 hpos
  simp only [Nat.add_zero] at a0
  have ak := w.at_items k hk'
  have e := removeAt_eq q k
  -- name the two slots (`S` head, `T` target) so that nothing below unfolds `slot`; `hq3` computes
  -- `q3.at x` as a three-way `if` once, and `key` reads the window of the new queue through it
  obtain ⟨S, hS⟩ : ∃ S, S = slot q.start := ⟨_, rfl⟩
  obtain ⟨T, hT⟩ : ∃ T, T = slot (q.start + k) := ⟨_, rfl⟩
  rw [← hS, ← hT] at e
  rw [← hS] at a0
  rw [← hT] at ak
  obtain ⟨q3, hq3d⟩ : ∃ q3, q3 = ((q.put T none).put S none).put T ((q.put T none).at S) := ⟨_, rfl⟩
  rw [← hq3d] at e
  have hq3 : ∀ x, q3.at x = if T = x then (if T = S then none else q.at S)
      else if S = x then none else q.at x := by
    intro x
    simp only [hq3d, at_put]
    by_cases c1 : T = x <;> simp [c1]
  have key : ∀ i, i + 1 < MAX_THREADS → q3.at (slot (q.start + 1 + i)) =
      if i + 1 = k then q.at S else q.at (slot (q.start + (i + 1))) := by
    intro i hi
    have e2 : q.start + 1 + i = q.start + (i + 1) := by omega
    rw [e2, hq3]
    have hS' : S ≠ slot (q.start + (i + 1)) := by
      have := slot_ne (s := q.start) (i := 0) (j := i + 1) (by omega) hi (by omega)
      rw [hS]; simpa using this
    by_cases c : i + 1 = k
    · have hTS : T ≠ S := by rw [hT, ← c]; exact fun e => hS' e.symm
      have hTx : T = slot (q.start + (i + 1)) := by rw [hT, c]
      rw [if_pos hTx, if_neg hTS, if_pos c]
    · have hT' : T ≠ slot (q.start + (i + 1)) := by
        rw [hT]; exact slot_ne (by omega) hi (Ne.symm c)
      simp [hT', hS', c]
  rw [ak] at e
  obtain ⟨w', hit⟩ := WF.of_window (l := removeAbs q.items k)
    (q := { q3 with start := q.start + 1, size := q.size - 1 })
    (by rw [length_removeAbs, hl]) (Nat.le_trans (Nat.sub_le _ _) hM) fun i hi => by
      show q3.at (slot (q.start + 1 + i)) = _
      rw [getElem?_removeAbs _ _ _ hk']
      by_cases c : i + 1 < MAX_THREADS
      · rw [key i c]
        by_cases c2 : i + 1 = k
        · rw [if_pos c2, if_pos c2, a0, List.getElem?_eq_getElem hpos]
        · rw [if_neg c2, if_neg c2, w.window c]
      · have : ¬ (i + 1 = k) := by omega
        rw [show q.start + 1 + i = q.start + MAX_THREADS by omega, slot_add_max, hq3, ← hS, if_neg this,
          List.getElem?_eq_none (by omega)]
        by_cases c1 : T = S <;> simp [c1]
  exact ⟨_, _, e, by simp [hk'], w', hit, rfl⟩

theorem removeLoop_spec (q : FixedQueue α) (f : Option α → Bool) (fuel index : Nat) :
    ((∀ i, index ≤ i → i < index + fuel → f (q.at (slot (q.start + i))) = false) ∧
      q.removeLoop f fuel index = some (none, q)) ∨
    (∃ k, index ≤ k ∧ k < index + fuel ∧ f (q.at (slot (q.start + k))) = true ∧
      (∀ i, index ≤ i → i < k → f (q.at (slot (q.start + i))) = false) ∧
      q.removeLoop f fuel index = q.removeAt k) := by
  induction fuel generalizing index with
  | zero => left; exact ⟨fun i h1 h2 => by omega, rfl⟩
  | succ fuel ih =>
    unfold FixedQueue.removeLoop
    by_cases c : f (q.at (slot (q.start + index))) = true
    · right
      exact ⟨index, Nat.le_refl _, by omega, c, fun i h1 h2 => by omega, by simp [c]⟩
    · simp only [c]
      rcases ih (index + 1) with ⟨h1, h2⟩ | ⟨k, h1, h2, h3, h4, h5⟩
      · left
        refine ⟨fun i hi1 hi2 => ?_, h2⟩
        by_cases e : i = index
        · subst e; simpa using c
        · exact h1 i (by omega) (by omega)
      · right
        refine ⟨k, by omega, by omega, h3, fun i hi1 hi2 => ?_, h5⟩
        by_cases e : i = index
        · subst e; simpa using c
        · exact h4 i (by omega) hi2

structure Removed (q : FixedQueue α) (f : Option α → Bool) (k : Nat) (x : α) (q' : FixedQueue α) : Prop where
  found : q.items[k]? = some x
  hit : f (some x) = true
  first : ∀ i y, i < k → q.items[i]? = some y → f (some y) = false
  eq : q.remove f = some (some x, q')
  wf : WF q'
  items : q'.items = removeAbs q.items k
  perm : (x :: q'.items).Perm q.items
  size : q.size = q'.size + 1

theorem remove_spec {q : FixedQueue α} (w : WF q) (f : Option α → Bool) :
    ((∀ x, x ∈ q.items → f (some x) = false) ∧ q.remove f = some (none, q)) ∨
    ∃ k x q', Removed q f k x q' := by
  have hl := w.length_items
  by_cases h0 : q.size = 0
  · left
    have : q.items = [] := List.eq_nil_of_length_eq_zero (by omega)
    simp [this, FixedQueue.remove, h0]
  have er : q.remove f = q.removeLoop f q.size 0 := by simp [FixedQueue.remove, h0]
  rcases removeLoop_spec q f q.size 0 with ⟨h1, h2⟩ | ⟨k, _, h2, h3, h4, h5⟩
  · left
    refine ⟨fun x hx => ?_, er.trans h2⟩
    obtain ⟨i, hi, rfl⟩ := List.mem_iff_getElem.mp hx
    have := h1 i (Nat.zero_le _) (by omega)
    rwa [w.at_items i hi] at this
  · right
    have hk : k < q.size := by omega
    obtain ⟨q', x, e1, e2, e3, e4, e5⟩ := removeAt_spec w k hk
    have hk' : k < q.items.length := by omega
    rw [List.getElem?_eq_getElem hk'] at e2
    cases e2
    refine ⟨k, _, q', List.getElem?_eq_getElem hk', ?_, ?_, er.trans (h5.trans e1), e3, e4,
      e4 ▸ removeAbs_perm q.items k hk', by omega⟩
    · rwa [w.at_items k hk'] at h3
    · intro i y hi hy
      have hi' : i < q.items.length := by omega
      have := h4 i (Nat.zero_le _) hi
      rw [w.at_items i hi'] at this
      rw [List.getElem?_eq_getElem hi'] at hy
      cases hy; exact this

inductive QOp (α : Type) where
  | push (x : α)
  | pop
  | remove (f : Option α → Bool)

inductive QOut (α : Type) where
  | pushed (ok : Bool)
  | got (r : Option α)

def runQ (q : FixedQueue α) : List (QOp α) → Option (List (QOut α) × FixedQueue α)
  | [] => some ([], q)
  | .push x :: ops =>
    match q.push x with
    | some q' => (runQ q' ops).map fun (o, r) => (.pushed true :: o, r)
    | none => (runQ q ops).map fun (o, r) => (.pushed false :: o, r)
  | .pop :: ops => (runQ q.pop.2 ops).map fun (o, r) => (.got q.pop.1 :: o, r)
  | .remove f :: ops =>
    match q.remove f with
    | some (x, q') => (runQ q' ops).map fun (o, r) => (.got x :: o, r)
    | none => none

def firstMatch (p : α → Bool) : List α → Option (Nat × α)
  | [] => none
  | a :: t => if p a then some (0, a) else (firstMatch p t).map fun (k, x) => (k + 1, x)

theorem firstMatch_none (p : α → Bool) (l : List α) (h : ∀ x, x ∈ l → p x = false) :
    firstMatch p l = none := by
  induction l with
  | nil => rfl
  | cons a t ih =>
    simp [firstMatch, h a List.mem_cons_self, ih (fun x hx => h x (List.mem_cons_of_mem _ hx))]

theorem firstMatch_some (p : α → Bool) (l : List α) (k : Nat) (x : α) (h1 : l[k]? = some x)
    (h2 : p x = true) (h3 : ∀ i y, i < k → l[i]? = some y → p y = false) :
    firstMatch p l = some (k, x) := by
  induction l generalizing k with
  | nil => simp at h1
  | cons a t ih =>
    cases k with
    | zero =>
      simp only [List.getElem?_cons_zero, Option.some.injEq] at h1
      subst h1
      simp [firstMatch, h2]
    | succ k =>
      have ha : p a = false := h3 0 a (by omega) (by simp)
      simp only [List.getElem?_cons_succ] at h1
      have := ih k h1 (fun i y hi hy => h3 (i + 1) y (by omega) (by simpa using hy))
      simp [firstMatch, ha, this]

def specStep (l : List α) : QOp α → QOut α × List α
  | .push x => if l.length = MAX_THREADS then (.pushed false, l) else (.pushed true, l ++ [x])
  | .pop => (.got l.head?, l.tail)
  | .remove f =>
    match firstMatch (fun x => f (some x)) l with
    | none => (.got none, l)
    | some (k, x) => (.got (some x), removeAbs l k)

def specRun (l : List α) : List (QOp α) → List (QOut α) × List α
  | [] => ([], l)
  | op :: ops => ((specStep l op).1 :: (specRun (specStep l op).2 ops).1, (specRun (specStep l op).2 ops).2)

theorem runQ_refines (q : FixedQueue α) (w : WF q) (ops : List (QOp α)) :
    ∃ q', runQ q ops = some ((specRun q.items ops).1, q') ∧ WF q' ∧
      q'.items = (specRun q.items ops).2 := by
  induction ops generalizing q with
  | nil => exact ⟨q, rfl, w, rfl⟩
  | cons op ops ih =>
    cases op with
    | push x =>
      by_cases hfull : q.size = MAX_THREADS
      · obtain ⟨q', h1, h2, h3⟩ := ih q w
        refine ⟨q', ?_, h2, ?_⟩
        · simp [runQ, push_full q x hfull, h1, specRun, specStep, w.length_items, hfull]
        · simp [specRun, specStep, w.length_items, hfull, h3]
      · have hlt : q.size < MAX_THREADS := by have := w.size_le; omega
        obtain ⟨q1, e1, w1, i1, _, _⟩ := push_spec w x hlt
        obtain ⟨q', h1, h2, h3⟩ := ih q1 w1
        refine ⟨q', ?_, h2, ?_⟩
        · simp [runQ, e1, h1, specRun, specStep, w.length_items, hfull, i1]
        · simp [specRun, specStep, w.length_items, hfull, h3, i1]
    | pop =>
      rcases pop_spec w with ⟨_, hi, e⟩ | ⟨x, q1, e, w1, hi, _⟩
      · obtain ⟨q', h1, h2, h3⟩ := ih q w
        exact ⟨q', by simp [runQ, e, h1, specRun, specStep, hi], h2, by simp [specRun, specStep, h3, hi]⟩
      · obtain ⟨q', h1, h2, h3⟩ := ih q1 w1
        exact ⟨q', by simp [runQ, e, h1, specRun, specStep, hi], h2, by simp [specRun, specStep, h3, hi]⟩
    | remove f =>
      rcases remove_spec w f with ⟨h1, h2⟩ | ⟨k, x, q1, R⟩
      · have fm := firstMatch_none (fun x => f (some x)) q.items h1
        obtain ⟨q', g1, g2, g3⟩ := ih q w
        refine ⟨q', ?_, g2, ?_⟩
        · simp [runQ, h2, g1, specRun, specStep, fm]
        · simp [specRun, specStep, fm, g3]
      · have fm := firstMatch_some (fun x => f (some x)) q.items k x R.found R.hit R.first
        obtain ⟨q', g1, g2, g3⟩ := ih q1 R.wf
        refine ⟨q', ?_, g2, ?_⟩
        · simp [runQ, R.eq, g1, specRun, specStep, fm, R.items]
        · simp [specRun, specStep, fm, g3, R.items]

end BV.Lemmas.FixedQueue
