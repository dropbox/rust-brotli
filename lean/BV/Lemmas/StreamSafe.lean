import BV.Lemmas.StreamStore
import BV.Lemmas.StreamRing2

/-! # No step of the stream machine panics in `encode_data`

`encode_data` can panic in two places: on the storage bit string, and in the assertion
`last_processed_pos_ < 2` of the catable prelude. `Lemmas/StreamStore` excludes the first and leaves
the second (`encodeData_panic_only_prelude`). This file excludes the second: `PreOK` is the
bookkeeping the assertion needs, `encodeData_no_panic` concludes from it, and `step_safeP` carries
it (with the carry bound `lastBytesBits ≤ 14`, as `SafeP`) along every step of the machine.
`step_safeP` asks of an initialized state that `blockSize < 2^32`; the ring-buffer invariant of
`Lemmas/StreamRing2` gives that (`ringInv_block_lt`). -/

namespace BV.Stream
open BV.Bits

/-- the catable prelude's bookkeeping: while the two first bytes have not both been stored
uncompressed, `last_processed_pos_` counts how many were (so the assertion
`last_processed_pos_ < 2` of `encode_data` holds), and the ghost copy of the first input bytes is
complete -/
structure PreOK (s : St) : Prop where
  f2 : s.params.catable = true → s.first2.length = min 3 s.inputPos
  lp0 : s.params.catable = true → (s.isFirstMb = .nothing ∨ s.isFirstMb = .header) → s.lastProcessedPos = 0
  lp1 : s.params.catable = true → s.isFirstMb = .firstCatable → s.lastProcessedPos = 1

/-- `PreOK` as it stands in the middle of `encode_data`, after the prelude has run: where fewer than two
first bytes are stored, nothing else is unprocessed, so the input read so far is just those bytes -/
structure PreMid (s : St) : Prop where
  f2 : s.params.catable = true → s.first2.length = min 3 s.inputPos
  lp0 : s.params.catable = true → (s.isFirstMb = .nothing ∨ s.isFirstMb = .header) → s.lastProcessedPos = 0 ∧ s.inputPos = 0
  lp1 : s.params.catable = true → s.isFirstMb = .firstCatable → s.lastProcessedPos = 1 ∧ s.inputPos = 1

theorem preOK_of_eq {s s' : St} (h : PreOK s) (h1 : s'.params.catable = s.params.catable) (h2 : s'.isFirstMb = s.isFirstMb)
    (h3 : s'.lastProcessedPos = s.lastProcessedPos) (h4 : s'.inputPos = s.inputPos) (h5 : s'.first2 = s.first2) : PreOK s' := by
  refine ⟨?_, ?_, ?_⟩
  · rw [h1, h4, h5]; exact h.f2
  · rw [h1, h2, h3]; exact h.lp0
  · rw [h1, h2, h3]; exact h.lp1

theorem preOK_fresh {s : St} (h : IsFresh s) : PreOK (ensureInitialized s) := by
  obtain ⟨p, rfl⟩ := h
  refine ⟨fun _ => ?_, fun _ _ => ?_, fun _ hh => ?_⟩
  · simp [ensureInitialized, St.new]
  · simp [ensureInitialized, St.new]
  · simp [ensureInitialized, St.new] at hh

theorem encPrelude_no_panic {s : St} {w : Writer} {hdr bytes : Nat} (hP : PreOK s) (hfl : s.lastFlushPos ≤ s.lastProcessedPos)
    (hlp : s.lastProcessedPos ≤ s.inputPos) (hb : bytes ≤ s.inputPos - s.lastProcessedPos) :
    encPrelude s w hdr bytes ≠ .panic := by
  by_cases hnb : s.isFirstMb = .bothCatable
  · rw [encPrelude_both hnb]; intro h; cases h
  · cases hc : s.params.catable with
    | false => rw [encPrelude_ncat hc]; intro h; cases h
    | true =>
      by_cases hz : bytes = 0
      · subst hz; rw [encPrelude_zero hc]; intro h; cases h
      · have hf2 := hP.f2 hc
        have hlp2 : s.lastProcessedPos < 2 := by
          cases hfm : s.isFirstMb with
          | nothing => have := hP.lp0 hc (Or.inl hfm); omega
          | header => have := hP.lp0 hc (Or.inr hfm); omega
          | firstCatable => have := hP.lp1 hc hfm; omega
          | bothCatable => exact absurd hfm hnb
        have hlen : ¬ (preludeData s bytes).length < min 2 bytes := by
          unfold preludeData
          rw [List.length_take, List.length_drop, hf2]
          omega
        rw [encPrelude_store hnb hc hz, if_neg (by omega), if_neg hlen]
        intro h; cases h

theorem preludeStored_first (s : St) (w : Writer) (n : Nat) :
    (preludeStored s w n).isFirstMb = .bothCatable
    ∨ ((preludeStored s w n).isFirstMb = .firstCatable ∧ n < 2 ∧ s.isFirstMb ≠ .firstCatable) := by
  by_cases h2 : n ≥ 2
  · exact Or.inl (if_pos h2)
  · by_cases hf : s.isFirstMb = .firstCatable
    · exact Or.inl ((if_neg h2).trans (if_pos hf))
    · exact Or.inr ⟨(if_neg h2).trans (if_neg hf), by omega, hf⟩

theorem encPrelude_pre {s s' : St} {w w' : Writer} {hdr hdr' bytes : Nat} (hP : PreOK s)
    (hlp : s.lastProcessedPos ≤ s.inputPos) (hb : bytes = s.inputPos - s.lastProcessedPos)
    (h : encPrelude s w hdr bytes = .ok (s', w', hdr')) : PreMid s' := by
  by_cases hnb : s.isFirstMb = .bothCatable
  · rw [encPrelude_both hnb] at h
    cases h
    exact ⟨hP.f2, fun _ hh => by rw [hnb] at hh; simp at hh, fun _ hh => by rw [hnb] at hh; cases hh⟩
  · cases hc : s.params.catable with
    | false =>
      rw [encPrelude_ncat hc] at h
      cases h
      have hn : ¬ (s.params.catable = true) := by rw [hc]; simp
      exact ⟨fun hh => absurd hh hn, fun hh => absurd hh hn, fun hh => absurd hh hn⟩
    | true =>
      by_cases hz : bytes = 0
      · subst hz
        rw [encPrelude_zero hc] at h
        cases h
        refine ⟨hP.f2, fun hcc hh => ?_, fun hcc hh => ?_⟩
        · have := hP.lp0 hcc hh; omega
        · have := hP.lp1 hcc hh; omega
      · rw [encPrelude_store hnb hc hz] at h
        split at h
        · cases h
        · split at h
          · cases h
          · cases h
            refine ⟨hP.f2, fun _ hh => ?_, fun _ hh => ?_⟩
            · rcases preludeStored_first s _ (min 2 bytes) with e | ⟨e, _⟩ <;> rw [e] at hh <;> simp at hh
            · rcases preludeStored_first s _ (min 2 bytes) with e | ⟨_, hn, hfm⟩
              · rw [e] at hh; cases hh
              · show s.lastProcessedPos + min 2 bytes = 1 ∧ s.inputPos = 1
                have h0 : s.lastProcessedPos = 0 := by
                  cases hfm' : s.isFirstMb with
                  | nothing => exact hP.lp0 hc (Or.inl hfm')
                  | header => exact hP.lp0 hc (Or.inr hfm')
                  | firstCatable => exact absurd hfm' hfm
                  | bothCatable => exact absurd hfm' hnb
                omega

theorem ringInv_block_lt {s : St} {inp : Bytes} (h : RingInv s inp) : s.blockSize < two32 := by
  obtain ⟨h1, _, _⟩ := geom_bounds h.ok.geom
  have := h.ok.geom.tail
  rw [← h.tail]
  unfold two32
  omega

theorem preOK_encMagic {s : St} (w0 : Writer) (h : PreOK s) : PreOK (encMagic s w0).1 := by
  unfold encMagic
  split
  · rename_i hm
    exact ⟨h.f2, fun hc _ => h.lp0 hc (Or.inl hm.1), fun _ hh => by simp at hh⟩
  · exact h

theorem preOK_encPre {s : St} (il : Bool) (h : PreOK s) :
    PreOK (encPre s il).1 ∧ (encPre s il).1.lastFlushPos = s.lastFlushPos
    ∧ (encPre s il).1.lastProcessedPos = s.lastProcessedPos ∧ (encPre s il).1.inputPos = s.inputPos := by
  obtain ⟨f, _, hLastProcessedPos, _, _, _, hIsFirstMb, _⟩ := encEntry_fields s il
  obtain ⟨g, hPreLastFlushPos, hPreLastProcessedPos, _⟩ := encPre_fields s il
  replace f := St.frame_eq f
  replace g := St.frame_eq g
  exact ⟨preOK_encMagic s.carry (preOK_of_eq h (congrArg Params.catable f.params) hIsFirstMb hLastProcessedPos f.inputPos f.first2),
    hPreLastFlushPos, hPreLastProcessedPos, g.inputPos⟩

theorem encPayload_pre {s s' : St} {ans : Ans} {w0 w : Writer} {hdr : Nat} {il ff res : Bool} (hM : PreMid s)
    (h : encPayload s ans w0 w hdr il ff = .ok (s', res)) : PreOK s' := by
  have k2 := (encPayload_frame h).isFirstMb
  obtain ⟨k1, k3, _, _, _, _, k4⟩ := St.frame_eq (encPayload_frame h).frame
  have k5 := (encPayload_pos h).2.1
  refine ⟨?_, ?_, ?_⟩
  · rw [k1, k3, k4]; exact hM.f2
  · rw [k1, k2]; intro hc hh
    have := hM.lp0 hc hh
    rcases k5 with k5 | k5 <;> rw [k5] <;> omega
  · rw [k1, k2]; intro hc hh
    have := hM.lp1 hc hh
    rcases k5 with k5 | k5 <;> rw [k5] <;> omega

theorem encodeData_pre {o : Oracle} {s s' : St} {site : Nat} {il ff res : Bool} {req : Req} (hI : Inv s) (hP : PreOK s)
    (hbs : s.blockSize < two32) (h : encodeData o s site il ff = .ok (s', res, req)) : PreOK s' := by
  have hfail : ∀ a l, PreOK (encFail s a l) := fun a l => by
    obtain ⟨f, _, hLastProcessedPos, _, _, _, _, _, _, _, hIsFirstMb, _⟩ := encFail_fields s a l
    replace f := St.frame_eq f
    exact preOK_of_eq hP (congrArg Params.catable f.params) hIsFirstMb hLastProcessedPos f.inputPos f.first2
  obtain ⟨_, hc⟩ := encodeData_ok_cases h
  rcases hc with ⟨_, _, rfl⟩ | ⟨_, _, _, rfl⟩ | ⟨_, hle, hrest⟩
  · exact hfail _ _
  · exact hfail _ _
  · obtain ⟨s2, w, hdr, hpre, hpay⟩ := encRest_ok hrest
    obtain ⟨hPm, _, hLastProcessedPos, hInputPos⟩ := preOK_encPre il hP
    have hu := hI.unprocessed
    have hlp := hI.lp_le
    have hmod : s.unprocessed % two32 = s.unprocessed := Nat.mod_eq_of_lt (by omega)
    exact encPayload_pre (encPrelude_pre hPm (by rw [hLastProcessedPos, hInputPos]; exact hlp) (by rw [hLastProcessedPos, hInputPos, hmod, hu]) hpre) hpay

theorem encodeData_no_panic {o : Oracle} {s : St} {site : Nat} {il ff : Bool} (hO : OracleOK o) (hsite : site ≠ 2)
    (hI : Inv s) (hl : s.lastBytesBits ≤ 14) (hsmall : s.inputPos < 4611686018427387904) (hP : PreOK s) :
    encodeData o s site il ff ≠ .panic := by
  intro h
  have hp := encodeData_panic_only_prelude hO hsite hI hl hsmall h
  obtain ⟨hPm, e2, e3, e4⟩ := preOK_encPre il hP
  unfold encPre at hPm e2 e3 e4
  exact encPrelude_no_panic (w := (encMagic (encEntry s il) s.carry).2.1) (hdr := (encMagic (encEntry s il) s.carry).2.2) hPm (by rw [e2, e3]; exact hI.fl_le)
    (by rw [e3, e4]; exact hI.lp_le) (by rw [e3, e4, ← hI.unprocessed]; exact Nat.mod_le _ _) hp

def SafeP (s : St) : Prop := s.lastBytesBits ≤ 14 ∧ PreOK s

theorem copy_first2 {s s' : St} {chunk : Bytes} {avail : Nat} (hi : s.isInitialized = true)
    (h : copyInputToRingBuffer s chunk avail = .ok s') :
    s'.first2 = if s.first2.length < 3 ∧ s.inputPos < 3 then (s.first2 ++ chunk).take 3 else s.first2 := by
  unfold copyInputToRingBuffer at h
  rw [ensureInitialized_id hi] at h
  simp only at h
  split at h
  · split at h
    · simp at h
    · simp only [Out.ok.injEq] at h
      rw [← h]
  · simp at h
  · simp at h

theorem first3_grows {f i n : Nat} (hf : f = min 3 i) (h : f < 3 ∧ i < 3) : min 3 (f + n) = min 3 (i + n) := by
  omega

theorem first3_full {f i n : Nat} (hf : f = min 3 i) (h : ¬ (f < 3 ∧ i < 3)) : f = min 3 (i + n) := by
  omega

theorem step_safeP {o : Oracle} {op : Nat} {s s' : St} {io io' : Io} {e : Ev} (hS : SafeP s)
    (hbs : s.isInitialized = true → s.blockSize < two32)
    (h : Step o op (s, io) e (s', io')) : SafeP s' := by
  refine ⟨step_lbb _ _ _ hS.1 h, ?_⟩
  rcases h.effect with ⟨hf, _, rfl, _⟩ | ⟨hI, ha⟩
  · exact preOK_fresh hf
  · cases ha with
    | @copy r f hw hop hnf hst hrm hc hn he =>
      have hlen : (io.input.take (copyN s io)).length = copyN s io := by rw [List.length_take]; omega
      have cf : f = _ := copy_first2 hI.init he
      refine ⟨fun hc' => ?_, hS.2.lp0, hS.2.lp1⟩
      have hf := hS.2.f2 hc'
      show f.length = min 3 (s.inputPos + copyN s io)
      rw [cf]
      by_cases hlt : s.first2.length < 3 ∧ s.inputPos < 3
      · rw [if_pos hlt, List.length_take, List.length_append, hlen]; exact first3_grows hf hlt
      · rw [if_neg hlt]; exact first3_full hf hlt
    | @enc k _ _ _ _ _ _ hE hI0 hpend he =>
      have h1 : PreOK (s.hint k) := preOK_of_eq hS.2 rfl rfl rfl rfl rfl
      exact preOK_of_eq (encodeData_pre hI0 h1 (hbs hI.init) he) rfl rfl rfl rfl rfl
    | _ => exact preOK_of_eq hS.2 rfl rfl rfl rfl rfl

end BV.Stream
