/-
C01 / meta-block writers: `StoreTrivialContextMap(num_types, context_bits)` against `readContextMap`.  What it writes
is a context map description with the packed symbols `trivRle`, so the symbol loop and the reader lemma of
`EncodeContextMap` (MetaBlockCmap) apply; through the inverse move-to-front transform it is read back as the map
"every context of block type `t` uses tree `t`".
-/
import BV.Lemmas.MetaBlockCmap
import BV.Lemmas.MetaBlockCtx

namespace BV.MetaBlock
open BV.Gen BV.Bits BV.Huffman BV.PrefixArith BV.Recoder

/-- the move-to-front list after the values `0 .. i-1` have been moved to the front in this order -/
def mtfAt (i : Nat) : List Nat := (List.range i).reverse ++ List.range' i (256 - i)

theorem mtfAt_zero : mtfAt 0 = List.range 256 := by
  simp [mtfAt, List.range_eq_range']

theorem mtfAt_step (i : Nat) (hi : i < 256) :
    (mtfAt i).getD i 0 = i ∧ i :: ((mtfAt i).take i ++ (mtfAt i).drop (i + 1)) = mtfAt (i + 1) := by
  have hl : ((List.range i).reverse).length = i := by simp
  have hr : List.range' i (256 - i) = i :: List.range' (i + 1) (255 - i) := by
    rw [show 256 - i = (255 - i) + 1 by omega, List.range'_succ]
  unfold mtfAt
  refine ⟨?_, ?_⟩
  · rw [List.getD_eq_getElem?_getD, List.getElem?_append_right (by rw [hl]; exact Nat.le_refl _), hl, Nat.sub_self, hr]
    rfl
  · rw [List.take_left' hl, List.drop_append, List.drop_of_length_le (by rw [hl]; omega), List.nil_append, hl,
      show i + 1 - i = 1 by omega, hr, List.drop_succ_cons, List.drop_zero, List.range_succ, List.reverse_append,
      show 256 - (i + 1) = 255 - i by omega]
    rfl

theorem imtf_zeros (v : Nat) (tl : List Nat) : ∀ (k : Nat) (xs acc : List Nat),
    inverseMtf.go (List.replicate k 0 ++ xs) (v :: tl) acc = inverseMtf.go xs (v :: tl) (List.replicate k v ++ acc) := by
  intro k
  induction k with
  | zero => intro xs acc; rfl
  | succ k ih =>
    intro xs acc
    rw [List.replicate_succ, List.cons_append, inverseMtf.go]
    simp only [List.getD_cons_zero, List.take_zero, List.nil_append, List.drop_succ_cons, List.drop_zero]
    rw [ih, List.replicate_succ', List.append_assoc]
    rfl

theorem imtf_types (m : Nat) (hm : 1 ≤ m) : ∀ (cnt i : Nat) (xs acc : List Nat), i + cnt ≤ 256 →
    inverseMtf.go ((List.range' i cnt).flatMap (fun t => t :: List.replicate (m - 1) 0) ++ xs) (mtfAt i) acc
      = inverseMtf.go xs (mtfAt (i + cnt)) (((List.range' i cnt).flatMap (fun t => List.replicate m t)).reverse ++ acc) := by
  intro cnt
  induction cnt with
  | zero => intro i xs acc _; rfl
  | succ cnt ih =>
    intro i xs acc hi
    obtain ⟨g1, g2⟩ := mtfAt_step i (by omega)
    rw [List.range'_succ, List.flatMap_cons, List.flatMap_cons]
    simp only [List.cons_append, List.append_assoc]
    rw [inverseMtf.go]
    try simp only
    rw [g1, g2]
    have hm1 : mtfAt (i + 1) = i :: ((mtfAt i).take i ++ (mtfAt i).drop (i + 1)) := g2.symm
    rw [hm1, imtf_zeros, ← hm1, ih (i + 1) xs _ (by omega), show i + 1 + cnt = i + (cnt + 1) by omega]
    congr 1
    rw [List.reverse_append, List.append_assoc]
    congr 1
    rw [List.reverse_replicate]
    obtain ⟨m', rfl⟩ : ∃ m', m = m' + 1 := ⟨m - 1, by omega⟩
    rw [Nat.add_sub_cancel, List.replicate_succ' (n := m')]
    simp

def trivEntries (n m : Nat) : List Nat := (List.range n).flatMap (fun t => t :: List.replicate (m - 1) 0)

theorem imtf_trivial (n m : Nat) (hm : 1 ≤ m) (hn : n ≤ 256) : inverseMtf (trivEntries n m) = trivialMap n m := by
  unfold inverseMtf trivEntries trivialMap
  have := imtf_types m hm n 0 [] [] (by omega)
  rw [List.append_nil, List.append_nil, ← List.range_eq_range'] at this
  rw [← mtfAt_zero, this, inverseMtf.go, List.reverse_reverse]

theorem foldlM_append_out {α β : Type} (f : β → α → Out β) : ∀ (l1 l2 : List α) (a : β),
    (l1 ++ l2).foldlM f a = (l1.foldlM f a >>= fun b => l2.foldlM f b) := by
  intro l1
  induction l1 with
  | nil => intro l2 a; rfl
  | cons x xs ih =>
    intro l2 a
    rw [List.cons_append, List.foldlM_cons, List.foldlM_cons]
    cases f a x with
    | ok b => rw [Out.bind_ok, Out.bind_ok, ih]
    | panic => rfl
    | fuel => rfl

theorem fill_range (v : Nat → Nat) : ∀ (n : Nat) (m : List Nat) (base : Nat), base + n ≤ m.length →
    (List.range n).foldlM (fun m j => setAt m (base + j) (v j)) m
      = Out.ok (m.take base ++ (List.range n).map v ++ m.drop (base + n))
  | 0, m, base, _ => by simp
  | n + 1, m, base, h => by
    rw [show List.range (n + 1) = List.range n ++ [n] from List.range_succ, foldlM_append_out, fill_range v n m base (by omega)]
    simp only [Out.bind_ok, List.foldlM_cons, List.foldlM_nil, List.map_append, List.map_cons, List.map_nil]
    have hl : (m.take base ++ (List.range n).map v).length = base + n := by
      simp [List.length_take, Nat.min_eq_left (by omega : base ≤ m.length)]
    rw [setAt_of_lt _ _ _ (by rw [List.length_append, hl, List.length_drop]; omega)]
    show Out.ok _ = Out.ok _
    congr 1
    rw [List.set_append_right _ _ (by rw [hl]; exact Nat.le_refl _), hl, Nat.sub_self]
    have hd : m.drop (base + n) = m.getD (base + n) 0 :: m.drop (base + (n + 1)) := by
      rw [List.drop_eq_getElem_cons (by omega), List.getD_eq_getElem?_getD, List.getElem?_eq_getElem (by omega)]
      rfl
    rw [hd]
    simp [List.append_assoc]

theorem setRange (c k : Nat) (h : List Nat) (hk : c + k ≤ h.length) :
    ∃ h', (List.range k).foldlM (fun h j => setAt h (c + j) 1) h = .ok h' ∧ h'.length = h.length ∧
      ∀ i, h'.getD i 0 = if c ≤ i ∧ i < c + k then 1 else h.getD i 0 := by
  refine ⟨_, fill_range (fun _ => 1) k h c hk, by simp; omega, fun i => ?_⟩
  simp only [List.getD_eq_getElem?_getD, List.getElem?_append, List.length_append, List.length_take, List.length_map,
    List.length_range, Nat.min_eq_left (show c ≤ h.length by omega), List.getElem?_take, List.getElem?_map,
    List.getElem?_drop]
  by_cases h1 : i < c
  · simp [h1, show i < c + k by omega, show ¬ c ≤ i by omega]
  · by_cases h2 : i < c + k
    · simp [h1, h2, show c ≤ i by omega, show i - c < k by omega]
    · simp [h2, show c + k + (i - (c + k)) = i by omega]

theorem getD_set_zeros (n a v i : Nat) (ha : a < n) :
    ((List.replicate n 0).set a v).getD i 0 = if i = a then v else 0 := by
  rw [getD_set _ _ _ _ _ (by rw [List.length_replicate]; exact ha), getD_replicate]
  simp only [eq_comm (a := a)]

/-- the symbol of value `i`: the non-zero values come behind the run symbols `1..RLEMAX`, RLEMAX = `cb − 1` -/
def trivCode (cb i : Nat) : Nat := if i = 0 then 0 else i + cb - 1

theorem trivCode_wrap (cb i : Nat) (hcb : 1 ≤ cb) (hcb6 : cb ≤ 6) (hi : i ≤ 256) :
    (if i = 0 then 0 else (i + cb + two64 - 1) % two64) = trivCode cb i := by
  unfold trivCode
  by_cases h0 : i = 0
  · rw [if_pos h0, if_pos h0]
  · rw [if_neg h0, if_neg h0, wsub_of_le (by omega) (by unfold two64; omega)]

theorem trivialMap_lt (n m : Nat) : ∀ x ∈ trivialMap n m, x < n := by
  intro x hx
  unfold trivialMap at hx
  rw [List.mem_flatMap] at hx
  obtain ⟨t, ht, hxt⟩ := hx
  rw [List.mem_replicate] at hxt
  rw [hxt.2]
  exact List.mem_range.mp ht

theorem trivEntries_length (n m : Nat) (hm : 1 ≤ m) : (trivEntries n m).length = n * m := by
  unfold trivEntries
  induction n with
  | zero => simp
  | succ n ih =>
    rw [List.range_succ, List.flatMap_append, List.length_append, ih, Nat.add_mul, Nat.one_mul]
    simp
    omega

theorem trivHisto_facts (n cb : Nat) (hcb2 : 2 ≤ cb) (hn2 : 2 ≤ n) (hn : n ≤ 256) (h3 : List Nat)
    (h3l : h3.length = 272)
    (h3g : ∀ i, h3.getD i 0 = if cb ≤ i ∧ i < n + (cb - 1) then 1 else if i = 0 then 1 else if i = cb - 1 then n else 0) :
    h3.sum ≤ 2 ^ 25 ∧ (∀ i, n + (cb - 1) ≤ i → h3.getD i 0 = 0) ∧
    (∀ t, t < n → trivCode cb t < n + (cb - 1) ∧ h3.getD (trivCode cb t) 0 ≠ 0) ∧ h3.getD (cb - 1) 0 ≠ 0 := by
  refine ⟨?_, fun i hi => ?_, fun t ht => ?_, ?_⟩
  · have := sum_le_mul h3 256 (BV.Lemmas.HuffmanStoreTree.forall_mem_of_getD h3 256 fun i _ => by
      rw [h3g]; split
      · omega
      · split
        · omega
        · split <;> omega)
    rw [h3l] at this
    have : (272 : Nat) * 256 ≤ 2 ^ 25 := by decide
    omega
  · rw [h3g, if_neg (by omega), if_neg (by omega), if_neg (by omega)]
  · unfold trivCode
    by_cases h0 : t = 0
    · rw [if_pos h0, h3g, if_neg (by omega), if_pos rfl]; omega
    · rw [if_neg h0, h3g, if_pos (by omega)]; omega
  · rw [h3g, if_neg (by omega), if_neg (by omega), if_pos rfl]; omega

/-- the run symbol of `StoreTrivialContextMap`, packed as `RunLengthCodeZeros` packs it: prefix `cb − 1`, all
extra bits set: `2^cb − 1` zeros -/
def trivRun (cb : Nat) : Nat := (cb - 1) + (2 ^ (cb - 1) - 1) * 512

def trivRle (cb i cnt : Nat) : List Nat := (List.range' i cnt).flatMap fun t => [trivCode cb t, trivRun cb]

theorem trivRun_facts (cb : Nat) (hcb2 : 2 ≤ cb) (hcb6 : cb ≤ 6) :
    trivRun cb % 512 = cb - 1 ∧ trivRun cb / 512 = 2 ^ (cb - 1) - 1 ∧
    rleDec (cb - 1) (trivRun cb) = List.replicate (2 ^ cb - 1) 0 ∧ RleOK (cb - 1) (trivRun cb) := by
  have hp1 : 1 ≤ (2 : Nat) ^ (cb - 1) := Nat.pow_pos (by decide)
  have hpp : (2 : Nat) ^ cb = 2 * 2 ^ (cb - 1) := by
    rw [show cb = (cb - 1) + 1 by omega, Nat.pow_succ, Nat.mul_comm]; simp
  obtain ⟨_, h2, h3⟩ := rleDec_packed (cb - 1) (cb - 1) (2 ^ (cb - 1) - 1) (by omega) (Nat.le_refl _) (by omega)
  refine ⟨by unfold trivRun; omega, by unfold trivRun; omega, ?_, h3⟩
  rw [show trivRun cb = cb - 1 + (2 ^ (cb - 1) - 1) * 512 from rfl, h2]
  congr 1; omega

theorem trivCode_facts (cb t : Nat) (hcb2 : 2 ≤ cb) (hcb6 : cb ≤ 6) (ht : t < 256) :
    trivCode cb t % 512 = trivCode cb t ∧ ¬ (trivCode cb t > 0 ∧ trivCode cb t ≤ cb - 1) ∧
    rleDec (cb - 1) (trivCode cb t) = [t] ∧ RleOK (cb - 1) (trivCode cb t) := by
  have hm : trivCode cb t % 512 = trivCode cb t := by unfold trivCode; split <;> omega
  refine ⟨hm, by unfold trivCode; split <;> omega, ?_, ?_⟩
  · unfold rleDec
    rw [hm]
    unfold trivCode
    by_cases h0 : t = 0
    · rw [if_pos h0, if_pos rfl, h0]
    · rw [if_neg h0, if_neg (by omega), if_neg (by omega), show t + cb - 1 - (cb - 1) = t by omega]
  · unfold RleOK
    rw [hm]
    unfold trivCode
    split <;> exact ⟨by omega, fun _ _ => by omega⟩

theorem trivRle_dec (cb : Nat) (hcb2 : 2 ≤ cb) (hcb6 : cb ≤ 6) : ∀ (cnt i : Nat), i + cnt ≤ 256 →
    (trivRle cb i cnt).flatMap (rleDec (cb - 1))
      = (List.range' i cnt).flatMap (fun t => t :: List.replicate (2 ^ cb - 1) 0) := by
  intro cnt
  induction cnt with
  | zero => intro i _; rfl
  | succ cnt ih =>
    intro i hi
    unfold trivRle at ih ⊢
    rw [List.range'_succ, List.flatMap_cons, List.flatMap_cons, List.flatMap_append, ih (i + 1) (by omega)]
    simp only [List.flatMap_cons, List.flatMap_nil, List.append_nil]
    rw [(trivCode_facts cb i hcb2 hcb6 (by omega)).2.2.1, (trivRun_facts cb hcb2 hcb6).2.2.1]
    rfl

/-- the loop of `StoreTrivialContextMap` is the symbol loop of `EncodeContextMap` on `trivRle` -/
theorem trivLoop_eq (d b : List Nat) (cb : Nat) (hcb2 : 2 ≤ cb) (hcb6 : cb ≤ 6) : ∀ (cnt i : Nat) (w : Writer),
    i + cnt ≤ 256 →
    (List.range' i cnt).foldlM (fun w t => do
        let w ← storeSym d b (if t = 0 then 0 else (t + cb + two64 - 1) % two64) w
        let w ← storeSym d b (cb - 1) w
        writeBits ((cb - 1) % 256) (2 ^ (cb - 1) - 1) w) w
    = (trivRle cb i cnt).foldlM (fun w s => do
        let w ← storeSym d b (s % 512) w
        if s % 512 > 0 ∧ s % 512 ≤ cb - 1 then writeBits ((s % 512) % 256) (s / 512) w else Out.ok w) w := by
  intro cnt
  induction cnt with
  | zero => intro i w _; rfl
  | succ cnt ih =>
    intro i w hi
    obtain ⟨v1, v2, _, _⟩ := trivCode_facts cb i hcb2 hcb6 (by omega)
    obtain ⟨r1, r2, _, _⟩ := trivRun_facts cb hcb2 hcb6
    unfold trivRle at ih ⊢
    rw [List.range'_succ, List.foldlM_cons, List.flatMap_cons, foldlM_append_out]
    simp only [List.foldlM_cons, List.foldlM_nil]
    have hr : cb - 1 > 0 ∧ cb - 1 ≤ cb - 1 := by omega
    rw [trivCode_wrap cb i (by omega) hcb6 (by omega), v1, r1, r2]
    simp only [if_neg v2, if_pos hr]
    cases storeSym d b (trivCode cb i) w with
    | ok w1 =>
      simp only [Out.bind_ok]
      cases storeSym d b (cb - 1) w1 with
      | ok w2 =>
        simp only [Out.bind_ok]
        cases writeBits ((cb - 1) % 256) (2 ^ (cb - 1) - 1) w2 with
        | ok w3 => simp only [Out.bind_ok, Out.pure_eq]; exact ih (i + 1) w3 (by omega)
        | panic => rfl
        | fuel => rfl
      | panic => rfl
      | fuel => rfl
    | panic => rfl
    | fuel => rfl

theorem trivRle_ok (dep bts : List Nat) (code : Code) (n cb : Nat) (hcb2 : 2 ≤ cb) (hcb6 : cb ≤ 6) (hn : n ≤ 256)
    (hT : ∀ t, t < n → SymIO dep bts code (trivCode cb t)) (hR : SymIO dep bts code (cb - 1)) :
    ∀ s ∈ trivRle cb 0 n, RleOK (cb - 1) s ∧ SymIO dep bts code (s % 512) := by
  intro s hs
  unfold trivRle at hs
  rw [List.mem_flatMap] at hs
  obtain ⟨t, ht, hst⟩ := hs
  have ht' : t < n := by have := (List.mem_range'_1.mp ht).2; omega
  simp only [List.mem_cons, List.not_mem_nil, or_false] at hst
  rcases hst with rfl | rfl
  · obtain ⟨v1, _, _, v4⟩ := trivCode_facts cb t hcb2 hcb6 (by omega)
    rw [v1]; exact ⟨v4, hT t ht'⟩
  · obtain ⟨r1, _, _, r4⟩ := trivRun_facts cb hcb2 hcb6
    rw [r1]; exact ⟨r4, hR⟩

theorem storeTrivialContextMap_roundtrip (n cb : Nat) (hcb2 : 2 ≤ cb) (hcb6 : cb ≤ 6) (hn1 : 1 ≤ n) (hn : n ≤ 256)
    (w : Writer) :
    ∃ bits, storeTrivialContextMap n cb w = .ok (w ++ bits) ∧
      ∀ rest, readContextMap (n * 2 ^ cb) (bits ++ rest) = some (n, trivialMap n (2 ^ cb), rest) := by
  have hn64 : (n + two64 - 1) % two64 = n - 1 :=
    wsub_of_le (by omega) (by unfold two64; omega)
  have hpow : (2 : Nat) ^ (cb - 1) ≤ 2 ^ 5 := Nat.pow_le_pow_right (by decide) (by omega)
  have hp1 : 1 ≤ (2 : Nat) ^ (cb - 1) := Nat.pow_pos (by decide)
  obtain ⟨vb, hv1, hv2⟩ := varLen8_roundtrip (n - 1) (by omega) w
  unfold storeTrivialContextMap
  rw [hn64, hv1, Out.bind_ok]
  by_cases h1 : n = 1
  · rw [if_neg (by omega)]
    refine ⟨vb, rfl, ?_⟩
    intro rest
    unfold readContextMap
    rw [hv2, h1]
    simp [trivialMap]
  · rw [if_pos (by omega)]
    have hrc : (cb + two64 - 1) % two64 = cb - 1 :=
      wsub_of_le (by omega) (by unfold two64; omega)
    have hrc1 : (cb - 1 + two64 - 1) % two64 = cb - 1 - 1 :=
      wsub_of_le (by omega) (by unfold two64; omega)
    have hrb : (2 ^ (cb - 1) + two32 - 1) % two32 = 2 ^ (cb - 1) - 1 :=
      wsub_of_le (by omega) (by unfold two32; omega)
    have hA : (n + (cb - 1)) % two64 = n + (cb - 1) := Nat.mod_eq_of_lt (by unfold two64; omega)
    have hn32 : n % two32 = n := Nat.mod_eq_of_lt (by unfold two32; omega)
    rw [hrc]
    dsimp only
    rw [if_neg (by omega), hrb, hA, hrc1, hn32, writeBits_ok 1 1 _ (by decide) (by decide), Out.bind_ok,
      writeBits_ok 4 (cb - 1 - 1) _ (by omega) (by decide), Out.bind_ok]
    rw [setAt_of_lt _ _ _ (by rw [List.length_replicate]; omega), Out.bind_ok,
      setAt_of_lt _ _ _ (by rw [List.length_set, List.length_replicate]; omega), Out.bind_ok]
    obtain ⟨h2, hh2⟩ : ∃ h2, h2 = ((List.replicate 272 0).set (cb - 1) n).set 0 1 := ⟨_, rfl⟩
    rw [← hh2]
    have h2l : h2.length = 272 := by rw [hh2, List.length_set, List.length_set, List.length_replicate]
    have h2g : ∀ i, h2.getD i 0 = if i = 0 then 1 else if i = cb - 1 then n else 0 := by
      intro i
      rw [hh2, getD_set _ _ _ _ _ (by rw [List.length_set, List.length_replicate]; omega),
        getD_set _ _ _ _ _ (by rw [List.length_replicate]; omega), getD_replicate]
      simp only [eq_comm (a := 0), eq_comm (a := cb - 1)]
    obtain ⟨h3, e3, h3l, h3g⟩ := setRange cb (n + (cb - 1) - cb) h2 (by rw [h2l]; omega)
    rw [e3, Out.bind_ok]
    have h3g' : ∀ i, h3.getD i 0 = if cb ≤ i ∧ i < n + (cb - 1) then 1
        else if i = 0 then 1 else if i = cb - 1 then n else 0 := by
      intro i
      rw [h3g, h2g]
      by_cases hc : cb ≤ i ∧ i < n + (cb - 1)
      · rw [if_pos hc, if_pos (by omega)]
      · rw [if_neg hc, if_neg (by omega)]
    obtain ⟨hsum, hz, hcnt, hcntR⟩ := trivHisto_facts n cb hcb2 (by omega) hn h3 (by rw [h3l, h2l]) h3g'
    obtain ⟨dep, bts, cbits, code, hbt, rc, sc, _⟩ := buildN_roundtrip h3 (n + (cb - 1)) (n + (cb - 1)) 272
      (w ++ vb ++ bitsOf 1 1 ++ bitsOf 4 (cb - 1 - 1)) (by omega) (by rw [h3l, h2l]; omega) (by omega) hsum (by omega)
      (Nat.le_refl _) hz
    rw [hbt, Out.bind_ok]
    dsimp only
    -- from here on the description is a context map description with the packed symbols `trivRle`
    have hm1 : 1 ≤ (2 : Nat) ^ cb := Nat.pow_pos (by decide)
    have hdec : (trivRle cb 0 n).flatMap (rleDec (cb - 1)) = trivEntries n (2 ^ cb) := by
      rw [trivRle_dec cb hcb2 hcb6 n 0 (by omega), ← List.range_eq_range']; rfl
    have hlen : (trivEntries n (2 ^ cb)).length = (trivialMap n (2 ^ cb)).length := by
      rw [trivEntries_length n _ hm1, trivialMap_length]
    obtain ⟨B, eB, rB⟩ := cmapSymbols_roundtrip dep bts code (cb - 1) (trivialMap n (2 ^ cb)).length (by omega)
      (trivRle cb 0 n) (w ++ vb ++ bitsOf 1 1 ++ bitsOf 4 (cb - 1 - 1) ++ cbits)
      (trivRle_ok dep bts code n cb hcb2 hcb6 hn (fun t ht => sc _ (hcnt t ht).1 (hcnt t ht).2) (sc _ (by omega) hcntR))
    rw [List.range_eq_range', trivLoop_eq dep bts cb hcb2 hcb6 n 0 _ (by omega), eB, Out.bind_ok,
      writeBits_ok 1 1 _ (by decide) (by decide)]
    refine ⟨vb ++ (([decide (cb - 1 > 0)] ++ bitsOf 4 (cb - 1 - 1)) ++ (cbits ++ (B ++ [true]))), ?_, fun rest => ?_⟩
    · simp [List.append_assoc, bitsOf, show 0 < cb - 1 by omega]
    · have := readEncodedContextMap (trivialMap n (2 ^ cb)) (trivEntries n (2 ^ cb)) (trivRle cb 0 n) n (cb - 1) vb
        (bitsOf 4 (cb - 1 - 1)) cbits B code h1 hn1 (trivialMap_lt n _) (by omega)
        (by
          have := length_le_flatMap (rleDec (cb - 1)) (trivRle cb 0 n) (fun x _ => rleDec_length_pos _ x)
          rwa [hdec, hlen] at this)
        (by rw [if_pos (by omega)]) hv2 rc rB hdec hlen (imtf_trivial n _ hm1 hn) rest
      rwa [trivialMap_length] at this

end BV.MetaBlock
