/-
Composition of `concat_bits` with the RFC framing reader (`BV.HeaderSpec`): members made of
a window header, metadata / uncompressed meta-blocks and the empty last meta-block
(C03 `concat_stored_decodes`).
-/
import BV.Lemmas.ConcatFraming
import BV.Lemmas.ConcatChain

namespace BV.Concat
open Outcome BV.Gen BV.HeaderSpec BV.Framing

theorem bytesToBits_take (m : List Nat) (j : Nat) : bytesToBits (m.take j) = (bytesToBits m).take (8 * j) := by
  induction m generalizing j with
  | nil => simp [bytesToBits]
  | cons a t ih =>
    cases j with
    | zero => simp [bytesToBits]
    | succ j =>
      rw [List.take_succ_cons, bytesToBits_cons, bytesToBits_cons, ih j]
      have : 8 * (j + 1) = (bitsOf 8 a).length + 8 * j := by rw [bitsOf_length]; omega
      rw [this, List.take_append]
      simp only [bitsOf_length, Nat.add_sub_cancel_left]
      rw [List.take_of_length_le (l := bitsOf 8 a) (by rw [bitsOf_length]; omega)]

theorem bytesToBits_drop (m : List Nat) (j : Nat) : bytesToBits (m.drop j) = (bytesToBits m).drop (8 * j) := by
  have h := bytesToBits_append (m.take j) (m.drop j)
  rw [List.take_append_drop, bytesToBits_take] at h
  exact (List.append_cancel_left ((List.take_append_drop _ _).trans h)).symm

theorem valOf_append (X Y : List Bool) : BV.Bits.valOf (X ++ Y) = BV.Bits.valOf X + 2 ^ X.length * BV.Bits.valOf Y := by
  induction X with
  | nil => simp [BV.Bits.valOf]
  | cons b t ih =>
    simp only [List.cons_append, BV.Bits.valOf, ih, List.length_cons, Nat.pow_succ]
    rw [Nat.mul_add, Nat.add_assoc]
    congr 2
    rw [← Nat.mul_assoc, Nat.mul_comm 2]

theorem valOf_zeros (k : Nat) : BV.Bits.valOf (zeros k) = 0 := by
  induction k with
  | zero => rfl
  | succ k ih => simp [zeros, List.replicate_succ, BV.Bits.valOf] at ih ⊢; omega

theorem bitsOf_valOf (X : List Bool) : bitsOf X.length (BV.Bits.valOf X) = X := by
  rw [← bitsOf_eq]; exact BV.Bits.bitsOf_valOf X

theorem valOf_bitsOf' (n v : Nat) : BV.Bits.valOf (bitsOf n v) = v % 2 ^ n := by
  rw [← bitsOf_eq]; exact BV.Bits.valOf_bitsOf n v

theorem marked_of_bits (T : Nat) (X : List Bool) (k : Nat) (hT : T < 2 ^ 16)
    (h : bitsOf 16 T = X ++ [true, true] ++ zeros k) : Marked T X.length (BV.Bits.valOf X) := by
  have hv := congrArg BV.Bits.valOf h
  rw [valOf_bitsOf', Nat.mod_eq_of_lt hT, List.append_assoc, valOf_append, valOf_append] at hv
  have h3 : BV.Bits.valOf [true, true] = 3 := by decide
  rw [h3, valOf_zeros] at hv
  refine ⟨by rw [hv]; simp; rw [Nat.mul_comm], BV.Bits.valOf_lt X⟩

/-- reader-level description (only `BV.HeaderSpec` functions): the member's bits are a window
field, then the meta-blocks `bl` (all metadata / uncompressed), then the empty last meta-block,
and NOTHING after its padding -/
def StoredBytes (m : List Nat) (w : Nat) (lg : Bool) (bl : List MetaBlock) : Prop :=
  (∀ y, y ∈ m → y < 256) ∧
  ∃ r p' r' p'', readWbits (m.flatMap (BV.Bits.bitsOf 8)) = some (w, lg, r) ∧
    FramesTo ((m.flatMap (BV.Bits.bitsOf 8)).length - r.length) r bl p' r' ∧
    readMetaBlock p' r' = some (MetaBlock.lastEmpty, p'', [])

/-- `StoredBytes`, decomposed -/
structure StoredMember (m : List Nat) (w : Nat) (lg : Bool) (bl : List MetaBlock) (wb F : List Bool) (k : Nat) :
    Prop where
  bytes : ∀ y, y ∈ m → y < 256
  bits : bytesToBits m = wb ++ F ++ [true, true] ++ zeros k
  wread : ∀ X, readWbits (wb ++ X) = some (w, lg, X)
  wlen : wb.length = 1 ∨ wb.length = 4 ∨ wb.length = 7 ∨ wb.length = 14
  lgiff : lg = true ↔ wb.length = 14
  frames0 : FramesTo wb.length (F ++ [true, true] ++ zeros k) bl (wb.length + F.length) ([true, true] ++ zeros k)
  frames : ∀ q X, q % 8 = wb.length % 8 → FramesTo q (F ++ X) bl (q + F.length) X
  kdef : k = padLen (wb.length + F.length + 2)

theorem storedMember_of_bytes (m : List Nat) (w : Nat) (lg : Bool) (bl : List MetaBlock)
    (h : StoredBytes m w lg bl) : ∃ wb F k, StoredMember m w lg bl wb F k := by
  obtain ⟨hb, r, p', r', p'', hr, hf, hl⟩ := h
  rw [flatMap_bits_eq] at hr hf
  obtain ⟨wb, e1, hw, hwl, hlg⟩ := readWbits_local _ w lg r hr
  have hlen : (bytesToBits m).length - r.length = wb.length := by rw [e1]; simp
  rw [hlen] at hf
  obtain ⟨F, e2, e3, hmove⟩ := framesTo_move _ _ _ _ _ hf
  obtain ⟨H, B, hs⟩ := readMetaBlock_shape p' r' _ p'' [] hl (by intro m l; simp)
  have hH : H = [true, true] := hs.last.mp rfl
  have hB : B = [] := hs.lastB rfl
  have hr' : r' = [true, true] ++ zeros (padLen (p' + 2)) := by
    have := hs.split
    rw [hH, hB] at this
    simpa using this
  refine ⟨wb, F, padLen (wb.length + F.length + 2), hb, ?_, hw, hwl, hlg, ?_, fun q X hq => hmove q X hq, rfl⟩
  · rw [e1, e2, hr', e3]; simp [List.append_assoc]
  · have := hf
    rw [e2, hr', e3] at this
    simpa [List.append_assoc] using this

theorem zeros_length (k : Nat) : (zeros k).length = k := by simp [zeros]

theorem StoredMember.marker {m : List Nat} {w : Nat} {lg : Bool} {bl : List MetaBlock} {wb F : List Bool} {k : Nat}
    (h : StoredMember m w lg bl wb F k) (h2 : 2 ≤ m.length) :
    ∃ pre a b D, m = pre ++ [a, b] ∧ Marked (a + (b <<< 8)) (14 - k) D ∧ k ≤ 7 ∧
      bytesToBits pre ++ bitsOf (14 - k) D = wb ++ F := by
  have hk : k ≤ 7 := by rw [h.kdef]; have := padLen_lt (wb.length + F.length + 2); omega
  obtain ⟨a, b, hab⟩ := list_len2 (m.drop (m.length - 2)) (by rw [List.length_drop]; omega)
  have hm : m = m.take (m.length - 2) ++ [a, b] := by rw [← hab, List.take_append_drop]
  have ha : a < 256 := h.bytes a (by rw [hm]; simp)
  have hb : b < 256 := h.bytes b (by rw [hm]; simp)
  have hT : a + (b <<< 8) < 2 ^ 16 := by rw [Nat.shiftLeft_eq]; omega
  have hbits16 : bytesToBits [a, b] = bitsOf 16 (a + (b <<< 8)) := by
    have := bits_le2 (a + (b <<< 8))
    rw [Nat.shiftLeft_eq] at this ⊢
    have e1 : (a + b * 2 ^ 8) % 256 = a := by omega
    have e2 : (a + b * 2 ^ 8) / 256 = b := by omega
    rw [e1, e2] at this
    exact this
  have htot := h.bits
  rw [hm, bytesToBits_append, hbits16] at htot
  have hlen := congrArg List.length htot
  simp only [List.length_append, bytesToBits_length, bitsOf_length, List.length_cons, List.length_nil,
    zeros_length] at hlen
  have hZ : (wb ++ F) = ((wb ++ F).take (8 * (m.take (m.length - 2)).length)) ++
      ((wb ++ F).drop (8 * (m.take (m.length - 2)).length)) := (List.take_append_drop _ _).symm
  have hZl : (wb ++ F).length = 8 * (m.take (m.length - 2)).length + (14 - k) := by
    simp only [List.length_append]; omega
  have htake : (wb ++ F).take (8 * (m.take (m.length - 2)).length) = bytesToBits (m.take (m.length - 2)) := by
    have := congrArg (List.take (8 * (m.take (m.length - 2)).length)) htot
    rw [List.take_left' (bytesToBits_length _), List.append_assoc, List.append_assoc, ← List.append_assoc wb,
      List.take_append_of_le_length (by omega)] at this
    exact this.symm
  have hdrop : bitsOf 16 (a + (b <<< 8)) =
      (wb ++ F).drop (8 * (m.take (m.length - 2)).length) ++ [true, true] ++ zeros k := by
    have := congrArg (List.drop (8 * (m.take (m.length - 2)).length)) htot
    rw [List.drop_left' (bytesToBits_length _), List.append_assoc, List.append_assoc, ← List.append_assoc wb,
      List.drop_append_of_le_length (by omega)] at this
    rw [this]; simp [List.append_assoc]
  have hXl : ((wb ++ F).drop (8 * (m.take (m.length - 2)).length)).length = 14 - k := by
    rw [List.length_drop, hZl]; omega
  have hmk := marked_of_bits _ _ k hT hdrop
  rw [hXl] at hmk
  refine ⟨_, a, b, _, hm, hmk, hk, ?_⟩
  have := bitsOf_valOf ((wb ++ F).drop (8 * (m.take (m.length - 2)).length))
  rw [hXl] at this
  rw [this, ← htake, List.take_append_drop]

theorem StoredMember.first {m : List Nat} {w : Nat} {lg : Bool} {b1 : MetaBlock} {bl' : List MetaBlock}
    {wb F : List Bool} {k : Nat} (h : StoredMember m w lg (b1 :: bl') wb F k) :
    ∃ H B C, F = H ++ zeros (padLen (wb.length + H.length)) ++ B ++ C ∧ B.length % 8 = 0 ∧ 2 ≤ H.length ∧
      ((∀ mm l, b1 ≠ MetaBlock.compressed mm l) ∧ b1 ≠ MetaBlock.lastEmpty) ∧
      (∀ q X, readMetaBlock q (H ++ zeros (padLen (q + H.length)) ++ B ++ X)
        = some (b1, q + H.length + padLen (q + H.length) + B.length, X)) ∧
      (∀ q X, q % 8 = 0 → FramesTo q (C ++ X) bl' (q + C.length) X) ∧
      BlockShape wb.length (F ++ [true, true] ++ zeros k) b1
        (wb.length + H.length + padLen (wb.length + H.length) + B.length) (C ++ ([true, true] ++ zeros k)) H B := by
  cases h.frames0 with
  | cons _ _ _ p1 r1 _ _ _ hread hkind hrest =>
    obtain ⟨H, B, hs⟩ := readMetaBlock_shape _ _ _ _ _ hread hkind.1
    obtain ⟨C, e1, e2, hmove⟩ := framesTo_move _ _ _ _ _ hrest
    have hp1 : p1 % 8 = 0 := by rw [hs.pos_eq]; exact padLen_aligned _ _ hs.body8
    have hF : F = H ++ zeros (padLen (wb.length + H.length)) ++ B ++ C := by
      have := hs.split
      rw [e1] at this
      have h2 : F ++ ([true, true] ++ zeros k) =
          (H ++ zeros (padLen (wb.length + H.length)) ++ B ++ C) ++ ([true, true] ++ zeros k) := by
        rw [← List.append_assoc F] ; rw [this]; simp [List.append_assoc]
      exact List.append_cancel_right h2
    refine ⟨H, B, C, hF, hs.body8, hs.hdr2, hkind, hs.anywhere, fun q X hq => hmove q X (by omega), ?_⟩
    have hs' := hs
    rw [e1, hs.pos_eq] at hs'
    exact hs'

theorem take_drop_take (L : List Bool) (N a h : Nat) (hle : a + h ≤ N) :
    ((L.take N).drop a).take h = (L.drop a).take h := by
  rw [List.drop_take, List.take_take]
  congr 1
  omega

theorem pad_arith (k' h : Nat) : 8 * ((k' + (h + 0) + 7) / 8) - k' - h = padLen (k' + h) := by
  unfold padLen; omega

def chunkBits (q : Nat) (H B C : List Bool) : List Bool := H ++ zeros (padLen (q + H.length)) ++ B ++ C

/-- reader-side facts about a later member's pieces: first block (`H`, `B`) readable at any
position, remaining blocks (`C`) readable at any byte boundary; `n` = alignment of its end marker -/
structure ChunkSpec (bl : List MetaBlock) (H B C : List Bool) (n : Nat) : Prop where
  first : ∃ b1 bl', bl = b1 :: bl' ∧ ((∀ mm l, b1 ≠ MetaBlock.compressed mm l) ∧ b1 ≠ MetaBlock.lastEmpty) ∧
    (∀ q X, readMetaBlock q (H ++ zeros (padLen (q + H.length)) ++ B ++ X)
      = some (b1, q + H.length + padLen (q + H.length) + B.length, X)) ∧
    (∀ q X, q % 8 = 0 → FramesTo q (C ++ X) bl' (q + C.length) X)
  b8 : B.length % 8 = 0
  cmod : (C.length + 2 + (14 - n)) % 8 = 0
  nrange : 7 ≤ n ∧ n ≤ 14

theorem chunk_frames (bl : List MetaBlock) (H B C : List Bool) (n : Nat) (h : ChunkSpec bl H B C n)
    (q : Nat) (X : List Bool) :
    FramesTo q (chunkBits q H B C ++ X) bl (q + (chunkBits q H B C).length) X ∧
    (q + (chunkBits q H B C).length) % 8 = n % 8 := by
  obtain ⟨b1, bl', rfl, hkind, hany, hrest⟩ := h.first
  have hlen : (chunkBits q H B C).length = H.length + padLen (q + H.length) + B.length + C.length := by
    simp [chunkBits, zeros]; omega
  have hq1 : (q + H.length + padLen (q + H.length) + B.length) % 8 = 0 := padLen_aligned _ _ h.b8
  constructor
  · refine FramesTo.cons q _ b1 (q + H.length + padLen (q + H.length) + B.length) (C ++ X) bl' _ X ?_ hkind ?_
    · have := hany q (C ++ X)
      simpa [chunkBits, List.append_assoc] using this
    · have := hrest _ X hq1
      rw [hlen]
      have e : q + (H.length + padLen (q + H.length) + B.length + C.length)
          = q + H.length + padLen (q + H.length) + B.length + C.length := by omega
      rw [e]; exact this
  · rw [hlen]
    have := h.cmod; have := h.nrange
    omega

inductive LaterAll (ws : Nat) : List MemberData → List (List MetaBlock) → Prop where
  | nil : LaterAll ws [] []
  | cons (d : MemberData) (ds : List MemberData) (bl : List MetaBlock) (bls : List (List MetaBlock))
      (H B C : List Bool) (hok : MemberOK ws d)
      (hbits : ∀ nprev, gapBits nprev d ++ restData d = chunkBits (if nprev < 8 then nprev else nprev - 8) H B C)
      (hspec : ChunkSpec bl H B C d.n) (hrest : LaterAll ws ds bls) : LaterAll ws (d :: ds) (bl :: bls)

theorem later_frames (ws : Nat) (ds : List MemberData) (bls : List (List MetaBlock)) (h : LaterAll ws ds bls) :
    ∀ nprev q X, q % 8 = nprev % 8 → 7 ≤ nprev ∧ nprev ≤ 14 →
      FramesTo q (laterBits nprev ds ++ X) bls.flatten (q + (laterBits nprev ds).length) X ∧
      (q + (laterBits nprev ds).length) % 8 = (lastN nprev ds) % 8 ∧
      (7 ≤ lastN nprev ds ∧ lastN nprev ds ≤ 14) ∧
      (∀ d, d ∈ ds → MemberOK ws d) := by
  induction h with
  | nil =>
    intro nprev q X hq hn
    simp only [laterBits, lastN, List.flatten_nil, List.nil_append, List.length_nil, Nat.add_zero]
    exact ⟨FramesTo.nil q X, hq, hn, fun d hd => by simp at hd⟩
  | cons d ds bl bls H B C hok hbits hspec _ ih =>
    intro nprev q X hq hn
    have hpad : chunkBits (if nprev < 8 then nprev else nprev - 8) H B C = chunkBits q H B C := by
      unfold chunkBits
      rw [padLen_mod ((if nprev < 8 then nprev else nprev - 8) + H.length) (q + H.length) (by split <;> omega)]
    have hb := hbits nprev
    rw [hpad] at hb
    obtain ⟨f1, f2⟩ := chunk_frames bl H B C d.n hspec q (laterBits d.n ds ++ X)
    obtain ⟨g1, g2, g3, g4⟩ := ih d.n (q + (chunkBits q H B C).length) X f2 hspec.nrange
    have hlb : laterBits nprev (d :: ds) = chunkBits q H B C ++ laterBits d.n ds := by
      simp only [laterBits]; rw [hb]
    refine ⟨?_, ?_, g3, fun d' hd' => ?_⟩
    · rw [hlb, List.flatten_cons, List.append_assoc]
      have e : q + (chunkBits q H B C ++ laterBits d.n ds).length
          = q + (chunkBits q H B C).length + (laterBits d.n ds).length := by
        rw [List.length_append]; omega
      rw [e]
      exact framesTo_append _ _ _ _ _ _ _ _ f1 g1
    · rw [hlb, List.length_append]
      simp only [lastN]
      rw [← g2]; congr 1; omega
    · rcases List.mem_cons.mp hd' with e | e
      · rw [e]; exact hok
      · exact g4 d' e

/-- the padding behind a header of `hl` bits glued at bit `k'`, as the realignment computes it
from the source positions (`wl` window bits in front of the header) -/
theorem gap_pad (k' wl hl : Nat) : 8 * ((k' + (wl + hl) - wl + 7) / 8) - k' - hl = padLen (k' + hl) := by
  unfold padLen; omega

theorem chunk_cmod (ml wl hl bl cl k : Nat) (htot : 8 * ml = wl + (hl + padLen (wl + hl) + bl + cl) + 2 + k)
    (hb8 : bl % 8 = 0) (hk : k ≤ 7) : (cl + 2 + (14 - (14 - k))) % 8 = 0 := by
  unfold padLen at htot; omega

theorem later_of_stored (ws : Nat) (m : List Nat) (w : Nat) (lg : Bool) (b1 : MetaBlock) (bl' : List MetaBlock)
    (wb F : List Bool) (k : Nat) (h : StoredMember m w lg (b1 :: bl') wb F k)
    (hlong : need (m.headD 0) + 2 ≤ m.length)
    (hparse : parseWindowSize (m.take (need (m.headD 0))) = ok (some (w, wb.length)))
    (hwle : ¬ w > (ws &&& NOT_LARGE_WINDOW_FLAG))
    (hform : ¬ (decide (wb.length = 14)) ≠ (decide ((ws &&& LARGE_WINDOW_FLAG) ≠ 0)))
    (hdet : ∀ H B p1 r1, BlockShape wb.length (F ++ [true, true] ++ zeros k) b1 p1 r1 H B →
      detectVarlenOffset (m.take (need (m.headD 0))) = ok (some (wb.length + H.length)) ∧
      (wb.length + H.length + 7) / 8 ≤ need (m.headD 0)) :
    ∃ d H B C, d.m = m ∧ MemberOK ws d ∧
      (∀ nprev, gapBits nprev d ++ restData d = chunkBits (if nprev < 8 then nprev else nprev - 8) H B C) ∧
      ChunkSpec (b1 :: bl') H B C d.n := by
  obtain ⟨H, B, C, hF, hb8, hH2, hkind, hany, hrestf, hshape⟩ := h.first
  obtain ⟨hdetv, hfit⟩ := hdet H B _ _ hshape
  have h4 : 4 ≤ need (m.headD 0) := by unfold need; split <;> omega
  obtain ⟨pre, a, b, D, hm, hmark, hk7, hdata⟩ := h.marker (by omega)
  have hla : need (m.headD 0) ≤ m.length := by omega
  have hsrc8 := padLen_ceil (wb.length + H.length)
  have hpre : pre.length + 2 = m.length := by rw [hm]; simp
  have hsrcpre : (wb.length + H.length + 7) / 8 ≤ pre.length := by omega
  have htot := congrArg List.length h.bits
  rw [hF] at htot
  simp only [List.length_append, bytesToBits_length, zeros_length, List.length_cons, List.length_nil] at htot
  refine ⟨⟨m, wb.length, wb.length + H.length, 14 - k, D⟩, H, B, C, rfl, ?_, ?_, ?_⟩
  · exact ⟨h.bytes, by show need (m.headD 0) + 1 ≤ m.length; omega, ⟨w, hparse, hwle⟩, hform, hdetv, hfit,
      by show (wb.length + H.length + 7) / 8 + 2 ≤ m.length; omega, ⟨pre, a, b, hm, hmark⟩⟩
  · intro nprev
    unfold gapBits restData chunkBits
    dsimp only
    have hv : wb.length + H.length - wb.length = H.length := by omega
    have hE1 : ((bytesToBits (m.take (need (m.headD 0)))).drop wb.length).take H.length = H := by
      rw [bytesToBits_take, take_drop_take _ _ _ _ (by omega), h.bits, hF]
      simp only [List.append_assoc]
      rw [List.drop_left' rfl, List.take_left' rfl]
    have hE2 := gap_pad (if nprev < 8 then nprev else nprev - 8) wb.length H.length
    have hdrop : m.drop ((wb.length + H.length + 7) / 8) = pre.drop ((wb.length + H.length + 7) / 8) ++ [a, b] := by
      rw [hm, List.drop_append_of_le_length hsrcpre]
    have hE3 : bytesToBits ((m.drop ((wb.length + H.length + 7) / 8)).take
          ((m.drop ((wb.length + H.length + 7) / 8)).length - 2)) ++ bitsOf (14 - k) D = B ++ C := by
      rw [hdrop]
      simp only [List.length_append, List.length_cons, List.length_nil, Nat.add_sub_cancel]
      rw [List.take_left' rfl, bytesToBits_drop]
      have h1 : (bytesToBits pre).drop (8 * ((wb.length + H.length + 7) / 8)) ++ bitsOf (14 - k) D
          = (bytesToBits pre ++ bitsOf (14 - k) D).drop (8 * ((wb.length + H.length + 7) / 8)) := by
        rw [List.drop_append_of_le_length (by rw [bytesToBits_length]; omega)]
      rw [h1, hdata, hF, hsrc8]
      have : wb ++ (H ++ zeros (padLen (wb.length + H.length)) ++ B ++ C)
          = (wb ++ H ++ zeros (padLen (wb.length + H.length))) ++ (B ++ C) := by simp [List.append_assoc]
      rw [this, List.drop_left' (by simp [zeros_length]; omega)]
    rw [hv, hE1, hE2, hE3]
    simp [List.append_assoc, zeros]
  · refine ⟨⟨b1, bl', rfl, hkind, hany, hrestf⟩, hb8, ?_, by dsimp only; omega⟩
    exact chunk_cmod m.length wb.length H.length B.length C.length k htot hb8 hk7

theorem stored_output_decodes (fuel : Nat) (s : State) (m0 : List Nat) (w0 : Nat) (lg0 : Bool)
    (bl0 : List MetaBlock) (wb0 F0 : List Bool) (k0 : Nat) (bufs0 : List (List Nat)) (caps0 : List Nat)
    (ds : List MemberData) (bls : List (List MetaBlock)) (rest : List (List (List Nat) × List Nat)) (R : Run)
    (cap : Nat) (hI : Inv s) (hws : s.window_size = 0)
    (h0 : StoredMember m0 w0 lg0 bl0 wb0 F0 k0) (hlong0 : need (m0.headD 0) + 1 ≤ m0.length)
    (hparse0 : parseWindowSize (m0.take (need (m0.headD 0))) = ok (some (w0, wb0.length)))
    (hne0 : bufs0 ≠ []) (hfl0 : bufs0.flatten = m0)
    (hlater : LaterAll (w0 ||| (if wb0.length = 14 then LARGE_WINDOW_FLAG else 0)) ds bls)
    (hfed : Fed ds rest) (hcap : 2 ≤ cap)
    (hrun : concatAll fuel s ((bufs0, caps0) :: rest) [] = some R) :
    R.code = NEEDS_MORE_INPUT ∧
    ∃ st p r, finish R.st cap = ok ⟨st, SUCCESS, 0, p⟩ ∧
      readWbits (bytesToBits (R.emitted ++ p)) = some (w0, lg0, r) ∧
      bytesToBits (R.emitted ++ p) = wb0 ++ r ∧
      decodeFraming (bl0.length + bls.flatten.length + 1) wb0.length r
        = some (bl0 ++ bls.flatten ++ [MetaBlock.lastEmpty]) := by
  have h4 : 4 ≤ need (m0.headD 0) := by unfold need; split <;> omega
  obtain ⟨pre0, a0, b0, D0, hm0, hmark0, hk7, hdata0⟩ := h0.marker (by omega)
  unfold concatAll at hrun
  cases hr : runAll fuel (newBrotliFile s) bufs0 caps0 [] with
  | none => rw [hr] at hrun; simp at hrun
  | some r0 =>
    rw [hr] at hrun
    dsimp only at hrun
    obtain ⟨hcode0, hwsr, hB⟩ := first_boundary fuel s m0 pre0 a0 b0 (14 - k0) D0 w0 wb0.length bufs0 caps0 r0 hI hws
      h0.bytes hlong0 hparse0 hm0 hmark0 hne0 hfl0 hr
    have hnt : isTerminal r0.code = false := by rw [hcode0]; rfl
    rw [hnt] at hrun
    simp only [Bool.false_eq_true, if_false] at hrun
    have htot := congrArg List.length h0.bits
    simp only [List.length_append, bytesToBits_length, zeros_length, List.length_cons, List.length_nil] at htot
    have hq : (wb0.length + F0.length) % 8 = (14 - k0) % 8 := by omega
    obtain ⟨g1, g2, g3, g4⟩ := later_frames _ ds bls hlater (14 - k0) (wb0.length + F0.length)
      ([true, true] ++ zeros (14 - lastN (14 - k0) ds)) hq (by omega)
    obtain ⟨hc, D', hfin⟩ := later_members fuel ds rest hfed r0.st r0.emitted (14 - k0) D0 _ R hB
      (fun d hd => by rw [hwsr]; exact g4 d hd) hrun
    obtain ⟨st, p, hf, hbits⟩ := finish_boundary R.st R.emitted _ D' _ cap hfin hcap
    have hO : bytesToBits (R.emitted ++ p) = wb0 ++ (F0 ++ (laterBits (14 - k0) ds ++
        ([true, true] ++ zeros (14 - lastN (14 - k0) ds)))) := by
      rw [hbits, hdata0]; simp [List.append_assoc, zeros]
    refine ⟨hc, st, p, _, hf, by rw [hO]; exact h0.wread _, hO, ?_⟩
    have f0 := h0.frames wb0.length (laterBits (14 - k0) ds ++ ([true, true] ++ zeros (14 - lastN (14 - k0) ds))) rfl
    have fall := framesTo_append _ _ _ _ _ _ _ _ f0 g1
    have hlast := rm_last (wb0.length + F0.length + (laterBits (14 - k0) ds).length) []
    have hpad := padLen_marker (wb0.length + F0.length + (laterBits (14 - k0) ds).length) _ g2 g3
    rw [hpad] at hlast
    have := decodeFraming_of_frames _ _ _ _ _ fall _ [] (by simpa using hlast)
    rw [List.length_append] at this
    exact this

end BV.Concat
