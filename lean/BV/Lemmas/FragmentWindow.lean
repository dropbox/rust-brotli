/-
The table geometry of the quality-1 fragment writer (`CreateCommands` of compress_fragment_two_pass.rs, model
BV/Model/Fragment.lean): candidates are used only within `MAX_DISTANCE = 262128 = 2^18 − 16` of the
current position (the declared window of a quality 0/1 stream is at least that: BV/Props/C15Window.lean).
-/
import BV.Model.Fragment

namespace BV.Fragment
open BV.Bits

theorem scan_candidate_within_table_window (inp : Array Nat) (shift minMatch ipLimit : Nat) :
    ∀ (f skip nextIp nextHash : Nat) (c c' : CC) (cand : Nat),
      scan inp shift minMatch ipLimit f skip nextIp nextHash c = .ok (c', some cand) →
      wsub c'.ip cand ≤ 262128 := by
  intro f
  induction f with
  | zero => intro skip nextIp nextHash c c' cand h; simp [scan] at h
  | succ f ih =>
    intro skip nextIp nextHash c c' cand h
    unfold scan at h
    simp only [] at h
    split at h
    · simp at h
    · cases h1 : load64 inp (nextIp + skip / 32) with
      | ok v =>
        simp only [h1, bind, Out.bind] at h
        repeat' (split at h)
        all_goals first
          | (cases h; done)
          | exact ih _ _ _ _ _ _ h
          | (simp only [Out.ok.injEq, Prod.mk.injEq, Option.some.injEq] at h
             obtain ⟨rfl, rfl⟩ := h
             simp only []
             omega)
      | panic => simp [h1, bind, Out.bind] at h
      | fuel => simp [h1, bind, Out.bind] at h

end BV.Fragment
