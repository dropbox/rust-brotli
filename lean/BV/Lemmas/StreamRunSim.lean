import BV.Lemmas.StreamRunHist
/-
Whole histories: the log of `run` over a list of calls is a PATH of abstract transitions of any
step-wise abstraction (`run_sim`, call by call from `runCall_sim`), and it determines the delivered
bits, positions and requests (`run_facts`: the abstraction that sees nothing).
-/
namespace BV.Stream
open BV.Bits

/-- the model's `HistOK` is `HistOp (· ≤ 3)` written out; an abstraction claimed for fewer operations asks for
`HistOp S.opOK` besides -/
def HistOp (P : Nat → Prop) : List Call → Prop
  | [] => True
  | c :: cs => CallOp P c ∧ HistOp P cs

theorem histOp_of_forall {P : Nat → Prop} (hP : ∀ op, P op) (calls : List Call) : HistOp P calls := by
  induction calls with
  | nil => trivial
  | cons c cs ih => exact ⟨by cases c <;> first | exact hP _ | trivial, ih⟩

theorem histOp_mono {P Q : Nat → Prop} (hPQ : ∀ op, P op → Q op) {calls : List Call} (h : HistOp P calls) : HistOp Q calls := by
  induction calls with
  | nil => trivial
  | cons c cs ih =>
    cases c with
    | stream op chunk cap => exact ⟨hPQ op h.1, ih h.2⟩
    | setParam id v => exact ⟨trivial, ih h.2⟩
    | take n => exact ⟨trivial, ih h.2⟩

theorem HistOp.mem {P : Nat → Prop} {calls : List Call} {c : Call} (h : HistOp P calls) (hc : c ∈ calls) : CallOp P c := by
  induction calls with
  | nil => cases hc
  | cons c' cs ih =>
    rcases List.mem_cons.mp hc with rfl | hm
    · exact h.1
    · exact ih h.2 hm

theorem run_sim {o : Oracle} {α : Type} (S : Sim o α) {fuel : Nat} {calls : List Call} {s0 s : St} {t0 t : Trace} (hR : RunOK s0)
    (hops : HistOK calls) (hopk : HistOp S.opOK calls) (hw : s0.inputPos + histLen calls < two64)
    (h : run o fuel calls s0 t0 = .ok (s, t)) :
    ∃ log, (∀ a, S.R a s0 → ∃ a', S.R a' s ∧ Path S.T a log a') ∧ RunFacts o s0 t0 s t log := by
  refine run_induct (fun s t => ∃ log, (∀ a, S.R a s0 → ∃ a', S.R a' s ∧ Path S.T a log a') ∧ RunFacts o s0 t0 s t log)
    ?_ hR hops hw h ⟨[], (fun a ha => ⟨a, ha, rfl⟩), RunFacts.refl o t0 hR⟩
  rintro s1 s2 t1 t2 c hm hR1 hcok hc ⟨l1, m1, f1⟩
  obtain ⟨_, l2, m2, f2⟩ := runCall_sim S hR1 hcok (hopk.mem hm) hc
  refine ⟨l1 ++ l2, fun a ha => ?_, f1.trans f2⟩
  obtain ⟨a1, r1, p1⟩ := m1 a ha
  obtain ⟨a2, r2, p2⟩ := m2 a1 r1
  exact ⟨a2, r2, p1.append p2⟩

theorem run_facts {o : Oracle} {fuel : Nat} {calls : List Call} {s0 s : St} {t0 t : Trace} (hR : RunOK s0)
    (hops : HistOK calls) (hw : s0.inputPos + histLen calls < two64)
    (h : run o fuel calls s0 t0 = .ok (s, t)) : ∃ log, RunFacts o s0 t0 s t log := by
  obtain ⟨log, _, f⟩ := run_sim (Sim.unit o) hR hops (histOp_of_forall (fun _ => trivial) calls) hw h
  exact ⟨log, f⟩

end BV.Stream
