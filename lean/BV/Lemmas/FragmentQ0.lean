/-
Quality 0: the histogram `BuildAndStoreLiteralPrefixCode` builds for a block of at least 2^15 bytes (the sampled branch)
counts EVERY byte value at least once (the `1 +`), so by C17 `fast_build_and_store_good` every byte value gets a code
word.  This makes merged blocks (`ShouldMergeBlock` → `UpdateBits`) decodable: a merge only happens behind a first block
of `kFirstBlockSize = 3 << 15` bytes.
-/
import BV.Lemmas.FragmentBlock

namespace BV.Fragment
open BV.Bits

theorem sampledGo_length_le (k : Nat) : ∀ (l : List Nat) (i : Nat), (sampledGo k i l).length ≤ l.length
  | [], i => by cases i <;> simp [sampledGo]
  | b :: bs, 0 => by
    simp only [sampledGo, List.length_cons]
    have := sampledGo_length_le k bs (k - 1)
    omega
  | b :: bs, i + 1 => by
    simp only [sampledGo, List.length_cons]
    have := sampledGo_length_le k bs i
    omega

theorem sampled_histogram_positive (input : List Nat) (h : 32768 ≤ input.length)
    (h2 : input.length < 2147483648) (v : Nat) (hv : v < 256) :
    (literalHistogram input).1.getD v 0 ≠ 0 := by
  unfold literalHistogram
  rw [if_neg (by omega)]
  simp only []
  have hsl : (sampled 29 input).length < two32 := by
    have := sampledGo_length_le 29 input 0
    have e : two32 = 4294967296 := rfl
    unfold sampled
    omega
  rw [List.getD_eq_getElem?_getD, List.getElem?_map]
  have hg : (histo 256 (sampled 29 input))[v]? = some ((sampled 29 input).count v) := by
    have := histo_get 256 (sampled 29 input) v hv hsl
    have hl : v < (histo 256 (sampled 29 input)).length := by rw [histo_length]; exact hv
    rw [List.getD_eq_getElem?_getD, List.getElem?_eq_getElem hl] at this
    rw [List.getElem?_eq_getElem hl]
    simpa using this
  rw [hg]
  simp only [Option.map_some, Option.getD_some]
  have hc : (sampled 29 input).count v ≤ (sampled 29 input).length := List.count_le_length
  have hsl2 : (sampled 29 input).length ≤ input.length := sampledGo_length_le 29 input 0
  have hm : min ((sampled 29 input).count v) 11 ≤ 11 := Nat.min_le_right _ _
  have e : two32 = 4294967296 := rfl
  rw [e, Nat.mod_eq_of_lt (by omega)]
  omega

/-- the exact branch, for contrast: a block coded with such a code (no code word for an absent byte value) must not be
extended by a merge -/
theorem exact_histogram_zero (input : List Nat) (h : input.length < 32768) (v : Nat) (hv : v < 256)
    (hnot : v ∉ input) : (literalHistogram input).1.getD v 0 = 0 := by
  unfold literalHistogram
  rw [if_pos h]
  simp only []
  have hsl : input.length < two32 := by
    have e : two32 = 4294967296 := rfl
    omega
  rw [List.getD_eq_getElem?_getD, List.getElem?_map]
  have hl : v < (histo 256 input).length := by rw [histo_length]; exact hv
  have hg := histo_get 256 input v hv hsl
  rw [List.getD_eq_getElem?_getD, List.getElem?_eq_getElem hl] at hg
  rw [List.getElem?_eq_getElem hl]
  simp only [Option.getD_some] at hg
  simp only [Option.map_some, Option.getD_some, hg, List.count_eq_zero.mpr hnot]
  rfl

end BV.Fragment
