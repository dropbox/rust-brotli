import BV.Lemmas.GreedySplitter
/-!
C01 / greedy builder: the command loop of `BrotliBuildMetaBlockGreedyInternal` feeds the three splitters with
exactly the three symbol streams the writer will emit (`litSymsOf`, the command symbols, `distSymsOf`); with
`MapStaticContexts` this gives `BrotliBuildMetaBlockGreedy` as a whole: no panic, and the `MetaBlockSplit` it returns
satisfies `MBOK` and the three `Covers` hypotheses of `full_metablock_roundtrip`.
-/

namespace BV.Greedy
open BV.Bits BV.Recoder BV.MetaBlock BV.Gen

/-- the static context a literal context id is counted under -/
def gOf (plain : Bool) (scm : List Nat) (c : Nat) : Nat := if plain then 0 else scm.getD c 0

def phi (plain : Bool) (scm : List Nat) (p : Nat × Nat) : Nat × Nat := (gOf plain scm p.1, p.2)

theorem feed_append_ok {F : Type} (ops : FOps F) (s s' : BS F) (a b : List (Nat × Nat))
    (h : feed ops s (a ++ b) = .ok s') : ∃ s1, feed ops s a = .ok s1 ∧ feed ops s1 b = .ok s' := by
  rw [feed_append] at h
  exact (Out.bind_eq_ok _ _ _).mp h

structure GEnv where
  ring : Bytes
  mask : Nat
  start : Nat
  mb : Bytes
  hist : Bytes
  mode : Nat
  scm : List Nat
  plain : Bool

structure GEnv.OK (E : GEnv) : Prop where
  ring : RingHolds E.ring E.mask E.start E.mb
  bytes : ∀ b ∈ E.mb, b < 256
  hbytes : ∀ b ∈ E.hist, b < 256
  mode : E.mode < 4
  scm : E.plain = false → 64 ≤ E.scm.length
  h64 : E.start + E.mb.length < two64

theorem greedyLits_sim {F : Type} (ops : FOps F) (E : GEnv) (hE : E.OK) : ∀ (n k : Nat) (st : GSt F) (out : Bytes) (lit' : BS F),
    k + n ≤ E.mb.length → st.pos = posOf E.start k → (∀ b ∈ out, b < 256) → st.prev = lastB out → st.prev2 = last2B out →
    feed ops st.lit ((litCtxs E.mode out ((E.mb.drop k).take n)).map (phi E.plain E.scm)) = .ok lit' →
    ∃ st', greedyLits ops E.ring E.mask E.mode E.scm E.plain n st = .ok st' ∧ st'.lit = lit' ∧ st'.cmd = st.cmd ∧
      st'.dist = st.dist ∧ st'.pos = posOf E.start (k + n) ∧ st'.prev = lastB (out ++ (E.mb.drop k).take n) ∧
      st'.prev2 = last2B (out ++ (E.mb.drop k).take n) := by
  intro n
  induction n with
  | zero =>
    intro k st out lit' _ hp _ h1 h2 hf
    simp only [List.take_zero, litCtxs, List.map_nil, feed, Out.ok.injEq] at hf
    exact ⟨st, rfl, hf, rfl, rfl, by simpa using hp, by simpa using h1, by simpa using h2⟩
  | succ n ih =>
    intro k st out lit' hk hp hout h1 h2 hf
    have hk' : k < E.mb.length := by omega
    rw [drop_take_succ E.mb k n 0 hk'] at hf ⊢
    obtain ⟨bl, hbl⟩ : ∃ bl, bl = E.mb.getD k 0 := ⟨_, rfl⟩
    rw [← hbl] at hf ⊢
    have hb256 : bl < 256 := by rw [hbl]; exact hE.bytes _ (getD_mem _ _ _ hk')
    obtain ⟨cx1, cx2⟩ := contextOf_eq (lastB out) (last2B out) E.mode (lastB_lt out hout) (last2B_lt out hout)
    simp only [litCtxs, List.map_cons] at hf
    obtain ⟨lit1, a1, a2⟩ := (Out.bind_eq_ok _ _ _).mp hf
    have hread : getAt E.ring (st.pos &&& E.mask) = .ok bl := by rw [hp, hbl]; exact hE.ring k hk'
    have hlit : (if E.plain then addSymbol ops st.lit bl 0 else
        (contextOf st.prev st.prev2 E.mode).bind fun context => (getAt E.scm context).bind fun sc =>
          addSymbol ops st.lit bl sc) = .ok lit1 := by
      cases hpl : E.plain with
      | true =>
        simp only [phi, gOf, hpl, if_true] at a1
        exact a1
      | false =>
        simp only [phi, gOf, hpl] at a1
        rw [h1, h2, cx1]
        simp only [Bool.false_eq_true, if_false, Out.bind]
        rw [getAt_getD _ _ 0 (by have := hE.scm hpl; omega)]
        exact a1
    obtain ⟨st', b1, b2, b3, b4, b5, b6, b7⟩ := ih (k + 1)
      { st with lit := lit1, prev2 := st.prev, prev := bl, pos := (st.pos + 1) % two64 } (out ++ [bl]) lit' (by omega)
      (by dsimp only; rw [hp]; exact posOf_add _ _ _)
      (by intro b hb; rcases List.mem_append.mp hb with h | h
          · exact hout b h
          · simp only [List.mem_singleton] at h; rw [h]; exact hb256)
      (by dsimp only; rw [lastB_snoc]) (by dsimp only; rw [last2B_snoc, h1]) a2
    refine ⟨st', ?_, b2, b3, b4, by rw [b5, Nat.add_assoc, Nat.add_comm 1 n], ?_, ?_⟩
    · simp only [greedyLits]
      rw [hread, Out.bind_ok]
      have : (if E.plain = true then addSymbol ops st.lit bl 0 else do
          let context ← contextOf st.prev st.prev2 E.mode
          let sc ← getAt E.scm context
          addSymbol ops st.lit bl sc) = .ok lit1 := hlit
      rw [this, Out.bind_ok]
      exact b1
    · rw [b6, List.append_assoc]; rfl
    · rw [b7, List.append_assoc]; rfl

theorem distSymsOf_cons (c : Cmd) (cs : List Cmd) : distSymsOf (c :: cs) =
    (if hasDist c then [(distanceContext c, c.distPrefix % 1024)] else []) ++ distSymsOf cs := by
  unfold distSymsOf
  rw [List.filter_cons]
  split <;> simp

theorem greedyCopy_sim {F : Type} (ops : FOps F) (E : GEnv) (hE : E.OK) (c : Cmd) (k : Nat) (st : GSt F) (dist' : BS F)
    (hk : k + copyLen c ≤ E.mb.length) (hc2 : copyLen c ≠ 0 → 2 ≤ copyLen c) (hp : st.pos = posOf E.start k)
    (h1 : st.prev = lastB (E.hist ++ E.mb.take k)) (h2 : st.prev2 = last2B (E.hist ++ E.mb.take k))
    (hd : feed ops st.dist ((if hasDist c then [(distanceContext c, c.distPrefix % 1024)] else []).map fun p => (0, p.2))
      = .ok dist') :
    ∃ st', greedyCopy ops E.ring E.mask c st = .ok st' ∧ st'.lit = st.lit ∧ st'.cmd = st.cmd ∧ st'.dist = dist' ∧
      st'.pos = posOf E.start (k + copyLen c) ∧ st'.prev = lastB (E.hist ++ E.mb.take (k + copyLen c)) ∧
      st'.prev2 = last2B (E.hist ++ E.mb.take (k + copyLen c)) := by
  have hpos : (st.pos + copyLen c) % two64 = posOf E.start (k + copyLen c) := by rw [hp]; exact posOf_add _ _ _
  have hd0 : hasDist c = false → st.dist = dist' := fun hnd => by
    rw [hnd] at hd
    simp only [Bool.false_eq_true, if_false, List.map_nil, feed, Out.ok.injEq] at hd
    exact hd
  unfold greedyCopy
  dsimp only
  rw [hpos]
  by_cases hz : copyLen c = 0
  · rw [if_neg (by simpa using hz)]
    refine ⟨_, rfl, rfl, rfl, hd0 (by simp [hasDist, hz]), rfl, ?_, ?_⟩
    · dsimp only; rw [h1, hz, Nat.add_zero]
    · dsimp only; rw [h2, hz, Nat.add_zero]
  · rw [if_pos hz]
    have hk2 : 2 ≤ k + copyLen c := by have := hc2 hz; omega
    have epos : posOf E.start (k + copyLen c) = E.start + (k + copyLen c) := by
      unfold posOf; exact Nat.mod_eq_of_lt (by have := hE.h64; omega)
    have r2 := ring_back E.ring E.mask E.start E.mb hE.ring hE.h64 (k + copyLen c) 2 hk2 (by decide) hk
    have r1 := ring_back E.ring E.mask E.start E.mb hE.ring hE.h64 (k + copyLen c) 1 (by omega) (by decide) hk
    rw [if_pos (by rw [epos]; omega), r2, Out.bind_ok, r1, Out.bind_ok]
    have e6 := (lastB_take E.hist E.mb _ (by omega) hk).symm
    have e7 := (last2B_take E.hist E.mb _ hk2 hk).symm
    by_cases h128 : c.cmdPrefix ≥ 128
    · rw [if_pos h128]
      have hd1 : hasDist c = true := by simp [hasDist, hz, h128]
      rw [hd1] at hd
      simp only [if_true, List.map_cons, List.map_nil] at hd
      obtain ⟨dist2, d3, d4⟩ := (Out.bind_eq_ok _ _ _).mp hd
      simp only [feed, Out.ok.injEq] at d4
      rw [d3, Out.bind_ok]
      exact ⟨_, rfl, rfl, rfl, d4, rfl, e6, e7⟩
    · rw [if_neg h128]
      exact ⟨_, rfl, rfl, rfl, hd0 (by simp [hasDist, h128]), rfl, e6, e7⟩

theorem greedyCmds_sim {F : Type} (ops : FOps F) (E : GEnv) (hE : E.OK) : ∀ (cmds : List Cmd) (k : Nat) (st : GSt F)
    (lit' cmd' dist' : BS F), Book E.mb.length k cmds → (∀ c ∈ cmds, copyLen c ≠ 0 → 2 ≤ copyLen c) →
    st.pos = posOf E.start k → st.prev = lastB (E.hist ++ E.mb.take k) → st.prev2 = last2B (E.hist ++ E.mb.take k) →
    feed ops st.lit ((litSymsOf E.mode E.hist E.mb k cmds).map (phi E.plain E.scm)) = .ok lit' →
    feed ops st.cmd (cmds.map fun c => (0, c.cmdPrefix)) = .ok cmd' →
    feed ops st.dist ((distSymsOf cmds).map fun p => (0, p.2)) = .ok dist' →
    ∃ st', greedyCmds ops E.ring E.mask E.mode E.scm E.plain cmds st = .ok st' ∧ st'.lit = lit' ∧ st'.cmd = cmd' ∧
      st'.dist = dist' := by
  intro cmds
  induction cmds with
  | nil =>
    intro k st lit' cmd' dist' _ _ _ _ _ h1 h2 h3
    simp only [litSymsOf, List.map_nil, feed, Out.ok.injEq] at h1 h2
    simp only [distSymsOf, List.filter_nil, List.map_nil, feed, Out.ok.injEq] at h3
    exact ⟨st, rfl, h1, h2, h3⟩
  | cons c cs ih =>
    intro k st lit' cmd' dist' hbk hcl hp hv1 hv2 h1 h2 h3
    obtain ⟨hb1, hb2⟩ := hbk
    have hout : ∀ b ∈ E.hist ++ E.mb.take k, b < 256 := by
      intro b hb
      rcases List.mem_append.mp hb with h | h
      · exact hE.hbytes b h
      · exact hE.bytes b (List.mem_of_mem_take h)
    simp only [List.map_cons] at h2
    obtain ⟨cmd1, c1, c2⟩ := (Out.bind_eq_ok _ _ _).mp h2
    simp only [litSymsOf, List.map_append] at h1
    obtain ⟨lit1, l1, l2⟩ := feed_append_ok ops _ _ _ _ h1
    obtain ⟨st1, s1, s2, s3, s4, s5, s6, s7⟩ := greedyLits_sim ops E hE c.insertLen k { st with cmd := cmd1 }
      (E.hist ++ E.mb.take k) lit1 (by omega) hp hout hv1 hv2 l1
    have htk : E.hist ++ E.mb.take k ++ (E.mb.drop k).take c.insertLen = E.hist ++ E.mb.take (k + c.insertLen) := by
      rw [List.append_assoc, List.take_add]
    rw [htk] at s6 s7
    rw [distSymsOf_cons, List.map_append] at h3
    obtain ⟨dist1, d1, d2⟩ := feed_append_ok ops _ _ _ _ h3
    obtain ⟨st2, e1, e2, e3, e4, e5, e6, e7⟩ := greedyCopy_sim ops E hE c (k + c.insertLen) st1 dist1 hb1
      (hcl c List.mem_cons_self) s5 s6 s7 (by rw [s4]; exact d1)
    obtain ⟨st', f1, f2, f3, f4⟩ := ih (k + c.insertLen + copyLen c) st2 lit' cmd' dist' hb2
      (fun x hx => hcl x (List.mem_cons_of_mem _ hx)) e5 e6 e7 (by rw [e2, s2]; exact l2) (by rw [e3, s3]; exact c2)
      (by rw [e4]; exact d2)
    refine ⟨st', ?_, f2, f3, f4⟩
    simp only [greedyCmds, greedyCmd]
    rw [c1, Out.bind_ok, s1, Out.bind_ok, e1, Out.bind_ok]
    exact f1

theorem foldlM_congr_range {α : Type} (f g : α → Nat → Out α) (n : Nat) (h : ∀ a j, j < n → f a j = g a j) (a : α) :
    (List.range n).foldlM f a = (List.range n).foldlM g a := by
  induction n generalizing a with
  | zero => rfl
  | succ n ih =>
    rw [show List.range (n + 1) = List.range n ++ [n] from List.range_succ, foldlM_append_out, foldlM_append_out, ih (fun a j hj => h a j (by omega))]
    cases (List.range n).foldlM g a with
    | ok b => simp only [Out.bind_ok, List.foldlM_cons, List.foldlM_nil]; rw [h b n (by omega)]
    | panic => rfl
    | fuel => rfl

/-- the literal context map `MapStaticContexts` builds -/
def cmapOf (nc : Nat) (scm : List Nat) (nt : Nat) : List Nat :=
  (List.range nt).flatMap (fun i => (List.range 64).map (fun j => i * nc + scm.getD j 0))

theorem cmapOf_succ (nc : Nat) (scm : List Nat) (nt : Nat) :
    cmapOf nc scm (nt + 1) = cmapOf nc scm nt ++ (List.range 64).map (fun j => nt * nc + scm.getD j 0) := by
  unfold cmapOf
  rw [show List.range (nt + 1) = List.range nt ++ [nt] from List.range_succ, List.flatMap_append]
  simp

theorem cmapOf_length (nc : Nat) (scm : List Nat) (nt : Nat) : (cmapOf nc scm nt).length = nt * 64 := by
  induction nt with
  | zero => rfl
  | succ n ih => rw [cmapOf_succ, List.length_append, ih]; simp; omega

theorem cmapOf_get (nc : Nat) (scm : List Nat) (nt t c : Nat) (ht : t < nt) (hc : c < 64) :
    (cmapOf nc scm nt).getD (t * 64 + c) 0 = t * nc + scm.getD c 0 := by
  induction nt with
  | zero => omega
  | succ n ih =>
    rw [cmapOf_succ, List.getD_eq_getElem?_getD]
    rcases Nat.lt_or_ge t n with h | h
    · rw [List.getElem?_append_left (by rw [cmapOf_length]; omega), ← List.getD_eq_getElem?_getD]
      exact ih h
    · have htn : t = n := by omega
      subst htn
      rw [List.getElem?_append_right (by rw [cmapOf_length]; omega), cmapOf_length, Nat.add_sub_cancel_left]
      simp [hc]

theorem mapStaticContexts_spec (nc nt : Nat) (scm : List Nat) (hscm : 64 ≤ scm.length) (hnt : nt ≤ 256) (hnc : nc ≤ 13)
    (hv : ∀ x ∈ scm, x < nc) : mapStaticContexts nc nt scm = .ok (cmapOf nc scm nt) := by
  unfold mapStaticContexts
  have hsz : (nt * 64) % two64 = nt * 64 := Nat.mod_eq_of_lt (by unfold two64; omega)
  rw [hsz]
  have key : ∀ k, k ≤ nt → ∀ m : List Nat, m.length = nt * 64 → (List.range k).foldlM (fun m i =>
      (List.range 64).foldlM (fun m j => do
        let v ← getAt scm j
        setAt m (((i * 64) % two64 + j) % two64) (((i * nc) % two32 + v) % two32)) m) m
      = Out.ok (cmapOf nc scm k ++ m.drop (k * 64)) := by
    intro k
    induction k with
    | zero => intro _ m _; simp [cmapOf]
    | succ k ih =>
      intro hk m hm
      rw [show List.range (k + 1) = List.range k ++ [k] from List.range_succ, foldlM_append_out, ih (by omega) m hm]
      simp only [Out.bind_ok, List.foldlM_cons, List.foldlM_nil]
      have hinner : ∀ (m : List Nat), (List.range 64).foldlM (fun m j => do
            let v ← getAt scm j
            setAt m (((k * 64) % two64 + j) % two64) (((k * nc) % two32 + v) % two32)) m
          = (List.range 64).foldlM (fun m j => setAt m (k * 64 + j) (k * nc + scm.getD j 0)) m := by
        intro m
        apply foldlM_congr_range
        intro a j hj
        have hx : scm.getD j 0 < nc := hv _ (getD_mem scm j 0 (by omega))
        have hkn : k * nc ≤ 256 * 13 := Nat.mul_le_mul (by omega) hnc
        rw [getAt_getD scm j 0 (by omega), Out.bind_ok, Nat.mod_eq_of_lt (by unfold two64; omega : k * 64 < two64),
          Nat.mod_eq_of_lt (by unfold two64; omega : k * 64 + j < two64),
          Nat.mod_eq_of_lt (by unfold two32; omega : k * nc < two32),
          Nat.mod_eq_of_lt (by unfold two32; omega : k * nc + scm.getD j 0 < two32)]
      have hcl := cmapOf_length nc scm k
      rw [hinner, fill_range (fun j => k * nc + scm.getD j 0) 64 _ (k * 64)
        (by rw [List.length_append, hcl, List.length_drop, hm]; omega), List.take_left' hcl, ← List.drop_drop,
        List.drop_left' hcl, List.drop_drop, cmapOf_succ, Nat.succ_mul]
      rfl
  rw [key nt (Nat.le_refl _) (List.replicate (nt * 64) 0) List.length_replicate,
    List.drop_eq_nil_of_le (by rw [List.length_replicate]; exact Nat.le_refl _), List.append_nil]

def sumIns (cmds : List Cmd) : Nat := (cmds.map (fun c => c.insertLen)).sum

theorem litCtxs_mem (mode : Nat) : ∀ (l : List Nat) (out : Bytes), (∀ b ∈ out, b < 256) → (∀ b ∈ l, b < 256) →
    ∀ p ∈ litCtxs mode out l, p.2 < 256 ∧ p.1 < 64
  | [], _, _, _, p, hp => by simp [litCtxs] at hp
  | b :: bs, out, ho, hl, p, hp => by
    simp only [litCtxs, List.mem_cons] at hp
    rcases hp with e | e
    · subst e
      exact ⟨hl b List.mem_cons_self, (contextOf_eq (lastB out) (last2B out) mode (lastB_lt out ho) (last2B_lt out ho)).2⟩
    · refine litCtxs_mem mode bs (out ++ [b]) ?_ (fun x hx => hl x (List.mem_cons_of_mem _ hx)) p e
      intro x hx
      rcases List.mem_append.mp hx with h | h
      · exact ho x h
      · simp only [List.mem_singleton] at h; rw [h]; exact hl b List.mem_cons_self

theorem litCtxs_length (mode : Nat) : ∀ (l : List Nat) (out : Bytes), (litCtxs mode out l).length = l.length
  | [], _ => rfl
  | b :: bs, out => by simp [litCtxs, litCtxs_length mode bs]

theorem litSymsOf_mem (mode : Nat) (hist mb : Bytes) (hh : ∀ b ∈ hist, b < 256) (hm : ∀ b ∈ mb, b < 256) :
    ∀ (cmds : List Cmd) (k : Nat), ∀ p ∈ litSymsOf mode hist mb k cmds, p.2 < 256 ∧ p.1 < 64
  | [], _, p, hp => by simp [litSymsOf] at hp
  | c :: cs, k, p, hp => by
    simp only [litSymsOf, List.mem_append] at hp
    rcases hp with e | e
    · refine litCtxs_mem mode _ _ ?_ ?_ p e
      · intro b hb
        rcases List.mem_append.mp hb with h | h
        · exact hh b h
        · exact hm b (List.mem_of_mem_take h)
      · intro b hb
        exact hm b (List.mem_of_mem_drop (List.mem_of_mem_take hb))
    · exact litSymsOf_mem mode hist mb hh hm cs _ p e

theorem litSymsOf_length (mode : Nat) (hist mb : Bytes) : ∀ (cmds : List Cmd) (k : Nat),
    (litSymsOf mode hist mb k cmds).length ≤ sumIns cmds
  | [], _ => by simp [litSymsOf, sumIns]
  | c :: cs, k => by
    have := litSymsOf_length mode hist mb cs (k + c.insertLen + copyLen c)
    simp only [litSymsOf, List.length_append, litCtxs_length, List.length_take, sumIns, List.map_cons, List.sum_cons] at this ⊢
    omega

theorem book_sum (n : Nat) : ∀ (cmds : List Cmd) (k : Nat), k ≤ n → Book n k cmds → k + sumIns cmds ≤ n
  | [], _, h, _ => by simpa [sumIns] using h
  | c :: cs, k, _, hb => by
    have := book_sum n cs _ hb.1 hb.2
    simp only [sumIns, List.map_cons, List.sum_cons] at this ⊢
    omega

theorem fold_sum : ∀ (cmds : List Cmd) (a : Nat), a + sumIns cmds < two64 →
    cmds.foldl (fun n c => (n + c.insertLen) % two64) a = a + sumIns cmds
  | [], a, _ => by simp [sumIns]
  | c :: cs, a, h => by
    simp only [sumIns, List.map_cons, List.sum_cons] at h
    rw [List.foldl_cons, Nat.mod_eq_of_lt (by omega), fold_sum cs _ (by simp only [sumIns]; omega)]
    simp only [sumIns, List.map_cons, List.sum_cons]
    omega

/-- `nc = 1`: no static context map; `nc ≤ 13`: the three maps of `encode.rs` have 2, 3 and 13 contexts -/
def StaticOK (nc : Nat) (scm : List Nat) : Prop :=
  nc = 1 ∨ (2 ≤ nc ∧ nc ≤ 13 ∧ 64 ≤ scm.length ∧ ∀ x ∈ scm, x < nc)

/-- sharper than `HistosOK`: what `BrotliOptimizeHistograms` needs -/
structure HSharp (mbs : MBSplit) : Prop where
  l : ∀ i, i < mbs.litHistosSize → (mbs.litHistos.getD i []).length = 256 ∧ (mbs.litHistos.getD i []).sum ≤ 2 ^ 24
  c : ∀ i, i < mbs.cmdHistosSize → (mbs.cmdHistos.getD i []).length = 704 ∧ (mbs.cmdHistos.getD i []).sum ≤ 2 ^ 24
  d : ∀ i, i < mbs.distHistosSize → (mbs.distHistos.getD i []).length = 544 ∧ (mbs.distHistos.getD i []).sum ≤ 2 ^ 24

/-- 512 / 1024 / 512: the `min_block_size` of the literal / command / distance splitter, which also bounds the padding -/
structure HLens (mbs : MBSplit) (nL nC nD : Nat) : Prop where
  l : nL ≤ mbs.lit.lengths.sum ∧ mbs.lit.lengths.sum ≤ nL + 512 ∧ ∀ x ∈ mbs.lit.lengths, 512 ≤ x
  c : nC ≤ mbs.cmd.lengths.sum ∧ mbs.cmd.lengths.sum ≤ nC + 1024 ∧ ∀ x ∈ mbs.cmd.lengths, 1024 ≤ x
  d : nD ≤ mbs.dist.lengths.sum ∧ mbs.dist.lengths.sum ≤ nD + 512 ∧ ∀ x ∈ mbs.dist.lengths, 512 ≤ x

theorem buildGreedy_ok {F : Type} (ops : FOps F) (hirr : OracleOK ops) (ring : Bytes) (start mask prevByte prevByte2 mode nc : Nat)
    (scm : List Nat) (cmds : List Cmd) (mb hist : Bytes) (A np nd : Nat)
    (hR : RingHolds ring mask start mb) (h256 : ∀ b ∈ mb, b < 256) (hh256 : ∀ b ∈ hist, b < 256)
    (h64 : start + mb.length < two64) (hprev : prevByte = lastB hist ∧ prevByte2 = last2B hist) (hmode : mode < 4)
    (hst : StaticOK nc scm) (hA : A ≤ 544)
    (hok : ∀ c ∈ cmds, cmdOK A np nd c = true) (hcl2 : ∀ c ∈ cmds, copyLen c ≠ 0 → 2 ≤ copyLen c)
    (hbook : Book mb.length 0 cmds) (hsz1 : mb.length + 512 ≤ 2 ^ 24) (hsz2 : cmds.length + 1024 ≤ 2 ^ 24) :
    ∃ mbs, buildGreedy ops ring start mask prevByte prevByte2 mode nc scm cmds = .ok mbs ∧ MBOK mbs A ∧
      Covers mbs.litHistos (effMap mbs.litCmap mbs.litCmapSize mbs.lit.numTypes 64) 64
        (remTypes mbs.lit 0 (mbs.lit.lengths.getD 0 0)) (litSymsOf mode hist mb 0 cmds) ∧
      Covers mbs.cmdHistos (trivialMap mbs.cmd.numTypes 1) 1
        (remTypes mbs.cmd 0 (mbs.cmd.lengths.getD 0 0)) (cmds.map fun c => (0, c.cmdPrefix)) ∧
      Covers mbs.distHistos (effMap mbs.distCmap mbs.distCmapSize mbs.dist.numTypes 4) 4
        (remTypes mbs.dist 0 (mbs.dist.lengths.getD 0 0)) (distSymsOf cmds) ∧ HSharp mbs ∧
      HLens mbs (litSymsOf mode hist mb 0 cmds).length cmds.length (distSymsOf cmds).length := by
  have hsum := book_sum mb.length cmds 0 (Nat.zero_le _) hbook
  rw [Nat.zero_add] at hsum
  have hNL : cmds.foldl (fun n c => (n + c.insertLen) % two64) 0 = sumIns cmds := by
    rw [fold_sum cmds 0 (by unfold two64; omega), Nat.zero_add]
  obtain ⟨plain, hplain⟩ : ∃ plain : Bool, plain = decide (nc = 1) := ⟨_, rfl⟩
  obtain ⟨scm', hscm'⟩ : ∃ scm' : List Nat, scm' = if plain then [] else scm := ⟨_, rfl⟩
  have hnc1 : 1 ≤ nc := by rcases hst with h | h <;> omega
  have hnc13 : nc ≤ 13 := by rcases hst with h | h <;> omega
  have hpn : plain = true → nc = 1 := by intro h; rw [hplain] at h; simpa using h
  have hnp : plain = false → 2 ≤ nc ∧ 64 ≤ scm.length ∧ (∀ x ∈ scm, x < nc) ∧ scm' = scm := by
    intro h
    rw [hplain] at h
    have hne : nc ≠ 1 := by simpa using h
    rcases hst with h1 | h1
    · exact absurd h1 hne
    · refine ⟨h1.1, h1.2.2.1, h1.2.2.2, ?_⟩
      rw [hscm', hplain, decide_eq_false hne]; rfl
  have hLs : ∀ p ∈ (litSymsOf mode hist mb 0 cmds).map (phi plain scm'), p.1 < nc ∧ p.2 < 256 := by
    intro p hp
    obtain ⟨q, hq, rfl⟩ := List.mem_map.mp hp
    have hq' := litSymsOf_mem mode hist mb hh256 h256 cmds 0 q hq
    refine ⟨?_, hq'.1⟩
    show gOf plain scm' q.1 < nc
    unfold gOf
    cases hpl : plain with
    | true => exact hnc1
    | false =>
      obtain ⟨h2, h64', hv, hs⟩ := hnp hpl
      rw [hs]
      exact hv _ (getD_mem scm q.1 0 (Nat.lt_of_lt_of_le hq'.2 h64'))
  obtain ⟨l0, l1, lS, il, lf, lfin, L⟩ := splitter_ok ops hirr plain nc 256 256 512 ops.thrLit (sumIns cmds) 256 hnc1 hnc13 hpn
    (by decide) (Nat.le_refl _) (Nat.le_refl _) (by omega) _ hLs
    (by rw [List.length_map]; exact litSymsOf_length mode hist mb cmds 0)
  have hCs : ∀ p ∈ cmds.map (fun c => ((0 : Nat), c.cmdPrefix)), p.1 < 1 ∧ p.2 < 704 := by
    intro p hp
    obtain ⟨c, hc, rfl⟩ := List.mem_map.mp hp
    obtain ⟨_, _, _, _, hlens⟩ := cmd_facts A np nd c (hok c hc)
    exact ⟨Nat.zero_lt_one, hlens.sym⟩
  obtain ⟨c0, c1, cS, ic, cf, cfin, C⟩ := splitter_ok ops hirr true 1 704 704 1024 ops.thrCmd cmds.length 704 (Nat.le_refl _)
    (by decide) (fun _ => rfl) (by decide) (Nat.le_refl _) (Nat.le_refl _) (by omega) _ hCs
    (by rw [List.length_map]; exact Nat.le_refl _)
  have hDs : ∀ p ∈ (distSymsOf cmds).map (fun p => ((0 : Nat), p.2)), p.1 < 1 ∧ p.2 < A := by
    intro p hp
    obtain ⟨q, hq, rfl⟩ := List.mem_map.mp hp
    unfold distSymsOf at hq
    obtain ⟨c, hc, rfl⟩ := List.mem_map.mp hq
    exact ⟨Nat.zero_lt_one, (cmdOK_elim (hok c (List.mem_filter.mp hc).1)).dsym⟩
  obtain ⟨d0, d1, dS, id, df, dfin, D⟩ := splitter_ok ops hirr true 1 544 64 512 ops.thrDist cmds.length A (Nat.le_refl _)
    (by decide) (fun _ => rfl) (by decide) (by decide) hA (by omega) _ hDs
    (by rw [List.length_map]; unfold distSymsOf; rw [List.length_map]; exact List.length_filter_le _ _)
  have hntL : 1 ≤ lS.numTypes := L.split.nt1
  have hE : GEnv.OK ⟨ring, mask, start, mb, hist, mode, scm', plain⟩ :=
    ⟨hR, h256, hh256, hmode, fun h => by have := hnp h; dsimp only at *; rw [this.2.2.2]; exact this.2.1, h64⟩
  obtain ⟨st', g1, g2, g3, g4⟩ := greedyCmds_sim ops ⟨ring, mask, start, mb, hist, mode, scm', plain⟩ hE cmds 0
    ⟨start, prevByte, prevByte2, l0, c0, d0⟩ l1 c1 d1 hbook hcl2
    (by dsimp only; rw [posOf_zero _ (by omega)]) (by simpa using hprev.1) (by simpa using hprev.2) lf cf df
  have hcmap : ∃ cmap, (if nc > 1 then mapStaticContexts nc lS.numTypes scm' else Out.ok []) = .ok cmap ∧
      (cmap.length = 0 → nc = 1) ∧
      (cmap.length ≠ 0 → cmap.length = 64 * lS.numTypes ∧ ∀ x ∈ cmap, x < lS.numTypes * nc) ∧
      ∀ t c, t < lS.numTypes → c < 64 →
        (effMap cmap cmap.length lS.numTypes 64).getD (t * 64 + c) 0 = t * nc + gOf plain scm' c := by
    by_cases h1 : nc = 1
    · have hpl : plain = true := by rw [hplain, h1]; rfl
      refine ⟨[], by rw [if_neg (by omega)], fun _ => h1, fun hz => absurd rfl hz, fun t c ht hc => ?_⟩
      unfold effMap
      rw [if_pos List.length_nil, trivialMap_get _ _ _ _ ht hc, h1]
      simp [gOf, hpl]
    · have hpl : plain = false := by rw [hplain]; exact decide_eq_false h1
      obtain ⟨h2, h64', hv, hs⟩ := hnp hpl
      have hne : (cmapOf nc scm lS.numTypes).length ≠ 0 := by rw [cmapOf_length]; omega
      rw [if_pos (by omega), hs, mapStaticContexts_spec nc lS.numTypes scm h64' L.split.nt hnc13 hv]
      refine ⟨_, rfl, fun hz => absurd hz hne, fun _ => ⟨by rw [cmapOf_length, Nat.mul_comm], fun x hx => ?_⟩,
        fun t c ht hc => ?_⟩
      · unfold cmapOf at hx
        simp only [List.mem_flatMap, List.mem_range, List.mem_map] at hx
        obtain ⟨i, hi, j, hj, rfl⟩ := hx
        have hv := hv _ (getD_mem scm j 0 (Nat.lt_of_lt_of_le hj h64'))
        have : (i + 1) * nc ≤ lS.numTypes * nc := Nat.mul_le_mul_right _ hi
        rw [Nat.add_mul, Nat.one_mul] at this
        omega
      · unfold effMap
        rw [if_neg hne, cmapOf_get _ _ _ _ _ ht hc]
        simp [gOf, hpl]
  obtain ⟨cmap, hc1, hc2, hc3, hc4⟩ := hcmap
  have hlK : lS.histosSize * nc = lS.numTypes * nc := by rw [L.size]
  refine ⟨{ lit := lS.toSplit, cmd := cS.toSplit, dist := dS.toSplit, litCmap := cmap, litCmapSize := cmap.length,
            distCmap := [], distCmapSize := 0, litHistos := lS.flat, litHistosSize := lS.histosSize * nc,
            cmdHistos := cS.flat, cmdHistosSize := cS.histosSize, distHistos := dS.flat,
            distHistosSize := dS.histosSize }, ?_, ?_, ?_, ?_, ?_, ?_, ?_⟩
  · unfold buildGreedy
    simp only [hNL, ← hplain, ← hscm']
    rw [il, Out.bind_ok, ic, Out.bind_ok, id, Out.bind_ok, g1, Out.bind_ok, g2, lfin, Out.bind_ok, g3, cfin, Out.bind_ok,
      g4, dfin, Out.bind_ok, hc1, Out.bind_ok]
  · have hC := C.histos
    have hD := D.histos
    rw [Nat.mul_one] at hC hD
    refine ⟨L.split, C.split, D.split, ?_, ?_, ?_, C.size, ?_, ?_, fun _ => D.size, fun hz => absurd rfl hz⟩
    · show HistosOK lS.flat (lS.histosSize * nc) 256 256
      rw [hlK]; exact L.histos
    · show HistosOK cS.flat cS.histosSize 704 704
      rw [C.size]; exact hC
    · show HistosOK dS.flat dS.histosSize A A
      rw [D.size]
      exact ⟨hD.sz, hD.sz1, hD.sz256, fun i hi => ⟨Nat.le_trans hA (hD.each i hi).1, (hD.each i hi).2⟩⟩
    · intro hz
      show lS.histosSize * nc = lS.numTypes
      rw [hc2 hz, Nat.mul_one]; exact L.size
    · intro hz
      exact ⟨(hc3 hz).1, rfl, fun x hx => by show x < lS.histosSize * nc; rw [hlK]; exact (hc3 hz).2 x hx⟩
  · apply L.covers _ 64 (gOf plain scm') _ rfl hc4
    · intro p hp
      exact (litSymsOf_mem mode hist mb hh256 h256 cmds 0 p hp).2
  · apply C.covers _ 1 (fun _ => 0) (cmds.map fun c => (0, c.cmdPrefix)) (by rw [List.map_map]; rfl)
    · intro t c ht hc
      show (trivialMap cS.numTypes 1).getD (t * 1 + c) 0 = t * 1 + 0
      rw [trivialMap_get _ _ _ _ ht hc]
      exact (Nat.mul_one t).symm
    · intro p hp
      obtain ⟨c, _, rfl⟩ := List.mem_map.mp hp
      exact Nat.lt_succ_self 0
  · apply D.covers _ 4 (fun _ => 0) _ rfl
    · intro t c ht hc
      show (effMap [] 0 dS.numTypes 4).getD (t * 4 + c) 0 = _
      unfold effMap
      rw [if_pos rfl, trivialMap_get _ _ _ _ ht hc]
      exact (Nat.mul_one t).symm
    · intro p hp
      unfold distSymsOf at hp
      obtain ⟨c, _, rfl⟩ := List.mem_map.mp hp
      exact distanceContext_lt c
  · have h24 : sumIns cmds ≤ 2 ^ 24 ∧ cmds.length ≤ 2 ^ 24 := ⟨by omega, by omega⟩
    refine ⟨fun i hi => ?_, fun i hi => ?_, fun i hi => ?_⟩
    · have := L.sharp i (by rw [← L.size]; exact hi)
      exact ⟨this.1, Nat.le_trans this.2 h24.1⟩
    · have := C.sharp i (by rw [Nat.mul_one, ← C.size]; exact hi)
      exact ⟨this.1, Nat.le_trans this.2 h24.2⟩
    · have := D.sharp i (by rw [Nat.mul_one, ← D.size]; exact hi)
      exact ⟨this.1, Nat.le_trans this.2 h24.2⟩
  · have hl := L.lens
    have hc := C.lens
    have hd := D.lens
    rw [List.length_map] at hl hc hd
    exact ⟨hl, hc, hd⟩

end BV.Greedy
