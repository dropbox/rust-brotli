import BV.Lemmas.StreamContract
/-
The `process_metadata` loop: what one iteration does, its invariant `MdInv`, why it breaks, and the loop as a run
of iterations.
-/
namespace BV.Stream
open BV.Bits

theorem lt_two32_of_le {a : Nat} (h : a ≤ 16777216) : a < two32 := by unfold two32; omega

theorem lt_two64_of_le {a : Nat} (h : a ≤ 16777216) : a < two64 := by unfold two64; omega

/-- `n`: the bytes offered to the call -/
structure MdInv (n : Nat) (s : St) (io : Io) : Prop where
  inv : Inv s
  st : s.streamState = .metadataHead ∨ s.streamState = .metadataBody
  rmLe : s.remainingMetadata ≤ 16777216
  avail : io.availIn = s.remainingMetadata
  availLe : io.availIn ≤ n

def MdDone (s : St) (io : Io) : Prop :=
  Inv s ∧ s.remainingMetadata = u32Max ∧ s.streamState = .processing ∧ io.availIn = 0

def mdHeadSt (s : St) : St :=
  { s with nextOut := .tiny 0, pending := toBytes (metadataHeaderBits s.remainingMetadata s.carry), lastBytes := 0,
           lastBytesBits := 0, streamState := .metadataBody }

def mdDoneSt (s : St) : St := { s with remainingMetadata := u32Max, streamState := .processing }

def mdOutN (s : St) (io : Io) : Nat := (min s.remainingMetadata io.availOut) % two32

def mdOutSt (s : St) (io : Io) : St :=
  { s with remainingMetadata := (s.remainingMetadata + two32 - mdOutN s io) % two32, totalOut := (s.totalOut + mdOutN s io) % two64 }

def mdOutIo (s : St) (io : Io) : Io :=
  { io with input := io.input.drop (mdOutN s io), availIn := (io.availIn + two64 - mdOutN s io) % two64,
            availOut := io.availOut - mdOutN s io, out := io.out ++ io.input.take (mdOutN s io) }

def mdTinyN (s : St) : Nat := min s.remainingMetadata 16

def mdTinySt (s : St) (io : Io) : St :=
  { s with nextOut := .tiny 0, pending := io.input.take (mdTinyN s),
           remainingMetadata := (s.remainingMetadata + two32 - mdTinyN s) % two32 }

def mdTinyIo (s : St) (io : Io) : Io :=
  { io with input := io.input.drop (mdTinyN s), availIn := (io.availIn + two64 - mdTinyN s) % two64 }

theorem mdStep_ok {o : Oracle} {s s' : St} {io io' : Io} {c : Ctl}
    (h : processMetadataStep o s io = .ok (s', io', c)) :
    (injectFlushOrPushOutput s io = .ok (s', io', true) ∧ c = .cont) ∨
    (injectFlushOrPushOutput s io = .ok (s, io, false) ∧
      ((s.pending.length ≠ 0 ∧ s' = s ∧ io' = io ∧ c = .brk) ∨
       (s.pending.length = 0 ∧
        ((s.inputPos ≠ s.lastFlushPos ∧ ∃ res req, encodeData o s 1 false true = .ok (s', res, req) ∧
            io' = { io with reqs := io.reqs ++ [req] } ∧ c = (if res then .cont else .fail)) ∨
         (s.inputPos = s.lastFlushPos ∧
          ((s.streamState = .metadataHead ∧ s' = mdHeadSt s ∧ io' = io ∧ c = .cont ∧
              ¬ ((bitsOf s.lastBytesBits s.lastBytes).length + 6) / 8 + 8 > 16) ∨
           (s.streamState ≠ .metadataHead ∧
            ((s.remainingMetadata = 0 ∧ s' = mdDoneSt s ∧ io' = io ∧ c = .brk) ∨
             (s.remainingMetadata ≠ 0 ∧
              ((io.availOut ≠ 0 ∧ mdOutN s io ≤ io.input.length ∧ s' = mdOutSt s io ∧ io' = mdOutIo s io ∧ c = .cont) ∨
               (io.availOut = 0 ∧ mdTinyN s ≤ io.input.length ∧ s' = mdTinySt s io ∧ io' = mdTinyIo s io ∧ c = .cont))))))))))) := by
  unfold processMetadataStep at h
  cases hp : injectFlushOrPushOutput s io with
  | panic => rw [hp] at h; cases h
  | fuel => rw [hp] at h; cases h
  | ok x =>
    obtain ⟨s1, io1, b⟩ := x
    rw [hp] at h
    cases b
    · obtain ⟨rfl, rfl, _⟩ := push_false hp
      refine Or.inr ⟨rfl, ?_⟩
      simp only at h
      by_cases h1 : s1.pending.length ≠ 0
      · rw [if_pos h1] at h; cases h; exact Or.inl ⟨h1, rfl, rfl, rfl⟩
      rw [if_neg h1] at h
      refine Or.inr ⟨Decidable.of_not_not h1, ?_⟩
      by_cases h2 : s1.inputPos ≠ s1.lastFlushPos
      · rw [if_pos h2] at h
        refine Or.inl ⟨h2, ?_⟩
        cases henc : encodeData o s1 1 false true with
        | panic => rw [henc] at h; cases h
        | fuel => rw [henc] at h; cases h
        | ok y =>
          obtain ⟨s2, res, req⟩ := y
          rw [henc] at h
          cases res
          · cases h; exact ⟨_, _, rfl, rfl, rfl⟩
          · cases h; exact ⟨_, _, rfl, rfl, rfl⟩
      rw [if_neg h2] at h
      refine Or.inr ⟨Decidable.of_not_not h2, ?_⟩
      by_cases h3 : s1.streamState = .metadataHead
      · rw [if_pos h3] at h
        obtain ⟨hb, hx⟩ := ok_of_ite_panic h
        cases hx
        exact Or.inl ⟨h3, rfl, rfl, rfl, hb⟩
      rw [if_neg h3] at h
      refine Or.inr ⟨h3, ?_⟩
      by_cases h4 : s1.remainingMetadata = 0
      · rw [if_pos h4] at h; cases h; exact Or.inl ⟨h4, rfl, rfl, rfl⟩
      rw [if_neg h4] at h
      refine Or.inr ⟨h4, ?_⟩
      by_cases h5 : io1.availOut ≠ 0
      · rw [if_pos h5] at h
        obtain ⟨hb, hx⟩ := ok_of_ite_panic h
        cases hx
        exact Or.inl ⟨h5, Nat.le_of_not_gt hb, rfl, rfl, rfl⟩
      · rw [if_neg h5] at h
        obtain ⟨hb, hx⟩ := ok_of_ite_panic h
        cases hx
        exact Or.inr ⟨Decidable.of_not_not h5, Nat.le_of_not_gt hb, rfl, rfl, rfl⟩
    · cases h; exact Or.inl ⟨rfl, rfl⟩

theorem mdInv_consume {n : Nat} {s : St} {io : Io} (hP : MdInv n s io) (hb : s.streamState ≠ .metadataHead) :
    MdInv n (mdOutSt s io) (mdOutIo s io) ∧ MdInv n (mdTinySt s io) (mdTinyIo s io) := by
  have hI := hP.inv
  have hbody : s.streamState = .metadataBody := hP.st.resolve_left hb
  have hrm32 := lt_two32_of_le hP.rmLe
  have main : ∀ copy, copy ≤ s.remainingMetadata →
      Inv { s with remainingMetadata := (s.remainingMetadata + two32 - copy) % two32 } ∧
      (s.remainingMetadata + two32 - copy) % two32 ≤ 16777216 ∧
      (io.availIn + two64 - copy) % two64 = (s.remainingMetadata + two32 - copy) % two32 ∧
      (io.availIn + two64 - copy) % two64 ≤ n := by
    intro copy hle
    have e1 : (s.remainingMetadata + two32 - copy) % two32 = s.remainingMetadata - copy := add_sub_mod_self hle hrm32
    have e2 : (io.availIn + two64 - copy) % two64 = io.availIn - copy :=
      add_sub_mod_self (by rw [hP.avail]; exact hle) (by rw [hP.avail]; exact lt_two64_of_le hP.rmLe)
    have hrm : s.remainingMetadata - copy ≤ 16777216 := Nat.le_trans (Nat.sub_le _ _) hP.rmLe
    rw [e1, e2]
    refine ⟨⟨hI.init, hI.fl_le, hI.lp_le, hI.ip_lt, hI.blk, hI.lastFin, ?_, fun _ => hrm, hI.q01, ?_⟩, hrm,
      by rw [hP.avail], Nat.le_trans (Nat.sub_le _ _) hP.availLe⟩
    · exact ⟨fun _ => (by show s.remainingMetadata - copy ≠ u32Max; have := u32Max_gt; omega), fun _ => hP.st⟩
    · intro hfl
      have : s.streamState = .flushRequested := hfl
      rw [hbody] at this; cases this
  have hN : mdOutN s io ≤ s.remainingMetadata := by
    unfold mdOutN
    rw [Nat.mod_eq_of_lt (Nat.lt_of_le_of_lt (Nat.min_le_left _ _) hrm32)]
    exact Nat.min_le_left _ _
  obtain ⟨i1, r1, a1, l1⟩ := main _ hN
  obtain ⟨i2, r2, a2, l2⟩ := main _ (Nat.min_le_left _ _ : mdTinyN s ≤ _)
  exact ⟨⟨i1.of_frame rfl rfl rfl rfl, hP.st, r1, a1, l1⟩, ⟨i2.of_frame rfl rfl rfl rfl, hP.st, r2, a2, l2⟩⟩

theorem mdStep_spec {o : Oracle} {n : Nat} {s s' : St} {io io' : Io} {c : Ctl} (hP : MdInv n s io)
    (h : processMetadataStep o s io = .ok (s', io', c)) :
    c ≠ .fail ∧ (MdInv n s' io' ∨ (c = .brk ∧ MdDone s' io')) := by
  have hI := hP.inv
  have hnf : s.streamState ≠ .finished := by rcases hP.st with h1 | h1 <;> rw [h1] <;> simp
  rcases mdStep_ok h with ⟨hp, rfl⟩ | ⟨_, ⟨_, rfl, rfl, rfl⟩ | ⟨_, ⟨_, res, req, henc, rfl, rfl⟩ |
    ⟨_, ⟨hhead, rfl, rfl, rfl, _⟩ | ⟨hnhead, ⟨hz, rfl, rfl, rfl⟩ | ⟨_, ⟨_, _, rfl, rfl, rfl⟩ | ⟨_, _, rfl, rfl, rfl⟩⟩⟩⟩⟩⟩
  · have fa := (push_frame hp).availIn
    have f := St.frame_eq (push_frame hp).frame
    refine ⟨by simp, Or.inl ⟨inv_push hI hp, ?_, ?_, ?_, ?_⟩⟩
    · rw [f.streamState]; exact hP.st
    · rw [f.remainingMetadata]; exact hP.rmLe
    · rw [fa, f.remainingMetadata]; exact hP.avail
    · rw [fa]; exact hP.availLe
  · exact ⟨by simp, Or.inl hP⟩
  · cases encodeData_succeeds hI hnf henc
    obtain ⟨f, _, _, _, _⟩ := encodeData_frame henc
    replace f := St.frame_eq f
    refine ⟨by simp, Or.inl ⟨inv_encode hI henc rfl, ?_, ?_, ?_, hP.availLe⟩⟩
    · rw [f.streamState]; exact hP.st
    · rw [f.remainingMetadata]; exact hP.rmLe
    · rw [f.remainingMetadata]; exact hP.avail
  · refine ⟨by simp, Or.inl ⟨?_, Or.inr rfl, hP.rmLe, hP.avail, hP.availLe⟩⟩
    refine hI.transfer rfl rfl rfl rfl ?_ hI.fl_le hI.lp_le (Nat.le_refl _) ?_ hI.q01 ?_
    · show SState.metadataBody.isMd = s.streamState.isMd
      rw [hhead]; rfl
    · intro hle; exact absurd (hI.lastFin hle) hnf
    · intro hfl; cases hfl
  · refine ⟨by simp, Or.inr ⟨rfl, ?_, rfl, rfl, ?_⟩⟩
    · refine ⟨hI.init, hI.fl_le, hI.lp_le, hI.ip_lt, hI.blk, ?_, ?_, ?_, hI.q01, ?_⟩
      · intro hle; exact absurd (hI.lastFin hle) hnf
      · exact ⟨fun hmd => (by rcases hmd with hmd | hmd <;> cases hmd), fun hne => absurd rfl hne⟩
      · intro hne; exact absurd rfl hne
      · intro hfl; cases hfl
    · rw [hP.avail, hz]
  · exact ⟨by simp, Or.inl (mdInv_consume hP hnhead).1⟩
  · exact ⟨by simp, Or.inl (mdInv_consume hP hnhead).2⟩

theorem mdLoop_induct {o : Oracle} (P : St → Io → Prop)
    (hstep : ∀ s io s' io', P s io → processMetadataStep o s io = .ok (s', io', .cont) → P s' io') :
    ∀ fuel s io s' io' r, P s io → processMetadataLoop o fuel s io = .ok (s', io', r) →
      ∃ s1 io1, P s1 io1 ∧ processMetadataStep o s1 io1 = .ok (s', io', if r then .brk else .fail) := by
  intro fuel
  induction fuel with
  | zero => intro s io s' io' r _ h; simp [processMetadataLoop] at h
  | succ k ih =>
    intro s io s' io' r hP h
    unfold processMetadataLoop at h
    cases hs : processMetadataStep o s io with
    | panic => rw [hs] at h; cases h
    | fuel => rw [hs] at h; cases h
    | ok x =>
      obtain ⟨s1, io1, c⟩ := x
      rw [hs] at h
      cases c
      · exact ih _ _ _ _ _ (hstep _ _ _ _ hP hs) h
      · cases h; exact ⟨s, io, hP, hs⟩
      · cases h; exact ⟨s, io, hP, hs⟩

theorem mdEnter_eq (s : St) (n : Nat) :
    mdEnter s n = { s with remainingMetadata := (mdEnter s n).remainingMetadata, streamState := (mdEnter s n).streamState } := by
  unfold mdEnter
  split <;> rfl

theorem mdEnter_fields (s : St) (n : Nat) :
    (mdEnter s n).pending = s.pending ∧ (mdEnter s n).lastBytes = s.lastBytes ∧ (mdEnter s n).lastBytesBits = s.lastBytesBits
    ∧ (mdEnter s n).inputPos = s.inputPos ∧ (mdEnter s n).lastFlushPos = s.lastFlushPos := by
  unfold mdEnter
  split <;> simp

theorem mdInv_enter {s : St} {io : Io} (hI : Inv s)
    (hentry : (s.remainingMetadata ≠ u32Max ∧ io.availIn = s.remainingMetadata) ∨
              (s.remainingMetadata = u32Max ∧ s.streamState = .processing ∧ io.availIn ≤ 16777216)) :
    MdInv io.availIn (mdEnter s io.availIn) io := by
  unfold mdEnter
  rcases hentry with ⟨h1, h2⟩ | ⟨h1, h2, h3⟩
  · have hst := hI.mdIff.mpr h1
    have hnp : s.streamState ≠ .processing := by rcases hst with h | h <;> rw [h] <;> simp
    rw [if_neg hnp]
    exact ⟨hI, hst, hI.mdLe h1, h2, Nat.le_refl _⟩
  · rw [if_pos h2]
    have hmod : io.availIn % two32 = io.availIn := Nat.mod_eq_of_lt (lt_two32_of_le h3)
    refine ⟨?_, Or.inl (by simp), ?_, ?_, Nat.le_refl _⟩
    · refine ⟨hI.init, hI.fl_le, hI.lp_le, hI.ip_lt, hI.blk, ?_, ?_, ?_, hI.q01, ?_⟩
      · intro hle2
        have := hI.lastFin hle2
        rw [h2] at this; cases this
      · simp only [hmod]
        constructor
        · intro _; have := u32Max_gt; omega
        · intro _; exact Or.inl trivial
      · intro _; simp only [hmod]; exact h3
      · intro hfl; cases hfl
    · simp only [hmod]; exact h3
    · simp only [hmod]

/-- the hypotheses are the guards an EMIT_METADATA call passes, in the form the code tests them: `hg` in
`compress_stream`, `hle` and `hgood` in `process_metadata` -/
theorem mdInv_call {s : St} {io : Io} {op : Nat} (hI : Inv s)
    (hg : ¬ (s.remainingMetadata ≠ u32Max ∧ (io.availIn ≠ s.remainingMetadata ∨ op ≠ 3)))
    (hle : ¬ io.availIn > 16777216)
    (hgood : ¬ ((mdEnter (updateSizeHint s 0) io.availIn).streamState ≠ .metadataHead ∧
                (mdEnter (updateSizeHint s 0) io.availIn).streamState ≠ .metadataBody)) :
    MdInv io.availIn (mdEnter (updateSizeHint s 0) io.availIn) io := by
  have hIu := inv_updateSizeHint hI 0
  obtain ⟨_, _, _, _, _, _, hRemainingMetadata, _, hStreamState, _⟩ := updateSizeHint_fields s 0
  refine mdInv_enter hIu ?_
  by_cases hpr : (updateSizeHint s 0).streamState = .processing
  · refine Or.inr ⟨Decidable.of_not_not fun hne => ?_, hpr, Nat.le_of_not_gt hle⟩
    rcases hIu.mdIff.mpr hne with h | h <;> rw [hpr] at h <;> cases h
  · have hst : (updateSizeHint s 0).streamState = .metadataHead ∨ (updateSizeHint s 0).streamState = .metadataBody := by
      unfold mdEnter at hgood
      rw [if_neg hpr] at hgood
      by_cases h1 : (updateSizeHint s 0).streamState = .metadataHead
      · exact Or.inl h1
      · exact Or.inr (Decidable.of_not_not fun h2 => hgood ⟨h1, h2⟩)
    have hrm := hIu.mdIff.mp hst
    refine Or.inl ⟨hrm, ?_⟩
    rw [hRemainingMetadata] at hrm ⊢
    exact Decidable.of_not_not fun hne => hg ⟨hrm, Or.inl hne⟩

theorem mdStep_brk {o : Oracle} {s s' : St} {io io' : Io}
    (h : processMetadataStep o s io = .ok (s', io', .brk)) :
    (s'.pending.length ≠ 0 ∧ io'.availOut = 0) ∨ (s'.pending.length = 0 ∧ s'.remainingMetadata = u32Max) := by
  rcases mdStep_ok h with ⟨_, hb⟩ | ⟨hp, ⟨hpend, rfl, rfl, _⟩ | ⟨hp0, ⟨_, res, _, _, _, hb⟩ |
    ⟨_, ⟨_, _, _, hb, _⟩ | ⟨_, ⟨_, rfl, _, _⟩ | ⟨_, ⟨_, _, _, _, hb⟩ | ⟨_, _, _, _, hb⟩⟩⟩⟩⟩⟩
  · cases hb
  · obtain ⟨_, _, _, p2⟩ := push_false hp
    exact Or.inl ⟨hpend, Decidable.of_not_not (fun hz => p2 ⟨hpend, hz⟩)⟩
  · cases res <;> cases hb
  · cases hb
  · exact Or.inr ⟨hp0, rfl⟩
  · cases hb
  · cases hb

end BV.Stream
