/-
The table facts tying the 64 + 64 command codes of the two-pass writer to the insert / copy tables of RFC 7932 §5 and the
distance codes of §4.
-/
import BV.Model.Fragment
namespace BV.Fragment
open BV.Bits BV.MetaBlock BV.Huffman BV.PrefixArith BV.Recoder

/-- `cmd_tables` as a `Bool`, so that the kernel can run it over the 64 codes.  22594 is the last insert offset, 24 the
largest extra-bit count. -/
def tabOK (c : Nat) : Bool :=
  match rfcInsTable[(rfcCmdDecode (q1Symbol c)).1]?, rfcCopyTable[(rfcCmdDecode (q1Symbol c)).2.1]? with
  | some (ib, ie), some (_, ce) =>
    decide (q1Symbol c < 704) && decide (kNumExtraBits.getD c 0 ≤ 24) &&
    (if c < 24 then ie == kNumExtraBits.getD c 0 && ce == 0 && ib == kInsertOffset.getD c 0 && decide (ib ≤ 22594)
      && decide (c < kInsertOffset.length)
     else ie == 0 && ce == kNumExtraBits.getD c 0 && ib == 0)
  | _, _ => false

theorem tab_all : (List.range 64).all tabOK = true := by decide +kernel

theorem cmd_tables (c : Nat) (h : c < 64) :
    ∃ ib ie cb ce, rfcInsTable[(rfcCmdDecode (q1Symbol c)).1]? = some (ib, ie) ∧
      rfcCopyTable[(rfcCmdDecode (q1Symbol c)).2.1]? = some (cb, ce) ∧ q1Symbol c < 704 ∧
      kNumExtraBits.getD c 0 ≤ 24 ∧
      (if c < 24 then ie = kNumExtraBits.getD c 0 ∧ ce = 0 ∧ ib = kInsertOffset.getD c 0 ∧ ib ≤ 22594 ∧
          c < kInsertOffset.length
        else ie = 0 ∧ ce = kNumExtraBits.getD c 0 ∧ ib = 0) := by
  have htab := List.all_eq_true.mp tab_all c (List.mem_range.mpr h)
  unfold tabOK at htab
  cases hti : rfcInsTable[(rfcCmdDecode (q1Symbol c)).1]? with
  | none => rw [hti] at htab; simp at htab
  | some ibie =>
  cases htc : rfcCopyTable[(rfcCmdDecode (q1Symbol c)).2.1]? with
  | none => rw [hti, htc] at htab; simp at htab
  | some cbce =>
  obtain ⟨ib, ie⟩ := ibie
  obtain ⟨cb, ce⟩ := cbce
  rw [hti, htc] at htab
  simp only [Bool.and_eq_true, decide_eq_true_eq] at htab
  obtain ⟨⟨h704, h24⟩, htab⟩ := htab
  refine ⟨ib, ie, cb, ce, rfl, rfl, h704, h24, ?_⟩
  by_cases hc : c < 24
  · simp only [hc, if_true, Bool.and_eq_true, beq_iff_eq, decide_eq_true_eq] at htab ⊢
    obtain ⟨⟨⟨⟨a, b⟩, d⟩, e⟩, f⟩ := htab
    exact ⟨a, b, d, e, f⟩
  · simp only [hc, if_false, Bool.and_eq_true, beq_iff_eq] at htab ⊢
    obtain ⟨⟨a, b⟩, d⟩ := htab
    exact ⟨a, b, d⟩

/-- the left side has the shape of the reader's `if ds < 16 + NDIRECT then 0 else rfcDistNBits NPOSTFIX NDIRECT ds` at
NPOSTFIX = NDIRECT = 0, so that it rewrites there -/
theorem dist_all : ∀ dc < 128, 64 ≤ dc →
    (if dc - 64 < 16 + 0 then 0 else rfcDistNBits 0 0 (dc - 64)) = kNumExtraBits.getD dc 0 ∧
    kNumExtraBits.getD dc 0 ≤ 24 := by decide +kernel

theorem kNumExtraBits_length : kNumExtraBits.length = 128 := by decide +kernel

end BV.Fragment
