/-
`CreateCommands` of the two-pass writer (model `createCommands`: the real hash-table match finder) as `Out.Spec`
statements.  The loops keep ANY invariant of the buffers that the two ways of emitting a match keep (`Emits`): the replay
invariant (BV/Lemmas/FragmentReplay.lean) is one, `True` another.
-/
import BV.Model.Fragment
import BV.Lemmas.Bits
namespace BV.Fragment
open BV.Bits BV.Bits.Out

/-- the table stores positions `as i32`; from `2^31` on that cast goes negative and `TB` is lost.  Every
`< 2147483648` below (on the input size, on the block end) is there to reach this lemma. -/
theorem asI32_small (v : Nat) (h : v < 2147483648) : asI32 v = (v : Int) := by
  have e32 : two32 = 4294967296 := rfl
  unfold asI32
  have : v % two32 = v := Nat.mod_eq_of_lt (by omega)
  rw [this, if_pos h]

theorem i32AsUsize_nat (v : Nat) : i32AsUsize (v : Int) = v := by
  unfold i32AsUsize
  rw [if_pos (by omega)]
  exact Int.toNat_natCast v

theorem i32AsUsize_neg1 : i32AsUsize (-1) = two64 - 1 := by decide

/- `2^64` is written as a literal, and `have e64 : two64 = … := rfl` (likewise `e32`) opens the proofs below,
because `omega` does not unfold `two64`, `two32`. -/
theorem wsub_le (a b : Nat) (h : b ≤ a) (ha : a < 18446744073709551616) : wsub a b = a - b :=
  BV.wrapping_sub_eq a b two64 h ha

theorem wsub_gt (a b : Nat) (h : a < b) (hb : b < 18446744073709551616) : wsub a b = a + 18446744073709551616 - b := by
  have e64 : two64 = 18446744073709551616 := rfl
  unfold wsub
  rw [Nat.mod_eq_of_lt (show b < two64 by omega), e64]
  exact Nat.mod_eq_of_lt (by omega)

def TB (t : Array Int) (n : Nat) : Prop := ∀ i, i < t.size → 0 ≤ t.getD i 0 ∧ t.getD i 0 < (n : Int)

theorem TB.mono {t : Array Int} {n n' : Nat} (h : TB t n) (hn : n ≤ n') : TB t n' := fun i hi =>
  ⟨(h i hi).1, by have := (h i hi).2; omega⟩

theorem load64_spec {a : Array Nat} {i : Nat} : Spec (i + 8 ≤ a.size) (load64 a i) fun _ => True := by
  unfold load64; exact .ite (fun _ => .ok trivial) fun h => .panic h

theorem load32_spec {a : Array Nat} {i : Nat} : Spec (i + 4 ≤ a.size) (load32 a i) fun _ => True := by
  unfold load32; exact .ite (fun _ => .ok trivial) fun h => .panic h

theorem isMatch_spec {a : Array Nat} {i j len : Nat} :
    Spec (i + 7 ≤ a.size ∧ j + 7 ≤ a.size) (isMatch a i j len) fun _ => True := by
  unfold isMatch
  refine .ite (fun _ => .panic (by omega)) fun _ => .bind load32_spec (by omega) fun _ _ _ =>
    .bind load32_spec (by omega) fun _ _ _ => ?_
  exact .ite (fun _ => .ok trivial) fun _ => .ite (fun _ => .ok trivial) fun _ => .ite (fun _ => .ok trivial) fun _ =>
    .ite (fun _ => .ok trivial) fun _ => .panic (by omega)

theorem tset_spec {t : Array Int} {h v : Nat} :
    Spec (h < t.size) (tset t h v) fun t' => t'.size = t.size ∧
      ∀ n, TB t n → v < n → v < 2147483648 → TB t' n := by
  unfold tset
  refine .ite (fun hlt => .ok ⟨Array.size_setIfInBounds .., fun n ht hv h31 i hi => ?_⟩) fun hh => .panic hh
  rw [Array.size_setIfInBounds] at hi
  rw [Array.getD_eq_getD_getElem?, Array.getElem?_setIfInBounds]
  by_cases e : h = i
  · rw [if_pos e, if_pos hlt, asI32_small v h31]
    simp only [Option.getD_some]
    omega
  · rw [if_neg e, ← Array.getD_eq_getD_getElem?]
    exact ht i hi

theorem tget_spec {t : Array Int} {h : Nat} :
    Spec (h < t.size) (tget t h) fun cand => ∀ n, TB t n → cand < n := by
  unfold tget
  refine .ite (fun hlt => .ok fun n ht => ?_) fun hh => .panic hh
  obtain ⟨h0, h1⟩ := ht h hlt
  unfold i32AsUsize
  rw [if_pos h0]
  omega

theorem findMatchLength_go (a : Array Nat) (i j : Nat) : ∀ (f k : Nat),
    (∀ k', k' < k → a.getD (i + k') 0 = a.getD (j + k') 0) →
    findMatchLength.go a i j f k ≤ k + f ∧
      ∀ k', k' < findMatchLength.go a i j f k → a.getD (i + k') 0 = a.getD (j + k') 0 := by
  intro f
  induction f with
  | zero => intro k hk; exact ⟨by simp [findMatchLength.go], by simpa [findMatchLength.go] using hk⟩
  | succ f ih =>
    intro k hk
    rw [findMatchLength.go]
    by_cases he : (a.getD (i + k) 0 == a.getD (j + k) 0) = true
    · rw [if_pos he]
      obtain ⟨l1, l2⟩ := ih (k + 1) (fun k' hk' => by
        by_cases e : k' = k
        · subst e; exact beq_iff_eq.mp he
        · exact hk k' (by omega))
      exact ⟨by omega, l2⟩
    · rw [if_neg he]
      exact ⟨by omega, hk⟩

theorem findMatchLength_spec {a : Array Nat} {i j limit : Nat} :
    Spec (i + limit ≤ a.size ∧ j + limit ≤ a.size) (findMatchLength a i j limit) fun n =>
      n ≤ limit ∧ ∀ k, k < n → a.getD (i + k) 0 = a.getD (j + k) 0 := by
  unfold findMatchLength
  refine .ite (fun _ => .panic (by omega)) fun _ => .ok ?_
  have := findMatchLength_go a i j limit 0 (fun _ h => absurd h (Nat.not_lt_zero _))
  exact ⟨by omega, this.2⟩

theorem pushCmd_spec {capCmd : Nat} {c : CC} {w : Nat} :
    Spec (c.cmds.size < capCmd) (pushCmd capCmd c w) fun c' => c' = { c with cmds := c.cmds.push w } := by
  unfold pushCmd; exact .ite (fun _ => .ok rfl) fun h => .panic h

theorem pushCmds_spec {capCmd : Nat} : ∀ (ws : List Nat) {c : CC},
    Spec (c.cmds.size + ws.length ≤ capCmd) (pushCmds capCmd c ws) fun c' => c' = { c with cmds := c.cmds ++ ws.toArray }
  | [], c => by rw [pushCmds]; exact .ok (by simp)
  | w :: ws, c => by
    rw [pushCmds]
    refine .bind pushCmd_spec (by simp only [List.length_cons]; omega) fun c1 _ e1 => ?_
    subst e1
    exact ((pushCmds_spec ws).weaken (by simp only [Array.size_push, List.length_cons]; omega)).mono
      fun c' e => by rw [e]; simp

theorem pushLits_spec {capLit : Nat} {inp : Array Nat} {c : CC} {start n : Nat} :
    Spec (c.lits.size + n ≤ capLit ∧ start + n ≤ inp.size) (pushLits capLit inp c start n) fun c' =>
      c' = { c with lits := c.lits ++ inp.extract start (start + n) } := by
  unfold pushLits; exact .ite (fun h => .panic (by omega)) fun _ => .ok rfl

theorem extract_toList (inp : Array Nat) (start n : Nat) :
    (inp.extract start (start + n)).toList = (inp.toList.drop start).take n := by
  rw [Array.toList_extract, List.extract_eq_take_drop, Nat.add_sub_cancel_left]

theorem emitDistance_some {d : Nat} (h1 : 1 ≤ d) (h2 : d + 3 < 4294967296) : ∃ w, emitDistanceQ1 d = some w := by
  unfold emitDistanceQ1
  rw [show two32 = 4294967296 from rfl, Nat.mod_eq_of_lt h2, if_neg (by omega)]
  exact ⟨_, rfl⟩

theorem emitCopyLenLastDistanceQ1_length (n : Nat) : (emitCopyLenLastDistanceQ1 n).length ≤ 2 := by
  unfold emitCopyLenLastDistanceQ1
  split
  · simp
  · split
    · simp
    · split
      · simp
      · split <;> simp

structure Sz (inp : Array Nat) (ii mlen inputSize minMatch ipLimit shift T capCmd capLit : Nat) : Prop where
  hmm : minMatch = 4 ∨ minMatch = 6
  h16 : 16 ≤ mlen
  hin : mlen ≤ inputSize
  hsz : ii + inputSize ≤ inp.size
  h31 : inp.size < 2147483648
  hlim : ipLimit + minMatch ≤ ii + mlen
  hmar : ipLimit + 16 ≤ ii + inputSize
  hT : ∀ v off, hashAt v off shift minMatch < T
  hcc : mlen ≤ capCmd
  hcl : mlen ≤ capLit

section
variable {inp : Array Nat} {ii mlen inputSize minMatch ipLimit shift T capCmd capLit : Nat}

/-- what the arithmetic of the loop proofs needs of `Sz`, without its disjunction and without subtraction -/
theorem Sz.facts (sz : Sz inp ii mlen inputSize minMatch ipLimit shift T capCmd capLit) :
    4 ≤ minMatch ∧ minMatch ≤ 6 ∧ ipLimit + 16 ≤ inp.size ∧ ii + mlen ≤ inp.size ∧ inp.size < 2147483648 ∧
    ipLimit + minMatch ≤ ii + mlen ∧ mlen ≤ capCmd ∧ mlen ≤ capLit := by
  obtain ⟨hmm, _, hin, hsz, h31, hlim, hmar, _, hcc, hcl⟩ := sz
  omega

/-- −1 is the initial `last_distance` of `CreateCommands`; a `def`, so that the disjunction stays opaque for `omega` -/
def LdOK (ld : Int) (n : Nat) : Prop := ld = -1 ∨ (0 < ld ∧ ld ≤ (n : Int))

theorem LdOK.mono {ld : Int} {n n' : Nat} (h : LdOK ld n) (hn : n ≤ n') : LdOK ld n' :=
  h.imp id fun ⟨h0, h1⟩ => ⟨h0, by omega⟩

theorem LdOK.cand {ld : Int} {n : Nat} (h : LdOK ld n) (hn : n < 2147483648) : wsub n (i32AsUsize ld) ≤ n + 1 := by
  have e64 : two64 = 18446744073709551616 := rfl
  rcases h with h | ⟨h0, h1⟩
  · rw [h, i32AsUsize_neg1, e64]
    unfold wsub
    rw [e64]
    omega
  · obtain ⟨d, hd⟩ : ∃ d : Nat, ld = (d : Int) := ⟨ld.toNat, by omega⟩
    rw [hd, i32AsUsize_nat, wsub_le n d (by omega) (by omega)]
    omega

/-- 262128 = `MAX_DISTANCE` = 2^18 − 16 of `CreateCommands` -/
structure ScanPost (inp : Array Nat) (minMatch ipLimit ipEnd nextIp : Nat) (c c' : CC) (r : Option Nat) : Prop where
  cm : c'.cmds = c.cmds
  li : c'.lits = c.lits
  ne : c'.nextEmit = c.nextEmit
  ld : c'.lastDist = c.lastDist
  tb : TB c'.table (c'.ip + 1)
  lo : nextIp ≤ c'.ip
  le : c'.ip ≤ ipEnd
  cand : ∀ cand, r = some cand → cand < c'.ip ∧ c'.ip - cand ≤ 262128 ∧ c'.ip < ipLimit ∧
    isMatch inp c'.ip cand minMatch = .ok true
  ts : c'.table.size = c.table.size

/-- `skip` is a `u32` counted up once per step: `skip + f ≤ 2^32 − 1` keeps it from wrapping within the fuel.  Each step
moves the position on by at least one and tests `nextIp > ipLimit` only at its start: `ipLimit + 2 − nextIp` steps
are enough, which is the fuel asked for. -/
theorem scan_spec {inp : Array Nat} {shift minMatch ipLimit ipEnd T : Nat} (hlim : ipLimit ≤ ipEnd)
    (hend : ipEnd < 2147483648) (hT : ∀ v off, hashAt v off shift minMatch < T) :
    ∀ (f skip nextIp nextHash : Nat) (c : CC),
      TB c.table nextIp → 32 ≤ skip → skip + f ≤ 4294967295 → nextIp ≤ ipEnd → LdOK c.lastDist nextIp →
      Spec (c.table.size = T ∧ nextHash < T ∧ ipLimit + 16 ≤ inp.size ∧ 1 ≤ f ∧ ipLimit + 2 ≤ nextIp + f)
        (scan inp shift minMatch ipLimit f skip nextIp nextHash c) fun r =>
          ScanPost inp minMatch ipLimit ipEnd nextIp c r.1 r.2 := by
  have e32 : two32 = 4294967296 := rfl
  intro f
  induction f with
  | zero => intros; exact .fuel (by omega)
  | succ f ih =>
  intro skip nextIp nextHash c htb hskip hfuel hnip hld
  rw [scan]
  simp only []
  have hsk : (skip + 1) % two32 = skip + 1 := Nat.mod_eq_of_lt (by omega)
  refine .ite (fun _ => .ok ⟨rfl, rfl, rfl, rfl, htb.mono (Nat.le_succ _), Nat.le_refl _, hnip,
    fun _ hc => (by cases hc), rfl⟩) fun hexit => ?_
  have hcand := hld.cand (show nextIp < 2147483648 by omega)
  refine .bind load64_spec (by omega) fun v _ _ => .bind isMatch_spec (by omega) fun m hm _ => ?_
  have hrec : ∀ t, TB t (nextIp + 1) → t.size = c.table.size →
      Spec (c.table.size = T ∧ nextHash < T ∧ ipLimit + 16 ≤ inp.size ∧ 1 ≤ f + 1 ∧ ipLimit + 2 ≤ nextIp + (f + 1))
        (scan inp shift minMatch ipLimit f ((skip + 1) % two32) (nextIp + skip / 32)
          (hashAt v 0 shift minMatch) { c with table := t, ip := nextIp }) fun r =>
        ScanPost inp minMatch ipLimit ipEnd nextIp c r.1 r.2 := fun t ht hs => by
    rw [hsk]
    have hv := hT v 0
    exact ((ih (skip + 1) (nextIp + skip / 32) _ { c with table := t, ip := nextIp } (ht.mono (by omega)) (by omega)
      (by omega) (by omega) (hld.mono (by omega))).weaken (by simp only []; omega)).mono
      fun r p => ⟨p.cm, p.li, p.ne, p.ld, p.tb, Nat.le_trans (by omega) p.lo, p.le, p.cand, p.ts.trans hs⟩
  have hfound : ∀ t cand, TB t (nextIp + 1) → t.size = c.table.size → cand < nextIp →
      isMatch inp nextIp cand minMatch = .ok true →
      Spec (c.table.size = T ∧ nextHash < T ∧ ipLimit + 16 ≤ inp.size ∧ 1 ≤ f + 1 ∧ ipLimit + 2 ≤ nextIp + (f + 1))
       (if wsub nextIp cand > 262128 then
        scan inp shift minMatch ipLimit f ((skip + 1) % two32) (nextIp + skip / 32) (hashAt v 0 shift minMatch)
          { c with table := t, ip := nextIp }
       else Out.ok ({ c with table := t, ip := nextIp }, some cand)) fun r =>
        ScanPost inp minMatch ipLimit ipEnd nextIp c r.1 r.2 := fun t cand ht hs hc hmc =>
    .ite (fun _ => hrec t ht hs) fun hfar => .ok ⟨rfl, rfl, rfl, rfl, ht, Nat.le_refl _, hnip, fun cand' hc' => by
      injection hc' with hc'
      subst hc'
      rw [wsub_le nextIp _ (by omega) (by omega)] at hfar
      exact ⟨hc, by simp only []; omega, by simp only []; omega, hmc⟩, hs⟩
  have hpos : nextIp < nextIp + 1 ∧ nextIp < 2147483648 := by omega
  refine .ite (fun hfirst => .bind tset_spec (by omega) fun t _ ht =>
    hfound t _ (ht.2 _ (htb.mono (by omega)) hpos.1 hpos.2) ht.1 hfirst.2 (by rw [hm, hfirst.1])) fun _ => ?_
  refine .bind tget_spec (by omega) fun cand _ hg => .bind tset_spec (by omega) fun t _ ht => ?_
  have hc := hg _ htb
  refine .bind isMatch_spec (by omega) fun m2 hm2 _ => ?_
  exact .ite (fun hm2t => hfound t cand (ht.2 _ (htb.mono (by omega)) hpos.1 hpos.2) ht.1 hc (by rw [hm2, hm2t]))
    fun _ => hrec t (ht.2 _ (htb.mono (by omega)) hpos.1 hpos.2) ht.1

theorem rehash_spec {inp : Array Nat} {shift minMatch T : Nat} (hT : ∀ v off, hashAt v off shift minMatch < T)
    (first : Bool) (c : CC) (htb : TB c.table c.ip) (h5 : 5 ≤ c.ip) (h31 : c.ip < 2147483648) :
    Spec (c.table.size = T ∧ c.ip + 8 ≤ inp.size) (rehash inp shift minMatch first c) fun r =>
      ∃ t, r.1 = { c with table := t } ∧ t.size = c.table.size ∧ TB t (c.ip + 1) ∧ r.2 < c.ip := by
  have w1 := wsub_le c.ip 1 (by omega) (by omega)
  have w2 := wsub_le c.ip 2 (by omega) (by omega)
  have w3 := wsub_le c.ip 3 (by omega) (by omega)
  have w4 := wsub_le c.ip 4 (by omega) (by omega)
  have w5 := wsub_le c.ip 5 (by omega) (by omega)
  have ts : ∀ {t : Array Int} (v off w : Nat), w < c.ip → t.size = c.table.size → TB t c.ip →
      Spec (c.table.size = T ∧ c.ip + 8 ≤ inp.size) (tset t (hashAt v off shift minMatch) w) fun t' =>
        t'.size = c.table.size ∧ TB t' c.ip := fun v off w hw hs hb =>
    (tset_spec.weaken fun h => by have := hT v off; omega).mono fun t' p => ⟨p.1.trans hs, p.2 _ hb hw (by omega)⟩
  have last : ∀ {t : Array Int} (v off : Nat), t.size = c.table.size → TB t c.ip →
      Spec (c.table.size = T ∧ c.ip + 8 ≤ inp.size) (tset t (hashAt v off shift minMatch) c.ip) fun t' =>
        t'.size = c.table.size ∧ TB t' (c.ip + 1) := fun v off hs hb =>
    (tset_spec.weaken fun h => by have := hT v off; omega).mono fun t' p =>
      ⟨p.1.trans hs, p.2 _ (hb.mono (by omega)) (by omega) (by omega)⟩
  have get : ∀ {t : Array Int} (v off : Nat), t.size = c.table.size → TB t c.ip →
      Spec (c.table.size = T ∧ c.ip + 8 ≤ inp.size) (tget t (hashAt v off shift minMatch)) fun cd => cd < c.ip :=
    fun v off hs hb => (tget_spec.weaken fun h => by have := hT v off; omega).mono fun cd p => p _ hb
  unfold rehash
  simp only []
  refine .ite (fun _ => .ite (fun _ => .panic (by omega)) fun _ => ?_) fun _ => .ite (fun _ => .panic (by omega)) fun _ => ?_
  · refine .bind load64_spec (by omega) fun v _ _ => ?_
    refine .bind (ts v 0 _ (by omega) rfl htb) id fun t1 _ p1 => .bind (ts v 1 _ (by omega) p1.1 p1.2) id fun t2 _ p2 =>
      .bind (ts v _ _ (by omega) p2.1 p2.2) id fun t3 _ p3 => .bind (get v 3 p3.1 p3.2) id fun cd _ hcd =>
      .bind (last v 3 p3.1 p3.2) id fun t4 _ p4 => .ok ⟨_, rfl, p4.1, p4.2, hcd⟩
  · refine .bind load64_spec (by omega) fun v _ _ => ?_
    refine .bind (ts v 0 _ (by omega) rfl htb) id fun t1 _ p1 => .bind (ts v 1 _ (by omega) p1.1 p1.2) id fun t2 _ p2 =>
      .bind (ts v 2 _ (by omega) p2.1 p2.2) id fun t3 _ p3 => .bind load64_spec (by omega) fun v' _ _ => ?_
    refine .bind (ts v' 0 _ (by omega) p3.1 p3.2) id fun t4 _ p4 => .bind (ts v' 1 _ (by omega) p4.1 p4.2) id fun t5 _ p5 =>
      .bind (get v' 2 p5.1 p5.2) id fun cd _ hcd => .bind (last v' 2 p5.1 p5.2) id fun t6 _ p6 =>
      .ok ⟨_, rfl, p6.1, p6.2, hcd⟩

structure Found (inp : Array Nat) (minMatch ipEnd base cand n : Nat) : Prop where
  hc : cand < base
  hd : base - cand ≤ 262128
  hend : base + (minMatch + n) ≤ ipEnd
  isM : isMatch inp base cand minMatch = .ok true
  ext : ∀ k, k < n → inp.getD (cand + minMatch + k) 0 = inp.getD (base + minMatch + k) 0

structure Emits (inp : Array Nat) (minMatch ii ipEnd : Nat) (Inv : Array Nat → Array Nat → Nat → Int → Prop) : Prop where
  first : ∀ {cmds lits : Array Nat} {e : Nat} {ld : Int} {base cand n dW : Nat}, Inv cmds lits e ld → ii ≤ e → e < base →
    Found inp minMatch ipEnd base cand n →
    (dW = 64 ∧ ld = ((base - cand : Nat) : Int)) ∨ emitDistanceQ1 (base - cand) = some dW →
    Inv ((cmds.push (emitInsertLenQ1 (base - e))).push dW ++ (emitCopyLenLastDistanceQ1 (minMatch + n)).toArray)
      (lits ++ inp.extract e (e + (base - e))) (base + (minMatch + n)) ((base - cand : Nat) : Int)
  next : ∀ {cmds lits : Array Nat} {ld : Int} {base cand n dW : Nat}, Inv cmds lits base ld → ii ≤ base →
    Found inp minMatch ipEnd base cand n → emitDistanceQ1 (base - cand) = some dW →
    Inv ((cmds.push (emitCopyLenQ1 (minMatch + n))).push dW) lits (base + (minMatch + n)) ((base - cand : Nat) : Int)

/-- `cm`: a match here costs two words and is at least four bytes long (in `emitFirst_spec`: at most four words), so the
command buffer grows by no more than the position moves; with `cmds.size + ii ≤ ip` kept this way, `mlen ≤ capCmd` is all
the room it ever needs. -/
structure ChainPost (ipLimit ipEnd : Nat) (Inv : Array Nat → Array Nat → Nat → Int → Prop) (c c' : CC) (rem : Bool) :
    Prop where
  ts : c'.table.size = c.table.size
  cm : c'.cmds.size + c.ip ≤ c.cmds.size + c'.ip
  li : c'.lits = c.lits
  ld : c'.lastDist = c.lastDist ∨ (0 < c'.lastDist ∧ c'.lastDist ≤ (c'.ip : Int))
  mono : c.ip ≤ c'.ip
  tb : TB c'.table (c'.ip + 1)
  ne : c'.nextEmit = c'.ip
  le : c'.ip ≤ ipEnd
  lim : rem = false → c'.ip < ipLimit
  inv : Inv c'.cmds c'.lits c'.nextEmit c'.lastDist

variable {Inv : Array Nat → Array Nat → Nat → Int → Prop}

theorem chain_spec (hI : Emits inp minMatch ii (ii + mlen) Inv) (h46 : 4 ≤ minMatch ∧ minMatch ≤ 6)
    (hsz : ii + mlen ≤ inp.size) (h31 : inp.size < 2147483648) (hlim : ipLimit + minMatch ≤ ii + mlen)
    (hT : ∀ v off, hashAt v off shift minMatch < T) :
    ∀ (f cand : Nat) (c : CC),
      TB c.table (c.ip + 1) → cand < c.ip → c.nextEmit = c.ip → ii ≤ c.ip → c.ip < ipLimit → 5 ≤ c.ip →
      Inv c.cmds c.lits c.nextEmit c.lastDist →
      Spec (c.table.size = T ∧ ipLimit + 16 ≤ inp.size ∧ mlen ≤ capCmd ∧ c.cmds.size + ii ≤ c.ip ∧ 1 ≤ f ∧
          ipLimit + 1 ≤ c.ip + f)
        (chain inp capCmd shift minMatch (ii + mlen) ipLimit f cand c) fun r =>
          ChainPost ipLimit (ii + mlen) Inv c r.1 r.2 := by
  have e32 : two32 = 4294967296 := rfl
  intro f
  induction f with
  | zero => intros; exact .fuel (by omega)
  | succ f ih =>
  intro cand c htb hcand hne hii hlt h5 hinv
  rw [chain]
  simp only []
  have hstay : ChainPost ipLimit (ii + mlen) Inv c c false :=
    ⟨rfl, Nat.le_refl _, rfl, Or.inl rfl, Nat.le_refl _, htb, hne, by omega, fun _ => hlt, hinv⟩
  refine .ite (fun _ => .ok hstay) fun hfar => .bind isMatch_spec (by omega) fun m hm _ =>
    .ite (fun _ => .ok hstay) fun hnm => ?_
  have hmt : m = true := by cases m <;> simp at hnm ⊢
  subst hmt
  rw [wsub_le (ii + mlen) c.ip (by omega) (by omega), wsub_le (ii + mlen - c.ip) minMatch (by omega) (by omega)]
  refine .bind findMatchLength_spec (by omega) fun n _ hn => ?_
  have hnl : c.ip + (minMatch + n) ≤ ii + mlen := by omega
  rw [wsub_le c.ip cand (by omega) (by omega)] at hfar ⊢
  rw [asI32_small _ (by omega), i32AsUsize_nat, Nat.mod_eq_of_lt (by omega)]
  refine .bind pushCmd_spec (by simp only []; omega) fun c2 _ e2 => ?_
  subst e2
  obtain ⟨dw, hdw⟩ := emitDistance_some (d := c.ip - cand) (by omega) (by omega)
  rw [hdw]
  refine .bind (P := fun w => w = dw) (.ok rfl) id fun w _ ew => ?_
  subst ew
  refine .bind pushCmd_spec (by simp only [Array.size_push]; omega) fun c3 _ e3 => ?_
  subst e3
  dsimp only
  have hinv3 := hI.next (hne ▸ hinv) hii ⟨hcand, by omega, hnl, hm, hn.2⟩ hdw
  have hd : (0 : Int) < ((c.ip - cand : Nat) : Int) ∧ ((c.ip - cand : Nat) : Int) ≤ ((c.ip + (minMatch + n) : Nat) : Int) := by
    omega
  refine .ite (fun _ => .ok ⟨rfl, by simp only [Array.size_push]; omega, rfl, Or.inr hd, Nat.le_add_right _ _,
    htb.mono (by simp only []; omega), rfl, hnl, fun h => (by cases h), hinv3⟩) fun hex => ?_
  refine .ite (fun _ => .panic (by omega)) fun _ => ?_
  refine .bind (rehash_spec hT false _ (by exact htb.mono (by simp only []; omega)) (by simp only []; omega)
    (by simp only []; omega)) (by simp only []; omega) fun x _ hr => ?_
  obtain ⟨c5, cand'⟩ := x
  dsimp only at hr ⊢
  obtain ⟨t5, rfl, hs5, r6, r7⟩ := hr
  refine ((ih cand' _ r6 r7 rfl (by simp only []; omega) (by simp only []; omega) (by simp only []; omega) hinv3).weaken
    (by simp only [Array.size_push] at hs5 ⊢; omega)).mono fun r p => ?_
  have hld := p.ld
  have hmono := p.mono
  have hcm := p.cm
  dsimp only at hld hmono hcm
  simp only [Array.size_push] at hcm
  exact ⟨p.ts.trans hs5, by omega, p.li, hld.elim (fun h => Or.inr (by rw [h]; omega)) Or.inr, by omega, p.tb, p.ne, p.le,
    p.lim, p.inv⟩

/-- `+ 4`: insert word, distance word (or 64), and the one or two words of `EmitCopyLenLastDistance`.  The term specified
repeats the text of `matchLoop`'s body behind a successful `scan`: `matchLoop_spec` applies this lemma after `simp only []`,
and it applies only while the two agree syntactically. -/
theorem emitFirst_spec {β : Type} {t : Prop} {R : β → Prop} {k : CC → Out β}
    (hI : Emits inp minMatch ii (ii + mlen) Inv) (h46 : 4 ≤ minMatch ∧ minMatch ≤ 6)
    (hsz : ii + mlen ≤ inp.size) (h31 : inp.size < 2147483648)
    (c : CC) (cand : Nat) (hc : cand < c.ip) (hd : c.ip - cand ≤ 262128) (hlt : c.ip + minMatch ≤ ii + mlen)
    (hM : isMatch inp c.ip cand minMatch = .ok true) (hii : ii ≤ c.nextEmit) (hne : c.nextEmit < c.ip)
    (hinv : Inv c.cmds c.lits c.nextEmit c.lastDist)
    (hroom : t → c.cmds.size + 4 ≤ capCmd ∧ c.lits.size + c.ip ≤ capLit + c.nextEmit)
    (hk : ∀ n cmds' lits' (ld' : Int), c.ip + (minMatch + n) ≤ ii + mlen → cmds'.size ≤ c.cmds.size + 4 →
      lits'.size + c.nextEmit = c.lits.size + c.ip → 0 < ld' ∧ ld' ≤ (c.ip : Int) →
      Inv cmds' lits' (c.ip + (minMatch + n)) ld' →
      Spec t (k { c with ip := c.ip + (minMatch + n), cmds := cmds', lits := lits', lastDist := ld' }) R) :
    Spec t (findMatchLength inp (cand + minMatch) (c.ip + minMatch) (wsub (wsub (ii + mlen) c.ip) minMatch) >>= fun n =>
        pushCmd capCmd { c with ip := c.ip + (minMatch + n) }
          (emitInsertLenQ1 (i32AsUsize (asI32 (wsub c.ip c.nextEmit)) % two32)) >>= fun c1 =>
        pushLits capLit inp c1 c1.nextEmit (i32AsUsize (asI32 (wsub c.ip c.nextEmit))) >>= fun c2 =>
        (if asI32 (wsub c.ip cand) = c2.lastDist then pushCmd capCmd c2 64
          else
            (match emitDistanceQ1 (i32AsUsize (asI32 (wsub c.ip cand)) % two32) with
              | some w => Out.ok w
              | none => Out.panic) >>= fun dw =>
            pushCmd capCmd c2 dw >>= fun c3 =>
            Out.ok { c3 with lastDist := asI32 (wsub c.ip cand) }) >>= fun c4 =>
        pushCmds capCmd c4 (emitCopyLenLastDistanceQ1 (minMatch + n)) >>= fun c5 => k c5) R := by
  have e32 : two32 = 4294967296 := rfl
  rw [wsub_le (ii + mlen) c.ip (by omega) (by omega), wsub_le (ii + mlen - c.ip) minMatch (by omega) (by omega),
    wsub_le c.ip cand (by omega) (by omega), wsub_le c.ip c.nextEmit (by omega) (by omega),
    asI32_small (c.ip - cand) (by omega), asI32_small (c.ip - c.nextEmit) (by omega), i32AsUsize_nat, i32AsUsize_nat,
    Nat.mod_eq_of_lt (show c.ip - cand < two32 by omega), Nat.mod_eq_of_lt (show c.ip - c.nextEmit < two32 by omega)]
  refine .bind findMatchLength_spec (by omega) fun n _ hn => ?_
  obtain ⟨hn1, hn2⟩ := hn
  have hnl : c.ip + (minMatch + n) ≤ ii + mlen := by omega
  clear hn1
  have hfound : Found inp minMatch (ii + mlen) c.ip cand n := ⟨hc, hd, hnl, hM, hn2⟩
  refine .bind pushCmd_spec (fun h => by have := hroom h; simp only []; omega) fun d1 _ e1 => ?_
  subst e1
  refine .bind pushLits_spec (fun h => by have := hroom h; simp only []; omega) fun d2 _ e2 => ?_
  subst e2
  -- the distance word is 64 (the last distance again) or an explicit code; the state afterwards has one shape
  obtain ⟨dw, hdw⟩ := emitDistance_some (d := c.ip - cand) (by omega) (by omega)
  refine .bind (P := fun d4 => ∃ dW, d4 =
      { c with ip := c.ip + (minMatch + n), cmds := (c.cmds.push (emitInsertLenQ1 (c.ip - c.nextEmit))).push dW,
               lits := c.lits ++ inp.extract c.nextEmit (c.nextEmit + (c.ip - c.nextEmit)),
               lastDist := ((c.ip - cand : Nat) : Int) } ∧
      ((dW = 64 ∧ c.lastDist = ((c.ip - cand : Nat) : Int)) ∨ emitDistanceQ1 (c.ip - cand) = some dW))
    (t' := c.cmds.size + 1 < capCmd) ?_ (fun h => by have := hroom h; omega) fun d4 _ hd4 => ?_
  · refine .ite (fun heq => (pushCmd_spec.weaken (by simp only [Array.size_push]; exact id)).mono fun _ e =>
      ⟨64, by rw [e, ← heq], Or.inl ⟨rfl, heq.symm⟩⟩) fun _ => ?_
    rw [hdw]
    exact .bind (P := fun w => w = dw) (.ok rfl) id fun w _ ew =>
      .bind pushCmd_spec (by simp only [Array.size_push]; exact id) fun d3 _ e3 => .ok ⟨dw, by subst e3 ew; rfl, Or.inr rfl⟩
  obtain ⟨dW, rfl, hdW⟩ := hd4
  have hcl2 := emitCopyLenLastDistanceQ1_length (minMatch + n)
  refine .bind (pushCmds_spec _) (fun h => by have := hroom h; simp only [Array.size_push]; omega) fun d5 _ e5 => ?_
  subst e5
  exact hk n _ _ ((c.ip - cand : Nat) : Int) hnl (by simp only [Array.size_append, Array.size_push, List.size_toArray]; omega)
    (by simp only [Array.size_append, Array.size_extract]; omega) (by omega) (hI.first hinv hii hne hfound hdW)

/-- Both buffers grow by no more than `next_emit` moves, so `mlen ≤ capCmd`, `mlen ≤ capLit` suffice for the whole block
(the rest being literals).  Fuel: every round moves `ip` on, and one more is spent on finding `ip` past the end. -/
theorem matchLoop_spec (hI : Emits inp minMatch ii (ii + mlen) Inv) (h46 : 4 ≤ minMatch ∧ minMatch ≤ 6)
    (hsz : ii + mlen ≤ inp.size) (h31 : inp.size < 2147483648) (hlim : ipLimit + minMatch ≤ ii + mlen)
    (hT : ∀ v off, hashAt v off shift minMatch < T) :
    ∀ (f nh : Nat) (c : CC),
      TB c.table c.ip → c.nextEmit < c.ip → ii ≤ c.nextEmit → c.ip ≤ ii + mlen → LdOK c.lastDist c.ip →
      Inv c.cmds c.lits c.nextEmit c.lastDist →
      Spec (c.table.size = T ∧ nh < T ∧ ipLimit + 16 ≤ inp.size ∧ mlen ≤ capCmd ∧ mlen ≤ capLit ∧
          c.cmds.size + ii ≤ c.nextEmit ∧ c.lits.size + ii ≤ c.nextEmit ∧ 1 ≤ f ∧ ii + mlen + 1 ≤ c.ip + f)
        (matchLoop inp capCmd capLit shift minMatch (ii + mlen) ipLimit f nh c) fun c' =>
          TB c'.table (ii + mlen + 1) ∧ ii ≤ c'.nextEmit ∧ c'.nextEmit ≤ ii + mlen ∧ c'.table.size = c.table.size ∧
          c'.cmds.size + c.nextEmit ≤ c.cmds.size + c'.nextEmit ∧
          c'.lits.size + c.nextEmit ≤ c.lits.size + c'.nextEmit ∧
          Inv c'.cmds c'.lits c'.nextEmit c'.lastDist := by
  intro f
  induction f with
  | zero => intros; exact .fuel (by omega)
  | succ f ih =>
  intro nh c htb hne hii hip hld hinv
  rw [matchLoop]
  simp only []
  refine .bind (scan_spec (ipEnd := ii + mlen) (by omega) (by omega) hT (ii + mlen + 2) 32 c.ip nh c htb (by omega)
    (by omega) hip hld) (by omega) fun x _ sp => ?_
  obtain ⟨c1, r⟩ := x
  obtain ⟨s1, s2, s3, s4, s5, s6, s7, s8, s9⟩ := sp
  dsimp only at s1 s2 s3 s4 s5 s6 s7 s8 s9 ⊢
  have hs1 : c1.cmds.size = c.cmds.size := by rw [s1]
  have hs2 : c1.lits.size = c.lits.size := by rw [s2]
  cases r with
  | none => exact .ok ⟨s5.mono (by omega), by omega, by omega, s9, by omega, by omega,
      by rw [s1, s2, s3, s4]; exact hinv⟩
  | some cand =>
  dsimp only
  obtain ⟨hc1, hc2, hc3, hc4⟩ := s8 cand rfl
  clear s8
  have hinv1 : Inv c1.cmds c1.lits c1.nextEmit c1.lastDist := by rw [s1, s2, s3, s4]; exact hinv
  refine emitFirst_spec hI h46 hsz h31 c1 cand hc1 hc2 (by omega) hc4 (by omega) (by omega) hinv1 (by omega)
    fun n cmds' lits' ld' hnl hcm' hlsize hld' hinv5 => ?_
  clear hc2 hc4 hinv1 hinv hld
  dsimp only
  refine .ite (fun _ => .ok ⟨s5.mono (by omega), by simp only []; omega, by simp only []; omega, s9,
    by simp only []; omega, by simp only []; omega, hinv5⟩) fun hex => ?_
  refine .bind (rehash_spec hT true _ (by exact s5.mono (by simp only []; omega)) (by simp only []; omega)
    (by simp only []; omega)) (by simp only []; omega) fun y _ hr => ?_
  obtain ⟨c6, cand'⟩ := y
  dsimp only at hr ⊢
  obtain ⟨t6, rfl, hs6, r6, r7⟩ := hr
  refine .bind (chain_spec (capCmd := capCmd) hI h46 hsz h31 hlim hT (ii + mlen + 2) cand' _ r6 r7 rfl (by simp only []; omega)
    (by simp only []; omega) (by simp only []; omega) hinv5) (by simp only []; omega) fun z _ p => ?_
  obtain ⟨c7, rem⟩ := z
  obtain ⟨pts, pcm, pli, pld, pmono, ptb, pne, ple, plim, pinv⟩ := p
  dsimp only at pts pcm pli pld pmono ptb pne ple plim pinv ⊢
  have hld7 : LdOK c7.lastDist (c7.ip + 1) :=
    pld.elim (fun h => Or.inr (by rw [h]; exact ⟨by omega, by omega⟩)) fun h => Or.inr ⟨h.1, by omega⟩
  clear pld
  rw [← pne] at pcm ple pmono
  have hcm7 : c7.cmds.size + c.nextEmit ≤ c.cmds.size + c7.nextEmit := by omega
  have hli7 : c7.lits.size + c.nextEmit ≤ c.lits.size + c7.nextEmit := by rw [pli]; omega
  refine .ite (fun _ => .ok ⟨ptb.mono (by omega), by omega, ple, by omega, hcm7, hli7, pinv⟩) fun hrem => ?_
  have hlim7 := plim (Bool.eq_false_iff.mpr hrem)
  refine .bind load64_spec (by omega) fun v _ _ => ?_
  have hv := hT v 0
  exact ((ih _ { c7 with ip := c7.ip + 1 } ptb (by simp only []; omega) (by simp only []; omega) (by simp only []; omega)
    hld7 pinv).weaken (by simp only []; omega)).mono fun c' q => by
      obtain ⟨q1, q2, q3, q4, q5, q6, q7⟩ := q
      dsimp only at q4 q5 q6
      exact ⟨q1, q2, q3, by omega, by omega, by omega, q7⟩

theorem createCommands_spec {inputSize tableBits : Nat} {table : Array Int}
    (hI : Emits inp minMatch ii (ii + mlen) Inv) (h46 : 4 ≤ minMatch ∧ minMatch ≤ 6)
    (hsz : ii + mlen ≤ inp.size) (h31 : inp.size < 2147483648) (h1 : 1 ≤ mlen)
    (hT : ∀ v off, hashAt v off (64 - tableBits) minMatch < T) (htb : TB table (ii + 1)) (hinv : Inv #[] #[] ii (-1)) :
    Spec (table.size = T ∧ mlen ≤ inputSize ∧ ii + inputSize ≤ inp.size ∧ mlen ≤ capCmd ∧ mlen ≤ capLit)
      (createCommands ii mlen inputSize inp table tableBits minMatch capLit capCmd) fun r =>
        ∃ c : CC, r.1 = c.table ∧ TB c.table (ii + mlen + 1) ∧ ii ≤ c.nextEmit ∧
          Inv c.cmds c.lits c.nextEmit c.lastDist ∧
          ((c.nextEmit = ii + mlen ∧ r.2.1 = c.lits.toList ∧ r.2.2 = c.cmds.toList) ∨
           (c.nextEmit < ii + mlen ∧ r.2.2 = c.cmds.toList ++ [emitInsertLenQ1 (ii + mlen - c.nextEmit)] ∧
            r.2.1 = c.lits.toList ++ (inp.toList.drop c.nextEmit).take (ii + mlen - c.nextEmit))) := by
  have e32 : two32 = 4294967296 := rfl
  rw [createCommands]
  simp only []
  obtain ⟨lim, hlim⟩ : ∃ lim, lim = min (wsub mlen minMatch) (wsub inputSize 16) := ⟨_, rfl⟩
  rw [← hlim]
  have hl1 : 16 ≤ mlen → lim + minMatch ≤ mlen := fun h => by
    have : lim ≤ wsub mlen minMatch := hlim ▸ Nat.min_le_left _ _
    rw [wsub_le mlen minMatch (by omega) (by omega)] at this
    omega
  have hl2 : 16 ≤ mlen → mlen ≤ inputSize → ii + inputSize ≤ inp.size → ii + lim + 16 ≤ inp.size := fun h a b => by
    have : lim ≤ wsub inputSize 16 := hlim ▸ Nat.min_le_right _ _
    rw [wsub_le inputSize 16 (by omega) (by omega)] at this
    omega
  clear hlim
  refine .bind (P := fun c => TB c.table (ii + mlen + 1) ∧ ii ≤ c.nextEmit ∧ c.nextEmit ≤ ii + mlen ∧
      c.cmds.size + ii ≤ c.nextEmit ∧ c.lits.size + ii ≤ c.nextEmit ∧ Inv c.cmds c.lits c.nextEmit c.lastDist)
    (.ite (fun h16 => .bind load64_spec (by omega) fun v _ _ => ?_) fun _ =>
      .ok ⟨htb.mono (by omega), Nat.le_refl _, by simp only []; omega, by simp, by simp, hinv⟩) id fun c _ hc => ?_
  · have hv := hT v 0
    have hl1 := hl1 h16
    have hl2 := hl2 h16
    exact ((matchLoop_spec (ipLimit := ii + lim) hI h46 hsz h31 (by omega) hT (mlen + 2) _ ⟨table, #[], #[], ii + 1, ii, -1⟩
      htb (by simp only []; omega) (Nat.le_refl _) (by simp only []; omega) (Or.inl rfl) hinv).weaken
      (by simp only [Array.size_empty]; omega)).mono fun c' ⟨a, b, d, _, e, g, h⟩ => by
        simp only [Array.size_empty] at e g
        exact ⟨a, b, d, by omega, by omega, h⟩
  obtain ⟨c1, c2, c3, c4, c5, c6⟩ := hc
  refine .bind (P := fun d => d.table = c.table ∧ ((c.nextEmit = ii + mlen ∧ d = c) ∨ (c.nextEmit < ii + mlen ∧
      d = { c with cmds := c.cmds.push (emitInsertLenQ1 (ii + mlen - c.nextEmit)),
                   lits := c.lits ++ inp.extract c.nextEmit (c.nextEmit + (ii + mlen - c.nextEmit)) })))
    (.ite (fun hlt => ?_) fun hge => .ok ⟨rfl, Or.inl ⟨by omega, rfl⟩⟩) id fun d _ hd => .ok ⟨c, hd.1, c1, c2, c6, ?_⟩
  · rw [Nat.mod_eq_of_lt (by omega)]
    refine .bind pushCmd_spec (by omega) fun d1 _ e1 => ?_
    subst e1
    exact (pushLits_spec.weaken (by simp only []; omega)).mono fun d2 e2 => ⟨by rw [e2], Or.inr ⟨hlt, e2⟩⟩
  · rcases hd.2 with ⟨h, rfl⟩ | ⟨h, rfl⟩
    · exact Or.inl ⟨h, rfl, rfl⟩
    · exact Or.inr ⟨h, by simp, by simp only [Array.toList_append]; rw [extract_toList]⟩

end

theorem final_total (inp : Array Nat) (ii mlen capCmd capLit : Nat) (c : CC) (hcc : mlen ≤ capCmd) (hcl : mlen ≤ capLit)
    (hsz : ii + mlen ≤ inp.size) (h31 : inp.size < 2147483648)
    (hcm : c.cmds.size ≤ c.nextEmit - ii) (hli : c.lits.size ≤ c.nextEmit - ii) (hii : ii ≤ c.nextEmit)
    (hle : c.nextEmit ≤ ii + mlen) :
    ∃ r, ((if c.nextEmit < ii + mlen then
        pushCmd capCmd c (emitInsertLenQ1 ((ii + mlen - c.nextEmit) % two32)) >>= fun c1 =>
        pushLits capLit inp c1 c1.nextEmit ((ii + mlen - c.nextEmit) % two32)
      else Out.ok c) >>= fun c => Out.ok (c.table, c.lits.toList, c.cmds.toList)) = .ok r := by
  have e32 : two32 = 4294967296 := rfl
  suffices h : Out.Ret _ (fun _ => True) from let ⟨r, e, _⟩ := h; ⟨r, e⟩
  refine Out.Ret.bind (P := fun _ => True) (.ite (fun h => ?_) fun _ => .ok trivial) fun _ _ _ => .ok trivial
  rw [Nat.mod_eq_of_lt (by omega)]
  refine (pushCmd_spec.2 (by omega)).bind fun c1 _ e1 => ?_
  subst e1
  exact (pushLits_spec.2 ⟨by simp only []; omega, by simp only []; omega⟩).mono fun _ _ => trivial

end BV.Fragment
