import BV.Lemmas.StreamRunHist
/-
The byte ledger of the stream machine: what `total_out_` counts, and where the caller's cursors stand, atom by
atom (`Step`), call by call, history by history; no hypothesis on the payload encoder.  `total_out_` is advanced (wrapping, u64) at exactly four places of encode.rs:
`inject_flush_or_push_output` (bytes copied to `next_out`), the in-place branch of
`compress_stream_fast` (bytes the fragment compressor wrote straight into `next_out`), the metadata
body copy of `process_metadata` (bytes copied from `next_in` to `next_out`) — and `take_output`
(bytes handed out by pointer).  So `total_out_` is the number of bytes DELIVERED, by either route.
-/
namespace BV.Stream
open BV.Bits

/-- `G` is the premise "the total at entry is `T0` modulo 2^64", kept as a GUARD of the field `total` so that `Ledger` is an
invariant of the atoms with no hypothesis (`ledger_start`, `step_ledger`); a caller that knows the total at entry discharges
it at the end. -/
structure Ledger (G : Prop) (input : Bytes) (cap T0 : Nat) (c : St × Io) : Prop where
  outBal : c.2.out.length + c.2.availOut = cap
  inLe : c.2.availIn ≤ input.length
  inEq : c.2.input = input.drop (input.length - c.2.availIn)
  total : G → c.1.totalOut = (T0 + c.2.out.length) % two64

theorem Ledger.inLen {G : Prop} {input : Bytes} {cap T0 : Nat} {c : St × Io} (h : Ledger G input cap T0 c) :
    c.2.input.length = c.2.availIn := by
  rw [h.inEq, List.length_drop]
  have := h.inLe
  omega

theorem ledger_start (input : Bytes) (cap T0 : Nat) (s : St) :
    Ledger (s.totalOut = T0 % two64) input cap T0 (s, Io.start input cap) := by
  refine ⟨by simp [Io.start], by simp [Io.start], by simp [Io.start], ?_⟩
  intro hT
  simp only [Io.start, List.length_nil, Nat.add_zero]
  exact hT

theorem Ledger.consume {G : Prop} {input : Bytes} {cap T0 : Nat} {s s1 : St} {io io1 : Io} (h : Ledger G input cap T0 (s, io))
    (n : Nat) (hn : n ≤ io.availIn) (h1 : s1.totalOut = s.totalOut) (h2 : io1.out = io.out) (h3 : io1.availOut = io.availOut)
    (h4 : io1.availIn = io.availIn - n) (h5 : io1.input = io.input.drop n) : Ledger G input cap T0 (s1, io1) := by
  obtain ⟨a, b, c, d⟩ := h
  have b' : io.availIn ≤ input.length := b
  refine ⟨?_, ?_, ?_, ?_⟩
  · show io1.out.length + io1.availOut = cap
    rw [h2, h3]; exact a
  · show io1.availIn ≤ input.length
    rw [h4]; exact Nat.le_trans (Nat.sub_le _ _) b
  · show io1.input = input.drop (input.length - io1.availIn)
    have hc : io.input = input.drop (input.length - io.availIn) := c
    rw [h5, h4, hc, List.drop_drop]
    congr 1
    omega
  · intro g
    show s1.totalOut = (T0 + io1.out.length) % two64
    rw [h1, h2]; exact d g

theorem Ledger.of_same {G : Prop} {input : Bytes} {cap T0 : Nat} {s s1 : St} {io io1 : Io} (h : Ledger G input cap T0 (s, io))
    (h1 : s1.totalOut = s.totalOut) (h2 : io1.out = io.out) (h3 : io1.availOut = io.availOut)
    (h4 : io1.availIn = io.availIn) (h5 : io1.input = io.input) : Ledger G input cap T0 (s1, io1) :=
  h.consume 0 (Nat.zero_le _) h1 h2 h3 h4 h5

theorem add_mod_two64 (T0 a b : Nat) : ((T0 + a) % two64 + b) % two64 = (T0 + (a + b)) % two64 := by
  rw [Nat.mod_add_mod, Nat.add_assoc]

theorem Ledger.emit {G : Prop} {input : Bytes} {cap T0 : Nat} {s s1 : St} {io io1 : Io} (h : Ledger G input cap T0 (s, io))
    (ob : Bytes) (n : Nat) (hob : ob.length ≤ io.availOut) (hn : n ≤ io.availIn)
    (h1 : s1.totalOut = (s.totalOut + ob.length) % two64) (h2 : io1.out = io.out ++ ob)
    (h3 : io1.availOut = io.availOut - ob.length) (h4 : io1.availIn = io.availIn - n) (h5 : io1.input = io.input.drop n) :
    Ledger G input cap T0 (s1, io1) := by
  obtain ⟨a, b, c, d⟩ := h.consume (s1 := s) (io1 := { io with availIn := io.availIn - n, input := io.input.drop n }) n hn rfl rfl rfl rfl rfl
  have a' : io.out.length + io.availOut = cap := a
  refine ⟨?_, ?_, ?_, ?_⟩
  · show io1.out.length + io1.availOut = cap
    rw [h2, h3, List.length_append]; omega
  · show io1.availIn ≤ input.length
    rw [h4]; exact b
  · show io1.input = input.drop (input.length - io1.availIn)
    rw [h5, h4]; exact c
  · intro g
    show s1.totalOut = (T0 + io1.out.length) % two64
    have d' : s.totalOut = (T0 + io.out.length) % two64 := d g
    rw [h1, d', add_mod_two64, h2, List.length_append]

theorem totalOut_updateSizeHint (s : St) (n : Nat) : (updateSizeHint s n).totalOut = s.totalOut := by
  unfold updateSizeHint; split <;> rfl

theorem totalOut_ensureInitialized (s : St) : (ensureInitialized s).totalOut = s.totalOut := by
  unfold ensureInitialized; split <;> rfl

theorem step_ledger {o : Oracle} {op : Nat} {G : Prop} {input : Bytes} {cap T0 : Nat} (hlen : input.length < two64)
    (c : St × Io) (e : Ev) (c1 : St × Io) (hL : Ledger G input cap T0 c) (hs : Step o op c e c1) :
    Ledger G input cap T0 c1 := by
  obtain ⟨s, io⟩ := c
  obtain ⟨s1, io1⟩ := c1
  rcases hs.effect with ⟨_, _, rfl, rfl⟩ | ⟨hI, ha⟩
  · exact hL.of_same (totalOut_ensureInitialized _) rfl rfl rfl rfl
  · have hilen : io.input.length = io.availIn := hL.inLen
    have b' : io.availIn ≤ input.length := hL.inLe
    cases ha with
    | copy => exact hL.consume _ (Nat.min_le_right _ _) rfl rfl rfl rfl rfl
    | push =>
      have hl : (s.pending.take (min s.pending.length io.availOut)).length = min s.pending.length io.availOut := by
        rw [List.length_take]; omega
      exact hL.emit _ 0 (by rw [hl]; exact Nat.min_le_right _ _) (Nat.zero_le _) (by rw [hl]; rfl) rfl
        (by rw [hl]; rfl) rfl rfl
    | enc _ _ _ _ hfr => exact hL.of_same (by rw [hfr]; rfl) rfl rfl rfl rfl
    | fastBlock hfm hop hrm hnp hpend hst hgo hnf hss hcap hin hfit =>
      have hbs : fastBs s io ≤ io.availIn := Nat.min_le_right _ _
      cases hip : fastInplace s io with
      | true =>
        rw [hip] at hfit
        have hwl := wholeBytes_length (s.carry ++ (o s.nEnc (fastReq op s io)).bits)
        rw [List.length_append, s.carry_length] at hwl
        exact hL.emit (wholeBytes (s.carry ++ (o s.nEnc (fastReq op s io)).bits)) (fastBs s io)
          (by simp only [if_true] at hfit; omega) hbs rfl rfl rfl rfl rfl
      | false => exact hL.consume (fastBs s io) hbs rfl rfl rfl rfl rfl
    | mdOut hM hop hpend hlf hst hnz hao hle =>
      have hn1 : mdOutN s io ≤ io.availOut := Nat.le_trans (Nat.mod_le _ _) (Nat.min_le_right _ _)
      have hn2 : mdOutN s io ≤ io.availIn := by omega
      have hl : (io.input.take (mdOutN s io)).length = mdOutN s io := by rw [List.length_take]; omega
      exact hL.emit (io.input.take (mdOutN s io)) (mdOutN s io) (by rw [hl]; exact hn1) hn2
        (by rw [hl]; rfl) rfl (by rw [hl]; rfl) (add_sub_mod_self hn2 (by omega)) rfl
    | mdTiny hM hop hpend hlf hst hnz hao hle =>
      have hn2 : mdTinyN s ≤ io.availIn := by omega
      exact hL.consume (mdTinyN s) hn2 rfl rfl rfl (add_sub_mod_self hn2 (by omega)) rfl
    | _ => exact hL.of_same rfl rfl rfl rfl rfl

theorem call_ledger_run {o : Oracle} {fuel op cap : Nat} (T0 : Nat) {input : Bytes} {s s' : St} {io' : Io} {r : Bool}
    (hop : op ≤ 3) (hR : IsFresh s ∨ Inv s) (hw : s.inputPos + input.length < two64)
    (h : compressStream o fuel s op input cap = .ok (s', io', r)) :
    Ledger (s.totalOut = T0 % two64) input cap T0 (s', io') :=
  call_induct_run (Ledger (s.totalOut = T0 % two64) input cap T0) (step_ledger (by omega))
    (fun _ _ _ h0 => h0.of_same (totalOut_updateSizeHint _ _) rfl rfl rfl rfl) hop hR hw h (ledger_start input cap T0 s)

theorem call_ledger {o : Oracle} {fuel op cap : Nat} (T0 : Nat) {input : Bytes} {s s' : St} {io' : Io} {r : Bool}
    (hop : op ≤ 3) (hI : Inv s) (hw : s.inputPos + input.length < two64)
    (h : compressStream o fuel s op input cap = .ok (s', io', r)) :
    Ledger (s.totalOut = T0 % two64) input cap T0 (s', io') :=
  call_ledger_run T0 hop (Or.inr hI) hw h

theorem take_total {s s' : St} {size : Nat} {out : Bytes} (h : takeOutput s size = .ok (s', out)) :
    s'.totalOut = (s.totalOut + out.length) % two64 ∨ (out = [] ∧ s' = s) := by
  rcases takeOutput_cases h with ⟨rfl, rfl⟩ | ⟨rfl, rfl⟩
  · exact Or.inr ⟨rfl, rfl⟩
  · left
    rw [checkFlushComplete_eq, List.length_take, Nat.min_eq_left (takeCount_le s size)]
    rfl

theorem take_total' {T0 : Nat} {s s' : St} {size : Nat} {out : Bytes} (hT : s.totalOut = T0 % two64)
    (h : takeOutput s size = .ok (s', out)) : s'.totalOut = (T0 + out.length) % two64 := by
  rcases take_total h with h1 | ⟨rfl, rfl⟩
  · rw [h1, hT, Nat.mod_add_mod]
  · simpa using hT

theorem setParameter_totalOut (s : St) (id v : Nat) : (setParameter s id v).1.totalOut = s.totalOut := by
  unfold setParameter
  split
  · rfl
  · split <;> rfl

theorem run_total {o : Oracle} {fuel : Nat} {calls : List Call} {s0 s : St} {t0 t : Trace} (hR : RunOK s0)
    (hops : HistOK calls) (hw : s0.inputPos + histLen calls < two64)
    (hT : s0.totalOut = t0.delivered.length % two64)
    (h : run o fuel calls s0 t0 = .ok (s, t)) : s.totalOut = t.delivered.length % two64 := by
  refine run_induct (fun s t => s.totalOut = t.delivered.length % two64) ?_ hR hops hw h hT
  intro s1 s2 t1 t2 c _ hR hcok hc hT
  cases c with
  | setParam id v =>
    simp only [runCall, Out.ok.injEq, Prod.mk.injEq] at hc
    obtain ⟨rfl, rfl⟩ := hc
    rw [setParameter_totalOut]; exact hT
  | stream op chunk cap =>
    simp only [runCall] at hc
    split at hc
    · rename_i s3 io3 r3 hcs
      simp only [Out.ok.injEq, Prod.mk.injEq] at hc
      obtain ⟨rfl, rfl⟩ := hc
      have := (call_ledger_run _ hcok.1 hR.inv hcok.2 hcs).total hT
      simp only [Trace.afterStream, List.length_append]
      exact this
    · simp at hc
    · simp at hc
  | take n =>
    simp only [runCall] at hc
    split at hc
    · rename_i s3 out3 hcs
      simp only [Out.ok.injEq, Prod.mk.injEq] at hc
      obtain ⟨rfl, rfl⟩ := hc
      simp only [List.length_append]
      exact take_total' hT hcs
    · simp at hc
    · simp at hc

end BV.Stream
