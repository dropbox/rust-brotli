/-
C08: the hypothesis `BlocksOK` of the stream bound, from the control skeleton of the stream machine
(`BV/Model/Stream.lean`): without FLUSH the payload encoder is invoked, except for the last time, only when a whole
input block (≥ 2^14 bytes at quality ≥ 2) is waiting.
-/
import BV.Lemmas.HeaderStreamBound
import BV.Lemmas.StreamStep
namespace BV.StreamBlocks
open BV.Stream BV.Bits

theorem blocksOK_of_cover : ∀ (lens : List Nat) (extra : Nat),
    (∀ i, i + 1 < lens.length → 2 ^ 14 ≤ lens.getD i 0 + (if i = 0 then extra else 0)) → BV.Header.BlocksOK extra lens := by
  intro lens
  induction lens with
  | nil => intro _ _; trivial
  | cons len rest ih =>
    intro extra h
    cases rest with
    | nil => trivial
    | cons l2 r2 =>
      refine ⟨by simpa using h 0 (by simp), ih 0 ?_⟩
      intro i hi
      have := h (i + 1) (by simp at hi ⊢; omega)
      simpa using this

theorem blockSize_ge (s : St) (hni : s.isInitialized = false)
    (hq : ¬ ((ensureInitialized s).params.quality = 0 ∨ (ensureInitialized s).params.quality = 1)) :
    2 ^ 14 ≤ (ensureInitialized s).blockSize := by
  simp only [ensureInitialized, hni, Bool.false_eq_true, if_false] at hq ⊢
  simp only [St.blockSize]
  have hl : 14 ≤ (computeLgBlock (sanitize s.params)) := by
    simp only [computeLgBlock] at hq ⊢
    split
    · rename_i h; exact absurd h hq
    · split
      · omega
      · split
        · split <;> omega
        · omega
  have : 14 ≤ (computeLgBlock (sanitize s.params)).toNat := by omega
  exact Nat.pow_le_pow_right (by decide) this

theorem slowStep_nonfinal_request_full_block {o : Oracle} {op : Nat} {s s' : St} {io io' : Io} {c : Ctl}
    (hI : Inv s) (hop : op = 0 ∨ op = 2) (h : slowStep o op s io = .ok (s', io', c)) :
    io'.reqs = io.reqs ∨
    ∃ req, io'.reqs = io.reqs ++ [req] ∧ req.site = 0 ∧ req.forceFlush = false ∧
      req.lo = s.lastProcessedPos ∧ req.hi = s.inputPos ∧ req.lf = s.lastFlushPos ∧ req.lf ≤ req.lo ∧
      (req.isLast = false → req.hi - req.lo = s.blockSize ∧ s.blockSize ≤ req.hi - req.lf) := by
  rcases slowStep_ok h with ⟨_, _, _, rfl, _⟩ |
    ⟨hcopy, ⟨hp, _⟩ | ⟨_, ⟨hcond, s2, res, req, henc, rfl, _⟩ | ⟨_, _, rfl, _⟩⟩⟩
  · exact Or.inl rfl
  · exact Or.inl (push_frame hp).reqs
  · right
    obtain ⟨_, hreq, _⟩ := encodeData_frame henc
    refine ⟨req, rfl, ?_⟩
    subst hreq
    have hff : decide (io.availIn = 0 ∧ op = 1) = false := by
      rcases hop with h0 | h0 <;> simp [h0]
    rw [updateSizeHint_eq]
    refine ⟨rfl, hff, rfl, rfl, rfl, hI.fl_le, fun hil => ?_⟩
    show s.inputPos - s.lastProcessedPos = s.blockSize ∧ s.blockSize ≤ s.inputPos - s.lastFlushPos
    have hnl : ¬ (io.availIn = 0 ∧ op = 2) := of_decide_eq_false hil
    -- a full block is waiting: otherwise the loop would have copied input, or this is the last invocation
    have hrbs : remainingInputBlockSize s = 0 := by
      rcases hcond.2.2 with h0 | h0
      · exact h0
      · have h2 : op = 2 := hop.resolve_left h0
        exact Classical.byContradiction fun hr => hcopy ⟨hr, fun ha => hnl ⟨ha, h2⟩⟩
    have hu : s.unprocessed = s.inputPos - s.lastProcessedPos := wsub64_eq hI.lp_le hI.ip_lt
    have hbpos : 0 < s.blockSize := Nat.pow_pos (by decide)
    have hge : s.blockSize ≤ s.inputPos - s.lastProcessedPos := by
      simp only [remainingInputBlockSize] at hrbs
      split at hrbs
      · rw [← hu]; assumption
      · omega
    have hle := hI.blk
    have hfl := hI.fl_le
    constructor <;> omega
  · exact Or.inl rfl

end BV.StreamBlocks
