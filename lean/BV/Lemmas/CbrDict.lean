import BV.Lemmas.CbrLoop
import BV.Lemmas.RecoderAux
/-! The per-command obligation of the loop theorem (NPOSTFIX = NDIRECT = 0), copies and static-dictionary references under the
word-oracle hypothesis `SlotOK`: a sound search result is a sound reference (`SoundAt.ref`), BV/Lemmas/CmdReplay.lean does the rest. -/
namespace BV.Cbr
open BV.Hasher BV.MatchFinder BV.Recoder BV.PrefixArith BV.MetaBlock

/-- the transform id `TestStaticDictionaryItem` emits for "omit the last `cut` bytes" -/
def cutoffTransform (cut : Nat) : Nat := (cut <<< 2) + ((kCutoffTransforms >>> (cut * 6)) &&& 0x3f)

/-- the hypothesis on a looked-up slot `d` (`item = len | index << 5`, `size_bits`, the bytes of the word): static dictionary
and decoder agree on it, for every cut-off transform `TestStaticDictionaryItem` can emit (`cut < 10`) -/
def SlotOK (wo : WordOracle) (d : DictItem) : Prop :=
  4 ≤ (d.item &&& 0x1f) ∧ (d.item &&& 0x1f) ≤ 24 ∧
  d.sizeBits = dictSizeBits.getD (d.item &&& 0x1f) 0 ∧ d.item >>> 5 < 2 ^ d.sizeBits ∧
  (d.item &&& 0x1f) ≤ d.word.length ∧
  ∀ cut, cut < 10 → cut < (d.item &&& 0x1f) →
    wo (d.item &&& 0x1f) (d.item >>> 5) (cutoffTransform cut) = some (d.word.take ((d.item &&& 0x1f) - cut))

/-- `dict`: hash of the 4 bytes at `cm` → the one or two slots `SearchInStaticDictionary` probes -/
def DictFaithful (wo : WordOracle) (dict : ByteArray → Nat → Option (List DictItem)) (data : ByteArray) : Prop :=
  ∀ cm items, dict data cm = some items → ∀ d ∈ items, d.item ≠ 0 → SlotOK wo d

theorem dictFaithful_none (wo : WordOracle) (data : ByteArray) : DictFaithful wo (fun _ _ => none) data :=
  fun _ _ hi => by cases hi

theorem xor_cancel (a b : Nat) : a ^^^ (b ^^^ a) = b := by
  rw [Nat.xor_comm b a, ← Nat.xor_assoc, Nat.xor_self, Nat.zero_xor]

theorem cutoffTransform_lt (cut : Nat) (h : cut < 10) : cutoffTransform cut < 100 := by
  unfold cutoffTransform
  have : (kCutoffTransforms >>> (cut * 6)) &&& 0x3f ≤ 0x3f := Nat.and_le_right
  rw [Nat.shiftLeft_eq]; omega

theorem dictDistance_split {M idx t b dist : Nat} (hM : M ≤ 2 ^ 30) (hb : b ≤ 11) (ht : t < 100)
    (hidx : idx < 2 ^ b) (h : dist = (M + idx + 1 + t <<< b) % U64) :
    M < dist ∧ dist + 15 < 2 ^ 31 ∧ (dist - M - 1) % 2 ^ b = idx ∧ (dist - M - 1) / 2 ^ b = t := by
  have hpow : 2 ^ b ≤ 2 ^ 11 := Nat.pow_le_pow_right (by decide) hb
  have hprod : t * 2 ^ b ≤ 100 * 2 ^ 11 := Nat.mul_le_mul (Nat.le_of_lt ht) hpow
  have hU : U64 = 18446744073709551616 := rfl
  rw [Nat.shiftLeft_eq, Nat.mod_eq_of_lt (by omega)] at h
  have hwid : dist - M - 1 = idx + t * 2 ^ b := by omega
  rw [hwid, Nat.add_mul_mod_self_right, Nat.mod_eq_of_lt hidx, Nat.add_mul_div_right _ _ (Nat.pow_pos (by decide)),
    Nat.div_eq_of_lt hidx, Nat.zero_add]
  exact ⟨by omega, by omega, rfl, rfl⟩

theorem word_take_eq_text {data : ByteArray} {k tail : Nat} {hist mb : Bytes} {lo : Nat}
    (hv : RingView data k tail (hist ++ mb) lo (hist.length + mb.length)) (htail : tail ≤ 2 ^ k)
    (hmt : mb.length ≤ tail) {pos c n : Nat} (hpos : pos = hist.length + c) (hlo : lo ≤ pos)
    (hfit : c + n ≤ mb.length) {word : Bytes} (hn : n ≤ word.length)
    (h : ∀ j, j < n → (data.get! (pos % 2 ^ k + j)).toNat = word.getD j 0) :
    word.take n = (mb.drop c).take n := by
  apply List.ext_getElem
  · rw [List.length_take, List.length_take, List.length_drop]; omega
  · intro j hj1 hj2
    have hj : j < n := by rw [List.length_take] at hj1; omega
    have hr := hv.at htail pos j (by omega) (by omega)
      (by have := Nat.mod_lt pos (Nat.pow_pos (n := k) (show 0 < 2 by decide)); omega)
    rw [h j hj, List.getD_eq_getElem?_getD, List.getD_eq_getElem?_getD, List.getElem?_append_right (by omega),
      List.getElem?_eq_getElem (by omega), List.getElem?_eq_getElem (by omega)] at hr
    rw [List.getElem_take, List.getElem_take, List.getElem_drop]
    simp only [Option.getD_some] at hr
    rw [hr]
    congr 1; omega

theorem SoundAt.ref {C : Ctx} {W md tail pos ins : Nat} {sr : SR} {c0 c1 c2 c3 : Int} {rest : List Int} (large : Bool)
    (hv : RingView C.data C.k tail (C.hist ++ C.mb) C.lo (C.hist.length + C.mb.length))
    (htail : tail ≤ 2 ^ C.k) (hmt : C.mb.length ≤ tail) (hlo : C.lo ≤ pos - W) (hpos : C.hist.length ≤ pos)
    (hlt : pos + 4 ≤ C.hist.length + C.mb.length) (hwin : W ≤ 2 ^ 30)
    (hstd : large = false → W ≤ 2 ^ 26 - 4) (hmd : large = false → md ≤ 2 ^ 26 - 4)
    (hc : CacheI32 (c0 :: c1 :: c2 :: c3 :: rest))
    (hs : SoundAt (SlotOK C.w) C.data C.k md pos (C.hist.length + C.mb.length - pos) (min pos W) sr) :
    ∃ lc code, emitCommand 0 0 pos W ins sr (c0 :: c1 :: c2 :: c3 :: rest)
        = some (commandInit 0 0 ins sr.len lc code, pushDistance W pos sr.distance code c0 c1 c2 c3 rest) ∧
      RefOK C.w W (C.hist ++ C.mb) pos [c0, c1, c2, c3] sr.len lc sr.distance code ∧
      sr.len ≤ C.hist.length + C.mb.length - pos ∧ (large = false → code < 2 ^ 26 + 12) := by
  rcases hs with ⟨h1, h2, h3, h4, h5, h6⟩ | ⟨items, hslot, x, hx, h1, h2, h3, h4, h5, h6, h7, h8, h9, h10⟩
  · have hdw : sr.distance ≤ W := Nat.le_trans h2 (Nat.min_le_right _ _)
    have hdp : sr.distance ≤ pos := Nat.le_trans h2 (Nat.min_le_left _ _)
    obtain ⟨code, hcode, hcle, _, hrfc⟩ := computeDistanceCode_sound 0 0 sr.distance (min pos W) c0 c1 c2 c3 rest h1
      (by omega) hc
    refine ⟨sr.len, code, ?_, .copy h1 h2 (h5 (by omega)) rfl (by omega) hrfc ?_, h3, fun hl => by have := hstd hl; omega⟩
    · unfold emitCommand pushDistance
      simp only [hcode, h4, Nat.xor_zero]
    · exact ring_match_is_text_match hv htail hdp (by omega) (by omega) (by omega) h6
  · have hitem : x.item ≠ 0 := by intro hz; rw [hz] at h2; exact absurd (Nat.lt_of_lt_of_le h1 h2) (by decide)
    obtain ⟨s1, s2, s3, s4, s5, s6⟩ := hslot x hx hitem
    have hlo' : C.lo ≤ pos := Nat.le_trans hlo (Nat.sub_le _ _)
    clear hslot hx hitem h9 hstd hlo
    -- word length `L`, omitted bytes `cut = L - sr.len` and the largest backward distance `M` become variables, so that
    -- `omega` meets no truncated subtraction and no `min`
    generalize x.item &&& 0x1f = L at h2 h3 h4 h5 h6 h7 s1 s2 s3 s5 s6
    generalize x.item >>> 5 = idx at h7 s4 s6
    obtain ⟨cut, rfl⟩ := Nat.exists_eq_add_of_le h2
    rw [Nat.add_sub_cancel_left] at h5 h7
    have hM : min pos W ≤ 2 ^ 30 := Nat.le_trans (Nat.min_le_right pos W) hwin
    generalize hMe : min pos W = M at h7 h8 hM
    obtain ⟨hgt, hd31, hwi, hwt⟩ := dictDistance_split hM (s3 ▸ dictSizeBits_le _) (cutoffTransform_lt _ h5) s4 h7
    obtain ⟨c, rfl⟩ := Nat.exists_eq_add_of_le hpos
    obtain ⟨hfit, hd1, hd31', hlen⟩ : c + sr.len ≤ C.mb.length ∧ 1 ≤ sr.distance ∧
        sr.distance < 2 ^ 31 ∧ sr.len ≤ C.hist.length + C.mb.length - (C.hist.length + c) := by omega
    clear h3 h7 s4 hM hwin hlt
    have hword : x.word.take (sr.len + cut - cut) = ((C.hist ++ C.mb).drop (C.hist.length + c)).take sr.len := by
      rw [Nat.add_sub_cancel, List.drop_append, List.drop_of_length_le (Nat.le_add_right _ _), List.nil_append,
        Nat.add_sub_cancel_left]
      exact word_take_eq_text hv htail hmt rfl hlo' hfit (Nat.le_trans (Nat.le_add_right _ _) s5) h10
    obtain ⟨code, hcode, _, hcd, _⟩ := computeDistanceCode_sound 0 0 sr.distance M c0 c1 c2 c3 rest hd1 hd31' hc
    rw [hcd hgt] at hcode
    refine ⟨sr.len + cut, sr.distance + 15, ?_, .word (hMe ▸ hgt) rfl hd31 s1 s2 (Nat.ne_of_gt h1) (by omega) (by omega) ?_,
      hlen, fun hl => by have := hmd hl; omega⟩
    · unfold emitCommand pushDistance
      simp only [hMe, hcode, h6, xor_cancel]
    · rw [hMe, ← s3, hwi, hwt, s6 _ h5 (by omega), hword]

theorem emitHyp_all (C : Ctx) (p : Params) (large : Bool) (hnp : p.npostfix = 0) (hnd : p.ndirect = 0) (tail : Nat)
    (hv : RingView C.data C.k tail (C.hist ++ C.mb) C.lo (C.hist.length + C.mb.length))
    (htail : tail ≤ 2 ^ C.k) (hmt : C.mb.length ≤ tail)
    (hlo : C.lo ≤ C.hist.length - maxBackwardLimit p)
    (hwin : maxBackwardLimit p ≤ 2 ^ 30) (hstd : large = false → maxBackwardLimit p ≤ 2 ^ 26 - 4)
    (hmd : large = false → p.maxDistance ≤ 2 ^ 26 - 4)
    (hmb : C.mb.length ≤ 2 ^ 24) :
    EmitHyp (SlotOK C.w) C p (fun c => cmdOK (distAlphabetSize large 0 0) 0 0 c = true) := by
  intro d pos ins sr cache hout hpos hlt hring hc hcl hs
  obtain ⟨c0, c1, c2, c3, rest, rfl⟩ := exists_cons4 hcl
  obtain ⟨lc, code, he, href, hlen, hcstd⟩ := hs.ref (ins := ins) large hv htail hmt (by omega) (by omega) hlt hwin hstd hmd hc
  have hring' : [c0, c1, c2, c3] = d.ring := by rw [hring]; rfl
  rw [hring'] at href
  obtain ⟨hdec, f1, f5, hne, hcmd⟩ := href.replays (ins := ins) hout hpos (by omega) hmb large hcstd
  obtain ⟨r1, r2, r3⟩ := cache_after hc hwin sr.distance code pos
  unfold EmitGood
  rw [hnp, hnd]
  exact ⟨_, _, _, he, hdec, rfl, rfl, by rw [r1, ← hring'], r2, r3, f1, f5, hne, hcmd⟩

/-! ### a concrete instance (non-vacuity of `SlotOK`, `DictFaithful`, `RingView`, and a run that emits a
dictionary reference) -/
namespace Example

def text : List Nat :=
  [1,2,3,4,5,6,7,8, 116,105,109,101,9,10,11,12, 13,14,15,16,17,18,19,20, 21,22,23,24,25,26,27,28]
/-- what `RingBufferWrite` leaves after 32 bytes of a first lap: ring of 64 bytes (32 written),
the 32-byte tail NOT filled (first-lap bytes are not mirrored), 7 slack bytes, all zero -/
def data : ByteArray := ⟨((text ++ List.replicate 71 0).map (fun n => UInt8.ofNat n)).toArray⟩
def hasher : BasicP := ⟨2, fun w => (w.getD 0 0 + 3 * w.getD 1 0) % 16⟩
def params : Params := ⟨5, 10, 67108860, 0, 0⟩
/-- word 5 of length 4, "time" -/
def slot : DictItem := ⟨4 ||| (5 <<< 5), 10, [116, 105, 109, 101]⟩
def oracle : WordOracle := fun len idx tid =>
  if len = 4 ∧ idx = 5 then
    (if tid = 0 then some [116, 105, 109, 101] else if tid = 12 then some [116, 105, 109]
     else if tid = 27 then some [116, 105] else if tid = 23 then some [116] else none)
  else none
def dict : ByteArray → Nat → Option (List DictItem) := fun _ cm => some [if cm = 8 then slot else ⟨0, 0, []⟩]

theorem slot_ok : SlotOK oracle slot := by
  unfold SlotOK
  refine ⟨by decide, by decide, by decide, by decide, by decide, ?_⟩
  have : ∀ cut, cut < 10 → cut < (slot.item &&& 0x1f) →
      oracle (slot.item &&& 0x1f) (slot.item >>> 5) (cutoffTransform cut)
        = some (slot.word.take ((slot.item &&& 0x1f) - cut)) := by
    decide +kernel
  exact this

theorem dict_ok : DictFaithful oracle dict data := by
  intro cm items h d hd hne
  simp only [dict, Option.some.injEq] at h
  subst h
  simp only [List.mem_singleton] at hd
  subst hd
  by_cases hc : cm = 8
  · rw [if_pos hc]; exact slot_ok
  · rw [if_neg hc] at hne; exact absurd rfl hne

theorem ring_ok : RingView data 6 32 ([] ++ text) 0 (0 + 32) := by
  refine ⟨?_, ?_⟩
  · intro p _ hp
    have : ∀ p, p < 32 → ringBytes data (p % 2 ^ 6) = ([] ++ text).getD p 0 := by decide +kernel
    exact this p hp
  · intro p _ hp h64
    exact absurd h64 (by omega)

/-- the run: 8 literals, then the dictionary word at distance `8 + 5 + 1 = 14` beyond the 8 bytes of
history, then 20 pending literals -/
theorem run : (createBackwardReferences (basicOps hasher true 540 dict data (2 ^ 6 - 1)) params 32 0
    (Array.replicate 32 0, ⟨0, 0⟩) [4, 11, 15, 16] 0 0).map (fun r => (r.cmds, r.lastInsertLen, r.cache))
    = some ([⟨8, 4, 1, 186, 3092⟩], 20, [4, 11, 15, 16]) := by decide +kernel

end Example

end BV.Cbr
