/-
Reading a NON-LAST COMPRESSED meta-block does not depend on the bit offset: the §9.2 header reader
`readMetaBlock` uses the position only for the byte alignment of metadata / uncompressed / last blocks, and the body
reader does not use it at all.  This is the reader half of "a catable member's compressed meta-blocks can be shifted by
the concatenator"; the writer half (the bits `BrotliStoreMetaBlock*` emit begin with the compressed header and do not
depend on the bits written before them) is internal to the writer proofs of C01MetaBlock and not exported.
-/
import BV.Model.MetaBlock
import BV.Lemmas.MetaBlockHeader

namespace BV.HeaderSpec
theorem readMetaBlock_compressed_shift (pos pos2 : Nat) (bs : List Bool) (m pos' : Nat) (r : List Bool)
    (h : readMetaBlock pos bs = some (MetaBlock.compressed m false, pos', r)) :
    pos ≤ pos' ∧ readMetaBlock pos2 bs = some (MetaBlock.compressed m false, pos2 + (pos' - pos), r) := by
  -- every branch of `readMetaBlock` but "not last, compressed" contradicts `h`; that branch does not look at `pos`
  unfold readMetaBlock at h ⊢
  cases bs with
  | nil => cases h
  | cons isLast r1 =>
    cases isLast with
    | true =>
      exfalso
      simp only [if_true] at h
      cases r1 with
      | nil => simp at h
      | cons e r2 =>
        cases e with
        | true => simp at h
        | false =>
          simp only at h
          cases h2 : takeVal 2 r2 with
          | none => simp [h2] at h
          | some v =>
            obtain ⟨mn, r3⟩ := v
            simp only [h2] at h
            by_cases h3 : mn = 3
            · simp [h3] at h
            · simp only [h3, if_false] at h
              cases h4 : takeVal (4 * (4 + mn)) r3 with
              | none => simp [h4] at h
              | some v4 =>
                obtain ⟨x, r4⟩ := v4
                simp only [h4] at h
                split at h
                · cases h
                · simp at h
    | false =>
      simp only [Bool.false_eq_true, if_false] at h ⊢
      cases h2 : takeVal 2 r1 with
      | none => simp [h2] at h
      | some v =>
        obtain ⟨mn, r3⟩ := v
        simp only [h2] at h ⊢
        by_cases h3 : mn = 3
        · exfalso
          simp only [h3, if_true] at h
          cases r3 with
          | nil => simp at h
          | cons b r4 =>
            cases b with
            | true => simp at h
            | false =>
              simp only at h
              cases h5 : takeVal 2 r4 with
              | none => simp [h5] at h
              | some v5 =>
                obtain ⟨sb, r5⟩ := v5
                simp only [h5] at h
                cases h6 : takeVal (8 * sb) r5 with
                | none => simp [h6] at h
                | some v6 =>
                  obtain ⟨x, r6⟩ := v6
                  simp only [h6] at h
                  split at h
                  · cases h
                  · split at h
                    · cases h
                    · simp at h
        · simp only [h3, if_false] at h ⊢
          cases h4 : takeVal (4 * (4 + mn)) r3 with
          | none => simp [h4] at h
          | some v4 =>
            obtain ⟨x, r4⟩ := v4
            simp only [h4] at h ⊢
            split at h
            · cases h
            · rename_i hc
              rw [if_neg hc]
              cases r4 with
              | nil => simp at h
              | cons b r5 =>
                cases b with
                | false =>
                  simp only [Option.some.injEq, Prod.mk.injEq, MetaBlock.compressed.injEq, and_true] at h ⊢
                  obtain ⟨h1, h2', h3'⟩ := h
                  subst h1; subst h2'; subst h3'
                  exact ⟨by omega, rfl, by omega, rfl⟩
                | true =>
                  exfalso
                  simp only at h
                  split at h
                  · cases h
                  · simp at h

end BV.HeaderSpec

namespace BV.MetaBlock
open BV.Recoder BV.HeaderSpec

theorem readMetaBlockFull_compressed_shift (wo : WordOracle) (window : Nat) (large : Bool) (pos pos2 : Nat) (s s' : RdSt)
    (bs r' : List Bool) (pos'' : Nat) (m p : Nat) (r : List Bool)
    (hh : readMetaBlock pos bs = some (MetaBlock.compressed m false, p, r))
    (h : readMetaBlockFull wo window large pos s bs = some (s', false, pos'', r')) :
    readMetaBlockFull wo window large pos2 s bs = some (s', false, pos2 + (pos'' - pos), r') := by
  obtain ⟨hle, hs⟩ := readMetaBlock_compressed_shift pos pos2 bs m p r hh
  unfold readMetaBlockFull at h ⊢
  rw [hh] at h
  rw [hs]
  simp only at h ⊢
  cases hb : readCompressedBody wo window large m s r with
  | none => rw [hb] at h; cases h
  | some v =>
    obtain ⟨s1, r1⟩ := v
    rw [hb] at h
    simp only [Bool.false_eq_true, if_false, Option.some.injEq, Prod.mk.injEq] at h ⊢
    obtain ⟨a, _, c, d⟩ := h
    exact ⟨a, trivial, by omega, d⟩

theorem read_header_prefixed_any_offset (wo : WordOracle) (window : Nat) (large : Bool) (len : Nat) (h1 : 1 ≤ len)
    (h2 : len ≤ 2 ^ 24) (tail : List Bool) (pos pos2 : Nat) (s s' : RdSt) (r' : List Bool) (pos'' : Nat)
    (h : readMetaBlockFull wo window large pos s (headerBits false len ++ tail) = some (s', false, pos'', r')) :
    readMetaBlockFull wo window large pos2 s (headerBits false len ++ tail) = some (s', false, pos2 + (pos'' - pos), r') :=
  readMetaBlockFull_compressed_shift wo window large pos pos2 s s' _ r' pos'' len _ tail
    (readHeader_ok false len pos tail h1 h2) h

end BV.MetaBlock
