/-
Meaning of the bit-writer operation lists produced by tools/rs2lean.py for functions that write
through a `(storage_ix, storage)` pair: each `WOp.bits n v` is one `BrotliWriteBits(n, v, ..)`
(model: `BV.Bits.writeBits`, with its two assertions), `WOp.align` is `JumpToByteBoundary`; and how such a
list runs: piecewise over `++`, and as the chain of `writeBits` a literal list stands for.
(`jumpToByteBoundary` is the header model's: hence the import of BV/Model/Header.)
-/
import BV.Model.RsPrelude
import BV.Model.Header

namespace BV.Rs
open BV.Bits BV.Bits.Out

def runOps : List WOp → Writer → Out Writer
  | [], w => ok w
  | WOp.bits n v :: rest, w => (writeBits n v w) >>= (runOps rest)
  | WOp.align :: rest, w => runOps rest (BV.Header.jumpToByteBoundary w)

@[simp] theorem runOps_nil (w : Writer) : runOps [] w = ok w := rfl
@[simp] theorem runOps_bits (n v : Nat) (rest : List WOp) (w : Writer) :
    runOps (WOp.bits n v :: rest) w = (writeBits n v w) >>= (runOps rest) := rfl
@[simp] theorem runOps_align (rest : List WOp) (w : Writer) :
    runOps (WOp.align :: rest) w = runOps rest (BV.Header.jumpToByteBoundary w) := rfl

theorem runOps_bind_nil (x : Out Writer) : (x >>= runOps []) = x := by
  cases x <;> rfl

theorem bind_ok_right {α : Type} (x : Out α) : (x >>= fun a => ok a) = x := by
  cases x <;> rfl

/-- `runOps_bits` with the continuation a `fun`, so that `simp only [runOps_cons_bits, runOps_align, runOps_nil, bind_ok_right]`
turns a literal operation list into the chain of `writeBits` it stands for (`runOps_append` for a list in pieces) -/
theorem runOps_cons_bits (n v : Nat) (rest : List WOp) (w : Writer) :
    runOps (WOp.bits n v :: rest) w = (writeBits n v w) >>= fun w => runOps rest w := rfl

theorem runOps_append (a b : List WOp) (w : Writer) : runOps (a ++ b) w = (runOps a w) >>= fun w => runOps b w := by
  induction a generalizing w with
  | nil => rfl
  | cons x xs ih =>
    cases x with
    | bits n v =>
      simp only [List.cons_append, runOps_cons_bits, ih]
      cases writeBits n v w <;> rfl
    | align => exact ih _

end BV.Rs
