/-
C17: one round of the tree construction (`collectLeaves`,
sort, sentinels, merge) produces a laid-out full binary tree whose leaves are
exactly the symbols with a non-zero count.
-/
import BV.Lemmas.HuffmanFib
import BV.Lemmas.HuffmanSort

namespace BV.Lemmas.HuffmanBuild
open BV.Bits BV.Huffman BV.Lemmas.HuffmanCanon BV.Lemmas.HuffmanShape BV.Lemmas.HuffmanSort
open BV.Lemmas.HuffmanMerge BV.Lemmas.HuffmanFib

theorem T.leaves_length_pos (t : T) : 1 ≤ t.leaves.length := by
  induction t with
  | leaf v => simp [T.leaves]
  | node l r ihl ihr => simp [T.leaves]; omega

theorem T.size_eq (t : T) : t.size + 1 = 2 * t.leaves.length := by
  induction t with
  | leaf v => simp [T.size, T.leaves]
  | node l r ihl ihr => simp [T.size, T.leaves]; omega

theorem T.height_succ_le (t : T) : t.height + 1 ≤ t.leaves.length := by
  induction t with
  | leaf v => simp [T.height, T.leaves]
  | node l r ihl ihr => simp only [T.height, T.leaves, List.length_append]; omega

theorem T.height_pos_of_two (t : T) (h : 2 ≤ t.leaves.length) : 1 ≤ t.height := by
  cases t with
  | leaf v => simp [T.leaves] at h
  | node l r => simp [T.height]

theorem rsum_getD (g : Nat → Nat) (vs : List Nat) :
    rsum (fun q => g (vs.getD q 0)) 0 vs.length = (vs.map g).sum := by
  unfold rsum
  congr 1
  apply List.ext_getElem?
  intro k
  simp only [Nat.sub_zero, List.getElem?_map]
  by_cases hk : k < vs.length
  · simp [hk, List.getD_eq_getElem?_getD]
  · simp [hk]

theorem cntAt_eq_cntOf (l : List Node) (q : Nat) : cntAt l q = cntOf l q := by
  unfold cntAt cntOf
  cases l[q]? <;> rfl

def wOf (data : List Nat) (cl : Nat) (v : Nat) : Nat := max (data.getD v 0) cl

def valueOf (nd : Node) : Nat := nd.right.toNat

theorem valueOf_leafNode (data : List Nat) (cl v : Nat) : valueOf (leafNode data cl v) = v := by
  simp [valueOf, leafNode]

theorem buildNodes_spec (cmp : Node → Node → Bool) (hcmp : CmpOK cmp) (data : List Nat) (cl : Nat)
    (lv : List Nat)
    (tree1 : List Node) (n : Nat) (hn : n = lv.length) (hn2 : 2 ≤ n)
    (hlen : 2 * n + 1 ≤ tree1.length) (h16 : 2 * n < 32768)
    (hleaf : ∀ k, k < n → tree1[k]? = some (leafNode data cl (lv.getD k 0)))
    (hW : (lv.map (wOf data cl)).sum < 4294967295) :
    ∃ pool' t, buildNodes cmp tree1 n = .ok pool' ∧ pool'.length = tree1.length ∧
      IsTree pool' (2 * n - 1) t ∧ t.leaves.Perm lv ∧
      fib (t.height + 2) * cl ≤ (lv.map (wOf data cl)).sum := by
  unfold buildNodes
  obtain ⟨tree2, hs1, hs2, hs3⟩ := sortItems_spec cmp tree1 n (by omega)
  have hst := sortItems_take cmp tree1 tree2 n (by omega) hs1
  simp only [hs1, Out.bind_ok]
  have hl2 : tree2.length = tree1.length := hst.1
  rw [setAt_of_lt tree2 n _ (by omega)]
  simp only [Out.bind_ok]
  rw [setAt_of_lt _ (n + 1) _ (by simp; omega)]
  simp only [Out.bind_ok]
  have htake1 : tree1.take n = lv.map (leafNode data cl) := by
    apply List.ext_getElem?
    intro k
    rw [List.getElem?_take, List.getElem?_map]
    by_cases hk : k < n
    · rw [if_pos hk, hleaf k hk, List.getD_eq_getElem?_getD,
        List.getElem?_eq_getElem (by omega : k < lv.length)]
      simp
    · rw [if_neg hk, List.getElem?_eq_none (by omega)]; rfl
  let vs : List Nat := (tree2.take n).map valueOf
  have hvsperm : vs.Perm lv := by
    have := hst.2.1.map valueOf
    rw [htake1, List.map_map] at this
    have e : lv.map (valueOf ∘ leafNode data cl) = lv := by
      conv => rhs; rw [← List.map_id lv]
      apply List.map_congr_left
      intro v _; simp [valueOf_leafNode]
    rw [e] at this
    exact this
  have hvslen : vs.length = n := by
    show ((tree2.take n).map valueOf).length = n
    rw [List.length_map, List.length_take]; omega
  have hleaf2 : ∀ q, q < n → tree2[q]? = some (leafNode data cl (vs.getD q 0)) := by
    intro q hq
    have hq2 : q < tree2.length := by omega
    have hmem : tree2[q] ∈ tree2.take n := by
      rw [List.mem_take_iff_getElem]
      exact ⟨q, by omega, rfl⟩
    have hmem1 : tree2[q] ∈ tree1.take n := (hst.2.1.mem_iff).mp hmem
    rw [htake1, List.mem_map] at hmem1
    obtain ⟨v, _, hv⟩ := hmem1
    have hvq : vs.getD q 0 = v := by
      show ((tree2.take n).map valueOf).getD q 0 = v
      rw [List.getD_eq_getElem?_getD, List.getElem?_map, List.getElem?_take, if_pos hq,
        List.getElem?_eq_getElem hq2, ← hv]
      simp [valueOf_leafNode]
    rw [List.getElem?_eq_getElem hq2, ← hv, hvq]
  let pool4 := (tree2.set n sentinel).set (n + 1) sentinel
  have h4lt : ∀ q, q < n → pool4[q]? = tree2[q]? := by
    intro q hq
    show ((tree2.set n sentinel).set (n + 1) sentinel)[q]? = tree2[q]?
    rw [List.getElem?_set_ne (by omega), List.getElem?_set_ne (by omega)]
  let tr : Nat → T := fun q => .leaf (vs.getD q 0)
  have hinv : MInv n (wOf data cl) vs (n - 1) pool4 0 (n + 1) tr := by
    refine
      { hk := by omega, hi := by omega, hj1 := by omega, hj2 := by omega, hcount := by omega,
        hlen := by show 2 * n + 1 ≤ ((tree2.set n sentinel).set (n + 1) sentinel).length
                   simp; omega,
        h16 := h16, hsn := ?_, hse := ?_, htree := ?_, hsum := ?_, hW := ?_,
        hfresh := Or.inr (by omega) }
    · show ((tree2.set n sentinel).set (n + 1) sentinel)[n]? = some sentinel
      rw [List.getElem?_set_ne (by omega), List.getElem?_set_self (by omega)]
    · have : 2 * n - (n - 1) = n + 1 := by omega
      rw [this]
      show ((tree2.set n sentinel).set (n + 1) sentinel)[n + 1]? = some sentinel
      rw [List.getElem?_set_self (by simp; omega)]
    · intro q hq
      have hqn : q < n := by
        rcases hq with ⟨_, h2⟩ | ⟨h1, h2⟩
        · exact h2
        · omega
      have hp : pool4[q]? = some (leafNode data cl (vs.getD q 0)) := by
        rw [h4lt q hqn]; exact hleaf2 q hqn
      refine ⟨?_, ?_⟩
      · exact .leaf (c := max (data.getD (vs.getD q 0) 0) cl) (l := -1) hp (by omega)
      · simp [cntAt, hp, leafNode, G, wOf, tr]
    · intro g
      have : 2 * n - (n - 1) = n + 1 := by omega
      rw [this, rsum_empty _ (n + 1) (n + 1) (Nat.le_refl _), Nat.add_zero, ← hvslen]
      exact rsum_getD g vs
    · rw [(hvsperm.map (wOf data cl)).sum_nat]; exact hW
  have hsorted := sortItems_sorted cmp hcmp tree1 tree2 n (by omega) hs1
  have hsinv : SInv n cl (n - 1) pool4 0 (n + 1) tr 0 (fun _ => 0) := by
    have he : 2 * n - (n - 1) = n + 1 := by omega
    refine { hS1 := ?_, hS2 := ?_, hS3 := ?_, hS5 := ?_, hleaf := ?_, hS6 := ?_, hS7 := ?_ }
    · intro p q _ hpq hq
      have h1 : cntAt pool4 p = cntOf tree2 p := by
        rw [cntAt_congr _ _ p (h4lt p (by omega)), cntAt_eq_cntOf]
      have h2 : cntAt pool4 q = cntOf tree2 q := by
        rw [cntAt_congr _ _ q (h4lt q hq), cntAt_eq_cntOf]
      rw [h1, h2]; exact hsorted p q hpq hq
    · intro p q h1 h2 h3; omega
    · intro q _; exact Nat.zero_le _
    · intro q h1 h2; omega
    · intro q _ _; rfl
    · intro q hq
      rw [he] at hq
      have hqn : q < n := by
        rcases hq with ⟨_, h2⟩ | ⟨h1, h2⟩
        · exact h2
        · omega
      have hp : pool4[q]? = some (leafNode data cl (vs.getD q 0)) := by
        rw [h4lt q hqn]; exact hleaf2 q hqn
      simp only [cntAt, hp, leafNode, tr, T.height]
      show fib 2 * cl ≤ _
      simp only [fib, Nat.zero_add, Nat.one_mul]
      omega
    · intro q h1 h2; omega
  obtain ⟨pool', i', j', tr', lastY', K', hm, hinv', hsinv', hl'⟩ :=
    mergeLoop_fib n cl (wOf data cl) vs (n - 1) pool4 0 (n + 1) tr 0 (fun _ => 0) hinv hsinv
  have hc := hinv'.hcount
  have hf := hinv'.hfresh
  have hj2' := hinv'.hj2
  have hi' := hinv'.hi
  simp only [Nat.sub_zero] at hc hf hj2'
  have hjj : j' = 2 * n - 1 := by omega
  have hii : i' = n := by omega
  have hav : Avail n i' j' (2 * n - 0) (2 * n - 1) := Or.inr ⟨by omega, by omega⟩
  refine ⟨pool', tr' (2 * n - 1), hm, ?_, (hinv'.htree _ hav).1, ?_, ?_⟩
  · rw [hl']
    show ((tree2.set n sentinel).set (n + 1) sentinel).length = tree1.length
    simp [hl2]
  · refine (perm_of_sums _ _ ?_).trans hvsperm
    intro g
    have := hinv'.hsum g
    rw [hii, hjj, rsum_empty _ n n (Nat.le_refl _), Nat.zero_add] at this
    have e2 : 2 * n - 0 = (2 * n - 1) + 1 := by omega
    rw [e2, rsum_tail _ _ _ (Nat.le_refl _), rsum_empty _ _ _ (Nat.le_refl _), Nat.zero_add,
      G_eq_sum] at this
    exact this
  · have h1 := hsinv'.hS6 _ hav
    have h2 := hinv'.cnt_le _ hav
    rw [(hvsperm.map (wOf data cl)).sum_nat] at h2
    omega

end BV.Lemmas.HuffmanBuild
