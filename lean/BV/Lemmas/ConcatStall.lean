/-
Calls compared (C12): the look-ahead takes exactly the bytes it needs however they arrive; a call that
makes no progress changes nothing observable; the input in front of the offset and the room
offered to the end-marker strip do not matter; the one-split lemma for the header phase.
-/
import BV.Lemmas.ConcatStream

namespace BV.Concat
open Outcome BV.Gen

/-- number of header bytes `sufficient()` asks for, as a function of the first byte -/
def need (b0 : Nat) : Nat := if 127 &&& b0 = 17 then 5 else 4

theorem headerLoop_cons (nsp : NewStreamData) (x : Nat) (l : List Nat) (off : Nat) :
    headerLoop nsp (x :: l) off =
      if nsp.sufficient then ok (nsp, off) else
      match nsp.bytes_so_far.set? nsp.num_bytes_read x with
      | none => Outcome.panic .streamBsfIndex
      | some bsf =>
        if nsp.num_bytes_read + 1 ≥ 256 then Outcome.panic .streamReadAdd else
        headerLoop { nsp with bytes_so_far := bsf, num_bytes_read := nsp.num_bytes_read + 1 } l (off + 1) := by
  rfl

theorem headerLoop_append : ∀ (a b : List Nat) (nsp : NewStreamData) (off : Nat),
    headerLoop nsp (a ++ b) off = (headerLoop nsp a off).bind (fun r => headerLoop r.1 b r.2) := by
  intro a
  induction a with
  | nil => intro b nsp off; simp [headerLoop]
  | cons x rest ih =>
    intro b nsp off
    rw [List.cons_append, headerLoop_cons, headerLoop_cons]
    by_cases hs : nsp.sufficient = true
    · simp only [hs, if_true, bind_ok]
      cases b with
      | nil => rfl
      | cons y t => rw [headerLoop_cons]; simp [hs]
    · simp only [hs, Bool.false_eq_true, if_false]
      cases nsp.bytes_so_far.set? nsp.num_bytes_read x with
      | none => simp
      | some bsf =>
        dsimp only
        by_cases ho : nsp.num_bytes_read + 1 ≥ 256
        · simp [ho]
        · simp only [ho, if_false]
          exact ih b _ _

theorem headerLoop_sufficient (nsp : NewStreamData) (h : nsp.sufficient = true) (l : List Nat) (off : Nat) :
    headerLoop nsp l off = ok (nsp, off) := by
  cases l with
  | nil => rfl
  | cons a t => simp [headerLoop, h]

theorem headerLoop_new_4 (a b c d : Nat) (rest : List Nat) (h : 127 &&& a ≠ 17) :
    headerLoop NewStreamData.new (a :: b :: c :: d :: rest) 0
      = ok (⟨⟨a, b, c, d, 0⟩, 4, none⟩, 4) := by
  have hs : (⟨⟨a, b, c, d, 0⟩, 4, none⟩ : NewStreamData).sufficient = true := by
    simp [NewStreamData.sufficient, h]
  have := headerLoop_append [a, b, c, d] rest NewStreamData.new 0
  simp only [List.cons_append, List.nil_append] at this
  rw [this]
  have e : headerLoop NewStreamData.new [a, b, c, d] 0 = ok (⟨⟨a, b, c, d, 0⟩, 4, none⟩, 4) := by
    simp [headerLoop, NewStreamData.new, NewStreamData.sufficient, B5.set?, B5.zero]
  rw [e]
  simp only [bind_ok]
  exact headerLoop_sufficient _ hs rest 4

theorem headerLoop_new_5 (a b c d e : Nat) (rest : List Nat) (h : 127 &&& a = 17) :
    headerLoop NewStreamData.new (a :: b :: c :: d :: e :: rest) 0
      = ok (⟨⟨a, b, c, d, e⟩, 5, none⟩, 5) := by
  have hs : (⟨⟨a, b, c, d, e⟩, 5, none⟩ : NewStreamData).sufficient = true := by
    simp [NewStreamData.sufficient]
  have := headerLoop_append [a, b, c, d, e] rest NewStreamData.new 0
  simp only [List.cons_append, List.nil_append] at this
  rw [this]
  have e : headerLoop NewStreamData.new [a, b, c, d, e] 0 = ok (⟨⟨a, b, c, d, e⟩, 5, none⟩, 5) := by
    simp [headerLoop, NewStreamData.new, NewStreamData.sufficient, B5.set?, B5.zero, h]
  rw [e]
  simp only [bind_ok]
  exact headerLoop_sufficient _ hs rest 5

theorem state_eta_pending (s : State) (d : NewStreamData) (h : s.new_stream_pending = some d) :
    { s with new_stream_pending := some d } = s := by
  cases s; simp_all

theorem stream_none (s : State) (inp : List Nat) (cap : Nat) (hp : s.new_stream_pending = none) :
    stream s inp cap = streamTail s inp 0 [] cap := by
  unfold stream; rw [hp]

theorem stream_flush_fail (s s1 : State) (nsp0 : NewStreamData) (inp : List Nat) (cap : Nat) (o1 : List Nat)
    (code : Nat) (hp : s.new_stream_pending = some nsp0)
    (hf : flushPreviousStream s [] cap = ok (s1, o1, code)) (hc : code ≠ SUCCESS) :
    stream s inp cap = ok ⟨s1, code, 0, o1⟩ := by
  unfold stream
  rw [hp]
  dsimp only
  rw [hf, bind_ok]
  exact if_pos hc

theorem stream_of_flush (s s1 : State) (nsp0 : NewStreamData) (inp : List Nat) (cap : Nat) (o1 : List Nat)
    (hp : s.new_stream_pending = some nsp0)
    (hf : flushPreviousStream s [] cap = ok (s1, o1, SUCCESS)) :
    stream s inp cap =
      ((if nsp0.num_bytes_written.isNone ∧ nsp0.num_bytes_read < NUM_STREAM_HEADER_BYTES then
          (headerLoop nsp0 inp 0).bind fun x => ok (x.1, x.2, { s1 with new_stream_pending := some x.1 })
        else ok (nsp0, 0, s1)).bind fun x =>
      if x.1.num_bytes_written.isNone ∧ ¬ x.1.sufficient then ok ⟨x.2.2, NEEDS_MORE_INPUT, x.2.1, o1⟩ else
      if cap = o1.length then ok ⟨x.2.2, NEEDS_MORE_OUTPUT, x.2.1, o1⟩ else
      (shiftAndCheckNewStreamHeader x.2.2 x.1 o1 cap).bind fun y =>
      if y.2.2 ≠ SUCCESS then ok ⟨y.1, y.2.2, x.2.1, y.2.1⟩ else
      if y.2.1.length = cap then ok ⟨y.1, NEEDS_MORE_OUTPUT, x.2.1, y.2.1⟩ else
      streamTail y.1 inp x.2.1 y.2.1 cap) := by
  unfold stream
  rw [hp]
  dsimp only
  rw [hf]
  simp only [bind_ok, SUCCESS, ne_eq, not_true_eq_false, if_false]

theorem stream_none_nocap (s : State) (inp : List Nat) (hp : s.new_stream_pending = none) :
    stream s inp 0 = ok ⟨s, NEEDS_MORE_OUTPUT, 0, []⟩ := by
  rw [stream_none s inp 0 hp]
  unfold streamTail
  rw [hp]
  by_cases h2 : s.last_bytes_len ≠ 2
  · simp [h2]
  · simp [h2, streamCopy]

theorem flush_sat_unchanged (s s1 : State) (out1 : List Nat) (code : Nat)
    (h : flushPreviousStream s [] 0 = ok (s1, out1, code)) (hc : code ≠ SUCCESS) : s1 = s ∧ out1 = [] := by
  cases hs : s.last_byte_sanitized with
  | true =>
    rw [flush_sanitized s [] 0 hs, Outcome.ok.injEq, Prod.mk.injEq, Prod.mk.injEq] at h
    exact absurd h.2.2.symm hc
  | false =>
    by_cases h0 : s.last_bytes_len = 0
    · rw [flush_empty s [] 0 hs h0, Outcome.ok.injEq, Prod.mk.injEq, Prod.mk.injEq] at h
      exact absurd h.2.2.symm hc
    rcases flush_strip_or s hs h0 with ⟨t, _, hp⟩ | hn | ⟨i, _, hi⟩
    · rw [hp] at h; cases h
    · rw [hn, Outcome.ok.injEq, Prod.mk.injEq, Prod.mk.injEq] at h; exact ⟨h.1.symm, h.2.1.symm⟩
    rw [hi] at h
    by_cases h8 : i ≥ 8
    · rw [flushStrip_ge8_full _ _ _ _ _ h8 (Nat.zero_le _), Outcome.ok.injEq, Prod.mk.injEq, Prod.mk.injEq] at h
      exact ⟨h.1.symm, h.2.1.symm⟩
    · rw [flushStrip_lt8 _ _ _ _ _ (by omega), flushFin_lt8 _ _ _ (by omega), Outcome.ok.injEq, Prod.mk.injEq,
        Prod.mk.injEq] at h
      exact absurd h.2.2.symm hc

theorem flush_stall (s s1 : State) (out1 : List Nat) (h : flushPreviousStream s [] 0 = ok (s1, out1, SUCCESS)) :
    out1 = [] ∧ s1.last_byte_sanitized = true ∧ s1.new_stream_pending = s.new_stream_pending ∧
    ∀ out cap, flushPreviousStream s out cap = ok (s1, out, SUCCESS) := by
  cases hs : s.last_byte_sanitized with
  | true =>
    rw [flush_sanitized s [] 0 hs, Outcome.ok.injEq, Prod.mk.injEq, Prod.mk.injEq] at h
    obtain ⟨rfl, rfl, _⟩ := h
    exact ⟨rfl, hs, rfl, fun out cap => flush_sanitized s out cap hs⟩
  | false =>
    by_cases h0 : s.last_bytes_len = 0
    · rw [flush_empty s [] 0 hs h0, Outcome.ok.injEq, Prod.mk.injEq, Prod.mk.injEq] at h
      obtain ⟨rfl, rfl, _⟩ := h
      exact ⟨rfl, rfl, rfl, fun out cap => flush_empty s out cap hs h0⟩
    rcases flush_strip_or s hs h0 with ⟨t, _, hp⟩ | hn | ⟨i, _, hi⟩
    · rw [hp] at h; cases h
    · rw [hn] at h; simp at h
    rw [hi] at h
    by_cases h8 : i ≥ 8
    · rw [flushStrip_ge8_full _ _ _ _ _ h8 (Nat.zero_le _)] at h; simp at h
    rw [flushStrip_lt8 _ _ _ _ _ (by omega), flushFin_lt8 _ _ _ (by omega), Outcome.ok.injEq, Prod.mk.injEq,
      Prod.mk.injEq] at h
    obtain ⟨rfl, rfl, _⟩ := h
    refine ⟨rfl, rfl, by dsimp only; split <;> rfl, fun out cap => ?_⟩
    rw [hi, flushStrip_lt8 _ _ _ _ _ (by omega), flushFin_lt8 _ _ _ (by omega)]

theorem stall_transparent (s : State) (r : Ret) (h : stream s [] 0 = ok r) :
    r.consumed = 0 ∧ r.produced = [] ∧ (∀ inp cap, stream r.st inp cap = stream s inp cap) ∧
    stream r.st [] 0 = ok r := by
  cases hp : s.new_stream_pending with
  | none =>
    rw [stream_none_nocap s [] hp] at h
    simp only [Outcome.ok.injEq] at h
    subst h
    exact ⟨rfl, rfl, fun _ _ => rfl, stream_none_nocap s [] hp⟩
  | some nsp0 =>
    cases hfl : flushPreviousStream s [] 0 with
    | panic t =>
      unfold stream at h; rw [hp] at h; dsimp only at h; rw [hfl] at h; simp at h
    | ok fr =>
      obtain ⟨s1, out1, code⟩ := fr
      by_cases hc : code = SUCCESS
      · subst hc
        obtain ⟨rfl, hsan, hpend, hall⟩ := flush_stall s s1 out1 hfl
        have hp1 : s1.new_stream_pending = some nsp0 := by rw [hpend, hp]
        have hr : r.st = s1 ∧ r.consumed = 0 ∧ r.produced = [] := by
          rw [stream_of_flush s s1 nsp0 [] 0 [] hp (hall [] 0)] at h
          simp only [headerLoop, bind_ok, state_eta_pending s1 nsp0 hp1] at h
          have e : (if nsp0.num_bytes_written.isNone = true ∧ nsp0.num_bytes_read < NUM_STREAM_HEADER_BYTES
              then ok (nsp0, 0, s1) else ok (nsp0, 0, s1)) = ok (nsp0, 0, s1) := by split <;> rfl
          rw [e] at h
          simp only [bind_ok] at h
          split at h
          · simp only [Outcome.ok.injEq] at h; subst h; exact ⟨rfl, rfl, rfl⟩
          · simp only [List.length_nil, if_true, Outcome.ok.injEq] at h; subst h; exact ⟨rfl, rfl, rfl⟩
        obtain ⟨e1, e2, e3⟩ := hr
        have hsame : ∀ inp cap, stream s1 inp cap = stream s inp cap := by
          intro inp cap
          rw [stream_of_flush s s1 nsp0 inp cap [] hp (hall [] cap),
              stream_of_flush s1 s1 nsp0 inp cap [] hp1 (flush_sanitized s1 [] cap hsan)]
        refine ⟨e2, e3, ?_, ?_⟩
        · rw [e1]; exact hsame
        · rw [e1, hsame, h]
      · have hr : r = ⟨s1, code, 0, out1⟩ := by
          rw [stream_flush_fail s s1 nsp0 [] 0 out1 code hp hfl hc, Outcome.ok.injEq] at h
          exact h.symm
        have hpost := flush_sat_unchanged s s1 out1 code hfl hc
        obtain ⟨rfl, rfl⟩ := hpost
        subst hr
        exact ⟨rfl, rfl, fun _ _ => rfl, h⟩

def Ret.shiftIn (k : Nat) (r : Ret) : Ret := { r with consumed := k + r.consumed }

theorem flush_any_room (s : State) (c1 c2 : Nat) (h1 : 1 ≤ c1) (h2 : 1 ≤ c2) :
    flushPreviousStream s [] c1 = flushPreviousStream s [] c2 := by
  cases hs : s.last_byte_sanitized with
  | true => rw [flush_sanitized s [] c1 hs, flush_sanitized s [] c2 hs]
  | false =>
    by_cases h0 : s.last_bytes_len = 0
    · rw [flush_empty s [] c1 hs h0, flush_empty s [] c2 hs h0]
    rcases flush_strip_or s hs h0 with ⟨t, _, hp⟩ | hn | ⟨i, _, hi⟩
    · rw [hp, hp]
    · rw [hn, hn]
    · rw [hi, hi]
      unfold flushStrip push
      have a1 : ¬ (i ≥ 8 ∧ c1 ≤ ([] : List Nat).length) := by simp; omega
      have a2 : ¬ (i ≥ 8 ∧ c2 ≤ ([] : List Nat).length) := by simp; omega
      have b1 : c1 > ([] : List Nat).length := by simp; omega
      have b2 : c2 > ([] : List Nat).length := by simp; omega
      simp only [a1, a2, b1, b2, if_true, if_false]

theorem streamCopy_prefix (s : State) (pre inp : List Nat) (inOff : Nat) (out : List Nat) (cap : Nat)
    (hin : inOff ≤ inp.length) :
    streamCopy s (pre ++ inp) (pre.length + inOff) out cap
      = Outcome.map (Ret.shiftIn pre.length) (streamCopy s inp inOff out cap) := by
  by_cases hout : out.length ≤ cap
  ·
    obtain ⟨x, y, hxy, e⟩ := streamCopy_eq s inp inOff out cap _ hin hout rfl
    obtain ⟨x', y', hxy', e'⟩ := streamCopy_eq s (pre ++ inp) (pre.length + inOff) out cap
      (min (cap - out.length) (inp.length - inOff)) (by rw [List.length_append]; omega) hout
      (by rw [List.length_append]; congr 1; omega)
    have hd : (pre ++ inp).drop (pre.length + inOff) = inp.drop inOff := by
      rw [List.drop_append]; simp
    rw [hd] at hxy' e'
    rw [hxy, List.cons.injEq, List.cons.injEq] at hxy'
    obtain ⟨rfl, rfl, _⟩ := hxy'
    rw [e, e', map_ok, Ret.shiftIn, Nat.add_assoc]
  · -- more written than the buffer holds: both sides stop alike
    unfold streamCopy
    have e : ((pre ++ inp).length = pre.length + inOff) ↔ (inp.length = inOff) := by simp
    have hc : ¬ cap = out.length := by omega
    rw [if_neg hc, if_neg hc]
    by_cases c : inp.length = inOff
    · rw [if_pos (e.mpr c), if_pos c]; rfl
    · rw [if_neg (mt e.mp c), if_neg c, if_pos (by omega), if_pos (by omega)]; rfl

theorem idx_prefix (site : Site) (pre inp : List Nat) (i : Nat) :
    idx site (pre ++ inp) (pre.length + i) = idx site inp i := by
  unfold idx; rw [List.getElem?_append_right (by omega)]; simp

theorem streamTail_prefix (s : State) (pre inp : List Nat) (inOff : Nat) (out : List Nat) (cap : Nat)
    (hin : inOff ≤ inp.length) :
    streamTail s (pre ++ inp) (pre.length + inOff) out cap
      = Outcome.map (Ret.shiftIn pre.length) (streamTail s inp inOff out cap) := by
  unfold streamTail
  have e2 : ((pre ++ inp).length = pre.length + inOff) ↔ (inp.length = inOff) := by simp
  have e2' : ((pre ++ inp).length = pre.length + inOff + 1) ↔ (inp.length = inOff + 1) := by simp; omega
  have e5 := idx_prefix Site.streamInIndex pre inp inOff
  have e5' : idx Site.streamInIndex (pre ++ inp) (pre.length + inOff + 1) = idx Site.streamInIndex inp (inOff + 1) := by
    rw [Nat.add_assoc]; exact idx_prefix _ pre inp (inOff + 1)
  simp only [e2, e2', e5, e5']
  by_cases a0 : s.new_stream_pending.isSome = true
  · rw [if_pos a0, if_pos a0]; rfl
  rw [if_neg a0, if_neg a0]
  by_cases a1 : s.last_bytes_len ≠ 2
  · rw [if_pos a1, if_pos a1]
    by_cases c1 : cap = out.length
    · simp [c1, Ret.shiftIn]
    by_cases c2 : inp.length = inOff
    · simp [c1, c2, Ret.shiftIn]
    simp only [c1, c2, if_false]
    cases hi : idx Site.streamInIndex inp inOff with
    | panic t => simp
    | ok b =>
      simp only [bind_ok]
      cases hl : setLast s.last_bytes s.last_bytes_len b with
      | panic t => simp
      | ok lb =>
        simp only [bind_ok]
        by_cases c3 : s.last_bytes_len + 1 ≥ 256
        · simp [c3]
        simp only [c3, if_false]
        by_cases c4 : s.last_bytes_len + 1 ≠ 2
        · rw [if_pos c4, if_pos c4]
          by_cases c5 : inp.length = inOff + 1
          · simp [c5, Ret.shiftIn, Nat.add_assoc]
          simp only [c5, if_false]
          cases hi2 : idx Site.streamInIndex inp (inOff + 1) with
          | panic t => simp
          | ok b2 =>
            simp only [bind_ok]
            cases hl2 : setLast lb (s.last_bytes_len + 1) b2 with
            | panic t => simp
            | ok lb2 =>
              simp only [bind_ok]
              by_cases c6 : s.last_bytes_len + 1 + 1 ≥ 256
              · simp [c6]
              simp only [c6, if_false]
              have := streamCopy_prefix { s with last_bytes := lb2, last_bytes_len := s.last_bytes_len + 1 + 1 }
                pre inp (inOff + 1 + 1) out cap (by omega)
              rw [← this]
              simp [Nat.add_assoc]
        · rw [if_neg c4, if_neg c4]
          have := streamCopy_prefix { s with last_bytes := lb, last_bytes_len := s.last_bytes_len + 1 }
            pre inp (inOff + 1) out cap (by omega)
          rw [← this]
          simp [Nat.add_assoc]
  · rw [if_neg a1, if_neg a1]
    exact streamCopy_prefix s pre inp inOff out cap hin

theorem headerLoop_offset : ∀ (l : List Nat) (nsp : NewStreamData) (k off : Nat),
    headerLoop nsp l (k + off) = Outcome.map (fun r => (r.1, k + r.2)) (headerLoop nsp l off) := by
  intro l
  induction l with
  | nil => intro nsp k off; simp [headerLoop]
  | cons x rest ih =>
    intro nsp k off
    rw [headerLoop_cons, headerLoop_cons]
    by_cases hs : nsp.sufficient = true
    · simp [hs]
    · simp only [hs, Bool.false_eq_true, if_false]
      cases nsp.bytes_so_far.set? nsp.num_bytes_read x with
      | none => simp
      | some bsf =>
        dsimp only
        by_cases ho : nsp.num_bytes_read + 1 ≥ 256
        · simp [ho]
        · simp only [ho, if_false]
          rw [Nat.add_assoc]
          exact ih _ k (off + 1)

/-- C12 `header_phase_split`, with the two flushes (capacities `c1`, `cap`) as separate hypotheses -/
theorem header_phase_split_gen (s s1 : State) (nsp0 nspA : NewStreamData) (a b : List Nat) (c1 cap : Nat)
    (hp : s.new_stream_pending = some nsp0) (hw : nsp0.num_bytes_written = none)
    (hf1 : flushPreviousStream s [] c1 = ok (s1, [], SUCCESS))
    (hf : flushPreviousStream s [] cap = ok (s1, [], SUCCESS))
    (hsan : s1.last_byte_sanitized = true)
    (hl : headerLoop nsp0 a 0 = ok (nspA, a.length)) (hins : nspA.sufficient = false)
    (hr5 : nsp0.num_bytes_read ≤ 5) :
    stream s a c1 = ok ⟨{ s1 with new_stream_pending := some nspA }, NEEDS_MORE_INPUT, a.length, []⟩ ∧
    stream s (a ++ b) cap =
      Outcome.map (Ret.shiftIn a.length) (stream { s1 with new_stream_pending := some nspA } b cap) := by
  have hlt0 : nsp0.num_bytes_read < 5 := by
    rcases Nat.lt_or_ge nsp0.num_bytes_read 5 with h | h
    · exact h
    · have hs0 : nsp0.sufficient = true := (sufficient_iff nsp0).mpr (Or.inr (by omega))
      rw [headerLoop_sufficient nsp0 hs0 a 0] at hl
      simp only [Outcome.ok.injEq, Prod.mk.injEq] at hl
      rw [← hl.1, hs0] at hins; simp at hins
  have hcond0 : nsp0.num_bytes_written.isNone = true ∧ nsp0.num_bytes_read < NUM_STREAM_HEADER_BYTES := by
    rw [hw, hdr5]; exact ⟨rfl, hlt0⟩
  have hsat := headerLoop_sat a nsp0 0 hr5
  rw [hl] at hsat
  obtain ⟨hwA, hr5A, _, _, _, _⟩ := hsat
  dsimp only at hwA hr5A
  have hltA : nspA.num_bytes_read < 5 := by
    rcases Nat.lt_or_ge nspA.num_bytes_read 5 with h | h
    · exact h
    · have := (sufficient_iff nspA).mpr (Or.inr (by omega))
      rw [this] at hins; simp at hins
  have hcondA : nspA.num_bytes_written.isNone = true ∧ nspA.num_bytes_read < NUM_STREAM_HEADER_BYTES := by
    rw [hwA, hw, hdr5]; exact ⟨rfl, hltA⟩
  constructor
  · rw [stream_of_flush s s1 nsp0 a c1 [] hp hf1, if_pos hcond0, hl]
    simp only [bind_ok]
    rw [if_pos ⟨by rw [hwA, hw]; rfl, by rw [hins]; simp⟩]
  · have hpA : ({ s1 with new_stream_pending := some nspA } : State).new_stream_pending = some nspA := rfl
    rw [stream_of_flush s s1 nsp0 (a ++ b) cap [] hp hf, if_pos hcond0,
      stream_of_flush _ { s1 with new_stream_pending := some nspA } nspA b cap [] hpA
        (flush_sanitized _ [] cap hsan), if_pos hcondA]
    rw [headerLoop_append, hl]
    simp only [bind_ok]
    have hoff := headerLoop_offset b nspA a.length 0
    rw [Nat.add_zero] at hoff
    rw [hoff]
    cases hlb : headerLoop nspA b 0 with
    | panic t => simp
    | ok x =>
      obtain ⟨nspF, j⟩ := x
      have hj : j ≤ b.length := by
        have := headerLoop_sat b nspA 0 hr5A
        rw [hlb] at this
        simpa using this.le
      simp only [map_ok, bind_ok, List.length_nil]
      by_cases g1 : nspF.num_bytes_written.isNone = true ∧ ¬ nspF.sufficient = true
      · simp [g1, Ret.shiftIn]
      rw [if_neg g1, if_neg g1]
      by_cases g2 : cap = 0
      · simp [g2, Ret.shiftIn]
      rw [if_neg g2, if_neg g2]
      cases hsh : shiftAndCheckNewStreamHeader { s1 with new_stream_pending := some nspF } nspF [] cap with
      | panic t => simp
      | ok y =>
        simp only [bind_ok]
        by_cases g3 : y.2.2 ≠ SUCCESS
        · rw [if_pos g3, if_pos g3]; simp [Ret.shiftIn]
        rw [if_neg g3, if_neg g3]
        by_cases g4 : y.2.1.length = cap
        · rw [if_pos g4, if_pos g4]; simp [Ret.shiftIn]
        rw [if_neg g4, if_neg g4]
        exact streamTail_prefix y.1 a b j y.2.1 cap hj

end BV.Concat
