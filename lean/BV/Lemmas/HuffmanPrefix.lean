/-
C17: the RFC 7932 §3.2 canonical assignment is prefix-free, and
fits in the code lengths when the Kraft sum does not exceed 1.
-/
import BV.Lemmas.HuffmanCanon

namespace BV.Lemmas.HuffmanPrefix
open BV.Huffman BV.Lemmas.HuffmanCanon

/-- the part of the code space `[0, 2^L)` used by the codes shorter than `l` -/
def used (lens : List Nat) (L : Nat) : Nat → Nat
  | 0 => 0
  | l + 1 => used lens L l + cnt' lens l * 2 ^ (L - l)

theorem used_mono (lens : List Nat) (L : Nat) {a b : Nat} (h : a ≤ b) :
    used lens L a ≤ used lens L b := by
  induction b with
  | zero => have : a = 0 := by omega
            subst this; exact Nat.le_refl _
  | succ b ih =>
    by_cases hab : a = b + 1
    · subst hab; exact Nat.le_refl _
    · have := ih (by omega)
      simp only [used]; omega

theorem firstCode_scaled (lens : List Nat) (L l : Nat) (h : l ≤ L) :
    firstCode lens l * 2 ^ (L - l) = used lens L l := by
  induction l with
  | zero => simp [firstCode, used]
  | succ l ih =>
    rw [firstCode_succ, used, ← ih (by omega), Nat.mul_assoc]
    have : 2 * 2 ^ (L - (l + 1)) = 2 ^ (L - l) := by
      have e : L - l = (L - (l + 1)) + 1 := by omega
      rw [e, Nat.pow_succ]; omega
    rw [this, Nat.add_mul]

theorem cnt'_cons (x : Nat) (xs : List Nat) (l : Nat) :
    cnt' (x :: xs) l = (if x = l ∧ l ≠ 0 then 1 else 0) + cnt' xs l := by
  unfold cnt'
  by_cases hl : l = 0
  · simp [hl]
  · simp only [hl, ↓reduceIte, countLen_cons, ne_eq, not_false_eq_true, and_true]

theorem used_cons (x : Nat) (xs : List Nat) (L l : Nat) :
    used (x :: xs) L l = used xs L l + (if x ≠ 0 ∧ x < l then 2 ^ (L - x) else 0) := by
  induction l with
  | zero => simp [used]
  | succ l ih =>
    simp only [used, ih, cnt'_cons, Nat.add_mul]
    by_cases hx : x = l
    · subst hx
      by_cases h0 : x = 0
      · subst h0
        rw [if_neg (by omega), if_neg (by omega), if_neg (by omega)]
        omega
      · rw [if_neg (by omega), if_pos ⟨rfl, h0⟩, if_pos ⟨h0, by omega⟩]
        omega
    · have h1 : ¬ (x = l ∧ l ≠ 0) := fun h => hx h.1
      rw [if_neg h1]
      by_cases h3 : x ≠ 0 ∧ x < l
      · rw [if_pos h3, if_pos ⟨h3.1, by omega⟩]
        omega
      · rw [if_neg h3, if_neg (fun h => h3 ⟨h.1, by omega⟩)]
        omega

theorem kraftSum_eq_used (lens : List Nat) (L : Nat) (h : ∀ x ∈ lens, x ≤ L) :
    kraftSum L lens = used lens L (L + 1) := by
  induction lens with
  | nil =>
    have : ∀ l, used [] L l = 0 := by
      intro l; induction l with
      | zero => rfl
      | succ l ih => simp [used, ih, cnt', countLen]
    simp [kraftSum, this]
  | cons x xs ih =>
    have hx := h x (by simp)
    rw [used_cons, ← ih (fun y hy => h y (List.mem_cons_of_mem _ hy))]
    simp only [kraftSum, List.map_cons, List.sum_cons]
    by_cases h0 : x = 0
    · rw [if_pos h0, if_neg (fun h => h.1 h0)]; omega
    · rw [if_neg h0, if_pos ⟨h0, by omega⟩]; omega

theorem countLen_take_mono (lens : List Nat) (l : Nat) {a b : Nat} (h : a ≤ b) :
    countLen (lens.take a) l ≤ countLen (lens.take b) l := by
  have : lens.take b = lens.take a ++ (lens.take b).drop a := by
    have e : lens.take a = (lens.take b).take a := by
      rw [List.take_take]; congr 1; omega
    rw [e, List.take_append_drop]
  rw [this, countLen_append]; omega

theorem countLen_take_succ (lens : List Nat) (i : Nat) (hi : i < lens.length) :
    countLen (lens.take (i + 1)) (lens.getD i 0) = countLen (lens.take i) (lens.getD i 0) + 1 := by
  rw [List.take_add_one, countLen_append, List.getD_eq_getElem?_getD,
    List.getElem?_eq_getElem hi]
  simp [countLen]

theorem rank_lt (lens : List Nat) (i : Nat) (hi : i < lens.length) :
    countLen (lens.take i) (lens.getD i 0) < countLen lens (lens.getD i 0) := by
  have h1 := countLen_take_succ lens i hi
  have h2 := countLen_take_mono lens (lens.getD i 0) (show i + 1 ≤ lens.length by omega)
  rw [List.take_length] at h2
  omega

theorem code_end_le (lens : List Nat) (L i : Nat) (hi : i < lens.length)
    (h0 : lens.getD i 0 ≠ 0) (hL : lens.getD i 0 ≤ L) :
    ((canonicalCodes lens).getD i 0 + 1) * 2 ^ (L - lens.getD i 0)
      ≤ used lens L (lens.getD i 0 + 1) := by
  rw [canonicalCodes_getD lens i hi, if_neg h0, used, ← firstCode_scaled lens L _ hL,
    ← Nat.add_mul]
  apply Nat.mul_le_mul_right
  have := rank_lt lens i hi
  unfold cnt'
  rw [if_neg h0]
  omega

theorem code_lt (lens : List Nat) (L i : Nat) (hi : i < lens.length)
    (hall : ∀ x ∈ lens, x ≤ L) (hk : kraftSum L lens ≤ 2 ^ L) (h0 : lens.getD i 0 ≠ 0) :
    (canonicalCodes lens).getD i 0 < 2 ^ lens.getD i 0 := by
  have hmem : lens.getD i 0 ∈ lens := by
    rw [List.getD_eq_getElem?_getD, List.getElem?_eq_getElem hi]; simp
  have hL := hall _ hmem
  have h1 := code_end_le lens L i hi h0 hL
  have h2 := used_mono lens L (show lens.getD i 0 + 1 ≤ L + 1 by omega)
  rw [← kraftSum_eq_used lens L hall] at h2
  have h3 : ((canonicalCodes lens).getD i 0 + 1) * 2 ^ (L - lens.getD i 0)
      ≤ 2 ^ lens.getD i 0 * 2 ^ (L - lens.getD i 0) := by
    rw [← Nat.pow_add]
    have : lens.getD i 0 + (L - lens.getD i 0) = L := by omega
    rw [this]; omega
  have hp : 0 < 2 ^ (L - lens.getD i 0) := Nat.pow_pos (by decide)
  have := Nat.le_of_mul_le_mul_right h3 hp
  omega

theorem prefix_free (lens : List Nat) (L i j : Nat) (hi : i < lens.length) (hj : j < lens.length)
    (hall : ∀ x ∈ lens, x ≤ L) (hij : i ≠ j)
    (hi0 : lens.getD i 0 ≠ 0) (hle : lens.getD i 0 ≤ lens.getD j 0) :
    (canonicalCodes lens).getD j 0 / 2 ^ (lens.getD j 0 - lens.getD i 0)
      ≠ (canonicalCodes lens).getD i 0 := by
  have hj0 : lens.getD j 0 ≠ 0 := by omega
  by_cases heq : lens.getD i 0 = lens.getD j 0
  · rw [← heq, Nat.sub_self, Nat.pow_zero, Nat.div_one, canonicalCodes_getD lens j hj,
      canonicalCodes_getD lens i hi, if_neg hi0, ← heq, if_neg hi0]
    intro h
    have hr : countLen (lens.take j) (lens.getD i 0) = countLen (lens.take i) (lens.getD i 0) := by
      omega
    rcases Nat.lt_or_gt_of_ne hij with hlt | hlt
    · have h1 := countLen_take_succ lens i hi
      have h2 := countLen_take_mono lens (lens.getD i 0) (show i + 1 ≤ j by omega)
      omega
    · have h1 := countLen_take_succ lens j hj
      rw [← heq] at h1
      have h2 := countLen_take_mono lens (lens.getD i 0) (show j + 1 ≤ i by omega)
      omega
  · intro h
    have hlt : lens.getD i 0 < lens.getD j 0 := by omega
    have hmemj : lens.getD j 0 ∈ lens := by
      rw [List.getD_eq_getElem?_getD, List.getElem?_eq_getElem hj]; simp
    have hLj := hall _ hmemj
    have hstart : used lens L (lens.getD i 0 + 1)
        ≤ (canonicalCodes lens).getD j 0 * 2 ^ (L - lens.getD j 0) := by
      have h1 := used_mono lens L (show lens.getD i 0 + 1 ≤ lens.getD j 0 by omega)
      rw [← firstCode_scaled lens L _ hLj] at h1
      rw [canonicalCodes_getD lens j hj, if_neg hj0, Nat.add_mul]
      omega
    have hend := code_end_le lens L i hi hi0 (by omega)
    have hp : 0 < 2 ^ (lens.getD j 0 - lens.getD i 0) := Nat.pow_pos (by decide)
    have hlt2 : (canonicalCodes lens).getD j 0
        < ((canonicalCodes lens).getD i 0 + 1) * 2 ^ (lens.getD j 0 - lens.getD i 0) := by
      rw [← h]
      have := Nat.lt_div_mul_add (a := (canonicalCodes lens).getD j 0) hp
      rw [Nat.add_mul, Nat.one_mul]
      omega
    have hpow : 2 ^ (lens.getD j 0 - lens.getD i 0) * 2 ^ (L - lens.getD j 0)
        = 2 ^ (L - lens.getD i 0) := by
      rw [← Nat.pow_add]; congr 1; omega
    have hq : 0 < 2 ^ (L - lens.getD j 0) := Nat.pow_pos (by decide)
    have := Nat.mul_lt_mul_of_pos_right hlt2 hq
    rw [Nat.mul_assoc, hpow] at this
    omega

end BV.Lemmas.HuffmanPrefix
