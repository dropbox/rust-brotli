/-
The pieces shared by both qualities on the byte storage (`blit`, `store_meta_block_header`, `RewindBitPosition`,
`EmitUncompressedMetaBlock`, the final ISLAST/ISLASTEMPTY bits): each is "append these bits" (`Wr`), and the bits are the
ones the RFC reader lemmas of BV/Lemmas/MetaBlockWmbi.lean are stated for.  (W1) is `Good` (BV/Lemmas/FragmentSto.lean),
named after the condition at the head of BV/Model/Bits.lean.
-/
import BV.Lemmas.FragmentSto
import BV.Lemmas.Bits
import BV.Lemmas.MetaBlockHeader
import BV.Props.C18
import BV.Lemmas.HeaderStreamBound

namespace BV.Fragment
open BV.Bits BV.MetaBlock
open BV.Stored (nibsOf)

theorem bitsOf_bit (b : Bool) : bitsOf 1 (if b then 1 else 0) = [b] := by cases b <;> decide

theorem blit_ok : ∀ (bs : List Bool) (s : Sto), Good s → (s.ix + bs.length) / 8 + 8 ≤ s.bytes.size →
    ∃ s', blit bs s = .ok s' ∧ Wr s s' bs
  | [], s, hg, _ => ⟨s, rfl, Wr.refl s hg⟩
  | b :: bs, s, hg, hr => by
    simp only [List.length_cons] at hr
    obtain ⟨s1, h1, w1⟩ := Sto.writeBits_ok 1 (if b then 1 else 0) s hg (by cases b <;> decide) (by decide) (by omega)
    rw [bitsOf_bit] at w1
    have hix : s1.ix = s.ix + 1 := by rw [w1.ix]; rfl
    obtain ⟨s2, h2, w2⟩ := blit_ok bs s1 w1.good (by rw [hix, w1.size]; omega)
    refine ⟨s2, ?_, by simpa using w1.trans w2⟩
    unfold blit
    rw [h1, Out.bind_ok, h2]

/-- the meta-block header as `store_meta_block_header` writes it: ISLAST = 0, MNIBBLES − 4, MLEN − 1, ISUNCOMPRESSED -/
def hdrBits (len : Nat) (unc : Bool) : List Bool :=
  false :: (bitsOf 2 (nibsOf len - 4) ++ (bitsOf (4 * nibsOf len) (len - 1) ++ [unc]))

theorem hdrBits_length (len : Nat) (unc : Bool) : (hdrBits len unc).length = 4 + 4 * nibsOf len := by
  simp [hdrBits, bitsOf_length]; omega

theorem nibsOf_cases (len : Nat) : nibsOf len = 4 ∨ nibsOf len = 5 ∨ nibsOf len = 6 := by
  unfold nibsOf; split; · simp
  split <;> simp

/-- `+ 28`: the header has at most `4 + 4·6` bits (`hdrBits_length`); `+ 8`: `writeBits` stores eight bytes at a time -/
theorem Sto.storeHeader_ok (len : Nat) (unc : Bool) (s : Sto) (hg : Good s) (h1 : 1 ≤ len) (h2 : len ≤ 2 ^ 24)
    (hr : (s.ix + 28) / 8 + 8 ≤ s.bytes.size) :
    ∃ s', storeMetaBlockHeader len unc s = .ok s' ∧ Wr s s' (hdrBits len unc) := by
  have p16 : (2 : Nat) ^ 16 = 65536 := by decide
  have p20 : (2 : Nat) ^ 20 = 1048576 := by decide
  have p24 : (2 : Nat) ^ 24 = 16777216 := by decide
  have hnib : (if len ≤ 65536 then 4 else if len ≤ 1048576 then 5 else 6) = nibsOf len := by
    unfold nibsOf; rw [p16, p20]
  have hn := nibsOf_cases len
  have hlen1 : (len + two64 - 1) % two64 = len - 1 := by
    have e : two64 = 18446744073709551616 := rfl
    rw [e]; omega
  have hfit : len - 1 < 2 ^ (4 * nibsOf len) := by
    unfold nibsOf
    split
    · show _ < 2 ^ 16; omega
    · split
      · show _ < 2 ^ 20; omega
      · show _ < 2 ^ 24; omega
  obtain ⟨s1, e1, w1⟩ := Sto.writeBits_ok 1 0 s hg (by decide) (by decide) (by omega)
  have i1 : s1.ix = s.ix + 1 := by rw [w1.ix, bitsOf_length]
  obtain ⟨s2, e2, w2⟩ := Sto.writeBits_ok 2 (nibsOf len - 4) s1 w1.good (by rcases hn with h | h | h <;> rw [h] <;> decide)
    (by decide) (by rw [i1, w1.size]; omega)
  have i2 : s2.ix = s.ix + 3 := by rw [w2.ix, bitsOf_length, i1]
  obtain ⟨s3, e3, w3⟩ := Sto.writeBits_ok (4 * nibsOf len) (len - 1) s2 w2.good hfit (by omega)
    (by rw [i2, w2.size, w1.size]; omega)
  have i3 : s3.ix = s.ix + 3 + 4 * nibsOf len := by rw [w3.ix, bitsOf_length, i2]
  obtain ⟨s4, e4, w4⟩ := Sto.writeBits_ok 1 (if unc then 1 else 0) s3 w3.good (by cases unc <;> decide) (by decide)
    (by rw [i3, w3.size, w2.size, w1.size]; omega)
  rw [bitsOf_bit] at w4
  refine ⟨s4, ?_, ?_⟩
  · unfold storeMetaBlockHeader
    simp only [hnib, Nat.mul_comm (nibsOf len) 4, hlen1]
    rw [e1, Out.bind_ok, e2, Out.bind_ok, e3, Out.bind_ok, e4]
  · have := ((w1.trans w2).trans w3).trans w4
    have hb : bitsOf 1 0 = [false] := by decide
    rw [hb] at this
    simpa [hdrBits, List.append_assoc] using this

theorem hdrBits_true (len : Nat) : hdrBits len true = storedHeaderBits len := by
  have hn := nibsOf_cases len
  have e : 4 + (nibsOf len - 4) = nibsOf len := by omega
  simp [hdrBits, storedHeaderBits, e]

theorem bits_length (s : Sto) : s.bits.length = s.ix := by simp [Sto.bits]

/-- Nothing is asked of the storage behind the new position (stale bits of the abandoned attempt).  The bound on the size
is `Good.small`, `2^60` bytes: bit positions stay below `2^63`. -/
theorem rewind_ok (newIx : Nat) (s : Sto) (hsz : s.bytes.size < 1152921504606846976)
    (hin : newIx / 8 < s.bytes.size) (hle : newIx ≤ s.ix) :
    ∃ s', rewindBitPosition newIx s = .ok s' ∧ s'.ix = newIx ∧ s'.bytes.size = s.bytes.size ∧
      Good s' ∧ s'.bits = s.bits.take newIx := by
  refine ⟨⟨s.bytes.setIfInBounds (newIx / 8) (s.bytes.getD (newIx / 8) 0 % 2 ^ (newIx % 8)), newIx⟩,
    by unfold rewindBitPosition; rw [if_pos hin], rfl, by simp, ⟨?_, by simpa using hsz⟩, ?_⟩
  · show (s.bytes.setIfInBounds _ _).getD (newIx / 8) 0 < _
    rw [getD_setIfInBounds, if_pos ⟨rfl, hin⟩]
    exact Nat.mod_lt _ (Nat.pow_pos (by decide))
  · simp only [Sto.bits]
    rw [← List.map_take, List.take_range, Nat.min_eq_left hle]
    apply List.map_congr_left
    intro i hi
    have hi := List.mem_range.mp hi
    unfold bitAt
    rw [getD_setIfInBounds]
    by_cases hb : newIx / 8 = i / 8
    · rw [if_pos ⟨hb, hin⟩, Nat.testBit_mod_two_pow, hb]
      have : i % 8 < newIx % 8 := by omega
      simp [this]
    · rw [if_neg (by omega)]

theorem copyInto_size : ∀ (data : List Nat) (a : Array Nat) (off : Nat), (copyInto a off data).size = a.size
  | [], _, _ => rfl
  | b :: bs, a, off => by rw [copyInto, copyInto_size bs]; simp

theorem copyInto_get : ∀ (data : List Nat) (a : Array Nat) (off j : Nat), off + data.length ≤ a.size →
    (copyInto a off data).getD j 0 = if off ≤ j ∧ j < off + data.length then data.getD (j - off) 0 else a.getD j 0
  | [], a, off, j, _ => by
    rw [copyInto, if_neg (by simp)]
  | b :: bs, a, off, j, h => by
    simp only [List.length_cons] at h
    rw [copyInto, copyInto_get bs _ (off + 1) j (by simp; omega), getD_setIfInBounds]
    simp only [List.length_cons]
    by_cases h1 : off + 1 ≤ j ∧ j < off + 1 + bs.length
    · rw [if_pos h1, if_pos (by omega)]
      have : j - off = (j - (off + 1)) + 1 := by omega
      rw [this, List.getD_cons_succ]
    · rw [if_neg h1]
      by_cases h2 : off = j
      · subst h2
        rw [if_pos ⟨rfl, by omega⟩, if_pos (by omega)]
        simp
      · rw [if_neg (by omega), if_neg (by omega)]

theorem pad_bit (s : Sto) (hg : Good s) (t : Nat) (ht : s.ix + t < (s.ix + 7) / 8 * 8) :
    bitAt s.bytes (s.ix + t) = false := by
  unfold bitAt
  rw [show (s.ix + t) / 8 = s.ix / 8 by omega]
  exact Nat.testBit_lt_two_pow (Nat.lt_of_lt_of_le hg.clean (Nat.pow_le_pow_right (by decide) (by omega)))

/-- `2^63 − 8`: `ix + 7` stays below `2^63`, where `ix_mod` drops the `% 2^64` -/
theorem alignIx_eq (ix : Nat) (h : ix < 9223372036854775800) : alignIx ix = (ix + 7) / 8 * 8 := by
  unfold alignIx
  rw [ix_mod _ (by omega)]

theorem bitAt_byte (a : Array Nat) (A k : Nat) (hk : k < 8) : bitAt a (A * 8 + k) = (a.getD A 0).testBit k := by
  unfold bitAt
  rw [show (A * 8 + k) / 8 = A by omega, show (A * 8 + k) % 8 = k by omega]

theorem bits_of_bytes (a : Array Nat) : ∀ A : Nat,
    (List.range (A * 8)).map (bitAt a) = (List.range A).flatMap fun j => bitsOf 8 (a.getD j 0)
  | 0 => rfl
  | A + 1 => by
    have e : List.range (A + 1) = List.range A ++ [A] := List.range_succ
    rw [Nat.succ_mul, List.range_add, List.map_append, bits_of_bytes a A, e, List.flatMap_append,
      List.flatMap_singleton, bitsOf_eq, List.map_map]
    congr 1
    exact List.map_congr_left fun k hk => bitAt_byte a A k (List.mem_range.mp hk)

theorem bits_pad (s : Sto) (hg : Good s) (A : Nat) (hlo : s.ix ≤ A * 8) (hhi : A * 8 < s.ix + 8) :
    (List.range (A * 8)).map (bitAt s.bytes) = s.bits ++ padTo8 s.ix := by
  obtain ⟨p, hp⟩ : ∃ p, A * 8 = s.ix + p := ⟨A * 8 - s.ix, by omega⟩
  have hpad : padTo8 s.ix = List.replicate p false := by
    unfold padTo8; congr 1; omega
  rw [hp, List.range_add, List.map_append, List.map_map, hpad]
  congr 1
  rw [List.eq_replicate_iff]
  refine ⟨by simp, fun b hb => ?_⟩
  obtain ⟨t, ht, rfl⟩ := List.mem_map.mp hb
  exact pad_bit s hg t (by have := List.mem_range.mp ht; omega)

theorem flatMap_getD (data : List Nat) :
    ((List.range data.length).flatMap fun k => bitsOf 8 (data.getD k 0)) = data.flatMap (bitsOf 8) := by
  have : data = (List.range data.length).map fun k => data.getD k 0 := by
    apply List.ext_getElem?
    intro i
    by_cases hi : i < data.length
    · simp [hi, List.getD_eq_getElem?_getD]
    · simp [hi]
  conv => rhs; rw [this]
  rw [List.flatMap_map]

/-- `B` is given by its bytes (`hget`); the zero byte behind `data` is what restores (W1).  Bit indices meet byte indices
in `bitAt_byte` only. -/
theorem wr_bytes (s : Sto) (hg : Good s) (B : Array Nat) (data : List Nat) (A : Nat)
    (hlo : s.ix ≤ A * 8) (hhi : A * 8 < s.ix + 8) (hsz : B.size = s.bytes.size)
    (hget : ∀ j, B.getD j 0 =
      if j = A + data.length then 0
      else if A ≤ j ∧ j < A + data.length then data.getD (j - A) 0
      else s.bytes.getD j 0) :
    Wr s ⟨B, A * 8 + data.length * 8⟩ (padTo8 s.ix ++ data.flatMap (bitsOf 8)) := by
  have hbits : (⟨B, A * 8 + data.length * 8⟩ : Sto).bits = s.bits ++ (padTo8 s.ix ++ data.flatMap (bitsOf 8)) := by
    show (List.range (A * 8 + data.length * 8)).map (bitAt B) = _
    rw [← Nat.add_mul, bits_of_bytes, List.range_add, List.flatMap_append, List.flatMap_map, ← List.append_assoc,
      ← bits_pad s hg A hlo hhi, bits_of_bytes, ← flatMap_getD data]
    simp only [List.flatMap_def]
    congr 2
    · exact List.map_congr_left fun j hj => by
        have := List.mem_range.mp hj
        rw [hget, if_neg (by omega), if_neg (by omega)]
    · exact List.map_congr_left fun k hk => by
        have := List.mem_range.mp hk
        rw [hget, if_neg (by omega), if_pos (by omega), Nat.add_sub_cancel_left]
  refine ⟨?_, hsz, hbits, ⟨?_, by rw [hsz]; exact hg.small⟩⟩
  · have := congrArg List.length hbits
    rw [bits_length, List.length_append, bits_length] at this
    exact this
  · show B.getD ((A * 8 + data.length * 8) / 8) 0 < _
    rw [show (A * 8 + data.length * 8) / 8 = A + data.length by omega, hget, if_pos rfl]
    exact Nat.pow_pos (by decide)

/-- The zero padding needs no write: the unused bits of the partial byte ARE zero by (W1); clearing the byte behind the
data re-establishes (W1).  The bytes behind the header may hold anything (stale storage): they are overwritten. -/
theorem emitUncompressed_ok (data : List Nat) (s : Sto) (hg : Good s) (h1 : 1 ≤ data.length)
    (h2 : data.length ≤ 2 ^ 24)
    (hr : (s.ix + 28) / 8 + 8 + data.length + 1 ≤ s.bytes.size) :
    ∃ s', emitUncompressedMetaBlock data s = .ok s' ∧ Wr s s' (storedBits data s.ix) := by
  have p24 : (2 : Nat) ^ 24 = 16777216 := by decide
  have hsz := hg.small
  obtain ⟨s1, e1, w1⟩ := Sto.storeHeader_ok data.length true s hg h1 h2 (by omega)
  have hn := nibsOf_cases data.length
  have hl1 := hdrBits_length data.length true
  have i1 : s1.ix = s.ix + (4 + 4 * nibsOf data.length) := by rw [w1.ix, hl1]
  have hsz1 := w1.size
  obtain ⟨A, hA, hlo, hhi⟩ : ∃ A, alignIx s1.ix = A * 8 ∧ s1.ix ≤ A * 8 ∧ A * 8 < s1.ix + 8 :=
    ⟨_, alignIx_eq s1.ix (by omega), by omega, by omega⟩
  have hroom : A + data.length + 1 ≤ s1.bytes.size := by omega
  clear hr i1 hn hl1
  have hcs := copyInto_size data s1.bytes A
  have hE : emitUncompressedMetaBlock data s
      = .ok ⟨(copyInto s1.bytes A data).setIfInBounds (A + data.length) 0, A * 8 + data.length * 8⟩ := by
    unfold emitUncompressedMetaBlock
    rw [e1, Out.bind_ok]
    simp only [hA, Nat.mul_div_cancel A (show 0 < (8 : Nat) by decide), ix_mod (A * 8 + data.length * 8) (by omega),
      show (A * 8 + data.length * 8) / 8 = A + data.length by omega]
    rw [if_neg (by omega), if_pos (by rw [hcs]; omega)]
  refine ⟨_, hE, ?_⟩
  have w2 := wr_bytes s1 w1.good ((copyInto s1.bytes A data).setIfInBounds (A + data.length) 0) data A hlo hhi (by rw [Array.size_setIfInBounds, hcs]) fun j => by
    rw [getD_setIfInBounds, hcs, copyInto_get data s1.bytes _ j (by omega)]
    by_cases hj : j = A + data.length
    · rw [if_pos ⟨hj.symm, by omega⟩, if_pos hj]
    · rw [if_neg (by omega), if_neg hj]
  have := w1.trans w2
  rw [hdrBits_true] at this
  have hpos : s.ix + (storedHeaderBits data.length).length = s1.ix := by
    rw [← hdrBits_true, ← w1.ix]
  simpa [storedBits, hpos, List.append_assoc] using this

theorem writeLastEmpty_ok (s : Sto) (hg : Good s) (hr : (s.ix + 2) / 8 + 9 ≤ s.bytes.size) :
    ∃ s', writeLastEmpty s = .ok s' ∧ s'.ix = s.ix + (emptyLastBits s.ix).length ∧
      s'.bytes.size = s.bytes.size ∧ s'.bits = s.bits ++ emptyLastBits s.ix := by
  have hsz := hg.small
  obtain ⟨s1, e1, w1⟩ := Sto.writeBits_ok 1 1 s hg (by decide) (by decide) (by omega)
  have i1 : s1.ix = s.ix + 1 := by rw [w1.ix, bitsOf_length]
  obtain ⟨s2, e2, w2⟩ := Sto.writeBits_ok 1 1 s1 w1.good (by decide) (by decide) (by rw [i1, w1.size]; omega)
  have i2 : s2.ix = s.ix + 2 := by rw [w2.ix, bitsOf_length, i1]
  have hA := alignIx_eq s2.ix (by rw [i2]; omega)
  have hb : bitsOf 1 1 = [true] := by decide
  have w12 := w1.trans w2
  rw [hb] at w12
  have hpl : (padTo8 (s.ix + 2)).length = (s2.ix + 7) / 8 * 8 - s2.ix := by
    simp only [padTo8, List.length_replicate, i2]; omega
  refine ⟨⟨s2.bytes, alignIx s2.ix⟩, ?_, ?_, by simp [w12.size], ?_⟩
  · unfold writeLastEmpty
    rw [e1, Out.bind_ok, e2, Out.bind_ok]
  · show alignIx s2.ix = _
    rw [hA]
    simp only [emptyLastBits, List.length_append, hpl, List.length_cons, List.length_nil]
    omega
  · have hpad : (⟨s2.bytes, alignIx s2.ix⟩ : Sto).bits = s2.bits ++ padTo8 (s.ix + 2) := by
      rw [← i2, ← bits_pad s2 w2.good ((s2.ix + 7) / 8) (by omega) (by omega), hA]
      rfl
    rw [hpad, w12.bits]
    simp [emptyLastBits, List.append_assoc]

/-- `mlen_exact` fixes the triple by inequalities only: the class `c ∈ {0, 1, 2}` gives the width `b = 16, 20, 24`;
`e4` (the value fits the width) and `e5` (it does not fit the next smaller one) leave one class, that of `nibsOf` -/
theorem encodeMlen_nibs (len : Nat) (h1 : 1 ≤ len) (h2 : len ≤ 2 ^ 24) :
    BV.PrefixArith.encodeMlen len = (len - 1, 4 * nibsOf len, nibsOf len - 4) := by
  obtain ⟨e1, e2, e3, e4, e5⟩ := BV.Props.C18.mlen_exact len h1 h2
  have p16 : (2 : Nat) ^ 16 = 65536 := by decide
  have p20 : (2 : Nat) ^ 20 = 1048576 := by decide
  have p24 : (2 : Nat) ^ 24 = 16777216 := by decide
  have q16 : (2 : Nat) ^ (4 * (1 + 3)) = 65536 := by decide
  have q20 : (2 : Nat) ^ (4 * (2 + 3)) = 1048576 := by decide
  generalize BV.PrefixArith.encodeMlen len = m at *
  obtain ⟨a, b, c⟩ := m
  simp only at e1 e2 e3 e4 e5
  have hc : c = nibsOf len - 4 := by
    unfold nibsOf
    rw [p16, p20]
    have hc3 : c = 0 ∨ c = 1 ∨ c = 2 := by omega
    rcases hc3 with rfl | rfl | rfl
    · have : b = 16 := by omega
      rw [this, p16] at e4
      split
      · rfl
      · omega
    · have : b = 20 := by omega
      rw [this, p20] at e4
      have := e5 (by decide)
      rw [q16] at this
      split
      · omega
      · split
        · rfl
        · omega
    · have := e5 (by decide)
      rw [q20] at this
      split
      · omega
      · split
        · omega
        · rfl
  have hn := nibsOf_cases len
  have ha : a = len - 1 := by omega
  have hb : b = 4 * nibsOf len := by omega
  rw [ha, hb, hc]

theorem hdrBits_false (len : Nat) (h1 : 1 ≤ len) (h2 : len ≤ 2 ^ 24) :
    hdrBits len false = headerBits false len := by
  simp [hdrBits, headerBits, encodeMlen_nibs len h1 h2]

end BV.Fragment
