import BV.Lemmas.StreamRunSim
import BV.Lemmas.StreamOut
import BV.Lemmas.HeaderBlocks
import BV.Model.StreamNF
/-
C08, run level: what `BlocksOK` needs of the requests, derived from the run (`nf_requests_full`: every request of a
never-flushed quality ≥ 2 history is `ReqFull`), as an instance `nfqSim` of the run-level
simulation: abstract state = {only parameters set, initialised at quality 0/1 (nothing claimed), initialised at
quality ≥ 2 with a block of ≥ 2^14 bytes}.  Both never-flushed simulations (this one and `nfSim` of StreamNFSum)
go through two inversions of `Step`, `step_uninit` and `step_slow`.
-/
namespace BV.Stream
open BV.Bits

inductive NFq where
  | pre | junk | good
deriving DecidableEq

/-- what a never-flushed quality ≥ 2 history allows an event to be -/
def EvFull : Ev → Prop
  | .enc _ req _ _ _ => req.site = 0 ∧ req.forceFlush = false ∧ req.lf ≤ req.lo ∧ (req.isLast = false → 2 ^ 14 ≤ req.hi - req.lo)
  | .fast _ _ => False
  | .pad _ => True
  | .mdHeader _ _ => False
  | .mdBody _ => False
  | _ => True

/-- the `.enc` clause of `EvFull`.  `2 ^ 14`: `computeLgBlock ≥ 14` at quality ≥ 2 (`BV.StreamBlocks.blockSize_ge`) -/
abbrev ReqFull (r : Req) : Prop :=
  r.site = 0 ∧ r.forceFlush = false ∧ r.lf ≤ r.lo ∧ (r.isLast = false → 2 ^ 14 ≤ r.hi - r.lo)

def nfqT : NFq → Ev → NFq → Prop
  | .pre, e, b => (∃ w, e = .window w) ∧ (b = .junk ∨ b = .good)
  | .junk, _, b => b = .junk
  | .good, e, b => b = .good ∧ EvFull e

def nfqR : NFq → St → Prop
  | .pre, s => IsFresh s
  | .junk, s => s.isInitialized = true ∧ s.q01 = true
  | .good, s => s.isInitialized = true ∧ s.q01 = false ∧ 2 ^ 14 ≤ s.blockSize

theorem q01_of_fastMode {s : St} (h : fastMode s.params) : s.q01 = true := by
  unfold St.q01
  simp [h.1]

theorem not_q01 {s : St} (h : s.q01 = false) : ¬ (s.params.quality = 0 ∨ s.params.quality = 1) := by
  intro hc
  unfold St.q01 at h
  simp [hc] at h

/-- `s'` looks like `s` to the phase relations `nfqR` / `nfR`: the five fields they read -/
structure SameView (s s' : St) : Prop where
  params : s'.params = s.params
  firstMb : s'.isFirstMb = s.isFirstMb
  state : s'.streamState = s.streamState
  lf : s'.lastFlushPos = s.lastFlushPos
  lbb : s'.lastBytesBits = s.lastBytesBits

inductive SlowStep (o : Oracle) (op : Nat) (s : St) (io : Io) : Ev → St → Prop
  | copy {c : Bytes} {s' : St} (hst : s.streamState = .processing) (hv : SameView s s') : SlowStep o op s io (.copy c) s'
  | pad {s' : St} (hfl : s.streamState = .flushRequested) (hp : s'.params = s.params) : SlowStep o op s io (.pad s.lastBytesBits) s'
  | push {s' : St} (hv : SameView s s') : SlowStep o op s io .push s'
  | cfc : SlowStep o op s io (.tau 0) (checkFlushComplete s)
  | enc {s2 : St} {req : Req} (hI : Inv s) (hnc : ¬ (remainingInputBlockSize s ≠ 0 ∧ io.availIn ≠ 0))
      (hst : s.streamState = .processing) (hgo : remainingInputBlockSize s = 0 ∨ op ≠ 0)
      (h : encodeData o (updateSizeHint s io.availIn) 0 (slowIl op io) (slowFf op io) = .ok (s2, true, req)) :
      SlowStep o op s io (encEv o (updateSizeHint s io.availIn) 0 (slowIl op io) (slowFf op io))
        (markAfterEncode s2 (slowIl op io) (slowFf op io))

theorem step_slow {o : Oracle} {op : Nat} {c c' : St × Io} {e : Ev} (hop : op = 0 ∨ op = 2)
    (hi : c.1.isInitialized = true) (hq : c.1.q01 = false) (hs : Step o op c e c') : SlowStep o op c.1 c.2 e c'.1 := by
  obtain ⟨s, io⟩ := c
  obtain ⟨s', io'⟩ := c'
  have hnf : ¬ fastMode s.params := fun hf => by rw [q01_of_fastMode hf] at hq; cases hq
  rcases hs.effect with ⟨hf, _⟩ | ⟨hI, ha⟩
  · rw [isFreshInit hf] at hi; cases hi
  · cases ha with
    | copy _ _ _ hst => exact .copy hst ⟨rfl, rfl, rfl, rfl, rfl⟩
    | pad hc => exact .pad hc.1 rfl
    | push => exact .push ⟨rfl, rfl, rfl, rfl, rfl⟩
    | @enc k site il ff s2 req st hE hI0 hpend he hfr =>
      cases hE with
      | md _ h3 => omega
      | main _ _ _ hnc _ hst hgo =>
        have e4 : s.streamState = s2.streamState := by rw [hfr]; rfl
        rw [← updateSizeHint_eq] at he ⊢
        rw [e4, ← markAfterEncode_eq]
        exact .enc hI hnc hst hgo he
    | flushed _ _ _ _ hfl hp =>
      have h1 : SlowStep o op s io (.tau 0) (checkFlushComplete s) := .cfc
      rwa [show checkFlushComplete s = _ from if_pos ⟨hfl, hp⟩] at h1
    | idle _ _ _ _ hn =>
      have h1 : SlowStep o op s io (.tau 0) (checkFlushComplete s) := .cfc
      rwa [show checkFlushComplete s = s from if_neg hn] at h1
    | fastFlush hfm => exact absurd hfm hnf
    | fastBlock hfm => exact absurd hfm hnf
    | _ => omega   -- the metadata atoms: their `op = 3` contradicts `hop`

theorem step_uninit {o : Oracle} {op : Nat} {c c' : St × Io} {e : Ev} (hni : c.1.isInitialized = false)
    (hs : Step o op c e c') : e = .window (ensureInitialized c.1).carry ∧ c'.1 = ensureInitialized c.1 := by
  obtain ⟨s, io⟩ := c
  obtain ⟨s', io'⟩ := c'
  rcases hs.effect with ⟨_, h1, h2, _⟩ | ⟨hI, _⟩
  · exact ⟨h1, h2⟩
  · rw [hI.init] at hni; cases hni

theorem nonfinal_full_block {s : St} {io : Io} {op : Nat} (hI : Inv s) (hop : op = 0 ∨ op = 2)
    (hnc : ¬ (remainingInputBlockSize s ≠ 0 ∧ io.availIn ≠ 0)) (hgo : remainingInputBlockSize s = 0 ∨ op ≠ 0)
    (hil : slowIl op io = false) :
    s.unprocessed = s.inputPos - s.lastProcessedPos ∧ s.blockSize ≤ s.inputPos - s.lastProcessedPos := by
  have hu : s.unprocessed = s.inputPos - s.lastProcessedPos := wsub64_eq hI.lp_le hI.ip_lt
  have hnl : ¬ (io.availIn = 0 ∧ op = 2) := of_decide_eq_false hil
  -- the loop encodes when the block is full, or on FINISH when the input has run out: the latter is the final call
  have hrbs : remainingInputBlockSize s = 0 := by
    rcases hgo with h0 | h0
    · exact h0
    · refine Decidable.byContradiction fun hr => hnc ⟨hr, fun hz => hnl ⟨hz, ?_⟩⟩
      omega
  refine ⟨hu, ?_⟩
  simp only [remainingInputBlockSize] at hrbs
  split at hrbs
  · rw [← hu]; assumption
  · have hbpos : 0 < s.blockSize := Nat.pow_pos (by decide)
    omega

theorem enc_params {o : Oracle} {s s2 : St} {site : Nat} {il ff res : Bool} {req : Req}
    (h : encodeData o s site il ff = .ok (s2, res, req)) : (markAfterEncode s2 il ff).params = s.params := by
  rw [markAfterEncode_eq, encodeData_withEnc h]
  rfl

theorem good_of_params {s s' : St} (hp : s'.params = s.params) (hi : s'.isInitialized = true) (h : nfqR .good s) : nfqR .good s' := by
  obtain ⟨_, h2, h3⟩ := h
  refine ⟨hi, ?_, ?_⟩
  · unfold St.q01 at h2 ⊢; rw [hp]; exact h2
  · unfold St.blockSize at h3 ⊢; rw [hp]; exact h3

theorem good_hint {s : St} (n : Nat) (h : nfqR .good s) : nfqR .good (updateSizeHint s n) := by
  rw [updateSizeHint_eq]
  exact h

theorem enc_evFull {o : Oracle} {s : St} {io : Io} {op : Nat} (hI : Inv s) (hop : op = 0 ∨ op = 2) (hb : 2 ^ 14 ≤ s.blockSize)
    (hnc : ¬ (remainingInputBlockSize s ≠ 0 ∧ io.availIn ≠ 0)) (hgo : remainingInputBlockSize s = 0 ∨ op ≠ 0) :
    EvFull (encEv o (updateSizeHint s io.availIn) 0 (slowIl op io) (slowFf op io)) := by
  have hff : slowFf op io = false := by
    rcases hop with h0 | h0 <;> simp [slowFf, h0]
  rw [updateSizeHint_eq]
  refine ⟨rfl, hff, hI.fl_le, fun hil => ?_⟩
  · show 2 ^ 14 ≤ s.inputPos - s.lastProcessedPos
    exact Nat.le_trans hb (nonfinal_full_block hI hop hnc hgo hil).2

theorem nfq_step {o : Oracle} {op : Nat} {s s' : St} {io io' : Io} {e : Ev} {a : NFq} (hop : op = 0 ∨ op = 2)
    (ha : nfqR a s) (h : Step o op (s, io) e (s', io')) : ∃ a', nfqR a' s' ∧ nfqT a e a' := by
  obtain ⟨hi', _⟩ := step_initialized h
  cases a with
  | junk =>
    obtain ⟨hi, hq⟩ := ha
    exact ⟨.junk, ⟨hi', (step_q01 h hi).trans hq⟩, rfl⟩
  | pre =>
    have hni := isFreshInit ha
    obtain ⟨rfl, rfl⟩ : e = _ ∧ s' = _ := step_uninit hni h
    cases hq : (ensureInitialized s).q01 with
    | true => exact ⟨.junk, ⟨hi', hq⟩, ⟨_, rfl⟩, Or.inl rfl⟩
    | false => exact ⟨.good, ⟨hi', hq, BV.StreamBlocks.blockSize_ge s hni (not_q01 hq)⟩, ⟨_, rfl⟩, Or.inr rfl⟩
  | good =>
    have hs : SlowStep o op s io e s' := step_slow hop ha.1 ha.2.1 h
    cases hs with
    | copy hst hv => exact ⟨.good, good_of_params hv.params hi' ha, rfl, trivial⟩
    | pad hfl hp => exact ⟨.good, good_of_params hp hi' ha, rfl, trivial⟩
    | push hv => exact ⟨.good, good_of_params hv.params hi' ha, rfl, trivial⟩
    | cfc => exact ⟨.good, good_of_params (by rw [checkFlushComplete_eq]) hi' ha, rfl, trivial⟩
    | enc hI hnc hst hgo hd =>
      exact ⟨.good, good_of_params (enc_params hd) hi' (good_hint io.availIn ha), rfl,
        enc_evFull hI hop ha.2.2 hnc hgo⟩

theorem nfq_take {s s' : St} {size : Nat} {out : Bytes} {a : NFq} (ha : nfqR a s)
    (h : takeOutput s size = .ok (s', out)) : nfqR a s' := by
  cases a with
  | pre =>
    rw [takeOutput_fresh ha] at h
    simp only [Out.ok.injEq, Prod.mk.injEq] at h
    rw [← h.1]; exact ha
  | junk =>
    obtain ⟨p1, p2⟩ := takeOutput_params h
    exact ⟨p2.trans ha.1, by unfold St.q01; rw [p1]; exact ha.2⟩
  | good =>
    obtain ⟨p1, p2⟩ := takeOutput_params h
    exact good_of_params p1 (p2.trans ha.1) ha

theorem setParameter_init {s : St} (hi : s.isInitialized = true) (id v : Nat) : setParameter s id v = (s, false) := by
  simp [setParameter, hi]

theorem nfq_setp {s : St} {id v : Nat} {a : NFq} (ha : nfqR a s) : nfqR a (setParameter s id v).1 := by
  cases a with
  | pre => exact setParameter_fresh ha id v
  | junk => rw [setParameter_init ha.1]; exact ha
  | good => rw [setParameter_init ha.1]; exact ha

theorem updateSizeHint_fresh {s : St} (h : IsFresh s) (n : Nat) : IsFresh (updateSizeHint s n) := by
  obtain ⟨p, rfl⟩ := h
  unfold updateSizeHint
  split
  · exact ⟨_, rfl⟩
  · exact ⟨p, rfl⟩

theorem nfq_hint {s : St} {a : NFq} (ha : nfqR a s) : nfqR a (updateSizeHint s 0) := by
  cases a with
  | pre => exact updateSizeHint_fresh ha 0
  | junk => rw [updateSizeHint_eq]; exact ha
  | good => exact good_hint 0 ha

def nfqSim (o : Oracle) : Sim o NFq where
  T := nfqT
  R := nfqR
  opOK := fun op => op = 0 ∨ op = 2
  step := fun hop ha h => nfq_step hop ha h
  take := fun ha h => nfq_take ha h
  setp := fun ha => nfq_setp ha
  hint := fun ha => nfq_hint ha

theorem Path.absorbing {α : Type} {T : α → Ev → α → Prop} {a : α} (hT : ∀ e b, T a e b → b = a) {log : List Ev} {b : α}
    (h : Path T a log b) : b = a := by
  induction log with
  | nil => exact h.symm
  | cons e es ih =>
    obtain ⟨a1, t1, p1⟩ := h
    obtain rfl := hT e a1 t1
    exact ih p1

theorem path_junk {log : List Ev} {b : NFq} (h : Path nfqT .junk log b) : b = .junk :=
  h.absorbing fun _ _ t => t

theorem path_good {log : List Ev} {b : NFq} (h : Path nfqT .good log b) : b = .good ∧ ∀ e ∈ log, EvFull e := by
  induction log with
  | nil => exact ⟨h.symm, fun _ he => by cases he⟩
  | cons e es ih =>
    obtain ⟨a1, t1, p1⟩ := h
    obtain ⟨ha1, hev⟩ : a1 = .good ∧ EvFull e := t1
    subst ha1
    obtain ⟨r1, r2⟩ := ih p1
    refine ⟨r1, ?_⟩
    intro e' he'
    rcases List.mem_cons.mp he' with rfl | h2
    · exact hev
    · exact r2 e' h2

theorem path_pre {log : List Ev} {b : NFq} (h : Path nfqT .pre log b) :
    b = .junk ∨ ∀ e ∈ log, (∃ w, e = .window w) ∨ EvFull e := by
  cases log with
  | nil => exact Or.inr fun _ he => nomatch he
  | cons e es =>
    obtain ⟨a1, t1, p1⟩ := h
    obtain ⟨hw, rfl | rfl⟩ : (∃ w, e = .window w) ∧ (a1 = .junk ∨ a1 = .good) := t1
    · exact Or.inl (path_junk p1)
    · refine Or.inr fun e' he' => ?_
      rcases List.mem_cons.mp he' with rfl | h2
      · exact Or.inl hw
      · exact Or.inr ((path_good p1).2 e' h2)

theorem histOK_of_neverFlushed {calls : List Call} (h : NeverFlushed calls) : HistOK calls ∧ HistOp (fun op => op = 0 ∨ op = 2) calls := by
  induction calls with
  | nil => exact ⟨trivial, trivial⟩
  | cons c cs ih =>
    cases c with
    | stream op chunk cap =>
      obtain ⟨h1, h2⟩ := h
      obtain ⟨i1, i2⟩ := ih h2
      exact ⟨⟨by omega, i1⟩, ⟨h1, i2⟩⟩
    | setParam id v =>
      obtain ⟨i1, i2⟩ := ih h
      exact ⟨i1, ⟨trivial, i2⟩⟩
    | take n =>
      obtain ⟨i1, i2⟩ := ih h
      exact ⟨i1, ⟨trivial, i2⟩⟩

theorem nf_requests_full {o : Oracle} {fuel : Nat} {calls : List Call} {s0 s : St} {t : Trace}
    (hf : IsFresh s0) (hnf : NeverFlushed calls) (hw : histLen calls < two64)
    (h : run o fuel calls s0 {} = .ok (s, t)) (hq : s.q01 = false) :
    ∀ r ∈ t.reqs, ReqFull r := by
  obtain ⟨hk1, hk2⟩ := histOK_of_neverFlushed hnf
  have hip : s0.inputPos = 0 := hf.inputPos
  obtain ⟨log, hsim, f⟩ := run_sim (nfqSim o) (fuel := fuel) (t0 := {}) (runOK_fresh hf) hk1 hk2 (by rw [hip]; omega) h
  obtain ⟨b, hb, hpath⟩ := hsim .pre hf
  have hreqs : t.reqs = logReqs log := by
    have := f.reqs
    simpa using this
  intro r hr
  rw [hreqs] at hr
  rcases path_pre hpath with rfl | hfull
  · have : s.q01 = true := hb.2
    rw [hq] at this; cases this
  · obtain ⟨e, he, her⟩ : ∃ e ∈ log, e.req = some r := by
      unfold logReqs at hr
      exact List.mem_filterMap.mp hr
    rcases hfull e he with ⟨w, rfl⟩ | hE
    · cases her
    · cases e with
      | enc k req pre skel taken =>
        cases her
        exact hE
      | fast k req => exact hE.elim
      | _ => cases her

end BV.Stream
