/-
C01 / meta-block writers: assembling `BrotliStoreMetaBlockFast` (quality ≤ 2), both branches:
`n_commands ≤ 128` (literal code from the fast builder, static command and distance codes) and
`n_commands > 128` (three codes from the fast builder).
-/
import BV.Lemmas.MetaBlockTrivial
import BV.Lemmas.MetaBlockStatic

namespace BV.MetaBlock
open BV.Gen BV.Bits BV.Huffman BV.PrefixArith BV.Recoder BV.HeaderSpec
open BV.Header (skipPad_pad)

theorem dist_alphabet_bits (large : Bool) :
    log2Floor (distAlphabetSize large 0 0 - 1) + 1 = alphabetBits (distAlphabetSize large 0 0) ∧
    alphabetBits 256 = 8 ∧ alphabetBits 704 = 10 := by
  cases large <;> decide

/-- The static codes are used only with the 64-symbol distance alphabet (`num_distance_symbols ≤
kStaticDistanceCodeDepth.len()`), where `cmdOK` bounds every distance symbol by 64. -/
theorem fast_core (wo : WordOracle) (window : Nat) (large : Bool) (ring : Bytes) (start mask : Nat)
    (mb : Bytes) (isLast : Bool) (cmds : List Cmd) (hist : Bytes) (dc : List Int) (w : List Bool)
    (hR : RingHolds ring mask start mb) (h256 : ∀ b ∈ mb, b < 256)
    (h1 : 1 ≤ mb.length) (h2 : mb.length ≤ 2 ^ 24) (hst : start < two64)
    (hIP : inputPairCheck ring start mb.length mask = .ok ())
    (hok : ∀ c ∈ cmds, cmdOK (distAlphabetSize large 0 0) 0 0 c = true)
    (hlock : lockstep wo 0 0 window mb ⟨hist, dc, 0⟩ 0 cmds = true) :
    ∃ bits fin, storeMetaBlockFast ring start mb.length mask isLast (distAlphabetSize large 0 0) cmds w
        = .ok (w ++ bits) ∧
      decSteps wo 0 0 window mb ⟨hist, dc, 0⟩ cmds = some fin ∧ fin.cursor = mb.length ∧
      ∀ rest, readMetaBlockFull wo window large w.length ⟨hist, dc⟩ (bits ++ rest)
        = some (⟨fin.out, fin.ring⟩, isLast, (w ++ bits).length, rest) := by
  have p25 : (2 : Nat) ^ 25 = 33554432 := by decide
  obtain ⟨a4, hA140⟩ := alphabet_facts large
  obtain ⟨ab1, ab2, ab3⟩ := dist_alphabet_bits large
  have hnum := lockstep_length wo 0 0 window mb cmds _ _ hlock
  have hne0 : ¬ distAlphabetSize large 0 0 = 0 := by omega
  by_cases hn : cmds.length ≤ 128 ∧ distAlphabetSize large 0 0 ≤ kStaticDistanceCodeDepth.length
  · have hsl : kStaticDistanceCodeDepth.length = 64 := by decide
    have hrange := (lockstep_le wo 0 0 window mb cmds _ _ hlock).2
    have hlitlen := litsOf_length mb cmds 0 hrange
    obtain ⟨d', ef, dinv⟩ := fastLitHisto_inv ring mask start mb hR h256 cmds 0 (List.replicate 256 0) []
      (histoInv_zero 256).toData hrange (by unfold two32; simp; omega)
    rw [posOf_zero start hst] at ef
    simp only [List.length_nil, Nat.zero_add, List.nil_append] at ef dinv
    have hsumd : d'.sum = (litsOf mb 0 cmds).length := dinv.sum
    have hdsum : d'.sum ≤ 2 ^ 25 := by rw [hsumd]; omega
    obtain ⟨litD, litB, w1, hb1, cb1, litC, e1, r1, s1⟩ := fastN_roundtrip d' 256 256
      (w ++ headerBits isLast mb.length ++ bitsOf 13 0) (by rw [dinv.len]; omega) hdsum (by omega) (by omega) (by omega)
      (getD_of_length_le _ _ · dinv.len)
    obtain ⟨db, fin, hsd, hdec, hfin, hrd⟩ := storeData_sim wo window 0 0 (distAlphabetSize large 0 0) ring mask start mb
      litD litB kStaticCommandCodeDepth kStaticCommandCodeBits kStaticDistanceCodeDepth kStaticDistanceCodeBits
      litC (Code.lens kStaticCommandCodeDepth)
      (Code.lens (kStaticDistanceCodeDepth ++ List.replicate (if large then 76 else 0) 0)) hR cmds ⟨hist, dc, 0⟩
      (w1 ++ staticCmdBits ++ staticDistBits) hlock
      (fun b hb => s1 b (by
          rcases Nat.lt_or_ge b d'.length with h | h
          · exact h
          · exact absurd (getD_of_length_le d' _ b rfl h) ((dinv.mem b).mpr hb))
        ((dinv.mem b).mpr hb))
      hok
      (fun c hc => static_cmd_symIO c.cmdPrefix (cmdOK_bounds _ _ _ c (hok c hc)).1)
      (fun c hc _ _ => static_dist_symIO _ _ (by have := (cmdOK_bounds _ _ _ c (hok c hc)).2; omega))
    simp only at hsd hrd
    rw [posOf_zero start hst] at hsd
    obtain ⟨W, hW⟩ : ∃ W, W = w ++ (headerBits isLast mb.length ++ (bitsOf 13 0 ++ (cb1 ++ (staticCmdBits ++
      (staticDistBits ++ db))))) := ⟨_, rfl⟩
    have hw3 : w1 ++ staticCmdBits ++ staticDistBits ++ db = W := by rw [hW, e1]; simp only [List.append_assoc]
    have hbits := assembled_bits isLast w _ cb1 staticCmdBits staticDistBits db W hW
    refine ⟨headerBits isLast mb.length ++ (bitsOf 13 0 ++ (cb1 ++ (staticCmdBits ++ (staticDistBits ++ (db ++
      padOf isLast W))))), fin, ?_, hdec, hfin, fun rest => ?_⟩
    · unfold storeMetaBlockFast
      rw [hIP, Out.bind_ok, if_neg hne0, storeHeader_ok isLast mb.length w h1 h2, Out.bind_ok,
        writeBits_ok 13 0 _ (by decide) (by decide), Out.bind_ok, if_pos hn, ef, Out.bind_ok]
      simp only
      rw [← hsumd, ← ab2, hb1, Out.bind_ok]
      simp only
      rw [storeStaticCmd_ok, Out.bind_ok, storeStaticDist_ok, Out.bind_ok, hsd, Out.bind_ok, hw3, jump_padOf, hbits]
    · rw [read_assembled wo window large mb isLast hist dc w cb1 staticCmdBits staticDistBits db W
        litC _ _ fin h1 h2 hW r1 static_cmd_read (static_dist_read large) (fun rest f hf => hrd rest f (by omega)) rest,
        ← hbits, List.length_append]
  · obtain ⟨lit, cmd, dist, hb, il, ic, id, hlsum, hcsum, hdsum, hdzero⟩ := buildHistograms_ok wo window large ring start
      mask mb cmds hist dc hR h256 h2 hst hok hlock
    have hconst : BROTLI_NUM_LITERAL_SYMBOLS = 256 ∧ BROTLI_NUM_COMMAND_SYMBOLS = 704 ∧
        BROTLI_NUM_HISTOGRAM_DISTANCE_SYMBOLS = 544 ∧ MAX_SIMPLE_DISTANCE_ALPHABET_SIZE = 140 := by decide
    obtain ⟨c1, c2, c3, c4⟩ := hconst
    have tl : lit.total = lit.data.sum := by rw [il.total, il.sum]
    have tc : cmd.total = cmd.data.sum := by rw [ic.total, ic.sum]
    have td : dist.total = dist.data.sum := by rw [id.total, id.sum]
    obtain ⟨litD, litB, w1, hb1, cb1, litC, e1, r1, s1⟩ := fastN_roundtrip lit.data 256 256
      (w ++ headerBits isLast mb.length ++ bitsOf 13 0) (by rw [il.len]; omega) hlsum (by omega) (by omega) (by omega)
      (getD_of_length_le _ _ · il.len)
    obtain ⟨cmdD, cmdB, w2, hb2, cb2, cmdC, e2, r2, s2⟩ := fastN_roundtrip cmd.data 704 704 w1
      (by rw [ic.len]; omega) hcsum (by omega) (by omega) (by omega) (getD_of_length_le _ _ · ic.len)
    obtain ⟨distD, distB, w3, hb3, cb3, distC, e3, r3, s3⟩ := fastN_roundtrip dist.data (distAlphabetSize large 0 0) 140 w2
      (by rw [id.len]; omega) hdsum a4 hA140 (by omega) hdzero
    obtain ⟨db, fin, hsd, hdec, hfin, hrd⟩ := storeData_sim wo window 0 0 (distAlphabetSize large 0 0) ring mask start mb
      litD litB cmdD cmdB distD distB litC cmdC distC hR cmds ⟨hist, dc, 0⟩ w3 hlock
      (fun b hb => s1 b (by rw [il.len]; exact mem_lt_of_inv lit 256 _ il b hb) (hist_mem lit 256 _ il b hb))
      hok
      (fun c hc => s2 c.cmdPrefix (by rw [ic.len]; exact (cmdOK_bounds _ _ _ c (hok c hc)).1)
        (hist_mem cmd 704 _ ic _ (List.mem_map_of_mem hc)))
      (fun c hc h0 h128 => s3 (c.distPrefix % 1024)
        (by rw [id.len]; have := (cmdOK_bounds _ _ _ c (hok c hc)).2; omega)
        (hist_mem dist 544 _ id _ (mem_distsOf cmds c hc h0 h128)))
    simp only at hsd hrd
    rw [posOf_zero start hst] at hsd
    obtain ⟨W, hW⟩ : ∃ W, W = w ++ (headerBits isLast mb.length ++ (bitsOf 13 0 ++ (cb1 ++ (cb2 ++ (cb3 ++ db))))) :=
      ⟨_, rfl⟩
    have hw3 : w3 ++ db = W := by rw [hW, e3, e2, e1]; simp only [List.append_assoc]
    have hbits := assembled_bits isLast w _ cb1 cb2 cb3 db W hW
    refine ⟨headerBits isLast mb.length ++ (bitsOf 13 0 ++ (cb1 ++ (cb2 ++ (cb3 ++ (db ++ padOf isLast W))))),
      fin, ?_, hdec, hfin, fun rest => ?_⟩
    · unfold storeMetaBlockFast
      rw [hIP, Out.bind_ok, if_neg hne0, storeHeader_ok isLast mb.length w h1 h2, Out.bind_ok,
        writeBits_ok 13 0 _ (by decide) (by decide), Out.bind_ok, if_neg hn, c1, c2, c3, c4, hb, Out.bind_ok]
      simp only
      rw [tl, ← ab2, hb1, Out.bind_ok]
      simp only
      rw [tc, ← ab3, hb2, Out.bind_ok]
      simp only
      rw [td, ab1, hb3, Out.bind_ok]
      simp only
      rw [hsd, Out.bind_ok, hw3, jump_padOf, hbits]
    · rw [read_assembled wo window large mb isLast hist dc w cb1 cb2 cb3 db W litC cmdC distC fin h1 h2 hW r1 r2 r3
        (fun rest f hf => hrd rest f (by omega)) rest, ← hbits, List.length_append]

end BV.MetaBlock
