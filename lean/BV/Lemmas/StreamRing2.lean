import BV.Lemmas.StreamRing
import BV.Lemmas.StreamRunLog
/-
The ring buffer through `copy_input_to_ring_buffer`, initialisation and every atomic step, in two halves:

* content: `RingOK` is kept (`copy_ring_ok`, `ring_ok_fresh`);
* no panic: with `data_mo` as long as `RingBufferInitBuffer` made it (`AllocOK`), every slice bound of
  `RingBufferWrite` holds (`initBuffer_no_panic`, `tail_guard`, `body_guard`, `ringWrite_no_panic`,
  `copy_no_panic`).

`RingInv` puts the two together for an initialised encoder, and `step_ring` carries it along the steps
of the machine.
-/
namespace BV.Stream
open BV.Bits

/-- the second half: the seven zero bytes `copy_input_to_ring_buffer` puts behind the data while in the
first lap. The invariant does not need it; the statement about the slack (Props C01) does. -/
theorem copy_ring_ok {s s' : St} {chunk input : Bytes} {avail : Nat} (hi : s.isInitialized = true)
    (hR : RingOK s.ring input) (hn : chunk.length ≤ s.ring.tailSize)
    (h : copyInputToRingBuffer s chunk avail = .ok s') :
    RingOK s'.ring (input ++ chunk)
    ∧ (s'.ring.pos ≤ s'.ring.mask → ∀ i, i < 7 → s'.ring.get (2 + s'.ring.pos + i) = 0) := by
  unfold copyInputToRingBuffer at h
  rw [ensureInitialized_id hi] at h
  simp only at h
  split at h
  · rename_i rb hw
    have hR' := ringWrite_ok hR hn hw
    split at h
    · simp at h
    · simp only [Out.ok.injEq] at h
      subst h
      simp only
      by_cases hfl : rb.pos ≤ rb.mask
      · rw [if_pos hfl]
        have g := hR'.geom
        have hsl := g.lap_facts.sizeLe
        have hmask := g.mask
        have hP : rb.pos = (input ++ chunk).length := by
          by_cases hc : (input ++ chunk).length ≤ rb.lap
          · exact hR'.posSmall hc
          · have := (hR'.posBig (by omega)).1
            omega
        refine ⟨⟨geom_of_eq g rfl rfl rfl rfl, hR'.posSmall, hR'.posBig, hR'.alloc, ?_, ?_⟩, ?_⟩
        · intro p hp hw'
          have hps : p % rb.size = p := Nat.mod_eq_of_lt (by omega)
          have hm := hR'.main p hp hw'
          show cellsGet (cellsWrite rb.cells (2 + rb.pos) (List.replicate 7 0)) (2 + p % rb.size) = _
          rw [cellsGet_write, List.length_replicate]
          have a1 : ¬ (2 + rb.pos ≤ 2 + p % rb.size ∧ 2 + p % rb.size < 2 + rb.pos + 7) := by rw [hps]; omega
          rw [if_neg a1]
          exact hm
        · intro p hp hps _ _
          have : rb.size ≤ p := hps
          omega
        · intro _ i hi7
          show cellsGet (cellsWrite rb.cells (2 + rb.pos) (List.replicate 7 0)) (2 + rb.pos + i) = 0
          rw [cellsGet_write, List.length_replicate]
          have a1 : 2 + rb.pos ≤ 2 + rb.pos + i ∧ 2 + rb.pos + i < 2 + rb.pos + 7 := by omega
          rw [if_pos a1]
          exact getD_replicate 7 _ 0
      · rw [if_neg hfl]
        exact ⟨hR', fun hh => absurd hh hfl⟩
  · simp at h
  · simp at h

theorem computeLgBlock_bounds (p : Params) (h1 : 10 ≤ p.lgwin) (h2 : p.lgwin ≤ 30) :
    10 ≤ computeLgBlock p ∧ computeLgBlock p ≤ 30 := by
  unfold computeLgBlock
  split
  · exact ⟨h1, h2⟩
  · split
    · omega
    · split
      · split <;> omega
      · omega

theorem sanitize_lgwin_range (p : Params) : 10 ≤ (sanitize p).lgwin ∧ (sanitize p).lgwin ≤ 30 := by
  rw [sanitize_lgwin_eq]
  split <;> omega

theorem ring_ok_fresh {s : St} (h : IsFresh s) :
    RingOK (ensureInitialized s).ring [] ∧ (ensureInitialized s).ring.tailSize = (ensureInitialized s).blockSize := by
  obtain ⟨p, rfl⟩ := h
  obtain ⟨w1, w2⟩ := sanitize_lgwin_range p
  obtain ⟨b1, b2⟩ := computeLgBlock_bounds (sanitize p) w1 w2
  simp only [ensureInitialized, St.new, Bool.false_eq_true, ↓reduceIte, ringSetup, St.blockSize]
  generalize hL : computeLgBlock (sanitize p) = lb at b1 b2
  generalize (sanitize p).lgwin = lw at w1 w2
  have hwb : (1 + max lw lb).toNat = 1 + (max lw lb).toNat := by omega
  have hmx : (max lw lb).toNat ≤ 30 := by omega
  have hmx10 : 10 ≤ (max lw lb).toNat := by omega
  have hlb : lb.toNat ≤ (max lw lb).toNat := by omega
  rw [hwb]
  generalize (max lw lb).toNat = m at *
  generalize lb.toNat = t at *
  have hp31 : 2 ^ (1 + m) ≤ 2 ^ 31 := Nat.pow_le_pow_right (by omega) (by omega)
  have hpt : 2 ^ t ≤ 2 ^ m := Nat.pow_le_pow_right (by omega) hlb
  have hdbl : 2 ^ (1 + m) = 2 * 2 ^ m := by rw [Nat.add_comm, Nat.pow_succ, Nat.mul_comm]
  have hpos : 0 < 2 ^ m := Nat.pow_pos (by omega)
  have h31v : (2 : Nat) ^ 31 = 2147483648 := by decide
  refine ⟨⟨⟨?_, ?_, ?_, ⟨1 + m, rfl, by omega, by omega⟩⟩, ?_, ?_, Or.inr ⟨rfl, ?_⟩, ?_, ?_⟩, trivial⟩
  · show 2 ^ (1 + m) - 1 + 1 = 2 ^ (1 + m)
    omega
  · show (2 ^ (1 + m) + 2 ^ t) % two32 = 2 ^ (1 + m) + 2 ^ t
    apply Nat.mod_eq_of_lt
    unfold two32; omega
  · show 2 * 2 ^ t ≤ 2 ^ (1 + m)
    omega
  · intro _; rfl
  · intro hh; simp at hh
  · show 0 < 2 ^ t
    exact Nat.pow_pos (by omega)
  · intro p hp; simp at hp
  · intro p hp; simp at hp

theorem ringGrow_geom {rb rb' : Ring} (h : ringGrow rb = .ok rb') :
    rb'.size = rb.size ∧ rb'.mask = rb.mask ∧ rb'.tailSize = rb.tailSize ∧ rb'.totalSize = rb.totalSize := by
  rcases ringGrow_ok_cases h with ⟨-, rbi, hinit, rfl⟩ | ⟨-, rfl⟩
  · obtain ⟨-, i2, i3, i4, i5, -⟩ := initBuffer_get hinit
    exact ⟨i2, i3, i4, i5⟩
  · exact ⟨rfl, rfl, rfl, rfl⟩

theorem ringWrite_geom {rb rb' : Ring} {bytes : Bytes} {avail : Nat} (h : ringWrite rb bytes avail = .ok rb') :
    rb'.size = rb.size ∧ rb'.mask = rb.mask ∧ rb'.tailSize = rb.tailSize ∧ rb'.totalSize = rb.totalSize := by
  rcases ringWrite_ok_cases h with ⟨-, rbi, hinit, rfl⟩ | ⟨-, rbg, hg, rfl⟩
  · obtain ⟨-, i2, i3, i4, i5, -⟩ := initBuffer_get hinit
    exact ⟨i2, i3, i4, i5⟩
  · obtain ⟨g1, g2, g3, g4⟩ := ringGrow_geom hg
    exact ⟨g1, g2, g3, g4⟩

theorem copy_ring_geom {s s' : St} {chunk : Bytes} {avail : Nat} (hi : s.isInitialized = true)
    (h : copyInputToRingBuffer s chunk avail = .ok s') : s'.ring.tailSize = s.ring.tailSize := by
  unfold copyInputToRingBuffer at h
  rw [ensureInitialized_id hi] at h
  simp only at h
  split at h
  · rename_i rb hw
    split at h
    · simp at h
    · simp only [Out.ok.injEq] at h
      subst h
      simp only
      split
      · exact (ringWrite_geom hw).2.2.1
      · exact (ringWrite_geom hw).2.2.1
  · simp at h
  · simp at h

/-- `allocLen`: the length of `data_mo`, as `RingBufferInitBuffer` made it -/
def AllocOK (rb : Ring) : Prop := (rb.allocLen = 0 ∧ rb.curSize = 0) ∨ rb.allocLen = 2 + rb.curSize + 7

/-- the bound on `buflen` is any that keeps `2 + buflen + 7` within `u32`; buffers are at most
`3 * 2^30` long (`geom_bounds`) -/
theorem initBuffer_no_panic {rb : Ring} {buflen : Nat} (hA : AllocOK rb) (h1 : rb.curSize ≤ buflen) (h2 : buflen < 4294967000) :
    ∃ rb', ringInitBuffer rb buflen = .ok rb' ∧ rb'.allocLen = 2 + buflen + 7 := by
  unfold ringInitBuffer
  simp only
  have e1 : (2 + buflen) % two32 = 2 + buflen := Nat.mod_eq_of_lt (by unfold two32; omega)
  have e2 : (2 + rb.curSize) % two32 = 2 + rb.curSize := Nat.mod_eq_of_lt (by unfold two32; omega)
  rw [e1, e2]
  have c1 : ¬ (rb.allocLen ≠ 0 ∧ (2 + rb.curSize + 7 > 2 + buflen + 7 ∨ 2 + rb.curSize + 7 > rb.allocLen)) := by
    intro ⟨hne, hh⟩
    rcases hA with ⟨ha, -⟩ | ha
    · exact hne ha
    · omega
  have c2 : ¬ (2 + buflen + 7 > 2 + buflen + 7) := by omega
  rw [if_neg c1, if_neg c2]
  exact ⟨_, rfl, rfl⟩

/-- the largest ring: `size_ ≤ 2^31`, and with a tail of at most half of that `total_size_ ≤ 3 * 2^30` -/
theorem geom_bounds {rb : Ring} (g : RingGeom rb) : rb.size ≤ 2147483648 ∧ rb.totalSize ≤ 3221225472 ∧ 4 ≤ rb.size := by
  have hsl := g.lap_facts.sizeLe
  have h31 := g.lap_facts.le
  have hs4 := g.lap_facts.size4
  have := g.tail
  have := g.total
  omega

/-- the slice bounds of `RingBufferWriteTail` (`body_guard`: of the body writes), in the form the model tests them -/
theorem tail_guard {size tail total mp n avail : Nat} (hmp : mp < size) (ht : 2 * tail ≤ size) (htot : total = size + tail)
    (hn : n ≤ tail) (hav : n ≤ avail) :
    (if mp < tail then decide (2 + (size + mp) + min n (tail - mp) ≤ 2 + total + 7 ∧ min n (tail - mp) ≤ avail) else true) = true := by
  split
  · simp only [decide_eq_true_eq]; omega
  · rfl

theorem body_guard {size tail total mp n avail : Nat} (hmp : mp < size) (ht : 2 * tail ≤ size) (htot : total = size + tail)
    (hn : n ≤ tail) (hav : n ≤ avail) :
    (if mp + n ≤ size then decide (2 + mp + n ≤ 2 + total + 7 ∧ n ≤ avail)
      else decide (total ≥ mp ∧ 2 + mp + min n (total - mp) ≤ 2 + total + 7 ∧ min n (total - mp) ≤ avail ∧
            size ≥ mp ∧ n ≥ size - mp ∧ 2 + (n - (size - mp)) ≤ 2 + total + 7 ∧ size - mp + (n - (size - mp)) ≤ avail)) = true := by
  split
  · simp only [decide_eq_true_eq]; omega
  · simp only [decide_eq_true_eq]; omega

theorem ringWrite_no_panic {rb : Ring} {input bytes : Bytes} {avail : Nat} (hR : RingOK rb input) (hA : AllocOK rb)
    (hz : input = [] → rb.curSize = 0) (hn : bytes.length ≤ rb.tailSize) (hav : bytes.length ≤ avail) :
    ∃ rb', ringWrite rb bytes avail = .ok rb' ∧ rb'.allocLen = 2 + rb'.curSize + 7 ∧ ((input ++ bytes) = [] → rb'.curSize = 0) := by
  have g := hR.geom
  obtain ⟨hs31, ht3, hs4⟩ := geom_bounds g
  have htail := g.tail
  have htot := g.total
  have hmask := g.mask
  unfold ringWrite
  simp only
  by_cases hfirst : rb.pos = 0 ∧ bytes.length < rb.tailSize
  · rw [if_pos hfirst]
    have hin : input = [] := hR.pos_zero hfirst.1
    have hc0 := hz hin
    have hA' : AllocOK { rb with pos := bytes.length } := hA
    obtain ⟨rbi, hi, hal⟩ := initBuffer_no_panic (rb := { rb with pos := bytes.length }) (buflen := bytes.length) hA'
      (by show rb.curSize ≤ bytes.length; omega) (by omega)
    rw [hi]
    simp only
    have hc : ¬ (2 + bytes.length > rbi.allocLen ∨ bytes.length > avail) := by omega
    rw [if_neg hc]
    obtain ⟨i1, -⟩ := initBuffer_get hi
    refine ⟨_, rfl, (by show rbi.allocLen = 2 + rbi.curSize + 7; rw [hal, i1]), ?_⟩
    intro hnil
    show rbi.curSize = 0
    rw [i1]
    have : bytes = [] := by
      rw [hin] at hnil; simpa using hnil
    rw [this]; rfl
  · rw [if_neg hfirst]
    have hgrow : ∃ rbg, ringGrow rb = .ok rbg ∧ rbg.allocLen = 2 + rbg.totalSize + 7 ∧ rbg.curSize = rbg.totalSize
        ∧ rbg.size = rb.size ∧ rbg.mask = rb.mask ∧ rbg.tailSize = rb.tailSize ∧ rbg.totalSize = rb.totalSize ∧ rbg.pos = rb.pos := by
      unfold ringGrow
      by_cases hlt : rb.curSize < rb.totalSize
      · rw [if_pos hlt]
        obtain ⟨rbi, hi, hal⟩ := initBuffer_no_panic (buflen := rb.totalSize) hA (by omega) (by omega)
        rw [hi]
        simp only
        obtain ⟨i1, i2, i3, i4, i5, i6, -⟩ := initBuffer_get hi
        have hc : ¬ (2 + rbi.size - 1 ≥ rbi.allocLen ∨ rbi.size < 2) := by rw [hal, i2]; omega
        rw [if_neg hc]
        exact ⟨_, rfl, by show rbi.allocLen = 2 + rbi.totalSize + 7; rw [hal, i5], by show rbi.curSize = rbi.totalSize; rw [i1, i5], i2, i3, i4, i5, i6⟩
      · rw [if_neg hlt]
        have hfull : rb.curSize = rb.totalSize := by
          rcases hR.alloc with ha | ha
          · exact ha
          · omega
        refine ⟨rb, rfl, ?_, hfull, rfl, rfl, rfl, rfl, rfl⟩
        rcases hA with ⟨-, ha⟩ | ha
        · omega
        · rw [ha, hfull]
    obtain ⟨rbg, hg, gal, gcur, e1, e2, e3, e4, e5⟩ := hgrow
    rw [hg]
    simp only
    unfold ringWriteMain
    simp only
    rw [e2, hmask, e5, e3, e1, e4, gal, e4]
    have hmp : rb.pos % rb.size < rb.size := Nat.mod_lt _ (by omega)
    generalize rb.pos % rb.size = mp at hmp
    generalize hnn : bytes.length = n at *
    rw [tail_guard hmp htail htot hn hav]
    simp only [Bool.not_true, Bool.false_eq_true, ↓reduceIte]
    rw [body_guard hmp htail htot hn hav]
    simp only [Bool.not_true, Bool.false_eq_true, ↓reduceIte]
    have c3 : ¬ (2 + rb.size - 1 ≥ 2 + rb.totalSize + 7 ∨ rb.size < 2) := by omega
    rw [if_neg c3]
    refine ⟨_, rfl, (by show _ = 2 + rbg.curSize + 7; rw [gcur, e4]), ?_⟩
    intro hnil
    exfalso
    -- a non-first write of nothing onto nothing cannot happen: `pos_ = 0` and `0 < tail_size_`
    have hin : input = [] := by
      cases input with
      | nil => rfl
      | cons a as => simp at hnil
    have hb : n = 0 := by
      rw [hin] at hnil
      have : bytes = [] := by simpa using hnil
      rw [← hnn, this]; rfl
    have hp0 : rb.pos = 0 := by
      have := hR.posSmall (by rw [hin]; simp)
      rw [hin] at this; simpa using this
    have htpos : 0 < rb.tailSize := by
      rcases hR.alloc with ha | ha
      · have := hz hin; omega
      · omega
    exact hfirst ⟨hp0, by omega⟩

theorem copy_no_panic {s : St} {chunk input : Bytes} {avail : Nat} (hi : s.isInitialized = true)
    (hR : RingOK s.ring input) (hA : AllocOK s.ring) (hz : input = [] → s.ring.curSize = 0)
    (hn : chunk.length ≤ s.ring.tailSize) (hav : chunk.length ≤ avail) :
    ∃ s', copyInputToRingBuffer s chunk avail = .ok s' ∧ AllocOK s'.ring ∧ ((input ++ chunk) = [] → s'.ring.curSize = 0) := by
  obtain ⟨rb, hw, hal, hz'⟩ := ringWrite_no_panic hR hA hz hn hav
  have hR' := ringWrite_ok hR hn hw
  unfold copyInputToRingBuffer
  rw [ensureInitialized_id hi]
  simp only
  rw [hw]
  simp only
  have g := hR'.geom
  have hsl := g.lap_facts.sizeLe
  have hmask := g.mask
  have htot := g.total
  have hc : ¬ (rb.pos ≤ rb.mask ∧ 2 + rb.pos + 7 > rb.allocLen) := by
    intro ⟨hfl, hbad⟩
    have hP : rb.pos = (input ++ chunk).length := by
      by_cases hc : (input ++ chunk).length ≤ rb.lap
      · exact hR'.posSmall hc
      · have := (hR'.posBig (by omega)).1
        omega
    rcases hR'.alloc with ha | ha
    · omega
    · omega
  rw [if_neg hc]
  refine ⟨_, rfl, ?_, ?_⟩
  · simp only
    split
    · exact Or.inr hal
    · exact Or.inr hal
  · intro hnil
    simp only
    split
    · exact hz' hnil
    · exact hz' hnil

/-- the ring-buffer invariant of an initialised encoder: `inp` = the bytes copied in so far.
`alloc` is the pair of hypotheses `copy_no_panic` takes and gives back. -/
structure RingInv (s : St) (inp : Bytes) : Prop where
  init : s.isInitialized = true
  ok : RingOK s.ring inp
  tail : s.ring.tailSize = s.blockSize
  alloc : AllocOK s.ring ∧ (inp = [] → s.ring.curSize = 0)

theorem ringInv_of_eq {s s' : St} {inp : Bytes} (h : RingInv s inp) (h1 : s'.ring = s.ring) (h2 : s'.params.lgblock = s.params.lgblock)
    (h3 : s'.isInitialized = s.isInitialized) : RingInv s' inp := by
  refine ⟨h3.trans h.init, by rw [h1]; exact h.ok, ?_, by rw [h1]; exact h.alloc⟩
  rw [h1, blockSize_congr h2]; exact h.tail

theorem rbs_le_block (s : St) : remainingInputBlockSize s ≤ s.blockSize := by
  unfold remainingInputBlockSize
  simp only
  split <;> omega

theorem step_ring {o : Oracle} {op : Nat} {s s' : St} {io io' : Io} {e : Ev} {inp : Bytes} (hR : RingInv s inp)
    (hs : Step o op (s, io) e (s', io')) : RingInv s' (inp ++ e.copied) := by
  rcases hs.effect with ⟨hf, _⟩ | ⟨hI, ha⟩
  · have := hR.init
    rw [isFreshInit hf] at this
    cases this
  · cases ha with
    | copy hw hop hnf hst hrm hc hn he =>
      have hlen : (io.input.take (copyN s io)).length ≤ s.ring.tailSize := by
        rw [List.length_take, hR.tail]
        have := rbs_le_block s
        unfold copyN
        omega
      obtain ⟨r1, -⟩ := copy_ring_ok hI.init hR.ok hlen he
      have hav : (io.input.take (copyN s io)).length ≤ io.input.length := by
        rw [List.length_take]; exact Nat.min_le_right _ _
      obtain ⟨s'', hs'', a1, a2⟩ := copy_no_panic hI.init hR.ok hR.alloc.1 hR.alloc.2 hlen hav
      rw [he] at hs''
      cases hs''
      refine ⟨hI.init, r1, ?_, a1, a2⟩
      rw [copy_ring_geom hI.init he, hR.tail]
      rfl
    | enc _ _ _ _ hfr =>
      rw [show ∀ x a b c, inp ++ (encEv o x a b c).copied = inp from fun _ _ _ _ => List.append_nil inp]
      exact ringInv_of_eq hR (by rw [hfr]; rfl) (by rw [hfr]; rfl) (by rw [hfr]; rfl)
    | _ => simp only [Ev.copied, List.append_nil]; exact ringInv_of_eq hR rfl rfl rfl

theorem ring_alloc_fresh {s : St} (h : IsFresh s) :
    AllocOK (ensureInitialized s).ring ∧ (([] : Bytes) = [] → (ensureInitialized s).ring.curSize = 0) := by
  obtain ⟨p, rfl⟩ := h
  exact ⟨Or.inl ⟨rfl, rfl⟩, fun _ => rfl⟩

end BV.Stream
