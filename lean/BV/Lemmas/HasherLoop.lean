import BV.Model.Hasher
/-! Lemmas about `forRange` (the model's `for i in a..b`), windows (`win`), the little-endian value `le`,
ring masks and the table accessors `rd` / `wr`. -/
namespace BV.Hasher

theorem forRange_zero {σ : Type} (f : Nat → σ → Option σ) (s : Nat) (x : σ) :
    forRange f s 0 x = some x := rfl

theorem forRange_succ {σ : Type} (f : Nat → σ → Option σ) (s n : Nat) (x : σ) :
    forRange f s (n + 1) x = (f s x).bind (forRange f (s + 1) n) := by
  simp only [forRange]
  cases f s x <;> rfl

theorem forRange_add {σ : Type} (f : Nat → σ → Option σ) (n m : Nat) :
    ∀ (s : Nat) (x : σ), forRange f s (n + m) x = (forRange f s n x).bind (forRange f (s + n) m) := by
  induction n with
  | zero => intro s x; simp [forRange_zero]
  | succ n ih =>
    intro s x
    rw [show n + 1 + m = (n + m) + 1 by omega, forRange_succ, forRange_succ]
    cases h : f s x with
    | none => rfl
    | some y =>
      simp only [Option.bind_some]
      rw [ih (s + 1) y, show s + 1 + n = s + (n + 1) by omega]

theorem forRange_snoc {σ : Type} (f : Nat → σ → Option σ) (s n : Nat) (x : σ) :
    forRange f s (n + 1) x = (forRange f s n x).bind (f (s + n)) := by
  rw [forRange_add]
  congr 1
  funext y
  rw [forRange_succ]
  cases f (s + n) y <;> rfl

theorem forRange_congr {σ : Type} {f g : Nat → σ → Option σ} (n : Nat) :
    ∀ (s : Nat) (x : σ), (∀ i y, s ≤ i → i < s + n → f i y = g i y) →
      forRange f s n x = forRange g s n x := by
  induction n with
  | zero => intro s x _; rfl
  | succ n ih =>
    intro s x h
    rw [forRange_succ, forRange_succ, h s x (Nat.le_refl _) (by omega)]
    cases g s x with
    | none => rfl
    | some y =>
      simp only [Option.bind_some]
      exact ih (s + 1) y (fun i z h1 h2 => h i z (by omega) (by omega))

theorem forRange_shift {σ : Type} (f : Nat → σ → Option σ) (a n : Nat) :
    ∀ (s : Nat) (x : σ), forRange (fun k y => f (a + k) y) s n x = forRange f (a + s) n x := by
  induction n with
  | zero => intro s x; rfl
  | succ n ih =>
    intro s x
    rw [forRange_succ, forRange_succ]
    cases f (a + s) x with
    | none => rfl
    | some y => simp only [Option.bind_some]; rw [ih (s + 1) y]; rfl

theorem forRange_chunks {σ : Type} (f : Nat → σ → Option σ) (k s n : Nat) :
    ∀ (c0 : Nat) (x : σ),
      forRange (fun c y => forRange f (s + c * k) k y) c0 n x = forRange f (s + c0 * k) (n * k) x := by
  induction n with
  | zero => intro c0 x; simp [forRange_zero]
  | succ n ih =>
    intro c0 x
    rw [forRange_succ, show (n + 1) * k = k + n * k by rw [Nat.add_mul]; omega, forRange_add]
    cases forRange f (s + c0 * k) k x with
    | none => rfl
    | some y =>
      simp only [Option.bind_some]
      rw [ih (c0 + 1) y, show s + (c0 + 1) * k = s + c0 * k + k by rw [Nat.add_mul]; omega]

theorem forRange_last_none {σ : Type} (f : Nat → σ → Option σ) (n : Nat) :
    ∀ (s : Nat) (x : σ), (∀ y, f (s + n) y = none) → forRange f s (n + 1) x = none := by
  induction n with
  | zero => intro s x h; rw [forRange_succ, show f s x = none from h x]; rfl
  | succ n ih =>
    intro s x h
    rw [forRange_succ]
    cases f s x with
    | none => rfl
    | some y =>
      simp only [Option.bind_some]
      exact ih (s + 1) y (fun z => by rw [show s + 1 + n = s + (n + 1) by omega]; exact h z)

theorem forRange_inv_of_lt {σ : Type} {f : Nat → σ → Option σ} {I : σ → Prop} (n : Nat) :
    ∀ (s : Nat) (x y : σ), (∀ i a b, s ≤ i → i < s + n → I a → f i a = some b → I b) → I x →
      forRange f s n x = some y → I y := by
  induction n with
  | zero => intro s x y _ hx h; simp [forRange_zero] at h; exact h ▸ hx
  | succ n ih =>
    intro s x y hI hx h
    rw [forRange_succ] at h
    cases hf : f s x with
    | none => simp [hf] at h
    | some z =>
      simp [hf] at h
      exact ih (s + 1) z y (fun i a b h1 h2 => hI i a b (by omega) (by omega))
        (hI s x z (Nat.le_refl _) (by omega) hx hf) h

theorem forRange_inv {σ : Type} {f : Nat → σ → Option σ} {I : σ → Prop}
    (hI : ∀ i x y, I x → f i x = some y → I y) (n : Nat) (s : Nat) (x y : σ) :
    I x → forRange f s n x = some y → I y :=
  forRange_inv_of_lt n s x y fun i a b _ _ => hI i a b

theorem forRange_isSome {σ : Type} {f : Nat → σ → Option σ} {I : σ → Prop} (n : Nat) :
    ∀ (s : Nat) (x : σ), I x → (∀ i y, s ≤ i → i < s + n → I y → ∃ z, f i y = some z ∧ I z) →
      ∃ z, forRange f s n x = some z ∧ I z := by
  induction n with
  | zero => intro s x hx _; exact ⟨x, rfl, hx⟩
  | succ n ih =>
    intro s x hx h
    obtain ⟨y, hy, hIy⟩ := h s x (Nat.le_refl _) (by omega) hx
    rw [forRange_succ, hy]
    exact ih (s + 1) y hIy (fun i z h1 h2 hz => h i z (by omega) (by omega) hz)

theorem forRange_four {σ : Type} (f : Nat → σ → Option σ) (s : Nat) (x : σ) :
    forRange f s 4 x =
      (f s x).bind fun x1 => (f (s + 1) x1).bind fun x2 => (f (s + 2) x2).bind fun x3 =>
        f (s + 3) x3 := by
  rw [forRange_succ]
  cases f s x with
  | none => rfl
  | some x1 =>
    simp only [Option.bind_some]
    rw [forRange_succ]
    cases f (s + 1) x1 with
    | none => rfl
    | some x2 =>
      simp only [Option.bind_some]
      rw [forRange_succ]
      cases f (s + 1 + 1) x2 with
      | none => rfl
      | some x3 =>
        simp only [Option.bind_some]
        rw [forRange_succ]
        cases f (s + 1 + 1 + 1) x3 <;> rfl

theorem win_eq_some {data : ByteArray} {p n : Nat} {w : List Nat} (h : win data p n = some w) :
    p + n ≤ data.size ∧ w = (List.range n).map fun k => (data.get! (p + k)).toNat := by
  unfold win at h
  split at h
  · exact ⟨by assumption, by injection h with h; exact h.symm⟩
  · exact absurd h (by simp)

theorem win_eq_none {data : ByteArray} {p n : Nat} : win data p n = none ↔ data.size < p + n := by
  unfold win
  split <;> simp <;> omega

theorem win_length {data : ByteArray} {p n : Nat} {w : List Nat} (h : win data p n = some w) :
    w.length = n := by
  rw [(win_eq_some h).2]; simp

theorem win_lt {data : ByteArray} {p n : Nat} {w : List Nat} (h : win data p n = some w) :
    ∀ b ∈ w, b < 256 := by
  rw [(win_eq_some h).2]
  intro b hb
  simp only [List.mem_map] at hb
  obtain ⟨k, _, rfl⟩ := hb
  exact UInt8.toNat_lt _

theorem win_sub {data : ByteArray} {p n : Nat} {w : List Nat} (h : win data p n = some w)
    (a m : Nat) (ham : a + m ≤ n) : win data (p + a) m = some ((w.drop a).take m) := by
  obtain ⟨hsz, rfl⟩ := win_eq_some h
  unfold win
  rw [if_pos (by omega)]
  congr 1
  apply List.ext_getElem
  · simp; omega
  · intro k h1 h2
    simp [Nat.add_assoc]

theorem win_none_of_le {data : ByteArray} {p n q m : Nat} (h : win data p n = none)
    (hle : p + n ≤ q + m) : win data q m = none := by
  rw [win_eq_none] at *; omega

theorem win_getD {data : ByteArray} {p n : Nat} {w : List Nat} (h : win data p n = some w) (k : Nat)
    (hk : k < n) : w.getD k 0 = (data.get! (p + k)).toNat := by
  obtain ⟨_, rfl⟩ := win_eq_some h
  simp [List.getD, hk]

theorem le_lt_of_bytes : ∀ (w : List Nat), (∀ b ∈ w, b < 256) → le w < 256 ^ w.length
  | [], _ => by simp [le]
  | b :: rest, h => by
    have h1 := le_lt_of_bytes rest (fun x hx => h x (List.mem_cons_of_mem _ hx))
    have h2 := h b List.mem_cons_self
    simp only [le, List.length_cons, Nat.pow_succ]
    omega

theorem le_inj : ∀ (a b : List Nat), a.length = b.length → (∀ x ∈ a, x < 256) → (∀ x ∈ b, x < 256) →
    le a = le b → a = b
  | [], [], _, _, _, _ => rfl
  | [], _ :: _, h, _, _, _ => by simp at h
  | _ :: _, [], h, _, _, _ => by simp at h
  | x :: xs, y :: ys, hl, ha, hb, h => by
    simp only [le] at h
    have hx := ha x List.mem_cons_self
    have hy := hb y List.mem_cons_self
    have h1 : x = y := by omega
    have h2 : le xs = le ys := by omega
    rw [h1, le_inj xs ys (by simpa using hl) (fun z hz => ha z (List.mem_cons_of_mem _ hz))
      (fun z hz => hb z (List.mem_cons_of_mem _ hz)) h2]

theorem le_shiftRight (b : Nat) (l : List Nat) (hb : b < 256) : le (b :: l) >>> 8 = le l := by
  rw [Nat.shiftRight_eq_div_pow]
  show (b + 256 * le l) / 2 ^ 8 = le l
  omega

theorem le_low32 (b0 b1 b2 b3 : Nat) (l : List Nat) (h0 : b0 < 256) (h1 : b1 < 256) (h2 : b2 < 256) (h3 : b3 < 256) :
    le (b0 :: b1 :: b2 :: b3 :: l) &&& 0xffffffff = le [b0, b1, b2, b3] := by
  rw [show (0xffffffff : Nat) = 2 ^ 32 - 1 by decide, Nat.and_two_pow_sub_one_eq_mod]
  simp only [le]
  omega

/-- inside a non-straddling chunk the masked offsets are consecutive -/
theorem ringmask_consecutive (ix k j : Nat) (h : ¬ (2 ^ k - 1 - (ix &&& (2 ^ k - 1)) < 3)) (hj : j ≤ 3) :
    (ix + j) &&& (2 ^ k - 1) = (ix &&& (2 ^ k - 1)) + j := by
  rw [Nat.and_two_pow_sub_one_eq_mod, Nat.and_two_pow_sub_one_eq_mod] at *
  have hp : 0 < 2 ^ k := Nat.pow_pos (by decide)
  have hlt : ix % 2 ^ k < 2 ^ k := Nat.mod_lt _ hp
  rw [Nat.add_mod, Nat.mod_eq_of_lt (a := j) (by omega), Nat.mod_eq_of_lt (by omega)]

theorem rd_of_lt {a : Tab} {i : Nat} (h : i < a.size) : rd a i = some a[i] := by simp [rd, h]
theorem rd_of_not_lt {a : Tab} {i : Nat} (h : ¬ i < a.size) : rd a i = none := by simp [rd, h]
theorem wr_of_lt {a : Tab} {i : Nat} (v : Nat) (h : i < a.size) : wr a i v = some (a.set i v h) := by
  simp [wr, h]

theorem usize_max_eq : USIZE_MAX = 2 ^ 64 - 1 := by decide

end BV.Hasher
