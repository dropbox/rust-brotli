/-
What `CreateCommands` emits replays, under RFC 7932, to the block: the replay invariant `RP` ("the buffers so far replay
to `history ++ input[.. next_emit]`") is kept by both ways of emitting a match (`RP.emits`), because every copy was
confirmed by `IsMatch` + `FindMatchLengthWithLimit` on the input itself; with `createCommands_spec` and `replay_final`
this gives `create_commands_replays` (BV/Props/C01Fragment.lean).
-/
import BV.Lemmas.FragmentCC
import BV.Lemmas.FragmentStep
namespace BV.Fragment
open BV.Bits BV.MetaBlock BV.Huffman BV.PrefixArith BV.Recoder

theorem load32_eq (a : Array Nat) (hb : ∀ i, a.getD i 0 < 256) (i j x y : Nat) (hx : load32 a i = .ok x)
    (hy : load32 a j = .ok y) (hxy : x = y) : ∀ k, k < 4 → a.getD (i + k) 0 = a.getD (j + k) 0 := by
  unfold load32 at hx hy
  by_cases h1 : i + 4 ≤ a.size
  · by_cases h2 : j + 4 ≤ a.size
    · rw [if_pos h1] at hx
      rw [if_pos h2] at hy
      injection hx with hx
      injection hy with hy
      have b0 := hb i; have b1 := hb (i + 1); have b2 := hb (i + 2); have b3 := hb (i + 3)
      have c0 := hb j; have c1 := hb (j + 1); have c2 := hb (j + 2); have c3 := hb (j + 3)
      -- four base-256 digits below 256 determine the number
      intro k hk
      have : k = 0 ∨ k = 1 ∨ k = 2 ∨ k = 3 := by omega
      rcases this with rfl | rfl | rfl | rfl <;> (try simp only [Nat.add_zero]) <;> omega
    · rw [if_neg h2] at hy; cases hy
  · rw [if_neg h1] at hx; cases hx

theorem isMatch_true (a : Array Nat) (hb : ∀ i, a.getD i 0 < 256) (i j len : Nat) (hl : len = 4 ∨ len = 6)
    (h : isMatch a i j len = .ok true) : ∀ k, k < len → a.getD (i + k) 0 = a.getD (j + k) 0 := by
  suffices (isMatch a i j len).Post fun m => m = true → ∀ k, k < len → a.getD (i + k) 0 = a.getD (j + k) 0 from
    this true h rfl
  unfold isMatch
  refine .ite (fun _ => .panic) fun _ => .bind fun x hx => .bind fun y hy =>
    .ite (fun _ => .ok fun h => (by cases h)) fun hxy => ?_
  have h4 := load32_eq a hb i j x y hx hy (by omega)
  refine .ite (fun _ => .ok fun _ k hk => h4 k (by omega)) fun _ => .ite (fun _ => .ok fun h k hk => ?_) fun _ =>
    .ite (fun _ => .ok fun h => (by cases h)) fun _ => .panic
  simp only [Bool.and_eq_true, beq_iff_eq] at h
  by_cases hk4 : k < 4
  · exact h4 k hk4
  · have : k = 4 ∨ k = 5 := by omega
    rcases this with rfl | rfl
    · exact h.1
    · exact h.2

theorem getD_toList (a : Array Nat) (i : Nat) : a.toList.getD i 0 = a.getD i 0 := by
  rw [List.getD_eq_getElem?_getD, Array.getD_eq_getD_getElem?, Array.getElem?_toList]

/-- the buffers so far, followed by ANY continuation `C`/`L`, replay from the block start to the output
`history ++ input up to next_emit`; `k + ii ≤ ne`: at most one RFC command per byte -/
def RP (wo : WordOracle) (window mlen ii : Nat) (hist I : List Nat) (ring0 : List Int)
    (cmds lits : Array Nat) (ne : Nat) (ld : Int) : Prop :=
  ∃ k ring, k + ii ≤ ne ∧ (ld = -1 ∨ ring[0]? = some ld) ∧
    ∀ f C L, replayGo wo window mlen (f + k) (cmds.toList ++ C) (lits.toList ++ L) 0 ⟨hist ++ I.take ii, ring0⟩
      = replayGo wo window mlen f C L (ne - ii) ⟨hist ++ I.take ne, ring⟩

theorem match_bytes (inp : Array Nat) (hb : ∀ i, inp.getD i 0 < 256) (base cand minMatch n : Nat)
    (hmm : minMatch = 4 ∨ minMatch = 6) (hm : isMatch inp base cand minMatch = .ok true)
    (hf : ∀ k, k < n → inp.getD (cand + minMatch + k) 0 = inp.getD (base + minMatch + k) 0) :
    ∀ k, k < minMatch + n → inp.toList.getD (cand + k) 0 = inp.toList.getD (base + k) 0 := by
  intro k hk
  rw [getD_toList, getD_toList]
  by_cases h : k < minMatch
  · exact (isMatch_true inp hb base cand minMatch hmm hm k h).symm
  · have := hf (k - minMatch) (by omega)
    rw [show cand + minMatch + (k - minMatch) = cand + k by omega,
      show base + minMatch + (k - minMatch) = base + k by omega] at this
    exact this

section
variable {wo : WordOracle} {window : Nat} {inp : Array Nat} {hist : List Nat} {ring0 : List Int} {ii mlen minMatch : Nat}

theorem RP.emits (hwin : 262128 ≤ window) (hb : ∀ i, inp.getD i 0 < 256) (hmm : minMatch = 4 ∨ minMatch = 6)
    (hsz : ii + mlen ≤ inp.size) (hml : mlen < 16777216) :
    Emits inp minMatch ii (ii + mlen) (RP wo window mlen ii hist inp.toList ring0) := by
  have hmm4 : 4 ≤ minMatch ∧ minMatch ≤ 6 := by omega
  have hI : ii + mlen ≤ inp.toList.length := by rw [Array.length_toList]; exact hsz
  constructor
  · intro cmds lits e ld base cand n dW ⟨k, ring, hk, hld, hrep⟩ hii heb fd hdW
    have hend := fd.hend
    obtain ⟨ring', hdW'⟩ : ∃ ring', DistWord ring ring' (base - cand) dW := by
      rcases hdW with ⟨rfl, heq⟩ | hdW
      · refine ⟨ring, Or.inl ⟨rfl, ?_, rfl⟩⟩
        rcases hld with hld | hld
        · rw [hld] at heq; have := fd.hc; omega
        · rw [hld, heq]
      · exact ⟨_, Or.inr ⟨hdW, rfl⟩⟩
    refine ⟨k + 2, ring', by omega, Or.inr hdW'.head, fun f' C L => ?_⟩
    simp only [Array.toList_append, Array.toList_push, extract_toList, List.append_assoc,
      List.cons_append, List.nil_append]
    rw [show f' + (k + 2) = f' + 2 + k by omega, hrep]
    exact replay_groupA wo hwin hii heb fd.hc fd.hd (by omega) hend hI hml
      (match_bytes inp hb base cand minMatch n hmm fd.isM fd.ext) hdW' f' C L
  · intro cmds lits ld base cand n dW ⟨k, ring, hk, hld, hrep⟩ hii fd hdW
    have hend := fd.hend
    refine ⟨k + 1, ((base - cand : Nat) : Int) :: ring.take 3, by omega, Or.inr rfl, fun f' C L => ?_⟩
    simp only [Array.toList_push, List.append_assoc, List.cons_append, List.nil_append]
    -- `EmitCopyLen` + `EmitDistance`: one RFC command (insert length 0, explicit distance)
    rw [show f' + (k + 1) = f' + 1 + k by omega, hrep,
      replayGo_copy wo (copy_word (minMatch + n) (by omega) (by omega)) (by omega) (by omega) (Or.inr ⟨by omega, rfl⟩)
        f' _ L _ _ (by omega),
      stepTail_dist wo C L hwin fd.hc fd.hd hii (by omega) hend hI
        (match_bytes inp hb base cand minMatch n hmm fd.isM fd.ext) (Or.inr ⟨hdW, rfl⟩)]

end

end BV.Fragment
