/-
For C06 `favor_cpu_equiv`: the shared pre-built match index of `CompressMulti`'s favor-cpu branch
against the index a job builds itself, over an ABSTRACT hasher.
-/
import BV.Lemmas.MultiRange

namespace BV.Lemmas.Multi
open BV.Multi

structure HasherModel (H : Type) where
  /-- `hasher_setup` on an `Uninit` handle -/
  empty : H
  /-- `BulkStoreRange(data, usize::MAX, lo, hi)` -/
  bulk : H → List Nat → Nat → Nat → H

/-- a consequence of C19 `bulk_eq_fold_store_*` (`BulkStoreRange` is the fold of `Store`) -/
def Additive {H : Type} (M : HasherModel H) : Prop :=
  ∀ h d a b c, a ≤ b → b ≤ c → M.bulk (M.bulk h d a b) d b c = M.bulk h d a c

/-- `overlap = StoreLookahead() − 1` -/
def Local {H : Type} (M : HasherModel H) (overlap : Nat) : Prop :=
  ∀ h d d' a b, d.take (b + overlap) = d'.take (b + overlap) → M.bulk h d a b = M.bulk h d' a b

/-- the favor loop of `CompressMulti` for `thread_index = 1 .. j`: returns the
shared hasher as handed to job `j` and `stored_end` -/
def prebuilt {H : Type} (M : HasherModel H) (input : List Nat) (t n overlap : Nat) : Nat → H × Nat
  | 0 => (M.empty, 0)
  | j + 1 =>
    let p := prebuilt M input t n overlap j
    -- `range = get_range(thread_index - 1, ..)` with `thread_index = j + 1`: `range.end = bnd (j+1)`
    if bnd t n (j + 1) > overlap ∧ bnd t n (j + 1) - overlap > p.2 then
      (M.bulk p.1 input p.2 (bnd t n (j + 1) - overlap), bnd t n (j + 1) - overlap)
    else p

/-- an earlier form of the loop, one guarded store per RANGE: the regression target of C06
`short_ranges_v0` -/
def prebuiltV0 {H : Type} (M : HasherModel H) (input : List Nat) (t n overlap : Nat) : Nat → H
  | 0 => M.empty
  | j + 1 =>
    let h := prebuiltV0 M input t n overlap j
    if bnd t n (j + 1) - bnd t n j > overlap then
      M.bulk h input (if bnd t n j > overlap then bnd t n j - overlap else 0) (bnd t n (j + 1) - overlap)
    else h

/-- what the job builds itself in `set_custom_dictionary…` (`StoreLookaheadThenStore` over the
kept part of its prefix of `size` bytes): positions restart at 0 -/
def selfbuilt {H : Type} (M : HasherModel H) (input : List Nat) (size lgwin quality overlap : Nat) : H :=
  let plan := dictPlan size lgwin quality
  let dict := (input.take size).drop plan.dropped
  if plan.kept > overlap then M.bulk M.empty dict 0 (plan.kept - overlap) else M.empty

theorem dictPlan_zero (lgwin quality : Nat) : dictPlan 0 lgwin quality = ⟨false, 0, 0⟩ := by
  simp [dictPlan]

theorem dictPlan_fits {size lgwin quality : Nat} (hq : 2 ≤ quality) (hs : size ≠ 0)
    (h : size ≤ 2 ^ lgwin - 16) : dictPlan size lgwin quality = ⟨true, 0, size⟩ := by
  unfold dictPlan
  rw [if_neg (by omega), if_neg (by omega)]

theorem dictPlan_truncated {size lgwin quality : Nat} (hq : 2 ≤ quality)
    (h : 2 ^ lgwin - 16 < size) :
    dictPlan size lgwin quality = ⟨true, size - (2 ^ lgwin - 16), 2 ^ lgwin - 16⟩ := by
  unfold dictPlan
  rw [if_neg (by omega), if_pos h]

theorem prebuilt_closed_upto {H : Type} (M : HasherModel H) (input : List Nat) (t n overlap J : Nat)
    (hA : ∀ b c, b ≤ c → c ≤ bnd t n J →
      M.bulk (M.bulk M.empty input 0 b) input b c = M.bulk M.empty input 0 c) :
    ∀ j, j ≤ J → prebuilt M input t n overlap j =
      if 0 < j ∧ bnd t n j > overlap then (M.bulk M.empty input 0 (bnd t n j - overlap), bnd t n j - overlap)
      else (M.empty, 0) := by
  intro j
  induction j with
  | zero => intro _; simp [prebuilt]
  | succ j ih =>
    intro hj
    have hm : bnd t n j ≤ bnd t n (j + 1) := bnd_mono t n (show j ≤ j + 1 by omega)
    have hle : bnd t n (j + 1) ≤ bnd t n J := bnd_mono t n hj
    simp only [prebuilt, ih (by omega)]
    by_cases hj0 : 0 < j ∧ bnd t n j > overlap
    · rw [if_pos hj0]
      dsimp only
      have h1 : 0 < j + 1 ∧ bnd t n (j + 1) > overlap := ⟨by omega, by omega⟩
      rw [if_pos h1]
      by_cases hgt : bnd t n (j + 1) > overlap ∧ bnd t n (j + 1) - overlap > bnd t n j - overlap
      · rw [if_pos hgt, hA _ _ (by omega) (by omega)]
      · rw [if_neg hgt]
        have : bnd t n (j + 1) = bnd t n j := by omega
        rw [this]
    · rw [if_neg hj0]
      dsimp only
      by_cases hgt : bnd t n (j + 1) > overlap
      · rw [if_pos ⟨hgt, by omega⟩, if_pos ⟨by omega, hgt⟩]
      · rw [if_neg (by omega), if_neg (by omega)]

theorem prebuilt_closed {H : Type} (M : HasherModel H) (hA : Additive M) (input : List Nat) (t n overlap : Nat) :
    ∀ j, prebuilt M input t n overlap j =
      if 0 < j ∧ bnd t n j > overlap then (M.bulk M.empty input 0 (bnd t n j - overlap), bnd t n j - overlap)
      else (M.empty, 0) :=
  fun j => prebuilt_closed_upto M input t n overlap j
    (fun b c hbc _ => hA M.empty input 0 b c (Nat.zero_le _) hbc) j (Nat.le_refl _)

theorem favor_cpu_equiv_upto {H : Type} (M : HasherModel H) (overlap : Nat)
    (input : List Nat) (t n lgwin quality j : Nat) (hq : 2 ≤ quality)
    (hnt : bnd t n (j + 1) ≤ 2 ^ lgwin - 16)
    (hA : ∀ b c, b ≤ c → c ≤ bnd t n (j + 1) →
      M.bulk (M.bulk M.empty input 0 b) input b c = M.bulk M.empty input 0 c)
    (hL : ∀ d', input.take (bnd t n (j + 1) - overlap + overlap)
        = d'.take (bnd t n (j + 1) - overlap + overlap) →
      M.bulk M.empty input 0 (bnd t n (j + 1) - overlap)
        = M.bulk M.empty d' 0 (bnd t n (j + 1) - overlap)) :
    (prebuilt M input t n overlap (j + 1)).1 = selfbuilt M input (bnd t n (j + 1)) lgwin quality overlap := by
  rw [prebuilt_closed_upto M input t n overlap (j + 1) hA (j + 1) (Nat.le_refl _)]
  by_cases hz : bnd t n (j + 1) = 0
  · rw [hz]; simp [selfbuilt, dictPlan_zero]
  unfold selfbuilt
  rw [dictPlan_fits hq hz hnt]
  dsimp only
  by_cases hgt : bnd t n (j + 1) > overlap
  · rw [if_pos ⟨by omega, hgt⟩, if_pos hgt]
    dsimp only
    apply hL
    have e : bnd t n (j + 1) - overlap + overlap = bnd t n (j + 1) := by omega
    rw [e, List.drop_zero, List.take_take, Nat.min_self]
  · rw [if_neg (by omega), if_neg hgt]

/-- all that `AdvHasher` satisfies (`advModel_additive`) -/
def AdditiveFrom {H : Type} (M : HasherModel H) (bound : Nat) : Prop :=
  ∀ d b c, b ≤ c → c ≤ bound → M.bulk (M.bulk M.empty d 0 b) d b c = M.bulk M.empty d 0 c

def LocalFrom {H : Type} (M : HasherModel H) (overlap bound : Nat) : Prop :=
  ∀ d d' b, b ≤ bound → d.take (b + overlap) = d'.take (b + overlap) →
    M.bulk M.empty d 0 b = M.bulk M.empty d' 0 b

theorem Additive.from {H : Type} {M : HasherModel H} (h : Additive M) (bound : Nat) : AdditiveFrom M bound :=
  fun d b c hbc _ => h M.empty d 0 b c (Nat.zero_le _) hbc

theorem Local.from {H : Type} {M : HasherModel H} {ov : Nat} (h : Local M ov) (bound : Nat) :
    LocalFrom M ov bound :=
  fun d d' b _ hd => h M.empty d d' 0 b hd

theorem prebuilt_closed_from {H : Type} (M : HasherModel H) (bound : Nat) (hA : AdditiveFrom M bound)
    (input : List Nat) (t n overlap : Nat) (ht : 0 < t) (hn : n ≤ bound) :
    ∀ j, j ≤ t → prebuilt M input t n overlap j =
      if 0 < j ∧ bnd t n j > overlap then (M.bulk M.empty input 0 (bnd t n j - overlap), bnd t n j - overlap)
      else (M.empty, 0) :=
  fun j hj => prebuilt_closed_upto M input t n overlap j
    (fun b c hbc hc => hA input b c hbc (Nat.le_trans hc (Nat.le_trans (bnd_le t n j ht hj) hn)))
    j (Nat.le_refl _)

theorem favor_cpu_equiv_from {H : Type} (M : HasherModel H) (overlap bound : Nat)
    (hA : AdditiveFrom M bound) (hL : LocalFrom M overlap bound)
    (input : List Nat) (t n lgwin quality j : Nat) (hq : 2 ≤ quality) (_hl : 10 ≤ lgwin)
    (hj : j + 1 ≤ t) (hn : n ≤ bound) (hnt : bnd t n (j + 1) ≤ 2 ^ lgwin - 16) :
    (prebuilt M input t n overlap (j + 1)).1 = selfbuilt M input (bnd t n (j + 1)) lgwin quality overlap := by
  have hle : bnd t n (j + 1) ≤ bound := Nat.le_trans (bnd_le t n (j + 1) (by omega) hj) hn
  exact favor_cpu_equiv_upto M overlap input t n lgwin quality j hq hnt
    (fun b c hbc hc => hA input b c hbc (Nat.le_trans hc hle))
    (fun d' hd => hL input d' _ (Nat.le_trans (Nat.sub_le _ _) hle) hd)

end BV.Lemmas.Multi
