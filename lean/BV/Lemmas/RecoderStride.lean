/-
C14, bookkeeping of the detection passes fed by the same `process_command_queue`: `StrideEval`'s epochs and score sizing
(the third assertion of `choose_stride`) and `PriorEval`'s fixed score table.
-/
import BV.Model.Recoder
namespace BV.Recoder

def StrideSt.Ok (s : StrideSt) : Prop := 32 ≤ s.len ∧ s.epoch * 8 + 8 ≤ s.len

theorem StrideSt.new_ok : StrideSt.new.Ok := ⟨by decide, by decide⟩

theorem StrideSt.updateBlockType_ok (s : StrideSt) (h : s.Ok) :
    s.updateBlockType.Ok ∧ s.updateBlockType.epoch = s.epoch + 1 := by
  obtain ⟨h1, h2⟩ := h
  unfold StrideSt.updateBlockType
  split
  · exact ⟨⟨by show 32 ≤ s.len * 2; omega, by show (s.epoch + 1) * 8 + 8 ≤ s.len * 2; omega⟩, rfl⟩
  · exact ⟨⟨h1, by show (s.epoch + 1) * 8 + 8 ≤ s.len; omega⟩, rfl⟩

def countBsl : List IR → Nat
  | [] => 0
  | .bsl _ :: rest => countBsl rest + 1
  | _ :: rest => countBsl rest

theorem StrideSt.push_ok (s : StrideSt) (c : IR) (h : s.Ok) :
    ∃ s', s.push c = some s' ∧ s'.Ok ∧ s'.epoch = s.epoch + countBsl [c] := by
  cases c with
  | bsl t => exact ⟨_, rfl, s.updateBlockType_ok h⟩
  | lit off len he =>
    show ∃ s', (if len = 0 then some s else s.updateCost) = some s' ∧ _
    by_cases hz : len = 0
    · rw [if_pos hz]; exact ⟨s, rfl, h, rfl⟩
    · rw [if_neg hz]
      unfold StrideSt.updateCost
      rw [if_pos (by have := h.2; omega)]
      exact ⟨s, rfl, h, rfl⟩
  | copy d n => exact ⟨s, rfl, h, rfl⟩
  | dict a b c d => exact ⟨s, rfl, h, rfl⟩
  | bsc t => exact ⟨s, rfl, h, rfl⟩
  | bsd t => exact ⟨s, rfl, h, rfl⟩

theorem countBsl_cons (c : IR) (cs : List IR) : countBsl (c :: cs) = countBsl [c] + countBsl cs := by
  cases c <;> simp [countBsl, Nat.add_comm]

theorem StrideSt.pushAll_ok : ∀ (ir : List IR) (s : StrideSt), s.Ok →
    ∃ s', s.pushAll ir = some s' ∧ s'.Ok ∧ s'.epoch = s.epoch + countBsl ir := by
  intro ir
  induction ir with
  | nil => intro s h; exact ⟨s, rfl, h, rfl⟩
  | cons c cs ih =>
    intro s h
    obtain ⟨s1, e1, h1, n1⟩ := s.push_ok c h
    obtain ⟨s2, e2, h2, n2⟩ := ih s1 h1
    exact ⟨s2, by rw [StrideSt.pushAll, e1]; exact e2, h2, by rw [n2, n1, Nat.add_assoc, ← countBsl_cons]⟩

theorem StrideSt.chooseReadsOk_of_ok (s : StrideSt) (h : s.Ok) : s.chooseReadsOk s.epoch = true := by
  unfold StrideSt.chooseReadsOk
  rw [List.all_eq_true]
  intro index hi
  have : index < s.epoch := List.mem_range.mp hi
  have := h.2
  simp only [decide_eq_true_eq]
  omega

theorem StrideSt.chooseAsserts_of_ok (s : StrideSt) (h : s.Ok) : s.chooseAsserts s.epoch = true := by
  unfold StrideSt.chooseAsserts
  have := h.2
  simp only [beq_self_eq_true, Bool.true_and, Bool.and_eq_true, decide_eq_true_eq]
  omega

/-- the array length being one of 32, 64, 128, …, the right-hand side says that the last epoch's scores end at the end of the array -/
theorem old_assert_fails_iff (s : StrideSt) (h : s.Ok) :
    s.chooseAssertsOld s.epoch = false ↔ s.len < s.epoch * 8 + 16 := by
  unfold StrideSt.chooseAssertsOld
  have := h.2
  constructor
  · intro hf
    by_cases hlt : s.len < s.epoch * 8 + 16
    · exact hlt
    · exfalso
      have : (s.epoch == s.epoch && decide (s.len > s.epoch) && decide (s.len > s.epoch * 8 + 7 + 8)) = true := by
        simp only [beq_self_eq_true, Bool.true_and, Bool.and_eq_true, decide_eq_true_eq]; omega
      rw [this] at hf; cases hf
  · intro hlt
    have : decide (s.len > s.epoch * 8 + 7 + 8) = false := by simp only [decide_eq_false_iff_not]; omega
    rw [this]; simp

/-- the defect of rust-brotli before commit 9944f91: a meta-block with exactly 3, 7, 15 or 31 literal blocks
(`BlockSwitchLiteral` pushes, the initial one included) panics in `choose_stride` although every access is in bounds -/
theorem old_assert_panics_at_3_7_15_31 :
    stridePassOld (List.replicate 3 (IR.bsl 0)) = none ∧ stridePassOld (List.replicate 7 (IR.bsl 0)) = none ∧
    stridePassOld (List.replicate 15 (IR.bsl 0)) = none ∧ stridePassOld (List.replicate 31 (IR.bsl 0)) = none ∧
    stridePassOld (List.replicate 4 (IR.bsl 0)) = some 4 ∧ stridePassOld (List.replicate 2 (IR.bsl 0)) = some 2 := by
  decide

end BV.Recoder
