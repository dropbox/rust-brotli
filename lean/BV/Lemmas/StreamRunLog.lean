import BV.Lemmas.StreamRunFrame
import BV.Lemmas.StreamLtsCall
import BV.Model.StreamRun
/-!
The log of a call.  What an event does to the positions (`input_pos_`, `last_processed_pos_`, `last_flush_pos_`,
invocation counter) is a FUNCTION of the event (`Ev.step`), with a side condition tying its request to the
positions before it (`Ev.ok`); so the list of events of a call determines the emitted bits, the positions, the
requests and the input consumed.  What the model's `closesMb` flag of an invocation means for `last_flush_pos_`
is `Ev.cl` / `LogCl` (`encodeData_cl`).
-/

namespace BV.Stream
open BV.Bits

structure Pos where
  ip : Nat
  lp : Nat
  lf : Nat
  k : Nat
deriving Repr, DecidableEq

def St.pos (s : St) : Pos := ⟨s.inputPos, s.lastProcessedPos, s.lastFlushPos, s.nEnc⟩

/-- a `fast` block consumes input (`Ev.used`), but the quality 0/1 one-shot path keeps no positions: only the invocation
counter moves -/
def Ev.step : Ev → Pos → Pos
  | .copy c, p => { p with ip := p.ip + c.length }
  | .enc _ _ pre _ taken, p => { p with lp := p.ip, lf := if taken then p.ip else p.lf + pre, k := p.k + 1 }
  | .fast _ _, p => { p with k := p.k + 1 }
  | _, p => p

def Ev.ok : Ev → Pos → Prop
  | .enc k req pre _ _, p => k = p.k ∧ req.lo = p.lp ∧ req.hi = p.ip ∧ req.lf = p.lf ∧ req.site ≠ 2 ∧ p.lf + pre ≤ p.ip ∧ p.lp ≤ p.ip
  | .fast k req, p => k = p.k ∧ req.hi = p.ip ∧ req.site = 2
  | _, _ => True

def Ev.used : Ev → Nat
  | .copy c => c.length
  | .fast _ r => r.lo
  | .mdBody b => b.length
  | _ => 0

/-- the first conjunct is `s.lastFlushPos ≤ (encMid s il).1.lastFlushPos` in the shape `encodeData_posEv` rewrites
with: `pre` of the event is that difference -/
theorem encMid_pre {o : Oracle} {s s' : St} {site : Nat} {il ff : Bool} {req : Req} (hI : Inv s)
    (h : encodeData o s site il ff = .ok (s', true, req)) :
    (encMid s il).1.lastFlushPos = s.lastFlushPos + ((encMid s il).1.lastFlushPos - s.lastFlushPos)
    ∧ s.lastFlushPos + ((encMid s il).1.lastFlushPos - s.lastFlushPos) ≤ s.inputPos
    ∧ (encMid s il).1.inputPos = s.inputPos := by
  obtain ⟨_, _, hdr, hM, _⟩ := encodeData_spec h
  have hf := hM.frame
  replace hf := St.frame_eq hf
  have hu := hI.unprocessed
  have hb : s.unprocessed % two32 ≤ s.unprocessed := Nat.mod_le _ _
  have h1 := hI.fl_le
  have h2 := hI.lp_le
  have hpos := hM.pos
  generalize s.unprocessed % two32 = m at hb hpos
  rcases hpos with ⟨p1, _⟩ | ⟨p1, _⟩
  · refine ⟨by omega, by omega, hf.inputPos⟩
  · have : min 2 m ≤ m := Nat.min_le_right _ _
    refine ⟨by omega, by omega, hf.inputPos⟩

theorem encodeData_posEv {o : Oracle} {s s' : St} {site : Nat} {il ff : Bool} {req : Req} (hI : Inv s) (hsite : site ≠ 2)
    (h : encodeData o s site il ff = .ok (s', true, req)) :
    s'.pos = (encEv o s site il ff).step s.pos ∧ (encEv o s site il ff).ok s.pos := by
  obtain ⟨hreq, _, hdr, hM, hpay⟩ := encodeData_spec h
  obtain ⟨q1, q2, q3⟩ := encMid_pre hI h
  have hlp := encodeData_lp h hI.fl_le hI.lp_le hI.ip_lt
  obtain ⟨f, _, _, hn, _⟩ := encodeData_frame h
  replace f := St.frame_eq f
  obtain ⟨_, _, hcase⟩ := encPayload_spec hpay
  have hlf : s'.lastFlushPos = if encTakes (encMid s il).1 (o s.nEnc (reqOf s site il ff)) il ff then s.inputPos
      else s.lastFlushPos + ((encMid s il).1.lastFlushPos - s.lastFlushPos) := by
    rcases hcase with ⟨ht, _, _, _, c5, _⟩ | ⟨ht, _, _, _, c5, _⟩
    · rw [ht]; simp only [Bool.false_eq_true, ↓reduceIte]; rw [c5]; exact q1
    · rw [ht]; simp only [↓reduceIte]; rw [c5, q3]
  refine ⟨?_, ?_⟩
  · unfold St.pos encEv Ev.step
    simp only [Pos.mk.injEq]
    exact ⟨f.inputPos, hlp, hlf, hn⟩
  · unfold encEv Ev.ok St.pos
    exact ⟨rfl, rfl, rfl, rfl, hsite, q2, hI.lp_le⟩

theorem step_pos {o : Oracle} {op : Nat} {s s' : St} {io io' : Io} {e : Ev}
    (hs : Step o op (s, io) e (s', io')) :
    s'.pos = e.step s.pos ∧ e.ok s.pos ∧ io'.reqs = io.reqs ++ e.req.toList
    ∧ io'.input = io.input.drop e.used ∧ e.used ≤ io.input.length := by
  have take_len : ∀ {n : Nat}, ¬ n > io.input.length → (io.input.take n).length = n := fun hn => by
    rw [List.length_take]; omega
  rcases hs.effect with ⟨hf, rfl, rfl, rfl⟩ | ⟨hI, ha⟩
  · obtain ⟨p, rfl⟩ := hf
    exact ⟨rfl, trivial, (List.append_nil _).symm, rfl, Nat.zero_le _⟩
  · cases ha with
    | copy hw hop hnf hst hrm hc hn he =>
      have hlen := take_len (Nat.not_lt.mpr hn)
      refine ⟨?_, trivial, (List.append_nil _).symm, by simp only [Ev.used, hlen], by simp only [Ev.used, hlen]; exact hn⟩
      simp only [St.pos, Ev.step, hlen]
    | enc hE hI0 hpend he hfr =>
      obtain ⟨p1, p2⟩ := encodeData_posEv hI0 hE.site_ne he
      exact ⟨p1, p2, by simp [encEv, Ev.req, (encodeData_frame he).2.1], rfl, Nat.zero_le _⟩
    | fastBlock hfm hop hrm hnp hpend hst hgo hnf hss hcap hin hfit =>
      exact ⟨rfl, ⟨rfl, rfl, rfl⟩, rfl, rfl, Nat.le_of_not_gt hin⟩
    | mdOut hM hop hpend hlf hst hnz hao hle =>
      have hlen := take_len hle
      exact ⟨rfl, trivial, (List.append_nil _).symm, by simp only [Ev.used, hlen]; rfl, by simp only [Ev.used, hlen]; omega⟩
    | mdTiny hM hop hpend hlf hst hnz hao hle =>
      have hlen := take_len hle
      exact ⟨rfl, trivial, (List.append_nil _).symm, by simp only [Ev.used, hlen]; rfl, by simp only [Ev.used, hlen]; omega⟩
    | _ => exact ⟨rfl, trivial, (List.append_nil _).symm, rfl, Nat.zero_le _⟩

theorem step_initialized {o : Oracle} {op : Nat} {s s' : St} {io io' : Io} {e : Ev}
    (hs : Step o op (s, io) e (s', io')) :
    s'.isInitialized = true ∧ (∀ b, e = .window b → s.isInitialized = false) := by
  rcases hs.effect with ⟨hf, _, rfl, _⟩ | ⟨hI, ha⟩
  · obtain ⟨p, rfl⟩ := hf
    exact ⟨rfl, fun _ _ => rfl⟩
  · cases ha with
    | enc _ _ _ _ hfr => exact ⟨by rw [hfr]; exact hI.init, fun _ hh => by cases hh⟩
    | _ => exact ⟨hI.init, fun _ hh => by cases hh⟩

def logPos (p : Pos) (log : List Ev) : Pos := log.foldl (fun p e => e.step p) p

def LogOK : Pos → List Ev → Prop
  | _, [] => True
  | p, e :: es => e.ok p ∧ LogOK (e.step p) es

def NoWindow (log : List Ev) : Prop := ∀ e ∈ log, ∀ b, e ≠ .window b

theorem noWindow_append {a b : List Ev} (h1 : NoWindow a) (h2 : NoWindow b) : NoWindow (a ++ b) := by
  intro e he
  rcases List.mem_append.mp he with h | h
  · exact h1 e h
  · exact h2 e h

def logBits (o : Oracle) (log : List Ev) : List Bool := log.flatMap (Ev.bits o)
def logReqs (log : List Ev) : List Req := log.filterMap Ev.req
def logUsed (log : List Ev) : Nat := (log.map Ev.used).sum

def Ev.copied : Ev → Bytes
  | .copy c => c
  | _ => []

def logCopy : List Ev → Bytes
  | [] => []
  | .copy c :: es => c ++ logCopy es
  | _ :: es => logCopy es

theorem logCopy_cons (e : Ev) (es : List Ev) : logCopy (e :: es) = e.copied ++ logCopy es := by
  cases e <;> simp [logCopy, Ev.copied]

theorem logPos_append (p : Pos) (a b : List Ev) : logPos p (a ++ b) = logPos (logPos p a) b := by
  unfold logPos; rw [List.foldl_append]

theorem logOK_append {p : Pos} {a b : List Ev} (h1 : LogOK p a) (h2 : LogOK (logPos p a) b) : LogOK p (a ++ b) := by
  induction a generalizing p with
  | nil => exact h2
  | cons e es ih => exact ⟨h1.1, ih h1.2 h2⟩

theorem logBits_append (o : Oracle) (a b : List Ev) : logBits o (a ++ b) = logBits o a ++ logBits o b := by
  unfold logBits; rw [List.flatMap_append]

theorem logReqs_append (a b : List Ev) : logReqs (a ++ b) = logReqs a ++ logReqs b := by
  unfold logReqs; rw [List.filterMap_append]

theorem logUsed_append (a b : List Ev) : logUsed (a ++ b) = logUsed a + logUsed b := by
  unfold logUsed; rw [List.map_append, List.sum_append]

theorem step_q01 {o : Oracle} {op : Nat} {s s' : St} {io io' : Io} {e : Ev}
    (h : Step o op (s, io) e (s', io')) (hi : s.isInitialized = true) : s'.q01 = s.q01 := by
  unfold St.q01; rw [show s'.params.quality = s.params.quality from congrArg Prod.fst (step_mode h hi)]

/-- `if taken then p.ip else p.lf + pre` is `last_flush_pos_` after the event -/
def Ev.cl (o : Oracle) (q01 : Bool) : Ev → Pos → Prop
  | .enc k req pre _ taken, p =>
    (closesMb o q01 k req = true → (if taken then p.ip else p.lf + pre) = p.ip) ∧
    (closesMb o q01 k req = false → taken = false)
  | _, _ => True

def LogCl (o : Oracle) (q01 : Bool) : Pos → List Ev → Prop
  | _, [] => True
  | p, e :: es => e.cl o q01 p ∧ LogCl o q01 (e.step p) es

theorem logCl_append {o : Oracle} {q : Bool} {p : Pos} {a b : List Ev} (h1 : LogCl o q p a) (h2 : LogCl o q (logPos p a) b) :
    LogCl o q p (a ++ b) := by
  induction a generalizing p with
  | nil => exact h2
  | cons e es ih => exact ⟨h1.1, ih h1.2 h2⟩

/-- the Boolean skeleton of `encTakes` at quality ≥ 2 against `closesMb`, for `encodeData_cl`: closed and not taken
forces `P` (`input_pos_ = last_flush_pos_`); not closed forces not taken -/
theorem takes_bool1 (il ff em : Bool) (P : Prop) [Decidable P]
    (ht : (!((!il && !ff && !em) || (!il && decide P))) = false) (hc : (false || il || ff || em) = true) : P := by
  cases il <;> cases ff <;> cases em <;> simp_all

theorem takes_bool2 (il ff em : Bool) (P : Prop) [Decidable P] (q : Bool)
    (hc : (q || il || ff || em) = false) : (!((!il && !ff && !em) || (!il && decide P))) = false := by
  cases il <;> cases ff <;> cases em <;> simp_all

theorem encodeData_cl {o : Oracle} {s s' : St} {site : Nat} {il ff : Bool} {req : Req} (hI : Inv s) (hsite : site ≠ 2)
    (h : encodeData o s site il ff = .ok (s', true, req)) : (encEv o s site il ff).cl o s.q01 s.pos := by
  -- flag true and not taken: `encTakes` refused, which forces `input_pos_ = last_flush_pos_` (quality ≥ 2) resp.
  -- `unprocessed = 0` (quality 0/1), so `lf + pre = ip`; flag false: `encTakes` is false by its Boolean form
  obtain ⟨_, _, hdr, hM, _⟩ := encodeData_spec h
  obtain ⟨q1, q2, q3⟩ := encMid_pre hI h
  have hf := hM.frame
  replace hf := St.frame_eq hf
  have hq : (encMid s il).1.params.quality = s.params.quality := by rw [hf.params]
  have hu := hI.unprocessed
  have hb : s.unprocessed % two32 ≤ s.unprocessed := Nat.mod_le _ _
  have hpos := hM.pos
  have hq01 := hI.q01
  have hle1 := hI.fl_le
  have hle2 := hI.lp_le
  have hlt := hI.ip_lt
  unfold encEv Ev.cl St.pos
  simp only
  generalize hs2 : (encMid s il).1 = s2 at *
  generalize s.unprocessed % two32 = m at hb hpos
  have hcl : closesMb o s.q01 s.nEnc (reqOf s site il ff) = (s.q01 || il || ff || (o s.nEnc (reqOf s site il ff)).emit) := by
    unfold closesMb reqOf
    simp only
    have : (site == 2) = false := by simpa using hsite
    rw [this, Bool.false_or]
  rw [hcl]
  have hqq : (s2.params.quality = 0 ∨ s2.params.quality = 1) ↔ s.q01 = true := by
    unfold St.q01; rw [hq]; simp
  generalize o s.nEnc (reqOf s site il ff) = ans at *
  refine ⟨?_, ?_⟩
  · intro hc
    cases ht : encTakes s2 ans il ff
    · simp only [Bool.false_eq_true, ↓reduceIte]
      rw [← q1, ← q3]
      unfold encTakes at ht
      by_cases hqs : s.q01 = true
      · rw [if_pos (hqq.mpr hqs)] at ht
        have hz : s2.unprocessed = 0 ∧ il = false := by simpa using ht
        have hlf_lp : s2.lastFlushPos = s2.lastProcessedPos := by
          have := hq01 ((by unfold St.q01 at hqs; simpa using hqs))
          rcases hpos with ⟨p1, p2⟩ | ⟨p1, p2⟩ <;> omega
        have hlp2 : s2.lastProcessedPos ≤ s2.inputPos := by
          rcases hpos with ⟨p1, p2⟩ | ⟨p1, p2⟩
          · omega
          · have : min 2 m ≤ m := Nat.min_le_right _ _
            omega
        have hw := wsub64_eq hlp2 (by rw [q3]; exact hlt)
        have hz1 : wsub64 s2.inputPos s2.lastProcessedPos = 0 := hz.1
        omega
      · have hnq : ¬ (s2.params.quality = 0 ∨ s2.params.quality = 1) := fun hh => hqs (hqq.mp hh)
        rw [if_neg hnq] at ht
        have hqf : s.q01 = false := by simpa using hqs
        rw [hqf] at hc
        exact (takes_bool1 il ff ans.emit (s2.inputPos = s2.lastFlushPos) ht hc).symm
    · simp
  · intro hc
    unfold encTakes
    have hnq : ¬ (s2.params.quality = 0 ∨ s2.params.quality = 1) := fun hh => by
      have := hqq.mp hh; rw [this] at hc; simp at hc
    rw [if_neg hnq]
    exact takes_bool2 il ff ans.emit _ _ hc

theorem step_cl {o : Oracle} {op : Nat} {s s' : St} {io io' : Io} {e : Ev}
    (hs : Step o op (s, io) e (s', io')) : e.cl o s.q01 s.pos := by
  rcases hs.effect with ⟨_, rfl, _⟩ | ⟨_, ha⟩
  · trivial
  · cases ha with
    | @enc k _ _ _ _ _ _ hE hI0 hpend he =>
      have hq : (s.hint k).q01 = s.q01 := rfl
      have hp : (s.hint k).pos = s.pos := rfl
      exact hq ▸ hp ▸ encodeData_cl hI0 hE.site_ne he
    | _ => trivial

theorem closedFlags_append (o : Oracle) (q : Bool) (k : Nat) (a b : List Req) :
    closedFlags o q k (a ++ b) = closedFlags o q k a ++ closedFlags o q (k + a.length) b := by
  induction a generalizing k with
  | nil => simp [closedFlags]
  | cons r rs ih =>
    simp only [List.cons_append, closedFlags, List.length_cons, ih]
    have : k + 1 + rs.length = k + (rs.length + 1) := by omega
    rw [this]

end BV.Stream
