/-
C01 / meta-block writers: `BlockEncoder::build_and_store_entropy_codes` — one
`BuildAndStoreHuffmanTree` per histogram into the tail of the shared `depths_` / `bits_` tables — against
`readCodes` (NTREES prefix codes over the same alphabet), and one symbol of a category (`store_symbol` /
`store_symbol_with_context`) against `Cat.next` + the tree the reader selects by block type and context map.
-/
import BV.Lemmas.MetaBlockSwitch
import BV.Lemmas.MetaBlockCtx

namespace BV.MetaBlock
open BV.Gen BV.Bits BV.Huffman BV.PrefixArith BV.Recoder

def SymIOAt (depths bits : List Nat) (off : Nat) (code : Code) (s : Nat) : Prop :=
  ∃ sb : List Bool, (∀ w, storeSym depths bits (off + s) w = .ok (w ++ sb)) ∧
    ∀ rest, code.read (sb ++ rest) = some (s, rest)

theorem storeSym_congr (d b d' b' : List Nat) (s s' : Nat) (w : Writer) (h1 : d[s]? = d'[s']?) (h2 : b[s]? = b'[s']?) :
    storeSym d b s w = storeSym d' b' s' w := by
  unfold storeSym getAt
  rw [h1, h2]

/-- one of the two shared tables (`depths_`, `bits_`) across one iteration of `build_and_store_entropy_codes`: the tree builder
gets the zero tail `t.drop o` and returns `tt` -/
theorem table_step (t : List Nat) (T o H : Nat) (hl : t.length = T) (hz : ∀ k, o ≤ k → t.getD k 0 = 0)
    (hle : o + H ≤ T) :
    t.drop o = List.replicate (T - o) 0 ∧
    (∀ tt : List Nat, tt.length = T - o → (∀ k, H ≤ k → tt.getD k 0 = 0) →
      (t.take o ++ tt).length = T ∧ (∀ k, o + H ≤ k → (t.take o ++ tt).getD k 0 = 0) ∧
      (∀ k, k < o → (t.take o ++ tt)[k]? = t[k]?) ∧ ∀ k, (t.take o ++ tt)[o + k]? = tt[k]?) := by
  have htl : (t.take o).length = o := by rw [List.length_take, hl]; omega
  refine ⟨ext_getD _ _ 0 (by rw [List.length_drop, hl, List.length_replicate]) fun k _ => ?_,
    fun tt htt hzt => ⟨?_, fun k hk => ?_, fun k hk => ?_, fun k => ?_⟩⟩
  · rw [getD_drop, getD_replicate]; exact hz _ (by omega)
  · rw [List.length_append, htl, htt]; omega
  · rw [getD_append_right _ _ _ _ (by rw [htl]; omega), htl]; exact hzt _ (by omega)
  · rw [List.getElem?_append_left (by rw [htl]; exact hk), List.getElem?_take_of_lt hk]
  · rw [List.getElem?_append_right (by rw [htl]; omega), htl, Nat.add_sub_cancel_left]

theorem entropyGo (histLen A : Nat) (histos : List (List Nat)) (T : Nat) (hl704 : histLen ≤ 704) (hA1 : 1 ≤ A)
    (hA : A ≤ histLen) : ∀ (cnt i : Nat) (d b : List Nat) (w : Writer), i + cnt ≤ histos.length →
    (i + cnt) * histLen ≤ T → T < two64 → d.length = T → b.length = T →
    (∀ k, i * histLen ≤ k → d.getD k 0 = 0) → (∀ k, i * histLen ≤ k → b.getD k 0 = 0) →
    (∀ j, i ≤ j → j < i + cnt → histLen ≤ (histos.getD j []).length ∧ (histos.getD j []).sum ≤ 2 ^ 25 ∧
      ∀ k, A ≤ k → (histos.getD j []).getD k 0 = 0) →
    ∃ d' b' bits codes, buildEntropyCodes.go histLen histos A cnt i d b w = .ok (d', b', w ++ bits) ∧
      (∀ rest, readCodes A cnt (bits ++ rest) = some (codes, rest)) ∧ codes.length = cnt ∧
      d'.length = T ∧ b'.length = T ∧
      (∀ k, k < i * histLen → d'[k]? = d[k]? ∧ b'[k]? = b[k]?) ∧
      ∀ j, i ≤ j → j < i + cnt → ∀ sym, sym < histLen → (histos.getD j []).getD sym 0 ≠ 0 →
        SymIOAt d' b' (j * histLen) (codes.getD (j - i) (Code.single 0)) sym := by
  intro cnt
  induction cnt with
  | zero =>
    intro i d b w _ _ _ hd hb _ _ _
    exact ⟨d, b, [], [], by simp [buildEntropyCodes.go], fun rest => rfl, rfl, hd, hb, fun k _ => ⟨rfl, rfl⟩,
      fun j h1 h2 => by omega⟩
  | succ cnt ih =>
    intro i d b w hsz hT hT64 hd hb hzd hzb hh
    obtain ⟨hh1, hh2, hh3⟩ := hh i (Nat.le_refl _) (by omega)
    have hmul1 : (i + 1) * histLen = i * histLen + histLen := Nat.succ_mul i histLen
    have hixle : i * histLen + histLen ≤ T := by
      have : (i + 1) * histLen ≤ (i + (cnt + 1)) * histLen := Nat.mul_le_mul_right _ (by omega)
      omega
    obtain ⟨hdd, hdstep⟩ := table_step d T (i * histLen) histLen hd hzd hixle
    obtain ⟨hbd, hbstep⟩ := table_step b T (i * histLen) histLen hb hzb hixle
    obtain ⟨dd, bb, cb, code, hbt, rc, sc, ddl, bbl, ddz, bbz⟩ := buildN_roundtrip (histos.getD i []) histLen A
      (T - i * histLen) w (by omega) hh1 hl704 hh2 hA1 hA hh3
    obtain ⟨dl1, dz1, dpre, dat⟩ := hdstep dd ddl ddz
    obtain ⟨bl1, bz1, bpre, bat⟩ := hbstep bb bbl bbz
    obtain ⟨d', b', bits, codes, e, r, cl, dl', bl', pres, sio⟩ := ih (i + 1) (d.take (i * histLen) ++ dd)
      (b.take (i * histLen) ++ bb) (w ++ cb) (by omega) (by rw [show i + 1 + cnt = i + (cnt + 1) by omega]; exact hT) hT64 dl1 bl1
      (by rw [hmul1]; exact dz1) (by rw [hmul1]; exact bz1) (fun j h1 h2 => hh j (by omega) (by omega))
    rw [hmul1] at pres
    refine ⟨d', b', cb ++ bits, code :: codes, ?_, ?_, by simp [cl], dl', bl', ?_, ?_⟩
    · unfold buildEntropyCodes.go
      rw [getAt_getD histos i [] (by omega), Out.bind_ok]
      simp only [Nat.mod_eq_of_lt (Nat.lt_of_le_of_lt (Nat.le_of_add_right_le hixle) hT64)]
      rw [if_neg (by rw [hd]; omega), hdd, hbd, hbt, Out.bind_ok]
      simp only
      rw [e, List.append_assoc]
    · intro rest
      unfold readCodes
      rw [List.append_assoc, rc]
      simp only
      rw [r]
    · intro k hk
      obtain ⟨p1, p2⟩ := pres k (by omega)
      exact ⟨p1.trans (dpre k hk), p2.trans (bpre k hk)⟩
    · intro j h1 h2 sym hs hnz
      rcases Nat.eq_or_lt_of_le h1 with heq | hlt
      · subst heq
        rw [Nat.sub_self]
        obtain ⟨sb, s1, s2⟩ := sc sym hs hnz
        obtain ⟨p1, p2⟩ := pres (i * histLen + sym) (by omega)
        exact ⟨sb, fun w' => by
          rw [storeSym_congr d' b' dd bb (i * histLen + sym) sym w' (p1.trans (dat sym)) (p2.trans (bat sym)), s1], s2⟩
      · have := sio j (by omega) (by omega) sym hs hnz
        rw [show j - i = (j - (i + 1)) + 1 by omega]
        exact this

theorem buildEntropyCodes_facts (histLen A size : Nat) (histos : List (List Nat)) (w : Writer)
    (hsz : size ≤ histos.length) (hsz256 : size ≤ 256) (hl704 : histLen ≤ 704) (hA1 : 1 ≤ A) (hA : A ≤ histLen)
    (hh : ∀ i, i < size → histLen ≤ (histos.getD i []).length ∧ (histos.getD i []).sum ≤ 2 ^ 25 ∧
      ∀ k, A ≤ k → (histos.getD i []).getD k 0 = 0) :
    ∃ d b bits codes, buildEntropyCodes histLen histos size A w = .ok (d, b, w ++ bits) ∧
      (∀ rest, readCodes A size (bits ++ rest) = some (codes, rest)) ∧ codes.length = size ∧
      d.length = size * histLen ∧ b.length = size * histLen ∧
      ∀ i, i < size → ∀ sym, sym < histLen → (histos.getD i []).getD sym 0 ≠ 0 →
        SymIOAt d b (i * histLen) (codes.getD i (Code.single 0)) sym := by
  have hlt : size * histLen < two64 := by
    have : size * histLen ≤ 256 * 704 := Nat.mul_le_mul hsz256 hl704
    unfold two64; omega
  obtain ⟨d, b, bits, codes, e, r, cl, dl, bl, _, sio⟩ := entropyGo histLen A histos (size * histLen) hl704 hA1 hA size 0
    (List.replicate (size * histLen) 0) (List.replicate (size * histLen) 0) w (by omega) (by simp) hlt (by simp) (by simp)
    (fun k _ => getD_replicate _ _ 0) (fun k _ => getD_replicate _ _ 0) (fun j _ h2 => hh j (by omega))
  refine ⟨d, b, bits, codes, ?_, r, cl, dl, bl, fun i hi sym hs hnz => ?_⟩
  · unfold buildEntropyCodes
    simp only [Nat.mod_eq_of_lt hlt]
    exact e
  · have := sio i (by omega) (by omega) sym hs hnz
    rw [Nat.sub_zero] at this
    exact this

/-- everything about one category (literals, commands, distances) that does not change inside the command loop:
`s` its block split; `H` the histogram length, the stride of the shared tables; `cb` the context bits (6, 0, 2); `cmap`,
`cmapSize` its context map as the writer holds it (`cmapSize = 0`: none, the tree is the block type); `histos` the `size`
histograms the codes were built from; `codes` the codes as the reader holds them; `d`, `b` the shared depth and bit tables
of the writer, code `i` at offset `i * H` -/
structure CatEnv where
  s : BSplit
  H : Nat
  cb : Nat
  cmap : List Nat
  cmapSize : Nat
  histos : List (List Nat)
  size : Nat
  codes : List Code
  d : List Nat
  b : List Nat

/-- what the block encoder multiplies the block type by for `entropy_ix_`: the table stride without a context map, else the
number of contexts per type -/
def CatEnv.mult (C : CatEnv) : Nat := if C.cmapSize = 0 then C.H else 2 ^ C.cb
def CatEnv.eff (C : CatEnv) : List Nat := effMap C.cmap C.cmapSize C.s.numTypes (2 ^ C.cb)

/-- `io`: on every symbol that histogram `i` counts, the tables at offset `i * H` and code `i` agree;
`z`, `cl`, `cm`: a tree per block type without a context map, with one an entry `< size` for every (type, context) -/
structure CatEnv.OK (C : CatEnv) : Prop where
  split : SplitOK C.s
  cb6 : C.cb ≤ 6
  h704 : C.H ≤ 704
  io : ∀ i, i < C.size → ∀ sy, sy < C.H → (C.histos.getD i []).getD sy 0 ≠ 0 →
    SymIOAt C.d C.b (i * C.H) (C.codes.getD i (Code.single 0)) sy
  sz : C.size ≤ 256
  clen : C.codes.length = C.size
  z : C.cmapSize = 0 → C.s.numTypes ≤ C.size
  cl : C.cmapSize ≠ 0 → C.s.numTypes * 2 ^ C.cb ≤ C.cmap.length
  cm : C.cmapSize ≠ 0 → ∀ k, k < C.s.numTypes * 2 ^ C.cb → C.cmap.getD k 0 < C.size

theorem CatEnv.OK.eff_len {C : CatEnv} (h : C.OK) : C.s.numTypes * 2 ^ C.cb ≤ C.eff.length := by
  unfold CatEnv.eff effMap
  by_cases hz : C.cmapSize = 0
  · rw [if_pos hz, trivialMap_length]; exact Nat.le_refl _
  · rw [if_neg hz]; exact h.cl hz

theorem CatEnv.OK.eff_lt {C : CatEnv} (h : C.OK) (t ctx : Nat) (ht : t < C.s.numTypes) (hc : ctx < 2 ^ C.cb) :
    C.eff.getD (t * 2 ^ C.cb + ctx) 0 < C.size := by
  unfold CatEnv.eff effMap
  by_cases hz : C.cmapSize = 0
  · rw [if_pos hz, trivialMap_get _ _ _ _ ht hc]; have := h.z hz; omega
  · rw [if_neg hz]
    apply h.cm hz
    have : t * 2 ^ C.cb + ctx < (t + 1) * 2 ^ C.cb := by rw [Nat.add_mul, Nat.one_mul]; omega
    have : (t + 1) * 2 ^ C.cb ≤ C.s.numTypes * 2 ^ C.cb := Nat.mul_le_mul_right _ (by omega)
    omega

theorem CatEnv.OK.lookup {C : CatEnv} (h : C.OK) (t ctx : Nat) (ht : t < C.s.numTypes) (hc : ctx < 2 ^ C.cb) :
    C.eff[t * 2 ^ C.cb + ctx]? = some (C.eff.getD (t * 2 ^ C.cb + ctx) 0) ∧
    C.codes[C.eff.getD (t * 2 ^ C.cb + ctx) 0]?
      = some (C.codes.getD (C.eff.getD (t * 2 ^ C.cb + ctx) 0) (Code.single 0)) := by
  have hlt : t * 2 ^ C.cb + ctx < C.eff.length := by
    have : t * 2 ^ C.cb + ctx < (t + 1) * 2 ^ C.cb := by rw [Nat.add_mul, Nat.one_mul]; omega
    have : (t + 1) * 2 ^ C.cb ≤ C.s.numTypes * 2 ^ C.cb := Nat.mul_le_mul_right _ (by omega)
    have := h.eff_len
    omega
  exact ⟨getElem?_getD _ _ 0 hlt, getElem?_getD _ _ _ (by rw [h.clen]; exact h.eff_lt t ctx ht hc)⟩

structure EncAt (C : CatEnv) (e : BEnc) (cat : Cat) (j : Nat) : Prop where
  inv : EncInv C.s C.mult e cat j
  d : e.depths = C.d
  b : e.bits = C.b
  h : e.histLen = C.H

/-- first list: the block type of each coming symbol; second list: the symbols in the order they are emitted, each with
its context; `eff` is the map of `effMap`, `m` the number of contexts per block type -/
def Covers (histos : List (List Nat)) (eff : List Nat) (m : Nat) : List Nat → List (Nat × Nat) → Prop
  | _, [] => True
  | [], _ :: _ => False
  | t :: ts, (ctx, sym) :: ss =>
    (histos.getD (eff.getD (t * m + ctx) 0) []).getD sym 0 ≠ 0 ∧ Covers histos eff m ts ss

def CatEnv.covers (C : CatEnv) : List Nat → List (Nat × Nat) → Prop := Covers C.histos C.eff (2 ^ C.cb)

/-- `store_symbol` (category without a context map) and `store_symbol_with_context` are both `adv` followed by one
`storeSym`; they differ in how the index into the shared tables is computed -/
theorem CatEnv.step (C : CatEnv) (hC : C.OK) (e : BEnc) (cat : Cat) (j sym ctx : Nat) (ss : List (Nat × Nat))
    (hA : EncAt C e cat j) (hsym : sym < C.H) (hctx : ctx < 2 ^ C.cb)
    (hcov : C.covers (remTypes C.s j e.blockLen) ((ctx, sym) :: ss)) :
    ∃ b1 b2 e' cat' j' t, (∀ w, (if C.cmapSize = 0 then e.storeSymbol sym w else e.storeSymbolCtx sym ctx C.cmap C.cb w)
        = .ok (e', w ++ b1 ++ b2)) ∧
      (∀ rest, cat.next (b1 ++ rest) = some (cat', rest)) ∧ cat'.btype = t ∧ t < C.s.numTypes ∧
      (∀ rest, (C.codes.getD (C.eff.getD (t * 2 ^ C.cb + ctx) 0) (Code.single 0)).read (b2 ++ rest) = some (sym, rest)) ∧
      EncAt C e' cat' j' ∧ C.covers (remTypes C.s j' e'.blockLen) ss := by
  cases hrt : remTypes C.s j e.blockLen with
  | nil => rw [hrt] at hcov; exact absurd hcov (by simp [CatEnv.covers, Covers])
  | cons t tl =>
    rw [hrt] at hcov
    obtain ⟨hc1, hc2⟩ := hcov
    have hpow : 2 ^ C.cb ≤ 2 ^ 6 := Nat.pow_le_pow_right (by decide) hC.cb6
    have hH := hC.h704
    obtain ⟨b1, e', cat', j', a1, a2, a3, a5, a6, a7, a8⟩ := adv_step C.s hC.split C.mult e cat j
      (if C.cmapSize = 0 then none else some C.cb) hA.inv
      (fun cb hcb => by unfold CatEnv.mult; split at hcb <;> simp_all)
      (fun hn => by unfold CatEnv.mult; split at hn <;> simp_all [hA.h])
      (by unfold CatEnv.mult two64; split <;> omega) (by rw [hrt]; simp)
    rw [hrt] at a5
    injection a5 with a5 a5'
    have htlt : t < C.s.numTypes := by rw [a5]; exact hC.split.tlt j' a3.ci.jlt
    have hnt := hC.split.nt
    have hsz := hC.sz
    have hk : t * 2 ^ C.cb + ctx < C.s.numTypes * 2 ^ C.cb := by
      have : t * 2 ^ C.cb + ctx < (t + 1) * 2 ^ C.cb := by rw [Nat.add_mul, Nat.one_mul]; omega
      have : (t + 1) * 2 ^ C.cb ≤ C.s.numTypes * 2 ^ C.cb := Nat.mul_le_mul_right _ (by omega)
      omega
    have hix := hC.eff_lt t ctx htlt hctx
    obtain ⟨sb, s1, s2⟩ := hC.io _ hix sym hsym hc1
    refine ⟨b1, sb, e', cat', j', t, fun w => ?_, a2, by rw [a3.ci.btype, a5], htlt, s2,
      ⟨a3, by rw [a6, hA.d], by rw [a7, hA.b], by rw [a8, hA.h]⟩, by rw [← a5']; exact hc2⟩
    have hent := a3.ent
    rw [← a5] at hent
    unfold CatEnv.eff effMap at s1 hix
    unfold CatEnv.mult at hent
    by_cases hz : C.cmapSize = 0
    · -- `entropy_ix_ = type · histogram_length_`; the tree is the block type
      rw [if_pos hz] at a1 hent s1 hix ⊢
      rw [trivialMap_get _ _ _ _ htlt hctx] at s1 hix
      have hidx : (e'.entropyIx + sym) % two64 = t * C.H + sym := by
        rw [hent]
        apply Nat.mod_eq_of_lt
        have : t * C.H ≤ 256 * 704 := Nat.mul_le_mul (by omega) hH
        unfold two64; omega
      unfold BEnc.storeSymbol
      rw [a1 w, Out.bind_ok]
      dsimp only
      rw [hidx, a6, a7, hA.d, hA.b, s1, Out.bind_ok]
    · -- `entropy_ix_ = type << context_bits`; the tree is the context map entry
      rw [if_neg hz] at a1 hent s1 hix ⊢
      have hcl := hC.cl hz
      have hidx : (e'.entropyIx + ctx) % two64 = t * 2 ^ C.cb + ctx := by
        rw [hent]
        apply Nat.mod_eq_of_lt
        have : C.s.numTypes * 2 ^ C.cb ≤ 256 * 64 := Nat.mul_le_mul hnt hpow
        unfold two64; omega
      have hidx2 : (C.cmap.getD (t * 2 ^ C.cb + ctx) 0 * C.H + sym) % two64
          = C.cmap.getD (t * 2 ^ C.cb + ctx) 0 * C.H + sym := by
        apply Nat.mod_eq_of_lt
        have : C.cmap.getD (t * 2 ^ C.cb + ctx) 0 * C.H ≤ 256 * 704 := Nat.mul_le_mul (by omega) hH
        unfold two64; omega
      unfold BEnc.storeSymbolCtx
      rw [a1 w, Out.bind_ok]
      dsimp only
      rw [hidx, getAt_getD C.cmap _ 0 (by omega), Out.bind_ok, a8, hA.h, hidx2, a6, a7, hA.d, hA.b, s1, Out.bind_ok]

end BV.MetaBlock
