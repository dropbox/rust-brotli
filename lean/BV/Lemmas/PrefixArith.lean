/-
The arithmetic under C18.  Insert and copy lengths: the code functions compute `⌊log2⌋` and a quotient, the tables are
laid out two rows (short lengths) or one row (long lengths) per power of two, so one lemma per layout
(`two_per_octave`, `one_per_octave`) and a `decide` over the table rows covers each range.  Block lengths: the walk
over the 26-row table stops at the row whose bucket holds the length (`walk_spec`, `bl_contiguous`).  Distances: the
long branch of `prefixEncodeCopyDistance` splits `2^(p+2) + d` into quotient 2|3 and remainder by a power of two
(`dist_long_decomp`, `encode_long`); RFC 7932 §4 reads the fields back (`rfc_of_codes`), and `dist_core` is the
identity between the two.  `restore_eq_rfc`: the encoder's own `restore_distance_code` is that reading.
-/
import BV.Model.PrefixArith
import BV.Lemmas.ListNat

namespace BV.Lemmas.PrefixArith
open BV.Gen BV.PrefixArith

theorem short_codes_is_16 : BROTLI_NUM_DISTANCE_SHORT_CODES = 16 := by decide

theorem log2_bounds (n : Nat) (h : n ≠ 0) : 2 ^ log2Floor n ≤ n ∧ n < 2 ^ (log2Floor n + 1) :=
  ⟨Nat.log2_self_le h, Nat.lt_log2_self⟩

theorem quot_two_or_three {m k : Nat} (h1 : 2 ^ (k+1) ≤ m) (h2 : m < 2 ^ (k+2)) :
    m / 2 ^ k = 2 ∨ m / 2 ^ k = 3 := by
  have hp : 0 < 2 ^ k := Nat.pow_pos (by decide)
  have e1 : 2 ^ (k+1) = 2 * 2 ^ k := by rw [Nat.pow_succ]; omega
  have e2 : 2 ^ (k+2) = 4 * 2 ^ k := by rw [Nat.pow_succ, Nat.pow_succ]; omega
  have a : 2 ≤ m / 2 ^ k := (Nat.le_div_iff_mul_le hp).mpr (by omega)
  have b : m / 2 ^ k < 4 := (Nat.div_lt_iff_lt_mul hp).mpr (by omega)
  omega

theorem two_per_octave (base extra : List Nat) (off c0 : Nat)
    (rows : ∀ (k : Fin 6) (q : Fin 4), 1 ≤ k.val → 2 ≤ q.val →
      base.getD (2 * k + q + c0) 0 = off + q * 2 ^ k.val ∧ extra.getD (2 * k + q + c0) 0 = k)
    (m : Nat) (h4 : 4 ≤ m) (h128 : m < 128) (c : Nat)
    (hc : c = 2 * (log2Floor m - 1) + m / 2 ^ (log2Floor m - 1) + c0) :
    c ≤ 13 + c0 ∧ base.getD c 0 ≤ off + m ∧ off + m < base.getD c 0 + 2 ^ extra.getD c 0 := by
  subst hc
  have hne : m ≠ 0 := by omega
  obtain ⟨hlo, hhi⟩ := log2_bounds m hne
  have hL2 : 2 ≤ log2Floor m := (Nat.le_log2 hne).mpr h4
  have hL7 : log2Floor m < 7 := (Nat.log2_lt hne).mpr h128
  obtain ⟨k, hk⟩ : ∃ k, log2Floor m = k + 1 := ⟨log2Floor m - 1, by omega⟩
  rw [hk] at hlo hhi ⊢
  rw [Nat.add_sub_cancel]
  have hdm := Nat.div_add_mod m (2 ^ k)
  have hmod := Nat.mod_lt m (Nat.pow_pos (show 0 < 2 by decide) (n := k))
  have hrow := fun hq4 => rows ⟨k, by omega⟩ ⟨m / 2 ^ k, hq4⟩
  have hq := quot_two_or_three hlo hhi
  generalize m / 2 ^ k = q at hdm hrow hq ⊢
  rcases hq with rfl | rfl <;>
  · obtain ⟨r1, r2⟩ := hrow (by decide) (by show 1 ≤ k; omega) (by decide)
    dsimp only at r1 r2
    rw [r1, r2]
    omega

theorem one_per_octave (base extra : List Nat) (off c0 : Nat)
    (rows : ∀ L : Fin 11, 6 ≤ L.val → base.getD (L + c0) 0 = off + 2 ^ L.val ∧ extra.getD (L + c0) 0 = L)
    (m : Nat) (h64 : 64 ≤ m) (h2048 : m < 2048) (c : Nat) (hc : c = log2Floor m + c0) :
    c ≤ 10 + c0 ∧ base.getD c 0 ≤ off + m ∧ off + m < base.getD c 0 + 2 ^ extra.getD c 0 := by
  subst hc
  have hne : m ≠ 0 := by omega
  obtain ⟨hlo, hhi⟩ := log2_bounds m hne
  have hL6 : 6 ≤ log2Floor m := (Nat.le_log2 hne).mpr h64
  have hL11 : log2Floor m < 11 := (Nat.log2_lt hne).mpr h2048
  obtain ⟨r1, r2⟩ := rows ⟨log2Floor m, hL11⟩ hL6
  dsimp only at r1 r2
  rw [r1, r2]
  rw [Nat.pow_succ] at hhi
  omega

def CopyBucket (n c : Nat) : Prop :=
  c < 24 ∧ kCopyBase.getD c 0 ≤ n ∧ n < kCopyBase.getD c 0 + 2 ^ kCopyExtra.getD c 0

def InsBucket (n c : Nat) : Prop :=
  c < 24 ∧ kInsBase.getD c 0 ≤ n ∧ n < kInsBase.getD c 0 + 2 ^ kInsExtra.getD c 0

theorem ins_small (n : Nat) (h6 : 6 ≤ n) (h : n < 130) : InsBucket n (getInsertLengthCode n) := by
  obtain ⟨a, b, c⟩ := two_per_octave kInsBase kInsExtra 2 2 (by decide) (n - 2) (by omega) (by omega)
    (getInsertLengthCode n) (by unfold getInsertLengthCode; rw [if_neg (by omega), if_pos h])
  exact ⟨by omega, by omega, by omega⟩

theorem ins_mid (n : Nat) (h6 : 130 ≤ n) (h : n < 2114) : InsBucket n (getInsertLengthCode n) := by
  obtain ⟨a, b, c⟩ := one_per_octave kInsBase kInsExtra 66 10 (by decide) (n - 66) (by omega) (by omega)
    (getInsertLengthCode n) (by unfold getInsertLengthCode; rw [if_neg (by omega), if_neg (by omega), if_pos h])
  exact ⟨by omega, by omega, by omega⟩

theorem copy_small (n : Nat) (h6 : 10 ≤ n) (h : n < 134) : CopyBucket n (getCopyLengthCode n) := by
  obtain ⟨a, b, c⟩ := two_per_octave kCopyBase kCopyExtra 6 4 (by decide) (n - 6) (by omega) (by omega)
    (getCopyLengthCode n) (by unfold getCopyLengthCode; rw [if_neg (by omega), if_pos h])
  exact ⟨by omega, by omega, by omega⟩

theorem copy_mid (n : Nat) (h6 : 134 ≤ n) (h : n < 2118) : CopyBucket n (getCopyLengthCode n) := by
  obtain ⟨a, b, c⟩ := one_per_octave kCopyBase kCopyExtra 70 12 (by decide) (n - 70) (by omega) (by omega)
    (getCopyLengthCode n) (by unfold getCopyLengthCode; rw [if_neg (by omega), if_neg (by omega), if_pos h])
  exact ⟨by omega, by omega, by omega⟩

def blOff (c : Nat) : Nat := (kBlockLengthPrefixCode.getD c (0, 0)).1
def blBits (c : Nat) : Nat := (kBlockLengthPrefixCode.getD c (0, 0)).2

theorem bl_contiguous : ∀ i : Fin 25, blOff (i.val + 1) = blOff i.val + 2 ^ blBits i.val := by
  decide +kernel

/-- 25 is the last row of the 26-row table; `fuel` covers the rows left -/
theorem walk_spec (len : Nat) : ∀ fuel code, code ≤ 25 → 26 ≤ fuel + code → blOff code ≤ len →
    code ≤ blockLenWalk len fuel code ∧ blockLenWalk len fuel code ≤ 25 ∧
    blOff (blockLenWalk len fuel code) ≤ len ∧
    (blockLenWalk len fuel code = 25 ∨ len < blOff (blockLenWalk len fuel code + 1)) := by
  intro fuel
  induction fuel with
  | zero => intro code h1 h2; omega
  | succ f ih =>
    intro code h1 h2 h3
    unfold blockLenWalk
    by_cases hc : code < 25 ∧ len ≥ (kBlockLengthPrefixCode.getD (code + 1) (0, 0)).1
    · simp only [hc, and_self, if_true]
      have := ih (code + 1) (by omega) (by omega) hc.2
      omega
    · simp only [hc, if_false]
      refine ⟨Nat.le_refl _, h1, h3, ?_⟩
      by_cases h25 : code < 25
      · right
        have : ¬ len ≥ (kBlockLengthPrefixCode.getD (code + 1) (0, 0)).1 := fun h => hc ⟨h25, h⟩
        unfold blOff; omega
      · left; omega

/-- what decoding undoes: with `P = 2^postfix`, `N = 2^nbits`, the encoder's split `4·P + d = q·(P·N) + r` (`hd`) and
the RFC's `((2 + hcode mod 2)·N − 4 + extra)·P + lcode` with `extra = r / P`, `lcode = r mod P` give back `d` -/
theorem dist_core (P N q r d : Nat) (hN : 2 ≤ N) (hq : q = 2 ∨ q = 3)
    (hd : 4 * P + d = q * (P * N) + r) :
    ((2 + q % 2) * N - 4 + r / P) * P + r % P = d := by
  have hq2 : 2 + q % 2 = q := by rcases hq with rfl | rfl <;> rfl
  have h4 : 4 * P ≤ q * N * P := Nat.mul_le_mul_right P (Nat.mul_le_mul (show 2 ≤ q by omega) hN)
  rw [hq2, Nat.add_mul, Nat.sub_mul, Nat.add_assoc, Nat.mul_comm (r / P), Nat.div_add_mod,
    Nat.mul_assoc, Nat.mul_comm N P]
  rw [Nat.mul_assoc, Nat.mul_comm N P] at h4
  omega

theorem dist_long_decomp (p d : Nat) :
    ∃ nb q r, 1 ≤ nb ∧ (q = 2 ∨ q = 3) ∧ r < 2 ^ p * 2 ^ nb ∧
      log2Floor (2 ^ (p + 2) + d) - 1 = p + nb ∧
      (2 ^ (p + 2) + d) / 2 ^ (p + nb) = q ∧
      (2 ^ (p + 2) + d) % 2 ^ (p + nb) = r ∧
      4 * 2 ^ p + d = q * (2 ^ p * 2 ^ nb) + r := by
  have hpos : 2 ^ (p + 2) + d ≠ 0 := by
    have := Nat.pow_pos (n := p + 2) (show 0 < 2 by decide); omega
  obtain ⟨hlo, hhi⟩ := log2_bounds _ hpos
  have hLge : p + 2 ≤ log2Floor (2 ^ (p + 2) + d) := (Nat.le_log2 hpos).mpr (Nat.le_add_right _ _)
  obtain ⟨nb, hnb⟩ : ∃ nb, log2Floor (2 ^ (p + 2) + d) = p + nb + 1 := ⟨log2Floor (2 ^ (p + 2) + d) - 1 - p, by omega⟩
  rw [hnb] at hlo hhi
  have hdm := Nat.div_add_mod (2 ^ (p + 2) + d) (2 ^ (p + nb))
  refine ⟨nb, _, _, by omega, quot_two_or_three hlo hhi, ?_, by rw [hnb]; rfl, rfl, rfl, ?_⟩
  · rw [← Nat.pow_add]; exact Nat.mod_lt _ (Nat.pow_pos (by decide))
  · rw [← Nat.pow_add, Nat.mul_comm _ (2 ^ (p + nb)), hdm, Nat.pow_succ, Nat.pow_succ]; omega

theorem pecd_nbits_le (dc nd p k : Nat) (h : 2 ^ (p + 2) + (dc - 16 - nd) < 2 ^ (k + 2)) :
    (prefixEncodeCopyDistance dc nd p).nbits ≤ k - p := by
  unfold prefixEncodeCopyDistance
  split
  · simp
  · simp only [short_codes_is_16]
    have hne : 2 ^ (p + 2) + (dc - 16 - nd) ≠ 0 := by have : 0 < 2 ^ (p + 2) := Nat.pow_pos (by decide); omega
    have := (Nat.log2_lt hne).mpr h
    unfold log2Floor
    omega

theorem encode_long (p nd d nb q r : Nat) (hq : q = 2 ∨ q = 3)
    (hL : log2Floor (2 ^ (p + 2) + d) - 1 = p + nb)
    (hquot : (2 ^ (p + 2) + d) / 2 ^ (p + nb) = q) (hrem : (2 ^ (p + 2) + d) % 2 ^ (p + nb) = r) :
    prefixEncodeCopyDistance (16 + nd + d) nd p
      = ⟨16 + nd + (2 * (nb - 1) + q % 2) * 2 ^ p + r % 2 ^ p, nb, r / 2 ^ p⟩ := by
  have hq2 : 2 + q % 2 = q := by rcases hq with rfl | rfl <;> rfl
  have hdm := Nat.div_add_mod (2 ^ (p + 2) + d) (2 ^ (p + nb))
  rw [hquot, hrem, Nat.mul_comm] at hdm
  unfold prefixEncodeCopyDistance
  rw [if_neg (by rw [short_codes_is_16]; omega)]
  simp only [short_codes_is_16, show 16 + nd + d - 16 - nd = d by omega, hL, hquot, hq2]
  rw [show p + nb - p = nb by omega, ← hrem, Nat.pow_add 2 p nb, Nat.mod_mul_right_mod, ← Nat.pow_add 2 p nb, hrem,
    show 2 ^ (p + 2) + d - q * 2 ^ (p + nb) = r by omega]

theorem rfc_of_codes (p nd h l e : Nat) (hl : l < 2 ^ p) :
    rfcDistNBits p nd (16 + nd + h * 2 ^ p + l) = 1 + h / 2 ∧
    rfcDistDecode p nd (16 + nd + h * 2 ^ p + l) e
      = ((2 + h % 2) * 2 ^ (1 + h / 2) - 4 + e) * 2 ^ p + l + nd + 1 := by
  have hP : 0 < 2 ^ p := Nat.pow_pos (by decide)
  have hs : 16 + nd + h * 2 ^ p + l - nd - 16 = h * 2 ^ p + l := by omega
  have hh : (h * 2 ^ p + l) / 2 ^ p = h := by
    rw [Nat.mul_comm, Nat.mul_add_div hP, Nat.div_eq_of_lt hl]; rfl
  have hm : (h * 2 ^ p + l) % 2 ^ p = l := by
    rw [Nat.mul_comm, Nat.mul_add_mod, Nat.mod_eq_of_lt hl]
  have hn : rfcDistNBits p nd (16 + nd + h * 2 ^ p + l) = 1 + h / 2 := by
    unfold rfcDistNBits
    rw [hs, Nat.pow_succ, ← Nat.div_div_eq_div_mul, hh]
  refine ⟨hn, ?_⟩
  unfold rfcDistDecode
  rw [if_neg (by omega)]
  simp only [hn, hs, hh, hm]

/-- `dist_prefix_`: the symbol in the low 10 bits, the number of extra bits above -/
theorem or_eq_add_of_lt (nb sym : Nat) (h : sym < 1024) : (nb * 1024 ||| sym) = nb * 1024 + sym := by
  rw [Nat.or_comm, or_eq_add_shift sym nb 10 h, Nat.add_comm]

theorem restore_eq_rfc (p nd sym nb e : Nat) (h1 : 16 + nd ≤ sym) (h2 : sym < 1024) (h3 : nb < 64)
    (h4 : nb = rfcDistNBits p nd sym) (h5 : 1 ≤ nb) (h6 : e < 2 ^ 32)
    (hoff : (2 + (sym - nd - 16) / 2 ^ p % 2) * 2 ^ nb < 2 ^ 32)
    (hfit : rfcDistDecode p nd sym e + 15 < 2 ^ 32) :
    restoreDistanceCode ((nb * 1024 ||| sym) % 65536) (e % 2 ^ 32) nd p
      = rfcDistDecode p nd sym e + 15 := by
  have hP : 0 < 2 ^ p := Nat.pow_pos (by decide)
  have hdm := Nat.div_add_mod (sym - nd - 16) (2 ^ p)
  have hsym : sym = 16 + nd + (sym - nd - 16) / 2 ^ p * 2 ^ p + (sym - nd - 16) % 2 ^ p := by
    rw [Nat.mul_comm]; omega
  obtain ⟨hn, hdec⟩ := rfc_of_codes p nd ((sym - nd - 16) / 2 ^ p) ((sym - nd - 16) % 2 ^ p) e (Nat.mod_lt _ hP)
  rw [← hsym, ← h4] at hn
  rw [← hsym, ← hn] at hdec
  rw [hdec] at hfit ⊢
  clear hdm hsym hn hdec h4
  rw [or_eq_add_of_lt nb sym h2, Nat.mod_eq_of_lt (show nb * 1024 + sym < 65536 by omega), Nat.mod_eq_of_lt h6]
  unfold restoreDistanceCode
  rw [short_codes_is_16, show (nb * 1024 + sym) % 1024 = sym by omega, show (nb * 1024 + sym) / 1024 = nb by omega,
    if_neg (by omega)]
  have hbase : (sym + 2 ^ 32 - nd % 2 ^ 32 + 2 ^ 32 - 16) % 2 ^ 32 = sym - nd - 16 := by omega
  simp only [hbase]
  have hA4 : 2 * 2 ≤ (2 + (sym - nd - 16) / 2 ^ p % 2) * 2 ^ nb :=
    Nat.mul_le_mul (Nat.le_add_right 2 _) (Nat.le_self_pow (by omega) 2)
  generalize (2 + (sym - nd - 16) / 2 ^ p % 2) * 2 ^ nb = A at hoff hfit hA4 ⊢
  generalize (sym - nd - 16) % 2 ^ p = l at hfit ⊢
  have hle : A - 4 + e ≤ (A - 4 + e) * 2 ^ p := Nat.le_mul_of_pos_right _ hP
  rw [Nat.mod_eq_of_lt hoff, show (A + 2 ^ 32 - 4) % 2 ^ 32 = A - 4 by omega,
    Nat.mod_eq_of_lt (show A - 4 + e < 2 ^ 32 by omega)]
  generalize (A - 4 + e) * 2 ^ p = X at hle hfit ⊢
  rw [Nat.mod_eq_of_lt (show X < 2 ^ 32 by omega), Nat.mod_eq_of_lt (by omega)]

end BV.Lemmas.PrefixArith
