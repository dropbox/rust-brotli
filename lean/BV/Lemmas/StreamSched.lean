import BV.Lemmas.StreamEffect
/-
Schedule independence (C05): the abstract machine.

`core s` erases the output side of a state (cursor, pending bytes, total, size of `storage_`);
an abstract configuration `Abs` is the core state, ALL bytes produced so far (delivered or still
pending) and the input not yet consumed.  `ustep` is the machine's behaviour on abstract
configurations — a FUNCTION, with no output capacity anywhere in it.  Every atomic step of the
real machine either leaves the abstract configuration alone (moving bytes to the caller) or is
exactly `ustep`.
-/
namespace BV.Stream
open BV.Bits

def core (s : St) : St := { s with nextOut := .none, pending := [], totalOut := 0, storageSize := 0 }

structure Abs where
  s : St
  out : Bytes
  input : Bytes
  availIn : Nat
deriving DecidableEq

def absOf (s : St) (io : Io) (del : Bytes) : Abs := ⟨core s, del ++ io.out ++ s.pending, io.input, io.availIn⟩

theorem core_idem (s : St) : core (core s) = core s := rfl

/-- `encPayload` minus the two `storage_` capacity checks -/
def encPayloadPure (s : St) (ans : Ans) (w0 w : Writer) (hdr : Nat) (isLast forceFlush : Bool) : St :=
  let predicted := w.drop w0.length
  let good := decide (predicted.length ≤ ans.bits.length) && ans.result
  let exact := decide (ans.bits.length = predicted.length)
  let s : St := { s with prefixBad := (s.prefixBad || !isPrefixOf' predicted ans.bits) }
  let wFull : Writer := w ++ ans.bits.drop predicted.length
  let headerOnly : St := { s with pending := (wholeBytes w).take hdr }
  if s.params.quality = 0 ∨ s.params.quality = 1 then
    if s.unprocessed = 0 ∧ !isLast then
      { headerOnly with oracleBad := (s.oracleBad || !good || !exact) }
    else
      { s with lastBytes := (carryOf wFull).1, lastBytesBits := (carryOf wFull).2, lastProcessedPos := s.inputPos, lastFlushPos := s.inputPos, nextOut := .dyn 0, pending := wholeBytes wFull, oracleBad := (s.oracleBad || !good) }
  else
    if !isLast ∧ !forceFlush ∧ !ans.emit then
      { headerOnly with lastProcessedPos := s.inputPos, oracleBad := (s.oracleBad || !good || !exact) }
    else if !isLast ∧ s.inputPos = s.lastFlushPos then
      { headerOnly with oracleBad := (s.oracleBad || !good || !ans.emit || !exact) }
    else
      { s with lastBytes := (carryOf wFull).1, lastBytesBits := (carryOf wFull).2, lastFlushPos := s.inputPos, lastProcessedPos := s.inputPos, nextOut := .dyn 0, pending := wholeBytes wFull, oracleBad := (s.oracleBad || !good || !ans.emit) }

theorem encPayload_pure {s s' : St} {ans : Ans} {w0 w : Writer} {hdr : Nat} {il ff res : Bool}
    (h : encPayload s ans w0 w hdr il ff = .ok (s', res)) : s' = encPayloadPure s ans w0 w hdr il ff := by
  have fst : ∀ {a : St} {b : Bool}, Out.ok (a, b) = Out.ok (s', res) → s' = a := fun e => by cases e; rfl
  unfold encPayload at h
  unfold encPayloadPure
  simp only at h ⊢
  by_cases hp : w.length / 8 + 2 > s.storageSize
  · rw [if_pos hp] at h; cases h
  · rw [if_neg hp] at h
    by_cases hq : s.params.quality = 0 ∨ s.params.quality = 1
    · rw [if_pos hq] at h ⊢
      split at h <;> rename_i hz
      · rw [if_pos hz]; exact fst h
      · rw [if_neg hz]
        split at h
        · cases h
        · exact fst h
    · rw [if_neg hq] at h ⊢
      split at h <;> rename_i he
      · rw [if_pos he]; exact fst h
      · rw [if_neg he]
        split at h <;> rename_i hf
        · rw [if_pos hf]; exact fst h
        · rw [if_neg hf]
          split at h
          · cases h
          · exact fst h

theorem core_eq_iff {x y : St} : core x = core y ↔
    x.params = y.params ∧ x.inputPos = y.inputPos ∧ x.lastFlushPos = y.lastFlushPos ∧ x.lastProcessedPos = y.lastProcessedPos
    ∧ x.lastBytes = y.lastBytes ∧ x.lastBytesBits = y.lastBytesBits ∧ x.remainingMetadata = y.remainingMetadata
    ∧ x.streamState = y.streamState ∧ x.isLastBlockEmitted = y.isLastBlockEmitted ∧ x.isInitialized = y.isInitialized
    ∧ x.isFirstMb = y.isFirstMb ∧ x.ring = y.ring ∧ x.first2 = y.first2 ∧ x.nEnc = y.nEnc ∧ x.oracleBad = y.oracleBad
    ∧ x.prefixBad = y.prefixBad := by
  cases x; cases y
  simp only [core, St.mk.injEq]
  constructor
  · intro h; simp_all
  · intro h; simp_all

theorem encMagic_core {x y : St} (h : core x = core y) (w : Writer) :
    core (encMagic x w).1 = core (encMagic y w).1 ∧ (encMagic x w).2 = (encMagic y w).2 := by
  have h' := core_eq_iff.mp h
  obtain ⟨h1, _, _, _, _, _, _, _, _, _, h11, _⟩ := h'
  unfold encMagic
  rw [h1, h11]
  split
  · refine ⟨?_, rfl⟩
    rw [core_eq_iff] at h ⊢
    simp_all
  · exact ⟨h, rfl⟩

theorem core_preludeStored (s : St) (w : Writer) (n : Nat) : core (preludeStored s w n) = core (preludeStored (core s) w n) := rfl

theorem encPrelude_core {x y x' : St} {w w' : Writer} {hdr hdr' bytes : Nat} (h : core x = core y)
    (hx : encPrelude x w hdr bytes = .ok (x', w', hdr')) :
    ∃ y', encPrelude y w hdr bytes = .ok (y', w', hdr') ∧ core x' = core y' := by
  obtain ⟨h1, _, h3, h4, _, _, _, _, _, _, h11, _, h13, _⟩ := core_eq_iff.mp h
  by_cases hb : x.isFirstMb = .bothCatable
  · rw [encPrelude_both hb] at hx
    cases hx
    exact ⟨y, encPrelude_both (h11 ▸ hb) .., h⟩
  · cases hc : x.params.catable with
    | false =>
      rw [encPrelude_ncat hc] at hx
      cases hx
      refine ⟨_, encPrelude_ncat (h1 ▸ hc) .., ?_⟩
      show ({ core x with isFirstMb := .bothCatable } : St) = { core y with isFirstMb := .bothCatable }
      rw [h]
    | true =>
      by_cases hz : bytes = 0
      · subst hz
        rw [encPrelude_zero hc] at hx
        cases hx
        exact ⟨y, encPrelude_zero (h1 ▸ hc) .., h⟩
      · rw [encPrelude_store hb hc hz] at hx
        have hd : preludeData y bytes = preludeData x bytes := by unfold preludeData; rw [h3, h13]
        rw [encPrelude_store (h11 ▸ hb) (h1 ▸ hc) hz, ← h4, hd]
        split at hx
        · cases hx
        · rename_i hlp
          rw [if_neg hlp]
          split at hx
          · cases hx
          · rename_i hlen
            rw [if_neg hlen]
            cases hx
            refine ⟨_, rfl, ?_⟩
            rw [core_preludeStored, core_preludeStored y, h]

theorem encPayloadPure_core {x y : St} (h : core x = core y) (ans : Ans) (w0 w : Writer) (hdr : Nat) (il ff : Bool) :
    core (encPayloadPure x ans w0 w hdr il ff) = core (encPayloadPure y ans w0 w hdr il ff)
    ∧ (encPayloadPure x ans w0 w hdr il ff).pending = (encPayloadPure y ans w0 w hdr il ff).pending := by
  obtain ⟨h1, h2, h3, h4, h5, h6, h7, h8, h9, h10, h11, h12, h13, h14, h15, h16⟩ := core_eq_iff.mp h
  have hu : wsub64 x.inputPos x.lastProcessedPos = wsub64 y.inputPos y.lastProcessedPos := by rw [h2, h4]
  rw [core_eq_iff]
  by_cases hq : x.params.quality = 0 ∨ x.params.quality = 1
  · have hq' : y.params.quality = 0 ∨ y.params.quality = 1 := h1 ▸ hq
    by_cases hz : wsub64 x.inputPos x.lastProcessedPos = 0 ∧ il = false
    · have hz' : wsub64 y.inputPos y.lastProcessedPos = 0 ∧ il = false := hu ▸ hz
      simp [encPayloadPure, St.unprocessed, hq, hz, hq', hz', *]
    · have hz' : ¬ (wsub64 y.inputPos y.lastProcessedPos = 0 ∧ il = false) := hu ▸ hz
      simp [encPayloadPure, St.unprocessed, hq, hz, hq', hz', *]
  · have hq' : ¬ (y.params.quality = 0 ∨ y.params.quality = 1) := h1 ▸ hq
    by_cases h3' : il = false ∧ ff = false ∧ ans.emit = false
    · simp [encPayloadPure, hq, hq', h3', *]
    · by_cases h4' : il = false ∧ x.inputPos = x.lastFlushPos
      · have h4'' : il = false ∧ y.inputPos = y.lastFlushPos := by rw [← h2, ← h3]; exact h4'
        have h3'' : ¬ (ff = false ∧ ans.emit = false) := fun hh => h3' ⟨h4'.1, hh⟩
        simp [encPayloadPure, hq, hq', h3'', h4', h4'', *]
      · have h4'' : ¬ (il = false ∧ y.inputPos = y.lastFlushPos) := by rw [← h2, ← h3]; exact h4'
        simp [encPayloadPure, hq, hq', h3', h4', h4'', *]

def uEncOf (r : Out (St × Writer × Nat)) (ans : Ans) (c : Writer) (il ff : Bool) : Option (St × Bytes) :=
  match r with
  | .ok (a2, w, hdr) => some (core (encPayloadPure a2 ans c w hdr il ff), (encPayloadPure a2 ans c w hdr il ff).pending)
  | _ => none

def uEnc (o : Oracle) (a : St) (site : Nat) (il ff : Bool) : Option (St × Bytes) :=
  uEncOf (encPre3 (encMagic (encStart a il) a.carry) (a.unprocessed % two32)) (o a.nEnc (reqOf a site il ff)) a.carry il ff

theorem encStart_core (s : St) (il : Bool) : core (encEntry s il) = core (encStart (core s) il) := by
  unfold encEntry growStorage encStart core
  split <;> rfl

theorem encode_abs {o : Oracle} {s s' : St} {site : Nat} {il ff : Bool} {req : Req}
    (h : encodeData o s site il ff = .ok (s', true, req)) :
    uEnc o (core s) site il ff = some (core s', s'.pending) := by
  obtain ⟨_, hc⟩ := encodeData_ok_cases h
  rcases hc with ⟨_, hh, _⟩ | ⟨_, _, hh, _⟩ | ⟨_, _, hrest⟩
  · simp at hh
  · simp at hh
  · obtain ⟨s2, w, hdr, hpre, hpay⟩ := encRest_ok hrest
    have hpure := encPayload_pure hpay
    have hm := encMagic_core (encStart_core s il) s.carry
    have h21 := congrArg Prod.fst hm.2
    have h22 := congrArg Prod.snd hm.2
    rw [h21, h22] at hpre
    obtain ⟨y', hy, hcy⟩ := encPrelude_core hm.1 hpre
    have hy3 : encPre3 (encMagic (encStart (core s) il) s.carry) (s.unprocessed % two32) = .ok (y', w, hdr) := hy
    unfold uEnc
    have e1 : (core s).carry = s.carry := rfl
    have e2 : (core s).unprocessed = s.unprocessed := rfl
    have e3 : (core s).nEnc = s.nEnc := rfl
    have e4 : reqOf (core s) site il ff = reqOf s site il ff := rfl
    rw [e1, e2, e3, e4, hy3]
    unfold uEncOf
    obtain ⟨p1, p2⟩ := encPayloadPure_core hcy (o s.nEnc (reqOf s site il ff)) s.carry w hdr il ff
    simp only [Option.some.injEq, Prod.mk.injEq]
    rw [hpure]
    exact ⟨p1.symm, p2.symm⟩

instance (p : Params) : Decidable (fastMode p) := by unfold fastMode; infer_instance
instance (s : St) : Decidable (PadDue s) := by unfold PadDue; infer_instance

def uCopyOf (r : Out St) (a : Abs) (n : Nat) : Option Abs :=
  match r with
  | .ok s1 => some ⟨core s1, a.out, a.input.drop n, a.availIn - n⟩
  | _ => none

def uCopy (a : Abs) : Option Abs :=
  if min (remainingInputBlockSize a.s) a.availIn > a.input.length then none
  else uCopyOf (copyInputToRingBuffer a.s (a.input.take (min (remainingInputBlockSize a.s) a.availIn)) a.input.length) a
    (min (remainingInputBlockSize a.s) a.availIn)

def uPad (a : Abs) : Abs :=
  ⟨{ a.s with lastBytes := 0, lastBytesBits := 0 },
   a.out ++ sealBytes (a.s.lastBytes ||| (6 * 2 ^ a.s.lastBytesBits)) ((a.s.lastBytesBits + 6 + 7) / 8), a.input, a.availIn⟩

def uEncOut (r : Option (St × Bytes)) (a : Abs) (il ff : Bool) : Option Abs :=
  match r with
  | some (s', pend) => some ⟨core (markAfterEncode s' il ff), a.out ++ pend, a.input, a.availIn⟩
  | none => none

def uEncStep (o : Oracle) (op : Nat) (a : Abs) : Option Abs :=
  uEncOut (uEnc o (updateSizeHint a.s a.availIn) 0 (decide (a.availIn = 0 ∧ op = 2)) (decide (a.availIn = 0 ∧ op = 1))) a
    (decide (a.availIn = 0 ∧ op = 2)) (decide (a.availIn = 0 ∧ op = 1))

def uCfc (a : Abs) : Abs := { a with s := { a.s with streamState := .processing } }

def uFlushReq (a : Abs) : Abs := { a with s := { a.s with streamState := .flushRequested } }

def uFastBs (a : Abs) : Nat := min (2 ^ a.s.params.lgwin.toNat) a.availIn
def uFastReq (op : Nat) (a : Abs) : Req :=
  { site := 2, lo := uFastBs a, hi := a.s.inputPos, isLast := decide (a.availIn = uFastBs a ∧ op = 2),
    forceFlush := decide (a.availIn = uFastBs a ∧ op = 1) }

def uFast (o : Oracle) (op : Nat) (a : Abs) : Option Abs :=
  if uFastBs a > a.input.length then none else
  let ans := o a.s.nEnc (uFastReq op a)
  let w : Writer := a.s.carry ++ ans.bits
  let st := if (uFastReq op a).isLast then SState.finished else if (uFastReq op a).forceFlush then SState.flushRequested else a.s.streamState
  some ⟨{ a.s with nEnc := a.s.nEnc + 1, oracleBad := (a.s.oracleBad || !ans.result), lastBytes := (carryOf w).1,
                   lastBytesBits := (carryOf w).2, streamState := st },
        a.out ++ wholeBytes w, a.input.drop (uFastBs a), a.availIn - uFastBs a⟩

/-- for PROCESS / FLUSH / FINISH requests; `none`: the request is complete -/
def ustep (o : Oracle) (op : Nat) (a : Abs) : Option Abs :=
  if a.s.isInitialized = false then some { a with s := core (ensureInitialized a.s) }
  else if fastMode a.s.params then
    if PadDue a.s then some (uPad a)
    else if a.s.streamState = .processing ∧ (a.availIn ≠ 0 ∨ op ≠ 0) then
      (if (uFastReq op a).forceFlush = true ∧ uFastBs a = 0 then some (uFlushReq a) else uFast o op a)
    else if a.s.streamState = .flushRequested then some (uCfc a)
    else none
  else
    if remainingInputBlockSize a.s ≠ 0 ∧ a.availIn ≠ 0 then uCopy a
    else if PadDue a.s then some (uPad a)
    else if a.s.streamState = .processing ∧ (remainingInputBlockSize a.s = 0 ∨ op ≠ 0) then uEncStep o op a
    else if a.s.streamState = .flushRequested then some (uCfc a)
    else none

theorem ustep_fresh {o : Oracle} {op : Nat} {a : Abs} (h : a.s.isInitialized = false) :
    ustep o op a = some { a with s := core (ensureInitialized a.s) } := by
  unfold ustep
  rw [if_pos h]

theorem ustep_slow {o : Oracle} {op : Nat} {a : Abs} (hi : a.s.isInitialized = true) (hnf : ¬ fastMode a.s.params) :
    ustep o op a =
      if remainingInputBlockSize a.s ≠ 0 ∧ a.availIn ≠ 0 then uCopy a
      else if PadDue a.s then some (uPad a)
      else if a.s.streamState = .processing ∧ (remainingInputBlockSize a.s = 0 ∨ op ≠ 0) then uEncStep o op a
      else if a.s.streamState = .flushRequested then some (uCfc a)
      else none := by
  unfold ustep
  rw [if_neg (by rw [hi]; simp), if_neg hnf]

theorem ustep_fast {o : Oracle} {op : Nat} {a : Abs} (hi : a.s.isInitialized = true) (hf : fastMode a.s.params) :
    ustep o op a =
      if PadDue a.s then some (uPad a)
      else if a.s.streamState = .processing ∧ (a.availIn ≠ 0 ∨ op ≠ 0) then
        (if (uFastReq op a).forceFlush = true ∧ uFastBs a = 0 then some (uFlushReq a) else uFast o op a)
      else if a.s.streamState = .flushRequested then some (uCfc a)
      else none := by
  unfold ustep
  rw [if_neg (by rw [hi]; simp), if_pos hf]

theorem ustep_cfc {o : Oracle} {op : Nat} {a : Abs} (hi : a.s.isInitialized = true) (hfl : a.s.streamState = .flushRequested)
    (hnp : ¬ PadDue a.s) (hav : a.availIn = 0) : ustep o op a = some (uCfc a) := by
  have hnproc : ∀ {p : Prop}, ¬ (a.s.streamState = .processing ∧ p) := fun hh => by rw [hfl] at hh; cases hh.1
  by_cases hfm : fastMode a.s.params
  · rw [ustep_fast hi hfm, if_neg hnp, if_neg hnproc, if_pos hfl]
  · rw [ustep_slow hi hfm, if_neg (fun hh => hh.2 hav), if_neg hnp, if_neg hnproc, if_pos hfl]

theorem core_updateSizeHint (s : St) (n : Nat) : core (updateSizeHint s n) = updateSizeHint (core s) n := by
  unfold updateSizeHint core
  split <;> rfl

theorem core_ensure (s : St) : core (ensureInitialized (core s)) = core (ensureInitialized s) := by
  unfold ensureInitialized core
  split <;> rfl

theorem copy_core {x x' : St} {ch : Bytes} {av : Nat} (hi : x.isInitialized = true)
    (hx : copyInputToRingBuffer x ch av = .ok x') :
    ∃ y', copyInputToRingBuffer (core x) ch av = .ok y' ∧ core y' = core x' := by
  have hic : (core x).isInitialized = true := hi
  unfold copyInputToRingBuffer at hx ⊢
  rw [ensureInitialized_id hi] at hx
  rw [ensureInitialized_id hic]
  simp only at hx ⊢
  have e1 : (core x).ring = x.ring := rfl
  rw [e1]
  split at hx
  · rename_i rb hrw
    split at hx
    · simp at hx
    · rename_i hok
      simp only [Out.ok.injEq] at hx
      subst hx
      simp only [if_neg hok]
      exact ⟨_, rfl, rfl⟩
  · simp at hx
  · simp at hx

theorem ensure_pending (s : St) : (ensureInitialized s).pending = s.pending := by
  unfold ensureInitialized
  split <;> rfl

theorem ensure_inputPos (s : St) : (ensureInitialized s).inputPos = s.inputPos := by
  unfold ensureInitialized
  split <;> rfl

theorem core_init (s : St) : (core s).isInitialized = s.isInitialized := rfl

theorem uFastBs_abs (s : St) (io : Io) (del : Bytes) : uFastBs (absOf s io del) = fastBs s io := rfl
theorem uFastReq_abs (op : Nat) (s : St) (io : Io) (del : Bytes) : uFastReq op (absOf s io del) = fastReq op s io := rfl
theorem abs_input (s : St) (io : Io) (del : Bytes) : (absOf s io del).input = io.input := rfl
theorem abs_availIn (s : St) (io : Io) (del : Bytes) : (absOf s io del).availIn = io.availIn := rfl
theorem abs_s (s : St) (io : Io) (del : Bytes) : (absOf s io del).s = core s := rfl
theorem abs_out (s : St) (io : Io) (del : Bytes) : (absOf s io del).out = del ++ io.out ++ s.pending := rfl

theorem step_abs {o : Oracle} {op : Nat} {s s' : St} {io io' : Io} {e : Ev}
    (h : Step o op (s, io) e (s', io')) (hop2 : op ≤ 2) (del : Bytes) :
    absOf s' io' del = absOf s io del ∨ ustep o op (absOf s io del) = some (absOf s' io' del) := by
  rcases h.effect with ⟨hf, _, rfl, hio⟩ | ⟨hI, ha⟩
  · right
    rw [hio]
    have hi : s.isInitialized = false := isFreshInit hf
    rw [ustep_fresh (a := absOf s io del) hi]
    simp only [absOf, core_ensure, ensure_pending]
  · cases ha with
    | copy hw hop hnf hst hrm hc hn he =>
      right
      rw [ustep_slow (a := absOf s io del) hI.init hnf]
      refine (if_pos hc).trans ?_
      obtain ⟨y', hy, hcy⟩ := copy_core hI.init he
      unfold uCopy
      refine (if_neg (Nat.not_lt.mpr hn)).trans ?_
      have hy' : copyInputToRingBuffer (absOf s io del).s ((absOf s io del).input.take (min (remainingInputBlockSize (absOf s io del).s) (absOf s io del).availIn)) (absOf s io del).input.length = .ok y' := hy
      rw [hy']
      simp only [uCopyOf, absOf, hcy]
      rfl
    | @pad nx hc hz he =>
      right
      have hnc : ¬ (remainingInputBlockSize s ≠ 0 ∧ io.availIn ≠ 0) := fun hh => hh.2 hz
      have hres : uPad (absOf s io del) = absOf (padResult s nx) io del := by
        simp [uPad, absOf, padResult, core, List.append_assoc]
      by_cases hfm : fastMode (absOf s io del).s.params
      · rw [ustep_fast hI.init hfm, ← hres]
        exact if_pos hc
      · rw [ustep_slow hI.init hfm, ← hres]
        exact (if_neg hnc).trans (if_pos hc)
    | push =>
      left
      simp [absOf, pushSt, pushIo, core, List.append_assoc]
    | @enc k site il ff s2 req st hE hI0 hpend he hfr =>
      cases hE with
      | md hM h3 => omega
      | main _ hnf _ hnc hnp hst hgo =>
        right
        rw [ustep_slow (a := absOf s io del) hI.init hnf]
        refine (if_neg hnc).trans ((if_neg hnp).trans ((if_pos ⟨hst, hgo⟩).trans ?_))
        have hu := encode_abs he
        rw [← updateSizeHint_eq, core_updateSizeHint] at hu
        unfold uEncStep
        have hu' : uEnc o (updateSizeHint (absOf s io del).s (absOf s io del).availIn) 0
            (decide ((absOf s io del).availIn = 0 ∧ op = 2)) (decide ((absOf s io del).availIn = 0 ∧ op = 1)) = some (core s2, s2.pending) := hu
        rw [hu']
        simp only [uEncOut, absOf, hpend, List.append_nil]
        have hs2 : (core s2).streamState = s.streamState := by rw [hfr]; rfl
        rw [markAfterEncode_eq, hs2]
        rfl
    | flushed hop hrm hnp hz hfl hp =>
      right
      rw [ustep_cfc (a := absOf s io del) hI.init hfl hnp hz]
      simp [uCfc, absOf, core]
    | idle => exact Or.inl rfl
    | fastFlush hfm hrm hnp hpend hst hop1 hz =>
      right
      have hbs : uFastBs (absOf s io del) = 0 := by
        show min (2 ^ s.params.lgwin.toNat) io.availIn = 0
        rw [hz]; exact Nat.min_zero _
      have hff : (uFastReq op (absOf s io del)).forceFlush = true ∧ uFastBs (absOf s io del) = 0 := by
        refine ⟨?_, hbs⟩
        show decide ((absOf s io del).availIn = uFastBs (absOf s io del) ∧ op = 1) = true
        rw [hbs]
        have : (absOf s io del).availIn = 0 := hz
        simp [this, hop1]
      rw [ustep_fast (a := absOf s io del) hI.init hfm]
      exact (if_neg hnp).trans ((if_pos ⟨hst, Or.inr (by omega)⟩).trans (if_pos hff))
    | fastBlock hfm hop hrm hnp hpend hst hgo hnf hss hcap hin hfit =>
      right
      rw [ustep_fast (a := absOf s io del) hI.init hfm]
      refine (if_neg hnp).trans ((if_pos ⟨hst, hgo⟩).trans ((if_neg hnf).trans ?_))
      unfold uFast
      refine (if_neg hin).trans ?_
      simp only [uFastReq_abs, uFastBs_abs, abs_input, abs_availIn, abs_s, abs_out]
      cases hip : fastInplace s io <;>
        simp [absOf, fastSt, fastIo, core, markState, St.carry, hpend, List.append_assoc] <;> rfl
    | _ => omega   -- the metadata atoms: their `op = 3` contradicts `hop2`

end BV.Stream
