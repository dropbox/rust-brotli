/-
`copy_len() ≥ 2` for the copying commands of `CreateBackwardReferences` (hypothesis `hcl2` of the quality ≥ 4 writer
theorems).  For LZ77 copies it is part of `match_sound_*` (`SoundAt`: a match at a position with at least 4
bytes left is at least 2 long); a static-dictionary reference can be a 1-byte match (reachable with an extreme
`literal_byte_score`), so the statement is for hashers that return no dictionary hit (`SlotOK noWords`: dictionary off).
-/
import BV.Lemmas.CbrOpen
import BV.Lemmas.CatableReplay
import BV.Lemmas.CbrDict

namespace BV.Cbr
open BV.Hasher BV.MatchFinder BV.Recoder BV.PrefixArith BV.MetaBlock BV.Catable

theorem soundAt_len2 {data : ByteArray} {k md pos ml mbk : Nat} {o : SR}
    (h : SoundAt (SlotOK noWords) data k md pos ml mbk o) (hml : 4 ≤ ml) : 2 ≤ o.len := by
  rcases h with ⟨_, _, _, _, h5, _⟩ | ⟨items, hs, dd, hdd, hpos, hle, _⟩
  · exact h5 hml
  · exfalso
    have hne : dd.item ≠ 0 := by
      intro h0
      simp only [h0] at hle
      simp at hle
      omega
    obtain ⟨h4, _, _, _, _, hw⟩ := hs dd hdd hne
    have := hw 0 (by decide) (by omega)
    simp [noWords] at this

theorem cbr_copylen2 {H : Type} {ops : HasherOps H} {p : Params} {C : Ctx} {G : Cmd → Prop}
    (hops : OpsOK (SlotOK noWords) ops p C.data C.k) (hemit : EmitHyp (SlotOK noWords) C p G)
    (numBytes position : Nat) (h0 : H) (cache : List Int) (lastInsertLen numLiterals : Nat) (res : Result H)
    (hpos : position = C.hist.length + lastInsertLen) (hmb : C.mb.length = lastInsertLen + numBytes)
    (h64 : C.hist.length + C.mb.length < 2 ^ 64) (hc : CacheI32 cache) (hcl : 4 ≤ cache.length)
    (h : createBackwardReferences ops p numBytes position h0 cache lastInsertLen numLiterals = some res) :
    ∀ c ∈ closeMetaBlock res.cmds res.lastInsertLen, copyLen c ≠ 0 → 2 ≤ copyLen c := by
  have hemit2 : EmitHyp (SlotOK noWords) C p (fun c => 2 ≤ copyLen c) :=
    emitHyp_sound_mono hemit (fun cmd sr pos _ hcp _ hlt hs => by rw [hcp]; exact soundAt_len2 hs (by omega))
  obtain ⟨_, _, _, _, _, _, _, hg⟩ := cbr_open hops hemit2 numBytes position h0 cache lastInsertLen numLiterals res hpos hmb
    h64 hc hcl h
  intro c hc' hne
  rw [closeMetaBlock_split] at hc'
  rcases List.mem_append.mp hc' with h1 | h2
  · exact hg c h1
  · obtain ⟨_, rfl⟩ := mem_closeMetaBlock_nil h2
    exact absurd (copyLen_initInsert _) hne

end BV.Cbr
