import BV.Lemmas.StreamMeta
/-
`compress_stream` as a whole: how it dispatches a call (refused, or one of its three loops); calls in the
FINISHED state; `take_output`; the state a fresh encoder is in after `ensure_initialized`.
-/
namespace BV.Stream
open BV.Bits

def Io.start (input : Bytes) (cap : Nat) : Io := { input := input, availIn := input.length, availOut := cap }

theorem compressStream_dispatch {o : Oracle} {fuel op cap : Nat} {input : Bytes} {s : St}
    (hop : op ≤ 3) (hI : Inv s) :
    (Contract.accepts (absC s) op input.length = false ∧ ∃ s0, (s0 = s ∨ s0 = updateSizeHint s 0) ∧
      compressStream o fuel s op input cap = .ok (s0, Io.start input cap, false)) ∨
    (Contract.accepts (absC s) op input.length = true ∧
     ((op = 3 ∧ MdInv input.length (mdEnter (updateSizeHint s 0) input.length) (Io.start input cap) ∧
        compressStream o fuel s op input cap =
          processMetadataLoop o fuel (mdEnter (updateSizeHint s 0) input.length) (Io.start input cap)) ∨
      (op ≤ 2 ∧ s.remainingMetadata = u32Max ∧ (s.streamState ≠ .processing → input.length = 0) ∧
        ((fastMode s.params ∧
            compressStream o fuel s op input cap = compressStreamFast o fuel op s (Io.start input cap)) ∨
         (compressStream o fuel s op input cap = slowLoop o op fuel s (Io.start input cap) ∧ ¬ fastMode s.params))))) := by
  rw [accepts_absC hI]
  unfold compressStream Io.start
  rw [ensureInitialized_id hI.init]
  simp only
  by_cases hg : s.remainingMetadata ≠ u32Max ∧ (input.length ≠ s.remainingMetadata ∨ op ≠ 3)
  · rw [if_pos hg, if_pos hg.1]
    refine Or.inl ⟨?_, s, Or.inl rfl, rfl⟩
    rcases hg.2 with h | h <;> simp [h]
  rw [if_neg hg]
  obtain ⟨_, _, _, _, _, _, hRemainingMetadata, _, hStreamState, _⟩ := updateSizeHint_fields s 0
  by_cases hop3 : op = 3
  · rw [if_pos hop3]
    subst hop3
    unfold processMetadata
    simp only
    have hin : s.remainingMetadata ≠ u32Max → input.length = s.remainingMetadata :=
      fun hrm => Decidable.of_not_not fun hne => hg ⟨hrm, Or.inl hne⟩
    by_cases hle : input.length > 16777216
    · rw [if_pos hle]
      refine Or.inl ⟨?_, _, Or.inr rfl, rfl⟩
      by_cases hrm : s.remainingMetadata ≠ u32Max
      · have := hI.mdLe hrm; have := hin hrm; omega
      · rw [if_neg hrm]; split <;> simp <;> omega
    rw [if_neg hle]
    by_cases hgood : (mdEnter (updateSizeHint s 0) input.length).streamState ≠ .metadataHead ∧
        (mdEnter (updateSizeHint s 0) input.length).streamState ≠ .metadataBody
    · rw [if_pos hgood]
      -- not PROCESSING (else the block would have been opened): `mdEnter` changed nothing
      have hnp : (updateSizeHint s 0).streamState ≠ .processing := by
        intro hpr
        unfold mdEnter at hgood
        rw [if_pos hpr] at hgood; exact hgood.1 rfl
      have hme : mdEnter (updateSizeHint s 0) input.length = updateSizeHint s 0 := by
        unfold mdEnter; rw [if_neg hnp]
      rw [hme] at hgood ⊢
      rw [hStreamState] at hgood hnp
      refine Or.inl ⟨?_, _, Or.inr rfl, rfl⟩
      rw [if_neg (fun hrm => by rcases hI.mdIff.mpr hrm with h | h; exact hgood.1 h; exact hgood.2 h), if_neg hnp]
      rfl
    · rw [if_neg hgood]
      refine Or.inr ⟨?_, Or.inl ⟨trivial, mdInv_call (io := { input := input, availIn := input.length, availOut := cap }) hI hg hle hgood, rfl⟩⟩
      by_cases hrm : s.remainingMetadata ≠ u32Max
      · rw [if_pos hrm]; simp [hin hrm]
      · rw [if_neg hrm]
        have hpr : s.streamState = .processing := by
          have hrm' : s.remainingMetadata = u32Max := Decidable.of_not_not hrm
          unfold mdEnter at hgood
          rw [hStreamState] at hgood
          by_cases hpr : s.streamState = .processing
          · exact hpr
          · rw [if_neg hpr, hStreamState] at hgood
            exfalso; apply hgood
            exact ⟨fun h => absurd hrm' (hI.mdIff.mp (Or.inl h)), fun h => absurd hrm' (hI.mdIff.mp (Or.inr h))⟩
        rw [if_pos hpr]; simp; omega
  rw [if_neg hop3]
  have hrm : s.remainingMetadata = u32Max := Decidable.of_not_not fun hne => hg ⟨hne, Or.inr hop3⟩
  have hnmd : ¬ (s.streamState = .metadataHead ∨ s.streamState = .metadataBody) :=
    fun hh => absurd hrm (hI.mdIff.mp hh)
  rw [if_neg hnmd, if_neg (not_not_intro hrm)]
  by_cases hok : s.streamState ≠ .processing ∧ input.length ≠ 0
  · rw [if_pos hok, if_neg hok.1]
    exact Or.inl ⟨by simp [hop3, hok.2], s, Or.inl rfl, rfl⟩
  rw [if_neg hok]
  have hacc : s.streamState ≠ .processing → input.length = 0 := fun hh => Decidable.of_not_not fun hne => hok ⟨hh, hne⟩
  refine Or.inr ⟨?_, Or.inr ⟨by omega, hrm, hacc, ?_⟩⟩
  · by_cases hpr : s.streamState = .processing
    · rw [if_pos hpr]; simp [hop3]
    · rw [if_neg hpr]; simp [hop3, hacc hpr]
  by_cases hfast : (s.params.quality = 0 ∨ s.params.quality = 1) ∧ (!s.params.catable) = true ∧ (!s.params.magic) = true
  · rw [if_pos hfast]
    exact Or.inl ⟨⟨hfast.1, by simpa using hfast.2.1, by simpa using hfast.2.2⟩, rfl⟩
  · rw [if_neg hfast]
    exact Or.inr ⟨rfl, fun hfm => hfast ⟨hfm.1, by simp [hfm.2.1], by simp [hfm.2.2]⟩⟩

theorem slowStep_idle {o : Oracle} {op : Nat} {s : St} {io : Io}
    (hst : s.streamState = .finished) (hp : s.pending = []) (hin : io.availIn = 0) :
    slowStep o op s io = .ok (s, io, .brk) := by
  unfold slowStep
  simp only
  rw [if_neg (by simp [hin])]
  have hpush : injectFlushOrPushOutput s io = .ok (s, io, false) := by
    unfold injectFlushOrPushOutput
    rw [if_neg (by simp [hst]), if_neg (by simp [hp])]
  rw [hpush]
  simp only
  rw [if_neg (by simp [hst])]

theorem fastStep_idle {o : Oracle} {op : Nat} {s : St} {io : Io}
    (hst : s.streamState = .finished) (hp : s.pending = []) :
    fastStep o op s io = .ok (s, io, false) := by
  unfold fastStep
  have hpush : injectFlushOrPushOutput s io = .ok (s, io, false) := by
    unfold injectFlushOrPushOutput
    rw [if_neg (by simp [hst]), if_neg (by simp [hp])]
  rw [hpush]
  simp only
  rw [if_neg (by simp [hst])]

theorem finished_call_exact {o : Oracle} {fuel op cap : Nat} {s : St}
    (hop : op ≤ 2) (hI : Inv s) (hst : s.streamState = .finished) (hp : s.pending = []) :
    compressStream o (fuel + 1) s op [] cap = .ok (s, Io.start [] cap, true) := by
  have hrm : s.remainingMetadata = u32Max := by
    by_cases hne : s.remainingMetadata = u32Max
    · exact hne
    · rcases hI.mdIff.mpr hne with h | h <;> rw [hst] at h <;> cases h
  have hcfc : checkFlushComplete s = s := checkFlushComplete_id (by rw [hst]; nofun)
  unfold compressStream
  rw [ensureInitialized_id hI.init]
  simp only
  rw [if_neg (by simp [hrm]), if_neg (by omega), if_neg (by simp [hst]), if_neg (by simp)]
  split
  · unfold compressStreamFast
    rename_i hfast
    rw [if_neg (by rcases hfast.1 with h | h <;> simp [h])]
    unfold fastLoop
    rw [fastStep_idle hst hp]
    simp only [hcfc, Io.start]
  · unfold slowLoop
    rw [slowStep_idle hst hp rfl]
    simp only [hcfc, Io.start]

theorem takeOutput_cases {s s' : St} {size : Nat} {out : Bytes} (h : takeOutput s size = .ok (s', out)) :
    (s' = s ∧ out = []) ∨
    (s' = checkFlushComplete (takeAdvance s (takeCount s size)) ∧ out = s.pending.take (takeCount s size)) := by
  unfold takeOutput at h
  by_cases hs : (!takeSliceOk s) = true
  · rw [if_pos hs] at h; cases h
  · rw [if_neg hs] at h
    by_cases hc : takeCount s size ≠ 0
    · rw [if_pos hc] at h
      cases h
      exact Or.inr ⟨rfl, rfl⟩
    · rw [if_neg hc] at h
      cases h
      exact Or.inl ⟨rfl, rfl⟩

theorem takeCount_le (s : St) (size : Nat) : takeCount s size ≤ s.pending.length := by
  unfold takeCount; split <;> omega

theorem takeOutput_spec {s s' : St} {size : Nat} {out : Bytes} (hI : Inv s)
    (h : takeOutput s size = .ok (s', out)) :
    Inv s' ∧ s.pending = out ++ s'.pending ∧ s'.remainingMetadata = s.remainingMetadata
    ∧ (s'.streamState = s.streamState ∨
       (s.streamState = .flushRequested ∧ s'.pending = [] ∧ s'.streamState = .processing)) := by
  rcases takeOutput_cases h with ⟨rfl, rfl⟩ | ⟨rfl, rfl⟩
  · exact ⟨hI, rfl, rfl, Or.inl rfl⟩
  generalize takeCount s size = c
  have hI1 : Inv (takeAdvance s c) := hI.of_frame rfl rfl rfl rfl
  have hp1 : (takeAdvance s c).pending = s.pending.drop c := rfl
  have hst1 : (takeAdvance s c).streamState = s.streamState := rfl
  have hrm1 : (takeAdvance s c).remainingMetadata = s.remainingMetadata := rfl
  have hpend : (checkFlushComplete (takeAdvance s c)).pending = (takeAdvance s c).pending := by rw [checkFlushComplete_eq]
  refine ⟨inv_checkFlushComplete hI1, ?_, by rw [checkFlushComplete_eq]; rfl, ?_⟩
  · rw [hpend, hp1]; exact (List.take_append_drop c s.pending).symm
  · rw [checkFlushComplete_state, hpend]
    split
    · rename_i hfc
      exact Or.inr ⟨hst1 ▸ hfc.1, List.eq_nil_of_length_eq_zero hfc.2, rfl⟩
    · exact Or.inl hst1

def IsFresh (s : St) : Prop := ∃ p : Params, s = { St.new with params := p }

theorem IsFresh.inputPos {s : St} (h : IsFresh s) : s.inputPos = 0 := by
  obtain ⟨p, rfl⟩ := h; rfl

theorem IsFresh.nextOut {s : St} (h : IsFresh s) : s.nextOut = .none := by
  obtain ⟨p, rfl⟩ := h; rfl

theorem setParameter_fresh {s : St} (h : IsFresh s) (id v : Nat) : IsFresh (setParameter s id v).1 := by
  obtain ⟨p, rfl⟩ := h
  have hni : ({ St.new with params := p } : St).isInitialized = false := rfl
  unfold setParameter
  rw [hni]
  simp only [Bool.false_eq_true, ↓reduceIte]
  cases setParamRaw ({ St.new with params := p } : St).params id v with
  | none => exact ⟨p, rfl⟩
  | some p' => exact ⟨p', rfl⟩

theorem inv_fresh {s : St} (h : IsFresh s) : Inv (ensureInitialized s) ∧ absC (ensureInitialized s) = .processing
    ∧ absC s = .fresh := by
  obtain ⟨p, rfl⟩ := h
  have hE : ensureInitialized { St.new with params := p } =
      { St.new with params := { sanitize p with lgblock := computeLgBlock (sanitize p) },
                    remainingMetadata := u32Max,
                    ring := ringSetup { sanitize p with lgblock := computeLgBlock (sanitize p) } {},
                    lastBytes := (encodeWindowBits (if (sanitize p).quality = 0 ∨ (sanitize p).quality = 1 then max (sanitize p).lgwin 18 else (sanitize p).lgwin) (sanitize p).largeWindow).1,
                    lastBytesBits := (encodeWindowBits (if (sanitize p).quality = 0 ∨ (sanitize p).quality = 1 then max (sanitize p).lgwin 18 else (sanitize p).lgwin) (sanitize p).largeWindow).2,
                    isInitialized := true } := by
    simp [ensureInitialized, St.new]
  rw [hE]
  refine ⟨⟨rfl, Nat.le_refl _, Nat.le_refl _, by simp [St.new, two64], by simp [St.new], by simp [St.new], by simp [St.new], by simp, by simp [St.new], by simp [St.new]⟩, ?_, ?_⟩
  · simp [absC, St.new]
  · simp [absC, St.new]

theorem compressStream_ensure (o : Oracle) (fuel : Nat) (s : St) (op : Nat) (input : Bytes) (cap : Nat) :
    compressStream o fuel s op input cap = compressStream o fuel (ensureInitialized s) op input cap := by
  have hidem : ensureInitialized (ensureInitialized s) = ensureInitialized s := by
    by_cases hi : s.isInitialized = true
    · rw [ensureInitialized_id hi, ensureInitialized_id hi]
    · apply ensureInitialized_id
      simp [ensureInitialized, hi]
  unfold compressStream
  rw [hidem]

/-- the stream header is 1 to 14 bits long -/
theorem encodeWindowBits_range (lg : Int) (large : Bool) :
    1 ≤ (encodeWindowBits lg large).2 ∧ (encodeWindowBits lg large).2 ≤ 14 := by
  unfold encodeWindowBits
  split
  · simp
  · split
    · simp
    · split
      · simp
      · split <;> simp

theorem ensureInitialized_lbb (s : St) (h : s.isInitialized = false) : (ensureInitialized s).lastBytesBits ≤ 14 := by
  unfold ensureInitialized
  rw [h]
  simp only [Bool.false_eq_true, ↓reduceIte]
  exact (encodeWindowBits_range _ _).2

end BV.Stream
