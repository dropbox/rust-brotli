/-
C01 / meta-block writers: `BuildHistograms`.  Over a command array whose literal runs lie inside
the meta-block, the three histograms count exactly the literal bytes, the command symbols and the
distance symbols the data loop will write; no `u32` counter wraps while the totals stay below 2^32.
-/
import BV.Lemmas.MetaBlockSim

namespace BV.MetaBlock
open BV.Gen BV.Bits BV.Huffman BV.PrefixArith BV.Recoder

structure HistoInv (h : Histo) (n : Nat) (items : List Nat) : Prop where
  len : h.data.length = n
  sum : h.data.sum = items.length
  total : h.total = items.length
  mem : ∀ s, h.data.getD s 0 ≠ 0 ↔ s ∈ items

theorem histoInv_zero (n : Nat) : HistoInv (Histo.zero n) n [] := by
  refine ⟨by simp [Histo.zero], ?_, rfl, ?_⟩
  · simp [Histo.zero]
  · intro s
    simp only [Histo.zero, List.getD_eq_getElem?_getD, List.getElem?_replicate]
    split <;> simp

/-- `HistoInv` without the total: the `≤ 128` commands branch of the fast writer keeps none -/
structure DataInv (d : List Nat) (n : Nat) (items : List Nat) : Prop where
  len : d.length = n
  sum : d.sum = items.length
  mem : ∀ s, d.getD s 0 ≠ 0 ↔ s ∈ items

theorem HistoInv.toData {h : Histo} {n : Nat} {items : List Nat} (hi : HistoInv h n items) :
    DataInv h.data n items := ⟨hi.len, hi.sum, hi.mem⟩

theorem HistoInv.ofData {h : Histo} {n : Nat} {items : List Nat} (hd : DataInv h.data n items)
    (ht : h.total = items.length) : HistoInv h n items := ⟨hd.len, hd.sum, ht, hd.mem⟩

theorem histoAdd_data (h : Histo) (n : Nat) (items : List Nat) (v : Nat) (hi : DataInv h.data n items) (hv : v < n)
    (hb : items.length + 1 < two32) :
    ∃ h', histoAdd h v = .ok h' ∧ DataInv h'.data n (items ++ [v]) ∧ h'.total = (h.total + 1) % two64 := by
  have hvl : v < h.data.length := by rw [hi.len]; exact hv
  have hle := getD_le_sum h.data v
  rw [hi.sum, getD_of_lt _ _ _ hvl] at hle
  unfold histoAdd
  rw [List.getElem?_eq_getElem hvl]
  have e1 : (h.data[v] + 1) % two32 = h.data[v] + 1 := Nat.mod_eq_of_lt (by omega)
  refine ⟨_, rfl, ⟨by simp [hi.len], ?_, ?_⟩, rfl⟩
  · simp only [e1]
    have := sum_set h.data v (h.data[v] + 1) hvl
    rw [hi.sum, getD_of_lt _ _ _ hvl] at this
    simp only [List.length_append, List.length_singleton]
    omega
  · intro s
    simp only [List.getD_eq_getElem?_getD, List.getElem?_set, e1, List.mem_append, List.mem_singleton]
    by_cases hsv : v = s
    · subst hsv
      simp [hvl]
    · simp only [hsv, if_false]
      have := hi.mem s
      rw [List.getD_eq_getElem?_getD] at this
      rw [this]
      constructor
      · intro h; exact Or.inl h
      · rintro (h | h)
        · exact h
        · exact absurd h.symm hsv

theorem bump_data (h : List Nat) (n : Nat) (items : List Nat) (c : Nat) (hi : DataInv h n items) (hc : c < n)
    (hb : items.length + 1 < two32) :
    ∃ h', getAt h c = .ok (h.getD c 0) ∧ setAt h c ((h.getD c 0 + 1) % two32) = .ok h' ∧
      DataInv h' n (items ++ [c]) := by
  have hl : c < h.length := by rw [hi.len]; exact hc
  obtain ⟨h1, e1, d1, _⟩ := histoAdd_data ⟨h, 0⟩ n items c hi hc hb
  unfold histoAdd at e1
  rw [List.getElem?_eq_getElem hl] at e1
  injection e1 with e1
  refine ⟨h1.data, getAt_getD h c 0 hl, ?_, d1⟩
  rw [setAt_of_lt _ _ _ hl, ← e1, getD_of_lt _ _ _ hl]

theorem histoAdd_inv (h : Histo) (n : Nat) (items : List Nat) (v : Nat) (hi : HistoInv h n items) (hv : v < n)
    (hb : items.length + 1 < two32) :
    ∃ h', histoAdd h v = .ok h' ∧ HistoInv h' n (items ++ [v]) := by
  obtain ⟨h', e, d, t⟩ := histoAdd_data h n items v hi.toData hv hb
  refine ⟨h', e, HistoInv.ofData d ?_⟩
  rw [t, hi.total]
  simp only [List.length_append, List.length_singleton]
  exact Nat.mod_eq_of_lt (by unfold two64; unfold two32 at hb; omega)

def hasDist (c : Cmd) : Bool := decide (copyLen c ≠ 0) && decide (c.cmdPrefix ≥ 128)

def distsOf (cmds : List Cmd) : List Nat := (cmds.filter hasDist).map fun c => c.distPrefix % 1024

def Book (n : Nat) : Nat → List Cmd → Prop
  | _, [] => True
  | k, c :: cs => k + c.insertLen + copyLen c ≤ n ∧ Book n (k + c.insertLen + copyLen c) cs

theorem histoLits_data (ring : Bytes) (mask start : Nat) (mb : Bytes) (hR : RingHolds ring mask start mb)
    (h256 : ∀ b ∈ mb, b < 256) :
    ∀ (n k : Nat) (h : Histo) (items : List Nat), DataInv h.data 256 items → h.total < two64 → k + n ≤ mb.length →
      items.length + n < two32 →
      ∃ h', histoLits ring mask n (posOf start k) h = .ok (h', posOf start (k + n)) ∧
        DataInv h'.data 256 (items ++ (mb.drop k).take n) ∧ h'.total = (h.total + n) % two64 := by
  intro n
  induction n with
  | zero =>
    intro k h items hi ht _ hb
    refine ⟨h, by simp [histoLits], by simpa using hi, ?_⟩
    rw [Nat.add_zero, Nat.mod_eq_of_lt ht]
  | succ n ih =>
    intro k h items hi ht hk hb
    have hk' : k < mb.length := by omega
    obtain ⟨h1, e1, i1, t1⟩ := histoAdd_data h 256 items (mb.getD k 0) hi (h256 _ (getD_mem mb k 0 hk')) (by omega)
    obtain ⟨h2, e2, i2, t2⟩ := ih (k + 1) h1 _ i1 (by rw [t1]; exact Nat.mod_lt _ (by decide)) (by omega) (by simp; omega)
    refine ⟨h2, ?_, ?_, ?_⟩
    · unfold histoLits
      rw [hR k hk', Out.bind_ok, e1, Out.bind_ok, posOf_add, e2, show k + 1 + n = k + (n + 1) by omega]
    · rw [drop_take_succ mb k n hk']
      simpa [List.append_assoc] using i2
    · rw [t2, t1, Nat.mod_add_mod, Nat.add_assoc, Nat.add_comm 1 n]

theorem histoLits_inv (ring : Bytes) (mask start : Nat) (mb : Bytes) (hR : RingHolds ring mask start mb)
    (h256 : ∀ b ∈ mb, b < 256) (n k : Nat) (h : Histo) (items : List Nat) (hi : HistoInv h 256 items)
    (hk : k + n ≤ mb.length) (hb : items.length + n < two32) :
    ∃ h', histoLits ring mask n (posOf start k) h = .ok (h', posOf start (k + n)) ∧
      HistoInv h' 256 (items ++ (mb.drop k).take n) := by
  have h64 : two32 < two64 := by decide
  obtain ⟨h', e, d, t⟩ := histoLits_data ring mask start mb hR h256 n k h items hi.toData
    (by rw [hi.total]; omega) hk hb
  refine ⟨h', e, HistoInv.ofData d ?_⟩
  rw [t, hi.total, List.length_append, List.length_take, List.length_drop, Nat.min_eq_left (by omega)]
  exact Nat.mod_eq_of_lt (by omega)

theorem litsOf_length (mb : Bytes) : ∀ (cmds : List Cmd) (k : Nat), Book mb.length k cmds →
    (litsOf mb k cmds).length ≤ mb.length - k := by
  intro cmds
  induction cmds with
  | nil => intro k _; simp [litsOf]
  | cons c cs ih =>
    intro k h
    obtain ⟨h1, h2⟩ := h
    have := ih _ h2
    simp only [litsOf, List.length_append, List.length_take, List.length_drop]
    omega

theorem buildHistograms_inv (ring : Bytes) (mask start : Nat) (mb : Bytes) (hR : RingHolds ring mask start mb)
    (h256 : ∀ b ∈ mb, b < 256) :
    ∀ (cmds : List Cmd) (k : Nat) (lit cmd dist : Histo) (L C D : List Nat),
      HistoInv lit 256 L → HistoInv cmd 704 C → HistoInv dist 544 D → Book mb.length k cmds →
      (∀ c ∈ cmds, c.cmdPrefix < 704 ∧ c.distPrefix % 1024 < 544) →
      L.length + (mb.length - k) < two32 → C.length + cmds.length < two32 → D.length + cmds.length < two32 →
      ∃ lit' cmd' dist', buildHistograms ring mask cmds (posOf start k) (lit, cmd, dist) = .ok (lit', cmd', dist') ∧
        HistoInv lit' 256 (L ++ litsOf mb k cmds) ∧ HistoInv cmd' 704 (C ++ cmds.map (·.cmdPrefix)) ∧
        HistoInv dist' 544 (D ++ distsOf cmds) := by
  intro cmds
  induction cmds with
  | nil =>
    intro k lit cmd dist L C D hl hc hd _ _ _ _ _
    exact ⟨lit, cmd, dist, by simp [buildHistograms], by simpa [litsOf] using hl, by simpa using hc,
      by simpa [distsOf] using hd⟩
  | cons c cs ih =>
    intro k lit cmd dist L C D hl hc hd hr hb b1 b2 b3
    obtain ⟨hr1, hr2⟩ := hr
    have hr1 := Nat.le_trans (Nat.le_add_right _ _) hr1
    obtain ⟨hb1, hb2⟩ := hb c (by simp)
    simp only [List.length_cons] at b2 b3
    obtain ⟨cmd1, e1, i1⟩ := histoAdd_inv cmd 704 C c.cmdPrefix hc hb1 (by omega)
    obtain ⟨lit1, e2, i2⟩ := histoLits_inv ring mask start mb hR h256 c.insertLen k lit L hl hr1 (by omega)
    have hdd : ∃ dist1, (if copyLen c ≠ 0 ∧ c.cmdPrefix ≥ 128 then histoAdd dist (c.distPrefix % 1024) else Out.ok dist)
        = .ok dist1 ∧ HistoInv dist1 544 (D ++ distsOf [c]) := by
      by_cases hh : copyLen c ≠ 0 ∧ c.cmdPrefix ≥ 128
      · obtain ⟨d1, e3, i3⟩ := histoAdd_inv dist 544 D (c.distPrefix % 1024) hd hb2 (by omega)
        refine ⟨d1, by rw [if_pos hh, e3], ?_⟩
        have hf : hasDist c = true := by
          unfold hasDist; simp [hh.1, hh.2]
        have : distsOf [c] = [c.distPrefix % 1024] := by
          simp [distsOf, hf]
        rw [this]; exact i3
      · refine ⟨dist, by rw [if_neg hh], ?_⟩
        have hf : hasDist c = false := by
          unfold hasDist
          rw [Bool.and_eq_false_iff]
          by_cases h0 : copyLen c ≠ 0
          · right
            have : ¬ c.cmdPrefix ≥ 128 := fun h => hh ⟨h0, h⟩
            simpa using this
          · left; simpa using h0
        have : distsOf [c] = [] := by
          simp [distsOf, hf]
        rw [this]; simpa using hd
    obtain ⟨dist1, e3, i3⟩ := hdd
    have hlen : (mb.drop k).take c.insertLen = (mb.drop k).take c.insertLen := rfl
    have hl1 : ((mb.drop k).take c.insertLen).length = c.insertLen := by
      rw [List.length_take, List.length_drop]; omega
    have hd1 : (distsOf [c]).length ≤ 1 := by
      simp only [distsOf, List.length_map]
      exact Nat.le_trans (List.length_filter_le _ _) (by simp)
    obtain ⟨lit', cmd', dist', e4, j1, j2, j3⟩ := ih (k + c.insertLen + copyLen c) lit1 cmd1 dist1 _ _ _ i2 i1 i3 hr2
      (fun x hx => hb x (List.mem_cons_of_mem _ hx))
      (by simp only [List.length_append, hl1]; omega) (by simp; omega)
      (by simp only [List.length_append]; omega)
    refine ⟨lit', cmd', dist', ?_, ?_, ?_, ?_⟩
    · unfold buildHistograms
      rw [e1, Out.bind_ok, e2, Out.bind_ok]
      simp only
      rw [e3, Out.bind_ok, posOf_add, e4]
    · simpa [litsOf, List.append_assoc] using j1
    · simpa [List.append_assoc] using j2
    · have : distsOf (c :: cs) = distsOf [c] ++ distsOf cs := by
        simp only [distsOf, List.filter_cons, List.filter_nil]
        split <;> simp
      rw [this]
      simpa [List.append_assoc] using j3

theorem fastLitHisto_inv (ring : Bytes) (mask start : Nat) (mb : Bytes) (hR : RingHolds ring mask start mb)
    (h256 : ∀ b ∈ mb, b < 256) :
    ∀ (cmds : List Cmd) (k : Nat) (d : List Nat) (L : List Nat), DataInv d 256 L → Book mb.length k cmds →
      L.length + (mb.length - k) < two32 →
      ∃ d', fastLitHisto ring mask cmds (posOf start k) d L.length
          = .ok (d', L.length + (litsOf mb k cmds).length) ∧ DataInv d' 256 (L ++ litsOf mb k cmds) := by
  intro cmds
  induction cmds with
  | nil => intro k d L hd _ _; exact ⟨d, by simp [fastLitHisto, litsOf], by simpa [litsOf] using hd⟩
  | cons c cs ih =>
    intro k d L hd hr hb
    obtain ⟨hr1, hr2⟩ := hr
    have hr1 := Nat.le_trans (Nat.le_add_right _ _) hr1
    obtain ⟨h1, e1, d1, _⟩ := histoLits_data ring mask start mb hR h256 c.insertLen k ⟨d, 0⟩ L hd (by show (0 : Nat) < two64; decide) hr1 (by omega)
    have hl1 : ((mb.drop k).take c.insertLen).length = c.insertLen := by
      rw [List.length_take, List.length_drop]; omega
    obtain ⟨d', e2, d2⟩ := ih (k + c.insertLen + copyLen c) h1.data (L ++ (mb.drop k).take c.insertLen) d1 hr2
      (by simp only [List.length_append, hl1]; omega)
    refine ⟨d', ?_, ?_⟩
    · unfold fastLitHisto
      rw [e1, Out.bind_ok]
      simp only
      have hmod : (L.length + c.insertLen) % two64 = L.length + c.insertLen :=
        Nat.mod_eq_of_lt (by have : two32 < two64 := by decide
                             omega)
      rw [posOf_add, hmod]
      simp only [List.length_append, hl1] at e2
      rw [e2]
      simp [litsOf, hl1]
      omega
    · simpa [litsOf, List.append_assoc] using d2

theorem lockstep_le (wo : WordOracle) (np nd window : Nat) (mb : Bytes) : ∀ (cmds : List Cmd) (s : DecSt) (pos : Nat),
    lockstep wo np nd window mb s pos cmds = true → pos ≤ mb.length ∧ Book mb.length pos cmds
  | [], s, pos, h => by
    simp only [lockstep, Bool.and_eq_true, decide_eq_true_eq] at h
    exact ⟨by omega, trivial⟩
  | c :: cs, s, pos, h => by
    obtain ⟨_, _, hins, ⟨_, rfl, hc0, _⟩ | ⟨_, _, r, _, _, hl⟩⟩ := lockstep_head h
    · exact ⟨by omega, by rw [hc0]; exact hins, trivial⟩
    · have := lockstep_le wo np nd window mb cs _ _ hl
      exact ⟨by omega, this⟩

end BV.MetaBlock
