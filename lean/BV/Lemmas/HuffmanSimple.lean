/-
C17: the simple prefix code forms (NSYM = 1..4) written by
`StoreSimpleHuffmanTree` / the fast builder are read back by the RFC 7932 §3.4 reader: the exchange
sort lists the symbols by depth (`sortSymbols_sorted`), and the sorted depths of a complete code on
2..4 symbols are the list the reader assumes (`simplePattern_of_sorted`).  Also what the two
histogram scans leave (`Scanned`).
-/
import BV.Lemmas.HuffmanEntry
import BV.Lemmas.HuffmanStoreRead
import BV.Lemmas.HuffmanStoreTree

namespace BV.Lemmas.HuffmanSimple
open BV.Bits BV.Huffman BV.Lemmas.HuffmanCanon BV.Lemmas.HuffmanRead BV.Lemmas.HuffmanStoreRead
open BV.Lemmas.HuffmanCreate BV.Lemmas.HuffmanMerge BV.Lemmas.HuffmanEntry
open BV.Lemmas.HuffmanFib

def keyAt (d s : List Nat) (p : Nat) : Nat := d.getD (s.getD p 0) 0

theorem swap_perm (l : List Nat) (i j : Nat) (hi : i < l.length) (hj : j < l.length) (hij : i ≠ j) :
    ((l.set j (l.getD i 0)).set i (l.getD j 0)).Perm l := by
  have := BV.Lemmas.HuffmanSort.set_set_perm l i j hi hj hij l[j]
  rw [List.set_getElem_self] at this
  rw [getD_of_lt l i 0 hi, getD_of_lt l j 0 hj]
  exact this

theorem cx_spec (d s : List Nat) (i j : Nat) (hij : i < j) (hj : j < s.length)
    (hs : ∀ x ∈ s, x < d.length) :
    ∃ s1, (do
        let sj ← getAt s j
        let si ← getAt s i
        let dj ← getAt d sj
        let di ← getAt d si
        (if dj < di then (do let s ← setAt s j si; setAt s i sj) else Out.ok s)) = .ok s1 ∧
      s1.length = s.length ∧ s1.Perm s ∧ (∀ p, p ≠ i → p ≠ j → s1.getD p 0 = s.getD p 0) ∧
      ((s1.getD i 0 = s.getD i 0 ∧ s1.getD j 0 = s.getD j 0) ∨
        (s1.getD i 0 = s.getD j 0 ∧ s1.getD j 0 = s.getD i 0)) ∧
      keyAt d s1 i ≤ keyAt d s1 j ∧ keyAt d s1 i ≤ keyAt d s i := by
  have hi : i < s.length := by omega
  rw [getAt_getD s j 0 hj, Out.bind_ok, getAt_getD s i 0 hi, Out.bind_ok,
    getAt_getD d _ 0 (hs _ (getD_mem s j 0 hj)), Out.bind_ok,
    getAt_getD d _ 0 (hs _ (getD_mem s i 0 hi)), Out.bind_ok]
  by_cases hlt : d.getD (s.getD j 0) 0 < d.getD (s.getD i 0) 0
  · rw [if_pos hlt, setAt_of_lt s j _ hj, Out.bind_ok, setAt_of_lt _ i _ (by simp [hi])]
    have ei : ((s.set j (s.getD i 0)).set i (s.getD j 0)).getD i 0 = s.getD j 0 :=
      getD_set_eq _ i _ 0 (by simp [hi])
    have ej : ((s.set j (s.getD i 0)).set i (s.getD j 0)).getD j 0 = s.getD i 0 := by
      rw [getD_set_ne _ i j _ 0 (by omega), getD_set_eq _ j _ 0 hj]
    refine ⟨_, rfl, by simp, swap_perm s i j hi hj (by omega), fun p h1 h2 => ?_,
      Or.inr ⟨ei, ej⟩, ?_, ?_⟩
    · rw [getD_set_ne _ i p _ 0 (fun h => h1 h.symm), getD_set_ne _ j p _ 0 (fun h => h2 h.symm)]
    · unfold keyAt; rw [ei, ej]; omega
    · unfold keyAt; rw [ei]; omega
  · rw [if_neg hlt]
    exact ⟨s, rfl, rfl, List.Perm.refl _, fun _ _ _ => rfl, Or.inl ⟨rfl, rfl⟩,
      by unfold keyAt; omega, Nat.le_refl _⟩

theorem inner_sorted (d : List Nat) (i : Nat) : ∀ (c j : Nat) (s : List Nat), i < j →
    j + c ≤ s.length → (∀ x ∈ s, x < d.length) →
    ∃ s', sortSymbolsInner d i c j s = .ok s' ∧ s'.Perm s ∧
      (∀ p, p ≠ i → (p < j ∨ j + c ≤ p) → s'.getD p 0 = s.getD p 0) ∧
      (∀ q, i ≤ q → q < j + c → ∃ q', i ≤ q' ∧ q' < j + c ∧ s'.getD q 0 = s.getD q' 0) ∧
      ((∀ p, i < p → p < j → keyAt d s i ≤ keyAt d s p) → ∀ p, i < p → p < j + c → keyAt d s' i ≤ keyAt d s' p) := by
  intro c
  induction c with
  | zero =>
    intro j s _ _ _
    exact ⟨s, rfl, List.Perm.refl _, fun _ _ _ => rfl, fun q h1 h2 => ⟨q, h1, h2, rfl⟩,
      fun h p h1 h2 => h p h1 (by omega)⟩
  | succ c ih =>
    intro j s hij hlen hs
    obtain ⟨s1, e1, hl1, hp1, hf1, hsw, hmin1, hle1⟩ := cx_spec d s i j hij (by omega) hs
    obtain ⟨s', e2, hp2, hf2, hr2, hmin2⟩ := ih (j + 1) s1 (by omega) (by omega)
      (fun x hx => hs x (hp1.mem_iff.mp hx))
    have hK : ∀ p, p ≠ i → p ≠ j → keyAt d s1 p = keyAt d s p := fun p h1 h2 => by
      unfold keyAt; rw [hf1 p h1 h2]
    refine ⟨s', ?_, hp2.trans hp1, fun p h1 h2 => ?_, fun q h1 h2 => ?_, fun h p h1 h2 => ?_⟩
    · simp only [Out.bind_eq_ok] at e1
      obtain ⟨sj, h1, si, h2, dj, h3, di, h4, h5⟩ := e1
      simp only [sortSymbolsInner, h1, h2, h3, h4, h5, Out.bind_ok]
      exact e2
    · rw [hf2 p h1 (by omega), hf1 p h1 (by omega)]
    · obtain ⟨q', a, b, e⟩ := hr2 q h1 (by omega)
      rw [e]
      by_cases hqi : q' = i
      · rcases hsw with ⟨x, _⟩ | ⟨x, _⟩
        · exact ⟨i, Nat.le_refl _, by omega, by rw [hqi, x]⟩
        · exact ⟨j, by omega, by omega, by rw [hqi, x]⟩
      · by_cases hqj : q' = j
        · rcases hsw with ⟨_, x⟩ | ⟨_, x⟩
          · exact ⟨j, by omega, by omega, by rw [hqj, x]⟩
          · exact ⟨i, Nat.le_refl _, by omega, by rw [hqj, x]⟩
        · exact ⟨q', a, by omega, hf1 q' hqi hqj⟩
    · refine hmin2 (fun p h1 h2 => ?_) p h1 (by omega)
      by_cases hpj : p = j
      · rw [hpj]; exact hmin1
      · rw [hK p (by omega) hpj]
        exact Nat.le_trans hle1 (h p h1 (by omega))

theorem outer_sorted (d : List Nat) (n : Nat) : ∀ (c i : Nat) (s : List Nat), i + c = n →
    n ≤ s.length → (∀ x ∈ s, x < d.length) →
    (∀ p q, p < i → p < q → q < n → keyAt d s p ≤ keyAt d s q) →
    ∃ s', sortSymbolsOuter d n c i s = .ok s' ∧ s'.Perm s ∧
      (∀ p, n ≤ p → s'.getD p 0 = s.getD p 0) ∧
      ∀ p q, p < q → q < n → keyAt d s' p ≤ keyAt d s' q := by
  intro c
  induction c with
  | zero =>
    intro i s hi _ _ hinv
    exact ⟨s, rfl, List.Perm.refl _, fun _ _ => rfl, fun p q h1 h2 => hinv p q (by omega) h1 h2⟩
  | succ c ih =>
    intro i s hi hn hs hinv
    obtain ⟨s1, e1, hp1, hf1, hr1, hmin1⟩ := inner_sorted d i (n - (i + 1)) (i + 1) s (by omega)
      (by omega) hs
    have hb : i + 1 + (n - (i + 1)) = n := by omega
    rw [hb] at hf1 hr1 hmin1
    have hKlt : ∀ p, p < i → keyAt d s1 p = keyAt d s p := fun p hp => by
      unfold keyAt; rw [hf1 p (by omega) (Or.inl (by omega))]
    obtain ⟨s', e2, hp2, hf2, hsorted⟩ := ih (i + 1) s1 (by omega)
      (by rw [hp1.length_eq]; exact hn) (fun x hx => hs x (hp1.mem_iff.mp hx)) (fun p q h1 h2 h3 => by
        by_cases hpi : p = i
        · rw [hpi]; exact hmin1 (fun p h1 h2 => by omega) q (by omega) h3
        · rw [hKlt p (by omega)]
          by_cases hqi : q < i
          · rw [hKlt q hqi]; exact hinv p q (by omega) h2 h3
          · obtain ⟨q', a, b, e⟩ := hr1 q (by omega) h3
            unfold keyAt at hinv ⊢
            rw [e]; exact hinv p q' (by omega) (by omega) b)
    refine ⟨s', ?_, hp2.trans hp1, fun p hp => ?_, hsorted⟩
    · simp only [sortSymbolsOuter, e1, Out.bind_ok]; exact e2
    · rw [hf2 p hp, hf1 p (by omega) (Or.inr hp)]

theorem sortSymbols_sorted (d : List Nat) (n : Nat) (s : List Nat) (hn : n ≤ s.length)
    (hs : ∀ x ∈ s, x < d.length) :
    ∃ s', sortSymbolsOuter d n n 0 s = .ok s' ∧ s'.length = s.length ∧
      (s'.take n).Perm (s.take n) ∧
      s'.drop n = s.drop n ∧ ((s'.take n).map fun x => d.getD x 0).Pairwise (· ≤ ·) := by
  obtain ⟨s', e, hp, hf, hsorted⟩ := outer_sorted d n n 0 s (by omega) hn hs
    (fun p q h => absurd h (Nat.not_lt_zero p))
  have hlen : s'.length = s.length := hp.length_eq
  have hdrop : s'.drop n = s.drop n := by
    apply ext_getD _ _ 0 (by simp [hlen])
    intro k _
    rw [List.getD_eq_getElem?_getD, List.getD_eq_getElem?_getD, List.getElem?_drop,
      List.getElem?_drop, ← List.getD_eq_getElem?_getD, ← List.getD_eq_getElem?_getD]
    exact hf (n + k) (by omega)
  refine ⟨s', e, hlen, ?_, hdrop, ?_⟩
  · have := hp
    rw [← List.take_append_drop n s', ← List.take_append_drop n s, hdrop] at this
    exact (List.perm_append_right_iff _).mp this
  · rw [List.pairwise_iff_getElem]
    intro p q hp' hq' hpq
    simp only [List.length_map, List.length_take] at hp' hq'
    have := hsorted p q hpq (by omega)
    unfold keyAt at this
    simp only [List.getElem_map, List.getElem_take]
    rw [getD_of_lt s' p 0 (by omega), getD_of_lt s' q 0 (by omega)] at this
    exact this

def kterm (k : Nat) : Nat := if k = 0 then 0 else 2 ^ (15 - k)

/-- `sel` = the tree-select bit, only read for NSYM = 4 -/
def simplePattern (n : Nat) (sel : Bool) : List Nat :=
  if n = 2 then [1, 1] else if n = 3 then [1, 2, 2] else if sel then [1, 2, 3, 3] else [2, 2, 2, 2]

theorem pattern4 : ∀ a b c e : Fin 4, a.val ≠ 0 → a ≤ b → b ≤ c → c ≤ e →
    kterm a.val + kterm b.val + kterm c.val + kterm e.val = 32768 →
    [a.val, b.val, c.val, e.val] = simplePattern 4 (decide (a.val = 1)) := by decide

theorem pattern3 : ∀ a b c : Fin 3, a.val ≠ 0 → a ≤ b → b ≤ c →
    kterm a.val + kterm b.val + kterm c.val = 32768 →
    [a.val, b.val, c.val] = simplePattern 3 (decide (a.val = 1)) := by decide

theorem simplePattern_of_sorted (ks : List Nat) (hn : 2 ≤ ks.length ∧ ks.length ≤ 4)
    (hs : ks.Pairwise (· ≤ ·)) (h0 : ∀ k ∈ ks, k ≠ 0 ∧ k + 1 ≤ ks.length)
    (hk : (ks.map kterm).sum = 32768) :
    ks = simplePattern ks.length (decide (ks.headD 0 = 1)) := by
  match ks, hn with
  | [a, b], _ =>
    have ha := h0 a (by simp); have hb := h0 b (by simp)
    simp only [List.length_cons, List.length_nil] at ha hb
    have : a = 1 := by omega
    have : b = 1 := by omega
    subst_vars; rfl
  | [a, b, c], _ =>
    have ha := h0 a (by simp); have hb := h0 b (by simp); have hc := h0 c (by simp)
    simp only [List.length_cons, List.length_nil] at ha hb hc
    simp only [List.pairwise_cons, List.mem_cons, List.not_mem_nil, or_false, forall_eq_or_imp,
      forall_eq] at hs
    simp only [List.map_cons, List.map_nil, List.sum_cons, List.sum_nil, Nat.add_zero] at hk
    exact pattern3 ⟨a, by omega⟩ ⟨b, by omega⟩ ⟨c, by omega⟩ ha.1 hs.1.1 hs.2.1
      (by simpa [Nat.add_assoc] using hk)
  | [a, b, c, e], _ =>
    have ha := h0 a (by simp); have hb := h0 b (by simp); have hc := h0 c (by simp)
    have he := h0 e (by simp)
    simp only [List.length_cons, List.length_nil] at ha hb hc he
    simp only [List.pairwise_cons, List.mem_cons, List.not_mem_nil, or_false, forall_eq_or_imp,
      forall_eq] at hs
    simp only [List.map_cons, List.map_nil, List.sum_cons, List.sum_nil, Nat.add_zero] at hk
    exact pattern4 ⟨a, by omega⟩ ⟨b, by omega⟩ ⟨c, by omega⟩ ⟨e, by omega⟩ ha.1 hs.1.1 hs.2.1.1
      hs.2.2.1 (by simpa [Nat.add_assoc] using hk)

def simpleBody (n w s0 s1 s2 s3 : Nat) (sel : Bool) : List Bool :=
  bitsOf w s0 ++ (bitsOf w s1 ++
    (if n = 2 then [] else bitsOf w s2 ++
      (if n = 3 then [] else bitsOf w s3 ++ bitsOf 1 (if sel then 1 else 0))))

theorem storeSimpleTail_spec (d : List Nat) (n w s0 s1 s2 s3 d0 : Nat) (wr : Writer)
    (hn : n = 2 ∨ n = 3 ∨ n = 4) (hw : w ≤ 56)
    (h0 : s0 < 2 ^ w) (h1 : s1 < 2 ^ w) (h2 : s2 < 2 ^ w) (h3 : s3 < 2 ^ w)
    (hd0 : getAt d s0 = .ok d0) :
    storeSimpleTail d [s0, s1, s2, s3] n w wr
      = .ok (wr ++ simpleBody n w s0 s1 s2 s3 (decide (d0 = 1))) := by
  have hwm : w % 256 = w := Nat.mod_eq_of_lt (by omega)
  unfold storeSimpleTail simpleBody
  simp only [hwm, getAt, List.getElem?_cons_zero, List.getElem?_cons_succ, Out.bind_ok,
    writeBits_ok w s0 _ h0 hw, writeBits_ok w s1 _ h1 hw]
  rcases hn with rfl | rfl | rfl
  · simp
  · simp only [show ¬ (3 = 2) by decide, ↓reduceIte, Out.bind_ok, writeBits_ok w s2 _ h2 hw]
    simp
  · simp only [show ¬ (4 = 2) by decide, show ¬ (4 = 3) by decide, ↓reduceIte, Out.bind_ok,
      writeBits_ok w s2 _ h2 hw, writeBits_ok w s3 _ h3 hw]
    unfold getAt at hd0
    rw [hd0]
    simp only [Out.bind_ok]
    by_cases h : d0 = 1
    · simp [h, writeBits_ok 1 1 _ (by decide) (by decide)]
    · simp [h, writeBits_ok 1 0 _ (by decide) (by decide)]

theorem readSimple_spec (A n s0 s1 s2 s3 : Nat) (sel : Bool) (rest : List Bool)
    (hn : n = 2 ∨ n = 3 ∨ n = 4)
    (h0 : s0 < 2 ^ alphabetBits A) (h1 : s1 < 2 ^ alphabetBits A) (h2 : s2 < 2 ^ alphabetBits A)
    (h3 : s3 < 2 ^ alphabetBits A) :
    readPrefixCode A (bitsOf 2 1 ++ (bitsOf 2 (n - 1) ++
        (simpleBody n (alphabetBits A) s0 s1 s2 s3 sel ++ rest)))
      = some (placeLens A ([s0, s1, s2, s3].take n) (simplePattern n sel), rest) := by
  unfold readPrefixCode simpleBody
  rw [takeBits_bitsOf 2 1 _ (by decide)]
  simp only [Option.bind_eq_bind, Option.bind_some, ↓reduceIte]
  rcases hn with rfl | rfl | rfl
  · rw [takeBits_bitsOf 2 1 _ (by decide)]
    simp only [Option.bind_some, ↓reduceIte, List.append_assoc, List.nil_append]
    rw [takeBits_bitsOf _ s0 _ h0]
    simp only [Option.bind_some, show ¬ (1 = 0) by decide, ↓reduceIte]
    rw [takeBits_bitsOf _ s1 _ h1]
    simp [simplePattern]
  · rw [takeBits_bitsOf 2 2 _ (by decide)]
    simp only [Option.bind_some, show ¬ (3 = 2) by decide, ↓reduceIte, List.append_assoc,
      List.nil_append]
    rw [takeBits_bitsOf _ s0 _ h0]
    simp only [Option.bind_some, show ¬ (2 = 0) by decide, ↓reduceIte]
    rw [takeBits_bitsOf _ s1 _ h1]
    simp only [Option.bind_some, show ¬ (2 = 1) by decide, ↓reduceIte]
    rw [takeBits_bitsOf _ s2 _ h2]
    simp [simplePattern]
  · rw [takeBits_bitsOf 2 3 _ (by decide)]
    simp only [Option.bind_some, show ¬ (4 = 2) by decide, show ¬ (4 = 3) by decide, ↓reduceIte,
      List.append_assoc]
    rw [takeBits_bitsOf _ s0 _ h0]
    simp only [Option.bind_some, show ¬ (3 = 0) by decide, ↓reduceIte]
    rw [takeBits_bitsOf _ s1 _ h1]
    simp only [Option.bind_some, show ¬ (3 = 1) by decide, ↓reduceIte]
    rw [takeBits_bitsOf _ s2 _ h2]
    simp only [Option.bind_some, show ¬ (3 = 2) by decide, ↓reduceIte]
    rw [takeBits_bitsOf _ s3 _ h3]
    simp only [Option.bind_some]
    cases sel
    · simp only [Bool.false_eq_true, ↓reduceIte]
      rw [takeBits_bitsOf 1 0 _ (by decide)]
      simp [simplePattern]
    · simp only [↓reduceIte]
      rw [takeBits_bitsOf 1 1 _ (by decide)]
      simp [simplePattern]

theorem placeLens_spec (A : Nat) (f : Nat → Nat) : ∀ (S : List Nat), (∀ s ∈ S, s < A) →
    (placeLens A S (S.map f)).length = A ∧
      ∀ x, (placeLens A S (S.map f)).getD x 0 = if x ∈ S then f x else 0 := by
  intro S
  induction S with
  | nil =>
    intro _
    refine ⟨by simp [placeLens], fun x => ?_⟩
    simp only [placeLens, List.not_mem_nil, ↓reduceIte]
    exact getD_replicate A x 0
  | cons s S ih =>
    intro hlt
    obtain ⟨h1, h2⟩ := ih (fun x hx => hlt x (List.mem_cons_of_mem _ hx))
    have hs := hlt s (by simp)
    simp only [List.map_cons, placeLens]
    refine ⟨by simp [h1], fun x => ?_⟩
    rw [getD_set _ _ _ _ 0 (by rw [h1]; exact hs), h2 x]
    by_cases hsx : s = x
    · subst hsx; simp
    · have : ¬ x = s := fun h => hsx h.symm
      simp [hsx, this]

def ascNZ (h : List Nat) (c i : Nat) : List Nat := (List.range' i c).filter fun v => h.getD v 0 ≠ 0

theorem ascNZ_zero (h : List Nat) (i : Nat) : ascNZ h 0 i = [] := rfl

theorem ascNZ_succ (h : List Nat) (c i : Nat) :
    ascNZ h (c + 1) i = if h.getD i 0 = 0 then ascNZ h c (i + 1) else i :: ascNZ h c (i + 1) := by
  unfold ascNZ
  rw [List.range'_succ, List.filter_cons]
  split <;> simp_all

theorem mem_ascNZ (h : List Nat) (c i v : Nat) :
    v ∈ ascNZ h c i ↔ i ≤ v ∧ v < i + c ∧ h.getD v 0 ≠ 0 := by
  unfold ascNZ
  rw [List.mem_filter, List.mem_range'_1, decide_eq_true_eq, and_assoc]

theorem nodup_ascNZ (h : List Nat) (c i : Nat) : (ascNZ h c i).Nodup :=
  (List.nodup_range' (step := 1) (by decide)).filter _

theorem length_ascNZ (h : List Nat) : ∀ (c i : Nat), i + c ≤ h.length →
    (ascNZ h c i).length = (((h.drop i).take c).filter (· ≠ 0)).length := by
  intro c
  induction c with
  | zero => intro i _; simp [ascNZ_zero]
  | succ c ih =>
    intro i hi
    have hil : i < h.length := by omega
    have hd : (h.drop i).take (c + 1) = h.getD i 0 :: (h.drop (i + 1)).take c := by
      rw [List.drop_eq_getElem_cons hil, List.take_succ_cons, List.getD_eq_getElem?_getD,
        List.getElem?_eq_getElem hil]
      rfl
    rw [hd]
    simp only [ascNZ_succ]
    generalize h.getD i 0 = x
    by_cases h0 : x = 0
    · simp only [h0, ↓reduceIte, ih (i + 1) (by omega)]
      simp
    · simp only [h0, ↓reduceIte, List.length_cons, ih (i + 1) (by omega)]
      simp [h0]

def fillS (s4 : List Nat) : Nat → List Nat → List Nat
  | _, [] => s4
  | c, x :: xs => fillS (s4.set c x) (c + 1) xs

theorem fillS_pad : ∀ L : List Nat, L.length ≤ 4 →
    fillS [0, 0, 0, 0] 0 L = L ++ List.replicate (4 - L.length) 0
  | [], _ => rfl
  | [_], _ => rfl
  | [_, _], _ => rfl
  | [_, _, _], _ => rfl
  | [_, _, _, _], _ => rfl
  | _ :: _ :: _ :: _ :: _ :: _, h => by simp at h

structure Scanned (h : List Nat) (len count : Nat) (syms : List Nat) : Prop where
  hlen : syms.length = 4
  small : (ascNZ h len 0).length ≤ 4 →
    count = (ascNZ h len 0).length ∧ syms = fillS [0, 0, 0, 0] 0 (ascNZ h len 0)
  large : 5 ≤ (ascNZ h len 0).length → 5 ≤ count

/-- beyond four symbols the Rust loop stops counting (`break` at `count > 4`), so five or more are only known as `5 ≤ count` -/
theorem scanHistogram_out (h : List Nat) : ∀ (cnt i count : Nat) (s4 : List Nat),
    i + cnt ≤ h.length → s4.length = 4 →
    ∃ c s, scanHistogram h cnt i count s4 = .ok (c, s) ∧ s.length = 4 ∧
      (count + (ascNZ h cnt i).length ≤ 4 →
        c = count + (ascNZ h cnt i).length ∧ s = fillS s4 count (ascNZ h cnt i)) ∧
      (5 ≤ count + (ascNZ h cnt i).length → 5 ≤ c) := by
  intro cnt
  induction cnt with
  | zero => intro i count s4 _ hs; exact ⟨count, s4, rfl, hs, fun _ => ⟨rfl, rfl⟩, fun h5 => h5⟩
  | succ cnt ih =>
    intro i count s4 hlen hs
    have hi : i < h.length := by omega
    simp only [scanHistogram, getAt_getD h i 0 hi, Out.bind_ok, ascNZ_succ]
    by_cases h0 : h.getD i 0 = 0
    · simp only [h0, ne_eq, not_true_eq_false, ↓reduceIte]
      exact ih (i + 1) count s4 (by omega) hs
    · simp only [ne_eq, h0, not_false_eq_true, ↓reduceIte, List.length_cons, fillS]
      by_cases hc4 : count < 4
      · simp only [hc4, ↓reduceIte]
        obtain ⟨c, s, e, a, b, d⟩ := ih (i + 1) (count + 1) (s4.set count i) (by omega) (by simp [hs])
        exact ⟨c, s, e, a, fun h4 => by have := b (by omega); exact ⟨by omega, this.2⟩,
          fun h5 => d (by omega)⟩
      · simp only [hc4, ↓reduceIte]
        by_cases hc5 : count > 4
        · simp only [hc5, ↓reduceIte]
          exact ⟨count, s4, rfl, hs, fun h4 => by omega, fun _ => by omega⟩
        · simp only [hc5, ↓reduceIte]
          obtain ⟨c, s, e, a, _, d⟩ := ih (i + 1) (count + 1) s4 (by omega) hs
          exact ⟨c, s, e, a, fun h4 => by omega, fun _ => d (by omega)⟩

theorem kraft_placeLens (A : Nat) (f : Nat → Nat) : ∀ (S : List Nat), S.Nodup → (∀ s ∈ S, s < A) →
    kraftSum 15 (placeLens A S (S.map f)) = (S.map fun s => kterm (f s)).sum := by
  intro S
  induction S with
  | nil =>
    intro _ _
    simp only [List.map_nil, placeLens, List.sum_nil]
    exact kraftSum_replicate_zero 15 A
  | cons s S ih =>
    intro hnd hlt
    rw [List.nodup_cons] at hnd
    have hlt' : ∀ x ∈ S, x < A := fun x hx => hlt x (List.mem_cons_of_mem _ hx)
    obtain ⟨h1, h2⟩ := placeLens_spec A f S hlt'
    have hs := hlt s (by simp)
    simp only [List.map_cons, placeLens, List.sum_cons]
    have hold : (placeLens A S (S.map f)).getD s 0 = 0 := by rw [h2 s, if_neg hnd.1]
    have := BV.sum_map_set (fun l => if l = 0 then 0 else 2 ^ (15 - l)) 0
      (placeLens A S (S.map f)) s (f s) (by rw [h1]; exact hs)
    rw [hold] at this
    simp only [↓reduceIte, Nat.add_zero] at this
    unfold kraftSum at ih ⊢
    rw [this, ih hnd.2 hlt']
    unfold kterm
    omega

theorem lt_pow_bitWidth : ∀ (f x : Nat), x < 2 ^ f → x < 2 ^ bitWidth f x := by
  intro f
  induction f with
  | zero => intro x h; simp at h; subst h; simp [bitWidth]
  | succ f ih =>
    intro x h
    simp only [bitWidth]
    by_cases h0 : x = 0
    · simp [h0]
    · simp only [h0, ↓reduceIte]
      have := ih (x / 2) (by rw [Nat.pow_succ] at h; omega)
      rw [Nat.pow_succ]
      omega

theorem bitWidth_le : ∀ (f x k : Nat), x < 2 ^ k → bitWidth f x ≤ k := by
  intro f
  induction f with
  | zero => intro x k _; simp [bitWidth]
  | succ f ih =>
    intro x k h
    simp only [bitWidth]
    by_cases h0 : x = 0
    · simp [h0]
    · simp only [h0, ↓reduceIte]
      cases k with
      | zero => simp at h; omega
      | succ k =>
        have := ih (x / 2) k (by rw [Nat.pow_succ] at h; omega)
        omega

theorem alphabetBits_facts (A : Nat) (h1 : 1 ≤ A) (hA : A ≤ 65536) :
    alphabetBits A ≤ 56 ∧ ∀ a, a < A → a < 2 ^ alphabetBits A := by
  unfold alphabetBits
  have hlt : A - 1 < 2 ^ 16 := by
    have : (2:Nat) ^ 16 = 65536 := by decide
    omega
  refine ⟨by have := bitWidth_le 64 (A - 1) 16 hlt; omega, ?_⟩
  intro a ha
  have h64 : A - 1 < 2 ^ 64 := by
    have : (2:Nat) ^ 16 ≤ 2 ^ 64 := Nat.pow_le_pow_right (by decide) (by decide)
    omega
  have := lt_pow_bitWidth 64 (A - 1) h64
  omega

/-- `GoodDepth` at any limit `M ≤ 15`, seen at limit 15 and over `ascNZ`, without the frame (`simpleIn_of_good`) -/
structure SimpleIn (h d1 : List Nat) (len : Nat) : Prop where
  hl : len ≤ d1.length
  hsupp : ∀ v, v < len → (d1.getD v 0 ≠ 0 ↔ h.getD v 0 ≠ 0)
  hlim : ∀ v, v < len → d1.getD v 0 ≤ 15
  hcnt : ∀ v, v < len → d1.getD v 0 + 1 ≤ (ascNZ h len 0).length
  hkraft : kraftSum 15 (d1.take len) = 32768

theorem take_eq_placeLens (h d1 : List Nat) (len : Nat) (hin : SimpleIn h d1 len) :
    d1.take len = placeLens len (ascNZ h len 0) ((ascNZ h len 0).map fun x => d1.getD x 0) := by
  have hlt : ∀ s ∈ ascNZ h len 0, s < len := by
    intro s hs; have := (mem_ascNZ h len 0 s).mp hs; omega
  obtain ⟨h1, h2⟩ := placeLens_spec len (fun x => d1.getD x 0) _ hlt
  apply ext_getD _ _ 0
  · rw [h1, List.length_take]; have := hin.hl; omega
  · intro x _
    rw [h2 x]
    by_cases hx : x < len
    · have e : (d1.take len).getD x 0 = d1.getD x 0 := by
        simp [List.getD_eq_getElem?_getD, hx]
      rw [e]
      by_cases hm : x ∈ ascNZ h len 0
      · rw [if_pos hm]
      · rw [if_neg hm]
        by_cases hz : d1.getD x 0 = 0
        · exact hz
        · exfalso
          apply hm
          rw [mem_ascNZ]
          exact ⟨Nat.zero_le _, by omega, (hin.hsupp x hx).mp hz⟩
    · have e : (d1.take len).getD x 0 = 0 := by
        simp [List.getD_eq_getElem?_getD, List.getElem?_take, hx]
      rw [e, if_neg]
      intro hm
      have := (mem_ascNZ h len 0 x).mp hm
      omega

theorem key_facts (h d1 : List Nat) (len : Nat) (hin : SimpleIn h d1 len) :
    ((ascNZ h len 0).map fun x => kterm (d1.getD x 0)).sum = 32768 ∧
    ∀ s ∈ ascNZ h len 0, s < len ∧ d1.getD s 0 ≠ 0 ∧ d1.getD s 0 + 1 ≤ (ascNZ h len 0).length := by
  have hlt : ∀ s ∈ ascNZ h len 0, s < len := by
    intro s hs; have := (mem_ascNZ h len 0 s).mp hs; omega
  constructor
  · have := kraft_placeLens len (fun x => d1.getD x 0) _ (nodup_ascNZ h len 0) hlt
    rw [← take_eq_placeLens h d1 len hin, hin.hkraft] at this
    exact this.symm
  · intro s hs
    have hm := (mem_ascNZ h len 0 s).mp hs
    have hsl : s < len := by omega
    exact ⟨hsl, (hin.hsupp s hsl).mpr hm.2.2, hin.hcnt s hsl⟩

theorem simple_from_depths (h d1 : List Nat) (len A : Nat) (wr rest : List Bool)
    (hin : SimpleIn h d1 len) (hu : ∀ s ∈ ascNZ h len 0, s < A) (hA : A ≤ 65536)
    (hn : 2 ≤ (ascNZ h len 0).length ∧ (ascNZ h len 0).length ≤ 4) :
    ∃ bits, storeSimpleHuffmanTree d1 (fillS [0, 0, 0, 0] 0 (ascNZ h len 0))
        (ascNZ h len 0).length (alphabetBits A) wr = .ok (wr ++ bits) ∧
      readPrefixCode A (bits ++ rest)
        = some ((d1.take len ++ List.replicate (A - len) 0).take A, rest) := by
  obtain ⟨hsum, hfacts⟩ := key_facts h d1 len hin
  generalize hS : ascNZ h len 0 = S at *
  generalize hnn : S.length = n at *
  have hlen1 : 1 ≤ len ∧ 1 ≤ A := by
    cases S with
    | nil => simp at hnn; omega
    | cons a _ =>
      have := (hfacts a (by simp)).1
      have := hu a (by simp)
      omega
  obtain ⟨hw56, hbits⟩ := alphabetBits_facts A (by omega) hA
  have hdl := hin.hl
  rw [fillS_pad S (by omega), hnn]
  have htake : (S ++ List.replicate (4 - n) 0).take n = S := List.take_left' hnn
  have hdrop : (S ++ List.replicate (4 - n) 0).drop n = List.replicate (4 - n) 0 :=
    List.drop_left' hnn
  obtain ⟨s', hsort, hs'len, hperm, hdr, hpw⟩ := sortSymbols_sorted d1 n
    (S ++ List.replicate (4 - n) 0) (by simp; omega) (fun x hx => by
      rcases List.mem_append.mp hx with hx | hx
      · have := (hfacts x hx).1; omega
      · rw [(List.mem_replicate.mp hx).2]; omega)
  rw [htake] at hperm
  rw [hdrop] at hdr
  have hmem : ∀ x, x ∈ s'.take n ↔ x ∈ S := fun x => hperm.mem_iff
  have hpat := simplePattern_of_sorted ((s'.take n).map fun x => d1.getD x 0)
    (by simp [hs'len, hnn]; omega) hpw
    (fun k hk => by
      obtain ⟨x, hx, rfl⟩ := List.mem_map.mp hk
      have := hfacts x ((hmem x).mp hx)
      simp only [List.length_map, List.length_take, hs'len, List.length_append, hnn,
        List.length_replicate]
      exact ⟨this.2.1, by omega⟩)
    (by
      rw [List.map_map]
      have := (hperm.map (fun x => kterm (d1.getD x 0))).sum_nat
      rw [hsum] at this
      exact this)
  have hkl : ((s'.take n).map fun x => d1.getD x 0).length = n := by
    simp [hs'len, hnn]
  rw [hkl] at hpat
  obtain ⟨s0, s1, s2, s3, rfl⟩ : ∃ s0 s1 s2 s3, s' = [s0, s1, s2, s3] := by
    have : s'.length = 4 := by rw [hs'len]; simp; omega
    match s', this with
    | [s0, s1, s2, s3], _ => exact ⟨s0, s1, s2, s3, rfl⟩
  have hhead : (([s0, s1, s2, s3].take n).map fun x => d1.getD x 0).headD 0 = d1.getD s0 0 := by
    obtain ⟨m, rfl⟩ : ∃ m, n = m + 1 := ⟨n - 1, by omega⟩
    rfl
  rw [hhead] at hpat
  have hall : ∀ x ∈ [s0, s1, s2, s3], x < A ∧ x < d1.length := by
    intro x hx
    rw [← List.take_append_drop n [s0, s1, s2, s3]] at hx
    rcases List.mem_append.mp hx with hx | hx
    · have := hfacts x ((hmem x).mp hx); exact ⟨hu x ((hmem x).mp hx), by omega⟩
    · rw [hdr] at hx; rw [(List.mem_replicate.mp hx).2]; omega
  have hb : ∀ x ∈ [s0, s1, s2, s3], x < 2 ^ alphabetBits A := fun x hx => hbits x (hall x hx).1
  have hn3 : n = 2 ∨ n = 3 ∨ n = 4 := by omega
  refine ⟨bitsOf 2 1 ++ (bitsOf 2 (n - 1) ++ simpleBody n (alphabetBits A) s0 s1 s2 s3
    (decide (d1.getD s0 0 = 1))), ?_, ?_⟩
  · unfold storeSimpleHuffmanTree
    rw [BV.pred_mod n u64 (by omega) (by unfold u64; omega), writeBits_ok 2 1 wr (by decide) (by decide), Out.bind_ok,
      writeBits_ok 2 (n - 1) _ (by have : (2:Nat) ^ 2 = 4 := rfl; omega) (by decide), Out.bind_ok,
      hsort, Out.bind_ok,
      storeSimpleTail_spec d1 n (alphabetBits A) s0 s1 s2 s3 _ _ hn3 hw56 (hb s0 (by simp))
        (hb s1 (by simp)) (hb s2 (by simp)) (hb s3 (by simp))
        (getAt_getD d1 s0 0 (hall s0 (by simp)).2)]
    simp [List.append_assoc]
  · have hrd := readSimple_spec A n s0 s1 s2 s3 (decide (d1.getD s0 0 = 1)) rest hn3
      (hb s0 (by simp)) (hb s1 (by simp)) (hb s2 (by simp)) (hb s3 (by simp))
    simp only [List.append_assoc]
    rw [hrd, ← hpat]
    congr 2
    obtain ⟨hVl, hVg⟩ := placeLens_spec A (fun x => d1.getD x 0) ([s0, s1, s2, s3].take n)
      (fun x hx => hu x ((hmem x).mp hx))
    have hlt : (d1.take len).length = len := by rw [List.length_take]; omega
    apply ext_getD _ _ 0
    · rw [hVl, List.length_take, List.length_append, hlt, List.length_replicate]; omega
    · intro x _
      rw [hVg x]
      have hR : ((d1.take len ++ List.replicate (A - len) 0).take A).getD x 0
          = if x < A ∧ x < len then d1.getD x 0 else 0 := by
        rw [List.getD_eq_getElem?_getD, List.getElem?_take]
        by_cases hxA : x < A
        · rw [if_pos hxA]
          by_cases hx : x < len
          · rw [List.getElem?_append_left (by omega), if_pos ⟨hxA, hx⟩]
            simp [List.getD_eq_getElem?_getD, hx]
          · rw [List.getElem?_append_right (by omega), List.getElem?_replicate,
              if_neg (fun h : x < A ∧ x < len => hx h.2)]
            split <;> rfl
        · rw [if_neg hxA, if_neg (by omega)]; rfl
      rw [hR]
      by_cases hm : x ∈ S
      · rw [if_pos ((hmem x).mpr hm), if_pos ⟨hu x hm, (hfacts x hm).1⟩]
      · rw [if_neg (fun hx => hm ((hmem x).mp hx))]
        by_cases hx : x < A ∧ x < len
        · rw [if_pos hx]
          by_cases hz : d1.getD x 0 = 0
          · exact hz.symm
          · exfalso; apply hm
            rw [← hS, mem_ascNZ]
            exact ⟨Nat.zero_le _, by omega, (hin.hsupp x hx.2).mp hz⟩
        · rw [if_neg hx]

theorem maxBits_eq (A : Nat) (h1 : 1 ≤ A) (hA : A ≤ 65536) :
    bitWidth 64 ((A + u64 - 1) % u64) = alphabetBits A := by
  rw [BV.pred_mod A u64 h1 (by unfold u64; omega)]; rfl

theorem ascNZ_length_filter (h : List Nat) (len : Nat) (hl : len ≤ h.length) :
    (ascNZ h len 0).length = ((h.take len).filter (· ≠ 0)).length := by
  have := length_ascNZ h len 0 (by omega)
  simpa using this

theorem simpleIn_of_good (h d0 d1 : List Nat) (len M : Nat) (hM : M ≤ 15) (hl : len ≤ h.length)
    (hdl : len ≤ d0.length) (hg : GoodDepth h len M d0 d1) : SimpleIn h d1 len :=
  { hl := by rw [hg.hlen]; exact hdl, hsupp := hg.hsupp,
    hlim := fun v hv => Nat.le_trans (hg.hlim v hv) hM,
    hcnt := by
      intro v hv
      have := hg.hcnt v hv
      rw [(descNZ_take_filter h len hl).1, ← ascNZ_length_filter h len hl] at this
      exact this,
    hkraft := BV.Lemmas.HuffmanStoreTree.kraft_complete_15 M hM _
      (hg.take_le (by rw [hg.hlen]; exact hdl)) hg.hkraft }

theorem bits_forall_rest {w : Writer} {o : Out Writer} {P : List Bool → List Bool → Prop}
    (h : ∀ rest, ∃ bits, o = .ok (w ++ bits) ∧ P bits rest) :
    ∃ bits, o = .ok (w ++ bits) ∧ ∀ rest, P bits rest := by
  obtain ⟨b, e, _⟩ := h []
  refine ⟨b, e, fun rest => ?_⟩
  obtain ⟨b', e', p⟩ := h rest
  rw [e] at e'
  injection e' with e'
  rw [List.append_cancel_left e']
  exact p

theorem placeLens_single (A s0 : Nat) : placeLens A [s0] [0] = List.replicate A 0 :=
  List.set_replicate_self

theorem readSingle_spec (A s0 : Nat) (rest : List Bool) (h0 : s0 < 2 ^ alphabetBits A) :
    readPrefixCode A (bitsOf 4 1 ++ (bitsOf (alphabetBits A) s0 ++ rest))
      = some (List.replicate A 0, rest) := by
  have e : bitsOf 4 1 = bitsOf 2 1 ++ bitsOf 2 0 := by decide
  unfold readPrefixCode
  rw [e, List.append_assoc, takeBits_bitsOf 2 1 _ (by decide)]
  simp only [Option.bind_eq_bind, Option.bind_some, ↓reduceIte]
  rw [takeBits_bitsOf 2 0 _ (by decide)]
  simp only [Option.bind_some]
  rw [takeBits_bitsOf _ s0 _ h0]
  simp [placeLens_single]

/-- the `count ≤ 1` branch of both builders -/
theorem store_single (A s0 : Nat) (depth bits : List Nat) (w : List Bool) (hs : s0 < A)
    (hA1 : 1 ≤ A) (hA : A ≤ 65536) (hsd : s0 < depth.length) (hsb : s0 < bits.length) :
    (do let w ← writeBits 4 1 w
        let w ← writeBits (alphabetBits A % 256) s0 w
        let depth ← setAt depth s0 0
        let bits ← setAt bits s0 0
        Out.ok (depth, bits, w))
      = .ok (depth.set s0 0, bits.set s0 0, w ++ (bitsOf 4 1 ++ bitsOf (alphabetBits A) s0)) := by
  obtain ⟨hw56, hbits⟩ := alphabetBits_facts A hA1 hA
  rw [writeBits_ok 4 1 w (by decide) (by decide), Out.bind_ok,
    Nat.mod_eq_of_lt (show alphabetBits A < 256 by omega), writeBits_ok _ _ _ (hbits _ hs) hw56,
    Out.bind_ok, setAt_of_lt depth _ 0 hsd, Out.bind_ok, setAt_of_lt bits _ 0 hsb, Out.bind_ok,
    List.append_assoc]

theorem cons_eq_drop {l xs : List Nat} {x k : Nat} (h : x :: xs = l.drop k) :
    k < l.length ∧ l.getD k 0 = x ∧ xs = l.drop (k + 1) := by
  have hk : k < l.length := by
    by_cases hlt : k < l.length
    · exact hlt
    · rw [List.drop_eq_nil_of_le (by omega)] at h; cases h
  rw [List.drop_eq_getElem_cons hk] at h
  injection h with h1 h2
  refine ⟨hk, ?_, h2⟩
  rw [List.getD_eq_getElem?_getD, List.getElem?_eq_getElem hk]; simp [h1]

theorem sum_zero_getD : ∀ (l : List Nat), l.sum = 0 → ∀ i, l.getD i 0 = 0
  | [], _, i => by simp
  | x :: xs, h, i => by
    simp only [List.sum_cons] at h
    cases i with
    | zero => simp; omega
    | succ i => simpa using sum_zero_getD xs (by omega) i

/-- One induction for everything about `while total != 0 { … }`.  `h` is the whole histogram, `hs` the slice still to be
read: positions are absolute. -/
theorem fastScan_out (h : List Nat) : ∀ (hs : List Nat) (total len0 count : Nat)
    (syms : List Nat) (c' len' : Nat) (s' : List Nat), hs = h.drop len0 →
    fastScan hs total len0 count syms = .ok (c', s', len') →
    len0 ≤ len' ∧ len' ≤ max len0 h.length ∧ s'.length = syms.length ∧
      c' = count + (ascNZ h (len' - len0) len0).length ∧
      (c' ≤ 4 → s' = fillS syms count (ascNZ h (len' - len0) len0)) ∧
      ((total = 0 → len0 = 0 ∨ h.getD (len0 - 1) 0 ≠ 0) → len' = 0 ∨ h.getD (len' - 1) 0 ≠ 0) ∧
      (total = hs.sum → hs.sum < u64 → ∀ i, len' ≤ i → h.getD i 0 = 0) := by
  intro hs
  induction hs with
  | nil =>
    intro total len0 count syms c' len' s' hd hsc
    simp only [fastScan] at hsc
    split at hsc
    · rename_i ht
      injection hsc with hsc; injection hsc with h1 h2; injection h2 with h2 h3
      subst h1 h2 h3
      have hlen : h.length ≤ len0 := by have := congrArg List.length hd; simp at this; omega
      refine ⟨Nat.le_refl _, by omega, rfl, by simp [ascNZ_zero], fun _ => by simp [ascNZ_zero, fillS],
        fun h0 => h0 ht, fun _ _ i hi => ?_⟩
      rw [List.getD_eq_getElem?_getD, List.getElem?_eq_none (by omega)]; rfl
    · cases hsc
  | cons x xs ih =>
    intro total len0 count syms c' len' s' hd hsc
    obtain ⟨hl0, hx, hxs⟩ := cons_eq_drop hd
    simp only [fastScan] at hsc
    by_cases ht : total = 0
    · simp only [ht, ↓reduceIte] at hsc
      injection hsc with hsc; injection hsc with h1 h2; injection h2 with h2 h3
      subst h1 h2 h3
      refine ⟨Nat.le_refl _, by omega, rfl, by simp [ascNZ_zero], fun _ => by simp [ascNZ_zero, fillS],
        fun h0 => h0 ht, fun hsum _ i hi => ?_⟩
      have hall := sum_zero_getD (x :: xs) (by omega) (i - len0)
      rw [hd, List.getD_eq_getElem?_getD, List.getElem?_drop] at hall
      rw [List.getD_eq_getElem?_getD, ← hall]
      congr 2; omega
    · simp only [ht, ↓reduceIte] at hsc
      have e : ∀ l, len0 + 1 ≤ l → l - len0 = (l - (len0 + 1)) + 1 := fun l hl => by omega
      simp only [List.sum_cons]
      by_cases hx0 : x = 0
      · simp only [hx0, ne_eq, not_true_eq_false, ↓reduceIte] at hsc
        obtain ⟨a, b, c, d, f, g, k⟩ := ih total (len0 + 1) count syms c' len' s' hxs hsc
        rw [e len' a]
        simp only [ascNZ_succ, hx, hx0, ↓reduceIte]
        exact ⟨by omega, by omega, c, d, f, fun _ => g (fun h => absurd h ht),
          fun h1 h2 => k (by omega) (by omega)⟩
      · simp only [ne_eq, hx0, not_false_eq_true, ↓reduceIte] at hsc
        obtain ⟨a, b, c, d, f, g, k⟩ := ih _ (len0 + 1) (count + 1) _ c' len' s' hxs hsc
        rw [e len' a]
        simp only [ascNZ_succ, hx, hx0, ↓reduceIte, List.length_cons, fillS]
        refine ⟨by omega, by omega, by rw [c]; split <;> simp, by omega, fun h4 => ?_,
          fun _ => g (fun _ => Or.inr (by simp only [Nat.add_sub_cancel]; rw [hx]; exact hx0)),
          fun h1 h2 => k ?_ (by omega)⟩
        · rw [if_pos (show count < 4 by omega)] at f
          exact f h4
        · have e' : total + u64 - x = xs.sum + u64 := by omega
          rw [e', Nat.add_mod_right, Nat.mod_eq_of_lt (by omega)]

end BV.Lemmas.HuffmanSimple
