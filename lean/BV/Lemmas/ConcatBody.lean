/-
C03 / catable body: position independence of a member's meta-blocks, from the RFC 7932 meta-block
reader `BV.MetaBlock.readMetaBlockFull` (an independent reader; imported unchanged).

A member is read ALONE from the empty history with a ring of last distances that holds a huge placeholder `p`
in every slot (`p > window + 3`, e.g. 0x7ffffff0) and with the EMPTY static dictionary `noDict`.  If that
read succeeds, then
  * every copy was an LZ77 copy with distance ≤ min(bytes of the member so far, window): the only other branch
    of `applyCopy` asks the word oracle, and `noDict` has no words;
  * no distance symbol 0..15 was resolved through a slot that still held the placeholder: the distance would
    be ≥ p − 3 > window, not an LZ77 copy.
Hence the same bits, read after ANY history `a`, with ANY ring (related slot by slot: equal, or placeholder on
the lone side), any dictionary and any window at least as large, decode to `a ++ b`.
-/
import BV.Lemmas.MetaBlockWmbi
import BV.Lemmas.CatableReplay

namespace BV.CatBody
open BV.Gen BV.Bits BV.Huffman BV.PrefixArith BV.Recoder BV.MetaBlock BV.HeaderSpec

def noDict : WordOracle := fun _ _ _ => none

structure RingRel (p : Int) (ρ ρ' : List Int) : Prop where
  len : ρ.length = 4
  len' : ρ'.length = 4
  ent : ∀ i, i < 4 → ρ[i]? = ρ'[i]? ∨ ρ[i]? = some p

theorem RingRel.refl (p : Int) (ρ : List Int) (h : ρ.length = 4) : RingRel p ρ ρ :=
  ⟨h, h, fun _ _ => Or.inl rfl⟩

theorem RingRel.placeholder (p : Int) (ρ' : List Int) (h : ρ'.length = 4) : RingRel p [p, p, p, p] ρ' := by
  refine ⟨rfl, h, fun i hi => Or.inr ?_⟩
  match i, hi with
  | 0, _ => rfl
  | 1, _ => rfl
  | 2, _ => rfl
  | 3, _ => rfl

theorem RingRel.push {p : Int} {ρ ρ' : List Int} (h : RingRel p ρ ρ') (d : Int) :
    RingRel p (d :: ρ.take 3) (d :: ρ'.take 3) := by
  obtain ⟨h1, h2, h3⟩ := h
  match ρ, ρ', h1, h2 with
  | [a0, a1, a2, a3], [b0, b1, b2, b3], _, _ =>
    refine ⟨rfl, rfl, fun i hi => ?_⟩
    match i, hi with
    | 0, _ => exact Or.inl rfl
    | 1, _ => exact h3 0 (by omega)
    | 2, _ => exact h3 1 (by omega)
    | 3, _ => exact h3 2 (by omega)

/-- placeholders above the window are poisoned entries: the relation of `BV.Catable` holds -/
theorem RingRel.catable {p : Int} {ρ ρ' : List Int} (h : RingRel p ρ ρ') {window : Nat} (hp : (window : Int) + 3 < p) :
    BV.Catable.RingRel window ρ ρ' := by
  refine ⟨h.len.trans h.len'.symm, fun i a hi => ?_⟩
  rcases Nat.lt_or_ge i 4 with h4 | h4
  · rcases h.ent i h4 with e | e
    · right; rw [← e, hi]
    · left; rw [hi, Option.some.injEq] at e; rw [e]; exact hp
  · rw [List.getElem?_eq_none (by rw [h.len]; exact h4)] at hi; cases hi

theorem applyCopy_sim {p : Int} {ρ ρ' : List Int} (h : RingRel p ρ ρ') (wo' : WordOracle) (window window' : Nat)
    (hw : window ≤ window') (hp : (window : Int) + 3 < p) (a : Bytes) (np nd mlen done cl : Nat) (o : Bytes)
    (ds extra n : Nat) (s1 : RdSt)
    (hc : applyCopy noDict window np nd mlen done cl o ρ ds extra = some (n, s1)) :
    ∃ ρ1', applyCopy wo' window' np nd mlen done cl (a ++ o) ρ' ds extra = some (n, ⟨a ++ s1.out, ρ1'⟩) ∧
      RingRel p s1.ring ρ1' := by
  unfold applyCopy at hc
  cases hd : rfcDistance np nd ρ ds extra with
  | none => rw [hd] at hc; exact absurd hc (by simp)
  | some du =>
    obtain ⟨d, upd⟩ := du
    rw [hd] at hc
    dsimp only at hc
    by_cases d0 : d ≤ 0
    · rw [if_pos d0] at hc; exact absurd hc (by simp)
    rw [if_neg d0] at hc
    by_cases hlz : d.toNat ≤ min o.length window
    · rw [if_pos hlz] at hc
      by_cases hm : done + cl > mlen
      · rw [if_pos hm] at hc; exact absurd hc (by simp)
      rw [if_neg hm] at hc
      have e := BV.Catable.rfcDistance_indep (h.catable hp) np nd ds extra d upd (by
        have : d.toNat ≤ window := Nat.le_trans hlz (Nat.min_le_right _ _)
        omega) hd
      · simp only [Option.some.injEq, Prod.mk.injEq] at hc
        obtain ⟨hn, hs⟩ := hc
        subst hs
        refine ⟨if upd then d :: ρ'.take 3 else ρ', ?_, ?_⟩
        · unfold applyCopy
          rw [e]
          dsimp only
          have hlz' : d.toNat ≤ min (a ++ o).length window' := by
            rw [List.length_append]
            have : d.toNat ≤ o.length := Nat.le_trans hlz (Nat.min_le_left _ _)
            have : d.toNat ≤ window := Nat.le_trans hlz (Nat.min_le_right _ _)
            exact Nat.le_min.mpr ⟨by omega, by omega⟩
          rw [if_neg d0, if_pos hlz', if_neg hm, hn]
          rw [BV.Catable.copyBytes_prefix a n d.toNat o (Nat.le_trans hlz (Nat.min_le_left _ _))]
        · show RingRel p (if upd then d :: ρ.take 3 else ρ) _
          cases upd
          · exact h
          · exact h.push d
    · rw [if_neg hlz] at hc
      by_cases hcl : cl < 4 ∨ cl > 24
      · rw [if_pos hcl] at hc; exact absurd hc (by simp)
      · rw [if_neg hcl] at hc; exact absurd hc (by simp [noDict])

theorem readCopy_sim {p : Int} {ρ ρ' : List Int} (h : RingRel p ρ ρ') (wo' : WordOracle) (window window' : Nat)
    (hw : window ≤ window') (hp : (window : Int) + 3 < p) (a : Bytes) (np nd : Nat) (dist : Code)
    (mlen done : Nat) (imp : Bool) (cl : Nat) (o : Bytes) (bs : List Bool) (n : Nat) (s1 : RdSt) (r : List Bool)
    (hc : readCopy noDict window np nd dist mlen done imp cl o ρ bs = some (n, s1, r)) :
    ∃ ρ1', readCopy wo' window' np nd dist mlen done imp cl (a ++ o) ρ' bs = some (n, ⟨a ++ s1.out, ρ1'⟩, r) ∧
      RingRel p s1.ring ρ1' := by
  unfold readCopy at hc ⊢
  cases h1 : (if imp then some (0, bs) else dist.read bs) with
  | none => rw [h1] at hc; exact absurd hc (by simp)
  | some x =>
    obtain ⟨ds, b1⟩ := x
    rw [h1] at hc
    dsimp only at hc ⊢
    cases h2 : takeBits (if ds < 16 + nd then 0 else rfcDistNBits np nd ds) b1 with
    | none => rw [h2] at hc; exact absurd hc (by simp)
    | some y =>
      obtain ⟨extra, b2⟩ := y
      rw [h2] at hc
      dsimp only at hc ⊢
      cases h3 : applyCopy noDict window np nd mlen done cl o ρ ds extra with
      | none => rw [h3] at hc; exact absurd hc (by simp)
      | some z =>
        obtain ⟨n2, s2⟩ := z
        rw [h3] at hc
        simp only [Option.some.injEq, Prod.mk.injEq] at hc
        obtain ⟨e1, e2, e3⟩ := hc
        subst e1 e2 e3
        obtain ⟨ρ1', g1, g2⟩ := applyCopy_sim h wo' window window' hw hp a np nd mlen done cl o ds extra _ _ h3
        exact ⟨ρ1', by rw [g1], g2⟩

theorem readInsert_sim (a : Bytes) (lit cmd : Code) (mlen done : Nat) (o : Bytes) (bs : List Bool)
    (ins cl : Nat) (imp : Bool) (o1 : Bytes) (r : List Bool)
    (hc : readInsert lit cmd mlen done o bs = some (ins, cl, imp, o1, r)) :
    readInsert lit cmd mlen done (a ++ o) bs = some (ins, cl, imp, a ++ o1, r) := by
  unfold readInsert at hc ⊢
  cases h1 : cmd.read bs with
  | none => rw [h1] at hc; exact absurd hc (by simp)
  | some x =>
    obtain ⟨sym, b1⟩ := x
    rw [h1] at hc
    dsimp only at hc ⊢
    by_cases hs : sym ≥ 704
    · rw [if_pos hs] at hc; exact absurd hc (by simp)
    rw [if_neg hs] at hc ⊢
    cases h2 : rfcInsTable[(rfcCmdDecode sym).1]? with
    | none => rw [h2] at hc; exact absurd hc (by simp)
    | some ibe =>
      cases h3 : rfcCopyTable[(rfcCmdDecode sym).2.1]? with
      | none => rw [h2, h3] at hc; exact absurd hc (by simp)
      | some cbe =>
        obtain ⟨ib, ie⟩ := ibe
        obtain ⟨cb, ce⟩ := cbe
        rw [h2, h3] at hc
        dsimp only at hc ⊢
        cases h4 : takeBits ie b1 with
        | none => rw [h4] at hc; exact absurd hc (by simp)
        | some y =>
          obtain ⟨e1, b2⟩ := y
          rw [h4] at hc
          dsimp only at hc ⊢
          cases h5 : takeBits ce b2 with
          | none => rw [h5] at hc; exact absurd hc (by simp)
          | some z =>
            obtain ⟨e2, b3⟩ := z
            rw [h5] at hc
            dsimp only at hc ⊢
            by_cases hm : ib + e1 > mlen - done
            · rw [if_pos hm] at hc; exact absurd hc (by simp)
            rw [if_neg hm] at hc ⊢
            cases h6 : readLiterals lit (ib + e1) [] b3 with
            | none => rw [h6] at hc; exact absurd hc (by simp)
            | some u =>
              obtain ⟨lits, b4⟩ := u
              rw [h6] at hc
              simp only [Option.some.injEq, Prod.mk.injEq] at hc ⊢
              obtain ⟨g1, g2, g3, g4, g5⟩ := hc
              subst g4
              exact ⟨g1, g2, g3, List.append_assoc _ _ _, g5⟩

theorem readCommands_sim (wo' : WordOracle) (window window' : Nat) (hw : window ≤ window') (p : Int)
    (hp : (window : Int) + 3 < p) (a : Bytes) (np nd : Nat) (lit cmd dist : Code) (mlen : Nat) :
    ∀ (f done : Nat) (o : Bytes) (ρ ρ' : List Int) (bs : List Bool) (s1 : RdSt) (r : List Bool),
      RingRel p ρ ρ' →
      readCommands noDict window np nd lit cmd dist mlen f done ⟨o, ρ⟩ bs = some (s1, r) →
      ∃ ρ1', readCommands wo' window' np nd lit cmd dist mlen f done ⟨a ++ o, ρ'⟩ bs
          = some (⟨a ++ s1.out, ρ1'⟩, r) ∧ RingRel p s1.ring ρ1'
  | 0, _, _, _, _, _, _, _, _, hc => by simp [readCommands] at hc
  | f + 1, done, o, ρ, ρ', bs, s1, r, h, hc => by
    unfold readCommands at hc ⊢
    by_cases hd : done = mlen
    · rw [if_pos hd] at hc ⊢
      simp only [Option.some.injEq, Prod.mk.injEq] at hc
      obtain ⟨e1, e2⟩ := hc
      subst e1 e2
      exact ⟨ρ', rfl, h⟩
    rw [if_neg hd] at hc ⊢
    dsimp only at hc ⊢
    cases h1 : readInsert lit cmd mlen done o bs with
    | none => rw [h1] at hc; exact absurd hc (by simp)
    | some x =>
      obtain ⟨ins, cl, imp, o1, b1⟩ := x
      rw [h1] at hc
      rw [readInsert_sim a lit cmd mlen done o bs ins cl imp o1 b1 h1]
      dsimp only at hc ⊢
      by_cases hi : done + ins = mlen
      · rw [if_pos hi] at hc ⊢
        simp only [Option.some.injEq, Prod.mk.injEq] at hc
        obtain ⟨e1, e2⟩ := hc
        subst e1 e2
        exact ⟨ρ', rfl, h⟩
      rw [if_neg hi] at hc ⊢
      cases h2 : readCopy noDict window np nd dist mlen (done + ins) imp cl o1 ρ b1 with
      | none => rw [h2] at hc; exact absurd hc (by simp)
      | some y =>
        obtain ⟨n, s2, b2⟩ := y
        rw [h2] at hc
        dsimp only at hc
        obtain ⟨ρ2', g1, g2⟩ := readCopy_sim h wo' window window' hw hp a np nd dist mlen (done + ins) imp cl o1
          b1 n s2 b2 h2
        rw [g1]
        dsimp only
        exact readCommands_sim wo' window window' hw p hp a np nd lit cmd dist mlen f (done + ins + n) s2.out
          s2.ring ρ2' b2 s1 r g2 hc

-- one `match … with | none => none | some … =>` level of a reader, on the lone run `hc` and on the goal
set_option hygiene false in
local macro "mstep" : tactic =>
  `(tactic| (split at hc; (· exact absurd hc (by simp)); rename_i heq; try simp only [heq]))
-- one `if … then none else` level
set_option hygiene false in
local macro "istep" : tactic =>
  `(tactic| (split at hc; (· exact absurd hc (by simp)); rename_i heq; rw [if_neg heq]))

theorem readCompressedBody_sim (wo' : WordOracle) (window window' : Nat) (hw : window ≤ window') (p : Int)
    (hp : (window : Int) + 3 < p) (a : Bytes) (large : Bool) (mlen : Nat) (o : Bytes) (ρ ρ' : List Int)
    (bs : List Bool) (s1 : RdSt) (r : List Bool) (h : RingRel p ρ ρ')
    (hc : readCompressedBody noDict window large mlen ⟨o, ρ⟩ bs = some (s1, r)) :
    ∃ ρ1', readCompressedBody wo' window' large mlen ⟨a ++ o, ρ'⟩ bs = some (⟨a ++ s1.out, ρ1'⟩, r) ∧
      RingRel p s1.ring ρ1' := by
  unfold readCompressedBody at hc ⊢
  mstep; istep
  mstep; istep; mstep; istep; mstep; mstep
  dsimp only at hc ⊢
  mstep; mstep; istep; mstep; istep; mstep; mstep; mstep
  exact readCommands_sim wo' window window' hw p hp a _ _ _ _ _ mlen _ _ o ρ ρ' _ s1 r h hc

theorem readMetaBlockFull_sim (wo' : WordOracle) (window window' : Nat) (hw : window ≤ window') (p : Int)
    (hp : (window : Int) + 3 < p) (a : Bytes) (large : Bool) (pos : Nat) (o : Bytes) (ρ ρ' : List Int)
    (bs : List Bool) (s1 : RdSt) (il : Bool) (pos' : Nat) (r : List Bool) (h : RingRel p ρ ρ')
    (hc : readMetaBlockFull noDict window large pos ⟨o, ρ⟩ bs = some (s1, il, pos', r)) :
    ∃ ρ1', readMetaBlockFull wo' window' large pos ⟨a ++ o, ρ'⟩ bs = some (⟨a ++ s1.out, ρ1'⟩, il, pos', r) ∧
      RingRel p s1.ring ρ1' := by
  unfold readMetaBlockFull at hc ⊢
  cases h1 : HeaderSpec.readMetaBlock pos bs with
  | none => rw [h1] at hc; exact absurd hc (by simp)
  | some x =>
    obtain ⟨mb, q, r1⟩ := x
    rw [h1] at hc
    cases mb with
    | lastEmpty =>
      simp only [Option.some.injEq, Prod.mk.injEq] at hc ⊢
      obtain ⟨e1, e2, e3, e4⟩ := hc
      subst e1
      exact ⟨ρ', ⟨rfl, e2, e3, e4⟩, h⟩
    | metadata sk =>
      simp only [Option.some.injEq, Prod.mk.injEq] at hc ⊢
      obtain ⟨e1, e2, e3, e4⟩ := hc
      subst e1
      exact ⟨ρ', ⟨rfl, e2, e3, e4⟩, h⟩
    | raw payload =>
      simp only [Option.some.injEq, Prod.mk.injEq] at hc ⊢
      obtain ⟨e1, e2, e3, e4⟩ := hc
      subst e1
      exact ⟨ρ', ⟨by rw [List.append_assoc], e2, e3, e4⟩, h⟩
    | compressed mlen isLast =>
      dsimp only at hc ⊢
      cases h2 : readCompressedBody noDict window large mlen ⟨o, ρ⟩ r1 with
      | none => rw [h2] at hc; exact absurd hc (by simp)
      | some y =>
        obtain ⟨s2, r2⟩ := y
        rw [h2] at hc
        obtain ⟨ρ2', g1, g2⟩ := readCompressedBody_sim wo' window window' hw p hp a large mlen o ρ ρ' r1 s2 r2 h h2
        rw [g1]
        dsimp only at hc ⊢
        cases isLast with
        | false =>
          simp only [Bool.false_eq_true, if_false, Option.some.injEq, Prod.mk.injEq] at hc ⊢
          obtain ⟨e1, e2, e3, e4⟩ := hc
          subst e1
          exact ⟨ρ2', ⟨rfl, e2, e3, e4⟩, g2⟩
        | true =>
          simp only [if_true] at hc ⊢
          cases h3 : HeaderSpec.skipPad (q + (r1.length - r2.length)) r2 with
          | none => rw [h3] at hc; exact absurd hc (by simp)
          | some r3 =>
            rw [h3] at hc
            simp only [Option.some.injEq, Prod.mk.injEq] at hc ⊢
            obtain ⟨e1, e2, e3, e4⟩ := hc
            subst e1
            exact ⟨ρ2', ⟨rfl, e2, e3, e4⟩, g2⟩

end BV.CatBody
