import BV.Lemmas.StreamFrame
/-
What termination rests on, below the loops: the size of what one `encode_data` can leave pending (bounded by
the machine's own storage checks, `encodeData_store`), the bound `Cap` on the staging buffer during a call,
the carry and the padding obligation (`padB`, `push_lowers`), the descent all three potentials share (`pot_drop`), and
that no primitive returns `.fuel` by itself.  Not about sizes: after a successful `encode_data`, `last_processed_pos_`
has caught up with `input_pos_` (`encPayload_lp`, `encodeData_lp`), which the main loop's potential needs.
`OracleBounded` / `encodeData_pending_le` bound the same pending bytes from a bound on the oracle's answers instead;
no loop here assumes that (Props/C13 relates `OracleBounded` to `OracleOK.fits`).
-/
namespace BV.Stream
open BV.Bits

def OracleBounded (o : Oracle) (B : Nat) : Prop := ∀ k r, (o k r).bits.length ≤ B

theorem wholeBytes_length (w : Writer) : (wholeBytes w).length ≤ w.length / 8 := by
  unfold wholeBytes
  rw [List.length_take]
  exact Nat.min_le_left _ _

theorem payBits_length_le (ans : Ans) (w0 w : Writer) : (payBits ans w0 w).length ≤ w.length + ans.bits.length := by
  unfold payBits
  rw [List.length_append, List.length_drop]
  omega

theorem encPayload_pending {s s' : St} {ans : Ans} {w0 w : Writer} {hdr : Nat} {il ff res : Bool}
    (h : encPayload s ans w0 w hdr il ff = .ok (s', res)) :
    w.length / 8 + 2 ≤ s.storageSize ∧
    (s'.pending.length ≤ w.length / 8 ∨
     (s'.pending.length ≤ (payBits ans w0 w).length / 8 ∧ (payBits ans w0 w).length / 8 + 2 ≤ s.storageSize)) := by
  have hw : ∀ n, ((wholeBytes w).take n).length ≤ w.length / 8 := fun n => by
    rw [List.length_take]; exact Nat.le_trans (Nat.min_le_right _ _) (wholeBytes_length w)
  obtain ⟨_, h0, ⟨_, _, ⟨rfl, _⟩ | ⟨rfl, _⟩⟩ | ⟨_, rfl, h1, _⟩⟩ := encPayload_ok h
  · exact ⟨h0, Or.inl (hw hdr)⟩
  · exact ⟨h0, Or.inl (hw hdr)⟩
  · exact ⟨h0, Or.inr ⟨wholeBytes_length _, h1⟩⟩

theorem encodeData_pending_le {o : Oracle} {B : Nat} (hB : OracleBounded o B) {s s' : St} {site : Nat} {il ff : Bool} {req : Req}
    (h : encodeData o s site il ff = .ok (s', true, req)) :
    s'.pending.length ≤ (s.lastBytesBits + 176 + B) / 8 := by
  obtain ⟨_, _, hdr, hM, hpay⟩ := encodeData_spec h
  have hw := hM.wlen
  have hb := payBits_length_le (o s.nEnc (reqOf s site il ff)) s.carry (encMid s il).2
  have h3 := hB s.nEnc (reqOf s site il ff)
  rcases (encPayload_pending hpay).2 with hp | ⟨hp, _⟩
  · exact Nat.le_trans hp (Nat.div_le_div_right (by omega))
  · exact Nat.le_trans hp (Nat.div_le_div_right (by omega))

/-- a bound `M` valid for one whole call: the staging buffer as it is, and as `get_brotli_storage` can
make it in this call.  `encode_data` asks for `2 * span + 527` with `span ≤ input_pos_ + available_in − last_flush_pos_`
(second conjunct); the quality 0/1 loop (`fastStep`) asks for `2 * block + 503` with `block ≤ available_in` (third
conjunct, through `block_le` in StreamTermFast) -/
def Cap (M : Nat) (s : St) (io : Io) : Prop :=
  s.storageSize ≤ M ∧ 2 * (s.inputPos + io.availIn - s.lastFlushPos) + 527 ≤ M ∧ 2 * io.availIn + 527 ≤ M

/-- the part of `Cap` that does not look at the input still on offer: preserved by every step that
consumes no input.  The metadata loop runs under it.  For the other two loops it is the middle conjunct of
`slowStep_decreases` / `fastStep_decreases`: `Stalled` (Lemmas/AdaptersStream) takes that conjunct at a second bound
`K` beside `Cap M`; `slowLoop_terminates` / `fastLoop_terminates` do not use it -/
def MCap (M : Nat) (s : St) : Prop := s.storageSize ≤ M ∧ 2 * (s.inputPos - s.lastFlushPos) + 527 ≤ M

theorem span_mono {a a' b b' M : Nat} (ha : a' ≤ a) (hb : b ≤ b') (h : 2 * (a - b) + 527 ≤ M) :
    2 * (a' - b') + 527 ≤ M := by omega

theorem mcap_of_cap {M : Nat} {s : St} {io : Io} (h : Cap M s io) : MCap M s :=
  ⟨h.1, span_mono (Nat.le_add_right _ _) (Nat.le_refl _) h.2.1⟩

theorem wantStorage_le {s : St} (h1 : s.lastFlushPos ≤ s.lastProcessedPos) (h2 : s.lastProcessedPos ≤ s.inputPos)
    (h3 : s.inputPos < two64) : wantStorage s ≤ 2 * (s.inputPos - s.lastFlushPos) + 527 := by
  unfold wantStorage St.unprocessed
  rw [wsub64_eq h2 h3, wsub64_eq (Nat.le_trans h1 h2) h3]
  refine Nat.le_trans (Nat.mod_le _ _) ?_
  have := Nat.mod_le (s.inputPos - s.lastProcessedPos) two32
  omega

/-- `max …`: the staging buffer is the old one or the `get_brotli_storage` request of `encode_data` -/
theorem encodeData_store {o : Oracle} {s s' : St} {site : Nat} {il ff : Bool} {req : Req}
    (h : encodeData o s site il ff = .ok (s', true, req))
    (h1 : s.lastFlushPos ≤ s.lastProcessedPos) (h2 : s.lastProcessedPos ≤ s.inputPos) (h3 : s.inputPos < two64) :
    s'.pending.length + 2 ≤ s'.storageSize ∧
    s'.storageSize ≤ max s.storageSize (2 * (s.inputPos - s.lastFlushPos) + 527) ∧
    s.lastFlushPos ≤ s'.lastFlushPos ∧ s'.inputPos = s.inputPos := by
  have hpos := (encodeData_pos h h1 h2 h3).2.2.2
  have hip := (St.frame_eq (encodeData_frame h).1).inputPos
  obtain ⟨_, _, _, s2, w, hdr, hpre, hpay⟩ := encodeData_ok h
  have hst : s'.storageSize = (encEntry s il).storageSize := by
    rw [(encPayload_frame hpay).storageSize, (encPrelude_frame hpre).storageSize, (encPre_fields s il).2.2.2.2.2.1]
  have hs2 : s2.storageSize = s'.storageSize := (encPayload_frame hpay).storageSize.symm
  have hgrow : (encEntry s il).storageSize ≤ max s.storageSize (wantStorage s) := by
    unfold encEntry growStorage
    split
    · exact Nat.le_max_right _ _
    · exact Nat.le_max_left _ _
  have hwant := wantStorage_le h1 h2 h3
  obtain ⟨p0, hp⟩ := encPayload_pending hpay
  rw [hs2] at p0 hp
  refine ⟨by omega, ?_, hpos, hip⟩
  rw [hst]
  exact Nat.le_trans hgrow (by omega)

theorem encPayload_lp {s s' : St} {ans : Ans} {w0 w : Writer} {hdr : Nat} {il ff res : Bool}
    (h : encPayload s ans w0 w hdr il ff = .ok (s', res))
    (h1 : s.lastFlushPos ≤ s.lastProcessedPos) (h2 : s.lastProcessedPos ≤ s.inputPos) (h3 : s.inputPos < two64) :
    s'.lastProcessedPos = s.inputPos := by
  have hu : s.unprocessed = s.inputPos - s.lastProcessedPos := wsub64_eq h2 h3
  obtain ⟨_, _, ⟨_, _, ⟨rfl, hc⟩ | ⟨rfl, _⟩⟩ | ⟨_, rfl, _⟩⟩ := encPayload_ok h
  · show s.lastProcessedPos = s.inputPos
    rcases hc with ⟨_, hz⟩ | ⟨_, he⟩ <;> omega
  · rfl
  · rfl

theorem encodeData_lp {o : Oracle} {s s' : St} {site : Nat} {il ff : Bool} {req : Req}
    (h : encodeData o s site il ff = .ok (s', true, req))
    (h1 : s.lastFlushPos ≤ s.lastProcessedPos) (h2 : s.lastProcessedPos ≤ s.inputPos) (h3 : s.inputPos < two64) :
    s'.lastProcessedPos = s.inputPos := by
  obtain ⟨_, _, hdr, hM, hpay⟩ := encodeData_spec h
  obtain ⟨n, hn, p1, p2⟩ := hM.moved
  have hu : s.unprocessed = s.inputPos - s.lastProcessedPos := wsub64_eq h2 h3
  have fi := (St.frame_eq hM.frame).inputPos
  rw [← fi]
  exact encPayload_lp hpay (by omega) (by omega) (by rw [fi]; exact h3)

theorem encPayload_lbb {s s' : St} {ans : Ans} {w0 w : Writer} {hdr : Nat} {il ff res : Bool}
    (h : encPayload s ans w0 w hdr il ff = .ok (s', res)) :
    s'.lastBytesBits < 8 ∨ s'.lastBytesBits = s.lastBytesBits := by
  obtain ⟨_, _, ⟨_, _, ⟨rfl, _⟩ | ⟨rfl, _⟩⟩ | ⟨_, rfl, _⟩⟩ := encPayload_ok h
  · exact Or.inr rfl
  · exact Or.inr rfl
  · exact Or.inl (carryOf_lt _).2

theorem encPrelude_lbb {s s' : St} {w w' : Writer} {hdr hdr' bytes : Nat}
    (h : encPrelude s w hdr bytes = .ok (s', w', hdr')) :
    s'.lastBytesBits < 8 ∨ s'.lastBytesBits = s.lastBytesBits := by
  rcases encPrelude_ok h with ⟨_, _, rfl | rfl⟩ | ⟨_, _, rfl⟩
  · exact Or.inr rfl
  · exact Or.inr rfl
  · exact Or.inl (carryOf_lt _).2

theorem encMagic_lbb (s : St) (w0 : Writer) :
    (encMagic s w0).1.lastBytesBits < 8 ∨ (encMagic s w0).1.lastBytesBits = s.lastBytesBits := by
  unfold encMagic
  split
  · left; exact (carryOf_lt _).2
  · right; rfl

theorem encodeData_lbb {o : Oracle} {s s' : St} {site : Nat} {il ff res : Bool} {req : Req}
    (h : encodeData o s site il ff = .ok (s', res, req)) :
    s'.lastBytesBits < 8 ∨ s'.lastBytesBits = s.lastBytesBits := by
  obtain ⟨_, hc⟩ := encodeData_ok_cases h
  rcases hc with ⟨_, _, rfl⟩ | ⟨_, _, _, rfl⟩ | ⟨_, _, hrest⟩
  · exact Or.inr rfl
  · exact Or.inr rfl
  · obtain ⟨s2, w, hdr, hpre, hpay⟩ := encRest_ok hrest
    have e9 : (encEntry s il).lastBytesBits = s.lastBytesBits := by rw [encEntry_eq]
    rcases encPayload_lbb hpay with h1 | h1
    · exact Or.inl h1
    rcases encPrelude_lbb hpre with h2 | h2
    · left; omega
    rcases encMagic_lbb (encEntry s il) s.carry with h3 | h3
    · left; omega
    · right; omega

/-- what a padding block that is still due weighs in the potentials: it adds at most 3 bytes (carry of at most 14
bits, `push_lowers`), and one more so that the step that stages it lowers the potential -/
def padB (s : St) : Nat := if s.lastBytesBits ≠ 0 then 4 else 0

theorem padB_le (s : St) : padB s ≤ 4 := by unfold padB; split <;> omega

theorem pot_drop {a a' X lo lo' : Nat} (ha : a' < a) (hlo : lo' < X + lo) : a' * X + lo' < a * X + lo := by
  have := Nat.mul_le_mul_right X (Nat.succ_le_of_lt ha)
  rw [Nat.succ_mul] at this
  omega

theorem push_lowers {s s' : St} {io io' : Io} (hl : s.lastBytesBits ≤ 14)
    (h : injectFlushOrPushOutput s io = .ok (s', io', true)) :
    padB s' + s'.pending.length < padB s + s.pending.length ∧ s'.lastBytesBits ≤ s.lastBytesBits := by
  rcases push_ok h with ⟨hc, hp, _⟩ | ⟨_, hq, rfl, _⟩ | ⟨_, _, _, _, hb⟩
  · have hz := (pad_frame hp).lastBytesBits
    have hn : (s.lastBytesBits + 6 + 7) / 8 ≤ 3 := by omega
    unfold padB
    rw [hz, pad_pending hp, if_pos hc.2]
    simp only [ne_eq, not_true_eq_false, ↓reduceIte, List.length_append, sealBytes, List.length_map, List.length_range]
    omega
  · refine ⟨?_, Nat.le_refl _⟩
    show padB s + (s.pending.drop _).length < _
    rw [List.length_drop]
    have := hq.1; have := hq.2
    omega
  · cases hb

theorem ite_ne_fuel {α : Type} {c : Prop} [Decidable c] {a b : Out α} (ha : a ≠ .fuel) (hb : b ≠ .fuel) :
    (if c then a else b) ≠ .fuel := by
  by_cases hc : c
  · rw [if_pos hc]; exact ha
  · rw [if_neg hc]; exact hb

theorem pad_ne_fuel (s : St) : injectBytePaddingBlock s ≠ .fuel := by
  unfold injectBytePaddingBlock
  refine ite_ne_fuel ?_ nofun
  cases s.nextOut with
  | dyn off => exact ite_ne_fuel nofun nofun
  | tiny off => exact ite_ne_fuel nofun nofun
  | none => nofun

theorem push_ne_fuel (s : St) (io : Io) : injectFlushOrPushOutput s io ≠ .fuel := by
  unfold injectFlushOrPushOutput
  refine ite_ne_fuel ?_ (ite_ne_fuel (ite_ne_fuel nofun nofun) nofun)
  cases hp : injectBytePaddingBlock s with
  | ok s1 => nofun
  | panic => nofun
  | fuel => exact absurd hp (pad_ne_fuel s)

theorem ringInitBuffer_ne_fuel (rb : Ring) (n : Nat) : ringInitBuffer rb n ≠ .fuel := by
  unfold ringInitBuffer
  exact ite_ne_fuel nofun (ite_ne_fuel nofun nofun)

theorem ringGrow_ne_fuel (rb : Ring) : ringGrow rb ≠ .fuel := by
  unfold ringGrow
  refine ite_ne_fuel ?_ nofun
  cases hi : ringInitBuffer rb rb.totalSize with
  | ok rb' => exact ite_ne_fuel nofun nofun
  | panic => nofun
  | fuel => exact absurd hi (ringInitBuffer_ne_fuel _ _)

theorem ringWriteMain_ne_fuel (rb : Ring) (bs : Bytes) (a : Nat) : ringWriteMain rb bs a ≠ .fuel := by
  unfold ringWriteMain
  exact ite_ne_fuel nofun (ite_ne_fuel nofun (ite_ne_fuel nofun nofun))

theorem ringWrite_ne_fuel (rb : Ring) (bs : Bytes) (a : Nat) : ringWrite rb bs a ≠ .fuel := by
  unfold ringWrite
  refine ite_ne_fuel ?_ ?_
  · cases hi : ringInitBuffer { rb with pos := bs.length } bs.length with
    | ok rb' => exact ite_ne_fuel nofun nofun
    | panic => nofun
    | fuel => exact absurd hi (ringInitBuffer_ne_fuel _ _)
  · cases hg : ringGrow rb with
    | ok rb' => exact ringWriteMain_ne_fuel _ _ _
    | panic => nofun
    | fuel => exact absurd hg (ringGrow_ne_fuel _)

theorem copy_ne_fuel (s : St) (c : Bytes) (a : Nat) : copyInputToRingBuffer s c a ≠ .fuel := by
  unfold copyInputToRingBuffer
  dsimp only
  cases hr : ringWrite (ensureInitialized s).ring c a with
  | ok rb => exact ite_ne_fuel nofun nofun
  | panic => nofun
  | fuel => exact absurd hr (ringWrite_ne_fuel _ _ _)

theorem encPrelude_ne_fuel (s : St) (w : Writer) (hd b : Nat) : encPrelude s w hd b ≠ .fuel := by
  unfold encPrelude
  exact ite_ne_fuel nofun (ite_ne_fuel nofun (ite_ne_fuel (ite_ne_fuel nofun (ite_ne_fuel nofun nofun)) nofun))

theorem encPayload_ne_fuel (s : St) (a : Ans) (w0 w : Writer) (hd : Nat) (il ff : Bool) :
    encPayload s a w0 w hd il ff ≠ .fuel := by
  rw [encPayload_eq]
  exact ite_ne_fuel nofun (ite_ne_fuel (ite_ne_fuel nofun (ite_ne_fuel nofun nofun))
    (ite_ne_fuel nofun (ite_ne_fuel nofun (ite_ne_fuel nofun nofun))))

theorem encRest_ne_fuel (m : St × Writer × Nat) (a : Ans) (w0 : Writer) (b : Nat) (il ff : Bool) :
    encRest m a w0 b il ff ≠ .fuel := by
  unfold encRest
  cases hp : encPrelude m.1 m.2.1 m.2.2 b with
  | ok x => exact encPayload_ne_fuel _ _ _ _ _ _ _
  | panic => nofun
  | fuel => exact absurd hp (encPrelude_ne_fuel _ _ _ _)

theorem encodeData_ne_fuel (o : Oracle) (s : St) (site : Nat) (il ff : Bool) : encodeData o s site il ff ≠ .fuel := by
  unfold encodeData
  refine ite_ne_fuel nofun (ite_ne_fuel nofun (ite_ne_fuel nofun ?_))
  cases hr : encRest (encMagic (growStorage (encStart s il) (wantStorage s)) s.carry)
      (o s.nEnc (reqOf s site il ff)) s.carry (s.unprocessed % two32) il ff with
  | ok x => nofun
  | panic => nofun
  | fuel => exact absurd hr (encRest_ne_fuel _ _ _ _ _ _)

end BV.Stream
