/-
`BV/Model/Stored.lean` (C08): the closed form of `BrotliEncoderMaxCompressedSize`, and that `MakeUncompressedStream`
neither panics nor exceeds it when the output buffer has that size.
-/
import BV.Model.Stored
import BV.Lemmas.ListNat
namespace BV.Stored
open BV.Bits BV.Header BV.Bits.Out

/-- `t` is the source's `tail_overhead`: 4 when the tail `n − (n / 2^14)·2^24` exceeds 2^20, else 3.  That product stays
below 2^64 for `n < 2^54`, and there the tail is `n` or wraps to something large, so `t = 3` exactly when `n < 2^14` -/
theorem maxResult_eq (n : Nat) (hn : n < 2 ^ 64) :
    ∃ t, (t = 3 ∨ t = 4) ∧ (n < 2 ^ 54 → (t = 3 ↔ n < 2 ^ 14)) ∧
      maxResult n = (n + (2 + 4 * (n / 2 ^ 14) + t + 1)) % 2 ^ 64 := by
  simp only [maxResult, lit, litsMax, BV.Gen.lits_MaxCompressedSize, List.getD_cons_zero, List.getD_cons_succ, W64,
    Nat.shiftRight_eq_div_pow, Nat.shiftLeft_eq]
  have h4 : 4 * (n / 2 ^ 14) % 2 ^ 64 = 4 * (n / 2 ^ 14) := by
    apply Nat.mod_eq_of_lt; omega
  rw [h4]
  by_cases ht : (n + 2 ^ 64 - n / 2 ^ 14 * 2 ^ 24 % 2 ^ 64) % 2 ^ 64 > 1 * 2 ^ 20
  · refine ⟨4, Or.inr rfl, ?_, ?_⟩
    · intro h54
      constructor
      · intro h; omega
      · intro h14
        exfalso
        have : n / 2 ^ 14 = 0 := by omega
        rw [this] at ht
        omega
    · simp only [ht, if_true]
      have : (2 + 4 * (n / 2 ^ 14) + 4 + 1) % 2 ^ 64 = 2 + 4 * (n / 2 ^ 14) + 4 + 1 := by
        apply Nat.mod_eq_of_lt; omega
      rw [this]
  · refine ⟨3, Or.inl rfl, ?_, ?_⟩
    · intro h54
      constructor
      · intro _
        by_cases h14 : n < 2 ^ 14
        · exact h14
        · exfalso
          apply ht
          have hm : n / 2 ^ 14 * 2 ^ 24 % 2 ^ 64 = n / 2 ^ 14 * 2 ^ 24 := by
            apply Nat.mod_eq_of_lt; omega
          rw [hm]
          have ha1 : 1 ≤ n / 2 ^ 14 := by omega
          have ha2 : n / 2 ^ 14 < 2 ^ 40 := by omega
          have hlt : n < n / 2 ^ 14 * 2 ^ 24 := by omega
          have hc : n + 2 ^ 64 - n / 2 ^ 14 * 2 ^ 24 < 2 ^ 64 := by omega
          rw [Nat.mod_eq_of_lt hc]
          omega
      · intro _; rfl
    · simp only [ht, if_false]
      have : (2 + 4 * (n / 2 ^ 14) + 3 + 1) % 2 ^ 64 = 2 + 4 * (n / 2 ^ 14) + 3 + 1 := by
        apply Nat.mod_eq_of_lt; omega
      rw [this]

theorem maxCompressedSize_eq (n : Nat) :
    maxCompressedSize n = if n = 0 then 17 else if maxResult n < n then 0 else (maxResult n + 16) % 2 ^ 64 := rfl

theorem max_formula (n : Nat) (hn : n < 2 ^ 64) :
    ∃ t, (t = 3 ∨ t = 4) ∧ (n < 2 ^ 54 → (t = 3 ↔ n < 2 ^ 14)) ∧
      maxCompressedSize n =
        if n = 0 then 17
        else if 2 ^ 64 ≤ n + 4 * (n / 2 ^ 14) + t + 3 then 0
        else (n + 4 * (n / 2 ^ 14) + t + 3 + 16) % 2 ^ 64 := by
  obtain ⟨t, ht, h54, hr⟩ := maxResult_eq n hn
  refine ⟨t, ht, h54, ?_⟩
  rw [maxCompressedSize_eq, hr]
  have hq : n / 2 ^ 14 < 2 ^ 50 := Nat.div_lt_of_lt_mul (by omega)
  generalize n / 2 ^ 14 = q at hq ⊢
  by_cases h0 : n = 0
  · rw [if_pos h0, if_pos h0]
  rw [if_neg h0, if_neg h0, show n + (2 + 4 * q + t + 1) = n + 4 * q + t + 3 by omega]
  have h1 : n ≤ n + 4 * q + t + 3 := by omega
  have h2 : n + 4 * q + t + 3 < n + 2 ^ 64 := by omega
  generalize n + 4 * q + t + 3 = s at h1 h2 ⊢
  by_cases hw : 2 ^ 64 ≤ s
  · rw [if_pos hw, if_pos (by omega)]
  · rw [if_neg hw, Nat.mod_eq_of_lt (by omega), if_neg (by omega)]

theorem max_closed (n : Nat) (hn : n < 2 ^ 54) :
    maxCompressedSize n = if n = 0 then 17 else if n < 2 ^ 14 then n + 22 else n + 4 * (n / 2 ^ 14) + 23 := by
  obtain ⟨t, ht, h54, e⟩ := max_formula n (by omega)
  have h54 := h54 hn
  rw [e]
  have hq : n / 2 ^ 14 ≤ n := Nat.div_le_self _ _
  have hq0 : n < 2 ^ 14 → n / 2 ^ 14 = 0 := Nat.div_eq_of_lt
  generalize n / 2 ^ 14 = q at hq hq0 ⊢
  split
  · rfl
  · rw [if_neg (by omega), Nat.mod_eq_of_lt (by omega)]
    split <;> omega

def chunkOf (size : Nat) : Nat := if size > 2 ^ 24 then 2 ^ 24 else size

def nibOf (c : Nat) : Nat := if c > 2 ^ 16 then (if c > 2 ^ 20 then 2 else 1) else 0

/-- the header of a chunk as one number, lowest bit first: ISLAST = 0, MNIBBLES code from bit 1, MLEN − 1 from bit 3,
ISUNCOMPRESSED = 1 above it (bit 19, 23 or 27) -/
def wordOf (c : Nat) : Nat := nibOf c * 2 + (c - 1) * 8 + 2 ^ (19 + 4 * nibOf c)

def hdrBytes (c : Nat) : List Nat :=
  [wordOf c % 256, wordOf c / 2 ^ 8 % 256, wordOf c / 2 ^ 16 % 256] ++ (if nibOf c = 2 then [wordOf c / 2 ^ 24 % 256] else [])

theorem nibOf_cases (n : Nat) : (nibOf n = 0 ∧ n ≤ 2 ^ 16) ∨ (nibOf n = 1 ∧ 2 ^ 16 < n ∧ n ≤ 2 ^ 20) ∨ (nibOf n = 2 ∧ 2 ^ 20 < n) := by
  simp only [nibOf]
  split
  · split
    · right; right; exact ⟨rfl, by omega⟩
    · right; left; exact ⟨rfl, by omega, by omega⟩
  · left; exact ⟨rfl, by omega⟩

/-- number of MLEN nibbles of a meta-block of `len` bytes -/
def nibsOf (len : Nat) : Nat := if len ≤ 2 ^ 16 then 4 else if len ≤ 2 ^ 20 then 5 else 6

/-- `MakeUncompressedStream` computes the MNIBBLES code by hand (`nibOf`), `BrotliEncodeMlen` returns the nibble count -/
theorem nibsOf_eq (n : Nat) : nibsOf n = nibOf n + 4 := by
  unfold nibsOf nibOf
  by_cases a : n ≤ 2 ^ 16
  · rw [if_pos a, if_neg (by omega)]
  · by_cases b : n ≤ 2 ^ 20
    · rw [if_neg a, if_pos b, if_pos (by omega), if_neg (by omega)]
    · rw [if_neg a, if_neg b, if_pos (by omega), if_pos (by omega)]

theorem nibsOf_range (len : Nat) : 4 ≤ nibsOf len ∧ nibsOf len ≤ 6 := by
  simp only [nibsOf]; split <;> try split
  all_goals omega

theorem mlen_fits (len : Nat) (h1 : 1 ≤ len) (h2 : len ≤ 2 ^ 24) :
    len - 1 < 2 ^ (4 * nibsOf len) ∧ ¬ (nibsOf len > 4 ∧ (len - 1) / 2 ^ (4 * (nibsOf len - 1)) = 0) := by
  unfold nibsOf
  by_cases a : len ≤ 2 ^ 16
  · rw [if_pos a]; exact ⟨by show _ < 2 ^ 16; omega, fun h => by omega⟩
  · rw [if_neg a]
    by_cases b : len ≤ 2 ^ 20
    · rw [if_pos b]
      exact ⟨by show _ < 2 ^ 20; omega, fun h => by
        have := (Nat.div_eq_zero_iff_lt (Nat.pow_pos (by decide))).mp h.2
        rw [show (2 : Nat) ^ (4 * (5 - 1)) = 2 ^ 16 by decide] at this; omega⟩
    · rw [if_neg b]
      exact ⟨by show _ < 2 ^ 24; omega, fun h => by
        have := (Nat.div_eq_zero_iff_lt (Nat.pow_pos (by decide))).mp h.2
        rw [show (2 : Nat) ^ (4 * (6 - 1)) = 2 ^ 20 by decide] at this; omega⟩

theorem headerWord_eq (nib x : Nat) (hn : nib ≤ 2) (hx : x < 2 ^ (16 + 4 * nib)) :
    (nib <<< 1) % 2 ^ 32 ||| (x <<< 3) % 2 ^ 32 ||| (1 <<< ((19 + 4 * nib % 2 ^ 32) % 2 ^ 32)) % 2 ^ 32
      = nib * 2 + x * 8 + 2 ^ (19 + 4 * nib) := by
  have hp : 2 ^ (16 + 4 * nib) ≤ 2 ^ 24 := Nat.pow_le_pow_right (by decide) (by omega)
  have he : 2 ^ (19 + 4 * nib) = 8 * 2 ^ (16 + 4 * nib) := by
    rw [show 19 + 4 * nib = 3 + (16 + 4 * nib) by omega, Nat.pow_add]
  rw [Nat.shiftLeft_eq, Nat.shiftLeft_eq, Nat.shiftLeft_eq, Nat.one_mul, Nat.mod_eq_of_lt (a := 4 * nib) (by omega),
    Nat.mod_eq_of_lt (a := 19 + 4 * nib) (by omega), Nat.mod_eq_of_lt (a := nib * 2 ^ 1) (by omega),
    Nat.mod_eq_of_lt (a := x * 2 ^ 3) (by omega), Nat.mod_eq_of_lt (a := 2 ^ (19 + 4 * nib)) (by omega),
    or_eq_add_shift (nib * 2 ^ 1) x 3 (by omega)]
  have := or_eq_add_shift (nib * 2 ^ 1 + x * 2 ^ 3) 1 (19 + 4 * nib) (by omega)
  rw [Nat.one_mul] at this
  rw [this]

theorem chunkHeader_eq (c : Nat) (h1 : 1 ≤ c) (h2 : c ≤ 2 ^ 24) :
    chunkHeader c = (nibOf c, wordOf c) := by
  have e : chunkHeader c = (nibOf c, (nibOf c <<< 1) % 2 ^ 32 ||| (((c + 2 ^ 32 - 1) % 2 ^ 32) <<< 3) % 2 ^ 32 |||
      (1 <<< ((19 + 4 * nibOf c % 2 ^ 32) % 2 ^ 32)) % 2 ^ 32) := rfl
  have hc : (c + 2 ^ 32 - 1) % 2 ^ 32 = c - 1 := by omega
  rw [e, hc, headerWord_eq (nibOf c) (c - 1)
    (by rcases nibOf_cases c with ⟨h, _⟩ | ⟨h, _⟩ | ⟨h, _⟩ <;> omega)
    (by rcases nibOf_cases c with ⟨h, _⟩ | ⟨h, _⟩ | ⟨h, _⟩ <;> rw [h] <;> omega)]
  rfl

theorem chunk_eq (size : Nat) :
    (if size > (lit litsMus 12) <<< (lit litsMus 13) then (lit litsMus 14) <<< (lit litsMus 15) else size % 2 ^ 32)
      = chunkOf size := by
  simp only [lit, litsMus, BV.Gen.lits_MakeUncompressedStream, List.getD_cons_zero, List.getD_cons_succ, chunkOf]
  have e : (1 : Nat) <<< 24 = 2 ^ 24 := by decide
  rw [e]
  split
  · rfl
  · apply Nat.mod_eq_of_lt; omega

theorem chunkOf_pos (size : Nat) (h : 0 < size) : 1 ≤ chunkOf size ∧ chunkOf size ≤ size ∧ chunkOf size ≤ 2 ^ 24 := by
  simp only [chunkOf]; split <;> omega

theorem hdrBytes_length (c : Nat) : (hdrBytes c).length = if nibOf c = 2 then 4 else 3 := by
  simp only [hdrBytes]; split <;> simp

theorem push_ok (cap : Nat) (out : List Nat) (v : Nat) (h : out.length < cap) : push cap out v = ok (out ++ [v]) := by
  simp [push, h]

theorem slice_ok (l : List Nat) (a n : Nat) (h : a + n ≤ l.length) : slice l a n = ok ((l.drop a).take n) := by
  simp [slice, h]

theorem musLoop_step (cap : Nat) (input : List Nat) (size offset : Nat) (out : List Nat)
    (hs : 0 < size) (hcap : out.length + (hdrBytes (chunkOf size)).length + chunkOf size ≤ cap)
    (hin : offset + chunkOf size ≤ input.length) :
    musLoop cap input size offset out =
      musLoop cap input (size - chunkOf size) (offset + chunkOf size)
        (out ++ hdrBytes (chunkOf size) ++ (input.drop offset).take (chunkOf size)) := by
  obtain ⟨c1, c2, c3⟩ := chunkOf_pos size hs
  have hl := hdrBytes_length (chunkOf size)
  have h3 : 3 ≤ (hdrBytes (chunkOf size)).length := by rw [hl]; split <;> omega
  have hpush : ∀ k : List Nat → Out (List Nat),
      ((push cap out (wordOf (chunkOf size) % 256)).bind fun out =>
      (push cap out (wordOf (chunkOf size) / 2 ^ 8 % 256)).bind fun out =>
      (push cap out (wordOf (chunkOf size) / 2 ^ 16 % 256)).bind fun out =>
      (if nibOf (chunkOf size) = 2 then push cap out (wordOf (chunkOf size) / 2 ^ 24 % 256) else ok out).bind k)
      = k (out ++ hdrBytes (chunkOf size)) := by
    intro k
    rw [push_ok _ _ _ (by omega)]
    simp only [Out.bind]
    rw [push_ok _ _ _ (by simp only [List.length_append, List.length_singleton]; omega)]
    simp only []
    rw [push_ok _ _ _ (by simp only [List.length_append, List.length_singleton]; omega)]
    simp only []
    unfold hdrBytes
    by_cases hn : nibOf (chunkOf size) = 2
    · rw [if_pos hn] at hl
      rw [if_pos hn, if_pos hn, push_ok _ _ _ (by simp only [List.length_append, List.length_singleton]; omega)]
      simp only [List.append_assoc, List.cons_append, List.nil_append]
    · rw [if_neg hn, if_neg hn]
      simp only [List.append_assoc, List.cons_append, List.nil_append, List.append_nil]
  rw [musLoop]
  simp only [hs, dif_pos, chunk_eq, chunkHeader_eq (chunkOf size) c1 c3]
  simp only [lit, litsMus, BV.Gen.lits_MakeUncompressedStream, List.getD_cons_zero, List.getD_cons_succ,
    Nat.shiftRight_eq_div_pow]
  rw [hpush, if_neg (by rw [List.length_append]; omega), slice_ok _ _ _ hin]
  simp only [Out.bind]
  rw [dif_neg (by omega)]

theorem musLoop_zero (cap : Nat) (input : List Nat) (offset : Nat) (out : List Nat) :
    musLoop cap input 0 offset out = push cap out 3 := by
  rw [musLoop]; simp [lit, litsMus, BV.Gen.lits_MakeUncompressedStream]

def storedBody (size : Nat) : Nat :=
  if h : size > 0 then
    (if nibOf (chunkOf size) = 2 then 4 else 3) + chunkOf size + storedBody (size - chunkOf size)
  else 0
termination_by size
decreasing_by have := chunkOf_pos size h; omega

theorem storedBody_le (size : Nat) : storedBody size ≤ size + 4 * (size / 2 ^ 24) + (if size = 0 then 0 else 4) := by
  induction size using Nat.strongRecOn with
  | _ size ih =>
    rw [storedBody]
    by_cases hs : size > 0
    · rw [dif_pos hs, if_neg (show ¬ size = 0 by omega)]
      obtain ⟨c1, c2, c3⟩ := chunkOf_pos size hs
      have ih' := ih (size - chunkOf size) (by omega)
      have hh : (if nibOf (chunkOf size) = 2 then 4 else 3) ≤ 4 := by split <;> omega
      generalize (if nibOf (chunkOf size) = 2 then 4 else 3) = hd at hh ⊢
      by_cases hbig : size > 2 ^ 24
      · have hc : chunkOf size = 2 ^ 24 := if_pos hbig
        rw [hc] at ih' ⊢
        rw [if_neg (show ¬ size - 2 ^ 24 = 0 by omega), show (size - 2 ^ 24) / 2 ^ 24 = size / 2 ^ 24 - 1 by omega] at ih'
        have h1 : 1 ≤ size / 2 ^ 24 := by omega
        omega
      · have hc : chunkOf size = size := if_neg hbig
        rw [hc, Nat.sub_self] at ih' ⊢
        rw [if_pos rfl] at ih'
        omega
    · rw [dif_neg hs]; exact Nat.zero_le _

theorem storedBody_small (size : Nat) (h0 : 0 < size) (h : size ≤ 2 ^ 16) : storedBody size = size + 3 := by
  rw [storedBody]
  have hc : chunkOf size = size := by simp [chunkOf]; omega
  have hn : nibOf size = 0 := by simp [nibOf]; omega
  simp only [h0, dif_pos, hc, hn, Nat.sub_self]
  have : storedBody 0 = 0 := by rw [storedBody]; simp
  rw [this]; simp; omega

def chunksOf (l : List Nat) : List (List Nat) :=
  if _h : l.length > 0 then l.take (chunkOf l.length) :: chunksOf (l.drop (chunkOf l.length)) else []
termination_by l.length
decreasing_by have := chunkOf_pos l.length _h; simp; omega

theorem chunksOf_nil : chunksOf [] = [] := by rw [chunksOf]; simp

def bodyBytes (cs : List (List Nat)) : List Nat := cs.flatMap (fun c => hdrBytes c.length ++ c)

theorem musLoop_content (cap : Nat) (input : List Nat) :
    ∀ (size offset : Nat) (out : List Nat), offset + size ≤ input.length →
      out.length + storedBody size + 1 ≤ cap →
      musLoop cap input size offset out
        = ok (out ++ bodyBytes (chunksOf ((input.drop offset).take size)) ++ [3]) := by
  intro size
  induction size using Nat.strongRecOn with
  | _ size ih =>
    intro offset out hin hcap
    by_cases hs : size > 0
    · obtain ⟨c1, c2, c3⟩ := chunkOf_pos size hs
      have hb : storedBody size = (if nibOf (chunkOf size) = 2 then 4 else 3) + chunkOf size
          + storedBody (size - chunkOf size) := by
        rw [storedBody]; simp [hs]
      have hl := hdrBytes_length (chunkOf size)
      rw [musLoop_step cap input size offset out hs (by rw [hl]; omega) (by omega)]
      rw [ih (size - chunkOf size) (by omega) (offset + chunkOf size) _ (by omega) (by simp [hl]; omega)]
      congr 1
      have hlen : ((input.drop offset).take size).length = size := by simp; omega
      rw [chunksOf.eq_1 ((input.drop offset).take size)]
      simp only [hlen, hs, dif_pos, bodyBytes, List.flatMap_cons]
      have t1 : ((input.drop offset).take size).take (chunkOf size) = (input.drop offset).take (chunkOf size) := by
        rw [List.take_take]; congr 1; omega
      have t2 : ((input.drop offset).take size).drop (chunkOf size)
          = (input.drop (offset + chunkOf size)).take (size - chunkOf size) := by
        rw [List.drop_take, List.drop_drop]
      rw [t1, t2]
      have t3 : ((input.drop offset).take (chunkOf size)).length = chunkOf size := by simp; omega
      rw [t3]
      simp [List.append_assoc]
    · have : size = 0 := by omega
      subst this
      have hb : storedBody 0 = 0 := by rw [storedBody]; simp
      rw [musLoop_zero, push_ok _ _ _ (by omega)]
      simp [chunksOf_nil, bodyBytes]

theorem bodyBytes_length (l : List Nat) : (bodyBytes (chunksOf l)).length = storedBody l.length := by
  induction hn : l.length using Nat.strongRecOn generalizing l with
  | _ n ih =>
    subst hn
    rw [chunksOf, storedBody]
    by_cases h : l.length > 0
    · obtain ⟨c1, c2, c3⟩ := chunkOf_pos l.length h
      have hl : (l.take (chunkOf l.length)).length = chunkOf l.length := by rw [List.length_take]; omega
      have := ih (l.drop (chunkOf l.length)).length (by rw [List.length_drop]; omega) _ rfl
      rw [bodyBytes, List.length_drop] at this
      rw [dif_pos h, dif_pos h, bodyBytes, List.flatMap_cons, List.length_append, List.length_append,
        hdrBytes_length, hl, this]
    · rw [dif_neg h, dif_neg h]; rfl

theorem musLoop_ok (cap : Nat) (input : List Nat) (size offset : Nat) (out : List Nat)
    (hin : offset + size ≤ input.length) (hcap : out.length + storedBody size + 1 ≤ cap) :
    ∃ r, musLoop cap input size offset out = ok r ∧ r.length = out.length + storedBody size + 1 := by
  refine ⟨_, musLoop_content cap input size offset out hin hcap, ?_⟩
  have hl : ((input.drop offset).take size).length = size := by rw [List.length_take, List.length_drop]; omega
  rw [List.length_append, List.length_append, bodyBytes_length, hl]
  rfl

theorem mus_fits (x : List Nat) (cap : Nat) (hn : x.length < 2 ^ 54) (hcap : maxCompressedSize x.length ≤ cap) :
    ∃ out, makeUncompressedStream x x.length cap = ok out ∧ out.length ≤ maxCompressedSize x.length ∧
      out.length = if x.length = 0 then 1 else 3 + storedBody x.length := by
  have hm := max_closed x.length hn
  simp only [makeUncompressedStream, lit, litsMus, BV.Gen.lits_MakeUncompressedStream, List.getD_cons_zero,
    List.getD_cons_succ]
  by_cases h0 : x.length = 0
  · have h17 : maxCompressedSize x.length = 17 := by rw [hm]; simp [h0]
    simp only [h0, if_true]
    rw [push_ok _ _ _ (by simp; omega)]
    exact ⟨_, rfl, by rw [← h0, h17]; decide, by simp⟩
  · simp only [h0, if_false] at hm ⊢
    have hb := storedBody_le x.length
    simp only [h0, if_false] at hb
    have hfit : 3 + storedBody x.length ≤ maxCompressedSize x.length := by
      rw [hm]
      by_cases h14 : x.length < 2 ^ 14
      · simp only [h14, if_true]
        rw [storedBody_small _ (by omega) (by omega)]; omega
      · simp only [h14, if_false]
        have : x.length / 2 ^ 24 ≤ x.length / 2 ^ 14 := by omega
        omega
    rw [push_ok _ _ _ (by simp; omega)]
    simp only [Out.bind]
    rw [push_ok _ _ _ (by simp; omega)]
    simp only []
    obtain ⟨r, h1, h2⟩ := musLoop_ok cap x x.length 0 ([] ++ [33] ++ [3]) (by omega) (by simp; omega)
    refine ⟨r, h1, ?_, ?_⟩
    · rw [h2]; simp; omega
    · rw [h2]; simp; omega

theorem stored_example : makeUncompressedStream [1, 2, 3] 3 (maxCompressedSize 3) = ok [0x21, 0x03, 0x10, 0x00, 0x08, 1, 2, 3, 0x03] := by
  have hm : maxCompressedSize 3 = 25 := by decide
  rw [hm]
  simp only [makeUncompressedStream, lit, litsMus, BV.Gen.lits_MakeUncompressedStream, List.getD_cons_zero,
    List.getD_cons_succ]
  simp only [show ¬ (3 = 0) by decide, if_false]
  rw [push_ok _ _ _ (by decide)]
  simp only [Out.bind]
  rw [push_ok _ _ _ (by decide)]
  simp only []
  rw [musLoop_step _ _ _ _ _ (by decide) (by decide) (by decide)]
  have : 3 - chunkOf 3 = 0 := by decide
  rw [this, musLoop_zero, push_ok _ _ _ (by decide)]
  decide

end BV.Stored
