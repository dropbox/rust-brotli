/-
The header realignment of `shift_and_check_new_stream_header` at the bit level: the realigned bytes,
read as bits, are the tail bits, the member's header bits behind its window field, zero padding
(`splice_header_bits`, C03 `splice_header`).
-/
import BV.Lemmas.ConcatBits
import BV.Lemmas.ConcatShift
namespace BV.Concat
open Outcome BV.Gen

def leByte (Y j : Nat) : Nat := (Y >>> (8 * j)) % 256

theorem realign_first (t X k : Nat) (hk : k < 8) (ht : t < 2 ^ k) :
    t ||| (((X &&& ((1 <<< (8 - k)) - 1)) <<< k) % 256) = leByte (t + X * 2 ^ k) 0 := by
  obtain ⟨hmod, hdiv⟩ := add_mul_two_pow t X k ht
  rw [Nat.one_shiftLeft, Nat.and_two_pow_sub_one_eq_mod, Nat.shiftLeft_eq, Nat.mod_eq_of_lt (field_shl_lt X k hk),
    ← Nat.shiftLeft_eq, or_shl _ _ _ ht, leByte, Nat.mul_zero, Nat.shiftRight_zero, byte_split k hk,
    Nat.mod_mul, hmod, hdiv, Nat.mul_comm]

theorem realign_byte (t X k j : Nat) (hk : k < 8) (ht : t < 2 ^ k) :
    ((X >>> (8 * j)) >>> (8 - k)) % 256 = leByte (t + X * 2 ^ k) (j + 1) := by
  unfold leByte
  simp only [Nat.shiftRight_eq_div_pow]
  have e : 2 ^ (8 * (j + 1)) = 2 ^ k * (2 ^ (8 * j) * 2 ^ (8 - k)) := by
    rw [← Nat.pow_add, ← Nat.pow_add]; congr 1; omega
  rw [e, ← Nat.div_div_eq_div_mul, Nat.div_div_eq_div_mul X, (add_mul_two_pow t X k ht).2]

theorem rbyte_eq_leByte (t X k j : Nat) (hk : k < 8) (ht : t < 2 ^ k) :
    rbyte t X k j = leByte (t + X * 2 ^ k) j := by
  cases j with
  | zero => exact realign_first t X k hk ht
  | succ j => exact realign_byte t X k j hk ht

theorem leByte_succ (Y j : Nat) : leByte Y (j + 1) = leByte (Y / 256) j := by
  unfold leByte
  rw [Nat.shiftRight_eq_div_pow, Nat.shiftRight_eq_div_pow, Nat.div_div_eq_div_mul]
  have : 2 ^ (8 * (j + 1)) = 256 * 2 ^ (8 * j) := by
    rw [show 8 * (j + 1) = 8 + 8 * j by omega, Nat.pow_add]
  rw [this]

theorem bytesToBits_le : ∀ (n : Nat) (R : List Nat) (Y : Nat),
    (∀ j, j < n → R[j]? = some (leByte Y j)) → bytesToBits (R.take n) = bitsOf (8 * n) Y := by
  intro n
  induction n with
  | zero => intro R Y _; simp [bytesToBits, bitsOf]
  | succ n ih =>
    intro R Y h
    cases R with
    | nil => have := h 0 (by omega); simp at this
    | cons r R' =>
      have h0 := h 0 (by omega)
      simp only [List.getElem?_cons_zero, Option.some.injEq] at h0
      have hrest : ∀ j, j < n → R'[j]? = some (leByte (Y / 256) j) := by
        intro j hj
        have := h (j + 1) (by omega)
        rw [List.getElem?_cons_succ, leByte_succ] at this
        exact this
      have e : 8 * (n + 1) = 8 + 8 * n := by omega
      rw [List.take_succ_cons, e, bitsOf_append]
      have := ih R' (Y / 256) hrest
      unfold bytesToBits at this ⊢
      rw [List.flatMap_cons, this, h0]
      unfold leByte
      simp only [Nat.mul_zero, Nat.shiftRight_zero]
      rw [show (256 : Nat) = 2 ^ 8 by decide, bitsOf_mod]

theorem field_bits (H wo d : Nat) :
    bitsOf d ((H >>> wo) &&& ((1 <<< d) - 1)) = ((bitsOf (wo + d) H).drop wo) := by
  rw [Nat.one_shiftLeft, Nat.and_two_pow_sub_one_eq_mod, bitsOf_mod, bitsOf_append, Nat.shiftRight_eq_div_pow,
    List.drop_left' (bitsOf_length wo H)]

def leVal : List Nat → Nat
  | [] => 0
  | b :: t => b + 256 * leVal t

theorem leVal_lt : ∀ bs : List Nat, (∀ y, y ∈ bs → y < 256) → leVal bs < 2 ^ (8 * bs.length) := by
  intro bs
  induction bs with
  | nil => intro _; decide
  | cons b t ih =>
    intro hb
    have h1 := hb b (by simp)
    have h2 := ih (fun y hy => hb y (List.mem_cons_of_mem _ hy))
    have e : 2 ^ (8 * (b :: t).length) = 256 * 2 ^ (8 * t.length) := by
      rw [List.length_cons, show 8 * (t.length + 1) = 8 + 8 * t.length by omega, Nat.pow_add]
    rw [e]
    show b + 256 * leVal t < _
    omega

theorem bitsOf_leVal : ∀ bs : List Nat, (∀ y, y ∈ bs → y < 256) →
    bitsOf (8 * bs.length) (leVal bs) = bytesToBits bs := by
  intro bs
  induction bs with
  | nil => intro _; rfl
  | cons b t ih =>
    intro hb
    have h1 := hb b (by simp)
    have hmod : (b + 256 * leVal t) % 2 ^ 8 = b := by omega
    have hdiv : (b + 256 * leVal t) / 2 ^ 8 = leVal t := by omega
    rw [List.length_cons, show 8 * (t.length + 1) = 8 + 8 * t.length by omega]
    show bitsOf (8 + 8 * t.length) (b + 256 * leVal t) = bitsOf 8 b ++ bytesToBits t
    rw [bitsOf_append, ← bitsOf_mod 8, hmod, hdiv, ih (fun y hy => hb y (List.mem_cons_of_mem _ hy))]

theorem packLE_eq (site : Site) : ∀ (bs : List Nat) (i acc : Nat), (∀ y, y ∈ bs → y < 256) →
    acc < 2 ^ (i * 8) → i + bs.length ≤ 8 →
    packLE site bs i acc = ok (acc + leVal bs * 2 ^ (i * 8)) := by
  intro bs
  induction bs with
  | nil => intro i acc _ _ _; simp [packLE, leVal]
  | cons b t ih =>
    intro i acc hb hacc hlen
    rw [List.length_cons] at hlen
    have h1 := hb b (by simp)
    have hP : 2 ^ ((i + 1) * 8) = 256 * 2 ^ (i * 8) := by
      rw [Nat.add_mul, Nat.pow_add, Nat.mul_comm]
    have hle : b * 2 ^ (i * 8) ≤ 255 * 2 ^ (i * 8) := Nat.mul_le_mul_right _ (by omega)
    rw [packLE, if_neg (by omega), or_shl _ _ _ hacc,
      ih (i + 1) _ (fun y hy => hb y (List.mem_cons_of_mem _ hy)) (by rw [hP]; omega) (by omega), hP]
    show ok (acc + b * 2 ^ (i * 8) + leVal t * (256 * 2 ^ (i * 8))) = ok (acc + (b + 256 * leVal t) * 2 ^ (i * 8))
    rw [Nat.add_mul, Nat.mul_assoc 256, Nat.mul_left_comm (leVal t), Nat.add_assoc]

theorem packLE_value (site : Site) (bs : List Nat) (hb : ∀ y, y ∈ bs → y < 256) (hl : bs.length ≤ 8) :
    packLE site bs 0 0 = ok (leVal bs) := by
  rw [packLE_eq site bs 0 0 hb (by decide) (by omega)]
  simp

theorem packB5_value (b : B5) (n : Nat) (hn : n ≤ 5) (hb : ∀ y, y ∈ b.toList → y < 256) :
    packB5 b n = ok (leVal (b.toList.take n)) := by
  rw [packB5_eq_packLE b n hn]
  exact packLE_value _ _ (fun y hy => hb y (List.mem_of_mem_take hy))
    (by rw [List.length_take, B5.toList_length]; omega)

theorem splice_header_bits (s : State) (nsp : NewStreamData) (wo v : Nat) (out : List Nat) (cap : Nat)
    (hoff : s.last_byte_bit_offset < 8) (ht : s.last_bytes.1 < 2 ^ s.last_byte_bit_offset)
    (hr : nsp.num_bytes_read ≤ 5)
    (h0 : nsp.bytes_so_far.b0 < 256) (h1 : nsp.bytes_so_far.b1 < 256) (h2 : nsp.bytes_so_far.b2 < 256)
    (h3 : nsp.bytes_so_far.b3 < 256) (h4 : nsp.bytes_so_far.b4 < 256)
    (hwo : wo ≤ 14) (hv : wo + 2 ≤ v) (hsrc : (v + 7) / 8 ≤ nsp.num_bytes_read) (hout : out.length < cap) :
    ∃ r0 nsp', shiftRealign s nsp wo v out cap
        = ok ({ s with any_bytes_emitted := true }, nsp', out ++ [r0]) ∧
      nsp'.num_bytes_written = some 0 ∧ nsp'.num_bytes_read ≤ 5 ∧
      bytesToBits ((r0 :: nsp'.bytes_so_far.toList.take nsp'.num_bytes_read).take
          ((s.last_byte_bit_offset + v - wo + 7) / 8))
        = bitsOf s.last_byte_bit_offset s.last_bytes.1 ++
          ((bytesToBits (nsp.bytes_so_far.toList.take nsp.num_bytes_read)).drop wo).take (v - wo) ++
          List.replicate (8 * ((s.last_byte_bit_offset + v - wo + 7) / 8) - s.last_byte_bit_offset - (v - wo)) false ∧
      (r0 :: nsp'.bytes_so_far.toList.take nsp'.num_bytes_read).drop ((s.last_byte_bit_offset + v - wo + 7) / 8)
        = (nsp.bytes_so_far.toList.take nsp.num_bytes_read).drop ((v + 7) / 8) := by
  have hb : ∀ y, y ∈ nsp.bytes_so_far.toList → y < 256 := by
    intro y hy
    simp only [B5.toList, List.mem_cons, List.not_mem_nil, or_false] at hy
    rcases hy with rfl | rfl | rfl | rfl | rfl <;> assumption
  have hbits : bytesToBits (nsp.bytes_so_far.toList.take nsp.num_bytes_read)
      = bitsOf (8 * nsp.num_bytes_read) (leVal (nsp.bytes_so_far.toList.take nsp.num_bytes_read)) := by
    have := bitsOf_leVal _ (fun y hy => hb y (List.mem_of_mem_take hy) :
      ∀ y, y ∈ nsp.bytes_so_far.toList.take nsp.num_bytes_read → y < 256)
    rw [List.length_take, B5.toList_length, Nat.min_eq_left hr] at this
    exact this.symm
  obtain ⟨r0, nsp', e, hw, hrd, hlow, hhigh⟩ :=
    shiftRealign_bytes s nsp wo v _ out cap hoff hr (packB5_value _ _ hr hb) hwo hv hsrc hout
  simp only [rbyte_eq_leByte _ _ _ _ hoff ht] at hlow
  generalize leVal (nsp.bytes_so_far.toList.take nsp.num_bytes_read) = H at hlow hbits
  refine ⟨r0, nsp', e, hw, by omega, ?_, ?_⟩
  · rw [bytesToBits_le _ _ _ hlow]
    have hX : ((H >>> wo) &&& ((1 <<< (v - wo)) - 1)) < 2 ^ (v - wo) := by
      rw [Nat.one_shiftLeft, Nat.and_two_pow_sub_one_eq_mod]
      exact Nat.mod_lt _ (Nat.pow_pos (by decide))
    rw [spliced_bits _ _ _ (v - wo) _ ht hX (by omega), field_bits, hbits]
    have e1 : wo + (v - wo) = v := by omega
    have e2 : 8 * nsp.num_bytes_read = v + (8 * nsp.num_bytes_read - v) := by omega
    rw [e1, ← List.drop_take]
    rw [e2, bitsOf_append, List.take_left' (bitsOf_length v H)]
  · apply List.ext_getElem?
    intro i
    have hlen : (r0 :: nsp'.bytes_so_far.toList.take nsp'.num_bytes_read).length = nsp'.num_bytes_read + 1 := by
      simp only [List.length_cons, List.length_take, B5.toList_length]; omega
    rw [List.getElem?_drop, List.getElem?_drop]
    by_cases hi : i < nsp.num_bytes_read - (v + 7) / 8
    · rw [hhigh i hi, List.getElem?_take, if_pos (by omega)]
    · rw [List.getElem?_eq_none (by rw [hlen]; omega), List.getElem?_eq_none]
      simp only [List.length_take, B5.toList_length]; omega

end BV.Concat
