/-
C01 / meta-block writers: from C17's facts about one `BuildAndStoreHuffmanTree` call to the
`CodeFacts` the assembly needs: the reader's `readCode`, and symbol-by-symbol agreement (`SymIO`) of the
writer's `depth` / `bits` tables with the code the reader holds.
-/
import BV.Lemmas.HuffmanEntryPoints
import BV.Lemmas.MetaBlockCmd

namespace BV.MetaBlock
open BV.Gen BV.Bits BV.Huffman BV.PrefixArith BV.Recoder BV.Lemmas.HuffmanCreate BV.Lemmas.HuffmanEntry BV.Lemmas.HuffmanSimple BV.Lemmas.HuffmanFastStore BV.Lemmas.HuffmanEntryPoints
open BV.Lemmas.HuffmanRead (takeBits_bitsOf readSym_spec)
open BV.Lemmas.HuffmanCanon (canonicalCodes_getD countLen_append)

def CodeFacts (hist : List Nat) (len A : Nat) (w w' : Writer) (depth' bits' : List Nat) : Prop :=
  ∃ cb code, w' = w ++ cb ∧ (∀ rest, readCode A (cb ++ rest) = some (code, rest)) ∧
    ∀ s, s < len → hist.getD s 0 ≠ 0 → SymIO depth' bits' code s

theorem countLen_replicate (n v l : Nat) : countLen (List.replicate n v) l = if v = l then n else 0 := by
  unfold countLen
  by_cases h : v = l
  · subst h
    rw [if_pos rfl]
    have : (List.replicate n v).filter (· == v) = List.replicate n v := by
      rw [List.filter_eq_self]; intro x hx; rw [List.eq_of_mem_replicate hx]; simp
    rw [this, List.length_replicate]
  · rw [if_neg h, List.length_eq_zero_iff, List.filter_eq_nil_iff]
    intro x hx
    rw [List.eq_of_mem_replicate hx]
    simpa using h

theorem firstCode_append_zeros (lens : List Nat) (n : Nat) : ∀ l, firstCode (lens ++ List.replicate n 0) l = firstCode lens l := by
  intro l
  induction l with
  | zero => rfl
  | succ l ih =>
    unfold firstCode
    rw [ih]
    by_cases h0 : l = 0
    · simp [h0]
    · simp only [h0, if_false, countLen_append, countLen_replicate, if_neg (Ne.symm h0), Nat.add_zero]

theorem canonical_append_zeros (lens : List Nat) (n i : Nat) (hi : i < lens.length) :
    (canonicalCodes (lens ++ List.replicate n 0)).getD i 0 = (canonicalCodes lens).getD i 0 := by
  rw [canonicalCodes_getD _ i (by rw [List.length_append]; omega), canonicalCodes_getD _ i hi]
  have e1 : (lens ++ List.replicate n 0).getD i 0 = lens.getD i 0 := by
    simp [List.getD_eq_getElem?_getD, List.getElem?_append_left hi]
  rw [e1, firstCode_append_zeros, List.take_append_of_le_length (by omega)]

theorem kraft_append_zeros (L : Nat) (lens : List Nat) (n : Nat) :
    kraftSum L (lens ++ List.replicate n 0) = kraftSum L lens := by
  rw [BV.Lemmas.HuffmanStoreRead.kraftSum_append, BV.Lemmas.HuffmanCanon.kraftSum_replicate_zero, Nat.add_zero]

theorem filter_append_zeros (lens : List Nat) (n : Nat) :
    ((lens ++ List.replicate n 0).filter (· ≠ 0)).length = (lens.filter (· ≠ 0)).length := by
  rw [List.filter_append]
  have : (List.replicate n 0).filter (· ≠ 0) = [] := by
    rw [List.filter_eq_nil_iff]; intro x hx; rw [List.eq_of_mem_replicate hx]; simp
  rw [this, List.append_nil]

theorem symIO_canon (d b L : List Nat) (s : Nat) (hsL : s < L.length) (hsd : s < d.length) (hsb : s < b.length)
    (hL : L.getD s 0 = d.getD s 0) (hall : ∀ x ∈ L, x ≤ 15) (hk : kraftSum 15 L ≤ 2 ^ 15) (h0 : d.getD s 0 ≠ 0)
    (h2 : 2 ≤ (L.filter (· ≠ 0)).length)
    (hb : b.getD s 0 = reverseBits (d.getD s 0) ((canonicalCodes L).getD s 0)) :
    SymIO d b (Code.lens L) s := by
  have hd15 : d.getD s 0 ≤ 15 := by rw [← hL]; exact hall _ (getD_mem L s 0 hsL)
  have hlt : reverseBits (d.getD s 0) ((canonicalCodes L).getD s 0) < 2 ^ d.getD s 0 := by
    rw [BV.Lemmas.HuffmanBits.reverseBits_eq _ _ (by omega) (by omega)]
    exact BV.Lemmas.HuffmanBits.revSpec_lt _ _
  refine ⟨bitsOf (d.getD s 0) (b.getD s 0), fun w => ?_, fun rest => ?_⟩
  · unfold storeSym
    rw [getAt_getD d s 0 hsd, Out.bind_ok, getAt_getD b s 0 hsb, Out.bind_ok, hb, writeBits_ok _ _ _ hlt (by omega)]
  · have h2' : 2 ≤ ((List.range L.length).filter fun t => L.getD t 0 != 0).length := by
      rw [BV.Lemmas.HuffmanStoreTree.filter_range_getD L (fun x => x != 0)]
      have e : (fun x : Nat => x != 0) = (fun x => decide (x ≠ 0)) := by
        funext x; by_cases hx : x = 0 <;> simp [hx]
      rw [e]; exact h2
    have := readSym_spec L s rest hsL hall hk (by rw [hL]; exact h0) h2'
    rw [hL, ← hb] at this
    exact this

theorem symIO_of_lens (depth' bits' : List Nat) (len A s : Nat)
    (hA : A ≤ len) (hlen : len ≤ depth'.length) (hblen : len ≤ bits'.length)
    (hz : ∀ i, A ≤ i → i < len → depth'.getD i 0 = 0)
    (hall : ∀ v, v < len → depth'.getD v 0 ≤ 15) (hk : kraftSum 15 (depth'.take len) = 2 ^ 15)
    (hbits : ∀ i, i < len → depth'.getD i 0 ≠ 0 →
      bits'.getD i 0 = reverseBits (depth'.getD i 0) ((canonicalCodes (depth'.take len)).getD i 0))
    (h2 : 2 ≤ ((depth'.take len).filter (· ≠ 0)).length)
    (hs : s < len) (h0 : depth'.getD s 0 ≠ 0) :
    SymIO depth' bits' (Code.lens (depth'.take A)) s := by
  have hsA : s < A := by
    rcases Nat.lt_or_ge s A with h | h
    · exact h
    · exact absurd (hz s h hs) h0
  have hsplit := (BV.Lemmas.HuffmanEntryPoints.take_pad depth' A len hA hlen hz).symm
  have hlA : (depth'.take A).length = A := by rw [List.length_take]; omega
  rw [hsplit, kraft_append_zeros] at hk
  rw [hsplit, filter_append_zeros] at h2
  refine symIO_canon depth' bits' _ s (by omega) (by omega) (by omega) (getD_take _ _ _ 0 hsA) (fun x hx => ?_)
    (by omega) h0 h2 (by rw [hbits s hs h0, hsplit, canonical_append_zeros _ _ _ (by omega)])
  obtain ⟨i, hi, rfl⟩ := List.getElem_of_mem hx
  rw [hlA] at hi
  have := hall i (by omega)
  rw [List.getD_eq_getElem?_getD, List.getElem?_eq_getElem (by omega)] at this
  simpa [List.getElem_take] using this

/-- a description that `readPrefixCode` reads to a vector with a non-zero length is not the NSYM = 1
form, so `readCode` returns the same vector -/
theorem readCode_of_prefix (A : Nat) (bs r : List Bool) (l : List Nat)
    (h : readPrefixCode A bs = some (l, r)) (hnz : ∃ i, l.getD i 0 ≠ 0) :
    readCode A bs = some (Code.lens l, r) := by
  unfold readCode
  split
  · rename_i r' heq
    exfalso
    obtain ⟨i, hi⟩ := hnz
    rcases bs with _ | ⟨b0, _ | ⟨b1, _ | ⟨b2, _ | ⟨b3, t⟩⟩⟩⟩
    · simp [takeBits] at heq
    · simp [takeBits] at heq
    · simp [takeBits] at heq
    · simp [takeBits] at heq
    · simp only [takeBits, List.length_cons] at heq
      rw [if_pos (by omega)] at heq
      simp only [List.take_succ_cons, List.take_zero, valOf, Option.some.injEq, Prod.mk.injEq] at heq
      obtain ⟨hv, _⟩ := heq
      have hb : b0 = true ∧ b1 = false ∧ b2 = false ∧ b3 = false := by
        cases b0 <;> cases b1 <;> cases b2 <;> cases b3 <;> simp at hv ⊢
      obtain ⟨rfl, rfl, rfl, rfl⟩ := hb
      simp only [readPrefixCode, takeBits, List.length_cons, Option.bind_eq_bind] at h
      rw [if_pos (by omega)] at h
      simp only [List.take_succ_cons, List.take_zero, List.drop_succ_cons, List.drop_zero, valOf, Option.bind_some,
        List.length_cons] at h
      rw [if_pos (by decide), if_pos (by omega)] at h
      simp only [Bool.false_eq_true, if_false, Nat.mul_zero, Nat.add_zero, Option.bind_some, if_true] at h
      split at h
      · simp only [Option.bind_some, Option.some.injEq, Prod.mk.injEq] at h
        rw [← h.1] at hi
        exact hi (by rw [placeLens_single, BV.getD_replicate])
      · simp at h
  · rw [h]

theorem filter_nz_congr : ∀ (l1 l2 : List Nat), l1.length = l2.length →
    (∀ v, v < l1.length → (l1.getD v 0 ≠ 0 ↔ l2.getD v 0 ≠ 0)) →
    (l1.filter (· ≠ 0)).length = (l2.filter (· ≠ 0)).length := by
  intro l1
  induction l1 with
  | nil => intro l2 hl _; cases l2 with | nil => rfl | cons _ _ => simp at hl
  | cons x xs ih =>
    intro l2 hl h
    cases l2 with
    | nil => simp at hl
    | cons y ys =>
      have h0 := h 0 (by simp)
      simp only [List.getD_cons_zero] at h0
      have := ih ys (by simpa using hl) (fun v hv => by
        have := h (v + 1) (by simp; omega)
        simpa using this)
      rw [List.filter_cons, List.filter_cons]
      by_cases hx : x = 0
      · have hy : y = 0 := by
          rcases Nat.eq_zero_or_pos y with h | h
          · exact h
          · exact absurd hx (h0.mpr (by omega))
        have e1 : decide (x ≠ 0) = false := by simp [hx]
        have e2 : decide (y ≠ 0) = false := by simp [hy]
        rw [e1, e2]
        simp only [Bool.false_eq_true, if_false]
        exact this
      · have hy : y ≠ 0 := h0.mp hx
        have e1 : decide (x ≠ 0) = true := by simp [hx]
        have e2 : decide (y ≠ 0) = true := by simp [hy]
        rw [e1, e2]
        simp only [if_true, List.length_cons]
        rw [this]

theorem exists_nz_of_filter (l : List Nat) (h : 1 ≤ (l.filter (· ≠ 0)).length) :
    ∃ s, s < l.length ∧ l.getD s 0 ≠ 0 := by
  obtain ⟨x, hx⟩ := List.exists_mem_of_length_pos (by omega : 0 < (l.filter (· ≠ 0)).length)
  rw [List.mem_filter] at hx
  obtain ⟨i, hi, rfl⟩ := List.getElem_of_mem hx.1
  refine ⟨i, hi, ?_⟩
  rw [List.getD_eq_getElem?_getD, List.getElem?_eq_getElem hi]
  simpa using hx.2

theorem bitsOf_inj (n a b : Nat) (ha : a < 2 ^ n) (hb : b < 2 ^ n) (h : bitsOf n a = bitsOf n b) : a = b := by
  have := congrArg valOf h
  rw [valOf_bitsOf, valOf_bitsOf, Nat.mod_eq_of_lt ha,
    Nat.mod_eq_of_lt hb] at this
  exact this

theorem readCode_single (A s : Nat) (rest : List Bool) (hs : s < A) (hb : s < 2 ^ alphabetBits A) :
    readCode A (bitsOf 4 1 ++ bitsOf (alphabetBits A) s ++ rest) = some (Code.single s, rest) := by
  unfold readCode
  rw [List.append_assoc, takeBits_bitsOf 4 1 _ (by decide)]
  simp only
  rw [takeBits_bitsOf _ _ _ hb]
  simp [hs]

theorem symIO_single (n s : Nat) (hs : s < n) :
    SymIO (List.replicate n 0) (List.replicate n 0) (Code.single s) s := by
  refine ⟨[], ?_, ?_⟩
  · intro w
    unfold storeSym
    rw [getAt_getD _ s 0 (by simpa using hs), Out.bind_ok, Out.bind_ok,
      getD_replicate, writeBits_ok 0 0 w (by decide) (by decide)]
    simp [bitsOf]
  · intro rest
    simp [Code.read]

theorem codeFacts_of_good (h d b : List Nat) (m M A N : Nat) (cb : List Bool)
    (hg : GoodDepth h m M (List.replicate N 0) d) (hgb : GoodBits m d (List.replicate N 0) b)
    (hM : M ≤ 15) (hk15 : kraftSum 15 (d.take m) = 2 ^ 15) (hmN : m ≤ N) (hAN : A ≤ N) (hmh : m ≤ h.length)
    (hz : ∀ i, A ≤ i → h.getD i 0 = 0)
    (h2 : 2 ≤ ((h.take m).filter (· ≠ 0)).length)
    (hrd : ∀ rest, readPrefixCode A (cb ++ rest) = some (d.take A, rest)) :
    (∀ rest, readCode A (cb ++ rest) = some (Code.lens (d.take A), rest)) ∧
    (∀ s, s < m → h.getD s 0 ≠ 0 → SymIO d b (Code.lens (d.take A)) s) ∧
    d.length = N ∧ b.length = N ∧ (∀ k, m ≤ k → d.getD k 0 = 0) ∧ (∀ k, m ≤ k → b.getD k 0 = 0) := by
  have hdl : d.length = N := by rw [hg.hlen]; simp
  have hbl : b.length = N := by rw [hgb.1]; simp
  have hframe : ∀ i, m ≤ i → d.getD i 0 = 0 := by
    intro i hi
    rw [List.getD_eq_getElem?_getD, hg.hframe i hi, ← List.getD_eq_getElem?_getD, getD_replicate]
  have hsplit : d.take N = d.take m ++ List.replicate (N - m) 0 :=
    (take_pad d m N hmN (by omega) (fun i hi _ => hframe i hi)).symm
  have hsA : ∀ s, h.getD s 0 ≠ 0 → s < A := fun s hne => Nat.lt_of_not_le fun hle => hne (hz s hle)
  have h2d : 2 ≤ ((d.take N).filter (· ≠ 0)).length := by
    rw [hsplit, filter_append_zeros, filter_nz_congr (d.take m) (h.take m)
      (by rw [List.length_take, List.length_take]; omega) (by
        intro v hv
        rw [List.length_take] at hv
        rw [getD_take d m v 0 (by omega), getD_take h m v 0 (by omega)]
        exact hg.hsupp v (by omega))]
    exact h2
  refine ⟨?_, ?_, hdl, hbl, hframe, fun k hk => by rw [hgb.2.1 k hk, getD_replicate]⟩
  · intro rest
    obtain ⟨s, hs, hne⟩ := exists_nz_of_filter (h.take m) (by omega)
    rw [List.length_take, Nat.min_eq_left hmh] at hs
    rw [getD_take h m s 0 hs] at hne
    exact readCode_of_prefix A _ rest _ (hrd rest)
      ⟨s, by rw [getD_take d A s 0 (hsA s hne)]; exact (hg.hsupp s hs).mpr hne⟩
  · intro s hs hne
    refine symIO_of_lens d b N A s hAN (by omega) (by omega) ?_ ?_ (by rw [hsplit, kraft_append_zeros]; exact hk15) ?_ h2d
      (by omega) ((hg.hsupp s hs).mpr hne)
    · intro i hi _
      rcases Nat.lt_or_ge i m with hv | hv
      · exact Decidable.byContradiction fun h0 => (hg.hsupp i hv).mp h0 (hz i hi)
      · exact hframe i hv
    · intro v _
      rcases Nat.lt_or_ge v m with hv | hv
      · exact Nat.le_trans (hg.hlim v hv) hM
      · rw [hframe v hv]; omega
    · intro i _ h0
      have hil : i < m := Nat.lt_of_not_le fun hle => h0 (hframe i hle)
      have := hgb.2.2 i hil
      rw [if_pos h0] at this
      rw [this, hsplit, canonical_append_zeros _ _ _ (by rw [List.length_take]; omega)]

/-- **from a builder's entry-point theorem to `CodeFacts`**, for either builder: `h2`/`h1` are the two cases in which
`build_and_store_total` and `fast_build_and_store_total` state their result (tables of `N` zeros; construction over the first `m`
entries with limit `M`; the lengths read back are `R`, which is `d.take A` once `d` is known to be zero from `m` on) -/
theorem codeFacts_of_total (h d b R : List Nat) (m M A N : Nat) (w0 : Writer) (cb : List Bool)
    (hM : M ≤ 15) (hmN : m ≤ N) (hAN : A ≤ N) (hmh : m ≤ h.length) (hA1 : 1 ≤ A) (hAb : A ≤ 2 ^ alphabetBits A)
    (hz : ∀ i, A ≤ i → h.getD i 0 = 0)
    (hR : d.length = N → (∀ i, m ≤ i → d.getD i 0 = 0) → R = d.take A)
    (h2 : 2 ≤ (ascNZ h m 0).length → Coded h m A M (List.replicate N 0) (List.replicate N 0) d b cb R)
    (h1 : (ascNZ h m 0).length ≤ 1 →
      Single A ((ascNZ h m 0).headD 0) (List.replicate N 0) (List.replicate N 0) d b cb) :
    CodeFacts h m A w0 (w0 ++ cb) d b ∧ d.length = N ∧ b.length = N ∧
      (∀ k, m ≤ k → d.getD k 0 = 0) ∧ (∀ k, m ≤ k → b.getD k 0 = 0) := by
  rcases Nat.lt_or_ge (ascNZ h m 0).length 2 with hnz | hnz
  · have ecb := (h1 (by omega)).desc
    obtain ⟨ed, eb⟩ := (h1 (by omega)).zeros
    have hsA : (ascNZ h m 0).headD 0 < A := by
      cases hl : ascNZ h m 0 with
      | nil => exact hA1
      | cons s t =>
        have := (mem_ascNZ h m 0 s).mp (by rw [hl]; exact List.mem_cons_self)
        exact Nat.lt_of_not_le fun hle => this.2.2 (hz s hle)
    refine ⟨⟨cb, Code.single ((ascNZ h m 0).headD 0), rfl, fun rest => ?_, fun s hs hne => ?_⟩, by rw [ed]; simp, by rw [eb]; simp,
      fun k _ => by rw [ed]; exact getD_replicate _ _ 0, fun k _ => by rw [eb]; exact getD_replicate _ _ 0⟩
    · rw [ecb]; exact readCode_single A _ rest hsA (by omega)
    · rw [← headD_ascNZ h m s (by omega) hs hne, ed, eb]; exact symIO_single N _ (by omega)
  · obtain ⟨hg, hgb, hrd⟩ := h2 hnz
    have hframe : ∀ i, m ≤ i → d.getD i 0 = 0 := by
      intro i hi
      rw [List.getD_eq_getElem?_getD, hg.hframe i hi, ← List.getD_eq_getElem?_getD, getD_replicate]
    have hk15 : kraftSum 15 (d.take m) = 2 ^ 15 := by
      have := BV.Lemmas.HuffmanStoreTree.kraft_scale M (15 - M) (d.take m)
        (take_le_of_getD d m M (by rw [hg.hlen]; simp; omega) hg.hlim)
      rw [hg.hkraft, ← Nat.pow_add, show M + (15 - M) = 15 by omega, show 15 - M + M = 15 by omega] at this
      exact this
    obtain ⟨r1, r2, r3⟩ := codeFacts_of_good h d b m M A N cb hg hgb hM hk15 hmN hAN hmh hz
      (by rw [← ascNZ_length_filter h m hmh]; exact hnz) (fun rest => by rw [hrd rest, hR (by rw [hg.hlen]; simp) hframe])
    exact ⟨⟨cb, _, rfl, r1, r2⟩, r3⟩

/-- `N`: the depth / bits tables may be longer than the histogram (`[0; 258]`, `[0; 272]`, the tail of a `BlockEncoder`
table); entries from `len` on stay zero -/
theorem buildN_roundtrip (h : List Nat) (len A N : Nat) (w0 : Writer) (hN : len ≤ N)
    (hlen : len ≤ h.length) (h704 : len ≤ 704) (hsum : h.sum ≤ 2 ^ 25) (hA1 : 1 ≤ A) (hA : A ≤ len)
    (hz : ∀ i, A ≤ i → h.getD i 0 = 0) :
    ∃ d b cbits code, buildAndStoreHuffmanTree h len A scratchTree (List.replicate N 0) (List.replicate N 0) w0
        = .ok (d, b, w0 ++ cbits) ∧
      (∀ rest, readCode A (cbits ++ rest) = some (code, rest)) ∧
      (∀ s, s < len → h.getD s 0 ≠ 0 → SymIO d b code s) ∧ d.length = N ∧ b.length = N ∧
      (∀ k, len ≤ k → d.getD k 0 = 0) ∧ (∀ k, len ≤ k → b.getD k 0 = 0) := by
  have hAb : A ≤ 2 ^ alphabetBits A := by
    have := (BV.Lemmas.HuffmanSimple.alphabetBits_facts A hA1 (by omega)).2 (A - 1) (by omega)
    omega
  have hst : scratchTree.length = 1409 := by unfold scratchTree; rw [List.length_replicate]  -- for `omega`
  obtain ⟨d, b, cb, heq, h2, h1⟩ := build_and_store_total h len A scratchTree (List.replicate N 0)
    (List.replicate N 0) w0 hlen h704 (Nat.le_trans (BV.sum_take_le h len) hsum) (by omega) (by omega) hA1 hA
    (by simp; omega) (by simp; omega)
    (fun s hs => Decidable.byContradiction fun hsa => ((mem_ascNZ h len 0 s).mp hs).2.2 (hz s (by omega)))
  rw [zeros_frame len N hN] at h2
  obtain ⟨⟨cbits, code, ecb, rc, sc⟩, r⟩ := codeFacts_of_total h d b (d.take A) len 15 A N w0 cb (Nat.le_refl _) hN
    (by omega) hlen hA1 hAb hz (fun _ _ => rfl) h2 h1
  rw [List.append_cancel_left ecb] at heq
  exact ⟨d, b, cbits, code, heq, rc, sc, r⟩

theorem fastScan_total : ∀ (hs : List Nat) (total len count : Nat) (symbols : List Nat), total = hs.sum →
    hs.sum < u64 → ∃ r, fastScan hs total len count symbols = .ok r := by
  intro hs
  induction hs with
  | nil => intro total len count symbols ht _; simp [fastScan, ht]
  | cons x xs ih =>
    intro total len count symbols ht hlt
    simp only [List.sum_cons] at ht hlt
    unfold fastScan
    by_cases h0 : total = 0
    · simp [h0]
    · rw [if_neg h0]
      by_cases hx : x ≠ 0
      · rw [if_pos hx]
        apply ih
        · have : total + u64 - x = xs.sum + u64 := by omega
          rw [this, Nat.add_mod_right, Nat.mod_eq_of_lt (by omega)]
        · omega
      · rw [if_neg hx]
        apply ih
        · have : x = 0 := by simpa using hx
          omega
        · omega

/-- the fast builder on a whole histogram, zero tables of length `n`: it returns, and what it wrote reads back -/
theorem fastN_roundtrip (h : List Nat) (A n : Nat) (w0 : Writer) (h704 : h.length ≤ 704) (hsum : h.sum ≤ 2 ^ 25)
    (hA1 : 1 ≤ A) (hAn : A ≤ n) (hA : A ≤ 65536) (hz : ∀ i, A ≤ i → h.getD i 0 = 0) :
    ∃ d b w1, buildAndStoreHuffmanTreeFast h h.sum (alphabetBits A) (List.replicate n 0) (List.replicate n 0) w0
      = .ok (d, b, w1) ∧ CodeFacts h h.length A w0 w1 d b := by
  have p25 : (2 : Nat) ^ 25 = 33554432 := by decide
  have hAb : A ≤ 2 ^ alphabetBits A := by
    have := (BV.Lemmas.HuffmanSimple.alphabetBits_facts A hA1 hA).2 (A - 1) (by omega)
    omega
  obtain ⟨⟨count, symbols, length⟩, hscan⟩ := fastScan_total h h.sum 0 0 [0, 0, 0, 0] rfl (by unfold u64; omega)
  obtain ⟨hlen_le, _, _, _⟩ := fastScan_scanned h _ count length symbols hscan
  obtain ⟨hcov, _, _⟩ := fastScan_count h count length symbols hscan (by unfold u64; omega)
  have hlA := fastScan_le h _ A count length symbols hscan hz
  obtain ⟨d, b, cb, heq, h2, h1⟩ := fast_build_and_store_total h h.sum A (List.replicate n 0) (List.replicate n 0) w0
    count length symbols hscan h704 hsum hA1 hA hlA (by simpa using hAn) (by simpa using hAn)
  rw [zeros_frame length n (by omega)] at h2
  obtain ⟨⟨cb', code, ecb, r1, r2⟩, _⟩ := codeFacts_of_total h d b _ length 14 A n w0 cb (by decide) (by omega) hAn hlen_le
    hA1 hAb hz (fun hl hf => take_pad d length A hlA (by omega) (fun i hi _ => hf i hi)) h2 h1
  exact ⟨d, b, _, heq, cb', code, ecb, r1, fun s _ hne => r2 s (Nat.lt_of_not_le fun hle => hne (hcov s hle)) hne⟩

theorem fast_total (h : List Nat) (A n : Nat) (w0 : Writer) (h704 : h.length ≤ 704) (hsum : h.sum ≤ 2 ^ 25)
    (hA1 : 1 ≤ A) (hAn : A ≤ n) (hA : A ≤ 65536) (hz : ∀ i, A ≤ i → h.getD i 0 = 0) :
    ∃ d b w1, buildAndStoreHuffmanTreeFast h h.sum (alphabetBits A) (List.replicate n 0) (List.replicate n 0) w0
      = .ok (d, b, w1) :=
  let ⟨d, b, w1, hb, _⟩ := fastN_roundtrip h A n w0 h704 hsum hA1 hAn hA hz
  ⟨d, b, w1, hb⟩

end BV.MetaBlock
