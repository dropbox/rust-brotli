/-
`wmbi_reads` (BV/Lemmas/MetaBlockWmbi.lean) with the reader's FINAL STATE exposed: after `WriteMetaBlockInternal` the RFC
reader is in the state the compressed attempt leads to when the attempt is kept, and in `⟨out ++ data, ring unchanged⟩` when
the block ends up stored (verdict false, or attempt longer than input + 4) — the case in which `encode_data` rolls
`dist_cache_` back to `saved_dist_cache_`.  At the end `Reads`, the two ways the reader consumes the bits of one invocation
as one notion; it is declared into `BV.Props.C01E2E`, where the property statements name it, and stands here because the
lemmas of BV/Lemmas/E2EStep.lean conclude it.
-/
import BV.Lemmas.MetaBlockWmbi

namespace BV.MetaBlock
open BV.Gen BV.Bits BV.Huffman BV.PrefixArith BV.Recoder BV.HeaderSpec BV.Stored BV.Header

def wmbiStored (data : List Nat) (o : MbOracle) (w : Writer) : Bool :=
  !o.shouldCompress || decide (data.length + 4 + w.length >>> 3 < (w ++ o.attempt).length >>> 3)

theorem wmbi_reads_state (wo : WordOracle) (window : Nat) (large : Bool) (appendable catable actualIsLast : Bool)
    (data : List Nat) (o : MbOracle) (w : Writer) (s s' : RdSt)
    (hcat : catable = true → appendable = true) (h1 : 1 ≤ data.length) (h2 : data.length ≤ 2 ^ 24)
    (hw : w.length < 256) (hb : ∀ b ∈ data, b < 256)
    (hatt : o.shouldCompress = true → ReadsTo wo window large w.length s o.attempt
      (if appendable then false else actualIsLast) (w.length + o.attempt.length) s') :
    ∃ r bits, writeMetaBlockInternal appendable catable actualIsLast data o w = .ok r ∧ r.fin = w ++ bits ∧
      (actualIsLast = true → ∀ rest f, readMetaBlocks wo window large (f + 2) w.length s (bits ++ rest)
        = some (if wmbiStored data o w then ⟨s.out ++ data, s.ring⟩ else s', rest)) ∧
      (actualIsLast = false → ReadsTo wo window large w.length s bits false (w.length + bits.length)
        (if wmbiStored data o w then ⟨s.out ++ data, s.ring⟩ else s')) := by
  -- the values of the four literals of the Rust source on which the function branches
  obtain ⟨l1, l8, l17, l18⟩ := wmbi_lits
  have hnc : (!appendable && catable) = false := by
    cases appendable <;> cases catable <;> simp at hcat ⊢
  obtain ⟨rS, bitsS, eS, fS, aS, bS⟩ := (streamReader wo window large).wmbi_stored appendable actualIsLast data w s h1 h2 hb
  unfold writeMetaBlockInternal
  simp only [hnc, Bool.false_eq_true, if_false, l1, show ¬ data.length = 0 by omega, l8, l17, l18]
  by_cases hsc : o.shouldCompress = true
  · simp only [hsc, Bool.not_true, Bool.false_eq_true, if_false]
    by_cases hbig : data.length + 4 + w.length >>> 3 < (w ++ o.attempt).length >>> 3
    · have hst : wmbiStored data o w = true := by unfold wmbiStored; rw [decide_eq_true hbig, Bool.or_true]
      rw [if_pos hbig, if_neg (by rw [Nat.mod_eq_of_lt hw]; simp), hst]
      exact ⟨rS, bitsS, eS, fS, aS, bS⟩
    · have hst : wmbiStored data o w = false := by unfold wmbiStored; rw [decide_eq_false hbig, hsc]; rfl
      rw [if_neg hbig, hst]
      simp only [Bool.false_eq_true, if_false]
      have hr := hatt hsc
      cases hal : actualIsLast
      · subst hal
        simp only [Bool.false_eq_true, if_false, ite_self] at hr
        refine ⟨⟨w ++ o.attempt, w ++ o.attempt⟩, o.attempt, ?_, rfl, (fun h => by cases h), fun _ => hr⟩
        simp only [Bool.false_eq_true, if_false, ite_self, bne_self_eq_false]
      · subst hal
        cases happ : appendable
        · subst happ
          simp only [Bool.false_eq_true, if_false] at hr
          refine ⟨⟨w ++ o.attempt, w ++ o.attempt⟩, o.attempt, ?_, rfl, ?_, (fun h => by cases h)⟩
          · simp only [Bool.false_eq_true, if_false, bne_self_eq_false]
          · intro _ rest f
            exact (streamReader wo window large).one _ _ s s' _ rest (f + 1) hr
        · subst happ
          simp only [if_true] at hr
          refine ⟨⟨w ++ o.attempt, w ++ o.attempt ++ emptyLastBits (w ++ o.attempt).length⟩,
            o.attempt ++ emptyLastBits (w ++ o.attempt).length, ?_, by simp [List.append_assoc], ?_,
            (fun h => by cases h)⟩
          · simp only [if_true, show (true != false) = true by rfl]
            rw [writeEmptyLast_ok, obind_ok]
          · intro _ rest f
            rw [List.append_assoc]
            have her := (streamReader wo window large).emptyLast (w ++ o.attempt).length s'
            rw [List.length_append] at her
            exact (streamReader wo window large).two _ _ _ s s' s' _ _ rest f hr (by rw [List.length_append]; exact her)
  · have hf : o.shouldCompress = false := by simpa using hsc
    have hst : wmbiStored data o w = true := by unfold wmbiStored; rw [hf]; rfl
    simp only [hf, Bool.not_false, if_true, hst]
    exact ⟨rS, bitsS, eS, fS, aS, bS⟩

end BV.MetaBlock

namespace BV.Props.C01E2E
open BV.Recoder BV.MetaBlock

def Reads (wo : WordOracle) (window : Nat) (large isLast : Bool) (pos : Nat) (s : RdSt) (bits : List Bool) (s' : RdSt) : Prop :=
  if isLast then ∀ rest f, readMetaBlocks wo window large (f + 2) pos s (bits ++ rest) = some (s', rest)
  else ReadsTo wo window large pos s bits false (pos + bits.length) s'

theorem reads_iff {wo : WordOracle} {window : Nat} {large isLast : Bool} {pos : Nat} {s s' : RdSt} {bits : List Bool} :
    Reads wo window large isLast pos s bits s' ↔
      (isLast = true → ∀ rest f, readMetaBlocks wo window large (f + 2) pos s (bits ++ rest) = some (s', rest)) ∧
      (isLast = false → ReadsTo wo window large pos s bits false (pos + bits.length) s') := by
  cases isLast <;> simp [Reads]

end BV.Props.C01E2E
