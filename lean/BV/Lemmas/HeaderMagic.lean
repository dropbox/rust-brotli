/-
The magic metadata block (C15 `magic_block_exact`): what
`BrotliWriteMetadataMetaBlock` appends, and that the specification reader
(`BV.HeaderSpec.readMetaBlock`, RFC 7932 §9.2) takes it for a metadata
meta-block whose payload is `e1 97 8x ‖ VERSION ‖ base-128(size_hint)`.
-/
import BV.Lemmas.HeaderBits
namespace BV.Header
open BV.Bits BV.HeaderSpec BV.Bits.Out

def magicPayload (p : Params) : List Nat :=
  magicNumber p ++ [BV.Gen.BROTLI_CRATE_VERSION] ++ encodeBase128 p.sizeHint

theorem magicNumber_eq (p : Params) :
    magicNumber p = [0xe1, 0x97, if p.catable && !p.useDictionary then 0x81 else if p.appendable then 0x82 else 0x80] := by
  simp only [magicNumber]
  cases p.catable <;> cases p.useDictionary <;> cases p.appendable <;> rfl

theorem magicNumber_lt (p : Params) : ∀ b ∈ magicNumber p, b < 256 := by
  rw [magicNumber_eq]; intro b hb; simp at hb
  rcases hb with rfl | rfl | rfl
  · decide
  · decide
  · split <;> try split
    all_goals decide

theorem magicPayload_lt (p : Params) (hh : p.sizeHint < 2 ^ 64) : ∀ b ∈ magicPayload p, b < 256 := by
  obtain ⟨_, _, _, hb⟩ := encodeBase128_spec p.sizeHint hh []
  intro b h
  simp only [magicPayload, List.mem_append, List.mem_singleton] at h
  rcases h with (h | h) | h
  · exact magicNumber_lt p b h
  · subst h; decide
  · exact hb b h

theorem magicPayload_length (p : Params) :
    (magicPayload p).length = 4 + (encodeBase128 p.sizeHint).length := by
  simp [magicPayload, magicNumber_eq]; omega

/-- the header bits of the magic block: ISLAST = 0, MNIBBLES = 11 (metadata),
reserved 0, MSKIPBYTES = 1 (bits `1,0`), then MSKIPLEN − 1 in 8 bits: the payload is three magic bytes, the
version byte and `k` size-hint bytes, so MSKIPLEN − 1 = `3 + k`.  Fourteen bits in all (6 + 8) -/
def magicHeaderBits (k : Nat) : List Bool :=
  [false, true, true, false, true, false] ++ bitsOf 8 (3 + k)

theorem writeMeta_eq (p : Params) (w : Writer) (hh : p.sizeHint < 2 ^ 64) :
    writeMetadataMetaBlock p w =
      ok (jumpToByteBoundary (w ++ magicHeaderBits (encodeBase128 p.sizeHint).length)
            ++ (magicPayload p).flatMap (bitsOf 8)) := by
  obtain ⟨_, hl1, hl2, hb⟩ := encodeBase128_spec p.sizeHint hh []
  have hm := magicNumber_lt p
  simp only [writeMetadataMetaBlock, lit, litsMeta, BV.Gen.lits_WriteMetadataMetaBlock, List.getD_cons_zero, List.getD_cons_succ]
  rw [writeBits_bind 1 0 _ _ (by decide) (by decide), writeBits_bind 2 3 _ _ (by decide) (by decide),
    writeBits_bind 1 0 _ _ (by decide) (by decide), writeBits_bind 2 1 _ _ (by decide) (by decide),
    writeBits_bind 8 (3 + (encodeBase128 p.sizeHint).length) _ _ (by omega) (by decide), writeBytes_ok _ _ hm, Out.bind_ok,
    writeBits_bind 8 BV.Gen.BROTLI_CRATE_VERSION _ _ (by decide) (by decide), writeBytes_ok _ _ hb]
  simp [magicPayload, magicHeaderBits, bitsOf, List.append_assoc]

theorem readMeta_magic (p : Params) (w : Writer) (rest : List Bool) (hh : p.sizeHint < 2 ^ 64) :
    readMetaBlock w.length
        (magicHeaderBits (encodeBase128 p.sizeHint).length
          ++ List.replicate ((8 - (w.length + 14) % 8) % 8) false
          ++ (magicPayload p).flatMap (bitsOf 8) ++ rest)
      = some (MetaBlock.metadata (magicPayload p),
              w.length + 14 + (8 - (w.length + 14) % 8) % 8 + 8 * (magicPayload p).length, rest) := by
  obtain ⟨_, hl1, hl2, hb⟩ := encodeBase128_spec p.sizeHint hh []
  have hk : 3 + (encodeBase128 p.sizeHint).length < 2 ^ (8 * 1) := by omega
  have hpl := magicPayload_length p
  simp only [magicHeaderBits, List.cons_append, List.append_assoc,
    readMetaBlock, if_false, Bool.false_eq_true]
  have h2 : ∀ r, takeVal 2 (true :: true :: r) = some (3, r) := fun _ => rfl
  have h3 : ∀ r, takeVal 2 (true :: false :: r) = some (1, r) := fun _ => rfl
  simp only [List.nil_append] at *
  rw [h2]
  simp only [if_true]
  rw [h3]
  simp only []
  rw [takeVal_bitsOf (8 * 1) _ _ hk]
  simp only []
  have hpos : w.length + 1 + 2 + 3 + 8 * 1 = w.length + 14 := by omega
  rw [hpos, skipPad_pad]
  have hlen : (if (1 : Nat) = 0 then 0 else 3 + (encodeBase128 p.sizeHint).length + 1) = (magicPayload p).length := by
    simp [hpl]; omega
  simp only [hlen]
  rw [takeBytes_bytes _ _ (magicPayload_lt p hh)]
  simp

end BV.Header
