/-
`faithful` (hypothesis of the quality ≥ 4 writer theorems, BV/Model/MetaBlockFull.lean: after every command the
decoder's output is `hist ++` a prefix of the meta-block) is a CONSEQUENCE of the final state alone: the RFC
decoder only appends, and output length − cursor is constant, so if the run ends with `hist ++ mb` at cursor `|mb|`
every intermediate output is the prefix of `hist ++ mb` of length `|hist| + cursor` (`faithful_of_final`).  Behind it two
facts that the catable round trips need besides: `bits_of_all_readers`, `replay_out`.  The namespace is that of the main
user, BV/Props/C03Catable.lean; BV/Lemmas/ChainFinal.lean uses `faithful_of_final` too.
-/
import BV.Model.MetaBlockFull
import BV.Lemmas.RecoderDec

namespace BV.Catable
open BV.Recoder BV.PrefixArith BV.MetaBlock

theorem decStep_grows (w : WordOracle) (np nd window : Nat) (mb : Bytes) (s s' : DecSt) (c : Cmd)
    (h : decStep w np nd window mb s c = some s') : ∃ X, s'.out = s.out ++ X ∧ s'.cursor = s.cursor + X.length := by
  obtain ⟨_, hle, ⟨_, rfl⟩ | ⟨_, d, upd, _, _, ⟨_, _, rfl⟩ | ⟨_, word, _, _, rfl⟩⟩⟩ := decStep_cases h
  all_goals
    have hl := length_take_drop mb _ _ hle
  · exact ⟨_, rfl, by rw [hl]⟩
  · obtain ⟨X, e, l⟩ := copyBytes_grows (copyLenCode c.copyLenField) d.toNat (s.out ++ (mb.drop s.cursor).take c.insertLen)
    exact ⟨(mb.drop s.cursor).take c.insertLen ++ X, by simp only [e, List.append_assoc],
      by simp only [List.length_append, hl, l]; omega⟩
  · exact ⟨(mb.drop s.cursor).take c.insertLen ++ word, by simp only [List.append_assoc],
      by simp only [List.length_append, hl]; omega⟩

theorem decSteps_grows (w : WordOracle) (np nd window : Nat) (mb : Bytes) :
    ∀ (cmds : List Cmd) (s s' : DecSt), decSteps w np nd window mb s cmds = some s' →
      ∃ X, s'.out = s.out ++ X ∧ s'.cursor = s.cursor + X.length := by
  intro cmds
  induction cmds with
  | nil => intro s s' h; simp only [decSteps, Option.some.injEq] at h; subst h; exact ⟨[], by simp, by simp⟩
  | cons c cs ih =>
    intro s s' h
    obtain ⟨s1, h1, h⟩ := decSteps_cons_some.mp h
    obtain ⟨X, e, l⟩ := decStep_grows w np nd window mb s s1 c h1
    obtain ⟨Y, e2, l2⟩ := ih s1 s' h
    exact ⟨X ++ Y, by rw [e2, e, List.append_assoc], by rw [l2, l, List.length_append]; omega⟩

theorem faithful_of_final (w : WordOracle) (np nd window : Nat) (mb hist : Bytes) :
    ∀ (cmds : List Cmd) (s : DecSt) (r : List Int), s.out.length = hist.length + s.cursor →
      decSteps w np nd window mb s cmds = some ⟨hist ++ mb, r, mb.length⟩ →
      faithful w np nd window mb hist s cmds := by
  intro cmds
  induction cmds with
  | nil => intro s r _ _; trivial
  | cons c cs ih =>
    intro s r hlen h
    obtain ⟨s1, h1, h⟩ := decSteps_cons_some.mp h
    simp only [faithful, h1]
    obtain ⟨X, e, l⟩ := decStep_grows w np nd window mb s s1 c h1
    obtain ⟨Y, e2, l2⟩ := decSteps_grows w np nd window mb cs s1 _ h
    simp only at e2 l2
    have hlen1 : s1.out.length = hist.length + s1.cursor := by rw [e, l, List.length_append]; omega
    refine ⟨?_, ih s1 r hlen1 h⟩
    have ht : s1.out = (hist ++ mb).take s1.out.length := by rw [e2]; simp
    rw [ht, hlen1, List.take_append, List.take_of_length_le (by omega)]
    simp

/-- a writer does not see the reader: `∀ reader state, ∃ bits` becomes `∃ bits, ∀ reader state` -/
theorem bits_of_all_readers {store : BV.Bits.Out (List Bool)} {w : List Bool}
    {P : Bytes → List Int → WordOracle → Nat → Prop} {Q : Bytes → List Int → WordOracle → Nat → List Bool → Prop}
    {h₀ : Bytes} {ring₀ : List Int} {w₀ : WordOracle} {window₀ : Nat} (h0 : P h₀ ring₀ w₀ window₀)
    (h : ∀ h' ring' w' window', P h' ring' w' window' → ∃ bits, store = .ok (w ++ bits) ∧ Q h' ring' w' window' bits) :
    ∃ bits, store = .ok (w ++ bits) ∧ ∀ h' ring' w' window', P h' ring' w' window' → Q h' ring' w' window' bits := by
  obtain ⟨bits, e, _⟩ := h _ _ _ _ h0
  refine ⟨bits, e, fun h' ring' w' window' hP => ?_⟩
  obtain ⟨bits2, e2, q⟩ := h h' ring' w' window' hP
  rw [List.append_cancel_left (BV.Bits.Out.ok.inj (e2.symm.trans e))] at q
  exact q

theorem replay_out {w : WordOracle} {np nd window : Nat} {mb hist out out' : Bytes} {ring ring' : List Int} {cmds : List Cmd}
    {n : Nat} (hd : decSteps w np nd window mb ⟨hist, ring, 0⟩ cmds = some ⟨out, ring', n⟩)
    (hr : replayCommands w np nd window mb ring hist cmds = some out') : out' = out := by
  unfold replayCommands at hr
  rw [hd] at hr
  exact (Option.some.inj hr).symm

end BV.Catable
