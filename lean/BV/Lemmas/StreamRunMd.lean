import BV.Lemmas.StreamRunSim
/-
Run-level discipline of the bit-carrying events (for BV/Props/C04Run.lean):

* ALIGNMENT — a sync padding block `pad lbb` and a metadata header `mdHeader n lbb` are emitted at a bit
  offset congruent to `lbb` modulo 8 (`lbb` = the carry `last_bytes_bits_` at that moment);
* GROUPING — a metadata header for `n` bytes is followed by `mdBody` chunks totalling exactly `n` bytes
  before any other bit-carrying event (stream header, padding, payload piece, another metadata header),
  and `n ≤ 2^24`.

`MdLog` is the acceptance condition of that automaton; `step_md` proves it atom by atom, `mdSim` makes the
automaton an abstraction of the stream machine, so the log of a whole history is accepted (`run_factsX`).
-/
namespace BV.Stream
open BV.Bits

def mdOpen (s : St) : Nat := if s.streamState = .metadataBody then s.remainingMetadata else 0

/-- `off`: bits emitted so far; `opn`: open metadata payload bytes -/
def evGuard (off opn : Nat) : Ev → Prop
  | .window _ => opn = 0
  | .pad l => opn = 0 ∧ off % 8 = l % 8
  | .enc _ _ _ _ _ => opn = 0
  | .fast _ _ => opn = 0
  | .mdHeader n l => opn = 0 ∧ off % 8 = l % 8 ∧ n ≤ 16777216
  | .mdBody b => b.length ≤ opn
  | _ => True

def evOpen (opn : Nat) : Ev → Nat
  | .mdHeader n _ => n
  | .mdBody b => opn - b.length
  | _ => opn

def MdLog (o : Oracle) : Nat → Nat → List Ev → Prop
  | _, _, [] => True
  | off, opn, e :: es => evGuard off opn e ∧ MdLog o (off + (e.bits o).length) (evOpen opn e) es

def logOpen (opn : Nat) (log : List Ev) : Nat := log.foldl evOpen opn

theorem emitted_length (d : Bytes) (s : St) : (emitted d s).length = 8 * (d ++ s.pending).length + s.lastBytesBits := by
  rw [emitted_def, List.length_append, bytesBits_length, bitsOf_length]

theorem mdOpen_of_not_md {s : St} (h : s.streamState ≠ .metadataBody) : mdOpen s = 0 := by
  unfold mdOpen; rw [if_neg h]

theorem step_md {o : Oracle} {op : Nat} {s s' : St} {io io' : Io} {e : Ev}
    (h : Step o op (s, io) e (s', io')) (hF : FrameInv s) (off : Nat) (hoff : off % 8 = s.lastBytesBits % 8) :
    evGuard off (mdOpen s) e ∧ mdOpen s' = evOpen (mdOpen s) e := by
  have closed : ∀ {t : St}, s.streamState ≠ .metadataBody → t.streamState ≠ .metadataBody → mdOpen s = 0 ∧ mdOpen t = mdOpen s :=
    fun h1 h2 => ⟨mdOpen_of_not_md h1, (mdOpen_of_not_md h2).trans (mdOpen_of_not_md h1).symm⟩
  have mark : ∀ {il ff : Bool}, s.streamState = .processing → markState s.streamState il ff ≠ .metadataBody :=
    fun h1 hb => by rw [h1] at hb; cases markState_body hb
  rcases h.effect with ⟨hf, rfl, rfl, _⟩ | ⟨hI, ha⟩
  · obtain ⟨p, rfl⟩ := hf
    refine ⟨?_, ?_⟩ <;> simp [evGuard, evOpen, mdOpen, ensureInitialized, St.new]
  · cases ha with
    | copy _ _ _ hst =>
      have hnb : s.streamState ≠ .metadataBody := by rw [hst]; simp
      exact ⟨trivial, (closed hnb hnb).2⟩
    | pad hc =>
      have hnb : s.streamState ≠ .metadataBody := by rw [hc.1]; simp
      exact ⟨⟨(closed hnb hnb).1, hoff⟩, (closed hnb hnb).2⟩
    | enc hE =>
      have hnb : s.streamState ≠ .metadataBody := fun hb => absurd (hF.body hb).2 (hE.body (Or.inl hb)).2
      exact closed hnb (fun hb => hnb (hE.body (Or.inr hb)).1)
    | flushed _ _ _ _ hfl => exact ⟨trivial, (closed (by rw [hfl]; simp) (fun hb => by cases hb)).2⟩
    | fastFlush _ _ _ _ hst => exact ⟨trivial, (closed (by rw [hst]; simp) (fun hb => by cases hb)).2⟩
    | fastBlock _ _ _ _ _ hst => exact closed (by rw [hst]; simp) (mark hst)
    | mdEnter hop hentry hmv =>
      refine ⟨trivial, ?_⟩
      rcases hmv with ⟨hp, _, rfl⟩ | ⟨_, rfl, rfl⟩
      · exact (closed (by rw [hp]; simp) (fun hb => by cases hb)).2
      · rfl
    | mdHead hM hop hpend hlf hst hok =>
      have h0 : mdOpen s = 0 := mdOpen_of_not_md (by rw [hst]; simp)
      exact ⟨⟨h0, hoff, hM.rmLe⟩, by simp [mdOpen, mdHeadSt, evOpen]⟩
    | mdDone hM hop hpend hlf hst hz => exact ⟨trivial, by simp [mdOpen, mdDoneSt, evOpen, hst, hz]⟩
    | mdOut hM hop hpend hlf hst hnz hao hle =>
      have hlen : (io.input.take (mdOutN s io)).length = mdOutN s io := by rw [List.length_take]; omega
      have hrm := hM.rmLe
      have hN : mdOutN s io ≤ s.remainingMetadata := by
        unfold mdOutN
        have := Nat.mod_le (min s.remainingMetadata io.availOut) two32
        have := Nat.min_le_left s.remainingMetadata io.availOut
        omega
      have ho : mdOpen s = s.remainingMetadata := by unfold mdOpen; rw [if_pos hst]
      refine ⟨by show _ ≤ _; rw [hlen, ho]; exact hN, ?_⟩
      show mdOpen (mdOutSt s io) = mdOpen s - (io.input.take (mdOutN s io)).length
      rw [hlen, ho]
      unfold mdOpen mdOutSt
      simp only [hst, if_true]
      unfold two32 at *
      omega
    | mdTiny hM hop hpend hlf hst hnz hao hle =>
      have hlen : (io.input.take (mdTinyN s)).length = mdTinyN s := by rw [List.length_take]; omega
      have hrm := hM.rmLe
      have hN : mdTinyN s ≤ s.remainingMetadata := Nat.min_le_left _ _
      have ho : mdOpen s = s.remainingMetadata := by unfold mdOpen; rw [if_pos hst]
      refine ⟨by show _ ≤ _; rw [hlen, ho]; exact hN, ?_⟩
      show mdOpen (mdTinySt s io) = mdOpen s - (io.input.take (mdTinyN s)).length
      rw [hlen, ho]
      unfold mdOpen mdTinySt
      simp only [hst, if_true]
      unfold two32 at *
      omega
    | _ => exact ⟨trivial, rfl⟩

theorem step_off {o : Oracle} {op : Nat} {s s' : St} {io io' : Io} {e : Ev}
    (h : Step o op (s, io) e (s', io')) (hF : FrameInv s) (off : Nat) (hoff : off % 8 = s.lastBytesBits % 8) :
    (off + (e.bits o).length) % 8 = s'.lastBytesBits % 8 := by
  have hb := congrArg List.length (step_emitted hF h [])
  rw [List.length_append, emitted_length, emitted_length] at hb
  omega

theorem mdOpen_fresh {s : St} (h : IsFresh s) : mdOpen s = 0 := by
  obtain ⟨p, rfl⟩ := h
  simp [mdOpen, St.new]

structure RunFactsX (o : Oracle) (s0 : St) (t0 : Trace) (s : St) (t : Trace) (log : List Ev) : Prop where
  ok : RunOK s
  bits : deliveredBits t s = deliveredBits t0 s0 ++ logBits o log
  pos : s.pos = logPos s0.pos log
  lok : LogOK s0.pos log
  reqs : t.reqs = t0.reqs ++ logReqs log
  win : WinShape s0 s log
  md : MdLog o (deliveredBits t0 s0).length (mdOpen s0) log
  opn : mdOpen s = logOpen (mdOpen s0) log
  hdr : ∀ e ∈ log, ∀ b, e = .window b → ∃ sf, IsFresh sf ∧ b = (ensureInitialized sf).carry

theorem deliveredBits_off (t : Trace) (s : St) : (deliveredBits t s).length % 8 = s.lastBytesBits % 8 := by
  have : deliveredBits t s = emitted t.delivered s := rfl
  rw [this, emitted_length]; omega

theorem step_window {o : Oracle} {op : Nat} {s s' : St} {io io' : Io} {b : List Bool}
    (h : Step o op (s, io) (.window b) (s', io')) : IsFresh s ∧ b = (ensureInitialized s).carry := by
  rcases h.effect with ⟨hf, he, _⟩ | ⟨_, ha⟩
  · cases he; exact ⟨hf, rfl⟩
  · cases ha

/-- the state is (bits emitted so far, metadata payload bytes still open) -/
def mdSim (o : Oracle) : Sim o (Nat × Nat) where
  T a e a' := evGuard a.1 a.2 e ∧ a' = (a.1 + (e.bits o).length, evOpen a.2 e)
    ∧ ∀ b, e = .window b → ∃ sf, IsFresh sf ∧ b = (ensureInitialized sf).carry
  R a s := FrameInv s ∧ a.1 % 8 = s.lastBytesBits % 8 ∧ a.2 = mdOpen s
  opOK _ := True
  step := by
    intro op s s' io io' e a _ ⟨hF, hoff, hopn⟩ hs
    obtain ⟨g, ho⟩ := step_md hs hF a.1 hoff
    refine ⟨(a.1 + (e.bits o).length, evOpen a.2 e), ⟨step_frameInv hF hs, step_off hs hF a.1 hoff, by rw [hopn]; exact ho.symm⟩,
      by rw [hopn]; exact g, rfl, ?_⟩
    intro b hb
    subst hb
    exact ⟨s, step_window hs⟩
  take := by
    intro s s' size out a ⟨hF, hoff, hopn⟩ h
    obtain ⟨f1, f2, f3, _, _, f6, f7⟩ := takeOutput_fields h
    have hnb : s'.streamState = .metadataBody → s'.streamState = s.streamState := by
      intro hb
      rcases f7 with h1 | ⟨_, h1⟩
      · exact h1
      · rw [h1] at hb; cases hb
    have hip : s'.inputPos = s.inputPos := congrArg Pos.ip f3
    have hlf : s'.lastFlushPos = s.lastFlushPos := congrArg Pos.lf f3
    refine ⟨⟨carryOK_eq hF.carry f1 f2, ?_⟩, by rw [f2]; exact hoff, ?_⟩
    · intro hb
      rw [f2, hip, hlf]
      exact hF.body (hnb hb ▸ hb)
    · rw [hopn]
      rcases f7 with h1 | ⟨h0, h1⟩
      · unfold mdOpen; rw [h1, f6]
      · rw [mdOpen_of_not_md (by rw [h0]; simp), mdOpen_of_not_md (by rw [h1]; simp)]
  setp := by
    intro s id v a ⟨hF, hoff, hopn⟩
    obtain ⟨p, hp⟩ := setParameter_params s id v
    rw [hp]
    exact ⟨frameInv_of_eq hF rfl rfl rfl rfl rfl, hoff, hopn⟩
  hint := by
    intro s a ⟨hF, hoff, hopn⟩
    rw [updateSizeHint_eq]
    exact ⟨frameInv_of_eq hF rfl rfl rfl rfl rfl, hoff, hopn⟩

theorem path_mdLog {o : Oracle} {log : List Ev} {a a' : Nat × Nat} (h : Path (mdSim o).T a log a') :
    MdLog o a.1 a.2 log ∧ a'.2 = logOpen a.2 log
      ∧ ∀ e ∈ log, ∀ b, e = .window b → ∃ sf, IsFresh sf ∧ b = (ensureInitialized sf).carry := by
  induction log generalizing a with
  | nil => cases h; exact ⟨trivial, rfl, fun _ he => by cases he⟩
  | cons e es ih =>
    obtain ⟨a1, ⟨g, rfl, hw⟩, p⟩ := h
    obtain ⟨m1, m2, m3⟩ := ih p
    refine ⟨⟨g, m1⟩, m2, fun e' he' => ?_⟩
    rcases List.mem_cons.mp he' with rfl | h1
    · exact hw
    · exact m3 e' h1

theorem run_factsX {o : Oracle} {fuel : Nat} {calls : List Call} {s0 s : St} {t0 t : Trace} (hR : RunOK s0)
    (hops : HistOK calls) (hw : s0.inputPos + histLen calls < two64)
    (h : run o fuel calls s0 t0 = .ok (s, t)) : ∃ log, RunFactsX o s0 t0 s t log := by
  obtain ⟨log, hsim, f⟩ := run_sim (mdSim o) hR hops (histOp_of_forall (fun _ => trivial) calls) hw h
  obtain ⟨a', ⟨_, _, hopn⟩, p⟩ := hsim ((deliveredBits t0 s0).length, mdOpen s0) ⟨hR.frame, deliveredBits_off t0 s0, rfl⟩
  obtain ⟨m1, m2, m3⟩ := path_mdLog p
  exact ⟨log, f.ok, f.bits, f.pos, f.lok, f.reqs, f.win, m1, hopn.symm.trans m2, m3⟩

end BV.Stream
