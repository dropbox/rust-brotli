import BV.Lemmas.StreamEnc
/-
The state invariant `Inv` of the stream machine (what holds between any two iterations of its loops and between
calls once `ensure_initialized` has run) and its preservation by every primitive; the equations of the three
bookkeeping functions `update_size_hint`, `ensure_initialized`, `markAfterEncode`.
-/
namespace BV.Stream
open BV.Bits

/-- the configuration `compress_stream` sends to `compress_stream_fast` -/
def fastMode (p : Params) : Prop := (p.quality = 0 ∨ p.quality = 1) ∧ p.catable = false ∧ p.magic = false

/-- `blk`: at most one input block is unprocessed (`copy_input_to_ring_buffer` stops at the block boundary);
`mdLe`: the guard of `process_metadata` (2^24); `q01`: quality 0/1 never accumulates a meta-block; `flushLf`: a requested
flush has flushed everything, except on the one-shot path, which requests it without keeping `last_flush_pos_` -/
structure Inv (s : St) : Prop where
  init : s.isInitialized = true
  fl_le : s.lastFlushPos ≤ s.lastProcessedPos
  lp_le : s.lastProcessedPos ≤ s.inputPos
  ip_lt : s.inputPos < two64
  blk : s.inputPos - s.lastProcessedPos ≤ s.blockSize
  lastFin : s.isLastBlockEmitted = true → s.streamState = .finished
  mdIff : (s.streamState = .metadataHead ∨ s.streamState = .metadataBody) ↔ s.remainingMetadata ≠ u32Max
  mdLe : s.remainingMetadata ≠ u32Max → s.remainingMetadata ≤ 16777216
  q01 : (s.params.quality = 0 ∨ s.params.quality = 1) → s.lastFlushPos = s.lastProcessedPos
  flushLf : s.streamState = .flushRequested → s.lastFlushPos = s.inputPos ∨ fastMode s.params

def SState.isMd (t : SState) : Bool := t == .metadataHead || t == .metadataBody

theorem SState.isMd_iff (t : SState) : t.isMd = true ↔ (t = .metadataHead ∨ t = .metadataBody) := by
  cases t <;> simp [SState.isMd]

/-- `c0`: the stream state at the start of the iteration, or of the call.  It is what the fields `SlowInv.st` and
`FastInv.st` say written out. -/
def StateMove (op : Nat) (c0 : SState) (s : St) (io : Io) : Prop :=
  s.streamState = c0 ∨ (c0 = .processing ∧ io.availIn = 0 ∧
    ((op = 1 ∧ s.streamState = .flushRequested) ∨ (op = 2 ∧ s.streamState = .finished)))

theorem StateMove.track {op : Nat} {c0 : SState} {s s' : St} {io io' : Io} (hm : StateMove op s.streamState s' io')
    (hle : io'.availIn ≤ io.availIn) (st : StateMove op c0 s io) : StateMove op c0 s' io' := by
  rcases hm with h6 | ⟨h6, h7, h8⟩
  · rcases st with h9 | ⟨h9, h10, h11⟩
    · exact Or.inl (h6.trans h9)
    · refine Or.inr ⟨h9, by omega, ?_⟩
      rw [h6]; exact h11
  · rcases st with h9 | ⟨h9, h10, h11⟩
    · exact Or.inr ⟨h9.symm.trans h6, h7, h8⟩
    · rcases h11 with ⟨_, h12⟩ | ⟨_, h12⟩ <;> rw [h6] at h12 <;> cases h12

theorem blockSize_congr {s s' : St} (h : s'.params.lgblock = s.params.lgblock) : s'.blockSize = s.blockSize := by
  simp [St.blockSize, h]

theorem blockSize_pos (s : St) : 0 < s.blockSize := by
  unfold St.blockSize; exact Nat.pow_pos (by omega)

theorem Inv.transfer {s s' : St} (hI : Inv s)
    (hp : s'.params.lgblock = s.params.lgblock) (hip : s'.inputPos = s.inputPos)
    (hrm : s'.remainingMetadata = s.remainingMetadata) (hin : s'.isInitialized = s.isInitialized)
    (hmd : s'.streamState.isMd = s.streamState.isMd)
    (h1 : s'.lastFlushPos ≤ s'.lastProcessedPos) (h2 : s'.lastProcessedPos ≤ s'.inputPos)
    (h3 : s.lastProcessedPos ≤ s'.lastProcessedPos)
    (h4 : s'.isLastBlockEmitted = true → s'.streamState = .finished)
    (h5 : (s'.params.quality = 0 ∨ s'.params.quality = 1) → s'.lastFlushPos = s'.lastProcessedPos)
    (h6 : s'.streamState = .flushRequested → s'.lastFlushPos = s'.inputPos ∨ fastMode s'.params) : Inv s' := by
  refine ⟨hin.trans hI.init, h1, h2, hip ▸ hI.ip_lt, ?_, h4, ?_, ?_, h5, h6⟩
  · rw [blockSize_congr hp, hip]
    have := hI.blk
    omega
  · rw [hrm, ← hI.mdIff, ← SState.isMd_iff, ← SState.isMd_iff, hmd]
  · rw [hrm]; exact hI.mdLe

theorem Inv.of_frame {s s' : St} (hI : Inv s) (hf : s'.frame = s.frame)
    (hlf : s'.lastFlushPos = s.lastFlushPos) (hlp : s'.lastProcessedPos = s.lastProcessedPos)
    (hle : s'.isLastBlockEmitted = s.isLastBlockEmitted) : Inv s' := by
  replace hf := St.frame_eq hf
  obtain ⟨f1, f2, f3, f4, f5, _, _⟩ := hf
  refine hI.transfer (by rw [f1]) f2 f3 f5 (by rw [f4]) ?_ ?_ ?_ ?_ ?_ ?_
  · rw [hlf, hlp]; exact hI.fl_le
  · rw [hlp, f2]; exact hI.lp_le
  · rw [hlp]; exact Nat.le_refl _
  · rw [hle, f4]; exact hI.lastFin
  · rw [f1, hlf, hlp]; exact hI.q01
  · rw [f4, hlf, f2, f1]; exact hI.flushLf

theorem Inv.unprocessed {s : St} (hI : Inv s) : s.unprocessed = s.inputPos - s.lastProcessedPos :=
  wsub64_eq hI.lp_le hI.ip_lt

theorem inv_pad {s s' : St} (hI : Inv s) (h : injectBytePaddingBlock s = .ok s') : Inv s' := by
  have p := pad_frame h
  exact hI.of_frame p.frame p.lastFlushPos p.lastProcessedPos p.isLastBlockEmitted

theorem inv_push {s s' : St} {io io' : Io} {b : Bool} (hI : Inv s)
    (h : injectFlushOrPushOutput s io = .ok (s', io', b)) : Inv s' := by
  have p := push_frame h
  exact hI.of_frame p.frame p.lastFlushPos p.lastProcessedPos p.isLastBlockEmitted

theorem inv_checkFlushComplete {s : St} (hI : Inv s) : Inv (checkFlushComplete s) := by
  have hst := checkFlushComplete_state s
  rw [checkFlushComplete_eq]
  refine hI.transfer rfl rfl rfl rfl ?_ hI.fl_le hI.lp_le (Nat.le_refl _) (fun h => ?_) hI.q01 (fun h => ?_)
  · show (checkFlushComplete s).streamState.isMd = _
    rw [hst]
    split
    · rename_i h; rw [h.1]; rfl
    · rfl
  · show (checkFlushComplete s).streamState = _
    rw [hst, hI.lastFin h]; simp
  · have h' : (checkFlushComplete s).streamState = .flushRequested := h
    rw [hst] at h'
    split at h'
    · cases h'
    · exact hI.flushLf h'

def St.hint (s : St) (h : Nat) : St := { s with params := { s.params with sizeHint := h } }

theorem updateSizeHint_eq (s : St) (n : Nat) : updateSizeHint s n = s.hint (updateSizeHint s n).params.sizeHint := by
  unfold updateSizeHint St.hint
  split <;> rfl

theorem updateSizeHint_fields (s : St) (n : Nat) :
    (updateSizeHint s n).params.lgblock = s.params.lgblock ∧ (updateSizeHint s n).params.quality = s.params.quality
    ∧ (updateSizeHint s n).params.catable = s.params.catable ∧ (updateSizeHint s n).params.magic = s.params.magic
    ∧ (updateSizeHint s n).params.lgwin = s.params.lgwin
    ∧ (updateSizeHint s n).inputPos = s.inputPos ∧ (updateSizeHint s n).remainingMetadata = s.remainingMetadata
    ∧ (updateSizeHint s n).isInitialized = s.isInitialized ∧ (updateSizeHint s n).streamState = s.streamState
    ∧ (updateSizeHint s n).lastFlushPos = s.lastFlushPos ∧ (updateSizeHint s n).lastProcessedPos = s.lastProcessedPos
    ∧ (updateSizeHint s n).isLastBlockEmitted = s.isLastBlockEmitted ∧ (updateSizeHint s n).pending = s.pending
    ∧ (updateSizeHint s n).lastBytesBits = s.lastBytesBits ∧ (updateSizeHint s n).lastBytes = s.lastBytes := by
  by_cases h : s.params.sizeHint = 0 <;> simp [updateSizeHint, h]

theorem inv_updateSizeHint {s : St} (hI : Inv s) (n : Nat) : Inv (updateSizeHint s n) := by
  rw [updateSizeHint_eq]
  exact hI.transfer rfl rfl rfl rfl rfl hI.fl_le hI.lp_le (Nat.le_refl _) hI.lastFin hI.q01 hI.flushLf

theorem ensureInitialized_id {s : St} (h : s.isInitialized = true) : ensureInitialized s = s := by
  simp [ensureInitialized, h]

theorem ensureInitialized_eq (s : St) :
    ensureInitialized s =
      { s with params := (ensureInitialized s).params
               remainingMetadata := (ensureInitialized s).remainingMetadata
               ring := (ensureInitialized s).ring
               lastBytes := (ensureInitialized s).lastBytes
               lastBytesBits := (ensureInitialized s).lastBytesBits
               isInitialized := (ensureInitialized s).isInitialized } := by
  unfold ensureInitialized
  split <;> rfl

theorem encodeData_succeeds {o : Oracle} {s s' : St} {site : Nat} {il ff res : Bool} {req : Req} (hI : Inv s)
    (hst : s.streamState ≠ .finished) (h : encodeData o s site il ff = .ok (s', res, req)) : res = true := by
  rw [encodeData_res h]
  constructor
  · cases hle : s.isLastBlockEmitted
    · rfl
    · exact absurd (hI.lastFin hle) hst
  · rw [hI.unprocessed]
    have := hI.blk
    omega

def markState (t : SState) (il ff : Bool) : SState := if il then .finished else if ff then .flushRequested else t

theorem markAfterEncode_eq (s : St) (il ff : Bool) :
    markAfterEncode s il ff = { s with streamState := markState s.streamState il ff } := by
  unfold markAfterEncode markState
  cases il <;> cases ff <;> rfl

theorem markState_body {t : SState} {il ff : Bool} (h : markState t il ff = .metadataBody) : t = .metadataBody := by
  unfold markState at h
  cases il <;> cases ff <;> simp at h <;> exact h

theorem markAfterEncode_fields (s : St) (il ff : Bool) :
    (markAfterEncode s il ff).params = s.params ∧ (markAfterEncode s il ff).inputPos = s.inputPos
    ∧ (markAfterEncode s il ff).remainingMetadata = s.remainingMetadata
    ∧ (markAfterEncode s il ff).isInitialized = s.isInitialized
    ∧ (markAfterEncode s il ff).lastFlushPos = s.lastFlushPos
    ∧ (markAfterEncode s il ff).lastProcessedPos = s.lastProcessedPos
    ∧ (markAfterEncode s il ff).isLastBlockEmitted = s.isLastBlockEmitted
    ∧ (markAfterEncode s il ff).pending = s.pending ∧ (markAfterEncode s il ff).lastBytesBits = s.lastBytesBits
    ∧ (markAfterEncode s il ff).streamState = (if il then .finished else if ff then .flushRequested else s.streamState) := by
  unfold markAfterEncode
  cases il <;> cases ff <;> exact ⟨rfl, rfl, rfl, rfl, rfl, rfl, rfl, rfl, rfl, rfl⟩

/-- `il = false`: with `il` the latch `is_last_block_emitted_` is set before `markAfterEncode` makes the state
FINISHED, and `lastFin` fails in between -/
theorem inv_encode {o : Oracle} {s s1 : St} {site : Nat} {il ff : Bool} {req : Req} (hI : Inv s)
    (h : encodeData o s site il ff = .ok (s1, true, req)) (hil : il = false) : Inv s1 := by
  obtain ⟨f, _, _, _, _⟩ := encodeData_frame h
  obtain ⟨p1, p2, p3, p4⟩ := encodeData_pos h hI.fl_le hI.lp_le hI.ip_lt
  have hl := encodeData_latch h
  replace f := St.frame_eq f
  obtain ⟨f1, f2, f3, f4, f5, _, _⟩ := f
  refine hI.transfer (by rw [f1]) f2 f3 f5 (by rw [f4]) p1 (by rw [f2]; exact p3) p2 ?_ ?_ ?_
  · intro hle
    rw [hl, hil] at hle
    exact absurd hle (by simp)
  · rw [f1]; intro hq; exact encodeData_q01 h hq (hI.q01 hq)
  · rw [f4, f2, f1]
    intro hfl
    rcases hI.flushLf hfl with hh | hh
    · left; omega
    · exact Or.inr hh

theorem inv_encode_mark {o : Oracle} {s s1 : St} {site : Nat} {il ff : Bool} {req : Req} (hI : Inv s)
    (hst : s.streamState = .processing)
    (h : encodeData o s site il ff = .ok (s1, true, req)) : Inv (markAfterEncode s1 il ff) := by
  obtain ⟨f, _, _, _, _⟩ := encodeData_frame h
  obtain ⟨p1, p2, p3, p4⟩ := encodeData_pos h hI.fl_le hI.lp_le hI.ip_lt
  have hl := encodeData_latch h
  replace f := St.frame_eq f
  obtain ⟨f1, f2, f3, f4, f5, _, _⟩ := f
  obtain ⟨k1, k2, k3, k4, k5, k6, k7, _, _, k10⟩ := markAfterEncode_fields s1 il ff
  refine hI.transfer (by rw [k1, f1]) (k2.trans f2) (k3.trans f3) (k4.trans f5) ?_ ?_ ?_ ?_ ?_ ?_ ?_
  · rw [k10, hst, f4, hst]
    cases il <;> cases ff <;> rfl
  · rw [k5, k6]; exact p1
  · rw [k6, k2, f2]; exact p3
  · rw [k6]; exact p2
  · intro hle
    rw [k7, hl] at hle
    rw [k10, hle]; rfl
  · rw [k1, f1, k5, k6]; intro hq; exact encodeData_q01 h hq (hI.q01 hq)
  · rw [k10, k5, k2, f2]
    intro hfl
    have hff : il = true ∨ ff = true := by
      cases il
      · cases ff
        · simp only [Bool.false_eq_true, ↓reduceIte] at hfl; rw [f4, hst] at hfl; cases hfl
        · exact Or.inr rfl
      · exact Or.inl rfl
    exact Or.inl (encodeData_forced h hff hI.lp_le hI.ip_lt hI.q01)

end BV.Stream
