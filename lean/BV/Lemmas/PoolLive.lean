/-
Helper lemmas for C07: the no-lost-wake-up invariant `InvL` (on top of `Inv`); from it deadlock freedom and
progress (the `step` of a runnable thread returns `.ok`).
-/
import BV.Lemmas.PoolRoute

namespace BV.Lemmas.Pool
open BV.Gen BV.FixedQueue BV.Pool BV.Lemmas.FixedQueue

theorem no_waiting_wake (ws : List WPc) : ∀ p, p ∈ ws.map WPc.wake → p ≠ .waiting := by
  intro p hp
  obtain ⟨q, _, rfl⟩ := List.mem_map.mp hp
  exact wake_ne_waiting q

theorem exited_prefix_set {ws : List WPc} {i : Nat} {q : WPc} (p' : WPc) {t : Nat}
    (hw : ws[i]? = some q) (hq : q ≠ .exited)
    (h : ∀ k, 1 ≤ k → k < t → ws[k - 1]? = some .exited) :
    ∀ k, 1 ≤ k → k < t → (ws.set i p')[k - 1]? = some .exited := by
  intro k h1 h2
  have hk := h k h1 h2
  have hne : i ≠ k - 1 := by
    intro e; rw [e, hk] at hw; cases hw; exact hq rfl
  rw [List.getElem?_set]
  simp [hne, hk]

theorem exited_prefix_wake {ws : List WPc} {t : Nat}
    (h : ∀ k, 1 ≤ k → k < t → ws[k - 1]? = some .exited) :
    ∀ k, 1 ≤ k → k < t → (ws.map WPc.wake)[k - 1]? = some .exited := by
  intro k h1 h2
  simp [h k h1 h2, WPc.wake]

theorem wsum_pos_exists (g : WPc → Nat) {ws : List WPc} (h : 0 < wsum g ws) :
    ∃ p, p ∈ ws ∧ 0 < g p := by
  induction ws with
  | nil => simp at h
  | cons a t ih =>
    simp only [wsum_cons] at h
    by_cases c : 0 < g a
    · exact ⟨a, List.mem_cons_self, c⟩
    · obtain ⟨p, hp, hg⟩ := ih (by omega)
      exact ⟨p, List.mem_cons_of_mem _ hp, hg⟩

structure InvL (s : State) : Prop where
  /-- a worker parked in `cvar.wait` has seen an empty jobs queue and no shutdown flag, and
  nothing has been pushed / no flag set since without a `notify_all` -/
  waitW : ∀ p, p ∈ s.workers → p = .waiting → s.jobs.size = 0 ∧ s.immediateShutdown = false
  subWait : s.spc = .waiting → ∃ n rest, s.prog = .join n :: rest ∧ cntR n s.results.items = 0
  subWoken : s.spc = .woken → ∃ n rest, s.prog = .join n :: rest
  noExit : s.immediateShutdown = false → ∀ p, p ∈ s.workers → p ≠ .exited
  /-- `drop` parked in the join of worker `t`: the `d` op is still at the head of the program and the
  handles before `t` have been joined -/
  joining : ∀ t, s.spc = .joining t → 1 ≤ t ∧ t ≤ s.workers.length ∧
    (∃ rest, s.prog = .dropPool :: rest) ∧ ∀ k, 1 ≤ k → k < t → s.workers[k - 1]? = some .exited
  afterDrop : dropped s = true → ∀ p, p ∈ s.workers → p = .exited

theorem invL_init (n : Nat) (p : List Op) : InvL (init n p) := by
  refine ⟨?_, by simp [init], by simp [init], ?_, by simp [init], by simp [init, dropped]⟩
  · intro q hq hw
    simp only [init, List.mem_replicate] at hq
    rw [hq.2] at hw; cases hw
  · intro _ q hq
    simp only [init, List.mem_replicate] at hq
    rw [hq.2]; simp

theorem SPc.wake_ne_waiting (q : SPc) : q.wake ≠ .waiting := by cases q <;> simp [SPc.wake]

theorem SPc.wake_eq_woken {q : SPc} (h : q.wake = .woken) : q = .waiting ∨ q = .woken := by
  cases q <;> simp [SPc.wake] at h ⊢

theorem SPc.wake_eq_joining {q : SPc} {t : Nat} (h : q.wake = .joining t) : q = .joining t := by
  cases q <;> simp [SPc.wake] at h ⊢
  exact h

theorem not_exited_wake {ws : List WPc} (h : ∀ p, p ∈ ws → p ≠ .exited) :
    ∀ p, p ∈ ws.map WPc.wake → p ≠ .exited :=
  forall_map_wake h fun _ hp e => hp (wake_eq_exited e)

theorem all_exited_of_getElem? {ws : List WPc}
    (h : ∀ k, 1 ≤ k → k ≤ ws.length → ws[k - 1]? = some .exited) : ∀ p, p ∈ ws → p = .exited := by
  intro p hp
  obtain ⟨k, hk, rfl⟩ := List.mem_iff_getElem.mp hp
  have := h (k + 1) (Nat.le_add_left 1 k) hk
  rw [Nat.add_sub_cancel, List.getElem?_eq_getElem hk] at this
  exact Option.some.inj this

theorem InvL.congr {s s' : State} (L : InvL s) (hw : s'.workers = s.workers)
    (hj : s'.jobs.size = s.jobs.size) (hr : s'.results.items = s.results.items)
    (hi : s'.immediateShutdown = s.immediateShutdown) (hs : s'.spc = s.spc)
    (hp : s'.prog = s.prog) : InvL s' := by
  refine ⟨?_, ?_, ?_, ?_, ?_, ?_⟩
  · rw [hw, hj, hi]; exact L.waitW
  · rw [hs, hp, hr]; exact L.subWait
  · rw [hs, hp]; exact L.subWoken
  · rw [hw, hi]; exact L.noExit
  · rw [hs, hp, hw]; exact L.joining
  · rw [dropped, hi, hs, hw]; exact L.afterDrop

theorem InvL.log {s : State} (L : InvL s) (t : Nat) (e : Ev) : InvL (s.log t e) :=
  L.congr rfl rfl rfl rfl rfl rfl

theorem InvL.setW {s : State} (L : InvL s) {i : Nat} {p : WPc} (hw : s.workers[i]? = some p)
    (hp : p ≠ .exited) (p' : WPc)
    (hwait : p' = .waiting → s.jobs.size = 0 ∧ s.immediateShutdown = false)
    (hex : p' = .exited → s.immediateShutdown = true) : InvL (s.setW i p') := by
  refine ⟨forall_set (P := fun p => p = .waiting → _) L.waitW i hwait, L.subWait, L.subWoken,
    fun h0 => forall_set (L.noExit h0) i fun e => ?_, fun t ht => ?_, fun hd => ?_⟩
  · exact absurd ((hex e).symm.trans h0) nofun
  · obtain ⟨h1, h2, h3, h4⟩ := L.joining t ht
    exact ⟨h1, by rw [setW_workers, List.length_set]; exact h2, h3, exited_prefix_set p' hw hp h4⟩
  · exact absurd (L.afterDrop hd p (List.mem_iff_getElem?.mpr ⟨i, hw⟩)) hp

/-- `notify_all` discharges every wake-up obligation: whatever was pushed or popped under the
lock before it, the invariant holds again once everybody has been woken -/
theorem InvL.notifyAll_of {s c : State} (L : InvL s) (hw : c.workers = s.workers)
    (hi : c.immediateShutdown = s.immediateShutdown) (hs : c.spc = s.spc) (hp : c.prog = s.prog) :
    InvL c.notifyAll := by
  refine ⟨fun p hp hpw => absurd hpw (no_waiting_wake _ p hp),
    fun h => absurd h (SPc.wake_ne_waiting _), fun h => ?_, fun h0 => ?_, fun t ht => ?_, fun hd => ?_⟩
  · rw [notifyAll_prog, hp]
    rcases SPc.wake_eq_woken h with h | h
    · obtain ⟨n, rest, h1, -⟩ := L.subWait (hs ▸ h); exact ⟨n, rest, h1⟩
    · exact L.subWoken (hs ▸ h)
  · rw [notifyAll_workers, hw]
    exact not_exited_wake (L.noExit (hi ▸ h0))
  · obtain ⟨h1, h2, h3, h4⟩ := L.joining t (hs ▸ SPc.wake_eq_joining ht)
    rw [notifyAll_workers, notifyAll_prog, hw, hp, List.length_map]
    exact ⟨h1, h2, h3, exited_prefix_wake h4⟩
  · rw [dropped_notifyAll, dropped, hi, hs] at hd
    intro p hp
    obtain ⟨q, hq, rfl⟩ := List.mem_map.mp hp
    rw [L.afterDrop hd q (hw ▸ hq)]; rfl

theorem InvL.toReady {s : State} (L : InvL s) (rs : FixedQueue Reply) (pr : List Op)
    (hd : s.immediateShutdown = true → ∀ p, p ∈ s.workers → p = .exited) :
    InvL { s with results := rs, spc := .ready, prog := pr } :=
  ⟨L.waitW, nofun, nofun, L.noExit, nofun,
    fun h => hd (by rw [dropped_of_not_joining (by rfl)] at h; exact h)⟩

theorem invL_step {s s' : State} {c : Choice} (I : Inv s) (L : InvL s)
    (h : step s c = .ok s') : InvL s' := by
  cases trans_of_step I h with
  | exitA i hw himm => exact (L.setW hw nofun .exited nofun fun _ => himm).log _ _
  | waitW i hw himm hsz => exact (L.setW hw nofun .waiting (fun _ => ⟨hsz, himm⟩) nofun).log _ _
  | wake i hw => exact (L.setW hw nofun .atLockA nofun nofun).log _ _
  | spurW tid hw => exact (L.setW hw nofun .woken nofun nofun).log _ _
  | run i j hw =>
    exact ((L.congr (s' := { s with arc := s.arc - 1 }) rfl rfl rfl rfl rfl rfl).setW hw nofun
      (.atLockB ⟨j.workId, j.index⟩) nofun nofun).log _ _
  | pop i j jobs' hw =>
    refine InvL.log ?_ _ _
    exact (L.notifyAll_of (c := { s with jobs := jobs', numInProgress := s.numInProgress + 1 })
      rfl rfl rfl rfl).setW (p := .atLockA) (by simp [hw, WPc.wake]) nofun (.atRun j) nofun nofun
  | publish i r results' hw =>
    refine InvL.log ?_ _ _
    exact (L.notifyAll_of
      (c := { s with numInProgress := s.numInProgress - 1, results := results' })
      rfl rfl rfl rfl).setW (p := .atLockB r) (by simp [hw, WPc.wake]) nofun .atLockA nofun nofun
  | spawn idx rest jobs' _ _ himm =>
    exact ⟨fun p hp hpw => absurd hpw (no_waiting_wake _ p hp), nofun, nofun,
      fun _ => not_exited_wake (L.noExit himm), nofun,
      fun hd => by
        rw [dropped_of_not_joining (by rfl)] at hd; exact absurd (himm.symm.trans hd) nofun⟩
  | join n rest j r results' hspc =>
    exact (L.toReady results' rest fun hd => L.afterDrop (by rwa [dropped_of_spc hspc])).log _ _
  | joinWait n rest _ hp himm hcnt =>
    refine InvL.log ?_ _ _
    refine ⟨L.waitW, fun _ => ⟨n, rest, hp, hcnt⟩, nofun, L.noExit, nofun, fun hd => ?_⟩
    rw [dropped_of_not_joining (by rfl)] at hd
    exact absurd (himm.symm.trans hd) nofun
  | unwrap rest hspc =>
    exact (L.toReady _ rest fun hd => L.afterDrop (by rwa [dropped_of_spc hspc])).log _ _
  | dropPark rest t e _ hp _ _ hlo hhi hgone =>
    refine InvL.log ?_ _ _
    refine ⟨fun p hp hpw => absurd hpw (no_waiting_wake _ p hp), nofun, nofun, nofun,
      fun t' ht' => ?_, nofun⟩
    cases ht'
    exact ⟨hlo, by simpa using hhi, ⟨rest, hp⟩, hgone⟩
  | dropDone rest e _ _ _ _ hall =>
    refine InvL.log ?_ _ _
    exact ⟨fun p hp hpw => absurd hpw (no_waiting_wake _ p hp), nofun, nofun, nofun, nofun,
      fun _ => all_exited_of_getElem? (by simpa using hall)⟩
  | joinPark t rest t' e hspc hp hex himm _ _ hlo hhi hgone =>
    obtain ⟨g1, -, -, g4⟩ := L.joining t hspc
    refine InvL.log ?_ _ _
    refine ⟨L.waitW, nofun, nofun, fun h0 => absurd (himm.symm.trans h0) nofun,
      fun t'' ht'' => ?_, fun hd => by rw [dropped, himm] at hd; cases hd⟩
    cases ht''
    refine ⟨by omega, hhi, ⟨rest, hp⟩, fun k hk1 hk2 => ?_⟩
    rcases Nat.lt_trichotomy k t with c | rfl | c
    · exact g4 k hk1 c
    · exact hex
    · exact hgone k c hk2
  | joinDone t rest e hspc _ hex _ _ _ hall =>
    obtain ⟨-, -, -, g4⟩ := L.joining t hspc
    refine (L.toReady _ rest fun _ => all_exited_of_getElem? fun k hk1 hk2 => ?_).log _ _
    rcases Nat.lt_trichotomy k t with c | rfl | c
    · exact g4 k hk1 c
    · exact hex
    · exact hall k c hk2
  | spurS hspc =>
    obtain ⟨n, rest, h1, -⟩ := L.subWait hspc
    refine InvL.log ?_ _ _
    refine ⟨L.waitW, nofun, fun _ => ⟨n, rest, h1⟩, L.noExit, nofun, fun hd => ?_⟩
    rw [dropped_of_not_joining (by rfl)] at hd
    exact L.afterDrop (by rw [dropped_of_not_joining (by rw [hspc]; rfl)]; exact hd)

theorem invL_reachable {n : Nat} {p : List Op} (hc : contract p = true) {s : State}
    (hr : Reachable n p s) : InvL s := by
  induction hr with
  | init => exact invL_init n p
  | step hr' hs ih => exact invL_step (inv_reachable hc hr') ih hs

theorem runnable_of_not {p : WPc} (h1 : p ≠ .waiting) (h2 : p ≠ .exited) : p.runnable = true := by
  cases p <;> simp [WPc.runnable] at h1 h2 ⊢

theorem runnable_of_inv {s : State} (I : Inv s) (L : InvL s) (hn : 1 ≤ s.workers.length)
    (hnd : s.done = false) : s.anyRunnable = true := by
  unfold State.anyRunnable
  rw [Bool.or_eq_true, List.any_eq_true]
  cases hspc : s.spc with
  | ready =>
    cases hp : s.prog with
    | cons op rest => left; simp [State.subRunnable, hspc, hp]
    | nil =>
      -- finished: then `done` unless dropped with live workers, which `afterDrop` excludes
      exfalso
      simp only [State.done, State.finished, hspc, hp, List.isEmpty_nil, beq_self_eq_true,
        Bool.and_self, Bool.true_and, Bool.or_eq_false_iff, Bool.not_eq_false',
        List.all_eq_false] at hnd
      obtain ⟨himm, q, hq, hne⟩ := hnd
      have := L.afterDrop (by simp [dropped, hspc, isJoining, himm]) q hq
      simp [this] at hne
  | woken =>
    obtain ⟨n, rest, hp⟩ := L.subWoken hspc
    left; simp [State.subRunnable, hspc, hp]
  | waiting =>
    right
    obtain ⟨n, rest, hp, hcnt⟩ := L.subWait hspc
    have hc := I.contr
    have hd0 : dropped s = s.immediateShutdown := by simp [dropped, hspc, isJoining]
    rw [hp, hd0] at hc
    simp only [contractFrom, Bool.and_eq_true, Bool.not_eq_true', decide_eq_true_eq,
      List.contains_eq_mem, decide_eq_false_iff_not] at hc
    obtain ⟨⟨⟨himm, hlt⟩, hnj⟩, _⟩ := hc
    have hpart := I.part n
    rw [hcnt, below_of_lt hlt, List.count_eq_zero_of_not_mem hnj] at hpart
    by_cases cj : 0 < cntJ n s.jobs.items
    · -- still queued: nobody sleeps on a non-empty queue, and worker 1 is alive
      have hsz : 0 < s.jobs.size := by
        rw [← I.wfJ.length_items]
        cases hi : s.jobs.items with
        | nil => rw [hi] at cj; simp [cntJ] at cj
        | cons _ _ => simp
      have hmem : s.workers[0] ∈ s.workers := List.getElem_mem hn
      refine ⟨s.workers[0], hmem, runnable_of_not ?_ (L.noExit himm _ hmem)⟩
      intro hw
      have := (L.waitW _ hmem hw).1
      omega
    · -- popped: the worker that holds it is runnable
      obtain ⟨q, hq, hg⟩ := wsum_pos_exists (hasId n) (ws := s.workers) (by omega)
      refine ⟨q, hq, ?_⟩
      cases q <;> simp [hasId, WPc.runnable] at hg ⊢
  | joining t =>
    obtain ⟨h1, h2, _, _⟩ := L.joining t hspc
    have himm := I.joinImm (by simp [hspc, isJoining])
    have hlt : t - 1 < s.workers.length := by omega
    by_cases hex : s.workers[t - 1] = .exited
    · left
      simp [State.subRunnable, hspc, List.getElem?_eq_getElem hlt, hex]
    · right
      have hmem : s.workers[t - 1] ∈ s.workers := List.getElem_mem hlt
      refine ⟨_, hmem, runnable_of_not ?_ hex⟩
      intro hw
      have := (L.waitW _ hmem hw).2
      rw [himm] at this; cases this

theorem worker_step_ok {s : State} (I : Inv s) {i : Nat} {p : WPc} (hw : s.workers[i]? = some p)
    (hr : p.runnable = true) : ∃ s', step s (.run (i + 1)) = .ok s' := by
  have := step_cases I (.run (i + 1))
  cases hs : step s (.run (i + 1)) with
  | ok s' => exact ⟨s', rfl⟩
  | error e => rw [hs] at this; rw [this.2 p hw] at hr; cases hr

theorem sub_step_ok {s : State} (I : Inv s) (L : InvL s) (hr : s.subRunnable = true) :
    ∃ s', step s (.run 0) = .ok s' := by
  have := step_cases I (.run 0)
  cases hs : step s (.run 0) with
  | ok s' => exact ⟨s', rfl⟩
  | error e =>
    rw [hs] at this
    rcases this.2 with hnr | ⟨t, hspc, hnp⟩
    · rw [hr] at hnr; cases hnr
    · obtain ⟨-, -, ⟨rest, hp⟩, -⟩ := L.joining t hspc
      exact absurd hp (hnp rest)

theorem step_ok_of_anyRunnable {s : State} (I : Inv s) (L : InvL s) (h : s.anyRunnable = true) :
    ∃ t s', step s (.run t) = .ok s' := by
  unfold State.anyRunnable at h
  rw [Bool.or_eq_true, List.any_eq_true] at h
  rcases h with h | ⟨p, hp, hr⟩
  · obtain ⟨s', hs⟩ := sub_step_ok I L h
    exact ⟨0, s', hs⟩
  · obtain ⟨i, hi⟩ := List.mem_iff_getElem?.mp hp
    obtain ⟨s', hs⟩ := worker_step_ok I hi hr
    exact ⟨i + 1, s', hs⟩

end BV.Lemmas.Pool
