/-
C01 / meta-block writers: the two static prefix codes of `BrotliStoreMetaBlockFast`
(`n_commands ≤ 128`): `StoreStaticCommandHuffmanTree` / `StoreStaticDistanceHuffmanTree` write descriptions
that the RFC reader decodes to `kStaticCommandCodeDepth` / `kStaticDistanceCodeDepth` (zero-extended to the
distance alphabet), and the tables `kStatic…CodeBits` are the bit-reversed canonical codes of these depths.
-/
import BV.Lemmas.MetaBlockCode
import BV.Lemmas.MetaBlockMono

namespace BV.MetaBlock
open BV.Gen BV.Bits BV.Huffman BV.PrefixArith BV.Recoder
open BV.Lemmas.HuffmanRead (readSym_spec)

theorem symIO_table (D B : List Nat) (k s : Nat) (hall : ∀ x ∈ D, 1 ≤ x ∧ x ≤ 15) (hk : kraftSum 15 D = 2 ^ 15)
    (hlen2 : 2 ≤ D.length) (hBl : B.length = D.length)
    (hB : ∀ i, i < D.length → B.getD i 0 = reverseBits (D.getD i 0) ((canonicalCodes D).getD i 0))
    (hs : s < D.length) :
    SymIO D B (Code.lens (D ++ List.replicate k 0)) s := by
  have hgs : (D ++ List.replicate k 0).getD s 0 = D.getD s 0 := by
    simp [List.getD_eq_getElem?_getD, List.getElem?_append_left hs]
  refine symIO_canon D B _ s (by rw [List.length_append]; omega) hs (by omega) hgs (fun x hx => ?_)
    (by rw [kraft_append_zeros, hk]; exact Nat.le_refl _)
    (by have := (hall _ (getD_mem D s 0 hs)).1; omega) ?_ (by rw [canonical_append_zeros _ _ _ hs]; exact hB s hs)
  · rcases List.mem_append.mp hx with h | h
    · exact (hall x h).2
    · rw [List.eq_of_mem_replicate h]; omega
  · rw [filter_append_zeros, List.filter_eq_self.mpr (fun x hx => by have := (hall x hx).1; simp; omega)]
    exact hlen2

def staticCmdBits : List Bool := bitsOf 56 0x0092624416307003 ++ bitsOf 3 0
def staticDistBits : List Bool := bitsOf 28 0x0369dc03

theorem storeStaticCmd_ok (w : Writer) : storeStaticCommandHuffmanTree w = .ok (w ++ staticCmdBits) := by
  unfold storeStaticCommandHuffmanTree staticCmdBits
  rw [writeBits_ok 56 _ w (by decide) (by decide), Out.bind_ok, writeBits_ok 3 0 _ (by decide) (by decide),
    List.append_assoc]

theorem storeStaticDist_ok (w : Writer) : storeStaticDistanceHuffmanTree w = .ok (w ++ staticDistBits) := by
  unfold storeStaticDistanceHuffmanTree staticDistBits
  rw [writeBits_ok 28 _ w (by decide) (by decide)]

theorem static_cmd_704 : readPrefixCode 704 staticCmdBits = some (kStaticCommandCodeDepth, []) := by
  decide +kernel

theorem static_dist_64 : readPrefixCode 64 staticDistBits = some (kStaticDistanceCodeDepth, []) := by
  decide +kernel

theorem static_dist_140 :
    readPrefixCode 140 staticDistBits = some (kStaticDistanceCodeDepth ++ List.replicate 76 0, []) := by
  decide +kernel

theorem static_cmd_read (rest : List Bool) :
    readCode 704 (staticCmdBits ++ rest) = some (Code.lens kStaticCommandCodeDepth, rest) := by
  have h := readPrefixCode_append 704 staticCmdBits rest _ _ static_cmd_704 (by
    intro r0 h
    have e : (takeBits 2 staticCmdBits).map (·.1) = some 3 := by decide
    rw [h] at e; simp at e)
  exact readCode_of_prefix 704 _ _ _ h ⟨0, by decide⟩

theorem static_dist_read (large : Bool) (rest : List Bool) :
    readCode (distAlphabetSize large 0 0) (staticDistBits ++ rest)
      = some (Code.lens (kStaticDistanceCodeDepth ++ List.replicate (if large then 76 else 0) 0), rest) := by
  have hc : ∀ r0, takeBits 2 staticDistBits ≠ some (1, r0) := by
    intro r0 h
    have e : (takeBits 2 staticDistBits).map (·.1) = some 3 := by decide
    rw [h] at e; simp at e
  cases large
  · have h := readPrefixCode_append 64 staticDistBits rest _ _ static_dist_64 hc
    have := readCode_of_prefix 64 _ _ _ h ⟨0, by decide⟩
    simpa [distAlphabetSize] using this
  · have h := readPrefixCode_append 140 staticDistBits rest _ _ static_dist_140 hc
    have := readCode_of_prefix 140 _ _ _ h ⟨0, by decide⟩
    simpa [distAlphabetSize] using this

theorem static_cmd_depth_shape : kStaticCommandCodeDepth = List.replicate 448 9 ++ List.replicate 256 11 := by
  decide +kernel

theorem static_cmd_bits_shape : kStaticCommandCodeBits =
    (List.range 448).map (fun i => reverseBits 9 i) ++ (List.range 256).map (fun j => reverseBits 11 (1792 + j)) := by
  decide +kernel

theorem static_cmd_first : firstCode kStaticCommandCodeDepth 9 = 0 ∧ firstCode kStaticCommandCodeDepth 11 = 1792 := by
  decide +kernel

theorem static_cmd_canon (i : Nat) (hi : i < 704) :
    kStaticCommandCodeBits.getD i 0 = reverseBits (kStaticCommandCodeDepth.getD i 0)
      ((canonicalCodes kStaticCommandCodeDepth).getD i 0) := by
  have hlen : kStaticCommandCodeDepth.length = 704 := by decide +kernel
  rw [BV.Lemmas.HuffmanCanon.canonicalCodes_getD _ i (by omega)]
  obtain ⟨f9, f11⟩ := static_cmd_first
  rcases Nat.lt_or_ge i 448 with h | h
  · have hd : kStaticCommandCodeDepth.getD i 0 = 9 := by
      rw [static_cmd_depth_shape, List.getD_eq_getElem?_getD,
        List.getElem?_append_left (by rw [List.length_replicate]; exact h), List.getElem?_replicate, if_pos h]; rfl
    have hb : kStaticCommandCodeBits.getD i 0 = reverseBits 9 i := by
      rw [static_cmd_bits_shape, List.getD_eq_getElem?_getD,
        List.getElem?_append_left (by rw [List.length_map, List.length_range]; exact h),
        List.getElem?_map, List.getElem?_range h]
      rfl
    have ht : kStaticCommandCodeDepth.take i = List.replicate i 9 := by
      rw [static_cmd_depth_shape, List.take_append_of_le_length (by rw [List.length_replicate]; omega), List.take_replicate,
        Nat.min_eq_left (by omega)]
    rw [hd, hb, ht, f9, countLen_replicate]
    simp
  · have hd : kStaticCommandCodeDepth.getD i 0 = 11 := by
      rw [static_cmd_depth_shape, List.getD_eq_getElem?_getD,
        List.getElem?_append_right (by rw [List.length_replicate]; exact h), List.length_replicate,
        List.getElem?_replicate, if_pos (by omega)]; rfl
    have hb : kStaticCommandCodeBits.getD i 0 = reverseBits 11 (1792 + (i - 448)) := by
      rw [static_cmd_bits_shape, List.getD_eq_getElem?_getD,
        List.getElem?_append_right (by rw [List.length_map, List.length_range]; exact h),
        List.length_map, List.length_range, List.getElem?_map, List.getElem?_range (by omega)]
      rfl
    have ht : kStaticCommandCodeDepth.take i = List.replicate 448 9 ++ List.replicate (i - 448) 11 := by
      rw [static_cmd_depth_shape, List.take_append, List.length_replicate, List.take_replicate, List.take_replicate,
        Nat.min_eq_right h, Nat.min_eq_left (by omega)]
    rw [hd, hb, ht, f11, BV.Lemmas.HuffmanCanon.countLen_append, countLen_replicate, countLen_replicate]
    simp

theorem static_cmd_table :
    (∀ x ∈ kStaticCommandCodeDepth, 1 ≤ x ∧ x ≤ 15) ∧ kraftSum 15 kStaticCommandCodeDepth = 2 ^ 15 ∧
    kStaticCommandCodeDepth.length = 704 ∧ kStaticCommandCodeBits.length = 704 := by
  refine ⟨?_, by decide +kernel, by decide +kernel, by decide +kernel⟩
  intro x hx
  rw [static_cmd_depth_shape] at hx
  rcases List.mem_append.mp hx with h | h <;> (rw [List.eq_of_mem_replicate h]; omega)

theorem static_dist_table :
    (∀ x ∈ kStaticDistanceCodeDepth, 1 ≤ x ∧ x ≤ 15) ∧ kraftSum 15 kStaticDistanceCodeDepth = 2 ^ 15 ∧
    kStaticDistanceCodeDepth.length = 64 ∧ kStaticDistanceCodeBits.length = 64 ∧
    kStaticDistanceCodeBits = List.zipWith reverseBits kStaticDistanceCodeDepth (canonicalCodes kStaticDistanceCodeDepth) := by
  refine ⟨by decide +kernel, by decide +kernel, by decide, by decide, by decide +kernel⟩

theorem static_cmd_symIO (s : Nat) (hs : s < 704) :
    SymIO kStaticCommandCodeDepth kStaticCommandCodeBits (Code.lens kStaticCommandCodeDepth) s := by
  obtain ⟨h1, h2, h3, h4⟩ := static_cmd_table
  have := symIO_table kStaticCommandCodeDepth kStaticCommandCodeBits 0 s h1 h2 (by omega) (by omega)
    (fun i hi => static_cmd_canon i (by omega)) (by omega)
  simpa using this

theorem static_dist_symIO (k s : Nat) (hs : s < 64) :
    SymIO kStaticDistanceCodeDepth kStaticDistanceCodeBits
      (Code.lens (kStaticDistanceCodeDepth ++ List.replicate k 0)) s := by
  obtain ⟨h1, h2, h3, h4, h5⟩ := static_dist_table
  refine symIO_table kStaticDistanceCodeDepth kStaticDistanceCodeBits k s h1 h2 (by omega) (by omega) ?_ (by omega)
  intro i hi
  have hcl : (canonicalCodes kStaticDistanceCodeDepth).length = kStaticDistanceCodeDepth.length := by
    simp [canonicalCodes]
  rw [h5]
  simp only [List.getD_eq_getElem?_getD, List.getElem?_zipWith]
  rw [List.getElem?_eq_getElem hi, List.getElem?_eq_getElem (by omega)]
  rfl

end BV.MetaBlock
