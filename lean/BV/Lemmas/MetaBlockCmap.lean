/-
C01 / meta-block writers: `EncodeContextMap` round-trips against `readContextMap`: the move-to-front transform vs the
inverse transform of RFC 7932 §7.3, `RunLengthCodeZeros` vs the reader's expansion of the run symbols `1..RLEMAX`.
-/
import BV.Lemmas.MetaBlockCode
import BV.Model.MetaBlockFull
import BV.Lemmas.MetaBlockHisto

namespace BV.MetaBlock
open BV.Gen BV.Bits BV.Huffman BV.PrefixArith BV.Recoder
open BV.Lemmas.HuffmanRead (takeBits_bitsOf)

def firstIdx (x : Nat) : List Nat → Nat
  | [] => 0
  | y :: ys => if y = x then 0 else firstIdx x ys + 1

theorem firstIdx_lt (x : Nat) (l : List Nat) (h : x ∈ l) : firstIdx x l < l.length := by
  induction l with
  | nil => simp at h
  | cons y ys ih =>
    simp only [firstIdx]
    by_cases hy : y = x
    · simp [hy]
    · simp only [hy, if_false, List.length_cons]
      have : x ∈ ys := by
        rcases List.mem_cons.mp h with h | h
        · exact absurd h.symm hy
        · exact h
      have := ih this
      omega

theorem firstIdx_get (x : Nat) (l : List Nat) (h : x ∈ l) : l.getD (firstIdx x l) 0 = x := by
  induction l with
  | nil => simp at h
  | cons y ys ih =>
    simp only [firstIdx]
    by_cases hy : y = x
    · simp [hy]
    · simp only [hy, if_false, List.getD_cons_succ]
      have : x ∈ ys := by
        rcases List.mem_cons.mp h with h | h
        · exact absurd h.symm hy
        · exact h
      exact ih this

theorem indexOf_go (v : List Nat) (value : Nat) : ∀ (cnt i : Nat), i + cnt ≤ v.length →
    indexOf.go v value cnt i = .ok (i + min cnt (firstIdx value (v.drop i))) := by
  intro cnt
  induction cnt with
  | zero => intro i _; simp [indexOf.go]
  | succ cnt ih =>
    intro i hi
    have hil : i < v.length := by omega
    unfold indexOf.go
    rw [getAt_getD v i 0 hil, Out.bind_ok, List.drop_eq_getElem_cons hil]
    have hg : v.getD i 0 = v[i] := by
      rw [List.getD_eq_getElem?_getD, List.getElem?_eq_getElem hil]; rfl
    rw [hg]
    by_cases hx : v[i] = value
    · simp [hx, firstIdx]
    · rw [if_neg hx, ih (i + 1) (by omega)]
      simp only [firstIdx, hx, if_false]
      congr 1
      omega

def mtfMove (l : List Nat) (k : Nat) : List Nat := l.getD k 0 :: (l.take k ++ l.drop (k + 1))

theorem mtfMove_perm (l : List Nat) (k : Nat) (hk : k < l.length) : (mtfMove l k).Perm l := by
  unfold mtfMove
  have h1 : l = l.take k ++ (l.getD k 0 :: l.drop (k + 1)) := by
    conv => lhs; rw [← List.take_append_drop k l, List.drop_eq_getElem_cons hk]
    congr 2
    rw [List.getD_eq_getElem?_getD, List.getElem?_eq_getElem hk]; rfl
  conv => rhs; rw [h1]
  exact (List.perm_middle).symm

theorem mtfMove_length (l : List Nat) (k : Nat) (hk : k < l.length) : (mtfMove l k).length = l.length :=
  (mtfMove_perm l k hk).length_eq

theorem mtfMove_append (P T : List Nat) (k : Nat) (hk : k < P.length) :
    mtfMove (P ++ T) k = mtfMove P k ++ T := by
  unfold mtfMove
  have h1 : (P ++ T).getD k 0 = P.getD k 0 := by
    simp [List.getD_eq_getElem?_getD, List.getElem?_append_left hk]
  rw [h1, List.take_append_of_le_length (by omega), List.drop_append_of_le_length (by omega)]
  simp

theorem moveToFront_eq (v : List Nat) (k : Nat) (hk : k < v.length) : moveToFront v k = .ok (mtfMove v k) := by
  unfold moveToFront mtfMove
  rw [getAt_getD v k 0 hk, Out.bind_ok]

/-- behind the first `K` entries `P` the writer's list and the reader's differ (`mtf_roundtrip`: zeros, the identity up
to 255); `P` is distinct and contains every value, so neither side looks further -/
theorem mtf_inverse (K : Nat) : ∀ (xs P Tw Tr accw accr : List Nat), P.length = K → P.Nodup →
    (∀ x ∈ xs, x < 256 ∧ x ∈ P) →
    ∃ idxs, moveToFrontTransform.go (K - 1) xs (P ++ Tw) accw = .ok (accw.reverse ++ idxs) ∧
      idxs.length = xs.length ∧ (∀ i ∈ idxs, i < K) ∧
      inverseMtf.go idxs (P ++ Tr) accr = accr.reverse ++ xs := by
  intro xs
  induction xs with
  | nil =>
    intro P Tw Tr accw accr _ _ _
    exact ⟨[], by simp [moveToFrontTransform.go], rfl, by simp, by simp [inverseMtf.go]⟩
  | cons x xs ih =>
    intro P Tw Tr accw accr hP hnd hx
    obtain ⟨hx256, hxP⟩ := hx x (by simp)
    have hK : 1 ≤ K := by rw [← hP]; exact List.length_pos_iff.mpr (List.ne_nil_of_mem hxP)
    have hidx := firstIdx_lt x P hxP
    have hget := firstIdx_get x P hxP
    have hfi : firstIdx x (P ++ Tw) = firstIdx x P := by
      clear hget hidx hnd hP ih hx
      induction P with
      | nil => simp at hxP
      | cons y ys ihp =>
        simp only [List.cons_append, firstIdx]
        by_cases hy : y = x
        · simp [hy]
        · simp only [hy, if_false]
          have : x ∈ ys := by
            rcases List.mem_cons.mp hxP with h | h
            · exact absurd h.symm hy
            · exact h
          rw [ihp this]
    have hio : indexOf (P ++ Tw) (K - 1 + 1) (x % 256) = .ok (firstIdx x P) := by
      unfold indexOf
      rw [indexOf_go _ _ _ 0 (by rw [List.length_append]; omega), Nat.mod_eq_of_lt hx256]
      simp only [List.drop_zero, Nat.zero_add, hfi]
      rw [Nat.min_eq_right (by omega)]
    have hPm : (mtfMove P (firstIdx x P)).length = K := by rw [mtfMove_length _ _ hidx, hP]
    have hndm : (mtfMove P (firstIdx x P)).Nodup := (mtfMove_perm P _ hidx).nodup_iff.mpr hnd
    obtain ⟨idxs, h1, h2, h3, h4⟩ := ih (mtfMove P (firstIdx x P)) Tw Tr (firstIdx x P :: accw) (x :: accr) hPm hndm
      (fun y hy => ⟨(hx y (List.mem_cons_of_mem _ hy)).1,
        (mtfMove_perm P _ hidx).mem_iff.mpr (hx y (List.mem_cons_of_mem _ hy)).2⟩)
    refine ⟨firstIdx x P :: idxs, ?_, by simp [h2], ?_, ?_⟩
    · unfold moveToFrontTransform.go
      rw [hio, Out.bind_ok, moveToFront_eq _ _ (by rw [List.length_append]; omega), Out.bind_ok,
        mtfMove_append P Tw _ hidx, h1]
      simp
    · intro i hi
      rcases List.mem_cons.mp hi with rfl | hi
      · omega
      · exact h3 i hi
    · unfold inverseMtf.go
      have hv : (P ++ Tr).getD (firstIdx x P) 0 = x := by
        rw [List.getD_eq_getElem?_getD, List.getElem?_append_left hidx, ← List.getD_eq_getElem?_getD]; exact hget
      have hm := mtfMove_append P Tr _ hidx
      unfold mtfMove at hm
      rw [hv] at hm ⊢
      rw [hget] at hm
      simp only
      rw [hm]
      have := h4
      unfold mtfMove at this
      rw [hget] at this
      rw [this]
      simp

theorem le_foldl_max (l : List Nat) : ∀ (a : Nat), a ≤ l.foldl max a ∧ ∀ x ∈ l, x ≤ l.foldl max a := by
  induction l with
  | nil => intro a; simp
  | cons y ys ih =>
    intro a
    obtain ⟨h1, h2⟩ := ih (max a y)
    simp only [List.foldl_cons]
    refine ⟨by omega, ?_⟩
    intro x hx
    rcases List.mem_cons.mp hx with rfl | hx
    · omega
    · exact h2 x hx

theorem foldl_max_lt (l : List Nat) (n : Nat) (hn : 0 < n) (h : ∀ x ∈ l, x < n) : ∀ a, a < n → l.foldl max a < n := by
  induction l with
  | nil => intro a ha; simpa using ha
  | cons y ys ih =>
    intro a ha
    simp only [List.foldl_cons]
    exact ih (fun x hx => h x (List.mem_cons_of_mem _ hx)) _ (by have := h y (by simp); omega)

theorem mtf_roundtrip (m : List Nat) (h1 : 1 ≤ m.length) (hm : ∀ x ∈ m, x < 256) :
    ∃ idxs, moveToFrontTransform m m.length = .ok idxs ∧ idxs.length = m.length ∧ (∀ i ∈ idxs, i < 256) ∧
      (∀ i ∈ idxs, i ≤ m.foldl max 0) ∧ inverseMtf idxs = m := by
  have hmax := foldl_max_lt m 256 (by decide) hm 0 (by decide)
  obtain ⟨_, hle⟩ := le_foldl_max m 0
  generalize hM : m.foldl max 0 = M at *
  have hr : List.range 256 = List.range (M + 1) ++ (List.range (255 - M)).map (M + 1 + ·) := by
    have : 256 = (M + 1) + (255 - M) := by omega
    rw [this, List.range_add]
  obtain ⟨idxs, e1, e2, e3, e4⟩ := mtf_inverse (M + 1) m (List.range (M + 1)) (List.replicate (255 - M) 0)
    ((List.range (255 - M)).map (M + 1 + ·)) [] [] (by simp) List.nodup_range
    (fun x hx => ⟨hm x hx, List.mem_range.mpr (by have := hle x hx; omega)⟩)
  refine ⟨idxs, ?_, e2, fun i hi => by have := e3 i hi; omega, fun i hi => by have := e3 i hi; omega, ?_⟩
  · unfold moveToFrontTransform
    rw [if_neg (by omega), if_neg (by omega), List.take_length, hM, if_neg (by omega)]
    simpa using e1
  · unfold inverseMtf
    rw [hr]
    simpa using e4

/-- what the reader makes of one packed run-length symbol `sym + (extra << 9)` -/
def rleDec (rlemax s : Nat) : List Nat :=
  if s % 512 = 0 then [0]
  else if s % 512 ≤ rlemax then List.replicate (2 ^ (s % 512) + s / 512) 0
  else [s % 512 - rlemax]

def RleOK (P s : Nat) : Prop :=
  s % 512 < 256 + P ∧ (0 < s % 512 → s % 512 ≤ P → s / 512 < 2 ^ (s % 512))

theorem rleDec_packed (P p e : Nat) (hP : P ≤ 6) (hp : p ≤ P) (he : e < 2 ^ p) :
    (p + e * 512 % two32) % two32 = p + e * 512 ∧ rleDec P (p + e * 512) = List.replicate (2 ^ p + e) 0 ∧
    RleOK P (p + e * 512) := by
  have h64 : 2 ^ p ≤ 2 ^ 6 := Nat.pow_le_pow_right (by decide) (Nat.le_trans hp hP)
  have hm : (p + e * 512) % 512 = p := by omega
  have hd : (p + e * 512) / 512 = e := by omega
  refine ⟨by unfold two32; omega, ?_, by rw [RleOK, hm, hd]; exact ⟨by omega, fun _ _ => he⟩⟩
  unfold rleDec
  rw [hm, hd]
  by_cases h0 : p = 0
  · subst h0
    rw [if_pos rfl, show e = 0 by simpa using he]
    rfl
  · rw [if_neg h0, if_pos hp]

theorem zeroRunSymbols_spec (P : Nat) (hP : P ≤ 6) : ∀ (f reps : Nat), reps < f →
    ((zeroRunSymbols P f reps).flatMap (rleDec P) = List.replicate reps 0) ∧
    ∀ s ∈ zeroRunSymbols P f reps, RleOK P s := by
  have hPpos : 0 < 2 ^ P := Nat.pow_pos (by decide)
  intro f
  induction f with
  | zero => intro reps h; omega
  | succ f ih =>
    intro reps hlt
    unfold zeroRunSymbols
    by_cases h0 : reps = 0
    · simp [h0]
    · rw [if_neg h0]
      obtain ⟨lo, hi⟩ := BV.Lemmas.PrefixArith.log2_bounds reps h0
      rw [Nat.pow_succ] at hi
      by_cases hsmall : reps < 2 * 2 ^ P
      · rw [if_pos hsmall]
        have hk : log2Floor reps ≤ P := by
          rcases Nat.lt_or_ge P (log2Floor reps) with h | h
          · have := Nat.pow_le_pow_right (show 0 < 2 by decide) (show P + 1 ≤ log2Floor reps from h)
            rw [Nat.pow_succ] at this; omega
          · exact h
        obtain ⟨hpk, hdec, hok⟩ := rleDec_packed P (log2Floor reps) (reps - 2 ^ log2Floor reps) hP hk (by omega)
        rw [hpk]
        refine ⟨?_, fun s hs => by rw [List.mem_singleton.mp hs]; exact hok⟩
        rw [List.flatMap_cons, List.flatMap_nil, List.append_nil, hdec]
        congr 1; omega
      · rw [if_neg hsmall]
        obtain ⟨hpk, hdec, hok⟩ := rleDec_packed P P (2 ^ P - 1) hP (Nat.le_refl _) (by omega)
        obtain ⟨ih1, ih2⟩ := ih (reps - (2 * 2 ^ P - 1)) (by omega)
        rw [hpk]
        refine ⟨?_, fun s hs => ?_⟩
        · rw [List.flatMap_cons, ih1, hdec, List.replicate_append_replicate]
          congr 1; omega
        · rcases List.mem_cons.mp hs with rfl | hs
          · exact hok
          · exact ih2 s hs

theorem zeroRun_spec (xs : List Nat) : xs = List.replicate (zeroRun xs) 0 ++ xs.drop (zeroRun xs) ∧
    zeroRun xs ≤ xs.length := by
  induction xs with
  | nil => simp [zeroRun]
  | cons y ys ih =>
    cases y with
    | zero =>
      simp only [zeroRun, List.replicate_succ, List.cons_append, List.drop_succ_cons, List.length_cons]
      exact ⟨by rw [← ih.1], by omega⟩
    | succ k => simp [zeroRun]

theorem rleLoop_spec (P : Nat) (hP : P ≤ 6) : ∀ (f : Nat) (v : List Nat), v.length < f → (∀ x ∈ v, x < 256) →
    ((rleLoop P f v).flatMap (rleDec P) = v) ∧ ∀ s ∈ rleLoop P f v, RleOK P s := by
  intro f
  induction f with
  | zero => intro v h; omega
  | succ f ih =>
    intro v hlen hv
    cases v with
    | nil => simp [rleLoop]
    | cons x xs =>
      unfold rleLoop
      by_cases hx : x ≠ 0
      · rw [if_pos hx]
        have hx256 := hv x (by simp)
        obtain ⟨i1, i2⟩ := ih xs (by simpa using hlen) (fun y hy => hv y (List.mem_cons_of_mem _ hy))
        have hpk : (x + P) % two32 = x + P := by unfold two32; omega
        rw [hpk]
        have hm : (x + P) % 512 = x + P := by omega
        have hd : (x + P) / 512 = 0 := by omega
        constructor
        · simp only [List.flatMap_cons, i1, rleDec, hm]
          rw [if_neg (by omega), if_neg (by omega)]
          simp
        · intro s hs
          rcases List.mem_cons.mp hs with rfl | hs
          · exact ⟨by rw [hm]; omega, fun _ h => by rw [hm] at h; omega⟩
          · exact i2 s hs
      · rw [if_neg hx]
        have hx0 : x = 0 := by simpa using hx
        obtain ⟨z1, z2⟩ := zeroRun_spec xs
        obtain ⟨r1, r2⟩ := zeroRunSymbols_spec P hP (zeroRun xs + 2) (zeroRun xs + 1) (by omega)
        obtain ⟨i1, i2⟩ := ih (xs.drop (zeroRun xs)) (by simp at hlen ⊢; omega)
          (fun y hy => hv y (List.mem_cons_of_mem _ (List.mem_of_mem_drop hy)))
        constructor
        · rw [List.flatMap_append, r1, i1, hx0, List.replicate_succ, List.cons_append, ← z1]
        · intro s hs
          rcases List.mem_append.mp hs with hs | hs
          · exact r2 s hs
          · exact i2 s hs

theorem symHisto_inv (n : Nat) : ∀ (syms : List Nat) (h items : List Nat), DataInv h n items →
    (∀ s ∈ syms, s % 512 < n) → items.length + syms.length < two32 →
    ∃ h', syms.foldlM (fun h s => do
        let c ← getAt h (s % 512)
        setAt h (s % 512) ((c + 1) % two32)) h = .ok h' ∧ DataInv h' n (items ++ syms.map (· % 512)) := by
  intro syms
  induction syms with
  | nil => intro h items hi _ _; exact ⟨h, rfl, by simpa using hi⟩
  | cons s ss ih =>
    intro h items hi hs hb
    have hk := hs s (by simp)
    obtain ⟨h1, g1, e1, d1⟩ := bump_data h n items (s % 512) hi hk (by simp at hb; omega)
    obtain ⟨h', e2, d2⟩ := ih h1 (items ++ [s % 512]) d1 (fun t ht => hs t (List.mem_cons_of_mem _ ht))
      (by simp at hb ⊢; omega)
    refine ⟨h', ?_, by simpa [List.append_assoc] using d2⟩
    rw [List.foldlM_cons, g1, Out.bind_ok, e1, Out.bind_ok, e2]

theorem readCmapEntries_succ (code : Code) (rlemax size f : Nat) (acc : List Nat) (bs : List Bool) :
    readCmapEntries code rlemax size (f + 1) acc bs =
      if acc.length = size then some (acc, bs)
      else
        match code.read bs with
        | none => none
        | some (sym, bs) =>
          if sym = 0 then readCmapEntries code rlemax size f (acc ++ [0]) bs
          else if sym ≤ rlemax then
            match takeBits sym bs with
            | none => none
            | some (extra, bs) =>
              if acc.length + (2 ^ sym + extra) > size then none
              else readCmapEntries code rlemax size f (acc ++ List.replicate (2 ^ sym + extra) 0) bs
          else readCmapEntries code rlemax size f (acc ++ [sym - rlemax]) bs := by
  rw [readCmapEntries]
  rfl

theorem cmapSymbols_roundtrip (depths bits : List Nat) (code : Code) (P size : Nat) (hP : P ≤ 6) :
    ∀ (rle : List Nat) (w : Writer), (∀ s ∈ rle, RleOK P s ∧ SymIO depths bits code (s % 512)) →
    ∃ B, rle.foldlM (fun w s => do
        let w ← storeSym depths bits (s % 512) w
        if s % 512 > 0 ∧ s % 512 ≤ P then writeBits ((s % 512) % 256) (s / 512) w else Out.ok w) w = .ok (w ++ B) ∧
      ∀ (acc : List Nat) (rest : List Bool) (f : Nat), rle.length < f →
        acc.length + (rle.flatMap (rleDec P)).length = size →
        readCmapEntries code P size f acc (B ++ rest) = some (acc ++ rle.flatMap (rleDec P), rest) := by
  intro rle
  induction rle with
  | nil =>
    intro w _
    refine ⟨[], by simp, ?_⟩
    intro acc rest f hf hsz
    obtain ⟨f', rfl⟩ : ∃ f', f = f' + 1 := ⟨f - 1, by simp at hf; omega⟩
    simp at hsz
    simp [readCmapEntries, hsz]
  | cons s ss ih =>
    intro w hall
    obtain ⟨⟨hlt, hext⟩, sb, hs, hr⟩ := hall s (by simp)
    have hex : ∃ E, (∀ w', (if s % 512 > 0 ∧ s % 512 ≤ P then writeBits ((s % 512) % 256) (s / 512) w' else Out.ok w')
          = .ok (w' ++ E)) ∧ 1 ≤ (rleDec P s).length ∧
        ∀ (acc : List Nat) (rest : List Bool) (f : Nat), acc.length + (rleDec P s).length ≤ size →
          readCmapEntries code P size (f + 1) acc (sb ++ (E ++ rest)) =
            readCmapEntries code P size f (acc ++ rleDec P s) rest := by
      by_cases hrun : s % 512 > 0 ∧ s % 512 ≤ P
      · have hx := hext hrun.1 hrun.2
        have hdec : rleDec P s = List.replicate (2 ^ (s % 512) + s / 512) 0 := by
          unfold rleDec; rw [if_neg (by omega), if_pos hrun.2]
        have hpos := Nat.pow_pos (n := s % 512) (show 0 < 2 by decide)
        refine ⟨bitsOf (s % 512) (s / 512), ?_, by rw [hdec, List.length_replicate]; omega, ?_⟩
        · intro w'
          rw [if_pos hrun, Nat.mod_eq_of_lt (show s % 512 < 256 by omega), writeBits_ok _ _ _ hx (by omega)]
        · intro acc rest f hle
          rw [hdec, List.length_replicate] at hle
          rw [hdec, readCmapEntries_succ, if_neg (by omega), hr]
          simp only
          rw [if_neg (by omega), if_pos hrun.2, takeBits_bitsOf _ _ _ hx]
          simp only
          rw [if_neg (by omega)]
      · refine ⟨[], ?_, ?_, ?_⟩
        · intro w'; rw [if_neg hrun]; simp
        · unfold rleDec; split
          · simp
          · split
            · exfalso; omega
            · simp
        · intro acc rest f hle
          by_cases h0 : s % 512 = 0
          · have hdec : rleDec P s = [0] := by unfold rleDec; rw [if_pos h0]
            rw [hdec, List.length_singleton] at hle
            rw [hdec, readCmapEntries_succ, if_neg (by omega), List.nil_append, hr]
            simp only
            rw [if_pos h0]
          · have hdec : rleDec P s = [s % 512 - P] := by
              unfold rleDec; rw [if_neg h0, if_neg (by omega)]
            rw [hdec, List.length_singleton] at hle
            rw [hdec, readCmapEntries_succ, if_neg (by omega), List.nil_append, hr]
            simp only
            rw [if_neg h0, if_neg (by omega)]
    obtain ⟨E, hE, hne, hread⟩ := hex
    obtain ⟨B, hB, hBr⟩ := ih (w ++ sb ++ E) (fun t ht => hall t (List.mem_cons_of_mem _ ht))
    refine ⟨sb ++ (E ++ B), ?_, ?_⟩
    · rw [List.foldlM_cons, hs w, Out.bind_ok, hE, Out.bind_ok, hB]
      simp [List.append_assoc]
    · intro acc rest f hf hsz
      obtain ⟨f', rfl⟩ : ∃ f', f = f' + 1 := ⟨f - 1, by simp at hf; omega⟩
      simp only [List.flatMap_cons, List.length_append] at hsz
      rw [List.append_assoc, List.append_assoc, hread acc (B ++ rest) f' (by omega),
        hBr (acc ++ rleDec P s) rest f' (by simp at hf; omega) (by rw [List.length_append]; omega)]
      simp [List.append_assoc]

theorem length_le_flatMap (f : Nat → List Nat) (l : List Nat) (h : ∀ x ∈ l, 1 ≤ (f x).length) :
    l.length ≤ (l.flatMap f).length := by
  induction l with
  | nil => simp
  | cons x xs ih =>
    have := ih (fun y hy => h y (List.mem_cons_of_mem _ hy))
    have := h x (by simp)
    simp only [List.flatMap_cons, List.length_append, List.length_cons]
    omega

theorem rleDec_length_pos (P s : Nat) : 1 ≤ (rleDec P s).length := by
  unfold rleDec
  split
  · simp
  · split
    · rw [List.length_replicate]; have := Nat.pow_pos (n := s % 512) (show 0 < 2 by decide); omega
    · simp

theorem readEncodedContextMap (m idxs rle : List Nat) (n P : Nat) (vb f2 cb B : List Bool) (code : Code)
    (hone : n ≠ 1) (hn1 : 1 ≤ n) (hm : ∀ x ∈ m, x < n) (hP6 : P ≤ 6) (hrlen : rle.length ≤ m.length)
    (hf2d : f2 = if P > 0 then bitsOf 4 (P - 1) else [])
    (hv2 : ∀ rest, readVarLen8 (vb ++ rest) = some (n - 1, rest))
    (rc : ∀ rest, readCode (n + P) (cb ++ rest) = some (code, rest))
    (hB2 : ∀ (acc : List Nat) (rest : List Bool) (f : Nat), rle.length < f →
      acc.length + (rle.flatMap (rleDec P)).length = m.length →
      readCmapEntries code P m.length f acc (B ++ rest) = some (acc ++ rle.flatMap (rleDec P), rest))
    (r1 : rle.flatMap (rleDec P) = idxs) (e2 : idxs.length = m.length) (e4 : inverseMtf idxs = m)
    (rest : List Bool) :
    readContextMap m.length ((vb ++ (([decide (P > 0)] ++ f2) ++ (cb ++ (B ++ [true])))) ++ rest)
      = some (n, m, rest) := by
  unfold readContextMap
  simp only [List.append_assoc]
  rw [hv2]
  simp only
  rw [if_neg (by omega)]
  have hfl : ∀ r : List Bool, (if decide (P > 0) = true then
        Option.map (fun (x : Nat × List Bool) => (x.fst + 1, x.snd)) (takeBits 4 (f2 ++ r)) else some (0, f2 ++ r))
      = some (P, r) := by
    intro r
    by_cases hp : P > 0
    · rw [hf2d, if_pos hp, if_pos (by simpa using hp), takeBits_bitsOf 4 (P - 1) _ (by omega)]
      simp; omega
    · rw [hf2d, if_neg hp, if_neg (by simpa using hp)]
      have : P = 0 := by omega
      simp [this]
  simp only [List.append_assoc, List.cons_append, List.nil_append]
  rw [hfl]
  simp only
  have hnA : n - 1 + 1 + P = n + P := by omega
  rw [hnA, rc]
  simp only
  have hrd := hB2 [] (true :: rest) (m.length + 1) (by omega) (by rw [r1, e2]; simp)
  rw [hrd, r1]
  simp only [List.nil_append, List.cons_append, if_true, e4]
  have hall : (m.all fun x => decide (x < n - 1 + 1)) = true := by
    rw [List.all_eq_true]; intro x hx; have := hm x hx; simp; omega
  rw [hall]
  simp
  omega

theorem encodeContextMap_roundtrip (m : List Nat) (n : Nat) (w : Writer) (h1 : 1 ≤ m.length)
    (hlen : m.length ≤ 2 ^ 24) (hn1 : 1 ≤ n) (hn : n ≤ 256) (hm : ∀ x ∈ m, x < n) :
    ∃ bits, encodeContextMap m m.length n w = .ok (w ++ bits) ∧
      ∀ rest, readContextMap m.length (bits ++ rest) = some (n, m, rest) := by
  have p24 : (2 : Nat) ^ 24 = 16777216 := by decide
  have hn64 : (n + two64 - 1) % two64 = n - 1 :=
    wsub_of_le (by omega) (by unfold two64; omega)
  obtain ⟨vb, hv1, hv2⟩ := varLen8_roundtrip (n - 1) (by omega) w
  unfold encodeContextMap
  rw [hn64, hv1, Out.bind_ok]
  by_cases hone : n = 1
  · subst hone
    refine ⟨vb, by simp, ?_⟩
    intro rest
    unfold readContextMap
    rw [hv2]
    simp only [show (1 : Nat) - 1 = 0 by rfl, if_true]
    congr 2
    have : m = List.replicate m.length 0 := by
      apply List.ext_getElem
      · simp
      · intro i h1 h2
        have := hm m[i] (List.getElem_mem h1)
        simp; omega
    rw [← this]
  · rw [if_neg hone]
    obtain ⟨idxs, e1, e2, e3, e3', e4⟩ := mtf_roundtrip m h1 (fun x hx => by have := hm x hx; omega)
    rw [e1, Out.bind_ok]
    have hmax : m.foldl max 0 < n := foldl_max_lt m n (by omega) hm 0 (by omega)
    obtain ⟨P, hPdef⟩ : ∃ P, P = (runLengthCodeZeros idxs 6).2 := ⟨_, rfl⟩
    have hP6 : P ≤ 6 := by rw [hPdef]; unfold runLengthCodeZeros; exact Nat.min_le_right _ _
    obtain ⟨rle, hrle⟩ : ∃ rle, rle = (runLengthCodeZeros idxs 6).1 := ⟨_, rfl⟩
    have hrl : rle = rleLoop P (idxs.length + 1) idxs := by rw [hrle, hPdef]; rfl
    obtain ⟨r1, r2⟩ := rleLoop_spec P hP6 (idxs.length + 1) idxs (by omega) e3
    rw [← hrl] at r1 r2
    have hpair : runLengthCodeZeros idxs 6 = (rle, P) := by rw [hrle, hPdef]
    rw [hpair]
    simp only
    have hrlen : rle.length ≤ m.length := by
      have := length_le_flatMap (rleDec P) rle (fun x _ => rleDec_length_pos P x)
      rw [r1, e2] at this; exact this
    have hsymlt : ∀ s ∈ rle, s % 512 < n + P := by
      intro s hs
      rcases Nat.lt_or_ge P (s % 512) with hgt | hle
      · have hd : rleDec P s = [s % 512 - P] := by
          unfold rleDec; rw [if_neg (by omega), if_neg (by omega)]
        have hmem : s % 512 - P ∈ idxs := by
          rw [← r1, List.mem_flatMap]
          exact ⟨s, hs, by rw [hd]; simp⟩
        have := e3' _ hmem
        omega
      · omega
    obtain ⟨hist, eh, dh⟩ := symHisto_inv 272 rle (List.replicate 272 0) [] (histoInv_zero 272).toData
      (fun s hs => by have := hsymlt s hs; omega) (by unfold two32; simp; omega)
    rw [eh, Out.bind_ok]
    simp only [List.nil_append] at dh
    obtain ⟨f1, hf1d⟩ : ∃ f1 : List Bool, f1 = [decide (P > 0)] := ⟨_, rfl⟩
    obtain ⟨f2, hf2d⟩ : ∃ f2 : List Bool, f2 = if P > 0 then bitsOf 4 (P - 1) else [] := ⟨_, rfl⟩
    have hf1 : ∀ w' : Writer, writeBits 1 (if P > 0 then 1 else 0) w' = Out.ok (w' ++ f1) := by
      intro w'
      by_cases hp : P > 0
      · rw [if_pos hp, writeBits_ok 1 1 _ (by decide) (by decide), hf1d]; simp [hp, bitsOf]
      · rw [if_neg hp, writeBits_ok 1 0 _ (by decide) (by decide), hf1d]; simp [hp, bitsOf]
    have hf2 : ∀ w' : Writer, (if P > 0 then writeBits 4 (P - 1) w' else Out.ok w') = Out.ok (w' ++ f2) := by
      intro w'
      by_cases hp : P > 0
      · rw [if_pos hp, writeBits_ok 4 (P - 1) _ (by omega) (by decide), hf2d, if_pos hp]
      · rw [if_neg hp, hf2d, if_neg hp]; simp
    obtain ⟨fb, hfb⟩ : ∃ fb, fb = f1 ++ f2 := ⟨_, rfl⟩
    have hsum : hist.sum ≤ 2 ^ 25 := by rw [dh.sum]; simp; omega
    have hA64 : (n + P) % two64 = n + P := Nat.mod_eq_of_lt (by unfold two64; omega)
    rw [hA64]
    have hzero : ∀ i, n + P ≤ i → hist.getD i 0 = 0 := by
      intro i hi
      rcases Nat.eq_zero_or_pos (hist.getD i 0) with h0 | h0
      · exact h0
      · exfalso
        have := (dh.mem i).mp (by omega)
        simp only [List.mem_map] at this
        obtain ⟨s, hs, rfl⟩ := this
        have := hsymlt s hs
        omega
    obtain ⟨dep, bts, cb, code, hbt, rc, sc, _⟩ := buildN_roundtrip hist (n + P) (n + P) 272 (w ++ vb ++ f1 ++ f2)
      (by omega) (by rw [dh.len]; omega) (by omega) hsum (by omega) (Nat.le_refl _) hzero
    obtain ⟨B, hB1, hB2⟩ := cmapSymbols_roundtrip dep bts code P m.length hP6 rle (w ++ vb ++ f1 ++ f2 ++ cb) (fun s hs =>
      ⟨r2 s hs, sc (s % 512) (hsymlt s hs) ((dh.mem _).mpr (List.mem_map.mpr ⟨s, hs, rfl⟩))⟩)
    refine ⟨vb ++ (fb ++ (cb ++ (B ++ [true]))), ?_, ?_⟩
    · rw [hf1, Out.bind_ok, hf2, Out.bind_ok, hbt, Out.bind_ok]
      simp only
      rw [hB1, Out.bind_ok, writeBits_ok 1 1 _ (by decide) (by decide), hfb]
      simp [bitsOf, List.append_assoc]
    · intro rest
      rw [hfb, hf1d]
      exact readEncodedContextMap m idxs rle n P vb f2 cb B code hone hn1 hm hP6 hrlen hf2d hv2 rc hB2 r1 e2 e4 rest

end BV.MetaBlock
