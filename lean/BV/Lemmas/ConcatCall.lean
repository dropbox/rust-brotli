/-
One `stream` call as a movement of bytes (C12, C03).  Once a member's header is accepted: conservation
`held s ++ consumed = produced ++ held s'` of the copy-out, the tail fill and the pass-through, and
`Moved`, the description of such a call that the run level uses.  In the header phase: what a call does in terms of the
strip, the look-ahead and the header decision, none of which depends on capacities (`header_call_prefix`).
-/
import BV.Lemmas.ConcatStall

namespace BV.Concat
open Outcome BV.Gen

/-- bytes the machine owes the output but still keeps: the header bytes not yet
copied out (while a header copy is in progress) or the 0–2 byte tail -/
def held (s : State) : List Nat :=
  match s.new_stream_pending with
  | none => [s.last_bytes.1, s.last_bytes.2].take s.last_bytes_len
  | some d =>
    match d.num_bytes_written with
    | some w => (d.bytes_so_far.toList.drop w).take (d.num_bytes_read - w)
    | none => []

/-- the member's header has been accepted: the pass-through runs, or the realigned header is being copied out -/
def Settled (s : State) : Prop :=
  s.new_stream_pending = none ∨
  ∃ d w, s.new_stream_pending = some d ∧ d.num_bytes_written = some w ∧ s.last_byte_sanitized = true

/-- tail length the pass-through will start from -/
def baseLen (s : State) : Nat :=
  match s.new_stream_pending with
  | none => s.last_bytes_len
  | some _ => 1

/-- conservation for the pass-through from input offset `inOff` on: the tail and the bytes consumed are the bytes `P`
written behind `out` and the new tail; nothing else of the state changes -/
structure TailCons (s : State) (inp : List Nat) (inOff : Nat) (out P : List Nat) (r : Ret) : Prop where
  produced : r.produced = out ++ P
  ge : inOff ≤ r.consumed
  le : r.consumed ≤ inp.length
  cons : [s.last_bytes.1, s.last_bytes.2].take s.last_bytes_len ++ (inp.drop inOff).take (r.consumed - inOff)
    = P ++ [r.st.last_bytes.1, r.st.last_bytes.2].take r.st.last_bytes_len
  len : r.st.last_bytes_len = min 2 (s.last_bytes_len + (r.consumed - inOff))
  frame : r.st = { s with last_bytes := r.st.last_bytes, last_bytes_len := r.st.last_bytes_len }
  code : r.code = NEEDS_MORE_INPUT ∨ r.code = NEEDS_MORE_OUTPUT

theorem streamTail_cons (s : State) (inp : List Nat) (inOff : Nat) (out : List Nat) (cap : Nat)
    (hp : s.new_stream_pending = none) (hlen : s.last_bytes_len ≤ 2)
    (hin : inOff ≤ inp.length) (hout : out.length ≤ cap) (r : Ret)
    (h : streamTail s inp inOff out cap = ok r) : ∃ P, TailCons s inp inOff out P r := by
  refine streamTail_induct inp out cap (M := fun s k x => ∀ r, x = ok r → ∃ P, TailCons s inp k out P r)
    ?_ ?_ ?_ (2 - s.last_bytes_len) s inOff (by omega) hp hin r h
  · intro s k _ h2 hk r h
    obtain ⟨x, y, hxy, e⟩ := streamCopy_eq s inp k out cap _ hk hout rfl
    rw [e, Outcome.ok.injEq] at h
    subst h
    refine ⟨_, rfl, Nat.le_add_right _ _, by dsimp only; omega, ?_, by dsimp only; omega, rfl, ?_⟩
    · dsimp only
      rw [h2, Nat.add_sub_cancel_left]
      show [_, _] ++ _ = _ ++ [x, y]
      rw [← hxy, List.take_append_drop]
    · dsimp only
      split
      · exact Or.inr rfl
      · exact Or.inl rfl
  · intro s k _ _ hk _ r h
    cases h
    refine ⟨[], by simp, Nat.le_refl _, hk, by simp, by dsimp only; omega, rfl, ?_⟩
    dsimp only; split
    · exact Or.inr rfl
    · exact Or.inl rfl
  · -- the byte that went into the tail is the first of the input the call accounts for
    intro s k hlt x _ hl _ ih r h
    obtain ⟨P, t⟩ := ih r h
    have h3 := t.ge; have h5 := t.cons; have h6 := t.len
    dsimp only at h5 h6
    refine ⟨P, t.produced, by omega, t.le, ?_, by omega, t.frame, t.code⟩
    rw [show r.consumed - k = (r.consumed - (k + 1)) + 1 by omega, drop_take_succ inp k _ hlt, ← h5]
    rcases (show s.last_bytes_len = 0 ∨ s.last_bytes_len = 1 by omega) with l | l <;> simp [l]

theorem held_none (s : State) (hp : s.new_stream_pending = none) :
    held s = [s.last_bytes.1, s.last_bytes.2].take s.last_bytes_len := by
  unfold held; rw [hp]

/-- during a header copy-out what is held is what the copy still owes -/
theorem held_copying (s : State) (d : NewStreamData) (w : Nat) (hp : s.new_stream_pending = some d)
    (hw : d.num_bytes_written = some w) : held s = owedOf d w := by
  unfold held owedOf; rw [hp]; dsimp only; rw [hw]

/-- `q`: what this header has already written; `pre`: older output of the same call -/
structure CopyGen (s : State) (d : NewStreamData) (w : Nat) (pre q : List Nat) (cap : Nat)
    (y : State × List Nat × Nat) : Prop where
  out : ∃ P, y.2.1 = pre ++ P ∧ q ++ owedOf d w = P ++ held y.1
  settled : Settled y.1
  code : y.2.2 = SUCCESS ∨ y.2.2 = NEEDS_MORE_OUTPUT
  done : y.2.2 = SUCCESS → y.1.new_stream_pending = none ∧ y.1.last_bytes_len = 1
  more : y.2.2 = NEEDS_MORE_OUTPUT → y.1.new_stream_pending ≠ none ∧ y.2.1.length = cap
  ws : y.1.window_size = s.window_size
  len_le : y.2.1.length ≤ cap

theorem shiftCopyOut_cons_gen (s : State) (d : NewStreamData) (w : Nat) (pre q : List Nat) (cap : Nat)
    (y : State × List Nat × Nat) (hw : d.num_bytes_written = some w) (hwr : w ≤ d.num_bytes_read)
    (hr5 : d.num_bytes_read ≤ 5) (hlen : (pre ++ q).length ≤ cap)
    (hne : q ≠ [] ∨ (w < d.num_bytes_read ∧ (pre ++ q).length < cap))
    (hsan : s.last_byte_sanitized = true)
    (h : shiftCopyOut s d (pre ++ q) cap = ok y) : CopyGen s d w pre q cap y := by
  have hH := owedOf_length d w hr5
  have hpq : (pre ++ q).length = pre.length + q.length := List.length_append
  rw [shiftCopyOut_eq s d (pre ++ q) cap w hw hwr hr5 hlen
    (hne.imp (fun h e => h (List.append_eq_nil_iff.mp e).2) id)] at h
  split at h
  · cases h
    have hl : (pre ++ q ++ (owedOf d w).take (cap - (pre ++ q).length)).length = cap := by
      rw [List.length_append, List.length_take, hH]; omega
    refine ⟨⟨q ++ (owedOf d w).take (cap - (pre ++ q).length), by simp, ?_⟩,
      Or.inr ⟨_, _, rfl, rfl, by dsimp only; split <;> exact hsan⟩, Or.inr rfl,
      fun e => by simp at e, fun _ => ⟨by simp, hl⟩, by dsimp only; split <;> rfl, Nat.le_of_eq hl⟩
    unfold held
    dsimp only
    unfold owedOf
    rw [List.append_assoc, List.take_take, Nat.min_eq_left (by omega), take_drop_add]
    congr 3
    omega
  · have hnn : q ++ owedOf d w ≠ [] := by
      intro e
      have := congrArg List.length e
      rw [List.length_append, hH, List.length_nil] at this
      rcases hne with hq | hq
      · exact hq (List.eq_nil_of_length_eq_zero (by omega))
      · omega
    obtain ⟨ys, b, hys⟩ : ∃ ys b, q ++ owedOf d w = ys ++ [b] :=
      ⟨_, _, (List.dropLast_concat_getLast hnn).symm⟩
    have hyl := congrArg List.length hys
    rw [List.length_append, hH, List.length_append] at hyl
    rw [List.append_assoc, hys, ← List.append_assoc] at h
    simp only [List.getLast?_append, List.getLast?_singleton, Option.some_or, List.dropLast_concat,
      Option.getD_some] at h
    cases h
    refine ⟨⟨ys, rfl, by rw [hys]; unfold held; simp⟩, Or.inl rfl, Or.inl rfl, fun _ => ⟨rfl, rfl⟩,
      fun e => by simp at e, by dsimp only; split <;> rfl, ?_⟩
    dsimp only
    simp only [List.length_append, List.length_cons, List.length_nil] at hyl ⊢
    omega

/-- a call on a machine whose header is accepted, in the machine's own terms; the run level uses it as `Moved`
(`StreamCons.moved`), the form that also fits the call in which the header is accepted -/
structure StreamCons (s : State) (inp : List Nat) (r : Ret) : Prop where
  cons : held s ++ inp.take r.consumed = r.produced ++ held r.st
  settled : Settled r.st
  code : r.code = NEEDS_MORE_INPUT ∨ r.code = NEEDS_MORE_OUTPUT
  consumed_le : r.consumed ≤ inp.length
  len : r.st.new_stream_pending = none → r.st.last_bytes_len = min 2 (baseLen s + r.consumed)
  copying : r.st.new_stream_pending ≠ none → r.consumed = 0 ∧ r.code = NEEDS_MORE_OUTPUT ∧
    s.new_stream_pending ≠ none
  ws : r.st.window_size = s.window_size

/-- A call that moved bytes through a machine whose header is accepted: `owed` were owed before it,
input is taken from offset `k` on, `base` is the tail length the pass-through starts from. -/
structure Moved (owed : List Nat) (base : Nat) (x : List Nat) (k ws : Nat) (r : Ret) : Prop where
  cons : r.produced ++ held r.st = owed ++ (x.drop k).take (r.consumed - k)
  settled : Settled r.st
  code : r.code = NEEDS_MORE_INPUT ∨ r.code = NEEDS_MORE_OUTPUT
  ge : k ≤ r.consumed
  le : r.consumed ≤ x.length
  len : r.st.new_stream_pending = none → r.st.last_bytes_len = min 2 (base + (r.consumed - k))
  copying : r.st.new_stream_pending ≠ none → r.consumed = k ∧ r.code = NEEDS_MORE_OUTPUT ∧ base = 1
  ws : r.st.window_size = ws

theorem StreamCons.moved {s : State} {x : List Nat} {r : Ret} (hc : StreamCons s x r) :
    Moved (held s) (baseLen s) x 0 s.window_size r :=
  ⟨by simpa using hc.cons.symm, hc.settled, hc.code, Nat.zero_le _, hc.consumed_le, by simpa using hc.len,
    fun hne => by
      obtain ⟨a, b, c⟩ := hc.copying hne
      refine ⟨a, b, ?_⟩
      unfold baseLen
      cases hq : s.new_stream_pending with
      | none => exact absurd hq c
      | some d => rfl,
    hc.ws⟩

/-- `h`: the common end of every `stream` call that reaches the copy-out; the call has already written `pre ++ q`. -/
theorem copyOut_tail_moved (s : State) (d : NewStreamData) (w : Nat) (pre q : List Nat) (cap : Nat) (x : List Nat)
    (k : Nat) (r : Ret) (hw : d.num_bytes_written = some w) (hwr : w ≤ d.num_bytes_read)
    (hr5 : d.num_bytes_read ≤ 5) (hlen : (pre ++ q).length ≤ cap)
    (hne : q ≠ [] ∨ (w < d.num_bytes_read ∧ (pre ++ q).length < cap))
    (hsan : s.last_byte_sanitized = true) (hk : k ≤ x.length)
    (h : ((shiftCopyOut s d (pre ++ q) cap).bind fun y =>
      if y.2.2 ≠ SUCCESS then ok ⟨y.1, y.2.2, k, y.2.1⟩ else
      if y.2.1.length = cap then ok ⟨y.1, NEEDS_MORE_OUTPUT, k, y.2.1⟩ else
      streamTail y.1 x k y.2.1 cap) = ok r) :
    Moved (pre ++ (q ++ owedOf d w)) 1 x k s.window_size r := by
  cases hsc : shiftCopyOut s d (pre ++ q) cap with
  | panic t => rw [hsc] at h; cases h
  | ok y =>
    rw [hsc, bind_ok] at h
    have hg := shiftCopyOut_cons_gen s d w pre q cap y hw hwr hr5 hlen hne hsan hsc
    obtain ⟨P, hP1, hP2⟩ := hg.out
    have stop : ∀ c, c = NEEDS_MORE_OUTPUT → (y.1.new_stream_pending = none → y.1.last_bytes_len = 1) →
        Moved (pre ++ (q ++ owedOf d w)) 1 x k s.window_size ⟨y.1, c, k, y.2.1⟩ := fun c hc h1 =>
      ⟨by dsimp only; rw [hP1, Nat.sub_self, List.take_zero, List.append_nil, List.append_assoc, ← hP2],
        hg.settled, Or.inr hc, Nat.le_refl _, hk, fun e => by dsimp only; rw [h1 e]; simp,
        fun _ => ⟨rfl, hc, rfl⟩, hg.ws⟩
    rcases hg.code with c0 | c2
    · obtain ⟨d1, d2⟩ := hg.done c0
      rw [if_neg (by rw [c0]; simp)] at h
      by_cases hfull : y.2.1.length = cap
      · rw [if_pos hfull] at h; cases h
        exact stop _ rfl (fun _ => d2)
      · rw [if_neg hfull] at h
        obtain ⟨P2, t⟩ := streamTail_cons y.1 x k y.2.1 cap d1 (by omega) hk hg.len_le r h
        have hpr : r.st.new_stream_pending = none := by rw [t.frame]; exact d1
        refine ⟨?_, Or.inl hpr, t.code, t.ge, t.le, fun _ => by rw [t.len, d2], fun hne => absurd hpr hne,
          by rw [t.frame]; exact hg.ws⟩
        rw [t.produced, hP1, held_none r.st hpr, List.append_assoc, List.append_assoc, ← t.cons, ← held_none y.1 d1,
          ← List.append_assoc P, ← hP2]
        simp only [List.append_assoc]
    · rw [if_pos (by rw [c2]; simp)] at h; cases h
      exact stop _ c2 (fun e => absurd e (hg.more c2).1)

theorem stream_cons (s : State) (inp : List Nat) (cap : Nat) (r : Ret) (hI : Inv s) (hset : Settled s)
    (h : stream s inp cap = ok r) : StreamCons s inp r := by
  rcases id hset with hp | ⟨d, w, hp, hw, hsan⟩
  · rw [stream_none s inp cap hp] at h
    obtain ⟨P, t⟩ := streamTail_cons s inp 0 [] cap hp hI.len_le (Nat.zero_le _) (Nat.zero_le _) r h
    have h1 := t.produced; have h5 := t.cons; have h6 := t.len
    have hpr : r.st.new_stream_pending = none := by rw [t.frame]; exact hp
    simp only [List.nil_append, List.drop_zero, Nat.sub_zero] at h1 h5 h6
    refine ⟨?_, Or.inl hpr, t.code, t.le, fun _ => ?_, fun hne => absurd hpr hne, by rw [t.frame]⟩
    · rw [held_none s hp, held_none r.st hpr, h1]; exact h5
    · unfold baseLen; rw [hp]; exact h6
  · obtain ⟨hr5, hwr⟩ := hI.pend d hp
    obtain ⟨hwlt, hws⟩ := hwr w hw
    rw [stream_of_flush s s d inp cap [] hp (flush_sanitized s [] cap hsan), List.length_nil,
      if_neg (by rw [hw]; simp), bind_ok, if_neg (by rw [hw]; simp)] at h
    by_cases hc0 : cap = 0
    · rw [if_pos hc0] at h; cases h
      exact ⟨by simp, hset, Or.inr rfl, Nat.zero_le _, fun e => by rw [hp] at e; simp at e,
        fun _ => ⟨rfl, rfl, by rw [hp]; simp⟩, rfl⟩
    rw [if_neg hc0] at h
    unfold shiftAndCheckNewStreamHeader at h
    rw [hw] at h
    dsimp only at h
    rw [if_neg hws] at h
    have hm := copyOut_tail_moved s d w [] [] cap inp 0 r hw (by omega) hr5 (Nat.zero_le _)
      (Or.inr ⟨hwlt, Nat.pos_of_ne_zero hc0⟩) hsan (Nat.zero_le _) h
    rw [List.nil_append, List.nil_append, ← held_copying s d w hp hw] at hm
    exact ⟨by simpa using hm.cons.symm, hm.settled, hm.code, hm.le, fun e => by simpa [baseLen, hp] using hm.len e,
      fun e => ⟨(hm.copying e).1, (hm.copying e).2.1, by rw [hp]; simp⟩, hm.ws⟩

theorem take_drop_glue (x : List Nat) (k c : Nat) (hk : k ≤ c) :
    (x.drop k).take (c - k) ++ x.drop c = x.drop k := by
  have : x.drop c = (x.drop k).drop (c - k) := by rw [List.drop_drop]; congr 1; omega
  rw [this, List.take_append_drop]

/-- what a member in its header phase will do once all of `x` has been offered, free of the calls' capacities -/
structure HdrPlan (s : State) (x : List Nat) (nsp0 : NewStreamData) (s1 : State) (o1 : List Nat)
    (nspF : NewStreamData) (k : Nat) (s' : State) (n' : NewStreamData) (q : List Nat) (w : Nat) : Prop where
  pending : s.new_stream_pending = some nsp0
  fresh : nsp0.num_bytes_written = none
  strip : flushPreviousStream s [] 1 = ok (s1, o1, SUCCESS)
  look : headerLoop nsp0 x 0 = ok (nspF, k)
  suff : nspF.sufficient = true
  head : shiftHead { s1 with new_stream_pending := some nspF } nspF = ok (.inr (s', n', q))
  written : n'.num_bytes_written = some w

def planOwed (o1 q : List Nat) (n' : NewStreamData) (w : Nat) (x : List Nat) (k : Nat) : List Nat :=
  o1 ++ q ++ owedOf n' w ++ x.drop k

theorem flush_any_cap (s s1 : State) (o1 : List Nat) (cap : Nat)
    (h1 : flushPreviousStream s [] 1 = ok (s1, o1, SUCCESS)) :
    flushPreviousStream s [] cap = ok (s1, o1, SUCCESS) ∨
    (cap = 0 ∧ flushPreviousStream s [] cap = ok (s, [], NEEDS_MORE_OUTPUT)) := by
  by_cases hc : 1 ≤ cap
  · left; rw [flush_any_room s cap 1 hc (Nat.le_refl _)]; exact h1
  have hc0 : cap = 0 := by omega
  subst hc0
  cases hs : s.last_byte_sanitized with
  | true => left; rw [flush_sanitized s [] 1 hs] at h1; rw [flush_sanitized s [] 0 hs]; exact h1
  | false =>
    by_cases h0 : s.last_bytes_len = 0
    · left; rw [flush_empty s [] 1 hs h0] at h1; rw [flush_empty s [] 0 hs h0]; exact h1
    rcases flush_strip_or s hs h0 with ⟨t, _, hp⟩ | hn | ⟨i, _, hi⟩
    · rw [hp] at h1; cases h1
    · rw [hn] at h1; simp at h1
    rw [hi] at h1 ⊢
    by_cases h8 : i ≥ 8
    · exact Or.inr ⟨rfl, flushStrip_ge8_full _ _ _ _ _ h8 (Nat.zero_le _)⟩
    · left
      rw [flushStrip_lt8 _ _ _ _ _ (by omega)] at h1 ⊢
      exact h1

theorem Inv.with_pending {s : State} (h : Inv s) (d : NewStreamData)
    (hr : d.num_bytes_read ≤ 5) (hw : d.num_bytes_written = none) :
    Inv { s with new_stream_pending := some d } := by
  refine ⟨h.len_le, h.off_lt, h.ws0, fun e => ⟨rfl, (h.san e).2⟩, h.tail, fun d' hd' => ?_⟩
  simp only [Option.some.injEq] at hd'
  subst hd'
  exact ⟨hr, fun w hw' => by rw [hw] at hw'; simp at hw'⟩

/-- A header-phase call in terms of three capacity-free data: the strip with room (`hstrip`), the
look-ahead over all of `x` (`hlook`) and, in the conclusion, the rest of `stream`'s body from the
header decision on.  Either the call found no room for the strip and changed nothing, or it is that
rest, evaluated after the strip and `k` bytes of look-ahead. -/
theorem header_call_prefix (s : State) (x : List Nat) (nsp0 : NewStreamData) (s1 : State) (o1 : List Nat)
    (nspX : NewStreamData) (k : Nat)
    (hp : s.new_stream_pending = some nsp0) (hfresh : nsp0.num_bytes_written = none)
    (hstrip : flushPreviousStream s [] 1 = ok (s1, o1, SUCCESS))
    (hlook : headerLoop nsp0 x 0 = ok (nspX, k)) (hI : Inv s) (cap : Nat) (r : Ret)
    (h : stream s x cap = ok r) :
    r = ⟨s, NEEDS_MORE_OUTPUT, 0, []⟩ ∨
    (Inv { s1 with new_stream_pending := some nspX } ∧ s1.last_byte_sanitized = true ∧ o1.length ≤ cap ∧
      nspX.num_bytes_written = none ∧ nspX.num_bytes_read ≤ 5 ∧ k ≤ x.length ∧
      (nspX.sufficient = false → k = x.length) ∧
      (if nspX.sufficient = false then ok ⟨{ s1 with new_stream_pending := some nspX }, NEEDS_MORE_INPUT, k, o1⟩ else
       if cap = o1.length then ok ⟨{ s1 with new_stream_pending := some nspX }, NEEDS_MORE_OUTPUT, k, o1⟩ else
       (shiftAndCheckNewStreamHeader { s1 with new_stream_pending := some nspX } nspX o1 cap).bind fun y =>
       if y.2.2 ≠ SUCCESS then ok ⟨y.1, y.2.2, k, y.2.1⟩ else
       if y.2.1.length = cap then ok ⟨y.1, NEEDS_MORE_OUTPUT, k, y.2.1⟩ else
       streamTail y.1 x k y.2.1 cap) = ok r) := by
  rcases flush_any_cap s s1 o1 cap hstrip with hf | ⟨hc0, hf⟩
  · right
    have hfl := flush_inv s [] cap hI (Nat.zero_le _) (by rw [hp]; rfl)
    rw [hf, sat_ok] at hfl
    obtain ⟨hfp, hI1⟩ := hfl
    dsimp only at hI1
    have hsan1 : s1.last_byte_sanitized = true := hfp.sanit rfl
    have hp1 : s1.new_stream_pending = some nsp0 := by rw [← hp]; exact hfp.pending
    have hole : o1.length ≤ cap := hfp.out_le
    obtain ⟨hr50, _⟩ := hI.pend nsp0 hp
    have hls := headerLoop_sat x nsp0 0 hr50
    rw [hlook, sat_ok] at hls
    obtain ⟨hwF, hr5F, _, hkx, _, hsx⟩ := hls
    dsimp only at hwF hr5F hkx hsx
    have hwF' : nspX.num_bytes_written = none := by rw [hwF]; exact hfresh
    rw [stream_of_flush s s1 nsp0 x cap o1 hp hf] at h
    have hstep : (if nsp0.num_bytes_written.isNone = true ∧ nsp0.num_bytes_read < NUM_STREAM_HEADER_BYTES then
          (headerLoop nsp0 x 0).bind fun x => ok (x.1, x.2, { s1 with new_stream_pending := some x.1 })
        else ok (nsp0, 0, s1)) = ok (nspX, k, { s1 with new_stream_pending := some nspX }) := by
      by_cases hc : nsp0.num_bytes_written.isNone = true ∧ nsp0.num_bytes_read < NUM_STREAM_HEADER_BYTES
      · rw [if_pos hc, hlook]; rfl
      · rw [if_neg hc]
        have h5 : nsp0.num_bytes_read = 5 := by
          rw [hdr5] at hc
          have : nsp0.num_bytes_written.isNone = true := by rw [hfresh]; rfl
          have : ¬ nsp0.num_bytes_read < 5 := fun e => hc ⟨this, e⟩
          omega
        have hs0 : nsp0.sufficient = true := (sufficient_iff nsp0).mpr (Or.inr h5)
        have := hlook
        rw [headerLoop_sufficient nsp0 hs0 x 0] at this
        simp only [Outcome.ok.injEq, Prod.mk.injEq] at this
        obtain ⟨e1, e2⟩ := this
        subst e1 e2
        rw [state_eta_pending s1 nsp0 hp1]
    rw [hstep] at h
    simp only [bind_ok] at h
    refine ⟨hI1.with_pending nspX hr5F hwF', hsan1, hole, hwF', hr5F, by simpa using hkx, ?_, ?_⟩
    · intro hns
      rcases hsx with e | e
      · rw [e] at hns; simp at hns
      · simpa using e
    · cases hsf : nspX.sufficient with
      | false =>
        rw [if_pos ⟨by rw [hwF']; rfl, by rw [hsf]; simp⟩] at h
        simp only [if_true]
        exact h
      | true =>
        rw [if_neg (by rw [hsf]; simp)] at h
        simp only [Bool.true_eq_false, if_false]
        exact h
  · left
    subst hc0
    rw [stream_flush_fail s s _ x 0 [] _ hp hf (by simp), Outcome.ok.injEq] at h
    exact h.symm

theorem flush_fail_any_cap (s s1 : State) (o1 : List Nat) (cap : Nat) (hlen : s.last_bytes_len ≤ 2)
    (h1 : flushPreviousStream s [] 1 = ok (s1, o1, NOT_CRAFTED_FOR_APPEND)) :
    flushPreviousStream s [] cap = ok (s, [], NOT_CRAFTED_FOR_APPEND) := by
  cases hs : s.last_byte_sanitized with
  | true => rw [flush_sanitized s [] 1 hs] at h1; simp at h1
  | false =>
    by_cases h0 : s.last_bytes_len = 0
    · rw [flush_empty s [] 1 hs h0] at h1; simp at h1
    rcases flush_strip_or s hs h0 with ⟨t, _, hp⟩ | hn | ⟨i, hi16, hi⟩
    · rw [hp] at h1; cases h1
    · exact hn [] cap
    · -- a strip that is reached succeeds when there is room
      exfalso
      have hi16 := hi16 hlen
      rw [hi] at h1
      by_cases h8 : i ≥ 8
      · rw [flushStrip_ge8_room s [] 1 _ i h8 (by omega) (by simp) (by omega), flushFin_lt8 _ _ _ (by omega)] at h1
        simp at h1
      · rw [flushStrip_lt8 s [] 1 _ i (by omega), flushFin_lt8 _ _ _ (by omega)] at h1
        simp at h1

end BV.Concat
