import BV.Lemmas.StreamTerm
import BV.Lemmas.StreamMeta
/-
Termination of the metadata loop (`process_metadata`).  The loop calls `encode_data(force_flush)` while
`input_pos_ ≠ last_flush_pos_` and relies on that call making the two equal (`encodeData_forced`; at quality 0/1 this
rests on `last_flush_pos_ = last_processed_pos_`, the field `q01` of `Inv`).  With a quality 0/1 branch of `encode_data`
that leaves `last_flush_pos_` behind, the loop spins: /verif/proposed/metadata-q01-catable-livelock.md.
-/
namespace BV.Stream
open BV.Bits

theorem mdStep_ne_fuel (o : Oracle) (s : St) (io : Io) : processMetadataStep o s io ≠ .fuel := by
  unfold processMetadataStep
  cases hp : injectFlushOrPushOutput s io with
  | panic => nofun
  | fuel => exact absurd hp (push_ne_fuel _ _)
  | ok x =>
    obtain ⟨s1, io1, b⟩ := x
    cases b
    · refine ite_ne_fuel nofun (ite_ne_fuel ?_ (ite_ne_fuel (ite_ne_fuel nofun nofun)
        (ite_ne_fuel nofun (ite_ne_fuel (ite_ne_fuel nofun nofun) (ite_ne_fuel nofun nofun)))))
      cases he : encodeData o s1 1 false true with
      | ok y => exact ite_ne_fuel nofun nofun
      | panic => nofun
      | fuel => exact absurd he (encodeData_ne_fuel _ _ _ _ _)
    · nofun

/-- potential of the metadata loop: buffered input still to be flushed (unit as in `slowPot`), the header still
to be staged (at most 8 bytes), 17 for every payload byte still to come (more than the pending bytes that
staging it in `tiny_buf_` creates), bytes to hand out -/
def mdPot (M : Nat) (s : St) : Nat :=
  (if s.inputPos ≠ s.lastFlushPos then 1 else 0) * (M + 8) + (if s.streamState = .metadataHead then 8 else 0)
    + 17 * s.remainingMetadata + s.pending.length

theorem mdStep_decreases {o : Oracle} {n M : Nat} {s s' : St} {io io' : Io} (hP : MdInv n s io)
    (hl : s.lastBytesBits ≤ 14)
    (h : processMetadataStep o s io = .ok (s', io', .cont)) :
    (MCap M s → mdPot M s' < mdPot M s ∧ MCap M s') ∧ s'.lastBytesBits ≤ 14 := by
  have hI := hP.inv
  have hnf : s.streamState ≠ .finished := by rcases hP.st with h1 | h1 <;> rw [h1] <;> simp
  have hnfl : s.streamState ≠ .flushRequested := by rcases hP.st with h1 | h1 <;> rw [h1] <;> simp
  have hrm32 := lt_two32_of_le hP.rmLe
  rcases mdStep_ok h with ⟨hp, _⟩ | ⟨_, ⟨_, _, _, hb⟩ | ⟨hp0, ⟨hne, res, req, henc, _, _⟩ |
    ⟨hlfe, ⟨hhead, rfl, _, _⟩ | ⟨hnhead, ⟨_, _, _, hb⟩ | ⟨hnz, ⟨hav, _, rfl, _, _⟩ | ⟨_, _, rfl, _, _⟩⟩⟩⟩⟩⟩
  · have pf := push_frame hp
    have f := St.frame_eq pf.frame
    have hlt := push_strict hnfl hp
    have hlb := (push_conserve hnfl hp).2.2.2.2.1
    refine ⟨fun hC => ⟨?_, by unfold MCap at hC ⊢; rw [pf.storageSize, f.inputPos, pf.lastFlushPos]; exact hC⟩, by rw [hlb]; exact hl⟩
    unfold mdPot
    rw [f.inputPos, pf.lastFlushPos, f.streamState, f.remainingMetadata]
    omega
  · cases hb
  · cases encodeData_succeeds hI hnf henc
    obtain ⟨f, _, _, _, _⟩ := encodeData_frame henc
    replace f := St.frame_eq f
    have hlf := encodeData_forced henc (Or.inr rfl) hI.lp_le hI.ip_lt hI.q01
    obtain ⟨t1, t2, t3, t4⟩ := encodeData_store henc hI.fl_le hI.lp_le hI.ip_lt
    have hlbb : s'.lastBytesBits ≤ 14 := by
      rcases encodeData_lbb henc with h8 | h8
      · omega
      · rw [h8]; exact hl
    refine ⟨fun hC => ?_, hlbb⟩
    obtain ⟨q1, q2⟩ := hC
    have hs2M : s'.storageSize ≤ M := Nat.le_trans t2 (Nat.max_le.mpr ⟨q1, q2⟩)
    refine ⟨?_, ⟨hs2M, by rw [t4]; omega⟩⟩
    unfold mdPot
    rw [f.inputPos, hlf, f.streamState, f.remainingMetadata, if_neg (fun hh => hh rfl), if_pos hne, Nat.one_mul, Nat.zero_mul, hp0]
    omega
  · refine ⟨fun hC => ⟨?_, hC⟩, Nat.zero_le _⟩
    have h1 := metadataHeaderBits_length_le s.remainingMetadata hP.rmLe s.carry
    rw [s.carry_length] at h1
    have h2 := toBytes_length (metadataHeaderBits s.remainingMetadata s.carry)
    unfold mdPot
    simp only [mdHeadSt, hlfe, hhead, ne_eq, not_true_eq_false, reduceCtorEq, ↓reduceIte]
    rw [h2, hp0]
    omega
  · cases hb
  · have hcopy : min s.remainingMetadata io.availOut % two32 = min s.remainingMetadata io.availOut :=
      Nat.mod_eq_of_lt (Nat.lt_of_le_of_lt (Nat.min_le_left _ _) hrm32)
    refine ⟨fun hC => ⟨?_, hC⟩, hl⟩
    unfold mdPot
    simp only [mdOutSt, mdOutN, hlfe, hnhead, ne_eq, not_true_eq_false, ↓reduceIte]
    rw [hcopy, add_sub_mod_self (Nat.min_le_left _ _) hrm32]
    have : 1 ≤ min s.remainingMetadata io.availOut := by omega
    have : min s.remainingMetadata io.availOut ≤ s.remainingMetadata := Nat.min_le_left _ _
    omega
  · refine ⟨fun hC => ⟨?_, hC⟩, hl⟩
    unfold mdPot
    simp only [mdTinySt, mdTinyN, hlfe, hnhead, ne_eq, not_true_eq_false, ↓reduceIte]
    rw [add_sub_mod_self (Nat.min_le_left _ _) hrm32, List.length_take, hp0]
    have : 1 ≤ min s.remainingMetadata 16 := by omega
    have : min s.remainingMetadata 16 ≤ s.remainingMetadata := Nat.min_le_left _ _
    omega

theorem mdLoop_terminates {o : Oracle} {n M : Nat} :
    ∀ fuel s io, MdInv n s io → s.lastBytesBits ≤ 14 → MCap M s → mdPot M s < fuel →
      processMetadataLoop o fuel s io ≠ .fuel := by
  intro fuel
  induction fuel with
  | zero => intro s io _ _ _ h; omega
  | succ k ih =>
    intro s io hP hl hC hpot
    unfold processMetadataLoop
    have hnf := mdStep_ne_fuel o s io
    split
    · simp
    · rename_i hh; exact absurd hh hnf
    · simp
    · rename_i s1 io1 hs
      obtain ⟨d1, d2⟩ := mdStep_decreases (M := M) hP hl hs
      obtain ⟨d3, d4⟩ := d1 hC
      rcases (mdStep_spec hP hs).2 with h1 | ⟨h1, _⟩
      · exact ih s1 io1 h1 d2 d4 (by omega)
      · cases h1
    · simp

end BV.Stream
