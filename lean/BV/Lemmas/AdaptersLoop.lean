/-
The loop shape shared by `write`, `flush_or_close`, `read` and the copy function: a body that
either leaves with a result or goes round again, run on fuel.
-/
namespace BV.Adapters

structure FuelLoop {S T : Type} (loop : Nat → S → T) (Stop : S → T → Prop) (Next : S → S → Prop) (dead : S → T) :
    Prop where
  zero : ∀ s, loop 0 s = dead s
  stop : ∀ fuel s t, Stop s t → loop (fuel + 1) s = t
  next : ∀ fuel s s', Next s s' → loop (fuel + 1) s = loop fuel s'
  total : ∀ s, (∃ t, Stop s t) ∨ ∃ s', Next s s'

inductive Turn (S T : Type) where
  | stop (t : T)
  | next (s : S)

variable {S T : Type} {loop : Nat → S → T} {Stop : S → T → Prop} {Next : S → S → Prop} {dead : S → T}

theorem FuelLoop.ofTurn (body : S → Turn S T) (zero : ∀ s, loop 0 s = dead s)
    (succ : ∀ fuel s, loop (fuel + 1) s = match body s with | .stop t => t | .next s' => loop fuel s') :
    FuelLoop loop (fun s t => body s = .stop t) (fun s s' => body s = .next s') dead :=
  ⟨zero, fun fuel s t h => by rw [succ, h], fun fuel s s' h => by rw [succ, h], fun s => by
    cases h : body s with
    | stop t => exact Or.inl ⟨t, rfl⟩
    | next s' => exact Or.inr ⟨s', rfl⟩⟩

theorem FuelLoop.rule (hL : FuelLoop loop Stop Next dead) {I : S → Prop} {Q : S → T → Prop}
    (hdead : ∀ s, I s → Q s (dead s))
    (hstop : ∀ s t, I s → Stop s t → Q s t)
    (hnext : ∀ s s', I s → Next s s' → I s' ∧ ∀ t, Q s' t → Q s t) :
    ∀ fuel s, I s → Q s (loop fuel s) := by
  intro fuel
  induction fuel with
  | zero => intro s hI; rw [hL.zero]; exact hdead s hI
  | succ fuel ih =>
    intro s hI
    rcases hL.total s with ⟨t, hb⟩ | ⟨s', hb⟩
    · rw [hL.stop fuel s t hb]; exact hstop s t hI hb
    · rw [hL.next fuel s s' hb]
      obtain ⟨hI', hQ⟩ := hnext s s' hI hb
      exact hQ _ (ih s' hI')

theorem FuelLoop.sim (hL : FuelLoop loop Stop Next dead) {R : S → S → Prop} {Q : T → T → Prop}
    (hdead : ∀ a b, R a b → Q (dead a) (dead b))
    (hbody : ∀ a b, R a b →
      (∃ t t', Stop a t ∧ Stop b t' ∧ Q t t') ∨ (∃ a' b', Next a a' ∧ Next b b' ∧ R a' b')) :
    ∀ fuel a b, R a b → Q (loop fuel a) (loop fuel b) := by
  intro fuel
  induction fuel with
  | zero => intro a b h; rw [hL.zero, hL.zero]; exact hdead a b h
  | succ fuel ih =>
    intro a b h
    rcases hbody a b h with ⟨t, t', ha, hb, hQ⟩ | ⟨a', b', ha, hb, hR⟩
    · rw [hL.stop fuel a t ha, hL.stop fuel b t' hb]; exact hQ
    · rw [hL.next fuel a a' ha, hL.next fuel b b' hb]; exact ih a' b' hR

theorem FuelLoop.returns (hL : FuelLoop loop Stop Next dead) {I : S → Prop} (wf : WellFoundedRelation S)
    {live : T → Prop}
    (hstop : ∀ s t, I s → Stop s t → live t)
    (hnext : ∀ s s', I s → Next s s' → I s' ∧ wf.rel s' s) :
    ∀ s, I s → ∃ N, ∀ fuel, N ≤ fuel → live (loop fuel s) := by
  intro s
  induction s using wf.wf.induction with
  | _ s ih =>
    intro hI
    rcases hL.total s with ⟨t, hb⟩ | ⟨s', hb⟩
    · refine ⟨1, fun fuel hf => ?_⟩
      obtain ⟨f, rfl⟩ : ∃ f, fuel = f + 1 := ⟨fuel - 1, by omega⟩
      rw [hL.stop f s t hb]; exact hstop s t hI hb
    · obtain ⟨hI', hr⟩ := hnext s s' hI hb
      obtain ⟨N, hN⟩ := ih s' hr hI'
      refine ⟨N + 1, fun fuel hf => ?_⟩
      obtain ⟨f, rfl⟩ : ∃ f, fuel = f + 1 := ⟨fuel - 1, by omega⟩
      rw [hL.next f s s' hb]; exact hN f (by omega)

abbrev lex2 : WellFoundedRelation (Nat × Nat) := Prod.lex Nat.lt_wfRel Nat.lt_wfRel
abbrev lex3 : WellFoundedRelation (Nat × Nat × Nat) := Prod.lex Nat.lt_wfRel lex2

theorem lex2_iff {p q : Nat × Nat} : lex2.rel p q ↔ p.1 < q.1 ∨ (p.1 = q.1 ∧ p.2 < q.2) := Prod.lex_def

theorem lex3_iff {p q : Nat × Nat × Nat} :
    lex3.rel p q ↔ p.1 < q.1 ∨ (p.1 = q.1 ∧ p.2.1 < q.2.1) ∨ (p.1 = q.1 ∧ p.2.1 = q.2.1 ∧ p.2.2 < q.2.2) := by
  show Prod.Lex _ lex2.rel p q ↔ _
  rw [Prod.lex_def, lex2_iff]
  constructor
  · rintro (h | ⟨h1, h | ⟨h2, h3⟩⟩)
    · exact Or.inl h
    · exact Or.inr (Or.inl ⟨h1, h⟩)
    · exact Or.inr (Or.inr ⟨h1, h2, h3⟩)
  · rintro (h | ⟨h1, h⟩ | ⟨h1, h2, h3⟩)
    · exact Or.inl h
    · exact Or.inr ⟨h1, Or.inl h⟩
    · exact Or.inr ⟨h1, Or.inr ⟨h2, h3⟩⟩

def eofFlag (eof : Bool) : Nat := if eof then 0 else 1

theorem eofFlag_mono {a b : Bool} (h : a = true → b = true) : eofFlag b ≤ eofFlag a := by
  cases a
  · unfold eofFlag; split <;> simp
  · simp [eofFlag, h rfl]

/-- the descent of `read` and of the copy function: the refill keeps the bytes still to come (`T`)
and can only clear the not-yet-at-EOF flag (`F`); the encoder call then takes `k` of the bytes, and
lowers its rank (`R`) when it takes none -/
theorem lex3_feed {T F R T1 F1 T' F' R' k : Nat} (h1 : T1 = T) (h2 : F1 ≤ F) (h3 : T' = T1 - k) (h4 : F' = F1)
    (hk : k ≤ T1) (h5 : k = 0 → R' < R) : lex3.rel (T', F', R') (T, F, R) := by
  rw [lex3_iff]
  by_cases hk0 : k = 0
  · have := h5 hk0
    rcases Nat.lt_or_ge F' F with hlt | hge
    · exact Or.inr (Or.inl ⟨by simp only; omega, hlt⟩)
    · exact Or.inr (Or.inr ⟨by simp only; omega, by simp only; omega, this⟩)
  · exact Or.inl (by simp only; omega)

end BV.Adapters
