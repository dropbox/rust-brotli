/-
The favor branch of `CompressMulti` cannot panic: building the shared index — `BulkStoreRange(input,
usize::MAX, stored_end, range.end − overlap)` on the calling thread, before the last job runs —
reads only `input[.. range.end)` and indexes inside the tables the constructors allocate.
`BV.Multi.compressMulti` has no panic site for this code; these lemmas justify that.
-/
import BV.Lemmas.MultiFavorKinds

namespace BV.Lemmas.Multi
open BV.Multi BV.Hasher

theorem Basic.store_some {P : BasicP} {d : ByteArray} {mask ix : Nat} {b : Tab} (hs : P.sweep ≠ 0)
    (hfit : ∀ w, P.hash w % U32 + P.sweep ≤ b.size) (hw : ix + 8 ≤ d.size) :
    ∃ b', Basic.store P d mask ix b = some b' ∧ b'.size = b.size := by
  have hw := and_add_le mask hw
  have hoff : (ix >>> 3) % P.sweep % U32 < P.sweep :=
    Nat.lt_of_le_of_lt (Nat.mod_le _ _) (Nat.mod_lt _ (Nat.pos_of_ne_zero hs))
  simp only [Basic.store, Basic.hashAt, win, if_pos hw, Option.map_some, if_neg hs]
  have := hfit ((List.range 8).map fun k => (d.get! ((ix &&& mask) + k)).toNat)
  have hlt : (P.hash ((List.range 8).map fun k => (d.get! ((ix &&& mask) + k)).toNat) % U32 + (ix >>> 3) % P.sweep % U32) % U32 < b.size :=
    Nat.lt_of_le_of_lt (Nat.mod_le _ _) (by omega)
  exact ⟨_, wr_of_lt _ hlt, by simp⟩

/-- `2 ^ 15` counters and `2 ^ 23` cells: the sizes of `h9Model`, there written `1 <<< 15`, `1 <<< 23` -/
theorem H9.store_some {P : H9P} {d : ByteArray} {mask ix : Nat} {st : AdvSt}
    (hkey : ∀ w, P.hash w % U32 < 2 ^ 15) (hn : st.num.size = 2 ^ 15) (hb : st.buckets.size = 2 ^ 23)
    (hw : ix + 4 ≤ d.size) :
    ∃ st', H9.store P d mask ix st = some st' ∧ st'.num.size = 2 ^ 15 ∧ st'.buckets.size = 2 ^ 23 := by
  have hw := and_add_le mask hw
  obtain ⟨num, buckets⟩ := st
  simp only at hn hb
  simp only [H9.store, win, if_pos hw]
  have hk := hkey ((List.range 4).map fun k => (d.get! ((ix &&& mask) + k)).toNat)
  generalize P.hash ((List.range 4).map fun k => (d.get! ((ix &&& mask) + k)).toNat) % U32 = key at hk
  have hk' : key < num.size := by omega
  rw [rd_of_lt hk']
  simp only []
  have hminor : num[key] &&& H9.BLOCK_MASK ≤ 255 := Nat.and_le_right
  have hidx : (num[key] &&& H9.BLOCK_MASK) + (key <<< H9.BLOCK_BITS) < buckets.size := by
    rw [Nat.shiftLeft_eq, hb]
    simp only [H9.BLOCK_BITS]
    omega
  rw [wr_of_lt _ hidx]
  simp only []
  rw [wr_of_lt _ hk']
  exact ⟨_, rfl, by simp [hn], by simp [hb]⟩

theorem Adv.store_some {P : AdvP} {d : ByteArray} {mask ix : Nat} {st : AdvSt}
    (hkey : ∀ w, (P.mixWord w >>> P.shift) % U32 < P.bucketSize) (hm : P.blockMask < 2 ^ P.blockBits)
    (hn : st.num.size = P.bucketSize) (hb : st.buckets.size = P.bucketSize * 2 ^ P.blockBits)
    (hw : ix + P.lookahead ≤ d.size) :
    ∃ st', Adv.store P d mask ix st = some st' ∧ st'.num.size = P.bucketSize ∧
      st'.buckets.size = P.bucketSize * 2 ^ P.blockBits := by
  have hw := and_add_le mask hw
  obtain ⟨num, buckets⟩ := st
  simp only at hn hb
  simp only [Adv.store, Adv.hashAt, win, if_pos hw, Option.map_some]
  have hk := hkey ((List.range P.lookahead).map fun k => (d.get! ((ix &&& mask) + k)).toNat)
  generalize (P.mixWord ((List.range P.lookahead).map fun k => (d.get! ((ix &&& mask) + k)).toNat) >>> P.shift) % U32 = key at hk
  have hk' : key < num.size := by omega
  rw [rd_of_lt hk']
  simp only []
  have hminor : num[key] &&& P.blockMask ≤ P.blockMask := Nat.and_le_right
  have hidx : (num[key] &&& P.blockMask) + (key <<< P.blockBits) % U32 < buckets.size := by
    have h1 : (key <<< P.blockBits) % U32 ≤ key * 2 ^ P.blockBits := by
      rw [Nat.shiftLeft_eq]; exact Nat.mod_le _ _
    have h2 : (key + 1) * 2 ^ P.blockBits ≤ P.bucketSize * 2 ^ P.blockBits := Nat.mul_le_mul_right _ (by omega)
    have h3 : (key + 1) * 2 ^ P.blockBits = key * 2 ^ P.blockBits + 2 ^ P.blockBits := Nat.succ_mul _ _
    rw [hb]
    omega
  rw [wr_of_lt _ hidx]
  simp only []
  rw [wr_of_lt _ hk']
  exact ⟨_, rfl, by simp [hn], by simp [hb]⟩

theorem liftBulk_isSome {σ : Type} {bulk : ByteArray → Nat → Nat → Nat → σ → Option σ}
    {store : ByteArray → Nat → σ → Option σ} {I : σ → Prop} {bound : Nat}
    (hfold : ∀ d s e st, I st → e ≤ bound → bulk d USIZE_MAX s e st = forRange (store d) s (e - s) st)
    (x : σ) (hx : I x) (d : List Nat) (m : Nat) (hm : m ≤ bound)
    (hstep : ∀ i y, i < m → I y → ∃ z, store (toBA d) i y = some z ∧ I z) :
    ∃ z, liftBulk bulk (some x) d 0 m = some z ∧ I z := by
  simp only [liftBulk, Option.bind_some]
  rw [hfold _ 0 m x hx hm, Nat.sub_zero]
  exact forRange_isSome m 0 x hx (fun i y _ h2 hy => hstep i y (by omega) hy)

structure BuildsOK {σ : Type} (M : HasherModel (Option σ)) (overlap : Nat) (Q : σ → Prop) : Prop where
  /-- up to `2 ^ 64`: positions are `usize`s -/
  additive : AdditiveFrom M (2 ^ 64)
  empty : ∃ x, M.empty = some x ∧ Q x
  bulk0 : ∀ (d : List Nat) (m : Nat), m + overlap ≤ d.length → m ≤ 2 ^ 64 →
    ∃ st, M.bulk M.empty d 0 m = some st ∧ Q st

theorem BuildsOK.shared {σ : Type} {M : HasherModel (Option σ)} {overlap : Nat} {Q : σ → Prop}
    (K : BuildsOK M overlap Q) (input : List Nat) (t n j : Nat) (ht : 0 < t) (hj : j ≤ t)
    (hn : n ≤ input.length) (hn64 : n ≤ 2 ^ 64) :
    ∃ st, (prebuilt M input t n overlap j).1 = some st ∧ Q st := by
  rw [prebuilt_closed_from M (2 ^ 64) K.additive input t n overlap ht hn64 j hj]
  have hle : bnd t n j ≤ n := bnd_le t n j ht hj
  split
  · exact K.bulk0 _ _ (by omega) (by omega)
  · exact K.empty

theorem dict_length (input : List Nat) (size lgwin quality : Nat) (hsz : size ≤ input.length) :
    (dictPlan size lgwin quality).kept ≤ ((input.take size).drop (dictPlan size lgwin quality).dropped).length ∧
    (dictPlan size lgwin quality).kept ≤ size := by
  simp only [List.length_drop, List.length_take, Nat.min_eq_left hsz]
  by_cases h0 : size = 0 ∨ quality = 0 ∨ quality = 1
  · simp [dictPlan, h0]
  · by_cases h1 : size > 2 ^ lgwin - 16
    · simp only [dictPlan, h0, h1, if_false, if_true]; omega
    · simp only [dictPlan, h0, h1, if_false]; omega

theorem BuildsOK.own {σ : Type} {M : HasherModel (Option σ)} {overlap : Nat} {Q : σ → Prop}
    (K : BuildsOK M overlap Q) (input : List Nat) (size lgwin quality : Nat) (hsz : size ≤ input.length)
    (h64 : size ≤ 2 ^ 64) : ∃ st, selfbuilt M input size lgwin quality overlap = some st := by
  unfold selfbuilt
  obtain ⟨hlen, hk⟩ := dict_length input size lgwin quality hsz
  dsimp only
  by_cases hgt : (dictPlan size lgwin quality).kept > overlap
  · rw [if_pos hgt]
    exact (K.bulk0 _ _ (by omega) (by omega)).imp fun _ h => h.1
  · rw [if_neg hgt]
    exact K.empty.imp fun _ h => h.1

theorem basic_buildsOK {P : BasicP} (hP : P.Ok) (hs : P.sweep ≠ 0) (len : Nat)
    (hfit : ∀ w, P.hash w % U32 + P.sweep ≤ len) : BuildsOK (basicModel P len) 7 (fun b => b.size = len) :=
  ⟨(basicModel_additive hP len).from _, ⟨_, rfl, Array.size_replicate⟩, fun d m hm _ =>
    liftBulk_isSome (I := fun b => b.size = len) (bound := m)
      (store := fun d => Basic.store P d USIZE_MAX)
      (fun d s e st _ _ => basic_fold hP d s e st) _ (by simp) d m (Nat.le_refl _)
      (fun i y hi hy => by
        have hw : i + 8 ≤ (toBA d).size := by rw [toBA_size]; omega
        obtain ⟨b', h1, h2⟩ := Basic.store_some (P := P) (mask := USIZE_MAX) (b := y) hs (by rw [hy]; exact hfit) hw
        exact ⟨b', h1, h2.trans hy⟩)⟩

theorem h9_buildsOK {P : H9P} (hkey : ∀ w, P.hash w % U32 < 2 ^ 15) : BuildsOK (h9Model P) 3 (fun _ => True) :=
  ⟨(h9Model_additive P).from _, ⟨_, rfl, trivial⟩, fun d m hm _ => by
    obtain ⟨z, hz, _⟩ := liftBulk_isSome (bulk := H9.bulkStoreRange P)
      (I := fun st => st.num.size = 2 ^ 15 ∧ st.buckets.size = 2 ^ 23) (bound := m)
      (store := fun d => H9.store P d USIZE_MAX)
      (fun _ _ _ _ _ _ => rfl) ⟨Array.replicate (1 <<< 15) 0, Array.replicate (1 <<< 23) 0⟩
      ⟨by simp, by simp⟩ d m (Nat.le_refl _)
      (fun i y hi hy => by
        have hw : i + 4 ≤ (toBA d).size := by rw [toBA_size]; omega
        obtain ⟨st', h1, h2, h3⟩ := H9.store_some (P := P) (mask := USIZE_MAX) (st := y) hkey hy.1 hy.2 hw
        exact ⟨st', h1, h2, h3⟩)
    exact ⟨z, hz, trivial⟩⟩

structure AdvSized (P : AdvP) (st : AdvSt) : Prop where
  asserted : Adv.sizesAsserted P st = true
  num : st.num.size = P.bucketSize
  buckets : st.buckets.size = P.bucketSize * 2 ^ P.blockBits

theorem adv_buildsOK {P : AdvP} (hP : P.Ok) (hkey : ∀ w, (P.mixWord w >>> P.shift) % U32 < P.bucketSize)
    (hmk : P.blockMask < 2 ^ P.blockBits) (hla : 1 ≤ P.lookahead) :
    BuildsOK (advModel P) (P.lookahead - 1) (fun _ => True) :=
  ⟨advModel_additive hP, ⟨_, rfl, trivial⟩, fun d m hm hm64 => by
    have hpow : (1 <<< P.blockBits) = 2 ^ P.blockBits := by rw [Nat.shiftLeft_eq, Nat.one_mul]
    obtain ⟨z, hz, _⟩ := liftBulk_isSome (bulk := Adv.bulkStoreRange P) (I := AdvSized P) (bound := 2 ^ 64)
      (store := fun d => Adv.store P d USIZE_MAX)
      (fun d s e st hst he => Adv.bulkStoreRange_eq_fold hP d USIZE_MAX s e he st hst.asserted)
      ⟨Array.replicate P.bucketSize 0, Array.replicate (P.bucketSize * (1 <<< P.blockBits)) 0⟩
      ⟨Adv.init_sizesAsserted P, by simp, by simp [hpow]⟩ d m hm64
      (fun i y hi hy => by
        have hw : i + P.lookahead ≤ (toBA d).size := by rw [toBA_size]; omega
        obtain ⟨st', h1, h2, h3⟩ := Adv.store_some (P := P) (mask := USIZE_MAX) (st := y) hkey hmk hy.num hy.buckets hw
        exact ⟨st', h1, Adv.store_sizesAsserted hy.asserted h1, h2, h3⟩)
    exact ⟨z, hz, trivial⟩⟩

theorem basicHash_lt (hashLen bucketBits : Nat) (hb : bucketBits ≤ 64) (w : List Nat) :
    basicHash hashLen bucketBits w < 2 ^ bucketBits := by
  simp only [basicHash]
  exact shr_lt_of_lt (Nat.mod_lt _ (by decide)) hb

theorem adv32_key_lt (bucketBits blockBits : Nat) (hb : bucketBits ≤ 32) (w : List Nat) :
    ((adv32P bucketBits blockBits).mixWord w >>> (adv32P bucketBits blockBits).shift) % U32
      < (adv32P bucketBits blockBits).bucketSize := by
  simp only [adv32P]
  have e : (1 <<< bucketBits) = 2 ^ bucketBits := by rw [Nat.shiftLeft_eq, Nat.one_mul]
  rw [e]
  have h1 : (le w * kHashMul32) &&& 0xffffffff < 2 ^ 32 :=
    Nat.lt_of_le_of_lt Nat.and_le_right (by decide)
  exact Nat.lt_of_le_of_lt (Nat.mod_le _ _) (shr_lt_of_lt h1 hb)

theorem adv64_key_lt (bucketBits blockBits hashLen : Nat) (hb : bucketBits ≤ 64) (w : List Nat) :
    ((adv64P bucketBits blockBits hashLen).mixWord w >>> (adv64P bucketBits blockBits hashLen).shift) % U32
      < (adv64P bucketBits blockBits hashLen).bucketSize := by
  simp only [adv64P]
  have e : (1 <<< bucketBits) = 2 ^ bucketBits := by rw [Nat.shiftLeft_eq, Nat.one_mul]
  rw [e]
  exact Nat.lt_of_le_of_lt (Nat.mod_le _ _) (shr_lt_of_lt (Nat.mod_lt _ (by decide)) hb)

theorem blockMask_lt (blockBits : Nat) : (1 <<< blockBits) - 1 < 2 ^ blockBits := by
  rw [Nat.shiftLeft_eq, Nat.one_mul]
  have := Nat.pow_pos (n := blockBits) (show 0 < 2 by decide)
  omega

theorem h9std_key_lt (w : List Nat) : H9std.hash w % U32 < 2 ^ 15 := by
  simp only [H9std]
  have h1 : le w * kHashMul32 % U32 < 2 ^ 32 := Nat.mod_lt _ (by decide)
  have h2 : (le w * kHashMul32 % U32) >>> (32 - 15) < 2 ^ 15 := shr_lt_of_lt h1 (by decide)
  exact Nat.lt_of_le_of_lt (Nat.mod_le _ _) h2

end BV.Lemmas.Multi
