/-
Interleavings: a block's identity contains the allocator that produced it, so the judge's verdict on
a log is determined by the per-allocator sub-logs, in whatever way they are interleaved.
-/
import BV.Lemmas.LedgerJudge
namespace BV.Ledger

def Ev.block : Ev → BlockId
  | .alloc b => b
  | .free _ b => b
  | .drop b => b

def proj (a : Nat) (log : List Ev) : List Ev := log.filter (fun e => e.block.alloc == a)

def restrict (a : Nat) (l : List BlockId) : List BlockId := l.filter (fun b => b.alloc == a)

theorem mem_restrict {a : Nat} {l : List BlockId} {b : BlockId} : b ∈ restrict a l ↔ b ∈ l ∧ b.alloc = a := by
  simp [restrict]

theorem restrict_cons_same {a : Nat} {x : BlockId} (l : List BlockId) (h : x.alloc = a) :
    restrict a (x :: l) = x :: restrict a l := by simp [restrict, h]

theorem restrict_cons_other {a : Nat} {x : BlockId} (l : List BlockId) (h : x.alloc ≠ a) :
    restrict a (x :: l) = restrict a l := by simp [restrict, h]

theorem restrict_erase (a : Nat) (x : BlockId) (l : List BlockId) :
    restrict a (l.erase x) = (restrict a l).erase x :=
  List.erase_filter.symm

theorem restrict_erase_other {a : Nat} {x : BlockId} (h : x.alloc ≠ a) (l : List BlockId) :
    restrict a (l.erase x) = restrict a l := by
  rw [restrict_erase, List.erase_of_not_mem fun hm => h (mem_restrict.mp hm).2]

structure Rel (a : Nat) (j ja : Judge) : Prop where
  live : ja.live = restrict a j.live
  seen : ja.seen = restrict a j.seen

theorem rel_step_other {a : Nat} {j ja : Judge} (ev : Ev) (h : Rel a j ja) (hne : ev.block.alloc ≠ a) :
    Rel a (j.step ev) ja := by
  cases ev with
  | alloc x =>
    simp only [Ev.block] at hne
    by_cases hx : x ∈ j.seen
    · simp [Judge.step, hx]; exact ⟨h.live, h.seen⟩
    · simp [Judge.step, hx]
      exact ⟨by simp [restrict_cons_other _ hne, h.live], by simp [restrict_cons_other _ hne, h.seen]⟩
  | free via x =>
    simp only [Ev.block] at hne
    simp only [Judge.step]
    split
    · split <;> exact ⟨by simp [restrict_erase_other hne, h.live], h.seen⟩
    · split <;> exact ⟨h.live, h.seen⟩
  | drop x => exact ⟨h.live, h.seen⟩

/-- second conjunct: both counters of misbehaviour rise by the same amount, written without subtraction -/
theorem rel_step_same {a : Nat} {j ja : Judge} (ev : Ev) (h : Rel a j ja) (he : ev.block.alloc = a) :
    Rel a (j.step ev) (ja.step ev) ∧ (j.step ev).bad + ja.bad = (ja.step ev).bad + j.bad := by
  cases ev with
  | alloc x =>
    simp only [Ev.block] at he
    have hs : x ∈ ja.seen ↔ x ∈ j.seen := by rw [h.seen, mem_restrict]; exact and_iff_left he
    simp only [Judge.step, hs]
    split
    · exact ⟨⟨h.live, h.seen⟩, by simp only [Judge.bad]; omega⟩
    · exact ⟨⟨by simp [restrict_cons_same _ he, h.live], by simp [restrict_cons_same _ he, h.seen]⟩, Nat.add_comm ..⟩
  | free via x =>
    simp only [Ev.block] at he
    have hl : x ∈ ja.live ↔ x ∈ j.live := by rw [h.live, mem_restrict]; exact and_iff_left he
    have hs : x ∈ ja.seen ↔ x ∈ j.seen := by rw [h.seen, mem_restrict]; exact and_iff_left he
    have herase : Rel a { j with live := j.live.erase x } { ja with live := ja.live.erase x } :=
      ⟨by simp [restrict_erase, h.live], h.seen⟩
    simp only [Judge.step, hl, hs]
    split
    · split
      · exact ⟨⟨herase.live, herase.seen⟩, Nat.add_comm ..⟩
      · exact ⟨⟨herase.live, herase.seen⟩, by simp only [Judge.bad]; omega⟩
    · split <;> exact ⟨⟨h.live, h.seen⟩, by simp only [Judge.bad]; omega⟩
  | drop x => exact ⟨⟨h.live, h.seen⟩, Nat.add_comm ..⟩

theorem proj_snoc (a : Nat) (log : List Ev) (e : Ev) :
    proj a (log ++ [e]) = if e.block.alloc = a then proj a log ++ [e] else proj a log := by
  by_cases h : e.block.alloc = a <;> simp [proj, h]

theorem interleave (log : List Ev) :
    (∀ a, Rel a (judge log) (judge (proj a log))) ∧
    ((judge log).bad = 0 ↔ ∀ a, (judge (proj a log)).bad = 0) := by
  induction hn : log.length generalizing log with
  | zero =>
    obtain rfl := List.eq_nil_of_length_eq_zero hn
    exact ⟨fun a => ⟨rfl, rfl⟩, ⟨fun _ _ => rfl, fun _ => rfl⟩⟩
  | succ n ih =>
    rcases List.eq_nil_or_concat log with rfl | ⟨l, e, rfl⟩
    · cases hn
    rw [List.concat_eq_append] at hn ⊢
    obtain ⟨hrel, hbad⟩ := ih l (by simpa using hn)
    obtain ⟨hsame, hadd⟩ := rel_step_same e (hrel e.block.alloc) rfl
    have psame : proj e.block.alloc (l ++ [e]) = proj e.block.alloc l ++ [e] := by rw [proj_snoc, if_pos rfl]
    have pother : ∀ a, e.block.alloc ≠ a → proj a (l ++ [e]) = proj a l := fun a ha => by rw [proj_snoc, if_neg ha]
    have hm := step_bad_mono (judge l) e
    have hma := step_bad_mono (judge (proj e.block.alloc l)) e
    rw [judge_snoc]
    refine ⟨fun a => ?_, fun hb a => ?_, fun hall => ?_⟩
    · by_cases ha : e.block.alloc = a
      · subst ha; rw [psame, judge_snoc]; exact hsame
      · rw [pother a ha]; exact rel_step_other e (hrel a) ha
    · have hall := hbad.mp (by omega)
      by_cases ha : e.block.alloc = a
      · subst ha; rw [psame, judge_snoc]; have hown := hall e.block.alloc; omega
      · rw [pother a ha]; exact hall a
    · have hsub : ∀ a, (judge (proj a l)).bad = 0 := fun a => by
        have hafter := hall a
        by_cases ha : e.block.alloc = a
        · subst ha; rw [psame, judge_snoc] at hafter; omega
        · rwa [pother a ha] at hafter
      have hafter := hall e.block.alloc
      rw [psame, judge_snoc] at hafter
      have hwhole := hbad.mpr hsub
      have hown := hsub e.block.alloc
      omega

theorem interleaving_clean (log : List Ev) :
    ((judge log).bad = 0 ∧ (judge log).live = []) ↔
      ∀ a, (judge (proj a log)).bad = 0 ∧ (judge (proj a log)).live = [] := by
  obtain ⟨hrel, hbad⟩ := interleave log
  have hlive : (judge log).live = [] ↔ ∀ a, (judge (proj a log)).live = [] := by
    constructor
    · intro hl a
      rw [(hrel a).live, hl]; rfl
    · intro hall
      refine List.eq_nil_iff_forall_not_mem.mpr fun b hb => ?_
      have hm : b ∈ restrict b.alloc (judge log).live := mem_restrict.mpr ⟨hb, rfl⟩
      rw [← (hrel b.alloc).live, hall b.alloc] at hm
      cases hm
  rw [hbad, hlive, forall_and]

end BV.Ledger
