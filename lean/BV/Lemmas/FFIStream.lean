/-
C13 over the stream-machine model: the un-wrapped entry points are total, and the stream wrapper
issues the very request of the Rust call and hands back its cursors.
-/
import BV.Model.FFIStream
import BV.Lemmas.FFI
import BV.Lemmas.AdaptersStream
import BV.Lemmas.StreamTotal
import BV.Lemmas.StreamTinyFree
import BV.Lemmas.StreamStore
namespace BV.FFI
open BV.Stream BV.Bits

def OutOk (s : St) : Prop :=
  match s.nextOut with
  | .dyn off => off + s.pending.length ≤ s.storageSize
  | .tiny off => off + s.pending.length ≤ 16
  | .none => True

theorem takeSliceOk_of_outOk {s : St} (h : OutOk s) : takeSliceOk s = true := by
  unfold OutOk at h
  unfold takeSliceOk
  split at h <;> simp_all <;> omega

theorem outOk_checkFlushComplete {t : St} (h : OutOk t) : OutOk (checkFlushComplete t) := by
  unfold checkFlushComplete
  split
  · simp [OutOk]
  · exact h

theorem outOk_takeAdvance {s : St} (c : Nat) (h : OutOk s) (hc : c ≤ s.pending.length) : OutOk (takeAdvance s c) := by
  unfold OutOk at h ⊢
  cases hn : s.nextOut with
  | dyn off =>
    rw [hn] at h
    simp only [takeAdvance, hn, nextOutIncrement, List.length_drop] at h ⊢
    have := Nat.mod_le (off + c) two32
    omega
  | tiny off =>
    rw [hn] at h
    simp only [takeAdvance, hn, nextOutIncrement, List.length_drop] at h ⊢
    have := Nat.mod_le (off + c) two32
    omega
  | none => simp [takeAdvance, hn, nextOutIncrement]

theorem takeOutput_outOk {s s' : St} {size : Nat} {out : List Nat} (h : OutOk s)
    (ht : BV.Stream.takeOutput s size = .ok (s', out)) : OutOk s' := by
  rcases takeOutput_cases ht with ⟨rfl, _⟩ | ⟨rfl, _⟩
  · exact h
  · exact outOk_checkFlushComplete (outOk_takeAdvance _ h (takeCount_le s size))

theorem takeOutput_ne_fuel (s : St) (size : Nat) : BV.Stream.takeOutput s size ≠ .fuel := by
  unfold BV.Stream.takeOutput
  split
  · simp
  · split <;> simp

theorem ffiTakeOutput_ne_fuel (s : St) (size : Nat) : ffiTakeOutput s size ≠ .fuel := by
  unfold ffiTakeOutput
  have := takeOutput_ne_fuel s size
  split <;> simp_all

theorem takeOutput_panic_iff (s : St) (size : Nat) : BV.Stream.takeOutput s size = .panic ↔ takeSliceOk s = false := by
  unfold BV.Stream.takeOutput
  cases h : takeSliceOk s
  · simp
  · simp only [Bool.not_true, Bool.false_eq_true, if_false]
    constructor
    · intro hh; split at hh <;> simp at hh
    · intro hh; cases hh

/-- `CursorsAgree`, a hypothesis on the Rust call in `Lemmas/FFI.lean`, is a theorem of the modelled `compress_stream`,
accepted or refused -/
theorem cursorsAgree_of_stream_all {o : Oracle} {fuel op : Nat} {s s' : St} {io' : Io} {r : Bool} {input : List Nat}
    (c : StreamCall) (hop : op ≤ 3) (hR : IsFresh s ∨ Inv s) (hlen : input.length = c.availIn)
    (hw : s.inputPos + input.length < two64)
    (h : BV.Stream.compressStream o fuel s op input c.availOut = .ok (s', io', r)) :
    CursorsAgree c (ansOfStream c.availIn c.availOut (.ok (s', io', r))) ∧
    io'.input = input.drop (c.availIn - io'.availIn) := by
  have hL := call_ledger_run 0 hop hR hw h
  have h1 := hL.outBal
  have h2 := hL.inLe
  have h3 := hL.inEq
  simp only at h1 h2 h3
  refine ⟨⟨?_, ?_⟩, by rw [← hlen]; exact h3⟩
  · show c.availIn - io'.availIn + io'.availIn = c.availIn
    omega
  · show io'.out.length + io'.availOut = c.availOut
    exact h1

theorem cursorsAgree_of_stream {o : Oracle} {fuel op : Nat} {s s' : St} {io' : Io} {r : Bool} {input : List Nat}
    (c : StreamCall) (hop : op ≤ 2) (hG : Good s) (hlen : input.length = c.availIn)
    (hw : s.inputPos + input.length < two64)
    (h : BV.Stream.compressStream o fuel s op input c.availOut = .ok (s', io', r)) :
    CursorsAgree c (ansOfStream c.availIn c.availOut (.ok (s', io', r))) :=
  (cursorsAgree_of_stream_all c (Nat.le_succ_of_le hop) (Or.inr hG.inv) hlen hw h).1

theorem totalOut_of_stream {o : Oracle} {fuel op cap : Nat} (T0 : Nat) {s s' : St} {io' : Io} {r : Bool} {input : List Nat}
    (hop : op ≤ 3) (hR : IsFresh s ∨ Inv s) (hw : s.inputPos + input.length < two64) (hT : s.totalOut = T0 % two64)
    (h : BV.Stream.compressStream o fuel s op input cap = .ok (s', io', r)) :
    s'.totalOut = (T0 + io'.out.length) % two64 :=
  (call_ledger_run T0 hop hR hw h).total hT

theorem totalTracks_of_stream {o : Oracle} {fuel op : Nat} {s s' : St} {io' : Io} {r : Bool} {input : List Nat}
    (c : StreamCall) (hop : op ≤ 3) (hR : IsFresh s ∨ Inv s) (hw : s.inputPos + input.length < two64)
    (hnw : s.totalOut + c.availOut < two64)
    (h : BV.Stream.compressStream o fuel s op input c.availOut = .ok (s', io', r)) :
    TotalTracks { c with encTotal := s.totalOut } (ansOfStream c.availIn c.availOut (.ok (s', io', r))) := by
  have hL := call_ledger_run s.totalOut hop hR hw h
  have h1 := hL.outBal
  have h2 := hL.total (Nat.mod_eq_of_lt (by omega)).symm
  simp only at h1 h2
  have hlt : s.totalOut + io'.out.length < two64 := by omega
  rw [Nat.mod_eq_of_lt hlt] at h2
  unfold TotalTracks
  simp only [ansOfStream]
  by_cases h0 : io'.out.length = 0 <;> simp [h0, h2]

/-- every input pointer really addresses `available_in` bytes: pointer validity is the caller's obligation -/
def FfiHistOK (mem : Mem) : List FfiCall → Prop
  | [] => True
  | .stream op c :: cs => op ≤ 3 ∧ (inputSlice mem c.nextIn c.availIn).length = c.availIn ∧ FfiHistOK mem cs
  | _ :: cs => FfiHistOK mem cs

def ffiHistLen : List FfiCall → Nat
  | [] => 0
  | .stream _ c :: cs => c.availIn + ffiHistLen cs
  | _ :: cs => ffiHistLen cs

theorem ffiSetParameter_fst (s : St) (id v : Nat) : (ffiSetParameter s id v).1 = (setParameter s id v).1 := by
  unfold ffiSetParameter
  cases h : setParameter s id v with
  | mk s' b => cases b <;> rfl

theorem ffi_cell_is_total (o : Oracle) (fuel : Nat) (s : St) (mem : Mem) (op : Nat) (c : StreamCall)
    (s' : St) (io' : Io) (r : Bool) (hptr : c.totalOutPtr = true) (hT : s.totalOut < two64)
    (hR : IsFresh s ∨ Inv s) (hop : op ≤ 3) (hw : s.inputPos + (inputSlice mem c.nextIn c.availIn).length < two64)
    (h : BV.Stream.compressStream o fuel s op (inputSlice mem c.nextIn c.availIn) c.availOut = .ok (s', io', r)) :
    (ffiCompressStream o fuel s mem op c).2.1.totalOutCell = s'.totalOut := by
  unfold ffiCompressStream
  simp only [h]
  simp only [BV.FFI.compressStream, ansOfStream, Bool.false_eq_true, if_false, hptr, if_true]
  by_cases h0 : io'.out.length = 0
  · rw [if_pos h0]
    simp only
    have := totalOut_of_stream s.totalOut hop hR hw (Nat.mod_eq_of_lt hT).symm h
    rw [this, h0, Nat.add_zero, Nat.mod_eq_of_lt hT]
  · rw [if_neg h0]

theorem ffiCompressStream_ok (o : Oracle) (fuel : Nat) (s : St) (mem : Mem) (op : Nat) (c : StreamCall)
    {s' : St} {io' : Io} {r : Bool}
    (h : BV.Stream.compressStream o fuel s op (inputSlice mem c.nextIn c.availIn) c.availOut = .ok (s', io', r)) :
    (ffiCompressStream o fuel s mem op c).1 = s' ∧ (ffiCompressStream o fuel s mem op c).2.2 = io'.out := by
  simp [ffiCompressStream, h]

theorem ffiTakeOutput_ok {s s' : St} {size n : Nat} {bytes : List Nat} (h : ffiTakeOutput s size = .ok (s', n, bytes)) :
    BV.Stream.takeOutput s size = .ok (s', bytes) := by
  unfold ffiTakeOutput at h
  split at h
  · rename_i s1 b1 h1
    simp only [Out.ok.injEq, Prod.mk.injEq] at h
    obtain ⟨rfl, _, rfl⟩ := h
    exact h1
  · simp at h
  · simp at h

structure HistInv (s : St) : Prop where
  run : RunOK s
  store : StoreOK s
  tiny : IsFresh s ∨ TinyL s

theorem histInv_fresh {s : St} (h : IsFresh s) : HistInv s := ⟨runOK_fresh h, storeOK_fresh h, Or.inl h⟩

theorem outOk_of_histInv {s : St} (h : HistInv s) : OutOk s := by
  rcases h.tiny with hf | hT
  · unfold OutOk; rw [hf.nextOut]; trivial
  · have := pendingInBuffer_of h.store hT.1
    unfold PendingInBuffer at this
    unfold OutOk
    exact this

/-- along a whole history of C ABI calls on one instance in which no Rust call unwound.  `HistInv` gives `OutOk` at
every point, so `BrotliEncoderTakeOutput` — which is NOT behind `catch_panic` — cannot panic.  `seen.delivered` are the
bytes stored at `*next_out` by the stream calls (all four operations, accepted or refused) AND those handed out by
pointer through `BrotliEncoderTakeOutput`; `seen.cells` pairs every value a stream call stored through a non-null
`total_out` pointer with the number of bytes delivered at that moment -/
theorem ffiRun_inv {o : Oracle} {fuel : Nat} {mem : Mem} {calls : List FfiCall} {s0 s : St} {seen0 seen : FfiSeen}
    (hJ : HistInv s0) (hok : FfiHistOK mem calls) (hw : s0.inputPos + ffiHistLen calls < two64)
    (hT : s0.totalOut = seen0.delivered.length % two64) (hC : ∀ x ∈ seen0.cells, x.1 = x.2 % two64)
    (h : ffiRun o fuel mem calls s0 seen0 = some (s, seen)) :
    HistInv s ∧ s.totalOut = seen.delivered.length % two64 ∧ ∀ x ∈ seen.cells, x.1 = x.2 % two64 := by
  induction calls generalizing s0 seen0 with
  | nil =>
    simp only [ffiRun, Option.some.injEq, Prod.mk.injEq] at h
    obtain ⟨rfl, rfl⟩ := h
    exact ⟨hJ, hT, hC⟩
  | cons c cs ih =>
    cases c with
    | setParam id v =>
      simp only [ffiRun] at h
      rw [ffiSetParameter_fst] at h
      by_cases hi : s0.isInitialized = true
      · have : (setParameter s0 id v).1 = s0 := by simp [setParameter, hi]
        rw [this] at h
        exact ih hJ hok (by simpa [ffiHistLen] using hw) hT hC h
      · have hf : IsFresh s0 := by
          rcases hJ.run.inv with hf | hI
          · exact hf
          · exact absurd hI.init hi
        have hf' := setParameter_fresh hf id v
        refine ih (histInv_fresh hf') hok ?_ (by rw [setParameter_totalOut]; exact hT) hC h
        rw [hf'.inputPos]
        simp only [ffiHistLen] at hw
        omega
    | hasMore => simp only [ffiRun] at h; exact ih hJ hok (by simpa [ffiHistLen] using hw) hT hC h
    | isFinished => simp only [ffiRun] at h; exact ih hJ hok (by simpa [ffiHistLen] using hw) hT hC h
    | stream op c =>
      simp only [ffiRun] at h
      obtain ⟨hop, hlen, hok'⟩ := hok
      simp only [ffiHistLen] at hw
      split at h
      · rename_i x hcs
        obtain ⟨s1, io1, r1⟩ := x
        obtain ⟨e1, e2⟩ := ffiCompressStream_ok o fuel s0 mem op c hcs
        have hw0 : s0.inputPos + (inputSlice mem c.nextIn c.availIn).length < two64 := by rw [hlen]; omega
        have hrc : runCall o fuel s0 {} (.stream op (inputSlice mem c.nextIn c.availIn) c.availOut)
            = .ok (s1, Trace.afterStream o {} (ensureInitialized s0) op (inputSlice mem c.nextIn c.availIn) io1 r1) := by
          simp only [runCall, hcs]
        obtain ⟨hip, _, f1⟩ := runCall_facts (c := .stream op (inputSlice mem c.nextIn c.availIn) c.availOut) hJ.run
          (show op ≤ 3 ∧ _ from ⟨hop, hw0⟩) hrc
        have htot := totalOut_of_stream seen0.delivered.length hop hJ.run.inv hw0 hT hcs
        have hlt : s0.totalOut < two64 := by rw [hT]; exact Nat.mod_lt _ (by unfold two64; omega)
        rw [e1, e2] at h
        refine ih ⟨f1.ok, storeOK_call hop hJ.run.inv hw0 hJ.store hcs, Or.inr (tinyL_call_run hop hJ.run.inv hw0 hJ.tiny hcs)⟩
          hok' ?_ ?_ ?_ h
        · simp only [Call.len] at hip; rw [hlen] at hip; omega
        · simp only [List.length_append]; exact htot
        · intro x hx
          simp only at hx
          by_cases hp : c.totalOutPtr = true
          · rw [if_pos hp] at hx
            rcases List.mem_append.mp hx with hx | hx
            · exact hC x hx
            · simp only [List.mem_singleton] at hx
              subst hx
              simp only [List.length_append]
              rw [ffi_cell_is_total o fuel s0 mem op c s1 io1 r1 hp hlt hJ.run.inv hop hw0 hcs]
              exact htot
          · rw [if_neg hp] at hx; exact hC x hx
      · simp at h
    | take size =>
      simp only [ffiRun] at h
      split at h
      · rename_i s1 n1 b1 hts
        have ht := ffiTakeOutput_ok hts
        have hrc : runCall o fuel s0 {} (.take size) = .ok (s1, { delivered := b1 }) := by
          simp only [runCall, ht]; rfl
        obtain ⟨hip, _, f1⟩ := runCall_facts (c := .take size) hJ.run (by trivial) hrc
        have htiny : IsFresh s1 ∨ TinyL s1 := by
          rcases hJ.tiny with hf | hT
          · rw [takeOutput_fresh hf size] at ht
            simp only [Out.ok.injEq, Prod.mk.injEq] at ht
            obtain ⟨rfl, _⟩ := ht
            exact Or.inl hf
          · exact Or.inr (tinyL_take hT ht)
        refine ih (seen0 := { seen0 with delivered := seen0.delivered ++ b1 }) ⟨f1.ok, storeOK_take hJ.store ht, htiny⟩ hok
          ?_ ?_ (fun x hx => hC x hx) h
        · simp only [Call.len, ffiHistLen] at hip hw ⊢; omega
        · simp only [List.length_append]; exact take_total' hT ht
      · simp at h

end BV.FFI
