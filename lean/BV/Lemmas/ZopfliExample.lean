import BV.Lemmas.ZopfliBack
/-! A concrete instance (non-vacuity of `NodeOK`, `PathOK`, `NodesOK`, `RingAt`, `BackOK`, `AllBack`). -/
namespace BV.Zopfli.ZEx
open BV.Hasher BV.MatchFinder BV.Recoder BV.PrefixArith BV.MetaBlock BV.Cbr BV.Zopfli

/-- three literals, a copy of 6 from distance 3 (overlapping), one trailing literal -/
def text : Bytes := [1, 2, 3, 1, 2, 3, 1, 2, 3, 9]
def params : Zopfli.Params := ⟨10, 10, 67108860, 0, 0⟩
def stubN : Node Nat := ⟨1, 0, 0, .cost 0⟩
def copyN (u : U Nat) : Node Nat := ⟨6 ||| (9 <<< 25), 3, 3, u⟩
/-- node 9 = "insert 3, copy 6 (length code 6), distance 3, no short code"; node 0 points at it -/
def nodes : Array (Node Nat) :=
  #[⟨0, 0, 0, .next 9⟩, stubN, stubN, stubN, stubN, stubN, stubN, stubN, stubN, copyN (.next 0xffffffff), stubN]
def nodesDP : Array (Node Nat) :=
  #[⟨0, 0, 0, .shortcut 0⟩, stubN, stubN, stubN, stubN, stubN, stubN, stubN, stubN, copyN (.cost 7), stubN]

theorem copyN_ok1 :
    NodeOK (fun _ _ _ => none) (Zopfli.maxBackwardLimit params) params.maxDistance ([] ++ text) 3 [4, 11, 15, 16]
      (copyN (.next 0xffffffff)) := by
  refine ⟨by decide, Or.inl (by decide), Or.inl ⟨by decide, by decide, by decide, by decide, ?_⟩⟩
  have : ∀ j, j < 6 → ([] ++ text).getD (3 - 3 + j) 0 = ([] ++ text).getD (3 + j) 0 := by decide
  exact this

theorem nodes_ok : NodesOK (fun _ _ _ => none) (Zopfli.maxBackwardLimit params) params.maxDistance ([] ++ text) 0 10 nodes
    [4, 11, 15, 16] := by
  refine ⟨_, rfl, ?_⟩
  refine PathOK.step (copyN (.next 0xffffffff)) (by decide) rfl copyN_ok1 (by decide) ?_
  exact PathOK.done (by decide)

theorem run : (zopfliCreateCommands 0 0 10 0 (Zopfli.maxBackwardLimit params) nodes [4, 11, 15, 16] 0 0).map
    (fun r => (r.cmds, r.lastInsertLen, r.cache)) = some ([⟨3, 6, 0, 156, 1041⟩], 1, [3, 4, 11, 15]) := by
  decide +kernel

theorem nodesDP_get (e : Nat) (n : Node Nat) (he : e ≠ 0) (hn : nodesDP[e]? = some n) :
    n = stubN ∨ (e = 9 ∧ n = copyN (.cost 7)) := by
  have h11 : e < 11 := by
    rcases Nat.lt_or_ge e 11 with h | h
    · exact h
    · rw [Array.getElem?_eq_none (by simpa [nodesDP] using h)] at hn; cases hn
  have : e = 1 ∨ e = 2 ∨ e = 3 ∨ e = 4 ∨ e = 5 ∨ e = 6 ∨ e = 7 ∨ e = 8 ∨ e = 9 ∨ e = 10 := by omega
  rcases this with rfl | rfl | rfl | rfl | rfl | rfl | rfl | rfl | rfl | rfl <;>
    simp [nodesDP] at hn <;> subst hn <;> simp

theorem nodesDP_ok : AllBack (fun _ _ _ => none) (Zopfli.maxBackwardLimit params) params.maxDistance ([] ++ text) 0 10
    nodesDP [4, 11, 15, 16] := by
  intro e n he _ hn
  rcases nodesDP_get e n he hn with rfl | ⟨rfl, rfl⟩
  · exact Or.inl ⟨by decide, by decide⟩
  · refine Or.inr ⟨by decide, [4, 11, 15, 16], ?_, ⟨copyN_ok1.fit, copyN_ok1.code, copyN_ok1.kind⟩⟩
    have : 9 - ((copyN (.cost 7)).insertLength + (copyN (.cost 7)).copyLength) = 0 := by decide
    rw [this]
    exact RingAt.zero

theorem runDP : (computeShortestPathFromNodes 10 nodesDP).map (fun r => r.2) = some 1 := by
  decide +kernel

end BV.Zopfli.ZEx
