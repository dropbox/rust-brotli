/-
C01 / meta-block writers: assembling `BrotliStoreMetaBlock` (`store_meta_block`) against `readMetaBlockFullG`.
-/
import BV.Lemmas.MetaBlockFullSim
import BV.Lemmas.MetaBlockTrivMap

namespace BV.MetaBlock
open BV.Gen BV.Bits BV.Huffman BV.PrefixArith BV.Recoder BV.HeaderSpec
open BV.Header (skipPad_pad)
open BV.Lemmas.HuffmanRead (takeBits_bitsOf)

theorem modes_roundtrip (mode : Nat) (hm : mode < 4) : ∀ (l : List Nat) (w : Writer),
    ∃ mbits, l.foldlM (fun w _ => writeBits 2 mode w) w = .ok (w ++ mbits) ∧
      ∀ rest, readModes l.length (mbits ++ rest) = some (List.replicate l.length mode, rest) := by
  intro l
  induction l with
  | nil => intro w; exact ⟨[], by simp, fun rest => rfl⟩
  | cons x xs ih =>
    intro w
    obtain ⟨mbits, e, r⟩ := ih (w ++ bitsOf 2 mode)
    refine ⟨bitsOf 2 mode ++ mbits, ?_, ?_⟩
    · rw [List.foldlM_cons, writeBits_ok 2 mode w hm (by decide), Out.bind_ok, e, List.append_assoc]
    · intro rest
      rw [List.length_cons, readModes, List.append_assoc, takeBits_bitsOf 2 mode _ hm]
      simp only
      rw [r, List.replicate_succ]

/-- the per-cluster histograms of one category: `size` of them are in use, `H` is the least length of each (the stride of the
writer's tables), `A` the alphabet: nothing is counted at or above it; totals `≤ 2^25` are what the tree builders ask -/
structure HistosOK (histos : List (List Nat)) (size H A : Nat) : Prop where
  sz : size ≤ histos.length
  sz1 : 1 ≤ size
  sz256 : size ≤ 256
  each : ∀ i, i < size → H ≤ (histos.getD i []).length ∧ (histos.getD i []).sum ≤ 2 ^ 25 ∧
    ∀ k, A ≤ k → (histos.getD i []).getD k 0 = 0

/-- a `MetaBlockSplit` the format can express (`A`: the size of the distance alphabet) -/
structure MBOK (mbs : MBSplit) (A : Nat) : Prop where
  lit : SplitOK mbs.lit
  cmd : SplitOK mbs.cmd
  dist : SplitOK mbs.dist
  hl : HistosOK mbs.litHistos mbs.litHistosSize 256 256
  hc : HistosOK mbs.cmdHistos mbs.cmdHistosSize 704 704
  hd : HistosOK mbs.distHistos mbs.distHistosSize A A
  csz : mbs.cmdHistosSize = mbs.cmd.numTypes
  l0 : mbs.litCmapSize = 0 → mbs.litHistosSize = mbs.lit.numTypes
  l1 : mbs.litCmapSize ≠ 0 → mbs.litCmapSize = 64 * mbs.lit.numTypes ∧ mbs.litCmap.length = mbs.litCmapSize ∧
    ∀ x ∈ mbs.litCmap, x < mbs.litHistosSize
  d0 : mbs.distCmapSize = 0 → mbs.distHistosSize = mbs.dist.numTypes
  d1 : mbs.distCmapSize ≠ 0 → mbs.distCmapSize = 4 * mbs.dist.numTypes ∧ mbs.distCmap.length = mbs.distCmapSize ∧
    ∀ x ∈ mbs.distCmap, x < mbs.distHistosSize

theorem new_blockLen (H : Nat) (s : BSplit) (h : SplitOK s) : (BEnc.new H s).blockLen = s.lengths.getD 0 0 := by
  unfold BEnc.new
  simp only
  rw [if_pos (by rw [h.nb]; have := h.pos; omega)]
  have hl := h.nl
  have hp := h.pos
  cases hls : s.lengths with
  | nil => rw [hls] at hl; simp at hl; omega
  | cons l ls => rfl

theorem encAt_new (C : CatEnv) (hs : SplitOK C.s) (c : BSCode) (cat : Cat) (hci : CatInv C.s c cat 0)
    (hcnt : 2 ≤ C.s.numTypes → cat.count = C.s.lengths.getD 0 0) :
    EncAt C { BEnc.new C.H C.s with code := c, depths := C.d, bits := C.b } cat 0 := by
  have hb := new_blockLen C.H C.s hs
  refine ⟨⟨rfl, rfl, hci, fun h2 => ?_, ?_, ?_⟩, rfl, rfl, rfl⟩
  · rw [hcnt h2]; exact hb.symm
  · show 0 = _; rw [hs.t0, Nat.zero_mul]
  · show (BEnc.new C.H C.s).blockLen ≤ _
    rw [hb]; exact (hs.len 0 hs.pos).2

theorem cmap_roundtrip (cmap : List Nat) (cmapSize nt size cb : Nat) (hcb2 : 2 ≤ cb) (hcb6 : cb ≤ 6)
    (hnt1 : 1 ≤ nt) (hnt : nt ≤ 256) (hs1 : 1 ≤ size) (hs : size ≤ 256)
    (h0 : cmapSize = 0 → size = nt)
    (h1 : cmapSize ≠ 0 → cmapSize = 2 ^ cb * nt ∧ cmap.length = cmapSize ∧ ∀ x ∈ cmap, x < size) (w : Writer) :
    ∃ bits, (if cmapSize = 0 then storeTrivialContextMap size cb w else encodeContextMap cmap cmapSize size w)
        = .ok (w ++ bits) ∧
      ∀ rest, readContextMap (2 ^ cb * nt) (bits ++ rest) = some (size, effMap cmap cmapSize nt (2 ^ cb), rest) := by
  by_cases hz : cmapSize = 0
  · rw [if_pos hz, h0 hz]
    obtain ⟨bits, e, r⟩ := storeTrivialContextMap_roundtrip nt cb hcb2 hcb6 hnt1 hnt w
    refine ⟨bits, e, fun rest => ?_⟩
    rw [Nat.mul_comm, r]
    unfold effMap
    rw [if_pos hz]
  · rw [if_neg hz]
    obtain ⟨c1, c2, c3⟩ := h1 hz
    have hpow : 2 ^ cb ≤ 2 ^ 6 := Nat.pow_le_pow_right (by decide) hcb6
    have hlen : cmap.length ≤ 2 ^ 24 := by
      rw [c2, c1]
      have : 2 ^ cb * nt ≤ 2 ^ 6 * 256 := Nat.mul_le_mul hpow hnt
      have : (2 : Nat) ^ 6 * 256 ≤ 2 ^ 24 := by decide
      omega
    obtain ⟨bits, e, r⟩ := encodeContextMap_roundtrip cmap size w (by
      rw [c2, c1]; exact Nat.mul_pos (Nat.pow_pos (by decide)) hnt1) hlen hs1 hs c3
    refine ⟨bits, by rw [← c2]; exact e, fun rest => ?_⟩
    rw [← c1, ← c2, r]
    unfold effMap
    rw [if_neg (by rw [c2]; exact hz)]

/-- the general writer `storeMetaBlockFull` against the general reader.  `hA544`: `alphabetSize ≤ 544` selects the branch
`numEff = alphabetSize` of the writer, the distance alphabet the reader uses; a large-window alphabet cut down to the 544
histogram symbols is not covered.  `hcl2`: see `fullCmds_sim`. -/
theorem full_core (wo : WordOracle) (window : Nat) (ring : Bytes) (start mask prevByte prevByte2 : Nat)
    (mb : Bytes) (isLast : Bool) (dp : DistP) (mode : Nat) (cmds : List Cmd) (mbs : MBSplit) (hist : Bytes)
    (dc : List Int) (w : List Bool)
    (hR : RingHolds ring mask start mb) (h256 : ∀ b ∈ mb, b < 256) (hh256 : ∀ b ∈ hist, b < 256)
    (h1 : 1 ≤ mb.length) (h2 : mb.length ≤ 2 ^ 24) (h64 : start + mb.length < two64)
    (hIP : inputPairCheck ring start mb.length mask = .ok ())
    (hprev : prevByte = lastB hist ∧ prevByte2 = last2B hist) (hmode : mode < 4)
    (hnp : dp.npostfix ≤ 3) (hnd1 : dp.ndirect % 2 ^ dp.npostfix = 0) (hnd2 : dp.ndirect / 2 ^ dp.npostfix < 16)
    (hA : dp.alphabetSize = distAlphabetSize dp.large dp.npostfix dp.ndirect) (hA544 : dp.alphabetSize ≤ 544)
    (hok : ∀ c ∈ cmds, cmdOK dp.alphabetSize dp.npostfix dp.ndirect c = true)
    (hcl2 : ∀ c ∈ cmds, copyLen c ≠ 0 → 2 ≤ copyLen c)
    (hlock : lockstep wo dp.npostfix dp.ndirect window mb ⟨hist, dc, 0⟩ 0 cmds = true)
    (hfa : faithful wo dp.npostfix dp.ndirect window mb hist ⟨hist, dc, 0⟩ cmds)
    (hM : MBOK mbs dp.alphabetSize)
    (hcL : Covers mbs.litHistos (effMap mbs.litCmap mbs.litCmapSize mbs.lit.numTypes (2 ^ 6)) (2 ^ 6)
      (remTypes mbs.lit 0 (mbs.lit.lengths.getD 0 0)) (litSymsOf mode hist mb 0 cmds))
    (hcI : Covers mbs.cmdHistos (effMap [] 0 mbs.cmd.numTypes (2 ^ 0)) (2 ^ 0)
      (remTypes mbs.cmd 0 (mbs.cmd.lengths.getD 0 0)) (cmds.map fun c => (0, c.cmdPrefix)))
    (hcD : Covers mbs.distHistos (effMap mbs.distCmap mbs.distCmapSize mbs.dist.numTypes (2 ^ 2)) (2 ^ 2)
      (remTypes mbs.dist 0 (mbs.dist.lengths.getD 0 0)) (distSymsOf cmds)) :
    ∃ bits fin, storeMetaBlockFull ring start mb.length mask prevByte prevByte2 isLast dp mode cmds mbs w
        = .ok (w ++ bits) ∧
      decSteps wo dp.npostfix dp.ndirect window mb ⟨hist, dc, 0⟩ cmds = some fin ∧ fin.cursor = mb.length ∧
      ∀ rest, readMetaBlockFullG wo window dp.large w.length ⟨hist, dc⟩ (bits ++ rest)
        = some (⟨fin.out, fin.ring⟩, isLast, (w ++ bits).length, rest) := by
  have p24 : (2 : Nat) ^ 24 = 16777216 := by decide
  have hA1 : 1 ≤ dp.alphabetSize := by rw [hA]; unfold distAlphabetSize; split <;> omega
  have hconst : BROTLI_NUM_LITERAL_SYMBOLS = 256 ∧ BROTLI_NUM_COMMAND_SYMBOLS = 704 ∧
      BROTLI_NUM_HISTOGRAM_DISTANCE_SYMBOLS = 544 := by decide
  obtain ⟨c1, c2, c3⟩ := hconst
  have hsl := hM.lit
  have hsc := hM.cmd
  have hsd := hM.dist
  obtain ⟨bL, lc, catL, eL, rL, iL, kL⟩ := blockSplitCode_roundtrip mbs.lit hsl (w ++ headerBits isLast mb.length)
  obtain ⟨bI, cc, catI, eI, rI, iI, kI⟩ := blockSplitCode_roundtrip mbs.cmd hsc (w ++ headerBits isLast mb.length ++ bL)
  obtain ⟨bD, dcd, catD, eD, rD, iD, kD⟩ := blockSplitCode_roundtrip mbs.dist hsd
    (w ++ headerBits isLast mb.length ++ bL ++ bI)
  obtain ⟨w3, hw3⟩ : ∃ w3, w3 = w ++ headerBits isLast mb.length ++ bL ++ bI ++ bD := ⟨_, rfl⟩
  have hnpw := writeBits_ok 2 dp.npostfix w3 (by omega) (by decide)
  have hndw := writeBits_ok 4 (dp.ndirect / 2 ^ dp.npostfix) (w3 ++ bitsOf 2 dp.npostfix) hnd2 (by decide)
  obtain ⟨mbits, eM, rM⟩ := modes_roundtrip mode hmode (List.range mbs.lit.numTypes)
    (w3 ++ bitsOf 2 dp.npostfix ++ bitsOf 4 (dp.ndirect / 2 ^ dp.npostfix))
  rw [List.length_range] at rM
  obtain ⟨w4, hw4⟩ : ∃ w4, w4 = w3 ++ bitsOf 2 dp.npostfix ++ bitsOf 4 (dp.ndirect / 2 ^ dp.npostfix) ++ mbits := ⟨_, rfl⟩
  obtain ⟨mL, eCL, rCL⟩ := cmap_roundtrip mbs.litCmap mbs.litCmapSize mbs.lit.numTypes mbs.litHistosSize 6 (by decide)
    (by decide) hsl.nt1 hsl.nt hM.hl.sz1 hM.hl.sz256 hM.l0 hM.l1 w4
  obtain ⟨mD, eCD, rCD⟩ := cmap_roundtrip mbs.distCmap mbs.distCmapSize mbs.dist.numTypes mbs.distHistosSize 2 (by decide)
    (by decide) hsd.nt1 hsd.nt hM.hd.sz1 hM.hd.sz256 hM.d0 hM.d1 (w4 ++ mL)
  obtain ⟨dL, bLt, cbL, codesL, eEL, rEL, clL, _, _, ioL⟩ := buildEntropyCodes_facts 256 256 mbs.litHistosSize mbs.litHistos
    (w4 ++ mL ++ mD) hM.hl.sz hM.hl.sz256 (by omega) (by omega) (by omega) hM.hl.each
  obtain ⟨dI, bIt, cbI, codesI, eEI, rEI, clI, _, _, ioI⟩ := buildEntropyCodes_facts 704 704 mbs.cmdHistosSize mbs.cmdHistos
    (w4 ++ mL ++ mD ++ cbL) hM.hc.sz hM.hc.sz256 (by omega) (by omega) (by omega) hM.hc.each
  obtain ⟨dD, bDt, cbD, codesD, eED, rED, clD, _, _, ioD⟩ := buildEntropyCodes_facts dp.alphabetSize dp.alphabetSize
    mbs.distHistosSize mbs.distHistos (w4 ++ mL ++ mD ++ cbL ++ cbI) hM.hd.sz hM.hd.sz256 (by omega) hA1 (Nat.le_refl _)
    hM.hd.each
  obtain ⟨L, hL⟩ : ∃ L : CatEnv, L = ⟨mbs.lit, 256, 6, mbs.litCmap, mbs.litCmapSize, mbs.litHistos, mbs.litHistosSize,
    codesL, dL, bLt⟩ := ⟨_, rfl⟩
  obtain ⟨I, hI⟩ : ∃ I : CatEnv, I = ⟨mbs.cmd, 704, 0, [], 0, mbs.cmdHistos, mbs.cmdHistosSize, codesI, dI, bIt⟩ := ⟨_, rfl⟩
  obtain ⟨D, hD⟩ : ∃ D : CatEnv, D = ⟨mbs.dist, dp.alphabetSize, 2, mbs.distCmap, mbs.distCmapSize, mbs.distHistos,
    mbs.distHistosSize, codesD, dD, bDt⟩ := ⟨_, rfl⟩
  have hLok : L.OK := by
    rw [hL]
    refine ⟨hsl, by show (6 : Nat) ≤ 6; omega, by show (256 : Nat) ≤ 704; omega, ioL, hM.hl.sz256, clL, fun hz => by rw [hM.l0 hz]; exact Nat.le_refl _, ?_, ?_⟩
    · intro hz
      obtain ⟨q1, q2, _⟩ := hM.l1 hz
      show mbs.lit.numTypes * 2 ^ 6 ≤ mbs.litCmap.length
      rw [q2, q1, Nat.mul_comm]; exact Nat.le_refl _
    · intro hz k hk
      obtain ⟨q1, q2, q3⟩ := hM.l1 hz
      exact q3 _ (getD_mem _ _ 0 (by
        show k < mbs.litCmap.length
        rw [q2, q1, Nat.mul_comm]; exact hk))
  have hIok : I.OK := by
    rw [hI]
    exact ⟨hsc, by show (0 : Nat) ≤ 6; omega, by show (704 : Nat) ≤ 704; omega, ioI, hM.hc.sz256, clI, fun _ => by rw [hM.csz]; exact Nat.le_refl _,
      fun hz => absurd rfl hz, fun hz => absurd rfl hz⟩
  have hDok : D.OK := by
    rw [hD]
    refine ⟨hsd, by show (2 : Nat) ≤ 6; omega, by show dp.alphabetSize ≤ 704; omega, ioD, hM.hd.sz256, clD,
      fun hz => by rw [hM.d0 hz]; exact Nat.le_refl _, ?_, ?_⟩
    · intro hz
      obtain ⟨q1, q2, _⟩ := hM.d1 hz
      show mbs.dist.numTypes * 2 ^ 2 ≤ mbs.distCmap.length
      rw [q2, q1, Nat.mul_comm]; exact Nat.le_refl _
    · intro hz k hk
      obtain ⟨q1, q2, q3⟩ := hM.d1 hz
      exact q3 _ (getD_mem _ _ 0 (by
        show k < mbs.distCmap.length
        rw [q2, q1, Nat.mul_comm]; exact hk))
  obtain ⟨T, hT⟩ : ∃ T : Trees, T = ⟨dp.npostfix, dp.ndirect, List.replicate mbs.lit.numTypes mode, L.eff, D.eff,
    codesL, codesI, codesD⟩ := ⟨_, rfl⟩
  obtain ⟨E, hE⟩ : ∃ E : LitEnv, E = ⟨L, ring, mask, start, mb, mode, mbs, T⟩ := ⟨_, rfl⟩
  obtain ⟨F, hF⟩ : ∃ F : FullEnv, F = ⟨E, I, D, wo, window, dp.npostfix, dp.ndirect, dp.alphabetSize, hist⟩ := ⟨_, rfl⟩
  have hEok : E.OK := by
    rw [hE]
    exact ⟨hLok, by rw [hL], by rw [hL], hR, hmode, by rw [hL], by rw [hL], by rw [hT, hL], by rw [hT], by rw [hT, hL], h256⟩
  have hFok : F.OK := by
    rw [hF]
    exact ⟨hEok, hIok, hDok, by rw [hI], by rw [hI], by rw [hI], by rw [hD], by rw [hD]; exact Nat.le_refl _,
      by rw [hE, hD], by rw [hE, hD], by rw [hE, hT, hI], by rw [hE, hT, hD], by rw [hE, hT], by rw [hE, hT], by rw [hE, hT],
      hh256, by rw [hE]; exact h64⟩
  have aL := encAt_new L (by rw [hL]; exact hsl) lc catL (by rw [hL]; exact iL) (by rw [hL]; exact kL)
  have aI := encAt_new I (by rw [hI]; exact hsc) cc catI (by rw [hI]; exact iI) (by rw [hI]; exact kI)
  have aD := encAt_new D (by rw [hD]; exact hsd) dcd catD (by rw [hD]; exact iD) (by rw [hD]; exact kD)
  obtain ⟨w7, hw7⟩ : ∃ w7, w7 = w4 ++ mL ++ mD ++ cbL ++ cbI ++ cbD := ⟨_, rfl⟩
  obtain ⟨st0, hst0⟩ : ∃ st0 : FullSt, st0 = ⟨start, prevByte, prevByte2,
      { BEnc.new L.H L.s with code := lc, depths := L.d, bits := L.b },
      { BEnc.new I.H I.s with code := cc, depths := I.d, bits := I.b },
      { BEnc.new D.H D.s with code := dcd, depths := D.d, bits := D.b }, w7⟩ := ⟨_, rfl⟩
  have hstart : start = posOf start 0 := (posOf_zero start (by omega)).symm
  obtain ⟨db, fin, st', hs1, hs2, hdec, hfin, hrd⟩ := fullCmds_sim F hFok cmds ⟨hist, dc, 0⟩ st0 catL catI catD 0 0 0
    (by rw [hF, hE]; exact hlock) (by rw [hF, hE]; exact hfa) (by rw [hF, hE]; simp)
    (by rw [hF]; exact hok) hcl2 (by rw [hst0, hF, hE]; exact hstart)
    (by rw [hst0, hF, hE]; exact aL) (by rw [hst0, hF]; exact aI) (by rw [hst0, hF]; exact aD)
    (fun _ => by rw [hst0]; exact hprev)
    (by
      rw [hst0, hF, hE]
      show Covers L.histos L.eff (2 ^ L.cb) (remTypes L.s 0 (BEnc.new L.H L.s).blockLen) _
      rw [new_blockLen L.H L.s (by rw [hL]; exact hsl), hL]
      exact hcL)
    (by
      rw [hst0, hF]
      show Covers I.histos I.eff (2 ^ I.cb) (remTypes I.s 0 (BEnc.new I.H I.s).blockLen) _
      rw [new_blockLen I.H I.s (by rw [hI]; exact hsc), hI]
      exact hcI)
    (by
      rw [hst0, hF]
      show Covers D.histos D.eff (2 ^ D.cb) (remTypes D.s 0 (BEnc.new D.H D.s).blockLen) _
      rw [new_blockLen D.H D.s (by rw [hD]; exact hsd), hD]
      exact hcD)
  rw [hF, hE] at hs1 hdec hfin hrd
  simp only at hs1 hdec hfin hrd
  have hs2' : st'.w = w7 ++ db := by rw [hs2, hst0]
  obtain ⟨body, hbody⟩ : ∃ body, body = bL ++ (bI ++ (bD ++ (bitsOf 2 dp.npostfix ++ (bitsOf 4 (dp.ndirect / 2 ^ dp.npostfix) ++
    (mbits ++ (mL ++ (mD ++ (cbL ++ (cbI ++ (cbD ++ db)))))))))) := ⟨_, rfl⟩
  have hwfin : w7 ++ db = w ++ (headerBits isLast mb.length ++ body) := by
    rw [hw7, hw4, hw3, hbody]; simp [List.append_assoc]
  refine ⟨headerBits isLast mb.length ++ (body ++
    (if isLast then List.replicate ((8 - (w7 ++ db).length % 8) % 8) false else [])), fin, ?_, hdec, hfin, ?_⟩
  · unfold storeMetaBlockFull
    rw [hIP, Out.bind_ok]
    dsimp only
    rw [if_neg (by rw [c3]; omega), storeHeader_ok isLast mb.length w h1 h2, Out.bind_ok]
    have hnewL : (BEnc.new BROTLI_NUM_LITERAL_SYMBOLS mbs.lit).code = BSCode.init := rfl
    have hnewI : (BEnc.new BROTLI_NUM_COMMAND_SYMBOLS mbs.cmd).code = BSCode.init := rfl
    have hnewD : (BEnc.new dp.alphabetSize mbs.dist).code = BSCode.init := rfl
    rw [hnewL, hnewI, hnewD, eL, Out.bind_ok]
    dsimp only
    rw [eI, Out.bind_ok]
    dsimp only
    rw [eD, Out.bind_ok]
    dsimp only
    rw [← hw3, hnpw, Out.bind_ok, if_neg (by omega), hndw, Out.bind_ok, eM, Out.bind_ok, ← hw4, eCL, Out.bind_ok,
      eCD, Out.bind_ok, c1, c2, eEL, Out.bind_ok]
    dsimp only
    rw [eEI, Out.bind_ok]
    dsimp only
    rw [eED, Out.bind_ok]
    dsimp only
    rw [← hw7]
    have hst : (⟨start, prevByte, prevByte2, { BEnc.new 256 mbs.lit with code := lc, depths := dL, bits := bLt },
        { BEnc.new 704 mbs.cmd with code := cc, depths := dI, bits := bIt },
        { BEnc.new dp.alphabetSize mbs.dist with code := dcd, depths := dD, bits := bDt }, w7⟩ : FullSt)
        = st0 := by rw [hst0, hL, hI, hD]
    rw [hst, hs1, Out.bind_ok, hs2']
    cases isLast
    · simp only [Bool.false_eq_true, if_false, List.append_nil]; rw [hwfin]
    · simp only [if_true, jumpToByteBoundary]; rw [hwfin]; simp [List.append_assoc]
  · intro rest
    have hrd := hrd ((if isLast then List.replicate ((8 - (w7 ++ db).length % 8) % 8) false else []) ++ rest)
      (mb.length + 1) (by have := lockstep_length _ _ _ _ _ _ _ _ hlock; simp at this; omega)
    unfold readMetaBlockFullG
    simp only [List.append_assoc]
    rw [readHeader_ok isLast mb.length w.length _ h1 h2]
    simp only
    have hbodyR : ∀ PR, readCompressedBodyG wo window dp.large mb.length ⟨hist, dc⟩ (body ++ PR)
        = readCommandsG wo window T mb.length (mb.length + 1) 0 catL catI catD ⟨hist, dc⟩ (db ++ PR) := by
      intro PR
      unfold readCompressedBodyG
      rw [hbody]
      simp only [List.append_assoc]
      rw [rL]
      simp only
      rw [rI]
      simp only
      rw [rD]
      simp only
      rw [takeBits_bitsOf 2 _ _ (by omega)]
      simp only
      rw [takeBits_bitsOf 4 _ _ hnd2]
      simp only
      have hndm : dp.ndirect / 2 ^ dp.npostfix * 2 ^ dp.npostfix = dp.ndirect :=
        Nat.div_mul_cancel (Nat.dvd_of_mod_eq_zero hnd1)
      rw [hndm, iL.nbl, iI.nbl, iD.nbl, rM]
      simp only
      have e64 : (64 : Nat) = 2 ^ 6 := by decide
      have e4 : (4 : Nat) = 2 ^ 2 := by decide
      rw [e64, rCL]
      simp only
      rw [e4, rCD]
      simp only
      rw [rEL]
      simp only
      rw [← hM.csz, rEI]
      simp only
      rw [← hA, rED]
      simp only
      rw [hT, hL, hD]
      rfl
    rw [hbodyR, hrd]
    simp only
    have hpos : ∀ PR : List Bool, w.length + (headerBits isLast mb.length).length +
        ((body ++ PR).length - PR.length) = (w7 ++ db).length := by
      intro PR
      rw [hwfin]
      simp only [List.length_append]
      omega
    rw [hpos]
    cases isLast
    · simp [hwfin, List.append_assoc]
    · simp only [if_true]
      rw [skipPad_pad]
      simp [hwfin, List.append_assoc]
      omega

end BV.MetaBlock
