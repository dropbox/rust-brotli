import BV.Lemmas.HasherSpec
import BV.Lemmas.ListNat
/-! `AdvHasher`: the 4-at-a-time and 32-at-a-time paths equal per-position `Store`s. -/
namespace BV.Hasher

theorem or_shl (x b s : Nat) (hx : x < 2 ^ s) : x ||| (b <<< s) = x + b * 2 ^ s :=
  BV.or_shl x b s hx

theorem word7_eq (b0 b1 b2 b3 b4 b5 b6 : Nat) (h0 : b0 < 256) (h1 : b1 < 256) (h2 : b2 < 256)
    (h3 : b3 < 256) (h4 : b4 < 256) (h5 : b5 < 256) :
    Adv.word7 [b0, b1, b2, b3, b4, b5, b6] = le [b0, b1, b2, b3, b4, b5, b6] := by
  show b0 ||| b1 <<< 8 ||| b2 <<< 16 ||| b3 <<< 24 ||| b4 <<< 32 ||| b5 <<< 40 ||| b6 <<< 48 = _
  rw [or_shl _ _ 8 (by omega), or_shl _ _ 16 (by omega), or_shl _ _ 24 (by omega),
    or_shl _ _ 32 (by omega), or_shl _ _ 40 (by omega), or_shl _ _ 48 (by omega)]
  simp only [le]
  omega

theorem word7_sel (b0 b1 b2 b3 b4 b5 b6 : Nat) (h0 : b0 < 256) (h1 : b1 < 256) (h2 : b2 < 256)
    (h3 : b3 < 256) (h4 : b4 < 256) (h5 : b5 < 256) (h6 : b6 < 256) :
    (Adv.word7 [b0, b1, b2, b3, b4, b5, b6] &&& 0xffffffff = le [b0, b1, b2, b3]) ∧
    ((Adv.word7 [b0, b1, b2, b3, b4, b5, b6] >>> 8) &&& 0xffffffff = le [b1, b2, b3, b4]) ∧
    ((Adv.word7 [b0, b1, b2, b3, b4, b5, b6] >>> 16) &&& 0xffffffff = le [b2, b3, b4, b5]) ∧
    ((Adv.word7 [b0, b1, b2, b3, b4, b5, b6] >>> 24) &&& 0xffffffff = le [b3, b4, b5, b6]) := by
  rw [word7_eq _ _ _ _ _ _ _ h0 h1 h2 h3 h4 h5]
  refine ⟨le_low32 _ _ _ _ _ h0 h1 h2 h3, ?_, ?_, ?_⟩
  · rw [le_shiftRight _ _ h0]; exact le_low32 _ _ _ _ _ h1 h2 h3 h4
  · rw [Nat.shiftRight_add _ 8 8, le_shiftRight _ _ h0, le_shiftRight _ _ h1]; exact le_low32 _ _ _ _ _ h2 h3 h4 h5
  · rw [Nat.shiftRight_add _ 8 16, Nat.shiftRight_add _ 8 8, le_shiftRight _ _ h0, le_shiftRight _ _ h1,
      le_shiftRight _ _ h2]
    exact le_low32 _ _ _ _ _ h3 h4 h5 h6

theorem list_len7 {w : List Nat} (h : w.length = 7) :
    ∃ b0 b1 b2 b3 b4 b5 b6, w = [b0, b1, b2, b3, b4, b5, b6] := by
  match w, h with
  | [b0, b1, b2, b3, b4, b5, b6], _ => exact ⟨b0, b1, b2, b3, b4, b5, b6, rfl⟩

namespace Adv

/-- one position in normal form: counter step on `num`, then the bucket write — the common shape of
`store` (`store_nf`), `straddleStep` and each quarter of `quad` (`quad_eq_steps`) -/
def stepNF (P : AdvP) (key v : Nat) (st : AdvSt) : Option AdvSt :=
  match numStep P key st.num with
  | none => none
  | some (r, num) =>
    match wr st.buckets ((key <<< P.blockBits) + r) v with
    | none => none
    | some b => some ⟨num, b⟩

/-- `quad` does its four counter steps first and its four bucket writes after; a failing one makes the whole
`none` in either order, which is all the case analysis below says -/
theorem quad_eq_steps (P : AdvP) (w7 : List Nat) (v : Nat) (st : AdvSt) :
    quad P w7 v st =
      (stepNF P (mixInline P (word7 w7)) (v % U32) st).bind fun s1 =>
      (stepNF P (mixInline P (word7 w7 >>> 8)) ((v + 1) % U32) s1).bind fun s2 =>
      (stepNF P (mixInline P (word7 w7 >>> 16)) ((v + 2) % U32) s2).bind fun s3 =>
      stepNF P (mixInline P (word7 w7 >>> 24)) ((v + 3) % U32) s3 := by
  obtain ⟨num, buckets⟩ := st
  simp only [quad, stepNF]
  cases h0 : numStep P (mixInline P (word7 w7)) num with
  | none => simp
  | some p0 =>
    obtain ⟨r0, n1⟩ := p0
    simp only []
    cases hw0 : wr buckets ((mixInline P (word7 w7) <<< P.blockBits) + r0) (v % U32) with
    | none =>
      simp only [Option.bind_none]
      cases numStep P (mixInline P (word7 w7 >>> 8)) n1 with
      | none => rfl
      | some p1 =>
        obtain ⟨r1, n2⟩ := p1
        simp only []
        cases numStep P (mixInline P (word7 w7 >>> 16)) n2 with
        | none => rfl
        | some p2 =>
          obtain ⟨r2, n3⟩ := p2
          simp only []
          cases numStep P (mixInline P (word7 w7 >>> 24)) n3 with
          | none => rfl
          | some p3 => rfl
    | some b1 =>
      simp only [Option.bind_some]
      cases h1 : numStep P (mixInline P (word7 w7 >>> 8)) n1 with
      | none => simp
      | some p1 =>
        obtain ⟨r1, n2⟩ := p1
        simp only []
        cases hw1 : wr b1 ((mixInline P (word7 w7 >>> 8) <<< P.blockBits) + r1) ((v + 1) % U32) with
        | none =>
          simp only [Option.bind_none]
          cases numStep P (mixInline P (word7 w7 >>> 16)) n2 with
          | none => rfl
          | some p2 =>
            obtain ⟨r2, n3⟩ := p2
            simp only []
            cases numStep P (mixInline P (word7 w7 >>> 24)) n3 with
            | none => rfl
            | some p3 => rfl
        | some b2 =>
          simp only [Option.bind_some]
          cases h2 : numStep P (mixInline P (word7 w7 >>> 16)) n2 with
          | none => simp
          | some p2 =>
            obtain ⟨r2, n3⟩ := p2
            simp only []
            cases hw2 : wr b2 ((mixInline P (word7 w7 >>> 16) <<< P.blockBits) + r2) ((v + 2) % U32) with
            | none =>
              simp only [Option.bind_none]
              cases numStep P (mixInline P (word7 w7 >>> 24)) n3 with
              | none => rfl
              | some p3 => rfl
            | some b3 =>
              simp only [Option.bind_some]
              cases h3 : numStep P (mixInline P (word7 w7 >>> 24)) n3 with
              | none => rfl
              | some p3 => rfl

theorem store_none {P : AdvP} {data : ByteArray} {mask ix : Nat}
    (h : win data (ix &&& mask) P.lookahead = none) (st : AdvSt) : store P data mask ix st = none := by
  obtain ⟨num, buckets⟩ := st
  simp [store, hashAt, h]

theorem store_nf {P : AdvP} (hP : P.Ok) {data : ByteArray} {mask ix : Nat} {w : List Nat}
    (h : win data (ix &&& mask) P.lookahead = some w) (st : AdvSt) :
    store P data mask ix st = stepNF P ((P.mixWord w >>> P.shift) % U32) (ix % U32) st := by
  obtain ⟨num, buckets⟩ := st
  have hk := hP.keyBound w
  simp only [store, hashAt, h, Option.map_some, stepNF, numStep]
  by_cases hlt : (P.mixWord w >>> P.shift) % U32 < num.size
  · simp only [rd_of_lt hlt, wr_of_lt _ hlt, Nat.mod_eq_of_lt hk,
      Nat.mod_mod_of_dvd _ (show U16 ∣ U32 by decide), Nat.add_comm (_ &&& P.blockMask)]
    generalize wr buckets _ _ = o
    cases o <;> rfl
  · simp only [rd_of_not_lt hlt]

theorem straddleStep_eq_store {P : AdvP} (hP : P.Ok) (data : ByteArray) (mask p : Nat) (st : AdvSt) :
    straddleStep P data mask p st = store P data mask p st := by
  cases hw : win data (p &&& mask) P.lookahead with
  | none => rw [store_none hw]; obtain ⟨num, buckets⟩ := st; simp [straddleStep, hashAt, hw]
  | some w =>
    rw [store_nf hP hw]
    obtain ⟨num, buckets⟩ := st
    simp only [straddleStep, hashAt, hw, Option.map_some, stepNF, numStep]
    by_cases hlt : (P.mixWord w >>> P.shift) % U32 < num.size
    · simp only [rd_of_lt hlt, wr_of_lt _ hlt, Nat.mod_mod_of_dvd _ (show U16 ∣ U32 by decide)]
      generalize wr buckets _ _ = o
      cases o <;> rfl
    · simp only [rd_of_not_lt hlt]

theorem mixInline_and (P : AdvP) (x : Nat) : mixInline P (x &&& 0xffffffff) = mixInline P x := by
  simp only [mixInline, Nat.and_assoc, Nat.and_self]

theorem quad_eq_stores {P : AdvP} (hP : P.Ok) (h4 : P.lookahead = 4) {data : ByteArray}
    {mask p v : Nat} {w7 : List Nat} (hw : win data p 7 = some w7)
    (hm : ∀ j, j ≤ 3 → (v + j) &&& mask = p + j) (st : AdvSt) :
    quad P w7 v st = forRange (store P data mask) v 4 st := by
  have hlt := win_lt hw
  obtain ⟨b0, b1, b2, b3, b4, b5, b6, rfl⟩ := list_len7 (win_length hw)
  have hb : ∀ b ∈ [b0, b1, b2, b3, b4, b5, b6], b < 256 := hlt
  simp only [List.mem_cons, List.not_mem_nil, or_false, forall_eq_or_imp, forall_eq] at hb
  obtain ⟨hb0, hb1, hb2, hb3, hb4, hb5, hb6⟩ := hb
  obtain ⟨s0, s1, s2, s3⟩ := word7_sel b0 b1 b2 b3 b4 b5 b6 hb0 hb1 hb2 hb3 hb4 hb5 hb6
  have w0 := win_sub hw 0 4 (by omega)
  have w1 := win_sub hw 1 4 (by omega)
  have w2 := win_sub hw 2 4 (by omega)
  have w3 := win_sub hw 3 4 (by omega)
  simp only [List.drop_zero, List.drop_succ_cons, List.take_succ_cons, List.take_zero] at w0 w1 w2 w3
  have hm0 : v &&& mask = p := by simpa using hm 0 (by omega)
  simp only [Nat.add_zero] at w0
  rw [← hm0, ← h4] at w0
  rw [← hm 1 (by omega), ← h4] at w1
  rw [← hm 2 (by omega), ← h4] at w2
  rw [← hm 3 (by omega), ← h4] at w3
  have c0 := hP.coh h4 [b0, b1, b2, b3] rfl (by simp; omega)
  have c1 := hP.coh h4 [b1, b2, b3, b4] rfl (by simp; omega)
  have c2 := hP.coh h4 [b2, b3, b4, b5] rfl (by simp; omega)
  have c3 := hP.coh h4 [b3, b4, b5, b6] rfl (by simp; omega)
  rw [quad_eq_steps, forRange_four, store_nf hP w0, c0, ← s0, mixInline_and]
  cases stepNF P (mixInline P (word7 [b0, b1, b2, b3, b4, b5, b6])) (v % U32) st with
  | none => rfl
  | some st1 =>
    simp only [Option.bind_some]
    rw [store_nf hP w1, c1, ← s1, mixInline_and]
    cases stepNF P (mixInline P (word7 [b0, b1, b2, b3, b4, b5, b6] >>> 8)) ((v + 1) % U32) st1 with
    | none => rfl
    | some st2 =>
      simp only [Option.bind_some]
      rw [store_nf hP w2, c2, ← s2, mixInline_and]
      cases stepNF P (mixInline P (word7 [b0, b1, b2, b3, b4, b5, b6] >>> 16)) ((v + 2) % U32) st2 with
      | none => rfl
      | some st3 =>
        simp only [Option.bind_some]
        rw [store_nf hP w3, c3, ← s3, mixInline_and]

theorem chunk_eq {P : AdvP} (hP : P.Ok) (h4 : P.lookahead = 4) (data : ByteArray)
    (k ixStart c : Nat) (st : AdvSt) :
    chunk P data (2 ^ k - 1) ixStart c st
      = forRange (store P data (2 ^ k - 1)) (ixStart + c * 4) 4 st := by
  unfold chunk
  simp only []
  split
  · rw [forRange_congr (g := fun j y => store P data (2 ^ k - 1) (ixStart + c * 4 + j) y) 4 0 st
      (fun i y _ _ => straddleStep_eq_store hP data _ _ y)]
    exact forRange_shift (store P data (2 ^ k - 1)) (ixStart + c * 4) 4 0 st
  · rename_i hns
    have hc := fun j hj => ringmask_consecutive (ixStart + c * 4) k j hns hj
    cases hw : win data ((ixStart + c * 4) &&& (2 ^ k - 1)) 7 with
    | none =>
      simp only []
      symm
      apply forRange_last_none (store P data (2 ^ k - 1)) 3
      intro y
      apply store_none
      rw [hc 3 (by omega), h4]
      exact win_none_of_le hw (by omega)
    | some w7 => simp only []; exact quad_eq_stores hP h4 hw hc st

theorem onTables_exact {P : AdvP} {st : AdvSt} (hsz : sizesAsserted P st = true)
    (f : AdvSt → Option AdvSt) : onTables P st f = f st := by
  obtain ⟨num, buckets⟩ := st
  simp only [sizesAsserted, Bool.and_eq_true, beq_iff_eq] at hsz
  obtain ⟨h1, h2⟩ := hsz
  unfold onTables
  have e1 : P.bucketSize * (1 <<< P.blockBits) = buckets.size := h2.symm
  have e2 : P.bucketSize = num.size := h1.symm
  simp only [e1]
  simp only [e2, Nat.lt_irrefl, or_self, if_false, Array.extract_size]
  cases f ⟨num, buckets⟩ with
  | none => rfl
  | some st' => simp

theorem storeRange_eq_fold {P : AdvP} (hP : P.Ok) (data : ByteArray) (k s e : Nat) (st : AdvSt)
    (hsz : sizesAsserted P st = true) :
    storeRange P data (2 ^ k - 1) s e st = forRange (store P data (2 ^ k - 1)) s (e - s) st := by
  unfold storeRange storeRangeOptBatch
  by_cases hge : e ≥ s + P.lookahead * 2 ∧ P.lookahead = 4
  · have h4 := hge.2
    have hfun : chunk P data (2 ^ k - 1) s
        = fun c y => forRange (store P data (2 ^ k - 1)) (s + c * 4) 4 y := by
      funext c y; exact chunk_eq hP h4 data k s c y
    have hge' : e ≥ s + 4 * 2 := by have := hge.1; rw [h4] at this; exact this
    simp only [h4, hge', and_self, if_true, onTables_exact hsz, hfun]
    rw [forRange_chunks (store P data (2 ^ k - 1)) 4 s ((e - s) / 4) 0 st]
    simp only [Nat.zero_mul, Nat.add_zero]
    have hsplit : e - s = (e - s) / 4 * 4 + (e - (s + (e - s) / 4 * 4)) := by omega
    conv => rhs; rw [hsplit, forRange_add]
    cases forRange (store P data (2 ^ k - 1)) s ((e - s) / 4 * 4) st <;> rfl
  · simp only [hge, if_false]

theorem memFetchChunk_eq {P : AdvP} (hP : P.Ok) (h4 : P.lookahead = 4) (data : ByteArray)
    (ixStart c : Nat) (hlt : ixStart + c * 32 + 32 ≤ 2 ^ 64) (st : AdvSt) :
    memFetchChunk P data ixStart c st
      = forRange (store P data USIZE_MAX) (ixStart + c * 32) 32 st := by
  have hmask : ∀ x, x < 2 ^ 64 → x &&& USIZE_MAX = x := by
    intro x hx; rw [usize_max_eq, Nat.and_two_pow_sub_one_eq_mod, Nat.mod_eq_of_lt hx]
  unfold memFetchChunk
  simp only []
  cases hw : win data (ixStart + c * 32) 35 with
  | none =>
    simp only []
    symm
    apply forRange_last_none (store P data USIZE_MAX) 31
    intro y
    apply store_none
    rw [hmask _ (by omega), h4]
    exact win_none_of_le hw (by omega)
  | some d64 =>
    simp only []
    rw [forRange_congr (g := fun q y => forRange (store P data USIZE_MAX) (ixStart + c * 32 + q * 4) 4 y) 8 0 st]
    · rw [forRange_chunks (store P data USIZE_MAX) 4 (ixStart + c * 32) 8 0 st]
      simp
    · intro q y _ hq
      have hq8 : q < 8 := by omega
      have hsh : q <<< 2 = q * 4 := by rw [Nat.shiftLeft_eq]
      rw [hsh]
      have hw7 := win_sub hw (q * 4) 7 (by omega)
      exact quad_eq_stores hP h4 hw7 (fun j hj => by rw [hmask _ (by omega)]) y

theorem bulkStoreRange_eq_fold {P : AdvP} (hP : P.Ok) (data : ByteArray) (mask s e : Nat)
    (he : e ≤ 2 ^ 64) (st : AdvSt) (hsz : sizesAsserted P st = true) :
    bulkStoreRange P data mask s e st = forRange (store P data mask) s (e - s) st := by
  unfold bulkStoreRange bulkStoreRangeOptMemFetch
  by_cases hge : mask = USIZE_MAX ∧ e > s + 32 ∧ P.lookahead = 4
  · obtain ⟨hm, hgt, h4⟩ := hge
    subst hm
    simp only [hgt, h4, and_self, if_true, onTables_exact hsz]
    rw [forRange_congr (g := fun c y => forRange (store P data USIZE_MAX) (s + c * 32) 32 y)
      ((e - s) / 32) 0 st]
    · rw [forRange_chunks (store P data USIZE_MAX) 32 s ((e - s) / 32) 0 st]
      simp only [Nat.zero_mul, Nat.add_zero]
      have hsplit : e - s = (e - s) / 32 * 32 + (e - (s + (e - s) / 32 * 32)) := by omega
      conv => rhs; rw [hsplit, forRange_add]
      cases forRange (store P data USIZE_MAX) s ((e - s) / 32 * 32) st <;> rfl
    · intro c y _ hc
      have : c * 32 + 32 ≤ (e - s) / 32 * 32 := by
        have : c + 1 ≤ (e - s) / 32 := by omega
        calc c * 32 + 32 = (c + 1) * 32 := by omega
          _ ≤ (e - s) / 32 * 32 := Nat.mul_le_mul_right 32 this
      exact memFetchChunk_eq hP h4 data s c (by omega) y
  · simp only [hge, if_false]

end Adv
end BV.Hasher
