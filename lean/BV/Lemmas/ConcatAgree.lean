/-
The concatenator's own header parsers agree with the RFC reader of `BV.HeaderSpec`:
`parse_window_size` = `readWbits`, `detect_varlen_offset` = end of the first meta-block header
(for metadata / uncompressed first blocks); hence the parser inverts the encoder's window field.
(C03 `parsers_agree_with_rfc`, `parse_inverts_encode`, `concat_stored_decodes`)
-/
import BV.Lemmas.ConcatStored

namespace BV.Concat
open Outcome BV.Gen BV.HeaderSpec BV.Framing

theorem pws_small : ∀ b0 : Fin 256, 127 &&& b0.val ≠ 17 →
    (readWbits (BV.Bits.bitsOf 8 b0.val)).isSome = true ∧
    pwsCore b0.val (Outcome.panic .pwsIndex1)
      = ok ((readWbits (BV.Bits.bitsOf 8 b0.val)).map fun x => (x.1, 8 - x.2.2.length)) := by
  decide +kernel

/-- `127 &&& b0 = 17`: the large-window form `11 xx`, and `91 xx`, which both parsers reject -/
theorem pws_large : ∀ b0 : Fin 256, 127 &&& b0.val = 17 → ∀ b1 : Fin 256,
    pwsCore b0.val (ok b1.val)
      = ok ((readWbits (BV.Bits.bitsOf 8 b0.val ++ BV.Bits.bitsOf 8 b1.val)).map
          fun x => (x.1, 16 - x.2.2.length)) := by
  decide +kernel

theorem pwsCore_agrees (b0 b1 : Nat) (hb0 : b0 < 256) (hb1 : b1 < 256) (Y : List Bool) (w : Nat) (lg : Bool)
    (r : List Bool) (h : readWbits (BV.Bits.bitsOf 8 b0 ++ (BV.Bits.bitsOf 8 b1 ++ Y)) = some (w, lg, r)) :
    pwsCore b0 (ok b1) = ok (some (w, 16 + Y.length - r.length)) := by
  by_cases h17 : 127 &&& b0 = 17
  · rw [← List.append_assoc] at h
    obtain ⟨r', hr', rfl⟩ := readWbits_prefix _ _ w lg r (by simp [BV.Bits.bitsOf_length]) h
    rw [pws_large ⟨b0, hb0⟩ h17 ⟨b1, hb1⟩, hr', Option.map_some]
    simp only [List.length_append]
    congr 3
    omega
  · obtain ⟨hs, hp⟩ := pws_small ⟨b0, hb0⟩ h17
    obtain ⟨⟨w', lg', r'⟩, hx⟩ := Option.isSome_iff_exists.mp hs
    have hext := readWbits_ext _ w' lg' r' hx (BV.Bits.bitsOf 8 b1 ++ Y)
    rw [h, Option.some.injEq, Prod.mk.injEq, Prod.mk.injEq] at hext
    obtain ⟨rfl, _, rfl⟩ := hext
    rw [pwsCore_mono b0 _ (ok b1) _ hp, hx, Option.map_some]
    simp only [List.length_append, BV.Bits.bitsOf_length]
    congr 3
    omega

theorem parse_agrees (m : List Nat) (w : Nat) (lg : Bool) (r : List Bool)
    (hb : ∀ y, y ∈ m → y < 256) (hlen : need (m.headD 0) ≤ m.length)
    (h : readWbits (bytesToBits m) = some (w, lg, r)) :
    parseWindowSize (m.take (need (m.headD 0))) = ok (some (w, (bytesToBits m).length - r.length)) := by
  have h4 : 4 ≤ m.length := by unfold need at hlen; split at hlen <;> omega
  obtain ⟨b0, t0, rfl, h3⟩ := exists_cons m 3 h4
  obtain ⟨b1, t1, rfl, _⟩ := exists_cons t0 2 h3
  have htake : (b0 :: b1 :: t1).take (need ((b0 :: b1 :: t1).headD 0)) = b0 :: b1 :: t1.take (need b0 - 2) := by
    simp only [List.headD_cons]
    have : need b0 = (need b0 - 2) + 1 + 1 := by unfold need; split <;> omega
    rw [this, List.take_succ_cons, List.take_succ_cons]
    simp
  rw [bytesToBits_cons, bytesToBits_cons, ← bitsOf_eq, ← bitsOf_eq] at h
  rw [htake, parseWindowSize_cons2, pwsCore_agrees b0 b1 (hb b0 (by simp)) (hb b1 (by simp)) _ w lg r h]
  simp only [bytesToBits_cons, List.length_append, bitsOf_length]
  congr 3
  omega

/-- a stored member's window field as the concatenator parses it -/
theorem storedMember_parse {m : List Nat} {w : Nat} {lg : Bool} {bl : List MetaBlock} {wb F : List Bool} {k : Nat}
    (h : StoredMember m w lg bl wb F k) (hla : need (m.headD 0) ≤ m.length) :
    parseWindowSize (m.take (need (m.headD 0))) = ok (some (w, wb.length)) := by
  have hrw : readWbits (bytesToBits m) = some (w, lg, F ++ [true, true] ++ zeros k) := by
    rw [h.bits, List.append_assoc, List.append_assoc, ← List.append_assoc F]; exact h.wread _
  have hparse := parse_agrees m w lg _ h.bytes hla hrw
  have hwbl : (bytesToBits m).length - (F ++ [true, true] ++ zeros k).length = wb.length := by
    rw [h.bits]; simp [List.append_assoc]
  rwa [hwbl] at hparse

theorem enc_read : ∀ (l : Fin 31) (lg : Bool), 10 ≤ l.val → (lg = true ∨ l.val ≤ 24) →
    readWbits (BV.Bits.bitsOf (encodeWindowBits l.val lg).2 (encodeWindowBits l.val lg).1) = some (l.val, lg, []) ∧
    (encodeWindowBits l.val lg).2 ≤ 14 := by
  decide +kernel

theorem parse_inverts_encode_gen (lgwin : Nat) (large : Bool) (h10 : 10 ≤ lgwin) (h30 : lgwin ≤ 30)
    (hl : large = true ∨ lgwin ≤ 24) (b0 b1 : Nat) (hb0 : b0 < 256) (hb1 : b1 < 256) (rest : List Nat)
    (hx : (b0 + 256 * b1) % 2 ^ (encodeWindowBits lgwin large).2 = (encodeWindowBits lgwin large).1) :
    parseWindowSize (b0 :: b1 :: rest) = ok (some (lgwin, (encodeWindowBits lgwin large).2)) := by
  obtain ⟨hread, hn⟩ := enc_read ⟨lgwin, by omega⟩ large h10 hl
  dsimp only at hread hn
  generalize (encodeWindowBits lgwin large).2 = nb at hx hread hn ⊢
  have hT : BV.Bits.bitsOf 8 b0 ++ (BV.Bits.bitsOf 8 b1 ++ []) = bitsOf 16 (b0 + 256 * b1) := by
    have := bits_le2 (b0 + 256 * b1)
    rwa [show (b0 + 256 * b1) % 256 = b0 by omega, show (b0 + 256 * b1) / 256 = b1 by omega, bytesToBits_cons,
      bytesToBits_cons, ← bitsOf_eq, ← bitsOf_eq] at this
  have hsplit : bitsOf 16 (b0 + 256 * b1) = bitsOf nb (encodeWindowBits lgwin large).1
      ++ bitsOf (16 - nb) ((b0 + 256 * b1) / 2 ^ nb) := by
    rw [← hx, bitsOf_mod, ← bitsOf_append, show nb + (16 - nb) = 16 by omega]
  rw [parseWindowSize_cons2, pwsCore_agrees b0 b1 hb0 hb1 [] lgwin large
    ([] ++ bitsOf (16 - nb) ((b0 + 256 * b1) / 2 ^ nb))
    (by rw [hT, hsplit, ← bitsOf_eq]; exact readWbits_ext _ _ _ _ hread _)]
  simp only [List.length_nil, List.nil_append, bitsOf_length]
  congr 3
  omega

theorem field_value (N v p j : Nat) (h : p + j ≤ N) :
    (v >>> p) % 2 ^ j = BV.Bits.valOf (((bitsOf N v).drop p).take j) := by
  have e : N = p + (j + (N - p - j)) := by omega
  rw [e, bitsOf_append, List.drop_left' (bitsOf_length p v), bitsOf_append,
    List.take_left' (bitsOf_length j _), valOf_bitsOf', Nat.shiftRight_eq_div_pow]

theorem and_one_eq (x : Nat) : x &&& 1 = x % 2 ^ 1 := by
  have := Nat.and_two_pow_sub_one_eq_mod x 1
  simp at this ⊢

theorem and_three_eq (x : Nat) : x &&& 3 = x % 2 ^ 2 := by
  have := Nat.and_two_pow_sub_one_eq_mod x 2
  simpa using this

/-- `hform`: the first meta-block header `H` is a metadata or an uncompressed one -/
theorem detect_agrees (m : List Nat) (w wo : Nat) (wb H rest : List Bool)
    (hb : ∀ y, y ∈ m → y < 256) (hlen : need (m.headD 0) ≤ m.length)
    (hparse : parseWindowSize (m.take (need (m.headD 0))) = ok (some (w, wo)))
    (hwb : wb.length = wo) (hwo : wo ≤ 14) (hbits : bytesToBits m = wb ++ H ++ rest)
    (hform : (∃ s0 s1 XB, H = [false, true, true, false, s0, s1] ++ XB ∧ XB.length = 8 * BV.Bits.valOf [s0, s1]) ∨
      (∃ c0 c1 XB, H = [false, c0, c1] ++ XB ++ [true] ∧ BV.Bits.valOf [c0, c1] ≠ 3 ∧
        XB.length = 4 * (4 + BV.Bits.valOf [c0, c1]))) :
    (wo + H.length ≤ 8 * need (m.headD 0) →
      detectVarlenOffset (m.take (need (m.headD 0))) = ok (some (wo + H.length))) ∧
    (∀ v, detectVarlenOffset (m.take (need (m.headD 0))) = ok (some v) → v = wo + H.length) := by
  have h45 : need (m.headD 0) = 4 ∨ need (m.headD 0) = 5 := by unfold need; split <;> simp
  have hbl : (m.take (need (m.headD 0))).length = need (m.headD 0) := by rw [List.length_take]; omega
  have hbt : ∀ y, y ∈ m.take (need (m.headD 0)) → y < 256 := fun y hy => hb y (List.mem_of_mem_take hy)
  have hpack := packLE_value .dvoShl _ hbt (by omega)
  have hH0lt := leVal_lt _ hbt
  have hH0 := (bitsOf_leVal _ hbt).symm
  generalize leVal (m.take (need (m.headD 0))) = H0 at hpack hH0lt hH0
  rw [hbl] at hH0lt
  rw [hbl, bytesToBits_take, hbits] at hH0
  have fld : ∀ p j, p + j ≤ H.length → wo + p + j ≤ 8 * need (m.headD 0) →
      (H0 >>> (wo + p)) % 2 ^ j = BV.Bits.valOf ((H.drop p).take j) := by
    intro p j hpj hin
    rw [field_value (8 * need (m.headD 0)) H0 (wo + p) j (by omega), ← hH0,
      take_drop_take _ _ _ _ (by omega), List.append_assoc, ← hwb, ← List.drop_drop,
      List.drop_left' rfl, List.drop_append_of_le_length (by omega),
      List.take_append_of_le_length (by rw [List.length_drop]; omega)]
  unfold detectVarlenOffset
  rw [hparse]
  simp only [bind_ok, hpack]
  have sh1 : H0 >>> wo >>> 1 = H0 >>> (wo + 1) := (Nat.shiftRight_add _ _ _).symm
  have sh3 : H0 >>> (wo + 1) >>> 2 = H0 >>> (wo + 3) := by rw [← Nat.shiftRight_add]
  have sh4 : H0 >>> (wo + 3) >>> 1 = H0 >>> (wo + 4) := by rw [← Nat.shiftRight_add]
  have hH3 : 3 ≤ H.length := by
    rcases hform with ⟨_, _, _, e, _⟩ | ⟨_, _, _, e, _⟩ <;> rw [e] <;> simp <;> omega
  have f0 : H0 >>> wo &&& 1 = BV.Bits.valOf ((H.drop 0).take 1) := by
    rw [and_one_eq]; exact fld 0 1 (by omega) (by omega)
  rcases hform with ⟨s0, s1, XB, rfl, hXB⟩ | ⟨c0, c1, XB, rfl, hmn, hXB⟩
  · have hHl : ([false, true, true, false, s0, s1] ++ XB).length = 6 + 8 * BV.Bits.valOf [s0, s1] := by
      simp [hXB]; omega
    have g0 : H0 >>> wo &&& 1 = 0 := by rw [f0]; rfl
    have g1 : H0 >>> (wo + 1) &&& 3 = 3 := by
      rw [and_three_eq, fld 1 2 (by rw [hHl]; omega) (by omega)]; rfl
    have g3 : H0 >>> (wo + 3) &&& 1 = 0 := by
      rw [and_one_eq, fld 3 1 (by rw [hHl]; omega) (by omega)]; rfl
    have g4 : H0 >>> (wo + 4) &&& (1 <<< 2 - 1) = BV.Bits.valOf [s0, s1] := by
      have : (1 <<< 2 - 1 : Nat) = 3 := by decide
      rw [this, and_three_eq, fld 4 2 (by rw [hHl]; omega) (by omega)]; rfl
    simp only [g0, ne_eq, not_true_eq_false, decide_false, Bool.false_eq_true, false_and, if_false, sh1, sh3, sh4,
      g1, if_true, g3, g4, hHl]
    have e : wo + 1 + 2 + 1 + 2 + BV.Bits.valOf [s0, s1] * 8 = wo + (6 + 8 * BV.Bits.valOf [s0, s1]) := by omega
    rw [e]
    exact ⟨fun _ => rfl, fun v hv => by simp only [Outcome.ok.injEq, Option.some.injEq] at hv; exact hv.symm⟩
  · have hHl : ([false, c0, c1] ++ XB ++ [true]).length = 4 + 4 * (4 + BV.Bits.valOf [c0, c1]) := by
      simp [hXB]; omega
    have g0 : H0 >>> wo &&& 1 = 0 := by rw [f0]; rfl
    have g1 : H0 >>> (wo + 1) &&& 3 = BV.Bits.valOf [c0, c1] := by
      rw [and_three_eq, fld 1 2 (by rw [hHl]; omega) (by omega)]; rfl
    have shn : H0 >>> (wo + 3) >>> ((BV.Bits.valOf [c0, c1] + 4) * 4)
        = H0 >>> (wo + (3 + 4 * (4 + BV.Bits.valOf [c0, c1]))) := by
      rw [← Nat.shiftRight_add]; congr 1; omega
    simp only [g0, ne_eq, not_true_eq_false, decide_false, Bool.false_eq_true, false_and, if_false, sh1, sh3,
      g1, hmn, shn, hHl]
    have e : wo + 1 + 2 + (BV.Bits.valOf [c0, c1] + 4) * 4 + 1 = wo + (4 + 4 * (4 + BV.Bits.valOf [c0, c1])) := by
      omega
    rw [e]
    by_cases hin : wo + (4 + 4 * (4 + BV.Bits.valOf [c0, c1])) ≤ 8 * need (m.headD 0)
    · have g5 : H0 >>> (wo + (3 + 4 * (4 + BV.Bits.valOf [c0, c1]))) &&& 1 = 1 := by
        rw [and_one_eq, fld (3 + 4 * (4 + BV.Bits.valOf [c0, c1])) 1 (by rw [hHl]; omega) (by omega)]
        have : ([false, c0, c1] ++ XB ++ [true]).drop (3 + 4 * (4 + BV.Bits.valOf [c0, c1])) = [true] := by
          rw [List.append_assoc, show 3 + 4 * (4 + BV.Bits.valOf [c0, c1]) = ([false, c0, c1] ++ XB).length by
            simp [hXB]; omega]
          rw [← List.append_assoc, List.drop_left' rfl]
        rw [this]; rfl
      simp only [g5, Nat.one_ne_zero, if_false]
      exact ⟨fun _ => trivial, fun v hv => by simp only [Outcome.ok.injEq, Option.some.injEq] at hv; exact hv.symm⟩
    · -- the ISUNCOMPRESSED bit lies beyond the look-ahead: the packed value has a zero there
      have hz : H0 >>> (wo + (3 + 4 * (4 + BV.Bits.valOf [c0, c1]))) = 0 := by
        rw [Nat.shiftRight_eq_div_pow]
        apply Nat.div_eq_of_lt
        exact Nat.lt_of_lt_of_le hH0lt (Nat.pow_le_pow_right (by decide) (by omega))
      simp only [hz, Nat.zero_and, if_true]
      exact ⟨fun h => absurd h hin, fun v hv => by simp at hv⟩

theorem flag_arith : ∀ (w0 : Fin 31) (l : Bool),
    ((w0.val ||| (if l then LARGE_WINDOW_FLAG else 0)) &&& NOT_LARGE_WINDOW_FLAG) = w0.val ∧
    (((w0.val ||| (if l then LARGE_WINDOW_FLAG else 0)) &&& LARGE_WINDOW_FLAG ≠ 0) ↔ l = true) := by
  decide +kernel

structure LaterInput (w0 : Nat) (lg0 : Bool) (m : List Nat) (bl : List MetaBlock) : Prop where
  stored : ∃ w, StoredBytes m w lg0 bl ∧ w ≤ w0
  nonempty : bl ≠ []
  long : need (m.headD 0) + 2 ≤ m.length
  accept : ∃ v, detectVarlenOffset (m.take (need (m.headD 0))) = ok (some v) ∧ (v + 7) / 8 ≤ need (m.headD 0)

theorem later_of_input (w0 : Nat) (lg0 : Bool) (hw0 : w0 ≤ 30) (m : List Nat) (bl : List MetaBlock)
    (h : LaterInput w0 lg0 m bl) :
    ∃ d H B C, d.m = m ∧ MemberOK (w0 ||| (if lg0 then LARGE_WINDOW_FLAG else 0)) d ∧
      (∀ nprev, gapBits nprev d ++ restData d = chunkBits (if nprev < 8 then nprev else nprev - 8) H B C) ∧
      ChunkSpec bl H B C d.n := by
  obtain ⟨w, hst, hwle⟩ := h.stored
  obtain ⟨wb, F, k, hsm⟩ := storedMember_of_bytes m w lg0 bl hst
  obtain ⟨b1, bl', rfl⟩ : ∃ b1 bl', bl = b1 :: bl' := by
    cases bl with
    | nil => exact absurd rfl h.nonempty
    | cons b1 bl' => exact ⟨b1, bl', rfl⟩
  have hla : need (m.headD 0) ≤ m.length := by have := h.long; omega
  have hparse := storedMember_parse hsm hla
  obtain ⟨fa, fb⟩ := flag_arith ⟨w0, by omega⟩ lg0
  dsimp only at fa fb
  obtain ⟨v, hv, hvfit⟩ := h.accept
  refine later_of_stored _ m w lg0 b1 bl' wb F k hsm h.long hparse (by rw [fa]; omega) ?_ ?_
  · intro hne
    apply hne
    have : (wb.length = 14) ↔ ((w0 ||| (if lg0 then LARGE_WINDOW_FLAG else 0)) &&& LARGE_WINDOW_FLAG ≠ 0) := by
      rw [fb, hsm.lgiff]
    exact decide_eq_decide.mpr this
  · intro H B p1 r1 hshape
    have hnl : H ≠ [true, true] := fun e => by
      have := hshape.last.mpr e
      cases hsm.frames0 with
      | cons _ _ _ p1' r1' _ _ _ hread hkind _ => exact hkind.2 this
    have hform := hshape.form
    have hform' : (∃ s0 s1 XB, H = [false, true, true, false, s0, s1] ++ XB ∧ XB.length = 8 * BV.Bits.valOf [s0, s1]) ∨
        (∃ c0 c1 XB, H = [false, c0, c1] ++ XB ++ [true] ∧ BV.Bits.valOf [c0, c1] ≠ 3 ∧
          XB.length = 4 * (4 + BV.Bits.valOf [c0, c1])) := by
      rcases hform with e | e | e
      · exact absurd e hnl
      · exact Or.inl e
      · exact Or.inr e
    have hbits : bytesToBits m = wb ++ H ++ (zeros (padLen (wb.length + H.length)) ++ B ++ r1) := by
      rw [hsm.bits, List.append_assoc wb F, List.append_assoc wb, hshape.split]
      simp [List.append_assoc]
    have hwo14 : wb.length ≤ 14 := by rcases hsm.wlen with e | e | e | e <;> omega
    obtain ⟨_, hval⟩ := detect_agrees m w wb.length wb H _ hsm.bytes hla hparse rfl hwo14 hbits hform'
    have := hval v hv
    subst this
    exact ⟨hv, hvfit⟩

inductive LaterInputs (w0 : Nat) (lg0 : Bool) : List (List Nat) → List (List MetaBlock) → Prop where
  | nil : LaterInputs w0 lg0 [] []
  | cons (m : List Nat) (ms : List (List Nat)) (bl : List MetaBlock) (bls : List (List MetaBlock))
      (h : LaterInput w0 lg0 m bl) (hrest : LaterInputs w0 lg0 ms bls) : LaterInputs w0 lg0 (m :: ms) (bl :: bls)

theorem laterAll_of_inputs (w0 : Nat) (lg0 : Bool) (hw0 : w0 ≤ 30) (ms : List (List Nat))
    (bls : List (List MetaBlock)) (h : LaterInputs w0 lg0 ms bls) :
    ∃ ds, ds.map (·.m) = ms ∧ LaterAll (w0 ||| (if lg0 then LARGE_WINDOW_FLAG else 0)) ds bls := by
  induction h with
  | nil => exact ⟨[], rfl, LaterAll.nil⟩
  | cons m ms bl bls hm _ ih =>
    obtain ⟨ds, e, hall⟩ := ih
    obtain ⟨d, H, B, C, ed, hok, hbits, hspec⟩ := later_of_input w0 lg0 hw0 m bl hm
    exact ⟨d :: ds, by simp [ed, e], LaterAll.cons d ds bl bls H B C hok hbits hspec hall⟩

inductive FedBytes : List (List Nat) → List (List (List Nat) × List Nat) → Prop where
  | nil : FedBytes [] []
  | cons (m : List Nat) (ms : List (List Nat)) (bufs : List (List Nat)) (caps : List Nat)
      (rest : List (List (List Nat) × List Nat)) (hne : bufs ≠ []) (hfl : bufs.flatten = m) (h : FedBytes ms rest) :
      FedBytes (m :: ms) ((bufs, caps) :: rest)

theorem fed_of_bytes : ∀ (ds : List MemberData) (rest : List (List (List Nat) × List Nat)),
    FedBytes (ds.map (·.m)) rest → Fed ds rest := by
  intro ds
  induction ds with
  | nil => intro rest h; cases h; exact Fed.nil
  | cons d ds ih =>
    intro rest h
    simp only [List.map_cons] at h
    cases h with
    | cons _ _ bufs caps rest' hne hfl hr => exact Fed.cons d ds bufs caps rest' hne hfl (ih rest' hr)

end BV.Concat
