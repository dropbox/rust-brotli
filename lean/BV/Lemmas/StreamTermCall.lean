import BV.Lemmas.StreamTermSlow
import BV.Lemmas.StreamTermFast
import BV.Lemmas.StreamTermMd
import BV.Lemmas.StreamTop
/-
Termination of a whole `compress_stream` call: a bound on the staging buffer and a fuel that depend on
the state and the call alone (`callCap`, `callPot`).
-/
namespace BV.Stream
open BV.Bits

/-- a `Cap` bound that is a function of the state and the call alone (`cap_callCap`).  The trailing `+ 2 * n` makes the third
conjunct of `Cap` (`2 * n + 527 ≤ M`) hold without `last_flush_pos_ ≤ input_pos_`: the subtraction in the span is truncated,
so the span alone need not reach `n` -/
def callCap (s : St) (n : Nat) : Nat := max s.storageSize (2 * (s.inputPos + n - s.lastFlushPos) + 527 + 2 * n)

theorem cap_callCap (s : St) (input : Bytes) (cap : Nat) :
    Cap (callCap s input.length) s { input := input, availIn := input.length, availOut := cap } := by
  unfold Cap callCap
  refine ⟨Nat.le_max_left _ _, ?_, ?_⟩
  · exact Nat.le_trans (by show 2 * (s.inputPos + input.length - s.lastFlushPos) + 527 ≤ 2 * (s.inputPos + input.length - s.lastFlushPos) + 527 + 2 * input.length; omega) (Nat.le_max_right _ _)
  · exact Nat.le_trans (by show 2 * input.length + 527 ≤ 2 * (s.inputPos + input.length - s.lastFlushPos) + 527 + 2 * input.length; omega) (Nat.le_max_right _ _)

/-- fuel that suffices for one call (`n` bytes offered, `M` a bound on the staging buffer during the
call: `Cap M`, e.g. `callCap s n`): above the potential of each of the three loops at its entry
(`slowPot_le`, `fastPot_le`, `mdPot_le`).  The final `+ 16` covers the 8 header bytes in `mdPot_le` (and the 4 of `padB`
in the other two); it is not tight -/
def callPot (M : Nat) (s : St) (n : Nat) : Nat :=
  (2 * n + 2) * (M + 8) + 17 * n + s.pending.length + 16

theorem slowPot_le (op M : Nat) (s : St) (io : Io) : slowPot op M s io ≤ (2 * io.availIn + 1) * (M + 8) + 4 + s.pending.length := by
  unfold slowPot
  have := padB_le s
  have h1 : (2 * io.availIn + (if canEnc op s io then 1 else 0)) * (M + 8) ≤ (2 * io.availIn + 1) * (M + 8) := by
    apply Nat.mul_le_mul_right
    split <;> omega
  omega

theorem fastPot_le (M : Nat) (s : St) (io : Io) : fastPot M s io ≤ (io.availIn + 1) * (M + 8) + 4 + s.pending.length := by
  unfold fastPot
  have := padB_le s
  have h1 : (io.availIn + (if s.streamState = .processing then 1 else 0)) * (M + 8) ≤ (io.availIn + 1) * (M + 8) := by
    apply Nat.mul_le_mul_right
    split <;> omega
  omega

theorem mdPot_le (M : Nat) (s : St) : mdPot M s ≤ (M + 8) + 8 + 17 * s.remainingMetadata + s.pending.length := by
  unfold mdPot
  have h1 : (if s.inputPos ≠ s.lastFlushPos then 1 else 0) * (M + 8) ≤ M + 8 := by
    split
    · rw [Nat.one_mul]; exact Nat.le_refl _
    · rw [Nat.zero_mul]; exact Nat.zero_le _
  have h2 : (if s.streamState = .metadataHead then 8 else 0) ≤ 8 := by split <;> omega
  omega

theorem mul_mono_aux {a b X : Nat} (h : a ≤ b) : a * X ≤ b * X := Nat.mul_le_mul_right X h

/-- NO hypothesis on the oracle: what an invocation leaves pending is bounded by the machine's own
`storage[1 + (storage_ix >> 3)]` checks.  `hl` is true initially and preserved (`compressStream_lbb`, Lemmas/StreamLtsCall). -/
theorem compressStream_terminates {o : Oracle} {M fuel op cap : Nat} {input : Bytes} {s : St}
    (hC : Cap M s { input := input, availIn := input.length, availOut := cap })
    (hop : op ≤ 3) (hI : Inv s) (hw : s.inputPos + input.length < two64) (hl : s.lastBytesBits ≤ 14)
    (hfuel : callPot M s input.length < fuel) :
    compressStream o fuel s op input cap ≠ .fuel := by
  unfold callPot at hfuel
  have hX : M + 8 ≤ (2 * input.length + 2) * (M + 8) := Nat.le_mul_of_pos_left _ (Nat.succ_pos _)
  rcases compressStream_dispatch (o := o) (fuel := fuel) (input := input) (cap := cap) hop hI with
    ⟨_, s0, _, heq⟩ | ⟨_, ⟨_, hP, heq⟩ | ⟨hop2, hrm, hacc, ⟨hfm, heq⟩ | ⟨heq, _⟩⟩⟩
  · rw [heq]; nofun
  · rw [heq]
    have hMC : MCap M (mdEnter (updateSizeHint s 0) input.length) := by
      rw [mdEnter_eq, updateSizeHint_eq]; exact mcap_of_cap hC
    refine mdLoop_terminates fuel _ _ hP (by rw [mdEnter_eq, updateSizeHint_eq]; exact hl) hMC ?_
    have hb := mdPot_le M (mdEnter (updateSizeHint s 0) input.length)
    have hrm : (mdEnter (updateSizeHint s 0) input.length).remainingMetadata = input.length := hP.avail.symm
    have hp : (mdEnter (updateSizeHint s 0) input.length).pending = s.pending := by rw [mdEnter_eq, updateSizeHint_eq]; rfl
    rw [hrm, hp] at hb
    omega
  · rw [heq]
    unfold compressStreamFast
    rw [if_neg (by rcases hfm.1 with h | h <;> simp [h])]
    have hb := fastPot_le M s (Io.start input cap)
    have h2 : (input.length + 1) * (M + 8) ≤ (2 * input.length + 2) * (M + 8) := Nat.mul_le_mul_right _ (by omega)
    have hnf := fastLoop_terminates (o := o) (op := op) (M := M) hop2 fuel s (Io.start input cap) hl hC
      (by have : (Io.start input cap).availIn = input.length := rfl
          rw [this] at hb; omega)
    cases hfl : fastLoop o op fuel s (Io.start input cap) with
    | ok x => nofun
    | panic => nofun
    | fuel => exact absurd hfl hnf
  · rw [heq]
    have hb := slowPot_le op M s (Io.start input cap)
    have h2 : (2 * input.length + 1) * (M + 8) ≤ (2 * input.length + 2) * (M + 8) := Nat.mul_le_mul_right _ (by omega)
    exact slowLoop_terminates (c0 := s.streamState) (n := input.length) (total := s.inputPos + input.length) hop2 fuel s _
      ⟨hI, rfl, hw, hrm, Nat.le_refl _, hacc, Or.inl rfl⟩ hl hC
      (by have : (Io.start input cap).availIn = input.length := rfl
          rw [this] at hb; omega)

end BV.Stream
