import BV.Lemmas.StreamTop
namespace BV.Stream
open BV.Bits

theorem isFinished_iff {s : St} : isFinished s = true ↔ s.streamState = .finished ∧ s.pending.length = 0 := by
  simp [isFinished]

theorem takeOutput_fresh {s : St} (hf : IsFresh s) (size : Nat) : takeOutput s size = .ok (s, []) := by
  obtain ⟨p, rfl⟩ := hf
  simp [takeOutput, takeSliceOk, takeCount, St.new]

theorem takeOutput_params {s s' : St} {size : Nat} {out : Bytes} (h : takeOutput s size = .ok (s', out)) :
    s'.params = s.params ∧ s'.isInitialized = s.isInitialized := by
  rcases takeOutput_cases h with ⟨rfl, _⟩ | ⟨rfl, _⟩
  · exact ⟨rfl, rfl⟩
  · rw [checkFlushComplete_eq]
    exact ⟨rfl, rfl⟩

end BV.Stream
