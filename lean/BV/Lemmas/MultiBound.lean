/-
Helper lemmas for C02 `multi_succeeds_when_sized`: the arithmetic of
`BrotliEncoderMaxCompressedSize(+Multi)` against per-job size bounds, and the per-job size bound
itself, from C08's `streamStart_length` and `run_bound` (hypotheses `Guard`/`Run`, `BlocksOK` of the
payload encoder).
-/
import BV.Lemmas.MultiRange
import BV.Lemmas.HeaderStreamBound

namespace BV.Lemmas.Multi
open BV.Multi

def sumTo (f : Nat → Nat) : Nat → Nat
  | 0 => 0
  | k + 1 => sumTo f k + f k

theorem sumTo_le (f g : Nat → Nat) : ∀ k, (∀ i, i < k → f i ≤ g i) → sumTo f k ≤ sumTo g k := by
  intro k
  induction k with
  | zero => intro _; exact Nat.le_refl _
  | succ k ih =>
    intro h
    have := ih fun i hi => h i (by omega)
    have := h k (by omega)
    simp only [sumTo]; omega

def piece (t n i : Nat) : Nat := bnd t n (i + 1) - bnd t n i

theorem sum_piece (t n : Nat) : ∀ k, sumTo (piece t n) k = bnd t n k := by
  intro k
  induction k with
  | zero => simp [sumTo, bnd_zero]
  | succ k ih =>
    have hm : bnd t n k ≤ bnd t n (k + 1) := bnd_mono t n (show k ≤ k + 1 by omega)
    simp only [sumTo, ih, piece]
    generalize bnd t n k = a at hm ⊢
    generalize bnd t n (k + 1) = c at hm ⊢
    omega

theorem blocks_step (a c x : Nat) (h : a ≤ c) (hx : x ≤ a / 16384) : x + (c - a) / 16384 ≤ c / 16384 := by
  omega

theorem sum_piece_blocks (t n : Nat) : ∀ k, sumTo (fun i => piece t n i / 16384) k ≤ bnd t n k / 16384 := by
  intro k
  induction k with
  | zero => simp [sumTo]
  | succ k ih =>
    have hm : bnd t n k ≤ bnd t n (k + 1) := bnd_mono t n (show k ≤ k + 1 by omega)
    simp only [sumTo, piece]
    exact blocks_step _ _ _ hm ih

/-- the true value is `+ 23` whenever the `tail` quirk fires, i.e. for every `n ≥ 2^14` -/
theorem maxCompressedSize_ge (n : Nat) (h : n < 2 ^ 62) (hn : 0 < n) :
    n + 4 * (n / 16384) + 22 ≤ maxCompressedSize n := by
  unfold maxCompressedSize
  simp only [Nat.shiftRight_eq_div_pow, U64]
  have hd : n / 2 ^ 14 < 2 ^ 48 := by
    apply Nat.div_lt_of_lt_mul
    have : (2 : Nat) ^ 14 * 2 ^ 48 = 2 ^ 62 := by decide
    omega
  have e14 : (2 : Nat) ^ 14 = 16384 := by decide
  rw [e14] at hd ⊢
  have h48 : (2 : Nat) ^ 48 = 281474976710656 := by decide
  have h62 : (2 : Nat) ^ 62 = 4611686018427387904 := by decide
  have h64 : (2 : Nat) ^ 64 = 18446744073709551616 := by decide
  rw [h48] at hd
  rw [h62] at h
  rw [h64]
  rw [if_neg (by omega)]
  rw [Nat.mod_eq_of_lt (a := 4 * (n / 16384)) (by omega)]
  split
  · rw [Nat.mod_eq_of_lt (a := 2 + 4 * (n / 16384) + 4 + 1) (by omega),
      Nat.mod_eq_of_lt (a := n + (2 + 4 * (n / 16384) + 4 + 1)) (by omega), if_neg (by omega)]
    omega
  · rw [Nat.mod_eq_of_lt (a := 2 + 4 * (n / 16384) + 3 + 1) (by omega),
      Nat.mod_eq_of_lt (a := n + (2 + 4 * (n / 16384) + 3 + 1)) (by omega), if_neg (by omega)]
    omega

theorem maxCompressedSize_zero : maxCompressedSize 0 = 17 := by decide

/-- `c0` is apart from `ci` because job 0 may carry the magic header -/
theorem sized_arith_add (e t n c0 ci : Nat) (len : Nat → Nat) (ht : 0 < t) (hn : n < 2 ^ 62) (hn0 : 0 < n)
    (hc : c0 + ci * (t - 1) + e ≤ 22 + 8 * t)
    (h0 : len 0 ≤ piece t n 0 + 4 * (piece t n 0 / 16384) + c0)
    (hi : ∀ i, 0 < i → i < t → len i ≤ piece t n i + 4 * (piece t n i / 16384) + ci) :
    sumTo len t + e ≤ maxCompressedSizeMulti n t := by
  have key : ∀ k, 0 < k → k ≤ t →
      sumTo len k ≤ sumTo (piece t n) k + 4 * sumTo (fun i => piece t n i / 16384) k + c0 + ci * (k - 1) := by
    intro k
    induction k with
    | zero => intro h; omega
    | succ k ih =>
      intro _ hk
      by_cases hk0 : k = 0
      · subst hk0; simp only [sumTo]; omega
      · have := ih (by omega) (by omega)
        have := hi k (by omega) (by omega)
        have e : ci * (k + 1 - 1) = ci * (k - 1) + ci := by
          have : k + 1 - 1 = (k - 1) + 1 := by omega
          rw [this, Nat.mul_add, Nat.mul_one]
        simp only [sumTo]; omega
  have h1 := key t ht (Nat.le_refl t)
  rw [sum_piece, bnd_top t n ht] at h1
  have h2 := sum_piece_blocks t n t
  rw [bnd_top t n ht] at h2
  have h3 := maxCompressedSize_ge n hn hn0
  unfold maxCompressedSizeMulti
  omega

theorem sized_arith (t n c0 ci : Nat) (len : Nat → Nat) (ht : 0 < t) (hn : n < 2 ^ 62) (hn0 : 0 < n)
    (hc : c0 + ci * (t - 1) + 1 ≤ 22 + 8 * t)
    (h0 : len 0 ≤ piece t n 0 + 4 * (piece t n 0 / 16384) + c0)
    (hi : ∀ i, 0 < i → i < t → len i ≤ piece t n i + 4 * (piece t n i / 16384) + ci) :
    sumTo len t + 1 ≤ maxCompressedSizeMulti n t :=
  sized_arith_add 1 t n c0 ci len ht hn hn0 hc h0 hi

theorem sized_arith_zero (t n c0 ci : Nat) (len : Nat → Nat) (ht : 0 < t) (hn : n < 2 ^ 62) (hn0 : 0 < n)
    (hc : c0 + ci * (t - 1) ≤ 22 + 8 * t)
    (h0 : len 0 ≤ piece t n 0 + 4 * (piece t n 0 / 16384) + c0)
    (hi : ∀ i, 0 < i → i < t → len i ≤ piece t n i + 4 * (piece t n i / 16384) + ci) :
    sumTo len t ≤ maxCompressedSizeMulti n t :=
  sized_arith_add 0 t n c0 ci len ht hn hn0 hc h0 hi

theorem sumTo_congr (f g : Nat → Nat) : ∀ k, (∀ i, i < k → f i = g i) → sumTo f k = sumTo g k := by
  intro k
  induction k with
  | zero => intro _; rfl
  | succ k ih => intro h; simp only [sumTo, ih fun i hi => h i (by omega), h k (by omega)]

theorem sumTo_take (l : List (List Nat)) : ∀ k, k ≤ l.length →
    sumTo (fun i => (l.getD i []).length) k = ((l.take k).map List.length).sum := by
  intro k
  induction k with
  | zero => intro _; rfl
  | succ k ih =>
    intro hk
    have hlt : k < l.length := by omega
    have e := ih (by omega)
    rw [List.take_succ, List.getElem?_eq_getElem hlt]
    simp only [sumTo, List.map_append, List.sum_append, Option.toList, List.map_cons, List.map_nil,
      List.sum_cons, List.sum_nil, Nat.add_zero]
    rw [e]
    simp [List.getD_eq_getElem?_getD, List.getElem?_eq_getElem hlt]

theorem sumTo_lengths (l : List (List Nat)) :
    sumTo (fun i => (l.getD i []).length) l.length = (l.map List.length).sum := by
  rw [sumTo_take l l.length (Nat.le_refl _), List.take_length]

open BV.Header

/-- THE remaining hypothesis about the encoder in `multi_succeeds_when_sized`: `len` is the byte length of a
never-flushed single-stream output of C08's shape for the input `x` under parameters `p` -/
def JobStream (p : Params) (x : List Nat) (len : Nat) : Prop :=
  ∃ st, streamStart true p x = .ok st ∧
    ((st.whole = true ∧ len = st.bits.length / 8) ∨
     (st.whole = false ∧ ∃ lens Pm, Run st.bits.length lens Pm ∧ BlocksOK st.prelude lens ∧
        lens.sum + st.prelude = x.length ∧ len = (Pm + 2 + 7) / 8))

/-- what a job may add to `|x| + 4·(|x| ≫ 14)`: by header form (`wmax` = an upper bound of the
window-field length: 14 always, 4 for lgwin 16 and 18..24 in the normal form).  Each constant is the
head in whole bytes for `W = wmax` and the longest size field (`k = 5`), plus 6 (`headLen_le_jobSlack`):
`⌊W/8⌋` without magic block and prelude, `⌊(W+27)/8⌋` before a catable prelude, `⌊(W+21)/8⌋ + 4 + 5` with
the magic block and 3 more before a prelude. -/
def jobSlack (wmax : Nat) (magic catable : Bool) : Nat :=
  if wmax ≤ 4 then (if magic then (if catable then 21 else 18) else if catable then 9 else 6)
  else (if magic then (if catable then 22 else 19) else if catable then 11 else 7)

/-- the 6: what the empty last meta-block and the roundings can add -/
theorem headLen_le_jobSlack (W wmax k pre : Nat) (magic catable : Bool) (hW : W ≤ wmax) (hW14 : W ≤ 14)
    (hk : k ≤ 5) (hpre : catable = false → pre = 0) :
    headLen W magic k pre / 8 + 6 ≤ pre + jobSlack wmax magic catable := by
  unfold jobSlack
  cases magic
  · rw [headLen_false]
    by_cases h4 : wmax ≤ 4 <;> by_cases hp : pre = 0 <;> cases catable <;>
      simp only [h4, hp, if_true, if_false, Bool.false_eq_true, forall_const] at hpre ⊢ <;> omega
  · rw [headLen_true]
    by_cases h4 : wmax ≤ 4 <;> by_cases hp : pre = 0 <;> cases catable <;>
      simp only [h4, hp, if_true, if_false, Bool.false_eq_true, forall_const] at hpre ⊢ <;> omega

theorem jobStream_le (p : Params) (x : List Nat) (len wmax : Nat) (hq : 2 ≤ p.quality) (hh : p.sizeHint < 2 ^ 35)
    (hn : x.length < 2 ^ 54) (hW : (ensureInitialized true p).lastBytesBits ≤ wmax)
    (h : JobStream p x len) :
    len ≤ x.length + 4 * (x.length / 2 ^ 14) + jobSlack wmax p.magicNumber p.catable := by
  obtain ⟨st, hs, hcase⟩ := h
  obtain ⟨s1, s2, s3⟩ := streamStart_length p x st hq (by omega) hs
  have hk : (encodeBase128 (effectiveParams p x.length).sizeHint).length ≤ 5 := by
    have := effective_hint_lt35 p x.length hh
    exact encodeBase128_length_le _ 5 (by decide) (by decide) (by omega) (by omega)
  have hpre : p.catable = false → st.prelude = 0 := by intro hc; rw [s1, hc]; rfl
  have hle : st.prelude ≤ x.length := by rw [s1]; split <;> omega
  have hhead := headLen_le_jobSlack _ wmax _ st.prelude p.magicNumber p.catable hW (lastBytesBits_le p).1 hk hpre
  generalize headLen _ _ _ _ = H at s3 hhead
  rcases hcase with ⟨hw, hlen⟩ | ⟨hw, lens, Pm, hrun, hblocks, hsum, hlen⟩
  · rw [if_pos (s2.mp hw)] at s3
    omega
  · rw [if_neg (fun e => Bool.false_ne_true (hw.symm.trans (s2.mpr e)))] at s3
    have hb := run_bound hrun st.prelude hblocks
    have hne : lens ≠ [] := by
      rintro rfl
      exact Bool.false_ne_true (hw.symm.trans (s2.mpr (by simpa using hsum.symm)))
    rw [if_neg hne, hsum, s3] at hb
    omega

end BV.Lemmas.Multi
