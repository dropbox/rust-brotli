import BV.Lemmas.StreamEffect
/-!
Framing, atom by atom: every atomic step appends exactly the bits of its event to the emitted
bit stream `bits(delivered ++ pending) ++ carry` — nothing is dropped, duplicated or reordered.
-/

namespace BV.Stream
open BV.Bits

structure FrameInv (s : St) : Prop where
  carry : CarryOK s
  body : s.streamState = .metadataBody → s.lastBytesBits = 0 ∧ s.inputPos = s.lastFlushPos

theorem frameInv_of_eq {s s' : St} (hF : FrameInv s) (h1 : s'.lastBytes = s.lastBytes) (h2 : s'.lastBytesBits = s.lastBytesBits)
    (h3 : s'.streamState = s.streamState) (h4 : s'.inputPos = s.inputPos) (h5 : s'.lastFlushPos = s.lastFlushPos) :
    FrameInv s' := by
  refine ⟨?_, ?_⟩
  · unfold CarryOK; rw [h1, h2]; exact hF.carry
  · intro hb; rw [h2, h4, h5]; exact hF.body (h3 ▸ hb)

theorem carryOK_of_carryOf {s : St} {w : Writer} (h1 : s.lastBytes = (carryOf w).1) (h2 : s.lastBytesBits = (carryOf w).2) :
    CarryOK s := by
  unfold CarryOK; rw [h1, h2]; exact (carryOf_lt w).1

theorem carryOK_eq {s s' : St} (h : CarryOK s) (h1 : s'.lastBytes = s.lastBytes) (h2 : s'.lastBytesBits = s.lastBytesBits) :
    CarryOK s' := by
  unfold CarryOK; rw [h1, h2]; exact h

theorem encMagic_carryOK {s : St} (w0 : Writer) (h : CarryOK s) : CarryOK (encMagic s w0).1 := by
  unfold encMagic
  split
  · exact carryOK_of_carryOf rfl rfl
  · exact h

theorem encPrelude_carryOK {s s' : St} {w w' : Writer} {hdr hdr' bytes : Nat} (hc : CarryOK s)
    (h : encPrelude s w hdr bytes = .ok (s', w', hdr')) : CarryOK s' := by
  rcases encPrelude_ok h with ⟨_, _, rfl | rfl⟩ | ⟨_, _, rfl⟩
  · exact hc
  · exact hc
  · exact carryOK_of_carryOf rfl rfl

theorem encodeData_carryOK {o : Oracle} {s s' : St} {site : Nat} {il ff : Bool} {req : Req} (hc : CarryOK s)
    (h : encodeData o s site il ff = .ok (s', true, req)) : CarryOK s' := by
  obtain ⟨_, hcases⟩ := encodeData_ok_cases h
  rcases hcases with ⟨_, hh, _⟩ | ⟨_, _, hh, _⟩ | ⟨_, _, hrest⟩
  · simp at hh
  · simp at hh
  · obtain ⟨s2, w, hdr, hpre3, hpay⟩ := encRest_ok hrest
    have h1 : CarryOK (encEntry s il) := by rw [encEntry_eq]; exact hc
    have h2 := encMagic_carryOK s.carry h1
    have h3 : CarryOK s2 := encPrelude_carryOK h2 hpre3
    obtain ⟨_, _, hcase⟩ := encPayload_spec hpay
    rcases hcase with ⟨_, _, c2, c3, _⟩ | ⟨_, _, c2, c3, _⟩
    · exact carryOK_eq h3 c2 c3
    · exact carryOK_of_carryOf c2 c3

theorem encodeWindowBits_ok (w : Int) (l : Bool) (h1 : 10 ≤ w) (h2 : l = false → w ≤ 24) :
    (encodeWindowBits w l).1 < 2 ^ (encodeWindowBits w l).2 := by
  unfold encodeWindowBits
  split
  · simp only
    refine Nat.lt_of_le_of_lt (Nat.mod_le _ _) ?_
    apply Nat.or_lt_two_pow
    · have : w.toNat % 64 < 64 := Nat.mod_lt _ (by omega)
      omega
    · omega
  · rename_i hl
    have hw := h2 (by simpa using hl)
    split
    · simp
    · split
      · simp
      · split
        · simp only
          refine Nat.lt_of_le_of_lt (Nat.mod_le _ _) ?_
          apply Nat.or_lt_two_pow
          · omega
          · omega
        · simp only
          refine Nat.lt_of_le_of_lt (Nat.mod_le _ _) ?_
          apply Nat.or_lt_two_pow
          · omega
          · omega

/-- the stream machine's copy of `SanitizeParams` confines `lgwin` by the same `if` cascade as the header
model's (`BV.Header.clamp_eq`, proved the same way there; not imported, that would bring the header model
with its harvested literals under every file about runs) -/
theorem sanitize_lgwin_eq (p : Params) :
    (sanitize p).lgwin = max 10 (min (if p.largeWindow = true then 30 else 24) p.lgwin) := by
  show (if p.lgwin < 10 then 10 else if p.lgwin > 24 then (if p.largeWindow = true then (if p.lgwin > 30 then 30 else p.lgwin) else 24)
    else p.lgwin) = _
  cases p.largeWindow <;> simp only [Bool.false_eq_true, if_true, if_false] <;> omega

theorem sanitize_lgwin (p : Params) : 10 ≤ (sanitize p).lgwin ∧ ((sanitize p).largeWindow = false → (sanitize p).lgwin ≤ 24) := by
  rw [sanitize_lgwin_eq]
  refine ⟨by omega, fun hl => ?_⟩
  have hl' : p.largeWindow = false := hl
  rw [hl']; simp only [Bool.false_eq_true, if_false]; omega

theorem frameInv_fresh {s : St} (h : IsFresh s) : FrameInv (ensureInitialized s) := by
  obtain ⟨p, rfl⟩ := h
  obtain ⟨g1, g2⟩ := sanitize_lgwin p
  refine ⟨?_, ?_⟩
  · unfold CarryOK
    simp only [ensureInitialized, St.new, Bool.false_eq_true, ↓reduceIte]
    apply encodeWindowBits_ok
    · split <;> omega
    · intro hl
      have := g2 hl
      split <;> omega
  · intro hb
    simp [ensureInitialized, St.new] at hb

theorem metadataHeaderBits_split (n : Nat) (hn : n ≤ 16777216) (s : St) :
    metadataHeaderBits n s.carry = s.carry ++ mdHeaderTail n s.lastBytesBits := by
  rw [metadataHeaderBits_eq n hn]
  unfold padToByte mdHeaderTail
  have hc := s.carry_length
  rw [List.length_append, hc, List.append_assoc]

theorem emitted_fast (d : Bytes) (s : St) (io : Io) (ans : Ans) (req : Req) (bs : Nat) (ip il ff : Bool)
    (hp : s.pending = []) :
    emitted (d ++ (fastIo s io ans req bs ip).out) (fastSt s ans ip il ff) = emitted (d ++ io.out) s ++ ans.bits := by
  rw [emitted_def, emitted_def, hp, List.append_nil]
  cases ip
  · simp only [fastSt, fastIo, Bool.false_eq_true, ↓reduceIte]
    rw [bytesBits_append, List.append_assoc, pack_unpack]
    exact (List.append_assoc _ _ _).symm
  · simp only [fastSt, fastIo, ↓reduceIte, hp, List.append_nil]
    rw [← List.append_assoc, bytesBits_append, List.append_assoc, pack_unpack]
    exact (List.append_assoc _ _ _).symm

theorem step_frameInv {o : Oracle} {op : Nat} {s s' : St} {io io' : Io} {e : Ev} (hF : FrameInv s)
    (hs : Step o op (s, io) e (s', io')) : FrameInv s' := by
  rcases hs.effect with ⟨hf, _, rfl, _⟩ | ⟨hI, ha⟩
  · exact frameInv_fresh hf
  · cases ha with
    | copy hw hop hnf hst => exact ⟨hF.carry, fun hb => by cases hst.symm.trans hb⟩
    | pad hc => exact ⟨Nat.two_pow_pos 0, fun hb => by cases hc.1.symm.trans hb⟩
    | @enc k site il ff s2 req st hE hI0 hpend he hfr =>
      refine ⟨carryOK_eq (encodeData_carryOK (s := s.hint k) hF.carry he) rfl rfl, fun hb => ?_⟩
      obtain ⟨h1, h2⟩ := hE.body (Or.inr hb)
      exact absurd (hF.body h1).2 h2
    | flushed => exact ⟨hF.carry, fun hb => by cases hb⟩
    | fastFlush => exact ⟨hF.carry, fun hb => by cases hb⟩
    | fastBlock hfm hop hrm hnp hpend hst =>
      exact ⟨(carryOf_lt _).1, fun hb => by rw [hst] at hb; cases markState_body hb⟩
    | mdEnter hop hentry hmv =>
      refine ⟨hF.carry, fun hb => ?_⟩
      rcases hmv with ⟨_, _, rfl⟩ | ⟨_, _, rfl⟩
      · cases hb
      · exact hF.body hb
    | mdHead hM hop hpend hlf => exact ⟨Nat.two_pow_pos 0, fun _ => ⟨rfl, hlf⟩⟩
    | mdDone => exact ⟨hF.carry, fun hb => by cases hb⟩
    | _ => exact frameInv_of_eq hF rfl rfl rfl rfl rfl

theorem carry_nil_of_lbb {s : St} (h : s.lastBytesBits = 0) : bitsOf s.lastBytesBits s.lastBytes = [] := by
  rw [h]; rfl

theorem step_emitted {o : Oracle} {op : Nat} {s s' : St} {io io' : Io} {e : Ev} (hF : FrameInv s)
    (hs : Step o op (s, io) e (s', io')) (d : Bytes) :
    emitted (d ++ io'.out) s' = emitted (d ++ io.out) s ++ e.bits o := by
  rcases hs.effect with ⟨hf, rfl, rfl, rfl⟩ | ⟨hI, ha⟩
  · obtain ⟨p, rfl⟩ := hf
    rw [emitted_def, emitted_def]
    simp [ensureInitialized, St.new, Ev.bits, St.carry, bitsOf]
  · cases ha with
    | pad hc =>
      rw [emitted_def, emitted_def]
      show bytesBits (d ++ io.out ++ (s.pending ++ _)) ++ bitsOf 0 0 = _
      rw [← List.append_assoc, bytesBits_append, sync_block_bits_gen _ _ hF.carry]
      simp [Ev.bits, padBits, bitsOf, List.append_assoc]
    | push =>
      rw [emitted_def, emitted_def]
      show bytesBits (d ++ (io.out ++ s.pending.take _) ++ s.pending.drop _) ++ bitsOf s.lastBytesBits s.lastBytes = _
      simp [Ev.bits, List.append_assoc]
    | @enc k site il ff s2 req st hE hI0 hpend he hfr =>
      have h0 : emitted (d ++ io.out) { s2 with streamState := st } = emitted (d ++ io.out) s2 := rfl
      have h1 : emitted (d ++ io.out) (s.hint k) = emitted (d ++ io.out) s := rfl
      exact h0.trans (h1 ▸ emitted_encode (d := d ++ io.out) he (show (s.hint k).pending = [] from hpend))
    | fastBlock hfm hop hrm hnp hpend => exact emitted_fast d { s with storageSize := _ } io _ _ _ _ _ _ hpend
    | mdHead hM hop hpend hlf hst hok =>
      rw [emitted_def, emitted_def, hpend]
      have hal : (metadataHeaderBits s.remainingMetadata s.carry).length % 8 = 0 := by
        rw [metadataHeaderBits_eq _ hM.rmLe, padToByte_length]; exact Nat.mul_mod_left _ _
      show bytesBits (d ++ io.out ++ toBytes _) ++ bitsOf 0 0 = _
      rw [bytesBits_append, bytesBits_toBytes _ hal, metadataHeaderBits_split _ hM.rmLe]
      simp [Ev.bits, bitsOf, St.carry, List.append_assoc]
    | mdOut hM hop hpend hlf hst =>
      rw [emitted_def, emitted_def]
      show bytesBits (d ++ (io.out ++ _) ++ s.pending) ++ bitsOf s.lastBytesBits s.lastBytes = _
      rw [hpend, carry_nil_of_lbb (hF.body hst).1]
      simp [Ev.bits, bytesBits_append, List.append_assoc]
    | mdTiny hM hop hpend hlf hst =>
      rw [emitted_def, emitted_def, hpend]
      show bytesBits (d ++ io.out ++ io.input.take _) ++ bitsOf s.lastBytesBits s.lastBytes = _
      rw [carry_nil_of_lbb (hF.body hst).1]
      simp [Ev.bits, bytesBits_append, List.append_assoc]
    | _ => exact (List.append_nil _).symm

end BV.Stream
