/-
Helper lemmas for C07: the termination measure `mu`.  A thread step strictly decreases it, a spurious
wake-up adds exactly 2, so a schedule has at most `mu + 2 * (its spurious wake-ups)` thread steps.
The last part (from `stepsToExit` on) is not about the measure: after `drop` every worker exits within a fixed number
of its own steps, and a fully joined batch leaves the pool idle (`idle_of_all_joined`); C07 `drop_stops_workers`,
`reusable`, `arc_one_after_all_joined` rest on it.
-/
import BV.Lemmas.PoolLive

namespace BV.Lemmas.Pool
open BV.Gen BV.FixedQueue BV.Pool BV.Lemmas.FixedQueue

def atB : WPc → Nat
  | .atLockB _ => 1
  | _ => 0

def alive : WPc → Nat
  | .exited => 0
  | _ => 1

/-- minor potential of a worker: steps it can take without any "real" progress -/
def mW : WPc → Nat
  | .woken => 2
  | .atLockA => 1
  | _ => 0

def mS : SPc → Nat
  | .woken => 2
  | .ready => 1
  | _ => 0

@[simp] theorem mS_ready : mS .ready = 1 := rfl
@[simp] theorem mS_woken : mS .woken = 2 := rfl
@[simp] theorem mS_waiting : mS .waiting = 0 := rfl
@[simp] theorem mS_joining (t : Nat) : mS (.joining t) = 0 := rfl

def progW : List Op → Nat
  | [] => 0
  | .spawn _ :: r => 4 + progW r
  | .join _ :: r => 1 + progW r
  | .unwrapInput :: r => 1 + progW r
  | .dropPool :: r => progW r

def hasDrop : List Op → Bool
  | [] => false
  | .dropPool :: _ => true
  | _ :: r => hasDrop r

/-- weight set aside for a `d` op that has not started: one step per handle and two more -/
def dropW (b : Bool) (n : Nat) : Nat := if b then n + 2 else 0

@[simp] theorem dropW_true (n : Nat) : dropW true n = n + 2 := rfl
@[simp] theorem dropW_false (n : Nat) : dropW false n = 0 := rfl

/-- the `d` op's share of `major`: the handles still to join once `drop` is in its loop, `dropW` before -/
def dropPartF (spc : SPc) (prog : List Op) (n : Nat) : Nat :=
  match spc with
  | .joining t => n + 1 - t
  | _ => dropW (hasDrop prog) n

@[simp] theorem dropPartF_ready (prog : List Op) (n : Nat) :
    dropPartF .ready prog n = dropW (hasDrop prog) n := rfl
@[simp] theorem dropPartF_woken (prog : List Op) (n : Nat) :
    dropPartF .woken prog n = dropW (hasDrop prog) n := rfl
@[simp] theorem dropPartF_waiting (prog : List Op) (n : Nat) :
    dropPartF .waiting prog n = dropW (hasDrop prog) n := rfl
@[simp] theorem dropPartF_joining (t : Nat) (prog : List Op) (n : Nat) :
    dropPartF (.joining t) prog n = n + 1 - t := rfl

@[simp] theorem atB_wake (p : WPc) : atB p.wake = atB p := by cases p <;> rfl
@[simp] theorem alive_wake (p : WPc) : alive p.wake = alive p := by cases p <;> rfl
theorem mW_wake (p : WPc) : mW p.wake ≤ mW p + 2 := by cases p <;> simp [WPc.wake, mW]
theorem mS_wake (p : SPc) : mS p.wake ≤ mS p + 2 := by cases p <;> simp [SPc.wake, mS]
@[simp] theorem dropPartF_wake (p : SPc) (prog : List Op) (n : Nat) :
    dropPartF p.wake prog n = dropPartF p prog n := by cases p <;> rfl

theorem wsum_mW_wake (ws : List WPc) : wsum mW (ws.map WPc.wake) ≤ wsum mW ws + 2 * ws.length := by
  induction ws with
  | nil => simp
  | cons a t ih =>
    simp only [List.map_cons, wsum_cons, List.length_cons]
    have := mW_wake a
    omega

/-- "real" progress still to be made.  The weights follow a job through its life, each stage one
less than the one before: spawn op 4, queued 3, running 2, unpublished 1, published 0 (its `join` op
weighs 1 on its own); a worker weighs 1 until it exits. -/
def major (s : State) : Nat :=
  progW s.prog + 3 * s.jobs.size + 2 * wsum holdsArc s.workers + wsum atB s.workers
    + wsum alive s.workers + dropPartF s.spc s.prog s.workers.length

def minor (s : State) : Nat := wsum mW s.workers + mS s.spc

/-- the weight `2n + 8` exceeds what a `notify_all` can add to `minor` -/
def mu (s : State) : Nat := major s * (2 * s.workers.length + 8) + minor s

/-- `+ 7`: one unit of `major` is worth `2n + 8` -/
theorem mu_lt_major {s s' : State} (hl : s'.workers.length = s.workers.length)
    (h1 : major s' + 1 ≤ major s) (h2 : minor s' ≤ minor s + 2 * s.workers.length + 7) :
    mu s' < mu s := by
  unfold mu
  rw [hl]
  have := Nat.mul_le_mul_right (2 * s.workers.length + 8) h1
  rw [Nat.add_mul] at this
  omega

theorem mu_lt_minor {s s' : State} (hl : s'.workers.length = s.workers.length)
    (h1 : major s' = major s) (h2 : minor s' < minor s) : mu s' < mu s := by
  unfold mu
  rw [hl, h1]
  omega

theorem major_setW {s : State} {i : Nat} {p : WPc} (hw : s.workers[i]? = some p) (p' : WPc) :
    major (s.setW i p') + (2 * holdsArc p + atB p + alive p)
      = major s + (2 * holdsArc p' + atB p' + alive p') := by
  have := wsum_set holdsArc p' hw
  have := wsum_set atB p' hw
  have := wsum_set alive p' hw
  simp only [major, setW_prog, setW_jobs, setW_workers, setW_spc, List.length_set]
  omega

theorem minor_setW {s : State} {i : Nat} {p : WPc} (hw : s.workers[i]? = some p) (p' : WPc) :
    minor (s.setW i p') + mW p = minor s + mW p' := by
  have := wsum_set mW p' hw
  simp only [minor, setW_workers, setW_spc]
  omega

theorem major_notifyAll (s : State) : major s.notifyAll = major s := by
  simp only [major, notifyAll_prog, notifyAll_jobs, notifyAll_workers, notifyAll_spc,
    wsum_map_wake _ holdsArc_wake, wsum_map_wake _ atB_wake, wsum_map_wake _ alive_wake,
    dropPartF_wake, List.length_map]

/-- `notify_all` can hand every thread two more lock acquisitions -/
theorem minor_notifyAll (s : State) : minor s.notifyAll ≤ minor s + 2 * s.workers.length + 2 := by
  have := wsum_mW_wake s.workers
  have := mS_wake s.spc
  simp only [minor, notifyAll_workers, notifyAll_spc]
  omega

theorem no_drop_after_drop {nsp : Nat} {j : List Nat} {r : List Op}
    (h : contractFrom nsp j true r = true) : hasDrop r = false := by
  induction r generalizing nsp j with
  | nil => rfl
  | cons op r ih =>
    cases op with
    | spawn _ => cases (contractFrom_spawn.mp h).1
    | join _ => cases (contractFrom_join.mp h).1
    | unwrapInput => exact ih h
    | dropPool => cases (contractFrom_drop.mp h).1

theorem dropPartF_head {s : State} (h : s.spc = .ready ∨ s.spc = .woken) (prog : List Op)
    (n : Nat) : dropPartF s.spc prog n = dropW (hasDrop prog) n := by
  rcases h with h | h <;> rw [h] <;> rfl

theorem mS_head {s : State} (h : s.spc = .ready ∨ s.spc = .woken) : 1 ≤ mS s.spc := by
  rcases h with h | h <;> rw [h] <;> decide

theorem major_log (s : State) (t : Nat) (e : Ev) : major (s.log t e) = major s := rfl
theorem minor_log (s : State) (t : Nat) (e : Ev) : minor (s.log t e) = minor s := rfl

theorem mW_le_two (p : WPc) : mW p ≤ 2 := by cases p <;> simp [mW]

theorem mu_setW_lt {s : State} {i : Nat} {p : WPc} (hw : s.workers[i]? = some p) (p' : WPc)
    (t : Nat) (e : Ev)
    (h : 2 * holdsArc p' + atB p' + alive p' < 2 * holdsArc p + atB p + alive p ∨
      (2 * holdsArc p' + atB p' + alive p' = 2 * holdsArc p + atB p + alive p ∧ mW p' < mW p)) :
    mu ((s.setW i p').log t e) < mu s := by
  have hM := major_setW hw p'
  have hm := minor_setW hw p'
  have := mW_le_two p'
  have hl : ((s.setW i p').log t e).workers.length = s.workers.length := List.length_set
  rcases h with h | ⟨h1, h2⟩
  · refine mu_lt_major hl ?_ ?_
    · rw [major_log]; omega
    · rw [minor_log]; omega
  · refine mu_lt_minor hl ?_ ?_
    · rw [major_log]; omega
    · rw [minor_log]; omega

/-- a worker leaves its critical section: the shared state `c` differs from `s` outside the worker list,
everybody is notified, worker `i` (not parked) moves from `p` to `p'` -/
theorem mu_notify_setW_lt {s c : State} {i : Nat} {p : WPc} (hws : c.workers = s.workers)
    (hw : s.workers[i]? = some p) (hp : p.wake = p) (p' : WPc) (t : Nat) (e : Ev)
    (hmaj : major c + (2 * holdsArc p' + atB p' + alive p') + 1
      ≤ major s + (2 * holdsArc p + atB p + alive p))
    (hmin : minor c = minor s) : mu (((c.notifyAll).setW i p').log t e) < mu s := by
  have hw' : c.notifyAll.workers[i]? = some p := by
    rw [notifyAll_workers, hws, List.getElem?_map, hw]; exact congrArg some hp
  have h1 := major_setW hw' p'
  have h2 := minor_setW hw' p'
  have h3 := major_notifyAll c
  have h4 := minor_notifyAll c
  have := mW_le_two p'
  rw [hws] at h4
  refine mu_lt_major (by simp [hws]) ?_ ?_
  · rw [major_log]; omega
  · rw [minor_log]; omega

theorem mS_le_two (q : SPc) : mS q ≤ 2 := by cases q <;> simp [mS]

/-- the submitter, at a loop head, finishes its turn in `s'` (with or without a `notify_all`): the
measure drops as soon as the submitter's share of `major` does -/
theorem mu_head_lt {s s' : State} (hspc : s.spc = .ready ∨ s.spc = .woken)
    (hws : s'.workers = s.workers ∨ s'.workers = s.workers.map WPc.wake)
    (hmaj : progW s'.prog + 3 * s'.jobs.size + dropPartF s'.spc s'.prog s.workers.length + 1
      ≤ progW s.prog + 3 * s.jobs.size + dropW (hasDrop s.prog) s.workers.length) :
    mu s' < mu s := by
  have hd := dropPartF_head hspc s.prog s.workers.length
  have hm := mS_head hspc
  have hm' := mS_le_two s'.spc
  have hl : s'.workers.length = s.workers.length := by rcases hws with h | h <;> simp [h]
  have hsum : wsum holdsArc s'.workers = wsum holdsArc s.workers ∧ wsum atB s'.workers = wsum atB s.workers ∧
      wsum alive s'.workers = wsum alive s.workers ∧
      wsum mW s'.workers ≤ wsum mW s.workers + 2 * s.workers.length := by
    rcases hws with h | h <;> rw [h]
    · exact ⟨rfl, rfl, rfl, Nat.le_add_right _ _⟩
    · exact ⟨wsum_map_wake _ holdsArc_wake _, wsum_map_wake _ atB_wake _, wsum_map_wake _ alive_wake _,
        wsum_mW_wake _⟩
  obtain ⟨e1, e2, e3, e4⟩ := hsum
  refine mu_lt_major hl ?_ ?_
  · simp only [major, hl, e1, e2, e3, hd]; omega
  · simp only [minor]; omega

theorem mu_step_run {s s' : State} {t : Nat} (I : Inv s) (L : InvL s)
    (h : step s (.run t) = .ok s') : mu s' < mu s := by
  cases trans_of_step I h with
  | exitA i hw => exact mu_setW_lt hw .exited _ _ (.inl (Nat.le_refl 1))
  | waitW i hw => exact mu_setW_lt hw .waiting _ _ (.inr ⟨rfl, Nat.le_refl 1⟩)
  | wake i hw => exact mu_setW_lt hw .atLockA _ _ (.inr ⟨rfl, Nat.le_refl 2⟩)
  | run i j hw =>
    exact mu_setW_lt (s := { s with arc := s.arc - 1 }) hw (.atLockB ⟨j.workId, j.index⟩) _ _
      (.inl (Nat.le_refl 3))
  | pop i j jobs' hw _ _ _ hsz =>
    exact mu_notify_setW_lt (s := s) (c := { s with jobs := jobs', numInProgress := s.numInProgress + 1 }) rfl hw rfl
      (.atRun j) _ _ (by have := hsz; simp only [major, holdsArc, atB, alive]; omega) rfl
  | publish i r results' hw =>
    exact mu_notify_setW_lt (s := s) (c := { s with numInProgress := s.numInProgress - 1, results := results' }) rfl hw rfl
      .atLockA _ _ (by simp only [major, holdsArc, atB, alive]; omega) rfl
  | spawn idx rest jobs' hspc hp _ _ _ _ _ hsz =>
    exact mu_head_lt hspc (.inr rfl) (by simp [hp, progW, hasDrop, hsz]; omega)
  | join n rest j r results' hspc hp =>
    exact mu_head_lt hspc (.inl rfl) (by simp [hp, progW, hasDrop]; omega)
  | joinWait n rest hspc =>
    have hd := dropPartF_head hspc s.prog s.workers.length
    have hm := mS_head hspc
    apply mu_lt_minor (by rfl)
    · simp [major, hd]
    · simp [minor]; omega
  | unwrap rest hspc hp =>
    exact mu_head_lt hspc (.inl rfl) (by simp [hp, progW, hasDrop]; omega)
  | dropPark rest t e hspc hp hrest _ hlo hhi =>
    exact mu_head_lt hspc (.inr rfl) (by simp [hp, hasDrop]; omega)
  | dropDone rest e hspc hp hrest =>
    exact mu_head_lt hspc (.inr rfl) (by simp [hp, progW, hasDrop, no_drop_after_drop hrest])
  | joinPark t rest t' e hspc hp _ _ _ _ hlo hhi =>
    obtain ⟨g1, g2, -, -⟩ := L.joining t hspc
    apply mu_lt_major (by rfl)
    · simp [major, hspc]; omega
    · simp [minor, hspc]; omega
  | joinDone t rest e hspc hp _ _ hrest =>
    obtain ⟨g1, g2, -, -⟩ := L.joining t hspc
    have hnd := no_drop_after_drop hrest
    apply mu_lt_major (by rfl)
    · simp [major, hspc, hp, progW, hnd]; omega
    · simp [minor, hspc]; omega

theorem mu_step_spurious {s s' : State} {t : Nat} (I : Inv s) (h : step s (.spurious t) = .ok s') :
    mu s' = mu s + 2 := by
  cases trans_of_step I h with
  | spurS hspc =>
    show major { s with spc := .woken } * _ + (wsum mW s.workers + mS .woken) = _
    simp only [mu, major, minor, hspc]
    rfl
  | spurW _ hw =>
    have hM := major_setW hw .woken
    have hm := minor_setW hw .woken
    simp only [holdsArc, atB, alive, mW] at hM hm
    show major (s.setW (t - 1) .woken) * (2 * (s.workers.set (t - 1) .woken).length + 8)
      + minor (s.setW (t - 1) .woken) = _
    rw [List.length_set, mu]
    have e : major (s.setW (t - 1) .woken) = major s := by omega
    rw [e]; omega

def nRuns : List Choice → Nat
  | [] => 0
  | .run _ :: cs => nRuns cs + 1
  | .spurious _ :: cs => nRuns cs

def nSpur : List Choice → Nat
  | [] => 0
  | .run _ :: cs => nSpur cs
  | .spurious _ :: cs => nSpur cs + 1

theorem sched_bounded {s s' : State} (I : Inv s) (L : InvL s) {cs : List Choice}
    (h : runSched s cs = .ok s') : mu s' + nRuns cs ≤ mu s + 2 * nSpur cs := by
  induction cs generalizing s with
  | nil => simp only [runSched, Except.ok.injEq] at h; subst h; simp [nRuns, nSpur]
  | cons c cs ih =>
    simp only [runSched] at h
    cases hs : step s c with
    | error e => rw [hs] at h; cases h
    | ok s1 =>
      rw [hs] at h
      have := ih (inv_step I hs) (invL_step I L hs) h
      cases c with
      | run t =>
        have := mu_step_run I L hs
        simp only [nRuns, nSpur]; omega
      | spurious t =>
        have := mu_step_spurious I hs
        simp only [nRuns, nSpur]; omega

theorem mu_init (n : Nat) (p : List Op) :
    mu (init n p) = (progW p + n + dropW (hasDrop p) n) * (2 * n + 8) + (n + 1) := by
  simp [mu, major, minor, init, wsum_replicate, holdsArc, atB, alive, mW, FixedQueue.new]

/-- upper bound on the number of steps a worker still takes once `immediate_shutdown` is set (the
value at `waiting` does not matter: with the flag set nobody is parked) -/
def stepsToExit : WPc → Nat
  | .exited => 0
  | .atLockA => 1
  | .woken => 2
  | .atLockB _ => 2
  | .atRun _ => 3
  | .waiting => 3

theorem map_wake_eq_self {ws : List WPc} (h : ∀ p, p ∈ ws → p ≠ .waiting) : ws.map WPc.wake = ws := by
  induction ws with
  | nil => rfl
  | cons a t ih =>
    have ha : a.wake = a := by
      have := h a List.mem_cons_self
      cases a <;> simp [WPc.wake] at this ⊢
    simp [ha, ih (fun p hp => h p (List.mem_cons_of_mem _ hp))]

theorem imm_step {s s' : State} {c : Choice} (I : Inv s) (h : step s c = .ok s')
    (himm : s.immediateShutdown = true) : s'.immediateShutdown = true := by
  cases trans_of_step I h with
  | dropPark | dropDone => rfl
  | _ => exact himm

theorem getD_set_self {ws : List WPc} {i : Nat} {p : WPc} (hw : ws[i]? = some p) (p' : WPc) :
    (ws.set i p')[i]?.getD .exited = p' := by
  rw [List.getElem?_set_self (List.getElem?_eq_some_iff.mp hw).1]; rfl

theorem own_step_after_drop {s s' : State} {i : Nat} (I : Inv s)
    (himm : s.immediateShutdown = true) (h : step s (.run (i + 1)) = .ok s') :
    stepsToExit (s'.workers[i]?.getD .exited) < stepsToExit (s.workers[i]?.getD .exited) := by
  cases trans_of_step I h with
  | exitA _ hw => rw [hw]; exact (getD_set_self hw _).symm ▸ Nat.le_refl 1
  | pop _ _ _ _ himm' => rw [himm] at himm'; cases himm'
  | waitW _ _ himm' => rw [himm] at himm'; cases himm'
  | run _ j hw => rw [hw]; exact (getD_set_self hw _).symm ▸ Nat.le_refl 3
  | publish _ r _ hw =>
    have hw' : (s.workers.map WPc.wake)[i]? = some (.atLockB r) := by rw [List.getElem?_map, hw]; rfl
    rw [hw]; exact (getD_set_self hw' _).symm ▸ Nat.le_refl 2
  | wake _ hw => rw [hw]; exact (getD_set_self hw _).symm ▸ Nat.le_refl 2

/-- with the flag set nobody is parked, so `notify_all` moves nobody -/
theorem other_step_after_drop {s s' : State} {i : Nat} {c : Choice} (I : Inv s) (L : InvL s)
    (himm : s.immediateShutdown = true) (h : step s c = .ok s') (hne : c ≠ .run (i + 1)) :
    s'.workers[i]? = s.workers[i]? := by
  have nw : ∀ p, p ∈ s.workers → p ≠ .waiting := fun p hp hw => by
    have := (L.waitW p hp hw).2; rw [himm] at this; cases this
  have hmw := map_wake_eq_self nw
  have hset : ∀ j p', j + 1 ≠ i + 1 → (s.workers.set j p')[i]? = s.workers[i]? := fun j p' hj =>
    List.getElem?_set_ne fun e => hj (by rw [e])
  have hj : ∀ {j}, Choice.run (j + 1) ≠ .run (i + 1) → j + 1 ≠ i + 1 := fun h e => h (by rw [e])
  cases trans_of_step I h with
  | exitA j => exact hset j _ (hj hne)
  | run j => exact hset j _ (hj hne)
  | wake j => exact hset j _ (hj hne)
  | publish j =>
    show ((s.workers.map WPc.wake).set j _)[i]? = _
    rw [hmw]; exact hset j _ (hj hne)
  | pop _ _ _ _ himm' => rw [himm] at himm'; cases himm'
  | waitW _ _ himm' => rw [himm] at himm'; cases himm'
  | spawn | dropPark | dropDone => exact congrArg (·[i]?) hmw
  | spurW _ hw => exact absurd rfl (nw _ (List.mem_iff_getElem?.mpr ⟨_, hw⟩))
  | _ => rfl

theorem idle_of_all_joined {s : State} (I : Inv s)
    (hall : ∀ id, id < s.curWorkId → id ∈ joinedIds s.hist) :
    s.jobs.size = 0 ∧ s.results.size = 0 ∧ s.numInProgress = 0 ∧
    ∀ w, w ∈ s.workers → busy w = 0 := by
  -- every id's one place (`Inv.part`) is the joined list, so the other three places hold nothing
  have key : ∀ id, cntJ id s.jobs.items + wsum (hasId id) s.workers + cntR id s.results.items = 0 := by
    intro id
    have h1 := I.part id
    by_cases c : id < s.curWorkId
    · have : 0 < (joinedIds s.hist).count id := List.count_pos_iff.mpr (hall id c)
      have := below_le id s.curWorkId
      omega
    · have := below_of_ge (Nat.le_of_not_lt c)
      omega
  have hj : s.jobs.size = 0 := by
    rw [← I.wfJ.length_items]
    cases hi : s.jobs.items with
    | nil => rfl
    | cons a t =>
      have := key a.workId
      rw [hi, cntJ_cons, eqInd_self] at this
      omega
  have hr : s.results.size = 0 := by
    rw [← I.wfR.length_items]
    cases hi : s.results.items with
    | nil => rfl
    | cons a t =>
      have := key a.workId
      rw [hi, cntR_cons, eqInd_self] at this
      omega
  have hb : ∀ w, w ∈ s.workers → busy w = 0 := by
    intro q hq
    obtain ⟨i, hi⟩ := List.mem_iff_getElem?.mp hq
    cases q with
    | atRun j =>
      have h1 := wsum_ge_of_mem (hasId j.workId) hi
      simp only [hasId, eqInd_self] at h1
      have := key j.workId
      omega
    | atLockB r =>
      have h1 := wsum_ge_of_mem (hasId r.workId) hi
      simp only [hasId, eqInd_self] at h1
      have := key r.workId
      omega
    | _ => rfl
  refine ⟨hj, hr, ?_, hb⟩
  rw [I.nip, wsum_eq_zero_of busy hb]

end BV.Lemmas.Pool
