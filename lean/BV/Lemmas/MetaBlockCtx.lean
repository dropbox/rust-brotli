/-
C01 / meta-block writers: contexts.  `Context(p1, p2, mode)` against the §7.1 context id,
`Command::distance_context` against the §7.2 context id, and the context map as the reader holds it
(the trivial map "block type `t` ↦ tree `t`" when the category has none).
-/
import BV.Lemmas.MetaBlockCmd
import BV.Model.MetaBlockFull

namespace BV.MetaBlock
open BV.Gen BV.Bits BV.Huffman BV.PrefixArith BV.Recoder

theorem utf8_table : kUTF8ContextLookup.length = 512 ∧ kUTF8ContextLookup.all (· < 64) = true := by
  decide +kernel

theorem signed_table : kSigned3BitContextLookup.length = 256 ∧ kSigned3BitContextLookup.all (· < 8) = true := by
  decide +kernel

theorem utf8_lt (i : Nat) (h : i < 512) : kUTF8ContextLookup.getD i 0 < 64 := by
  have hm := getD_mem kUTF8ContextLookup i 0 (by rw [utf8_table.1]; exact h)
  have := List.all_eq_true.mp utf8_table.2 _ hm
  simpa using this

theorem signed_lt (i : Nat) (h : i < 256) : kSigned3BitContextLookup.getD i 0 < 8 := by
  have hm := getD_mem kSigned3BitContextLookup i 0 (by rw [signed_table.1]; exact h)
  have := List.all_eq_true.mp signed_table.2 _ hm
  simpa using this

theorem contextOf_eq (p1 p2 mode : Nat) (h1 : p1 < 256) (h2 : p2 < 256) :
    contextOf p1 p2 mode = .ok (rfcLiteralContext mode p1 p2) ∧ rfcLiteralContext mode p1 p2 < 64 := by
  unfold contextOf rfcLiteralContext
  by_cases m0 : mode = 0
  · rw [if_pos m0, if_pos m0]; exact ⟨rfl, Nat.mod_lt _ (by decide)⟩
  · rw [if_neg m0, if_neg m0]
    by_cases m1 : mode = 1
    · rw [if_pos m1, if_pos m1]
      have : p1 / 4 < 64 := by omega
      exact ⟨by rw [Nat.mod_eq_of_lt (by omega), Nat.mod_eq_of_lt this], Nat.mod_lt _ (by decide)⟩
    · rw [if_neg m1, if_neg m1]
      by_cases m2 : mode = 2
      · rw [if_pos m2, if_pos m2]
        have a := utf8_lt p1 (by omega)
        have b := utf8_lt (p2 + 256) (by omega)
        have hor : kUTF8ContextLookup.getD p1 0 ||| kUTF8ContextLookup.getD (p2 + 256) 0 < 2 ^ 6 :=
          Nat.or_lt_two_pow a b
        rw [getAt_getD _ _ 0 (by rw [utf8_table.1]; omega), Out.bind_ok,
          getAt_getD _ _ 0 (by rw [utf8_table.1]; omega), Out.bind_ok, Nat.add_comm 256 p2]
        have p6 : (2 : Nat) ^ 6 = 64 := by decide
        exact ⟨by rw [Nat.mod_eq_of_lt (by omega)], by omega⟩
      · rw [if_neg m2, if_neg m2]
        have a := signed_lt p1 h1
        have b := signed_lt p2 h2
        rw [getAt_getD _ _ 0 (by rw [signed_table.1]; omega), Out.bind_ok,
          getAt_getD _ _ 0 (by rw [signed_table.1]; omega), Out.bind_ok]
        exact ⟨by rw [Nat.mod_eq_of_lt (by omega)], by omega⟩

theorem distCtx_sym : ∀ sym : Fin 704,
    (if (sym.val / 64 = 0 ∨ sym.val / 64 = 2 ∨ sym.val / 64 = 4 ∨ sym.val / 64 = 7) ∧ sym.val % 8 ≤ 2
      then sym.val % 8 else 3) = (if (rfcCmdDecode sym.val).2.1 < 3 then (rfcCmdDecode sym.val).2.1 else 3) := by
  decide +kernel

theorem copyTable_small : ∀ i : Fin 24, (i.val < 3 → kCopyBase.getD i.val 0 = i.val + 2 ∧ kCopyExtra.getD i.val 0 = 0) ∧
    (3 ≤ i.val → 5 ≤ kCopyBase.getD i.val 0) := by decide

theorem distanceContext_eq {c : Cmd} {ib ie cb ce : Nat} (hf : CmdLens c ib ie cb ce) :
    distanceContext c = rfcDistanceContext (copyLenCode c.copyLenField) := by
  have hct := hf.copyRow
  have hcb := hf.cb_le
  have hce := hf.copy_lt
  obtain ⟨cc, hcc⟩ : ∃ cc, (rfcCmdDecode c.cmdPrefix).2.1 = cc := ⟨_, rfl⟩
  obtain ⟨clc, hclc⟩ : ∃ clc, copyLenCode c.copyLenField = clc := ⟨_, rfl⟩
  rw [hcc] at hct
  rw [hclc] at hcb hce ⊢
  have h1 := distCtx_sym ⟨c.cmdPrefix, hf.sym⟩
  simp only at h1
  have hcc24 : cc < 24 := by
    rcases Nat.lt_or_ge cc 24 with h | h
    · exact h
    · rw [List.getElem?_eq_none (by show 24 ≤ cc; exact h)] at hct; cases hct
  have h2 := rfcCopy_get ⟨cc, hcc24⟩
  simp only at h2
  rw [hct] at h2
  injection h2 with h2
  injection h2 with hb he
  obtain ⟨s1, s2⟩ := copyTable_small ⟨cc, hcc24⟩
  simp only at s1 s2
  unfold distanceContext rfcDistanceContext
  simp only
  rw [h1, hcc]
  by_cases h3 : cc < 3
  · obtain ⟨t1, t2⟩ := s1 h3
    rw [if_pos h3]
    rw [← hb] at t1
    rw [← he] at t2
    rw [t2] at hce
    have : clc = cc + 2 := by omega
    rw [this]
    have : cc = 0 ∨ cc = 1 ∨ cc = 2 := by omega
    rcases this with h | h | h <;> rw [h] <;> rfl
  · have t1 := s2 (by omega)
    rw [← hb] at t1
    rw [if_neg h3, if_neg (by omega), if_neg (by omega), if_neg (by omega)]

/-- what `StoreTrivialContextMap` describes: every context of block type `t` uses tree `t` -/
def trivialMap (n m : Nat) : List Nat := (List.range n).flatMap (fun t => List.replicate m t)

theorem trivialMap_succ (n m : Nat) : trivialMap (n + 1) m = trivialMap n m ++ List.replicate m n := by
  unfold trivialMap
  rw [List.range_succ, List.flatMap_append]
  simp

theorem trivialMap_length (n m : Nat) : (trivialMap n m).length = n * m := by
  induction n with
  | zero => simp [trivialMap]
  | succ n ih => rw [trivialMap_succ, List.length_append, ih, List.length_replicate, Nat.add_mul, Nat.one_mul]

theorem trivialMap_get (n m t ctx : Nat) (ht : t < n) (hc : ctx < m) : (trivialMap n m).getD (t * m + ctx) 0 = t := by
  induction n with
  | zero => omega
  | succ n ih =>
    rw [trivialMap_succ, List.getD_eq_getElem?_getD]
    rcases Nat.lt_or_ge t n with h | h
    · have : t * m + ctx < n * m := by
        have : t * m + ctx < (t + 1) * m := by rw [Nat.add_mul, Nat.one_mul]; omega
        have : (t + 1) * m ≤ n * m := Nat.mul_le_mul_right _ (by omega)
        omega
      rw [List.getElem?_append_left (by rw [trivialMap_length]; exact this), ← List.getD_eq_getElem?_getD]
      exact ih h
    · have htn : t = n := by omega
      subst htn
      rw [List.getElem?_append_right (by rw [trivialMap_length]; omega), trivialMap_length,
        List.getElem?_replicate, Nat.add_sub_cancel_left, if_pos hc]
      rfl

/-- the map the reader holds: for a category without one (`cmapSize = 0`) the writer describes the trivial map
(`StoreTrivialContextMap`) -/
def effMap (cmap : List Nat) (cmapSize numTypes m : Nat) : List Nat :=
  if cmapSize = 0 then trivialMap numTypes m else cmap

end BV.MetaBlock
