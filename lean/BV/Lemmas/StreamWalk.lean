/-
Trajectories of a partial function with marked steps.

The schedule- and chunking-independence arguments (C05) all have one shape: a machine that is a
partial FUNCTION `f` on configurations, one kind of step singled out (`mark`: the step that
completes a flush, or a metadata block), and runs that stand somewhere on the one trajectory of `f`
from a start — on its unmarked part, or exactly one marked step past it.  Two such positions that
are both final coincide (`At.final_eq`), because the unmarked part of a trajectory has exactly one
end (`Walk.stop_unique`).
-/
namespace BV.Stream

variable {α : Type} {f : α → Option α} {mark : α → α → Prop}

inductive Walk (f : α → Option α) (mark : α → α → Prop) : α → Nat → α → Prop
  | nil (a : α) : Walk f mark a 0 a
  | cons {a a1 b : α} {n : Nat} : f a = some a1 → ¬ mark a a1 → Walk f mark a1 n b → Walk f mark a (n + 1) b

theorem Walk.append {a b c : α} {n m : Nat} (h1 : Walk f mark a n b) (h2 : Walk f mark b m c) :
    Walk f mark a (n + m) c := by
  induction h1 with
  | nil _ => rw [Nat.zero_add]; exact h2
  | cons hs hf _ ih => rw [Nat.add_right_comm]; exact .cons hs hf (ih h2)

theorem Walk.det {a b b' : α} {n : Nat} (h1 : Walk f mark a n b) (h2 : Walk f mark a n b') : b = b' := by
  induction h1 with
  | nil _ => cases h2; rfl
  | cons hs _ _ ih =>
    cases h2 with
    | cons hs' _ h2' =>
      rw [hs] at hs'
      cases hs'
      exact ih h2'

theorem Walk.split {a b c : α} {n m : Nat} (h1 : Walk f mark a n b) (h2 : Walk f mark a (n + m) c) :
    Walk f mark b m c := by
  induction h1 with
  | nil _ => rw [Nat.zero_add] at h2; exact h2
  | cons hs _ _ ih =>
    rw [Nat.add_right_comm] at h2
    cases h2 with
    | cons hs' _ h2' =>
      rw [hs] at hs'
      cases hs'
      exact ih h2'

def Stop (f : α → Option α) (mark : α → α → Prop) (x : α) : Prop :=
  f x = none ∨ ∃ y, f x = some y ∧ mark x y

theorem Walk.of_stop {x c : α} {m : Nat} (hx : Stop f mark x) (h : Walk f mark x m c) : m = 0 := by
  cases h with
  | nil _ => rfl
  | cons hs hnf _ =>
    rcases hx with h0 | ⟨y, hy, hm⟩
    · rw [h0] at hs; cases hs
    · rw [hy] at hs; cases hs; exact absurd hm hnf

theorem Walk.stop_unique {a x y : α} {n m : Nat} (h1 : Walk f mark a n x) (s1 : Stop f mark x)
    (h2 : Walk f mark a m y) (s2 : Stop f mark y) : n = m ∧ x = y := by
  have le : ∀ {n m : Nat} {x y : α}, Walk f mark a n x → Stop f mark x → Walk f mark a m y → m ≤ n := by
    intro n m x y hx sx hy
    by_cases hle : m ≤ n
    · exact hle
    · have hm : m = n + (m - n) := by omega
      rw [hm] at hy
      have := (hx.split hy).of_stop sx
      omega
  have l1 := le h1 s1 h2
  have l2 := le h2 s2 h1
  obtain rfl : n = m := by omega
  exact ⟨rfl, h1.det h2⟩

def At (f : α → Option α) (mark : α → α → Prop) (a : α) (n : Nat) (b : α) : Bool → Prop
  | false => Walk f mark a n b
  | true => ∃ x, Walk f mark a n x ∧ f x = some b ∧ mark x b

abbrev Final (f : α → Option α) (b : α) (d : Bool) : Prop := d = true ∨ f b = none

theorem At.prepend {a x b : α} {m n : Nat} {d : Bool} (hp : Walk f mark a m x) (h : At f mark x n b d) :
    At f mark a (m + n) b d := by
  cases d with
  | false => exact hp.append h
  | true =>
    obtain ⟨y, p, s, hm⟩ := h
    exact ⟨y, hp.append p, s, hm⟩

theorem At.tail {a a1 b : α} {n : Nat} {d : Bool} (hs : f a = some a1) (hnm : ¬ mark a a1)
    (h : At f mark a n b d) (hf : Final f b d) : ∃ k, n = k + 1 ∧ At f mark a1 k b d := by
  cases d with
  | false =>
    have ht : f b = none := hf.resolve_left (fun e => by cases e)
    cases h with
    | nil _ => rw [ht] at hs; cases hs
    | @cons _ _ _ k hs' _ p =>
      rw [hs] at hs'
      cases hs'
      exact ⟨k, rfl, p⟩
  | true =>
    obtain ⟨x, p, s, hm⟩ := h
    cases p with
    | nil _ =>
      rw [hs] at s
      cases s
      exact absurd hm hnm
    | @cons _ _ _ k hs' _ p' =>
      rw [hs] at hs'
      cases hs'
      exact ⟨k, rfl, x, p', s, hm⟩

theorem At.stop {a b : α} {n : Nat} {d : Bool} (h : At f mark a n b d) (hf : Final f b d) :
    ∃ x, Walk f mark a n x ∧ Stop f mark x ∧ (f x = none ∧ x = b ∨ f x = some b) := by
  cases d with
  | false =>
    have ht : f b = none := hf.resolve_left (fun e => by cases e)
    exact ⟨b, h, Or.inl ht, Or.inl ⟨ht, rfl⟩⟩
  | true =>
    obtain ⟨x, p, s, hm⟩ := h
    exact ⟨x, p, Or.inr ⟨b, s, hm⟩, Or.inr s⟩

theorem At.final_eq {a b1 b2 : α} {n1 n2 : Nat} {d1 d2 : Bool} (h1 : At f mark a n1 b1 d1) (h2 : At f mark a n2 b2 d2)
    (f1 : Final f b1 d1) (f2 : Final f b2 d2) : n1 = n2 ∧ b1 = b2 := by
  obtain ⟨x1, p1, s1, e1⟩ := h1.stop f1
  obtain ⟨x2, p2, s2, e2⟩ := h2.stop f2
  obtain ⟨hn, rfl⟩ := p1.stop_unique s1 p2 s2
  refine ⟨hn, ?_⟩
  rcases e1 with ⟨z1, rfl⟩ | e1 <;> rcases e2 with ⟨z2, rfl⟩ | e2
  · rfl
  · rw [z1] at e2; cases e2
  · rw [z2] at e1; cases e1
  · rw [e1] at e2; cases e2; rfl

end BV.Stream
