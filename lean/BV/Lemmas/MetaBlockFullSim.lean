/-
C01 / meta-block writers: the command loop of `store_meta_block` (three block encoders, block
switches, literal and distance contexts) read by `readCommandsG` is a run of C14's RFC decoder `decSteps`
on the same raw command array.
-/
import BV.Lemmas.MetaBlockEnc
import BV.Lemmas.MetaBlockSim
import BV.Lemmas.MetaBlockHisto

namespace BV.MetaBlock
open BV.Gen BV.Bits BV.Huffman BV.PrefixArith BV.Recoder
open BV.Lemmas.HuffmanRead (takeBits_bitsOf)

def lastB (out : Bytes) : Nat := if out.length ≥ 1 then out.getD (out.length - 1) 0 else 0
def last2B (out : Bytes) : Nat := if out.length ≥ 2 then out.getD (out.length - 2) 0 else 0

theorem lastB_snoc (out : Bytes) (b : Nat) : lastB (out ++ [b]) = b := by
  unfold lastB
  rw [if_pos (by simp), List.getD_eq_getElem?_getD, List.getElem?_append_right (by simp)]
  simp

theorem last2B_snoc (out : Bytes) (b : Nat) : last2B (out ++ [b]) = lastB out := by
  unfold last2B lastB
  by_cases h : out.length ≥ 1
  · have hl : (out ++ [b]).length = out.length + 1 := by rw [List.length_append, List.length_singleton]
    rw [if_pos (by rw [hl]; omega), if_pos h, List.getD_eq_getElem?_getD, List.getElem?_append_left (by rw [hl]; omega),
      ← List.getD_eq_getElem?_getD, hl, show out.length + 1 - 2 = out.length - 1 by omega]
  · have hl : (out ++ [b]).length = out.length + 1 := by rw [List.length_append, List.length_singleton]
    rw [if_neg (by rw [hl]; omega), if_neg h]

theorem lastB_lt (out : Bytes) (h : ∀ b ∈ out, b < 256) : lastB out < 256 := by
  unfold lastB
  by_cases h1 : out.length ≥ 1
  · rw [if_pos h1]; exact h _ (getD_mem out _ 0 (by omega))
  · rw [if_neg h1]; decide

theorem last2B_lt (out : Bytes) (h : ∀ b ∈ out, b < 256) : last2B out < 256 := by
  unfold last2B
  by_cases h1 : out.length ≥ 2
  · rw [if_pos h1]; exact h _ (getD_mem out _ 0 (by omega))
  · rw [if_neg h1]; decide

def litCtxs (mode : Nat) : Bytes → List Nat → List (Nat × Nat)
  | _, [] => []
  | out, b :: bs => (rfcLiteralContext mode (lastB out) (last2B out), b) :: litCtxs mode (out ++ [b]) bs

/-- what the literal loop needs of the meta-block, constant in the command loop: `L` the literal category, `mbs` the split the
writer is handed (its context maps), `T` the header as the reader holds it -/
structure LitEnv where
  L : CatEnv
  ring : Bytes
  mask : Nat
  start : Nat
  mb : Bytes
  mode : Nat
  mbs : MBSplit
  T : Trees

structure LitEnv.OK (E : LitEnv) : Prop where
  l : E.L.OK
  cb : E.L.cb = 6
  hH : E.L.H = 256
  ring : RingHolds E.ring E.mask E.start E.mb
  mode : E.mode < 4
  cmap : E.mbs.litCmap = E.L.cmap
  csize : E.mbs.litCmapSize = E.L.cmapSize
  modes : E.T.modes = List.replicate E.L.s.numTypes E.mode
  tmap : E.T.cmapL = E.L.eff
  tlit : E.T.lit = E.L.codes
  bytes : ∀ b ∈ E.mb, b < 256

theorem fullLits_sim (E : LitEnv) (hE : E.OK) : ∀ (n k : Nat) (st : FullSt) (cat : Cat) (j : Nat) (out : Bytes)
    (ss : List (Nat × Nat)), k + n ≤ E.mb.length → st.pos = posOf E.start k → EncAt E.L st.litE cat j →
    (∀ b ∈ out, b < 256) → (E.L.cmapSize ≠ 0 → st.prev = lastB out ∧ st.prev2 = last2B out) →
    E.L.covers (remTypes E.L.s j st.litE.blockLen) (litCtxs E.mode out ((E.mb.drop k).take n) ++ ss) →
    ∃ lb st' cat' j', fullLits E.ring E.mask E.mode E.mbs n st = .ok st' ∧ st'.w = st.w ++ lb ∧
      st'.pos = posOf E.start (k + n) ∧ st'.cmdE = st.cmdE ∧ st'.distE = st.distE ∧ EncAt E.L st'.litE cat' j' ∧
      (E.L.cmapSize ≠ 0 → st'.prev = lastB (out ++ (E.mb.drop k).take n) ∧
        st'.prev2 = last2B (out ++ (E.mb.drop k).take n)) ∧
      E.L.covers (remTypes E.L.s j' st'.litE.blockLen) ss ∧
      ∀ rest, readLiteralsG E.T n cat out (lb ++ rest) = some (cat', out ++ (E.mb.drop k).take n, rest) := by
  intro n
  induction n with
  | zero =>
    intro k st cat j out ss _ hp hA _ hpv hcov
    refine ⟨[], st, cat, j, rfl, by simp, by simpa using hp, rfl, rfl, hA, by simpa using hpv, by simpa [litCtxs] using hcov, ?_⟩
    intro rest
    simp [readLiteralsG]
  | succ n ih =>
    intro k st cat j out ss hk hp hA hout hpv hcov
    have hk' : k < E.mb.length := by omega
    rw [drop_take_succ E.mb k n hk'] at hcov ⊢
    obtain ⟨bl, hbl⟩ : ∃ bl, bl = E.mb.getD k 0 := ⟨_, rfl⟩
    rw [← hbl] at hcov ⊢
    have hb256 : bl < 256 := by rw [hbl]; exact hE.bytes _ (getD_mem _ _ 0 hk')
    have p6 : (2 : Nat) ^ 6 = 64 := by decide
    obtain ⟨cx1, cx2⟩ := contextOf_eq (lastB out) (last2B out) E.mode (lastB_lt out hout) (last2B_lt out hout)
    obtain ⟨ctx, hctx⟩ : ∃ ctx, ctx = rfcLiteralContext E.mode (lastB out) (last2B out) := ⟨_, rfl⟩
    rw [← hctx] at cx1 cx2
    have hcov' : E.L.covers (remTypes E.L.s j st.litE.blockLen) ((ctx, bl) :: (litCtxs E.mode (out ++ [bl])
        ((E.mb.drop (k + 1)).take n) ++ ss)) := by
      rw [hctx]; simpa [litCtxs] using hcov
    obtain ⟨b1, b2, e', cat', j', t, a1, a2, a3, a4, a5, a6, a7⟩ := E.L.step hE.l st.litE cat j bl ctx _ hA
      (by rw [hE.hH]; exact hb256) (by rw [hE.cb, p6]; exact cx2) hcov'
    obtain ⟨st1, hst1⟩ : ∃ st1 : FullSt, st1 = (if E.L.cmapSize = 0
        then { st with litE := e', w := st.w ++ b1 ++ b2, pos := (st.pos + 1) % two64 }
        else { st with litE := e', w := st.w ++ b1 ++ b2, prev2 := st.prev, prev := bl, pos := (st.pos + 1) % two64 }) :=
      ⟨_, rfl⟩
    have s1w : st1.w = st.w ++ b1 ++ b2 := by rw [hst1]; split <;> rfl
    have s1p : st1.pos = posOf E.start (k + 1) := by
      have : st1.pos = (st.pos + 1) % two64 := by rw [hst1]; split <;> rfl
      rw [this, hp, posOf_add]
    have s1l : st1.litE = e' := by rw [hst1]; split <;> rfl
    have s1c : st1.cmdE = st.cmdE := by rw [hst1]; split <;> rfl
    have s1d : st1.distE = st.distE := by rw [hst1]; split <;> rfl
    have s1v : E.L.cmapSize ≠ 0 → st1.prev = lastB (out ++ [bl]) ∧ st1.prev2 = last2B (out ++ [bl]) := by
      intro hz
      rw [hst1, if_neg hz, lastB_snoc, last2B_snoc]
      exact ⟨rfl, (hpv hz).1⟩
    obtain ⟨lb, st', cat'', j'', i1, i2, i3, i4, i5, i6, i7, i8, i9⟩ := ih (k + 1) st1 cat' j' (out ++ [bl]) ss (by omega) s1p
      (by rw [s1l]; exact a6)
      (fun b hb => by
        rcases List.mem_append.mp hb with h | h
        · exact hout b h
        · rw [List.mem_singleton.mp h]; exact hb256)
      s1v (by rw [s1l]; exact a7)
    refine ⟨b1 ++ b2 ++ lb, st', cat'', j'', ?_, by rw [i2, s1w]; simp [List.append_assoc],
      by rw [i3]; congr 1; omega, by rw [i4, s1c], by rw [i5, s1d], i6, ?_, i8, ?_⟩
    · unfold fullLits
      rw [hp, hE.ring k hk', Out.bind_ok, ← hbl, hE.csize]
      by_cases hz : E.L.cmapSize = 0
      · rw [if_pos hz] at hst1
        have a1' : ∀ w, st.litE.storeSymbol bl w = .ok (e', w ++ b1 ++ b2) := fun w => by
          have := a1 w; rwa [if_pos hz] at this
        rw [if_pos hz, a1', Out.bind_ok]
        simp only
        rw [← hp, ← hst1]
        exact i1
      · rw [if_neg hz] at hst1
        have a1' : ∀ w, st.litE.storeSymbolCtx bl ctx E.L.cmap E.L.cb w = .ok (e', w ++ b1 ++ b2) := fun w => by
          have := a1 w; rwa [if_neg hz] at this
        obtain ⟨v1, v2⟩ := hpv hz
        rw [if_neg hz, v1, v2, cx1, Out.bind_ok, hE.cmap, ← hE.cb, a1', Out.bind_ok]
        simp only
        rw [← v1, ← hp, ← hst1]
        exact i1
    · intro hz
      obtain ⟨v1, v2⟩ := i7 hz
      rw [v1, v2]
      simp [List.append_assoc]
    · intro rest
      unfold readLiteralsG
      rw [List.append_assoc, List.append_assoc, a2]
      simp only
      have hmode : E.T.modes.getD cat'.btype 0 = E.mode := by
        rw [hE.modes, a3, List.getD_eq_getElem?_getD, List.getElem?_replicate, if_pos a4]; rfl
      have hcid : rfcLiteralContext (E.T.modes.getD cat'.btype 0)
          (if out.length ≥ 1 then out.getD (out.length - 1) 0 else 0)
          (if out.length ≥ 2 then out.getD (out.length - 2) 0 else 0) = ctx := by
        rw [hmode, hctx]; rfl
      rw [hcid, a3, hE.tmap]
      have hix : 64 * t + ctx = t * 2 ^ E.L.cb + ctx := by rw [hE.cb, p6, Nat.mul_comm]
      obtain ⟨hmap, htree⟩ := hE.l.lookup t ctx a4 (by rw [hE.cb, p6]; exact cx2)
      rw [hix, hmap]
      simp only
      rw [hE.tlit, htree]
      simp only
      rw [a5]
      simp only
      rw [i9]
      simp [List.append_assoc]

theorem distanceContext_lt (c : Cmd) : distanceContext c < 4 := by
  unfold distanceContext
  simp only
  split
  · omega
  · omega

theorem readInsertG_ok (T : Trees) (catL catI catL' catI' : Cat) (code : Code) (mlen k : Nat) (out : Bytes)
    (c : Cmd) (ib ie cb ce : Nat) (b1 sb lb rest : List Bool) (L : Bytes) (hf : CmdLens c ib ie cb ce)
    (hnext : ∀ r, catI.next (b1 ++ r) = some (catI', r)) (hcode : T.cmd[catI'.btype]? = some code)
    (hread : ∀ r, code.read (sb ++ r) = some (c.cmdPrefix, r)) (hk : c.insertLen ≤ mlen - k)
    (hlits : ∀ r, readLiteralsG T c.insertLen catL out (lb ++ r) = some (catL', out ++ L, r)) :
    readInsertG T catL catI mlen k out
        (b1 ++ (sb ++ ((bitsOf ie (c.insertLen - ib) ++ bitsOf ce (copyLenCode c.copyLenField - cb)) ++ (lb ++ rest))))
      = some (catL', catI', c.insertLen, copyLenCode c.copyLenField, (rfcCmdDecode c.cmdPrefix).2.2, out ++ L, rest) := by
  unfold readInsertG
  rw [hnext]
  simp only [hcode]
  rw [hread]
  simp only [show ¬ c.cmdPrefix ≥ 704 from Nat.not_le.mpr hf.sym, if_false, hf.insRow, hf.copyRow]
  rw [List.append_assoc, takeBits_bitsOf ie _ _ hf.ins_lt]
  simp only
  rw [takeBits_bitsOf ce _ _ hf.copy_lt]
  simp only
  rw [Nat.add_sub_cancel' hf.ib_le, Nat.add_sub_cancel' hf.cb_le, if_neg (by omega), hlits]

theorem lastB_take (hist mb : Bytes) (k : Nat) (h1 : 1 ≤ k) (hk : k ≤ mb.length) :
    lastB (hist ++ mb.take k) = mb.getD (k - 1) 0 := by
  unfold lastB
  have hl : (hist ++ mb.take k).length = hist.length + k := by
    rw [List.length_append, List.length_take, Nat.min_eq_left hk]
  rw [if_pos (by rw [hl]; omega), hl, List.getD_eq_getElem?_getD,
    List.getElem?_append_right (by omega), List.getElem?_take_of_lt (by omega),
    show hist.length + k - 1 - hist.length = k - 1 by omega, ← List.getD_eq_getElem?_getD]

theorem last2B_take (hist mb : Bytes) (k : Nat) (h1 : 2 ≤ k) (hk : k ≤ mb.length) :
    last2B (hist ++ mb.take k) = mb.getD (k - 2) 0 := by
  unfold last2B
  have hl : (hist ++ mb.take k).length = hist.length + k := by
    rw [List.length_append, List.length_take, Nat.min_eq_left hk]
  rw [if_pos (by rw [hl]; omega), hl, List.getD_eq_getElem?_getD,
    List.getElem?_append_right (by omega), List.getElem?_take_of_lt (by omega),
    show hist.length + k - 2 - hist.length = k - 2 by omega, ← List.getD_eq_getElem?_getD]

theorem ring_back (ring : Bytes) (mask start : Nat) (mb : Bytes) (hR : RingHolds ring mask start mb)
    (h64 : start + mb.length < two64) (k i : Nat) (hi : i ≤ k) (h1 : 1 ≤ i) (hk : k ≤ mb.length) :
    getAt ring (((posOf start k + two64 - i) % two64) &&& mask) = .ok (mb.getD (k - i) 0) := by
  have := hR (k - i) (by omega)
  have e1 : posOf start k = start + k := by unfold posOf; exact Nat.mod_eq_of_lt (by omega)
  have e2 : posOf start (k - i) = start + (k - i) := by unfold posOf; exact Nat.mod_eq_of_lt (by omega)
  rw [e2] at this
  rw [e1, show start + k + two64 - i = (start + (k - i)) + two64 by omega, Nat.add_mod_right,
    Nat.mod_eq_of_lt (by omega)]
  exact this

def litSymsOf (mode : Nat) (hist mb : Bytes) : Nat → List Cmd → List (Nat × Nat)
  | _, [] => []
  | k, c :: cs => litCtxs mode (hist ++ mb.take k) ((mb.drop k).take c.insertLen) ++
      litSymsOf mode hist mb (k + c.insertLen + copyLen c) cs

def distSymsOf (cmds : List Cmd) : List (Nat × Nat) :=
  (cmds.filter hasDist).map fun c => (distanceContext c, c.distPrefix % 1024)

/-- what the command loop needs, constant in it: `lit` the literal side, `I` and `D` the command and distance categories;
`wo`, `window`, `np`, `nd` the parameters of C14's decoder (`np`, `nd`: NPOSTFIX, NDIRECT); `A` the size of the distance
alphabet; `hist` the reader's output before the meta-block -/
structure FullEnv where
  lit : LitEnv
  I : CatEnv
  D : CatEnv
  wo : WordOracle
  window : Nat
  np : Nat
  nd : Nat
  A : Nat
  hist : Bytes

structure FullEnv.OK (F : FullEnv) : Prop where
  lit : F.lit.OK
  i : F.I.OK
  d : F.D.OK
  icb : F.I.cb = 0
  isz : F.I.cmapSize = 0
  iH : F.I.H = 704
  dcb : F.D.cb = 2
  dA : F.A ≤ F.D.H
  dcmap : F.lit.mbs.distCmap = F.D.cmap
  dcsize : F.lit.mbs.distCmapSize = F.D.cmapSize
  tcmd : F.lit.T.cmd = F.I.codes
  tdist : F.lit.T.dist = F.D.codes
  tmapD : F.lit.T.cmapD = F.D.eff
  tnp : F.lit.T.npostfix = F.np
  tnd : F.lit.T.ndirect = F.nd
  hbytes : ∀ b ∈ F.hist, b < 256
  h64 : F.lit.start + F.lit.mb.length < two64

theorem I_eff (F : FullEnv) (hF : F.OK) (t : Nat) (ht : t < F.I.s.numTypes) : F.I.eff.getD (t * 2 ^ F.I.cb + 0) 0 = t := by
  unfold CatEnv.eff effMap
  rw [if_pos hF.isz, hF.icb]
  exact trivialMap_get _ _ _ _ ht (by decide)

/-- the command loop of the general writer, read by `readCommandsG`, is a run of C14's decoder `decSteps` on the same commands.
`2 ≤ copyLen c` for every copy: behind a copy `fullCopy` reads the two context bytes from the ring at `pos - 1` and `pos - 2`
(and takes 0 for the second `if pos < 2`); a copy of two bytes or more puts both inside this meta-block, where `RingHolds` says
what the ring holds, and the reader's `lastB`, `last2B` of its output are the same bytes. -/
theorem fullCmds_sim (F : FullEnv) (hF : F.OK) : ∀ (cmds : List Cmd) (ds : DecSt) (st : FullSt) (catL catI catD : Cat)
    (jL jI jD : Nat),
    lockstep F.wo F.np F.nd F.window F.lit.mb ds ds.cursor cmds = true →
    faithful F.wo F.np F.nd F.window F.lit.mb F.hist ds cmds → ds.out = F.hist ++ F.lit.mb.take ds.cursor →
    (∀ c ∈ cmds, cmdOK F.A F.np F.nd c = true) → (∀ c ∈ cmds, copyLen c ≠ 0 → 2 ≤ copyLen c) →
    st.pos = posOf F.lit.start ds.cursor →
    EncAt F.lit.L st.litE catL jL → EncAt F.I st.cmdE catI jI → EncAt F.D st.distE catD jD →
    (F.lit.L.cmapSize ≠ 0 → st.prev = lastB ds.out ∧ st.prev2 = last2B ds.out) →
    F.lit.L.covers (remTypes F.lit.L.s jL st.litE.blockLen) (litSymsOf F.lit.mode F.hist F.lit.mb ds.cursor cmds) →
    F.I.covers (remTypes F.I.s jI st.cmdE.blockLen) (cmds.map fun c => (0, c.cmdPrefix)) →
    F.D.covers (remTypes F.D.s jD st.distE.blockLen) (distSymsOf cmds) →
    ∃ db fin st', fullCmds F.lit.ring F.lit.mask F.lit.mode F.lit.mbs cmds st = .ok st' ∧ st'.w = st.w ++ db ∧
      decSteps F.wo F.np F.nd F.window F.lit.mb ds cmds = some fin ∧ fin.cursor = F.lit.mb.length ∧
      ∀ (rest : List Bool) (f : Nat), cmds.length + 1 ≤ f →
        readCommandsG F.wo F.window F.lit.T F.lit.mb.length f ds.cursor catL catI catD ⟨ds.out, ds.ring⟩ (db ++ rest)
          = some (⟨fin.out, fin.ring⟩, rest) := by
  intro cmds
  induction cmds with
  | nil =>
    intro ds st catL catI catD jL jI jD hl _ _ _ _ _ _ _ _ _ _ _ _
    simp only [lockstep, Bool.and_eq_true, decide_eq_true_eq] at hl
    refine ⟨[], ds, st, by simp [fullCmds], by simp, rfl, hl.2, ?_⟩
    intro rest f hf
    obtain ⟨f', rfl⟩ : ∃ f', f = f' + 1 := ⟨f - 1, by simp at hf; omega⟩
    simp [readCommandsG, hl.2]
  | cons c cs ih =>
    intro ds st catL catI catD jL jI jD hl hfa hout hok hcl2 hpos hAL hAI hAD hpv hcL hcI hcD
    have hLE := hF.lit
    have hmbl : ∀ b ∈ ds.out, b < 256 := by
      intro b hb
      rw [hout] at hb
      rcases List.mem_append.mp hb with h | h
      · exact hF.hbytes b h
      · exact hLE.bytes b (List.mem_of_mem_take h)
    obtain ⟨_, hrem, hins, hcase⟩ := lockstep_head hl
    have hcok := hok c (by simp)
    obtain ⟨ib, ie, cb, ce, hlens⟩ := cmd_facts F.A F.np F.nd c hcok
    simp only [List.map_cons] at hcI
    obtain ⟨b1, sb, ce', catI', jI', tI, i1, i2, i3, i4, i5, i6, i7⟩ := F.I.step hF.i st.cmdE catI jI c.cmdPrefix 0 _ hAI
      (by rw [hF.iH]; exact hlens.sym) (by rw [hF.icb]; decide) hcI
    have i1' : ∀ w, st.cmdE.storeSymbol c.cmdPrefix w = .ok (ce', w ++ b1 ++ sb) := fun w => by
      have := i1 w; rwa [if_pos hF.isz] at this
    rw [I_eff F hF tI i4] at i5
    have hcodeI : F.lit.T.cmd[catI'.btype]? = some (F.I.codes.getD tI (Code.single 0)) := by
      rw [hF.tcmd, i3]
      exact getElem?_getD _ _ _ (by rw [hF.i.clen]; have := hF.i.z hF.isz; omega)
    simp only [litSymsOf] at hcL
    rw [← hout] at hcL
    obtain ⟨xb, hxb⟩ : ∃ xb, xb = bitsOf ie (c.insertLen - ib) ++ bitsOf ce (copyLenCode c.copyLenField - cb) := ⟨_, rfl⟩
    obtain ⟨st0, hst0⟩ : ∃ st0 : FullSt, st0 = { st with cmdE := ce', w := st.w ++ b1 ++ sb ++ xb } := ⟨_, rfl⟩
    obtain ⟨lb, st1, catL', jL', l1, l2, l3, l4, l5, l6, l7, l8, l9⟩ := fullLits_sim F.lit hLE c.insertLen ds.cursor st0 catL jL
      ds.out _ (by omega) (by rw [hst0]; exact hpos) (by rw [hst0]; exact hAL) hmbl (by rw [hst0]; exact hpv)
      (by rw [hst0]; exact hcL)
    rw [hst0] at l2 l4 l5
    simp only at l2 l4 l5
    have hri := fun r => readInsertG_ok F.lit.T catL catI catL' catI' _ F.lit.mb.length ds.cursor ds.out c ib ie cb ce
      b1 sb lb r ((F.lit.mb.drop ds.cursor).take c.insertLen) hlens i2 hcodeI i5 (by omega) l9
    rw [← hxb] at hri
    have hwr1 : fullCmd F.lit.ring F.lit.mask F.lit.mode F.lit.mbs st c = fullCopy F.lit.ring F.lit.mask F.lit.mbs c st1 := by
      unfold fullCmd
      rw [i1', Out.bind_ok]
      simp only
      rw [hlens.extra, Out.bind_ok, ← hxb, ← hst0, l1, Out.bind_ok]
    rcases hcase with ⟨hterm, rfl, hc0, hdec⟩ | ⟨hterm, hcl, r, hac, hdec, hl'⟩
    · refine ⟨b1 ++ (sb ++ (xb ++ lb)),
        ⟨ds.out ++ (F.lit.mb.drop ds.cursor).take c.insertLen, ds.ring, ds.cursor + c.insertLen⟩,
        { st1 with pos := (st1.pos + copyLen c) % two64 }, ?_, ?_, by simp only [decSteps, hdec], hterm, ?_⟩
      · unfold fullCmds
        rw [hwr1]
        unfold fullCopy
        rw [if_neg (by rw [hc0]; simp), Out.bind_ok]
        rfl
      · show st1.w = _
        rw [l2]; simp [List.append_assoc]
      · intro rest f hf
        obtain ⟨f', rfl⟩ : ∃ f', f = f' + 1 := ⟨f - 1, by simp at hf; omega⟩
        unfold readCommandsG
        rw [if_neg (by omega)]
        simp only [List.append_assoc]
        rw [hri]
        simp only [hterm, if_true]
    · simp only [faithful, hdec] at hfa
      obtain ⟨hfo, hfa⟩ := hfa
      obtain ⟨k', hk'⟩ : ∃ k', k' = ds.cursor + c.insertLen + copyLen c := ⟨_, rfl⟩
      rw [← hk'] at hl' hfa hfo
      have hlen' := lockstep_length _ _ _ _ _ _ _ _ hl'
      have hk2 := hcl2 c (by simp) hcl
      have hk'le : k' ≤ F.lit.mb.length := by omega
      have hpos1 : (st1.pos + copyLen c) % two64 = posOf F.lit.start k' := by
        rw [l3, posOf_add, hk']
      have hge2 : posOf F.lit.start k' ≥ 2 := by
        have := hF.h64
        unfold posOf; rw [Nat.mod_eq_of_lt (by omega)]; omega
      -- behind the copy the writer takes the two context bytes from its input ring, the reader from its output: `faithful` makes them equal
      have hp2 := ring_back _ _ _ _ hLE.ring hF.h64 k' 2 (by omega) (by omega) hk'le
      have hp1 := ring_back _ _ _ _ hLE.ring hF.h64 k' 1 (by omega) (by omega) hk'le
      obtain ⟨xd, x1, x2, x3⟩ := distExtra_ok F.A F.np F.nd c hcok hcl
      simp only [distSymsOf] at hcD
      have hdist : ∃ dbits de catD' jD', EncAt F.D de catD' jD' ∧
          F.D.covers (remTypes F.D.s jD' de.blockLen) (distSymsOf cs) ∧
          (c.cmdPrefix ≥ 128 → ∃ sbits, dbits = sbits ++ xd ∧
            ∀ w, (if F.lit.mbs.distCmapSize = 0 then st1.distE.storeSymbol (c.distPrefix % 1024) w
              else st1.distE.storeSymbolCtx (c.distPrefix % 1024) (distanceContext c) F.lit.mbs.distCmap 2 w)
                = .ok (de, w ++ sbits)) ∧
          (¬ c.cmdPrefix ≥ 128 → dbits = [] ∧ de = st1.distE) ∧
          ∀ out ring rest, readCopyG F.wo F.window F.lit.T catD F.lit.mb.length (ds.cursor + c.insertLen)
              (rfcCmdDecode c.cmdPrefix).2.2 (copyLenCode c.copyLenField) out ring (dbits ++ rest)
            = (applyCopy F.wo F.window F.np F.nd F.lit.mb.length (ds.cursor + c.insertLen)
                (copyLenCode c.copyLenField) out ring (c.distPrefix % 1024) c.distExtra).map
                fun ns => (catD', ns.1, ns.2, rest) := by
        have himp0 : (rfcCmdDecode c.cmdPrefix).2.2 = decide (c.cmdPrefix / 64 < 2) := rfl
        by_cases h128 : c.cmdPrefix ≥ 128
        · have hhd : hasDist c = true := by unfold hasDist; simp [hcl, h128]
          rw [List.filter_cons_of_pos hhd, List.map_cons] at hcD
          have hdsA : c.distPrefix % 1024 < F.D.H := by
            have := (cmdOK_elim hcok).dsym
            have := hF.dA
            omega
          obtain ⟨d1, d2, de, catD', jD', tD, g1, g2, g3, g4, g5, g6, g7⟩ := F.D.step hF.d st1.distE catD jD
            (c.distPrefix % 1024) (distanceContext c) _ (by rw [l5]; exact hAD) hdsA
            (by rw [hF.dcb]; exact distanceContext_lt c) (by rw [l5]; exact hcD)
          refine ⟨d1 ++ d2 ++ xd, de, catD', jD', g6, g7, fun _ => ⟨d1 ++ d2, rfl, ?_⟩, fun hn => absurd h128 hn, ?_⟩
          · intro w
            rw [hF.dcsize, hF.dcmap, ← hF.dcb, g1, List.append_assoc]
          · intro out ring rest
            have hfalse : (rfcCmdDecode c.cmdPrefix).2.2 = false := by rw [himp0]; simp; omega
            unfold readCopyG
            rw [hfalse]
            simp only [Bool.false_eq_true, if_false]
            rw [List.append_assoc, List.append_assoc, g2]
            simp only
            have hctxeq := distanceContext_eq hlens
            have p2 : (2 : Nat) ^ 2 = 4 := by decide
            have hix : 4 * catD'.btype + rfcDistanceContext (copyLenCode c.copyLenField)
                = tD * 2 ^ F.D.cb + distanceContext c := by
              rw [g3, hF.dcb, p2, Nat.mul_comm, hctxeq]
            obtain ⟨hmap, htree⟩ := hF.d.lookup tD (distanceContext c) g4 (by rw [hF.dcb]; exact distanceContext_lt c)
            rw [hix, hF.tmapD, hmap]
            simp only
            rw [hF.tdist, htree]
            simp only
            rw [g5]
            simp only
            rw [hF.tnp, hF.tnd, x2]
            simp only
            cases applyCopy F.wo F.window F.np F.nd F.lit.mb.length (ds.cursor + c.insertLen)
              (copyLenCode c.copyLenField) out ring (c.distPrefix % 1024) c.distExtra <;> rfl
        · have hhd : hasDist c = false := by unfold hasDist; simp [h128]
          rw [List.filter_cons_of_neg (by rw [hhd]; simp)] at hcD
          obtain ⟨y1, y2⟩ := x3 (by omega)
          refine ⟨[], st1.distE, catD, jD, by rw [l5]; exact hAD, by rw [l5]; exact hcD, fun h => absurd h h128,
            fun _ => ⟨rfl, rfl⟩, ?_⟩
          · intro out ring rest
            have htrue : (rfcCmdDecode c.cmdPrefix).2.2 = true := by rw [himp0]; simp; omega
            unfold readCopyG
            rw [htrue, y1, y2]
            simp only [if_true, List.nil_append, show (0 : Nat) < 16 + F.lit.T.ndirect by omega, takeBits_zero]
            rw [hF.tnp, hF.tnd]
            cases applyCopy F.wo F.window F.np F.nd F.lit.mb.length (ds.cursor + c.insertLen)
              (copyLenCode c.copyLenField) out ring 0 0 <;> rfl
      obtain ⟨dbits, de, catD', jD', q1, q2, q3, q3', q4⟩ := hdist
      obtain ⟨st2, hst2⟩ : ∃ st2 : FullSt, st2 = ⟨posOf F.lit.start k', F.lit.mb.getD (k' - 1) 0,
          F.lit.mb.getD (k' - 2) 0, st1.litE, st1.cmdE, de, st1.w ++ dbits⟩ := ⟨_, rfl⟩
      obtain ⟨db', fin, st', h1, h1w, h2, h3, h4⟩ := ih ⟨r.out, r.ring, k'⟩ st2 catL' catI' catD' jL' jI' jD' hl' hfa hfo
        (fun x hx => hok x (List.mem_cons_of_mem _ hx)) (fun x hx => hcl2 x (List.mem_cons_of_mem _ hx))
        (by rw [hst2]) (by rw [hst2]; exact l6) (by rw [hst2]; show EncAt F.I st1.cmdE _ _; rw [l4]; exact i6)
        (by rw [hst2]; exact q1)
        (fun _ => by
          rw [hst2]
          show _ = lastB r.out ∧ _ = last2B r.out
          rw [hfo]
          exact ⟨(lastB_take _ _ _ (by omega) hk'le).symm, (last2B_take _ _ _ (by omega) hk'le).symm⟩)
        (by rw [hst2, hk']; exact l8) (by rw [hst2]; show F.I.covers (remTypes F.I.s jI' st1.cmdE.blockLen) _; rw [l4]; exact i7)
        (by rw [hst2]; exact q2)
      refine ⟨b1 ++ (sb ++ (xb ++ (lb ++ (dbits ++ db')))), fin, st', ?_, ?_, by simp only [decSteps, hdec]; rw [← hk']; exact h2,
        h3, ?_⟩
      · unfold fullCmds
        rw [hwr1]
        have hcopy : fullCopy F.lit.ring F.lit.mask F.lit.mbs c st1 = .ok st2 := by
          unfold fullCopy
          dsimp only
          rw [hpos1, if_pos hcl, if_pos hge2, hp2, Out.bind_ok, hp1, Out.bind_ok]
          by_cases h128 : c.cmdPrefix ≥ 128
          · obtain ⟨sbits, t1, t2⟩ := q3 h128
            rw [if_pos h128, t2, Out.bind_ok]
            dsimp only
            rw [x1, Out.bind_ok, hst2, t1, List.append_assoc]
          · obtain ⟨t1, t2⟩ := q3' h128
            rw [if_neg h128, hst2, t1, t2, List.append_nil]
        rw [hcopy, Out.bind_ok]
        exact h1
      · rw [h1w, hst2]
        show st1.w ++ dbits ++ db' = _
        rw [l2]; simp [List.append_assoc]
      · intro rest f hf
        obtain ⟨f', rfl⟩ : ∃ f', f = f' + 1 := ⟨f - 1, by simp at hf; omega⟩
        unfold readCommandsG
        rw [if_neg (by omega)]
        simp only [List.append_assoc]
        rw [hri]
        simp only [hterm, if_false]
        rw [q4, hac]
        simp only [Option.map_some]
        rw [← hk']
        exact h4 rest f' (by simp at hf; omega)

end BV.MetaBlock
