/-
C01 / meta-block writers: assembling `BrotliStoreMetaBlockTrivial`.  Header, the 13 zero bits,
three prefix codes, the command loop, the final padding — against `readMetaBlockFull`.
What is needed of each `BuildAndStoreHuffmanTree` call is `buildN_roundtrip` of `MetaBlockCode.lean` (from C17): the
description is read back as a code, and on every symbol that occurs that code agrees with the depth and bit tables the
command loop writes with (`SymIO`).
-/
import BV.Lemmas.MetaBlockCode
import BV.Lemmas.MetaBlockHisto

namespace BV.MetaBlock
open BV.Gen BV.Bits BV.Huffman BV.PrefixArith BV.Recoder BV.HeaderSpec
open BV.Header (skipPad_pad)

/-- the reader on the 13 zero bits: one block type per category, NPOSTFIX = NDIRECT = 0, context
mode 0, one literal tree, one distance tree -/
theorem read13 (wo : WordOracle) (window : Nat) (large : Bool) (mlen : Nat) (s : RdSt) (bs b1 b2 b3 : List Bool)
    (lit cmd dist : Code) (hl : readCode 256 bs = some (lit, b1)) (hc : readCode 704 b1 = some (cmd, b2))
    (hd : readCode (distAlphabetSize large 0 0) b2 = some (dist, b3)) :
    readCompressedBody wo window large mlen s (bitsOf 13 0 ++ bs) =
      readCommands wo window 0 0 lit cmd dist mlen (mlen + 1) 0 s b3 := by
  have e : bitsOf 13 0 = [false, false, false, false, false, false, false, false, false, false, false, false, false] := by
    decide
  rw [e]
  simp [readCompressedBody, readVarLen8, takeBits, valOf, hl, hc, hd]

theorem hist_mem (h : Histo) (n : Nat) (items : List Nat) (hi : HistoInv h n items) (s : Nat) (hs : s ∈ items) :
    h.data.getD s 0 ≠ 0 := (hi.mem s).mpr hs

theorem mem_lt_of_inv (h : Histo) (n : Nat) (items : List Nat) (hi : HistoInv h n items) (s : Nat) (hs : s ∈ items) :
    s < n := by
  have := (hi.mem s).mpr hs
  rw [← hi.len]
  rcases Nat.lt_or_ge s h.data.length with h1 | h1
  · exact h1
  · rw [List.getD_eq_getElem?_getD, List.getElem?_eq_none h1] at this; simp at this

theorem jump_length (w : Writer) : (jumpToByteBoundary w).length = w.length + (8 - w.length % 8) % 8 := by
  simp [jumpToByteBoundary]

theorem alphabet_facts (large : Bool) :
    1 ≤ distAlphabetSize large 0 0 ∧ distAlphabetSize large 0 0 ≤ 140 := by
  cases large <;> decide

theorem cmdOK_bounds (A np nd : Nat) (c : Cmd) (h : cmdOK A np nd c = true) :
    c.cmdPrefix < 704 ∧ c.distPrefix % 1024 < A := by
  obtain ⟨_, _, _, _, hlens⟩ := cmd_facts A np nd c h
  exact ⟨hlens.sym, (cmdOK_elim h).dsym⟩

theorem mem_distsOf (cmds : List Cmd) (c : Cmd) (hc : c ∈ cmds) (h0 : copyLen c ≠ 0) (h128 : c.cmdPrefix ≥ 128) :
    c.distPrefix % 1024 ∈ distsOf cmds := by
  simp only [distsOf, List.mem_map, List.mem_filter]
  exact ⟨c, ⟨hc, by simp [hasDist, h0, h128]⟩, rfl⟩

theorem getD_of_length_le (d : List Nat) (n i : Nat) (hl : d.length = n) (hle : n ≤ i) : d.getD i 0 = 0 :=
  getD_of_le d i 0 (hl ▸ hle)

theorem buildHistograms_ok (wo : WordOracle) (window : Nat) (large : Bool) (ring : Bytes) (start mask : Nat)
    (mb : Bytes) (cmds : List Cmd) (hist : Bytes) (dc : List Int)
    (hR : RingHolds ring mask start mb) (h256 : ∀ b ∈ mb, b < 256) (h2 : mb.length ≤ 2 ^ 24) (hst : start < two64)
    (hok : ∀ c ∈ cmds, cmdOK (distAlphabetSize large 0 0) 0 0 c = true)
    (hlock : lockstep wo 0 0 window mb ⟨hist, dc, 0⟩ 0 cmds = true) :
    ∃ lit cmd dist, buildHistograms ring mask cmds start (Histo.zero 256, Histo.zero 704, Histo.zero 544)
        = .ok (lit, cmd, dist) ∧
      HistoInv lit 256 (litsOf mb 0 cmds) ∧ HistoInv cmd 704 (cmds.map (·.cmdPrefix)) ∧
      HistoInv dist 544 (distsOf cmds) ∧ lit.data.sum ≤ 2 ^ 25 ∧ cmd.data.sum ≤ 2 ^ 25 ∧ dist.data.sum ≤ 2 ^ 25 ∧
      ∀ i, distAlphabetSize large 0 0 ≤ i → dist.data.getD i 0 = 0 := by
  have p24 : (2 : Nat) ^ 24 = 16777216 := by decide
  have p25 : (2 : Nat) ^ 25 = 33554432 := by decide
  have hA140 := (alphabet_facts large).2
  have hrange := (lockstep_le wo 0 0 window mb cmds _ _ hlock).2
  have hnum := lockstep_length wo 0 0 window mb cmds _ _ hlock
  have hbounds : ∀ c ∈ cmds, c.cmdPrefix < 704 ∧ c.distPrefix % 1024 < 544 := fun c hc => by
    have := cmdOK_bounds _ _ _ c (hok c hc); omega
  obtain ⟨lit, cmd, dist, hb, il, ic, id⟩ := buildHistograms_inv ring mask start mb hR h256 cmds 0
    (Histo.zero 256) (Histo.zero 704) (Histo.zero 544) [] [] [] (histoInv_zero _) (histoInv_zero _) (histoInv_zero _)
    hrange hbounds (by unfold two32; simp; omega) (by unfold two32; simp; omega) (by unfold two32; simp; omega)
  rw [posOf_zero start hst] at hb
  rw [List.nil_append] at il ic id
  have hlitlen := litsOf_length mb cmds 0 hrange
  have hdlen : (distsOf cmds).length ≤ cmds.length := by
    simp only [distsOf, List.length_map]; exact List.length_filter_le _ _
  refine ⟨lit, cmd, dist, hb, il, ic, id, by rw [il.sum]; omega, by rw [ic.sum, List.length_map]; omega,
    by rw [id.sum]; omega, fun i hle => ?_⟩
  rcases Nat.eq_zero_or_pos (dist.data.getD i 0) with h0 | h0
  · exact h0
  · have hm := (id.mem i).mp (by omega)
    simp only [distsOf, List.mem_map, List.mem_filter] at hm
    obtain ⟨c, ⟨hc, _⟩, rfl⟩ := hm
    have := (cmdOK_bounds _ _ _ c (hok c hc)).2
    omega

def padOf (isLast : Bool) (W : List Bool) : List Bool :=
  if isLast then List.replicate ((8 - W.length % 8) % 8) false else []

theorem jump_padOf (isLast : Bool) (W : List Bool) : (if isLast then jumpToByteBoundary W else W) = W ++ padOf isLast W := by
  cases isLast <;> simp [padOf, jumpToByteBoundary]

/-- the reading half shared by the trivial and the fast writer -/
theorem read_assembled (wo : WordOracle) (window : Nat) (large : Bool) (mb : Bytes) (isLast : Bool)
    (hist : Bytes) (dc : List Int) (w cb1 cb2 cb3 db W : List Bool) (litC cmdC distC : Code) (fin : DecSt)
    (h1 : 1 ≤ mb.length) (h2 : mb.length ≤ 2 ^ 24)
    (hW : W = w ++ (headerBits isLast mb.length ++ (bitsOf 13 0 ++ (cb1 ++ (cb2 ++ (cb3 ++ db))))))
    (r1 : ∀ rest, readCode 256 (cb1 ++ rest) = some (litC, rest))
    (r2 : ∀ rest, readCode 704 (cb2 ++ rest) = some (cmdC, rest))
    (r3 : ∀ rest, readCode (distAlphabetSize large 0 0) (cb3 ++ rest) = some (distC, rest))
    (hrd : ∀ (rest : List Bool) (f : Nat), mb.length + 1 ≤ f →
      readCommands wo window 0 0 litC cmdC distC mb.length f 0 ⟨hist, dc⟩ (db ++ rest)
        = some (⟨fin.out, fin.ring⟩, rest))
    (rest : List Bool) :
    readMetaBlockFull wo window large w.length ⟨hist, dc⟩
      ((headerBits isLast mb.length ++ (bitsOf 13 0 ++ (cb1 ++ (cb2 ++ (cb3 ++ (db ++ padOf isLast W)))))) ++ rest)
      = some (⟨fin.out, fin.ring⟩, isLast, W.length + (padOf isLast W).length, rest) := by
  have hrd := hrd (padOf isLast W ++ rest) (mb.length + 1) (Nat.le_refl _)
  unfold readMetaBlockFull
  simp only [List.append_assoc]
  rw [readHeader_ok isLast mb.length w.length _ h1 h2]
  simp only
  rw [read13 wo window large mb.length ⟨hist, dc⟩ _ _ _ _ litC cmdC distC (r1 _) (r2 _) (r3 _), hrd]
  simp only
  have hpos : ∀ PR : List Bool, w.length + (headerBits isLast mb.length).length +
      ((bitsOf 13 0 ++ (cb1 ++ (cb2 ++ (cb3 ++ (db ++ PR))))).length - PR.length) = W.length := by
    intro PR
    rw [hW]
    simp only [List.length_append]
    omega
  rw [hpos]
  unfold padOf
  cases isLast
  · simp
  · simp only [if_true]
    rw [skipPad_pad]
    simp

theorem assembled_bits (isLast : Bool) (w hb cb1 cb2 cb3 db W : List Bool)
    (hW : W = w ++ (hb ++ (bitsOf 13 0 ++ (cb1 ++ (cb2 ++ (cb3 ++ db)))))) :
    W ++ padOf isLast W = w ++ (hb ++ (bitsOf 13 0 ++ (cb1 ++ (cb2 ++ (cb3 ++ (db ++ padOf isLast W)))))) := by
  rw [hW]; simp only [List.append_assoc]

theorem trivial_core (wo : WordOracle) (window : Nat) (large : Bool) (ring : Bytes) (start mask : Nat)
    (mb : Bytes) (isLast : Bool) (cmds : List Cmd) (hist : Bytes) (dc : List Int) (w : List Bool)
    (hR : RingHolds ring mask start mb) (h256 : ∀ b ∈ mb, b < 256)
    (h1 : 1 ≤ mb.length) (h2 : mb.length ≤ 2 ^ 24) (hst : start < two64)
    (hIP : inputPairCheck ring start mb.length mask = .ok ())
    (hok : ∀ c ∈ cmds, cmdOK (distAlphabetSize large 0 0) 0 0 c = true)
    (hlock : lockstep wo 0 0 window mb ⟨hist, dc, 0⟩ 0 cmds = true) :
    ∃ bits fin, storeMetaBlockTrivial ring start mb.length mask isLast (distAlphabetSize large 0 0) cmds w
        = .ok (w ++ bits) ∧
      decSteps wo 0 0 window mb ⟨hist, dc, 0⟩ cmds = some fin ∧ fin.cursor = mb.length ∧
      ∀ rest, readMetaBlockFull wo window large w.length ⟨hist, dc⟩ (bits ++ rest)
        = some (⟨fin.out, fin.ring⟩, isLast, (w ++ bits).length, rest) := by
  obtain ⟨a4, hA140⟩ := alphabet_facts large
  have hnum := lockstep_length wo 0 0 window mb cmds _ _ hlock
  obtain ⟨lit, cmd, dist, hb, il, ic, id, hlsum, hcsum, hdsum, hdzero⟩ := buildHistograms_ok wo window large ring start mask
    mb cmds hist dc hR h256 h2 hst hok hlock
  obtain ⟨litD, litB, cb1, litC, hb1, r1, s1, _⟩ := buildN_roundtrip lit.data 256 256 256
    (w ++ headerBits isLast mb.length ++ bitsOf 13 0) (Nat.le_refl _) (by rw [il.len]; omega) (by omega) hlsum (by omega)
    (by omega) (getD_of_length_le _ _ · il.len)
  obtain ⟨cmdD, cmdB, cb2, cmdC, hb2, r2, s2, _⟩ := buildN_roundtrip cmd.data 704 704 704 _ (Nat.le_refl _)
    (by rw [ic.len]; omega) (by omega) hcsum (by omega) (by omega) (getD_of_length_le _ _ · ic.len)
  obtain ⟨distD, distB, cb3, distC, hb3, r3, s3, _⟩ := buildN_roundtrip dist.data 140 (distAlphabetSize large 0 0) 140 _
    (Nat.le_refl _) (by rw [id.len]; omega) (by omega) hdsum a4 hA140 hdzero
  obtain ⟨db, fin, hsd, hdec, hfin, hrd⟩ := storeData_sim wo window 0 0 (distAlphabetSize large 0 0) ring mask start mb
    litD litB cmdD cmdB distD distB litC cmdC distC hR cmds ⟨hist, dc, 0⟩ _ hlock
    (fun b hb => s1 b (mem_lt_of_inv lit 256 _ il b hb) (hist_mem lit 256 _ il b hb))
    hok
    (fun c hc => s2 c.cmdPrefix (cmdOK_bounds _ _ _ c (hok c hc)).1 (hist_mem cmd 704 _ ic _ (List.mem_map_of_mem hc)))
    (fun c hc h0 h128 => s3 (c.distPrefix % 1024) (by have := (cmdOK_bounds _ _ _ c (hok c hc)).2; omega)
      (hist_mem dist 544 _ id _ (mem_distsOf cmds c hc h0 h128)))
  simp only at hsd hrd
  rw [posOf_zero start hst] at hsd
  have hconst : BROTLI_NUM_LITERAL_SYMBOLS = 256 ∧ BROTLI_NUM_COMMAND_SYMBOLS = 704 ∧
      BROTLI_NUM_HISTOGRAM_DISTANCE_SYMBOLS = 544 ∧ MAX_SIMPLE_DISTANCE_ALPHABET_SIZE = 140 := by decide
  obtain ⟨c1, c2, c3, c4⟩ := hconst
  obtain ⟨W, hW⟩ : ∃ W, W = w ++ (headerBits isLast mb.length ++ (bitsOf 13 0 ++ (cb1 ++ (cb2 ++ (cb3 ++ db))))) :=
    ⟨_, rfl⟩
  have hw3 : w ++ headerBits isLast mb.length ++ bitsOf 13 0 ++ cb1 ++ cb2 ++ cb3 ++ db = W := by
    rw [hW]; simp only [List.append_assoc]
  have hbits := assembled_bits isLast w _ cb1 cb2 cb3 db W hW
  refine ⟨headerBits isLast mb.length ++ (bitsOf 13 0 ++ (cb1 ++ (cb2 ++ (cb3 ++ (db ++ padOf isLast W))))), fin,
    ?_, hdec, hfin, fun rest => ?_⟩
  · unfold storeMetaBlockTrivial
    rw [hIP, Out.bind_ok, storeHeader_ok isLast mb.length w h1 h2, Out.bind_ok, c1, c2, c3, c4, hb, Out.bind_ok]
    simp only
    rw [writeBits_ok 13 0 _ (by decide) (by decide), Out.bind_ok, hb1, Out.bind_ok]
    simp only
    rw [hb2, Out.bind_ok]
    simp only
    rw [hb3, Out.bind_ok]
    simp only
    rw [hsd, Out.bind_ok, hw3, jump_padOf, hbits]
  · rw [read_assembled wo window large mb isLast hist dc w cb1 cb2 cb3 db W litC cmdC distC fin h1 h2 hW r1 r2 r3
      (fun rest f hf => hrd rest f (by omega)) rest, ← hbits, List.length_append]

end BV.MetaBlock
