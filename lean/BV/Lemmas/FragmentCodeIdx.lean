/-
The index lists of `BuildAndStoreCommandPrefixCode` (two-pass): for a depth array `D` with `D[0] = D[40] = 0` the stored
704-entry vector `gat D idxC` has the non-zero entries of the permuted 64-entry vector `gat D idxP` in the same order,
hence the same canonical codes (`canon_stored`) and the same Kraft sum as `D[0..64]` (`kraft_stored`).
-/
import BV.Lemmas.FragmentCode
namespace BV.Fragment
open BV.Bits BV.Huffman

def idxC : List Nat := (List.range 704).map invSym

theorem idxC_len : idxC.length = 704 := by simp [idxC]

theorem idxC_get (s : Nat) (h : s < 704) : idxC.getD s 0 = invSym s := by
  unfold idxC
  rw [List.getD_eq_getElem?_getD, List.getElem?_map, List.getElem?_range h]
  rfl

def pK (k : Nat) : Bool := k != 0 && k != 40 && decide (k < 128)

theorem idx_all : idxC.filter pK = idxP.filter pK := by decide +kernel

theorem idx_each : ∀ c < 64, pK c = true →
    invSym (q1Symbol c) = c ∧ q1Symbol c < 704 ∧ idxP.getD (idxB.getD c 0) 0 = c ∧ idxB.getD c 0 < 64 := by
  decide +kernel

theorem idxP_perm : idxP.Perm (List.range 64) := by decide +kernel

theorem idxP_len : idxP.length = 64 := by decide
theorem idxB_len : idxB.length = 64 := by decide
theorem idxP_lt : ∀ k ∈ idxP, k < 64 := by decide +kernel

theorem invSym_range (s : Nat) (h : s < 704) : invSym s < 64 ∨ invSym s = 128 :=
  (by decide +kernel : ∀ s < 704, invSym s < 64 ∨ invSym s = 128) s h

def gat (D : List Nat) (idx : List Nat) : List Nat := idx.map fun k => D.getD k 0

theorem gat_range (D : List Nat) : gat D (List.range D.length) = D := by
  apply List.ext_getElem?
  intro i
  unfold gat
  rw [List.getElem?_map]
  by_cases h : i < D.length
  · rw [List.getElem?_range h, List.getElem?_eq_getElem h]
    simp [List.getD_eq_getElem?_getD, h]
  · rw [List.getElem?_eq_none (by simpa using h), List.getElem?_eq_none (by simpa using h)]
    rfl

theorem gat_zero (D : List Nat) (n : Nat) : gat D (List.replicate n D.length) = List.replicate n 0 := by
  unfold gat
  rw [List.map_replicate]
  congr 1
  rw [List.getD_eq_getElem?_getD, List.getElem?_eq_none (Nat.le_refl _)]
  rfl

theorem perm_D (D : List Nat) (h : D.length = 128) :
    q1Perm D (List.replicate 704 0) = .ok (gat D idxP ++ List.replicate 640 0) := by
  have := q1Perm_map (fun k => D.getD k 0) _ _ _ perm_labels
  have e1 := gat_range D
  have e2 := gat_zero D 704
  have e3 := gat_zero D 640
  rw [h] at e1 e2 e3
  unfold gat at e1 e2 e3
  rw [e1, e2, List.map_append, e3] at this
  exact this

theorem scatter_D (D : List Nat) (h : D.length = 128) :
    q1Scatter D (gat D idxP ++ List.replicate 640 0) (List.replicate 64 0)
      = .ok (gat D idxC) := by
  have hs : q1Scatter (List.range 128) (idxP ++ List.replicate 640 128) (List.replicate 64 128) = .ok idxC :=
    scatter_labels
  have := q1Scatter_map (fun k => D.getD k 0) _ _ _ _ hs
  have e1 := gat_range D
  have e2 := gat_zero D 64
  have e3 := gat_zero D 640
  rw [h] at e1 e2 e3
  unfold gat at e1 e2 e3
  rw [e1, e2, List.map_append, e3] at this
  exact this

theorem bits_D (cb : List Nat) (h : cb.length = 64) :
    q1Bits (List.replicate 128 0) cb
      = .ok (gat cb idxB ++ (gat cb (List.range' 40 8) ++ List.replicate 56 0)) := by
  have := q1Bits_map (fun k => cb.getD k 0) _ _ _ bits_labels
  have e1 := gat_range cb
  have e2 := gat_zero cb 128
  have e3 := gat_zero cb 56
  rw [h] at e1 e2 e3
  unfold gat at e1 e2 e3
  rw [e1, e2, List.map_append, List.map_append, e3] at this
  exact this

theorem pK_false (D : List Nat) (h : D.length = 128) (h0 : D.getD 0 0 = 0) (h40 : D.getD 40 0 = 0) (k : Nat)
    (hk : pK k = false) : D.getD k 0 = 0 := by
  unfold pK at hk
  simp only [Bool.and_eq_false_iff, bne_eq_false_iff_eq, decide_eq_false_iff_not] at hk
  rcases hk with (rfl | rfl) | hk
  · exact h0
  · exact h40
  · rw [List.getD_eq_getElem?_getD, List.getElem?_eq_none (by omega)]; rfl

theorem nz_gat (D : List Nat) (h : D.length = 128) (h0 : D.getD 0 0 = 0) (h40 : D.getD 40 0 = 0) (idx : List Nat) :
    nz (gat D idx) = nz (gat D (idx.filter pK)) :=
  nz_map_filter _ pK idx (fun k _ hk => pK_false D h h0 h40 k hk)

theorem nz_all (D : List Nat) (h : D.length = 128) (h0 : D.getD 0 0 = 0) (h40 : D.getD 40 0 = 0) :
    nz (gat D idxC) = nz (gat D idxP) := by
  rw [nz_gat D h h0 h40, idx_all, ← nz_gat D h h0 h40]

theorem gat_take (D idx : List Nat) (n : Nat) : (gat D idx).take n = gat D (idx.take n) := by
  unfold gat; rw [List.map_take]

theorem gat_getD (D idx : List Nat) (i : Nat) (hi : i < idx.length) : (gat D idx).getD i 0 = D.getD (idx.getD i 0) 0 := by
  unfold gat
  simp [List.getD_eq_getElem?_getD, List.getElem?_map, List.getElem?_eq_getElem hi]

theorem gat_length (D idx : List Nat) : (gat D idx).length = idx.length := by unfold gat; simp

theorem canon_stored (D : List Nat) (h : D.length = 128) (h0 : D.getD 0 0 = 0) (h40 : D.getD 40 0 = 0)
    (c : Nat) (hc : c < 64) (hp : pK c = true) :
    (gat D idxC).getD (q1Symbol c) 0 = D.getD c 0 ∧
    (gat D idxP).getD (idxB.getD c 0) 0 = D.getD c 0 ∧
    (canonicalCodes (gat D idxC)).getD (q1Symbol c) 0
      = (canonicalCodes (gat D idxP)).getD (idxB.getD c 0) 0 := by
  obtain ⟨e1, e2, e3, e4⟩ := idx_each c hc hp
  have hl := idxC_len
  have hlP := idxP_len
  have g1 : (gat D idxC).getD (q1Symbol c) 0 = D.getD c 0 := by
    rw [gat_getD _ _ _ (by rw [hl]; exact e2), idxC_get _ e2, e1]
  have g2 : (gat D idxP).getD (idxB.getD c 0) 0 = D.getD c 0 := by
    rw [gat_getD _ _ _ (by rw [hlP]; exact e4), e3]
  -- the stored order and the permuted order list the codes that can have a depth in the same order, each once:
  -- in front of `c` they list the same ones
  have e5 : (idxC.take (q1Symbol c)).filter pK = (idxP.take (idxB.getD c 0)).filter pK := by
    refine BV.filter_take_eq pK idxC idxP _ _ c idx_all ?_ ?_ ?_ hp
    · rw [idx_all]; exact (idxP_perm.nodup_iff.mpr List.nodup_range).filter _
    · have := idxC_get _ e2
      rw [e1, List.getD_eq_getElem?_getD, List.getElem?_eq_getElem (by rw [hl]; exact e2)] at this
      rw [List.getElem?_eq_getElem (by rw [hl]; exact e2)]
      exact congrArg some this
    · rw [List.getD_eq_getElem?_getD, List.getElem?_eq_getElem (by rw [hlP]; exact e4)] at e3
      rw [List.getElem?_eq_getElem (by rw [hlP]; exact e4)]
      exact congrArg some e3
  refine ⟨g1, g2, ?_⟩
  apply canon_embed
  · rw [gat_length, hl]; exact e2
  · rw [gat_length, hlP]; exact e4
  · exact nz_all D h h0 h40
  · rw [gat_take, gat_take, nz_gat D h h0 h40, e5, ← nz_gat D h h0 h40]
  · rw [g1, g2]

theorem kraft_gat_perm (L : Nat) (D : List Nat) (a b : List Nat) (hp : a.Perm b) :
    kraftSum L (gat D a) = kraftSum L (gat D b) := by
  unfold kraftSum gat
  rw [List.map_map, List.map_map]
  exact (hp.map _).sum_nat

theorem kraft_stored (D : List Nat) (h : D.length = 128) (h0 : D.getD 0 0 = 0) (h40 : D.getD 40 0 = 0) (L : Nat) :
    kraftSum L (gat D idxC) = kraftSum L (D.take 64) := by
  rw [kraftSum_nz, nz_all D h h0 h40, ← kraftSum_nz, kraft_gat_perm L D _ _ idxP_perm]
  congr 1
  apply List.ext_getElem?
  intro i
  unfold gat
  rw [List.getElem?_map, List.getElem?_take]
  by_cases hi : i < 64
  · rw [List.getElem?_range hi, if_pos hi, List.getElem?_eq_getElem (by omega)]
    simp [List.getD_eq_getElem?_getD, List.getElem?_eq_getElem (show i < D.length by omega)]
  · rw [List.getElem?_eq_none (by simpa using hi), if_neg hi]
    rfl

end BV.Fragment
