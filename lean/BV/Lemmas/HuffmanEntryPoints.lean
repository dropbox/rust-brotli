/-
C17: each of the two builders (`BuildAndStoreHuffmanTree`, `BrotliBuildAndStoreHuffmanTreeFast`) returns, whatever the tables it
is given and however many symbols are in use, and leaves a `Coded` (two or more symbols) or a `Single` (one or none).  The
"whenever it returns" forms that C17 states are for zero tables, as the meta-block writers pass them.
-/
import BV.Lemmas.HuffmanFastStore

namespace BV.Lemmas.HuffmanEntryPoints
open BV.Gen BV.Bits BV.Huffman BV.Lemmas.HuffmanCanon
open BV.Lemmas.HuffmanCreate BV.Lemmas.HuffmanEntry BV.Lemmas.HuffmanSimple
open BV.Lemmas.HuffmanFastStore

theorem take_pad (d : List Nat) (l A : Nat) (hl : l ≤ A) (hA : A ≤ d.length)
    (hz : ∀ x, l ≤ x → x < A → d.getD x 0 = 0) :
    d.take l ++ List.replicate (A - l) 0 = d.take A := by
  have hll : (d.take l).length = l := by rw [List.length_take]; omega
  apply ext_getD _ _ 0 (by simp; omega)
  intro x hx
  have hxA : x < A := by simp at hx; omega
  rw [getD_take d A x 0 hxA]
  by_cases h1 : x < l
  · rw [getD_append_left _ _ x 0 (by omega), getD_take d l x 0 h1]
  · rw [getD_append_right _ _ x 0 (by omega), getD_replicate, hz x (by omega) hxA]

theorem take_take_pad (d : List Nat) (len A : Nat) (hA : A ≤ len) :
    (d.take len ++ List.replicate (A - len) 0).take A = d.take A := by
  have : A - len = 0 := by omega
  rw [this]
  simp only [List.replicate_zero, List.append_nil, List.take_take]
  rw [Nat.min_eq_left hA]

theorem zeros_frame (len n : Nat) (h : len ≤ n) :
    List.replicate len 0 ++ (List.replicate n (0 : Nat)).drop len = List.replicate n 0 := by
  rw [List.drop_replicate, List.replicate_append_replicate]
  congr 1; omega

theorem headD_ascNZ (h : List Nat) (len s : Nat) (hN : (ascNZ h len 0).length ≤ 1) (hs : s < len)
    (hne : h.getD s 0 ≠ 0) : (ascNZ h len 0).headD 0 = s := by
  have hm := (mem_ascNZ h len 0 s).mpr ⟨by omega, by omega, hne⟩
  revert hm hN
  generalize ascNZ h len 0 = L
  intro hN hm
  match L, hN, hm with
  | [a], _, hm => simp at hm; simp [hm]
  | _ :: _ :: _, hN, _ => simp at hN

/-- what a builder leaves with two or more symbols in use (`d0`: the depth table with its first `len` entries cleared, `M`: the
depth limit).  `out`, the lengths the reader returns, is a parameter: `depth'.take A` for the exact builder (`A ≤ len`), but
`depth'.take len` padded with zeros for the fast one (`len ≤ A`, and `d0` need not be zero beyond `len`). -/
structure Coded (h : List Nat) (len A M : Nat) (d0 bits depth' bits' : List Nat) (cb : List Bool)
    (out : List Nat) : Prop where
  good : GoodDepth h len M d0 depth'
  code : GoodBits len depth' bits bits'
  reads : ∀ rest, readPrefixCode A (cb ++ rest) = some (out, rest)

/-- what a builder leaves with at most one symbol in use (NSYM = 1; `s` gets a code word of length zero) -/
structure Single (A s : Nat) (depth bits depth' bits' : List Nat) (cb : List Bool) : Prop where
  desc : cb = bitsOf 4 1 ++ bitsOf (alphabetBits A) s
  depth_eq : depth' = depth.set s 0
  bits_eq : bits' = bits.set s 0

theorem Single.zeros {A s n : Nat} {d b : List Nat} {cb : List Bool}
    (t : Single A s (List.replicate n 0) (List.replicate n 0) d b cb) :
    d = List.replicate n 0 ∧ b = List.replicate n 0 :=
  ⟨by rw [t.depth_eq, List.set_replicate_self], by rw [t.bits_eq, List.set_replicate_self]⟩

/-- `h16`: the `u16` counters of `BrotliConvertBitDepthsToSymbols`; `hA`: a symbol has to fit the 56
bits one `BrotliWriteBits` takes (`alphabetBits_facts`).  The vector read back,
`(depth'.take len ++ replicate (A - len) 0).take A`, covers both builders: for `A ≤ len` it is `depth'.take A`
(`take_take_pad`), for `len ≤ A` the outer `take` does nothing. -/
theorem finish_total (h : List Nat) (len A M count : Nat) (syms : List Nat)
    (mkTree : List Nat → Out (List Nat)) (complex : List Nat → Writer → Out Writer)
    (depth bits : List Nat) (w : List Bool)
    (hM : M ≤ 15) (hlen : len ≤ h.length) (h16 : len < 65536) (hA1 : 1 ≤ A) (hA : A ≤ 65536)
    (hu : ∀ s ∈ ascNZ h len 0, s < A) (hs : Scanned h len count syms)
    (hdl : len ≤ depth.length) (hbl : len ≤ bits.length)
    (hAd : A ≤ depth.length) (hAb : A ≤ bits.length)
    (htree : 2 ≤ (ascNZ h len 0).length →
      ∃ d1, mkTree (List.replicate len 0 ++ depth.drop len) = .ok d1 ∧
        GoodDepth h len M (List.replicate len 0 ++ depth.drop len) d1)
    (hcomplex : ∀ d1, GoodDepth h len M (List.replicate len 0 ++ depth.drop len) d1 →
      5 ≤ (ascNZ h len 0).length →
      ∃ sbits, complex d1 w = .ok (w ++ sbits) ∧
        ∀ rest, readPrefixCode A (sbits ++ rest)
          = some ((d1.take len ++ List.replicate (A - len) 0).take A, rest)) :
    ∃ depth' bits' cb,
      finish count syms len (alphabetBits A) mkTree complex depth bits w
        = .ok (depth', bits', w ++ cb) ∧
      (2 ≤ (ascNZ h len 0).length →
        Coded h len A M (List.replicate len 0 ++ depth.drop len) bits depth' bits' cb
          ((depth'.take len ++ List.replicate (A - len) 0).take A)) ∧
      ((ascNZ h len 0).length ≤ 1 →
        Single A ((ascNZ h len 0).headD 0) depth bits depth' bits' cb) := by
  unfold finish
  rw [getAt_getD syms 0 0 (by rw [hs.hlen]; decide)]
  simp only [Out.bind_ok]
  by_cases hN4 : (ascNZ h len 0).length ≤ 4
  · obtain ⟨hcnt, hsym⟩ := hs.small hN4
    subst hcnt
    by_cases hc1 : (ascNZ h len 0).length ≤ 1
    · have hs0 : syms.getD 0 0 = (ascNZ h len 0).headD 0 := by
        rw [hsym]
        match hL : ascNZ h len 0, hc1 with
        | [], _ => rfl
        | [a], _ => rfl
        | _ :: _ :: _, hn' => simp at hn'
      have hh : (ascNZ h len 0).headD 0 < A := by
        match hL : ascNZ h len 0 with
        | [] => exact hA1
        | a :: _ => exact hu a (by rw [hL]; simp)
      rw [if_pos hc1, hs0, store_single A _ depth bits w hh hA1 hA (by omega) (by omega)]
      exact ⟨_, _, _, rfl, fun h2 => by omega, fun _ => ⟨rfl, rfl, rfl⟩⟩
    · obtain ⟨d1, hd1, hg⟩ := htree (by omega)
      have hd1len : len ≤ d1.length := by rw [hg.hlen]; simp
      obtain ⟨b1, hcv, hgb⟩ := convert_goodBits d1 bits len M hM hd1len hg.hlim h16 hbl
      obtain ⟨sbits, hst, hrd⟩ := bits_forall_rest fun rest => simple_from_depths h d1 len A w rest
        (simpleIn_of_good h _ d1 len M hM hlen (by simp) hg) hu hA ⟨by omega, hN4⟩
      rw [if_neg hc1, zeroPrefix_ok depth len hdl]
      simp only [Out.bind_ok, hd1, hcv]
      rw [if_pos hN4, hsym, hst]
      exact ⟨d1, b1, sbits, rfl, fun _ => ⟨hg, hgb, hrd⟩, fun h1 => absurd h1 hc1⟩
  · have hc5 := hs.large (by omega)
    obtain ⟨d1, hd1, hg⟩ := htree (by omega)
    have hd1len : len ≤ d1.length := by rw [hg.hlen]; simp
    obtain ⟨b1, hcv, hgb⟩ := convert_goodBits d1 bits len M hM hd1len hg.hlim h16 hbl
    obtain ⟨sbits, hst, hrd⟩ := hcomplex d1 hg (by omega)
    rw [if_neg (by omega), zeroPrefix_ok depth len hdl]
    simp only [Out.bind_ok, hd1, hcv]
    rw [if_neg (by omega), hst]
    exact ⟨d1, b1, sbits, rfl, fun _ => ⟨hg, hgb, hrd⟩, fun h1 => by omega⟩

theorem scanHistogram_scanned (h : List Nat) (len : Nat) (hlen : len ≤ h.length) :
    ∃ c s, scanHistogram h len 0 0 [0, 0, 0, 0] = .ok (c, s) ∧ Scanned h len c s := by
  obtain ⟨c, s, e, a, b, d⟩ := scanHistogram_out h len 0 0 [0, 0, 0, 0] (by omega) rfl
  simp only [Nat.zero_add] at b d
  exact ⟨c, s, e, a, b, d⟩

/-- `ht37`: `BrotliStoreHuffmanTree` builds the code of the 18 code-length symbols in the same scratch
tree, `2 · 18 + 1` nodes. -/
theorem build_and_store_total (h : List Nat) (len A : Nat) (tree : List Node)
    (depth bits : List Nat) (w : List Bool)
    (hlen : len ≤ h.length) (h704 : len ≤ 704) (hsum : (h.take len).sum ≤ 2 ^ 25)
    (htl : 2 * len + 1 ≤ tree.length) (ht37 : 37 ≤ tree.length)
    (hA1 : 1 ≤ A) (hA : A ≤ len) (hdl : len ≤ depth.length) (hbl : len ≤ bits.length)
    (hu : ∀ s ∈ ascNZ h len 0, s < A) :
    ∃ depth' bits' cb,
      buildAndStoreHuffmanTree h len A tree depth bits w = .ok (depth', bits', w ++ cb) ∧
      (2 ≤ (ascNZ h len 0).length →
        Coded h len A 15 (List.replicate len 0 ++ depth.drop len) bits depth' bits' cb
          (depth'.take A)) ∧
      ((ascNZ h len 0).length ≤ 1 →
        Single A ((ascNZ h len 0).headD 0) depth bits depth' bits' cb) := by
  obtain ⟨c, s, hsc, hs⟩ := scanHistogram_scanned h len hlen
  have hnf := ascNZ_length_filter h len hlen
  rw [build_eq_finish, hsc, Out.bind_ok, maxBits_eq A hA1 (by omega)]
  have key := finish_total h len A 15 c s (createHuffmanTree h len 15 tree)
    (fun d w => storeHuffmanTree d len tree w) depth bits w (by decide) hlen (by omega) hA1
    (by omega) hu hs hdl hbl (by omega) (by omega)
    (fun h2 => build_front h len tree _ hlen h704 hsum (by omega) htl)
    (fun d1 hg _ => by
      have hd1len : len ≤ d1.length := by rw [hg.hlen]; simp
      simp only [take_take_pad _ _ _ hA]
      exact bits_forall_rest fun rest =>
        BV.Lemmas.HuffmanStoreTree.store_tree_roundtrip_ctx d1 len A tree w rest hd1len h704
          (hg.take_le hd1len) hg.hkraft ht37 hA (fun i hi1 hi2 =>
            Decidable.byContradiction fun hz =>
              absurd (hu i ((mem_ascNZ h len 0 i).mpr ⟨by omega, by omega, (hg.hsupp i hi2).mp hz⟩))
                (by omega)))
  simpa only [take_take_pad _ _ _ hA] using key

theorem build_and_store_roundtrip (histogram : List Nat) (len A n : Nat) (tree : List Node)
    (w rest : List Bool) (depth' bits' : List Nat) (w' : Writer)
    (hlen : len ≤ histogram.length) (h704 : len ≤ 704) (hsum : (histogram.take len).sum ≤ 2 ^ 25)
    (htl : 2 * len + 1 ≤ tree.length) (ht37 : 37 ≤ tree.length) (hn : len ≤ n)
    (hA1 : 1 ≤ A) (hA : A ≤ len)
    (hz : ∀ i, A ≤ i → i < len → histogram.getD i 0 = 0)
    (h : buildAndStoreHuffmanTree histogram len A tree (List.replicate n 0) (List.replicate n 0) w
      = .ok (depth', bits', w')) :
    ∃ cb, w' = w ++ cb ∧
      (2 ≤ ((histogram.take len).filter (· ≠ 0)).length →
        readPrefixCode A (cb ++ rest) = some (depth'.take A, rest) ∧
        GoodDepth histogram len 15 (List.replicate n 0) depth' ∧
        GoodBits len depth' (List.replicate n 0) bits') ∧
      (∀ s, s < len → histogram.getD s 0 ≠ 0 →
        ((histogram.take len).filter (· ≠ 0)).length = 1 →
          cb = bitsOf 4 1 ++ bitsOf (alphabetBits A) s ∧ depth' = List.replicate n 0 ∧
          bits' = List.replicate n 0) ∧
      (((histogram.take len).filter (· ≠ 0)).length = 0 →
          cb = bitsOf 4 1 ++ bitsOf (alphabetBits A) 0 ∧ depth' = List.replicate n 0 ∧
          bits' = List.replicate n 0) := by
  rw [← ascNZ_length_filter histogram len hlen]
  have hu : ∀ s ∈ ascNZ histogram len 0, s < A := fun s hs =>
    Decidable.byContradiction fun hsa => by
      obtain ⟨_, h2, h3⟩ := (mem_ascNZ histogram len 0 s).mp hs
      exact h3 (hz s (by omega) (by omega))
  obtain ⟨d1, b1, cb, heq, h2, h1⟩ := build_and_store_total histogram len A tree
    (List.replicate n 0) (List.replicate n 0) w hlen h704 hsum htl ht37 hA1 hA
    (by simp; omega) (by simp; omega) hu
  rw [heq] at h
  injection h with h; injection h with e1 h; injection h with e2 e3
  subst e1 e2 e3
  rw [zeros_frame len n hn] at h2
  refine ⟨cb, rfl, fun hc => ⟨(h2 hc).reads rest, (h2 hc).good, (h2 hc).code⟩,
    fun s hs hnz hc => ?_, fun hc => ?_⟩
  · have t := h1 (by omega)
    exact ⟨by rw [t.desc, headD_ascNZ histogram len s (by omega) hs hnz], t.zeros⟩
  · have t := h1 (by omega)
    exact ⟨by rw [t.desc, List.eq_nil_of_length_eq_zero hc]; rfl, t.zeros⟩

theorem build_good (histogram : List Nat) (len alphabetSize : Nat) (tree : List Node)
    (depth bits : List Nat) (w : Writer) (depth' bits' : List Nat) (w' : Writer)
    (hlen : len ≤ histogram.length) (h704 : len ≤ 704)
    (hsum : (histogram.take len).sum ≤ 2 ^ 25)
    (hn2 : 2 ≤ ((histogram.take len).filter (· ≠ 0)).length)
    (htl : 2 * len + 1 ≤ tree.length) (hdl : len ≤ depth.length) (hbl : len ≤ bits.length)
    (h : buildAndStoreHuffmanTree histogram len alphabetSize tree depth bits w
      = .ok (depth', bits', w')) :
    GoodDepth histogram len 15 (List.replicate len 0 ++ depth.drop len) depth' ∧
    GoodBits len depth' bits bits' := by
  obtain ⟨c, s, hsc, hs⟩ := scanHistogram_scanned histogram len hlen
  rw [build_eq_finish, hsc, Out.bind_ok] at h
  rw [← ascNZ_length_filter histogram len hlen] at hn2
  have hc : 2 ≤ c := by
    by_cases h4 : (ascNZ histogram len 0).length ≤ 4
    · rw [(hs.small h4).1]; exact hn2
    · have := hs.large (by omega); omega
  obtain ⟨d0, h0, h1, h2⟩ := finish_tables h hc
  obtain ⟨d1, hd1, hg⟩ := build_front histogram len tree (depth.drop len) hlen h704
    hsum (by rw [← ascNZ_length_filter histogram len hlen]; exact hn2) htl
  rw [zeroPrefix_ok depth len hdl] at h0; injection h0 with h0; subst h0
  rw [hd1] at h1; injection h1 with h1; subst h1
  exact ⟨hg, goodBits_of_convert _ bits bits' len 15 (by decide) (by rw [hg.hlen]; simp) hg.hlim
    (by omega) hbl h2⟩

theorem fastScan_scanned (h : List Nat) (total count len : Nat) (syms : List Nat)
    (hscan : fastScan h total 0 0 [0, 0, 0, 0] = .ok (count, syms, len)) :
    len ≤ h.length ∧ count = (ascNZ h len 0).length ∧ Scanned h len count syms ∧
      (len = 0 ∨ h.getD (len - 1) 0 ≠ 0) := by
  obtain ⟨_, hl, hs4, hcnt, hsym, hlast, _⟩ :=
    fastScan_out h h total 0 0 [0, 0, 0, 0] count len syms rfl hscan
  simp only [Nat.sub_zero, Nat.zero_add, Nat.zero_le, Nat.max_eq_right] at hl hcnt hsym
  exact ⟨hl, hcnt, ⟨hs4, fun h4 => ⟨hcnt, hsym (by omega)⟩, fun h5 => by omega⟩,
    hlast fun _ => Or.inl rfl⟩

theorem fastScan_count (h : List Nat) (count len : Nat) (syms : List Nat)
    (hscan : fastScan h h.sum 0 0 [0, 0, 0, 0] = .ok (count, syms, len)) (hlt : h.sum < u64) :
    (∀ i, len ≤ i → h.getD i 0 = 0) ∧
      (h.filter (· ≠ 0)).length = ((h.take len).filter (· ≠ 0)).length ∧
      count = (h.filter (· ≠ 0)).length := by
  obtain ⟨hlh, hcnt, _, _⟩ := fastScan_scanned h _ count len syms hscan
  obtain ⟨_, _, _, _, _, _, hcov⟩ := fastScan_out h h h.sum 0 0 [0, 0, 0, 0] count len syms rfl hscan
  replace hcov := hcov rfl hlt
  have hfl : (h.filter (· ≠ 0)).length = ((h.take len).filter (· ≠ 0)).length := by
    conv => lhs; rw [← List.take_append_drop len h]
    rw [List.filter_append, List.length_append]
    have : (h.drop len).filter (· ≠ 0) = [] := by
      rw [List.filter_eq_nil_iff]
      intro a ha
      obtain ⟨i, hi, hai⟩ := List.getElem_of_mem ha
      have := hcov (len + i) (by omega)
      rw [List.getD_eq_getElem?_getD] at this
      rw [List.getElem_drop] at hai
      rw [List.getElem?_eq_getElem (by simp at hi; omega)] at this
      simp only [Option.getD_some] at this
      simp [← hai, this]
    rw [this]; rfl
  exact ⟨hcov, hfl, by rw [hfl, hcnt, ascNZ_length_filter h len hlh]⟩

theorem fastScan_le (h : List Nat) (total A count len : Nat) (syms : List Nat)
    (hscan : fastScan h total 0 0 [0, 0, 0, 0] = .ok (count, syms, len))
    (hz : ∀ i, A ≤ i → h.getD i 0 = 0) : len ≤ A := by
  rcases (fastScan_scanned h total count len syms hscan).2.2.2 with h0 | h0
  · omega
  · exact Decidable.byContradiction fun hc => h0 (hz (len - 1) (by omega))

/-- stated from where the scan stopped (`len`), which is all the fast builder looks at -/
theorem fast_build_and_store_total (h : List Nat) (total A : Nat) (depth bits : List Nat)
    (w : List Bool) (count len : Nat) (syms : List Nat)
    (hscan : fastScan h total 0 0 [0, 0, 0, 0] = .ok (count, syms, len))
    (h704 : h.length ≤ 704) (hsum : h.sum ≤ 2 ^ 25) (hA1 : 1 ≤ A) (hA : A ≤ 65536)
    (hlA : len ≤ A) (hAd : A ≤ depth.length) (hAb : A ≤ bits.length) :
    ∃ depth' bits' cb,
      buildAndStoreHuffmanTreeFast h total (alphabetBits A) depth bits w
        = .ok (depth', bits', w ++ cb) ∧
      (2 ≤ (ascNZ h len 0).length →
        Coded h len A 14 (List.replicate len 0 ++ depth.drop len) bits depth' bits' cb
          (depth'.take len ++ List.replicate (A - len) 0)) ∧
      ((ascNZ h len 0).length ≤ 1 →
        Single A ((ascNZ h len 0).headD 0) depth bits depth' bits' cb) := by
  obtain ⟨hl, hcnt, hs, hlast⟩ := fastScan_scanned h total count len syms hscan
  have hu : ∀ s ∈ ascNZ h len 0, s < A := fun s hs => by
    have := (mem_ascNZ h len 0 s).mp hs; omega
  have hpad : ∀ d1 : List Nat, len ≤ d1.length →
      (d1.take len ++ List.replicate (A - len) 0).take A = d1.take len ++ List.replicate (A - len) 0 :=
    fun d1 hd => List.take_of_length_le (by simp; omega)
  rw [fast_eq_finish, hscan, Out.bind_ok]
  obtain ⟨d', b', cb, heq, h2, h1⟩ := finish_total h len A 14 count syms
    (fastLoop h len createFuel 1 (List.replicate (2 * len + 1) default)) (fastComplex len)
    depth bits w (by decide) hl (by omega) hA1 hA hu hs (by omega) (by omega) hAd hAb
    (fun h2 => fast_front h len _ hl (by omega) (Nat.le_trans (BV.sum_take_le h len) hsum)
      (by rw [← ascNZ_length_filter h len hl]; exact h2))
    (fun d1 hg h5 => by
      have hd1len : len ≤ d1.length := by rw [hg.hlen]; simp
      have hlen1 : 1 ≤ len := by
        rcases Nat.eq_zero_or_pos len with h0 | h0
        · rw [h0] at h5; simp [ascNZ_zero] at h5
        · exact h0
      rw [hpad d1 hd1len]
      exact bits_forall_rest fun rest => fastComplex_roundtrip h _ d1 len A w rest hg hd1len
        (by omega) hlen1 (by rcases hlast with h0 | h0
                             · omega
                             · exact h0) hlA)
  refine ⟨d', b', cb, heq, fun hc => ?_, h1⟩
  obtain ⟨hg, hgb, hrd⟩ := h2 hc
  exact ⟨hg, hgb, by rw [← hpad d' (by rw [hg.hlen]; simp)]; exact hrd⟩

theorem fast_build_and_store_roundtrip (histogram : List Nat) (A n : Nat)
    (w rest : List Bool) (depth' bits' : List Nat) (w' : Writer)
    (h704 : histogram.length ≤ 704) (hsum : histogram.sum ≤ 2 ^ 25)
    (hA1 : 1 ≤ A) (hAn : A ≤ n) (hA : A ≤ 65536)
    (hz : ∀ i, A ≤ i → histogram.getD i 0 = 0)
    (h : buildAndStoreHuffmanTreeFast histogram histogram.sum (alphabetBits A)
      (List.replicate n 0) (List.replicate n 0) w = .ok (depth', bits', w')) :
    ∃ cb count symbols length, w' = w ++ cb ∧
      fastScan histogram histogram.sum 0 0 [0, 0, 0, 0] = .ok (count, symbols, length) ∧
      count = (histogram.filter (· ≠ 0)).length ∧ length ≤ A ∧
      (2 ≤ count →
        readPrefixCode A (cb ++ rest) = some (depth'.take A, rest) ∧
        GoodDepth histogram length 14 (List.replicate n 0) depth' ∧
        GoodBits length depth' (List.replicate n 0) bits') ∧
      (∀ s, histogram.getD s 0 ≠ 0 → count = 1 →
          cb = bitsOf 4 1 ++ bitsOf (alphabetBits A) s ∧ depth' = List.replicate n 0 ∧
          bits' = List.replicate n 0) ∧
      (count = 0 →
          cb = bitsOf 4 1 ++ bitsOf (alphabetBits A) 0 ∧ depth' = List.replicate n 0 ∧
          bits' = List.replicate n 0) := by
  have e2 : (2:Nat) ^ 25 = 33554432 := by decide
  match hscan : fastScan histogram histogram.sum 0 0 [0, 0, 0, 0] with
  | .panic => rw [fast_eq_finish, hscan] at h; cases h
  | .fuel => rw [fast_eq_finish, hscan] at h; cases h
  | .ok (count, symbols, length) =>
    obtain ⟨hlh, hcnt, _, _⟩ := fastScan_scanned histogram _ count length symbols hscan
    have hcov := (fastScan_count histogram count length symbols hscan (by unfold u64; omega)).1
    have hlA := fastScan_le histogram _ A count length symbols hscan hz
    have hfilter := (fastScan_count histogram count length symbols hscan (by unfold u64; omega)).2.2
    obtain ⟨d1, b1, cb, heq, h2, h1⟩ := fast_build_and_store_total histogram histogram.sum A
      (List.replicate n 0) (List.replicate n 0) w count length symbols hscan h704 hsum hA1 hA
      hlA (by simpa using hAn) (by simpa using hAn)
    rw [heq] at h
    injection h with h; injection h with e1 h; injection h with e3 e4
    subst e1 e3 e4
    rw [zeros_frame length n (by omega)] at h2
    refine ⟨cb, count, symbols, length, rfl, rfl, hfilter, hlA, fun hc => ?_, fun s hnz hc => ?_,
      fun hc => ?_⟩
    · have t := h2 (by omega)
      refine ⟨?_, t.good, t.code⟩
      rw [t.reads, take_pad d1 length A hlA (by rw [t.good.hlen]; simpa using hAn)
        (fun x hx1 hx2 => by
          rw [List.getD_eq_getElem?_getD, t.good.hframe x hx1, ← List.getD_eq_getElem?_getD,
            getD_replicate])]
    · have t := h1 (by omega)
      have hsl : s < length := Decidable.byContradiction fun hsl => hnz (hcov s (by omega))
      exact ⟨by rw [t.desc, headD_ascNZ histogram length s (by omega) hsl hnz], t.zeros⟩
    · have t := h1 (by omega)
      exact ⟨by rw [t.desc, List.eq_nil_of_length_eq_zero (l := ascNZ histogram length 0)
        (by omega)]; rfl, t.zeros⟩

theorem fast_good (histogram : List Nat) (total maxBits : Nat) (depth bits : List Nat)
    (w : Writer) (depth' bits' : List Nat) (w' : Writer) (count length : Nat) (symbols : List Nat)
    (hscan : fastScan histogram total 0 0 [0, 0, 0, 0] = .ok (count, symbols, length))
    (hc2 : 2 ≤ count) (h704 : histogram.length ≤ 704) (hsum : histogram.sum ≤ 2 ^ 25)
    (hbl : length ≤ bits.length)
    (h : buildAndStoreHuffmanTreeFast histogram total maxBits depth bits w
      = .ok (depth', bits', w')) :
    length ≤ histogram.length ∧
    GoodDepth histogram length 14 (List.replicate length 0 ++ depth.drop length) depth' ∧
    GoodBits length depth' bits bits' := by
  obtain ⟨hl, hcnt, _, _⟩ := fastScan_scanned histogram total count length symbols hscan
  refine ⟨hl, ?_⟩
  rw [fast_eq_finish, hscan, Out.bind_ok] at h
  obtain ⟨d0, h0, h1, h2⟩ := finish_tables h hc2
  have hdl : length ≤ depth.length := Decidable.byContradiction fun hdl => by
    simp [zeroPrefix, show length > depth.length by omega] at h0
  obtain ⟨d1, hd1, hg⟩ := fast_front histogram length (depth.drop length) hl (by omega)
    (Nat.le_trans (BV.sum_take_le histogram length) hsum)
    (by rw [← ascNZ_length_filter histogram length hl, ← hcnt]; exact hc2)
  rw [zeroPrefix_ok depth length hdl] at h0; injection h0 with h0; subst h0
  rw [hd1] at h1; injection h1 with h1; subst h1
  exact ⟨hg, goodBits_of_convert _ bits bits' length 14 (by decide) (by rw [hg.hlen]; simp) hg.hlim
    (by omega) hbl h2⟩

end BV.Lemmas.HuffmanEntryPoints
