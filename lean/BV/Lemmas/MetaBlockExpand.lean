import BV.Lemmas.Bits
import BV.Model.MetaBlockFull
/-
C01 / meta-block writers: the context-map expansion loop of `BrotliBuildMetaBlock`
(`disable_literal_context_modeling != 0`): one cluster id per literal block type becomes 64 equal entries.
-/

namespace BV.MetaBlock
open BV.Gen BV.Bits BV.Huffman BV.PrefixArith BV.Recoder

/-- `v` is read from `map[i]` while the loop writes: for `i = 0` the first write puts `map[0]` onto itself -/
theorem expandInner_spec (i v : Nat) (hi : i < 256) : ∀ (cnt j : Nat) (m : List Nat), j + cnt = 64 →
    64 * i + 64 ≤ m.length → m.getD i 0 = v →
    ∃ m', expandInner i cnt j m = .ok m' ∧ m'.length = m.length ∧
      ∀ k, m'.getD k 0 = if 64 * i + j ≤ k ∧ k < 64 * i + 64 then v else m.getD k 0 := by
  intro cnt
  induction cnt with
  | zero =>
    intro j m hj _ _
    exact ⟨m, rfl, rfl, fun k => by rw [if_neg (by omega)]⟩
  | succ cnt ih =>
    intro j m hj hl hv
    have hidx : ((i * 64) % two64 + j) % two64 = 64 * i + j := by
      rw [Nat.mod_eq_of_lt (by unfold two64; omega), Nat.mod_eq_of_lt (by unfold two64; omega), Nat.mul_comm]
    have hil : i < m.length := by omega
    obtain ⟨m1, hm1⟩ : ∃ m1, m1 = m.set (64 * i + j) v := ⟨_, rfl⟩
    have h1v : m1.getD i 0 = v := by
      rw [hm1, getD_set _ _ _ _ _ (by omega)]
      split
      · rfl
      · exact hv
    obtain ⟨m', e, l, g⟩ := ih (j + 1) m1 (by omega) (by rw [hm1, List.length_set]; exact hl) h1v
    refine ⟨m', ?_, by rw [l, hm1, List.length_set], ?_⟩
    · unfold expandInner
      rw [getAt_getD m i 0 hil, Out.bind_ok, hv, hidx]
      rw [setAt_of_lt _ _ _ (by omega), Out.bind_ok, ← hm1]
      exact e
    · intro k
      rw [g, hm1, getD_set _ _ _ _ _ (by omega)]
      by_cases h1 : 64 * i + (j + 1) ≤ k ∧ k < 64 * i + 64
      · rw [if_pos h1, if_pos (by omega)]
      · rw [if_neg h1]
        by_cases h2 : 64 * i + j = k
        · rw [if_pos h2, if_pos (by omega)]
        · rw [if_neg h2, if_neg (by omega)]

theorem expandContextMap_spec : ∀ (n : Nat) (m : List Nat), n ≤ 256 → 64 * n ≤ m.length →
    ∃ m', expandContextMap n m = .ok m' ∧ m'.length = m.length ∧
      (∀ t j, t < n → j < 64 → m'.getD (64 * t + j) 0 = m.getD t 0) ∧ ∀ k, 64 * n ≤ k → m'.getD k 0 = m.getD k 0 := by
  intro n
  induction n with
  | zero => intro m _ _; exact ⟨m, rfl, rfl, fun t j ht _ => by omega, fun k _ => rfl⟩
  | succ n ih =>
    intro m hn hl
    obtain ⟨m1, e1, l1, g1⟩ := expandInner_spec n (m.getD n 0) (by omega) 64 0 m (by omega) (by omega) rfl
    obtain ⟨m', e2, l2, g2, g3⟩ := ih m1 (by omega) (by rw [l1]; omega)
    refine ⟨m', ?_, by rw [l2, l1], ?_, ?_⟩
    · unfold expandContextMap
      rw [e1, Out.bind_ok]
      exact e2
    · intro t j ht hj
      rcases Nat.lt_or_ge t n with h | h
      · rw [g2 t j h hj, g1, if_neg (by omega)]
      · have : t = n := by omega
        subst this
        rw [g3 _ (by omega), g1, if_pos (by omega)]
    · intro k hk
      rw [g3 k (by omega), g1, if_neg (by omega)]

end BV.MetaBlock
