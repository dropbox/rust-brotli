/-
C01 / meta-block writers: the size decision of `WriteMetaBlockInternal` (model
`BV.Stored.writeMetaBlockInternal`, C08) around the compressed attempt `o.attempt` of any meta-block writer whose bits
the reader decodes (the writers themselves are put in by `Props/C01MetaBlock`, `C01MetaBlockFull`): whichever branch is taken
— stored because `should_compress` said no, compressed attempt kept, compressed attempt replaced by the stored
fallback — and with or without the separate empty last meta-block of appendable streams, the RFC reader decodes
what the call leaves in the storage to history ++ data. Stated once over a `StreamReader`; the single-type reader and the
general reader are its two instances.
-/
import BV.Lemmas.HeaderStoredDecode
import BV.Lemmas.HeaderStreamBound
import BV.Model.MetaBlockFull

namespace BV.MetaBlock
open BV.Gen BV.Bits BV.Huffman BV.PrefixArith BV.Recoder BV.HeaderSpec
open BV.Header (skipPad_pad storeUncompressedMetaBlock storeUncompressedMetaBlockHeader writeEmptyLastMetaBlock appendBytes lit litsUnc)
open BV.Stored (nibsOf nibsOf_range mlen_fits readMetaBlock_raw writeMetaBlockInternal MbOracle MbOut litsWmbi)

theorem stored_read (data : List Nat) (pos : Nat) (rest : List Bool) (h1 : 1 ≤ data.length)
    (h2 : data.length ≤ 2 ^ 24) (hb : ∀ b ∈ data, b < 256) :
    readMetaBlock pos (storedBits data pos ++ rest)
      = some (MetaBlock.raw data, pos + (storedBits data pos).length, rest) := by
  obtain ⟨n4, n6⟩ := nibsOf_range data.length
  have e : 4 + (nibsOf data.length - 4) = nibsOf data.length := by omega
  obtain ⟨hx, hnz⟩ := mlen_fits data.length h1 h2
  rw [← e] at hx hnz
  have hl := storedHeaderBits_length data.length
  have := readMetaBlock_raw pos (nibsOf data.length - 4) (data.length - 1) data rest (by omega) hx hnz (by omega) hb
  unfold storedBits storedHeaderBits padTo8
  simp only [List.append_assoc, List.cons_append, List.nil_append, List.length_cons, List.length_append,
    bitsOf_length, List.length_nil, List.length_replicate]
  have e1 : pos + (2 + (4 * (4 + (nibsOf data.length - 4)) + (0 + 1)) + 1)
      = pos + 1 + 2 + 4 * (4 + (nibsOf data.length - 4)) + 1 := by omega
  rw [e1, this]
  have hfl := flatMap_bitsOf_length 8 data
  rw [hfl]
  refine congrArg (fun n => some (MetaBlock.raw data, n, rest)) ?_
  generalize (8 - (pos + 1 + 2 + 4 * (4 + (nibsOf data.length - 4)) + 1) % 8) % 8 = p
  omega

def ReadsBy (R : Nat → RdSt → List Bool → Option (RdSt × Bool × Nat × List Bool)) (pos : Nat) (s : RdSt)
    (bits : List Bool) (last : Bool) (pos' : Nat) (s' : RdSt) : Prop :=
  ∀ rest, R pos s (bits ++ rest) = some (s', last, pos', rest)

/-- what the lemmas about `WriteMetaBlockInternal` use of a meta-block reader `R` and its loop `L`; the single-type reader
and the general reader are both instances -/
structure StreamReader (R : Nat → RdSt → List Bool → Option (RdSt × Bool × Nat × List Bool))
    (L : Nat → Nat → RdSt → List Bool → Option (RdSt × List Bool)) : Prop where
  raw : ∀ pos s bs payload pos' r, readMetaBlock pos bs = some (.raw payload, pos', r) →
    R pos s bs = some (⟨s.out ++ payload, s.ring⟩, false, pos', r)
  lastEmpty : ∀ pos s bs pos' r, readMetaBlock pos bs = some (.lastEmpty, pos', r) → R pos s bs = some (s, true, pos', r)
  stop : ∀ f pos s bs s' p r, R pos s bs = some (s', true, p, r) → L (f + 1) pos s bs = some (s', r)
  next : ∀ f pos s bs s' p r, R pos s bs = some (s', false, p, r) → L (f + 1) pos s bs = L f p s' r

section reader
variable {R : Nat → RdSt → List Bool → Option (RdSt × Bool × Nat × List Bool)}
  {L : Nat → Nat → RdSt → List Bool → Option (RdSt × List Bool)}

theorem StreamReader.emptyLast (H : StreamReader R L) (pos : Nat) (s : RdSt) :
    ReadsBy R pos s (emptyLastBits pos) true (pos + (emptyLastBits pos).length) s := by
  intro rest
  have h : readMetaBlock pos (true :: true :: (List.replicate ((8 - (pos + 2) % 8) % 8) false ++ rest))
      = some (MetaBlock.lastEmpty, pos + 2 + (8 - (pos + 2) % 8) % 8, rest) := by
    simp [readMetaBlock, skipPad_pad]
  have hl : pos + (emptyLastBits pos).length = pos + 2 + (8 - (pos + 2) % 8) % 8 := by
    simp [emptyLastBits, padTo8]; omega
  rw [hl]
  exact H.lastEmpty _ _ _ _ _ h

theorem StreamReader.stored (H : StreamReader R L) (data : List Nat) (pos : Nat) (s : RdSt)
    (h1 : 1 ≤ data.length) (h2 : data.length ≤ 2 ^ 24) (hb : ∀ b ∈ data, b < 256) :
    ReadsBy R pos s (storedBits data pos) false (pos + (storedBits data pos).length) ⟨s.out ++ data, s.ring⟩ :=
  fun rest => H.raw _ _ _ _ _ _ (stored_read data pos rest h1 h2 hb)

theorem StreamReader.two (H : StreamReader R L) (pos p1 p2 : Nat) (s s1 s2 : RdSt) (b1 b2 rest : List Bool) (f : Nat)
    (h1 : ReadsBy R pos s b1 false p1 s1) (h2 : ReadsBy R p1 s1 b2 true p2 s2) :
    L (f + 2) pos s (b1 ++ (b2 ++ rest)) = some (s2, rest) := by
  rw [H.next _ _ _ _ _ _ _ (h1 (b2 ++ rest)), H.stop _ _ _ _ _ _ _ (h2 rest)]

theorem StreamReader.one (H : StreamReader R L) (pos p1 : Nat) (s s1 : RdSt) (b1 rest : List Bool) (f : Nat)
    (h1 : ReadsBy R pos s b1 true p1 s1) : L (f + 1) pos s (b1 ++ rest) = some (s1, rest) :=
  H.stop _ _ _ _ _ _ _ (h1 rest)

def ReadsTo (wo : WordOracle) (window : Nat) (large : Bool) (pos : Nat) (s : RdSt) (bits : List Bool)
    (last : Bool) (pos' : Nat) (s' : RdSt) : Prop :=
  ∀ rest, readMetaBlockFull wo window large pos s (bits ++ rest) = some (s', last, pos', rest)

theorem streamReader (wo : WordOracle) (window : Nat) (large : Bool) :
    StreamReader (readMetaBlockFull wo window large) (readMetaBlocks wo window large) where
  raw pos s bs payload pos' r h := by unfold readMetaBlockFull; rw [h]
  lastEmpty pos s bs pos' r h := by unfold readMetaBlockFull; rw [h]
  stop f pos s bs s' p r h := by simp only [readMetaBlocks, h]
  next f pos s bs s' p r h := by simp only [readMetaBlocks, h]

theorem obind_ok {α β : Type} (a : α) (f : α → Out β) : (Out.ok a).bind f = f a := rfl

theorem wmbi_lits : lit litsWmbi 1 = 0 ∧ lit litsWmbi 8 = 3 ∧ lit litsWmbi 17 = 4 ∧ lit litsWmbi 18 = 3 := by decide

theorem StreamReader.wmbi_stored (H : StreamReader R L) (appendable actualIsLast : Bool)
    (data : List Nat) (w : Writer) (s : RdSt) (h1 : 1 ≤ data.length) (h2 : data.length ≤ 2 ^ 24)
    (hb : ∀ b ∈ data, b < 256) :
    ∃ r bits, ((storeUncompressedMetaBlock false data w).bind fun b =>
        (storeUncompressedMetaBlock (if appendable then false else actualIsLast) data w).bind fun f =>
        if (if appendable then false else actualIsLast) then Out.ok ({ body := b, fin := f } : MbOut)
        else (if actualIsLast != (if appendable then false else actualIsLast) then
            (writeEmptyLastMetaBlock f).bind fun f' => Out.ok { body := f, fin := f' }
          else Out.ok { body := f, fin := f })) = .ok r ∧ r.fin = w ++ bits ∧
      (actualIsLast = true → ∀ rest f, L (f + 2) w.length s (bits ++ rest) = some (⟨s.out ++ data, s.ring⟩, rest)) ∧
      (actualIsLast = false → ReadsBy R w.length s bits false (w.length + bits.length) ⟨s.out ++ data, s.ring⟩) := by
  have hsr := H.stored data w.length s h1 h2 hb
  have her := H.emptyLast (w.length + (storedBits data w.length).length) ⟨s.out ++ data, s.ring⟩
  rw [stored_false_ok data w h1 h2, obind_ok]
  cases actualIsLast
  · refine ⟨⟨w ++ storedBits data w.length, w ++ storedBits data w.length⟩, storedBits data w.length, ?_, rfl,
      (fun h => by cases h), fun _ => hsr⟩
    simp only [Bool.false_eq_true, if_false, ite_self, stored_false_ok data w h1 h2, obind_ok, bne_self_eq_false]
  · cases appendable
    · refine ⟨⟨w ++ storedBits data w.length,
          w ++ (storedBits data w.length ++ emptyLastBits (w.length + (storedBits data w.length).length))⟩,
        storedBits data w.length ++ emptyLastBits (w.length + (storedBits data w.length).length), ?_, rfl, ?_,
        (fun h => by cases h)⟩
      · simp only [Bool.false_eq_true, if_false, if_true, stored_true_ok data w h1 h2, obind_ok]
      · intro _ rest f
        rw [List.append_assoc]
        exact H.two _ _ _ s _ _ _ _ rest f hsr her
    · refine ⟨⟨w ++ storedBits data w.length,
          w ++ storedBits data w.length ++ emptyLastBits (w ++ storedBits data w.length).length⟩,
        storedBits data w.length ++ emptyLastBits (w.length + (storedBits data w.length).length), ?_, ?_, ?_,
        (fun h => by cases h)⟩
      · simp only [if_true, Bool.false_eq_true, if_false, stored_false_ok data w h1 h2, obind_ok,
          show (true != false) = true by rfl]
        rw [writeEmptyLast_ok, obind_ok]
      · simp [List.append_assoc]
      · intro _ rest f
        rw [List.append_assoc]
        exact H.two _ _ _ s _ _ _ _ rest f hsr her

/-- `wmbi_reads` over any `StreamReader` (`streamReader`, `streamReaderG`).  `hw : w.length < 256`: the function keeps the write position as
`last_bytes_bits = *storage_ix as u8` and rewinds to it before the stored fallback (`lastBytesBits` of the model, which
answers `fuel` when the cast lost something); the storage holds at most the stream head and 7 carry bits at this point
(C08 `headLen_lt_256`). -/
theorem StreamReader.wmbi (H : StreamReader R L) (appendable catable actualIsLast : Bool)
    (data : List Nat) (o : MbOracle) (w : Writer) (s s' : RdSt)
    (hcat : catable = true → appendable = true) (h1 : 1 ≤ data.length) (h2 : data.length ≤ 2 ^ 24)
    (hw : w.length < 256) (hb : ∀ b ∈ data, b < 256) (hs' : s'.out = s.out ++ data)
    (hatt : o.shouldCompress = true → ReadsBy R w.length s o.attempt
      (if appendable then false else actualIsLast) (w.length + o.attempt.length) s') :
    ∃ r bits s'', writeMetaBlockInternal appendable catable actualIsLast data o w = .ok r ∧ r.fin = w ++ bits ∧
      s''.out = s.out ++ data ∧
      (actualIsLast = true → ∀ rest f, L (f + 2) w.length s (bits ++ rest) = some (s'', rest)) ∧
      (actualIsLast = false → ReadsBy R w.length s bits false (w.length + bits.length) s'') := by
  obtain ⟨l1, l8, l17, l18⟩ := wmbi_lits
  have hnc : (!appendable && catable) = false := by
    cases appendable <;> cases catable <;> simp at hcat ⊢
  obtain ⟨rS, bitsS, eS, fS, aS, bS⟩ := H.wmbi_stored appendable actualIsLast data w s h1 h2 hb
  unfold writeMetaBlockInternal
  simp only [hnc, Bool.false_eq_true, if_false, l1, show ¬ data.length = 0 by omega, l8, l17, l18]
  by_cases hsc : o.shouldCompress = true
  · simp only [hsc, Bool.not_true, Bool.false_eq_true, if_false]
    by_cases hbig : data.length + 4 + w.length >>> 3 < (w ++ o.attempt).length >>> 3
    · rw [if_pos hbig, if_neg (by rw [Nat.mod_eq_of_lt hw]; simp)]
      exact ⟨rS, bitsS, ⟨s.out ++ data, s.ring⟩, eS, fS, rfl, aS, bS⟩
    · rw [if_neg hbig]
      have hr := hatt hsc
      cases hal : actualIsLast
      · subst hal
        simp only [Bool.false_eq_true, if_false, ite_self] at hr
        refine ⟨⟨w ++ o.attempt, w ++ o.attempt⟩, o.attempt, s', ?_, rfl, hs', (fun h => by cases h), fun _ => hr⟩
        simp only [Bool.false_eq_true, if_false, ite_self, bne_self_eq_false]
      · subst hal
        cases happ : appendable
        · subst happ
          simp only [Bool.false_eq_true, if_false] at hr
          refine ⟨⟨w ++ o.attempt, w ++ o.attempt⟩, o.attempt, s', ?_, rfl, hs', ?_, (fun h => by cases h)⟩
          · simp only [Bool.false_eq_true, if_false, bne_self_eq_false]
          · intro _ rest f
            exact H.one _ _ s s' _ rest (f + 1) hr
        · subst happ
          simp only [if_true] at hr
          refine ⟨⟨w ++ o.attempt, w ++ o.attempt ++ emptyLastBits (w ++ o.attempt).length⟩,
            o.attempt ++ emptyLastBits (w ++ o.attempt).length, s', ?_, by simp [List.append_assoc], hs', ?_,
            (fun h => by cases h)⟩
          · simp only [if_true, show (true != false) = true by rfl]
            rw [writeEmptyLast_ok, obind_ok]
          · intro _ rest f
            rw [List.append_assoc]
            have her := H.emptyLast (w ++ o.attempt).length s'
            rw [List.length_append] at her
            exact H.two _ _ _ s s' s' _ _ rest f hr (by rw [List.length_append]; exact her)
  · have : o.shouldCompress = false := by simpa using hsc
    simp only [this, Bool.not_false, if_true]
    exact ⟨rS, bitsS, ⟨s.out ++ data, s.ring⟩, eS, fS, rfl, aS, bS⟩

end reader

theorem wmbi_reads (wo : WordOracle) (window : Nat) (large : Bool) (appendable catable actualIsLast : Bool)
    (data : List Nat) (o : MbOracle) (w : Writer) (s s' : RdSt)
    (hcat : catable = true → appendable = true) (h1 : 1 ≤ data.length) (h2 : data.length ≤ 2 ^ 24)
    (hw : w.length < 256) (hb : ∀ b ∈ data, b < 256) (hs' : s'.out = s.out ++ data)
    (hatt : o.shouldCompress = true → ReadsTo wo window large w.length s o.attempt
      (if appendable then false else actualIsLast) (w.length + o.attempt.length) s') :
    ∃ r bits s'', writeMetaBlockInternal appendable catable actualIsLast data o w = .ok r ∧ r.fin = w ++ bits ∧
      s''.out = s.out ++ data ∧
      (actualIsLast = true → ∀ rest f, readMetaBlocks wo window large (f + 2) w.length s (bits ++ rest) = some (s'', rest)) ∧
      (actualIsLast = false → ReadsTo wo window large w.length s bits false (w.length + bits.length) s'') :=
  (streamReader wo window large).wmbi appendable catable actualIsLast data o w s s' hcat h1 h2 hw hb hs' hatt

def ReadsToG (wo : WordOracle) (window : Nat) (large : Bool) (pos : Nat) (s : RdSt) (bits : List Bool)
    (last : Bool) (pos' : Nat) (s' : RdSt) : Prop :=
  ∀ rest, readMetaBlockFullG wo window large pos s (bits ++ rest) = some (s', last, pos', rest)

theorem streamReaderG (wo : WordOracle) (window : Nat) (large : Bool) :
    StreamReader (readMetaBlockFullG wo window large) (readMetaBlocksG wo window large) where
  raw pos s bs payload pos' r h := by unfold readMetaBlockFullG; rw [h]
  lastEmpty pos s bs pos' r h := by unfold readMetaBlockFullG; rw [h]
  stop f pos s bs s' p r h := by simp only [readMetaBlocksG, h]
  next f pos s bs s' p r h := by simp only [readMetaBlocksG, h]

end BV.MetaBlock
