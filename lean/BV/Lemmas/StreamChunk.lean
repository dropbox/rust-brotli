import BV.Lemmas.StreamSched
/-
Input-chunking independence (C05): the ring-free machine.

The skeleton of `compress_stream` writes the ring buffer but never reads it (the payload encoder
does, and it is an oracle asked with positions).  How the ring buffer looks DOES depend on how the
input was cut (a small first chunk allocates a small buffer, the 7 bytes of slack are zeroed behind
every chunk, …), so chunking independence is a statement modulo the ring buffer.  `er` erases it;
`vstep` is the main-loop machine `ustep` on erased configurations, in which copying a chunk only
moves `input_pos_` (the ghost `first2` is erased too: the theorems are for non-catable streams); every step of `ustep` from an initialised,
non-fast-path configuration is exactly `vstep` on the erased configurations (`ustep_er`).
-/
namespace BV.Stream
open BV.Bits

def er (s : St) : St := { s with ring := {}, first2 := [] }

def erA (a : Abs) : Abs := { a with s := er a.s }

def vCopySt (s : St) (n : Nat) : St := { s with inputPos := (s.inputPos + n) % two64 }

def vCopy (a : Abs) : Option Abs :=
  if min (remainingInputBlockSize a.s) a.availIn > a.input.length then none
  else some ⟨core (vCopySt a.s (min (remainingInputBlockSize a.s) a.availIn)), a.out,
             a.input.drop (min (remainingInputBlockSize a.s) a.availIn), a.availIn - min (remainingInputBlockSize a.s) a.availIn⟩

def vstep (o : Oracle) (op : Nat) (a : Abs) : Option Abs :=
  if a.s.isInitialized = false then none
  else if fastMode a.s.params then none
  else if remainingInputBlockSize a.s ≠ 0 ∧ a.availIn ≠ 0 then vCopy a
  else if PadDue a.s then some (uPad a)
  else if a.s.streamState = .processing ∧ (remainingInputBlockSize a.s = 0 ∨ op ≠ 0) then uEncStep o op a
  else if a.s.streamState = .flushRequested then some (uCfc a)
  else none

theorem vstep_slow {o : Oracle} {op : Nat} {a : Abs} (hi : a.s.isInitialized = true) (hnf : ¬ fastMode a.s.params) :
    vstep o op a =
      if remainingInputBlockSize a.s ≠ 0 ∧ a.availIn ≠ 0 then vCopy a
      else if PadDue a.s then some (uPad a)
      else if a.s.streamState = .processing ∧ (remainingInputBlockSize a.s = 0 ∨ op ≠ 0) then uEncStep o op a
      else if a.s.streamState = .flushRequested then some (uCfc a)
      else none := by
  unfold vstep
  rw [if_neg (by rw [hi]; simp), if_neg hnf]

theorem encMagic_er (x : St) (w : Writer) :
    encMagic (er x) w = (er (encMagic x w).1, (encMagic x w).2) := by
  unfold encMagic er
  split <;> rfl

theorem encPrelude_er {x x' : St} {w w' : Writer} {hdr hdr' bytes : Nat} (hcat : x.params.catable = false)
    (hx : encPrelude x w hdr bytes = .ok (x', w', hdr')) :
    encPrelude (er x) w hdr bytes = .ok (er x', w', hdr') := by
  rw [encPrelude_ncat hcat] at hx
  cases hx
  exact encPrelude_ncat (s := er x) hcat ..

theorem encMagic_ncat {s : St} (hcat : s.params.catable = false) (il : Bool) :
    (encMagic (encStart s il) s.carry).1.params.catable = false := by
  have f := (encMagic_frame (encStart s il) s.carry).frame
  replace f := St.frame_eq f
  rw [f.params]; exact hcat

theorem uEnc_ncat (o : Oracle) {s : St} (hcat : s.params.catable = false) (site : Nat) (il ff : Bool) :
    uEnc o s site il ff =
      uEncOf (.ok ({ (encMagic (encStart s il) s.carry).1 with isFirstMb := .bothCatable },
                   (encMagic (encStart s il) s.carry).2.1, (encMagic (encStart s il) s.carry).2.2))
        (o s.nEnc (reqOf s site il ff)) s.carry il ff := by
  unfold uEnc encPre3
  rw [encPrelude_ncat (encMagic_ncat hcat il)]

theorem encPayloadPure_er (s : St) (ans : Ans) (w0 w : Writer) (hdr : Nat) (il ff : Bool) :
    encPayloadPure (er s) ans w0 w hdr il ff = er (encPayloadPure s ans w0 w hdr il ff) := by
  unfold encPayloadPure
  simp only [apply_ite er]
  unfold er
  simp only [St.unprocessed]
  split <;> rfl

theorem core_er (s : St) : core (er s) = er (core s) := rfl

theorem uEnc_er {o : Oracle} {s s' : St} {site : Nat} {il ff : Bool} {p : Bytes} (hcat : s.params.catable = false)
    (h : uEnc o s site il ff = some (s', p)) : uEnc o (er s) site il ff = some (er s', p) := by
  unfold uEnc at h ⊢
  have e1 : encStart (er s) il = er (encStart s il) := rfl
  have e2 : (er s).carry = s.carry := rfl
  have e3 : (er s).unprocessed = s.unprocessed := rfl
  have e4 : (er s).nEnc = s.nEnc := rfl
  have e5 : reqOf (er s) site il ff = reqOf s site il ff := rfl
  rw [e1, e2, e3, e4, e5, encMagic_er]
  unfold encPre3 at h ⊢
  simp only at h ⊢
  cases hr : encPrelude (encMagic (encStart s il) s.carry).1 (encMagic (encStart s il) s.carry).2.1
      (encMagic (encStart s il) s.carry).2.2 (s.unprocessed % two32) with
  | ok r =>
    obtain ⟨a2, w, hdr⟩ := r
    rw [hr] at h
    rw [encPrelude_er (encMagic_ncat hcat il) hr]
    simp only [uEncOf, Option.some.injEq, Prod.mk.injEq] at h ⊢
    obtain ⟨rfl, rfl⟩ := h
    rw [encPayloadPure_er]
    exact ⟨rfl, rfl⟩
  | panic => rw [hr] at h; simp [uEncOf] at h
  | fuel => rw [hr] at h; simp [uEncOf] at h

theorem er_updateSizeHint (s : St) (n : Nat) : er (updateSizeHint s n) = updateSizeHint (er s) n := by
  unfold updateSizeHint er
  split <;> rfl

theorem er_markAfterEncode (s : St) (a b : Bool) : er (markAfterEncode s a b) = markAfterEncode (er s) a b := by
  unfold markAfterEncode er
  cases a <;> cases b <;> rfl

theorem uEncStep_er {o : Oracle} {op : Nat} {a a' : Abs} (hcat : a.s.params.catable = false) (h : uEncStep o op a = some a') :
    uEncStep o op (erA a) = some (erA a') := by
  unfold uEncStep at h ⊢
  have e1 : (erA a).availIn = a.availIn := rfl
  have e2 : (erA a).s = er a.s := rfl
  rw [e1, e2, ← er_updateSizeHint]
  cases hu : uEnc o (updateSizeHint a.s a.availIn) 0 (decide (a.availIn = 0 ∧ op = 2)) (decide (a.availIn = 0 ∧ op = 1)) with
  | none => rw [hu] at h; simp [uEncOut] at h
  | some r =>
    obtain ⟨s', p⟩ := r
    rw [hu] at h
    have hcu : (updateSizeHint a.s a.availIn).params.catable = false := by
      rw [updateSizeHint_eq]; exact hcat
    rw [uEnc_er hcu hu]
    simp only [uEncOut, Option.some.injEq] at h ⊢
    subst h
    simp only [erA]
    rw [← er_markAfterEncode, core_er]

theorem ustep_er {o : Oracle} {op : Nat} {a a' : Abs} (hi : a.s.isInitialized = true) (hnf : ¬ fastMode a.s.params)
    (hcat : a.s.params.catable = false) (h : ustep o op a = some a') : vstep o op (erA a) = some (erA a') := by
  rw [ustep_slow hi hnf] at h
  rw [vstep_slow (a := erA a) hi hnf]
  have r1 : remainingInputBlockSize (erA a).s = remainingInputBlockSize a.s := rfl
  have r2 : (erA a).availIn = a.availIn := rfl
  have r3 : PadDue (erA a).s ↔ PadDue a.s := Iff.rfl
  have r4 : (erA a).s.streamState = a.s.streamState := rfl
  rw [r1, r2, r4]
  by_cases hc : remainingInputBlockSize a.s ≠ 0 ∧ a.availIn ≠ 0
  · rw [if_pos hc] at h ⊢
    unfold uCopy at h
    unfold vCopy
    rw [r1, r2]
    have r5 : (erA a).input = a.input := rfl
    rw [r5]
    split at h
    · simp at h
    · rename_i hn
      rw [if_neg hn]
      generalize min (remainingInputBlockSize a.s) a.availIn = n at h hn ⊢
      have hmn : min n a.input.length = n := Nat.min_eq_left (by omega)
      unfold copyInputToRingBuffer at h
      rw [ensureInitialized_id hi] at h
      simp only at h
      split at h
      · rename_i rb hrw
        split at h
        · simp [uCopyOf] at h
        · simp only [uCopyOf, Option.some.injEq] at h
          subst h
          simp only [erA, Option.some.injEq, Abs.mk.injEq, and_true]
          simp [core, er, vCopySt, List.length_take, hmn]
      · simp [uCopyOf] at h
      · simp [uCopyOf] at h
  · rw [if_neg hc] at h ⊢
    by_cases hp : PadDue a.s
    · rw [if_pos hp] at h
      rw [if_pos (r3.mpr hp)]
      simp only [Option.some.injEq] at h ⊢
      subst h
      rfl
    · rw [if_neg hp] at h
      rw [if_neg (fun hh => hp (r3.mp hh))]
      by_cases he : a.s.streamState = .processing ∧ (remainingInputBlockSize a.s = 0 ∨ op ≠ 0)
      · rw [if_pos he] at h ⊢
        exact uEncStep_er hcat h
      · rw [if_neg he] at h ⊢
        by_cases hf : a.s.streamState = .flushRequested
        · rw [if_pos hf] at h ⊢
          simp only [Option.some.injEq] at h ⊢
          subst h
          rfl
        · rw [if_neg hf] at h
          cases h

end BV.Stream
