/-
The act lists of the sites: safety (no slot overwritten without `free_cell`, every allocation from the
instance's allocator) under the generated site flags, and which slots they leave empty.
-/
import BV.Lemmas.LedgerInv
namespace BV.Ledger

/-- the Boolean checker of both predicates: `lose` says whether a `lose` is tolerated, so `okB true` decides
    `Act.owned` (`all_owned`) and `okB false` decides `Act.safe` (`all_safe`) -/
def Act.okB (lose : Bool) (m8 : Nat) : Act → Bool
  | .alloc a _ _ => a == m8
  | .lose _ => lose
  | _ => true

theorem all_owned {lose : Bool} {m8 : Nat} {as : List Act} (h : as.all (Act.okB lose m8) = true) :
    ∀ a ∈ as, a.owned m8 := fun a ha => by
  have := List.all_eq_true.mp h a ha
  cases a <;> simp [Act.okB, Act.owned] at this ⊢
  exact this

theorem all_safe {m8 : Nat} {as : List Act} (h : as.all (Act.okB false m8) = true) : ∀ a ∈ as, a.safe m8 :=
  fun a ha => by
  have := List.all_eq_true.mp h a ha
  cases a <;> simp [Act.okB, Act.safe] at this ⊢
  exact this

def Flags.sitesOk (fl : Flags) : Bool :=
  fl.setDictFrees && fl.setDictTruncFrees && fl.ffiDestroyCleanup && fl.oneshotHasherOwn

structure Flags.SiteFlags (fl : Flags) : Prop where
  setDictFrees : fl.setDictFrees = true
  setDictTruncFrees : fl.setDictTruncFrees = true
  ffiDestroyCleanup : fl.ffiDestroyCleanup = true
  oneshotHasherOwn : fl.oneshotHasherOwn = true

theorem Flags.sitesOk_fields {fl : Flags} (h : fl.sitesOk = true) : fl.SiteFlags := by
  simp only [Flags.sitesOk, Bool.and_eq_true] at h
  obtain ⟨⟨⟨h1, h2⟩, h3⟩, h4⟩ := h
  exact ⟨h1, h2, h3, h4⟩

theorem csActs_sites {Q : List Act → Prop} (hnil : Q []) (happ : ∀ {as bs}, Q as → Q bs → Q (as ++ bs))
    (m8 hk temps : Nat) (storage : Q (storageGrowActs m8)) (q1bufs : Q [.alloc m8 .cbuf 1, .alloc m8 .lbuf 1])
    (table : Q (tableGrowActs m8)) (ring : Q (ringInitActs m8)) (commands : Q (commandsGrowActs m8))
    (hasher : Q [.alloc m8 .hasher hk]) (scopedTemps : Q [.alloc m8 .tmp temps, .free .tmp])
    (st q1 tb rg cm : Bool) : Q (csActs m8 st q1 tb rg cm hk temps) := by
  have opt : ∀ (c : Prop) [Decidable c] {as}, Q as → Q (if c then as else []) := fun c _ _ h => by
    split <;> assumption
  have opt' : ∀ (c : Prop) [Decidable c] {as}, Q as → Q (if c then [] else as) := fun c _ _ h => by
    split <;> assumption
  unfold csActs ringOpt scopedActs
  exact happ (happ (happ (happ (happ (happ (opt _ storage) (opt _ q1bufs)) (opt _ table)) (opt _ ring))
    (opt _ commands)) (opt' _ hasher)) (opt' _ scopedTemps)

theorem all_append_true {p : Act → Bool} {as bs : List Act} (h1 : as.all p = true) (h2 : bs.all p = true) :
    (as ++ bs).all p = true := by
  rw [List.all_append, h1, h2]; rfl

theorem csActs_ok (lose : Bool) (m8 : Nat) (st q1 tb rg cm : Bool) (hk temps : Nat) :
    (csActs m8 st q1 tb rg cm hk temps).all (Act.okB lose m8) = true := by
  apply csActs_sites (Q := fun as => as.all (Act.okB lose m8) = true) rfl all_append_true <;>
    simp [storageGrowActs, tableGrowActs, ringInitActs, commandsGrowActs, Act.okB]

theorem opActs_ok (fl : Flags) (hown : fl.oneshotHasherOwn = true) (lose : Bool)
    (hl : lose = false → fl.sitesOk = true) (m8 : Nat) (op : Op) :
    (opActs fl m8 op).all (Act.okB lose m8) = true := by
  have pick : ∀ (flag : Bool) (s : Slot), (fl.sitesOk = true → flag = true) →
      (if flag then Act.free s else .lose s).okB lose m8 = true := by
    intro flag s h
    cases flag
    · cases lose
      · exact absurd (h (hl rfl)) nofun
      · rfl
    · rfl
  have h1 := pick fl.setDictFrees .hasher fun h => (Flags.sitesOk_fields h).setDictFrees
  have h2 := pick fl.setDictTruncFrees .hasher fun h => (Flags.sitesOk_fields h).setDictTruncFrees
  cases op with
  | setDict ring hasher =>
    by_cases hh : hasher.length = 0 <;> cases hr : ring.isSome <;>
      simp only [opActs, hasherReplaceActs, List.all_append, List.all_cons, h1] <;>
      simp [ringOpt, ringInitActs, Act.okB, hh, hr]
  | setDictExt ring fresh =>
    by_cases hh : fresh.length = 0 <;> cases hr : ring.isSome <;>
      simp only [opActs, hasherReplaceActs, hh, if_true, if_false, List.all_append, List.all_cons, h1, h2] <;>
      simp [ringOpt, ringInitActs, Act.okB, hr]
  | cs d => exact csActs_ok ..
  | ffiDestroy =>
    cases h3 : fl.ffiDestroyCleanup
    · cases lose
      · exact absurd ((Flags.sitesOk_fields (hl rfl)).ffiDestroyCleanup.symm.trans h3) nofun
      · simp [opActs, abandonActs, Act.okB, h3]
    · simp [opActs, cleanupActs, Act.okB, h3]
  | create ffi => cases ffi <;> simp [opActs, Act.okB]
  | _ => simp [opActs, cleanupActs, Act.okB, hown]

theorem step_inv {fl : Flags} (hown : fl.oneshotHasherOwn = true) {w w' : W} {op : Op} (hw : Inv w)
    (h : step fl w op = .ok w') : Inv w' := by
  obtain ⟨_, rfl⟩ := step_ok h
  exact (hw.acts _ (all_owned (opActs_ok fl hown true nofun w.m8 op))).book op

theorem step_lost {fl : Flags} (hfl : fl.sitesOk = true) {w w' : W} {op : Op} (h : step fl w op = .ok w') :
    w'.lost = w.lost := by
  obtain ⟨_, rfl⟩ := step_ok h
  rw [opBook_lost, acts_lost _ _ (all_safe (opActs_ok fl (Flags.sitesOk_fields hfl).oneshotHasherOwn false
    (fun _ => hfl) w.m8 op))]

theorem run_nil (fl : Flags) (w : W) : run fl w [] = .ok w := rfl

theorem run_cons_ok {fl : Flags} {w w' : W} {op : Op} {ops : List Op} (h : run fl w (op :: ops) = .ok w') :
    ∃ w1, step fl w op = .ok w1 ∧ run fl w1 ops = .ok w' := by
  simp only [run] at h
  split at h
  · rename_i w1 h1; exact ⟨w1, h1, h⟩
  · cases h

theorem run_append_ok {fl : Flags} : ∀ (as bs : List Op) (w w' : W), run fl w (as ++ bs) = .ok w' →
    ∃ w1, run fl w as = .ok w1 ∧ run fl w1 bs = .ok w' := by
  intro as
  induction as with
  | nil => intro bs w w' h; exact ⟨w, rfl, h⟩
  | cons a as ih =>
    intro bs w w' h
    obtain ⟨w1, h1, h2⟩ := run_cons_ok (by simpa using h)
    obtain ⟨w2, h3, h4⟩ := ih bs w1 w' h2
    refine ⟨w2, ?_, h4⟩
    simp only [run, h1]
    exact h3

theorem run_inv {fl : Flags} (hown : fl.oneshotHasherOwn = true) : ∀ (ops : List Op) (w w' : W), Inv w →
    run fl w ops = .ok w' → Inv w' := by
  intro ops
  induction ops with
  | nil => intro w w' hw h; cases h; exact hw
  | cons op ops ih =>
    intro w w' hw h
    obtain ⟨w1, h1, h2⟩ := run_cons_ok h
    exact ih w1 w' (step_inv hown hw h1) h2

theorem run_lost {fl : Flags} (hfl : fl.sitesOk = true) : ∀ (ops : List Op) (w w' : W),
    run fl w ops = .ok w' → w'.lost = w.lost := by
  intro ops
  induction ops with
  | nil => intro w w' h; cases h; rfl
  | cons op ops ih =>
    intro w w' h
    obtain ⟨w1, h1, h2⟩ := run_cons_ok h
    rw [ih w1 w' h2, step_lost hfl h1]

def flagAfter (fl : Flags) (m8 : Nat) (s : Slot) (b : Bool) (ops : List Op) : Bool :=
  ops.foldl (fun b op => emptyAfterL s b (opActs fl m8 op)) b

theorem flagAfter_append (fl : Flags) (m8 : Nat) (s : Slot) (b : Bool) (as bs : List Op) :
    flagAfter fl m8 s b (as ++ bs) = flagAfter fl m8 s (flagAfter fl m8 s b as) bs := by
  simp [flagAfter, List.foldl_append]

theorem flagAfter_mono (fl : Flags) (m8 : Nat) (s : Slot) (ops : List Op) : ∀ {b b' : Bool}, (b = true → b' = true) →
    flagAfter fl m8 s b ops = true → flagAfter fl m8 s b' ops = true := by
  induction ops with
  | nil => exact fun h => h
  | cons op ops ih => exact fun h => ih (emptyAfterL_mono s _ h)

theorem step_empty {fl : Flags} {w w' : W} {op : Op} (s : Slot) (b : Bool) (hb : b = true → w.enc.get s = [])
    (h : step fl w op = .ok w') (hf : emptyAfterL s b (opActs fl w.m8 op) = true) : w'.enc.get s = [] := by
  obtain ⟨_, rfl⟩ := step_ok h
  rw [opBook_enc]
  exact acts_emptyAfter s _ w b hb hf

theorem run_empty {fl : Flags} (s : Slot) : ∀ (ops : List Op) (w w' : W) (b : Bool),
    (b = true → w.enc.get s = []) → run fl w ops = .ok w' → flagAfter fl w.m8 s b ops = true →
    w'.enc.get s = [] := by
  intro ops
  induction ops with
  | nil => intro w w' b hb h hf; cases h; exact hb hf
  | cons op ops ih =>
    intro w w' b hb h hf
    obtain ⟨w1, h1, h2⟩ := run_cons_ok h
    have hm := step_m8 h1
    apply ih w1 w' (emptyAfterL s b (opActs fl w.m8 op)) (fun hb' => step_empty s b hb h1 hb') h2
    rw [hm]
    exact hf

def Slot.isField : Slot → Bool
  | .storage | .commands | .ring | .hasher | .table | .cbuf | .lbuf => true
  | _ => false

theorem Enc.mem_fields {e : Enc} {b : BlockId} (h : b ∈ e.fields) : ∃ s, s.isField = true ∧ b ∈ e.get s := by
  simp only [Enc.fields, List.mem_append] at h
  rcases h with (((((h | h) | h) | h) | h) | h) | h
  · exact ⟨.storage, rfl, h⟩
  · exact ⟨.commands, rfl, h⟩
  · exact ⟨.ring, rfl, h⟩
  · exact ⟨.hasher, rfl, h⟩
  · exact ⟨.table, rfl, h⟩
  · exact ⟨.cbuf, rfl, h⟩
  · exact ⟨.lbuf, rfl, h⟩

theorem cleanup_empties_fields (s : Slot) (hs : s.isField = true) (b : Bool) :
    emptyAfterL s b cleanupActs = true := by
  cases s <;> simp [Slot.isField] at hs <;> cases b <;> rfl

theorem cleanup_keeps_others (s : Slot) (hs : s.isField = false) (b : Bool) :
    emptyAfterL s b cleanupActs = b := by
  cases s <;> simp [Slot.isField] at hs <;> cases b <;> rfl

/-! "keeps": `emptyAfterL s true … = true` for a slot `s` that is no field -/

theorem keeps_append {s : Slot} {as bs : List Act} (h1 : emptyAfterL s true as = true)
    (h2 : emptyAfterL s true bs = true) : emptyAfterL s true (as ++ bs) = true := by
  rw [emptyAfterL_append, h1, h2]

theorem csActs_keeps (s : Slot) (hs : s.isField = false) (m8 : Nat) (st q1 tb rg cm : Bool) (hk temps : Nat) :
    emptyAfterL s true (csActs m8 st q1 tb rg cm hk temps) = true := by
  apply csActs_sites (Q := fun as => emptyAfterL s true as = true) rfl keeps_append <;>
    cases s <;> first | rfl | cases hs

theorem hasherReplaceActs_keeps (fl : Flags) {s : Slot} (hs : s.isField = false) :
    emptyAfterL s true (hasherReplaceActs fl) = true := by
  unfold hasherReplaceActs
  cases fl.setDictFrees <;> cases s <;> first | rfl | cases hs

theorem ringOpt_keeps (m8 : Nat) (grow : Bool) {s : Slot} (hs : s.isField = false) :
    emptyAfterL s true (ringOpt m8 grow) = true := by
  cases grow <;> cases s <;> first | rfl | cases hs

theorem hasherAlloc_keeps (m8 n : Nat) {s : Slot} (hs : s.isField = false) :
    emptyAfterL s true (if n = 0 then [] else [.alloc m8 .hasher n]) = true := by
  split
  · rfl
  · cases s <;> first | rfl | cases hs

theorem body_keeps (fl : Flags) (m8 : Nat) (s : Slot) (hs : s.isField = false) (op : Op) (hop : op.isBody = true) :
    emptyAfterL s true (opActs fl m8 op) = true := by
  cases op with
  | cs d => exact csActs_keeps s hs ..
  | setDict ring hasher =>
    exact keeps_append (keeps_append (hasherReplaceActs_keeps fl hs) (ringOpt_keeps m8 _ hs))
      (hasherAlloc_keeps m8 _ hs)
  | _ => simp [Op.isBody] at hop

theorem body_flag (fl : Flags) (m8 : Nat) (s : Slot) (hs : s.isField = false) (body : List Op)
    (hb : ∀ op ∈ body, op.isBody = true) : flagAfter fl m8 s true body = true := by
  induction body with
  | nil => rfl
  | cons op ops ih =>
    simp only [flagAfter, List.foldl_cons]
    rw [body_keeps fl m8 s hs op (hb op (by simp))]
    exact ih (fun o ho => hb o (by simp [ho]))

theorem held_nil_of_slots (e : Enc) (h : ∀ s, e.get s = []) : e.held = [] := by
  rw [Enc.ext_get (e' := {}) fun s => (h s).trans (by cases s <;> rfl)]
  rfl

theorem live_nil {w : W} (hw : Inv w) (hh : w.enc.held = []) (hl : w.lost = []) : (judge w.log).live = [] := by
  apply List.eq_nil_iff_forall_not_mem.mpr
  intro b hb
  have := hw.live b
  rw [hh, hl] at this
  have hp := List.count_pos_iff.mpr hb
  simp at this
  omega

end BV.Ledger
