import BV.Lemmas.StreamTop
/-
Metadata payload is carried verbatim, for every slicing of the output: a conservation law for
"bytes delivered ++ bytes still owed".
-/
namespace BV.Stream
open BV.Bits

def mdOwed (s : St) (inputLeft : Bytes) : Bytes :=
  s.pending ++ (if s.streamState = .metadataHead then toBytes (metadataHeaderBits s.remainingMetadata s.carry) else []) ++ inputLeft

theorem mdStep_conserve {o : Oracle} {n : Nat} {s s' : St} {io io' : Io} {c : Ctl} (hP : MdInv n s io)
    (hlf : s.inputPos = s.lastFlushPos) (hin : io.input.length = io.availIn)
    (h : processMetadataStep o s io = .ok (s', io', c)) :
    io'.out ++ mdOwed s' io'.input = io.out ++ mdOwed s io.input
    ∧ s'.inputPos = s'.lastFlushPos ∧ io'.input.length = io'.availIn := by
  have hnfl : s.streamState ≠ .flushRequested := by rcases hP.st with h1 | h1 <;> rw [h1] <;> simp
  have hrm32 := lt_two32_of_le hP.rmLe
  have hav64 : io.availIn < two64 := by rw [hP.avail]; exact lt_two64_of_le hP.rmLe
  rcases mdStep_ok h with ⟨hp, _⟩ | ⟨_, ⟨_, rfl, rfl, _⟩ | ⟨hpend, ⟨hne, _⟩ |
    ⟨_, ⟨hhead, rfl, rfl, _⟩ | ⟨hnhead, ⟨_, rfl, rfl, _⟩ | ⟨_, ⟨_, _, rfl, rfl, _⟩ | ⟨_, _, rfl, rfl, _⟩⟩⟩⟩⟩⟩
  · obtain ⟨c1, c2, c3, c4, c5, c6, c7, c8, c9⟩ := push_conserve hnfl hp
    refine ⟨?_, by rw [c8, c9]; exact hlf, by rw [c6, c7]; exact hin⟩
    unfold mdOwed St.carry
    rw [c2, c3, c4, c5, c6]
    simp only [← List.append_assoc]
    rw [c1]
  · exact ⟨rfl, hlf, hin⟩
  · exact absurd hlf hne
  · have hp0 : s.pending = [] := List.eq_nil_of_length_eq_zero hpend
    refine ⟨?_, hlf, hin⟩
    unfold mdOwed
    simp [mdHeadSt, hhead, hp0]
  · refine ⟨?_, hlf, hin⟩
    unfold mdOwed
    simp [mdDoneSt, hnhead]
  · have hp0 : s.pending = [] := List.eq_nil_of_length_eq_zero hpend
    have hcopy : (min s.remainingMetadata io.availOut) % two32 = min s.remainingMetadata io.availOut :=
      Nat.mod_eq_of_lt (Nat.lt_of_le_of_lt (Nat.min_le_left _ _) hrm32)
    have hle2 : min s.remainingMetadata io.availOut ≤ io.availIn := by rw [hP.avail]; exact Nat.min_le_left _ _
    refine ⟨?_, hlf, ?_⟩
    · unfold mdOwed
      simp only [mdOutSt, mdOutIo, mdOutN, hnhead, ↓reduceIte, hp0, List.nil_append, List.append_nil, List.append_assoc, List.take_append_drop]
    · simp only [mdOutIo, mdOutN, List.length_drop, hcopy, add_sub_mod_self hle2 hav64, hin]
  · have hp0 : s.pending = [] := List.eq_nil_of_length_eq_zero hpend
    have hle2 : min s.remainingMetadata 16 ≤ io.availIn := by rw [hP.avail]; exact Nat.min_le_left _ _
    refine ⟨?_, hlf, ?_⟩
    · unfold mdOwed
      simp only [mdTinySt, mdTinyIo, mdTinyN, hnhead, ↓reduceIte, List.append_nil, List.take_append_drop, hp0, List.nil_append]
    · simp only [mdTinyIo, mdTinyN, List.length_drop, add_sub_mod_self hle2 hav64, hin]

theorem mdLoop_conserve {o : Oracle} {n : Nat} :
    ∀ fuel s io s' io' r, MdInv n s io → s.inputPos = s.lastFlushPos → io.input.length = io.availIn →
      processMetadataLoop o fuel s io = .ok (s', io', r) →
      io'.out ++ mdOwed s' io'.input = io.out ++ mdOwed s io.input ∧ io'.input.length = io'.availIn := by
  intro fuel s io s' io' r hP hlf hin h
  obtain ⟨s1, io1, ⟨hP1, hlf1, hin1, hc1⟩, hlast⟩ := mdLoop_induct
    (fun t tio => MdInv n t tio ∧ t.inputPos = t.lastFlushPos ∧ tio.input.length = tio.availIn ∧
      tio.out ++ mdOwed t tio.input = io.out ++ mdOwed s io.input)
    (fun _ _ _ _ hp hs => by
      obtain ⟨c1, c2, c3⟩ := mdStep_conserve hp.1 hp.2.1 hp.2.2.1 hs
      exact ⟨(mdStep_spec hp.1 hs).2.resolve_right (fun hh => by cases hh.1), c2, c3, c1.trans hp.2.2.2⟩)
    fuel s io s' io' r ⟨hP, hlf, hin, rfl⟩ h
  obtain ⟨c1, _, c3⟩ := mdStep_conserve hP1 hlf1 hin1 hlast
  exact ⟨c1.trans hc1, c3⟩

theorem mdOwed_congr {s t : St} (h1 : t.pending = s.pending) (h2 : t.streamState = s.streamState)
    (h3 : t.remainingMetadata = s.remainingMetadata) (h4 : t.lastBytes = s.lastBytes)
    (h5 : t.lastBytesBits = s.lastBytesBits) (inp : Bytes) : mdOwed t inp = mdOwed s inp := by
  unfold mdOwed St.carry
  rw [h1, h2, h3, h4, h5]

/-- stated for a state with nothing buffered (`hlf`); buffered input is first flushed through the payload encoder -/
theorem metadata_call_conserve {o : Oracle} {fuel cap : Nat} {input : Bytes} {s s' : St} {io' : Io}
    (hI : Inv s) (hlf : s.inputPos = s.lastFlushPos)
    (h : compressStream o fuel s 3 input cap = .ok (s', io', true)) :
    io'.out ++ mdOwed s' io'.input = mdOwed (mdEnter s input.length) input ∧ io'.input.length = io'.availIn := by
  obtain ⟨_, _, _, _, _, u6, u7, _, u9, u10, _, _, u13, u14, u15⟩ := updateSizeHint_fields s 0
  rcases compressStream_dispatch (o := o) (fuel := fuel) (input := input) (cap := cap) (Nat.le_refl 3) hI with
    ⟨_, s0, _, heq⟩ | ⟨_, ⟨_, hP, heq⟩ | ⟨hop2, _⟩⟩
  · rw [heq] at h; cases h
  · rw [heq] at h
    obtain ⟨m1, m2, m3, m4, m5⟩ := mdEnter_fields (updateSizeHint s 0) input.length
    have hc := mdLoop_conserve fuel _ _ s' io' true hP (by rw [m4, m5, u6, u10]; exact hlf) rfl h
    refine ⟨?_, hc.2⟩
    rw [hc.1]
    show [] ++ mdOwed _ input = _
    rw [List.nil_append]
    unfold mdEnter
    rw [u9]
    split
    · unfold mdOwed St.carry
      simp only [u13, u14, u15]
    · exact mdOwed_congr u13 u9 u7 u15 u14 input
  · omega

theorem takeOutput_conserve {s s' : St} {size : Nat} {out inp : Bytes} (hI : Inv s)
    (hst : s.streamState = .metadataHead ∨ s.streamState = .metadataBody)
    (h : takeOutput s size = .ok (s', out)) : out ++ mdOwed s' inp = mdOwed s inp := by
  obtain ⟨_, hp, hrm, hs⟩ := takeOutput_spec hI h
  have hst' : s'.streamState = s.streamState := by
    rcases hs with h1 | ⟨h1, _⟩
    · exact h1
    · rcases hst with h2 | h2 <;> rw [h2] at h1 <;> cases h1
  have hlb : s'.lastBytes = s.lastBytes ∧ s'.lastBytesBits = s.lastBytesBits := by
    rcases takeOutput_cases h with ⟨rfl, _⟩ | ⟨rfl, _⟩
    · exact ⟨rfl, rfl⟩
    · rw [checkFlushComplete_eq]; exact ⟨rfl, rfl⟩
  unfold mdOwed St.carry
  rw [hst', hrm, hlb.1, hlb.2, hp]
  simp only [List.append_assoc]

end BV.Stream
