import BV.Props.C18
import BV.Props.C01
import BV.Lemmas.RecoderDec
import BV.Lemmas.MatchTop
/-! From a sound search result to a distance code: `ComputeDistanceCode` denotes the distance under the
RFC 7932 short-code rules; a match seen in the ring buffer is a match in the text
(`ring_match_is_text_match`), hence what the decoder's copy produces (`copyBytes_of_match`).  The command itself:
BV/Lemmas/CmdReplay.lean. -/
namespace BV.MatchFinder
open BV.Hasher BV.Recoder BV.PrefixArith

theorem i32ToUsize_cases (x : Int) (h : -(2 ^ 31 : Int) ≤ x ∧ x < 2 ^ 31) :
    (0 ≤ x ∧ ((i32ToUsize x : Nat) : Int) = x) ∨ (x < 0 ∧ ((i32ToUsize x : Nat) : Int) = x + 2 ^ 64) := by
  unfold i32ToUsize BV.Recoder.toUsize
  by_cases h0 : 0 ≤ x
  · left
    refine ⟨h0, ?_⟩
    rw [Int.emod_eq_of_lt h0 (by omega)]
    exact Int.toNat_of_nonneg h0
  · right
    refine ⟨by omega, ?_⟩
    have e : x % 2 ^ 64 = x + 2 ^ 64 := by
      rw [← Int.add_emod_right x (2 ^ 64), Int.emod_eq_of_lt (by omega) (by omega)]
    rw [e]
    exact Int.toNat_of_nonneg (by omega)

def CacheI32 (cache : List Int) : Prop := ∀ x ∈ cache.take 4, -(2 ^ 31 : Int) ≤ x ∧ x < 2 ^ 31

theorem exists_cons4 {cache : List Int} (h : 4 ≤ cache.length) :
    ∃ c0 c1 c2 c3 rest, cache = c0 :: c1 :: c2 :: c3 :: rest :=
  match cache, h with
  | c0 :: c1 :: c2 :: c3 :: rest, _ => ⟨c0, c1, c2, c3, rest, rfl⟩

theorem short_direct (np nd code : Nat) (h : code < 16) :
    prefixEncodeCopyDistance code nd np = ⟨code, 0, 0⟩ :=
  (BV.Props.C18.dist_direct_exact np nd code (by omega)).1

theorem offset_meaning {distance : Nat} {c : Int} (hd : distance < 2 ^ 31)
    (hc : -(2 ^ 31 : Int) ≤ c ∧ c < 2 ^ 31) {off : Nat}
    (hoff : wsub ((distance + 3) % U64) (i32ToUsize c) = off) (h7 : off < 7) :
    (distance : Int) = c + off - 3 := by
  have hU : U64 = 18446744073709551616 := rfl
  have hd3 : (distance + 3) % U64 = distance + 3 := Nat.mod_eq_of_lt (by omega)
  rw [hd3, wsub_eq (by omega) (i32ToUsize_lt c)] at hoff
  rcases i32ToUsize_cases c hc with ⟨h0, e⟩ | ⟨h0, e⟩
  · split at hoff <;> omega
  · split at hoff <;> omega

theorem eq_meaning {distance : Nat} {c : Int} (hd : distance < 2 ^ 31)
    (hc : -(2 ^ 31 : Int) ≤ c ∧ c < 2 ^ 31) (h : distance = i32ToUsize c) : (distance : Int) = c := by
  rcases i32ToUsize_cases c hc with ⟨_, e⟩ | ⟨_, e⟩ <;> omega

/-- `0x09750468` / `0x0fdb1ace`: the two nibble tables of `ComputeDistanceCode`, indexed by `off = distance + 3 - entry` against
the last / the second-last distance -/
theorem rfcDistance_near (np nd : Nat) (c0 c1 : Int) (r : List Int) (x : Nat) {off : Nat} (h7 : off < 7)
    (h3 : off ≠ 3) :
    rfcDistance np nd (c0 :: c1 :: r) ((0x09750468 >>> (4 * off)) &&& 0xf) x = some (c0 + off - 3, true) ∧
    rfcDistance np nd (c0 :: c1 :: r) ((0x0fdb1ace >>> (4 * off)) &&& 0xf) x = some (c1 + off - 3, true) ∧
    (0x09750468 >>> (4 * off)) &&& 0xf ≠ 0 ∧ (0x0fdb1ace >>> (4 * off)) &&& 0xf ≠ 0 := by
  have hcases : off = 0 ∨ off = 1 ∨ off = 2 ∨ off = 4 ∨ off = 5 ∨ off = 6 := by omega
  rcases hcases with rfl | rfl | rfl | rfl | rfl | rfl <;>
    refine ⟨?_, ?_, by decide, by decide⟩ <;>
    · show some (_, true) = some (_, true)
      congr 2
      omega

theorem rfcDistance_long15 (np nd distance : Nat) (hd1 : 1 ≤ distance) (ring : List Int) :
    rfcDistance np nd ring (prefixEncodeCopyDistance (distance + 15) nd np).sym
      (prefixEncodeCopyDistance (distance + 15) nd np).extra = some ((distance : Int), true) := by
  have hsym : ∃ k, (prefixEncodeCopyDistance (distance + 15) nd np).sym = k + 16 ∧
      rfcDistDecode np nd (k + 16) (prefixEncodeCopyDistance (distance + 15) nd np).extra = distance := by
    by_cases hdir : distance + 15 < 16 + nd
    · have e := BV.Props.C18.dist_direct_exact np nd (distance + 15) hdir
      have e2 := e.2 (by omega)
      rw [e.1]
      exact ⟨distance - 1, by show distance + 15 = _; omega, by
        rw [show distance - 1 + 16 = distance + 15 by omega]; show rfcDistDecode np nd (distance + 15) 0 = _; omega⟩
    · obtain ⟨_, _, _, h4, h5⟩ := BV.Props.C18.dist_encode_exact np nd (distance + 15) (by omega)
      refine ⟨(prefixEncodeCopyDistance (distance + 15) nd np).sym - 16, by omega, ?_⟩
      rw [show (prefixEncodeCopyDistance (distance + 15) nd np).sym - 16 + 16
        = (prefixEncodeCopyDistance (distance + 15) nd np).sym by omega]
      omega
  obtain ⟨k, hk, hdec⟩ := hsym
  rw [hk, BV.Recoder.rfcDistance_long, hdec]

theorem computeDistanceCode_cases (np nd distance maxDistance : Nat) (c0 c1 c2 c3 : Int) (rest : List Int)
    (hd : distance < 2 ^ 31) (hc : CacheI32 (c0 :: c1 :: c2 :: c3 :: rest)) :
    ∃ code, computeDistanceCode distance maxDistance (c0 :: c1 :: c2 :: c3 :: rest) = some code ∧
      (code = distance + 15 ∨ (distance ≤ maxDistance ∧ code < 16 ∧
        rfcDistance np nd [c0, c1, c2, c3] code 0 = some ((distance : Int), decide (code ≠ 0)))) := by
  have hc0 := hc c0 (by simp)
  have hc1 := hc c1 (by simp)
  have hc2 := hc c2 (by simp)
  have hc3 := hc c3 (by simp)
  have hU : U64 = 18446744073709551616 := rfl
  have hlong : (distance + 16 + U64 - 1) % U64 = distance + 15 := by
    rw [show distance + 16 + U64 - 1 = (distance + 15) + U64 by omega, Nat.add_mod_right,
      Nat.mod_eq_of_lt (by omega)]
  unfold computeDistanceCode
  simp only [List.getElem?_cons_zero, List.getElem?_cons_succ]
  by_cases hle : distance ≤ maxDistance
  · rw [if_pos hle]
    by_cases e0 : distance = i32ToUsize c0
    · rw [if_pos e0]
      exact ⟨_, rfl, Or.inr ⟨hle, by decide, by rw [eq_meaning hd hc0 e0]; rfl⟩⟩
    rw [if_neg e0]
    by_cases e1 : distance = i32ToUsize c1
    · rw [if_pos e1]
      exact ⟨_, rfl, Or.inr ⟨hle, by decide, by rw [eq_meaning hd hc1 e1]; rfl⟩⟩
    rw [if_neg e1]
    by_cases o0 : wsub ((distance + 3) % U64) (i32ToUsize c0) < 7
    · rw [if_pos o0]
      have hm := offset_meaning hd hc0 rfl o0
      have hne3 : wsub ((distance + 3) % U64) (i32ToUsize c0) ≠ 3 := by
        intro h3
        rw [h3] at hm
        apply e0
        rcases i32ToUsize_cases c0 hc0 with ⟨_, e⟩ | ⟨_, e⟩ <;> omega
      obtain ⟨hr, _, hz, _⟩ := rfcDistance_near np nd c0 c1 [c2, c3] 0 o0 hne3
      exact ⟨_, rfl, Or.inr ⟨hle, Nat.lt_succ_of_le Nat.and_le_right, by rw [hr, hm, decide_eq_true hz]⟩⟩
    rw [if_neg o0]
    by_cases o1 : wsub ((distance + 3) % U64) (i32ToUsize c1) < 7
    · rw [if_pos o1]
      have hm := offset_meaning hd hc1 rfl o1
      have hne3 : wsub ((distance + 3) % U64) (i32ToUsize c1) ≠ 3 := by
        intro h3
        rw [h3] at hm
        apply e1
        rcases i32ToUsize_cases c1 hc1 with ⟨_, e⟩ | ⟨_, e⟩ <;> omega
      obtain ⟨_, hr, _, hz⟩ := rfcDistance_near np nd c0 c1 [c2, c3] 0 o1 hne3
      exact ⟨_, rfl, Or.inr ⟨hle, Nat.lt_succ_of_le Nat.and_le_right, by rw [hr, hm, decide_eq_true hz]⟩⟩
    rw [if_neg o1]
    by_cases e2 : distance = i32ToUsize c2
    · rw [if_pos e2]
      exact ⟨_, rfl, Or.inr ⟨hle, by decide, by rw [eq_meaning hd hc2 e2]; rfl⟩⟩
    rw [if_neg e2]
    by_cases e3 : distance = i32ToUsize c3
    · rw [if_pos e3]
      exact ⟨_, rfl, Or.inr ⟨hle, by decide, by rw [eq_meaning hd hc3 e3]; rfl⟩⟩
    rw [if_neg e3]
    exact ⟨distance + 15, by rw [hlong], Or.inl rfl⟩
  · rw [if_neg hle]
    exact ⟨distance + 15, by rw [hlong], Or.inl rfl⟩

theorem computeDistanceCode_sound (np nd distance maxDistance : Nat) (c0 c1 c2 c3 : Int)
    (rest : List Int) (hd1 : 1 ≤ distance) (hd : distance < 2 ^ 31)
    (hc : CacheI32 (c0 :: c1 :: c2 :: c3 :: rest)) :
    ∃ code, computeDistanceCode distance maxDistance (c0 :: c1 :: c2 :: c3 :: rest) = some code ∧
      code ≤ distance + 15 ∧ (distance > maxDistance → code = distance + 15) ∧
      rfcDistance np nd [c0, c1, c2, c3] (prefixEncodeCopyDistance code nd np).sym
        (prefixEncodeCopyDistance code nd np).extra = some ((distance : Int), decide (code ≠ 0)) := by
  obtain ⟨code, h, hcase⟩ := computeDistanceCode_cases np nd distance maxDistance c0 c1 c2 c3 rest hd hc
  refine ⟨code, h, ?_⟩
  rcases hcase with rfl | ⟨hle, h16, hr⟩
  · exact ⟨Nat.le_refl _, fun _ => rfl, by rw [rfcDistance_long15 np nd distance hd1, decide_eq_true (by omega)]⟩
  · exact ⟨by omega, fun h => by omega, by rw [short_direct np nd code h16]; exact hr⟩

theorem copyBytes_of_match : ∀ (n d : Nat) (out X : Bytes), X.length = n → 1 ≤ d → d ≤ out.length →
    (∀ k, k < n → (out ++ X).getD (out.length + k) 0 = (out ++ X).getD (out.length - d + k) 0) →
    copyBytes n d out = out ++ X := by
  intro n
  induction n with
  | zero => intro d out X hX _ _ _; simp [copyBytes, List.length_eq_zero_iff.mp hX]
  | succ n ih =>
    intro d out X hX hd1 hdl hm
    cases X with
    | nil => simp at hX
    | cons x X' =>
      have h0 := hm 0 (by omega)
      simp only [Nat.add_zero] at h0
      have hx : out.getD (out.length - d) 0 = x := by
        simp only [List.getD_eq_getElem?_getD] at h0 ⊢
        rw [List.getElem?_append_right (Nat.le_refl _),
          List.getElem?_append_left (by omega)] at h0
        simp only [Nat.sub_self, List.getElem?_cons_zero, Option.getD_some] at h0
        exact h0.symm
      rw [copyBytes, hx]
      have := ih d (out ++ [x]) X' (by simpa using hX) hd1 (by simp; omega) (fun k hk => by
        have hk1 := hm (k + 1) (by omega)
        simp only [List.append_assoc, List.singleton_append, List.length_append, List.length_singleton]
        rw [show out.length + 1 + k = out.length + (k + 1) by omega,
          show out.length + 1 - d + k = out.length - d + (k + 1) by omega]
        exact hk1)
      rw [this]; simp

/-- the bytes the match finders see: `data[i]` of the slice `data_mo[2..]` they are handed (the
`ByteArray` the models read), as a function — the representation `RingViewW` talks about
(`fun i => rb.get (2 + i)` there) -/
def ringBytes (data : ByteArray) : Nat → Nat := fun i => (data.get! i).toNat

/-- the stream model's `RingViewW` (BV/Props/C01.lean, proved from `RingOK` by `ring_view_w`) read off the `ByteArray`;
the statements in BV/Props write `RingViewW (ringBytes data) ..` out -/
abbrev RingView (data : ByteArray) (k tail : Nat) (T : Bytes) (lo hi : Nat) : Prop :=
  BV.Props.C01.RingViewW (ringBytes data) k tail T lo hi

theorem RingView.at {data : ByteArray} {k tail : Nat} {T : Bytes} {lo hi : Nat} (hv : RingView data k tail T lo hi)
    (htail : tail ≤ 2 ^ k) (p j : Nat) (hlo : lo ≤ p + j) (hhi : p + j < hi) (hin : p % 2 ^ k + j < 2 ^ k + tail) :
    (data.get! (p % 2 ^ k + j)).toNat = T.getD (p + j) 0 := by
  have e : (p + j) % 2 ^ k = (p % 2 ^ k + j) % 2 ^ k := (Nat.mod_add_mod p _ j).symm
  by_cases hlt : p % 2 ^ k + j < 2 ^ k
  · have := hv.holds (p + j) hlo hhi
    rwa [e, Nat.mod_eq_of_lt hlt] at this
  · -- one wrap: the cell is in the tail behind the ring
    have hm : (p + j) % 2 ^ k = p % 2 ^ k + j - 2 ^ k := by
      rw [e, Nat.mod_eq_sub_mod (by omega), Nat.mod_eq_of_lt (by omega)]
    have hp : 2 ^ k ≤ p + j := by have := Nat.mod_le p (2 ^ k); omega
    have := hv.mirror (p + j) hlo hhi hp (by omega)
    rwa [hm, show 2 ^ k + (p % 2 ^ k + j - 2 ^ k) = p % 2 ^ k + j by omega] at this

/-- `hag` is what `findLongestMatch_sound` / C01Match `match_sound_*` deliver; `hlen` (at most a tail = one input block)
keeps both reads inside ring + tail -/
theorem ring_match_is_text_match {data : ByteArray} {k tail : Nat} {T : Bytes} {lo hi : Nat}
    (hv : RingView data k tail T lo hi) (htail : tail ≤ 2 ^ k) {cur d len : Nat} (hd : d ≤ cur) (hlo : lo ≤ cur - d)
    (hhi : cur + len ≤ hi) (hlen : len ≤ tail) (hag : Agree data ((cur - d) % 2 ^ k) (cur % 2 ^ k) len) :
    ∀ j, j < len → T.getD (cur - d + j) 0 = T.getD (cur + j) 0 := by
  intro j hj
  have hpos : 0 < 2 ^ k := Nat.pow_pos (by decide)
  have m1 := Nat.mod_lt (cur - d) hpos
  have m2 := Nat.mod_lt cur hpos
  have h1 := hv.at htail (cur - d) j (by omega) (by omega) (by omega)
  have h2 := hv.at htail cur j (by omega) (by omega) (by omega)
  rw [← h1, ← h2]
  exact hag.2.2 j hj

end BV.MatchFinder
