import BV.Lemmas.PoolInv

namespace BV.Lemmas.Pool
open BV.Gen BV.FixedQueue BV.Pool BV.Lemmas.FixedQueue

/-- for the `decide` of C07 `contract_is_needed` -/
instance : DecidableEq (Except Err State) := fun a b =>
  match a, b with
  | .ok x, .ok y => if h : x = y then isTrue (by rw [h]) else isFalse (fun e => by cases e; exact h rfl)
  | .error x, .error y =>
    if h : x = y then isTrue (by rw [h]) else isFalse (fun e => by cases e; exact h rfl)
  | .ok _, .error _ => isFalse (fun e => by cases e)
  | .error _, .ok _ => isFalse (fun e => by cases e)

/-- 17 spawns, no join: violates the contract (the program of C07 `contract_is_needed`) -/
def seventeenSpawns : List Op := (List.range 17).map Op.spawn

inductive Reachable (n : Nat) (p : List Op) : State → Prop where
  | init : Reachable n p (init n p)
  | step {s s' : State} {c : Choice} : Reachable n p s → step s c = .ok s' → Reachable n p s'

theorem reachable_run {n : Nat} {p : List Op} {s s' : State} (hr : Reachable n p s)
    {cs : List Choice} (h : runSched s cs = .ok s') : Reachable n p s' := by
  induction cs generalizing s with
  | nil => simp only [runSched, Except.ok.injEq] at h; subst h; exact hr
  | cons c cs ih =>
    simp only [runSched] at h
    cases hs : step s c with
    | ok s1 => rw [hs] at h; exact ih (hr.step hs) h
    | error e => rw [hs] at h; cases h

theorem run_error {n : Nat} {p : List Op} {s : State} (hr : Reachable n p s)
    {cs : List Choice} {e : Err} (h : runSched s cs = .error e) :
    ∃ s1 c, Reachable n p s1 ∧ step s1 c = .error e := by
  induction cs generalizing s with
  | nil => simp [runSched] at h
  | cons c cs ih =>
    simp only [runSched] at h
    cases hs : step s c with
    | ok s1 => rw [hs] at h; exact ih (hr.step hs) h
    | error e' =>
      rw [hs] at h
      cases h
      exact ⟨s, c, hr, hs⟩

theorem reachable_iff_run {n : Nat} {p : List Op} {s : State} :
    Reachable n p s ↔ ∃ cs, runSched (init n p) cs = .ok s := by
  constructor
  · intro h
    induction h with
    | init => exact ⟨[], rfl⟩
    | @step s s' c _ hs ih =>
      obtain ⟨cs, hcs⟩ := ih
      refine ⟨cs ++ [c], ?_⟩
      have : ∀ (s0 : State) (cs : List Choice), runSched s0 cs = .ok s →
          runSched s0 (cs ++ [c]) = .ok s' := by
        intro s0 cs
        induction cs generalizing s0 with
        | nil => intro h; simp only [runSched, Except.ok.injEq] at h; subst h; simp [runSched, hs]
        | cons c' cs ih2 =>
          intro h
          simp only [runSched, List.cons_append] at h ⊢
          cases hs' : step s0 c' with
          | ok s1 => rw [hs'] at h; simp only; exact ih2 s1 h
          | error e => rw [hs'] at h; cases h
      exact this _ _ hcs
  · rintro ⟨cs, h⟩
    exact reachable_run .init h

theorem inv_reachable {n : Nat} {p : List Op} (hc : contract p = true) {s : State}
    (hr : Reachable n p s) : Inv s := by
  induction hr with
  | init => exact inv_init n p hc
  | step _ hs ih => exact inv_step ih hs

theorem workers_length_step {s s' : State} {c : Choice} (I : Inv s) (h : step s c = .ok s') :
    s'.workers.length = s.workers.length := by
  cases trans_of_step I h <;> simp

theorem workers_length_reachable {n : Nat} {p : List Op} (hc : contract p = true) {s : State}
    (hr : Reachable n p s) : s.workers.length = n := by
  induction hr with
  | init => simp [init]
  | step hr' hs ih => rw [workers_length_step (inv_reachable hc hr') hs, ih]

theorem no_panic_of_inv {s : State} (I : Inv s) (c : Choice) (site : PanicSite) :
    step s c ≠ .error (.panic site) := by
  intro h
  have := step_cases I c
  rw [h] at this
  cases this.1

end BV.Lemmas.Pool
