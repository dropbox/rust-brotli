import BV.Lemmas.StreamTerm
import BV.Lemmas.StreamStep
/-
The main loop terminates: a potential, lexicographic in (input left, an encode is due, bytes to hand out),
that every `continue` iteration lowers (`slowStep_decreases`), so fuel above it suffices.
-/
namespace BV.Stream
open BV.Bits

def canEnc (op : Nat) (s : St) (io : Io) : Prop :=
  s.streamState = .processing ∧ (remainingInputBlockSize s = 0 ∨ (op ≠ 0 ∧ io.availIn = 0))

instance (op : Nat) (s : St) (io : Io) : Decidable (canEnc op s io) := by unfold canEnc; exact inferInstance

/-- potential of the main loop: lexicographic in (input left, an encode is due, bytes to hand out); the unit
`M + 8` exceeds what the last component can be after an encode (at most `M` pending bytes, `padB ≤ 4`).  Input counts
twice: the copy that consumes a byte can raise the flag `canEnc` from 0 to 1 (the block became full), and one byte
has to pay for that too.  In `fastPot` it counts once: there the flag is 1 before every block, and one step both
consumes and encodes -/
def slowPot (op M : Nat) (s : St) (io : Io) : Nat :=
  (2 * io.availIn + (if canEnc op s io then 1 else 0)) * (M + 8) + padB s + s.pending.length

theorem canEnc_congr {op : Nat} {s s' : St} {io io' : Io} (h1 : s'.streamState = s.streamState)
    (h2 : s'.params.lgblock = s.params.lgblock) (h3 : s'.inputPos = s.inputPos)
    (h4 : s'.lastProcessedPos = s.lastProcessedPos) (h5 : io'.availIn = io.availIn) :
    canEnc op s' io' ↔ canEnc op s io := by
  unfold canEnc remainingInputBlockSize St.unprocessed
  rw [h1, blockSize_congr h2, h3, h4, h5]

/-- the middle conjunct is for `Stalled` (see `MCap`).  The proof makes no use of `hnp` -/
theorem slowStep_decreases {o : Oracle} {op M : Nat} {s s' : St} {io io' : Io} (hI : Inv s)
    (hw : s.inputPos + io.availIn < two64) (hnp : s.streamState ≠ .processing → io.availIn = 0)
    (hl : s.lastBytesBits ≤ 14) (hop : op ≤ 2)
    (h : slowStep o op s io = .ok (s', io', .cont)) :
    (Cap M s io → slowPot op M s' io' < slowPot op M s io ∧ Cap M s' io') ∧
    (MCap M s → io'.availIn = io.availIn → MCap M s') ∧ s'.lastBytesBits ≤ 14 := by
  rcases slowStep_ok h with ⟨hc, hnle, hcp, rfl, _⟩ |
    ⟨hnc, ⟨hp, _⟩ | ⟨_, ⟨hcond, s2, res, req, henc, rfl, hres⟩ | ⟨_, _, _, hb⟩⟩⟩
  · obtain ⟨c1, c2, c3, c4, c5, c6, c7, c8, c9, c10, c11, _, c13, _⟩ := copy_fields hI.init hcp
    have hn : 1 ≤ min (remainingInputBlockSize s) io.availIn := by
      have := hc.1; have := hc.2; omega
    have hle : min (remainingInputBlockSize s) io.availIn ≤ io.availIn := Nat.min_le_right _ _
    refine ⟨?_, fun _ hav => by exfalso; simp only at hav; omega, by rw [c11]; exact hl⟩
    intro hC
    refine ⟨?_, ?cap⟩
    case cap =>
      obtain ⟨q1, q2, q3⟩ := hC
      have hlen : (io.input.take (min (remainingInputBlockSize s) io.availIn)).length = min (remainingInputBlockSize s) io.availIn := by
        rw [List.length_take]; omega
      have hip : s'.inputPos = s.inputPos + min (remainingInputBlockSize s) io.availIn := by
        rw [c2, hlen]; exact Nat.mod_eq_of_lt (by omega)
      refine ⟨by rw [c13]; exact q1, ?_, ?_⟩
      · show 2 * (s'.inputPos + (io.availIn - min (remainingInputBlockSize s) io.availIn) - s'.lastFlushPos) + 527 ≤ M
        rw [hip, c6, Nat.add_assoc, Nat.add_sub_cancel' hle]; exact q2
      · show 2 * (io.availIn - min (remainingInputBlockSize s) io.availIn) + 527 ≤ M
        exact Nat.le_trans (Nat.add_le_add_right (Nat.mul_le_mul_left 2 (Nat.sub_le _ _)) 527) q3
    unfold slowPot padB
    rw [c9, c11]
    simp only [Nat.add_assoc]
    refine pot_drop ?_ (Nat.lt_add_of_pos_left (Nat.succ_pos _))
    split <;> split <;> omega
  · have pf := push_frame hp
    have f := St.frame_eq pf.frame
    obtain ⟨l1, l2⟩ := push_lowers hl hp
    refine ⟨?_, fun hK _ => by unfold MCap at hK ⊢; rw [pf.storageSize, f.inputPos, pf.lastFlushPos]; exact hK, Nat.le_trans l2 hl⟩
    intro hC
    refine ⟨?_, by unfold Cap at hC ⊢; rw [pf.storageSize, f.inputPos, pf.availIn, pf.lastFlushPos]; exact hC⟩
    unfold slowPot
    have hce : canEnc op s' io' ↔ canEnc op s io := canEnc_congr f.streamState (by rw [f.params]) f.inputPos pf.lastProcessedPos pf.availIn
    rw [pf.availIn]
    simp only [hce]
    omega
  · have hI2 := inv_updateSizeHint hI io.availIn
    rw [updateSizeHint_eq] at henc hI2
    generalize (updateSizeHint s io.availIn).params.sizeHint = k at henc hI2
    have hst : (s.hint k).streamState = .processing := hcond.2.1
    cases encodeData_succeeds hI2 (by rw [hst]; simp) henc
    rcases hres with ⟨hf, _⟩ | ⟨_, rfl, _⟩
    · cases hf
    obtain ⟨f, _, _, _, _⟩ := encodeData_frame henc
    replace f := St.frame_eq f
    obtain ⟨t1, t2, t3, t4⟩ := encodeData_store henc hI2.fl_le hI2.lp_le hI2.ip_lt
    have hlp := encodeData_lp henc hI2.fl_le hI2.lp_le hI2.ip_lt
    have hlbb : s2.lastBytesBits ≤ 14 := by
      rcases encodeData_lbb henc with h8 | h8
      · omega
      · rw [h8]; exact hl
    dsimp only [St.hint] at t2 t3 t4 hlp
    have hip2 : s2.inputPos < two64 := by rw [t4]; exact hI.ip_lt
    have hst2 : s2.streamState = .processing := f.streamState.trans hst
    -- from here on only `s2`, the flags and the marked state matter
    have hil : ∀ hh : decide (io.availIn = 0 ∧ op = 2) = false, ¬ (io.availIn = 0 ∧ op = 2) := fun hh => of_decide_eq_false hh
    have hfl : ∀ hh : decide (io.availIn = 0 ∧ op = 1) = false, ¬ (io.availIn = 0 ∧ op = 1) := fun hh => of_decide_eq_false hh
    generalize decide (io.availIn = 0 ∧ op = 2) = il at *
    generalize decide (io.availIn = 0 ∧ op = 1) = ffl at *
    obtain ⟨k1, k2, k3, _, k5, k6, _, k8, k9, k10⟩ := markAfterEncode_fields s2 il ffl
    have hms : (markAfterEncode s2 il ffl).storageSize = s2.storageSize := by
      cases il <;> cases ffl <;> rfl
    generalize markAfterEncode s2 il ffl = t at *
    have hmc : MCap M s → MCap M t := by
      intro hK
      obtain ⟨q1, q2⟩ := hK
      exact ⟨by rw [hms]; exact Nat.le_trans t2 (Nat.max_le.mpr ⟨q1, q2⟩),
        by rw [k2, k5, t4]; exact span_mono (Nat.le_refl _) t3 q2⟩
    refine ⟨?_, fun hK _ => hmc hK, by rw [k9]; exact hlbb⟩
    intro hC
    obtain ⟨q1, q2, q3⟩ := hC
    have hs2M : s2.storageSize ≤ M :=
      Nat.le_trans t2 (Nat.max_le.mpr ⟨q1, span_mono (Nat.le_add_right _ _) (Nat.le_refl _) q2⟩)
    refine ⟨?_, ⟨by rw [hms]; exact hs2M, by
      show 2 * (t.inputPos + io.availIn - t.lastFlushPos) + 527 ≤ M
      rw [k2, k5, t4]; exact span_mono (Nat.le_refl _) t3 q2, q3⟩⟩
    have hbefore : canEnc op s io := by
      refine ⟨hcond.2.1, ?_⟩
      rcases hcond.2.2 with h0 | h0
      · exact Or.inl h0
      · by_cases hr : remainingInputBlockSize s = 0
        · exact Or.inl hr
        · exact Or.inr ⟨h0, Decidable.of_not_not fun hz => hnc ⟨hr, hz⟩⟩
    have hafter : ¬ canEnc op t { io with reqs := io.reqs ++ [req] } := by
      intro ⟨hs, hr⟩
      rw [k10, hst2] at hs
      cases il
      · cases ffl
        · rcases hr with hr | ⟨hr1, hr2⟩
          · -- remaining block size is the whole block again
            have hE : t.lastProcessedPos = t.inputPos := by rw [k6, k2, hlp, t4]
            rw [rbs_of_le (Nat.le_of_eq hE) (by rw [k2]; exact hip2) (by rw [hE, Nat.sub_self]; exact Nat.zero_le _),
              hE, Nat.sub_self, Nat.sub_zero] at hr
            have := blockSize_pos t
            omega
          · have : op = 1 ∨ op = 2 := by omega
            rcases this with h | h
            · exact hfl rfl ⟨hr2, h⟩
            · exact hil rfl ⟨hr2, h⟩
        · cases hs
      · cases hs
    unfold slowPot
    rw [if_pos hbefore, if_neg hafter, k8, hcond.1]
    have hpad := padB_le t
    rw [Nat.add_zero, Nat.add_zero, Nat.add_mul, Nat.one_mul]
    generalize 2 * io.availIn * (M + 8) = T
    generalize padB s = pb
    generalize padB t = pt at hpad
    clear hmc hafter hbefore k1 k2 k3 k5 k6 k8 k9 k10 hms hil hfl f hI2 hI henc
    omega
  · cases hb

theorem slowStep_ne_fuel (o : Oracle) (op : Nat) (s : St) (io : Io) : slowStep o op s io ≠ .fuel := by
  unfold slowStep
  dsimp only
  refine ite_ne_fuel (ite_ne_fuel nofun ?_) ?_
  · cases hc : copyInputToRingBuffer s (io.input.take (min (remainingInputBlockSize s) io.availIn)) io.input.length with
    | ok x => nofun
    | panic => nofun
    | fuel => exact absurd hc (copy_ne_fuel _ _ _)
  · cases hp : injectFlushOrPushOutput s io with
    | panic => nofun
    | fuel => exact absurd hp (push_ne_fuel _ _)
    | ok x =>
      obtain ⟨s1, io1, b⟩ := x
      cases b
      · refine ite_ne_fuel ?_ nofun
        cases he : encodeData o (updateSizeHint s1 io1.availIn) 0 (decide (io1.availIn = 0 ∧ op = 2)) (decide (io1.availIn = 0 ∧ op = 1)) with
        | ok y => exact ite_ne_fuel nofun nofun
        | panic => nofun
        | fuel => exact absurd he (encodeData_ne_fuel _ _ _ _ _)
      · nofun

/-- `.panic` is a possible result here.  `Cap M`: `M` bounds the staging buffer as it is and as this call can grow
it; no hypothesis on the oracle. -/
theorem slowLoop_terminates {o : Oracle} {op M : Nat} {c0 : SState} {n total : Nat} (hop : op ≤ 2) :
    ∀ fuel s io, SlowInv op c0 n total s io → s.lastBytesBits ≤ 14 → Cap M s io → slowPot op M s io < fuel →
      slowLoop o op fuel s io ≠ .fuel := by
  intro fuel
  induction fuel with
  | zero => intro s io _ _ _ h; omega
  | succ k ih =>
    intro s io hP hl hC hpot
    unfold slowLoop
    have hnf := slowStep_ne_fuel o op s io
    split
    · simp
    · rename_i hh; exact absurd hh hnf
    · simp
    · rename_i s1 io1 hs
      obtain ⟨d1, _, d2⟩ := slowStep_decreases (M := M) hP.inv (by rw [hP.sum]; exact hP.nowrap) hP.idle hl hop hs
      obtain ⟨d3, d4⟩ := d1 hC
      exact ih s1 io1 (slowInv_step hP hs).2 d2 d4 (by omega)
    · simp

end BV.Stream
