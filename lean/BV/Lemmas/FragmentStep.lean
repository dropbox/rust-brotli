/-
The RFC replay (`replayGo` / `stepQ1`) on the command words `CreateCommands` emits, for copies whose source was compared
byte by byte with the input.  Positions are absolute indices into the fragment input `I`; the reader's output is
`hist ++ I.take position`.
-/
import BV.Lemmas.FragmentEmit
import BV.Lemmas.MatchCmd
namespace BV.Fragment
open BV.Bits BV.MetaBlock BV.Huffman BV.PrefixArith BV.Recoder

theorem insCode_cell : ∀ c < 24, impl0 c = false ∧ cpBase c = 2 := by decide

theorem stepQ1_copy (wo : WordOracle) (window mlen cmd : Nat) (cs lits : List Nat) (done : Nat) (st : RdSt)
    (h24 : 24 ≤ cmd % 256) (h64 : cmd % 256 < 64) (h40 : cmd % 256 ≠ 40)
    (hex : cmd / 256 < 2 ^ kNumExtraBits.getD (cmd % 256) 0) (hd : done < mlen) :
    stepQ1 wo window mlen cmd cs lits done st
      = stepTail wo window mlen (impl0 (cmd % 256)) cs lits done (cpBase (cmd % 256) + cmd / 256) st.out st.ring := by
  obtain ⟨ib, ie, cb, ce, hti, htc, _, _, hrow⟩ := cmd_tables (cmd % 256) h64
  have hn : ¬ cmd % 256 < 24 := by omega
  rw [if_neg hn] at hrow
  obtain ⟨_, _, rfl⟩ := hrow
  unfold stepQ1 cpBase impl0
  simp only []
  rw [if_neg (by omega), hti, htc]
  simp only [hn, if_false]
  rw [if_neg (by omega)]
  simp

theorem stepQ1_ins (wo : WordOracle) (window mlen cmd : Nat) (cs lits : List Nat) (done : Nat) (st : RdSt)
    (h24 : cmd % 256 < 24) (h0 : cmd % 256 ≠ 0)
    (hex : cmd / 256 < 2 ^ kNumExtraBits.getD (cmd % 256) 0) (hd : done < mlen)
    (hl : kInsertOffset.getD (cmd % 256) 0 + cmd / 256 ≤ lits.length)
    (hm : kInsertOffset.getD (cmd % 256) 0 + cmd / 256 ≤ mlen - done) :
    stepQ1 wo window mlen cmd cs lits done st
      = stepTail wo window mlen false cs (lits.drop (kInsertOffset.getD (cmd % 256) 0 + cmd / 256))
          (done + (kInsertOffset.getD (cmd % 256) 0 + cmd / 256)) 2
          (st.out ++ lits.take (kInsertOffset.getD (cmd % 256) 0 + cmd / 256)) st.ring := by
  obtain ⟨ib, ie, cb, ce, hti, htc, _, _, hrow⟩ := cmd_tables (cmd % 256) (by omega)
  rw [if_pos h24] at hrow
  obtain ⟨_, _, rfl, _, _⟩ := hrow
  obtain ⟨hi0, hc2⟩ := insCode_cell (cmd % 256) h24
  unfold cpBase at hc2
  unfold impl0 at hi0
  rw [htc] at hc2
  simp only [] at hc2
  subst hc2
  unfold stepQ1
  simp only []
  rw [if_neg (by omega), hti, htc]
  simp only [h24, if_true]
  rw [if_neg (by omega), hi0]

theorem getD_hist_take (hist I : List Nat) (m j : Nat) (hj : j < m) :
    (hist ++ I.take m).getD (hist.length + j) 0 = I.getD j 0 := by
  rw [getD_append_right _ _ _ _ (Nat.le_add_right _ _), Nat.add_sub_cancel_left, getD_take _ _ _ _ hj]

theorem copy_from_input (hist I : List Nat) (p cand n : Nat) (hc : cand < p) (hp : p + n ≤ I.length)
    (hmatch : ∀ k, k < n → I.getD (cand + k) 0 = I.getD (p + k) 0) :
    copyBytes n (p - cand) (hist ++ I.take p) = hist ++ I.take (p + n) := by
  have hlen := length_append_take hist I p (by omega)
  have hX : hist ++ I.take p ++ (I.drop p).take n = hist ++ I.take (p + n) := by
    rw [List.append_assoc, ← List.take_add]
  rw [← hX]
  apply BV.MatchFinder.copyBytes_of_match
  · rw [List.length_take, List.length_drop]; omega
  · omega
  · rw [hlen]; omega
  · intro k hk
    rw [hX, hlen, Nat.add_assoc, getD_hist_take hist I (p + n) (p + k) (by omega)]
    have : hist.length + p - (p - cand) + k = hist.length + (cand + k) := by omega
    rw [this, getD_hist_take hist I (p + n) (cand + k) (by omega)]
    exact (hmatch k hk).symm

theorem applyCopy_explicit (wo : WordOracle) (window mlen ii : Nat) (hist I : List Nat) (p cand n : Nat)
    (ring : List Int) (ds extra : Nat) (hds : 16 ≤ ds) (hdec : rfcDistDecode 0 0 ds extra = p - cand)
    (hc : cand < p) (hw : p - cand ≤ window) (hii : ii ≤ p) (hp : p + n ≤ ii + mlen) (hI : ii + mlen ≤ I.length)
    (hmatch : ∀ k, k < n → I.getD (cand + k) 0 = I.getD (p + k) 0) :
    applyCopy wo window 0 0 mlen (p - ii) n (hist ++ I.take p) ring ds extra
      = some (n, ⟨hist ++ I.take (p + n), ((p - cand : Nat) : Int) :: ring.take 3⟩) := by
  obtain ⟨k, rfl⟩ : ∃ k, ds = k + 16 := ⟨ds - 16, by omega⟩
  unfold applyCopy
  rw [rfcDistance_long 0 0 ring k extra, hdec]
  simp only []
  rw [if_neg (by omega), Int.toNat_natCast, length_append_take hist I p (by omega), if_pos (by omega),
    if_neg (by omega), copy_from_input hist I p cand n hc (by omega) hmatch]
  simp

theorem applyCopy_last (wo : WordOracle) (window mlen ii : Nat) (hist I : List Nat) (p cand n : Nat)
    (ring : List Int) (hr : ring[0]? = some ((p - cand : Nat) : Int))
    (hc : cand < p) (hw : p - cand ≤ window) (hii : ii ≤ p) (hp : p + n ≤ ii + mlen) (hI : ii + mlen ≤ I.length)
    (hmatch : ∀ k, k < n → I.getD (cand + k) 0 = I.getD (p + k) 0) :
    applyCopy wo window 0 0 mlen (p - ii) n (hist ++ I.take p) ring 0 0
      = some (n, ⟨hist ++ I.take (p + n), ring⟩) := by
  unfold applyCopy rfcDistance
  simp only [hr, Option.map_some]
  rw [if_neg (by omega), Int.toNat_natCast, length_append_take hist I p (by omega), if_pos (by omega),
    if_neg (by omega), copy_from_input hist I p cand n hc (by omega) hmatch]
  simp

/-- the word 64 is a distance word: code 64 (last distance), no extra bits -/
theorem word64 : ¬ (64 % 256 < 64 ∨ 64 % 256 ≥ 128 ∨ 64 / 256 ≥ 2 ^ kNumExtraBits.getD (64 % 256) 0) := by decide

def DistWord (ring ring' : List Int) (d dW : Nat) : Prop :=
  (dW = 64 ∧ ring[0]? = some (d : Int) ∧ ring' = ring) ∨
  (emitDistanceQ1 d = some dW ∧ ring' = (d : Int) :: ring.take 3)

theorem DistWord.head {ring ring' : List Int} {d dW : Nat} (h : DistWord ring ring' d dW) :
    ring'[0]? = some (d : Int) := by
  rcases h with ⟨_, hr, rfl⟩ | ⟨_, rfl⟩
  · exact hr
  · rfl

section
variable (wo : WordOracle) {window mlen ii : Nat} {hist I : List Nat}

theorem stepTail_dist {p cand n : Nat} {ring ring' : List Int} {dW : Nat} (cs lits : List Nat)
    (hwin : 262128 ≤ window) (hc : cand < p) (hd : p - cand ≤ 262128) (hii : ii ≤ p) (hn : 1 ≤ n)
    (hp : p + n ≤ ii + mlen) (hI : ii + mlen ≤ I.length)
    (hm : ∀ k, k < n → I.getD (cand + k) 0 = I.getD (p + k) 0)
    (hdW : DistWord ring ring' (p - cand) dW) :
    stepTail wo window mlen false (dW :: cs) lits (p - ii) n (hist ++ I.take p) ring
      = some (.inr (cs, lits, p + n - ii, ⟨hist ++ I.take (p + n), ring'⟩)) := by
  have hpos : p - ii + n = p + n - ii := by omega
  unfold stepTail
  rw [if_neg (by omega)]
  simp only [Bool.false_eq_true, if_false]
  rcases hdW with ⟨rfl, hr, rfl⟩ | ⟨hdW, rfl⟩
  · rw [if_neg word64, show 64 % 256 - 64 = 0 from rfl, show 64 / 256 = 0 from rfl,
      applyCopy_last wo window mlen ii hist I p cand n _ hr hc (by omega) hii hp hI hm]
    simp only [hpos]
  · obtain ⟨w, hw, d1, d2, d3, d4⟩ := distance_word (p - cand) (by omega) (by omega)
    rw [hw] at hdW
    injection hdW with hdW
    subst hdW
    rw [if_neg (by omega), applyCopy_explicit wo window mlen ii hist I p cand n ring (w % 256 - 64) (w / 256) (by omega)
      d4 hc (by omega) hii hp hI hm]
    simp only [hpos]

theorem stepTail_impl {p cand n : Nat} {ring : List Int} (cs lits : List Nat)
    (hwin : 262128 ≤ window) (hc : cand < p) (hd : p - cand ≤ 262128) (hii : ii ≤ p) (hn : 1 ≤ n)
    (hp : p + n ≤ ii + mlen) (hI : ii + mlen ≤ I.length)
    (hm : ∀ k, k < n → I.getD (cand + k) 0 = I.getD (p + k) 0)
    (hr : ring[0]? = some ((p - cand : Nat) : Int)) :
    stepTail wo window mlen true cs lits (p - ii) n (hist ++ I.take p) ring
      = some (.inr (cs, lits, p + n - ii, ⟨hist ++ I.take (p + n), ring⟩)) := by
  have hpos : p - ii + n = p + n - ii := by omega
  unfold stepTail
  rw [if_neg (by omega)]
  simp only [if_true]
  rw [applyCopy_last wo window mlen ii hist I p cand n ring hr hc (by omega) hii hp hI hm]
  simp only [hpos]

theorem replayGo_copy {lo hi n w : Nat} (lw : LenWord cpBase lo hi n w) (h24 : 24 ≤ lo) (h64 : hi < 64) {imp : Bool}
    (h40 : hi < 40 ∧ imp = true ∨ 40 < lo ∧ imp = false) (f : Nat) (cs lits : List Nat) {done : Nat}
    (out : List Nat) (ring : List Int) (hd : done < mlen) :
    replayGo wo window mlen (f + 1) (w :: cs) lits done ⟨out, ring⟩
      = match stepTail wo window mlen imp cs lits done n out ring with
        | none => none
        | some (.inl fin) => some fin
        | some (.inr (cs', lits', done', st')) => replayGo wo window mlen f cs' lits' done' st' := by
  obtain ⟨c1, c2, c3, c4⟩ := lw.parts (by omega)
  rw [replayGo, stepQ1_copy wo window mlen w cs lits done _ (by omega) (by omega) (by omega) c3 hd, c4]
  rcases h40 with ⟨h, rfl⟩ | ⟨h, rfl⟩
  · rw [impl0_codes.1 _ (by omega) (by omega)]; rfl
  · rw [impl0_codes.2 _ (by omega) (by omega)]; rfl

theorem replayGo_insert {e m : Nat} (ring : List Int) (f : Nat) (cs L : List Nat) (h1 : 1 ≤ m)
    (hsmall : mlen < 16777216) (he : ii ≤ e) (hem : e + m ≤ ii + mlen) (hI : ii + mlen ≤ I.length) :
    replayGo wo window mlen (f + 1) (emitInsertLenQ1 m :: cs) ((I.drop e).take m ++ L) (e - ii) ⟨hist ++ I.take e, ring⟩
      = match stepTail wo window mlen false cs L (e + m - ii) 2 (hist ++ I.take (e + m)) ring with
        | none => none
        | some (.inl fin) => some fin
        | some (.inr (cs', lits', done', st')) => replayGo wo window mlen f cs' lits' done' st' := by
  obtain ⟨i1, i2, i3, i4⟩ := insert_word m (by omega)
  have hXl := length_take_drop I e m (by omega)
  have hins := stepQ1_ins wo window mlen (emitInsertLenQ1 m) cs ((I.drop e).take m ++ L) (e - ii)
    ⟨hist ++ I.take e, ring⟩ i1 (i4 h1) i3 (by omega) (by rw [i2, List.length_append, hXl]; omega) (by rw [i2]; omega)
  have hdrop : ((I.drop e).take m ++ L).drop m = L := by
    rw [List.drop_append_of_le_length (by omega), List.drop_of_length_le (by omega), List.nil_append]
  have htake : ((I.drop e).take m ++ L).take m = (I.drop e).take m := by
    rw [List.take_append_of_le_length (by omega), List.take_of_length_le (by omega)]
  rw [i2, hdrop, htake, show e - ii + m = e + m - ii by omega] at hins
  have hout : hist ++ I.take e ++ (I.drop e).take m = hist ++ I.take (e + m) := by
    rw [List.append_assoc, ← List.take_add]
  simp only [hout] at hins
  rw [replayGo, hins]
  rfl

theorem replay_groupA {e base cand matched : Nat} {ring ring' : List Int} {dW : Nat}
    (hwin : 262128 ≤ window) (he : ii ≤ e) (heb : e < base) (hc : cand < base) (hd : base - cand ≤ 262128)
    (hm4 : 4 ≤ matched) (hend : base + matched ≤ ii + mlen) (hI : ii + mlen ≤ I.length) (hsmall : mlen < 16777216)
    (hmatch : ∀ k, k < matched → I.getD (cand + k) 0 = I.getD (base + k) 0)
    (hdW : DistWord ring ring' (base - cand) dW) (f : Nat) (C L : List Nat) :
    replayGo wo window mlen (f + 2) (emitInsertLenQ1 (base - e) :: dW :: (emitCopyLenLastDistanceQ1 matched ++ C))
        ((I.drop e).take (base - e) ++ L) (e - ii) ⟨hist ++ I.take e, ring⟩
      = replayGo wo window mlen f C L (base + matched - ii) ⟨hist ++ I.take (base + matched), ring'⟩ := by
  have hr2 : ring'[0]? = some ((base + 2 - (cand + 2) : Nat) : Int) := by
    rw [show base + 2 - (cand + 2) = base - cand by omega]; exact hdW.head
  have hm' : ∀ k, k < matched - 2 → I.getD (cand + 2 + k) 0 = I.getD (base + 2 + k) 0 := fun k hk => by
    rw [Nat.add_assoc, Nat.add_assoc]; exact hmatch (2 + k) (by omega)
  -- the first RFC command: the insert, and 2 bytes copied at the distance word's distance
  rw [replayGo_insert wo ring (f + 1) _ L (by omega) hsmall he (by omega) hI, show e + (base - e) = base by omega,
    stepTail_dist wo _ L hwin hc hd (by omega) (by omega) (by omega) hI (fun k hk => hmatch k (by omega)) hdW]
  simp only []
  -- the second: the remaining `matched − 2` bytes at the last distance, implied below 72, as the word 64 from there on
  rcases copy_last_word matched hm4 (by omega) with ⟨_, w, hw, lw⟩ | ⟨_, w, hw, lw⟩
  · rw [hw, List.singleton_append, replayGo_copy wo lw (by omega) (by omega) (Or.inl ⟨by omega, rfl⟩) f C L _ _ (by omega),
      stepTail_impl wo C L hwin (by omega) (by omega) (by omega) (by omega) (by omega) hI hm' hr2,
      show base + 2 + (matched - 2) = base + matched by omega]
  · rw [hw, show [w, 64] ++ C = w :: 64 :: C from rfl,
      replayGo_copy wo lw (by omega) (by omega) (Or.inr ⟨by omega, rfl⟩) f _ L _ _ (by omega),
      stepTail_dist wo C L hwin (by omega) (by omega) (by omega) (by omega) (by omega) hI hm' (Or.inl ⟨rfl, hr2, rfl⟩),
      show base + 2 + (matched - 2) = base + matched by omega]

theorem replay_final {e : Nat} (ring : List Int) (f : Nat)
    (he : ii ≤ e) (hlt : e < ii + mlen) (hI : ii + mlen ≤ I.length) (hsmall : mlen < 16777216) :
    replayGo wo window mlen (f + 1) [emitInsertLenQ1 (ii + mlen - e)] ((I.drop e).take (ii + mlen - e)) (e - ii)
        ⟨hist ++ I.take e, ring⟩ = some ⟨hist ++ I.take (ii + mlen), ring⟩ := by
  have := replayGo_insert wo (window := window) (hist := hist) ring f [] [] (by omega) hsmall he
    (show e + (ii + mlen - e) ≤ ii + mlen by omega) hI
  rw [List.append_nil, show e + (ii + mlen - e) = ii + mlen by omega] at this
  rw [this]
  unfold stepTail
  rw [if_pos (by omega)]
  simp

end

theorem replayGo_mono (wo : WordOracle) (window mlen : Nat) : ∀ (f f' : Nat) (cmds lits : List Nat) (done : Nat)
    (st fin : RdSt), replayGo wo window mlen f cmds lits done st = some fin → f ≤ f' →
    replayGo wo window mlen f' cmds lits done st = some fin := by
  intro f
  induction f with
  | zero => intro f' cmds lits done st fin h; simp [replayGo] at h
  | succ f ih =>
    intro f' cmds lits done st fin h hf
    obtain ⟨f'', rfl⟩ : ∃ f'', f' = f'' + 1 := ⟨f' - 1, by omega⟩
    cases cmds with
    | nil => simpa [replayGo] using h
    | cons cmd cs =>
      rw [replayGo] at h ⊢
      cases hs : stepQ1 wo window mlen cmd cs lits done st with
      | none => rw [hs] at h; cases h
      | some r =>
        rw [hs] at h
        cases r with
        | inl fin' => exact h
        | inr t =>
          obtain ⟨cs', lits', done', st'⟩ := t
          exact ih f'' cs' lits' done' st' fin h (by omega)

end BV.Fragment
