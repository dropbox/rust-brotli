/-
C17: the leaf collection and the two-queue merge of
`BrotliCreateHuffmanTree` build a full binary tree over exactly the symbols
with a non-zero count.
-/
import BV.Lemmas.HuffmanShape

namespace BV.Lemmas.HuffmanMerge
open BV.Bits BV.Huffman BV.Lemmas.HuffmanCanon BV.Lemmas.HuffmanShape

def rsum (F : Nat → Nat) (a b : Nat) : Nat := ((List.range' a (b - a)).map F).sum

theorem rsum_empty (F : Nat → Nat) (a b : Nat) (h : b ≤ a) : rsum F a b = 0 := by
  have : b - a = 0 := by omega
  simp [rsum, this]

theorem rsum_head (F : Nat → Nat) (a b : Nat) (h : a < b) :
    rsum F a b = F a + rsum F (a + 1) b := by
  unfold rsum
  have : b - a = (b - (a + 1)) + 1 := by omega
  rw [this, List.range'_succ]
  simp

theorem rsum_tail (F : Nat → Nat) (a b : Nat) (h : a ≤ b) :
    rsum F a (b + 1) = rsum F a b + F b := by
  unfold rsum
  have : b + 1 - a = (b - a) + 1 := by omega
  rw [this, List.range'_concat]
  simp only [List.map_append, List.sum_append, List.map_cons, List.map_nil, List.sum_cons,
    List.sum_nil, Nat.one_mul, Nat.add_zero]
  congr 2; omega

theorem rsum_congr (F F' : Nat → Nat) (a b : Nat) (h : ∀ q, a ≤ q → q < b → F q = F' q) :
    rsum F a b = rsum F' a b := by
  unfold rsum
  congr 1
  apply List.map_congr_left
  intro q hq
  rw [List.mem_range'_1] at hq
  exact h q hq.1 (by omega)

theorem rsum_mem_le (F : Nat → Nat) (a b q : Nat) (h1 : a ≤ q) (h2 : q < b) :
    F q ≤ rsum F a b := by
  induction b with
  | zero => omega
  | succ b ih =>
    rw [rsum_tail F a b (by omega)]
    by_cases hq : q = b
    · subst hq; omega
    · have := ih (by omega); omega

def G (g : Nat → Nat) : T → Nat
  | .leaf v => g v
  | .node l r => G g l + G g r

theorem G_eq_sum (g : Nat → Nat) (t : T) : G g t = (t.leaves.map g).sum := by
  induction t with
  | leaf v => simp [G, T.leaves]
  | node l r ihl ihr => simp [G, T.leaves, ihl, ihr]

theorem perm_of_sums (l1 l2 : List Nat) (h : ∀ g : Nat → Nat, (l1.map g).sum = (l2.map g).sum) :
    l1.Perm l2 := by
  rw [List.perm_iff_count]
  intro a
  have cnt : ∀ l : List Nat, List.count a l = (l.map fun x => if x = a then 1 else 0).sum := by
    intro l
    induction l with
    | nil => rfl
    | cons x xs ih =>
      simp only [List.count_cons, List.map_cons, List.sum_cons, ih, beq_iff_eq]
      omega
  rw [cnt, cnt, h]

def descNZ (data : List Nat) : Nat → List Nat
  | 0 => []
  | i + 1 => if data.getD i 0 = 0 then descNZ data i else i :: descNZ data i

theorem mem_descNZ (data : List Nat) (m v : Nat) :
    v ∈ descNZ data m ↔ v < m ∧ data.getD v 0 ≠ 0 := by
  induction m with
  | zero => simp [descNZ]
  | succ m ih =>
    simp only [descNZ]
    by_cases h : data.getD m 0 = 0
    · simp only [h, ↓reduceIte, ih]
      constructor
      · rintro ⟨h1, h2⟩; exact ⟨by omega, h2⟩
      · rintro ⟨h1, h2⟩
        have : v ≠ m := by rintro rfl; exact h2 h
        exact ⟨by omega, h2⟩
    · simp only [h, ↓reduceIte, List.mem_cons, ih]
      constructor
      · rintro (rfl | ⟨h1, h2⟩)
        · exact ⟨by omega, h⟩
        · exact ⟨by omega, h2⟩
      · rintro ⟨h1, h2⟩
        by_cases hv : v = m
        · left; exact hv
        · right; exact ⟨by omega, h2⟩

theorem nodup_descNZ (data : List Nat) (m : Nat) : (descNZ data m).Nodup := by
  induction m with
  | zero => exact List.nodup_nil
  | succ m ih =>
    simp only [descNZ]
    split
    · exact ih
    · rw [List.nodup_cons]
      refine ⟨?_, ih⟩
      rw [mem_descNZ]; omega

theorem length_descNZ_le (data : List Nat) (m : Nat) : (descNZ data m).length ≤ m := by
  induction m with
  | zero => simp [descNZ]
  | succ m ih =>
    simp only [descNZ]
    split
    · omega
    · simp only [List.length_cons]; omega

theorem asI16_of_lt (x : Nat) (h : x < 32768) : asI16 x = (x : Int) := by
  unfold asI16
  have : x % 65536 = x := Nat.mod_eq_of_lt (by omega)
  rw [this, if_pos h]

def leafNode (data : List Nat) (cl v : Nat) : Node := ⟨max (data.getD v 0) cl, -1, (v : Int)⟩

theorem collectLeaves_spec (data : List Nat) (cl : Nat) :
    ∀ (m : Nat) (tree : List Node) (n : Nat), m ≤ data.length → m ≤ 32768 →
    n + (descNZ data m).length ≤ tree.length →
    ∃ tree', collectLeaves data cl m tree n = .ok (tree', n + (descNZ data m).length) ∧
      tree'.length = tree.length ∧
      (∀ q, q < n → tree'[q]? = tree[q]?) ∧
      (∀ k, k < (descNZ data m).length →
        tree'[n + k]? = some (leafNode data cl ((descNZ data m).getD k 0))) := by
  intro m
  induction m with
  | zero =>
    intro tree n _ _ _
    exact ⟨tree, by simp [collectLeaves, descNZ], rfl, fun _ _ => rfl, by simp [descNZ]⟩
  | succ m ih =>
    intro tree n hm h16 hlen
    simp only [collectLeaves]
    rw [getAt_getD data m 0 (by omega)]
    simp only [Out.bind_ok]
    by_cases hd : data.getD m 0 = 0
    · simp only [descNZ, hd, ↓reduceIte, ne_eq, not_true_eq_false] at hlen ⊢
      exact ih tree n (by omega) (by omega) hlen
    · simp only [descNZ, hd, ↓reduceIte, List.length_cons, ne_eq, not_false_eq_true] at hlen ⊢
      rw [setAt_of_lt tree n _ (by omega)]
      simp only [Out.bind_ok]
      obtain ⟨tree', h1, h2, h3, h4⟩ := ih (tree.set n ⟨max (data.getD m 0) cl, -1, asI16 m⟩) (n + 1)
        (by omega) (by omega) (by simp; omega)
      refine ⟨tree', ?_, by simpa using h2, ?_, ?_⟩
      · rw [h1]; congr 2; omega
      · intro q hq
        rw [h3 q (by omega), List.getElem?_set_ne (by omega)]
      · intro k hk
        cases k with
        | zero =>
          rw [Nat.add_zero, h3 n (by omega), List.getElem?_set_self (by omega)]
          simp [leafNode, asI16_of_lt m (by omega)]
        | succ k =>
          have := h4 k (by omega)
          have e : n + (k + 1) = n + 1 + k := by omega
          rw [e, this]; simp

def cntAt (pool : List Node) (q : Nat) : Nat :=
  match pool[q]? with
  | some nd => nd.count
  | none => 0

theorem getAt_cnt (pool : List Node) (q : Nat) (h : q < pool.length) :
    ∃ nd, getAt pool q = .ok nd ∧ pool[q]? = some nd ∧ nd.count = cntAt pool q := by
  refine ⟨pool[q], getAt_of_lt pool q h, List.getElem?_eq_getElem h, ?_⟩
  simp [cntAt, List.getElem?_eq_getElem h]

/-- `q` is the root of a subtree not yet merged: an unconsumed leaf `i ≤ q < n`
or an unconsumed inner node `j ≤ q < e` -/
def Avail (n i j e q : Nat) : Prop := (i ≤ q ∧ q < n) ∨ (j ≤ q ∧ q < e)

def PickRel (pool : List Node) (i j x i' j' : Nat) : Prop :=
  (x = i ∧ cntAt pool i ≤ cntAt pool j ∧ i' = i + 1 ∧ j' = j) ∨
  (x = j ∧ cntAt pool j < cntAt pool i ∧ i' = i ∧ j' = j + 1)

theorem pick (n e i j : Nat) (pool : List Node) (hi : i ≤ n) (hj : j ≤ e) (hnj : n < j)
    (hsn : pool[n]? = some sentinel) (hse : pool[e]? = some sentinel)
    (havail : i + j < n + e)
    (hc : ∀ q, Avail n i j e q → cntAt pool q < 4294967295) :
    ∃ x i' j', (if cntAt pool i ≤ cntAt pool j then (i, i + 1, j) else (j, i, j + 1)) = (x, i', j') ∧
      Avail n i j e x ∧ i ≤ i' ∧ i' ≤ n ∧ j ≤ j' ∧ j' ≤ e ∧ i' + j' = i + j + 1 ∧
      (∀ F : Nat → Nat, rsum F i n + rsum F j e = F x + (rsum F i' n + rsum F j' e)) ∧
      (∀ q, Avail n i' j' e q → Avail n i j e q ∧ q ≠ x) ∧ PickRel pool i j x i' j' := by
  have csn : cntAt pool n = 4294967295 := by simp [cntAt, hsn, sentinel]
  have cse : cntAt pool e = 4294967295 := by simp [cntAt, hse, sentinel]
  by_cases hle : cntAt pool i ≤ cntAt pool j
  ·
    have hin : i < n := by
      by_cases h : i = n
      · subst h
        rw [csn] at hle
        have hje : j = e := by
          by_cases h2 : j < e
          · have := hc j (Or.inr ⟨Nat.le_refl _, h2⟩); omega
          · omega
        omega
      · omega
    refine ⟨i, i + 1, j, by rw [if_pos hle], Or.inl ⟨Nat.le_refl _, hin⟩, by omega, by omega,
      Nat.le_refl _, hj, by omega, ?_, ?_, Or.inl ⟨rfl, hle, rfl, rfl⟩⟩
    · intro F; rw [rsum_head F i n hin]; omega
    · intro q hq
      rcases hq with ⟨h1, h2⟩ | ⟨h1, h2⟩
      · exact ⟨Or.inl ⟨by omega, h2⟩, by omega⟩
      · exact ⟨Or.inr ⟨h1, h2⟩, by omega⟩
  · have hje : j < e := by
      by_cases h : j = e
      · subst h
        rw [cse] at hle
        by_cases h2 : i < n
        · have := hc i (Or.inl ⟨Nat.le_refl _, h2⟩); omega
        · have : i = n := by omega
          subst this; omega
      · omega
    refine ⟨j, i, j + 1, by rw [if_neg hle], Or.inr ⟨Nat.le_refl _, hje⟩, Nat.le_refl _, hi,
      by omega, by omega, by omega, ?_, ?_, Or.inr ⟨rfl, by omega, rfl, rfl⟩⟩
    · intro F; rw [rsum_head F j e hje]; omega
    · intro q hq
      rcases hq with ⟨h1, h2⟩ | ⟨h1, h2⟩
      · exact ⟨Or.inl ⟨h1, h2⟩, by omega⟩
      · exact ⟨Or.inr ⟨by omega, h2⟩, by omega⟩

/-- invariant of the merge loop with `k` merges to go (`e = 2n - k` is the
index of the next inner node; `tr q` is the subtree rooted at `q`; `w` the leaf
weights, `lv` the leaf symbols) -/
structure MInv (n : Nat) (w : Nat → Nat) (lv : List Nat) (k : Nat) (pool : List Node)
    (i j : Nat) (tr : Nat → T) : Prop where
  hk : k + 1 ≤ n
  hi : i ≤ n
  hj1 : n + 1 ≤ j
  hj2 : j ≤ 2 * n - k
  hcount : (n - i) + (2 * n - k - j) = k + 1
  hlen : 2 * n + 1 ≤ pool.length
  h16 : 2 * n < 32768
  hsn : pool[n]? = some sentinel
  hse : pool[2 * n - k]? = some sentinel
  htree : ∀ q, Avail n i j (2 * n - k) q → IsTree pool q (tr q) ∧ cntAt pool q = G w (tr q)
  hsum : ∀ g : Nat → Nat,
    rsum (fun q => G g (tr q)) i n + rsum (fun q => G g (tr q)) j (2 * n - k) = (lv.map g).sum
  hW : (lv.map w).sum < 4294967295
  hfresh : j < 2 * n - k ∨ k + 1 = n

theorem MInv.cnt_le {n w lv k pool i j tr} (h : MInv n w lv k pool i j tr) (q : Nat)
    (hq : Avail n i j (2 * n - k) q) : cntAt pool q ≤ (lv.map w).sum := by
  rw [(h.htree q hq).2, ← h.hsum w]
  rcases hq with ⟨h1, h2⟩ | ⟨h1, h2⟩
  · have := rsum_mem_le (fun q => G w (tr q)) i n q h1 h2
    omega
  · have := rsum_mem_le (fun q => G w (tr q)) j (2 * n - k) q h1 h2
    omega

theorem cntAt_set_ne (pool : List Node) (a q : Nat) (nd : Node) (h : a ≠ q) :
    cntAt (pool.set a nd) q = cntAt pool q := by
  simp [cntAt, List.getElem?_set_ne h]

def stepPool (pool : List Node) (e x y : Nat) : List Node :=
  (pool.set e ⟨cntAt pool x + cntAt pool y, (x : Int), (y : Int)⟩).set (e + 1) sentinel

def stepTr (tr : Nat → T) (e x y : Nat) : Nat → T :=
  fun q => if q = e then .node (tr x) (tr y) else tr q

theorem stepPool_length (pool : List Node) (e x y : Nat) :
    (stepPool pool e x y).length = pool.length := by simp [stepPool]

theorem stepPool_lt (pool : List Node) (e x y q : Nat) (h : q < e) :
    (stepPool pool e x y)[q]? = pool[q]? := by
  unfold stepPool
  rw [List.getElem?_set_ne (by omega), List.getElem?_set_ne (by omega)]

theorem stepPool_self (pool : List Node) (e x y : Nat) (h : e < pool.length) :
    (stepPool pool e x y)[e]? = some ⟨cntAt pool x + cntAt pool y, (x : Int), (y : Int)⟩ := by
  unfold stepPool
  rw [List.getElem?_set_ne (by omega), List.getElem?_set_self h]

theorem stepPool_succ (pool : List Node) (e x y : Nat) (h : e + 1 < pool.length) :
    (stepPool pool e x y)[e + 1]? = some sentinel := by
  unfold stepPool
  rw [List.getElem?_set_self (by simpa using h)]

theorem mergeLoop_succ (n k : Nat) (pool : List Node) (i j x i1 j1 y i2 j2 : Nat)
    (hi : i < pool.length) (hj : j < pool.length) (hi1 : i1 < pool.length) (hj1 : j1 < pool.length)
    (hx : x < pool.length) (hy : y < pool.length) (he : 2 * n - (k + 1) + 1 < pool.length)
    (hp1 : (if cntAt pool i ≤ cntAt pool j then (i, i + 1, j) else (j, i, j + 1)) = (x, i1, j1))
    (hp2 : (if cntAt pool i1 ≤ cntAt pool j1 then (i1, i1 + 1, j1) else (j1, i1, j1 + 1))
      = (y, i2, j2))
    (hx16 : x < 32768) (hy16 : y < 32768) (hsum : cntAt pool x + cntAt pool y < 4294967296) :
    mergeLoop n (k + 1) pool i j = mergeLoop n k (stepPool pool (2 * n - (k + 1)) x y) i2 j2 := by
  obtain ⟨ti, hti, _, htic⟩ := getAt_cnt pool i hi
  obtain ⟨tj, htj, _, htjc⟩ := getAt_cnt pool j hj
  obtain ⟨ti1, hti1, _, hti1c⟩ := getAt_cnt pool i1 hi1
  obtain ⟨tj1, htj1, _, htj1c⟩ := getAt_cnt pool j1 hj1
  obtain ⟨tx, htx, _, htxc⟩ := getAt_cnt pool x hx
  obtain ⟨ty, hty, _, htyc⟩ := getAt_cnt pool y hy
  simp only [mergeLoop, hti, htj, Out.bind_ok, htic, htjc, hp1, hti1, htj1, hti1c, htj1c, hp2,
    htx, hty, htxc, htyc, Nat.mod_eq_of_lt hsum, asI16_of_lt x hx16, asI16_of_lt y hy16]
  rw [setAt_of_lt pool _ _ (by omega)]
  simp only [Out.bind_ok]
  rw [setAt_of_lt _ _ _ (by simpa using he)]
  simp only [Out.bind_ok, stepPool]

theorem MInv.step {n w lv k pool i j tr} (h : MInv n w lv (k + 1) pool i j tr)
    {x y i2 j2 : Nat} (hax : Avail n i j (2 * n - (k + 1)) x)
    (hay : Avail n i j (2 * n - (k + 1)) y) (hi2 : i2 ≤ n) (hj2 : j ≤ j2)
    (hj2e : j2 ≤ 2 * n - (k + 1))
    (hc : i2 + j2 = i + j + 2)
    (hsub : ∀ q, Avail n i2 j2 (2 * n - (k + 1)) q → Avail n i j (2 * n - (k + 1)) q)
    (hs : ∀ F : Nat → Nat, rsum F i n + rsum F j (2 * n - (k + 1))
      = F x + (F y + (rsum F i2 n + rsum F j2 (2 * n - (k + 1))))) :
    MInv n w lv k (stepPool pool (2 * n - (k + 1)) x y) i2 j2
      (stepTr tr (2 * n - (k + 1)) x y) := by
  have hk := h.hk
  have hj1 := h.hj1
  have hlen := h.hlen
  have htree := h.htree
  have hsum := h.hsum
  have hcount : i + j + 2 * k + 3 = 3 * n := by have := h.hcount; have := h.hi; have := h.hj2; omega
  obtain ⟨e, he⟩ : ∃ e, e + (k + 1) = 2 * n ∧ e = 2 * n - (k + 1) := ⟨_, by omega, rfl⟩
  rw [← he.2] at hax hay hj2e hsub hs htree hsum ⊢
  replace he := he.1
  have he2 : e + 1 = 2 * n - k := by omega
  have hlt : ∀ q, Avail n i j e q → q < e := by
    intro q hq; rcases hq with ⟨_, h2⟩ | ⟨_, h2⟩ <;> omega
  have hsame : ∀ r, r < e → (stepPool pool e x y)[r]? = pool[r]? := stepPool_lt pool e x y
  have hp2e := stepPool_self pool e x y (by omega)
  refine
    { hk := by omega, hi := hi2, hj1 := by omega, hj2 := by omega, hcount := by omega,
      hlen := by rw [stepPool_length]; exact hlen,
      h16 := h.h16, hsn := by rw [hsame n (by omega)]; exact h.hsn,
      hse := by rw [← he2]; exact stepPool_succ pool e x y (by omega),
      htree := ?_, hsum := ?_, hW := h.hW, hfresh := Or.inl (by omega) }
  · intro q hq
    rw [← he2] at hq
    by_cases hqe : q = e
    · subst hqe
      simp only [stepTr, ↓reduceIte]
      refine ⟨.node hp2e (hlt x hax) (hlt y hay)
        ((htree x hax).1.frame (fun r hr => hsame r (by have := hlt x hax; omega)))
        ((htree y hay).1.frame (fun r hr => hsame r (by have := hlt y hay; omega))), ?_⟩
      simp only [cntAt, hp2e, G]
      rw [← (htree x hax).2, ← (htree y hay).2]; rfl
    · have hq0 : Avail n i j e q := by
        apply hsub
        rcases hq with h1 | ⟨h1, h2⟩
        · exact Or.inl h1
        · exact Or.inr ⟨h1, by omega⟩
      have hqlt := hlt q hq0
      simp only [stepTr, hqe, ↓reduceIte]
      refine ⟨(htree q hq0).1.frame (fun r hr => hsame r (by omega)), ?_⟩
      rw [← (htree q hq0).2]
      simp only [cntAt, hsame q hqlt]
  · intro g
    have hold : ∀ a b, b ≤ e → rsum (fun q => G g (stepTr tr e x y q)) a b
        = rsum (fun q => G g (tr q)) a b := by
      intro a b hb
      apply rsum_congr
      intro q _ h2
      simp only [stepTr]
      rw [if_neg (by omega)]
    have hnew : G g (stepTr tr e x y e) = G g (tr x) + G g (tr y) := by
      simp only [stepTr, ↓reduceIte]; rfl
    rw [← he2, rsum_tail _ j2 e hj2e, hold i2 n (by omega), hold j2 e (Nat.le_refl _), hnew,
      ← hsum g, hs]
    omega

theorem mergeStep (n : Nat) (w : Nat → Nat) (lv : List Nat) (k : Nat) (pool : List Node)
    (i j : Nat) (tr : Nat → T) (h : MInv n w lv (k + 1) pool i j tr) :
    ∃ x y i1 j1 i2 j2,
      Avail n i j (2 * n - (k + 1)) x ∧ Avail n i j (2 * n - (k + 1)) y ∧ y ≠ x ∧
      PickRel pool i j x i1 j1 ∧ PickRel pool i1 j1 y i2 j2 ∧
      (∀ q, Avail n i1 j1 (2 * n - (k + 1)) q → Avail n i j (2 * n - (k + 1)) q ∧ q ≠ x) ∧
      (∀ q, Avail n i2 j2 (2 * n - (k + 1)) q → Avail n i1 j1 (2 * n - (k + 1)) q ∧ q ≠ y) ∧
      i ≤ i1 ∧ i1 ≤ i2 ∧ i2 ≤ n ∧ j ≤ j1 ∧ j1 ≤ j2 ∧ j2 ≤ 2 * n - (k + 1) ∧
      mergeLoop n (k + 1) pool i j
        = mergeLoop n k (stepPool pool (2 * n - (k + 1)) x y) i2 j2 ∧
      MInv n w lv k (stepPool pool (2 * n - (k + 1)) x y) i2 j2 (stepTr tr (2 * n - (k + 1)) x y) ∧
      (∀ q, q < 2 * n - (k + 1) →
        (stepPool pool (2 * n - (k + 1)) x y)[q]? = pool[q]?) ∧
      cntAt (stepPool pool (2 * n - (k + 1)) x y) (2 * n - (k + 1)) = cntAt pool x + cntAt pool y ∧
      (stepPool pool (2 * n - (k + 1)) x y).length = pool.length := by
  have hk := h.hk
  have hi := h.hi
  have hj1 := h.hj1
  have hlen := h.hlen
  have h16 := h.h16
  have hcount : i + j + 2 * k + 3 = 3 * n := by have := h.hcount; have := h.hj2; omega
  obtain ⟨e, he⟩ : ∃ e, e + (k + 1) = 2 * n ∧ e = 2 * n - (k + 1) := ⟨_, by omega, rfl⟩
  have hj2 := h.hj2
  have hse := h.hse
  have hcMAX : ∀ q, Avail n i j (2 * n - (k + 1)) q → cntAt pool q < 4294967295 :=
    fun q hq => Nat.lt_of_le_of_lt (h.cnt_le q hq) h.hW
  have hstep := @MInv.step n w lv k pool i j tr h
  have hsumw := h.hsum w
  have hwx := fun q hq => (h.htree q hq).2
  rw [← he.2] at hj2 hse hcMAX hstep hsumw hwx ⊢
  replace he := he.1
  obtain ⟨x, i1, j1, hp1, hax, hii1, hi1n, hjj1, hj1e, hc1, hs1, hsub1, hrel1⟩ :=
    pick n e i j pool hi hj2 (by omega) h.hsn hse (by omega) hcMAX
  obtain ⟨y, i2, j2, hp2, hay1, hii2, hi2n, hjj2, hj2e, hc2, hs2, hsub2, hrel2⟩ :=
    pick n e i1 j1 pool hi1n hj1e (by omega) h.hsn hse (by omega)
      (fun q hq => hcMAX q (hsub1 q hq).1)
  have hay := (hsub1 y hay1).1
  have hxe : x < e := by rcases hax with ⟨_, h2⟩ | ⟨_, h2⟩ <;> omega
  have hye : y < e := by rcases hay with ⟨_, h2⟩ | ⟨_, h2⟩ <;> omega
  rw [hs1, hs2] at hsumw
  have hwrap : cntAt pool x + cntAt pool y < 4294967296 := by
    rw [hwx x hax, hwx y hay]
    have := h.hW
    omega
  exact ⟨x, y, i1, j1, i2, j2, hax, hay, (hsub1 y hay1).2, hrel1, hrel2, hsub1, hsub2, hii1, hii2,
    hi2n, hjj1, hjj2, hj2e,
    by
      have := mergeLoop_succ n k pool i j x i1 j1 y i2 j2 (by omega) (by omega) (by omega)
        (by omega) (by omega) (by omega) (by omega) hp1 hp2 (by omega) (by omega) hwrap
      rwa [show 2 * n - (k + 1) = e by omega] at this,
    hstep hax hay hi2n (Nat.le_trans hjj1 hjj2) hj2e (by omega)
      (fun q hq => (hsub1 q (hsub2 q hq).1).1) (fun F => by rw [hs1 F, hs2 F]),
    stepPool_lt pool e x y,
    by simp only [cntAt, stepPool_self pool e x y (by omega)],
    stepPool_length pool e x y⟩

theorem mergeLoop_spec (n : Nat) (w : Nat → Nat) (lv : List Nat) :
    ∀ (k : Nat) (pool : List Node) (i j : Nat) (tr : Nat → T), MInv n w lv k pool i j tr →
    ∃ pool' i' j' tr', mergeLoop n k pool i j = .ok pool' ∧ MInv n w lv 0 pool' i' j' tr' ∧
      pool'.length = pool.length := by
  intro k
  induction k with
  | zero => intro pool i j tr h; exact ⟨pool, i, j, tr, rfl, h, rfl⟩
  | succ k ih =>
    intro pool i j tr h
    obtain ⟨x, y, i1, j1, i2, j2, _, _, _, _, _, _, _, _, _, _, _, _, _, hrun, hinv, _, _, hl2⟩ :=
      mergeStep n w lv k pool i j tr h
    obtain ⟨pool', i', j', tr'', hm, hinv', hl'⟩ := ih _ i2 j2 _ hinv
    exact ⟨pool', i', j', tr'', by rw [hrun]; exact hm, hinv', by rw [hl', hl2]⟩

end BV.Lemmas.HuffmanMerge
