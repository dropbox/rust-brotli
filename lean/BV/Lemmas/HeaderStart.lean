/-
The beginning of a stream (`BV.Header.streamStart`): every writer only appends,
so the stream begins with the window bits; with `magic_number` the magic block
follows immediately.
-/
import BV.Lemmas.Header
import BV.Lemmas.HeaderMagic
namespace BV.Header
open BV.Bits BV.HeaderSpec BV.Bits.Out

theorem bind_eq_ok {α β : Type} (x : Out α) (f : α → Out β) (b : β) :
    (x >>= f) = ok b ↔ ∃ a, x = ok a ∧ f a = ok b :=
  Out.bind_eq_ok x f b

theorem exists_ok_of_check {α : Type} (x : Out α) (p : α → Bool)
    (h : (match x with | ok a => p a | _ => false) = true) : ∃ a, x = ok a ∧ p a = true := by
  cases x with
  | ok a => exact ⟨a, rfl, h⟩
  | panic => cases h
  | fuel => cases h

/-- the one thing this file says about every writer, as `Post (…) (Ext w)` -/
def Ext (w w' : Writer) : Prop := ∃ t, w' = w ++ t

theorem Ext.refl (w : Writer) : Ext w w := ⟨[], by simp⟩
theorem Ext.trans {a b c : Writer} (h1 : Ext a b) (h2 : Ext b c) : Ext a c := by
  obtain ⟨t1, rfl⟩ := h1; obtain ⟨t2, rfl⟩ := h2; exact ⟨t1 ++ t2, by simp⟩
theorem Ext.append (w t : Writer) : Ext w (w ++ t) := ⟨t, rfl⟩

theorem Ext.seq {w : Writer} {x : Out Writer} {f : Writer → Out Writer} (hx : Post x (Ext w))
    (hf : ∀ a, Post (f a) (Ext a)) : Post (x >>= f) (Ext w) :=
  hx.seq fun a ha => (hf a).mono fun _ => ha.trans

theorem writeBits_ext {n v : Nat} {w : Writer} : Post (writeBits n v w) (Ext w) :=
  fun _ h => (writeBits_eq_ok h).1 ▸ Ext.append _ _

theorem writeBytes_ext {n : Nat} : ∀ {bs : List Nat} {w : Writer}, Post (writeBytes n bs w) (Ext w)
  | [], w => by rw [writeBytes]; exact .ok (Ext.refl w)
  | _ :: _, _ => Ext.seq writeBits_ext fun _ => writeBytes_ext

theorem jump_ext (w : Writer) : Ext w (jumpToByteBoundary w) := by
  rw [jump_eq]; exact Ext.append _ _

theorem writeEmptyLast_ext {w : Writer} : Post (writeEmptyLastMetaBlock w) (Ext w) := by
  simp only [writeEmptyLastMetaBlock]
  exact Ext.seq writeBits_ext fun _ => Ext.seq writeBits_ext fun a => .ok (jump_ext a)

theorem storeUncompressedHeader_ext {len : Nat} {w : Writer} :
    Post (storeUncompressedMetaBlockHeader len w) (Ext w) := by
  simp only [storeUncompressedMetaBlockHeader]
  exact Ext.seq writeBits_ext fun _ => .bind fun _ _ =>
    Ext.seq writeBits_ext fun _ => Ext.seq writeBits_ext fun _ => writeBits_ext

theorem storeUncompressed_ext {isFinal : Bool} {data : List Nat} {w : Writer} :
    Post (storeUncompressedMetaBlock isFinal data w) (Ext w) := by
  simp only [storeUncompressedMetaBlock]
  refine storeUncompressedHeader_ext.seq fun a ha => ?_
  have e2 : Ext w (appendBytes data (jumpToByteBoundary a)) := ha.trans ((jump_ext a).trans (Ext.append _ _))
  exact .ite (fun _ => (Ext.seq writeBits_ext fun _ => Ext.seq writeBits_ext fun b => .ok (jump_ext b)).mono fun _ => e2.trans)
    fun _ => .ok e2

theorem writeMeta_ext {p : Params} {w : Writer} : Post (writeMetadataMetaBlock p w) (Ext w) := by
  simp only [writeMetadataMetaBlock]
  exact Ext.seq writeBits_ext fun _ => Ext.seq writeBits_ext fun _ => Ext.seq writeBits_ext fun _ =>
    Ext.seq writeBits_ext fun _ => Ext.seq writeBits_ext fun a =>
    Ext.seq (writeBytes_ext.mono fun _ => (jump_ext a).trans) fun _ => Ext.seq writeBits_ext fun _ => writeBytes_ext

/-- the parameters `encode_data` works with on the first call -/
def effectiveParams (p0 : Params) (n : Nat) : Params :=
  let p := (ensureInitialized true p0).params
  { p with sizeHint := updateSizeHint p.sizeHint n 0 }

/-- the test by which `streamStart` hands over to `compress_stream_fast` -/
def fastPath (p0 : Params) : Prop :=
  let p := (ensureInitialized true p0).params
  (p.quality = 0 ∨ p.quality = 1) ∧ ¬ p.catable ∧ ¬ p.magicNumber

instance (p0 : Params) : Decidable (fastPath p0) := by unfold fastPath; infer_instance

theorem ite_store_ext {c : Prop} [Decidable c] {data : List Nat} {w : Writer} :
    Post (if c then storeUncompressedMetaBlock false data w else ok w) (Ext w) :=
  .ite (fun _ => storeUncompressed_ext) fun _ => .ok (Ext.refl w)

theorem closeIfDone_ext {w : Writer} {left k : Nat} {magic : Bool} :
    Post (closeIfDone w left magic k) fun st => Ext w st.bits ∧ st.magic = magic ∧ st.prelude = k := by
  unfold closeIfDone
  exact .ite (fun _ => writeEmptyLast_ext.seq fun _ ha => .ok ⟨ha, rfl, rfl⟩) fun _ => .ok ⟨Ext.refl w, rfl, rfl⟩

theorem encodeDataHead_ext {p : Params} {input : List Nat} {w : Writer} :
    Post (encodeDataHead p input w) fun r => Ext w r.1 := by
  unfold encodeDataHead
  exact Post.seq (P := Ext w) (.ite (fun _ => writeMeta_ext) fun _ => .ok (Ext.refl w)) fun _ ha =>
    ite_store_ext.seq fun _ hb => .ok (ha.trans hb)

theorem encodeDataHead_magic {p : Params} {input : List Nat} {w : Writer}
    (hh : p.sizeHint < 2 ^ 64) (hm : p.magicNumber = true) :
    Post (encodeDataHead p input w) fun r =>
      Ext (jumpToByteBoundary (w ++ magicHeaderBits (encodeBase128 p.sizeHint).length)
            ++ (magicPayload p).flatMap (bitsOf 8)) r.1 := by
  unfold encodeDataHead
  rw [if_pos hm, writeMeta_eq p w hh]
  exact .bind fun _ e => by cases e; exact ite_store_ext.seq fun _ hb => .ok hb

/-- the estimate that replaces a zero size hint is a `u32` capped at 2^30, so every bound from 2^32 on survives -/
theorem effective_sizeHint_lt_of (B : Nat) (hB : 2 ^ 32 ≤ B) (p : Params) (n : Nat) (hh : p.sizeHint < B) :
    (effectiveParams p n).sizeHint < B := by
  have hs : (ensureInitialized true p).params.sizeHint = p.sizeHint := rfl
  simp only [effectiveParams, hs, updateSizeHint, lit, litsUsh, BV.Gen.lits_update_size_hint,
    List.getD_cons_zero, List.getD_cons_succ]
  split
  · split
    · omega
    · have : (n + 0) % 2 ^ 64 % 2 ^ 32 < 2 ^ 32 := Nat.mod_lt _ (by decide)
      omega
  · exact hh

theorem effective_sizeHint_lt (p : Params) (n : Nat) (hh : p.sizeHint < 2 ^ 64) :
    (effectiveParams p n).sizeHint < 2 ^ 64 :=
  effective_sizeHint_lt_of _ (by decide) p n hh

theorem streamStart_post (p : Params) (input : List Nat) :
    Post (streamStart true p input) fun st =>
      Ext (pendingWriter (ensureInitialized true p)) st.bits ∧
      st.magic = (ensureInitialized true p).params.magicNumber ∧
      ((ensureInitialized true p).params.magicNumber = true → (effectiveParams p input.length).sizeHint < 2 ^ 64 →
        Ext (jumpToByteBoundary (pendingWriter (ensureInitialized true p) ++
              magicHeaderBits (encodeBase128 (effectiveParams p input.length).sizeHint).length)
            ++ (magicPayload (effectiveParams p input.length)).flatMap (bitsOf 8)) st.bits) := by
  unfold streamStart
  simp only []
  exact .ite (fun hc => closeIfDone_ext.mono fun st h => ⟨h.1, h.2.1.trans (Bool.eq_false_iff.mpr hc.2.2).symm, fun hm => absurd hm hc.2.2⟩)
    fun _ => .bind fun r hr => closeIfDone_ext.mono fun st h =>
      ⟨(encodeDataHead_ext _ hr).trans h.1, h.2.1, fun hm hh => (encodeDataHead_magic (p := effectiveParams p input.length) hh hm _ hr).trans h.1⟩

theorem sanitized_magic (p : Params) : (ensureInitialized true p).params.magicNumber = p.magicNumber := rfl

end BV.Header
