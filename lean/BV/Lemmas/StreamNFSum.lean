import BV.Lemmas.HeaderStreamBound
import BV.Lemmas.StreamEnc
import BV.Lemmas.StreamNFFull
import BV.Lemmas.StreamRunTile
/-!
C08, run level: the never-flushed quality ≥ 2 stream as a phased simulation (`nfSim`).  Phases: `fresh` (only
`set_parameter` so far), `junk` (initialised at quality 0/1: nothing claimed), `start W` (initialised, nothing
encoded yet: the emitted bits are the `W` window bits), `mid` (after a non-final `encode_data`), `done` (after
the final one); `nfT` says what each event may be in each phase.  Before that, what the skeleton of one
`encode_data` invocation writes (magic-number block, stored catable prelude): `encMid_first`, `encMid_both`.
-/

namespace BV.Stream
open BV.Bits

theorem encodeBase128_len : ∀ (fuel j v : Nat), 1 ≤ j → v < 128 ^ j → (encodeBase128 fuel v).length ≤ j := by
  intro fuel
  induction fuel with
  | zero => intro j v _ _; simp [encodeBase128]
  | succ f ih =>
    intro j v hj hv
    unfold encodeBase128
    simp only
    by_cases hr : v / 128 = 0
    · simp [hr]; omega
    · by_cases hf : f = 0
      · simp [hr, hf]; omega
      · simp only [ne_eq, hr, not_false_eq_true, hf, and_self, ↓reduceIte, List.length_cons]
        have hj2 : 2 ≤ j := by
          rcases Nat.lt_or_ge j 2 with h | h
          · have : j = 1 := by omega
            subst this
            simp at hv
            omega
          · exact h
        have hv' : v / 128 < 128 ^ (j - 1) := by
          rw [Nat.div_lt_iff_lt_mul (by decide)]
          have : 128 ^ j = 128 ^ (j - 1) * 128 := by
            rw [← Nat.pow_succ]; congr 1; omega
          omega
        have := ih (j - 1) (v / 128) (by omega) hv'
        omega

theorem encMid_both {o : Oracle} {s s' : St} {site : Nat} {il ff : Bool} {req : Req}
    (h : encodeData o s site il ff = .ok (s', true, req)) (hfm : s.isFirstMb = .bothCatable) :
    (encMid s il).1.lastFlushPos = s.lastFlushPos ∧ (encMid s il).2 = s.carry ∧ s'.isFirstMb = .bothCatable := by
  obtain ⟨s2, w, hdr, hpre, hmid, hpay⟩ := encMid_eq h
  obtain ⟨_, hLastFlushPos, _, _, _, _, hIsFirstMb, _⟩ := encEntry_fields s il
  have hm : encMagic (encEntry s il) s.carry = (encEntry s il, s.carry, 0) := by
    unfold encMagic
    rw [hIsFirstMb, hfm]
    simp
  rw [hm] at hpre
  unfold encPrelude at hpre
  rw [hIsFirstMb, hfm] at hpre
  simp only [↓reduceIte, Out.ok.injEq, Prod.mk.injEq] at hpre
  obtain ⟨rfl, rfl, rfl⟩ := hpre
  rw [hmid]
  refine ⟨hLastFlushPos, rfl, ?_⟩
  rw [(encPayload_frame hpay).isFirstMb, hIsFirstMb, hfm]

/-- the length is stated in the shape of `headLen` -/
theorem encPrelude_first {s1 s2 : St} {w1 w : Writer} {hdr1 hdr bytes : Nat}
    (hnb : s1.isFirstMb ≠ .bothCatable) (h : encPrelude s1 w1 hdr1 bytes = .ok (s2, w, hdr)) :
    ∃ pre, pre ≤ 2 ∧ s2.lastFlushPos = s1.lastFlushPos + pre
      ∧ w.length = (if pre ≠ 0 then (w1.length + 20 + 7) / 8 * 8 + 8 * pre else w1.length)
      ∧ (2 ≤ bytes → s2.isFirstMb = .bothCatable) := by
  unfold encPrelude at h
  rw [if_neg hnb] at h
  by_cases hc : (!s1.params.catable) = true
  · rw [if_pos hc] at h
    cases h
    exact ⟨0, Nat.zero_le _, rfl, rfl, fun _ => rfl⟩
  · rw [if_neg hc] at h
    by_cases hb : bytes ≠ 0
    · rw [if_pos hb] at h
      by_cases hlp : ¬ s1.lastProcessedPos < 2
      · rw [if_pos hlp] at h; cases h
      · rw [if_neg hlp] at h
        dsimp only at h
        by_cases hlen : ((s1.first2.drop s1.lastFlushPos).take (min 2 bytes)).length < min 2 bytes
        · rw [if_pos hlen] at h; cases h
        · rw [if_neg hlen] at h
          cases h
          have hdl : ((s1.first2.drop s1.lastFlushPos).take (min 2 bytes)).length = min 2 bytes :=
            Nat.le_antisymm (List.length_take_le _ _) (Nat.le_of_not_lt hlen)
          refine ⟨min 2 bytes, Nat.min_le_left _ _, rfl, ?_, fun h2 => ?_⟩
          · rw [storedBlock_length_eq, hdl, if_pos (by omega)]
          · exact if_pos (by omega)
    · rw [if_neg hb] at h
      cases h
      exact ⟨0, Nat.zero_le _, rfl, rfl, fun h2 => absurd h2 (by omega)⟩
theorem encMagic_first (s : St) (w0 : Writer) (hfm : s.isFirstMb = .nothing) :
    (encMagic s w0).1.isFirstMb ≠ .bothCatable
    ∧ (encMagic s w0).1.lastFlushPos = s.lastFlushPos
    ∧ (encMagic s w0).2.1.length = (if s.params.magic then (w0.length + 14 + 7) / 8 * 8 + 8 * (4 + (encodeBase128 10 (s.params.sizeHint % two64)).length) else w0.length) := by
  unfold encMagic
  by_cases hmg : s.params.magic = true
  · rw [if_pos ⟨hfm, hmg⟩, if_pos hmg]
    exact ⟨by simp, rfl, magicBlock_length_eq _ _⟩
  · have hn : ¬ (s.isFirstMb = .nothing ∧ s.params.magic = true) := fun hh => hmg hh.2
    rw [if_neg hn, if_neg hmg]
    exact ⟨by rw [hfm]; simp, rfl, rfl⟩

theorem encMid_first {o : Oracle} {s s' : St} {site : Nat} {il ff : Bool} {req : Req}
    (h : encodeData o s site il ff = .ok (s', true, req)) (hfm : s.isFirstMb = .nothing)
    (hh : s.params.sizeHint < 2 ^ 35) :
    ∃ kk pre, kk ≤ 5 ∧ pre ≤ 2 ∧ (encMid s il).1.lastFlushPos = s.lastFlushPos + pre
      ∧ (encMid s il).2.length = BV.Header.headLen s.lastBytesBits s.params.magic kk pre
      ∧ (2 ≤ s.unprocessed % two32 → s'.isFirstMb = .bothCatable) := by
  obtain ⟨s2, w, hdr, hpre, hmid, hpay⟩ := encMid_eq h
  obtain ⟨hFrame, hLastFlushPos, _, _, _, _, hIsFirstMb, _⟩ := encEntry_fields s il
  replace hFrame := St.frame_eq hFrame
  have hcl := s.carry_length
  have hk : (encodeBase128 10 (s.params.sizeHint % two64)).length ≤ 5 :=
    encodeBase128_len 10 5 _ (by decide) (by
      have : s.params.sizeHint % two64 ≤ s.params.sizeHint := Nat.mod_le _ _
      have : (128 : Nat) ^ 5 = 2 ^ 35 := by decide
      omega)
  obtain ⟨hm1, hm3, hm4⟩ := encMagic_first (encEntry s il) s.carry (by rw [hIsFirstMb, hfm])
  obtain ⟨pre, hp2, hlf, hw, hboth⟩ := encPrelude_first hm1 hpre
  rw [hFrame.params, hcl] at hm4
  rw [hmid]
  refine ⟨_, pre, hk, hp2, by rw [hlf, hm3, hLastFlushPos], ?_, ?_⟩
  · -- the magic block gives the inner length of `headLen`, the prelude its outer one
    rw [hw, hm4]
    rfl
  · rw [(encPayload_frame hpay).isFirstMb]
    exact hboth

/-- `junk` is `NFq.junk` of the first simulation again, and `nfR .junk s` unfolds to the same conjunction as `nfqR .junk s`:
`nf_step`, `nf_take`, `nf_setp`, `nf_hint` hand their junk case to `nfq_*` with a hypothesis of the one type where the other
is expected — it type-checks by unfolding only. -/
inductive NFPh where
  | fresh | junk | start (W : Nat) | mid | done
deriving DecidableEq

def EvQuiet : Ev → Prop
  | .copy _ => True
  | .push => True
  | .tau _ => True
  | _ => False

def nextPh (isLast : Bool) : NFPh := if isLast then .done else .mid

def nfT (a : NFPh) (e : Ev) (b : NFPh) : Prop :=
  match a with
  | .fresh => ∃ w, e = .window w ∧ (b = .junk ∨ (b = .start w.length ∧ 1 ≤ w.length ∧ w.length ≤ 14))
  | .junk => b = .junk
  | .start W =>
    match e with
    | .enc _ req pre skel taken =>
      req.lf = 0 ∧ pre ≤ 2 ∧ (∃ magic kk, kk ≤ 5 ∧ W + skel.length = BV.Header.headLen W magic kk pre)
      ∧ (req.isLast = true → taken = true) ∧ b = nextPh req.isLast
    | e => b = .start W ∧ EvQuiet e
  | .mid =>
    match e with
    | .enc _ req pre skel taken => pre = 0 ∧ skel = [] ∧ (req.isLast = true → taken = true) ∧ b = nextPh req.isLast
    | e => b = .mid ∧ EvQuiet e
  | .done =>
    match e with
    | .push => b = .done
    | .tau _ => b = .done
    | _ => False

/-- `2^35 = 128^5`: the size hint then takes at most 5 base-128 bytes in the magic block (`encodeBase128_len`), which
`headLen` budgets; `2^14 ≤ blockSize ≤ 2^24`: `computeLgBlock` at quality ≥ 2 -/
structure NFBase (s : St) : Prop where
  init : s.isInitialized = true
  q : s.q01 = false
  hint : s.params.sizeHint < 2 ^ 35
  blkLo : 2 ^ 14 ≤ s.blockSize
  blkHi : s.blockSize ≤ 2 ^ 24

def nfR : NFPh → St → Prop
  | .fresh, s => IsFresh s ∧ s.params.sizeHint < 2 ^ 35
  | .junk, s => s.isInitialized = true ∧ s.q01 = true
  | .start W, s => NFBase s ∧ s.isFirstMb = .nothing ∧ s.streamState = .processing ∧ s.lastFlushPos = 0 ∧ s.lastBytesBits = W
  | .mid, s => NFBase s ∧ s.isFirstMb = .bothCatable ∧ s.streamState = .processing
  | .done, s => NFBase s ∧ s.streamState = .finished

theorem nfBase_of_params {s s' : St} (hp : s'.params = s.params) (hi : s'.isInitialized = true) (h : NFBase s) : NFBase s' := by
  refine ⟨hi, ?_, by rw [hp]; exact h.hint, ?_, ?_⟩
  · have := h.q; unfold St.q01 at this ⊢; rw [hp]; exact this
  · have := h.blkLo; unfold St.blockSize at this ⊢; rw [hp]; exact this
  · have := h.blkHi; unfold St.blockSize at this ⊢; rw [hp]; exact this

theorem nfR_cases {a : NFPh} {s : St} (ha : nfR a s) :
    a = .fresh ∨ a = .junk ∨ (NFBase s ∧ s.streamState ≠ .flushRequested) := by
  cases a with
  | fresh => exact Or.inl rfl
  | junk => exact Or.inr (Or.inl rfl)
  | start W => exact Or.inr (Or.inr ⟨ha.1, by rw [ha.2.2.1]; nofun⟩)
  | mid => exact Or.inr (Or.inr ⟨ha.1, by rw [ha.2.2]; nofun⟩)
  | done => exact Or.inr (Or.inr ⟨ha.1, by rw [ha.2]; nofun⟩)

theorem nfR_finished {a : NFPh} {s : St} (ha : nfR a s) (hq : s.q01 = false) (hst : s.streamState = .finished) :
    a = .done := by
  cases a with
  | fresh => obtain ⟨p, rfl⟩ := ha.1; cases hst
  | junk => rw [ha.2] at hq; cases hq
  | start W => rw [ha.2.2.1] at hst; cases hst
  | mid => rw [ha.2.2] at hst; cases hst
  | done => rfl

theorem nfR_of_fields {a : NFPh} {s s' : St} (hB : NFBase s → NFBase s') (hfm : s'.isFirstMb = s.isFirstMb)
    (hst : s'.streamState = s.streamState) (hlf : s'.lastFlushPos = s.lastFlushPos)
    (hlbb : s'.lastBytesBits = s.lastBytesBits) (hi : s.isInitialized = true) (hq : s.q01 = false) (ha : nfR a s) :
    nfR a s' := by
  cases a with
  | fresh => rw [isFreshInit ha.1] at hi; cases hi
  | junk => rw [ha.2] at hq; cases hq
  | start W => exact ⟨hB ha.1, hfm.trans ha.2.1, hst.trans ha.2.2.1, hlf.trans ha.2.2.2.1, hlbb.trans ha.2.2.2.2⟩
  | mid => exact ⟨hB ha.1, hfm.trans ha.2.1, hst.trans ha.2.2⟩
  | done => exact ⟨hB ha.1, hst.trans ha.2⟩

theorem nfR_view {a : NFPh} {s s' : St} (hB : NFBase s) (hv : SameView s s') (hi' : s'.isInitialized = true) (ha : nfR a s) :
    nfR a s' :=
  nfR_of_fields (nfBase_of_params hv.params hi') hv.firstMb hv.state hv.lf hv.lbb hB.init hB.q ha

theorem sizeHint_updateSizeHint (s : St) (n : Nat) (h : s.params.sizeHint < 2 ^ 35) :
    (updateSizeHint s n).params.sizeHint < 2 ^ 35 := by
  unfold updateSizeHint
  split
  · simp only [sizeHintTotal]
    split
    · decide
    · rename_i hc
      have : ¬ (s.unprocessed + n) % two64 ≥ 1073741824 := fun hh => hc (Or.inr (Or.inr hh))
      have h1 : ¬ s.unprocessed ≥ 1073741824 := fun hh => hc (Or.inl hh)
      have h2 : ¬ n ≥ 1073741824 := fun hh => hc (Or.inr (Or.inl hh))
      omega
  · exact h

theorem nfBase_updateSizeHint {s : St} (n : Nat) (h : NFBase s) : NFBase (updateSizeHint s n) := by
  rw [updateSizeHint_eq]
  exact ⟨h.init, h.q, sizeHint_updateSizeHint s n h.hint, h.blkLo, h.blkHi⟩

theorem isFirstMb_updateSizeHint (s : St) (n : Nat) : (updateSizeHint s n).isFirstMb = s.isFirstMb := by
  unfold updateSizeHint; split <;> rfl

theorem isFirstMb_markAfterEncode (s : St) (a b : Bool) : (markAfterEncode s a b).isFirstMb = s.isFirstMb := by
  unfold markAfterEncode; cases a <;> cases b <;> rfl

theorem computeLgBlock_le (p : Params) (hq : ¬ (p.quality = 0 ∨ p.quality = 1)) : computeLgBlock p ≤ 24 := by
  unfold computeLgBlock
  rw [if_neg hq]
  split
  · omega
  · split
    · split <;> omega
    · omega

theorem blockSize_le_init (s : St) (hni : s.isInitialized = false)
    (hq : ¬ ((ensureInitialized s).params.quality = 0 ∨ (ensureInitialized s).params.quality = 1)) :
    (ensureInitialized s).blockSize ≤ 2 ^ 24 := by
  simp only [ensureInitialized, hni, Bool.false_eq_true, if_false] at hq ⊢
  have := computeLgBlock_le (sanitize s.params) hq
  simp only [St.blockSize]
  exact Nat.pow_le_pow_right (by decide) (by omega)

theorem init_fields {s : St} (hf : IsFresh s) :
    (ensureInitialized s).params.sizeHint = s.params.sizeHint ∧ (ensureInitialized s).isFirstMb = .nothing
    ∧ (ensureInitialized s).streamState = .processing ∧ (ensureInitialized s).lastFlushPos = 0
    ∧ 1 ≤ (ensureInitialized s).lastBytesBits ∧ (ensureInitialized s).lastBytesBits ≤ 14 := by
  obtain ⟨p, rfl⟩ := hf
  simp only [ensureInitialized, St.new, Bool.false_eq_true, ↓reduceIte, sanitize]
  exact ⟨trivial, trivial, trivial, trivial, encodeWindowBits_range _ _⟩

theorem enc_taken_last {o : Oracle} {s s' : St} {site : Nat} {il ff : Bool} {req : Req}
    (h : encodeData o s site il ff = .ok (s', true, req)) (hq : s.q01 = false) (ans : Ans) (hl : il = true) :
    encTakes (encMid s il).1 ans il ff = true := by
  subst hl
  obtain ⟨_, _, hdr, hM, _⟩ := encodeData_spec h
  have hf := hM.frame
  replace hf := St.frame_eq hf
  unfold encTakes
  rw [if_neg (by rw [hf.params]; exact not_q01 hq)]
  simp

theorem nonfinal_two_bytes {s : St} {io : Io} {op : Nat} (hI : Inv s) (hB : NFBase s) (hop : op = 0 ∨ op = 2)
    (hnc : ¬ (remainingInputBlockSize s ≠ 0 ∧ io.availIn ≠ 0)) (hgo : remainingInputBlockSize s = 0 ∨ op ≠ 0)
    (hil : slowIl op io = false) : 2 ≤ (updateSizeHint s io.availIn).unprocessed % two32 := by
  have hun : (updateSizeHint s io.availIn).unprocessed = s.unprocessed := by
    rw [updateSizeHint_eq]; rfl
  obtain ⟨hu, hge⟩ := nonfinal_full_block hI hop hnc hgo hil
  have h1 := hI.blk
  have h2 := hB.blkLo
  have h3 := hB.blkHi
  rw [hun, hu, Nat.mod_eq_of_lt (by unfold two32; omega)]
  omega

theorem after_enc {o : Oracle} {s s2 : St} {io : Io} {op : Nat} {req : Req} (hB : NFBase s) (hop : op = 0 ∨ op = 2)
    (hst : s.streamState = .processing)
    (h : encodeData o (updateSizeHint s io.availIn) 0 (slowIl op io) (slowFf op io) = .ok (s2, true, req))
    (hi' : (markAfterEncode s2 (slowIl op io) (slowFf op io)).isInitialized = true)
    (hfm : slowIl op io = false → s2.isFirstMb = .bothCatable) :
    nfR (nextPh (slowIl op io)) (markAfterEncode s2 (slowIl op io) (slowFf op io)) := by
  have hff : slowFf op io = false := by
    rcases hop with h0 | h0 <;> simp [slowFf, h0]
  have hBm := nfBase_of_params (enc_params h) hi' (nfBase_updateSizeHint io.availIn hB)
  have hss : (markAfterEncode s2 (slowIl op io) (slowFf op io)).streamState
      = if slowIl op io then .finished else .processing := by
    rw [markAfterEncode_eq, encodeData_withEnc h, updateSizeHint_eq]
    show markState s.streamState _ _ = _
    rw [hst, hff]; rfl
  cases hil : slowIl op io with
  | true =>
    rw [hil] at hBm hss
    exact ⟨hBm, hss⟩
  | false =>
    rw [hil] at hBm hss
    exact ⟨hBm, (isFirstMb_markAfterEncode _ _ _).trans (hfm hil), hss⟩

theorem enc_event_start {o : Oracle} {s s2 : St} {il ff : Bool} {req : Req} {W : Nat} (hq : s.q01 = false)
    (hh : s.params.sizeHint < 2 ^ 35) (hfm : s.isFirstMb = .nothing) (hlf : s.lastFlushPos = 0)
    (hW : s.lastBytesBits = W) (h : encodeData o s 0 il ff = .ok (s2, true, req)) :
    nfT (.start W) (encEv o s 0 il ff) (nextPh il)
    ∧ (2 ≤ s.unprocessed % two32 → s2.isFirstMb = .bothCatable) := by
  obtain ⟨kk, pre, hk, hp2, hlfm, hlen, hboth⟩ := encMid_first h hfm hh
  obtain ⟨_, _, hdr, hM, _⟩ := encodeData_spec h
  have hsk := congrArg List.length hM.skel
  rw [List.length_append] at hsk
  have hcl : s.carry.length = W := by
    unfold St.carry; rw [bitsOf_length, hW]
  rw [hW] at hlen
  rw [hcl, hlen] at hsk
  refine ⟨?_, hboth⟩
  unfold encEv
  show (reqOf s 0 il ff).lf = 0 ∧ _ ∧ _ ∧ _ ∧ _
  refine ⟨hlf, ?_, ⟨s.params.magic, kk, hk, ?_⟩, enc_taken_last h hq _, rfl⟩
  · rw [hlfm]; omega
  · rw [hlfm, Nat.add_sub_cancel_left, hcl]
    exact hsk.symm

theorem enc_event_mid {o : Oracle} {s s2 : St} {il ff : Bool} {req : Req} (hq : s.q01 = false)
    (hfm : s.isFirstMb = .bothCatable) (h : encodeData o s 0 il ff = .ok (s2, true, req)) :
    nfT .mid (encEv o s 0 il ff) (nextPh il) ∧ s2.isFirstMb = .bothCatable := by
  obtain ⟨m1, m2, m3⟩ := encMid_both h hfm
  refine ⟨?_, m3⟩
  unfold encEv
  show _ - _ = 0 ∧ _ = [] ∧ _ ∧ _
  exact ⟨by rw [m1]; exact Nat.sub_self _, by rw [m2]; exact List.drop_length, enc_taken_last h hq _, rfl⟩

theorem nf_step {o : Oracle} {op : Nat} {s s' : St} {io io' : Io} {e : Ev} {a : NFPh} (hop : op = 0 ∨ op = 2)
    (ha : nfR a s) (h : Step o op (s, io) e (s', io')) : ∃ a', nfR a' s' ∧ nfT a e a' := by
  obtain ⟨hi', _⟩ := step_initialized h
  rcases nfR_cases ha with rfl | rfl | ⟨hB, hnfl⟩
  · obtain ⟨hf, hh⟩ := ha
    have hni := isFreshInit hf
    obtain ⟨rfl, rfl⟩ : e = _ ∧ s' = _ := step_uninit hni h
    obtain ⟨i1, i2, i3, i4, i5, i6⟩ := init_fields hf
    have hcl := (ensureInitialized s).carry_length
    cases hq : (ensureInitialized s).q01 with
    | true => exact ⟨.junk, ⟨hi', hq⟩, _, rfl, Or.inl rfl⟩
    | false =>
      have hnq := not_q01 hq
      exact ⟨.start (ensureInitialized s).carry.length,
        ⟨⟨hi', hq, by rw [i1]; exact hh, BV.StreamBlocks.blockSize_ge s hni hnq, blockSize_le_init s hni hnq⟩, i2, i3, i4, hcl.symm⟩,
        _, rfl, Or.inr ⟨rfl, by rw [hcl]; exact i5, by rw [hcl]; exact i6⟩⟩
  · obtain ⟨a', r, t⟩ := nfq_step (a := .junk) hop ha h
    obtain rfl : a' = .junk := t
    exact ⟨.junk, r, rfl⟩
  · have hs : SlowStep o op s io e s' := step_slow hop hB.init hB.q h
    have quiet : SameView s s' → nfT a e a → ∃ a', nfR a' s' ∧ nfT a e a' :=
      fun hv t => ⟨a, nfR_view hB hv hi' ha, t⟩
    have hT : nfT a .push a ∧ nfT a (.tau 0) a ∧ (s.streamState = .processing → ∀ c, nfT a (.copy c) a) := by
      cases a with
      | start W => exact ⟨⟨rfl, trivial⟩, ⟨rfl, trivial⟩, fun _ _ => ⟨rfl, trivial⟩⟩
      | mid => exact ⟨⟨rfl, trivial⟩, ⟨rfl, trivial⟩, fun _ _ => ⟨rfl, trivial⟩⟩
      | done => exact ⟨rfl, rfl, fun hst => by have := ha.2; rw [hst] at this; cases this⟩
      | fresh => have := hB.init; rw [isFreshInit ha.1] at this; cases this
      | junk => have := hB.q; rw [ha.2] at this; cases this
    cases hs with
    | pad hfl hp => exact absurd hfl hnfl
    | cfc =>
      have hv : SameView s (checkFlushComplete s) := by
        rw [checkFlushComplete_id hnfl]
        exact ⟨rfl, rfl, rfl, rfl, rfl⟩
      exact quiet hv hT.2.1
    | push hv => exact quiet hv hT.1
    | copy hst hv => exact quiet hv (hT.2.2 hst _)
    | enc hI hnc hst hgo hd =>
      obtain ⟨_, _, _, _, _, _, _, _, _, hLastFlushPos, _, _, _, hLastBytesBits, _⟩ := updateSizeHint_fields s io.availIn
      have hBu := nfBase_updateSizeHint io.availIn hB
      have ufm := isFirstMb_updateSizeHint s io.availIn
      cases a with
      | start W =>
        obtain ⟨_, hfm, _, hlf0, hW⟩ := ha
        obtain ⟨ev, hboth⟩ := enc_event_start hBu.q hBu.hint (ufm.trans hfm) (hLastFlushPos.trans hlf0) (hLastBytesBits.trans hW) hd
        exact ⟨_, after_enc hB hop hst hd hi' (fun hil => hboth (nonfinal_two_bytes hI hB hop hnc hgo hil)), ev⟩
      | mid =>
        obtain ⟨ev, hboth⟩ := enc_event_mid hBu.q (ufm.trans ha.2.1) hd
        exact ⟨_, after_enc hB hop hst hd hi' (fun _ => hboth), ev⟩
      | done => have := ha.2; rw [hst] at this; cases this
      | fresh => have := hB.init; rw [isFreshInit ha.1] at this; cases this
      | junk => have := hB.q; rw [ha.2] at this; cases this

theorem setParameter_sizeHint (s : St) (id v : Nat) (h : s.params.sizeHint < 2 ^ 35) :
    (setParameter s id v).1.params.sizeHint < 2 ^ 35 := by
  unfold setParameter
  split
  · exact h
  · split
    · rename_i p hp
      show p.sizeHint < 2 ^ 35
      unfold setParamRaw at hp
      have hm : v % two32 < 2 ^ 35 := by
        have : v % two32 < two32 := Nat.mod_lt _ (by decide)
        unfold two32 at this ⊢
        omega
      -- only parameter 5 touches the size hint, and it stores a 32-bit value
      split at hp
      all_goals (try split at hp)
      all_goals first
        | (cases hp; first | exact h | exact hm)
        | cases hp
    · exact h

theorem nf_take {s s' : St} {size : Nat} {out : Bytes} {a : NFPh} (ha : nfR a s)
    (h : takeOutput s size = .ok (s', out)) : nfR a s' := by
  rcases nfR_cases ha with rfl | rfl | ⟨hB, hnfl⟩
  · rw [takeOutput_fresh ha.1] at h
    simp only [Out.ok.injEq, Prod.mk.injEq] at h
    rw [← h.1]; exact ha
  · exact nfq_take (a := .junk) ha h
  · rcases takeOutput_cases h with ⟨rfl, _⟩ | ⟨rfl, _⟩
    · exact ha
    · rw [checkFlushComplete_id (s := takeAdvance s (takeCount s size)) hnfl]
      exact nfR_view hB ⟨rfl, rfl, rfl, rfl, rfl⟩ hB.init ha

theorem nf_setp {s : St} {id v : Nat} {a : NFPh} (ha : nfR a s) : nfR a (setParameter s id v).1 := by
  rcases nfR_cases ha with rfl | rfl | ⟨hB, _⟩
  · exact ⟨setParameter_fresh ha.1 id v, setParameter_sizeHint s id v ha.2⟩
  · exact nfq_setp (a := .junk) ha
  · rw [setParameter_init hB.init]; exact ha

theorem nf_hint {s : St} {a : NFPh} (ha : nfR a s) : nfR a (updateSizeHint s 0) := by
  obtain ⟨_, _, _, _, _, _, _, _, hStreamState, hLastFlushPos, _, _, _, hLastBytesBits, _⟩ := updateSizeHint_fields s 0
  rcases nfR_cases ha with rfl | rfl | ⟨hB, _⟩
  · exact ⟨updateSizeHint_fresh ha.1 0, sizeHint_updateSizeHint s 0 ha.2⟩
  · exact nfq_hint (a := .junk) ha
  · exact nfR_of_fields (nfBase_updateSizeHint 0) (isFirstMb_updateSizeHint s 0) hStreamState hLastFlushPos hLastBytesBits hB.init hB.q ha

def nfSim (o : Oracle) : Sim o NFPh where
  T := nfT
  R := nfR
  opOK := fun op => op = 0 ∨ op = 2
  step := fun hop ha h => nf_step hop ha h
  take := fun ha h => nf_take ha h
  setp := fun ha => nf_setp ha
  hint := fun ha => nf_hint ha

/-- growth bound of the payload piece of an emitted meta-block: `P` = bit position where it starts
(behind the skeleton), `len` its input bytes, `m` its bits, `last` = is_last.  `Guard` (what
`guard_holds` proves of `WriteMetaBlockInternal`) for the data-carrying part ending at `body`, an empty
block writes nothing there, and behind `body` comes at most the padded 2-bit empty last block. -/
def PieceGuard (P len m : Nat) (last : Bool) : Prop :=
  ∃ body, P ≤ body ∧ (len = 0 → body = P) ∧ (len ≠ 0 → BV.Header.Guard P len body) ∧ body ≤ P + m
    ∧ P + m ≤ (if last then (body + 2 + 7) / 8 * 8 else body)

def LogGuard (o : Oracle) : Nat → Pos → List Ev → Prop
  | _, _, [] => True
  | P, p, e :: es =>
    (match e with
     | .enc k req pre skel taken =>
       taken = true → PieceGuard (P + skel.length) (p.ip - (p.lf + pre)) ((o k req).bits.drop skel.length).length req.isLast
     | _ => True)
    ∧ LogGuard o (P + (e.bits o).length) (e.step p) es

/-- a statement about abstract logs only (no state machine), named so that this file, which builds the run, and
Lemmas/StreamNFArith.lean, which does the arithmetic (`nfLogArith : NFLogArith o` for every oracle), meet in one name.
`2^54`: the range of `BV.Stored.max_closed`. -/
def NFLogArith (o : Oracle) : Prop :=
  ∀ log : List Ev, Path nfT .fresh log .done → LogOK ⟨0, 0, 0, 0⟩ log →
    (∀ e ∈ log, (∃ w, e = .window w) ∨ EvFull e) → LogGuard o 0 ⟨0, 0, 0, 0⟩ log →
    (logPos ⟨0, 0, 0, 0⟩ log).ip < 2 ^ 54 →
    (logBits o log).length / 8 ≤ BV.Stored.maxCompressedSize (logPos ⟨0, 0, 0, 0⟩ log).ip

end BV.Stream
