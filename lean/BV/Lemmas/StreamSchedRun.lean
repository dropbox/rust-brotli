import BV.Lemmas.StreamSched
import BV.Lemmas.StreamWalk
import BV.Lemmas.StreamRunLog
import BV.Lemmas.StreamLtsCall
import BV.Lemmas.StreamOut
/-!
Schedule independence (C05): every run of a request — any sequence of `compress_stream` calls with any
capacities and `take_output` calls with any sizes (`driveReq`) — walks along the ONE trajectory of the
abstract machine (`drive_rpath`); two runs of the same request that are both complete end in the same
abstract configuration: same core state, same bytes produced, same input left (`rpath_final_eq`).
-/

namespace BV.Stream
open BV.Bits

def FlushStep (a a' : Abs) : Prop := a.s.streamState = .flushRequested ∧ a'.s.streamState = .processing

/-- an inductive of its own — like `RPath` below, `MPath` / `RPathM` (StreamSchedMd), `VPath` / `VEnd` (StreamChunkMerge) and
`VEndL` (Props/C05Chunk) — because the C05 theorems are stated with these types.  Each is the generic `Walk`, resp. `At`, of
Lemmas/StreamWalk.lean for its machine and marked step (`upath_walk` and its like); append, determinism and confluence are
proved there once and carried over through these iffs. -/
inductive UPath (o : Oracle) (op : Nat) : Abs → Nat → Abs → Prop
  | nil (a : Abs) : UPath o op a 0 a
  | cons {a a1 b : Abs} {n : Nat} : ustep o op a = some a1 → ¬ FlushStep a a1 → UPath o op a1 n b → UPath o op a (n + 1) b

theorem upath_walk {o : Oracle} {op : Nat} {a b : Abs} {n : Nat} :
    UPath o op a n b ↔ Walk (ustep o op) FlushStep a n b := by
  constructor
  · intro h
    induction h with
    | nil a => exact .nil a
    | cons hs hf _ ih => exact .cons hs hf ih
  · intro h
    induction h with
    | nil a => exact .nil a
    | cons hs hf _ ih => exact .cons hs hf ih

theorem UPath.append {o : Oracle} {op : Nat} {a b c : Abs} {n m : Nat} (h1 : UPath o op a n b) (h2 : UPath o op b m c) :
    UPath o op a (n + m) c :=
  upath_walk.mpr ((upath_walk.mp h1).append (upath_walk.mp h2))

theorem core_state (s : St) : (core s).streamState = s.streamState := rfl

theorem step_noflush {o : Oracle} {op : Nat} {s s' : St} {io io' : Io} {e : Ev}
    (hs : Step o op (s, io) e (s', io')) (hne : e ≠ .tau 0) (hop2 : op ≤ 2) (del : Bytes) :
    ¬ FlushStep (absOf s io del) (absOf s' io' del) := by
  intro ⟨h1, h2⟩
  have h1' : s.streamState = .flushRequested := h1
  have h2' : s'.streamState = .processing := h2
  rcases hs.effect with ⟨hf, _⟩ | ⟨_, ha⟩
  · obtain ⟨p, rfl⟩ := hf
    cases h1'
  · cases ha with
    | copy _ _ _ hst => cases hst.symm.trans h1'
    | pad => cases h1'.symm.trans h2'
    | push => cases h1'.symm.trans h2'
    | enc hE =>
      cases hE with
      | main _ _ _ _ _ hst => cases hst.symm.trans h1'
      | md _ h3 => omega
    | flushed => exact hne rfl
    | idle => exact hne rfl
    | fastFlush _ _ _ _ hst => cases hst.symm.trans h1'
    | fastBlock _ _ _ _ _ hst => cases hst.symm.trans h1'
    | _ => omega   -- the metadata atoms carry `op = 3`

theorem steps_upath {o : Oracle} {op : Nat} {c c' : St × Io} {evs : List Ev} (h : Steps o op c evs c')
    (hnt : ∀ e ∈ evs, e ≠ .tau 0) (hop2 : op ≤ 2) (del : Bytes) :
    ∃ n, UPath o op (absOf c.1 c.2 del) n (absOf c'.1 c'.2 del) := by
  induction h with
  | nil c => exact ⟨0, .nil _⟩
  | @cons c c1 c2 e es hs _ ih =>
    obtain ⟨s, io⟩ := c
    obtain ⟨s1, io1⟩ := c1
    obtain ⟨n, hn⟩ := ih (fun e' he' => hnt e' (List.mem_cons_of_mem _ he'))
    have hne : e ≠ .tau 0 := hnt e List.mem_cons_self
    rcases step_abs hs hop2 del with heq | hu
    · refine ⟨n, ?_⟩
      show UPath o op (absOf s io del) n _
      rw [← heq]; exact hn
    · exact ⟨n + 1, .cons hu (step_noflush hs hne hop2 del) hn⟩

theorem step_inOK {o : Oracle} {op : Nat} {s s' : St} {io io' : Io} {e : Ev}
    (hs : Step o op (s, io) e (s', io')) (hop2 : op ≤ 2) (hin : io.availIn = io.input.length) :
    io'.availIn = io'.input.length := by
  rcases hs.effect with ⟨_, _, _, rfl⟩ | ⟨_, ha⟩
  · exact hin
  · cases ha with
    | copy =>
      show io.availIn - copyN s io = (io.input.drop (copyN s io)).length
      rw [List.length_drop, hin]
    | fastBlock =>
      show io.availIn - fastBs s io = (io.input.drop (fastBs s io)).length
      rw [List.length_drop, hin]
    | mdOut _ h3 => omega
    | mdTiny _ h3 => omega
    | _ => exact hin

theorem steps_inOK {o : Oracle} {op : Nat} {c c' : St × Io} {evs : List Ev} (h : Steps o op c evs c')
    (hop2 : op ≤ 2) (hin : c.2.availIn = c.2.input.length) : c'.2.availIn = c'.2.input.length :=
  Steps.induct (fun c => c.2.availIn = c.2.input.length) (fun _ _ _ hc hs => step_inOK hs hop2 hc) h hin

def RPath (o : Oracle) (op : Nat) (a b : Abs) : Bool → Prop
  | false => ∃ n, UPath o op a n b
  | true => ∃ n x, UPath o op a n x ∧ ustep o op x = some b ∧ FlushStep x b

theorem rpath_at {o : Oracle} {op : Nat} {a b : Abs} {d : Bool} :
    RPath o op a b d ↔ ∃ n, At (ustep o op) FlushStep a n b d := by
  cases d <;> simp only [RPath, At, upath_walk]

theorem rpath_final_eq {o : Oracle} {op : Nat} {a b1 b2 : Abs} {d1 d2 : Bool}
    (h1 : RPath o op a b1 d1) (h2 : RPath o op a b2 d2)
    (f1 : d1 = true ∨ ustep o op b1 = none) (f2 : d2 = true ∨ ustep o op b2 = none) : b1 = b2 := by
  obtain ⟨_, a1⟩ := rpath_at.mp h1
  obtain ⟨_, a2⟩ := rpath_at.mp h2
  exact (a1.final_eq a2 f1 f2).2

def absR (s : St) (rem del : Bytes) : Abs := ⟨core s, del ++ s.pending, rem, rem.length⟩

/-- the call boundary: what holds of the encoder between two calls of a request `(op, …)`, `rem` = the input of
the request not yet consumed -/
structure Bnd (op : Nat) (s : St) (rem : Bytes) : Prop where
  inv : IsFresh s ∨ Inv s
  nopad : ¬ PadDue s
  nonproc : s.streamState ≠ .processing → rem = []
  rm : s.isInitialized = true → s.remainingMetadata = u32Max
  wrap : s.inputPos + rem.length < two64
  noflush : op = 0 → s.streamState ≠ .flushRequested

theorem Bnd.ensure {op : Nat} {s : St} {rem : Bytes} (hB : Bnd op s rem) :
    Inv (ensureInitialized s) ∧ (ensureInitialized s).inputPos + rem.length < two64
    ∧ (ensureInitialized s).remainingMetadata = u32Max ∧ (op = 0 → (ensureInitialized s).streamState ≠ .flushRequested) := by
  rcases hB.inv with hf | hI
  · refine ⟨(inv_fresh hf).1, by rw [ensure_inputPos]; exact hB.wrap, ?_, fun _ => ?_⟩
    · obtain ⟨p, rfl⟩ := hf
      simp [ensureInitialized, St.new]
    · obtain ⟨p, rfl⟩ := hf
      simp [ensureInitialized, St.new]
  · rw [ensureInitialized_id hI.init]
    exact ⟨hI, hB.wrap, hB.rm hI.init, hB.noflush⟩

theorem step_op0 {o : Oracle} {s s' : St} {io io' : Io} {e : Ev}
    (hs : Step o 0 (s, io) e (s', io')) (hn : s.streamState ≠ .flushRequested) : s'.streamState ≠ .flushRequested := by
  rcases hs.effect with ⟨hf, _, rfl, _⟩ | ⟨_, ha⟩
  · obtain ⟨p, rfl⟩ := hf
    simp [ensureInitialized, St.new]
  · cases ha with
    | copy => exact hn
    | pad hc => exact absurd hc.1 hn
    | push => exact hn
    | enc hE =>
      cases hE with
      | main _ _ _ _ _ hst =>
        show markState s.streamState _ _ ≠ _
        rw [hst]; simp [markState, slowIl, slowFf]
      | md _ h3 => omega
    | flushed => exact fun hb => by cases hb
    | idle => exact hn
    | fastBlock _ _ _ _ _ hst =>
      show markState s.streamState _ _ ≠ _
      rw [hst]; simp [markState, fastReq]
    | _ => omega   -- `fastFlush` carries `op = 1`, the metadata atoms `op = 3`

theorem steps_op0 {o : Oracle} {c c' : St × Io} {evs : List Ev} (h : Steps o 0 c evs c')
    (hn : c.1.streamState ≠ .flushRequested) : c'.1.streamState ≠ .flushRequested :=
  Steps.induct (fun c => c.1.streamState ≠ .flushRequested) (fun _ _ _ hc hs => step_op0 hs hc) h hn

theorem steps_sum {o : Oracle} {op : Nat} {c c' : St × Io} {evs : List Ev} (h : Steps o op c evs c') :
    c'.1.inputPos + c'.2.input.length ≤ c.1.inputPos + c.2.input.length := by
  induction h with
  | nil c => exact Nat.le_refl _
  | @cons c c1 c2 e es hs _ ih =>
    obtain ⟨s, io⟩ := c
    obtain ⟨s1, io1⟩ := c1
    obtain ⟨p1, _, _, p4, p5⟩ := step_pos hs
    have hip : s1.inputPos = (e.step s.pos).ip := congrArg Pos.ip p1
    have hle : (e.step s.pos).ip ≤ s.inputPos + e.used := by
      cases e <;> simp [Ev.step, Ev.used, St.pos]
    have hlen : io1.input.length = io.input.length - e.used := by rw [p4, List.length_drop]
    simp only at ih ⊢
    omega

theorem Bnd.cfc {op : Nat} {s : St} {rem : Bytes} (hB : Bnd op s rem) (hI : Inv s) : Bnd op (checkFlushComplete s) rem := by
  have k2 : (checkFlushComplete s).inputPos = s.inputPos := by rw [checkFlushComplete_eq]
  have k3 : (checkFlushComplete s).remainingMetadata = s.remainingMetadata := by rw [checkFlushComplete_eq]
  have k10 : (checkFlushComplete s).lastBytesBits = s.lastBytesBits := by rw [checkFlushComplete_eq]
  have hst := checkFlushComplete_state s
  refine ⟨Or.inr (inv_checkFlushComplete hI), fun hpd => ?_, fun hnp => hB.nonproc fun hh => ?_, fun _ => k3.trans (hB.rm hI.init),
    by rw [k2]; exact hB.wrap, fun h0 => ?_⟩
  · unfold PadDue at hpd
    rw [hst, k10] at hpd
    split at hpd
    · cases hpd.1
    · exact hB.nopad hpd
  · rw [hst, hh] at hnp
    simp at hnp
  · rw [hst]
    split
    · simp
    · exact hB.noflush h0

/-- has this call completed the request's flush?  (for FLUSH / FINISH requests: it returned in
PROCESSING with nothing pending — `check_flush_complete` fired at its end) -/
def callDone (op : Nat) (s' : St) : Bool :=
  decide (op ≠ 0) && decide (s'.streamState = .processing) && decide (s'.pending.length = 0)

def takeDone (s s' : St) : Bool := decide (s.streamState = .flushRequested ∧ s'.streamState = .processing)

theorem absOf_start (s : St) (rem : Bytes) (cap : Nat) (del : Bytes) : absOf s (Io.start rem cap) del = absR s rem del := by
  simp [absOf, absR, Io.start]

theorem cfc_abs {o : Oracle} {op : Nat} {s1 : St} {io : Io} (hop2 : op ≤ 2) (del : Bytes)
    (h : Step o op (s1, io) (.tau 0) (checkFlushComplete s1, io)) :
    (¬ (s1.streamState = .flushRequested ∧ s1.pending.length = 0) ∧ checkFlushComplete s1 = s1) ∨
    ((s1.streamState = .flushRequested ∧ s1.pending.length = 0)
      ∧ ustep o op (absOf s1 io del) = some (absOf (checkFlushComplete s1) io del)
      ∧ FlushStep (absOf s1 io del) (absOf (checkFlushComplete s1) io del)) := by
  by_cases hfc : s1.streamState = .flushRequested ∧ s1.pending.length = 0
  · right
    refine ⟨hfc, ?_, hfc.1, ?_⟩
    · rcases step_abs h hop2 del with heq | hu
      · exfalso
        have := congrArg (fun a => a.s.streamState) heq
        simp only [absOf, core_state, checkFlushComplete_state, if_pos hfc] at this
        rw [hfc.1] at this; cases this
      · exact hu
    · show (checkFlushComplete s1).streamState = .processing
      rw [checkFlushComplete_state, if_pos hfc]
  · left
    refine ⟨hfc, ?_⟩
    unfold checkFlushComplete
    rw [if_neg hfc]

theorem call_abs {o : Oracle} {fuel op cap : Nat} {rem del : Bytes} {s s' : St} {io' : Io}
    (hop2 : op ≤ 2) (hB : Bnd op s rem)
    (h : compressStream o fuel s op rem cap = .ok (s', io', true)) :
    RPath o op (absR s rem del) (absR s' io'.input (del ++ io'.out)) (callDone op s') ∧ Bnd op s' io'.input
    ∧ (callDone op s' = true → s'.pending = [] ∧ s'.streamState = .processing) := by
  obtain ⟨hI, hw, hrm, hnfl⟩ := hB.ensure
  have hcall : compressStream o fuel (ensureInitialized s) op rem cap = .ok (s', io', true) := by
    rw [← compressStream_ensure]; exact h
  obtain ⟨n0, hp0⟩ : ∃ n0, UPath o op (absR s rem del) n0 (absR (ensureInitialized s) rem del) := by
    rcases hB.inv with hf | hI0
    · have hinit : Step o op (s, Io.start rem cap) (.window (ensureInitialized s).carry) (ensureInitialized s, Io.start rem cap) :=
        Step.init hf
      have hne : Ev.window (ensureInitialized s).carry ≠ .tau 0 := fun hh => by cases hh
      rcases step_abs hinit hop2 del with heq | hu
      · exfalso
        have := congrArg (fun a => a.s.isInitialized) heq
        simp only [absOf, core_init] at this
        rw [hI.init, isFreshInit hf] at this; cases this
      · rw [absOf_start, absOf_start] at hu
        exact ⟨1, .cons hu (by rw [← absOf_start s rem cap del, ← absOf_start (ensureInitialized s) rem cap del]; exact step_noflush hinit hne hop2 del) (.nil _)⟩
    · rw [ensureInitialized_id hI0.init]
      exact ⟨0, .nil _⟩
  obtain ⟨_, _, s1, ⟨evs, hsteps, hnt⟩, hs', hx⟩ := call_main hop2 hI hw hcall
  obtain ⟨n1, hp1⟩ := steps_upath hsteps hnt hop2 del
  simp only [absOf_start] at hp1
  have hpath : UPath o op (absR s rem del) (n0 + n1) (absOf s1 io' del) := hp0.append hp1
  have hin : io'.availIn = io'.input.length := steps_inOK hsteps hop2 rfl
  have habs : ∀ t : St, absOf t io' del = absR t io'.input (del ++ io'.out) := by
    intro t; simp [absOf, absR, hin]
  have hsum := steps_sum hsteps
  simp only [Io.start] at hsum
  have hI1 := hx.inv
  have hnp1 := hx.noPad
  have k8 : (checkFlushComplete s1).pending = s1.pending := by rw [checkFlushComplete_eq]
  have hst' := checkFlushComplete_state s1
  have hnfl1 : op = 0 → s1.streamState ≠ .flushRequested := by
    intro h0
    subst h0
    exact steps_op0 hsteps (hnfl rfl)
  have hB1 : Bnd op s1 io'.input :=
    ⟨Or.inr hI1, hnp1, fun hh => List.eq_nil_of_length_eq_zero (hin ▸ hx.idle hh), fun _ => hx.rm, Nat.lt_of_le_of_lt hsum hw, hnfl1⟩
  have hbnd : Bnd op s' io'.input := hs' ▸ hB1.cfc hI1
  rcases cfc_abs hop2 del (Step.cfc (io := io') hI1 hop2 hx.rm hnp1 hx.idle) with ⟨hnfc, hid⟩ | ⟨hfc, hu, hfl⟩
  · have hd : callDone op s' = false := by
      rw [hs', hid]
      unfold callDone
      by_cases h0 : op = 0
      · simp [h0]
      · by_cases hpr : s1.streamState = .processing
        · by_cases hpe : s1.pending.length = 0
          · exact absurd ⟨hpe, hpr⟩ (hx.exit.nonzero h0)
          · simp [hpe]
        · simp [hpr]
    rw [hd]
    refine ⟨⟨n0 + n1, ?_⟩, hbnd, fun hh => by cases hh⟩
    rw [hs', hid, ← habs]
    exact hpath
  · have h0 : op ≠ 0 := fun hh => hnfl1 hh hfc.1
    have hd : callDone op s' = true := by
      rw [hs']
      unfold callDone
      rw [hst', if_pos hfc, k8]
      simp [h0, hfc.2]
    rw [hd]
    refine ⟨⟨n0 + n1, absOf s1 io' del, hpath, ?_, ?_⟩, hbnd, fun _ => ?_⟩
    · rw [hs', ← habs]; exact hu
    · rw [hs', ← habs]; exact hfl
    · rw [hs']
      refine ⟨?_, by rw [hst', if_pos hfc]⟩
      rw [k8]; exact List.eq_nil_of_length_eq_zero hfc.2

theorem take_abs {o : Oracle} {op size : Nat} {rem del out : Bytes} {s s' : St}
    (hop2 : op ≤ 2) (hB : Bnd op s rem) (h : takeOutput s size = .ok (s', out)) :
    ((takeDone s s' = false ∧ absR s' rem (del ++ out) = absR s rem del) ∨
     (takeDone s s' = true ∧ ustep o op (absR s rem del) = some (absR s' rem (del ++ out))
        ∧ FlushStep (absR s rem del) (absR s' rem (del ++ out)) ∧ s'.pending = [] ∧ s'.streamState = .processing))
    ∧ Bnd op s' rem := by
  have hsame : takeDone s s = false := by
    unfold takeDone
    by_cases hh : s.streamState = .flushRequested <;> simp [hh]
  have hI : Inv s ∨ (s' = s ∧ out = []) := by
    rcases hB.inv with hf | hI
    · rw [takeOutput_fresh hf] at h
      cases h
      exact Or.inr ⟨rfl, rfl⟩
    · exact Or.inl hI
  rcases hI with hI | ⟨rfl, rfl⟩
  · rcases takeOutput_cases h with ⟨rfl, rfl⟩ | ⟨rfl, rfl⟩
    · exact ⟨Or.inl ⟨hsame, by rw [List.append_nil]⟩, hB⟩
    · generalize takeCount s size = c
      have hI1 : Inv (takeAdvance s c) := hI.of_frame rfl rfl rfl rfl
      have hB1 : Bnd op (takeAdvance s c) rem := ⟨Or.inr hI1, hB.nopad, hB.nonproc, hB.rm, hB.wrap, hB.noflush⟩
      have hst1 : (takeAdvance s c).streamState = s.streamState := rfl
      have hcfc : Step o op (takeAdvance s c, Io.start rem 0) (.tau 0) (checkFlushComplete (takeAdvance s c), Io.start rem 0) :=
        Step.cfc hI1 hop2 (hB.rm hI.init) hB.nopad (fun hh => by
          have := hB.nonproc hh
          simp [Io.start, this])
      have habs1 : absOf (takeAdvance s c) (Io.start rem 0) (del ++ s.pending.take c) = absR s rem del := by
        simp [absOf, absR, Io.start, takeAdvance, core, List.append_assoc]
      have habs2 : absOf (checkFlushComplete (takeAdvance s c)) (Io.start rem 0) (del ++ s.pending.take c)
          = absR (checkFlushComplete (takeAdvance s c)) rem (del ++ s.pending.take c) := by
        simp [absOf, absR, Io.start]
      have k8 : (checkFlushComplete (takeAdvance s c)).pending = (takeAdvance s c).pending := by rw [checkFlushComplete_eq]
      have hstc := checkFlushComplete_state (takeAdvance s c)
      refine ⟨?_, hB1.cfc hI1⟩
      rcases cfc_abs hop2 (del ++ s.pending.take c) hcfc with ⟨hnfc, hid⟩ | ⟨hfc, hu, hfl⟩
      · left
        refine ⟨?_, by rw [hid, ← habs1]; simp [absOf, absR, Io.start]⟩
        unfold takeDone
        rw [hid, hst1]
        by_cases hh : s.streamState = .flushRequested <;> simp [hh]
      · right
        rw [habs1, habs2] at hu hfl
        refine ⟨?_, hu, hfl, ?_, by rw [hstc, if_pos hfc]⟩
        · unfold takeDone
          rw [hstc, if_pos hfc, ← hst1, hfc.1]
          simp
        · rw [k8]; exact List.eq_nil_of_length_eq_zero hfc.2
  · exact ⟨Or.inl ⟨hsame, by rw [List.append_nil]⟩, hB⟩

inductive SchedStep where
  | call (cap : Nat)
  | take (size : Nat)
deriving Repr, DecidableEq

/-- a request `(op, chunk)` driven under an output schedule: every `call` offers what is left of
the chunk with the given output capacity, every `take` drains through `take_output`.  Result: the
state, the input left, everything delivered, and whether the request's flush has completed.
`none`: a call was refused, panicked or ran out of fuel — or the schedule calls `compress_stream`
again after the flush has completed (a complete request is not re-issued). -/
def driveReq (o : Oracle) (fuel op : Nat) : List SchedStep → St → Bytes → Bytes → Bool → Option (St × Bytes × Bytes × Bool)
  | [], s, rem, del, d => some (s, rem, del, d)
  | .call cap :: rest, s, rem, del, d =>
    if d then none else
    match compressStream o fuel s op rem cap with
    | .ok (s', io', true) => driveReq o fuel op rest s' io'.input (del ++ io'.out) (callDone op s')
    | _ => none
  | .take size :: rest, s, rem, del, d =>
    match takeOutput s size with
    | .ok (s', out) => driveReq o fuel op rest s' rem (del ++ out) (d || takeDone s s')
    | _ => none

theorem drive_rpath {o : Oracle} {fuel op : Nat} (hop2 : op ≤ 2) (a : Abs) :
    ∀ (sched : List SchedStep) (s : St) (rem del : Bytes) (d : Bool) (s' : St) (rem' del' : Bytes) (d' : Bool),
      Bnd op s rem → RPath o op a (absR s rem del) d → (d = true → s.pending = [] ∧ s.streamState = .processing) →
      driveReq o fuel op sched s rem del d = some (s', rem', del', d') →
      RPath o op a (absR s' rem' del') d' ∧ Bnd op s' rem' ∧ (d' = true → s'.pending = [] ∧ s'.streamState = .processing) := by
  intro sched
  induction sched with
  | nil =>
    intro s rem del d s' rem' del' d' hB hR hd h
    simp only [driveReq, Option.some.injEq, Prod.mk.injEq] at h
    obtain ⟨rfl, rfl, rfl, rfl⟩ := h
    exact ⟨hR, hB, hd⟩
  | cons st rest ih =>
    intro s rem del d s' rem' del' d' hB hR hd h
    cases st with
    | call cap =>
      simp only [driveReq] at h
      cases d with
      | true => simp at h
      | false =>
        simp only [Bool.false_eq_true, ↓reduceIte] at h
        split at h
        · rename_i s1 io1 hcall
          obtain ⟨r1, b1, c1⟩ := call_abs (del := del) hop2 hB hcall
          obtain ⟨n0, p0⟩ := hR
          obtain ⟨n1, q1⟩ := rpath_at.mp r1
          have hR1 : RPath o op a (absR s1 io1.input (del ++ io1.out)) (callDone op s1) :=
            rpath_at.mpr ⟨n0 + n1, q1.prepend (upath_walk.mp p0)⟩
          exact ih _ _ _ _ _ _ _ _ b1 hR1 c1 h
        all_goals simp at h
    | take size =>
      simp only [driveReq] at h
      split at h
      · rename_i s1 out htake
        obtain ⟨hcase, b1⟩ := take_abs (o := o) (del := del) hop2 hB htake
        cases d with
        | true =>
          obtain ⟨hp, hst⟩ := hd rfl
          have htd : takeDone s s1 = false := by
            unfold takeDone; rw [hst]; simp
          rcases hcase with ⟨_, heq⟩ | ⟨h1, _⟩
          · have hs1 : s1.pending = [] ∧ s1.streamState = .processing := by
              have e1 := congrArg (fun x => x.s.streamState) heq
              simp only [absR, core_state] at e1
              have e2 := congrArg Abs.out heq
              simp only [absR] at e2
              rcases takeOutput_cases htake with ⟨rfl, _⟩ | ⟨rfl, _⟩
              · exact ⟨hp, hst⟩
              · rw [checkFlushComplete_id (by show s.streamState ≠ _; rw [hst]; nofun)]
                exact ⟨by show s.pending.drop _ = []; rw [hp, List.drop_nil], hst⟩
            refine ih _ _ _ _ _ _ _ _ b1 ?_ (fun _ => hs1) h
            simp only [Bool.true_or]
            rw [heq]; exact hR
          · rw [htd] at h1; cases h1
        | false =>
          rcases hcase with ⟨h1, heq⟩ | ⟨h1, hu, hfl, hp1, hst1⟩
          · refine ih _ _ _ _ _ _ _ _ b1 ?_ (fun hh => by rw [h1] at hh; cases hh) h
            rw [h1, heq]; exact hR
          · obtain ⟨n0, p0⟩ := hR
            refine ih _ _ _ _ _ _ _ _ b1 ?_ (fun _ => ⟨hp1, hst1⟩) h
            rw [h1]
            exact ⟨n0, _, p0, hu, hfl⟩
      all_goals simp at h

theorem final_noflush {o : Oracle} {op : Nat} {s : St} {rem del : Bytes} (hB : Bnd op s rem)
    (h : ustep o op (absR s rem del) = none) : s.streamState ≠ .flushRequested ∧ s.isInitialized = true := by
  have hi : s.isInitialized = true := by
    cases hh : s.isInitialized
    · rw [ustep_fresh (a := absR s rem del) hh] at h
      cases h
    · rfl
  refine ⟨?_, hi⟩
  intro hfl
  have hrem := hB.nonproc (by rw [hfl]; simp)
  rw [ustep_cfc (a := absR s rem del) hi hfl hB.nopad (by show rem.length = 0; rw [hrem]; rfl)] at h
  cases h

theorem bnd_next {o : Oracle} {op op2 : Nat} {s : St} {rem del chunk2 : Bytes} {d : Bool} (hB : Bnd op s rem)
    (hd : d = true → s.pending = [] ∧ s.streamState = .processing)
    (hfin : d = true ∨ ustep o op (absR s rem del) = none)
    (hc : s.streamState ≠ .processing → chunk2 = []) (hw : s.inputPos + chunk2.length < two64) : Bnd op2 s chunk2 := by
  refine ⟨hB.inv, hB.nopad, hc, hB.rm, hw, ?_⟩
  intro _
  rcases hfin with h1 | h1
  · rw [(hd h1).2]; simp
  · exact (final_noflush hB h1).1

theorem bnd_fresh {op : Nat} {s : St} {chunk : Bytes} (hf : IsFresh s) (hw : chunk.length < two64) : Bnd op s chunk := by
  obtain ⟨p, rfl⟩ := hf
  refine ⟨Or.inl ⟨p, rfl⟩, ?_, ?_, ?_, ?_, ?_⟩
  · intro hh; simp [PadDue, St.new] at hh
  · intro hh; simp [St.new] at hh
  · intro hh; simp [St.new] at hh
  · simp [St.new]; exact hw
  · intro _; simp [St.new]

end BV.Stream
