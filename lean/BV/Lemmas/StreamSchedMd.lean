import BV.Lemmas.StreamSchedRun
/-!
Schedule independence (C05): EMIT_METADATA requests.

The metadata loop copies the payload in portions whose size IS the output capacity (or 16, through
`tiny_buf_`), so its atomic steps are not a function of the abstract configuration `absOf`.  They
are after one more normalisation: in METADATA_BODY the payload bytes not yet consumed are counted
as already produced (`absM`).  On normalised configurations the metadata machine is the function
`ustepM` (entry, flush of buffered input through the payload encoder, header, completion); every
atomic step of a metadata call is a stutter or exactly `ustepM`; so every run of a metadata
request — any capacities, any `take_output`s — walks along the one trajectory of `ustepM` (`RPathM`,
`drive_rpathM`), and two complete runs end in the same configuration (`rpathM_done_eq`).
-/

namespace BV.Stream
open BV.Bits

def absM (s : St) (io : Io) (del : Bytes) : Abs :=
  if s.streamState = .metadataBody then
    ⟨{ core s with remainingMetadata := 0 }, del ++ io.out ++ s.pending ++ io.input, [], 0⟩
  else absOf s io del

def uMdEncOut (r : Option (St × Bytes)) (a : Abs) : Option Abs :=
  match r with
  | some (s', pend) => some ⟨s', a.out ++ pend, a.input, a.availIn⟩
  | none => none

def ustepM (o : Oracle) (a : Abs) : Option Abs :=
  if a.s.isInitialized = false then some { a with s := core (ensureInitialized a.s) }
  else if a.s.streamState = .processing then some { a with s := mdEnter (updateSizeHint a.s 0) a.availIn }
  else if a.s.inputPos ≠ a.s.lastFlushPos then uMdEncOut (uEnc o a.s 1 false true) a
  else if a.s.streamState = .metadataHead then
    some ⟨{ a.s with lastBytes := 0, lastBytesBits := 0, streamState := .metadataBody, remainingMetadata := 0 },
          a.out ++ toBytes (metadataHeaderBits a.s.remainingMetadata a.s.carry) ++ a.input, [], 0⟩
  else if a.s.streamState = .metadataBody then
    some { a with s := { a.s with remainingMetadata := u32Max, streamState := .processing } }
  else none

/-- the size hint has settled: `update_size_hint(0)` at the entry of a further call changes nothing -/
abbrev HintSettled (s : St) : Prop := s.streamState ≠ .processing → (s.params.sizeHint ≠ 0 ∨ s.unprocessed = 0)

abbrev BodyFlushed (s : St) : Prop := s.streamState = .metadataBody → s.inputPos = s.lastFlushPos

theorem absM_state (s : St) (io : Io) (del : Bytes) : (absM s io del).s.streamState = s.streamState := by
  unfold absM
  split <;> rfl

theorem absM_of_not_body {s : St} (h : s.streamState ≠ .metadataBody) (io : Io) (del : Bytes) :
    absM s io del = absOf s io del := by
  unfold absM
  rw [if_neg h]

theorem core_mdEnter (s : St) (n : Nat) : core (mdEnter s n) = mdEnter (core s) n := by
  unfold mdEnter core
  split <;> rfl

theorem updateSizeHint_settled {s : St} (h : s.params.sizeHint ≠ 0 ∨ s.unprocessed = 0) : updateSizeHint s 0 = s := by
  unfold updateSizeHint
  split
  · rename_i h0
    rcases h with h | h
    · exact absurd h0 h
    · have : sizeHintTotal s.unprocessed 0 = 0 := by
        unfold sizeHintTotal
        rw [h]; simp [two64]
      rw [this]
      have hp : ∀ p : Params, p.sizeHint = 0 → ({ p with sizeHint := 0 } : Params) = p := by
        intro p hp; cases p; simp_all
      rw [hp _ h0]
  · rfl

theorem sizeHintTotal_ne (d : Nat) (h : d ≠ 0) : sizeHintTotal d 0 ≠ 0 := by
  unfold sizeHintTotal
  by_cases hc : d ≥ 1073741824 ∨ 0 ≥ 1073741824 ∨ (d + 0) % two64 ≥ 1073741824
  · rw [if_pos hc]; omega
  · rw [if_neg hc]; omega

theorem settled_after_update (s : St) : (updateSizeHint s 0).params.sizeHint ≠ 0 ∨ (updateSizeHint s 0).unprocessed = 0 := by
  by_cases h0 : s.params.sizeHint = 0
  · by_cases hu : s.unprocessed = 0
    · right
      have : (updateSizeHint s 0).unprocessed = s.unprocessed := by
        rw [updateSizeHint_eq]; rfl
      rw [this]; exact hu
    · left
      have : (updateSizeHint s 0).params.sizeHint = sizeHintTotal s.unprocessed 0 := by
        unfold updateSizeHint
        rw [if_pos h0]
      rw [this]; exact sizeHintTotal_ne _ hu
  · left
    have : updateSizeHint s 0 = s := by
      unfold updateSizeHint
      rw [if_neg h0]
    rw [this]; exact h0

theorem step_absM {o : Oracle} {s s' : St} {io io' : Io} {e : Ev}
    (h : Step o 3 (s, io) e (s', io'))
    (hst : s.streamState ≠ .flushRequested) (hj : HintSettled s) (hk : BodyFlushed s)
    (hin : io.availIn = io.input.length) (del : Bytes) :
    (absM s' io' del = absM s io del ∨ ustepM o (absM s io del) = some (absM s' io' del))
    ∧ HintSettled s' ∧ BodyFlushed s' ∧ io'.availIn = io'.input.length
    ∧ (s.streamState ≠ .processing → s'.streamState = .processing → s'.pending = []) := by
  rcases h.effect with ⟨hf, _, rfl, rfl⟩ | ⟨hI, ha⟩
  · have hpr : s.streamState = .processing := by obtain ⟨p, rfl⟩ := hf; rfl
    have hpr' : (ensureInitialized s).streamState = .processing := by
      obtain ⟨p, rfl⟩ := hf; simp [ensureInitialized, St.new]
    refine ⟨Or.inr ?_, fun hh => absurd hpr' hh, (fun hh => by rw [hpr'] at hh; cases hh), hin, fun hh => absurd hpr hh⟩
    rw [absM_of_not_body (by rw [hpr]; simp), absM_of_not_body (by rw [hpr']; simp)]
    have hi : s.isInitialized = false := isFreshInit hf
    unfold ustepM
    refine (if_pos hi).trans ?_
    simp only [absOf, core_ensure, ensure_pending]
  · cases ha with
  | pad hc => exact absurd hc.1 hst
  | push =>
    refine ⟨Or.inl ?_, hj, hk, hin, fun h1 h2 => absurd h2 h1⟩
    unfold absM
    show (if s.streamState = .metadataBody then _ else _) = _
    split <;> simp [absOf, pushSt, pushIo, core, List.append_assoc]
  | mdEnter hop hentry hmv =>
    rw [← updateSizeHint_eq]
    rcases hentry with ⟨h1, h2⟩ | ⟨h1, h2, h3⟩
    · have hmd := hI.mdIff.mpr h1
      have hnp : s.streamState ≠ .processing := by rcases hmd with h | h <;> rw [h] <;> simp
      obtain ⟨_, rfl, rfl⟩ := hmv.resolve_left (fun hh => hnp hh.1)
      rw [updateSizeHint_settled (hj hnp)]
      exact ⟨Or.inl rfl, hj, hk, hin, fun _ hh => absurd hh hnp⟩
    · obtain ⟨_, rfl, rfl⟩ := hmv.resolve_right (fun hh => hh.1 h2)
      refine ⟨Or.inr ?_, fun _ => settled_after_update s, (fun hh => by cases hh), hin, fun hh => absurd h2 hh⟩
      rw [absM_of_not_body (by rw [h2]; simp), absM_of_not_body (fun hh => by cases hh)]
      have hi : ¬ (s.isInitialized = false) := by rw [hI.init]; simp
      unfold ustepM
      refine (if_neg hi).trans ((if_pos h2).trans ?_)
      have hme : ({ updateSizeHint s 0 with remainingMetadata := io.availIn % two32, streamState := .metadataHead } : St)
          = mdEnter (updateSizeHint s 0) io.availIn := (if_pos (by rw [updateSizeHint_eq]; exact h2)).symm
      have hpe : (mdEnter (updateSizeHint s 0) io.availIn).pending = s.pending := by rw [← hme, updateSizeHint_eq]; rfl
      rw [hme]
      simp only [absOf, core_mdEnter, core_updateSizeHint, hpe]
  | @enc k site il ff s2 req st hE hI0 hpend he hfr =>
    cases hE with
    | main h3 => omega
    | md hM hop hne =>
    have he' : encodeData o s 1 false true = .ok (s2, true, req) := he
    obtain ⟨f, _, _, _, _⟩ := encodeData_frame he'
    replace f := St.frame_eq f
    obtain ⟨f1, f2, f3, f4, f5, _, _⟩ := f
    rw [show ({ s2 with streamState := s.streamState } : St) = s2 by rw [← f4]]
    have hhead : s.streamState = .metadataHead := by
      rcases hM.st with h1 | h1
      · exact h1
      · exact absurd (hk h1) hne
    have hhead' : s2.streamState = .metadataHead := by rw [f4]; exact hhead
    obtain ⟨p1, p2, p3, p4⟩ := encodeData_pos he' hI.fl_le hI.lp_le hI.ip_lt
    have hI' := inv_encode hI he' rfl
    refine ⟨Or.inr ?_, ?_, (fun hh => by rw [hhead'] at hh; cases hh), hin, (fun _ hh => by rw [hhead'] at hh; cases hh)⟩
    · rw [absM_of_not_body (by rw [hhead]; simp), absM_of_not_body (by rw [hhead']; simp)]
      have hi : ¬ (s.isInitialized = false) := by rw [hI.init]; simp
      have hp : ¬ (s.streamState = .processing) := by rw [hhead]; simp
      unfold ustepM
      refine (if_neg hi).trans ((if_neg hp).trans ((if_pos hne).trans ?_))
      have hu := encode_abs he'
      have hu' : uEnc o (absOf s io del).s 1 false true = some (core s2, s2.pending) := hu
      rw [hu']
      simp only [uMdEncOut, absOf, hpend, List.append_nil]
    · intro _
      rcases hj (by rw [hhead]; simp) with h1 | h1
      · left; rw [f1]; exact h1
      · right
        rw [hI.unprocessed] at h1
        rw [hI'.unprocessed, f2]
        have := hI.lp_le
        omega
  | mdHead hM hop hpend hlf hst' hok =>
    have hI := hM.inv
    refine ⟨Or.inr ?_, ?_, fun _ => hlf, hin, (fun _ hh => by cases hh)⟩
    · rw [absM_of_not_body (by rw [hst']; simp)]
      have hi : ¬ (s.isInitialized = false) := by rw [hI.init]; simp
      have hp : ¬ (s.streamState = .processing) := by rw [hst']; simp
      unfold ustepM
      refine (if_neg hi).trans ((if_neg hp).trans ((if_neg (fun hh => hh hlf)).trans ((if_pos hst').trans ?_)))
      simp [absM, mdHeadSt, absOf, core, hpend, St.carry]
    · intro _
      exact hj (by rw [hst']; simp)
  | mdDone hM hop hpend hlf hst' hz =>
    have hI := hM.inv
    have hav : io.availIn = 0 := by rw [hM.avail, hz]
    have hinp : io.input = [] := List.eq_nil_of_length_eq_zero (by rw [← hin, hav])
    refine ⟨Or.inr ?_, (fun hh => absurd rfl hh), (fun hh => by cases hh), hin, fun _ _ => hpend⟩
    have hb : absM s io del = ⟨{ core s with remainingMetadata := 0 }, del ++ io.out ++ s.pending ++ io.input, [], 0⟩ := by
      unfold absM; rw [if_pos hst']
    rw [hb, absM_of_not_body (by simp [mdDoneSt])]
    unfold ustepM
    simp only [core_init, hI.init, Bool.true_eq_false, ↓reduceIte, core_state, hst', reduceCtorEq, ne_eq]
    simp [absOf, mdDoneSt, core, hpend, hinp, hav, hlf, hI.init]
  | mdOut hM hop hpend hlf hst' hnz hao hle =>
    have hrm32 := lt_two32_of_le hM.rmLe
    have hav64 : io.availIn < two64 := by rw [hM.avail]; exact lt_two64_of_le hM.rmLe
    have hcopy : mdOutN s io = min s.remainingMetadata io.availOut :=
      Nat.mod_eq_of_lt (Nat.lt_of_le_of_lt (Nat.min_le_left _ _) hrm32)
    have hle2 : mdOutN s io ≤ io.availIn := by rw [hcopy, hM.avail]; exact Nat.min_le_left _ _
    refine ⟨Or.inl ?_, ?_, fun _ => hlf, ?_, (fun _ hh => by simp [mdOutSt, hst'] at hh)⟩
    · unfold absM
      have e1 : (mdOutSt s io).streamState = .metadataBody := hst'
      rw [if_pos e1, if_pos hst']
      simp [mdOutSt, mdOutIo, core, hpend, List.append_assoc]
    · intro _
      exact hj (by rw [hst']; simp)
    · simp only [mdOutIo, List.length_drop]
      rw [add_sub_mod_self hle2 hav64, hin]
  | mdTiny hM hop hpend hlf hst' hnz hao hle =>
    have hav64 : io.availIn < two64 := by rw [hM.avail]; exact lt_two64_of_le hM.rmLe
    have hle2 : mdTinyN s ≤ io.availIn := by rw [hM.avail]; exact Nat.min_le_left _ _
    refine ⟨Or.inl ?_, ?_, fun _ => hlf, ?_, (fun _ hh => by simp [mdTinySt, hst'] at hh)⟩
    · unfold absM
      have e1 : (mdTinySt s io).streamState = .metadataBody := hst'
      rw [if_pos e1, if_pos hst']
      simp [mdTinySt, mdTinyIo, core, hpend, List.append_assoc]
    · intro _
      exact hj (by rw [hst']; simp)
    · simp only [mdTinyIo, List.length_drop]
      rw [add_sub_mod_self hle2 hav64, hin]
  | _ => omega   -- the main-loop atoms carry `op ≤ 2`

def DoneStep (a a' : Abs) : Prop := a.s.streamState ≠ .processing ∧ a'.s.streamState = .processing

inductive MPath (o : Oracle) : Abs → Nat → Abs → Prop
  | nil (a : Abs) : MPath o a 0 a
  | cons {a a1 b : Abs} {n : Nat} : ustepM o a = some a1 → ¬ DoneStep a a1 → MPath o a1 n b → MPath o a (n + 1) b

theorem mpath_walk {o : Oracle} {a b : Abs} {n : Nat} : MPath o a n b ↔ Walk (ustepM o) DoneStep a n b := by
  constructor
  · intro h
    induction h with
    | nil a => exact .nil a
    | cons hs hf _ ih => exact .cons hs hf ih
  · intro h
    induction h with
    | nil a => exact .nil a
    | cons hs hf _ ih => exact .cons hs hf ih

theorem MPath.append {o : Oracle} {a b c : Abs} {n m : Nat} (h1 : MPath o a n b) (h2 : MPath o b m c) :
    MPath o a (n + m) c :=
  mpath_walk.mpr ((mpath_walk.mp h1).append (mpath_walk.mp h2))

theorem MPath.snoc {o : Oracle} {a b c : Abs} {n : Nat} (h1 : MPath o a n b) (hs : ustepM o b = some c)
    (hf : ¬ DoneStep b c) : MPath o a (n + 1) c :=
  h1.append (.cons hs hf (.nil _))

def RPathM (o : Oracle) (a b : Abs) : Bool → Prop
  | false => ∃ n, MPath o a n b
  | true => ∃ n x, MPath o a n x ∧ ustepM o x = some b ∧ DoneStep x b

theorem rpathM_at {o : Oracle} {a b : Abs} {d : Bool} : RPathM o a b d ↔ ∃ n, At (ustepM o) DoneStep a n b d := by
  cases d <;> simp only [RPathM, At, mpath_walk]

theorem rpathM_done_eq {o : Oracle} {a b1 b2 : Abs} (h1 : RPathM o a b1 true) (h2 : RPathM o a b2 true) : b1 = b2 := by
  obtain ⟨_, a1⟩ := rpathM_at.mp h1
  obtain ⟨_, a2⟩ := rpathM_at.mp h2
  exact (a1.final_eq a2 (Or.inl rfl) (Or.inl rfl)).2

theorem mdLoop_rpath {o : Oracle} {n : Nat} (del : Bytes) (a : Abs) :
    ∀ fuel s io s' io' r, MdInv n s io → HintSettled s → BodyFlushed s → io.availIn = io.input.length →
      (∃ k, MPath o a k (absM s io del)) →
      processMetadataLoop o fuel s io = .ok (s', io', r) →
      RPathM o a (absM s' io' del) (decide (s'.streamState = .processing))
      ∧ HintSettled s' ∧ BodyFlushed s' ∧ io'.availIn = io'.input.length
      ∧ (s'.streamState = .processing → s'.pending = [])
      ∧ (s'.streamState = .processing ∨ s'.streamState = .metadataHead ∨ s'.streamState = .metadataBody) := by
  intro fuel
  induction fuel with
  | zero => intro s io s' io' r _ _ _ _ _ h; simp [processMetadataLoop] at h
  | succ k ih =>
    intro s io s' io' r hP hj hk hin hpath h
    have hnfl : s.streamState ≠ .flushRequested := by rcases hP.st with h1 | h1 <;> rw [h1] <;> simp
    have hnpr : s.streamState ≠ .processing := by rcases hP.st with h1 | h1 <;> rw [h1] <;> simp
    unfold processMetadataLoop at h
    split at h
    · simp at h
    · simp at h
    · rename_i s1 io1 hs
      exact absurd rfl (mdStep_spec hP hs).1
    · rename_i s1 io1 hs
      rcases (mdStep_spec hP hs).2 with hP1 | ⟨hc, _⟩
      · rcases mdStep_steps hP hs with ⟨e, he⟩ | ⟨hc, _⟩
        · obtain ⟨hcase, hj1, hk1, hin1, _⟩ := step_absM he hnfl hj hk hin del
          have hnpr1 : s1.streamState ≠ .processing := by rcases hP1.st with h1 | h1 <;> rw [h1] <;> simp
          refine ih _ _ _ _ _ hP1 hj1 hk1 hin1 ?_ h
          obtain ⟨m, hm⟩ := hpath
          rcases hcase with heq | hu
          · exact ⟨m, heq ▸ hm⟩
          · exact ⟨m + 1, hm.snoc hu (fun hd => hnpr1 (by rw [← absM_state s1 io1 del]; exact hd.2))⟩
        · cases hc
      · cases hc
    · rename_i s1 io1 hs
      simp only [Out.ok.injEq, Prod.mk.injEq] at h
      obtain ⟨rfl, rfl, rfl⟩ := h
      obtain ⟨m, hm⟩ := hpath
      have hst3 : s1.streamState = .processing ∨ s1.streamState = .metadataHead ∨ s1.streamState = .metadataBody := by
        rcases (mdStep_spec hP hs).2 with hP1 | ⟨_, hD⟩
        · exact Or.inr hP1.st
        · exact Or.inl hD.2.2.1
      rcases mdStep_steps hP hs with ⟨e, he⟩ | ⟨_, rfl, rfl⟩
      · obtain ⟨hcase, hj1, hk1, hin1, hpe⟩ := step_absM he hnfl hj hk hin del
        refine ⟨?_, hj1, hk1, hin1, fun hh => hpe hnpr hh, hst3⟩
        by_cases hp : s1.streamState = .processing
        · rw [decide_eq_true hp]
          rcases hcase with heq | hu
          · exfalso
            have := congrArg (fun x => x.s.streamState) heq
            simp only [absM_state] at this
            exact hnpr (this ▸ hp)
          · exact ⟨m, _, hm, hu, by rw [absM_state]; exact hnpr, by rw [absM_state]; exact hp⟩
        · rw [decide_eq_false hp]
          rcases hcase with heq | hu
          · exact ⟨m, heq ▸ hm⟩
          · exact ⟨m + 1, hm.snoc hu (fun hd => hp (by rw [← absM_state s1 io1 del]; exact hd.2))⟩
      · refine ⟨?_, hj, hk, hin, fun hh => absurd hh hnpr, hst3⟩
        rw [decide_eq_false hnpr]
        exact ⟨m, hm⟩

def absRM (s : St) (rem del : Bytes) : Abs := absM s (Io.start rem 0) del

structure BndM (s : St) (rem : Bytes) : Prop where
  inv : IsFresh s ∨ Inv s
  st : s.streamState = .processing ∨ s.streamState = .metadataHead ∨ s.streamState = .metadataBody
  settled : HintSettled s
  flushed : BodyFlushed s
  wrap : s.inputPos + rem.length < two64

theorem absM_start (s : St) (rem : Bytes) (cap : Nat) (del : Bytes) : absM s (Io.start rem cap) del = absRM s rem del := by
  simp [absRM, absM, absOf, Io.start]

theorem absM_end (s : St) (io : Io) (del : Bytes) (hin : io.availIn = io.input.length) :
    absM s io del = absRM s io.input (del ++ io.out) := by
  simp [absRM, absM, absOf, Io.start, hin]

theorem absRM_of_core {s1 s2 : St} {del1 del2 : Bytes} (rem : Bytes) (hc : core s1 = core s2)
    (ho : del1 ++ s1.pending = del2 ++ s2.pending) : absRM s1 rem del1 = absRM s2 rem del2 := by
  have hs : s1.streamState = s2.streamState := (congrArg St.streamState hc :)
  unfold absRM absM
  rw [hs]
  split
  · simp only [Io.start, List.append_nil, hc, Abs.mk.injEq, true_and, and_true, List.append_cancel_right_eq]
    exact ho
  · simp only [absOf, Io.start, List.append_nil, hc, ho]

theorem md_call_open {o : Oracle} {fuel cap : Nat} {rem : Bytes} {s s' : St} {io' : Io} (hI : Inv s)
    (h : compressStream o fuel s 3 rem cap = .ok (s', io', true)) :
    ((s.remainingMetadata ≠ u32Max ∧ rem.length = s.remainingMetadata) ∨
     (s.remainingMetadata = u32Max ∧ s.streamState = .processing ∧ rem.length ≤ 16777216))
    ∧ MdInv rem.length (mdEnter (updateSizeHint s 0) rem.length) (Io.start rem cap)
    ∧ processMetadataLoop o fuel (mdEnter (updateSizeHint s 0) rem.length) (Io.start rem cap) = .ok (s', io', true) := by
  rcases compressStream_dispatch (o := o) (fuel := fuel) (input := rem) (cap := cap) (Nat.le_refl 3) hI with
    ⟨_, s0, _, h0⟩ | ⟨_, ⟨_, hP, hl⟩ | ⟨h2, _⟩⟩
  · rw [h0] at h; cases h
  · refine ⟨?_, hP, hl.symm.trans h⟩
    obtain ⟨_, _, _, _, _, _, hRemainingMetadata, _, hStreamState, _⟩ := updateSizeHint_fields s 0
    have hav : rem.length = (mdEnter (updateSizeHint s 0) rem.length).remainingMetadata := hP.avail
    have hme : s.streamState ≠ .processing → mdEnter (updateSizeHint s 0) rem.length = updateSizeHint s 0 := fun hnp => by
      unfold mdEnter; rw [if_neg (by rw [hStreamState]; exact hnp)]
    by_cases hrm : s.remainingMetadata = u32Max
    · by_cases hpr : s.streamState = .processing
      · exact Or.inr ⟨hrm, hpr, hav ▸ hP.rmLe⟩
      · have hst := hP.st
        rw [hme hpr, hStreamState] at hst
        exact absurd hrm (hI.mdIff.mp hst)
    · have hnp : s.streamState ≠ .processing := by rcases hI.mdIff.mpr hrm with h1 | h1 <;> rw [h1] <;> simp
      rw [hme hnp, hRemainingMetadata] at hav
      exact Or.inl ⟨hrm, hav⟩
  · omega

theorem call_absM {o : Oracle} {fuel cap : Nat} {rem del : Bytes} {s s' : St} {io' : Io}
    (hB : BndM s rem) (h : compressStream o fuel s 3 rem cap = .ok (s', io', true)) :
    RPathM o (absRM s rem del) (absRM s' io'.input (del ++ io'.out)) (callDone 3 s') ∧ BndM s' io'.input
    ∧ (callDone 3 s' = true → s'.pending = [] ∧ s'.streamState = .processing) := by
  have red : ∃ si, Inv si ∧ (∃ k, MPath o (absRM s rem del) k (absRM si rem del))
      ∧ compressStream o fuel si 3 rem cap = .ok (s', io', true) ∧ si.inputPos + rem.length < two64
      ∧ HintSettled si ∧ BodyFlushed si ∧ si.streamState ≠ .flushRequested := by
    rcases hB.inv with hf | hI
    · have hIe := (inv_fresh hf).1
      have hinit : Step o 3 (s, Io.start rem cap) (.window (ensureInitialized s).carry) (ensureInitialized s, Io.start rem cap) :=
        Step.init hf
      have hpr : s.streamState = .processing := by obtain ⟨p, rfl⟩ := hf; rfl
      have hpr' : (ensureInitialized s).streamState = .processing := by
        obtain ⟨p, rfl⟩ := hf; simp [ensureInitialized, St.new]
      obtain ⟨hcase, hj1, hk1, _, _⟩ := step_absM hinit (by rw [hpr]; simp) hB.settled hB.flushed rfl del
      refine ⟨ensureInitialized s, hIe, ?_, by rw [← compressStream_ensure]; exact h, ?_, hj1, hk1, by rw [hpr']; simp⟩
      · rw [absM_start, absM_start] at hcase
        rcases hcase with heq | hu
        · exact ⟨0, heq ▸ .nil _⟩
        · refine ⟨1, .cons hu ?_ (.nil _)⟩
          intro hd
          apply hd.1
          show (absRM s rem del).s.streamState = .processing
          unfold absRM; rw [absM_state]; exact hpr
      · rw [ensure_inputPos]; exact hB.wrap
    · refine ⟨s, hI, ⟨0, .nil _⟩, h, hB.wrap, hB.settled, hB.flushed, ?_⟩
      rcases hB.st with h1 | h1 | h1 <;> rw [h1] <;> simp
  obtain ⟨si, hI, hp0, hcall, hw, hj, hk, hnfl⟩ := red
  obtain ⟨evs, hsteps⟩ := call_steps (by omega) hI hw hcall
  have hsum := steps_sum hsteps
  simp only [Io.start] at hsum
  have hI' := ((compressStream_refines (by omega) hI hw hcall).2 rfl).1
  obtain ⟨hentry, hP, hcall'⟩ := md_call_open hI hcall
  have hent : Step o 3 (si, Io.start rem cap) (.tau 2) (mdEnter (updateSizeHint si 0) rem.length, Io.start rem cap) :=
    Step.mdEnter (io := Io.start rem cap) hI rfl hentry
  obtain ⟨hcase, hj1, hk1, hin1, _⟩ := step_absM hent hnfl hj hk rfl del
  have hnpr1 : (mdEnter (updateSizeHint si 0) rem.length).streamState ≠ .processing := by
    rcases hP.st with h1 | h1 <;> rw [h1] <;> simp
  have hpath1 : ∃ k, MPath o (absRM s rem del) k (absM (mdEnter (updateSizeHint si 0) rem.length) (Io.start rem cap) del) := by
    obtain ⟨m, hm⟩ := hp0
    rw [← absM_start si rem cap del] at hm
    rcases hcase with heq | hu
    · exact ⟨m, heq ▸ hm⟩
    · exact ⟨m + 1, hm.snoc hu (fun hd => hnpr1 (by rw [← absM_state _ (Io.start rem cap) del]; exact hd.2))⟩
  obtain ⟨hR, hj', hk', hin', hpe, hst3⟩ := mdLoop_rpath del (absRM s rem del) fuel _ _ s' io' true hP hj1 hk1 hin1 hpath1 hcall'
  have hcd : callDone 3 s' = decide (s'.streamState = .processing) := by
    unfold callDone
    by_cases hp : s'.streamState = .processing
    · simp [hp, hpe hp]
    · simp [hp]
  rw [hcd, ← absM_end s' io' del hin']
  refine ⟨hR, ⟨Or.inr hI', hst3, hj', hk', Nat.lt_of_le_of_lt hsum hw⟩, ?_⟩
  intro hd
  have hp : s'.streamState = .processing := by simpa using hd
  exact ⟨hpe hp, hp⟩

theorem take_absM {size : Nat} {rem del out : Bytes} {s s' : St}
    (hB : BndM s rem) (h : takeOutput s size = .ok (s', out)) :
    absRM s' rem (del ++ out) = absRM s rem del ∧ BndM s' rem ∧ takeDone s s' = false
    ∧ s'.streamState = s.streamState ∧ (s.pending = [] → s'.pending = []) := by
  have hnfl : s.streamState ≠ .flushRequested := by rcases hB.st with h1 | h1 | h1 <;> rw [h1] <;> simp
  have htd : ∀ t : St, takeDone s t = false := by
    intro t; unfold takeDone; simp [hnfl]
  have hsame : absRM s rem (del ++ []) = absRM s rem del ∧ BndM s rem ∧ takeDone s s = false
      ∧ s.streamState = s.streamState ∧ (s.pending = [] → s.pending = []) :=
    ⟨by rw [List.append_nil], hB, htd _, rfl, fun hh => hh⟩
  rcases hB.inv with hf | hI
  · rw [takeOutput_fresh hf] at h
    cases h
    exact hsame
  · rcases takeOutput_cases h with ⟨rfl, rfl⟩ | ⟨rfl, rfl⟩
    · exact hsame
    · generalize takeCount s size = c
      rw [checkFlushComplete_id (s := takeAdvance s c) hnfl]
      refine ⟨?_, ⟨Or.inr (hI.of_frame rfl rfl rfl rfl), hB.st, hB.settled, hB.flushed, hB.wrap⟩, htd _, rfl, fun hh => ?_⟩
      · have e1 : (takeAdvance s c).streamState = s.streamState := rfl
        unfold absRM absM
        rw [e1]
        split <;> simp [absOf, Io.start, takeAdvance, core, List.append_assoc]
      · show s.pending.drop c = []
        rw [hh]; exact List.drop_nil

theorem drive_rpathM {o : Oracle} {fuel : Nat} (a : Abs) :
    ∀ (sched : List SchedStep) (s : St) (rem del : Bytes) (d : Bool) (s' : St) (rem' del' : Bytes) (d' : Bool),
      BndM s rem → RPathM o a (absRM s rem del) d → (d = true → s.pending = [] ∧ s.streamState = .processing) →
      driveReq o fuel 3 sched s rem del d = some (s', rem', del', d') →
      RPathM o a (absRM s' rem' del') d' ∧ BndM s' rem' ∧ (d' = true → s'.pending = [] ∧ s'.streamState = .processing) := by
  intro sched
  induction sched with
  | nil =>
    intro s rem del d s' rem' del' d' hB hR hd h
    simp only [driveReq, Option.some.injEq, Prod.mk.injEq] at h
    obtain ⟨rfl, rfl, rfl, rfl⟩ := h
    exact ⟨hR, hB, hd⟩
  | cons st rest ih =>
    intro s rem del d s' rem' del' d' hB hR hd h
    cases st with
    | call cap =>
      simp only [driveReq] at h
      cases d with
      | true => simp at h
      | false =>
        simp only [Bool.false_eq_true, ↓reduceIte] at h
        split at h
        · rename_i s1 io1 hcall
          obtain ⟨r1, b1, c1⟩ := call_absM (del := del) hB hcall
          obtain ⟨n0, p0⟩ := hR
          obtain ⟨n1, q1⟩ := rpathM_at.mp r1
          have hR1 : RPathM o a (absRM s1 io1.input (del ++ io1.out)) (callDone 3 s1) :=
            rpathM_at.mpr ⟨n0 + n1, q1.prepend (mpath_walk.mp p0)⟩
          exact ih _ _ _ _ _ _ _ _ b1 hR1 c1 h
        all_goals simp at h
    | take size =>
      simp only [driveReq] at h
      split at h
      · rename_i s1 out htake
        obtain ⟨heq, b1, htd, hst1, hp1⟩ := take_absM (del := del) hB htake
        rw [htd, Bool.or_false] at h
        refine ih _ _ _ _ _ _ _ _ b1 (heq ▸ hR) (fun hh => ?_) h
        obtain ⟨q1, q2⟩ := hd hh
        exact ⟨hp1 q1, hst1.trans q2⟩
      all_goals simp at h

theorem bndM_fresh {s : St} {chunk : Bytes} (hf : IsFresh s) (hw : chunk.length < two64) : BndM s chunk := by
  obtain ⟨p, rfl⟩ := hf
  refine ⟨Or.inl ⟨p, rfl⟩, Or.inl rfl, fun hh => absurd rfl hh, (fun hh => by cases hh), ?_⟩
  simp [St.new]; exact hw

theorem bndM_of_processing {s : St} {chunk : Bytes} (hI : IsFresh s ∨ Inv s) (hst : s.streamState = .processing)
    (hw : s.inputPos + chunk.length < two64) : BndM s chunk :=
  ⟨hI, Or.inl hst, fun hh => absurd hst hh, (fun hh => by rw [hst] at hh; cases hh), hw⟩

end BV.Stream
