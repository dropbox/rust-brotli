import BV.Lemmas.StreamStep
/-
The quality 0/1 loop (`compress_stream_fast`): what one iteration does, its loop invariant, and the loop
as a run of iterations.
-/
namespace BV.Stream
open BV.Bits

/-- one block of the quality 0/1 path, written in place (`ip`) or staged in `storage_` -/
def fastSt (s : St) (ans : Ans) (ip il ff : Bool) : St :=
  { s with nEnc := s.nEnc + 1, oracleBad := (s.oracleBad || !ans.result),
           totalOut := if ip then (s.totalOut + (wholeBytes (s.carry ++ ans.bits)).length) % two64 else s.totalOut,
           nextOut := if ip then s.nextOut else .dyn 0,
           pending := if ip then s.pending else wholeBytes (s.carry ++ ans.bits),
           lastBytes := (carryOf (s.carry ++ ans.bits)).1, lastBytesBits := (carryOf (s.carry ++ ans.bits)).2,
           streamState := markState s.streamState il ff }

def fastIo (s : St) (io : Io) (ans : Ans) (req : Req) (bs : Nat) (ip : Bool) : Io :=
  { io with input := io.input.drop bs, availIn := io.availIn - bs, reqs := io.reqs ++ [req],
            availOut := if ip then io.availOut - (wholeBytes (s.carry ++ ans.bits)).length else io.availOut,
            out := if ip then io.out ++ wholeBytes (s.carry ++ ans.bits) else io.out }

theorem fastEncode_eq (s : St) (io : Io) (ans : Ans) (req : Req) (bs : Nat) (ip il ff : Bool) :
    fastEncode s io ans req bs ip il ff = (fastSt s ans ip il ff, fastIo s io ans req bs ip) := by
  cases ip <;> rfl

theorem fastEncode_fields (s : St) (io : Io) (ans : Ans) (req : Req) (bs : Nat) (ip il ff : Bool) :
    (fastEncode s io ans req bs ip il ff).1.params = s.params
    ∧ (fastEncode s io ans req bs ip il ff).1.inputPos = s.inputPos
    ∧ (fastEncode s io ans req bs ip il ff).1.remainingMetadata = s.remainingMetadata
    ∧ (fastEncode s io ans req bs ip il ff).1.isInitialized = s.isInitialized
    ∧ (fastEncode s io ans req bs ip il ff).1.lastFlushPos = s.lastFlushPos
    ∧ (fastEncode s io ans req bs ip il ff).1.lastProcessedPos = s.lastProcessedPos
    ∧ (fastEncode s io ans req bs ip il ff).1.isLastBlockEmitted = s.isLastBlockEmitted
    ∧ (fastEncode s io ans req bs ip il ff).1.streamState = (if il then .finished else if ff then .flushRequested else s.streamState)
    ∧ (fastEncode s io ans req bs ip il ff).2.availIn = io.availIn - bs := by
  unfold fastEncode
  cases ip <;> simp

theorem fastStep_ok {o : Oracle} {op : Nat} {s s' : St} {io io' : Io} {b : Bool}
    (h : fastStep o op s io = .ok (s', io', b)) :
    (injectFlushOrPushOutput s io = .ok (s', io', true) ∧ b = true) ∨
    (injectFlushOrPushOutput s io = .ok (s, io, false) ∧
      ((¬ (s.pending.length = 0 ∧ s.streamState = .processing ∧ (io.availIn ≠ 0 ∨ op ≠ 0)) ∧
          s' = s ∧ io' = io ∧ b = false) ∨
       ((s.pending.length = 0 ∧ s.streamState = .processing ∧ (io.availIn ≠ 0 ∨ op ≠ 0)) ∧ b = true ∧
        ∃ bs il ff, bs = min (2 ^ s.params.lgwin.toNat) io.availIn ∧ il = decide (io.availIn = bs ∧ op = 2) ∧
          ff = decide (io.availIn = bs ∧ op = 1) ∧
          (((ff = true ∧ bs = 0) ∧ s' = { s with streamState := .flushRequested } ∧ io' = io) ∨
           (¬ (ff = true ∧ bs = 0) ∧
            ∃ ipl s1 req, ipl = decide ((2 * bs + 503) % two64 ≤ io.availOut) ∧
              s1 = fastStorage s ipl ((2 * bs + 503) % two64) ∧
              req = { site := 2, lo := bs, hi := s.inputPos, isLast := il, forceFlush := ff } ∧
              ¬ fastCap s1 io ipl < 2 ∧ ¬ bs > io.input.length ∧
              ¬ (s.lastBytesBits + (o s.nEnc req).bits.length) / 8 + 2 > fastCap s1 io ipl ∧
              s' = (fastEncode s1 io (o s.nEnc req) req bs ipl il ff).1 ∧
              io' = (fastEncode s1 io (o s.nEnc req) req bs ipl il ff).2))))) := by
  unfold fastStep at h
  cases hp : injectFlushOrPushOutput s io with
  | panic => rw [hp] at h; cases h
  | fuel => rw [hp] at h; cases h
  | ok x =>
    obtain ⟨s1, io1, b1⟩ := x
    rw [hp] at h
    cases b1
    · obtain ⟨rfl, rfl, _⟩ := push_false hp
      refine Or.inr ⟨rfl, ?_⟩
      simp only at h
      by_cases hcond : s1.pending.length = 0 ∧ s1.streamState = .processing ∧ (io1.availIn ≠ 0 ∨ op ≠ 0)
      · rw [if_pos hcond] at h
        by_cases hff : decide (io1.availIn = min (2 ^ s1.params.lgwin.toNat) io1.availIn ∧ op = 1) = true ∧
            min (2 ^ s1.params.lgwin.toNat) io1.availIn = 0
        · rw [if_pos hff] at h; cases h
          exact Or.inr ⟨hcond, rfl, _, _, _, rfl, rfl, rfl, Or.inl ⟨hff, rfl, rfl⟩⟩
        · rw [if_neg hff] at h
          obtain ⟨c1, h⟩ := ok_of_ite_panic h
          obtain ⟨c2, h⟩ := ok_of_ite_panic h
          obtain ⟨c3, h⟩ := ok_of_ite_panic h
          simp only [Out.ok.injEq, Prod.mk.injEq] at h
          obtain ⟨rfl, rfl, rfl⟩ := h
          refine Or.inr ⟨hcond, rfl, _, _, _, rfl, rfl, rfl, Or.inr ⟨hff, _, _, _, rfl, rfl, rfl, ?_, ?_, ?_, ?_, ?_⟩⟩
          · exact c1
          · exact c2
          · exact c3
          · rfl
          · rfl
      · rw [if_neg hcond] at h; cases h
        exact Or.inl ⟨hcond, rfl, rfl, rfl⟩
    · cases h; exact Or.inl ⟨rfl, rfl⟩

theorem fastStorage_frame (s : St) (ip : Bool) (n : Nat) :
    (fastStorage s ip n).frame = s.frame ∧ (fastStorage s ip n).lastFlushPos = s.lastFlushPos
    ∧ (fastStorage s ip n).lastProcessedPos = s.lastProcessedPos
    ∧ (fastStorage s ip n).isLastBlockEmitted = s.isLastBlockEmitted
    ∧ (fastStorage s ip n).pending = s.pending ∧ (fastStorage s ip n).nextOut = s.nextOut
    ∧ (fastStorage s ip n).lastBytes = s.lastBytes ∧ (fastStorage s ip n).lastBytesBits = s.lastBytesBits
    ∧ (fastStorage s ip n).storageSize ≤ max s.storageSize n ∧ s.storageSize ≤ (fastStorage s ip n).storageSize
    ∧ (ip = false → n ≤ (fastStorage s ip n).storageSize) := by
  unfold fastStorage
  cases ip
  · obtain ⟨g1, g2, g3, g4, g5, g6, _, g8, g9, _, _, g12, g13⟩ := growStorage_frame s n
    exact ⟨g1, g2, g3, g4, g5, g6, g8, g9, Nat.le_of_eq (growStorage_size s n), g12, fun _ => g13⟩
  · exact ⟨rfl, rfl, rfl, rfl, rfl, rfl, rfl, rfl, Nat.le_max_left _ _, Nat.le_refl _, fun h => by cases h⟩

theorem fastStorage_ge (s : St) (n : Nat) : n ≤ (fastStorage s false n).storageSize :=
  Nat.le_trans (Nat.le_max_right _ _) (Nat.le_of_eq (growStorage_size s n).symm)

theorem fastStep_spec {o : Oracle} {op : Nat} {s s' : St} {io io' : Io} {b : Bool} (hI : Inv s)
    (hfm : fastMode s.params)
    (h : fastStep o op s io = .ok (s', io', b)) :
    Inv s' ∧ s'.remainingMetadata = s.remainingMetadata ∧ io'.availIn ≤ io.availIn ∧ StateMove op s.streamState s' io'
    ∧ s'.inputPos = s.inputPos
    ∧ (s.streamState = .finished → s'.pending.length ≤ s.pending.length)
    ∧ s'.params = s.params := by
  rcases fastStep_ok h with ⟨hp, _⟩ | ⟨_, ⟨_, rfl, rfl, _⟩ | ⟨hcond, _, bs, il, ffl, hbs, hil, hfl,
    ⟨hff, rfl, hio⟩ | ⟨_, ipl, s1, req, _, hs1, _, _, _, _, rfl, rfl⟩⟩⟩
  · have f := St.frame_eq (push_frame hp).frame
    refine ⟨inv_push hI hp, f.remainingMetadata, Nat.le_of_eq (push_frame hp).availIn, Or.inl f.streamState, f.inputPos, ?_, f.params⟩
    intro hfin
    exact (push_pending_le (by rw [hfin]; simp) hp).1
  · exact ⟨hI, rfl, Nat.le_refl _, Or.inl rfl, rfl, fun _ => Nat.le_refl _, rfl⟩
  · cases hio.symm
    have hff1 : io.availIn = bs ∧ op = 1 := by rw [hfl] at hff; simpa using hff.1
    have hz : io.availIn = 0 := by rw [hff1.1]; exact hff.2
    refine ⟨?_, rfl, Nat.le_refl _, Or.inr ⟨hcond.2.1, hz, Or.inl ⟨hff1.2, rfl⟩⟩, rfl, ?_, rfl⟩
    · refine hI.transfer rfl rfl rfl rfl ?_ hI.fl_le hI.lp_le (Nat.le_refl _) ?_ hI.q01 (fun _ => Or.inr hfm)
      · show SState.flushRequested.isMd = s.streamState.isMd
        rw [hcond.2.1]; rfl
      · intro hle
        have := hI.lastFin hle
        rw [hcond.2.1] at this; cases this
    · intro hfin; rw [hcond.2.1] at hfin; cases hfin
  · obtain ⟨g, gLastFlushPos, gLastProcessedPos, gLatch, _⟩ := fastStorage_frame s ipl ((2 * bs + 503) % two64)
    rw [← hs1] at g gLastFlushPos gLastProcessedPos gLatch
    replace g := St.frame_eq g
    obtain ⟨eParams, eInputPos, eRemainingMetadata, eIsInitialized, eLastFlushPos, eLastProcessedPos, eLatch, eStreamState,
      eAvailIn⟩ := fastEncode_fields s1 io (o s.nEnc req) req bs ipl il ffl
    have hble : bs ≤ io.availIn := by rw [hbs]; exact Nat.min_le_right _ _
    refine ⟨?_, ?_, ?_, ?_, ?_, ?_, eParams.trans g.params⟩
    · refine hI.transfer (by rw [eParams, g.params]) (eInputPos.trans g.inputPos) (eRemainingMetadata.trans g.remainingMetadata)
        (eIsInitialized.trans g.isInitialized) ?_ ?_ ?_ ?_ ?_ ?_ ?_
      · rw [eStreamState, g.streamState, hcond.2.1]
        cases il <;> cases ffl <;> rfl
      · rw [eLastFlushPos, eLastProcessedPos, gLastFlushPos, gLastProcessedPos]; exact hI.fl_le
      · rw [eLastProcessedPos, eInputPos, gLastProcessedPos, g.inputPos]; exact hI.lp_le
      · rw [eLastProcessedPos, gLastProcessedPos]; exact Nat.le_refl _
      · intro hle
        rw [eLatch, gLatch] at hle
        have := hI.lastFin hle
        rw [hcond.2.1] at this; cases this
      · rw [eParams, g.params, eLastFlushPos, eLastProcessedPos, gLastFlushPos, gLastProcessedPos]; exact hI.q01
      · intro _; right; rw [eParams, g.params]; exact hfm
    · exact eRemainingMetadata.trans g.remainingMetadata
    · rw [eAvailIn]; omega
    · unfold StateMove
      rw [eStreamState, g.streamState, hcond.2.1, eAvailIn]
      cases hil2 : il
      · cases hfl2 : ffl
        · exact Or.inl rfl
        · rw [hfl2] at hfl
          have : io.availIn = bs ∧ op = 1 := by simpa using hfl.symm
          exact Or.inr ⟨rfl, by omega, Or.inl ⟨this.2, rfl⟩⟩
      · rw [hil2] at hil
        have : io.availIn = bs ∧ op = 2 := by simpa using hil.symm
        exact Or.inr ⟨rfl, by omega, Or.inr ⟨this.2, rfl⟩⟩
    · exact eInputPos.trans g.inputPos
    · intro hfin; rw [hcond.2.1] at hfin; cases hfin

theorem fastStep_pending_finished {o : Oracle} {op : Nat} {s s' : St} {io io' : Io} {b : Bool} (hI : Inv s)
    (hfm : fastMode s.params) (hst : s.streamState = .finished) (h : fastStep o op s io = .ok (s', io', b)) :
    s'.pending.length ≤ s.pending.length :=
  (fastStep_spec hI hfm h).2.2.2.2.2.1 hst

theorem fastStep_brk {o : Oracle} {op : Nat} {s s' : St} {io io' : Io}
    (h : fastStep o op s io = .ok (s', io', false)) :
    s' = s ∧ io' = io ∧ ¬(s.streamState = .flushRequested ∧ s.lastBytesBits ≠ 0)
    ∧ ¬(s.pending.length ≠ 0 ∧ io.availOut ≠ 0)
    ∧ ¬(s.pending.length = 0 ∧ s.streamState = .processing ∧ (io.availIn ≠ 0 ∨ op ≠ 0)) := by
  rcases fastStep_ok h with ⟨_, hb⟩ | ⟨hp, ⟨hne, rfl, rfl, _⟩ | ⟨_, hb, _⟩⟩
  · cases hb
  · obtain ⟨_, _, p1, p2⟩ := push_false hp
    exact ⟨rfl, rfl, p1, p2, hne⟩
  · cases hb

theorem fastLoop_exit {o : Oracle} {op : Nat} (P : St → Io → Prop)
    (hstep : ∀ s io s' io' b, P s io → fastStep o op s io = .ok (s', io', b) → P s' io') :
    ∀ fuel s io s' io', P s io → fastLoop o op fuel s io = .ok (s', io') →
      P s' io' ∧ fastStep o op s' io' = .ok (s', io', false) := by
  intro fuel
  induction fuel with
  | zero => intro s io s' io' _ h; simp [fastLoop] at h
  | succ k ih =>
    intro s io s' io' hP h
    unfold fastLoop at h
    cases hs : fastStep o op s io with
    | panic => rw [hs] at h; cases h
    | fuel => rw [hs] at h; cases h
    | ok x =>
      obtain ⟨s1, io1, b⟩ := x
      rw [hs] at h
      cases b
      · cases h
        obtain ⟨e1, e2, _⟩ := fastStep_brk hs
        subst e1 e2
        exact ⟨hP, hs⟩
      · exact ih _ _ _ _ (hstep _ _ _ _ _ hP hs) h

/-- `c0`: the stream state at entry of `compress_stream_fast`; `n`: the number of bytes offered -/
structure FastInv (op : Nat) (c0 : SState) (n : Nat) (s : St) (io : Io) : Prop where
  inv : Inv s
  fm : fastMode s.params
  rm : s.remainingMetadata = u32Max
  availLe : io.availIn ≤ n
  nonproc : c0 ≠ .processing → io.availIn = 0
  st : s.streamState = c0 ∨ (c0 = .processing ∧ io.availIn = 0 ∧
        ((op = 1 ∧ s.streamState = .flushRequested) ∨ (op = 2 ∧ s.streamState = .finished)))

theorem fastInv_step {o : Oracle} {op : Nat} {c0 : SState} {n : Nat} {s s' : St} {io io' : Io} {b : Bool}
    (hP : FastInv op c0 n s io) (h : fastStep o op s io = .ok (s', io', b)) :
    FastInv op c0 n s' io' := by
  obtain ⟨i1, i4, i5, i6, _, _, i9⟩ := fastStep_spec hP.inv hP.fm h
  refine ⟨i1, by rw [i9]; exact hP.fm, i4.trans hP.rm, Nat.le_trans i5 hP.availLe, ?_, ?_⟩
  · intro hc
    have := hP.nonproc hc
    omega
  · exact i6.track i5 hP.st

end BV.Stream
