import BV.Lemmas.StreamInv
/-
The documented call contract of the streaming encoder as a 6-state automaton (spec side,
written from `c/brotli/encode.h`, independent of the model's control flow), the abstraction
function from model states, and what the state in which a loop of `compress_stream` breaks means
for it: the contract step (`exit_contract`) and the completion of the request (`drained_of_exit`).
-/
namespace BV.Stream
open BV.Bits

inductive CState where
  | fresh                 -- nothing processed yet: parameters may still change
  | processing
  | flushing              -- a flush has been accepted, its output is not drained yet
  | finishing             -- finish accepted, output pending
  | finished              -- finish accepted, everything delivered
  | metadata (n : Nat)    -- inside a metadata block, `n` payload bytes still owed
deriving Repr, DecidableEq

/-- `op`: 0 PROCESS, 1 FLUSH, 2 FINISH, 3 EMIT_METADATA; `n`: the bytes offered -/
def Contract.accepts (c : CState) (op n : Nat) : Bool :=
  match c with
  | .metadata r => op == 3 && n == r
  | .fresh | .processing => if op == 3 then decide (n ≤ 16777216) else true
  | .flushing | .finishing | .finished => op != 3 && n == 0

/-- allowed successor of an accepted call that consumed `k` of the `n` bytes offered -/
def Contract.succ (c : CState) (op n k : Nat) (c' : CState) : Prop :=
  match c with
  | .metadata r => (∃ r', c' = .metadata r' ∧ r' ≤ r ∧ k = r - r') ∨ (c' = .processing ∧ k = r)
  | .fresh | .processing =>
    if op = 3 then (∃ r', c' = .metadata r' ∧ r' ≤ n ∧ k = n - r') ∨ (c' = .processing ∧ k = n)
    else if op = 0 then c' = .processing
    else if op = 1 then c' = .processing ∨ (c' = .flushing ∧ k = n)
    else c' = .processing ∨ ((c' = .finishing ∨ c' = .finished) ∧ k = n)
  | .flushing => k = 0 ∧ (c' = .flushing ∨ c' = .processing)
  | .finishing => k = 0 ∧ (c' = .finishing ∨ c' = .finished)
  | .finished => k = 0 ∧ c' = .finished

def absC (s : St) : CState :=
  if s.isInitialized = false then .fresh
  else if s.remainingMetadata ≠ u32Max then .metadata s.remainingMetadata
  else match s.streamState with
    | .flushRequested => .flushing
    | .finished => if s.pending.length ≠ 0 then .finishing else .finished
    | .metadataHead | .metadataBody => .metadata s.remainingMetadata
    | .processing => .processing

theorem absC_eq {s : St} (hI : Inv s) (hrm : s.remainingMetadata = u32Max) :
    absC s = (match s.streamState with
      | .flushRequested => CState.flushing
      | .finished => if s.pending.length ≠ 0 then CState.finishing else CState.finished
      | _ => CState.processing) := by
  have hmd := hI.mdIff
  rw [hrm] at hmd
  unfold absC
  rw [hI.init]
  simp only [Bool.true_eq_false, ↓reduceIte, hrm, ne_eq, not_true_eq_false]
  cases hs : s.streamState <;> simp_all

theorem u32Max_gt : (16777216 : Nat) < u32Max := by unfold u32Max; omega

theorem absC_md {s : St} (hi : s.isInitialized = true) (hrm : s.remainingMetadata ≠ u32Max) :
    absC s = .metadata s.remainingMetadata := by
  unfold absC
  simp [hi, hrm]

theorem absC_processing {s : St} (hi : s.isInitialized = true) (hrm : s.remainingMetadata = u32Max)
    (hst : s.streamState = .processing) : absC s = .processing := by
  unfold absC
  simp [hi, hrm, hst]

theorem absC_updateSizeHint (s : St) (n : Nat) : absC (updateSizeHint s n) = absC s := by
  rw [updateSizeHint_eq]; rfl

theorem accepts_absC {s : St} (hI : Inv s) (op n : Nat) :
    Contract.accepts (absC s) op n =
      if s.remainingMetadata ≠ u32Max then (op == 3 && n == s.remainingMetadata)
      else if s.streamState = .processing then (if op == 3 then decide (n ≤ 16777216) else true)
      else (op != 3 && n == 0) := by
  by_cases hrm : s.remainingMetadata = u32Max
  · rw [if_neg (not_not_intro hrm), absC_eq hI hrm]
    cases hs : s.streamState
    · rfl
    · rfl
    · by_cases hp : s.pending.length ≠ 0
      · rw [if_pos hp, if_neg (fun h => by cases h)]; rfl
      · rw [if_neg hp, if_neg (fun h => by cases h)]; rfl
    · exact absurd hrm (hI.mdIff.mp (Or.inl hs))
    · exact absurd hrm (hI.mdIff.mp (Or.inr hs))
  · rw [if_pos hrm, absC_md hI.init hrm]; rfl

theorem md_entry_of_accepts {s : St} {n : Nat} (hI : Inv s) (h : Contract.accepts (absC s) 3 n = true) :
    (s.remainingMetadata ≠ u32Max ∧ n = s.remainingMetadata) ∨
    (s.remainingMetadata = u32Max ∧ s.streamState = .processing ∧ n ≤ 16777216) := by
  rw [accepts_absC hI] at h
  by_cases hrm : s.remainingMetadata ≠ u32Max
  · rw [if_pos hrm] at h; exact Or.inl ⟨hrm, by simpa using h⟩
  · rw [if_neg hrm] at h
    have hpr : s.streamState = .processing :=
      Decidable.of_not_not fun hnp => by rw [if_neg hnp] at h; simp at h
    rw [if_pos hpr] at h
    exact Or.inr ⟨Decidable.of_not_not hrm, hpr, by simpa using h⟩

/-- `s1` is the state of the iteration in which the loop (either one) breaks; `st` says how its stream state
relates to the one at entry -/
theorem exit_contract {op n : Nat} {s s1 : St} {io' : Io} (hop : op ≤ 2)
    (hI : Inv s) (hrm : s.remainingMetadata = u32Max)
    (hI1 : Inv s1) (hrm1 : s1.remainingMetadata = u32Max)
    (availLe : io'.availIn ≤ n) (hacc : s.streamState ≠ .processing → n = 0)
    (st : StateMove op s.streamState s1 io')
    (hpend : s.streamState = .finished → s1.pending.length ≤ s.pending.length) :
    Inv (checkFlushComplete s1) ∧ (checkFlushComplete s1).remainingMetadata = u32Max
    ∧ (s.streamState = .finished → (checkFlushComplete s1).streamState = .finished
        ∧ (checkFlushComplete s1).pending.length ≤ s.pending.length)
    ∧ Contract.succ (absC s) op n (n - io'.availIn) (absC (checkFlushComplete s1)) := by
  have hI1' := inv_checkFlushComplete hI1
  have k8 : (checkFlushComplete s1).pending = s1.pending := by rw [checkFlushComplete_eq]
  have hrm1' : (checkFlushComplete s1).remainingMetadata = u32Max := by rw [checkFlushComplete_eq]; exact hrm1
  have hst1 := checkFlushComplete_state s1
  refine ⟨hI1', hrm1', fun hfin => ?_, ?_⟩
  · have h1 : s1.streamState = .finished := by
      rcases st with h1 | ⟨h1, _⟩
      · rw [h1]; exact hfin
      · rw [hfin] at h1; cases h1
    exact ⟨by rw [hst1, h1]; simp, by rw [k8]; exact hpend hfin⟩
  rw [absC_eq hI hrm, absC_eq hI1' hrm1', hst1, k8]
  rcases st with h1 | ⟨h1, h2, h3⟩
  · rw [h1]
    cases hs : s.streamState
    · simp only [reduceCtorEq, false_and, ↓reduceIte]
      unfold Contract.succ
      simp only
      have : op = 0 ∨ op = 1 ∨ op = 2 := by omega
      rcases this with rfl | rfl | rfl <;> simp
    · have hz := hacc (by rw [hs]; simp)
      have hz' : io'.availIn = 0 := by omega
      unfold Contract.succ
      by_cases hp : s1.pending.length = 0
      · simp [hp, hz, hz']
      · simp [hp, hz, hz']
    · have hz := hacc (by rw [hs]; simp)
      have hz' : io'.availIn = 0 := by omega
      have hle := hpend hs
      unfold Contract.succ
      by_cases hp0 : s.pending.length = 0
      · have hp1 : s1.pending.length = 0 := by omega
        simp [hp0, hp1, hz, hz']
      · by_cases hp1 : s1.pending.length = 0
        · simp [hp0, hp1, hz, hz']
        · simp [hp0, hp1, hz, hz']
    · have := hI.mdIff.mp (Or.inl hs); exact absurd hrm this
    · have := hI.mdIff.mp (Or.inr hs); exact absurd hrm this
  · rw [h1]
    unfold Contract.succ
    simp only
    rcases h3 with ⟨rfl, h4⟩ | ⟨rfl, h4⟩
    · rw [h4]
      by_cases hp : s1.pending.length = 0
      · simp [hp]
      · simp [hp, h2]
    · rw [h4]
      by_cases hp : s1.pending.length = 0
      · simp [hp, h2]
      · simp [hp, h2]

/-- the request `op`, issued when the stream state was `c0`, is complete in `s'` (C20 `request_completes`, C04
`flush_complete`); from a state other than PROCESSING the call only drains, which completes a pending flush (`reflush`) -/
structure Drained (op : Nat) (c0 : SState) (s' : St) (io' : Io) : Prop where
  consumed : io'.availIn = 0
  flushDone : op = 1 → c0 = .processing →
    s'.streamState = .processing ∧ s'.lastBytesBits = 0 ∧ (s'.lastFlushPos = s'.inputPos ∨ fastMode s'.params)
  finishDone : op = 2 → c0 = .processing → s'.streamState = .finished
  notProcessing : op ≠ 0 → c0 ≠ .processing → s'.streamState = c0 ∨ (c0 = .flushRequested ∧ s'.streamState = .processing)
  reflush : c0 = .flushRequested →
    s'.streamState = .processing ∧ s'.lastBytesBits = 0 ∧ (s'.lastFlushPos = s'.inputPos ∨ fastMode s'.params)

theorem drained_of_exit {op : Nat} {c0 : SState} {s1 : St} {io' : Io} (hI1 : Inv s1)
    (hnp : s1.streamState ≠ .processing → io'.availIn = 0)
    (st : StateMove op c0 s1 io')
    (f2 : ¬(s1.streamState = .flushRequested ∧ s1.lastBytesBits ≠ 0))
    (f4 : s1.streamState = .processing → op = 0 ∧ io'.availIn = 0)
    (hp : s1.pending.length = 0) :
    Drained op c0 (checkFlushComplete s1) io' := by
  have hst := checkFlushComplete_state s1
  have hcons : io'.availIn = 0 := by
    by_cases hpr : s1.streamState = .processing
    · exact (f4 hpr).2
    · exact hnp hpr
  refine ⟨hcons, ?_, ?_, ?_, ?_⟩
  rotate_left 3
  · intro hc0
    rcases st with h | ⟨h, _⟩
    · rw [hc0] at h
      refine ⟨by rw [hst, h]; simp [hp], ?_, ?_⟩
      · rw [checkFlushComplete_eq]
        by_cases hz : s1.lastBytesBits = 0
        · exact hz
        · exact absurd ⟨h, hz⟩ f2
      · rw [checkFlushComplete_eq]; exact hI1.flushLf h
    · rw [hc0] at h; cases h
  · intro h1 hc0
    rcases st with h | ⟨_, _, h⟩
    · rw [hc0] at h; have := (f4 h).1; omega
    · rcases h with ⟨_, hfl⟩ | ⟨h2, _⟩
      · refine ⟨by rw [hst, hfl]; simp [hp], ?_, ?_⟩
        · rw [checkFlushComplete_eq]
          by_cases hz : s1.lastBytesBits = 0
          · exact hz
          · exact absurd ⟨hfl, hz⟩ f2
        · rw [checkFlushComplete_eq]; exact hI1.flushLf hfl
      · omega
  · intro h2 hc0
    rcases st with h | ⟨_, _, h⟩
    · rw [hc0] at h; have := (f4 h).1; omega
    · rcases h with ⟨h1, _⟩ | ⟨_, hfin⟩
      · omega
      · rw [hst, hfin]; simp
  · intro hop hc0
    rcases st with h | ⟨h, _⟩
    · rw [hst, h]
      by_cases hfl : c0 = .flushRequested
      · right; refine ⟨hfl, ?_⟩; rw [hfl]; simp [hp]
      · left; simp [hfl]
    · exact absurd h hc0

end BV.Stream
