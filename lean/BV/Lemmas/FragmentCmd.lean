/-
One iteration of the command loop of the two-pass `StoreCommands` on the byte storage: a code word (`SymOK`: writer
tables and reader code agree), its extra bits, the literals of an insert code.
-/
import BV.Lemmas.FragmentTab
import BV.Lemmas.FragmentSto
import BV.Lemmas.HuffmanRead
namespace BV.Fragment
open BV.Bits BV.MetaBlock BV.Huffman BV.PrefixArith BV.Recoder
open BV.Lemmas.HuffmanRead (takeBits_bitsOf)

/-- `d56`: 56 is the limit of one `BrotliWriteBits` -/
structure SymOK (D B : List Nat) (C : Code) (idx sym : Nat) : Prop where
  hD : idx < D.length
  hB : idx < B.length
  d56 : D.getD idx 0 ≤ 56
  fit : B.getD idx 0 < 2 ^ D.getD idx 0
  rd : ∀ rest, C.read (bitsOf (D.getD idx 0) (B.getD idx 0) ++ rest) = some (sym, rest)

theorem writeSym_ok (D B : List Nat) (C : Code) (idx sym : Nat) (h : SymOK D B C idx sym) (s : Sto)
    (hg : Good s) (hr : (s.ix + 56) / 8 + 8 ≤ s.bytes.size) :
    ∃ s', (getAt D idx >>= fun d => getAt B idx >>= fun b => writeBits d b s) = .ok s' ∧
      Wr s s' (bitsOf (D.getD idx 0) (B.getD idx 0)) := by
  have hd := h.d56
  obtain ⟨s', e, w⟩ := Sto.writeBits_ok (D.getD idx 0) (B.getD idx 0) s hg h.fit (by omega) (by omega)
  refine ⟨s', ?_, w⟩
  rw [getAt_getD D idx 0 h.hD, Out.bind_ok, getAt_getD B idx 0 h.hB, Out.bind_ok, e]

theorem storeLits_ok (litD litB : List Nat) (litC : Code) : ∀ (bs : List Nat) (s : Sto), Good s →
    (s.ix + 57 * bs.length) / 8 + 8 ≤ s.bytes.size → (∀ b ∈ bs, SymOK litD litB litC b b) →
    ∃ s' lb, storeLits litD litB bs s = .ok s' ∧ Wr s s' lb ∧ lb.length ≤ 56 * bs.length ∧
      ∀ acc rest, readLiterals litC bs.length acc (lb ++ rest) = some (acc ++ bs, rest)
  | [], s, hg, _, _ => ⟨s, [], rfl, Wr.refl s hg, by simp, by intro acc rest; simp [readLiterals]⟩
  | b :: bs, s, hg, hr, hs => by
    simp only [List.length_cons] at hr
    have hb := hs b (by simp)
    obtain ⟨s1, e1, w1⟩ := writeSym_ok litD litB litC b b hb s hg (by omega)
    have hl1 : (bitsOf (litD.getD b 0) (litB.getD b 0)).length ≤ 56 := by rw [bitsOf_length]; exact hb.d56
    have i1 := w1.ix
    obtain ⟨s2, lb, e2, w2, hl2, r2⟩ := storeLits_ok litD litB litC bs s1 w1.good
      (by rw [i1, w1.size]; omega) (fun x hx => hs x (by simp [hx]))
    refine ⟨s2, _, ?_, w1.trans w2, by simp only [List.length_append, List.length_cons]; omega, ?_⟩
    · unfold storeLits
      have e1' : (getAt litD b >>= fun d => getAt litB b >>= fun v => writeBits d v s >>= fun s =>
          storeLits litD litB bs s) = storeLits litD litB bs s1 := by
        rw [getAt_getD litD b 0 hb.hD, Out.bind_ok, getAt_getD litB b 0 hb.hB, Out.bind_ok] at e1 ⊢
        rw [e1, Out.bind_ok]
      rw [← e2, ← e1']
    · intro acc rest
      simp only [List.length_cons, readLiterals, List.append_assoc]
      rw [hb.rd]
      simp only []
      rw [r2]
      simp

theorem loop_step_plain (litD litB cmdD cmdB : List Nat) (C : Code) (cmd sym : Nat) (cs lits : List Nat) (s : Sto)
    (hc24 : 24 ≤ cmd % 256) (hc128 : cmd % 256 < 128) (hs : SymOK cmdD cmdB C (cmd % 256) sym)
    (hne : kNumExtraBits.getD (cmd % 256) 0 ≤ 24) (hex : cmd / 256 < 2 ^ kNumExtraBits.getD (cmd % 256) 0)
    (hg : Good s) (hr : (s.ix + 81) / 8 + 8 ≤ s.bytes.size) :
    ∃ s1, storeCmdLoop litD litB cmdD cmdB (cmd :: cs) lits s = storeCmdLoop litD litB cmdD cmdB cs lits s1 ∧
      Wr s s1 (bitsOf (cmdD.getD (cmd % 256) 0) (cmdB.getD (cmd % 256) 0) ++
        bitsOf (kNumExtraBits.getD (cmd % 256) 0) (cmd / 256)) ∧ s1.ix ≤ s.ix + 80 := by
  obtain ⟨s1, e1, w1⟩ := writeSym_ok cmdD cmdB C _ sym hs s hg (by omega)
  have hd := hs.d56
  have i1 : s1.ix = s.ix + cmdD.getD (cmd % 256) 0 := by rw [w1.ix, bitsOf_length]
  obtain ⟨s2, e2, w2⟩ := Sto.writeBits_ok _ (cmd / 256) s1 w1.good hex (by omega) (by rw [i1, w1.size]; omega)
  have i2 : s2.ix = s1.ix + kNumExtraBits.getD (cmd % 256) 0 := by rw [w2.ix, bitsOf_length]
  refine ⟨s2, ?_, w1.trans w2, by omega⟩
  rw [storeCmdLoop]
  simp only []
  rw [getAt_getD cmdD _ 0 hs.hD, Out.bind_ok, getAt_getD cmdB _ 0 hs.hB, Out.bind_ok] at e1 ⊢
  rw [e1, Out.bind_ok, getAt_getD kNumExtraBits _ 0 (by rw [kNumExtraBits_length]; exact hc128), Out.bind_ok, e2, Out.bind_ok,
    if_neg (by omega)]

theorem loop_step_ins (litD litB cmdD cmdB : List Nat) (C litC : Code) (cmd sym : Nat) (cs lits : List Nat) (s : Sto)
    (hc24 : cmd % 256 < 24) (hs : SymOK cmdD cmdB C (cmd % 256) sym)
    (hne : kNumExtraBits.getD (cmd % 256) 0 ≤ 24) (hex : cmd / 256 < 2 ^ kNumExtraBits.getD (cmd % 256) 0)
    (hoff : kInsertOffset.getD (cmd % 256) 0 ≤ 22594) (hol : cmd % 256 < kInsertOffset.length)
    (hins : kInsertOffset.getD (cmd % 256) 0 + cmd / 256 ≤ lits.length)
    (hl : ∀ b ∈ lits, SymOK litD litB litC b b)
    (hg : Good s)
    (hr : (s.ix + 81 + 57 * (kInsertOffset.getD (cmd % 256) 0 + cmd / 256)) / 8 + 8 ≤ s.bytes.size) :
    ∃ s1 lb, storeCmdLoop litD litB cmdD cmdB (cmd :: cs) lits s =
        storeCmdLoop litD litB cmdD cmdB cs (lits.drop (kInsertOffset.getD (cmd % 256) 0 + cmd / 256)) s1 ∧
      Wr s s1 (bitsOf (cmdD.getD (cmd % 256) 0) (cmdB.getD (cmd % 256) 0) ++
        (bitsOf (kNumExtraBits.getD (cmd % 256) 0) (cmd / 256) ++ lb)) ∧
      s1.ix ≤ s.ix + 80 + 56 * (kInsertOffset.getD (cmd % 256) 0 + cmd / 256) ∧
      ∀ acc rest, readLiterals litC (kInsertOffset.getD (cmd % 256) 0 + cmd / 256) acc (lb ++ rest)
        = some (acc ++ lits.take (kInsertOffset.getD (cmd % 256) 0 + cmd / 256), rest) := by
  obtain ⟨s1, e1, w1⟩ := writeSym_ok cmdD cmdB C _ sym hs s hg (by omega)
  have hd := hs.d56
  have i1 : s1.ix = s.ix + cmdD.getD (cmd % 256) 0 := by rw [w1.ix, bitsOf_length]
  obtain ⟨s2, e2, w2⟩ := Sto.writeBits_ok _ (cmd / 256) s1 w1.good hex (by omega) (by rw [i1, w1.size]; omega)
  have i2 : s2.ix = s1.ix + kNumExtraBits.getD (cmd % 256) 0 := by rw [w2.ix, bitsOf_length]
  have p24 : (2 : Nat) ^ 24 = 16777216 := by decide
  have hex24 : cmd / 256 < 16777216 := by
    rw [← p24]; exact Nat.lt_of_lt_of_le hex (Nat.pow_le_pow_right (by decide) hne)
  have hmod : (kInsertOffset.getD (cmd % 256) 0 + cmd / 256) % two32 = kInsertOffset.getD (cmd % 256) 0 + cmd / 256 := by
    apply Nat.mod_eq_of_lt
    have : two32 = 4294967296 := rfl
    omega
  have htl : (lits.take (kInsertOffset.getD (cmd % 256) 0 + cmd / 256)).length
      = kInsertOffset.getD (cmd % 256) 0 + cmd / 256 := by
    rw [List.length_take]; omega
  obtain ⟨s3, lb, e3, w3, hl3, r3⟩ := storeLits_ok litD litB litC
    (lits.take (kInsertOffset.getD (cmd % 256) 0 + cmd / 256)) s2 w2.good
    (by rw [htl, i2, i1, w2.size, w1.size]; omega) (fun b hb => hl b (List.mem_of_mem_take hb))
  rw [htl] at hl3 r3
  refine ⟨s3, lb, ?_, by simpa [List.append_assoc] using (w1.trans w2).trans w3, by rw [w3.ix]; omega, r3⟩
  rw [storeCmdLoop]
  simp only []
  rw [getAt_getD cmdD _ 0 hs.hD, Out.bind_ok, getAt_getD cmdB _ 0 hs.hB, Out.bind_ok] at e1 ⊢
  rw [e1, Out.bind_ok, getAt_getD kNumExtraBits _ 0 (by rw [kNumExtraBits_length]; omega), Out.bind_ok, e2, Out.bind_ok,
    if_pos hc24, getAt_getD kInsertOffset _ 0 hol, Out.bind_ok]
  simp only [hmod]
  rw [if_neg (by omega), e3, Out.bind_ok]

end BV.Fragment
