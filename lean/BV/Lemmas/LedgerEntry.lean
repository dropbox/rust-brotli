/-
Entry points: a generic "prefix ++ arbitrary body ++ suffix releases everything" theorem, and the log only
grows.
-/
import BV.Lemmas.LedgerOps
namespace BV.Ledger

theorem Inv.balanced {w : W} (hi : Inv w) (hl : w.lost = []) (he : ∀ s, w.enc.get s = []) :
    (judge w.log).clean = true ∧ (judge w.log).live = [] :=
  ⟨(clean_iff_bad _).mpr hi.bad, live_nil hi (held_nil_of_slots _ he) hl⟩

/-- the start flag of `post`: nothing is known about the seven fields after `body`, and a non-field slot is empty after
    `body` if it was after `pre` -/
theorem ep_empty_slots {fl : Flags} (hfl : fl.sitesOk = true) (m8 q : Nat) (pre body post : List Op)
    (hb : ∀ op ∈ body, op.isBody = true) {w' : W} (h : run fl (W.init m8 q) (pre ++ body ++ post) = .ok w') :
    Inv w' ∧ w'.lost = [] ∧
      ∀ s, flagAfter fl m8 s (!s.isField && flagAfter fl m8 s true pre) post = true → w'.enc.get s = [] := by
  refine ⟨run_inv (Flags.sitesOk_fields hfl).oneshotHasherOwn _ _ _ (Inv.init m8 q) h,
    by rw [run_lost hfl _ _ _ h]; rfl, fun s hs => ?_⟩
  apply run_empty s _ _ _ true (fun _ => by cases s <;> rfl) h
  rw [show (W.init m8 q).m8 = m8 from rfl, flagAfter_append, flagAfter_append]
  refine flagAfter_mono fl m8 s post (fun h0 => ?_) hs
  rw [Bool.and_eq_true, Bool.not_eq_true'] at h0
  rw [h0.2, body_flag fl m8 s h0.1 body hb]

theorem ep_releases {fl : Flags} (hfl : fl.sitesOk = true) (m8 q : Nat) (pre body post : List Op)
    (hb : ∀ op ∈ body, op.isBody = true)
    (hslots : ∀ s, flagAfter fl m8 s (!s.isField && flagAfter fl m8 s true pre) post = true)
    {w' : W} (h : run fl (W.init m8 q) (pre ++ body ++ post) = .ok w') :
    (judge w'.log).clean = true ∧ (judge w'.log).live = [] := by
  obtain ⟨hi, hl, he⟩ := ep_empty_slots hfl m8 q pre body post hb h
  exact hi.balanced hl fun s => he s (hslots s)

theorem stream_releases {fl : Flags} (hfl : fl.sitesOk = true) (m8 q : Nat) (body : List Op)
    (hb : ∀ op ∈ body, op.isBody = true) {w : W} (h : run fl (W.init m8 q) (epStream body) = .ok w) :
    (judge w.log).clean = true ∧ (judge w.log).live = [] :=
  ep_releases hfl m8 q [.create false] body [.cleanup] hb (fun s => by cases s <;> rfl) h

theorem act_log_prefix (w : W) (a : Act) : w.log <+: (w.act a).log := by
  cases a with
  | free s => exact List.prefix_append ..
  | alloc x s k => exact List.prefix_append ..
  | lose s => exact List.prefix_rfl
  | move src dst =>
    show w.log <+: (if src = dst then w else _).log
    split <;> exact List.prefix_rfl

theorem acts_log_prefix (w : W) (as : List Act) : w.log <+: (w.acts as).log := by
  induction as generalizing w with
  | nil => exact List.prefix_rfl
  | cons a as ih => exact (act_log_prefix w a).trans (ih _)

theorem acts_lose_log (w : W) (ss : List Slot) : (w.acts (ss.map .lose)).log = w.log := by
  induction ss generalizing w with
  | nil => rfl
  | cons s ss ih => exact ih (w.act (.lose s))

theorem step_log_prefix {fl : Flags} {w w' : W} {op : Op} (h : step fl w op = .ok w') : w.log <+: w'.log := by
  obtain ⟨_, rfl⟩ := step_ok h
  rw [opBook_log]
  exact acts_log_prefix _ _

theorem run_log_prefix {fl : Flags} : ∀ (ops : List Op) (w w' : W), run fl w ops = .ok w' →
    ∃ suf, w'.log = w.log ++ suf := by
  intro ops
  induction ops with
  | nil => intro w w' h; cases h; exact ⟨[], by simp⟩
  | cons op ops ih =>
    intro w w' h
    obtain ⟨w1, h1, h2⟩ := run_cons_ok h
    obtain ⟨s1, e1⟩ := step_log_prefix h1
    obtain ⟨s2, e2⟩ := ih w1 w' h2
    exact ⟨s1 ++ s2, by rw [e2, ← e1, List.append_assoc]⟩

end BV.Ledger
