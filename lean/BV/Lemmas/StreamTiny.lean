import BV.Lemmas.StreamTop
/-
`tiny_buf_` (16 bytes) is never indexed past its end: the invariant `TinyOK`, its preservation by every primitive and
by `take_output` (`tinyOK_*`), and the four facts that under it no bound check on `tiny_buf_` fires (`pad_tiny_safe`,
`push_tiny_safe`, `take_tiny_safe`, `md_header_tiny_safe`).  For `encode_data` the invariant needs to know where the
output cursor is afterwards (`encPayload_out`, `encodeData_out`).  This is the class of the "stale next_out_ padding"
panic (/verif/proposed/tinybuf-stale-padding.md).
-/
namespace BV.Stream
open BV.Bits

structure TinyOK (s : St) : Prop where
  fits : ∀ off, s.nextOut = .tiny off → off + s.pending.length ≤ 16 ∧ (s.pending.length ≠ 0 → s.lastBytesBits = 0)
  none : s.nextOut = .none → s.pending.length = 0
  body : s.streamState = .metadataBody → s.lastBytesBits = 0 ∧ s.inputPos = s.lastFlushPos

theorem tinyOK_new : TinyOK St.new :=
  ⟨fun _ h => by simp [St.new] at h, fun _ => rfl, fun h => by simp [St.new] at h⟩

theorem tinyOK_dyn {s' : St} {off : Nat} (h1 : s'.nextOut = .dyn off)
    (hb : s'.streamState = .metadataBody → s'.lastBytesBits = 0 ∧ s'.inputPos = s'.lastFlushPos) : TinyOK s' :=
  ⟨fun o ho => (by rw [h1] at ho; cases ho), fun hn => (by rw [h1] at hn; cases hn), hb⟩

/-- `b`: what is pending, given as a term so that its length can be bounded -/
theorem tinyOK_tiny0 {t : St} {b : Bytes} (h1 : t.nextOut = .tiny 0) (h2 : t.pending = b) (h3 : b.length ≤ 16)
    (h4 : b.length ≠ 0 → t.lastBytesBits = 0)
    (hb : t.streamState = .metadataBody → t.lastBytesBits = 0 ∧ t.inputPos = t.lastFlushPos) : TinyOK t := by
  refine ⟨fun off ho => ?_, fun hn => (by rw [h1] at hn; cases hn), hb⟩
  rw [h1] at ho
  cases ho
  rw [h2]
  exact ⟨by omega, h4⟩

theorem pad_tiny_safe {s : St} (hT : TinyOK s) (hlb : s.lastBytesBits ≠ 0) :
    injectBytePaddingBlock s = .ok (padResult s (.tiny 0)) ∨
    (∃ off, s.nextOut = .dyn off ∧ s.pending.length ≠ 0) := by
  unfold injectBytePaddingBlock
  cases hno : s.nextOut with
  | none => left; simp [padAppend, hno]
  | dyn off =>
    by_cases hp : s.pending.length = 0
    · left; simp [padAppend, hno, hp]
    · right; exact ⟨off, rfl, hp⟩
  | tiny off =>
    by_cases hp : s.pending.length = 0
    · left; simp [padAppend, hno, hp]
    · exact absurd ((hT.fits off hno).2 hp) hlb

theorem tinyOK_pad {s s' : St} (hT : TinyOK s) (hl : s.lastBytesBits ≤ 14) (hlb : s.lastBytesBits ≠ 0)
    (hst : s.streamState ≠ .metadataBody)
    (h : injectBytePaddingBlock s = .ok s') : TinyOK s' := by
  have hn : (s.lastBytesBits + 6 + 7) / 8 ≤ 3 := by omega
  rcases pad_ok h with ⟨ha, rfl⟩ | ⟨ha, rfl⟩
  · -- appended behind pending output: that output is in `storage_`, as a carry excludes `tiny_buf_`
    obtain ⟨hno, hp⟩ := (padAppend_iff s).mp ha
    cases hc : s.nextOut with
    | none => exact absurd hc hno
    | dyn off => exact tinyOK_dyn (off := off) rfl (fun hb => absurd hb hst)
    | tiny off => exact absurd ((hT.fits off hc).2 hp) hlb
  · have hp0 : s.pending.length = 0 := by
      by_cases hno : s.nextOut = .none
      · exact hT.none hno
      · exact Decidable.of_not_not fun hp => ha ((padAppend_iff s).mpr ⟨hno, hp⟩)
    refine tinyOK_tiny0 (b := s.pending ++ sealBytes _ _) rfl rfl ?_ (fun _ => rfl) (fun hb => absurd hb hst)
    simp only [List.length_append, sealBytes, List.length_map, List.length_range, hp0]
    omega

theorem tinyOK_advance {s s' : St} {c : Nat} (hT : TinyOK s) (hc : c ≤ s.pending.length)
    (h1 : s'.nextOut = nextOutIncrement s.nextOut c) (h2 : s'.pending = s.pending.drop c)
    (h3 : s'.lastBytesBits = s.lastBytesBits) (h4 : s'.streamState = s.streamState)
    (h5 : s'.inputPos = s.inputPos) (h6 : s'.lastFlushPos = s.lastFlushPos) : TinyOK s' := by
  refine ⟨?_, ?_, fun hb => by rw [h3, h5, h6]; exact hT.body (h4 ▸ hb)⟩
  · intro off ho
    rw [h1] at ho
    cases hno : s.nextOut with
    | none => rw [hno] at ho; simp [nextOutIncrement] at ho
    | dyn o => rw [hno] at ho; simp [nextOutIncrement] at ho
    | tiny o =>
      rw [hno] at ho
      simp only [nextOutIncrement, NextOut.tiny.injEq] at ho
      obtain ⟨f1, f2⟩ := hT.fits o hno
      have hsmall : o + c < two32 := by unfold two32; omega
      rw [Nat.mod_eq_of_lt hsmall] at ho
      subst ho
      rw [h2, h3, List.length_drop]
      exact ⟨by omega, fun hne => f2 (by omega)⟩
  · intro hno
    rw [h1] at hno
    cases hno' : s.nextOut with
    | none => have := hT.none hno'; rw [h2, List.length_drop]; omega
    | dyn o => rw [hno'] at hno; simp [nextOutIncrement] at hno
    | tiny o => rw [hno'] at hno; simp [nextOutIncrement] at hno

theorem tinyOK_push {s s' : St} {io io' : Io} {b : Bool} (hT : TinyOK s) (hl : s.lastBytesBits ≤ 14)
    (h : injectFlushOrPushOutput s io = .ok (s', io', b)) : TinyOK s' := by
  by_cases hc : s.streamState = .flushRequested ∧ s.lastBytesBits ≠ 0
  · rcases push_ok h with ⟨_, hp, _⟩ | ⟨hnc, _⟩ | ⟨hnc, _⟩
    · exact tinyOK_pad hT hl hc.2 (by rw [hc.1]; simp) hp
    · exact absurd hc hnc
    · exact absurd hc hnc
  · rcases push_shape hc h with rfl | ⟨h1, h2, h3, h4, h5, h6⟩
    · exact hT
    · exact tinyOK_advance hT (Nat.min_le_left _ _) h1 h2 h3 h4 h5 h6

theorem push_tiny_safe {s : St} {io : Io} {off : Nat} (hT : TinyOK s) (hno : s.nextOut = .tiny off) :
    off + min s.pending.length io.availOut ≤ 16 := by
  have := (hT.fits off hno).1
  have : min s.pending.length io.availOut ≤ s.pending.length := Nat.min_le_left _ _
  omega

theorem take_tiny_safe {s : St} {off : Nat} (hT : TinyOK s) (hno : s.nextOut = .tiny off) : takeSliceOk s = true := by
  unfold takeSliceOk
  rw [hno]
  have := (hT.fits off hno).1
  simp only [decide_eq_true_eq]
  omega

theorem md_header_tiny_safe {s : St} (hl : s.lastBytesBits ≤ 14) :
    ¬ ((bitsOf s.lastBytesBits s.lastBytes).length + 6) / 8 + 8 > 16 := by
  rw [bitsOf_length]; omega

/-- `s0`: the state in which `encode_data` started.  `hc` says of the stages before the payload stage what the conclusion
says of it: the cursor has been reset to `storage_[0]`, or nothing has been written (`hdr = 0`) -/
theorem encPayload_out {s0 s s' : St} {ans : Ans} {w0 w : Writer} {hdr : Nat} {il ff res : Bool}
    (hc : s.nextOut = .dyn 0 ∨ (s.nextOut = s0.nextOut ∧ hdr = 0 ∧ s.lastBytesBits = s0.lastBytesBits))
    (h : encPayload s ans w0 w hdr il ff = .ok (s', res)) :
    s'.nextOut = .dyn 0 ∨ (s'.nextOut = s0.nextOut ∧ s'.pending.length = 0 ∧ s'.lastBytesBits = s0.lastBytesBits) := by
  have hhead : ∀ lp ob, (payHeader s ans w0 w hdr lp ob).nextOut = .dyn 0 ∨
      ((payHeader s ans w0 w hdr lp ob).nextOut = s0.nextOut ∧ (payHeader s ans w0 w hdr lp ob).pending.length = 0
        ∧ (payHeader s ans w0 w hdr lp ob).lastBytesBits = s0.lastBytesBits) := by
    intro lp ob
    rcases hc with a | ⟨a, b, c⟩
    · exact Or.inl a
    · right; subst b; exact ⟨a, rfl, c⟩
  obtain ⟨_, _, ⟨_, _, ⟨rfl, _⟩ | ⟨rfl, _⟩⟩ | ⟨_, rfl, _⟩⟩ := encPayload_ok h
  · exact hhead _ _
  · exact hhead _ _
  · exact Or.inl rfl

theorem encodeData_out {o : Oracle} {s s' : St} {site : Nat} {il ff : Bool} {req : Req}
    (h : encodeData o s site il ff = .ok (s', true, req)) :
    s'.nextOut = .dyn 0 ∨ (s'.nextOut = s.nextOut ∧ s'.pending.length = 0 ∧ s'.lastBytesBits = s.lastBytesBits) := by
  obtain ⟨_, _, hdr, hM, hpay⟩ := encodeData_spec h
  exact encPayload_out hM.out hpay

theorem tinyOK_encode {o : Oracle} {s s' : St} {site : Nat} {il ff : Bool} {req : Req} (hT : TinyOK s)
    (hst : s.streamState ≠ .metadataBody)
    (h : encodeData o s site il ff = .ok (s', true, req)) : TinyOK s' := by
  obtain ⟨f, _⟩ := encodeData_frame h
  replace f := St.frame_eq f
  have hst' : s'.streamState ≠ .metadataBody := by rw [f.streamState]; exact hst
  rcases encodeData_out h with h1 | ⟨h1, h2, h3⟩
  · exact tinyOK_dyn h1 (fun hb => absurd hb hst')
  · refine ⟨?_, ?_, fun hb => absurd hb hst'⟩
    · intro off ho
      rw [h1] at ho
      have := (hT.fits off ho).1
      rw [h2]
      exact ⟨by omega, fun hne => absurd rfl hne⟩
    · intro _; exact h2

theorem tinyOK_cfc {s : St} (hT : TinyOK s) : TinyOK (checkFlushComplete s) := by
  unfold checkFlushComplete
  split
  · rename_i hc
    refine ⟨fun off ho => by simp at ho, fun _ => hc.2, fun hb => ?_⟩
    simp at hb
  · exact hT

theorem tinyOK_hint {s : St} (hT : TinyOK s) (n : Nat) : TinyOK (updateSizeHint s n) := by
  rw [updateSizeHint_eq]; exact ⟨hT.fits, hT.none, hT.body⟩

theorem tinyOK_take {s s' : St} {size : Nat} {out : Bytes} (hT : TinyOK s)
    (h : takeOutput s size = .ok (s', out)) : TinyOK s' := by
  rcases takeOutput_cases h with ⟨rfl, _⟩ | ⟨rfl, _⟩
  · exact hT
  · exact tinyOK_cfc (tinyOK_advance hT (takeCount_le s size) rfl rfl rfl rfl rfl rfl)

theorem tinyOK_fresh {s : St} (h : IsFresh s) : TinyOK (ensureInitialized s) := by
  obtain ⟨p, rfl⟩ := h
  rw [ensureInitialized_eq]
  exact ⟨nofun, fun _ => rfl, nofun⟩

theorem tinyOK_mdEnter {s : St} (hT : TinyOK s) (n : Nat) : TinyOK (mdEnter s n) := by
  unfold mdEnter
  split
  · refine ⟨fun off ho => hT.fits off ho, fun hn => hT.none hn, fun hb => ?_⟩
    simp at hb
  · exact hT

end BV.Stream
