/-
C17: `BrotliReverseBits` against the bit-reversal specification.
-/
import BV.Model.Huffman

namespace BV.Lemmas.HuffmanBits
open BV.Gen BV.Huffman

def revSpec : Nat → Nat → Nat
  | 0, _ => 0
  | n + 1, b => (b % 2) * 2 ^ n + revSpec n (b / 2)

theorem revSpec_lt (n b : Nat) : revSpec n b < 2 ^ n := by
  induction n generalizing b with
  | zero => simp [revSpec]
  | succ n ih =>
    simp only [revSpec]
    have := ih (b / 2)
    have h2 : b % 2 < 2 := Nat.mod_lt _ (by decide)
    have : b % 2 * 2 ^ n ≤ 1 * 2 ^ n := Nat.mul_le_mul_right _ (by omega)
    rw [Nat.pow_succ]; omega

theorem revSpec_add (a c b : Nat) :
    revSpec (a + c) b = revSpec a b * 2 ^ c + revSpec c (b / 2 ^ a) := by
  induction a generalizing b with
  | zero => simp [revSpec]
  | succ a ih =>
    have e : a + 1 + c = (a + c) + 1 := by omega
    rw [e]
    simp only [revSpec]
    rw [ih (b / 2), Nat.div_div_eq_div_mul, Nat.add_mul, Nat.mul_assoc, ← Nat.pow_add]
    have : 2 * 2 ^ a = 2 ^ (a + 1) := by rw [Nat.pow_succ]; omega
    rw [this]
    omega

theorem revSpec_mod (n b : Nat) : revSpec n (b % 2 ^ n) = revSpec n b := by
  induction n generalizing b with
  | zero => rfl
  | succ n ih =>
    simp only [revSpec]
    have h1 : b % 2 ^ (n + 1) % 2 = b % 2 := by
      rw [Nat.pow_succ, Nat.mul_comm]; exact Nat.mod_mul_right_mod _ _ _
    have h2 : b % 2 ^ (n + 1) / 2 = (b / 2) % 2 ^ n := by
      rw [Nat.pow_succ, Nat.mul_comm, Nat.mod_mul_right_div_self]
    rw [h1, h2, ih]

theorem revSpec_revSpec (n b : Nat) : revSpec n (revSpec n b) = b % 2 ^ n := by
  induction n generalizing b with
  | zero => simp [revSpec, Nat.mod_one]
  | succ n ih =>
    -- outer: split as n + 1 ; inner: as 1 + n
    have hin : revSpec (n + 1) b = (b % 2) * 2 ^ n + revSpec n (b / 2) := rfl
    have hout := revSpec_add n 1 (revSpec (n + 1) b)
    rw [hout]
    have hlt := revSpec_lt n (b / 2)
    have hp : 0 < 2 ^ n := Nat.pow_pos (by decide)
    have hdiv : revSpec (n + 1) b / 2 ^ n = b % 2 := by
      rw [hin, Nat.mul_comm, Nat.mul_add_div hp, Nat.div_eq_of_lt hlt]; simp
    have hmod : revSpec n (revSpec (n + 1) b) = revSpec n (revSpec n (b / 2)) := by
      rw [← revSpec_mod n (revSpec (n + 1) b), hin, Nat.mul_comm, Nat.mul_add_mod,
        Nat.mod_eq_of_lt hlt]
    rw [hdiv, hmod, ih]
    have h1 : revSpec 1 (b % 2) = b % 2 := by
      simp [revSpec]
    rw [h1]
    have h4 : b % 2 ^ (n + 1) = b % 2 + 2 * ((b / 2) % 2 ^ n) := by
      rw [Nat.pow_succ, Nat.mul_comm, Nat.mod_mul]
    rw [h4]; simp only [Nat.pow_one]; omega

theorem lut_eq (x : Nat) : lut x = revSpec 4 x := by
  have h : ∀ y : Fin 16, lut y.val = revSpec 4 y.val := by decide
  have := h ⟨x % 16, Nat.mod_lt _ (by decide)⟩
  simp only at this
  have e1 : lut x = lut (x % 16) := by simp [lut]
  have e2 : revSpec 4 x = revSpec 4 (x % 16) := (revSpec_mod 4 x).symm
  rw [e1, e2, this]

theorem or_eq_add (a x : Nat) (h : x < 16) : a * 16 ||| x = a * 16 + x := by
  have := Nat.shiftLeft_add_eq_or_of_lt (i := 4) (b := x) (by simpa using h) a
  simp [Nat.shiftLeft_eq] at this
  omega

/-- the nibble loop runs behind the first nibble (`kLut[bits & 0xf]`), i.e. from `j = 1`; at `j = 0`
the shift `4 * j - 4` is truncated, hence the excuse `∨ j = 0` -/
theorem reverseLoop_spec (k j b : Nat) (hj : 4 * (j + k) ≤ 60) :
    reverseLoop k (revSpec (4 * j) b) (b / 2 ^ (4 * j - 4)) = revSpec (4 * (j + k)) b ∨ j = 0 := by
  induction k generalizing j with
  | zero => left; simp [reverseLoop]
  | succ k ih =>
    by_cases hj0 : j = 0
    · right; exact hj0
    left
    simp only [reverseLoop]
    have hlt := revSpec_lt (4 * j) b
    have hle : (2:Nat) ^ (4 * j) ≤ 2 ^ 56 := Nat.pow_le_pow_right (by decide) (by omega)
    have hsmall : revSpec (4 * j) b * 16 % u64 = revSpec (4 * j) b * 16 := by
      apply Nat.mod_eq_of_lt
      unfold u64
      have : (2:Nat) ^ 56 * 16 = 2 ^ 60 := by decide
      have : (2:Nat) ^ 60 < 18446744073709551616 := by decide
      omega
    have hdd : b / 2 ^ (4 * j - 4) / 16 = b / 2 ^ (4 * j) := by
      rw [Nat.div_div_eq_div_mul]
      have : 2 ^ (4 * j - 4) * 16 = 2 ^ (4 * j) := by
        have : 4 * j = (4 * j - 4) + 4 := by omega
        conv => rhs; rw [this, Nat.pow_add]
      rw [this]
    rw [hsmall, hdd, or_eq_add _ _ (by rw [lut_eq]; exact revSpec_lt 4 _), lut_eq]
    have hadd := revSpec_add (4 * j) 4 b
    have e16 : (2:Nat) ^ 4 = 16 := by decide
    rw [e16] at hadd
    rw [← hadd]
    have := ih (j + 1) (by omega)
    have e1 : 4 * j + 4 = 4 * (j + 1) := by omega
    have e2 : 4 * (j + 1) - 4 = 4 * j := by omega
    rw [e1]
    rw [e2] at this
    rcases this with h | h
    · rw [h]; congr 1; omega
    · omega

theorem reverseBits_eq (n b : Nat) (h1 : 1 ≤ n) (h16 : n ≤ 16) :
    reverseBits n b = revSpec n b := by
  unfold reverseBits
  have hloop := reverseLoop_spec ((n - 1) / 4) 1 b (by omega)
  simp only [Nat.mul_one, Nat.sub_self, Nat.pow_zero, Nat.div_one] at hloop
  rw [← lut_eq] at hloop
  rcases hloop with hloop | hloop
  · simp only [hloop]
    have hs : (u64 - n % u64) % 4 = 4 * (1 + (n - 1) / 4) - n := by
      unfold u64; omega
    rw [hs, Nat.shiftRight_eq_div_pow]
    have hsplit : 4 * (1 + (n - 1) / 4) = n + (4 * (1 + (n - 1) / 4) - n) := by omega
    have hadd := revSpec_add n (4 * (1 + (n - 1) / 4) - n) b
    rw [← hsplit] at hadd
    rw [hadd]
    have hp : 0 < 2 ^ (4 * (1 + (n - 1) / 4) - n) := Nat.pow_pos (by decide)
    rw [Nat.mul_comm, Nat.mul_add_div hp, Nat.div_eq_of_lt (revSpec_lt _ _), Nat.add_zero]
    apply Nat.mod_eq_of_lt
    have := revSpec_lt n b
    have : (2:Nat) ^ n ≤ 2 ^ 16 := Nat.pow_le_pow_right (by decide) h16
    omega
  · omega

theorem revSpec_testBit (n b i : Nat) :
    (revSpec n b).testBit i = (decide (i < n) && b.testBit (n - 1 - i)) := by
  induction n generalizing b i with
  | zero => simp [revSpec]
  | succ n ih =>
    simp only [revSpec]
    rw [Nat.mul_comm, Nat.testBit_two_pow_mul_add _ (revSpec_lt n (b / 2))]
    by_cases hi : i < n
    · simp only [hi, ↓reduceIte, ih, decide_true, Bool.true_and, Nat.testBit_div_two]
      have : i < n + 1 := by omega
      simp only [this, decide_true, Bool.true_and]
      congr 1; omega
    · simp only [hi, ↓reduceIte]
      by_cases hin : i = n
      · subst hin
        simp only [Nat.sub_self, Nat.lt_add_one, decide_true, Nat.add_sub_cancel, Bool.true_and]
        rw [Nat.testBit_zero, Nat.testBit_zero, Nat.mod_mod]
      · have h1 : ¬ i < n + 1 := by omega
        simp only [h1, decide_false, Bool.false_and]
        have hlt : b % 2 < 2 ^ (i - n) := by
          have : b % 2 < 2 := Nat.mod_lt _ (by decide)
          have : 2 ^ 1 ≤ 2 ^ (i - n) := Nat.pow_le_pow_right (by decide) (by omega)
          omega
        exact Nat.testBit_lt_two_pow hlt

end BV.Lemmas.HuffmanBits
