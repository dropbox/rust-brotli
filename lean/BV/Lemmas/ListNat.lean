/-
Facts about `List` and `Nat` that the models' access idioms need and `Init` does not state in
this form: the models read with `getD · 0` and slice with `(l.drop a).take n`, where `Init`
speaks of `l[i]?` and `l[i]`.
-/

namespace BV

theorem getD_of_lt {α : Type} (l : List α) (i : Nat) (d : α) (h : i < l.length) : l.getD i d = l[i] := by
  rw [List.getD_eq_getElem?_getD, List.getElem?_eq_getElem h]; rfl

theorem getD_of_le {α : Type} (l : List α) (i : Nat) (d : α) (h : l.length ≤ i) : l.getD i d = d := by
  rw [List.getD_eq_getElem?_getD, List.getElem?_eq_none h]; rfl

theorem getD_mem {α : Type} (l : List α) (i : Nat) (d : α) (h : i < l.length) : l.getD i d ∈ l := by
  rw [getD_of_lt l i d h]; exact List.getElem_mem h

theorem getElem?_getD {α : Type} (l : List α) (i : Nat) (d : α) (h : i < l.length) :
    l[i]? = some (l.getD i d) := by
  rw [getD_of_lt l i d h, List.getElem?_eq_getElem h]

theorem getD_set {α : Type} (l : List α) (i j : Nat) (v d : α) (h : i < l.length) :
    (l.set i v).getD j d = if i = j then v else l.getD j d := by
  simp only [List.getD_eq_getElem?_getD, List.getElem?_set, h, ↓reduceIte]
  split <;> simp

theorem getD_set_eq {α : Type} (l : List α) (i : Nat) (v d : α) (h : i < l.length) :
    (l.set i v).getD i d = v := by
  rw [getD_set l i i v d h, if_pos rfl]

theorem getD_set_ne {α : Type} (l : List α) (i j : Nat) (v d : α) (h : i ≠ j) :
    (l.set i v).getD j d = l.getD j d := by
  simp [List.getD_eq_getElem?_getD, h]

theorem getD_take {α : Type} (l : List α) (n i : Nat) (d : α) (h : i < n) :
    (l.take n).getD i d = l.getD i d := by
  simp [List.getD_eq_getElem?_getD, h]

theorem getD_drop {α : Type} (l : List α) (n i : Nat) (d : α) : (l.drop n).getD i d = l.getD (n + i) d := by
  simp [List.getD_eq_getElem?_getD, List.getElem?_drop]

theorem getD_replicate {α : Type} (n i : Nat) (d : α) : (List.replicate n d).getD i d = d := by
  rw [List.getD_eq_getElem?_getD, List.getElem?_replicate]; split <;> rfl

theorem getD_append_left {α : Type} (a b : List α) (i : Nat) (d : α) (h : i < a.length) :
    (a ++ b).getD i d = a.getD i d := by
  simp [List.getD_eq_getElem?_getD, List.getElem?_append_left h]

theorem getD_append_right {α : Type} (a b : List α) (i : Nat) (d : α) (h : a.length ≤ i) :
    (a ++ b).getD i d = b.getD (i - a.length) d := by
  simp [List.getD_eq_getElem?_getD, List.getElem?_append_right h]

theorem ext_getD {α : Type} (l₁ l₂ : List α) (d : α) (hlen : l₁.length = l₂.length)
    (h : ∀ i, i < l₁.length → l₁.getD i d = l₂.getD i d) : l₁ = l₂ := by
  apply List.ext_getElem hlen
  intro i h₁ h₂
  rw [← getD_of_lt l₁ i d h₁, ← getD_of_lt l₂ i d h₂]
  exact h i h₁

theorem take_drop_add {α : Type} (l : List α) (c a b : Nat) :
    (l.drop c).take a ++ (l.drop (c + a)).take b = (l.drop c).take (a + b) := by
  rw [List.take_add, List.drop_drop]

theorem length_take_drop {α : Type} (l : List α) (e n : Nat) (h : e + n ≤ l.length) : ((l.drop e).take n).length = n := by
  rw [List.length_take, List.length_drop]; omega

theorem length_append_take {α : Type} (a l : List α) (p : Nat) (hp : p ≤ l.length) :
    (a ++ l.take p).length = a.length + p := by
  rw [List.length_append, List.length_take]; omega

theorem drop_take_succ {α : Type} (l : List α) (k n : Nat) (d : α) (h : k < l.length) :
    (l.drop k).take (n + 1) = l.getD k d :: (l.drop (k + 1)).take n := by
  rw [List.drop_eq_getElem_cons h, List.take_succ_cons, getD_of_lt l k d h]

theorem take_set_succ {α : Type} (l : List α) (i : Nat) (v : α) (h : i < l.length) :
    (l.set i v).take (i + 1) = l.take i ++ [v] := by
  rw [List.take_succ_eq_append_getElem (by simpa using h), List.take_set_of_le (Nat.le_refl i)]
  simp

theorem le_sum_of_mem : ∀ (l : List Nat) (x : Nat), x ∈ l → x ≤ l.sum
  | a :: l, x, h => by
    rcases List.mem_cons.mp h with e | e
    · subst e; simp
    · have := le_sum_of_mem l x e; simp only [List.sum_cons]; omega

theorem sum_le_mul (l : List Nat) (b : Nat) (h : ∀ x ∈ l, x ≤ b) : l.sum ≤ l.length * b := by
  induction l with
  | nil => simp
  | cons x xs ih =>
    have := ih (fun y hy => h y (List.mem_cons_of_mem _ hy))
    have hx := h x (by simp)
    simp only [List.sum_cons, List.length_cons, Nat.add_mul, Nat.one_mul]
    omega

theorem getD_le_sum (l : List Nat) (i : Nat) : l.getD i 0 ≤ l.sum := by
  by_cases h : i < l.length
  · exact le_sum_of_mem l _ (getD_mem l i 0 h)
  · rw [getD_of_le l i 0 (by omega)]; exact Nat.zero_le _

theorem sum_take_le (l : List Nat) (k : Nat) : (l.take k).sum ≤ l.sum := by
  conv => rhs; rw [← List.take_append_drop k l]
  rw [List.sum_append]; omega

/-- stated without subtraction, for the callers' `omega` -/
theorem sum_map_set {α : Type} (g : α → Nat) (d : α) : ∀ (l : List α) (i : Nat) (v : α), i < l.length →
    ((l.set i v).map g).sum + g (l.getD i d) = (l.map g).sum + g v
  | [], _, _, h => by simp at h
  | a :: l, 0, v, _ => by simp; omega
  | a :: l, i + 1, v, h => by
    have := sum_map_set g d l i v (by simpa using h)
    simp only [List.set_cons_succ, List.map_cons, List.sum_cons, List.getD_cons_succ]
    omega

theorem sum_set (l : List Nat) (i v : Nat) (h : i < l.length) : (l.set i v).sum + l.getD i 0 = l.sum + v := by
  simpa using sum_map_set id 0 l i v h

/-- `Nat.shiftLeft_add_eq_or_of_lt` with the summands the way the code writes them -/
theorem or_shl (x y k : Nat) (h : x < 2 ^ k) : x ||| (y <<< k) = x + y * 2 ^ k := by
  rw [Nat.or_comm, ← Nat.shiftLeft_add_eq_or_of_lt h, Nat.shiftLeft_eq, Nat.add_comm]

theorem or_eq_add_shift (a b k : Nat) (h : a < 2 ^ k) : a ||| (b * 2 ^ k) = a + b * 2 ^ k := by
  rw [← Nat.shiftLeft_eq, or_shl a b k h, Nat.shiftLeft_eq]

theorem wrapping_sub_eq (a b m : Nat) (hb : b ≤ a) (ha : a < m) : (a + m - b % m) % m = a - b := by
  rw [Nat.mod_eq_of_lt (Nat.lt_of_le_of_lt hb ha), show a + m - b = (a - b) + m by omega, Nat.add_mod_right]
  exact Nat.mod_eq_of_lt (by omega)

/-- `a.wrapping_sub(b)` at modulus `N` with `b` written without its `% N` (the models and the translator write it so
when `b` is known to be small) -/
theorem wsub_of_le {N a b : Nat} (hb : b ≤ a) (ha : a < N) : (a + N - b) % N = a - b := by
  rw [← wrapping_sub_eq a b N hb ha, Nat.mod_eq_of_lt (Nat.lt_of_le_of_lt hb ha)]

theorem pred_mod (n m : Nat) (h1 : 1 ≤ n) (hn : n < m) : (n + m - 1) % m = n - 1 := wsub_of_le h1 hn

theorem front_eq_of_nodup {α : Type} {c : α} :
    ∀ {A A' B B' : List α}, (A ++ c :: B).Nodup → A ++ c :: B = A' ++ c :: B' → A = A'
  | [], [], _, _, _, _ => rfl
  | [], x :: A', B, B', hn, h => by
    injection h with h1 h2
    subst h1 h2
    exact absurd (List.mem_append_right _ List.mem_cons_self) (List.nodup_cons.mp hn).1
  | x :: A, [], B, B', hn, h => by
    injection h with h1 h2
    subst h1
    exact absurd (List.mem_append_right _ List.mem_cons_self) (List.nodup_cons.mp hn).1
  | x :: A, y :: A', B, B', hn, h => by
    injection h with h1 h2
    rw [h1, front_eq_of_nodup (List.nodup_cons.mp hn).2 h2]

theorem filter_take_eq {α : Type} (p : α → Bool) (l1 l2 : List α) (i j : Nat) (c : α) (h : l1.filter p = l2.filter p)
    (hn : (l1.filter p).Nodup) (h1 : l1[i]? = some c) (h2 : l2[j]? = some c) (hp : p c = true) :
    (l1.take i).filter p = (l2.take j).filter p := by
  have split : ∀ (l : List α) (i : Nat), l[i]? = some c →
      l.filter p = (l.take i).filter p ++ c :: (l.drop (i + 1)).filter p := by
    intro l i hi
    obtain ⟨hlt, rfl⟩ := List.getElem?_eq_some_iff.mp hi
    conv => lhs; rw [← List.take_append_drop i l, List.drop_eq_getElem_cons hlt]
    rw [List.filter_append, List.filter_cons_of_pos hp]
  have e1 := split l1 i h1
  rw [e1] at hn
  exact front_eq_of_nodup hn (e1.symm.trans (h.trans (split l2 j h2)))

theorem exists_cons (l : List Nat) (n : Nat) (h : n + 1 ≤ l.length) : ∃ a t, l = a :: t ∧ n ≤ t.length := by
  cases l with
  | nil => simp at h
  | cons a t => exact ⟨a, t, rfl, by simpa using h⟩

end BV
