/-
Facts about the loop combinators of the Rust-to-Lean translator (the combinators themselves are in
BV/Model/RsPrelude.lean): one-step unfoldings, the `for` loop as a fold over `List.range'` and its invariant
rule, and fuel irrelevance of `while` loops that stop (a decreasing measure bounds the iterations).
The tie modules state their loop lemmas about `forRangeAux f n i s` / `whileLoop fuel s f` with count, index and
state generalised, and prove them by induction on the count directly: `forRange_invariant` would need the
statement once more as the invariant, with the count running up instead of down.
-/
import BV.Model.RsPrelude

namespace BV.Rs

variable {σ ρ : Type}

@[simp] theorem forRangeAux_zero (f : Nat → σ → σ) (i : Nat) (s : σ) : forRangeAux f 0 i s = s := rfl
@[simp] theorem forRangeAux_succ (f : Nat → σ → σ) (n i : Nat) (s : σ) :
    forRangeAux f (n + 1) i s = forRangeAux f n (i + 1) (f i s) := rfl

theorem forRangeAux_eq_foldl (f : Nat → σ → σ) (n i : Nat) (s : σ) :
    forRangeAux f n i s = (List.range' i n).foldl (fun s i => f i s) s := by
  induction n generalizing i s with
  | zero => rfl
  | succ n ih => simp [List.range'_succ, ih]

theorem forRange_eq_foldl (lo hi : Nat) (s : σ) (f : Nat → σ → σ) :
    forRange lo hi s f = (List.range' lo (hi - lo)).foldl (fun s i => f i s) s :=
  forRangeAux_eq_foldl f _ _ _

theorem forRange_empty (lo hi : Nat) (h : hi ≤ lo) (s : σ) (f : Nat → σ → σ) : forRange lo hi s f = s := by
  unfold forRange
  rw [Nat.sub_eq_zero_of_le h]
  rfl

theorem sub_eq_succ {lo hi : Nat} (h : lo < hi) : hi - lo = hi - (lo + 1) + 1 := by omega

theorem forRange_step (lo hi : Nat) (h : lo < hi) (s : σ) (f : Nat → σ → σ) :
    forRange lo hi s f = forRange (lo + 1) hi (f lo s) f := by
  unfold forRange
  rw [sub_eq_succ h]
  rfl

theorem forRange_last (lo hi : Nat) (h : lo ≤ hi) (s : σ) (f : Nat → σ → σ) :
    forRange lo (hi + 1) s f = f hi (forRange lo hi s f) := by
  rw [forRange_eq_foldl, forRange_eq_foldl]
  have e : hi + 1 - lo = (hi - lo) + 1 := by omega
  rw [e, List.range'_concat, List.foldl_append]
  simp only [List.foldl_cons, List.foldl_nil]
  congr 1
  omega

theorem forRange_invariant (P : Nat → σ → Prop) (lo hi : Nat) (h : lo ≤ hi) (s : σ) (f : Nat → σ → σ)
    (h0 : P lo s) (hstep : ∀ i s, lo ≤ i → i < hi → P i s → P (i + 1) (f i s)) :
    P hi (forRange lo hi s f) := by
  obtain ⟨k, rfl⟩ : ∃ k, hi = lo + k := ⟨hi - lo, by omega⟩
  induction k with
  | zero => rw [forRange_empty _ _ (by omega)]; exact h0
  | succ k ih =>
    rw [show lo + (k + 1) = (lo + k) + 1 from rfl, forRange_last _ _ (by omega)]
    exact hstep _ _ (by omega) (by omega) (ih (by omega) (fun i s h1 h2 => hstep i s h1 (by omega)))

@[simp] theorem forRangeCAux_zero (f : Nat → σ → Ctl σ Empty) (i : Nat) (s : σ) : forRangeCAux f 0 i s = s := rfl
theorem forRangeCAux_succ (f : Nat → σ → Ctl σ Empty) (n i : Nat) (s : σ) :
    forRangeCAux f (n + 1) i s =
      match f i s with
      | .next s' => forRangeCAux f n (i + 1) s'
      | .brk s' => s'
      | .ret e => nomatch e := rfl

@[simp] theorem forRangeRAux_zero (f : Nat → σ → Ctl σ ρ) (i : Nat) (s : σ) : forRangeRAux f 0 i s = .done s := rfl
theorem forRangeRAux_succ (f : Nat → σ → Ctl σ ρ) (n i : Nat) (s : σ) :
    forRangeRAux f (n + 1) i s =
      match f i s with
      | .next s' => forRangeRAux f n (i + 1) s'
      | .brk s' => .done s'
      | .ret r => .ret r := rfl

theorem forRangeC_step (lo hi : Nat) (h : lo < hi) (s : σ) (f : Nat → σ → Ctl σ Empty) :
    forRangeC lo hi s f =
      match f lo s with
      | .next s' => forRangeC (lo + 1) hi s' f
      | .brk s' => s'
      | .ret e => nomatch e := by
  unfold forRangeC
  rw [sub_eq_succ h, forRangeCAux_succ]

theorem forRangeC_empty (lo hi : Nat) (h : hi ≤ lo) (s : σ) (f : Nat → σ → Ctl σ Empty) :
    forRangeC lo hi s f = s := by
  unfold forRangeC
  rw [Nat.sub_eq_zero_of_le h]
  rfl

theorem forRangeR_step (lo hi : Nat) (h : lo < hi) (s : σ) (f : Nat → σ → Ctl σ ρ) :
    forRangeR lo hi s f =
      match f lo s with
      | .next s' => forRangeR (lo + 1) hi s' f
      | .brk s' => .done s'
      | .ret r => .ret r := by
  unfold forRangeR
  rw [sub_eq_succ h, forRangeRAux_succ]

theorem forRangeR_empty (lo hi : Nat) (h : hi ≤ lo) (s : σ) (f : Nat → σ → Ctl σ ρ) :
    forRangeR lo hi s f = .done s := by
  unfold forRangeR
  rw [Nat.sub_eq_zero_of_le h]
  rfl

@[simp] theorem whileLoop_zero (s : σ) (f : σ → Ctl σ Empty) : whileLoop 0 s f = s := rfl
theorem whileLoop_succ (n : Nat) (s : σ) (f : σ → Ctl σ Empty) :
    whileLoop (n + 1) s f =
      match f s with
      | .next s' => whileLoop n s' f
      | .brk s' => s'
      | .ret e => nomatch e := rfl

@[simp] theorem whileLoopR_zero (s : σ) (f : σ → Ctl σ ρ) : whileLoopR 0 s f = .done s := rfl
theorem whileLoopR_succ (n : Nat) (s : σ) (f : σ → Ctl σ ρ) :
    whileLoopR (n + 1) s f =
      match f s with
      | .next s' => whileLoopR n s' f
      | .brk s' => .done s'
      | .ret r => .ret r := rfl

/-- unfolding with positive fuel, in the form `rw` likes -/
theorem whileLoop_pos (n : Nat) (h : 0 < n) (s : σ) (f : σ → Ctl σ Empty) :
    whileLoop n s f =
      match f s with
      | .next s' => whileLoop (n - 1) s' f
      | .brk s' => s'
      | .ret e => nomatch e := by
  obtain ⟨k, rfl⟩ : ∃ k, n = k + 1 := ⟨n - 1, by omega⟩
  rfl

theorem whileLoopR_pos (n : Nat) (h : 0 < n) (s : σ) (f : σ → Ctl σ ρ) :
    whileLoopR n s f =
      match f s with
      | .next s' => whileLoopR (n - 1) s' f
      | .brk s' => .done s'
      | .ret r => .ret r := by
  obtain ⟨k, rfl⟩ : ∃ k, n = k + 1 := ⟨n - 1, by omega⟩
  rfl

def whileStops (f : σ → Ctl σ ρ) : Nat → σ → Bool
  | 0, _ => false
  | n + 1, s =>
    match f s with
    | .next s' => whileStops f n s'
    | .brk _ => true
    | .ret _ => true

theorem whileLoopR_fuel (f : σ → Ctl σ ρ) (n m : Nat) (s : σ) (h : whileStops f n s = true) (hm : n ≤ m) :
    whileLoopR m s f = whileLoopR n s f := by
  induction n generalizing m s with
  | zero => simp [whileStops] at h
  | succ n ih =>
    obtain ⟨k, rfl⟩ : ∃ k, m = k + 1 := ⟨m - 1, by omega⟩
    rw [whileLoopR_succ, whileLoopR_succ]
    unfold whileStops at h
    cases hf : f s with
    | next s' => simp only [hf] at h ⊢; exact ih k s' h (by omega)
    | brk s' => rfl
    | ret r => rfl

theorem whileLoop_fuel (f : σ → Ctl σ Empty) (n m : Nat) (s : σ) (h : whileStops f n s = true) (hm : n ≤ m) :
    whileLoop m s f = whileLoop n s f := by
  induction n generalizing m s with
  | zero => simp [whileStops] at h
  | succ n ih =>
    obtain ⟨k, rfl⟩ : ∃ k, m = k + 1 := ⟨m - 1, by omega⟩
    rw [whileLoop_succ, whileLoop_succ]
    unfold whileStops at h
    cases hf : f s with
    | next s' => simp only [hf] at h ⊢; exact ih k s' h (by omega)
    | brk s' => rfl
    | ret r => exact nomatch r

theorem whileStops_mono (f : σ → Ctl σ ρ) : ∀ (a b : Nat) (t : σ), whileStops f a t = true → a ≤ b →
    whileStops f b t = true := by
  intro a
  induction a with
  | zero => intro b t h; simp [whileStops] at h
  | succ a iha =>
    intro b t h hab
    obtain ⟨b', rfl⟩ : ∃ b', b = b' + 1 := ⟨b - 1, by omega⟩
    unfold whileStops at h ⊢
    cases hft : f t with
    | next t' => simp only [hft] at h ⊢; exact iha b' t' h (by omega)
    | brk _ => rfl
    | ret _ => rfl

theorem whileStops_of_measure (f : σ → Ctl σ ρ) (μ : σ → Nat)
    (hdec : ∀ s s', f s = .next s' → μ s' < μ s) (s : σ) : whileStops f (μ s + 1) s = true := by
  generalize hn : μ s = n
  induction n using Nat.strongRecOn generalizing s with
  | _ n ih =>
    unfold whileStops
    cases hf : f s with
    | next s' =>
      simp only
      have hlt := hdec s s' hf
      have := ih (μ s') (by omega) s' rfl
      obtain ⟨k, hk⟩ : ∃ k, n = k + 1 := ⟨n - 1, by omega⟩
      subst hk
      have hle : μ s' + 1 ≤ k + 1 := by omega
      exact whileStops_mono f _ _ _ this hle
    | brk _ => rfl
    | ret _ => rfl

end BV.Rs
