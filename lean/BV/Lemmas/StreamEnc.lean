import BV.Lemmas.StreamBasic
import BV.Lemmas.StreamBits
/-
`encode_data` as a whole: when it succeeds, the state in its middle (behind the magic block and the
catable prelude: `encMid`, described by `EncMidOK`), what follows for the positions and the latch, and
its last part by cases on whether the payload encoder's bits are emitted (`encTakes`, `encPayload_spec`).
-/
namespace BV.Stream
open BV.Bits

theorem magicBlock_length_eq (p : Params) (w : Writer) :
    (magicBlock p w).length = (w.length + 14 + 7) / 8 * 8 + 8 * (4 + (encodeBase128 10 (p.sizeHint % two64)).length) := by
  have h3 : ∀ (c1 c2 : Prop) [Decidable c1] [Decidable c2] (a b c : Bytes), a.length = 3 → b.length = 3 → c.length = 3 →
      (if c1 then a else if c2 then b else c).length = 3 := by
    intro c1 c2 _ _ a b c ha hb hc
    split
    · exact ha
    · split
      · exact hb
      · exact hc
  unfold magicBlock
  simp only [List.length_append, padToByte_length, bytesBits_length, bitsOf_length]
  rw [h3 _ _ _ _ _ rfl rfl rfl]
  omega

theorem magicBlock_length (p : Params) (w : Writer) : (magicBlock p w).length ≤ w.length + 133 := by
  rw [magicBlock_length_eq]
  have := encodeBase128_length 10 (p.sizeHint % two64)
  omega

theorem storedBlock_length_eq (bytes : Bytes) (w : Writer) :
    (storedBlock bytes w).length = (w.length + 20 + 7) / 8 * 8 + 8 * bytes.length := by
  unfold storedBlock
  simp only [List.length_append, padToByte_length, bytesBits_length, bitsOf_length]

theorem storedBlock_length (data : Bytes) (w : Writer) : (storedBlock data w).length ≤ w.length + 27 + 8 * data.length := by
  rw [storedBlock_length_eq]; omega

theorem encMagic_wlen (s : St) (w0 : Writer) : (encMagic s w0).2.1.length ≤ w0.length + 133 := by
  unfold encMagic
  split
  · exact magicBlock_length _ _
  · simp

theorem encPrelude_wlen {s s' : St} {w w' : Writer} {hdr hdr' bytes : Nat}
    (h : encPrelude s w hdr bytes = .ok (s', w', hdr')) : w'.length ≤ w.length + 43 := by
  rcases encPrelude_ok h with ⟨rfl, _⟩ | ⟨rfl, _⟩
  · omega
  · have := storedBlock_length (preludeData s bytes) w
    have hl : (preludeData s bytes).length ≤ 2 := by
      unfold preludeData; rw [List.length_take]; omega
    omega

theorem encodeData_res {o : Oracle} {s s' : St} {site : Nat} {il ff res : Bool} {req : Req}
    (h : encodeData o s site il ff = .ok (s', res, req)) :
    (res = true ↔ (s.isLastBlockEmitted = false ∧ ¬ s.unprocessed > s.blockSize)) := by
  obtain ⟨_, hc⟩ := encodeData_ok_cases h
  rcases hc with ⟨h1, rfl, _⟩ | ⟨h1, h2, rfl, _⟩ | ⟨h1, h2, hrest⟩
  · simp [h1]
  · simp [h2]
  · have := (encRest_frame hrest).2.1
    simp [this, h1, h2]

theorem encodeData_fail {o : Oracle} {s s' : St} {site : Nat} {il ff : Bool} {req : Req}
    (h : encodeData o s site il ff = .ok (s', false, req)) :
    ∃ a l, s' = encFail s a l := by
  obtain ⟨_, hc⟩ := encodeData_ok_cases h
  rcases hc with ⟨_, _, h3⟩ | ⟨_, _, _, h3⟩ | ⟨_, _, hrest⟩
  · exact ⟨_, _, h3⟩
  · exact ⟨_, _, h3⟩
  · have := (encRest_frame hrest).2.1; simp at this

def encPre3 (m : St × Writer × Nat) (bytes : Nat) : Out (St × Writer × Nat) := encPrelude m.1 m.2.1 m.2.2 bytes

/-- where the prelude does not return, a value of no meaning that makes `encMid` total (`encMid` is only spoken of
under a successful `encode_data`) -/
def encMidOf (r : Out (St × Writer × Nat)) (s : St) : St × Writer :=
  match r with
  | .ok (s2, w, _) => (s2, w)
  | _ => (s, s.carry)

def encMid (s : St) (il : Bool) : St × Writer :=
  encMidOf (encPre3 (encMagic (encEntry s il) s.carry) (s.unprocessed % two32)) s

def Coh' (s : St) (w : Writer) (hdr : Nat) : Prop :=
  (hdr = w.length / 8 ∧ s.lastBytes = (carryOf w).1 ∧ s.lastBytesBits = (carryOf w).2) ∨ (hdr = 0 ∧ w = s.carry)

theorem encMagic_coh (s : St) :
    Coh' (encMagic s s.carry).1 (encMagic s s.carry).2.1 (encMagic s s.carry).2.2
    ∧ ∃ x, (encMagic s s.carry).2.1 = s.carry ++ x := by
  unfold encMagic
  split
  · refine ⟨Or.inl ⟨rfl, rfl, rfl⟩, ?_⟩
    unfold magicBlock padToByte
    simp only [List.append_assoc]
    exact ⟨_, rfl⟩
  · exact ⟨Or.inr ⟨rfl, rfl⟩, [], by simp⟩

theorem encPrelude_coh {s s' : St} {w w' : Writer} {hdr hdr' bytes : Nat} (hc : Coh' s w hdr)
    (h : encPrelude s w hdr bytes = .ok (s', w', hdr')) :
    Coh' s' w' hdr' ∧ ∃ x, w' = w ++ x := by
  rcases encPrelude_ok h with ⟨rfl, rfl, rfl | rfl⟩ | ⟨rfl, rfl, rfl⟩
  · exact ⟨hc, [], (List.append_nil _).symm⟩
  · exact ⟨hc, [], (List.append_nil _).symm⟩
  · refine ⟨Or.inl ⟨rfl, rfl, rfl⟩, ?_⟩
    unfold storedBlock padToByte
    simp only [List.append_assoc]
    exact ⟨_, rfl⟩

/-- either something has been written (cursor at `storage_[0]`, everything whole in `w` is header), or nothing
has (`w` is the carry) -/
def MidShape (s0 s : St) (w : Writer) (hdr : Nat) : Prop :=
  (s.nextOut = .dyn 0 ∧ hdr = w.length / 8 ∧ s.lastBytes = (carryOf w).1 ∧ s.lastBytesBits = (carryOf w).2) ∨
  (s.nextOut = s0.nextOut ∧ hdr = 0 ∧ w = s0.carry ∧ s.lastBytes = s0.lastBytes ∧ s.lastBytesBits = s0.lastBytesBits)

theorem encMagic_shape (s : St) : MidShape s (encMagic s s.carry).1 (encMagic s s.carry).2.1 (encMagic s s.carry).2.2 := by
  unfold encMagic
  split
  · exact Or.inl ⟨rfl, rfl, rfl, rfl⟩
  · exact Or.inr ⟨rfl, rfl, rfl, rfl, rfl⟩

theorem encPrelude_shape {s0 s s' : St} {w w' : Writer} {hdr hdr' bytes : Nat} (hc : MidShape s0 s w hdr)
    (h : encPrelude s w hdr bytes = .ok (s', w', hdr')) : MidShape s0 s' w' hdr' := by
  rcases encPrelude_ok h with ⟨rfl, rfl, rfl | rfl⟩ | ⟨rfl, rfl, rfl⟩
  · exact hc
  · exact hc
  · exact Or.inl ⟨rfl, rfl, rfl, rfl⟩

/-- the middle of a successful `encode_data` on `s`: state `s2`, storage bit string `w` and `catable_header_size`
`hdr` behind the prelude.  `skel`: `w` starts with the carry of `s`; `want`, `grow`: `storage_` is as large as asked
for and has not shrunk; `coh` and `out` are the two halves of `shape` that the payload step and the cursor need. -/
structure EncMidOK (s : St) (il : Bool) (s2 : St) (w : Writer) (hdr : Nat) : Prop where
  coh : Coh' s2 w hdr
  frame : s2.frame = s.frame
  pending : s2.pending = s.pending
  skel : w = s.carry ++ w.drop s.carry.length
  wlen : w.length ≤ s.lastBytesBits + 176
  pos : (s2.lastFlushPos = s.lastFlushPos ∧ s2.lastProcessedPos = s.lastProcessedPos) ∨
        (s2.lastFlushPos = s.lastFlushPos + min 2 (s.unprocessed % two32)
          ∧ s2.lastProcessedPos = s.lastProcessedPos + min 2 (s.unprocessed % two32))
  want : wantStorage s ≤ s2.storageSize
  grow : s.storageSize ≤ s2.storageSize
  nEnc : s2.nEnc = s.nEnc + 1
  latch : s2.isLastBlockEmitted = (s.isLastBlockEmitted || il)
  totalOut : s2.totalOut = s.totalOut
  out : s2.nextOut = .dyn 0 ∨ (s2.nextOut = s.nextOut ∧ hdr = 0 ∧ s2.lastBytesBits = s.lastBytesBits)
  shape : MidShape s s2 w hdr

theorem encMid_eq {o : Oracle} {s s' : St} {site : Nat} {il ff : Bool} {req : Req}
    (h : encodeData o s site il ff = .ok (s', true, req)) :
    ∃ s2 w hdr, encPrelude (encMagic (encEntry s il) s.carry).1 (encMagic (encEntry s il) s.carry).2.1
        (encMagic (encEntry s il) s.carry).2.2 (s.unprocessed % two32) = .ok (s2, w, hdr)
      ∧ encMid s il = (s2, w)
      ∧ encPayload s2 (o s.nEnc (reqOf s site il ff)) s.carry w hdr il ff = .ok (s', true) := by
  obtain ⟨_, _, _, s2, w, hdr, hpre, hpay⟩ := encodeData_ok h
  unfold encPre at hpre
  refine ⟨s2, w, hdr, hpre, ?_, hpay⟩
  unfold encMid encPre3
  rw [hpre]
  rfl

theorem encodeData_spec {o : Oracle} {s s' : St} {site : Nat} {il ff : Bool} {req : Req}
    (h : encodeData o s site il ff = .ok (s', true, req)) :
    req = reqOf s site il ff ∧ s.isLastBlockEmitted = false ∧
    ∃ hdr, EncMidOK s il (encMid s il).1 (encMid s il).2 hdr ∧
      encPayload (encMid s il).1 (o s.nEnc (reqOf s site il ff)) s.carry (encMid s il).2 hdr il ff = .ok (s', true) := by
  obtain ⟨hreq, hle, _⟩ := encodeData_ok h
  obtain ⟨s2, w, hdr, hpre, hmid, hrest⟩ := encMid_eq h
  rw [hmid]
  refine ⟨hreq, hle, hdr, ?_, hrest⟩
  show EncMidOK s il s2 w hdr
  obtain ⟨eFrame, eLastFlushPos, eLastProcessedPos, eLatch, ePending, eNextOut, _, eLastBytes, eLastBytesBits, eTotalOut,
    eNEnc, eGrow, eWant⟩ := encEntry_fields s il
  have m := encMagic_frame (encEntry s il) s.carry
  have p := encPrelude_frame hpre
  have hcar : (encEntry s il).carry = s.carry := by rw [encEntry_eq]; rfl
  have hm := encMagic_coh (encEntry s il)
  rw [hcar] at hm
  obtain ⟨hcoh, x1, hx1⟩ := hm
  obtain ⟨hcoh2, x2, hx2⟩ := encPrelude_coh hcoh hpre
  have hw : w = s.carry ++ (x1 ++ x2) := by rw [hx2, hx1, List.append_assoc]
  have hml := encMagic_wlen (encEntry s il) s.carry
  have hpl := encPrelude_wlen hpre
  have hcl := s.carry_length
  have hshape : MidShape s s2 w hdr := by
    have hsh := encMagic_shape (encEntry s il)
    rw [hcar] at hsh
    rcases encPrelude_shape hsh hpre with ⟨a, b, c, d⟩ | ⟨a, b, c, d, e⟩
    · exact Or.inl ⟨a, b, c, d⟩
    · exact Or.inr ⟨a.trans eNextOut, b, c.trans hcar, d.trans eLastBytes, e.trans eLastBytesBits⟩
  exact {
    coh := hcoh2
    frame := p.frame.trans (m.frame.trans eFrame)
    pending := p.pending.trans (m.pending.trans ePending)
    skel := by rw [hw, List.drop_append_of_le_length (Nat.le_refl _), List.drop_of_length_le (Nat.le_refl _)]; rfl
    -- 176 = 133 (magic-number block) + 43 (stored block of the at most 2 prelude bytes)
    wlen := by rw [hcl] at hml; omega
    pos := by
      rcases encPrelude_pos hpre with ⟨q1, q2⟩ | ⟨q1, q2⟩
      · exact Or.inl ⟨q1.trans (m.lastFlushPos.trans eLastFlushPos), q2.trans (m.lastProcessedPos.trans eLastProcessedPos)⟩
      · exact Or.inr ⟨by rw [q1, m.lastFlushPos, eLastFlushPos], by rw [q2, m.lastProcessedPos, eLastProcessedPos]⟩
    want := by rw [p.storageSize, m.storageSize]; exact eWant
    grow := by rw [p.storageSize, m.storageSize]; exact eGrow
    nEnc := p.nEnc.trans (m.nEnc.trans eNEnc)
    latch := p.isLastBlockEmitted.trans (m.isLastBlockEmitted.trans eLatch)
    totalOut := p.totalOut.trans (m.totalOut.trans eTotalOut)
    out := hshape.imp (·.1) (fun a => ⟨a.1, a.2.1, a.2.2.2.2⟩)
    shape := hshape }

theorem EncMidOK.moved {s s2 : St} {il : Bool} {w : Writer} {hdr : Nat} (h : EncMidOK s il s2 w hdr) :
    ∃ n, n ≤ s.unprocessed ∧ s2.lastFlushPos = s.lastFlushPos + n ∧ s2.lastProcessedPos = s.lastProcessedPos + n := by
  rcases h.pos with ⟨p1, p2⟩ | ⟨p1, p2⟩
  · exact ⟨0, Nat.zero_le _, p1, p2⟩
  · exact ⟨_, Nat.le_trans (Nat.min_le_right _ _) (Nat.mod_le _ _), p1, p2⟩

theorem encodeData_latch {o : Oracle} {s s' : St} {site : Nat} {il ff : Bool} {req : Req}
    (h : encodeData o s site il ff = .ok (s', true, req)) :
    s'.isLastBlockEmitted = il := by
  obtain ⟨_, hle, hdr, hM, hpay⟩ := encodeData_spec h
  rw [(encPayload_frame hpay).isLastBlockEmitted, hM.latch, hle]
  rfl

theorem pos_arith {lf lp ip n lf1 lp1 lf' lp' : Nat}
    (h1 : lf ≤ lp) (h2 : lp ≤ ip) (hn : n ≤ ip - lp)
    (p1 : lf1 = lf + n) (p2 : lp1 = lp + n)
    (q1 : lf' = lf1 ∨ lf' = ip) (q2 : lp' = lp1 ∨ lp' = ip)
    (q3 : lf' = ip → lp' = ip ∨ ip = lf1) :
    lf' ≤ lp' ∧ lp ≤ lp' ∧ lp' ≤ ip ∧ lf ≤ lf' := by
  subst p1 p2
  rcases q1 with q1 | q1 <;> rcases q2 with q2 | q2
  · subst q1 q2; omega
  · subst q1 q2; omega
  · have := q3 q1; subst q2; omega
  · subst q1 q2; omega

theorem encodeData_pos {o : Oracle} {s s' : St} {site : Nat} {il ff : Bool} {req : Req}
    (h : encodeData o s site il ff = .ok (s', true, req))
    (h1 : s.lastFlushPos ≤ s.lastProcessedPos) (h2 : s.lastProcessedPos ≤ s.inputPos) (h3 : s.inputPos < two64) :
    s'.lastFlushPos ≤ s'.lastProcessedPos ∧ s.lastProcessedPos ≤ s'.lastProcessedPos
    ∧ s'.lastProcessedPos ≤ s.inputPos ∧ s.lastFlushPos ≤ s'.lastFlushPos := by
  obtain ⟨_, _, hdr, hM, hpay⟩ := encodeData_spec h
  obtain ⟨n, hn, p1, p2⟩ := hM.moved
  have hu : s.unprocessed = s.inputPos - s.lastProcessedPos := wsub64_eq h2 h3
  obtain ⟨q1, q2, q3⟩ := encPayload_pos hpay
  rw [(St.frame_eq hM.frame).inputPos] at q1 q2 q3
  exact pos_arith h1 h2 (hu ▸ hn) p1 p2 q1 q2 q3

theorem encPayload_q01 {s s' : St} {ans : Ans} {w0 w : Writer} {hdr : Nat} {il ff res : Bool}
    (h : encPayload s ans w0 w hdr il ff = .ok (s', res))
    (hq : s.params.quality = 0 ∨ s.params.quality = 1) (heq : s.lastFlushPos = s.lastProcessedPos) :
    s'.lastFlushPos = s'.lastProcessedPos := by
  obtain ⟨_, _, ⟨_, _, ⟨rfl, _⟩ | ⟨rfl, hnq, _⟩⟩ | ⟨_, rfl, _⟩⟩ := encPayload_ok h
  · exact heq
  · exact absurd hq hnq
  · rfl

theorem encPayload_forced {s s' : St} {ans : Ans} {w0 w : Writer} {hdr : Nat} {il ff res : Bool}
    (h : encPayload s ans w0 w hdr il ff = .ok (s', res)) (hf : il = true ∨ ff = true)
    (h2 : s.lastProcessedPos ≤ s.inputPos) (h3 : s.inputPos < two64)
    (hq : (s.params.quality = 0 ∨ s.params.quality = 1) → s.lastFlushPos = s.lastProcessedPos) :
    s'.lastFlushPos = s.inputPos := by
  have hu : s.unprocessed = s.inputPos - s.lastProcessedPos := wsub64_eq h2 h3
  obtain ⟨_, _, ⟨hil, _, ⟨rfl, hc⟩ | ⟨rfl, _, hff, _⟩⟩ | ⟨_, rfl, _⟩⟩ := encPayload_ok h
  · show s.lastFlushPos = s.inputPos
    rcases hc with ⟨hq', hz⟩ | ⟨_, he⟩
    · have := hq hq'; omega
    · exact he.symm
  · rcases hf with hf | hf
    · rw [hil] at hf; cases hf
    · rw [hff] at hf; cases hf
  · rfl

theorem encodeData_q01 {o : Oracle} {s s' : St} {site : Nat} {il ff : Bool} {req : Req}
    (h : encodeData o s site il ff = .ok (s', true, req))
    (hq : s.params.quality = 0 ∨ s.params.quality = 1) (heq : s.lastFlushPos = s.lastProcessedPos) :
    s'.lastFlushPos = s'.lastProcessedPos := by
  obtain ⟨_, _, hdr, hM, hpay⟩ := encodeData_spec h
  obtain ⟨n, _, p1, p2⟩ := hM.moved
  exact encPayload_q01 hpay (by rw [(St.frame_eq hM.frame).params]; exact hq) (by omega)

theorem encodeData_forced {o : Oracle} {s s' : St} {site : Nat} {il ff : Bool} {req : Req}
    (h : encodeData o s site il ff = .ok (s', true, req)) (hf : il = true ∨ ff = true)
    (h2 : s.lastProcessedPos ≤ s.inputPos) (h3 : s.inputPos < two64)
    (hq : (s.params.quality = 0 ∨ s.params.quality = 1) → s.lastFlushPos = s.lastProcessedPos) :
    s'.lastFlushPos = s.inputPos := by
  obtain ⟨_, _, hdr, hM, hpay⟩ := encodeData_spec h
  obtain ⟨n, hn, p1, p2⟩ := hM.moved
  have hu : s.unprocessed = s.inputPos - s.lastProcessedPos := wsub64_eq h2 h3
  obtain ⟨fp, fi, _⟩ := St.frame_eq hM.frame
  rw [← fi]
  exact encPayload_forced hpay hf (by omega) (by rw [fi]; exact h3)
    (by rw [fp]; intro hh; have := hq hh; omega)

/-- are the payload encoder's bits emitted by this invocation (or only the skeleton's)? -/
def encTakes (s : St) (ans : Ans) (il ff : Bool) : Bool :=
  if s.params.quality = 0 ∨ s.params.quality = 1 then !(decide (s.unprocessed = 0) && !il)
  else !((!il && !ff && !ans.emit) || (!il && decide (s.inputPos = s.lastFlushPos)))

theorem encTakes_q01 {s : St} (ans : Ans) (il ff : Bool) (hq : s.params.quality = 0 ∨ s.params.quality = 1) :
    encTakes s ans il ff = !(decide (s.unprocessed = 0) && !il) := by
  unfold encTakes; rw [if_pos hq]

theorem encTakes_slow {s : St} (ans : Ans) (il ff : Bool) (hq : ¬ (s.params.quality = 0 ∨ s.params.quality = 1)) :
    encTakes s ans il ff = !((!il && !ff && !ans.emit) || (!il && decide (s.inputPos = s.lastFlushPos))) := by
  unfold encTakes; rw [if_neg hq]

theorem encPayload_spec {s s' : St} {ans : Ans} {w0 w : Writer} {hdr : Nat} {il ff res : Bool}
    (h : encPayload s ans w0 w hdr il ff = .ok (s', res)) :
    res = true ∧ w.length / 8 + 2 ≤ s.storageSize ∧
    ((encTakes s ans il ff = false ∧ s'.pending = (wholeBytes w).take hdr ∧ s'.lastBytes = s.lastBytes
        ∧ s'.lastBytesBits = s.lastBytesBits ∧ s'.lastFlushPos = s.lastFlushPos
        ∧ (s'.lastProcessedPos = s.lastProcessedPos ∨ s'.lastProcessedPos = s.inputPos)
        ∧ s'.nextOut = s.nextOut) ∨
     (encTakes s ans il ff = true ∧ s'.pending = wholeBytes (payBits ans w0 w)
        ∧ s'.lastBytes = (carryOf (payBits ans w0 w)).1 ∧ s'.lastBytesBits = (carryOf (payBits ans w0 w)).2
        ∧ s'.lastFlushPos = s.inputPos ∧ s'.lastProcessedPos = s.inputPos ∧ s'.nextOut = .dyn 0
        ∧ (payBits ans w0 w).length / 8 + 2 ≤ s.storageSize)) := by
  obtain ⟨hr, h0, ⟨hil, ob, ⟨rfl, hc⟩ | ⟨rfl, hnq, hff, hem⟩⟩ | ⟨ob, rfl, hb, hc⟩⟩ := encPayload_ok h
  · refine ⟨hr, h0, Or.inl ⟨?_, rfl, rfl, rfl, rfl, Or.inl rfl, rfl⟩⟩
    rcases hc with ⟨hq, hz⟩ | ⟨hq, he⟩
    · rw [encTakes_q01 _ _ _ hq, hil, decide_eq_true hz]; rfl
    · rw [encTakes_slow _ _ _ hq, hil, decide_eq_true he]; simp
  · refine ⟨hr, h0, Or.inl ⟨?_, rfl, rfl, rfl, rfl, Or.inr rfl, rfl⟩⟩
    rw [encTakes_slow _ _ _ hnq, hil, hff, hem]; rfl
  · refine ⟨hr, h0, Or.inr ⟨?_, rfl, rfl, rfl, rfl, rfl, rfl, hb⟩⟩
    rcases hc with ⟨hq, hz⟩ | ⟨hq, ha, hf⟩
    · rw [encTakes_q01 _ _ _ hq]
      cases il <;> simp_all
    · rw [encTakes_slow _ _ _ hq]
      cases il <;> cases ff <;> simp_all

end BV.Stream
