/-
C01 / meta-block writers: executable forms of the hypotheses of `full_metablock_roundtrip`
(`Covers`, `faithful`, `HistosOK`), for non-vacuity examples.
-/
import BV.Lemmas.MetaBlockFullAsm

namespace BV.MetaBlock
open BV.Gen BV.Bits BV.Huffman BV.PrefixArith BV.Recoder

def coversB (histos : List (List Nat)) (eff : List Nat) (m : Nat) : List Nat → List (Nat × Nat) → Bool
  | _, [] => true
  | [], _ :: _ => false
  | t :: ts, (ctx, sym) :: ss =>
    decide ((histos.getD (eff.getD (t * m + ctx) 0) []).getD sym 0 ≠ 0) && coversB histos eff m ts ss

theorem covers_of_B (histos : List (List Nat)) (eff : List Nat) (m : Nat) : ∀ (ts : List Nat) (ss : List (Nat × Nat)),
    coversB histos eff m ts ss = true → Covers histos eff m ts ss := by
  intro ts ss
  induction ss generalizing ts with
  | nil => intro _; cases ts <;> trivial
  | cons s ss ih =>
    intro h
    obtain ⟨ctx, sym⟩ := s
    cases ts with
    | nil => simp [coversB] at h
    | cons t ts =>
      simp only [coversB, Bool.and_eq_true, decide_eq_true_eq] at h
      exact ⟨h.1, ih ts h.2⟩

def faithfulB (wo : WordOracle) (np nd window : Nat) (mb hist : Bytes) : DecSt → List Cmd → Bool
  | _, [] => true
  | s, c :: cs =>
    match decStep wo np nd window mb s c with
    | none => false
    | some s' => decide (s'.out = hist ++ mb.take s'.cursor) && faithfulB wo np nd window mb hist s' cs

theorem faithful_of_B (wo : WordOracle) (np nd window : Nat) (mb hist : Bytes) : ∀ (cs : List Cmd) (s : DecSt),
    faithfulB wo np nd window mb hist s cs = true → faithful wo np nd window mb hist s cs := by
  intro cs
  induction cs with
  | nil => intro s _; trivial
  | cons c cs ih =>
    intro s h
    simp only [faithfulB] at h
    simp only [faithful]
    cases hd : decStep wo np nd window mb s c with
    | none => rw [hd] at h; cases h
    | some s' =>
      rw [hd] at h
      simp only [Bool.and_eq_true, decide_eq_true_eq] at h ⊢
      exact ⟨h.1, ih s' h.2⟩

def histosB (histos : List (List Nat)) (size H A : Nat) : Bool :=
  decide (size ≤ histos.length) && decide (1 ≤ size) && decide (size ≤ 256) &&
    (List.range size).all fun i => decide (H ≤ (histos.getD i []).length) && decide ((histos.getD i []).sum ≤ 2 ^ 25) &&
      (List.range (histos.getD i []).length).all fun k => decide (k < A) || decide ((histos.getD i []).getD k 0 = 0)

theorem histosOK_of_B (histos : List (List Nat)) (size H A : Nat) (h : histosB histos size H A = true) :
    HistosOK histos size H A := by
  simp only [histosB, Bool.and_eq_true, decide_eq_true_eq, List.all_eq_true, List.mem_range, Bool.or_eq_true] at h
  obtain ⟨⟨⟨h1, h2⟩, h3⟩, h4⟩ := h
  refine ⟨h1, h2, h3, fun i hi => ?_⟩
  obtain ⟨⟨a, b⟩, c⟩ := h4 i hi
  refine ⟨a, b, fun k hk => ?_⟩
  rcases Nat.lt_or_ge k (histos.getD i []).length with hl | hl
  · rcases c k hl with h5 | h5
    · omega
    · exact h5
  · rw [List.getD_eq_getElem?_getD, List.getElem?_eq_none hl]; rfl

/-- `HistosOK` through bounded quantifiers only (linear to evaluate: the entries from `A` on are `x.drop A`) -/
theorem histosOK_of_forall (histos : List (List Nat)) (size H A : Nat) (h1 : size ≤ histos.length) (h2 : 1 ≤ size)
    (h3 : size ≤ 256) (h : ∀ x ∈ histos.take size, H ≤ x.length ∧ x.sum ≤ 2 ^ 25 ∧ ∀ y ∈ x.drop A, y = 0) :
    HistosOK histos size H A := by
  refine ⟨h1, h2, h3, fun i hi => ?_⟩
  have hx : histos.getD i [] ∈ histos.take size := by
    rw [List.getD_eq_getElem?_getD, List.getElem?_eq_getElem (by omega), Option.getD_some]
    exact List.mem_take_iff_getElem.mpr ⟨i, by omega, rfl⟩
  obtain ⟨a, b, c⟩ := h _ hx
  refine ⟨a, b, fun k hk => ?_⟩
  rw [List.getD_eq_getElem?_getD]
  rcases Nat.lt_or_ge k (histos.getD i []).length with hl | hl
  · rw [List.getElem?_eq_getElem hl]
    exact c _ (List.mem_drop_iff_getElem.mpr ⟨k - A, by omega, by simp [show A + (k - A) = k by omega]⟩)
  · rw [List.getElem?_eq_none hl]; rfl

end BV.MetaBlock
