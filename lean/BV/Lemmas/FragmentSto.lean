/-
The storage.  `BrotliWriteBits` of the two fragment files on the real byte array (OR into the partial byte, store 8
bytes) is "append `n` bits" (`Wr`) exactly when (W1) the partial byte at the write position has no bits at or above the
position (`Good.clean`) and (W2) 8 bytes are left and the value fits in `n ≤ 56` bits.
-/
import BV.Model.Fragment
import BV.Lemmas.Bits

namespace BV.Fragment
open BV.Bits

theorem getD_setIfInBounds (a : Array Nat) (i j v : Nat) :
    (a.setIfInBounds i v).getD j 0 = if i = j ∧ i < a.size then v else a.getD j 0 := by
  simp only [Array.getD_eq_getD_getElem?, Array.getElem?_setIfInBounds]
  by_cases h : i = j
  · subst h
    by_cases h2 : i < a.size
    · simp [h2]
    · simp [h2]
  · simp [h]

theorem store64_size (a : Array Nat) (off v : Nat) : (store64 a off v).size = a.size := by
  simp [store64]

def wordByte (v k : Nat) : Nat := v / 2 ^ (8 * k) % 256

theorem store64_get_in (a : Array Nat) (off v k : Nat) (hk : k < 8) (h : off + 8 ≤ a.size) :
    (store64 a off v).getD (off + k) 0 = wordByte v k := by
  have e0 : wordByte v 0 = v % 256 := by simp [wordByte]
  have e1 : wordByte v 1 = v / 256 % 256 := by simp [wordByte]
  have e2 : wordByte v 2 = v / 65536 % 256 := by simp [wordByte]
  have e3 : wordByte v 3 = v / 16777216 % 256 := by simp [wordByte]
  have e4 : wordByte v 4 = v / 4294967296 % 256 := by simp [wordByte]
  have e5 : wordByte v 5 = v / 1099511627776 % 256 := by simp [wordByte]
  have e6 : wordByte v 6 = v / 281474976710656 % 256 := by simp [wordByte]
  have e7 : wordByte v 7 = v / 72057594037927936 % 256 := by simp [wordByte]
  simp only [store64, getD_setIfInBounds, Array.size_setIfInBounds]
  have : k = 0 ∨ k = 1 ∨ k = 2 ∨ k = 3 ∨ k = 4 ∨ k = 5 ∨ k = 6 ∨ k = 7 := by omega
  rcases this with rfl | rfl | rfl | rfl | rfl | rfl | rfl | rfl
  · rw [e0]; simp; omega
  · rw [e1]; simp; omega
  · rw [e2]; simp; omega
  · rw [e3]; simp; omega
  · rw [e4]; simp; omega
  · rw [e5]; simp; omega
  · rw [e6]; simp; omega
  · rw [e7]; simp; omega

theorem store64_get_out (a : Array Nat) (off v j : Nat) (h : j < off ∨ off + 8 ≤ j) :
    (store64 a off v).getD j 0 = a.getD j 0 := by
  simp only [store64, getD_setIfInBounds, Array.size_setIfInBounds]
  repeat (rw [if_neg (by omega)])

def bitAt (a : Array Nat) (i : Nat) : Bool := (a.getD (i / 8) 0).testBit (i % 8)

def Sto.bits (s : Sto) : List Bool := (List.range s.ix).map (bitAt s.bytes)

theorem bitsOf_eq (n v : Nat) : bitsOf n v = (List.range n).map v.testBit := by
  induction n generalizing v with
  | zero => rfl
  | succ n ih =>
    rw [List.range_succ_eq_map, List.map_cons, List.map_map, bitsOf, ih]
    congr 1
    · cases hv : v % 2 == 1 <;> simp_all [Nat.testBit_zero]
    · apply List.map_congr_left
      intro i _
      simp [Nat.testBit_succ]

theorem bitAt_store64_in (a : Array Nat) (off v i : Nat) (h : off + 8 ≤ a.size)
    (h1 : 8 * off ≤ i) (h2 : i < 8 * off + 64) :
    bitAt (store64 a off v) i = v.testBit (i - 8 * off) := by
  unfold bitAt
  obtain ⟨k, hk, hik⟩ : ∃ k, k < 8 ∧ i / 8 = off + k := ⟨i / 8 - off, by omega, by omega⟩
  rw [hik, store64_get_in a off v k hk h, wordByte]
  have e : (256 : Nat) = 2 ^ 8 := by decide
  rw [e, Nat.testBit_mod_two_pow, Nat.testBit_div_two_pow]
  have : i % 8 < 8 := Nat.mod_lt _ (by decide)
  simp only [this, decide_true, Bool.true_and]
  congr 1
  omega

theorem bitAt_store64_out (a : Array Nat) (off v i : Nat) (h : i < 8 * off ∨ 8 * off + 64 ≤ i) :
    bitAt (store64 a off v) i = bitAt a i := by
  unfold bitAt
  rw [store64_get_out a off v (i / 8) (by omega)]

/-- `clean` is (W1) of `BV.Bits`; `small` (`2^60` bytes) keeps `storage_ix` from wrapping -/
structure Good (s : Sto) : Prop where
  clean : s.bytes.getD (s.ix / 8) 0 < 2 ^ (s.ix % 8)
  small : s.bytes.size < 1152921504606846976

structure Wr (s s' : Sto) (bs : List Bool) : Prop where
  ix : s'.ix = s.ix + bs.length
  size : s'.bytes.size = s.bytes.size
  bits : s'.bits = s.bits ++ bs
  good : Good s'

theorem Wr.refl (s : Sto) (h : Good s) : Wr s s [] := ⟨by simp, rfl, by simp, h⟩

theorem Wr.trans {s s' s'' : Sto} {a b : List Bool} (h1 : Wr s s' a) (h2 : Wr s' s'' b) :
    Wr s s'' (a ++ b) :=
  ⟨by rw [h2.ix, h1.ix, List.length_append]; omega, by rw [h2.size, h1.size],
   by rw [h2.bits, h1.bits, List.append_assoc], h2.good⟩

theorem word_lt (old v k n : Nat) (ho : old < 2 ^ k) (hv : v < 2 ^ n) : old ||| v <<< k < 2 ^ (k + n) := by
  apply Nat.or_lt_two_pow
  · exact Nat.lt_of_lt_of_le ho (Nat.pow_le_pow_right (by decide) (by omega))
  · rw [Nat.shiftLeft_eq, Nat.add_comm, Nat.pow_add]
    exact Nat.mul_lt_mul_of_lt_of_le hv (Nat.le_refl _) (Nat.pow_pos (by decide))

theorem wordByte_lt (w j r : Nat) (h : w < 2 ^ (8 * j + r)) : wordByte w j < 2 ^ r := by
  unfold wordByte
  rw [Nat.pow_add] at h
  have hd : w / 2 ^ (8 * j) < 2 ^ r :=
    (Nat.div_lt_iff_lt_mul (Nat.pow_pos (by decide))).mpr (by rw [Nat.mul_comm]; exact h)
  exact Nat.lt_of_le_of_lt (Nat.mod_le _ _) hd

theorem shift_mod (v k n : Nat) (hv : v < 2 ^ n) (hkn : n + k ≤ 64) : (v * 2 ^ k) % two64 = v <<< k := by
  rw [Nat.shiftLeft_eq]
  apply Nat.mod_eq_of_lt
  have h1 : v * 2 ^ k < 2 ^ n * 2 ^ k :=
    Nat.mul_lt_mul_of_lt_of_le hv (Nat.le_refl _) (Nat.pow_pos (by decide))
  rw [← Nat.pow_add] at h1
  have h2 : 2 ^ (n + k) ≤ 2 ^ 64 := Nat.pow_le_pow_right (by decide) hkn
  exact Nat.lt_of_lt_of_le h1 h2

theorem ix_mod (x : Nat) (h : x < 9223372036854775808) : x % two64 = x :=
  Nat.mod_eq_of_lt (Nat.lt_trans h (by decide))

theorem Sto.writeBits_ok (n v : Nat) (s : Sto) (hg : Good s) (hv : v < 2 ^ n) (hn : n ≤ 56)
    (hroom : (s.ix + n) / 8 + 8 ≤ s.bytes.size) :
    ∃ s', writeBits n v s = .ok s' ∧ Wr s s' (bitsOf n v) := by
  have hsz := hg.small
  have hoff : s.ix / 8 + 8 ≤ s.bytes.size := by
    have : s.ix / 8 ≤ (s.ix + n) / 8 := Nat.div_le_div_right (by omega)
    omega
  have hk : s.ix % 8 < 8 := Nat.mod_lt _ (by decide)
  have hshift := shift_mod v (s.ix % 8) n hv (by omega)
  have hixm : (s.ix + n) % two64 = s.ix + n := ix_mod _ (by omega)
  have hA : ∀ i, i < s.ix → bitAt (store64 s.bytes (s.ix / 8) (s.bytes.getD (s.ix / 8) 0 ||| v <<< (s.ix % 8))) i
      = bitAt s.bytes i := by
    intro i hi
    by_cases hlow : i < 8 * (s.ix / 8)
    · exact bitAt_store64_out _ _ _ _ (Or.inl hlow)
    · rw [bitAt_store64_in _ _ _ _ hoff (by omega) (by omega), Nat.testBit_or, Nat.testBit_shiftLeft]
      have : ¬ (i - 8 * (s.ix / 8) ≥ s.ix % 8) := by omega
      simp only [this, decide_false, Bool.false_and, Bool.or_false]
      unfold bitAt
      have e1 : i / 8 = s.ix / 8 := by omega
      have e2 : i - 8 * (s.ix / 8) = i % 8 := by omega
      rw [e1, e2]
  have hB : ∀ t, t < n → bitAt (store64 s.bytes (s.ix / 8) (s.bytes.getD (s.ix / 8) 0 ||| v <<< (s.ix % 8))) (s.ix + t)
      = v.testBit t := by
    intro t ht
    rw [bitAt_store64_in _ _ _ _ hoff (by omega) (by omega), Nat.testBit_or, Nat.testBit_shiftLeft]
    have e : s.ix + t - 8 * (s.ix / 8) = s.ix % 8 + t := by omega
    rw [e]
    have hold : (s.bytes.getD (s.ix / 8) 0).testBit (s.ix % 8 + t) = false := by
      apply Nat.testBit_lt_two_pow
      exact Nat.lt_of_lt_of_le hg.clean (Nat.pow_le_pow_right (by decide) (by omega))
    rw [hold]
    simp
  have hC : (store64 s.bytes (s.ix / 8) (s.bytes.getD (s.ix / 8) 0 ||| v <<< (s.ix % 8))).getD ((s.ix + n) / 8) 0
      < 2 ^ ((s.ix + n) % 8) := by
    obtain ⟨k, hk8, hke⟩ : ∃ k, k < 8 ∧ (s.ix + n) / 8 = s.ix / 8 + k :=
      ⟨(s.ix + n) / 8 - s.ix / 8, by omega, by
        have : s.ix / 8 ≤ (s.ix + n) / 8 := Nat.div_le_div_right (by omega)
        omega⟩
    rw [hke, store64_get_in _ _ _ k hk8 hoff]
    have hw := word_lt _ v (s.ix % 8) n hg.clean hv
    have hsplit : s.ix % 8 + n = 8 * k + (s.ix + n) % 8 := by omega
    rw [hsplit] at hw
    exact wordByte_lt _ _ _ hw
  have hD := store64_size s.bytes (s.ix / 8) (s.bytes.getD (s.ix / 8) 0 ||| v <<< (s.ix % 8))
  have hE : writeBits n v s = .ok ⟨store64 s.bytes (s.ix / 8) (s.bytes.getD (s.ix / 8) 0 ||| v <<< (s.ix % 8)), s.ix + n⟩ := by
    unfold writeBits
    rw [if_neg (by omega)]
    simp only [hshift, hixm]
  obtain ⟨B, hBdef⟩ : ∃ B, B = store64 s.bytes (s.ix / 8) (s.bytes.getD (s.ix / 8) 0 ||| v <<< (s.ix % 8)) := ⟨_, rfl⟩
  rw [← hBdef] at hA hB hC hD hE
  refine ⟨⟨B, s.ix + n⟩, hE, ?_⟩
  have hlen := bitsOf_length n v
  refine ⟨by simp [hlen], hD, ?_, ⟨hC, by rw [hD]; exact hsz⟩⟩
  simp only [Sto.bits]
  rw [List.range_add, List.map_append, bitsOf_eq, List.map_map]
  have h1 : List.map (bitAt B) (List.range s.ix) = List.map (bitAt s.bytes) (List.range s.ix) :=
    List.map_congr_left (fun i hi => hA i (List.mem_range.mp hi))
  have h2 : List.map (bitAt B ∘ fun x => s.ix + x) (List.range n) = List.map v.testBit (List.range n) :=
    List.map_congr_left (fun t ht => hB t (List.mem_range.mp ht))
  rw [h1, h2]

end BV.Fragment
