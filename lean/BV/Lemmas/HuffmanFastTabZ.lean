/-
C17: the precomputed table `kZeroRepsDepth/Bits` of the fast builder is, entry by entry,
what `BrotliWriteHuffmanTreeRepetitionsZeros` emits written with the static code-length
code (kernel-checked for all 704 run lengths).  Rows are compared as numbers: `isPacked`
peels `(width, value)` chunks off a row, `bitsOf_isPacked` ties that to the bit lists.
-/
import BV.Lemmas.HuffmanStoreIO

namespace BV.Lemmas.HuffmanFastTab
open BV.Gen BV.Bits BV.Huffman BV.Lemmas.HuffmanStoreIO

/-- `repDigits` with fuel (kernel-evaluable) -/
def repDigitsF (bits : Nat) : Nat → Nat → List Nat
  | 0, r => [r % 2 ^ bits]
  | f + 1, r => r % 2 ^ bits :: (if r / 2 ^ bits = 0 then [] else repDigitsF bits f (r / 2 ^ bits - 1))

theorem repDigitsF_eq (bits : Nat) (hb : 1 ≤ bits) :
    ∀ (f r : Nat), r < 2 ^ f → repDigitsF bits f r = repDigits bits r := by
  intro f
  induction f with
  | zero =>
    intro r hr
    have : r = 0 := by simpa using hr
    subst this
    rw [repDigits]; simp [repDigitsF]
  | succ f ih =>
    intro r hr
    rw [repDigits]
    simp only [repDigitsF]
    by_cases hq : r / 2 ^ bits = 0
    · simp [hq]
    · simp only [hq, ↓reduceIte, ↓reduceDIte]
      rw [ih]
      have h2 : 2 ^ 1 ≤ 2 ^ bits := Nat.pow_le_pow_right (by decide) hb
      have hle : r / 2 ^ bits ≤ r / 2 ^ 1 := Nat.div_le_div_left h2 (by decide)
      rw [Nat.pow_succ] at hr
      simp only [Nat.pow_one] at hle
      omega

def isPacked : List (Nat × Nat) → Nat → Nat → Bool
  | [], d, b => d == 0 && b == 0
  | (n, v) :: cs, d, b => decide (n ≤ d) && b % 2 ^ n == v && isPacked cs (d - n) (b / 2 ^ n)

theorem bitsOf_add_mul (n b : Nat) : ∀ (m v : Nat), v < 2 ^ m →
    bitsOf (m + n) (v + b * 2 ^ m) = bitsOf m v ++ bitsOf n b := by
  intro m
  induction m with
  | zero => intro v hv; simp at hv; subst hv; simp [bitsOf]
  | succ m ih =>
    intro v hv
    have e : m + 1 + n = (m + n) + 1 := by omega
    rw [e, bitsOf, bitsOf, List.cons_append, ← ih (v / 2) (by rw [Nat.pow_succ] at hv; omega),
      Nat.pow_succ, ← Nat.mul_assoc]
    congr 2 <;> omega

theorem bitsOf_isPacked : ∀ (cs : List (Nat × Nat)) (d b : Nat), isPacked cs d b = true →
    b < 2 ^ d ∧ bitsOf d b = (cs.map fun c => bitsOf c.1 c.2).flatten := by
  intro cs
  induction cs with
  | nil =>
    intro d b h
    simp only [isPacked, Bool.and_eq_true, beq_iff_eq] at h
    rw [h.1, h.2]; exact ⟨by decide, rfl⟩
  | cons c cs ih =>
    intro d b h
    obtain ⟨n, v⟩ := c
    simp only [isPacked, Bool.and_eq_true, decide_eq_true_eq, beq_iff_eq] at h
    obtain ⟨⟨hn, hv⟩, hrest⟩ := h
    obtain ⟨d', rfl⟩ : ∃ d', d = n + d' := ⟨d - n, by omega⟩
    rw [Nat.add_sub_cancel_left] at hrest
    obtain ⟨h1, h2⟩ := ih _ _ hrest
    have hp : 0 < 2 ^ n := Nat.pow_pos (by decide)
    have hb : b = v + b / 2 ^ n * 2 ^ n := by
      have := Nat.div_add_mod b (2 ^ n)
      rw [Nat.mul_comm] at this; omega
    refine ⟨?_, ?_⟩
    · rw [Nat.pow_add, Nat.mul_comm]
      exact (Nat.div_lt_iff_lt_mul hp).mp h1
    · rw [hb, bitsOf_add_mul _ _ n v (hv ▸ Nat.mod_lt _ hp), h2]; rfl

def sBits (e : Nat × Nat) : List Bool :=
  entryBitsU (fun s => bitsOf (kCodeLengthDepth.getD s 0) (kCodeLengthBits.getD s 0)) e

def sChunks (e : Nat × Nat) : List (Nat × Nat) :=
  (kCodeLengthDepth.getD e.1 0, kCodeLengthBits.getD e.1 0) ::
    (if e.1 = 16 then [(2, e.2)] else if e.1 = 17 then [(3, e.2)] else [])

theorem sBits_eq_chunks (e : Nat × Nat) :
    sBits e = ((sChunks e).map fun c => bitsOf c.1 c.2).flatten := by
  unfold sBits entryBitsU sChunks
  split
  · simp
  · split <;> simp

theorem sBits_flatMap (E : List (Nat × Nat)) :
    (E.map sBits).flatten = ((E.flatMap sChunks).map fun c => bitsOf c.1 c.2).flatten := by
  induction E with
  | nil => rfl
  | cons e E ih => simp [List.flatMap_cons, ih, sBits_eq_chunks e]

def chkTab (E : Nat → List (Nat × Nat)) : List Nat → List Nat → Nat → Bool
  | d :: ds, b :: bs, r =>
    decide (d ≤ 56) && isPacked ((E r).flatMap sChunks) d b && chkTab E ds bs (r + 1)
  | _, _, _ => true

theorem chkTab_spec (E : Nat → List (Nat × Nat)) : ∀ (ds bs : List Nat) (r : Nat),
    chkTab E ds bs r = true → ∀ k, k < ds.length → k < bs.length →
      ds.getD k 0 ≤ 56 ∧ bs.getD k 0 < 2 ^ ds.getD k 0 ∧
      bitsOf (ds.getD k 0) (bs.getD k 0) = ((E (r + k)).map sBits).flatten := by
  intro ds
  induction ds with
  | nil => intro bs r _ k hk; simp at hk
  | cons d ds ih =>
    intro bs r h k hk hkb
    cases bs with
    | nil => simp at hkb
    | cons b bs =>
      simp only [chkTab, Bool.and_eq_true, decide_eq_true_eq] at h
      cases k with
      | zero =>
        obtain ⟨hlt, hbits⟩ := bitsOf_isPacked _ _ _ h.1.2
        exact ⟨h.1.1, hlt, by rw [sBits_flatMap]; exact hbits⟩
      | succ k =>
        have := ih bs (r + 1) h.2 k (by simpa using hk) (by simpa using hkb)
        simpa [Nat.add_assoc, Nat.add_comm 1 k] using this

def zEntriesF (reps : Nat) : List (Nat × Nat) :=
  if reps = 11 then (0, 0) :: ((repDigitsF 3 10 7).reverse.map fun e => (17, e))
  else if reps < 3 then List.replicate reps (0, 0)
  else (repDigitsF 3 10 (reps - 3)).reverse.map fun e => (17, e)

theorem zEntriesF_eq (reps : Nat) (h : reps < 1024) : zEntriesF reps = writeRepsZeros reps := by
  have hp : (2:Nat) ^ 10 = 1024 := by decide
  unfold zEntriesF writeRepsZeros
  by_cases h11 : reps = 11
  · subst h11
    simp only [↓reduceIte, show ¬ (10 < 3) by decide]
    rw [repDigitsF_eq 3 (by decide) 10 7 (by decide)]
    rfl
  · simp only [h11, ↓reduceIte, List.nil_append]
    split
    · rfl
    · rw [repDigitsF_eq 3 (by decide) 10 _ (by omega)]

theorem zero_table_chk : chkTab zEntriesF kZeroRepsDepth kZeroRepsBits 0 = true := by
  decide +kernel

end BV.Lemmas.HuffmanFastTab
