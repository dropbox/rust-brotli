import BV.Lemmas.MatchSound
/-!
`FindLongestMatch` of the three families: one invariant (`Inv`: what has been found so far is a sound copy), kept by every
function the three bodies are made of; so what is returned with `true` is a sound copy or a static-dictionary reference —
for every table, every distance cache, every data buffer.
-/

namespace BV.MatchFinder
open BV.Hasher

def Inv (data : ByteArray) (m cm curIx maxLength maxBackward : Nat) (s : LoopSt) : Prop :=
  s.out.lenXCode = 0 ∧ (s.found = true → CopyOK data m cm curIx maxLength maxBackward s.out)

variable {lbs : Nat} {data : ByteArray} {m mask cm curIx maxLength maxBackward : Nat}

theorem i32ToUsize_lt (x : Int) : i32ToUsize x < U64 := by
  unfold i32ToUsize BV.Recoder.toUsize
  have h : (0 : Int) < 2 ^ 64 := by decide
  have h2 := Int.emod_lt_of_pos x h
  have h1 := Int.emod_nonneg x (Int.ne_of_gt h)
  have e : ((x % 2 ^ 64).toNat : Int) = x % 2 ^ 64 := Int.toNat_of_nonneg h1
  have hU : ((U64 : Nat) : Int) = 2 ^ 64 := by decide
  have : ((x % 2 ^ 64).toNat : Int) < (U64 : Nat) := by rw [e, hU]; exact h2
  exact Int.ofNat_lt.mp this

theorem Inv.take_backward {backward len : Nat} {s : LoopSt} (hI : Inv data m cm curIx maxLength maxBackward s)
    (hc : curIx < U64) (hb : backward < U64) (hlt : wsub curIx backward < curIx)
    (hmb : backward ≤ maxBackward) (hlen : len ≤ maxLength) (hl2 : 4 ≤ maxLength → 2 ≤ len)
    (hag : Agree data (wsub curIx backward &&& m) cm len) (score : Nat) :
    Inv data m cm curIx maxLength maxBackward (s.take len backward score) :=
  ⟨hI.1, fun _ => ⟨wsub_pos_of_lt hc hlt, hmb, hlen, hI.1, hl2, wsub curIx backward,
    (wsub_wsub hc hb).symm, hag⟩⟩

theorem Inv.take_prev {prev len : Nat} {s : LoopSt} (hI : Inv data m cm curIx maxLength maxBackward s)
    (h0 : wsub curIx prev ≠ 0) (hmb : ¬ wsub curIx prev > maxBackward) (hlen : len ≤ maxLength)
    (hl2 : 4 ≤ maxLength → 2 ≤ len)
    (hag : Agree data (prev &&& m) cm len) (score : Nat) :
    Inv data m cm curIx maxLength maxBackward (s.take len (wsub curIx prev) score) :=
  ⟨hI.1, fun _ => ⟨Nat.pos_of_ne_zero h0, Nat.le_of_not_gt hmb, hlen, hI.1, hl2, prev, rfl, hag⟩⟩

theorem tryAt_cases {g : Option Bool} {fml : Unit → Option Nat} {acc : Nat → LoopSt} {s s' : LoopSt}
    (h : tryAt g fml acc s = some s') : s' = s ∨ ∃ len, fml () = some len ∧ s' = acc len := by
  unfold tryAt at h
  cases g with
  | none => cases h
  | some b =>
    cases b with
    | true => left; injection h with h; exact h.symm
    | false =>
      right
      cases hf : fml () with
      | none => simp only [hf] at h; cases h
      | some len => simp only [hf, Option.some.injEq] at h; exact ⟨len, rfl, h.symm⟩

theorem Adv.cacheAccept_inv {i len backward : Nat} {s : LoopSt} (hI : Inv data m cm curIx maxLength maxBackward s)
    (hco : ∀ score, (len ≥ 3 ∨ (len = 2 ∧ i < 2)) →
      Inv data m cm curIx maxLength maxBackward (s.take len backward score)) :
    Inv data m cm curIx maxLength maxBackward (Adv.cacheAccept lbs i len backward s) := by
  unfold Adv.cacheAccept
  by_cases h1 : len ≥ 3 ∨ (len = 2 ∧ i < 2)
  · rw [if_pos h1]
    by_cases h2 : s.bestScore < scoreLast lbs len
    · simp only [h2, if_true]
      generalize (if i ≠ 0 then wsub (scoreLast lbs len) (penaltyLast i) else scoreLast lbs len) = sc
      by_cases h3 : s.bestScore < sc
      · simp only [h3, if_true]; exact hco _ h1
      · simp only [h3, if_false]; exact hI
    · simp only [h2, if_false]; exact hI
  · rw [if_neg h1]; exact hI

theorem Adv.bucketAccept_inv {len backward : Nat} {s : LoopSt} (hI : Inv data m cm curIx maxLength maxBackward s)
    (hco : ∀ score, len ≠ 0 → Inv data m cm curIx maxLength maxBackward (s.take len backward score)) :
    Inv data m cm curIx maxLength maxBackward (Adv.bucketAccept lbs len backward s) := by
  unfold Adv.bucketAccept
  by_cases h1 : len ≠ 0
  · rw [if_pos h1]
    by_cases h2 : s.bestScore < scoreBackward lbs len backward
    · simp only [h2, if_true]; exact hco _ h1
    · simp only [h2, if_false]; exact hI
  · rw [if_neg h1]; exact hI

theorem H9.cacheAccept_inv {i len backward : Nat} {s : LoopSt} (hI : Inv data m cm curIx maxLength maxBackward s)
    (hco : ∀ score, (len ≥ 3 ∨ (len = 2 ∧ i < 2)) →
      Inv data m cm curIx maxLength maxBackward (s.take len backward score)) :
    Inv data m cm curIx maxLength maxBackward (H9.cacheAccept lbs i len backward s) := by
  unfold H9.cacheAccept
  by_cases h1 : len ≥ 3 ∨ (len = 2 ∧ i < 2)
  · rw [if_pos h1]
    by_cases h2 : s.bestScore < scoreLastH9 lbs len i
    · simp only [h2, if_true]; exact hco _ h1
    · simp only [h2, if_false]; exact hI
  · rw [if_neg h1]; exact hI

theorem Adv.cacheStepAt_inv {i backward : Nat} (hc : curIx < U64) (hb : backward < U64) {s s' : LoopSt}
    (hI : Inv data mask cm curIx maxLength maxBackward s)
    (h : Adv.cacheStepAt lbs data mask curIx cm maxLength maxBackward i backward s = some s') :
    Inv data mask cm curIx maxLength maxBackward s' := by
  unfold Adv.cacheStepAt at h
  by_cases hcond : wsub curIx backward ≥ curIx ∨ backward > maxBackward
  · simp only [hcond, if_true, Option.some.injEq] at h; subst h; exact hI
  · simp only [hcond, if_false] at h
    rcases tryAt_cases h with rfl | ⟨len, hf, rfl⟩
    · exact hI
    · obtain ⟨hlen, hag⟩ := findMatchLengthWithLimit_sound hf
      exact Adv.cacheAccept_inv hI (fun score hcnd => hI.take_backward hc hb
        (Nat.lt_of_not_ge (fun hh => hcond (Or.inl hh)))
        (Nat.le_of_not_gt (fun hh => hcond (Or.inr hh))) hlen (fun _ => by omega) hag score)

theorem Adv.cacheStep_inv (hc : curIx < U64) {cache : List Int} (i : Nat) (s s' : LoopSt)
    (hI : Inv data mask cm curIx maxLength maxBackward s)
    (h : Adv.cacheStep lbs data mask curIx cm maxLength maxBackward cache i s = some s') :
    Inv data mask cm curIx maxLength maxBackward s' := by
  unfold Adv.cacheStep at h
  cases hci : cache[i]? with
  | none => simp only [hci] at h; cases h
  | some ci =>
    simp only [hci] at h
    exact Adv.cacheStepAt_inv hc (i32ToUsize_lt ci) hI h

theorem H9.cacheStepAt_inv {i backward : Nat} (hc : curIx < U64) (hb : backward < U64) {s s' : LoopSt}
    (hI : Inv data mask cm curIx maxLength maxBackward s)
    (h : H9.cacheStepAt lbs data mask curIx cm maxLength maxBackward i backward s = some s') :
    Inv data mask cm curIx maxLength maxBackward s' := by
  unfold H9.cacheStepAt at h
  by_cases hc1 : wsub curIx backward ≥ curIx
  · simp only [hc1, if_true, Option.some.injEq] at h; subst h; exact hI
  · simp only [hc1, if_false] at h
    by_cases hc2 : backward > maxBackward
    · simp only [hc2, if_true, Option.some.injEq] at h; subst h; exact hI
    · simp only [hc2, if_false] at h
      rcases tryAt_cases h with rfl | ⟨len, hf, rfl⟩
      · exact hI
      · obtain ⟨hlen, hag⟩ := findMatchLengthWithLimit_sound hf
        exact H9.cacheAccept_inv hI (fun score hcnd => hI.take_backward hc hb
          (Nat.lt_of_not_ge hc1) (Nat.le_of_not_gt hc2) hlen (fun _ => by omega) hag score)

theorem H9.cacheStep_inv (hc : curIx < U64) {cache : List Int} (i : Nat) (s s' : LoopSt)
    (hI : Inv data mask cm curIx maxLength maxBackward s)
    (h : H9.cacheStep lbs data mask curIx cm maxLength maxBackward cache i s = some s') :
    Inv data mask cm curIx maxLength maxBackward s' := by
  unfold H9.cacheStep at h
  cases hci : cache[H9.kDistanceCacheIndex.getD i 0]? with
  | none => simp only [hci] at h; cases h
  | some ci =>
    simp only [hci] at h
    exact H9.cacheStepAt_inv hc (Nat.mod_lt _ (by decide)) hI h

theorem Adv.bucketStep_inv {prev : Nat}
    {s s' : LoopSt} {brk : Bool} (hI : Inv data mask cm curIx maxLength maxBackward s)
    (h : Adv.bucketStep lbs data mask curIx cm maxLength maxBackward prev s = some (brk, s')) :
    Inv data mask cm curIx maxLength maxBackward s' := by
  unfold Adv.bucketStep at h
  by_cases h0 : wsub curIx prev = 0
  · simp only [h0, if_true, Option.some.injEq, Prod.mk.injEq] at h; obtain ⟨_, rfl⟩ := h; exact hI
  · simp only [h0, if_false] at h
    cases hg : guard data mask cm (prev &&& mask) s.bestLen with
    | none => simp only [hg] at h; cases h
    | some g =>
      simp only [hg] at h
      by_cases hmb : wsub curIx prev > maxBackward
      · simp only [hmb, if_true, Option.some.injEq, Prod.mk.injEq] at h; obtain ⟨_, rfl⟩ := h; exact hI
      · simp only [hmb, if_false] at h
        cases g with
        | true => simp only [if_true, Option.some.injEq, Prod.mk.injEq] at h; obtain ⟨_, rfl⟩ := h; exact hI
        | false =>
          simp only [Bool.false_eq_true, if_false] at h
          cases hf : findMatchLengthWithLimitMin4 data (prev &&& mask) cm maxLength with
          | none => simp only [hf] at h; cases h
          | some len =>
            simp only [hf, Option.some.injEq, Prod.mk.injEq] at h
            obtain ⟨_, rfl⟩ := h
            obtain ⟨hlen, hag⟩ := min4_sound hf
            exact Adv.bucketAccept_inv hI (fun score hne => hI.take_prev h0 hmb hlen
              (fun h4 => by have := min4_ge4 hf hne h4; omega) hag score)

theorem loopBody_cases {σ : Type} {r : Option (Bool × σ)} {k : σ → Option σ} {s' : σ} (h : loopBody r k = some s') :
    ∃ brk s1, r = some (brk, s1) ∧ ((brk = true ∧ s' = s1) ∨ (brk = false ∧ k s1 = some s')) := by
  unfold loopBody at h
  cases r with
  | none => cases h
  | some p =>
    obtain ⟨brk, s1⟩ := p
    cases brk with
    | true => injection h with h; exact ⟨true, s1, rfl, Or.inl ⟨rfl, h.symm⟩⟩
    | false => exact ⟨false, s1, rfl, Or.inr ⟨rfl, h⟩⟩

theorem Adv.bucketLoop_inv {blockMask : Nat} (bucket : Nat → Option Nat) : ∀ (cnt i : Nat) (s s' : LoopSt),
    Inv data mask cm curIx maxLength maxBackward s →
    Adv.bucketLoop lbs data mask curIx cm maxLength maxBackward blockMask bucket cnt i s = some s' →
    Inv data mask cm curIx maxLength maxBackward s' := by
  intro cnt
  induction cnt with
  | zero => intro i s s' hI h; rw [Adv.bucketLoop] at h; injection h with h; subst h; exact hI
  | succ cnt ih =>
    intro i s s' hI h
    rw [Adv.bucketLoop] at h
    obtain ⟨prev, _, h⟩ := Option.bind_eq_some_iff.mp h
    obtain ⟨brk, s1, hs, hk⟩ := loopBody_cases h
    have hI1 := Adv.bucketStep_inv hI hs
    rcases hk with ⟨_, rfl⟩ | ⟨_, hk⟩
    · exact hI1
    · exact ih _ _ _ hI1 hk

theorem H9.scanAccept_inv {len backward : Nat}
    {t t' : H9.ScanSt} {brk : Bool} (hI : Inv data mask cm curIx maxLength maxBackward t.s)
    (hco : ∀ score, len ≥ 4 → Inv data mask cm curIx maxLength maxBackward (t.s.take len backward score))
    (h : H9.scanAccept lbs data mask cm len backward t = some (brk, t')) :
    Inv data mask cm curIx maxLength maxBackward t'.s := by
  unfold H9.scanAccept at h
  by_cases h1 : len ≥ 4
  · rw [if_pos h1] at h
    by_cases h2 : t.s.bestScore < scoreBackwardH9 lbs len backward
    · simp only [h2, if_true] at h
      by_cases h3 : cm + len > mask
      · simp only [h3, if_true, Option.some.injEq, Prod.mk.injEq] at h
        obtain ⟨_, rfl⟩ := h; exact hco _ h1
      · simp only [h3, if_false] at h
        cases hb : byteAt data (cm + len) with
        | none => simp only [hb] at h; cases h
        | some v =>
          simp only [hb, Option.some.injEq, Prod.mk.injEq] at h
          obtain ⟨_, rfl⟩ := h; exact hco _ h1
    · simp only [h2, if_false, Option.some.injEq, Prod.mk.injEq] at h
      obtain ⟨_, rfl⟩ := h; exact hI
  · rw [if_neg h1] at h
    simp only [Option.some.injEq, Prod.mk.injEq] at h
    obtain ⟨_, rfl⟩ := h; exact hI

theorem H9.scanStep_inv {prev : Nat}
    {t t' : H9.ScanSt} {brk : Bool} (hI : Inv data mask cm curIx maxLength maxBackward t.s)
    (h : H9.scanStep lbs data mask curIx cm maxLength maxBackward prev t = some (brk, t')) :
    Inv data mask cm curIx maxLength maxBackward t'.s := by
  unfold H9.scanStep at h
  by_cases h0 : wsub curIx prev = 0
  · simp only [h0, if_true, Option.some.injEq, Prod.mk.injEq] at h; obtain ⟨_, rfl⟩ := h; exact hI
  · simp only [h0, if_false] at h
    by_cases hmb : wsub curIx prev > maxBackward
    · simp only [hmb, if_true, Option.some.injEq, Prod.mk.injEq] at h; obtain ⟨_, rfl⟩ := h; exact hI
    · simp only [hmb, if_false] at h
      by_cases hr : (prev &&& mask) + t.s.bestLen > mask
      · simp only [hr, if_true, Option.some.injEq, Prod.mk.injEq] at h; obtain ⟨_, rfl⟩ := h; exact hI
      · simp only [hr, if_false] at h
        cases hb : byteAt data ((prev &&& mask) + t.s.bestLen) with
        | none => simp only [hb] at h; cases h
        | some b =>
          simp only [hb] at h
          by_cases hp : t.pbv ≠ b
          · rw [if_pos hp] at h
            simp only [Option.some.injEq, Prod.mk.injEq] at h
            obtain ⟨_, rfl⟩ := h; exact hI
          · rw [if_neg hp] at h
            cases hf : findMatchLengthWithLimit data (prev &&& mask) cm maxLength with
            | none => simp only [hf] at h; cases h
            | some len =>
              simp only [hf] at h
              obtain ⟨hlen, hag⟩ := findMatchLengthWithLimit_sound hf
              exact H9.scanAccept_inv hI (fun score h4 => hI.take_prev h0 hmb hlen (fun _ => by omega) hag score) h

theorem H9.bucketLoop_inv (bucket : Nat → Option Nat) : ∀ (cnt i : Nat) (t t' : H9.ScanSt),
    Inv data mask cm curIx maxLength maxBackward t.s →
    H9.bucketLoop lbs data mask curIx cm maxLength maxBackward bucket cnt i t = some t' →
    Inv data mask cm curIx maxLength maxBackward t'.s := by
  intro cnt
  induction cnt with
  | zero => intro i t t' hI h; rw [H9.bucketLoop] at h; injection h with h; subst h; exact hI
  | succ cnt ih =>
    intro i t t' hI h
    rw [H9.bucketLoop] at h
    obtain ⟨prev, _, h⟩ := Option.bind_eq_some_iff.mp h
    obtain ⟨brk, t1, hs, hk⟩ := loopBody_cases h
    have hI1 := H9.scanStep_inv hI hs
    rcases hk with ⟨_, rfl⟩ | ⟨_, hk⟩
    · exact hI1
    · exact ih _ _ _ hI1 hk

theorem Basic.sweepAccept_inv {len backward : Nat}
    {t t' : Basic.SweepSt} (hI : Inv data m cm curIx maxLength maxBackward t.s)
    (hco : ∀ score, len ≠ 0 → Inv data m cm curIx maxLength maxBackward (t.s.take len backward score))
    (h : Basic.sweepAccept lbs data cm len backward t = some t') :
    Inv data m cm curIx maxLength maxBackward t'.s := by
  unfold Basic.sweepAccept at h
  by_cases h1 : len ≠ 0
  · rw [if_pos h1] at h
    by_cases h2 : t.s.bestScore < scoreBackward lbs len backward
    · simp only [h2, if_true] at h
      cases hb : byteAt data (cm + len) with
      | none => simp only [hb] at h; cases h
      | some v => simp only [hb, Option.some.injEq] at h; subst h; exact hco _ h1
    · simp only [h2, if_false, Option.some.injEq] at h; subst h; exact hI
  · rw [if_neg h1] at h
    injection h with h; subst h; exact hI

/-- `mask % U32`: BasicHasher masks the earlier position with `ring_buffer_mask as u32` (the other hashers with `mask`) -/
theorem Basic.sweepStep_inv {prev : Nat}
    {t t' : Basic.SweepSt} (hI : Inv data (mask % U32) cm curIx maxLength maxBackward t.s)
    (h : Basic.sweepStep lbs data mask curIx cm maxLength maxBackward prev t = some t') :
    Inv data (mask % U32) cm curIx maxLength maxBackward t'.s := by
  unfold Basic.sweepStep at h
  simp only [] at h
  cases hb : byteAt data ((prev &&& (mask % U32)) + t.s.bestLen) with
  | none => simp only [hb] at h; cases h
  | some b =>
    simp only [hb] at h
    by_cases hp : t.cc ≠ b
    · rw [if_pos hp] at h; injection h with h; subst h; exact hI
    · rw [if_neg hp] at h
      by_cases hw : wsub curIx prev = 0 ∨ wsub curIx prev > maxBackward
      · simp only [hw, if_true, Option.some.injEq] at h; subst h; exact hI
      · simp only [hw, if_false] at h
        cases hf : findMatchLengthWithLimitMin4 data (prev &&& (mask % U32)) cm maxLength with
        | none => simp only [hf] at h; cases h
        | some len =>
          simp only [hf] at h
          obtain ⟨hlen, hag⟩ := min4_sound hf
          exact Basic.sweepAccept_inv hI (fun score hne => hI.take_prev (fun hh => hw (Or.inl hh))
            (fun hh => hw (Or.inr hh)) hlen (fun h4 => by have := min4_ge4 hf hne h4; omega) hag score) h

theorem Basic.sweepLoop_inv (b : Tab) (key : Nat) : ∀ (n j : Nat) (t t' : Basic.SweepSt),
    Inv data (mask % U32) cm curIx maxLength maxBackward t.s →
    Basic.sweepLoop lbs data mask curIx cm maxLength maxBackward b key n j t = some t' →
    Inv data (mask % U32) cm curIx maxLength maxBackward t'.s := by
  intro n
  induction n with
  | zero => intro j t t' hI h; rw [Basic.sweepLoop] at h; injection h with h; subst h; exact hI
  | succ n ih =>
    intro j t t' hI h
    rw [Basic.sweepLoop] at h
    obtain ⟨prev, _, h⟩ := Option.bind_eq_some_iff.mp h
    obtain ⟨t1, hs, h⟩ := Option.bind_eq_some_iff.mp h
    exact ih _ _ _ (Basic.sweepStep_inv hI hs) h

def Sound (dict : Option (List DictItem)) (data : ByteArray) (m cm curIx maxLength maxBackward
    maxDistance : Nat) (o : SR) : Prop :=
  CopyOK data m cm curIx maxLength maxBackward o ∨
    ∃ items, dict = some items ∧ DictOK items data cm maxLength maxBackward maxDistance o

variable {useDict : Bool} {numLast key : Nat} {dict : Option (List DictItem)} {maxDistance : Nat}

theorem dictPhase_sound {s : LoopSt} {c c' : Common} {f : Bool} {o : SR}
    (hI : Inv data m cm curIx maxLength maxBackward s)
    (h : Adv.dictPhase lbs dict data cm maxLength maxBackward maxDistance s c = some (f, o, c'))
    (hf : f = true) : Sound dict data m cm curIx maxLength maxBackward maxDistance o := by
  unfold Adv.dictPhase at h
  cases dict with
  | none =>
    simp only [Option.some.injEq, Prod.mk.injEq] at h
    obtain ⟨h1, h2, _⟩ := h
    subst h2
    exact Or.inl (hI.2 (by rw [h1]; exact hf))
  | some items =>
    simp only [] at h
    by_cases hfound : ¬ s.found = true
    · rw [if_pos hfound] at h
      by_cases hcm : cm > data.size
      · rw [if_pos hcm] at h; cases h
      · rw [if_neg hcm] at h
        exact Or.inr ⟨items, rfl, (search_sound h).1 hf⟩
    · rw [if_neg hfound] at h
      simp only [Option.some.injEq, Prod.mk.injEq] at h
      obtain ⟨_, h2, _⟩ := h
      subst h2
      exact Or.inl (hI.2 (Decidable.of_not_not hfound))

theorem Adv.scan_inv {P : AdvP} {s s' : LoopSt} {st st' : AdvSt} (hI : Inv data mask cm curIx maxLength maxBackward s)
    (h : Adv.scan P lbs data mask curIx cm maxLength maxBackward s st = some (s', st')) :
    Inv data mask cm curIx maxLength maxBackward s' := by
  obtain ⟨num, buckets⟩ := st
  unfold Adv.scan at h
  simp only [] at h
  cases hk : BV.Hasher.Adv.hashAt P data cm with
  | none => simp only [hk] at h; cases h
  | some key =>
    simp only [hk] at h
    cases hn : rd num key with
    | none => simp only [hn] at h; cases h
    | some n =>
      simp only [hn] at h
      by_cases hsz : (key <<< P.blockBits) % U32 + 1 <<< P.blockBits > buckets.size ∨ 1 <<< P.blockBits ≤ P.blockMask
      · rw [if_pos hsz] at h; cases h
      · rw [if_neg hsz] at h
        split at h
        · cases h
        · rename_i s1 hs1
          have hI1 : Inv data mask cm curIx maxLength maxBackward s1 := by
            by_cases hn0 : n ≠ 0
            · rw [if_pos hn0] at hs1; exact Adv.bucketLoop_inv _ _ _ _ _ hI hs1
            · rw [if_neg hn0] at hs1; injection hs1 with hs1; subst hs1; exact hI
          by_cases hslot : (n % U32) &&& P.blockMask ≥ 1 <<< P.blockBits
          · rw [if_pos hslot] at h; cases h
          · rw [if_neg hslot] at h
            cases hw1 : wr buckets ((key <<< P.blockBits) % U32 + ((n % U32) &&& P.blockMask)) (curIx % U32) with
            | none => simp only [hw1] at h; cases h
            | some b1 =>
              simp only [hw1] at h
              cases hw2 : wr num key ((n + 1) % U16) with
              | none => simp only [hw2] at h; cases h
              | some n1 =>
                simp only [hw2, Option.some.injEq, Prod.mk.injEq] at h
                obtain ⟨rfl, _⟩ := h
                exact hI1

theorem Adv.findLongestMatch_sound {P : AdvP} {cache : List Int}
    {out o : SR} {st st' : AdvSt} {c c' : Common} (hc : curIx < U64)
    (h : Adv.findLongestMatch P numLast lbs dict data mask cache curIx maxLength maxBackward maxDistance
      out st c = some (true, o, st', c')) :
    Sound dict data mask (curIx &&& mask) curIx maxLength maxBackward maxDistance o := by
  unfold Adv.findLongestMatch at h
  simp only [] at h
  by_cases hcm : curIx &&& mask > data.size
  · rw [if_pos hcm] at h; cases h
  · rw [if_neg hcm] at h
    cases h1 : forRange (Adv.cacheStep lbs data mask curIx (curIx &&& mask) maxLength maxBackward cache) 0 numLast
        ⟨out.score, out.len, { out with len := 0, lenXCode := 0 }, false⟩ with
    | none => simp only [h1] at h; cases h
    | some s1 =>
      simp only [h1] at h
      have hI1 : Inv data mask (curIx &&& mask) curIx maxLength maxBackward s1 :=
        forRange_inv (I := Inv data mask (curIx &&& mask) curIx maxLength maxBackward)
          (fun i x y hx hxy => Adv.cacheStep_inv hc i x y hx hxy) numLast 0 _ s1
          ⟨rfl, fun hh => (by cases hh)⟩ h1
      cases h2 : Adv.scan P lbs data mask curIx (curIx &&& mask) maxLength maxBackward s1 st with
      | none => simp only [h2] at h; cases h
      | some r =>
        obtain ⟨s2, st2⟩ := r
        simp only [h2] at h
        have hI2 := Adv.scan_inv hI1 h2
        cases h3 : Adv.dictPhase lbs dict data (curIx &&& mask) maxLength maxBackward maxDistance s2 c with
        | none => simp only [h3] at h; cases h
        | some r3 =>
          obtain ⟨f, o3, c3⟩ := r3
          simp only [h3, Option.some.injEq, Prod.mk.injEq] at h
          obtain ⟨rfl, rfl, _, _⟩ := h
          exact dictPhase_sound hI2 h3 rfl

theorem H9.scan_inv {P : H9P} {s s' : LoopSt} {st st' : AdvSt} (hI : Inv data mask cm curIx maxLength maxBackward s)
    (h : H9.scan P lbs data mask curIx cm maxLength maxBackward s st = some (s', st')) :
    Inv data mask cm curIx maxLength maxBackward s' := by
  obtain ⟨num, buckets⟩ := st
  unfold H9.scan at h
  simp only [] at h
  by_cases hcond : maxLength ≥ 4 ∧ cm + s.bestLen ≤ mask
  · rw [if_pos hcond] at h
    cases hw : win data cm 4 with
    | none => simp only [hw] at h; cases h
    | some w =>
      simp only [hw] at h
      by_cases hsz : (P.hash w % U32) <<< BV.Hasher.H9.BLOCK_BITS + 256 > buckets.size
      · rw [if_pos hsz] at h; cases h
      · rw [if_neg hsz] at h
        cases hn : rd num (P.hash w % U32) with
        | none => simp only [hn] at h; cases h
        | some n =>
          simp only [hn] at h
          cases hb : byteAt data (cm + s.bestLen) with
          | none => simp only [hb] at h; cases h
          | some pbv =>
            simp only [hb] at h
            cases hl : H9.bucketLoop lbs data mask curIx cm maxLength maxBackward
                (fun j => if j < 256 then rd buckets ((P.hash w % U32) <<< BV.Hasher.H9.BLOCK_BITS + j) else none)
                (n - if n > 256 then n - 256 else 0) n ⟨s, pbv⟩ with
            | none => simp only [hl] at h; cases h
            | some t =>
              simp only [hl] at h
              have hI1 := H9.bucketLoop_inv _ _ _ ⟨s, pbv⟩ t hI hl
              cases hw1 : wr buckets ((P.hash w % U32) <<< BV.Hasher.H9.BLOCK_BITS + (n &&& BV.Hasher.H9.BLOCK_MASK))
                  (curIx % U32) with
              | none => simp only [hw1] at h; cases h
              | some b1 =>
                simp only [hw1] at h
                cases hw2 : wr num (P.hash w % U32) ((n + 1) % U16) with
                | none => simp only [hw2] at h; cases h
                | some n1 =>
                  simp only [hw2, Option.some.injEq, Prod.mk.injEq] at h
                  obtain ⟨rfl, _⟩ := h
                  exact hI1
  · rw [if_neg hcond] at h
    simp only [Option.some.injEq, Prod.mk.injEq] at h
    obtain ⟨rfl, _⟩ := h
    exact hI

theorem H9.findLongestMatch_sound {P : H9P} {cache : List Int}
    {out o : SR} {st st' : AdvSt} {c c' : Common} (hc : curIx < U64)
    (h : H9.findLongestMatch P lbs dict data mask cache curIx maxLength maxBackward maxDistance
      out st c = some (true, o, st', c')) :
    Sound dict data mask (curIx &&& mask) curIx maxLength maxBackward maxDistance o := by
  unfold H9.findLongestMatch at h
  simp only [] at h
  cases h1 : forRange (H9.cacheStep lbs data mask curIx (curIx &&& mask) maxLength maxBackward cache) 0 16
      ⟨out.score, out.len, { out with lenXCode := 0 }, false⟩ with
  | none => simp only [h1] at h; cases h
  | some s1 =>
    simp only [h1] at h
    have hI1 : Inv data mask (curIx &&& mask) curIx maxLength maxBackward s1 :=
      forRange_inv (I := Inv data mask (curIx &&& mask) curIx maxLength maxBackward)
        (fun i x y hx hxy => H9.cacheStep_inv hc i x y hx hxy) 16 0 _ s1
        ⟨rfl, fun hh => (by cases hh)⟩ h1
    cases h2 : H9.scan P lbs data mask curIx (curIx &&& mask) maxLength maxBackward s1 st with
    | none => simp only [h2] at h; cases h
    | some r =>
      obtain ⟨s2, st2⟩ := r
      simp only [h2] at h
      have hI2 := H9.scan_inv hI1 h2
      cases h3 : Adv.dictPhase lbs dict data (curIx &&& mask) maxLength maxBackward maxDistance s2 c with
      | none => simp only [h3] at h; cases h
      | some r3 =>
        obtain ⟨f, o3, c3⟩ := r3
        simp only [h3, Option.some.injEq, Prod.mk.injEq] at h
        obtain ⟨rfl, rfl, _, _⟩ := h
        exact dictPhase_sound hI2 h3 rfl

/-- what a phase of the basic search has established: if it ends the search with a match (`inl`, flag `true`) the match
is a sound copy; if it hands on (`inr`), what has been found so far is -/
def Basic.PhaseOK (data : ByteArray) (m cm curIx maxLength maxBackward : Nat) : Basic.Ret ⊕ Basic.SweepSt → Prop
  | .inl ret => ret.1 = true → CopyOK data m cm curIx maxLength maxBackward ret.2.1
  | .inr t => Inv data m cm curIx maxLength maxBackward t.s

theorem Basic.phase1Take_sound {P : BasicP} {cachedBackward len : Nat} {out : SR} {b : Tab} {c : Common}
    {r : Basic.Ret ⊕ Basic.SweepSt}
    (hI1 : ∀ score, Inv data m cm curIx maxLength maxBackward
      ((⟨out.score, out.len, out, false⟩ : LoopSt).take len cachedBackward score))
    (h : Basic.phase1Take P lbs data curIx cm key cachedBackward len out b c = some r) :
    Basic.PhaseOK data m cm curIx maxLength maxBackward r := by
  unfold Basic.phase1Take at h
  simp only [] at h
  cases hb2 : byteAt data (cm + len) with
  | none => simp only [hb2] at h; cases h
  | some cc =>
    simp only [hb2] at h
    by_cases hs1 : P.sweep = 1
    · rw [if_pos hs1] at h
      cases hw : wr b key (curIx % U32) with
      | none => simp only [hw] at h; cases h
      | some b1 =>
        simp only [hw, Option.some.injEq] at h
        subst h
        exact fun _ => (hI1 _).2 rfl
    · rw [if_neg hs1] at h
      injection h with h; subst h
      exact hI1 _

theorem Basic.phase1_sound {P : BasicP} {cachedBackward cc0 : Nat} {out : SR} {b : Tab} {c : Common}
    {r : Basic.Ret ⊕ Basic.SweepSt}
    (hc : curIx < U64) (hcb : cachedBackward < U64) (hx : out.lenXCode = 0)
    (h : Basic.phase1 P lbs data mask curIx cm key maxLength maxBackward cachedBackward cc0 out b c = some r) :
    Basic.PhaseOK data (mask % U32) cm curIx maxLength maxBackward r := by
  have hI0 : Inv data (mask % U32) cm curIx maxLength maxBackward ⟨out.score, out.len, out, false⟩ :=
    ⟨hx, fun hh => (by cases hh)⟩
  have hnone : ∀ r', (some (Sum.inr ⟨⟨out.score, out.len, out, false⟩, cc0⟩) : Option (Basic.Ret ⊕ Basic.SweepSt)) = some r' →
      Basic.PhaseOK data (mask % U32) cm curIx maxLength maxBackward r' := by
    intro r' hr
    injection hr with hr; subst hr
    exact hI0
  unfold Basic.phase1 at h
  simp only [] at h
  by_cases hcond : wsub curIx cachedBackward < curIx ∧ cachedBackward ≤ maxBackward
  · rw [if_pos hcond] at h
    cases hb : byteAt data ((wsub curIx cachedBackward &&& (mask % U32)) + out.len) with
    | none => simp only [hb] at h; cases h
    | some pb =>
      simp only [hb] at h
      by_cases hcc : cc0 = pb
      · rw [if_pos hcc] at h
        cases hf : findMatchLengthWithLimitMin4 data (wsub curIx cachedBackward &&& (mask % U32)) cm maxLength with
        | none => simp only [hf] at h; cases h
        | some len =>
          simp only [hf] at h
          by_cases hl : len ≠ 0
          · rw [if_pos hl] at h
            obtain ⟨hlen, hag⟩ := min4_sound hf
            exact Basic.phase1Take_sound
              (fun score => hI0.take_backward hc hcb hcond.1 hcond.2 hlen
                (fun h4 => by have := min4_ge4 hf hl h4; omega) hag score) h
          · rw [if_neg hl] at h; exact hnone r h
      · rw [if_neg hcc] at h; exact hnone r h
  · rw [if_neg hcond] at h; exact hnone r h

theorem Basic.phase2Single_sound {bestLenIn prev : Nat} {t : Basic.SweepSt} {b : Tab} {c : Common}
    {r : Basic.Ret ⊕ Basic.SweepSt}
    (hI : Inv data (mask % U32) cm curIx maxLength maxBackward t.s)
    (h : Basic.phase2Single lbs data mask curIx cm maxLength maxBackward bestLenIn prev t b c = some r) :
    Basic.PhaseOK data (mask % U32) cm curIx maxLength maxBackward r := by
  unfold Basic.phase2Single at h
  simp only [] at h
  cases hb : byteAt data ((prev &&& (mask % U32)) + bestLenIn) with
  | none => simp only [hb] at h; cases h
  | some pb =>
    simp only [hb] at h
    by_cases hp : t.cc ≠ pb
    · rw [if_pos hp] at h
      injection h with h; subst h
      exact fun ht => (by cases ht)
    · rw [if_neg hp] at h
      by_cases hw : wsub curIx prev = 0 ∨ wsub curIx prev > maxBackward
      · rw [if_pos hw] at h
        injection h with h; subst h
        exact fun ht => (by cases ht)
      · rw [if_neg hw] at h
        cases hf : findMatchLengthWithLimitMin4 data (prev &&& (mask % U32)) cm maxLength with
        | none => simp only [hf] at h; cases h
        | some len =>
          simp only [hf] at h
          by_cases hl : len ≠ 0
          · rw [if_pos hl] at h
            injection h with h; subst h
            obtain ⟨hlen, hag⟩ := min4_sound hf
            exact fun _ => (hI.take_prev (fun hh => hw (Or.inl hh)) (fun hh => hw (Or.inr hh)) hlen
              (fun h4 => by have := min4_ge4 hf hl h4; omega) hag
              (scoreBackward lbs len (wsub curIx prev))).2 rfl
          · rw [if_neg hl] at h
            injection h with h; subst h
            exact hI

theorem Basic.phase2_sound {P : BasicP} {bestLenIn : Nat} {t : Basic.SweepSt} {b b' : Tab} {c : Common}
    {r : Basic.Ret ⊕ Basic.SweepSt}
    (hI : Inv data (mask % U32) cm curIx maxLength maxBackward t.s)
    (h : Basic.phase2 P lbs data mask curIx cm key maxLength maxBackward bestLenIn t b c = some (r, b')) :
    Basic.PhaseOK data (mask % U32) cm curIx maxLength maxBackward r := by
  unfold Basic.phase2 at h
  by_cases hs1 : P.sweep = 1
  · rw [if_pos hs1] at h
    cases hr : rd b key with
    | none => simp only [hr] at h; cases h
    | some prev =>
      simp only [hr] at h
      cases hw : wr b key (curIx % U32) with
      | none => simp only [hw] at h; cases h
      | some b1 =>
        simp only [hw] at h
        cases hp : Basic.phase2Single lbs data mask curIx cm maxLength maxBackward bestLenIn prev t b1 c with
        | none => simp only [hp] at h; cases h
        | some r1 =>
          simp only [hp, Option.some.injEq, Prod.mk.injEq] at h
          obtain ⟨rfl, _⟩ := h
          exact Basic.phase2Single_sound hI hp
  · rw [if_neg hs1] at h
    by_cases hk : key + P.sweep ≤ b.size
    · rw [if_pos hk] at h
      cases hl : Basic.sweepLoop lbs data mask curIx cm maxLength maxBackward b key P.sweep 0 t with
      | none => simp only [hl] at h; cases h
      | some t1 =>
        simp only [hl, Option.some.injEq, Prod.mk.injEq] at h
        obtain ⟨rfl, _⟩ := h
        exact Basic.sweepLoop_inv b key _ _ _ _ hI hl
    · rw [if_neg hk] at h; cases h

theorem Basic.dictStep_sound {s : LoopSt} {c c' : Common} {f : Bool} {o : SR}
    (hI : Inv data m cm curIx maxLength maxBackward s)
    (h : Basic.dictStep useDict lbs dict data cm maxLength maxBackward maxDistance s c = some (f, o, c'))
    (hf : f = true) : Sound dict data m cm curIx maxLength maxBackward maxDistance o := by
  unfold Basic.dictStep at h
  cases dict with
  | none =>
    simp only [Option.some.injEq, Prod.mk.injEq] at h
    obtain ⟨h1, h2, _⟩ := h
    subst h2
    exact Or.inl (hI.2 (by rw [h1]; exact hf))
  | some items =>
    simp only [] at h
    by_cases hcond : useDict = true ∧ ¬ s.found = true
    · rw [if_pos hcond] at h
      exact Or.inr ⟨items, rfl, (search_sound h).1 hf⟩
    · rw [if_neg hcond] at h
      simp only [Option.some.injEq, Prod.mk.injEq] at h
      obtain ⟨h1, h2, _⟩ := h
      subst h2
      exact Or.inl (hI.2 (by rw [h1]; exact hf))

theorem Basic.phase3_sound {P : BasicP} {s : LoopSt} {b b' : Tab} {c c' : Common} {f : Bool} {o : SR}
    (hI : Inv data m cm curIx maxLength maxBackward s)
    (h : Basic.phase3 P useDict lbs dict data curIx cm key maxLength maxBackward maxDistance s b c
      = some (f, o, b', c')) (hf : f = true) :
    Sound dict data m cm curIx maxLength maxBackward maxDistance o := by
  unfold Basic.phase3 at h
  cases hd : Basic.dictStep useDict lbs dict data cm maxLength maxBackward maxDistance s c with
  | none => simp only [hd] at h; cases h
  | some r =>
    obtain ⟨f1, o1, c1⟩ := r
    simp only [hd] at h
    by_cases hs0 : P.sweep = 0
    · rw [if_pos hs0] at h; cases h
    · rw [if_neg hs0] at h
      cases hw : wr b (key + (curIx >>> 3) % P.sweep) (curIx % U32) with
      | none => simp only [hw] at h; cases h
      | some b1 =>
        simp only [hw, Option.some.injEq, Prod.mk.injEq] at h
        obtain ⟨rfl, rfl, _, _⟩ := h
        exact Basic.dictStep_sound hI hd hf

theorem Basic.finish2_cases {P : BasicP} {c : Common}
    {r2 : Option ((Basic.Ret ⊕ Basic.SweepSt) × Tab)} {ret : Basic.Ret}
    (h : Basic.finish2 P useDict lbs dict data curIx cm key maxLength maxBackward maxDistance c r2 = some ret) :
    (∃ b, r2 = some (.inl ret, b)) ∨
    (∃ t b, r2 = some (.inr t, b) ∧
      Basic.phase3 P useDict lbs dict data curIx cm key maxLength maxBackward maxDistance t.s b c = some ret) := by
  unfold Basic.finish2 at h
  cases r2 with
  | none => cases h
  | some p =>
    obtain ⟨r, b⟩ := p
    cases r with
    | inl r => injection h with h; subst h; exact Or.inl ⟨b, rfl⟩
    | inr t => exact Or.inr ⟨t, b, rfl, h⟩

theorem Basic.finish1_cases {P : BasicP} {bestLenIn : Nat} {b : Tab}
    {c : Common} {r1 : Option (Basic.Ret ⊕ Basic.SweepSt)} {ret : Basic.Ret}
    (h : Basic.finish1 P useDict lbs dict data mask curIx cm key maxLength maxBackward maxDistance bestLenIn
      b c r1 = some ret) :
    r1 = some (.inl ret) ∨
    (∃ t, r1 = some (.inr t) ∧
      Basic.finish2 P useDict lbs dict data curIx cm key maxLength maxBackward maxDistance c
        (Basic.phase2 P lbs data mask curIx cm key maxLength maxBackward bestLenIn t b c) = some ret) := by
  unfold Basic.finish1 at h
  cases r1 with
  | none => cases h
  | some r =>
    cases r with
    | inl r => injection h with h; subst h; exact Or.inl rfl
    | inr t => exact Or.inr ⟨t, rfl, h⟩

theorem Basic.findLongestMatch_sound {P : BasicP} {cache : List Int} {out o : SR} {b b' : Tab} {c c' : Common}
    (hc : curIx < U64)
    (h : Basic.findLongestMatch P useDict lbs dict data mask cache curIx maxLength maxBackward maxDistance
      out b c = some (true, o, b', c')) :
    Sound dict data (mask % U32) (curIx &&& mask) curIx maxLength maxBackward maxDistance o := by
  unfold Basic.findLongestMatch at h
  obtain ⟨key, _, h⟩ := Option.bind_eq_some_iff.mp h
  obtain ⟨cc0, _, h⟩ := Option.bind_eq_some_iff.mp h
  obtain ⟨c0, _, h⟩ := Option.bind_eq_some_iff.mp h
  rcases Basic.finish1_cases h with h1 | ⟨t, h1, h⟩
  · exact Or.inl (Basic.phase1_sound hc (i32ToUsize_lt c0) rfl h1 rfl)
  · have hI1 : Inv _ _ _ _ _ _ t.s := Basic.phase1_sound hc (i32ToUsize_lt c0) rfl h1
    rcases Basic.finish2_cases h with ⟨b2, h2⟩ | ⟨t2, b2, h2, h3⟩
    · exact Or.inl (Basic.phase2_sound hI1 h2 rfl)
    · exact Basic.phase3_sound (Basic.phase2_sound hI1 h2) h3 rfl

end BV.MatchFinder
