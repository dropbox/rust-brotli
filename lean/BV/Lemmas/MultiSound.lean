/-
Helper lemmas for C02/C06: `compressMulti` inverted and evaluated as the stitch loop over all `t`
joined results; it returns `Ok` exactly when every job is `Ok` and the reference splice of the job
outputs (index order) succeeds.
-/
import BV.Lemmas.MultiTotal

namespace BV.Lemmas.Multi
open BV.Multi BV.Multi.Res

def wrapUp (cap : Nat) : Acc ⊕ TErr → Res MultiRet
  | .inl a => finishUp cap a
  | .inr e => ok ⟨.error e, [], false⟩

def allJoined (sp : Spawner) (t : Nat) (jobs : Nat → JobRes) : List Joined :=
  (List.range t).map fun i => joined sp (jobs i)

theorem allJoined_last (sp : Spawner) {t : Nat} (jobs : Nat → JobRes) (ht : t ≠ 0) :
    allJoined sp t jobs = ((List.range (t - 1)).map jobs).map (joined sp) ++ [joined sp (jobs (t - 1))] := by
  obtain ⟨n, rfl⟩ : ∃ n, t = n + 1 := ⟨t - 1, by omega⟩
  simp [allJoined, List.range_succ]

theorem onCaller_ok {i : Nat} {r r' : JobRes} (h : onCaller i r = ok r') : r' = r ∧ r ≠ .panic ∧ r ≠ .spin := by
  cases r with
  | ok b => simp only [onCaller, ok.injEq] at h; subst h; simp
  | err => simp only [onCaller, ok.injEq] at h; subst h; simp
  | panic => simp [onCaller] at h
  | spin => simp [onCaller] at h

/-- the code that handles the local result is one more iteration of the loop over the joined results -/
theorem loop_eq (cap : Nat) (js : List Joined) (sp : Spawner) {lr : JobRes} (h1 : lr ≠ .panic) (h2 : lr ≠ .spin) :
    ((stitch cap js acc0).bind fun r =>
      match r with
      | .inr e => ok ⟨.error e, [], false⟩
      | .inl a => (stitchLast cap a lr).bind fun a => finishUp cap a)
      = (stitch cap (js ++ [joined sp lr]) acc0).bind (wrapUp cap) := by
  rw [stitch_append]
  cases stitch cap js acc0 with
  | panic s => rfl
  | hang => rfl
  | ok x =>
    cases x with
    | inr e => rfl
    | inl a =>
      cases lr with
      | ok bytes => simp only [stitchLast, joined, stitch, bind_ok]; cases stitchArm cap a bytes <;> rfl
      | err => rfl
      | panic => exact absurd rfl h1
      | spin => exact absurd rfl h2

/-- soundness starts here, from an `ok` about which nothing else is known; `compressMulti_clean` is the same equation
as a rewrite rule, for jobs known to be `Clean` -/
theorem compressMulti_inv {sp : Spawner} {t : Nat} {jobs : Nat → JobRes} {cap : Nat} {r : MultiRet}
    (h : compressMulti sp t jobs cap = ok r) :
    t ≠ 0 ∧ (stitch cap (allJoined sp t jobs) acc0).bind (wrapUp cap) = ok r := by
  unfold compressMulti at h
  by_cases ht : t = 0
  · rw [if_pos ht] at h; cases h
  rw [if_neg ht] at h
  by_cases hp : sp = .pool ∧ t > 1 ∧ t > BV.Gen.MAX_THREADS
  · rw [if_pos hp] at h; cases h
  rw [if_neg hp] at h
  obtain ⟨_, _, h⟩ := bind_eq_ok h
  obtain ⟨last, hl, h⟩ := bind_eq_ok h
  obtain ⟨e1, e2, e3⟩ := onCaller_ok hl
  subst e1
  rw [allJoined_last sp jobs ht, ← loop_eq cap _ sp e2 e3]
  exact ⟨ht, h⟩

theorem compressMulti_clean (sp : Spawner) (t : Nat) (jobs : Nat → JobRes) (cap : Nat) (ht : t ≠ 0)
    (hp : sp = .pool → t ≤ BV.Gen.MAX_THREADS) (hc : Clean jobs t) :
    compressMulti sp t jobs cap = (stitch cap (allJoined sp t jobs) acc0).bind (wrapUp cap) := by
  unfold compressMulti
  rw [if_neg ht, if_neg (by intro ⟨h1, _, h3⟩; have := hp h1; omega)]
  have hin : (if sp = .inline then inlineSpawns jobs (List.range (t - 1)) else ok ()) = ok () := by
    by_cases hs : sp = .inline
    · rw [if_pos hs]
      exact inlineSpawns_clean jobs _ fun i hi => hc i (by simp at hi; omega)
    · rw [if_neg hs]
  rw [hin, bind_ok]
  have hl := hc (t - 1) (by omega)
  rw [onCaller_clean (t - 1) _ hl.1 hl.2, bind_ok, allJoined_last sp jobs ht, ← loop_eq cap _ sp hl.1 hl.2]
  rfl

theorem allJoined_fine (sp : Spawner) (t : Nat) (jobs : Nat → JobRes) (hc : Clean jobs t) :
    ∀ j, j ∈ allJoined sp t jobs → joinedFine j := by
  intro j hj
  simp only [allJoined, List.mem_map, List.mem_range] at hj
  obtain ⟨i, hi, rfl⟩ := hj
  exact joined_fine sp _ (hc i hi).1 (hc i hi).2

theorem loop_total (cap : Nat) (js : List Joined) (hj : ∀ j, j ∈ js → joinedFine j) :
    ∃ r, (stitch cap js acc0).bind (wrapUp cap) = ok r ∧ r.returned = true ∧ r.out.length ≤ cap := by
  obtain ⟨a, h1, k1⟩ := stitch_total cap js acc0 hj (acc0_ok cap)
  obtain ⟨r, h3, h4, h5⟩ := finishUp_total cap a k1
  exact ⟨r, by rw [h1]; exact h3, h4, h5⟩

theorem finishUp_ok_iff (cap : Nat) (a : Acc) (k : Nat) (out : List Nat) (ret : Bool) :
    finishUp cap a = ok ⟨.ok k, out, ret⟩ ↔
      isOk a.res ∧ spliceFinish cap a.cat a.out = some out ∧ k = out.length ∧ ret = true := by
  unfold finishUp spliceFinish
  cases hr : a.res with
  | error e =>
    refine ⟨fun h => (by cases h), fun ⟨⟨_, h⟩, _⟩ => by cases h⟩
  | ok k0 =>
    cases hf : BV.Concat.finish a.cat (cap - a.out.length) with
    | panic s => exact ⟨fun h => (by cases h), fun ⟨_, h, _⟩ => by cases h⟩
    | ok f =>
      dsimp only [finishRes]
      by_cases hc : f.code = BV.Concat.SUCCESS
      · rw [if_pos hc, if_pos hc]
        constructor
        · intro h; cases h; exact ⟨⟨k0, rfl⟩, rfl, rfl, rfl⟩
        · rintro ⟨_, h, rfl, rfl⟩; cases h; rfl
      · rw [if_neg hc, if_neg hc]
        exact ⟨fun h => (by cases h), fun ⟨_, h, _⟩ => by cases h⟩

def JobsAre (jobs : Nat → JobRes) (bs : List (List Nat)) : Prop := ∀ i b, bs[i]? = some b → jobs i = .ok b

theorem allJoined_eq_iff (sp : Spawner) (t : Nat) (jobs : Nat → JobRes) (bs : List (List Nat)) :
    allJoined sp t jobs = bs.map Joined.ok ↔ bs.length = t ∧ JobsAre jobs bs := by
  constructor
  · intro h
    have hl : bs.length = t := by simpa [allJoined] using (congrArg List.length h).symm
    refine ⟨hl, fun i b hb => ?_⟩
    have hi : i < t := by
      rcases Nat.lt_or_ge i bs.length with hi | hi
      · omega
      · rw [List.getElem?_eq_none hi] at hb; cases hb
    have := congrArg (·[i]?) h
    simp only [allJoined, List.getElem?_map, List.getElem?_range hi, hb, Option.map_some, Option.some.injEq] at this
    exact (joined_ok_iff sp _ b).mp this
  · rintro ⟨rfl, hj⟩
    apply List.ext_getElem (by simp [allJoined])
    intro i h1 h2
    have hi : i < bs.length := by simpa using h2
    simp only [allJoined, List.getElem_map, List.getElem_range, hj i bs[i] (List.getElem?_eq_getElem hi)]
    rfl

theorem loop_ok_iff (cap : Nat) (js : List Joined) (k : Nat) (out : List Nat) (ret : Bool) :
    (stitch cap js acc0).bind (wrapUp cap) = ok ⟨.ok k, out, ret⟩ ↔
      ∃ bs, js = bs.map Joined.ok ∧ spliceAll cap bs = some out ∧ k = out.length ∧ ret = true := by
  have t0 : Tight acc0 := fun k h => by cases h; rfl
  constructor
  · intro h
    obtain ⟨x, hx, h⟩ := bind_eq_ok h
    cases x with
    | inr e => cases h
    | inl a =>
      obtain ⟨⟨k1, hk1⟩, hfin, hk, hret⟩ := (finishUp_ok_iff cap a k out ret).mp h
      obtain ⟨res, o, cat⟩ := a
      cases hk1
      obtain ⟨_, _, bs, hbs, hsp⟩ := (stitch_ok_iff cap js _ k1 _ _ t0).mp hx
      exact ⟨bs, hbs, by simp only [spliceAll]; rw [show spliceMembers cap bs BV.Concat.State.new [] = _ from hsp]; exact hfin,
        hk, hret⟩
  · rintro ⟨bs, hbs, hs, hk, hret⟩
    unfold spliceAll at hs
    cases hsp : spliceMembers cap bs BV.Concat.State.new [] with
    | none => rw [hsp] at hs; cases hs
    | some p =>
      obtain ⟨s', o⟩ := p
      rw [hsp] at hs; dsimp only at hs
      rw [hbs, (stitch_ok_iff cap _ acc0 _ s' o t0).mpr ⟨rfl, ⟨0, rfl⟩, bs, rfl, hsp⟩, bind_ok]
      exact (finishUp_ok_iff cap ⟨.ok o.length, o, s'⟩ k out ret).mpr ⟨⟨_, rfl⟩, hs, hk, hret⟩

theorem compressMulti_ok_sound {sp : Spawner} {t : Nat} {jobs : Nat → JobRes} {cap : Nat} {r : MultiRet} {k : Nat}
    (h : compressMulti sp t jobs cap = ok r) (hk : r.result = .ok k) :
    ∃ bs : List (List Nat), bs.length = t ∧ JobsAre jobs bs ∧ spliceAll cap bs = some r.out ∧
      k = r.out.length ∧ r.returned = true := by
  obtain ⟨_, hrun⟩ := compressMulti_inv h
  obtain ⟨res, out, ret⟩ := r
  cases hk
  obtain ⟨bs, hbs, hs, hk, hret⟩ := (loop_ok_iff cap _ k out ret).mp hrun
  obtain ⟨hl, hj⟩ := (allJoined_eq_iff sp t jobs bs).mp hbs
  exact ⟨bs, hl, hj, hs, hk, hret⟩

end BV.Lemmas.Multi
