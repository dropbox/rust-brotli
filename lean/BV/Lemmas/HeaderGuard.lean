/-
C08: the hypothesis `Guard` of the stream bound, proved from the model of the size decision of
`WriteMetaBlockInternal` (`BV.Stored.writeMetaBlockInternal`): `should_compress` and the compressed attempt are
arbitrary; the "stored when bigger than input + 4" fallback bounds the growth of the whole-byte position by
`len + 4` (`len + 5` above 2^20).
-/
import BV.Lemmas.HeaderStreamBound
namespace BV.Stored
open BV.Bits BV.Header BV.Bits.Out BV.HeaderSpec

theorem storeUncompressed_true (data : List Nat) (w b : Writer) (h1 : 1 ≤ data.length) (h2 : data.length ≤ 2 ^ 24)
    (hb : storeUncompressedMetaBlock false data w = ok b) (h8 : b.length % 8 = 0) :
    ∃ f, storeUncompressedMetaBlock true data w = ok f ∧ f.length = b.length + 8 := by
  rw [BV.MetaBlock.stored_false_ok data w h1 h2] at hb
  cases hb
  refine ⟨_, BV.MetaBlock.stored_true_ok data w h1 h2, ?_⟩
  simp only [List.length_append] at h8 ⊢
  simp [BV.MetaBlock.emptyLastBits, BV.MetaBlock.padTo8]
  omega

/-- `closeMb`, `storedMb`: the local `close` and `stored` of `BV.Stored.writeMetaBlockInternal`, lifted out so that
lemmas can be stated about them (`writeMetaBlockInternal_eq` is `rfl`) -/
def closeMb (actualIsLast isLast : Bool) (b : Writer) : Out MbOut :=
  if actualIsLast != isLast then (writeEmptyLastMetaBlock b).bind fun f => ok { body := b, fin := f }
  else ok { body := b, fin := b }

def storedMb (actualIsLast isLast : Bool) (data : List Nat) (w0 : Writer) : Out MbOut :=
  (storeUncompressedMetaBlock false data w0).bind fun b =>
  (storeUncompressedMetaBlock isLast data w0).bind fun f =>
  if isLast then ok { body := b, fin := f } else closeMb actualIsLast isLast f

theorem writeMetaBlockInternal_eq (appendable catable actualIsLast : Bool) (data : List Nat) (o : MbOracle)
    (w : Writer) :
    writeMetaBlockInternal appendable catable actualIsLast data o w =
      if !appendable && catable then panic else
      if data.length = 0 then
        (writeBits 2 3 w).bind fun w1 => ok { body := w, fin := jumpToByteBoundary w1 }
      else if !o.shouldCompress then storedMb actualIsLast (if appendable then false else actualIsLast) data w
      else if data.length + 4 + w.length >>> 3 < (w ++ o.attempt).length >>> 3 then
        if w.length % 256 ≠ w.length then fuel
        else storedMb actualIsLast (if appendable then false else actualIsLast) data w
      else closeMb actualIsLast (if appendable then false else actualIsLast) (w ++ o.attempt) := rfl

theorem closeMb_spec (actualIsLast isLast : Bool) (b : Writer) :
    ∃ r, closeMb actualIsLast isLast b = ok r ∧ r.body = b ∧
      b.length ≤ r.fin.length ∧ r.fin.length ≤ (b.length + 2 + 7) / 8 * 8 := by
  unfold closeMb
  split
  · obtain ⟨e, he, hel⟩ := writeEmptyLast_length b
    rw [he]
    exact ⟨_, rfl, rfl, by show b.length ≤ e.length; omega, by show e.length ≤ _; omega⟩
  · exact ⟨_, rfl, rfl, Nat.le_refl _, by show b.length ≤ _; omega⟩

theorem storedMb_spec (actualIsLast isLast : Bool) (data : List Nat) (w : Writer)
    (h1 : 1 ≤ data.length) (h2 : data.length ≤ 2 ^ 24) :
    ∃ r, storedMb actualIsLast isLast data w = ok r ∧
      Guard w.length data.length r.body.length ∧ w.length ≤ r.body.length ∧
      r.body.length ≤ r.fin.length ∧ r.fin.length ≤ (r.body.length + 2 + 7) / 8 * 8 := by
  obtain ⟨n4, n6⟩ := nibsOf_range data.length
  obtain ⟨b, hb, hbl⟩ := storeUncompressed_false data w h1 h2
  have hb8 : b.length % 8 = 0 := by rw [hbl]; omega
  have hbg : Guard w.length data.length b.length ∧ w.length ≤ b.length := by
    unfold Guard
    rw [hbl]
    by_cases h20 : data.length > 2 ^ 20
    · rw [if_pos h20]; omega
    · rw [if_neg h20]
      have : nibsOf data.length ≤ 5 := by
        unfold nibsOf
        split
        · decide
        · rw [if_pos (by omega)]; decide
      omega
  unfold storedMb
  rw [hb]
  cases isLast
  · obtain ⟨r, hr, hrb, g3, g4⟩ := closeMb_spec actualIsLast false b
    rw [← hrb] at hbg g3 g4
    exact ⟨r, by rw [← hr, hb]; rfl, hbg.1, hbg.2, g3, g4⟩
  · obtain ⟨f, hf, hfl⟩ := storeUncompressed_true data w b h1 h2 hb hb8
    rw [hf]
    exact ⟨_, rfl, hbg.1, hbg.2, by show b.length ≤ f.length; omega,
      by show f.length ≤ (b.length + 2 + 7) / 8 * 8; omega⟩

theorem wmbi_guard (appendable catable actualIsLast : Bool) (data : List Nat) (o : MbOracle) (w : Writer)
    (hcat : catable = true → appendable = true)
    (h1 : 1 ≤ data.length) (h2 : data.length ≤ 2 ^ 24) (hw : w.length < 256) :
    ∃ r, writeMetaBlockInternal appendable catable actualIsLast data o w = ok r ∧
      Guard w.length data.length r.body.length ∧
      w.length ≤ r.body.length ∧
      r.body.length ≤ r.fin.length ∧ r.fin.length ≤ (r.body.length + 2 + 7) / 8 * 8 := by
  have hpan : (!appendable && catable) = false := by
    cases catable
    · exact Bool.and_false _
    · rw [hcat rfl]; rfl
  obtain ⟨rs, hrs, s1, s2, s3, s4⟩ :=
    storedMb_spec actualIsLast (if appendable then false else actualIsLast) data w h1 h2
  rw [writeMetaBlockInternal_eq, hpan, if_neg (by decide), if_neg (by omega)]
  cases o.shouldCompress
  · exact ⟨rs, hrs, s1, s2, s3, s4⟩
  · rw [if_neg (by decide)]
    by_cases hbig : data.length + 4 + w.length >>> 3 < (w ++ o.attempt).length >>> 3
    · rw [if_pos hbig, if_neg (by rw [Nat.mod_eq_of_lt hw]; exact fun h => h rfl)]
      exact ⟨rs, hrs, s1, s2, s3, s4⟩
    · rw [if_neg hbig]
      obtain ⟨r, hr, hrb, g3, g4⟩ := closeMb_spec actualIsLast (if appendable then false else actualIsLast)
        (w ++ o.attempt)
      rw [← hrb] at g3 g4
      refine ⟨r, hr, ?_, by rw [hrb, List.length_append]; omega, g3, g4⟩
      rw [hrb]
      unfold Guard
      rw [Nat.shiftRight_eq_div_pow, Nat.shiftRight_eq_div_pow] at hbig
      split <;> omega

theorem guard_shift (D a len b : Nat) (h : Guard a len b) : Guard (8 * D + a) len (8 * D + b) := by
  unfold Guard at h ⊢
  generalize (if len > 2 ^ 20 then 1 else 0) = c at h ⊢
  omega

/-- a never-flushed run of meta-blocks written by `WriteMetaBlockInternal`: each element is
the block's data, the payload coder's free choices, and the `is_last` flag; `P` is the global bit
position, `D` the bytes already handed out, `w` the staging storage of that `encode_data` call
(carry bits, on the first call preceded by the stream head) -/
inductive RunW (app cat : Bool) : Nat → List (List Nat × MbOracle × Bool) → Nat → Prop
  | nil (P : Nat) : RunW app cat P [] P
  | cons {P D P'' : Nat} {w : Writer} {data : List Nat} {o : MbOracle} {last : Bool} {r : MbOut}
      {rest : List (List Nat × MbOracle × Bool)} :
      P = 8 * D + w.length → w.length < 256 →
      writeMetaBlockInternal app cat last data o w = ok r →
      RunW app cat (8 * D + r.body.length) rest P'' →
      RunW app cat P ((data, o, last) :: rest) P''

theorem runW_run {app cat : Bool} (hcat : cat = true → app = true) {P P' : Nat}
    {steps : List (List Nat × MbOracle × Bool)} (h : RunW app cat P steps P')
    (hlen : ∀ st ∈ steps, 1 ≤ st.1.length ∧ st.1.length ≤ 2 ^ 24) :
    Run P (steps.map (·.1.length)) P' := by
  induction h with
  | nil P => exact Run.nil P
  | @cons P D P'' w data o last r rest hP hw hr _ ih =>
    obtain ⟨l1, l2⟩ := hlen (data, o, last) (by simp)
    obtain ⟨r', hr', g, _⟩ := wmbi_guard app cat last data o w hcat l1 l2 hw
    rw [hr] at hr'
    cases hr'
    simp only [List.map_cons]
    refine Run.cons ?_ (ih (fun st hst => hlen st (by simp [hst])))
    rw [hP]
    exact guard_shift D _ _ _ g

/-- the head of a stream (window bits, magic block with ≤ 10 size-hint bytes, catable
prelude) is shorter than 256 bits, so the `storage_ix as u8` of the rewind is exact -/
theorem headLen_lt_256 (W k pre : Nat) (magic : Bool) (hW : W ≤ 14) (hk : k ≤ 10) (hp : pre ≤ 2) :
    headLen W magic k pre < 256 := by
  have := headLen_le W k pre magic hW
  split at this <;> omega

end BV.Stored
