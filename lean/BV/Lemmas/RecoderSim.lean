/-
C14, one iteration of `process_command_queue` (model `BV.Recoder.step`): the position bookkeeping holds for EVERY command
(`step_position`); for well-formed commands the iteration simulates one command of the RFC 7932 decoder (`Sim`, `decStep`).
-/
import BV.Lemmas.RecoderAux

namespace BV.Recoder
open BV.PrefixArith

theorem copyPart_len (e : Env) (cache : List Int) (interim : Pair) (mbLen : Nat) (out : List IR) (idx : Nat) (off : Int)
    (fd maxd copyLen actual mbLen' : Nat) (cache' : List Int) (out' : List IR)
    (hm : copyPart e cache interim mbLen out idx off fd maxd copyLen = some (actual, mbLen', cache', out')) :
    mbLen' + min actual mbLen = mbLen := by
  by_cases hle : fd ≤ maxd
  · rw [copyPart_copy hle] at hm; cases hm; omega
  · obtain ⟨_, _, _, hd⟩ := copyPart_dict (by omega) hm
    cases hd <;> omega

structure Pos (mb : Bytes) (s : St) (c : Nat) : Prop where
  rep : Rep mb s.iter c
  iterLen : s.iter.len = s.mbLen
  sum : c + s.mbLen = mb.length

theorem rep_empty_tail (mb : Bytes) (p : Pair) (c : Nat) (hl : p.len = 0) (hc : c ≤ mb.length) : Rep mb p c := by
  have ha : p.a.data = [] := List.length_eq_zero_iff.mp (by unfold Pair.len at hl; omega)
  have hb : p.b.data = [] := List.length_eq_zero_iff.mp (by unfold Pair.len at hl; omega)
  exact ⟨by simp [Pair.bytes, ha, hb, hl], by omega, fun h => absurd ha h, fun h => absurd hb h⟩

theorem step_position (mb : Bytes) (h32 : mb.length < 2 ^ 32) (e : Env) (s s' : St) (cmd : Cmd) (c : Nat)
    (hp : Pos mb s c) (hm : step e s cmd = some s') :
    ∃ n, Pos mb s' (c + n) ∧ s'.nbe = s.nbe + n := by
  obtain ⟨idx, off, fd, lsub, lc, mbLen1, out1, actual, mbLen2, cache2, out2, csub, cc, out3, dsub, dc, out4,
    _, _, hlp, hcp, _, _, rfl⟩ := step_some rfl hm
  have hsum := hp.sum
  obtain ⟨rIns, rInt, lIns, lInt⟩ := hp.rep.splitAt (min (cmd.insertLen % 2 ^ 32) s.mbLen)
    (by rw [hp.iterLen]; exact Nat.min_le_right _ _)
  rw [hp.iterLen] at lInt
  generalize (s.iter.splitAt (min (cmd.insertLen % 2 ^ 32) s.mbLen)).1 = ins at *
  generalize (s.iter.splitAt (min (cmd.insertLen % 2 ^ 32) s.mbLen)).2 = int at *
  generalize min (cmd.insertLen % 2 ^ 32) s.mbLen = k at *
  -- only the length equation of `litPart_spec` is wanted: oracle and window do not enter it, so any will do
  obtain ⟨_, _, em1, _⟩ := litPart_spec (fun _ _ _ => none) 0 mb h32 e s ins _ lsub lc mbLen1 out1 rIns hlp
  have hlen2 := copyPart_len e _ _ _ _ _ _ _ _ _ _ _ _ _ hcp
  have hint : int.len = mbLen1 := by omega
  clear hlp hcp hm h32
  refine ⟨ins.len + (int.splitAt actual).1.len, ⟨?_, ?_, ?_⟩, (Nat.add_assoc _ _ _)⟩
  -- the copied part is cut to what the iterator still holds (a dictionary word may be longer)
  · show Rep mb (int.splitAt actual).2 _
    by_cases hact : actual ≤ int.len
    · obtain ⟨_, rR, lC, _⟩ := rInt.splitAt actual hact
      rw [lIns, lC, ← Nat.add_assoc]; exact rR
    · exact rep_empty_tail mb _ _ (by rw [(int.splitAt_len actual).2]; omega)
        (by rw [(int.splitAt_len actual).1]; omega)
  · show (int.splitAt actual).2.len = mbLen2
    rw [(int.splitAt_len actual).2]; omega
  · show c + (ins.len + (int.splitAt actual).1.len) + mbLen2 = mb.length
    rw [(int.splitAt_len actual).1]; omega

theorem stepAll_position (mb : Bytes) (h32 : mb.length < 2 ^ 32) (e : Env) :
    ∀ (cmds : List Cmd) (s s' : St) (c : Nat), Pos mb s c → stepAll e s cmds = some s' →
      ∃ n, Pos mb s' (c + n) ∧ s'.nbe = s.nbe + n := by
  intro cmds
  induction cmds with
  | nil => intro s s' c hp hm; cases hm; exact ⟨0, hp, rfl⟩
  | cons x cs ih =>
    intro s s' c hp hm
    obtain ⟨s1, h1, hm⟩ := stepAll_cons_some.mp hm
    obtain ⟨n1, p1, e1⟩ := step_position mb h32 e s s1 x c hp h1
    obtain ⟨n2, p2, e2⟩ := ih s1 s' _ p1 hm
    exact ⟨n1 + n2, by rw [← Nat.add_assoc]; exact p2, by omega⟩

open BV.PrefixArith

structure Sim (w : WordOracle) (window : Nat) (mb h : Bytes) (s : St) (t : DecSt) : Prop where
  pos : Pos mb s t.cursor
  nbe : s.nbe = t.out.length
  out : replayIR w window mb s.out h = some t.out
  cache : t.cursor < mb.length → s.cache = t.ring ∧ CacheOk s.cache

/-- `win31`: the recoder keeps distances `as i32` (`toI32_small`) -/
structure EnvOK (e : Env) (w : WordOracle) (window : Nat) : Prop where
  win : window = windowSize e.lgwin
  win31 : window < 2 ^ 31
  oracle : OracleOK e.expand w

def CmdsWF (cmds : List Cmd) (dp : DistParams) : Prop := ∀ c ∈ cmds, DistWF c dp ∧ c.insertLen < 2 ^ 32

theorem CacheOk.push {cache : List Int} (hc : CacheOk cache) (n : Nat) : CacheOk (toI32 n :: cache.take 3) := by
  refine ⟨by simp [hc.1], fun x hx => ?_⟩
  rcases List.mem_cons.mp hx with rfl | hx
  · exact toI32_range n
  · exact hc.2 x (List.mem_of_mem_take hx)

theorem copyPart_sim (w : WordOracle) (window : Nat) (mb : Bytes) (h32 : mb.length < 2 ^ 32) (e : Env)
    (hE : EnvOK e w window)
    (cache : List Int) (hc : CacheOk cache) (interim : Pair) (c mbLen : Nat) (hmb : mbLen + c = mb.length)
    (out : List IR) (idx : Nat) (off : Int) (copyLen : Nat) (d : Int) (upd : Bool) (hd : 0 < d)
    (hupd : upd = true ↔ (idx ≠ 1 ∨ off ≠ 0)) (o : Bytes) (actual mbLen' : Nat) (cache' : List Int) (out' : List IR)
    (hm : copyPart e cache interim mbLen out idx off d.toNat (min o.length window) copyLen =
      some (actual, mbLen', cache', out'))
    (t' : DecSt) (hdec : DecCopy w window mb o c cache copyLen d upd t') :
    ∃ xs, out' = out ++ xs ∧ replayIR w window mb xs o = some t'.out ∧
      t'.cursor = c + actual ∧ mbLen' + actual = mbLen ∧ cache' = t'.ring ∧ CacheOk cache' := by
  have h31 := hE.win31
  cases hdec with
  | lz hle hfit =>
    rw [copyPart_copy hle, show min mbLen copyLen = copyLen by omega] at hm
    cases hm
    refine ⟨if copyLen ≠ 0 then [IR.copy (d.toNat % 2 ^ 32) (copyLen % 2 ^ 32)] else [], ?_, ?_, rfl, by omega,
      ?_, ?_⟩
    · split <;> simp
    · by_cases hz : copyLen ≠ 0
      · rw [if_pos hz]
        simp only [replayIR]
        rw [Nat.mod_eq_of_lt (by omega), Nat.mod_eq_of_lt (by omega), if_pos ⟨by omega, by omega, by omega⟩]
      · rw [if_neg hz, show copyLen = 0 by omega]; rfl
    ·
      cases upd with
      | true => rw [if_pos (hupd.mp rfl), if_pos rfl, toI32_small _ (by omega), Int.toNat_of_nonneg (by omega)]
      | false => rw [if_neg (fun hh => Bool.noConfusion (hupd.mpr hh))]; rfl
    · split
      · exact hc.push _
      · exact hc
  | word word hgt h4 h24 hw hfit =>
    obtain ⟨_, _, rfl, hd⟩ := copyPart_dict (by omega) hm
    cases hd with
    | fits word' hw' _ _ =>
      obtain rfl : word' = word := Option.some.inj (hw'.symm.trans ((hE.oracle.agree _ _ h4 h24).trans hw))
      exact ⟨_, rfl, Emits.dict hE.oracle window mb h4 h24 hw' o, rfl, by omega, rfl, hc⟩
    | cut word' hw' hlt =>
      obtain rfl : word' = word := Option.some.inj (hw'.symm.trans ((hE.oracle.agree _ _ h4 h24).trans hw))
      omega

theorem copyPart_terminal (w : WordOracle) (window : Nat) (mb : Bytes)
    (e : Env) (hE : EnvOK e w window) (cache : List Int) (interim : Pair)
    (out : List IR) (idx : Nat) (off : Int) (fd maxd copyLen : Nat)
    (actual mbLen' : Nat) (cache' : List Int) (out' : List IR)
    (hm : copyPart e cache interim 0 out idx off fd maxd copyLen = some (actual, mbLen', cache', out')) :
    ∃ xs, out' = out ++ xs ∧ Emits w window mb xs [] ∧ mbLen' = 0 := by
  by_cases hle : fd ≤ maxd
  · rw [copyPart_copy hle, Nat.zero_min, if_neg (fun h : 0 ≠ 0 => h rfl)] at hm
    cases hm
    exact ⟨[], by simp, Emits.nil w window mb, rfl⟩
  · obtain ⟨h4, h24, _, hd⟩ := copyPart_dict (by omega) hm
    cases hd with
    | fits word hw hz _ =>
      obtain rfl : word = [] := List.length_eq_zero_iff.mp (by omega)
      exact ⟨_, rfl, Emits.dict hE.oracle window mb h4 h24 hw, rfl⟩
    | cut word hw _ => exact ⟨[], by simp, Emits.nil w window mb, rfl⟩

theorem step_sim (w : WordOracle) (window : Nat) (mb h : Bytes) (h32 : mb.length < 2 ^ 32)
    (e : Env) (hE : EnvOK e w window) (s s' : St) (t t' : DecSt) (cmd : Cmd)
    (hs : Sim w window mb h s t) (wf : DistWF cmd e.dp) (hins : cmd.insertLen < 2 ^ 32)
    (hm : step e s cmd = some s')
    (hd : decStep w e.dp.npostfix e.dp.ndirect window mb t cmd = some t') :
    Sim w window mb h s' t' := by
  have hil := decStep_insert_le hd
  obtain ⟨hcur, hdec⟩ := decStep_eq_some_iff.mp hd
  obtain ⟨hring, hcok⟩ := hs.cache hcur
  have hsum := hs.pos.sum
  -- the position bookkeeping holds for every command; it is enough that both sides stand at the same position
  -- afterwards, with the same replay and the same ring
  suffices hmain : s'.mbLen + t'.cursor = mb.length ∧ replayIR w window mb s'.out h = some t'.out ∧
      (t'.cursor < mb.length → s'.cache = t'.ring ∧ CacheOk s'.cache) by
    obtain ⟨n, hpos', hnbe'⟩ := step_position mb h32 e s s' cmd t.cursor hs.pos hm
    have hlen := decStep_length w _ _ window mb t t' cmd hd
    have hsum' := hpos'.sum
    have hnbe := hs.nbe
    have hn : t.cursor + n = t'.cursor := by omega
    exact ⟨hn ▸ hpos', by omega, hmain.2.1, hmain.2.2⟩
  have hk : min (cmd.insertLen % 2 ^ 32) s.mbLen = cmd.insertLen := by
    rw [Nat.mod_eq_of_lt hins]; omega
  obtain ⟨idx, off, fd, lsub, lc, mbLen1, out1, actual, mbLen2, cache2, out2, csub, cc, out3, dsub, dc, out4,
    hdi, hfd, hlp, hcp, hb1, hb2, rfl⟩ := step_some hk hm
  obtain ⟨rIns, _, lIns, _⟩ := hs.pos.rep.splitAt cmd.insertLen (by rw [hs.pos.iterLen]; omega)
  generalize (s.iter.splitAt cmd.insertLen).1 = ins at *
  generalize (s.iter.splitAt cmd.insertLen).2 = int at *
  obtain ⟨lits, rfl, em1, emL⟩ := litPart_spec w window mb h32 e s ins t.cursor lsub lc mbLen1 out1 rIns hlp
  rw [rIns.bytes, lIns] at emL
  obtain ⟨xs4, rfl, em4⟩ : ∃ xs4, out4 = out3 ++ xs4 ∧ Emits w window mb xs4 [] := by
    split at hb2
    · exact bumpBlock_spec w window mb e.btd IR.bsd (Emits.bsd w window mb) _ _ _ _ _ _ hb2
    · cases hb2; exact ⟨[], by simp, Emits.nil w window mb⟩
  obtain ⟨xs3, rfl, em3⟩ := bumpBlock_spec w window mb e.btc IR.bsc (Emits.bsc w window mb) _ _ _ _ _ _ hb1
  have hout : ∀ xs2 o, replayIR w window mb xs2 (t.out ++ (mb.drop t.cursor).take cmd.insertLen) = some o →
      replayIR w window mb (s.out ++ lits ++ xs2 ++ xs3 ++ xs4) h = some o := by
    intro xs2 o h2
    rw [List.append_assoc, List.append_assoc, List.append_assoc, replayIR_append_some w window mb _ _ _ _ hs.out,
      replayIR_append_some w window mb _ _ _ _ (emL _), replayIR_append_some w window mb _ _ _ _ h2, em3.append em4]
    exact congrArg some (List.append_nil _)
  have hmb1 : mbLen1 + (t.cursor + cmd.insertLen) = mb.length := by omega
  clear hm hd hlp hb1 hb2 em1 hk rIns
  rcases hdec with ⟨hterm, rfl⟩ | ⟨hlt, d, upd, hrd, hdpos, hcpd⟩
  ·
    obtain rfl : mbLen1 = 0 := by omega
    obtain ⟨xs2, rfl, em2, rfl⟩ := copyPart_terminal w window mb e hE s.cache int _ idx off fd _ _ actual mbLen2 cache2
      out2 hcp
    exact ⟨hmb1, hout xs2 _ ((em2 _).trans (congrArg some (List.append_nil _))),
      fun hlt => absurd hlt (by show ¬ t.cursor + cmd.insertLen < _; omega)⟩
  · rw [← hring] at hrd hcpd
    obtain ⟨hfd', hupd⟩ := dist_agree cmd e.dp wf s.cache hcok idx off hdi d upd hrd hdpos
    obtain rfl : fd = d.toNat := Option.some.inj (hfd.symm.trans hfd')
    have ho : s.nbe + ins.len = (t.out ++ (mb.drop t.cursor).take cmd.insertLen).length := by
      rw [lIns, hs.nbe, List.length_append, length_take_drop mb _ _ hil]
    rw [ho, ← hE.win] at hcp
    obtain ⟨xs2, rfl, hr2, hcur2, hlen2, rfl, hcok2⟩ :=
      copyPart_sim w window mb h32 e hE s.cache hcok int (t.cursor + cmd.insertLen) mbLen1 hmb1 _ idx off
        (copyLenCode cmd.copyLenField) d upd hdpos hupd _ actual mbLen2 cache2 out2 hcp t' hcpd
    exact ⟨by show mbLen2 + t'.cursor = _; omega, hout xs2 _ hr2, fun _ => ⟨rfl, hcok2⟩⟩

theorem stepAll_sim (w : WordOracle) (window : Nat) (mb h : Bytes) (h32 : mb.length < 2 ^ 32)
    (e : Env) (hE : EnvOK e w window) :
    ∀ (cmds : List Cmd) (s s' : St) (t t' : DecSt), Sim w window mb h s t → CmdsWF cmds e.dp →
      stepAll e s cmds = some s' → decSteps w e.dp.npostfix e.dp.ndirect window mb t cmds = some t' →
      Sim w window mb h s' t' := by
  intro cmds
  induction cmds with
  | nil => intro s s' t t' hs _ hm hd; cases hm; cases hd; exact hs
  | cons c cs ih =>
    intro s s' t t' hs wf hm hd
    obtain ⟨s1, h1, hm⟩ := stepAll_cons_some.mp hm
    obtain ⟨t1, h2, hd⟩ := decSteps_cons_some.mp hd
    have hc := wf c (by simp)
    exact ih s1 s' t1 t' (step_sim w window mb h h32 e hE s s1 t t1 c hs hc.1 hc.2 h1 h2)
      (fun x hx => wf x (by simp [hx])) hm hd

end BV.Recoder
