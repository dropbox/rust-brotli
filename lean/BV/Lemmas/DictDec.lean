/-
C10, decoder side: the sticky `max_distance` state machine of brotli-decompressor (hand model
`BV.Dict.Dec`) has the closed form `min (P + d') (2^wbits − 16)` along any non-decreasing
sequence of positions; the ring buffer holds the dictionary tail right below position 0.
-/
import BV.Model.Dict

namespace BV.Dict

def Dec.closed (D : Dec) (P : Nat) : Nat := min (P + D.dEff) D.mbd

theorem Dec.stepMax_fresh' (D : Dec) (cur pos : Nat) (h : cur ≠ D.mbd) :
    D.stepMax cur pos = D.closed pos := by
  unfold Dec.stepMax Dec.closed Dec.mbdMinus Dec.dEff Dec.mbd
  unfold Dec.mbd at h
  generalize 2 ^ D.wbits = W at *
  rw [if_pos h]
  split <;> omega

theorem Dec.stepMax_stuck (D : Dec) (pos : Nat) : D.stepMax D.mbd pos = D.mbd := by
  simp [Dec.stepMax]

theorem Dec.closed_mono (D : Dec) {p q : Nat} (h : p ≤ q) (hp : D.closed p = D.mbd) : D.closed q = D.mbd := by
  unfold Dec.closed at *
  omega

/-- invariant: either the sticky value has not been reached, or every later position is saturated -/
theorem Dec.runMax_closed_aux (D : Dec) :
    ∀ (ps : List Nat) (cur lo p : Nat),
      (cur ≠ D.mbd ∨ (cur = D.mbd ∧ D.closed lo = D.mbd)) →
      (ps ++ [p]).Pairwise (· ≤ ·) → (∀ x ∈ ps ++ [p], lo ≤ x) →
      D.runMax cur (ps ++ [p]) = D.closed p := by
  intro ps
  induction ps with
  | nil =>
    intro cur lo p hc _ hlo
    simp only [List.nil_append, Dec.runMax]
    rcases hc with hc | ⟨hc, hs⟩
    · exact D.stepMax_fresh' cur p hc
    · subst hc
      rw [D.stepMax_stuck]
      exact (D.closed_mono (hlo p (by simp)) hs).symm
  | cons q ps ih =>
    intro cur lo p hc hsorted hlo
    simp only [List.cons_append, Dec.runMax]
    have hs' : (ps ++ [p]).Pairwise (· ≤ ·) := (List.pairwise_cons.mp hsorted).2
    have hq : ∀ x ∈ ps ++ [p], q ≤ x := (List.pairwise_cons.mp hsorted).1
    apply ih (D.stepMax cur q) q p _ hs' hq
    by_cases hne : D.stepMax cur q = D.mbd
    · right
      refine ⟨hne, ?_⟩
      rcases hc with hc | ⟨hc, hs⟩
      · rw [D.stepMax_fresh' cur q hc] at hne; exact hne
      · exact D.closed_mono (hlo q (by simp)) hs
    · left; exact hne

/-- brotli-decompressor also sets `max_distance = max_backward_distance` when the ring buffer wraps; the model has no such
branch and needs none: a wrap happens at a position `≥ 2^wbits ≥ mbd`, where the closed form already is `mbd` -/
theorem Dec.closed_after_wrap (D : Dec) (P : Nat) (h : 2 ^ D.wbits ≤ P) : D.closed P = D.mbd := by
  unfold Dec.closed Dec.mbd; omega

theorem Dec.before_eq (D : Dec) (rbits k : Nat) (hk1 : 1 ≤ k) (hk : k ≤ D.dEff) (hR : D.dEff ≤ 2 ^ rbits) :
    D.before rbits k = D.dict (D.d - k) := by
  unfold Dec.before Dec.ring
  have hd : D.dEff ≤ D.d := by unfold Dec.dEff; omega
  have h1 : D.dEff ≠ 0 ∧ 2 ^ rbits - D.dEff ≤ 2 ^ rbits - k ∧ 2 ^ rbits - k < 2 ^ rbits := by omega
  rw [if_pos h1]
  congr 1
  omega

theorem Dec.before_zero (D : Dec) (rbits k : Nat) (hk : D.dEff < k) (hkR : k ≤ 2 ^ rbits) :
    D.before rbits k = 0 := by
  unfold Dec.before Dec.ring
  rw [if_neg]
  omega

end BV.Dict
