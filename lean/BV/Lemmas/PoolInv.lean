/-
Helper lemmas for C07: the safety invariant `Inv` of the pool model and its preservation.  `Trans` is the
inversion of `step` under `Inv`; every later step lemma goes through it.
-/
import BV.Lemmas.PoolBasic
import BV.Lemmas.PoolContract
import BV.Lemmas.PoolFixedQueue

namespace BV.Lemmas.Pool
open BV.Gen BV.FixedQueue BV.Pool BV.Lemmas.FixedQueue

section hist
variable (t : Nat) (h : List (Nat × Ev)) (id v : Nat) (b : Bool)
-- `joinedIds_cons_of_quiet` / `runCount_cons_of_quiet` event by event (and the two events that are not
-- quiet), for `simp`
@[simp] theorem joinedIds_exit : joinedIds ((t, .exit) :: h) = joinedIds h := rfl
@[simp] theorem joinedIds_pop : joinedIds ((t, .pop id) :: h) = joinedIds h := rfl
@[simp] theorem joinedIds_wait : joinedIds ((t, .wait) :: h) = joinedIds h := rfl
@[simp] theorem joinedIds_run : joinedIds ((t, .run id) :: h) = joinedIds h := rfl
@[simp] theorem joinedIds_publish : joinedIds ((t, .publish id) :: h) = joinedIds h := rfl
@[simp] theorem joinedIds_wake : joinedIds ((t, .wake) :: h) = joinedIds h := rfl
@[simp] theorem joinedIds_spawn : joinedIds ((t, .spawn id) :: h) = joinedIds h := rfl
@[simp] theorem joinedIds_join : joinedIds ((t, .join id v) :: h) = id :: joinedIds h := rfl
@[simp] theorem joinedIds_unwrap : joinedIds ((t, .unwrap b) :: h) = joinedIds h := rfl
@[simp] theorem joinedIds_drop : joinedIds ((t, .drop b) :: h) = joinedIds h := rfl
@[simp] theorem joinedIds_joinW : joinedIds ((t, .joinW b) :: h) = joinedIds h := rfl
@[simp] theorem joinedIds_spurious : joinedIds ((t, .spurious) :: h) = joinedIds h := rfl
@[simp] theorem joinedIds_ite_drop (c : Bool) :
    joinedIds ((t, if c then Ev.drop b else Ev.joinW b) :: h) = joinedIds h := by
  cases c <;> rfl

@[simp] theorem runCount_exit : runCount id ((t, .exit) :: h) = runCount id h := rfl
@[simp] theorem runCount_pop (x : Nat) : runCount id ((t, .pop x) :: h) = runCount id h := rfl
@[simp] theorem runCount_wait : runCount id ((t, .wait) :: h) = runCount id h := rfl
@[simp] theorem runCount_run (x : Nat) :
    runCount id ((t, .run x) :: h) = eqInd x id + runCount id h := rfl
@[simp] theorem runCount_publish (x : Nat) : runCount id ((t, .publish x) :: h) = runCount id h := rfl
@[simp] theorem runCount_wake : runCount id ((t, .wake) :: h) = runCount id h := rfl
@[simp] theorem runCount_spawn (x : Nat) : runCount id ((t, .spawn x) :: h) = runCount id h := rfl
@[simp] theorem runCount_join (x : Nat) : runCount id ((t, .join x v) :: h) = runCount id h := rfl
@[simp] theorem runCount_unwrap : runCount id ((t, .unwrap b) :: h) = runCount id h := rfl
@[simp] theorem runCount_drop : runCount id ((t, .drop b) :: h) = runCount id h := rfl
@[simp] theorem runCount_joinW : runCount id ((t, .joinW b) :: h) = runCount id h := rfl
@[simp] theorem runCount_spurious : runCount id ((t, .spurious) :: h) = runCount id h := rfl
@[simp] theorem runCount_ite_drop (c : Bool) :
    runCount id ((t, if c then Ev.drop b else Ev.joinW b) :: h) = runCount id h := by
  cases c <;> rfl
end hist

theorem cntJ_append (id : Nat) (l : List Job) (j : Job) :
    cntJ id (l ++ [j]) = cntJ id l + eqInd j.workId id := by
  simp only [cntJ, eqInd, List.countP_append, List.countP_cons, List.countP_nil, beq_iff_eq]; omega

theorem cntJ_cons (id : Nat) (l : List Job) (j : Job) :
    cntJ id (j :: l) = cntJ id l + eqInd j.workId id := by
  simp only [cntJ, eqInd, List.countP_cons, beq_iff_eq]

theorem cntR_append (id : Nat) (l : List Reply) (r : Reply) :
    cntR id (l ++ [r]) = cntR id l + eqInd r.workId id := by
  simp only [cntR, eqInd, List.countP_append, List.countP_cons, List.countP_nil, beq_iff_eq]; omega

theorem cntR_cons (id : Nat) (l : List Reply) (r : Reply) :
    cntR id (r :: l) = cntR id l + eqInd r.workId id := by
  simp only [cntR, eqInd, List.countP_cons, beq_iff_eq]

theorem cntR_perm (id : Nat) {l l' : List Reply} (h : l.Perm l') : cntR id l = cntR id l' :=
  List.Perm.countP_eq _ h

theorem count_cons_nat (id x : Nat) (l : List Nat) :
    (x :: l).count id = l.count id + eqInd x id := by
  simp only [eqInd, List.count_cons, beq_iff_eq]

def isJoining : SPc → Bool
  | .joining _ => true
  | _ => false

@[simp] theorem isJoining_wake (p : SPc) : isJoining p.wake = isJoining p := by cases p <;> rfl

/-- the pool has been dropped and `drop` has returned (while `drop` is parked in a
`JoinHandle::join` the `d` op is still the head of `prog`) -/
def dropped (s : State) : Bool := s.immediateShutdown && !isJoining s.spc

@[simp] theorem dropped_log (s : State) (t : Nat) (e : Ev) : dropped (s.log t e) = dropped s := rfl
@[simp] theorem dropped_setW (s : State) (i : Nat) (p : WPc) : dropped (s.setW i p) = dropped s := rfl
@[simp] theorem dropped_notifyAll (s : State) : dropped s.notifyAll = dropped s := by
  simp [dropped]

theorem dropped_of_not_joining {s : State} (h : isJoining s.spc = false) :
    dropped s = s.immediateShutdown := by
  rw [dropped, h]; exact Bool.and_true _

theorem dropped_of_spc {s : State} (h : s.spc = .ready ∨ s.spc = .woken) :
    dropped s = s.immediateShutdown :=
  dropped_of_not_joining (by rcases h with h | h <;> rw [h] <;> rfl)

structure Inv (s : State) : Prop where
  wfJ : WF s.jobs
  wfR : WF s.results
  nip : s.numInProgress = wsum busy s.workers
  /-- the `1` is the submitter's own handle on the `Arc` -/
  arc : s.arc = 1 + s.jobs.size + wsum holdsArc s.workers
  /-- every spawned id is in exactly one of: jobs queue, one worker, results queue, joined;
  no other id is anywhere -/
  part : ∀ id, cntJ id s.jobs.items + wsum (hasId id) s.workers + cntR id s.results.items
      + (joinedIds s.hist).count id = below id s.curWorkId
  /-- every id handed out is accounted for by size: with `bound`, at most `MAX_THREADS` jobs are
  spawned and not yet joined, which is what keeps both `push`es from failing -/
  total : s.jobs.size + s.numInProgress + s.results.size + (joinedIds s.hist).length = s.curWorkId
  bound : s.curWorkId ≤ (joinedIds s.hist).length + MAX_THREADS
  contr : contractFrom s.curWorkId (joinedIds s.hist) (dropped s) s.prog = true
  spawnedIds : s.spawned.map Job.workId = List.range s.curWorkId
  /-- no transition of the model sets `shutdown`; its branch in `do_work` is never taken -/
  noShutdown : s.shutdown = false
  joinImm : isJoining s.spc = true → s.immediateShutdown = true

theorem inv_init (n : Nat) (p : List Op) (hc : contract p = true) : Inv (init n p) := by
  refine ⟨wf_new, wf_new, ?_, ?_, ?_, rfl, Nat.zero_le _, hc, rfl, rfl, fun h => by cases h⟩
  · simp only [init, wsum_replicate, busy, Nat.mul_zero]
  · simp only [init, wsum_replicate, holdsArc, FixedQueue.new, Nat.mul_zero]
  · intro id
    simp only [init, items_new, wsum_replicate, hasId, Nat.mul_zero, below_zero]
    rfl

theorem Inv.log {s : State} (I : Inv s) (t : Nat) (e : Ev)
    (he : joinedIds ((t, e) :: s.hist) = joinedIds s.hist) : Inv (s.log t e) := by
  refine ⟨I.wfJ, I.wfR, I.nip, I.arc, fun id => ?_, ?_, ?_, ?_, I.spawnedIds, I.noShutdown,
    I.joinImm⟩
  · exact he ▸ I.part id
  · exact he ▸ I.total
  · exact he ▸ I.bound
  · exact he ▸ I.contr

theorem Inv.notifyAll {s : State} (I : Inv s) : Inv s.notifyAll := by
  refine ⟨I.wfJ, I.wfR, ?_, ?_, fun id => ?_, I.total, I.bound, ?_, I.spawnedIds, I.noShutdown, ?_⟩
  · exact (wsum_map_wake _ busy_wake _).symm ▸ I.nip
  · exact (wsum_map_wake _ holdsArc_wake _).symm ▸ I.arc
  · exact (wsum_map_wake _ (hasId_wake id) _).symm ▸ I.part id
  · exact (dropped_notifyAll s).symm ▸ I.contr
  · exact (isJoining_wake s.spc).symm ▸ I.joinImm

theorem Inv.setW {s : State} (I : Inv s) {i : Nat} {p : WPc} (hw : s.workers[i]? = some p)
    (p' : WPc) (hb : busy p' = busy p) (ha : holdsArc p' = holdsArc p) (hi : ∀ id, hasId id p' = hasId id p) :
    Inv (s.setW i p') := by
  refine ⟨I.wfJ, I.wfR, ?_, ?_, fun id => ?_, I.total, I.bound, I.contr, I.spawnedIds,
    I.noShutdown, I.joinImm⟩
  · exact (wsum_set_eq _ hw hb).symm ▸ I.nip
  · exact (wsum_set_eq _ hw ha).symm ▸ I.arc
  · exact (wsum_set_eq _ hw (hi id)).symm ▸ I.part id

/-- the submitter's pc, program and flag are replaced, the new pc not a `joining` one -/
theorem Inv.sub {s : State} (I : Inv s) (q : SPc) (hq : isJoining q = false) (pr : List Op)
    (imm : Bool) (hc : contractFrom s.curWorkId (joinedIds s.hist) imm pr = true) :
    Inv { s with spc := q, prog := pr, immediateShutdown := imm } :=
  ⟨I.wfJ, I.wfR, I.nip, I.arc, I.part, I.total, I.bound,
    by rw [dropped, hq]; exact (Bool.and_true imm).symm ▸ hc,
    I.spawnedIds, I.noShutdown, fun h => by rw [hq] at h; cases h⟩

/-- likewise with the submitter parked in `drop`'s loop at handle `t` -/
theorem Inv.park {s : State} (I : Inv s) (t : Nat) (pr : List Op) (imm : Bool) (himm : imm = true)
    (hc : contractFrom s.curWorkId (joinedIds s.hist) false pr = true) :
    Inv { s with spc := .joining t, prog := pr, immediateShutdown := imm } :=
  ⟨I.wfJ, I.wfR, I.nip, I.arc, I.part, I.total, I.bound, by subst himm; exact hc,
    I.spawnedIds, I.noShutdown, fun _ => himm⟩

theorem Inv.contr_head {s : State} (I : Inv s) (h : s.spc = .ready ∨ s.spc = .woken) :
    contractFrom s.curWorkId (joinedIds s.hist) s.immediateShutdown s.prog = true :=
  dropped_of_spc h ▸ I.contr

theorem Inv.spawned_workId {s : State} (I : Inv s) {n : Nat} {j : Job} (h : s.spawned[n]? = some j) :
    j.workId = n := by
  have h1 : (s.spawned.map Job.workId)[n]? = some j.workId := by rw [List.getElem?_map, h]; rfl
  rw [I.spawnedIds] at h1
  have hn : n < s.curWorkId := by
    rcases Nat.lt_or_ge n s.curWorkId with hn | hn
    · exact hn
    · rw [List.getElem?_eq_none (by simpa using hn)] at h1; cases h1
  rw [List.getElem?_range hn] at h1
  exact (Option.some.inj h1).symm

theorem Inv.results_room {s : State} (I : Inv s) (h : s.numInProgress ≠ 0) :
    s.results.size < MAX_THREADS := by
  have := I.total; have := I.bound; omega

theorem Inv.jobs_room {s : State} (I : Inv s) {idx : Nat} {rest : List Op}
    (hp : s.prog = .spawn idx :: rest) : s.jobs.size < MAX_THREADS := by
  have := (contractFrom_spawn.mp (hp ▸ I.contr)).2.1
  have := I.total
  omega

/-- under the contract the back-pressure branch of `spawn` (`cvar.wait` "hope room frees
up") is dead code: the loop condition is true at the first evaluation -/
theorem spawn_cond_of_inv {s : State} (I : Inv s) :
    s.jobs.size + s.numInProgress + s.results.size ≤ MAX_THREADS := by
  have := I.total; have := I.bound; omega

inductive Trans (s : State) : Choice → State → Prop
  | exitA (i : Nat) (hw : s.workers[i]? = some .atLockA) (himm : s.immediateShutdown = true) :
      Trans s (.run (i + 1)) ((s.setW i .exited).log (i + 1) .exit)
  | pop (i : Nat) (j : Job) (jobs' : FixedQueue Job) (hw : s.workers[i]? = some .atLockA)
      (himm : s.immediateShutdown = false) (w' : WF jobs') (hit : s.jobs.items = j :: jobs'.items)
      (hsz : s.jobs.size = jobs'.size + 1) :
      Trans s (.run (i + 1))
        ((({ s with jobs := jobs', numInProgress := s.numInProgress + 1 }.notifyAll).setW i
          (.atRun j)).log (i + 1) (.pop j.workId))
  | waitW (i : Nat) (hw : s.workers[i]? = some .atLockA) (himm : s.immediateShutdown = false)
      (hsz : s.jobs.size = 0) : Trans s (.run (i + 1)) ((s.setW i .waiting).log (i + 1) .wait)
  | run (i : Nat) (j : Job) (hw : s.workers[i]? = some (.atRun j)) :
      Trans s (.run (i + 1))
        (({ s with arc := s.arc - 1 }.setW i (.atLockB ⟨j.workId, j.index⟩)).log (i + 1)
          (.run j.workId))
  | publish (i : Nat) (r : Reply) (results' : FixedQueue Reply)
      (hw : s.workers[i]? = some (.atLockB r)) (hn : s.numInProgress ≠ 0) (w' : WF results')
      (hit : results'.items = s.results.items ++ [r]) (hsz : results'.size = s.results.size + 1) :
      Trans s (.run (i + 1))
        ((({ s with numInProgress := s.numInProgress - 1, results := results' }.notifyAll).setW i
          .atLockA).log (i + 1) (.publish r.workId))
  | wake (i : Nat) (hw : s.workers[i]? = some .woken) :
      Trans s (.run (i + 1)) ((s.setW i .atLockA).log (i + 1) .wake)
  | spawn (idx : Nat) (rest : List Op) (jobs' : FixedQueue Job)
      (hspc : s.spc = .ready ∨ s.spc = .woken) (hp : s.prog = .spawn idx :: rest)
      (himm : s.immediateShutdown = false)
      (hlt : s.curWorkId < (joinedIds s.hist).length + MAX_THREADS)
      (hrest : contractFrom (s.curWorkId + 1) (joinedIds s.hist) s.immediateShutdown rest = true)
      (w' : WF jobs') (hit : jobs'.items = s.jobs.items ++ [⟨s.curWorkId, idx⟩])
      (hsz : jobs'.size = s.jobs.size + 1) :
      Trans s (.run 0)
        ((({ s with jobs := jobs', curWorkId := s.curWorkId + 1, arc := s.arc + 1,
                    spawned := s.spawned ++ [Job.mk s.curWorkId idx],
                    prog := rest }.notifyAll).setSpc .ready).log 0 (.spawn s.curWorkId))
  | join (n : Nat) (rest : List Op) (j : Job) (r : Reply) (results' : FixedQueue Reply)
      (hspc : s.spc = .ready ∨ s.spc = .woken) (hp : s.prog = .join n :: rest)
      (hsp : s.spawned[n]? = some j) (himm : s.immediateShutdown = false)
      (hrest : contractFrom s.curWorkId (j.workId :: joinedIds s.hist) s.immediateShutdown rest = true)
      (w' : WF results') (hperm : (r :: results'.items).Perm s.results.items)
      (hid : r.workId = j.workId) (hsz : s.results.size = results'.size + 1) :
      Trans s (.run 0)
        ({ s with results := results', spc := .ready, prog := rest }.log 0 (.join j.workId r.value))
  | joinWait (n : Nat) (rest : List Op) (hspc : s.spc = .ready ∨ s.spc = .woken)
      (hp : s.prog = .join n :: rest) (himm : s.immediateShutdown = false)
      (hcnt : cntR n s.results.items = 0) :
      Trans s (.run 0) ({ s with spc := .waiting }.log 0 .wait)
  | unwrap (rest : List Op) (hspc : s.spc = .ready ∨ s.spc = .woken)
      (hp : s.prog = .unwrapInput :: rest) :
      Trans s (.run 0) ({ s with spc := .ready, prog := rest }.log 0 (.unwrap (s.arc == 1)))
  | dropPark (rest : List Op) (t : Nat) (e : Ev) (hspc : s.spc = .ready ∨ s.spc = .woken)
      (hp : s.prog = .dropPool :: rest)
      (hrest : contractFrom s.curWorkId (joinedIds s.hist) true rest = true) (he : quiet e = true)
      (hlo : 1 ≤ t) (hhi : t ≤ s.workers.length)
      (hgone : ∀ k, 1 ≤ k → k < t → (s.workers.map WPc.wake)[k - 1]? = some .exited) :
      Trans s (.run 0)
        ({ ({ s with immediateShutdown := true }.notifyAll) with spc := .joining t }.log 0 e)
  | dropDone (rest : List Op) (e : Ev) (hspc : s.spc = .ready ∨ s.spc = .woken)
      (hp : s.prog = .dropPool :: rest)
      (hrest : contractFrom s.curWorkId (joinedIds s.hist) true rest = true) (he : quiet e = true)
      (hall : ∀ k, 1 ≤ k → k ≤ s.workers.length → (s.workers.map WPc.wake)[k - 1]? = some .exited) :
      Trans s (.run 0)
        ({ ({ s with immediateShutdown := true }.notifyAll) with spc := .ready, prog := rest }.log 0 e)
  | joinPark (t : Nat) (rest : List Op) (t' : Nat) (e : Ev) (hspc : s.spc = .joining t)
      (hp : s.prog = .dropPool :: rest) (hex : s.workers[t - 1]? = some .exited)
      (himm : s.immediateShutdown = true)
      (hrest : contractFrom s.curWorkId (joinedIds s.hist) true rest = true) (he : quiet e = true)
      (hlo : t + 1 ≤ t') (hhi : t' ≤ s.workers.length)
      (hgone : ∀ k, t + 1 ≤ k → k < t' → s.workers[k - 1]? = some .exited) :
      Trans s (.run 0) ({ s with spc := .joining t' }.log 0 e)
  | joinDone (t : Nat) (rest : List Op) (e : Ev) (hspc : s.spc = .joining t)
      (hp : s.prog = .dropPool :: rest) (hex : s.workers[t - 1]? = some .exited)
      (himm : s.immediateShutdown = true)
      (hrest : contractFrom s.curWorkId (joinedIds s.hist) true rest = true) (he : quiet e = true)
      (hall : ∀ k, t + 1 ≤ k → k ≤ s.workers.length → s.workers[k - 1]? = some .exited) :
      Trans s (.run 0) ({ s with spc := .ready, prog := rest }.log 0 e)
  | spurS (hspc : s.spc = .waiting) : Trans s (.spurious 0) ({ s with spc := .woken }.log 0 .spurious)
  | spurW (tid : Nat) (hw : s.workers[tid - 1]? = some .waiting) :
      Trans s (.spurious tid) ((s.setW (tid - 1) .woken).log tid .spurious)

/-- for a refused spurious wake-up nothing is recorded: no theorem asks why it was refused -/
def Stuck (s : State) : Choice → Prop
  | .run 0 => s.subRunnable = false ∨ ∃ t, s.spc = .joining t ∧ ∀ rest, s.prog ≠ .dropPool :: rest
  | .run (i + 1) => ∀ p, s.workers[i]? = some p → p.runnable = false
  | .spurious _ => True

def StepTo (s : State) (c : Choice) : Except Err State → Prop
  | .ok s' => Trans s c s'
  | .error e => e = .badChoice ∧ Stuck s c

theorem step_cases {s : State} (I : Inv s) (c : Choice) : StepTo s c (step s c) := by
  match c with
  | .run (i + 1) =>
    show StepTo s _ (stepWorker s i)
    unfold stepWorker
    cases hw : s.workers[i]? with
    | none => exact ⟨rfl, fun p hp => by rw [hw] at hp; cases hp⟩
    | some p =>
      cases p with
      | atLockA =>
        dsimp only [stepLockA]
        by_cases himm : s.immediateShutdown = true
        · rw [if_pos himm]; exact .exitA i hw himm
        · rw [if_neg himm]
          have himm := (Bool.not_eq_true _).mp himm
          rcases pop_spec I.wfJ with ⟨hsz, -, e⟩ | ⟨j, jobs', e, w', hit, hsz⟩ <;> rw [e] <;> dsimp only
          · rw [if_neg (by rw [I.noShutdown]; exact Bool.false_ne_true)]
            exact .waitW i hw himm hsz
          · exact .pop i j jobs' hw himm w' hit hsz
      | atRun j => exact .run i j hw
      | atLockB r =>
        -- neither the `num_in_progress` underflow nor `results.push(..).unwrap()`
        have hn : s.numInProgress ≠ 0 := by
          have := wsum_ge_of_mem busy hw
          have := I.nip
          simp only [busy] at *
          omega
        obtain ⟨q', e1, w', hit, hsz, -⟩ := push_spec I.wfR r (I.results_room hn)
        dsimp only [stepLockB]
        rw [if_neg hn, e1]
        exact .publish i r q' hw hn w' hit hsz
      | woken => exact .wake i hw
      | waiting => exact ⟨rfl, fun p hp => by rw [hw] at hp; cases hp; rfl⟩
      | exited => exact ⟨rfl, fun p hp => by rw [hw] at hp; cases hp; rfl⟩
  | .run 0 =>
    show StepTo s _ (stepSub s)
    by_cases hspc : s.spc = .ready ∨ s.spc = .woken
    · rw [stepSub_loopHead hspc]
      have hc := I.contr_head hspc
      unfold stepHead
      rcases hp : s.prog with _ | ⟨op, rest⟩ <;> rw [hp] at hc
      · exact ⟨rfl, .inl (by rcases hspc with h | h <;> simp [State.subRunnable, h, hp])⟩
      cases op with
      | spawn idx =>
        obtain ⟨himm, hlt, hrest⟩ := contractFrom_spawn.mp hc
        obtain ⟨q', e1, w', hit, hsz, -⟩ := push_spec I.wfJ ⟨s.curWorkId, idx⟩ (I.jobs_room hp)
        dsimp only [stepSpawn]
        rw [if_pos (spawn_cond_of_inv I), e1]
        exact .spawn idx rest q' hspc hp himm hlt hrest w' hit hsz
      | join n =>
        -- the contract only allows joins of handles that exist; the `assert!` in `remove` is dead
        obtain ⟨himm, hn, -, hrest⟩ := contractFrom_join.mp hc
        have hlt : n < s.spawned.length := by
          have := congrArg List.length I.spawnedIds
          rw [List.length_map, List.length_range] at this
          omega
        have hsp := List.getElem?_eq_getElem hlt
        dsimp only [stepJoin]
        rw [hsp]; dsimp only
        have hid := I.spawned_workId hsp
        rcases remove_spec I.wfR (matchId s.spawned[n].workId) with
          ⟨hno, e⟩ | ⟨k, r, results', R⟩
        · rw [e]
          refine .joinWait n rest hspc hp himm (hid ▸ List.countP_eq_zero.mpr fun x hx => ?_)
          simpa [matchId] using hno x hx
        · rw [R.eq]
          exact .join n rest _ r results' hspc hp hsp himm (by rw [hid]; exact hrest) R.wf R.perm
            (by simpa [matchId] using R.hit) R.size
      | unwrapInput => exact .unwrap rest hspc hp
      | dropPool =>
        have hrest := (contractFrom_drop.mp hc).2
        show Trans s _ (joinFrom ({ s with immediateShutdown := true }.notifyAll) 1 rest true)
        rcases joinFrom_cases ({ s with immediateShutdown := true }.notifyAll) 1 rest true
          (Nat.le_refl _) with ⟨t, e, he, hlo, hhi, -, hgone, eq⟩ | ⟨e, he, hall, eq⟩ <;>
          rw [eq]
        · exact .dropPark rest t e hspc hp hrest he hlo (by simpa using hhi) hgone
        · exact .dropDone rest e hspc hp hrest he (by simpa using hall)
    · cases hs : s.spc with
      | ready => exact absurd (.inl hs) hspc
      | woken => exact absurd (.inr hs) hspc
      | waiting =>
        simp only [stepSub, hs]
        exact ⟨rfl, .inl (by simp [State.subRunnable, hs])⟩
      | joining t =>
        have himm := I.joinImm (by rw [hs]; rfl)
        simp only [stepSub, hs]
        split
        · rename_i rest hp
          split
          · rename_i hex
            have hrest : contractFrom s.curWorkId (joinedIds s.hist) true rest = true := by
              have := I.contr; rw [dropped, hs, himm, hp] at this
              exact (contractFrom_drop.mp this).2
            rcases joinFrom_cases s (t + 1) rest false (Nat.le_add_left 1 t) with
              ⟨t', e, he, hlo, hhi, -, hgone, eq⟩ | ⟨e, he, hall, eq⟩ <;> rw [eq]
            · exact .joinPark t rest t' e hs hp hex himm hrest he hlo hhi hgone
            · exact .joinDone t rest e hs hp hex himm hrest he hall
          · exact ⟨rfl, .inl (by simpa [State.subRunnable, hs] using ‹_›)⟩
        · exact ⟨rfl, .inr ⟨t, hs, fun rest hp => ‹∀ rest, s.prog = _ → False› rest hp⟩⟩
  | .spurious tid =>
    show StepTo s _ (stepSpurious s tid)
    unfold stepSpurious
    split
    · rename_i h0
      subst h0
      split
      · rename_i hspc; exact .spurS hspc
      · exact ⟨rfl, trivial⟩
    · split
      · rename_i hw; exact .spurW tid hw
      · exact ⟨rfl, trivial⟩

theorem trans_of_step {s s' : State} {c : Choice} (I : Inv s) (h : step s c = .ok s') :
    Trans s c s' := by
  have := step_cases I c
  rwa [h] at this

theorem inv_step {s s' : State} {c : Choice} (I : Inv s) (h : step s c = .ok s') : Inv s' := by
  have hlog : ∀ {x : State} {t : Nat} {e : Ev}, quiet e = true → Inv x → Inv (x.log t e) :=
    fun he Ix => Ix.log _ _ (joinedIds_cons_of_quiet he _ _)
  cases trans_of_step I h with
  | exitA i hw => exact hlog rfl (I.setW hw .exited rfl rfl fun _ => rfl)
  | waitW i hw => exact hlog rfl (I.setW hw .waiting rfl rfl fun _ => rfl)
  | wake i hw => exact hlog rfl (I.setW hw .atLockA rfl rfl fun _ => rfl)
  | spurW tid hw => exact hlog rfl (I.setW hw .woken rfl rfl fun _ => rfl)
  | pop i j jobs' hw _ w' hit hsz =>
    have hb := wsum_set_wake busy busy_wake (.atRun j) hw
    have ha := wsum_set_wake holdsArc holdsArc_wake (.atRun j) hw
    have hi := fun id => wsum_set_wake (hasId id) (hasId_wake id) (.atRun j) hw
    simp only [busy, holdsArc, hasId] at hb ha hi
    refine hlog rfl ⟨w', I.wfR, ?_, ?_, fun id => ?_, ?_, I.bound,
      (dropped_notifyAll s).symm ▸ I.contr, I.spawnedIds, I.noShutdown,
      (isJoining_wake s.spc).symm ▸ I.joinImm⟩
    · have := I.nip; simp; omega
    · have := I.arc; simp; omega
    · have := I.part id; rw [hit, cntJ_cons] at this; have := hi id
      simp; omega
    · have := I.total
      simp; omega
  | run i j hw =>
    have hb := wsum_set busy (.atLockB ⟨j.workId, j.index⟩) hw
    have ha := wsum_set holdsArc (.atLockB ⟨j.workId, j.index⟩) hw
    have hi := fun id => wsum_set (hasId id) (.atLockB ⟨j.workId, j.index⟩) hw
    simp only [busy, holdsArc, hasId] at hb ha hi
    refine Inv.log ?_ _ _ (by rfl)
    refine ⟨I.wfJ, I.wfR, ?_, ?_, fun id => ?_, I.total, I.bound, I.contr, I.spawnedIds,
      I.noShutdown, I.joinImm⟩
    · have := I.nip; simp; omega
    · have := I.arc; simp; omega
    · have := I.part id; have := hi id; simp; omega
  | publish i r results' hw hn w' hit hsz =>
    have hb := wsum_set_wake busy busy_wake .atLockA hw
    have ha := wsum_set_wake holdsArc holdsArc_wake .atLockA hw
    have hi := fun id => wsum_set_wake (hasId id) (hasId_wake id) .atLockA hw
    simp only [busy, holdsArc, hasId] at hb ha hi
    refine hlog rfl ⟨I.wfJ, w', ?_, ?_, fun id => ?_, ?_, I.bound,
      (dropped_notifyAll s).symm ▸ I.contr, I.spawnedIds, I.noShutdown,
      (isJoining_wake s.spc).symm ▸ I.joinImm⟩
    · have := I.nip; simp; omega
    · have := I.arc; simp; omega
    · have := I.part id; have := hi id
      simp [hit, cntR_append]; omega
    · have := I.total
      simp; omega
  | spawn idx rest jobs' _ _ himm hlt hrest w' hit hsz =>
    have hb := wsum_map_wake busy busy_wake s.workers
    have ha := wsum_map_wake holdsArc holdsArc_wake s.workers
    have hi := fun id => wsum_map_wake (hasId id) (hasId_wake id) s.workers
    refine hlog rfl ⟨w', I.wfR, ?_, ?_, fun id => ?_, ?_, hlt, ?_, ?_, I.noShutdown,
      fun h => by cases h⟩
    · have := I.nip; simp; omega
    · have := I.arc; simp; omega
    · have := I.part id; have := hi id; simp [hit, cntJ_append, below_succ]; omega
    · have := I.total; simp; omega
    · simpa [dropped, isJoining, himm] using hrest
    · simp [I.spawnedIds, List.range_succ]
  | join n rest j r results' _ _ _ himm hrest w' hperm hid hsz =>
    refine ⟨I.wfJ, w', I.nip, I.arc, fun id => ?_, ?_, ?_, ?_, I.spawnedIds, I.noShutdown,
      fun h => by cases h⟩
    · have := I.part id
      rw [← cntR_perm id hperm, cntR_cons, hid] at this
      simp [count_cons_nat]; omega
    · have := I.total; simp; omega
    · have := I.bound; simp; omega
    · simpa [dropped, isJoining, himm] using hrest
  | joinWait n rest hspc => exact hlog rfl (I.sub .waiting rfl _ _ (I.contr_head hspc))
  | unwrap rest hspc hp =>
    exact hlog rfl (I.sub .ready rfl rest _
      (by have := I.contr_head hspc; rwa [hp, contractFrom_unwrap] at this))
  | dropPark rest t e _ hp hrest he =>
    exact hlog he (I.notifyAll.park t _ true rfl
      (by rw [notifyAll_prog, hp, contractFrom_drop]; exact ⟨rfl, hrest⟩))
  | dropDone rest e _ _ hrest he => exact hlog he (I.notifyAll.sub .ready rfl rest true hrest)
  | joinPark t rest t' e hspc hp _ himm hrest he =>
    exact hlog he (I.park t' _ _ himm
      (by rw [hp, contractFrom_drop]; exact ⟨rfl, hrest⟩))
  | joinDone t rest e _ _ _ himm hrest he =>
    exact hlog he (I.sub .ready rfl rest _ (by rw [himm]; exact hrest))
  | spurS hspc =>
    exact hlog rfl (I.sub .woken rfl _ _ (by simpa [dropped, hspc, isJoining] using I.contr))

end BV.Lemmas.Pool
