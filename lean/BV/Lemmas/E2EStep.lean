/-
The closing half of `encode_data` (`BV.E2E.writePart`: last_insert_len merge, WriteMetaBlockInternal, distance-cache
rollback, bookkeeping reset) with the RFC reader's state threaded through: for ANY command list that is in lock step with
the decoder and whose decoder run ends in `⟨hist ++ mb, cache'[..4], |mb|⟩` (what `cbr_final_state`,
BV/Lemmas/ChainFinal.lean, establishes for one CreateBackwardReferences call, and `BV.Cbr.Merged`, BV/Lemmas/CbrMerge.lean, for
several), the reader ends in `⟨hist ++ mb, dist_cache_[..4] AFTER the invocation⟩` — incl. the stored outcome, where the reader's
ring is unchanged and the encoder rolls `dist_cache_` back to `saved_dist_cache_` (`writePart_reads`; only that last step needs
`saved_dist_cache_` to be in step with `dist_cache_`).  `payload_core` puts the front half of `encode_data` (hasher setup,
CreateBackwardReferences, the emit decision) before it.  Both conclude `Closes`; the statements of BV/Props/C01E2E.lean and
C01E2ERun.lean are its fields, with `Reads` written as the pair of `reads_iff` where they need no final state.
-/
import BV.Lemmas.E2EBasic
import BV.Lemmas.ChainFinal
import BV.Lemmas.E2EWmbi

namespace BV.E2E
open BV.Hasher BV.MatchFinder BV.Recoder BV.PrefixArith BV.MetaBlock BV.Cbr BV.Bits BV.Props.C01Chain BV.Props.C01E2E

/-- what the payload state looks like between meta-blocks -/
structure Fresh (ps : PSt) : Prop where
  cmds : ps.cmds = []
  lil : ps.lastInsertLen = 0
  i32 : CacheI32 ps.distCache
  len : 4 ≤ ps.distCache.length
  saved : ps.savedDistCache = ps.distCache.take 4

/-- What an `encode_data` invocation that closed its meta-block and returned `r` did, as seen by the RFC reader in state
`s` behind the storage bits `w`: it appended `bits`, which take the reader to a state `s'` with output `o`; and if
`saved_dist_cache_` was in step with `dist_cache_` (`sync`), the ring of `s'` is the `dist_cache_[..4]` the invocation leaves
and the payload state is `Fresh` again. -/
structure Closes (wo : WordOracle) (window : Nat) (large isLast : Bool) (w : List Bool) (s : RdSt) (o : Bytes)
    (sync : Prop) (r : Res) (bits : List Bool) (s' : RdSt) : Prop where
  app : r.w = w ++ bits
  emit : r.emit = true
  wrote : r.wrote = true
  out : s'.out = o
  reads : Reads wo window large isLast w.length s bits s'
  fresh : sync → s' = ⟨o, r.st.distCache.take 4⟩ ∧ Fresh r.st

theorem writePart_reads (e : EParams) (wo : WordOracle) (data : ByteArray) (k tail : Nat)
    (hist mb : Bytes) (lo : Nat) (hb : BlockOK e.cbr e.large data k tail hist mb lo) (hsize : 2 ^ k ≤ data.size)
    (cache0 saved cacheR : List Int) (hc0 : CacheI32 cache0) (hcl0 : 4 ≤ cache0.length)
    (hcR : CacheI32 cacheR) (hclR : 4 ≤ cacheR.length)
    (cmds : List Cmd) (lil numLiterals : Nat) (hT : Tab × Common)
    (hok : ∀ c ∈ closeMetaBlock cmds lil, cmdOK (distAlphabetSize e.large 0 0) 0 0 c = true)
    (hlock : lockstep wo 0 0 (maxBackwardLimit e.cbr) mb ⟨hist, cache0.take 4, 0⟩ 0 (closeMetaBlock cmds lil) = true)
    (hfin : decSteps wo 0 0 (maxBackwardLimit e.cbr) mb ⟨hist, cache0.take 4, 0⟩ (closeMetaBlock cmds lil)
      = some ⟨hist ++ mb, cacheR.take 4, mb.length⟩)
    (lp lf ip : Nat) (hlf : lf = hist.length) (hlp : lp ≤ ip) (hip : ip = hist.length + mb.length)
    (hsmall : ip < 2 ^ 30) (h1 : 1 ≤ mb.length) (hcat : e.catable = true → e.appendable = true)
    (isLast verdict : Bool) (w : List Bool) (hw : w.length < 256) (r : Res)
    (h : writePart e data (2 ^ k - 1) lp lf ip isLast verdict saved hT cacheR cmds lil numLiterals w = .ok r) :
    ∃ bits s'', Closes wo (maxBackwardLimit e.cbr) e.large isLast w ⟨hist, cache0.take 4⟩ (hist ++ mb)
      (saved = cache0.take 4) r bits s'' := by
  have hU : U32 = 4294967296 := rfl
  have hmbk : mb.length ≤ 2 ^ k := Nat.le_trans hb.block_le hb.tail_le
  have hlen24 := hb.len
  have hlenmb : (ip - lf) % U32 = mb.length := by
    rw [hip, hlf, Nat.add_sub_cancel_left]; exact Nat.mod_eq_of_lt (by omega)
  have hwlf : wrapPosition lf = hist.length := by rw [hlf]; exact wrapPosition_small (by omega)
  have hwip : ¬ wrapPosition ip < wrapPosition lp := by
    rw [wrapPosition_small hsmall, wrapPosition_small (by omega)]; omega
  unfold writePart at h
  simp only [hlenmb, hwlf] at h
  rw [if_neg (by intro hh; have := hh.2; omega)] at h
  cases hmbB : mbBytes data (2 ^ k - 1) hist.length mb.length with
  | panic => rw [hmbB] at h; cases h
  | fuel => rw [hmbB] at h; cases h
  | ok mb' =>
    rw [hmbB] at h
    obtain ⟨rfl, hRH, h256⟩ := mbBytes_of_blockOK hb hmbB
    have hpos2 : 0 < 2 ^ k := Nat.pow_pos (by decide)
    have hIP : inputPairCheck (ringList data) hist.length mb'.length (2 ^ k - 1) = .ok () :=
      inputPairCheck_ok_of_le _ _ _ _ (by rw [ringList_length]; omega) (by omega)
    have hst : hist.length < MetaBlock.two64 := by have := hb.total; unfold MetaBlock.two64; omega
    have hne : ¬ mb'.length = 0 := by omega
    simp only [] at h
    split at h
    · cases h
    · cases h
    rename_i att hatt
    have hrd : verdict = true → ∀ rest, readMetaBlockFull wo (maxBackwardLimit e.cbr) e.large w.length
        ⟨hist, cache0.take 4⟩ (att ++ rest) = some (⟨hist ++ mb', cacheR.take 4⟩,
          (if e.appendable then false else isLast), w.length + att.length, rest) := by
      intro hv
      subst hv
      simp only [hne, Bool.not_true, Bool.false_eq_true, or_self, if_false] at hatt
      by_cases hq2 : e.quality ≤ 2
      · obtain ⟨att', fin, ew, hdec, _, hrd⟩ := fast_core wo (maxBackwardLimit e.cbr) e.large (ringList data) hist.length
          (2 ^ k - 1) mb' (if e.appendable then false else isLast) (closeMetaBlock cmds lil) hist (cache0.take 4) w
          hRH h256 h1 hlen24 hst hIP hok hlock
        cases Option.some.inj (hdec.symm.trans hfin)
        rw [if_pos hq2, ew] at hatt
        simp only [Out.bind, List.drop_left' rfl, Out.ok.injEq] at hatt
        subst hatt
        intro rest; rw [hrd rest, List.length_append]
      · obtain ⟨att', fin, ew, hdec, _, hrd⟩ := trivial_core wo (maxBackwardLimit e.cbr) e.large (ringList data) hist.length
          (2 ^ k - 1) mb' (if e.appendable then false else isLast) (closeMetaBlock cmds lil) hist (cache0.take 4) w
          hRH h256 h1 hlen24 hst hIP hok hlock
        cases Option.some.inj (hdec.symm.trans hfin)
        rw [if_neg hq2, ew] at hatt
        simp only [Out.bind, List.drop_left' rfl, Out.ok.injEq] at hatt
        subst hatt
        intro rest; rw [hrd rest, List.length_append]
    obtain ⟨ro, bits, e1, e2, e4, e5⟩ := wmbi_reads_state wo (maxBackwardLimit e.cbr) e.large e.appendable e.catable isLast mb'
      ⟨verdict, att⟩ w ⟨hist, cache0.take 4⟩ ⟨hist ++ mb', cacheR.take 4⟩ hcat h1 hlen24 hw h256 hrd
    rw [e1] at h
    simp only [] at h
    rw [if_neg hwip] at h
    simp only [Out.ok.injEq] at h
    subst h
    -- the model's `stored` is `wmbiStored` for a block that is not empty
    have hstored : (decide (mb'.length ≠ 0) && (!verdict || decide (mb'.length + 4 + (w.length >>> 3) < (w.length + att.length) >>> 3)))
        = wmbiStored mb' ⟨verdict, att⟩ w := by
      unfold wmbiStored
      simp only [List.length_append, hne, ne_eq, not_false_eq_true, decide_true, Bool.true_and]
    simp only [hstored]
    cases hs : wmbiStored mb' ⟨verdict, att⟩ w with
    | true =>
      -- stored: the reader's ring is unchanged, and the encoder rolls its cache back to the saved one
      simp only [hs, if_true] at e4 e5 ⊢
      refine ⟨bits, ⟨hist ++ mb', cache0.take 4⟩, e2, rfl, rfl, rfl, reads_iff.mpr ⟨e4, e5⟩, fun hsv => ?_⟩
      have ht : (saved.take 4 ++ cacheR.drop 4).take 4 = cache0.take 4 := by
        rw [hsv, List.take_take, Nat.min_self]; exact List.take_left' (by rw [List.length_take]; omega)
      refine ⟨by rw [ht], rfl, rfl, ?_, ?_, rfl⟩
      · intro x hx; rw [ht] at hx; exact hc0 x hx
      · rw [List.length_append, List.length_drop, hsv, List.length_take, List.length_take]; omega
    | false =>
      simp only [hs, Bool.false_eq_true, if_false] at e4 e5 ⊢
      exact ⟨bits, ⟨hist ++ mb', cacheR.take 4⟩, e2, rfl, rfl, rfl, reads_iff.mpr ⟨e4, e5⟩,
        fun _ => ⟨rfl, rfl, rfl, hcR, hclR, rfl⟩⟩

theorem writePart_roundtrip (e : EParams) (wo : WordOracle) (data : ByteArray) (k tail : Nat)
    (hist mb : Bytes) (lo : Nat) (hb : BlockOK e.cbr e.large data k tail hist mb lo)
    (hsize : 2 ^ k ≤ data.size) (hmbk : mb.length ≤ 2 ^ k)
    (cache0 saved cacheR : List Int) (hc0 : CacheI32 cache0) (hcl0 : 4 ≤ cache0.length) (hsv : saved = cache0.take 4)
    (hcR : CacheI32 cacheR) (hclR : 4 ≤ cacheR.length)
    (cmds : List Cmd) (lil numLiterals : Nat) (hT : Tab × Common)
    (hok : ∀ c ∈ closeMetaBlock cmds lil, cmdOK (distAlphabetSize e.large 0 0) 0 0 c = true)
    (hlock : lockstep wo 0 0 (maxBackwardLimit e.cbr) mb ⟨hist, cache0.take 4, 0⟩ 0 (closeMetaBlock cmds lil) = true)
    (hfin : decSteps wo 0 0 (maxBackwardLimit e.cbr) mb ⟨hist, cache0.take 4, 0⟩ (closeMetaBlock cmds lil)
      = some ⟨hist ++ mb, cacheR.take 4, mb.length⟩)
    (lp lf ip : Nat) (hlf : lf = hist.length) (hlp : lp ≤ ip) (hip : ip = hist.length + mb.length)
    (hsmall : ip < 2 ^ 30) (h1 : 1 ≤ mb.length) (hcat : e.catable = true → e.appendable = true)
    (isLast verdict : Bool) (w : List Bool) (hw : w.length < 256) (r : Res)
    (h : writePart e data (2 ^ k - 1) lp lf ip isLast verdict saved hT cacheR cmds lil numLiterals w = .ok r) :
    ∃ bits, r.w = w ++ bits ∧ r.emit = true ∧ r.wrote = true ∧ Fresh r.st ∧
      (isLast = true → ∀ rest f, readMetaBlocks wo (maxBackwardLimit e.cbr) e.large (f + 2) w.length
          ⟨hist, cache0.take 4⟩ (bits ++ rest) = some (⟨hist ++ mb, r.st.distCache.take 4⟩, rest)) ∧
      (isLast = false → ReadsTo wo (maxBackwardLimit e.cbr) e.large w.length ⟨hist, cache0.take 4⟩ bits false
          (w.length + bits.length) ⟨hist ++ mb, r.st.distCache.take 4⟩) := by
  obtain ⟨bits, s'', c⟩ := writePart_reads e wo data k tail hist mb lo hb hsize cache0 saved cacheR
    hc0 hcl0 hcR hclR cmds lil numLiterals hT hok hlock hfin lp lf ip hlf hlp hip hsmall h1 hcat isLast verdict w hw r h
  obtain ⟨rfl, hF⟩ := c.fresh hsv
  exact ⟨bits, c.app, c.emit, c.wrote, hF, reads_iff.mp c.reads⟩

theorem payload_core (e : EParams) (P : BasicP) (cells : Nat) (kindDict : Bool)
    (hch : chooseHasher e.quality = some (P, cells, kindDict))
    (wo : WordOracle) (dict : ByteArray → Nat → Option (List DictItem)) (data : ByteArray) (k tail : Nat) (hk : k ≤ 32)
    (hist mb : Bytes) (lo : Nat) (hb : BlockOK e.cbr e.large data k tail hist mb lo)
    (hsize : 2 ^ k ≤ data.size)
    (hd : DictFaithful wo (if e.useDict then dict else fun _ _ => none) data)
    (ps : PSt) (hcm : ps.cmds = []) (hli : ps.lastInsertLen = 0)
    (hc : CacheI32 ps.distCache) (hcl : 4 ≤ ps.distCache.length)
    (lp lf ip : Nat) (hlf : lf = hist.length) (hlp : lp = hist.length) (hip : ip = hist.length + mb.length)
    (hsmall : ip < 2 ^ 30) (h1 : 1 ≤ mb.length) (hcat : e.catable = true → e.appendable = true)
    (isLast forceFlush verdict : Bool) (hforce : isLast = true ∨ forceFlush = true)
    (w : List Bool) (hw : w.length < 256) (r : Res)
    (h : encodeDataPayload e dict data (2 ^ k - 1) lp lf ip isLast forceFlush verdict ps w = .ok r) :
    ∃ bits s'', Closes wo (maxBackwardLimit e.cbr) e.large isLast w ⟨hist, ps.distCache.take 4⟩ (hist ++ mb)
      (ps.savedDistCache = ps.distCache.take 4) r bits s'' := by
  have hU : U32 = 4294967296 := rfl
  have hlen24 := hb.len
  have hbytes : (ip - lp) % U32 = mb.length := by
    rw [hip, hlp, Nat.add_sub_cancel_left]; exact Nat.mod_eq_of_lt (by omega)
  have hwlp : wrapPosition lp = hist.length := by rw [hlp]; exact wrapPosition_small (by omega)
  unfold encodeDataPayload at h
  rw [hch] at h
  simp only [hbytes, hwlp] at h
  cases hio : initOrStitch P cells data (2 ^ k - 1) ps.hasher hist.length mb.length with
  | none => rw [hio] at h; cases h
  | some h0 =>
    obtain ⟨b0, c0⟩ := h0
    rw [hio] at h
    simp only [hcm, hli, List.length_nil, ne_eq, not_true_eq_false, false_and, if_false, Nat.sub_zero, Nat.add_zero,
      List.nil_append] at h
    cases hcbr : createBackwardReferences
        (basicOps P kindDict e.lbs (if e.useDict = true then dict else fun _ _ => none) data (2 ^ k - 1)) e.cbr mb.length
        hist.length (b0, c0) ps.distCache 0 ps.numLiterals with
    | none => rw [hcbr] at h; cases h
    | some r0 =>
      rw [hcbr] at h
      obtain ⟨hok, hlock, _⟩ := commands_lockstep_basic P kindDict e.lbs e.cbr e.large wo data k tail hk hist mb lo hb
        (if e.useDict = true then dict else fun _ _ => none) hd mb.length hist.length b0 c0 ps.distCache 0 ps.numLiterals r0
        (by omega) (by omega) hc hcl hcbr
      obtain ⟨hfin, hcR, hclR⟩ := cbr_final_state _ e.cbr e.large wo data k tail hist mb lo hb
        (basicOps_ok (SlotOK wo) P kindDict e.lbs _ data k hk e.cbr hd) mb.length hist.length (b0, c0) ps.distCache 0
        ps.numLiterals r0 (by omega) (by omega) hc hcl hcbr
      have hdec : ¬ ((!isLast) = true ∧ (!forceFlush) = true ∧
          (!decide (e.quality < 4 ∧ r0.numLiterals + r0.cmds.length ≥ 0x2fff)) = true ∧
          decide (ip - lf + 1 <<< e.lgblock ≤ maxMetablockSize e) = true ∧
          r0.numLiterals < maxMetablockSize e / 8 ∧ r0.cmds.length < maxMetablockSize e / 8) := by
        rcases hforce with hf | hf <;> simp [hf]
      simp only [] at h
      rw [if_neg hdec] at h
      exact writePart_reads e wo data k tail hist mb lo hb hsize ps.distCache ps.savedDistCache r0.cache hc hcl hcR hclR
        r0.cmds r0.lastInsertLen r0.numLiterals r0.h hok hlock hfin lp lf ip hlf (by omega) hip hsmall h1 hcat isLast verdict w hw
        r h

end BV.E2E
