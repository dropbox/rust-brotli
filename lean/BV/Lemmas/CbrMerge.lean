/-
Several `CreateBackwardReferences` calls MERGED into one meta-block.  encode.rs keeps appending the commands
of successive input blocks to `commands_` until it decides to emit the meta-block; the `last_insert_len` pending after
one call becomes the insert length of the first command of the next call (or of the closing insert-only command).
Each call is covered by the loop theorem in its LOCAL view (history `hist ++ M[..c]`, meta-block
`M[c .. c + last_insert_len + num_bytes]`) and then moved into the whole meta-block `M`.
-/
import BV.Lemmas.CbrOpen

namespace BV.Cbr
open BV.Hasher BV.MatchFinder BV.Recoder BV.PrefixArith BV.MetaBlock

theorem decStep_embed (w : WordOracle) (np nd window : Nat) (M : Bytes) (a n : Nat) (han : a + n ≤ M.length)
    (out : Bytes) (ring : List Int) (c : Nat) (cmd : Cmd) (d' : DecSt)
    (hopen : c + cmd.insertLen ≠ n)
    (h : decStep w np nd window ((M.drop a).take n) ⟨out, ring, c⟩ cmd = some d') :
    decStep w np nd window M ⟨out, ring, a + c⟩ cmd = some ⟨d'.out, d'.ring, a + d'.cursor⟩ := by
  have hlen : ((M.drop a).take n).length = n := length_take_drop M a n han
  obtain ⟨hcur, ⟨he, _⟩ | ⟨hlt, d, upd, hr, hd, hcp⟩⟩ := decStep_eq_some_iff.mp h
  · exact absurd (hlen ▸ he) hopen
  · simp only [hlen] at hcur hlt
    have hlit : (((M.drop a).take n).drop c).take cmd.insertLen = (M.drop (a + c)).take cmd.insertLen := by
      rw [List.drop_take, List.drop_drop, List.take_take, Nat.min_eq_left (by omega)]
    refine decStep_eq_some_iff.mpr ⟨by show a + c < _; omega, .inr ⟨by show a + c + _ < _; omega, d, upd, hr, hd, ?_⟩⟩
    rw [← hlit, Nat.add_assoc]
    exact hcp.shift a M (by omega)

theorem openSteps_embed (w : WordOracle) (np nd window : Nat) (M : Bytes) (a n : Nat) (han : a + n ≤ M.length) :
    ∀ (cmds : List Cmd) (out : Bytes) (ring : List Int) (c : Nat) (d' : DecSt),
      openSteps w np nd window ((M.drop a).take n) ⟨out, ring, c⟩ cmds = some d' →
      openSteps w np nd window M ⟨out, ring, a + c⟩ cmds = some ⟨d'.out, d'.ring, a + d'.cursor⟩ := by
  have hlen : ((M.drop a).take n).length = n := length_take_drop M a n han
  intro cmds
  induction cmds with
  | nil => intro out ring c d' h; cases h; rfl
  | cons x xs ih =>
    intro out ring c d' h
    obtain ⟨hc, ⟨o1, r1, c1⟩, hd, hcur, h⟩ := openSteps_cons_some.mp h
    have hb := decStep_insert_le hd
    simp only [hlen] at hc hb hcur
    exact openSteps_cons_some.mpr ⟨⟨by show a + c + _ ≠ _; omega, hc.2⟩, _,
      decStep_embed w np nd window M a n han out ring c x _ hc.1 hd, by show a + c1 = a + c + _ + _; omega,
      ih o1 r1 c1 d' h⟩

theorem copyBytes_add : ∀ (a b d : Nat) (out : Bytes), copyBytes (a + b) d out = copyBytes b d (copyBytes a d out) := by
  intro a
  induction a with
  | zero => intro b d out; simp [copyBytes]
  | succ a ih =>
    intro b d out
    rw [show a + 1 + b = (a + b) + 1 by omega]
    simp only [copyBytes]
    exact ih b d _

theorem decStep_extend (w : WordOracle) (np nd window : Nat) (M : Bytes) (s s1 : DecSt) (c c' : Cmd) (n : Nat)
    (D : Int) (upd : Bool)
    (hi : c'.insertLen = c.insertLen) (hp : c'.distPrefix = c.distPrefix) (he : c'.distExtra = c.distExtra)
    (hl : copyLenCode c'.copyLenField = copyLenCode c.copyLenField + n)
    (hne : s.cursor + c.insertLen ≠ M.length)
    (hr : rfcDistance np nd s.ring (c.distPrefix % 1024) c.distExtra = some (D, upd)) (hD : 0 < D)
    (hlz : D.toNat ≤ min (s.out ++ (M.drop s.cursor).take c.insertLen).length window)
    (h : decStep w np nd window M s c = some s1) (hn : s1.cursor + n ≤ M.length) :
    decStep w np nd window M s c' = some ⟨copyBytes n D.toNat s1.out, s1.ring, s1.cursor + n⟩ := by
  obtain ⟨hcur, ⟨he', _⟩ | ⟨hlt, d, upd', hr', _, hcp⟩⟩ := decStep_eq_some_iff.mp h
  · exact absurd he' hne
  obtain ⟨rfl, rfl⟩ := Prod.mk.inj (Option.some.inj (hr'.symm.trans hr))
  refine decStep_eq_some_iff.mpr ⟨hcur, .inr ⟨hi ▸ hlt, d, upd', by rw [hp, he]; exact hr, hD, ?_⟩⟩
  rw [hi, hl]
  cases hcp with
  | lz _ hfit =>
    have := DecCopy.lz (w := w) (mb := M) (ring := s.ring) (n := copyLenCode c.copyLenField + n) (upd := upd') hlz
      (Nat.add_assoc _ _ _ ▸ hn)
    rw [copyBytes_add, ← Nat.add_assoc] at this
    exact this
  | word _ hgt _ _ _ _ => exact absurd hlz hgt

theorem openSteps_snoc (w : WordOracle) (np nd window : Nat) (mb : Bytes) :
    ∀ (xs : List Cmd) (c : Cmd) (d d' : DecSt), openSteps w np nd window mb d (xs ++ [c]) = some d' →
      ∃ s, openSteps w np nd window mb d xs = some s ∧ openSteps w np nd window mb s [c] = some d' := by
  intro xs
  induction xs with
  | nil => intro c d d' h; exact ⟨d, rfl, h⟩
  | cons x xs ih =>
    intro c d d' h
    obtain ⟨hc, d1, hx, hcur, h⟩ := openSteps_cons_some.mp h
    obtain ⟨s, hs, hl⟩ := ih c d1 d' h
    exact ⟨s, openSteps_cons_some.mpr ⟨hc, d1, hx, hcur, hs⟩, hl⟩

def LastCopy (w : WordOracle) (p : Params) (hist M : Bytes) (cache0 : List Int) (cmds : List Cmd) (c : Cmd) (D : Nat) : Prop :=
  ∀ s, openSteps w p.npostfix p.ndirect (maxBackwardLimit p) M ⟨hist, cache0.take 4, 0⟩ cmds = some s →
    ∃ Dz upd, rfcDistance p.npostfix p.ndirect s.ring (c.distPrefix % 1024) c.distExtra = some (Dz, upd) ∧ 0 < Dz ∧
      Dz.toNat = D ∧ D ≤ min (s.out ++ (M.drop s.cursor).take c.insertLen).length (maxBackwardLimit p)

/-- `Merged … cmds c cache lil written`: commands so far, decoder cursor after them, current distance cache, pending
`last_insert_len`, bytes of `M` searched so far -/
inductive Merged (slotOK : DictItem → Prop) (w : WordOracle) (p : Params) (Good : Cmd → Prop) (hist M : Bytes) (cache0 : List Int) :
    List Cmd → Nat → List Int → Nat → Nat → Prop
  | start : Merged slotOK w p Good hist M cache0 [] 0 cache0 0 0
  | call {H : Type} (ops : HasherOps H) (data : ByteArray) (k lo : Nat)
      (cmds : List Cmd) (c : Nat) (cache : List Int) (lil written numBytes position numLiterals : Nat) (h0 : H)
      (res : Result H) :
      Merged slotOK w p Good hist M cache0 cmds c cache lil written →
      written + numBytes ≤ M.length →
      position = hist.length + written →
      OpsOK slotOK ops p data k →
      EmitHyp slotOK ⟨w, data, k, hist ++ M.take c, (M.drop c).take (lil + numBytes), lo⟩ p Good →
      createBackwardReferences ops p numBytes position h0 cache lil numLiterals = some res →
      Merged slotOK w p Good hist M cache0 (cmds ++ res.cmds) (written + numBytes - res.lastInsertLen) res.cache
        res.lastInsertLen (written + numBytes)
  /-- `extend_last_command` (run by `encode_data` before a call when `num_commands_ != 0 && last_insert_len_ == 0`): the next
  `n` input bytes continue the last copy (`n = 0`: only `cmd_prefix_` is recomputed) -/
  | extend (cmds : List Cmd) (c c' : Cmd) (cur : Nat) (cache : List Int) (n D : Nat) :
      Merged slotOK w p Good hist M cache0 (cmds ++ [c]) cur cache 0 cur →
      cur + n ≤ M.length →
      c'.insertLen = c.insertLen → c'.distPrefix = c.distPrefix → c'.distExtra = c.distExtra →
      copyLenCode c'.copyLenField = copyLenCode c.copyLenField + n → copyLen c' = copyLen c + n →
      Good c' →
      LastCopy w p hist M cache0 cmds c D →
      copyBytes n D (hist ++ M.take cur) = hist ++ M.take (cur + n) →
      Merged slotOK w p Good hist M cache0 (cmds ++ [c']) (cur + n) cache 0 (cur + n)

theorem merged_inv {slotOK : DictItem → Prop} {w : WordOracle} {p : Params} {Good : Cmd → Prop} {hist M : Bytes}
    {cache0 : List Int} (h64 : hist.length + M.length < 2 ^ 64) (hc0 : CacheI32 cache0) (hcl0 : 4 ≤ cache0.length)
    {cmds : List Cmd} {c : Nat} {cache : List Int} {lil written : Nat}
    (hm : Merged slotOK w p Good hist M cache0 cmds c cache lil written) :
    openSteps w p.npostfix p.ndirect (maxBackwardLimit p) M ⟨hist, cache0.take 4, 0⟩ cmds
      = some ⟨hist ++ M.take c, cache.take 4, c⟩ ∧
    c + lil = written ∧ written ≤ M.length ∧ CacheI32 cache ∧ 4 ≤ cache.length ∧ ∀ x ∈ cmds, Good x := by
  induction hm with
  | start => exact ⟨by simp [openSteps], rfl, Nat.zero_le _, hc0, hcl0, fun _ hx => by cases hx⟩
  | call ops data k lo cmds c cache lil written numBytes position numLiterals h0 res _ hle hpos hops hemit hrun ih =>
    obtain ⟨hopen, hcl, hw, hci, hcl4, hgood⟩ := ih
    have hloclen : ((M.drop c).take (lil + numBytes)).length = lil + numBytes := length_take_drop M c _ (by omega)
    obtain ⟨d', ho, hout, hcur, hring, hci', hcl', hg'⟩ :=
      cbr_open (C := ⟨w, data, k, hist ++ M.take c, (M.drop c).take (lil + numBytes), lo⟩) hops hemit numBytes position h0
        cache lil numLiterals res (by simp only [List.length_append, List.length_take]; omega) (by simp only [hloclen])
        (by simp only [List.length_append, List.length_take, hloclen]; omega) hci hcl4 hrun
    simp only [hloclen] at hcur
    have he := openSteps_embed w p.npostfix p.ndirect (maxBackwardLimit p) M c (lil + numBytes) (by omega) res.cmds
      (hist ++ M.take c) (cache.take 4) 0 d' ho
    simp only [Nat.add_zero] at he
    refine ⟨?_, by omega, by omega, hci', hcl', List.forall_mem_append.mpr ⟨hgood, hg'⟩⟩
    rw [openSteps_append _ _ _ _ _ _ _ _ _ hopen, he]
    have hcc : c + d'.cursor = written + numBytes - res.lastInsertLen := by omega
    simp only [Option.some.injEq, DecSt.mk.injEq]
    refine ⟨?_, hring, hcc⟩
    rw [hout, List.append_assoc]
    congr 1
    simp only []
    rw [← hcc, List.take_take, Nat.min_eq_left (by omega), ← List.take_add]
  | extend cmds c c' cur cache n D _ hle hi hp he hl hcl hg hlast hcopy ih =>
    obtain ⟨hopen, _, _, hci, hcl4, hgood⟩ := ih
    obtain ⟨s, hs, hc1⟩ := openSteps_snoc _ _ _ _ _ _ _ _ _ hopen
    obtain ⟨Dz, upd, hr, hD, hDz, hlz⟩ := hlast s hs
    obtain ⟨hcond, s1, hd, hcur, hnil⟩ := openSteps_cons_some.mp hc1
    cases hnil
    have hx := decStep_extend w p.npostfix p.ndirect (maxBackwardLimit p) M s _ c c' n Dz upd hi hp he hl hcond.1 hr hD
      (by rw [hDz]; exact hlz) hd (by simpa using hle)
    simp only [hDz, hcopy] at hx
    simp only at hcur
    refine ⟨?_, by omega, hle, hci, hcl4,
      List.forall_mem_append.mpr ⟨(List.forall_mem_append.mp hgood).1, List.forall_mem_singleton.mpr hg⟩⟩
    rw [openSteps_append _ _ _ _ _ _ _ _ _ hs]
    exact openSteps_cons_some.mpr ⟨⟨hi ▸ hcond.1, by omega⟩, _, hx, by show cur + n = _; omega, rfl⟩

theorem merged_close {slotOK : DictItem → Prop} {w : WordOracle} {p : Params} {Good : Cmd → Prop} {hist M : Bytes}
    {cache0 : List Int} (h64 : hist.length + M.length < 2 ^ 64) (h32 : M.length < 2 ^ 32)
    (hc0 : CacheI32 cache0) (hcl0 : 4 ≤ cache0.length)
    (hgi : ∀ l, 0 < l → l ≤ M.length → Good (initInsert l))
    {cmds : List Cmd} {c : Nat} {cache : List Int} {lil : Nat}
    (hm : Merged slotOK w p Good hist M cache0 cmds c cache lil M.length) :
    lockstep w p.npostfix p.ndirect (maxBackwardLimit p) M ⟨hist, cache0.take 4, 0⟩ 0 (closeMetaBlock cmds lil) = true ∧
    (∀ x ∈ closeMetaBlock cmds lil, Good x) ∧
    replayCommands w p.npostfix p.ndirect (maxBackwardLimit p) M (cache0.take 4) hist (closeMetaBlock cmds lil)
      = some (hist ++ M) :=
  let ⟨hopen, hcl, _, _, _, hgood⟩ := merged_inv h64 hc0 hcl0 hm
  openSteps_close hopen rfl hcl h32 hgood hgi

end BV.Cbr
