/-
C01 / greedy builder: histograms held in slots — element access, totals, `HistogramAddItem`,
`HistogramAddHistogram`.
-/
import BV.Model.Greedy
import BV.Lemmas.Bits

namespace BV.Greedy
open BV.Bits BV.Recoder BV.MetaBlock
open BV.Bits.Out (Spec)

def cnt (slot : Slot) (c x : Nat) : Nat := (slot.getD c []).getD x 0

def slotTotal (slot : Slot) : Nat := (slot.map List.sum).sum

def Shaped (nc H : Nat) (slot : Slot) : Prop := slot.length = nc ∧ ∀ h ∈ slot, h.length = H

theorem cnt_le_total (slot : Slot) (c x : Nat) : cnt slot c x ≤ slotTotal slot := by
  unfold cnt slotTotal
  by_cases hc : c < slot.length
  · have h1 := getD_le_sum (slot.getD c []) x
    have h2 := getD_le_sum (slot.map List.sum) c
    have e : (slot.map List.sum).getD c 0 = (slot.getD c []).sum := by
      simp [List.getD_eq_getElem?_getD, List.getElem?_map, List.getElem?_eq_getElem hc]
    omega
  · rw [getD_of_le slot c [] (by omega)]
    simp

theorem getD_zipWith {α : Type} (f : α → α → α) (d : α) (hd : f d d = d) : ∀ (a b : List α) (i : Nat), a.length = b.length →
    (List.zipWith f a b).getD i d = f (a.getD i d) (b.getD i d)
  | [], [], _, _ => hd.symm
  | [], _ :: _, _, h => by simp at h
  | _ :: _, [], _, h => by simp at h
  | _ :: _, _ :: _, 0, _ => rfl
  | _ :: as, _ :: bs, i + 1, h => getD_zipWith f d hd as bs i (Nat.succ.inj h)

theorem addHist_getD (a b : List Nat) (x : Nat) (h : a.length = b.length) :
    (addHist a b).getD x 0 = (a.getD x 0 + b.getD x 0) % two32 :=
  getD_zipWith _ 0 rfl a b x h

theorem addHist_length (a b : List Nat) (h : a.length = b.length) : (addHist a b).length = a.length := by
  simp [addHist, h]

theorem addHist_sum_le : ∀ (a b : List Nat), (addHist a b).sum ≤ a.sum + b.sum
  | [], _ => by simp [addHist]
  | _ :: _, [] => by simp [addHist]
  | a :: as, b :: bs => by
    have := addHist_sum_le as bs
    have h2 : (a + b) % two32 ≤ a + b := Nat.mod_le _ _
    simp only [addHist, List.zipWith_cons_cons, List.sum_cons] at this ⊢
    omega

theorem addSlot_getD (a b : Slot) (c : Nat) (h : a.length = b.length) :
    (addSlot a b).getD c [] = addHist (a.getD c []) (b.getD c []) :=
  getD_zipWith addHist [] rfl a b c h

theorem addSlot_total_le : ∀ (a b : Slot), slotTotal (addSlot a b) ≤ slotTotal a + slotTotal b
  | [], _ => by simp [addSlot, slotTotal]
  | _ :: _, [] => by simp [addSlot, slotTotal]
  | a :: as, b :: bs => by
    have h1 := addSlot_total_le as bs
    have h2 := addHist_sum_le a b
    simp only [slotTotal, addSlot, List.zipWith_cons_cons, List.map_cons, List.sum_cons] at h1 ⊢
    omega

theorem Shaped.getD {nc H : Nat} {slot : Slot} (h : Shaped nc H slot) (c : Nat) (hc : c < nc) :
    (slot.getD c []).length = H :=
  h.2 _ (getD_mem slot c [] (by rw [h.1]; exact hc))

theorem addSlot_cnt (nc H : Nat) (a b : Slot) (ha : Shaped nc H a) (hb : Shaped nc H b) (c x : Nat) :
    cnt (addSlot a b) c x = (cnt a c x + cnt b c x) % two32 := by
  unfold cnt
  rw [addSlot_getD a b c (by rw [ha.1, hb.1])]
  by_cases hc : c < nc
  · exact addHist_getD _ _ x (by rw [ha.getD c hc, hb.getD c hc])
  · rw [getD_of_le a c [] (by rw [ha.1]; omega), getD_of_le b c [] (by rw [hb.1]; omega)]
    simp [addHist]

theorem addSlot_shaped (nc H : Nat) (a b : Slot) (ha : Shaped nc H a) (hb : Shaped nc H b) :
    Shaped nc H (addSlot a b) := by
  refine ⟨by simp [addSlot, ha.1, hb.1], ?_⟩
  intro h hh
  obtain ⟨i, hi, rfl⟩ := List.getElem_of_mem hh
  have hi' : i < nc := by simpa [addSlot, ha.1, hb.1] using hi
  have e : (addSlot a b)[i] = (addSlot a b).getD i [] := by
    simp [List.getD_eq_getElem?_getD, List.getElem?_eq_getElem hi]
  rw [e, addSlot_getD a b i (by rw [ha.1, hb.1]), addHist_length _ _ (by rw [ha.getD i hi', hb.getD i hi'])]
  exact ha.getD i hi'

theorem zeroSlot_shaped (nc H : Nat) : Shaped nc H (zeroSlot nc H) := by
  refine ⟨by simp [zeroSlot], ?_⟩
  intro h hh
  simp only [zeroSlot, List.mem_replicate] at hh
  rw [hh.2]; simp

theorem zeroSlot_cnt (nc H c x : Nat) : cnt (zeroSlot nc H) c x = 0 := by
  unfold cnt zeroSlot
  by_cases hc : c < nc
  · simp [List.getD_eq_getElem?_getD, List.getElem?_replicate, hc]
    split <;> rfl
  · simp [List.getD_eq_getElem?_getD, hc]

theorem zeroSlot_total (nc H : Nat) : slotTotal (zeroSlot nc H) = 0 := by
  unfold slotTotal zeroSlot
  rw [List.map_replicate, List.sum_replicate_nat, List.sum_replicate_nat, Nat.mul_zero, Nat.mul_zero]

theorem addItem_spec (nc H : Nat) (slots : List Slot) (curr context symbol : Nat) (hc : curr < slots.length)
    (hs : Shaped nc H (slots.getD curr [])) (hctx : context < nc) (hsym : symbol < H) :
    ∃ slot', addItem slots curr context symbol = .ok (slots.set curr slot') ∧ Shaped nc H slot' ∧
      slotTotal slot' ≤ slotTotal (slots.getD curr []) + 1 ∧
      (∀ c x, cnt slot' c x = if c = context ∧ x = symbol then (cnt (slots.getD curr []) c x + 1) % two32
        else cnt (slots.getD curr []) c x) := by
  have hcl : context < (slots.getD curr []).length := by rw [hs.1]; exact hctx
  have hhl : symbol < ((slots.getD curr []).getD context []).length := by rw [hs.getD context hctx]; exact hsym
  let slot := slots.getD curr []
  let h := slot.getD context []
  let h' := h.set symbol ((h.getD symbol 0 + 1) % two32)
  refine ⟨slot.set context h', ?_, ?_, ?_, ?_⟩
  · unfold addItem
    rw [getAt_getD slots curr [] hc, Out.bind_ok, getAt_getD _ context [] hcl, Out.bind_ok,
      getAt_getD _ symbol 0 hhl, Out.bind_ok, setAt_of_lt _ symbol _ hhl, Out.bind_ok, setAt_of_lt _ context _ hcl,
      Out.bind_ok, setAt_of_lt _ curr _ hc]
  · refine ⟨by rw [List.length_set]; exact hs.1, ?_⟩
    intro g hg
    rcases List.mem_or_eq_of_mem_set hg with hg | hg
    · exact hs.2 g hg
    · rw [hg]; show (h.set _ _).length = H; rw [List.length_set]; exact hs.getD context hctx
  · have e1 : slotTotal (slot.set context h') + (slot.getD context []).sum = slotTotal slot + h'.sum :=
      BV.sum_map_set List.sum [] slot context h' hcl
    have e2 := sum_set h symbol ((h.getD symbol 0 + 1) % two32) hhl
    have e3 : (h.getD symbol 0 + 1) % two32 ≤ h.getD symbol 0 + 1 := Nat.mod_le _ _
    show slotTotal (slot.set context h') ≤ slotTotal slot + 1
    have e4 : (slot.getD context []).sum = h.sum := rfl
    have e5 : h'.sum + h.getD symbol 0 = h.sum + (h.getD symbol 0 + 1) % two32 := e2
    omega
  · intro c x
    unfold cnt
    show ((slot.set context h').getD c []).getD x 0 = _
    by_cases hcc : c = context
    · subst hcc
      rw [getD_set_eq slot c h' [] hcl]
      by_cases hx : x = symbol
      · subst hx
        rw [if_pos ⟨rfl, rfl⟩]
        exact getD_set_eq h x _ 0 hhl
      · rw [if_neg (by intro hh; exact hx hh.2)]
        exact getD_set_ne h symbol x _ 0 (fun e => hx e.symm)
    · rw [if_neg (by intro hh; exact hcc hh.1), getD_set_ne slot context c h' [] (fun e => hcc e.symm)]

end BV.Greedy
