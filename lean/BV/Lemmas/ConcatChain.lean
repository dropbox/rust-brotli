/-
Behind C03 `concat_bits`, the whole output of a concatenation as an LSB-first bit string.  What one accepted
member adds to the logical output, at byte level for the first member and at bit level for every
later one; `finish`; then the chain over all members.
-/
import BV.Lemmas.ConcatRun
import BV.Lemmas.ConcatSplice

namespace BV.Concat
open Outcome BV.Gen

theorem bytesToBits_append (a b : List Nat) : bytesToBits (a ++ b) = bytesToBits a ++ bytesToBits b := by
  unfold bytesToBits; rw [List.flatMap_append]

theorem finish_passthrough (s : State) (cap : Nat) (hp : s.new_stream_pending = none)
    (hs : s.last_byte_sanitized = false) (hl : s.last_bytes_len = 1 ∨ s.last_bytes_len = 2) (hcap : 2 ≤ cap) :
    ∃ st, finish s cap = ok ⟨st, SUCCESS, 0, held s⟩ := by
  unfold finish
  rw [if_neg (by rw [hs]; simp)]
  simp only [bind_ok]
  have c0 : ¬ (([] : List Nat).length = cap) := by simp; omega
  have c1 : ∀ x : Nat, ¬ (([] ++ [x] : List Nat).length = cap) := by intro x; simp; omega
  have p0 : ([] : List Nat).length < cap := by simp; omega
  have p1 : ∀ x : Nat, ([] ++ [x] : List Nat).length < cap := by intro x; simp; omega
  rw [held_none s hp]
  rcases hl with h1 | h2
  · rw [h1]
    simp only [finishLoop, c0, if_false, push, p0, if_true, bind_ok]
    exact ⟨_, rfl⟩
  · rw [h2]
    simp only [finishLoop, c0, c1, if_false, push, p0, p1, if_true, bind_ok]
    exact ⟨_, rfl⟩

theorem memberRun_of_plan (s : State) (x acc : List Nat) (R : Run) (nsp0 : NewStreamData) (s1 : State)
    (o1 : List Nat) (nspF : NewStreamData) (k : Nat) (s' : State) (n' : NewStreamData) (q : List Nat) (w : Nat)
    (plan : HdrPlan s x nsp0 s1 o1 nspF k s' n' q w) (h : memberResult s x acc R) :
    MemberRun acc o1 q n' w x k s' R := by
  obtain ⟨n, hp, hr⟩ := h
  rw [plan.pending, Option.some.injEq] at hp
  subst hp
  simp only [plan.strip, plan.look, plan.suff, plan.head] at hr
  obtain ⟨w', hw', run⟩ := hr
  rw [plan.written, Option.some.injEq] at hw'
  subst hw'
  exact run

theorem headerLoop_member (m : List Nat) (hlen : need (m.headD 0) ≤ m.length) :
    ∃ nspF, headerLoop NewStreamData.new m 0 = ok (nspF, need (m.headD 0)) ∧ nspF.sufficient = true ∧
      nspF.num_bytes_read = need (m.headD 0) ∧ nspF.num_bytes_written = none ∧
      nspF.bytes_so_far.toList.take nspF.num_bytes_read = m.take (need (m.headD 0)) ∧
      ((∀ y, y ∈ m → y < 256) → nspF.bytes_so_far.b0 < 256 ∧ nspF.bytes_so_far.b1 < 256 ∧
        nspF.bytes_so_far.b2 < 256 ∧ nspF.bytes_so_far.b3 < 256 ∧ nspF.bytes_so_far.b4 < 256) := by
  have h4 : 4 ≤ m.length := by unfold need at hlen; split at hlen <;> omega
  obtain ⟨a, t0, rfl, h3⟩ := exists_cons m 3 h4
  obtain ⟨b, t1, rfl, h2⟩ := exists_cons t0 2 h3
  obtain ⟨c, t2, rfl, h1⟩ := exists_cons t1 1 h2
  obtain ⟨d, t3, rfl, _⟩ := exists_cons t2 0 h1
  simp only [List.headD_cons] at hlen ⊢
  by_cases h17 : 127 &&& a = 17
  · have hn : need a = 5 := by unfold need; rw [if_pos h17]
    rw [hn] at hlen ⊢
    obtain ⟨e, t4, rfl, _⟩ := exists_cons t3 0 (by simp at hlen; omega)
    refine ⟨_, headerLoop_new_5 a b c d e t4 h17, by simp [NewStreamData.sufficient], rfl, rfl, by simp [B5.toList],
      fun hb => ⟨hb a (by simp), hb b (by simp), hb c (by simp), hb d (by simp), hb e (by simp)⟩⟩
  · have hn : need a = 4 := by unfold need; rw [if_neg h17]
    rw [hn]
    exact ⟨_, headerLoop_new_4 a b c d t3 h17, by simp [NewStreamData.sufficient, h17], rfl, rfl,
      by simp [B5.toList],
      fun hb => ⟨hb a (by simp), hb b (by simp), hb c (by simp), hb d (by simp), (by show 0 < 256; omega)⟩⟩

theorem first_member_bytes (fuel : Nat) (s : State) (m : List Nat) (bufs : List (List Nat)) (caps acc : List Nat)
    (R : Run) (hI : Inv s) (hws : s.window_size = 0) (hlen : need (m.headD 0) ≤ m.length)
    (wsz wo : Nat) (hparse : parseWindowSize (m.take (need (m.headD 0))) = ok (some (wsz, wo)))
    (hne : bufs ≠ []) (hfl : bufs.flatten = m)
    (h : runAll fuel (newBrotliFile s) bufs caps acc = some R) :
    RunTo (acc ++ m) (min 2 (1 + (m.length - need (m.headD 0))))
      (wsz ||| (if wo = 14 then LARGE_WINDOW_FLAG else 0)) R := by
  have hI0 : Inv (newBrotliFile s) := hI.newBrotliFile
  have hS0 : Started (newBrotliFile s) := fun _ => rfl
  have hspec := (runAll_result fuel bufs (newBrotliFile s) caps acc R ⟨hI0, hS0, Or.inr ⟨NewStreamData.new, rfl, rfl⟩⟩ hne h).header
    ⟨NewStreamData.new, rfl, rfl⟩
  rw [hfl] at hspec
  obtain ⟨hl0, ho0⟩ := hI.ws0 hws
  have hstrip : flushPreviousStream (newBrotliFile s) [] 1
      = ok ({ newBrotliFile s with last_byte_sanitized := true }, [], SUCCESS) := by
    unfold flushPreviousStream
    cases hs : s.last_byte_sanitized with
    | true =>
      have : (newBrotliFile s).last_byte_sanitized = true := hs
      simp only [this, not_true_eq_false, if_false]
      congr 2
      cases s; simp_all [newBrotliFile]
    | false =>
      have : (newBrotliFile s).last_byte_sanitized = false := hs
      have hl : (newBrotliFile s).last_bytes_len = 0 := hl0
      simp [this, hl]
  obtain ⟨nspF, hlook, hsuf, hrd, hwr, htake, _⟩ := headerLoop_member m hlen
  have hr5 : nspF.num_bytes_read ≤ 5 := by rw [hrd]; unfold need; split <;> omega
  have hhead : shiftHead { ({ newBrotliFile s with last_byte_sanitized := true } : State) with
        new_stream_pending := some nspF } nspF
      = ok (.inr ({ ({ ({ newBrotliFile s with last_byte_sanitized := true } : State) with
                          new_stream_pending := some nspF } : State) with
                      window_size := wsz ||| (if wo = 14 then LARGE_WINDOW_FLAG else 0), any_bytes_emitted := true },
                  { nspF with num_bytes_written := some 1 }, [nspF.bytes_so_far.b0])) := by
    unfold shiftHead
    rw [hdr5, if_neg (by omega), htake, hparse]
    simp only [bind_ok]
    have e1 : (newBrotliFile s).window_size = 0 := hws
    have e2 : (newBrotliFile s).last_byte_bit_offset = 0 := ho0
    simp [e1, e2]
  have plan : HdrPlan (newBrotliFile s) m NewStreamData.new _ [] nspF (need (m.headD 0)) _ _ _ 1 :=
    ⟨rfl, rfl, hstrip, hlook, hsuf, hhead, rfl⟩
  have run := memberRun_of_plan _ m acc R _ _ _ _ _ _ _ _ _ plan hspec
  refine ⟨?_, run.code, run.pending, run.len, run.inv, run.ws⟩
  rw [run.cons]
  unfold planOwed owedOf
  dsimp only
  -- [b0] ++ hdr[1..] ++ m[need..] = m
  have h4 : 1 ≤ nspF.num_bytes_read := by rw [hrd]; unfold need; split <;> omega
  have hb0 : [nspF.bytes_so_far.b0] = (nspF.bytes_so_far.toList.take nspF.num_bytes_read).take 1 := by
    rw [List.take_take, Nat.min_eq_left h4]; rfl
  have hrest : (nspF.bytes_so_far.toList.drop 1).take (nspF.num_bytes_read - 1)
      = (nspF.bytes_so_far.toList.take nspF.num_bytes_read).drop 1 := by
    rw [List.drop_take]
  rw [hb0, hrest, htake]
  simp only [List.nil_append, List.append_assoc]
  rw [← List.append_assoc (List.take 1 _), List.take_append_drop, List.take_append_drop]

/-- A LATER member, at the bit level: every complete run, under any slicing and any capacities, ends in
pass-through with

  bits(emitted ++ tail) = bits(acc) ++ dataBits(n, D) ++ memberBits[wo ..< v] ++ 0-padding
                          ++ bits(m[⌈v/8⌉ ..])

(the previous end marker gone, the member's window field dropped, its header bits glued behind the
previous data bits, the rest of the member byte-aligned behind them). -/
theorem member_step_bits (fuel : Nat) (s : State) (m : List Nat) (bufs : List (List Nat)) (caps acc : List Nat)
    (R : Run) (n D wsz wo v : Nat)
    (hI : Inv s) (hp : s.new_stream_pending = none) (hwsn : s.window_size ≠ 0)
    (hl : s.last_bytes_len = 1 ∨ s.last_bytes_len = 2) (hn : n + 2 ≤ 8 * s.last_bytes_len)
    (hm : Marked (s.last_bytes.1 + (s.last_bytes.2 <<< 8)) n D)
    (hlen : need (m.headD 0) ≤ m.length) (hbytes : ∀ y, y ∈ m → y < 256)
    (hparse : parseWindowSize (m.take (need (m.headD 0))) = ok (some (wsz, wo)))
    (hwle : ¬ wsz > (s.window_size &&& NOT_LARGE_WINDOW_FLAG))
    (hform : ¬ (decide (wo = 14)) ≠ (decide ((s.window_size &&& LARGE_WINDOW_FLAG) ≠ 0)))
    (hdet : detectVarlenOffset (m.take (need (m.headD 0))) = ok (some v))
    (hfit : (v + 7) / 8 ≤ need (m.headD 0))
    (hne : bufs ≠ []) (hfl : bufs.flatten = m)
    (h : runAll fuel (newBrotliFile s) bufs caps acc = some R) :
    R.code = NEEDS_MORE_INPUT ∧ R.st.new_stream_pending = none ∧ Inv R.st ∧
    R.st.window_size = s.window_size ∧
    R.st.last_bytes_len = min 2 (1 + (m.length - need (m.headD 0))) ∧
    ∃ G, R.emitted ++ held R.st = acc ++ G ++ m.drop ((v + 7) / 8) ∧
      bytesToBits G =
        bitsOf n D ++ ((bytesToBits (m.take (need (m.headD 0)))).drop wo).take (v - wo) ++
        List.replicate (8 * (((if n < 8 then n else n - 8) + v - wo + 7) / 8) - (if n < 8 then n else n - 8) - (v - wo))
          false := by
  have hns := hI.unsan hp
  have hI0 : Inv (newBrotliFile s) := hI.newBrotliFile
  have hS0 : Started (newBrotliFile s) := fun _ => rfl
  have hspec := (runAll_result fuel bufs (newBrotliFile s) caps acc R ⟨hI0, hS0, Or.inr ⟨NewStreamData.new, rfl, rfl⟩⟩ hne h).header
    ⟨NewStreamData.new, rfl, rfl⟩
  rw [hfl] at hspec
  have hstrip := strip_end_marker_gen (newBrotliFile s) n D 1 [] hns hl hn hm (by simp)
  simp only [List.nil_append] at hstrip
  obtain ⟨nspF, hlook, hsuf, hrd, hwr, htake, hb256⟩ := headerLoop_member m hlen
  obtain ⟨b0, b1, b2, b3, b4⟩ := hb256 hbytes
  have hr5 : nspF.num_bytes_read ≤ 5 := by rw [hrd]; unfold need; split <;> omega
  have hr4 : 4 ≤ nspF.num_bytes_read := by rw [hrd]; unfold need; split <;> omega
  have hhl : (m.take (need (m.headD 0))).length = need (m.headD 0) := by
    rw [List.length_take]; omega
  obtain ⟨w', o', hpe, hok, hov⟩ := by
    have := detectVarlenOffset_sat (m.take (need (m.headD 0))) (by rw [hhl, ← hrd]; omega) (by rw [hhl, ← hrd]; omega)
    rw [hdet, sat_ok] at this
    exact this v rfl
  rw [hparse] at hpe
  simp only [Outcome.ok.injEq, Option.some.injEq, Prod.mk.injEq] at hpe
  obtain ⟨_, rfl⟩ := hpe
  have hwo14 : wo ≤ 14 := by rcases hok.2.2 with e | e | e | e <;> omega
  have hoffk : (stripped (newBrotliFile s) n D).last_byte_bit_offset = (if n < 8 then n else n - 8) := by
    unfold stripped; split <;> rfl
  have hk8 : (if n < 8 then n else n - 8) < 8 := by split <;> omega
  have htk := stripped_tail_lt (newBrotliFile s) n D hm.lt
  obtain ⟨r0, nsp', hre, hw0, hrd', hbits, hrestb⟩ :=
    splice_header_bits { stripped (newBrotliFile s) n D with new_stream_pending := some nspF } nspF wo v [] 1
      (by show (stripped (newBrotliFile s) n D).last_byte_bit_offset < 8; rw [hoffk]; exact hk8) htk hr5 b0 b1 b2 b3 b4
      hwo14 hov (by rw [hrd]; exact hfit) (by simp)
  have hwsS : (stripped (newBrotliFile s) n D).window_size = s.window_size := by unfold stripped; split <;> rfl
  have hhead : shiftHead { stripped (newBrotliFile s) n D with new_stream_pending := some nspF } nspF
      = ok (.inr ({ ({ stripped (newBrotliFile s) n D with new_stream_pending := some nspF } : State) with
                      any_bytes_emitted := true }, nsp', [r0])) := by
    unfold shiftHead
    rw [hdr5, if_neg (by omega), htake, hparse]
    simp only [bind_ok]
    have e1 : ({ stripped (newBrotliFile s) n D with new_stream_pending := some nspF } : State).window_size
        = s.window_size := hwsS
    have hc1 : ¬ ({ stripped (newBrotliFile s) n D with new_stream_pending := some nspF } : State).window_size = 0 := by
      rw [e1]; exact hwsn
    have hc2 : ¬ wsz > (({ stripped (newBrotliFile s) n D with new_stream_pending := some nspF } : State).window_size
        &&& NOT_LARGE_WINDOW_FLAG) := by rw [e1]; exact hwle
    have hc3 : ¬ (decide (wo = 14)) ≠ (decide ((({ stripped (newBrotliFile s) n D with
        new_stream_pending := some nspF } : State).window_size &&& LARGE_WINDOW_FLAG) ≠ 0)) := by rw [e1]; exact hform
    rw [if_neg hc1, if_neg hc2, if_neg hc3, hdet]
    simp only [bind_ok]
    rw [if_neg (by rw [hrd]; omega), hre]
    simp
  have plan : HdrPlan (newBrotliFile s) m NewStreamData.new _ _ nspF (need (m.headD 0)) _ nsp' [r0] 0 :=
    ⟨rfl, rfl, hstrip, hlook, hsuf, hhead, hw0⟩
  have run := memberRun_of_plan _ m acc R _ _ _ _ _ _ _ _ _ plan hspec
  refine ⟨run.code, run.pending, run.inv, by rw [run.ws]; exact hwsS, run.len,
    (if n < 8 then ([] : List Nat) else [D % 256]) ++
      (r0 :: List.take nsp'.num_bytes_read nsp'.bytes_so_far.toList).take
        (((stripped (newBrotliFile s) n D).last_byte_bit_offset + v - wo + 7) / 8), ?_, ?_⟩
  rotate_left
  · have hdata := stripped_bits (newBrotliFile s) n D
    have hb := hbits
    dsimp only at hb
    rw [bytesToBits_append, hb, hdata, hoffk, htake]
    simp [List.append_assoc]
  rw [run.cons]
  unfold planOwed owedOf
  simp only [List.drop_zero, Nat.sub_zero]
  -- bytes: o1 ++ [r0] ++ rest' ++ m[need..]; split the realigned header at `dest`
  have hR : [r0] ++ List.take nsp'.num_bytes_read nsp'.bytes_so_far.toList
      = (r0 :: List.take nsp'.num_bytes_read nsp'.bytes_so_far.toList).take
          (((stripped (newBrotliFile s) n D).last_byte_bit_offset + v - wo + 7) / 8) ++
        (m.take (need (m.headD 0))).drop ((v + 7) / 8) := by
    have := List.take_append_drop (((stripped (newBrotliFile s) n D).last_byte_bit_offset + v - wo + 7) / 8)
      (r0 :: List.take nsp'.num_bytes_read nsp'.bytes_so_far.toList)
    rw [← htake, ← hrestb]
    exact this.symm
  have hglue : (m.take (need (m.headD 0))).drop ((v + 7) / 8) ++ m.drop (need (m.headD 0)) = m.drop ((v + 7) / 8) := by
    rw [List.drop_take]
    exact take_drop_glue m _ _ hfit
  have hinner : (if n < 8 then ([] : List Nat) else [D % 256]) ++ [r0] ++
        List.take nsp'.num_bytes_read nsp'.bytes_so_far.toList ++ List.drop (need (m.headD 0)) m
      = (if n < 8 then ([] : List Nat) else [D % 256]) ++
        ((r0 :: List.take nsp'.num_bytes_read nsp'.bytes_so_far.toList).take
          (((stripped (newBrotliFile s) n D).last_byte_bit_offset + v - wo + 7) / 8) ++ m.drop ((v + 7) / 8)) := by
    rw [List.append_assoc, List.append_assoc, ← List.append_assoc [r0], hR, List.append_assoc, hglue]
  rw [hinner]
  simp [List.append_assoc]

/-- a later member with the facts the concatenator derives from its look-ahead: `wo` window
bits, first meta-block header ends at bit `v`; its own end marker sits on `n` data bits `D`
in its last two bytes -/
structure MemberData where
  m : List Nat
  wo : Nat
  v : Nat
  n : Nat
  D : Nat

/-- length of the look-ahead (4 or 5 bytes, by the first byte) -/
abbrev MemberData.la (d : MemberData) : Nat := need (d.m.headD 0)
/-- first whole byte after the first meta-block header -/
abbrev MemberData.src (d : MemberData) : Nat := (d.v + 7) / 8

structure MemberOK (ws : Nat) (d : MemberData) : Prop where
  bytes : ∀ y, y ∈ d.m → y < 256
  long : d.la + 1 ≤ d.m.length
  parse : ∃ wsz, parseWindowSize (d.m.take d.la) = ok (some (wsz, d.wo)) ∧ ¬ wsz > (ws &&& NOT_LARGE_WINDOW_FLAG)
  form : ¬ (decide (d.wo = 14)) ≠ (decide ((ws &&& LARGE_WINDOW_FLAG) ≠ 0))
  det : detectVarlenOffset (d.m.take d.la) = ok (some d.v)
  fit : d.src ≤ d.la
  room : d.src + 2 ≤ d.m.length
  marker : ∃ pre a b, d.m = pre ++ [a, b] ∧ Marked (a + (b <<< 8)) d.n d.D

/-- the member's header bits between its window field and `v`, glued behind `nprev mod 8`
kept bits, with the zero padding to the next output byte boundary -/
def gapBits (nprev : Nat) (d : MemberData) : List Bool :=
  ((bytesToBits (d.m.take d.la)).drop d.wo).take (d.v - d.wo) ++
  List.replicate (8 * (((if nprev < 8 then nprev else nprev - 8) + d.v - d.wo + 7) / 8)
    - (if nprev < 8 then nprev else nprev - 8) - (d.v - d.wo)) false

/-- the rest of the member from its first whole byte on, without its end marker -/
def restData (d : MemberData) : List Bool :=
  bytesToBits ((d.m.drop d.src).take ((d.m.drop d.src).length - 2)) ++ bitsOf d.n d.D

def laterBits : Nat → List MemberData → List Bool
  | _, [] => []
  | nprev, d :: ds => gapBits nprev d ++ restData d ++ laterBits d.n ds

def lastN : Nat → List MemberData → Nat
  | n, [] => n
  | _, d :: ds => lastN d.n ds

/-- the invariant of the chain, between two members: pass-through with a two-byte tail that carries the end marker
on `n` data bits `D`; `data` = all bits so far (emitted and held) without the marker -/
structure Boundary (s : State) (acc : List Nat) (n D : Nat) (data : List Bool) : Prop where
  inv : Inv s
  pending : s.new_stream_pending = none
  ws : s.window_size ≠ 0
  len : s.last_bytes_len = 2
  marked : Marked (s.last_bytes.1 + (s.last_bytes.2 <<< 8)) n D
  lo : s.last_bytes.1 < 256
  hi : s.last_bytes.2 < 256
  data : bytesToBits acc ++ bitsOf n D = data

inductive Fed : List MemberData → List (List (List Nat) × List Nat) → Prop where
  | nil : Fed [] []
  | cons (d : MemberData) (ds : List MemberData) (bufs : List (List Nat)) (caps : List Nat)
      (rest : List (List (List Nat) × List Nat)) (hne : bufs ≠ []) (hfl : bufs.flatten = d.m) (h : Fed ds rest) :
      Fed (d :: ds) ((bufs, caps) :: rest)

theorem Boundary.n_le {s : State} {acc : List Nat} {n D : Nat} {data : List Bool} (hB : Boundary s acc n D data) :
    n + 2 ≤ 16 := by
  obtain ⟨_, _, h3, _⟩ := hB.marked.bounds
  have h1 := hB.lo; have h2 := hB.hi
  rw [Nat.shiftLeft_eq] at h3
  rcases Nat.lt_or_ge (n + 1) 16 with h16 | h16
  · omega
  · have : 2 ^ 16 ≤ 2 ^ (n + 1) := Nat.pow_le_pow_right (by decide) h16
    omega

theorem boundary_step (fuel : Nat) (s : State) (acc : List Nat) (n D : Nat) (data : List Bool) (d : MemberData)
    (bufs : List (List Nat)) (caps : List Nat) (R : Run)
    (hB : Boundary s acc n D data) (hok : MemberOK s.window_size d) (hne : bufs ≠ []) (hfl : bufs.flatten = d.m)
    (h : runAll fuel (newBrotliFile s) bufs caps acc = some R) :
    R.code = NEEDS_MORE_INPUT ∧ R.st.window_size = s.window_size ∧
    Boundary R.st R.emitted d.n d.D (data ++ gapBits n d ++ restData d) := by
  obtain ⟨wsz, hparse, hwle⟩ := hok.parse
  obtain ⟨pre, a, b, hm, hmark⟩ := hok.marker
  have hla : d.la ≤ d.m.length := by have := hok.long; omega
  obtain ⟨hcode, hpend, hinv, hws, hlen, G, hcons, hG⟩ :=
    member_step_bits fuel s d.m bufs caps acc R n D wsz d.wo d.v hB.inv hB.pending hB.ws (Or.inr hB.len)
      (by rw [hB.len]; exact hB.n_le)
      hB.marked hla hok.bytes hparse hwle hok.form hok.det hok.fit hne hfl h
  have hlen2 : R.st.last_bytes_len = 2 := by
    have hla_def : d.la = need (d.m.headD 0) := rfl
    rw [hlen]; have := hok.long; omega
  have hsrcpre : d.src ≤ pre.length := by
    have := hok.room
    rw [hm] at this
    simp only [List.length_append, List.length_cons, List.length_nil] at this
    omega
  have hdrop : d.m.drop d.src = pre.drop d.src ++ [a, b] := by
    rw [hm, List.drop_append_of_le_length hsrcpre]
  have hheld : (held R.st).length = 2 := by rw [held_length R.st hpend hinv.len_le, hlen2]
  have hcons' : R.emitted ++ held R.st = (acc ++ G) ++ pre.drop d.src ++ [a, b] := by
    rw [hcons, hdrop]; simp [List.append_assoc]
  obtain ⟨e2, e1⟩ := List.append_inj' hcons' (by simp [hheld])
  rw [held_none R.st hpend, hlen2] at e1
  simp only [List.take_succ_cons, List.take_zero, List.cons.injEq, and_true] at e1
  obtain ⟨ea, eb⟩ := e1
  have ha : a < 256 := hok.bytes a (by rw [hm]; simp)
  have hb : b < 256 := hok.bytes b (by rw [hm]; simp)
  refine ⟨hcode, hws, ⟨hinv, hpend, by rw [hws]; exact hB.ws, hlen2, by rw [ea, eb]; exact hmark,
    by rw [ea]; exact ha, by rw [eb]; exact hb, ?_⟩⟩
  rw [e2, bytesToBits_append, bytesToBits_append, hG, ← hB.data]
  unfold gapBits restData
  have : (d.m.drop d.src).take ((d.m.drop d.src).length - 2) = pre.drop d.src := by
    rw [hdrop]; simp
  rw [this]
  simp only [List.append_assoc]

theorem later_members (fuel : Nat) : ∀ (ds : List MemberData) (rest : List (List (List Nat) × List Nat)),
    Fed ds rest → ∀ (s : State) (acc : List Nat) (n D : Nat) (data : List Bool) (R : Run),
    Boundary s acc n D data → (∀ d, d ∈ ds → MemberOK s.window_size d) →
    concatAll fuel s rest acc = some R →
    R.code = NEEDS_MORE_INPUT ∧ ∃ D', Boundary R.st R.emitted (lastN n ds) D' (data ++ laterBits n ds) := by
  intro ds rest hfed
  induction hfed with
  | nil =>
    intro s acc n D data R hB _ h
    simp only [concatAll, Option.some.injEq] at h
    subst h
    exact ⟨rfl, D, by simpa [lastN, laterBits] using hB⟩
  | cons d ds bufs caps rest hne hfl _ ih =>
    intro s acc n D data R hB hok h
    unfold concatAll at h
    cases hr : runAll fuel (newBrotliFile s) bufs caps acc with
    | none => rw [hr] at h; simp at h
    | some r =>
      rw [hr] at h
      dsimp only at h
      obtain ⟨hcode, hws, hB'⟩ := boundary_step fuel s acc n D data d bufs caps r hB (hok d (by simp)) hne hfl hr
      have hnt : isTerminal r.code = false := by rw [hcode]; rfl
      rw [hnt] at h
      simp only [Bool.false_eq_true, if_false] at h
      obtain ⟨hc, D', hfin⟩ := ih r.st r.emitted d.n d.D _ R hB'
        (fun d' hd' => by rw [hws]; exact hok d' (by simp [hd'])) h
      refine ⟨hc, D', ?_⟩
      simpa [lastN, laterBits, List.append_assoc] using hfin

theorem first_boundary (fuel : Nat) (s : State) (m pre : List Nat) (a b n D wsz wo : Nat)
    (bufs : List (List Nat)) (caps : List Nat) (R : Run)
    (hI : Inv s) (hws : s.window_size = 0) (hbytes : ∀ y, y ∈ m → y < 256)
    (hlong : need (m.headD 0) + 1 ≤ m.length)
    (hparse : parseWindowSize (m.take (need (m.headD 0))) = ok (some (wsz, wo)))
    (hm : m = pre ++ [a, b]) (hmark : Marked (a + (b <<< 8)) n D)
    (hne : bufs ≠ []) (hfl : bufs.flatten = m)
    (h : runAll fuel (newBrotliFile s) bufs caps [] = some R) :
    R.code = NEEDS_MORE_INPUT ∧
    R.st.window_size = (wsz ||| (if wo = 14 then LARGE_WINDOW_FLAG else 0)) ∧
    Boundary R.st R.emitted n D (bytesToBits pre ++ bitsOf n D) := by
  have run :=
    first_member_bytes fuel s m bufs caps [] R hI hws (by omega) wsz wo hparse hne hfl h
  have hlen2 : R.st.last_bytes_len = 2 := by rw [run.len]; omega
  have hheld : (held R.st).length = 2 := by rw [held_length R.st run.pending run.inv.len_le, hlen2]
  have hcons' : R.emitted ++ held R.st = ([] ++ pre) ++ [a, b] := by rw [run.cons, hm]; simp
  obtain ⟨e1, e2⟩ := List.append_inj' hcons' (by simp [hheld])
  rw [held_none R.st run.pending, hlen2] at e2
  simp only [List.take_succ_cons, List.take_zero, List.cons.injEq, and_true] at e2
  obtain ⟨ea, eb⟩ := e2
  have hw10 : 10 ≤ wsz := by
    have hl : 2 ≤ (m.take (need (m.headD 0))).length := by
      rw [List.length_take]; unfold need at hlong ⊢; split at hlong <;> split <;> omega
    have := parseWindowSize_sat _ hl
    rw [hparse, sat_ok] at this
    exact (this wsz wo rfl).1
  refine ⟨run.code, run.ws, ⟨run.inv, run.pending, ?_, hlen2, by rw [ea, eb]; exact hmark,
    by rw [ea]; exact hbytes a (by rw [hm]; simp), by rw [eb]; exact hbytes b (by rw [hm]; simp), ?_⟩⟩
  · rw [run.ws]
    have := @Nat.left_le_or wsz (if wo = 14 then LARGE_WINDOW_FLAG else 0)
    omega
  · rw [e1]; simp

theorem finish_boundary (s : State) (acc : List Nat) (n D : Nat) (data : List Bool) (cap : Nat)
    (hB : Boundary s acc n D data) (hcap : 2 ≤ cap) :
    ∃ st p, finish s cap = ok ⟨st, SUCCESS, 0, p⟩ ∧
      bytesToBits (acc ++ p) = data ++ [true, true] ++ List.replicate (14 - n) false := by
  have hns := hB.inv.unsan hB.pending
  obtain ⟨st, hst⟩ := finish_passthrough s cap hB.pending hns (Or.inr hB.len) hcap
  refine ⟨st, held s, hst, ?_⟩
  rw [held_none s hB.pending, hB.len, bytesToBits_append, ← hB.data]
  have hT : [s.last_bytes.1, s.last_bytes.2].take 2
      = [(s.last_bytes.1 + (s.last_bytes.2 <<< 8)) % 256, (s.last_bytes.1 + (s.last_bytes.2 <<< 8)) / 256] := by
    have h1 := hB.lo
    rw [Nat.shiftLeft_eq]
    simp only [List.take_succ_cons, List.take_zero]
    congr 1
    · omega
    · congr 1; omega
  have hn16 := hB.n_le
  rw [hT, bits_le2, hB.marked.bits 16 hn16]
  have : 16 - n - 2 = 14 - n := by omega
  simp [List.append_assoc, this]

end BV.Concat
