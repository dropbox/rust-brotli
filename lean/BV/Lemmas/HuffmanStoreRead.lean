/-
C17: what the RFC 7932 §3.5 reader needs from a code-length code
(`ClCode`), and why it does not stop before the last entry of a complete length vector
(every entry adds a length: `prefix_conditions`).  The entry-level round trip itself is in
`HuffmanStoreIO`.
-/
import BV.Lemmas.HuffmanRead
import BV.Lemmas.HuffmanRle

namespace BV.Lemmas.HuffmanStoreRead
open BV.Bits BV.Huffman BV.Lemmas.HuffmanBits BV.Lemmas.HuffmanCanon BV.Lemmas.HuffmanPrefix
open BV.Lemmas.HuffmanRead BV.Lemmas.HuffmanRle

structure ClCode (cl clBits : List Nat) : Prop where
  hlen : cl.length = 18
  hblen : clBits.length = 18
  hall : ∀ x ∈ cl, x ≤ 15
  hk : kraftSum 15 cl ≤ 2 ^ 15
  h2 : 2 ≤ ((List.range cl.length).filter fun t => cl.getD t 0 != 0).length
  hbits : ∀ s, s < 18 → cl.getD s 0 ≠ 0 →
    clBits.getD s 0 = reverseBits (cl.getD s 0) ((canonicalCodes cl).getD s 0)

def ValidEntry (cl : List Nat) (e : Nat × Nat) : Prop :=
  e.1 < 18 ∧ cl.getD e.1 0 ≠ 0 ∧ (e.1 = 16 → e.2 < 4) ∧ (e.1 = 17 → e.2 < 8)

def WF (s : ExpandState) : Prop := ∀ v c, s.rep = some (v, c) → 3 ≤ c

theorem pendingRepeat_ge (s : ExpandState) (h : WF s) (val : Nat) :
    pendingRepeat s val = 0 ∨ 3 ≤ pendingRepeat s val := by
  unfold pendingRepeat
  cases hr : s.rep with
  | none => left; rfl
  | some p =>
    obtain ⟨v, c⟩ := p
    simp only
    split
    · right; exact h v c hr
    · left; rfl

theorem expandStep_grows (s : ExpandState) (h : WF s) (sym extra : Nat) :
    WF (expandStep s sym extra) ∧
    ∃ b, b ≠ [] ∧ (expandStep s sym extra).out = s.out ++ b := by
  unfold expandStep
  by_cases hlit : sym < 16
  · simp only [hlit, ↓reduceIte]
    exact ⟨fun v c hr => by simp at hr, [sym], by simp, rfl⟩
  · simp only [hlit, ↓reduceIte]
    generalize hval : (if sym = 16 then s.prevNonZero else 0) = val
    rcases pendingRepeat_ge s h val with h0 | h3
    · rw [h0]
      simp only [gt_iff_lt, Nat.lt_irrefl, ↓reduceIte, Nat.zero_add, Nat.sub_zero]
      refine ⟨?_, List.replicate (3 + extra) val, ?_, rfl⟩
      · intro v c hr; simp at hr; omega
      · simp [List.replicate_succ, show 3 + extra = (2 + extra) + 1 by omega]
    · have hpos : pendingRepeat s val > 0 := by omega
      simp only [hpos, ↓reduceIte]
      have hk : 4 ≤ (if sym = 16 then 4 else 8) := by split <;> omega
      have hmul : 4 * (pendingRepeat s val - 2)
          ≤ (if sym = 16 then 4 else 8) * (pendingRepeat s val - 2) := Nat.mul_le_mul_right _ hk
      refine ⟨?_, List.replicate ((if sym = 16 then 4 else 8) * (pendingRepeat s val - 2) + 3
          + extra - pendingRepeat s val) val, ?_, rfl⟩
      · intro v c hr; simp at hr; omega
      · have : (if sym = 16 then 4 else 8) * (pendingRepeat s val - 2) + 3 + extra
            - pendingRepeat s val
            = ((if sym = 16 then 4 else 8) * (pendingRepeat s val - 2) + 3 + extra
              - pendingRepeat s val - 1) + 1 := by omega
        rw [this]; simp [List.replicate_succ]

theorem run_grows (E : List (Nat × Nat)) : ∀ (s : ExpandState), WF s →
    WF (run s E) ∧ ∃ b, (E ≠ [] → b ≠ []) ∧ (run s E).out = s.out ++ b := by
  induction E with
  | nil => intro s h; exact ⟨h, [], fun h => absurd rfl h, by simp⟩
  | cons e E ih =>
    intro s h
    obtain ⟨h1, b1, hb1, ho1⟩ := expandStep_grows s h e.1 e.2
    obtain ⟨h2, b2, _, ho2⟩ := ih (expandStep s e.1 e.2) h1
    refine ⟨h2, b1 ++ b2, fun _ => by simp [hb1], ?_⟩
    rw [run_cons, ho2, ho1, List.append_assoc]

theorem kraftSum_append (L : Nat) (a b : List Nat) :
    kraftSum L (a ++ b) = kraftSum L a + kraftSum L b := by
  simp [kraftSum]

theorem kraftSum_pos_of_last (b : List Nat) (hb : b ≠ []) (hl : b.getLast hb ≠ 0)
    (h15 : b.getLast hb ≤ 15) : 1 ≤ kraftSum 15 b := by
  have hmem := List.getLast_mem hb
  have : ∀ (l : List Nat) (x : Nat), x ∈ l → x ≠ 0 → x ≤ 15 → 1 ≤ kraftSum 15 l := by
    intro l
    induction l with
    | nil => intro x hx; simp at hx
    | cons y ys ih =>
      intro x hx h0 h15
      simp only [kraftSum, List.map_cons, List.sum_cons]
      rcases List.mem_cons.mp hx with rfl | hx'
      · simp only [h0, ↓reduceIte]
        have : 1 ≤ 2 ^ (15 - x) := Nat.pow_pos (by decide)
        omega
      · have := ih x hx' h0 h15
        unfold kraftSum at this
        omega
  exact this b _ hmem hl h15

theorem prefix_conditions (E : List (Nat × Nat)) (s0 : ExpandState) (hwf : WF s0) (A : Nat)
    (hne : (run s0 E).out ≠ []) (hlast : (run s0 E).out.getLast hne ≠ 0)
    (h15 : ∀ x ∈ (run s0 E).out, x ≤ 15) (hlen : (run s0 E).out.length ≤ A)
    (hkr : kraftSum 15 (run s0 E).out = 32768) :
    ∀ k, k < E.length → (run s0 (E.take k)).out.length < A ∧
      kraftSum 15 (run s0 (E.take k)).out < 32768 := by
  intro k hk
  have hsplit : run s0 E = run (run s0 (E.take k)) (E.drop k) := by
    rw [← run_append, List.take_append_drop]
  obtain ⟨hwf1, _, _, _⟩ := run_grows (E.take k) s0 hwf
  obtain ⟨_, b, hb, hob⟩ := run_grows (E.drop k) (run s0 (E.take k)) hwf1
  have hbne : b ≠ [] := hb (by
    intro h
    have := congrArg List.length h
    simp at this; omega)
  rw [← hsplit] at hob
  have hl2 : (run s0 E).out.getLast hne = b.getLast hbne := by
    simp only [hob]
    exact List.getLast_append_right hbne
  have hb15 : b.getLast hbne ≤ 15 := by
    rw [← hl2]; exact h15 _ (List.getLast_mem hne)
  have hkb := kraftSum_pos_of_last b hbne (by rw [← hl2]; exact hlast) hb15
  have hlb : 1 ≤ b.length := List.length_pos_iff.mpr hbne
  rw [hob, kraftSum_append] at hkr
  rw [hob, List.length_append] at hlen
  omega

theorem trim_last (d : List Nat) (h : trimTrailingZeros d ≠ []) :
    (trimTrailingZeros d).getLast h ≠ 0 := by
  unfold trimTrailingZeros at h ⊢
  have hne : d.reverse.dropWhile (· == 0) ≠ [] := by
    intro hh; rw [hh] at h; exact h rfl
  rw [List.getLast_reverse]
  have := List.head_dropWhile_not (fun x => x == 0) hne
  simpa using this

theorem kraftSum_trim (L : Nat) (d : List Nat) : kraftSum L (trimTrailingZeros d) = kraftSum L d := by
  conv => rhs; rw [← trim_pad d]
  rw [kraftSum_append, kraftSum_replicate_zero]; rfl

end BV.Lemmas.HuffmanStoreRead
