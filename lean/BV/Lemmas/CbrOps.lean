import BV.Lemmas.CbrLoop
import BV.Props.C01Match
/-! The three bucketed hasher families satisfy the hypotheses of the loop theorem (`OpsOK`):
nothing about them is left assumed. -/
namespace BV.Cbr
open BV.Hasher BV.MatchFinder BV.Recoder BV.PrefixArith BV.MetaBlock BV.Props.C01Match

theorem soundAt_of_soundResult {slotOK : DictItem → Prop} {dict : Option (List DictItem)} {data : ByteArray}
    {k pos ml mbk md : Nat} {o : SR}
    (hd : ∀ items, dict = some items → ∀ d ∈ items, d.item ≠ 0 → slotOK d)
    (h : SoundResult dict data (2 ^ k - 1) (2 ^ k - 1) pos ml mbk md o) :
    SoundAt slotOK data k md pos ml mbk o := by
  rcases h with ⟨h1, h2, h3, h4, h5, h6⟩ | ⟨items, hi, hdo⟩
  · left
    rw [Nat.and_two_pow_sub_one_eq_mod, Nat.and_two_pow_sub_one_eq_mod] at h6
    exact ⟨h1, h2, h3, h4, h5, h6⟩
  · right
    rw [Nat.and_two_pow_sub_one_eq_mod] at hdo
    exact ⟨items, hd items hi, hdo⟩

theorem ringmask_lt (k : Nat) (hk : k ≤ 32) : 2 ^ k - 1 < 2 ^ 32 :=
  Nat.sub_one_lt_of_le (Nat.pow_pos (by decide)) (Nat.pow_le_pow_right (by decide) hk)

theorem splice_take_length {α : Type} (l m : List α) (a b k : Nat) (hk : k ≤ a) (hb : b = a + m.length)
    (h : b ≤ l.length) :
    (l.take a ++ m ++ l.drop b).take k = l.take k ∧ (l.take a ++ m ++ l.drop b).length = l.length := by
  have hla : (l.take a).length = a := by rw [List.length_take]; omega
  refine ⟨?_, ?_⟩
  · rw [List.take_append_of_le_length (by rw [List.length_append, hla]; omega),
      List.take_append_of_le_length (by omega), List.take_take, Nat.min_eq_left hk]
  · rw [List.length_append, List.length_append, hla, List.length_drop]; omega

theorem advPrepare_ok (n : Nat) (c c' : List Int) (h : advPrepareDistanceCache n c = some c') :
    c'.take 4 = c.take 4 ∧ c'.length = c.length := by
  unfold advPrepareDistanceCache at h
  by_cases h4 : n > 4
  · rw [if_pos h4] at h
    by_cases hl : c.length < 10
    · rw [if_pos hl] at h; cases h
    rw [if_neg hl] at h
    simp only [] at h
    by_cases h10 : n > 10
    · rw [if_pos h10] at h
      by_cases hl2 : c.length < 16
      · rw [if_pos hl2] at h; cases h
      rw [if_neg hl2] at h
      injection h with h
      subst h
      -- entries 10..15 of the list whose entries 4..9 have been overwritten
      have key : ∀ c1 : List Int, c1.take 4 = c.take 4 ∧ c1.length = c.length → ∀ m2 : List Int, m2.length = 6 →
          (c1.take 10 ++ m2 ++ c1.drop 16).take 4 = c.take 4 ∧ (c1.take 10 ++ m2 ++ c1.drop 16).length = c.length := by
        intro c1 ⟨t1, l1⟩ m2 h6
        obtain ⟨t2, l2⟩ := splice_take_length c1 m2 10 16 4 (by decide) (by rw [h6]) (by omega)
        exact ⟨t2.trans t1, l2.trans l1⟩
      exact key _ (splice_take_length c _ 4 10 4 (Nat.le_refl _) rfl (by omega)) _ rfl
    · rw [if_neg h10] at h
      injection h with h
      subst h
      exact splice_take_length c _ 4 10 4 (Nat.le_refl _) rfl (by omega)
  · rw [if_neg h4] at h
    injection h with h; subst h; exact ⟨rfl, rfl⟩
theorem find_true {α β : Type} {r : Option (Bool × SR × α × β)} {g : Bool × SR × α × β → Bool × SR × (α × β)}
    (hg : ∀ f o a c, g (f, o, a, c) = (f, o, (a, c))) {o : SR} {st' : α × β} (h : r.map g = some (true, o, st')) :
    ∃ a c, r = some (true, o, a, c) := by
  obtain ⟨⟨f, o2, a, c⟩, hr, he⟩ := Option.map_eq_some_iff.mp h
  cases (hg f o2 a c).symm.trans he
  exact ⟨a, c, hr⟩

theorem basicOps_ok (slotOK : DictItem → Prop) (P : BasicP) (useDict : Bool) (lbs : Nat)
    (dict : ByteArray → Nat → Option (List DictItem)) (data : ByteArray) (k : Nat) (hk : k ≤ 32) (p : Params)
    (hd : ∀ cm items, dict data cm = some items → ∀ d ∈ items, d.item ≠ 0 → slotOK d) :
    OpsOK slotOK (basicOps P useDict lbs dict data (2 ^ k - 1)) p data k where
  sound := by
    intro st cache pos ml mbk sr0 o st' h hpos hmb
    obtain ⟨b, c⟩ := st
    obtain ⟨b2, c2, hflm⟩ := find_true (fun _ _ _ _ => rfl) h
    have := match_sound_basic P useDict lbs _ data (2 ^ k - 1) cache pos ml mbk p.maxDistance sr0 o b b2 c c2 hpos hmb hflm
    rw [Nat.mod_eq_of_lt (show 2 ^ k - 1 < U32 from ringmask_lt k hk)] at this
    exact soundAt_of_soundResult (fun items hi => hd _ items hi) this
  prepare := by intro c c' h; simp only [basicOps, Option.some.injEq] at h; subst h; exact ⟨rfl, rfl⟩
  htl := by simp [basicOps]

theorem advOps_ok (slotOK : DictItem → Prop) (P : AdvP) (numLast lbs : Nat)
    (dict : ByteArray → Nat → Option (List DictItem)) (data : ByteArray) (k : Nat) (hk : k ≤ 32) (p : Params)
    (hla : 4 ≤ P.lookahead)
    (hd : ∀ cm items, dict data cm = some items → ∀ d ∈ items, d.item ≠ 0 → slotOK d) :
    OpsOK slotOK (advOps P numLast lbs dict data (2 ^ k - 1)) p data k where
  sound := by
    intro st cache pos ml mbk sr0 o st' h hpos hmb
    obtain ⟨a, c⟩ := st
    obtain ⟨a2, c2, hflm⟩ := find_true (fun _ _ _ _ => rfl) h
    exact soundAt_of_soundResult (fun items hi => hd _ items hi)
      (match_sound_adv P numLast lbs _ data (2 ^ k - 1) (Nat.lt_trans (ringmask_lt k hk) (by decide)) cache pos ml mbk p.maxDistance sr0 o a a2 c c2
        hpos hmb hflm)
  prepare := fun c c' h => advPrepare_ok numLast c c' h
  htl := hla

theorem h9Ops_ok (slotOK : DictItem → Prop) (P : H9P) (lbs : Nat)
    (dict : ByteArray → Nat → Option (List DictItem)) (data : ByteArray) (k : Nat) (hk : k ≤ 32) (p : Params)
    (hd : ∀ cm items, dict data cm = some items → ∀ d ∈ items, d.item ≠ 0 → slotOK d) :
    OpsOK slotOK (h9Ops P lbs dict data (2 ^ k - 1)) p data k where
  sound := by
    intro st cache pos ml mbk sr0 o st' h hpos hmb
    obtain ⟨a, c⟩ := st
    obtain ⟨a2, c2, hflm⟩ := find_true (fun _ _ _ _ => rfl) h
    exact soundAt_of_soundResult (fun items hi => hd _ items hi)
      (match_sound_h9 P lbs _ data (2 ^ k - 1) (Nat.lt_trans (ringmask_lt k hk) (by decide)) cache pos ml mbk p.maxDistance sr0 o a a2 c c2
        hpos hmb hflm)
  prepare := fun c c' h => advPrepare_ok 16 c c' h
  htl := by simp [h9Ops]

end BV.Cbr
