import BV.Lemmas.StreamTerm
import BV.Lemmas.StreamFast
/-
The quality 0/1 loop terminates.  One iteration hands out pending bytes or stages the padding of a flush, or turns a
FLUSH without input into FLUSH_REQUESTED, or copies and encodes one block of at most `2^lgwin` bytes in a single step;
the potential `fastPot` counts the input left and whether the stream is still PROCESSING, in a unit above anything one
block can leave pending.
-/
namespace BV.Stream
open BV.Bits

/-- the flag: every block is encoded from PROCESSING, and a flush or a finish leaves that state; the unit `M + 8` is that
of `slowPot` -/
def fastPot (M : Nat) (s : St) (io : Io) : Nat :=
  (io.availIn + (if s.streamState = .processing then 1 else 0)) * (M + 8) + padB s + s.pending.length

theorem fastStep_ne_fuel (o : Oracle) (op : Nat) (s : St) (io : Io) : fastStep o op s io ≠ .fuel := by
  unfold fastStep
  cases hp : injectFlushOrPushOutput s io with
  | panic => nofun
  | fuel => exact absurd hp (push_ne_fuel _ _)
  | ok x =>
    obtain ⟨s1, io1, b⟩ := x
    cases b
    · exact ite_ne_fuel (ite_ne_fuel nofun (ite_ne_fuel nofun (ite_ne_fuel nofun (ite_ne_fuel nofun nofun)))) nofun
    · nofun

theorem fastEncode_pending_le (s : St) (io : Io) (ans : Ans) (req : Req) (bs : Nat) (ip il ff : Bool) :
    (fastEncode s io ans req bs ip il ff).1.pending.length ≤ s.pending.length + (s.lastBytesBits + ans.bits.length) / 8
    ∧ (fastEncode s io ans req bs ip il ff).1.lastBytesBits < 8 := by
  unfold fastEncode
  cases ip
  · simp only [Bool.false_eq_true, ↓reduceIte]
    refine ⟨?_, (carryOf_lt _).2⟩
    have := wholeBytes_length (bitsOf s.lastBytesBits s.lastBytes ++ ans.bits)
    simp only [List.length_append, bitsOf_length] at this
    omega
  · simp only [↓reduceIte]
    exact ⟨by omega, (carryOf_lt _).2⟩

theorem fastEncode_store_fields (s : St) (io : Io) (ans : Ans) (req : Req) (bs : Nat) (ip il ff : Bool) :
    (fastEncode s io ans req bs ip il ff).1.storageSize = s.storageSize
    ∧ (fastEncode s io ans req bs ip il ff).1.inputPos = s.inputPos
    ∧ (fastEncode s io ans req bs ip il ff).1.lastFlushPos = s.lastFlushPos
    ∧ (ip = true → (fastEncode s io ans req bs ip il ff).1.pending = s.pending) := by
  unfold fastEncode
  cases ip <;> simp

theorem block_le {bs a M : Nat} (h : bs ≤ a) (q : 2 * a + 527 ≤ M) : 2 * bs + 503 ≤ M := by omega

theorem block_cap {ip a lf bs M : Nat} (h : bs ≤ a) (q : 2 * (ip + a - lf) + 527 ≤ M) :
    2 * (ip + (a - bs) - lf) + 527 ≤ M := by omega

/-- one `continue` iteration of the quality 0/1 loop; the conjuncts are those of `slowStep_decreases`.  Three cases:
the push handed out bytes or staged the padding (`push_lowers`); a FLUSH with no input only moves to FLUSH_REQUESTED
(the flag drops); a block is copied and encoded (`pot_drop`: the input left drops or, for the empty FINISH block, the
flag does; what the block leaves pending is below the unit by the `storage[1 + (storage_ix >> 3)]` check) -/
theorem fastStep_decreases {o : Oracle} {op M : Nat} {s s' : St} {io io' : Io}
    (hl : s.lastBytesBits ≤ 14) (hop : op ≤ 2)
    (h : fastStep o op s io = .ok (s', io', true)) :
    (Cap M s io → fastPot M s' io' < fastPot M s io ∧ Cap M s' io') ∧
    (MCap M s → io'.availIn = io.availIn → MCap M s') ∧ s'.lastBytesBits ≤ 14 := by
  rcases fastStep_ok h with ⟨hp, _⟩ | ⟨_, ⟨_, _, _, hb⟩ | ⟨hcond, _, bs, il, ffl, hbs, hil, hfl,
    ⟨hff, rfl, hio⟩ | ⟨hnff, ipl, s1, req, _, hs1, hreq, _, _, hfitg, rfl, rfl⟩⟩⟩
  · have pf := push_frame hp
    have f := St.frame_eq pf.frame
    obtain ⟨l1, l2⟩ := push_lowers hl hp
    refine ⟨?_, fun hK _ => by unfold MCap at hK ⊢; rw [pf.storageSize, f.inputPos, pf.lastFlushPos]; exact hK, Nat.le_trans l2 hl⟩
    intro hC
    refine ⟨?_, by unfold Cap at hC ⊢; rw [pf.storageSize, f.inputPos, pf.availIn, pf.lastFlushPos]; exact hC⟩
    unfold fastPot
    rw [pf.availIn, f.streamState]
    omega
  · cases hb
  · cases hio.symm
    refine ⟨?_, fun hK _ => hK, hl⟩
    intro hC
    refine ⟨?_, hC⟩
    unfold fastPot padB
    simp only [hcond.2.1, reduceCtorEq, ↓reduceIte, Nat.add_zero]
    rw [Nat.add_mul, Nat.one_mul]
    generalize io.availIn * (M + 8) = T
    omega
  · obtain ⟨gf, glf, _, _, g5, _, _, g9, gsz, _⟩ := fastStorage_frame s ipl ((2 * bs + 503) % two64)
    replace gf := St.frame_eq gf
    have gst := gf.streamState
    have gip := gf.inputPos
    rw [← hs1] at glf g5 g9 gsz gst gip
    have gsz : s1.storageSize ≤ max s.storageSize (2 * bs + 503) :=
      Nat.le_trans gsz (Nat.max_le.mpr ⟨Nat.le_max_left _ _, Nat.le_trans (Nat.mod_le _ _) (Nat.le_max_right _ _)⟩)
    obtain ⟨_, _, _, _, _, _, _, hStreamState, hAvailIn⟩ := fastEncode_fields s1 io (o s.nEnc req) req bs ipl il ffl
    obtain ⟨p1, p2⟩ := fastEncode_pending_le s1 io (o s.nEnc req) req bs ipl il ffl
    have hbsle' : bs ≤ io.availIn := by rw [hbs]; exact Nat.min_le_right _ _
    obtain ⟨x1, x2, x3, x4⟩ := fastEncode_store_fields s1 io (o s.nEnc req) req bs ipl il ffl
    refine ⟨?_, fun hK hav => by
      obtain ⟨q1, q2⟩ := hK
      have hb0 : bs = 0 := by rw [hAvailIn] at hav; omega
      exact ⟨by rw [x1]; exact Nat.le_trans gsz (Nat.max_le.mpr ⟨q1, by omega⟩), by rw [x2, x3, gip, glf]; exact q2⟩, by omega⟩
    intro hC
    obtain ⟨q1, q2, q3⟩ := hC
    rw [g5, g9] at p1
    have hp0 : s.pending.length = 0 := hcond.1
    have hs1M : s1.storageSize ≤ M := Nat.le_trans gsz (Nat.max_le.mpr ⟨q1, block_le hbsle' q3⟩)
    have hplM : (fastEncode s1 io (o s.nEnc req) req bs ipl il ffl).1.pending.length ≤ M := by
      cases ipl
      · -- staged: the `storage[1 + (storage_ix >> 3)]` check bounds it by the staging buffer
        have hfit' : ¬ (s.lastBytesBits + (o s.nEnc req).bits.length) / 8 + 2 > s1.storageSize := hfitg
        omega
      · rw [x4 rfl, g5, hp0]; exact Nat.zero_le _
    refine ⟨?_, ⟨by rw [x1]; exact hs1M, by rw [x2, x3, hAvailIn, gip, glf]; exact block_cap hbsle' q2,
      by rw [hAvailIn]; exact Nat.le_trans (Nat.add_le_add_right (Nat.mul_le_mul_left 2 (Nat.sub_le _ _)) 527) q3⟩⟩
    have hpad' := padB_le (fastEncode s1 io (o s.nEnc req) req bs ipl il ffl).1
    unfold fastPot
    rw [hStreamState, hAvailIn, gst, hcond.2.1, hp0]
    simp only [↓reduceIte, Nat.add_assoc]
    refine pot_drop ?_ (by omega)
    by_cases hz : io.availIn = 0
    · have hbs0 : bs = 0 := by rw [hbs, hz]; simp
      have hopne : op ≠ 0 := by
        rcases hcond.2.2 with h0 | h0
        · exact absurd hz h0
        · exact h0
      have hilt : il = true := by
        rw [hil]
        have : op = 2 := by
          have : op = 1 ∨ op = 2 := by omega
          rcases this with h1 | h1
          · exfalso; apply hnff
            rw [hfl]
            exact ⟨by simp [hz, hbs0, h1], hbs0⟩
          · exact h1
        simp [hz, hbs0, this]
      rw [hilt, hz, hbs0]; simp
    · have hbs1 : 1 ≤ bs := by
        rw [hbs]
        have : 0 < 2 ^ s.params.lgwin.toNat := Nat.pow_pos (by omega)
        omega
      generalize (if il = true then SState.finished else if ffl = true then SState.flushRequested else SState.processing) = st
      split <;> omega

theorem fastLoop_terminates {o : Oracle} {op M : Nat} (hop : op ≤ 2) :
    ∀ fuel s io, s.lastBytesBits ≤ 14 → Cap M s io → fastPot M s io < fuel → fastLoop o op fuel s io ≠ .fuel := by
  intro fuel
  induction fuel with
  | zero => intro s io _ _ h; omega
  | succ k ih =>
    intro s io hl hC hpot
    unfold fastLoop
    have hnf := fastStep_ne_fuel o op s io
    split
    · simp
    · rename_i hh; exact absurd hh hnf
    · rename_i s1 io1 hs
      obtain ⟨d1, _, d2⟩ := fastStep_decreases (M := M) hl hop hs
      obtain ⟨d3, d4⟩ := d1 hC
      exact ih s1 io1 d2 d4 (by omega)
    · simp

end BV.Stream
