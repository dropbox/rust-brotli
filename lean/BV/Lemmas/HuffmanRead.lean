/-
C17: decoding what the encoder writes.  A symbol written as
`BrotliWriteBits(depth, BrotliReverseBits(depth, canonical code))` is read back
by the RFC 7932 §3.2 prefix decoder.
-/
import BV.Lemmas.HuffmanPrefix

namespace BV.Lemmas.HuffmanRead
open BV.Bits BV.Huffman BV.Lemmas.HuffmanBits BV.Lemmas.HuffmanCanon BV.Lemmas.HuffmanPrefix

theorem takeBits_bitsOf (n v : Nat) (rest : List Bool) (hv : v < 2 ^ n) :
    takeBits n (bitsOf n v ++ rest) = some (v, rest) := by
  unfold takeBits
  have hl := bitsOf_length n v
  rw [if_pos (by simp [hl])]
  rw [List.take_left' hl, List.drop_left' hl, valOf_bitsOf, Nat.mod_eq_of_lt hv]

theorem valOf_take (l : List Bool) : ∀ k, valOf (l.take k) = valOf l % 2 ^ k := by
  induction l with
  | nil => intro k; simp [valOf]
  | cons b bs ih =>
    intro k
    cases k with
    | zero => simp [valOf, Nat.mod_one]
    | succ k =>
      simp only [List.take_succ_cons, valOf, ih k]
      generalize valOf bs = V
      have key : ∀ c, c < 2 → c + 2 * (V % 2 ^ k) = (c + 2 * V) % (2 * 2 ^ k) := by
        intro c hc
        rw [Nat.mod_mul, show (c + 2 * V) % 2 = c by omega, show (c + 2 * V) / 2 = V by omega]
      rw [Nat.pow_succ, Nat.mul_comm (2 ^ k)]
      cases b
      · exact key 0 (by decide)
      · exact key 1 (by decide)

theorem takeBits_low (m n x y : Nat) (rest r : List Bool)
    (h : takeBits n (bitsOf m x ++ rest) = some (y, r)) :
    y % 2 ^ min m n = x % 2 ^ min m n := by
  unfold takeBits at h
  split at h
  · injection h with h; injection h with h _
    rw [← h, ← valOf_take, List.take_take, Nat.min_assoc, Nat.min_self,
      List.take_append_of_le_length (by rw [bitsOf_length]; exact Nat.min_le_left _ _),
      valOf_take, valOf_bitsOf]
    exact Nat.mod_mod_of_dvd _ (Nat.pow_dvd_pow 2 (Nat.min_le_left _ _))
  · cases h

theorem bitsOf_rev_succ (m c : Nat) (hc : c < 2 ^ (m + 1)) :
    bitsOf (m + 1) (revSpec (m + 1) c)
      = (c / 2 ^ m == 1) :: bitsOf m (revSpec m (c % 2 ^ m)) := by
  have hadd := revSpec_add m 1 c
  have h1 : revSpec 1 (c / 2 ^ m) = c / 2 ^ m % 2 := by simp [revSpec]
  have hp : 0 < 2 ^ m := Nat.pow_pos (by decide)
  have hq : c / 2 ^ m < 2 := by
    rw [Nat.div_lt_iff_lt_mul hp]; rw [Nat.pow_succ] at hc; omega
  rw [h1, Nat.mod_eq_of_lt hq] at hadd
  simp only [bitsOf]
  rw [hadd, revSpec_mod, Nat.pow_one]
  generalize revSpec m c = R
  generalize c / 2 ^ m = q at hq
  have e1 : (R * 2 + q) % 2 = q := by omega
  have e2 : (R * 2 + q) / 2 = R := by omega
  rw [e1, e2]

theorem find_range_unique (p : Nat → Bool) (n s : Nat) (hs : s < n) (hp : p s = true)
    (hu : ∀ t, t < n → p t = true → t = s) : (List.range n).find? p = some s := by
  rw [List.find?_range_eq_some]
  refine ⟨hp, List.mem_range.mpr hs, ?_⟩
  intro j hj
  cases h : p j with
  | false => rfl
  | true => have := hu j (by omega) h; omega

theorem find_range_none (p : Nat → Bool) (n : Nat) (h : ∀ t, t < n → p t = false) :
    (List.range n).find? p = none := by
  rw [List.find?_eq_none]
  intro x hx
  rw [h x (List.mem_range.mp hx)]; simp

theorem readSymGo_spec (lens codes : List Nat) (s l c : Nat) (rest : List Bool)
    (hnone : ∀ k', 1 ≤ k' → k' < l → findSym lens codes k' (c / 2 ^ (l - k')) = none)
    (hsome : findSym lens codes l c = some s) :
    ∀ (m k acc c' f : Nat), 1 ≤ m → k + m = l → c' < 2 ^ m → c = acc * 2 ^ m + c' → m ≤ f →
      readSymGo lens codes f k acc (bitsOf m (revSpec m c') ++ rest) = some (s, rest) := by
  intro m
  induction m with
  | zero => intro k acc c' f h; omega
  | succ m ih =>
    intro k acc c' f _ hkl hc' hc hf
    obtain ⟨f', rfl⟩ : ∃ f', f = f' + 1 := ⟨f - 1, by omega⟩
    rw [bitsOf_rev_succ m c' hc']
    simp only [List.cons_append, readSymGo]
    have hp : 0 < 2 ^ m := Nat.pow_pos (by decide)
    have hq : c' / 2 ^ m < 2 := by
      rw [Nat.div_lt_iff_lt_mul hp]; rw [Nat.pow_succ] at hc'; omega
    have hbit : (if (c' / 2 ^ m == 1) = true then 1 else 0) = c' / 2 ^ m := by
      rcases Nat.lt_succ_iff_lt_or_eq.mp hq with h | h
      · have : c' / 2 ^ m = 0 := Nat.lt_one_iff.mp h
        simp [this]
      · simp [h]
    rw [hbit]
    have hdm := Nat.div_add_mod c' (2 ^ m)
    have hacc : (2 * acc + c' / 2 ^ m) * 2 ^ m + c' % 2 ^ m = c := by
      rw [hc, Nat.pow_succ, Nat.add_mul]
      have t1 : 2 * acc * 2 ^ m = 2 * (acc * 2 ^ m) := Nat.mul_assoc _ _ _
      have t2 : acc * (2 ^ m * 2) = 2 * (acc * 2 ^ m) := by
        rw [← Nat.mul_assoc, Nat.mul_comm]
      have t3 : c' / 2 ^ m * 2 ^ m = 2 ^ m * (c' / 2 ^ m) := Nat.mul_comm _ _
      rw [t1, t2, t3]
      omega
    have hdiv : c / 2 ^ m = 2 * acc + c' / 2 ^ m := by
      rw [← hacc, Nat.mul_comm, Nat.mul_add_div hp, Nat.div_eq_of_lt (Nat.mod_lt _ hp)]
      omega
    by_cases hm0 : m = 0
    · subst hm0
      have : k + 1 = l := by omega
      have hc1 : 2 * acc + c' / 2 ^ 0 = c := by
        rw [← hdiv]; simp
      rw [this, hc1, hsome]
      simp [bitsOf]
    · have hn := hnone (k + 1) (by omega) (by omega)
      have hlk : l - (k + 1) = m := by omega
      rw [hlk, hdiv] at hn
      rw [hn]
      exact ih (k + 1) (2 * acc + c' / 2 ^ m) (c' % 2 ^ m) f' (by omega) (by omega)
        (Nat.mod_lt _ hp) hacc.symm (by omega)

theorem readSym_spec (lens : List Nat) (s : Nat) (rest : List Bool) (hs : s < lens.length)
    (hall : ∀ x ∈ lens, x ≤ 15) (hk : kraftSum 15 lens ≤ 2 ^ 15) (h0 : lens.getD s 0 ≠ 0)
    (h2 : 2 ≤ ((List.range lens.length).filter fun t => lens.getD t 0 != 0).length) :
    readSym lens
      (bitsOf (lens.getD s 0) (reverseBits (lens.getD s 0) ((canonicalCodes lens).getD s 0)) ++ rest)
      = some (s, rest) := by
  have hmem : lens.getD s 0 ∈ lens := by
    rw [List.getD_eq_getElem?_getD, List.getElem?_eq_getElem hs]; simp
  have hl15 := hall _ hmem
  have hfit := code_lt lens 15 s hs hall hk h0
  unfold readSym
  have hnot : ∀ t, (List.range lens.length).filter (fun t => lens.getD t 0 != 0) ≠ [t] := by
    intro t h; rw [h] at h2; simp at h2
  split
  · rename_i t heq; exact absurd heq (hnot t)
  · rw [reverseBits_eq _ _ (by omega) (by omega)]
    have hclen : (canonicalCodes lens).length = lens.length := by simp [canonicalCodes]
    refine readSymGo_spec lens (canonicalCodes lens) s (lens.getD s 0)
      ((canonicalCodes lens).getD s 0) rest ?_ ?_ (lens.getD s 0) 0 0 _ 15 (by omega) (by omega)
      hfit (by omega) hl15
    · intro k' hk1 hk2
      unfold findSym
      apply find_range_none
      intro t ht
      cases hp : (lens.getD t 0 == k' && (canonicalCodes lens).getD t 0
          == (canonicalCodes lens).getD s 0 / 2 ^ (lens.getD s 0 - k')) with
      | false => rfl
      | true =>
        exfalso
        simp only [Bool.and_eq_true, beq_iff_eq] at hp
        have hts : t ≠ s := by
          intro h; rw [h] at hp; omega
        have := prefix_free lens 15 t s ht hs hall hts (by omega) (by omega)
        rw [hp.1] at this
        exact this hp.2.symm
    · unfold findSym
      apply find_range_unique _ _ s hs
      · simp
      · intro t ht hp
        simp only [Bool.and_eq_true, beq_iff_eq] at hp
        by_cases hts : t = s
        · exact hts
        · exfalso
          have := prefix_free lens 15 t s ht hs hall hts (by omega) (by omega)
          rw [hp.1, Nat.sub_self, Nat.pow_zero, Nat.div_one] at this
          exact this hp.2.symm

end BV.Lemmas.HuffmanRead
