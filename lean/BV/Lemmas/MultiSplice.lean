/-
Helper lemmas for C02 `multi_succeeds_when_sized`.  One `stream` call of the concatenator
never produces more than its input plus 7 bytes (`stream_growth`; partial correctness: nothing is
claimed about panicking calls, so no invariant is needed; hence `Outcome.pc` and not ConcatBasic's
`Outcome.sat`, which asserts that the call returns and so cannot hold of every state; `pc` is to `Outcome` what
`Out.Post` of Lemmas/Bits is to `Out`).  That first part, up to `stream_growth`, is about the concatenator alone and
sits in `namespace BV.Concat`.  `CompressMulti` gives every member to the
concatenator in ONE `stream` call with all the room that is left.  On well-formed members
(`MemberOK`, the hypotheses of C03 `concat_bits`) that call cannot answer `NeedsMoreOutput`
when the buffer has room for the bytes of all members: the closed forms of C03/C12 fix the
number of bytes every complete run emits, `stream_growth` makes the retry of a stalled call
complete, and a stalled call would already have filled more than that.
-/
import BV.Lemmas.ConcatStream
import BV.Lemmas.ConcatChain
import BV.Lemmas.MultiStitch

namespace BV.Concat
open Outcome BV.Gen

def Outcome.pc {α} (x : Outcome α) (P : α → Prop) : Prop := ∀ v, x = ok v → P v

theorem pc_ok {α} {v : α} {P : α → Prop} (h : P v) : (ok v).pc P := by
  intro w e; cases e; exact h

theorem pc_panic {α} (t : Site) (P : α → Prop) : (Outcome.panic t : Outcome α).pc P := by
  intro w e; cases e

theorem pc_ite {α} {c : Prop} [Decidable c] {a b : Outcome α} {P : α → Prop}
    (h1 : c → a.pc P) (h2 : ¬ c → b.pc P) : (if c then a else b).pc P := by
  by_cases hc : c
  · rw [if_pos hc]; exact h1 hc
  · rw [if_neg hc]; exact h2 hc

theorem pc_bind {α β} {x : Outcome α} {f : α → Outcome β} {P : β → Prop} (Q : α → Prop)
    (hx : x.pc Q) (hf : ∀ v, Q v → (f v).pc P) : (x.bind f).pc P := by
  cases x with
  | panic t => exact pc_panic t P
  | ok v => exact hf v (hx v rfl)

theorem pc_mono {α} {x : Outcome α} {P Q : α → Prop} (hx : x.pc P) (h : ∀ v, P v → Q v) : x.pc Q :=
  fun v e => h v (hx v e)

theorem pc_true {α} (x : Outcome α) : x.pc (fun _ => True) := fun _ _ => trivial

theorem push_pc (site : Site) (out : List Nat) (cap b : Nat) :
    (push site out cap b).pc (fun o => o.length = out.length + 1) := by
  unfold push
  exact pc_ite (fun _ => pc_ok (by simp)) (fun _ => pc_panic _ _)

theorem flushFin_pc (s : State) (out : List Nat) (index : Nat) :
    (flushFin s out index).pc (fun r => r.2.1 = out) := by
  unfold flushFin
  dsimp only
  exact pc_ite (fun _ => pc_panic _ _) (fun _ => pc_ok rfl)

theorem flushStrip_pc (s : State) (out : List Nat) (cap lb index : Nat) :
    (flushStrip s out cap lb index).pc (fun r => r.2.1.length ≤ out.length + 1) := by
  unfold flushStrip
  refine pc_ite (fun _ => pc_ok (by simp)) (fun _ => ?_)
  refine pc_ite (fun _ => pc_panic _ _) (fun _ => ?_)
  dsimp only
  refine pc_ite (fun _ => ?_) (fun _ => ?_)
  · refine pc_ite (fun _ => ?_) (fun _ => pc_ok (by simp))
    refine pc_bind _ (push_pc _ _ _ _) ?_
    intro o ho
    refine pc_ite (fun _ => pc_panic _ _) (fun _ => ?_)
    refine pc_mono (flushFin_pc _ _ _) ?_
    intro r hr; rw [hr, ho]; exact Nat.le_refl _
  · refine pc_mono (flushFin_pc _ _ _) ?_
    intro r hr; rw [hr]; omega

theorem flush_pc (s : State) (out : List Nat) (cap : Nat) :
    (flushPreviousStream s out cap).pc (fun r => r.2.1.length ≤ out.length + 1) := by
  unfold flushPreviousStream
  refine pc_ite (fun _ => ?_) (fun _ => pc_ok (by simp))
  refine pc_ite (fun _ => pc_ok (by simp)) (fun _ => ?_)
  dsimp only
  refine pc_ite (fun _ => pc_panic _ _) (fun _ => ?_)
  refine pc_ite (fun _ => pc_panic _ _) (fun _ => ?_)
  refine pc_bind _ (pc_true _) ?_
  intro index _
  refine pc_ite (fun _ => pc_ok (by simp)) (fun _ => ?_)
  refine pc_ite (fun _ => pc_ok (by simp)) (fun _ => ?_)
  exact flushStrip_pc _ _ _ _ _

theorem shiftCopyOut_pc (s : State) (nsp : NewStreamData) (out : List Nat) (cap : Nat) :
    (shiftCopyOut s nsp out cap).pc (fun r => r.2.1.length ≤ out.length + 5) := by
  unfold shiftCopyOut
  cases hw : nsp.num_bytes_written with
  | none => exact pc_panic _ _
  | some w =>
    dsimp only
    rw [hdr5]
    refine pc_ite (fun _ => pc_panic _ _) (fun _ => ?_)
    refine pc_ite (fun _ => pc_panic _ _) (fun _ => ?_)
    refine pc_ite (fun _ => pc_panic _ _) (fun _ => ?_)
    refine pc_ite (fun _ => pc_panic _ _) (fun hsplit => ?_)
    refine pc_ite (fun _ => pc_panic _ _) (fun _ => ?_)
    have hlen : (out ++ List.take (min (cap - out.length) (nsp.num_bytes_read - w))
        (List.drop w nsp.bytes_so_far.toList)).length ≤ out.length + 5 := by
      rw [List.length_append, List.length_take]
      have : min (min (cap - out.length) (nsp.num_bytes_read - w)) (List.drop w nsp.bytes_so_far.toList).length
          ≤ min (cap - out.length) (nsp.num_bytes_read - w) := Nat.min_le_left _ _
      omega
    refine pc_ite (fun _ => pc_ok hlen) (fun _ => ?_)
    split
    · exact pc_panic _ _
    · refine pc_ite (fun _ => pc_panic _ _) (fun _ => pc_ok ?_)
      show (List.dropLast _).length ≤ _
      rw [List.length_dropLast]
      omega

theorem forRange_pc_true {α} (f : Nat → α → Outcome α) (n start : Nat) (a : α) :
    (forRange f n start a).pc (fun _ => True) := pc_true _

theorem shiftRealign_pc (s : State) (nsp : NewStreamData) (wo vo : Nat) (out : List Nat) (cap : Nat) :
    (shiftRealign s nsp wo vo out cap).pc (fun r => r.2.2.length = out.length + 1) := by
  unfold shiftRealign
  dsimp only
  refine pc_bind _ (pc_true _) ?_
  intro bsf _
  refine pc_ite (fun _ => pc_panic _ _) (fun _ => ?_)
  refine pc_ite (fun _ => pc_panic _ _) (fun _ => ?_)
  refine pc_bind _ (pc_true _) ?_
  intro rh _
  refine pc_ite (fun _ => pc_panic _ _) (fun _ => ?_)
  refine pc_ite (fun _ => pc_panic _ _) (fun _ => ?_)
  refine pc_bind _ (pc_true _) ?_
  intro rh2 _
  refine pc_bind _ (pc_true _) ?_
  intro rh0 _
  refine pc_bind _ (push_pc _ _ _ _) ?_
  intro o ho
  refine pc_ite (fun _ => pc_panic _ _) (fun _ => ?_)
  split
  · exact pc_panic _ _
  · exact pc_ok ho

theorem shiftAndCheck_pc (s : State) (nsp : NewStreamData) (out : List Nat) (cap : Nat) :
    (shiftAndCheckNewStreamHeader s nsp out cap).pc (fun r => r.2.1.length ≤ out.length + 6) := by
  unfold shiftAndCheckNewStreamHeader
  cases hw : nsp.num_bytes_written with
  | some w =>
    dsimp only
    refine pc_ite (fun _ => pc_panic _ _) (fun _ => ?_)
    exact pc_mono (shiftCopyOut_pc _ _ _ _) (fun r hr => by omega)
  | none =>
    dsimp only
    refine pc_ite (fun _ => pc_panic _ _) (fun _ => ?_)
    refine pc_bind _ (pc_true _) ?_
    intro pw _
    cases pw with
    | none => exact pc_ok (by simp)
    | some p =>
      obtain ⟨windowSize, windowOffset⟩ := p
      dsimp only
      refine pc_ite (fun _ => ?_) (fun _ => ?_)
      · refine pc_ite (fun _ => pc_panic _ _) (fun _ => ?_)
        refine pc_bind _ (push_pc _ _ _ _) ?_
        intro o ho
        exact pc_mono (shiftCopyOut_pc _ _ _ _) (fun r hr => by omega)
      · refine pc_ite (fun _ => pc_ok (by simp)) (fun _ => ?_)
        refine pc_ite (fun _ => pc_ok (by simp)) (fun _ => ?_)
        refine pc_bind _ (pc_true _) ?_
        intro vo _
        cases vo with
        | none => exact pc_ok (by simp)
        | some v =>
          dsimp only
          refine pc_ite (fun _ => pc_ok (by simp)) (fun _ => ?_)
          refine pc_bind _ (shiftRealign_pc _ _ _ _ _ _) ?_
          intro r hr
          exact pc_mono (shiftCopyOut_pc _ _ _ _) (fun r' hr' => by omega)

theorem streamCopy_pc (s : State) (inp : List Nat) (inOff : Nat) (out : List Nat) (cap : Nat) :
    (streamCopy s inp inOff out cap).pc (fun r => r.produced.length ≤ out.length + (inp.length - inOff)) := by
  by_cases h : inOff ≤ inp.length ∧ out.length ≤ cap
  · obtain ⟨x, y, _, e⟩ := streamCopy_eq s inp inOff out cap _ h.1 h.2 rfl
    rw [e]
    refine pc_ok ?_
    simp only [List.length_append, List.length_take, List.length_drop, List.length_cons, List.length_nil]
    omega
  · unfold streamCopy
    refine pc_ite (fun _ => pc_ok (by simp)) (fun _ => ?_)
    refine pc_ite (fun _ => pc_ok (by simp)) (fun _ => ?_)
    refine pc_ite (fun _ => pc_panic _ _) (fun _ => ?_)
    exact pc_ite (fun _ => pc_panic _ _) (fun _ => absurd ⟨by omega, by omega⟩ h)

theorem streamTail_pc (s : State) (inp : List Nat) (inOff : Nat) (out : List Nat) (cap : Nat) :
    (streamTail s inp inOff out cap).pc (fun r => r.produced.length ≤ out.length + (inp.length - inOff)) := by
  unfold streamTail
  refine pc_ite (fun _ => pc_panic _ _) (fun _ => ?_)
  refine pc_ite (fun _ => ?_) (fun _ => streamCopy_pc _ _ _ _ _)
  refine pc_ite (fun _ => pc_ok (by simp)) (fun _ => ?_)
  refine pc_ite (fun _ => pc_ok (by simp)) (fun _ => ?_)
  refine pc_bind _ (pc_true _) ?_
  intro b _
  refine pc_bind _ (pc_true _) ?_
  intro lb _
  dsimp only
  refine pc_ite (fun _ => pc_panic _ _) (fun _ => ?_)
  refine pc_ite (fun _ => ?_) (fun _ => ?_)
  · refine pc_ite (fun _ => pc_ok (by simp)) (fun _ => ?_)
    refine pc_ite (fun _ => pc_ok (by simp)) (fun _ => ?_)
    refine pc_bind _ (pc_true _) ?_
    intro b2 _
    refine pc_bind _ (pc_true _) ?_
    intro lb2 _
    refine pc_ite (fun _ => pc_panic _ _) (fun _ => ?_)
    exact pc_mono (streamCopy_pc _ _ _ _ _) (fun r hr => by omega)
  · exact pc_mono (streamCopy_pc _ _ _ _ _) (fun r hr => by omega)

/-- 7: one stripped-marker byte and six realigned header bytes; the pass-through writes exactly what it reads -/
theorem stream_growth (s : State) (inp : List Nat) (cap : Nat) (r : Ret) (h : stream s inp cap = ok r) :
    r.produced.length ≤ inp.length + 7 := by
  have key : (stream s inp cap).pc (fun r => r.produced.length ≤ inp.length + 7) := by
    unfold stream
    cases hp : s.new_stream_pending with
    | none =>
      dsimp only
      exact pc_mono (streamTail_pc _ _ _ _ _) (fun r hr => by simp at hr; omega)
    | some nsp0 =>
      dsimp only
      refine pc_bind _ (flush_pc _ _ _) ?_
      intro fr hfr
      obtain ⟨s1, out1, code⟩ := fr
      dsimp only at hfr ⊢
      simp only [List.length_nil] at hfr
      refine pc_ite (fun _ => pc_ok (by show out1.length ≤ _; omega)) (fun _ => ?_)
      refine pc_bind (fun _ => True) (pc_true _) ?_
      intro x _
      obtain ⟨nsp, inOff, s2⟩ := x
      dsimp only
      refine pc_ite (fun _ => pc_ok (by show out1.length ≤ _; omega)) (fun _ => ?_)
      refine pc_ite (fun _ => pc_ok (by show out1.length ≤ _; omega)) (fun _ => ?_)
      refine pc_bind _ (shiftAndCheck_pc _ _ _ _) ?_
      intro sr hsr
      obtain ⟨s3, out3, code3⟩ := sr
      dsimp only at hsr ⊢
      refine pc_ite (fun _ => pc_ok (by show out3.length ≤ _; omega)) (fun _ => ?_)
      refine pc_ite (fun _ => pc_ok (by show out3.length ≤ _; omega)) (fun _ => ?_)
      exact pc_mono (streamTail_pc _ _ _ _ _) (fun r hr => by omega)
  exact key r h

end BV.Concat

namespace BV.Lemmas.Multi
open BV.Concat BV.Concat.Outcome

theorem nmi_not_terminal : isTerminal NEEDS_MORE_INPUT = false := by decide
theorem nmo_not_terminal : isTerminal NEEDS_MORE_OUTPUT = false := by decide

theorem single_call (s : State) (inp acc : List Nat) (c E : Nat) (hI : Inv s) (hS : Started s)
    (hruns : ∀ fuel caps R, runAll fuel s [inp] caps acc = some R → R.code = NEEDS_MORE_INPUT ∧ R.emitted.length = E)
    (hroom : E < acc.length + c) :
    ∃ r, stream s inp c = ok r ∧ r.code = NEEDS_MORE_INPUT ∧
      runAll 1 s [inp] [c] acc = some ⟨r.st, NEEDS_MORE_INPUT, acc ++ r.produced⟩ := by
  obtain ⟨r, hr, hP⟩ := sat_iff.mp (stream_sat s inp c hI hS)
  refine ⟨r, hr, ?_⟩
  rcases hP.ends with ⟨hc, hcons⟩ | ⟨hc, hfull⟩ | hterm
  · refine ⟨hc, ?_⟩
    simp only [runAll, feedBuffer, List.headD, hr, hc, nmi_not_terminal, hcons, List.drop_length,
      Bool.false_eq_true, if_false, and_self, if_true]
  · -- stalled: retry with the protocol's ample room
    exfalso
    obtain ⟨r2, hr2, hP2⟩ := sat_iff.mp
      (stream_sat r.st (inp.drop r.consumed) ((inp.drop r.consumed).length + 8) hP.inv hP.started)
    have hne : ¬ (NEEDS_MORE_OUTPUT = NEEDS_MORE_INPUT ∧ inp.drop r.consumed = []) := fun h => absurd h.1 (by decide)
    have hfeed1 : ∀ R, feedBuffer 1 r.st (inp.drop r.consumed) [] (acc ++ r.produced) = some R →
        feedBuffer 2 s inp [c] acc = some R := by
      intro R h
      simp only [feedBuffer, List.headD, hr, hc, nmo_not_terminal, Bool.false_eq_true, if_false, hne,
        List.tail_cons] at h ⊢
      exact h
    rcases hP2.ends with ⟨hc2, hcons2⟩ | ⟨hc2, hfull2⟩ | hterm2
    · have h1 : feedBuffer 1 r.st (inp.drop r.consumed) [] (acc ++ r.produced)
          = some ⟨r2.st, NEEDS_MORE_INPUT, acc ++ r.produced ++ r2.produced⟩ := by
        simp only [feedBuffer, List.headD, hr2, hc2, nmi_not_terminal, hcons2, List.drop_length,
          Bool.false_eq_true, if_false, and_self, if_true]
      have h2 := hfeed1 _ h1
      have hrun : runAll 2 s [inp] [c] acc = some ⟨r2.st, NEEDS_MORE_INPUT, acc ++ r.produced ++ r2.produced⟩ := by
        simp only [runAll, h2, nmi_not_terminal, Bool.false_eq_true, if_false]
      have := (hruns 2 [c] _ hrun).2
      simp only [List.length_append] at this
      omega
    · have := stream_growth _ _ _ r2 hr2
      omega
    · have h1 : feedBuffer 1 r.st (inp.drop r.consumed) [] (acc ++ r.produced)
          = some ⟨r2.st, r2.code, acc ++ r.produced ++ r2.produced⟩ := by
        simp only [feedBuffer, List.headD, hr2, hterm2, if_true]
      have h2 := hfeed1 _ h1
      have hrun : runAll 2 s [inp] [c] acc = some ⟨r2.st, r2.code, acc ++ r.produced ++ r2.produced⟩ := by
        simp only [runAll, h2, hterm2, if_true]
      have := (hruns 2 [c] _ hrun).1
      dsimp only at this
      rw [this] at hterm2
      exact absurd hterm2 (by decide)
  · exfalso
    have hrun : runAll 1 s [inp] [c] acc = some ⟨r.st, r.code, acc ++ r.produced⟩ := by
      simp only [runAll, feedBuffer, List.headD, hr, hterm, if_true]
    have := (hruns 1 [c] _ hrun).1
    dsimp only at this
    rw [this] at hterm
    exact absurd hterm (by decide)

/-- bytes a later member adds to the output: the completed byte of the stripped marker (if the
marker sat in the second tail byte), the realigned first meta-block header, the member's whole
bytes after that header minus the two bytes that stay in the tail -/
def memberAdds (n : Nat) (d : MemberData) : Nat :=
  (if n < 8 then 0 else 1) + ((if n < 8 then n else n - 8) + d.v - d.wo + 7) / 8 + (d.m.length - d.src - 2)

theorem memberOK_arith (ws : Nat) (d : MemberData) (hok : MemberOK ws d) :
    1 ≤ d.wo ∧ d.wo + 2 ≤ d.v ∧ d.src + 2 ≤ d.m.length := by
  obtain ⟨wsz, hparse, _⟩ := hok.parse
  have hla : d.la ≤ d.m.length := by have := hok.long; omega
  have hl2 : 2 ≤ (d.m.take d.la).length := by
    rw [List.length_take]; have : 4 ≤ d.la := by unfold MemberData.la need; split <;> omega
    omega
  have hl8 : (d.m.take d.la).length ≤ 8 := by
    rw [List.length_take]; have : d.la ≤ 5 := by unfold MemberData.la need; split <;> omega
    omega
  have h1 := detectVarlenOffset_sat _ hl2 hl8
  rw [hok.det, sat_ok] at h1
  obtain ⟨w, o, hp, hpw, hv⟩ := h1 d.v rfl
  rw [hparse] at hp
  simp only [Outcome.ok.injEq, Option.some.injEq, Prod.mk.injEq] at hp
  obtain ⟨_, rfl⟩ := hp
  refine ⟨?_, hv, hok.room⟩
  rcases hpw.2.2 with h | h | h | h <;> omega

theorem gapBits_length (n : Nat) (d : MemberData) (hla : d.la ≤ d.m.length) (hfit : d.src ≤ d.la)
    (hv : d.wo ≤ d.v) (k : Nat) (hk : k = if n < 8 then n else n - 8) :
    (gapBits n d).length + k = 8 * ((k + d.v - d.wo + 7) / 8) := by
  have hsrc : d.src = (d.v + 7) / 8 := rfl
  unfold gapBits
  rw [← hk, List.length_append, List.length_take, List.length_drop, List.length_replicate,
    bytesToBits_length, List.length_take, Nat.min_eq_left hla]
  omega

theorem restData_length (d : MemberData) (hroom : d.src + 2 ≤ d.m.length) :
    (restData d).length = 8 * (d.m.length - d.src - 2) + d.n := by
  unfold restData
  rw [List.length_append, bytesToBits_length, bitsOf_length, List.length_take, List.length_drop]
  omega

theorem memberAdds_le (n : Nat) (d : MemberData) (hn : n ≤ 14) (hwo : 1 ≤ d.wo) (hv : d.wo + 2 ≤ d.v)
    (hroom : d.src + 2 ≤ d.m.length) : memberAdds n d ≤ d.m.length := by
  have hsrc : d.src = (d.v + 7) / 8 := rfl
  unfold memberAdds
  split <;> omega

theorem member_emitted (s : State) (acc : List Nat) (n D : Nat) (data : List Bool) (d : MemberData)
    (R : Run) (hB : Boundary s acc n D data) (hok : MemberOK s.window_size d)
    (hB' : Boundary R.st R.emitted d.n d.D (data ++ gapBits n d ++ restData d)) :
    R.emitted.length = acc.length + memberAdds n d := by
  obtain ⟨hwo, hv, hroom⟩ := memberOK_arith _ d hok
  have hn16 := hB.n_le
  have e1 := congrArg List.length hB.data
  have e2 := congrArg List.length hB'.data
  rw [List.length_append, bytesToBits_length, bitsOf_length] at e1 e2
  rw [List.length_append, List.length_append, restData_length d hroom] at e2
  have hgap := gapBits_length n d (Nat.le_of_succ_le hok.long) hok.fit (by omega) _ rfl
  unfold memberAdds
  generalize (d.m.length - d.src - 2) = T at *
  generalize (gapBits n d).length = G at *
  split at hgap <;> rename_i hn8 <;> simp only [hn8, if_true, if_false] <;> omega

theorem good_nmi : goodCode NEEDS_MORE_INPUT := Or.inr rfl

/-- `S`: a bound on what is out or held so far, + 2 -/
theorem later_single (cap : Nat) : ∀ (ds : List MemberData) (s : State) (acc : List Nat) (n D : Nat)
    (data : List Bool) (S : Nat), Boundary s acc n D data → (∀ d, d ∈ ds → MemberOK s.window_size d) →
    acc.length + 2 ≤ S → S + (ds.map fun d => d.m.length).sum ≤ cap →
    ∃ s' out' D', spliceMembers cap (ds.map fun d => d.m) s acc = some (s', out') ∧
      Boundary s' out' (lastN n ds) D' (data ++ laterBits n ds) ∧
      out'.length + 2 ≤ S + (ds.map fun d => d.m.length).sum := by
  intro ds
  induction ds with
  | nil =>
    intro s acc n D data S hB _ hS _
    exact ⟨s, acc, D, rfl, by simpa [lastN, laterBits] using hB, by simpa using hS⟩
  | cons d ds ih =>
    intro s acc n D data S hB hok hS hcap
    simp only [List.map_cons, List.sum_cons] at hcap ⊢
    have hokd := hok d List.mem_cons_self
    have hI' := hB.inv.newBrotliFile
    have hS' := started_newBrotliFile s
    have hruns : ∀ fuel caps R, runAll fuel (newBrotliFile s) [d.m] caps acc = some R →
        R.code = NEEDS_MORE_INPUT ∧ R.emitted.length = acc.length + memberAdds n d := by
      intro fuel caps R h
      obtain ⟨hc, _, hB'⟩ := boundary_step fuel s acc n D data d [d.m] caps R hB hokd (by simp) (by simp) h
      exact ⟨hc, member_emitted s acc n D data d R hB hokd hB'⟩
    have hadds : memberAdds n d ≤ d.m.length := by
      obtain ⟨hwo, hv, hroom⟩ := memberOK_arith _ d hokd
      have hn16 := hB.n_le
      exact memberAdds_le n d (by omega) hwo hv hroom
    obtain ⟨r, hr, hcode, hrun⟩ := single_call (newBrotliFile s) d.m acc (cap - acc.length)
      (acc.length + memberAdds n d) hI' hS' hruns (by omega)
    obtain ⟨_, hws, hB'⟩ := boundary_step 1 s acc n D data d [d.m] [cap - acc.length] _ hB hokd (by simp) (by simp) hrun
    dsimp only at hws hB'
    have hlen := (hruns 1 [cap - acc.length] _ hrun).2
    dsimp only at hlen
    obtain ⟨s', out', D', hsp, hBf, hout⟩ := ih r.st (acc ++ r.produced) d.n d.D _ (S + d.m.length) hB'
      (fun d' hd' => by rw [hws]; exact hok d' (List.mem_cons_of_mem _ hd')) (by omega) (by omega)
    refine ⟨s', out', D', ?_, ?_, by omega⟩
    · simp only [spliceMembers, hr, hcode, if_pos good_nmi]
      exact hsp
    · simpa [lastN, laterBits, List.append_assoc] using hBf

/-- the hypotheses are those of C03 `concat_bits`, the bit string of the conclusion is its closed form -/
theorem splice_sized (cap : Nat) (m0 pre0 : List Nat) (a0 b0 n0 D0 wsz0 wo0 : Nat) (ds : List MemberData)
    (hbytes : ∀ y, y ∈ m0 → y < 256) (hlong : need (m0.headD 0) + 1 ≤ m0.length)
    (hparse : parseWindowSize (m0.take (need (m0.headD 0))) = ok (some (wsz0, wo0)))
    (hm0 : m0 = pre0 ++ [a0, b0]) (hmark : Marked (a0 + (b0 <<< 8)) n0 D0)
    (hok : ∀ d, d ∈ ds → MemberOK (wsz0 ||| (if wo0 = 14 then LARGE_WINDOW_FLAG else 0)) d)
    (hcap : m0.length + (ds.map fun d => d.m.length).sum ≤ cap) :
    ∃ out, spliceAll cap (m0 :: ds.map fun d => d.m) = some out ∧
      out.length ≤ m0.length + (ds.map fun d => d.m.length).sum ∧
      bytesToBits out = bytesToBits pre0 ++ bitsOf n0 D0 ++ laterBits n0 ds ++ [true, true] ++
        List.replicate (14 - lastN n0 ds) false := by
  have hI0 := Inv.new
  have hI' := hI0.newBrotliFile
  have hS' := started_newBrotliFile State.new
  have hlen0 : m0.length = pre0.length + 2 := by rw [hm0]; simp
  have hruns : ∀ fuel caps R, runAll fuel (newBrotliFile State.new) [m0] caps [] = some R →
      R.code = NEEDS_MORE_INPUT ∧ R.emitted.length = ([] : List Nat).length + pre0.length := by
    intro fuel caps R h
    obtain ⟨hc, _, hB⟩ := first_boundary fuel State.new m0 pre0 a0 b0 n0 D0 wsz0 wo0 [m0] caps R hI0 rfl hbytes
      hlong hparse hm0 hmark (by simp) (by simp) h
    have e := congrArg List.length hB.data
    simp only [List.length_append, bytesToBits_length, bitsOf_length] at e
    exact ⟨hc, by simp; omega⟩
  obtain ⟨r, hr, hcode, hrun⟩ := single_call (newBrotliFile State.new) m0 [] cap _ hI' hS' hruns
    (by simp; omega)
  obtain ⟨_, hws, hB⟩ := first_boundary 1 State.new m0 pre0 a0 b0 n0 D0 wsz0 wo0 [m0] [cap] _ hI0 rfl hbytes
    hlong hparse hm0 hmark (by simp) (by simp) hrun
  dsimp only at hws hB
  have hlen := (hruns 1 [cap] _ hrun).2
  dsimp only at hlen
  simp only [List.nil_append, List.length_nil, Nat.zero_add] at hlen hB
  obtain ⟨s', out', D', hsp, hBf, hout⟩ := later_single cap ds r.st r.produced n0 D0 _ m0.length hB
    (fun d hd => by rw [hws]; exact hok d hd) (by omega) hcap
  obtain ⟨st, p, hf, hbits⟩ := finish_boundary s' out' _ D' _ (cap - out'.length) hBf (by omega)
  have hplen : p.length = 2 := by
    have e := congrArg List.length hbits
    have e2 := congrArg List.length hBf.data
    have hn16 := hBf.n_le
    simp only [List.length_append, bytesToBits_length, bitsOf_length, List.length_replicate, List.length_cons,
      List.length_nil] at e e2
    omega
  refine ⟨out' ++ p, ?_, by rw [List.length_append]; omega, by rw [hbits]⟩
  unfold spliceAll
  have hfirst : spliceMembers cap (m0 :: ds.map fun d => d.m) State.new [] = some (s', out') := by
    simp only [spliceMembers, List.length_nil, Nat.sub_zero, hr, hcode, if_pos good_nmi, List.nil_append]
    exact hsp
  rw [hfirst]
  simp only [spliceFinish, hf, if_true]

end BV.Lemmas.Multi
