/-
C14, distances: `Command::distance_index_and_offset` + the recoder's `final_distance` denote the distance
RFC 7932 assigns to the stored (symbol, extra bits) pair, for every (npostfix, ndirect), given that the
`nbits` half of `dist_prefix_` is the RFC's NDISTBITS (what `Command::init` stores; C18 proves the
encoder side).  Independent spec: `BV.PrefixArith.rfcDistDecode` and `BV.Recoder.rfcDistance`.
-/
import BV.Lemmas.RecoderDec
namespace BV.Recoder
open BV.PrefixArith

/-- what `Command::init` / `init_insert` establish about the stored distance fields -/
structure DistWF (c : Cmd) (dp : DistParams) : Prop where
  prefix_u16 : c.distPrefix < 65536
  long : c.distPrefix % 1024 ≥ 16 + dp.ndirect →
    c.distPrefix / 1024 = rfcDistNBits dp.npostfix dp.ndirect (c.distPrefix % 1024) ∧
    rfcDistDecode dp.npostfix dp.ndirect (c.distPrefix % 1024) c.distExtra < 2 ^ 31

/-- `MatchFinder.CacheI32`, the encoder side's form, asks the same of the first four entries of a longer list;
`cacheOk_take4` (BV/Props/C14Chain.lean) is the bridge -/
def CacheOk (cache : List Int) : Prop := cache.length = 4 ∧ ∀ x ∈ cache, -(2 ^ 31 : Int) ≤ x ∧ x < 2 ^ 31

theorem toUsize_pos (d : Int) (h0 : 0 ≤ d) (h1 : d < 2 ^ 64) : toUsize d = d.toNat := by
  unfold toUsize
  rw [Int.emod_eq_of_lt h0 h1]

theorem toI32_small (n : Nat) (h : n < 2 ^ 31) : toI32 n = (n : Int) := by
  unfold toI32
  have : n % 2 ^ 32 = n := Nat.mod_eq_of_lt (by omega)
  rw [this, if_pos h]

theorem toI32_range (n : Nat) : -(2 ^ 31 : Int) ≤ toI32 n ∧ toI32 n < 2 ^ 31 := by
  unfold toI32
  have : n % 2 ^ 32 < 2 ^ 32 := Nat.mod_lt _ (by decide)
  split <;> omega

theorem long_code_agree (c : Cmd) (dp : DistParams) (wf : DistWF c dp) (hlong : c.distPrefix % 1024 ≥ 16 + dp.ndirect)
    (idx : Nat) (off : Int) (h : distanceIndexAndOffset c dp = some (idx, off)) :
    idx = 0 ∧ off = ((rfcDistDecode dp.npostfix dp.ndirect (c.distPrefix % 1024) c.distExtra : Nat) : Int) := by
  -- no `u32` operation of `distance_index_and_offset` wraps: every intermediate (`A`, `X` below) is at most the decoded
  -- distance, which `DistWF.long` bounds by 2^31; the `generalize`s keep the powers of two away from `omega`
  obtain ⟨hn, hD⟩ := wf.long hlong
  have hu := wf.prefix_u16
  unfold distanceIndexAndOffset at h
  simp only at h
  rw [if_neg (by omega), if_neg (by omega)] at h
  have hmod : c.distPrefix % 65536 = c.distPrefix := Nat.mod_eq_of_lt hu
  rw [hmod, hn] at h
  unfold rfcDistDecode at hD ⊢
  rw [if_neg (by omega)] at hD ⊢
  simp only at hD ⊢
  have e1 : c.distPrefix % 1024 - dp.ndirect - 16 = c.distPrefix % 1024 - 16 - dp.ndirect := by omega
  rw [e1] at hD ⊢
  generalize hdc : c.distPrefix % 1024 - 16 - dp.ndirect = dcode at *
  generalize hP : 2 ^ dp.npostfix = P at *
  have hP0 : 0 < P := by rw [← hP]; exact Nat.two_pow_pos _
  generalize hN : rfcDistNBits dp.npostfix dp.ndirect (c.distPrefix % 1024) = nb at *
  generalize hA : (2 + dcode / P % 2) * 2 ^ nb = A at *
  have hnb1 : 1 ≤ nb := by rw [← hN]; unfold rfcDistNBits; exact Nat.le_add_right 1 _
  have hA4 : 4 ≤ A := by
    rw [← hA]
    have : 2 ^ 1 ≤ 2 ^ nb := Nat.pow_le_pow_right (by decide) hnb1
    have h2 : 2 ≤ 2 + dcode / P % 2 := by omega
    calc 4 = 2 * 2 ^ 1 := by decide
      _ ≤ (2 + dcode / P % 2) * 2 ^ nb := Nat.mul_le_mul h2 this
  generalize hX : (A - 4 + c.distExtra) * P = X at *
  have hXge : A - 4 + c.distExtra ≤ X := by rw [← hX]; exact Nat.le_mul_of_pos_right _ hP0
  have hA32 : A % 2 ^ 32 = A := Nat.mod_eq_of_lt (by omega)
  by_cases hnp : dp.npostfix ≥ 32 ∨ nb ≥ 32
  · rw [if_pos hnp] at h; cases h
  · rw [if_neg hnp, hA32, if_neg (by omega), if_neg (by omega), hX, Nat.mod_eq_of_lt (by omega), if_neg (by omega)] at h
    cases h
    exact ⟨rfl, rfl⟩

theorem finalDistance_zero (cache : List Int) (n : Nat) (h : n < 2 ^ 64) :
    finalDistance cache 0 (n : Int) = some n := by
  unfold finalDistance
  rw [if_pos rfl, toUsize_pos _ (by omega) (by omega)]
  simp

theorem finalDistance_idx (cache : List Int) (hc : CacheOk cache) (idx : Nat) (h1 : 1 ≤ idx) (off : Int)
    (hoff : -3 ≤ off ∧ off ≤ 3) (x : Int) (hx : cache[idx - 1]? = some x) (hpos : 0 < x + off) :
    finalDistance cache idx off = some (x + off).toNat := by
  unfold finalDistance
  rw [if_neg (by omega), hx]
  have hm : x ∈ cache := List.mem_of_getElem? hx
  have := hc.2 x hm
  simp only
  rw [toUsize_pos _ (by omega) (by omega)]

theorem shortCodeTable_eq : ∀ sym, sym < 16 → shortCodeTable[sym]? = some (shortIdx sym + 1, shortAdd sym 0) ∧
    ((shortIdx sym + 1 ≠ 1 ∨ shortAdd sym 0 ≠ 0) ↔ sym ≠ 0) := by decide

theorem shortAdd_eq_add (sym : Nat) (x : Int) : shortAdd sym x = x + shortAdd sym 0 := by
  unfold shortAdd; split <;> omega

theorem dist_agree (c : Cmd) (dp : DistParams) (wf : DistWF c dp) (cache : List Int) (hc : CacheOk cache)
    (idx : Nat) (off : Int) (hdi : distanceIndexAndOffset c dp = some (idx, off))
    (d : Int) (upd : Bool)
    (hrfc : rfcDistance dp.npostfix dp.ndirect cache (c.distPrefix % 1024) c.distExtra = some (d, upd)) (hd : 0 < d) :
    finalDistance cache idx off = some d.toNat ∧ (upd = true ↔ (idx ≠ 1 ∨ off ≠ 0)) := by
  by_cases hshort : c.distPrefix % 1024 < 16
  · unfold distanceIndexAndOffset at hdi
    simp only at hdi
    rw [if_pos hshort] at hdi
    rw [rfcDistance_short _ _ _ hshort] at hrfc
    generalize c.distPrefix % 1024 = sym at *
    obtain ⟨htab, hupd⟩ := shortCodeTable_eq sym hshort
    obtain ⟨rfl, rfl⟩ := Prod.mk.inj (Option.some.inj (hdi.symm.trans htab))
    obtain ⟨x, hx, hdx⟩ := Option.map_eq_some_iff.mp hrfc
    obtain ⟨rfl, rfl⟩ := Prod.mk.inj hdx
    rw [shortAdd_eq_add sym x] at hd ⊢
    have hb := shortAdd_bounds sym 0
    exact ⟨finalDistance_idx cache hc _ (Nat.le_add_left 1 _) _ (by omega) x hx hd,
      by rw [decide_eq_true_iff]; exact hupd.symm⟩
  · obtain ⟨k, hk⟩ : ∃ k, c.distPrefix % 1024 = k + 16 := ⟨c.distPrefix % 1024 - 16, by omega⟩
    rw [hk, rfcDistance_long] at hrfc
    cases hrfc
    by_cases hdirect : c.distPrefix % 1024 < 16 + dp.ndirect
    · unfold distanceIndexAndOffset at hdi
      simp only at hdi
      rw [if_neg hshort, if_pos hdirect] at hdi
      cases hdi
      have hv : rfcDistDecode dp.npostfix dp.ndirect (k + 16) c.distExtra = c.distPrefix % 1024 + 1 - 16 := by
        unfold rfcDistDecode
        rw [if_pos (by omega)]
        omega
      rw [hv]
      refine ⟨?_, by simp⟩
      rw [finalDistance_zero _ _ (by omega)]
      simp
    · obtain ⟨hi, ho⟩ := long_code_agree c dp wf (by omega) idx off hdi
      subst hi
      rw [ho, hk]
      have hD := (wf.long (by omega)).2
      rw [hk] at hD
      refine ⟨?_, by simp⟩
      rw [finalDistance_zero _ _ (by omega)]
      simp

end BV.Recoder
