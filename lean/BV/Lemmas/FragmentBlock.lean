/-
One compressed meta-block of the two-pass writer (`StoreCommands` behind its header) round-trips: the literal code is
covered by C17, the command / distance codes are the hypothesis `CmdCodeOK`.
-/
import BV.Lemmas.FragmentSim
import BV.Lemmas.MetaBlockCode
import BV.Lemmas.MetaBlockTrivial
import BV.Lemmas.FragmentRaw
import BV.Lemmas.MetaBlockWmbi
namespace BV.Fragment
open BV.Bits BV.MetaBlock BV.Huffman BV.PrefixArith BV.Recoder

theorem symOK_of_symIO (D B : List Nat) (C : Code) (s : Nat) (h : SymIO D B C s) : SymOK D B C s s := by
  obtain ⟨sb, hw, hr⟩ := h
  have h0 := hw []
  unfold storeSym getAt at h0
  cases hd : D[s]? with
  | none => rw [hd] at h0; cases h0
  | some d =>
  cases hb : B[s]? with
  | none => rw [hd, hb] at h0; cases h0
  | some b =>
  rw [hd, hb] at h0
  simp only [Out.bind_ok] at h0
  obtain ⟨e, hfit, h56⟩ := writeBits_eq_ok h0
  have hsl : s < D.length := by
    rcases Nat.lt_or_ge s D.length with h | h
    · exact h
    · rw [List.getElem?_eq_none h] at hd; cases hd
  have hsl2 : s < B.length := by
    rcases Nat.lt_or_ge s B.length with h | h
    · exact h
    · rw [List.getElem?_eq_none h] at hb; cases hb
  have e1 : D.getD s 0 = d := by rw [List.getD_eq_getElem?_getD, hd]; rfl
  have e2 : B.getD s 0 = b := by rw [List.getD_eq_getElem?_getD, hb]; rfl
  refine ⟨hsl, hsl2, by omega, by rw [e1, e2]; exact hfit, ?_⟩
  intro rest
  rw [e1, e2]
  have : sb = bitsOf d b := by simpa using e
  rw [← this]
  exact hr rest

theorem sum_map_add (l : List Nat) (f g : Nat → Nat) :
    (l.map fun v => f v + g v).sum = (l.map f).sum + (l.map g).sum := by
  induction l with
  | nil => rfl
  | cons x xs ih => simp only [List.map_cons, List.sum_cons, ih]; omega

theorem sum_indicator (n x : Nat) (hx : x < n) : ((List.range n).map fun v => if x = v then 1 else 0).sum = 1 := by
  induction n with
  | zero => omega
  | succ n ih =>
    rw [List.range_succ, List.map_append, List.sum_append]
    by_cases h : x < n
    · rw [ih h]
      simp; omega
    · have hxn : x = n := by omega
      subst hxn
      have hz : ((List.range x).map fun v => if x = v then 1 else 0).sum = 0 := by
        apply List.sum_eq_zero_iff_forall_eq_nat.mpr
        intro y hy
        obtain ⟨v, hv, rfl⟩ := List.mem_map.mp hy
        have := List.mem_range.mp hv
        rw [if_neg (by omega)]
      rw [hz]; simp

theorem sum_count (n : Nat) : ∀ (l : List Nat), (∀ x ∈ l, x < n) →
    ((List.range n).map fun v => l.count v).sum = l.length
  | [], _ => by
    apply List.sum_eq_zero_iff_forall_eq_nat.mpr
    intro y hy
    obtain ⟨v, _, rfl⟩ := List.mem_map.mp hy
    rfl
  | x :: xs, h => by
    have ih := sum_count n xs (fun y hy => h y (List.mem_cons_of_mem _ hy))
    have hx := h x (by simp)
    have e : (fun v => (x :: xs).count v) = fun v => xs.count v + (if x = v then 1 else 0) := by
      funext v
      rw [List.count_cons]
      simp [beq_iff_eq]
    rw [e, sum_map_add, ih, sum_indicator n x hx]
    simp

theorem histo_length (n : Nat) (xs : List Nat) : (histo n xs).length = n := by simp [histo]

theorem histo_get (n : Nat) (xs : List Nat) (v : Nat) (hv : v < n) (hl : xs.length < two32) :
    (histo n xs).getD v 0 = xs.count v := by
  unfold histo
  rw [List.getD_eq_getElem?_getD, List.getElem?_map, List.getElem?_range hv]
  simp only [Option.map_some, Option.getD_some]
  apply Nat.mod_eq_of_lt
  exact Nat.lt_of_le_of_lt List.count_le_length hl

theorem histo_sum (n : Nat) (xs : List Nat) (h : ∀ x ∈ xs, x < n) (hl : xs.length < two32) :
    (histo n xs).sum = xs.length := by
  rw [← sum_count n xs h]
  unfold histo
  congr 1
  apply List.map_congr_left
  intro v _
  apply Nat.mod_eq_of_lt
  exact Nat.lt_of_le_of_lt List.count_le_length hl

/-- What the round trip needs of `BuildAndStoreCommandPrefixCode` on the histogram of `cmds`: a HYPOTHESIS of the block
theorem, evaluated by the driver on every run (field `cc=`). -/
def CmdCodeOK (cmds : List Nat) : Prop :=
  ∃ ch cmdD cmdB cb2 cb3 cmdC distC, cmdHistoQ1 cmds = .ok ch ∧
    buildAndStoreCommandPrefixCodeQ1 ch (List.replicate 128 0) (List.replicate 128 0) [] = .ok (cmdD, cmdB, cb2 ++ cb3) ∧
    (∀ rest, readCode 704 (cb2 ++ rest) = some (cmdC, rest)) ∧
    (∀ rest, readCode 64 (cb3 ++ rest) = some (distC, rest)) ∧
    (∀ c ∈ cmds, c % 256 < 64 → SymOK cmdD cmdB cmdC (c % 256) (q1Symbol (c % 256))) ∧
    (∀ c ∈ cmds, 64 ≤ c % 256 → SymOK cmdD cmdB distC (c % 256) (c % 256 - 64))

theorem alphabetBits_256 : alphabetBits 256 = 8 := by decide

theorem histo_zero_beyond (n : Nat) (xs : List Nat) (i : Nat) (h : n ≤ i) : (histo n xs).getD i 0 = 0 := by
  rw [List.getD_eq_getElem?_getD, List.getElem?_eq_none (by rw [histo_length]; exact h)]; rfl

/-- `hr`: room for the two prefix-code descriptions actually produced plus the worst case of the data bits
(81 per command word, 57 per literal). -/
theorem compressed_block_reads (wo : WordOracle) (window : Nat) (block lits cmds : List Nat) (st fin : RdSt) (s : Sto)
    (h1 : 1 ≤ block.length) (h2 : block.length ≤ 2 ^ 24) (hl256 : ∀ b ∈ lits, b < 256)
    (hll : lits.length ≤ 2 ^ 24)
    (hrep : replayQ1 wo window block.length cmds lits 0 st = some fin)
    (hcc : CmdCodeOK cmds) (hg : Good s)
    (hr : ∀ litD litB cb1 ch cmdD cmdB cb23,
      buildAndStoreHuffmanTreeFast (histo 256 lits) lits.length 8 (List.replicate 256 0) (List.replicate 256 0) []
        = .ok (litD, litB, cb1) →
      cmdHistoQ1 cmds = .ok ch →
      buildAndStoreCommandPrefixCodeQ1 ch (List.replicate 128 0) (List.replicate 128 0) [] = .ok (cmdD, cmdB, cb23) →
      (s.ix + 41 + cb1.length + cb23.length + 81 * cmds.length + 57 * lits.length) / 8 + 8 ≤ s.bytes.size) :
    ∃ s' bits, storeBlock block lits cmds true s = .ok s' ∧ Wr s s' bits ∧
      ReadsTo wo window false s.ix st bits false (s.ix + bits.length) fin := by
  have p24 : (2 : Nat) ^ 24 = 16777216 := by decide
  have p25 : (2 : Nat) ^ 25 = 33554432 := by decide
  have e32 : two32 = 4294967296 := rfl
  have hl32 : lits.length < two32 := by rw [e32]; omega
  have hsum := histo_sum 256 lits hl256 hl32
  have hlen := histo_length 256 lits
  obtain ⟨litD, litB, w1, hb1, cb1, litC, e1, r1, sy1⟩ := fastN_roundtrip (histo 256 lits) 256 256 [] (by rw [hlen]; omega)
    (by rw [hsum]; omega) (by omega) (by omega) (by omega) (fun i hi => histo_zero_beyond 256 lits i hi)
  rw [List.nil_append] at e1
  subst e1
  rw [hsum, alphabetBits_256] at hb1
  have hlitOK : ∀ b ∈ lits, SymOK litD litB litC b b := by
    intro b hb
    apply symOK_of_symIO
    apply sy1 b (by rw [hlen]; exact hl256 b hb)
    rw [histo_get 256 lits b (hl256 b hb) hl32]
    exact Nat.pos_iff_ne_zero.mp (List.count_pos_iff.mpr hb)
  obtain ⟨ch, cmdD, cmdB, cb2, cb3, cmdC, distC, hch, hb2, r2, r3, sy2, sy3⟩ := hcc
  have hroom := hr litD litB w1 ch cmdD cmdB (cb2 ++ cb3) hb1 hch hb2
  obtain ⟨s1, x1, w1'⟩ := Sto.storeHeader_ok block.length false s hg h1 h2 (by omega)
  have hn := nibsOf_cases block.length
  have i1 : s1.ix ≤ s.ix + 28 := by rw [w1'.ix, hdrBits_length]; omega
  obtain ⟨s2, x2, w2⟩ := Sto.writeBits_ok 13 0 s1 w1'.good (by decide) (by decide) (by rw [w1'.size]; omega)
  have i2 : s2.ix ≤ s.ix + 41 := by rw [w2.ix, bitsOf_length]; omega
  obtain ⟨s3, x3, w3⟩ := blit_ok w1 s2 w2.good (by rw [w2.size, w1'.size]; omega)
  have i3 : s3.ix ≤ s.ix + 41 + w1.length := by rw [w3.ix]; omega
  obtain ⟨s4, x4, w4⟩ := blit_ok (cb2 ++ cb3) s3 w3.good (by rw [w3.size, w2.size, w1'.size]; omega)
  have i4 : s4.ix ≤ s.ix + 41 + w1.length + (cb2 ++ cb3).length := by rw [w4.ix]; omega
  unfold replayQ1 at hrep
  obtain ⟨s5, db, x5, w5, r5⟩ := storeCmdLoop_sim wo window block.length litD litB cmdD cmdB litC cmdC distC
    (block.length + 1) cmds lits 0 st fin s4 hrep hlitOK sy2 sy3 w4.good
    (by rw [w4.size, w3.size, w2.size, w1'.size]; omega)
  refine ⟨s5, hdrBits block.length false ++ (bitsOf 13 0 ++ (w1 ++ ((cb2 ++ cb3) ++ db))), ?_, ?_, ?_⟩
  · unfold storeBlock
    rw [if_pos rfl, x1, Out.bind_ok, x2, Out.bind_ok]
    unfold storeCommands
    rw [hb1, Out.bind_ok]
    simp only []
    rw [x3, Out.bind_ok, hch, Out.bind_ok, hb2, Out.bind_ok]
    simp only []
    rw [x4, Out.bind_ok, x5]
  · exact w1'.trans (w2.trans (w3.trans (w4.trans w5)))
  · intro rest
    rw [hdrBits_false block.length h1 h2]
    have hra := read_assembled wo window false block false st.out st.ring s.bits w1 cb2 cb3 db
      (s.bits ++ (headerBits false block.length ++ (bitsOf 13 0 ++ (w1 ++ (cb2 ++ (cb3 ++ db))))))
      litC cmdC distC ⟨fin.out, fin.ring, 0⟩ h1 h2 rfl r1 r2 r3
      (by
        intro rest f hf
        have := r5 rest f hf
        rw [rdst_eta, rdst_eta]
        exact this) rest
    rw [bits_length, rdst_eta, rdst_eta] at hra
    simp only [padOf, Bool.false_eq_true, if_false, List.append_nil, List.length_nil, Nat.add_zero] at hra
    simp only [List.append_assoc] at hra ⊢
    rw [hra]
    simp [bits_length, List.length_append]

end BV.Fragment
