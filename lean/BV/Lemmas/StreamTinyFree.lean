import BV.Lemmas.StreamFast
import BV.Lemmas.StreamRunHist
import BV.Lemmas.StreamTiny
/-
`TinyOK` and the carry bound (`last_bytes_bits_ ≤ 14`) through every atomic step, every call and `take_output`,
free of any hypothesis on the payload encoder (hence the name of the file).  With `StoreOK` (`StreamStore`) this gives: after any call from a
fresh instance the pending bytes lie inside the buffer `next_out_` points into.
-/
namespace BV.Stream
open BV.Bits

/-- `TinyOK` needs the carry bound to be kept (`L`: `last_bytes_bits_ ≤ 14`), so the pair is what every atom keeps -/
def TinyL (s : St) : Prop := TinyOK s ∧ s.lastBytesBits ≤ 14

theorem step_tinyOK {o : Oracle} {op : Nat} {s s1 : St} {io io1 : Io} {e : Ev}
    (hT : TinyOK s) (hl : s.lastBytesBits ≤ 14) (hs : Step o op (s, io) e (s1, io1)) : TinyOK s1 := by
  rcases hs.effect with ⟨hf, _, rfl, _⟩ | ⟨hI, ha⟩
  · exact tinyOK_fresh hf
  · cases ha with
    | copy hw hop hnf hst => exact ⟨hT.fits, hT.none, fun hb => by cases hst.symm.trans hb⟩
    | pad hc hz he => exact tinyOK_pad hT hl hc.2 (by rw [hc.1]; simp) he
    | push hc hp he => exact tinyOK_push hT hl he
    | @enc k site il ff s2 req st hE hI0 hpend he hfr =>
      have hnb : s.streamState ≠ .metadataBody := fun hb =>
        absurd (hT.body hb).2 (hE.body (Or.inl hb)).2
      have hT2 := tinyOK_encode (s := s.hint k) ⟨hT.fits, hT.none, hT.body⟩ hnb he
      exact ⟨hT2.fits, hT2.none, fun hb => absurd (hE.body (Or.inr hb)).1 hnb⟩
    | flushed hop hrm hnp hz hfl hp => exact ⟨fun off ho => (by cases ho), fun _ => hp, fun hb => (by cases hb)⟩
    | fastFlush => exact ⟨hT.fits, hT.none, fun hb => by cases hb⟩
    | fastBlock hfm hop hrm hnp hpend hst =>
      have hnb : ∀ {il ff : Bool}, markState s.streamState il ff ≠ .metadataBody := by
        intro il ff; rw [hst]; cases il <;> cases ff <;> simp [markState]
      cases hip : fastInplace s io with
      | true =>
        refine ⟨fun off ho => ?_, fun _ => (by simp [fastSt, hpend]), fun hb => absurd hb hnb⟩
        have ho' : s.nextOut = .tiny off := by simpa [fastSt] using ho
        have := (hT.fits off ho').1
        simp only [fastSt, if_true, hpend, List.length_nil] at this ⊢
        exact ⟨this, fun hne => absurd rfl hne⟩
      | false => exact tinyOK_dyn (off := 0) (by simp [fastSt]) (fun hb => absurd hb hnb)
    | mdEnter hop hentry hmv =>
      refine ⟨hT.fits, hT.none, fun hb => ?_⟩
      rcases hmv with ⟨_, _, rfl⟩ | ⟨_, _, rfl⟩
      · cases hb
      · exact hT.body hb
    | mdHead hM hop hpend hlf hst hok =>
      have h1 := metadataHeaderBits_length_le s.remainingMetadata hM.rmLe s.carry
      rw [s.carry_length] at h1
      exact tinyOK_tiny0 (b := toBytes (metadataHeaderBits s.remainingMetadata s.carry)) rfl rfl (by rw [toBytes_length]; omega) (fun _ => rfl) (fun _ => ⟨rfl, hlf⟩)
    | mdDone => exact ⟨hT.fits, hT.none, fun hb => by cases hb⟩
    | mdTiny hM hop hpend hlf hst =>
      exact tinyOK_tiny0 (b := io.input.take (mdTinyN s)) rfl rfl (by rw [List.length_take]; exact Nat.le_trans (Nat.min_le_left _ _) (Nat.min_le_right _ _))
        (fun _ => (hT.body hst).1) hT.body
    | _ => exact ⟨hT.fits, hT.none, hT.body⟩

theorem step_tinyL {o : Oracle} {op : Nat} (c : St × Io) (e : Ev) (c1 : St × Io)
    (hQ : TinyL c.1) (hs : Step o op c e c1) : TinyL c1.1 :=
  ⟨step_tinyOK hQ.1 hQ.2 hs, step_lbb c e c1 hQ.2 hs⟩

theorem tinyL_call {o : Oracle} {fuel op cap : Nat} {input : Bytes} {s s' : St} {io' : Io} {r : Bool}
    (hop : op ≤ 3) (hI : Inv s) (hw : s.inputPos + input.length < two64) (hQ : TinyL s)
    (h : compressStream o fuel s op input cap = .ok (s', io', r)) : TinyL s' :=
  call_induct (fun c => TinyL c.1) step_tinyL
    (fun _ hq => ⟨tinyOK_hint hq.1 0, by rw [updateSizeHint_eq]; exact hq.2⟩) hop hI hw h hQ

theorem tinyOK_call {o : Oracle} {fuel op cap : Nat} {input : Bytes} {s s' : St} {io' : Io} {r : Bool}
    (hop : op ≤ 3) (hI : Inv s) (hw : s.inputPos + input.length < two64) (hl : s.lastBytesBits ≤ 14)
    (hT : TinyOK s)
    (h : compressStream o fuel s op input cap = .ok (s', io', r)) : TinyOK s' :=
  (tinyL_call hop hI hw ⟨hT, hl⟩ h).1

theorem tinyL_call_run {o : Oracle} {fuel op cap : Nat} {input : Bytes} {s s' : St} {io' : Io} {r : Bool}
    (hop : op ≤ 3) (hR : IsFresh s ∨ Inv s) (hw : s.inputPos + input.length < two64) (hQ : IsFresh s ∨ TinyL s)
    (h : compressStream o fuel s op input cap = .ok (s', io', r)) : TinyL s' := by
  rcases hR with hf | hI
  · obtain ⟨hI, hw', h'⟩ := call_fresh hf hw h
    exact tinyL_call hop hI hw' ⟨tinyOK_fresh hf, ensureInitialized_lbb s (isFreshInit hf)⟩ h'
  · rcases hQ with hf | hQ
    · exact absurd hI.init (by rw [isFreshInit hf]; simp)
    · exact tinyL_call hop hI hw hQ h

theorem tinyL_take {s s' : St} {size : Nat} {out : Bytes} (hQ : TinyL s)
    (h : takeOutput s size = .ok (s', out)) : TinyL s' :=
  ⟨tinyOK_take hQ.1 h, (takeOutput_fields h).2.1 ▸ hQ.2⟩

end BV.Stream
