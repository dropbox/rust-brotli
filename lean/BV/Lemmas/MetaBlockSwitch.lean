/-
C01 / meta-block writers: block splits.  `BuildAndStoreBlockSplitCode` against `readCatHeader`,
`StoreBlockSwitch` against the block switch of `Cat.next` (RFC 7932 §6: type code 0 = second-to-last type,
1 = last type + 1, else code − 2; block count code + extra bits), for every well-formed split.
-/
import BV.Lemmas.MetaBlockCode
import BV.Model.MetaBlockFull
import BV.Lemmas.MetaBlockHisto

namespace BV.MetaBlock
open BV.Gen BV.Bits BV.Huffman BV.PrefixArith BV.Recoder
open BV.Lemmas.HuffmanRead (takeBits_bitsOf)
open BV.Lemmas.PrefixArith (blOff blBits)

theorem blockLen_table (c : Nat) (hc : c < 26) :
    rfcBlockLenTable[c]? = some (blOff c, blBits c) ∧ blBits c ≤ 24 := by
  have : ∀ i : Fin 26, rfcBlockLenTable[i.val]? = some (blOff i.val, blBits i.val) ∧ blBits i.val ≤ 24 := by
    decide +kernel
  exact this ⟨c, hc⟩

theorem blockLen_roundtrip (ld lb : List Nat) (cc : Code) (l : Nat) (h1 : 1 ≤ l) (h2 : l ≤ 2 ^ 24)
    (hio : SymIO ld lb cc (blockLengthPrefixCode l)) :
    ∃ sb eb, (∀ w, storeSym ld lb (getBlockLenCode l).1 w = Out.ok (w ++ sb)) ∧
      (∀ w, writeBits ((getBlockLenCode l).2.1 % 256) (getBlockLenCode l).2.2 w = Out.ok (w ++ eb)) ∧
      ∀ rest, readBlockCount cc (sb ++ eb ++ rest) = some (l, rest) := by
  obtain ⟨c26, lo, hi⟩ := BV.Props.C18.block_len_exact l h1 h2
  obtain ⟨htab, h24⟩ := blockLen_table _ c26
  obtain ⟨sb, hs, hr⟩ := hio
  have p24 : (2 : Nat) ^ 24 = 16777216 := by decide
  have hcode : (getBlockLenCode l).1 = blockLengthPrefixCode l := rfl
  have hnx : (getBlockLenCode l).2.1 = blBits (blockLengthPrefixCode l) := rfl
  have hex : (getBlockLenCode l).2.2 = l - blOff (blockLengthPrefixCode l) := by
    show (l + two32 - blOff (blockLengthPrefixCode l)) % two32 = _
    have : l + two32 - blOff (blockLengthPrefixCode l) = (l - blOff (blockLengthPrefixCode l)) + two32 := by omega
    rw [this, Nat.add_mod_right, Nat.mod_eq_of_lt (by unfold two32; omega)]
  generalize hC : blockLengthPrefixCode l = C at *
  generalize hB : blBits C = B at *
  generalize hO : blOff C = O at *
  refine ⟨sb, bitsOf B (l - O), ?_, ?_, ?_⟩
  · intro w
    rw [hcode, hs w]
  · intro w
    rw [hnx, hex, Nat.mod_eq_of_lt (by omega), writeBits_ok _ _ _ (by omega) (by omega)]
  · intro rest
    unfold readBlockCount
    rw [List.append_assoc, hr]
    simp only [htab]
    rw [takeBits_bitsOf _ _ _ (by omega)]
    simp only
    congr 2
    omega

theorem storeBlockSwitch_ok (c : BSCode) (cc : Code) (l t : Nat) (first : Bool) (tb : List Bool)
    (h1 : 1 ≤ l) (h2 : l ≤ 2 ^ 24)
    (hio : SymIO c.lengthDepths c.lengthBits cc (blockLengthPrefixCode l))
    (ht : ∀ w, (if first then Out.ok w else
      storeSym c.typeDepths c.typeBits (nextBlockTypeCode c.last c.secondLast t).1 w) = .ok (w ++ tb)) :
    ∃ lbits, (∀ w, storeBlockSwitch c l t first w
        = .ok ({ c with last := t, secondLast := c.last }, w ++ tb ++ lbits)) ∧
      ∀ rest, readBlockCount cc (lbits ++ rest) = some (l, rest) := by
  obtain ⟨sb, eb, e1, e2, e3⟩ := blockLen_roundtrip _ _ cc l h1 h2 hio
  refine ⟨sb ++ eb, ?_, e3⟩
  intro w
  unfold storeBlockSwitch
  have hn : nextBlockTypeCode c.last c.secondLast t
      = ((nextBlockTypeCode c.last c.secondLast t).1, t, c.last) := rfl
  rw [hn]
  simp only
  rw [ht w, Out.bind_ok]
  rw [show getBlockLenCode l = ((getBlockLenCode l).1, (getBlockLenCode l).2.1, (getBlockLenCode l).2.2) from rfl]
  simp only
  rw [e1, Out.bind_ok, e2, Out.bind_ok, List.append_assoc, List.append_assoc]

/-- the calculator's second-to-last type before block `j ≥ 1`; the 1 is the initial `last_type` of the
`BlockTypeCodeCalculator` (`BSCode.init`) -/
def secondAt (types : List Nat) (j : Nat) : Nat := if j = 1 then 1 else types.getD (j - 2) 0

def tcode (types : List Nat) (j : Nat) : Nat :=
  (nextBlockTypeCode (types.getD (j - 1) 0) (secondAt types j) (types.getD j 0)).1

/-- a split the format can express -/
structure SplitOK (s : BSplit) : Prop where
  nb : s.numBlocks = s.types.length
  nl : s.lengths.length = s.types.length
  pos : 1 ≤ s.types.length
  cap : s.types.length ≤ 2 ^ 24
  t0 : s.types.getD 0 0 = 0
  tlt : ∀ j, j < s.types.length → s.types.getD j 0 < s.numTypes
  nt1 : 1 ≤ s.numTypes
  nt : s.numTypes ≤ 256
  len : ∀ j, j < s.types.length → 1 ≤ s.lengths.getD j 0 ∧ s.lengths.getD j 0 ≤ 2 ^ 24
  single : s.numTypes = 1 → s.types.length = 1

theorem tcode_lt (s : BSplit) (h : SplitOK s) (j : Nat) (hj : j < s.types.length) : tcode s.types j < s.numTypes + 2 := by
  unfold tcode nextBlockTypeCode
  simp only
  have := h.tlt j hj
  split
  · omega
  · split <;> omega

theorem map_range_succ {α : Type} (f : Nat → α) (i cnt : Nat) :
    (List.range (cnt + 1)).map (fun k => f (i + k)) = f i :: (List.range cnt).map (fun k => f (i + 1 + k)) := by
  rw [List.range_succ_eq_map, List.map_cons, List.map_map]
  congr 1
  apply List.map_congr_left
  intro k _
  simp only [Function.comp]
  rw [show i + (k + 1) = i + 1 + k by omega]

theorem splitHistos_spec (s : BSplit) (h : SplitOK s) : ∀ (cnt i : Nat) (th lh T L : List Nat), 1 ≤ i →
    i + cnt = s.types.length → DataInv th 258 T → DataInv lh 26 L → T.length + cnt < two32 → L.length + cnt < two32 →
    ∃ th' lh', splitHistos s.types s.lengths cnt i (s.types.getD (i - 1) 0) (secondAt s.types i) th lh = .ok (th', lh') ∧
      DataInv th' 258 (T ++ (List.range cnt).map (fun k => tcode s.types (i + k))) ∧
      DataInv lh' 26 (L ++ (List.range cnt).map (fun k => blockLengthPrefixCode (s.lengths.getD (i + k) 0))) := by
  intro cnt
  induction cnt with
  | zero => intro i th lh T L _ _ ht hl _ _; exact ⟨th, lh, rfl, by simpa using ht, by simpa using hl⟩
  | succ cnt ih =>
    intro i th lh T L hi hsum ht hl hb1 hb2
    have hil : i < s.types.length := by omega
    have htc := tcode_lt s h i hil
    have hnt := h.nt
    obtain ⟨l1, l2⟩ := h.len i hil
    obtain ⟨c26, _, _⟩ := BV.Props.C18.block_len_exact _ l1 l2
    obtain ⟨th1, g1, e1, d1⟩ := bump_data th 258 T (tcode s.types i) ht (by omega) (by omega)
    obtain ⟨lh1, g2, e2, d2⟩ := bump_data lh 26 L (blockLengthPrefixCode (s.lengths.getD i 0)) hl c26 (by omega)
    have hnext : secondAt s.types (i + 1) = s.types.getD (i - 1) 0 := by
      unfold secondAt
      by_cases h1 : i = 1
      · subst h1; simp
      · rw [if_neg (by omega)]; congr 1
    obtain ⟨th', lh', e3, d3, d4⟩ := ih (i + 1) th1 lh1 _ _ (by omega) (by omega) d1 d2
      (by simp; omega) (by simp; omega)
    refine ⟨th', lh', ?_, ?_, ?_⟩
    · unfold splitHistos
      rw [getAt_getD s.types i 0 hil, Out.bind_ok]
      have hcode : nextBlockTypeCode (s.types.getD (i - 1) 0) (secondAt s.types i) (s.types.getD i 0)
          = (tcode s.types i, s.types.getD i 0, s.types.getD (i - 1) 0) := rfl
      rw [hcode]
      simp only
      rw [if_pos (by omega)]
      rw [g1, Out.bind_ok, e1, Out.bind_ok, getAt_getD s.lengths i 0 (by rw [h.nl]; exact hil), Out.bind_ok, g2,
        Out.bind_ok, e2, Out.bind_ok, ← hnext]
      have : s.types.getD (i + 1 - 1) 0 = s.types.getD i 0 := by congr 1
      rw [this] at e3
      exact e3
    · rw [map_range_succ (tcode s.types) i cnt]
      simpa [List.append_assoc] using d3
    · rw [map_range_succ (fun k => blockLengthPrefixCode (s.lengths.getD k 0)) i cnt]
      simpa [List.append_assoc] using d4

theorem splitHistos_first (s : BSplit) (h : SplitOK s) :
    ∃ th lh, splitHistos s.types s.lengths s.numBlocks 0 1 0 (List.replicate 258 0) (List.replicate 26 0)
        = .ok (th, lh) ∧
      DataInv th 258 ((List.range (s.types.length - 1)).map (fun k => tcode s.types (1 + k))) ∧
      DataInv lh 26 ((List.range s.types.length).map (fun k => blockLengthPrefixCode (s.lengths.getD k 0))) := by
  have p24 : (2 : Nat) ^ 24 = 16777216 := by decide
  have hcap := h.cap
  obtain ⟨cnt, hc⟩ : ∃ cnt, s.types.length = cnt + 1 := ⟨s.types.length - 1, by have := h.pos; omega⟩
  obtain ⟨l1, l2⟩ := h.len 0 (by omega)
  obtain ⟨c26, _, _⟩ := BV.Props.C18.block_len_exact _ l1 l2
  obtain ⟨lh1, g2, e2, d2⟩ := bump_data (List.replicate 26 0) 26 [] (blockLengthPrefixCode (s.lengths.getD 0 0))
    (histoInv_zero 26).toData c26 (by unfold two32; simp)
  rw [List.nil_append] at d2
  obtain ⟨th', lh', e3, d3, d4⟩ := splitHistos_spec s h cnt 1 (List.replicate 258 0) lh1 [] _ (Nat.le_refl _)
    (by omega) (histoInv_zero 258).toData d2 (by unfold two32; simp; omega) (by unfold two32; simp; omega)
  refine ⟨th', lh', ?_, ?_, ?_⟩
  · rw [h.nb, hc]
    unfold splitHistos
    rw [getAt_getD s.types 0 0 (by omega), Out.bind_ok, h.t0]
    have hcode : nextBlockTypeCode 1 0 0 = ((nextBlockTypeCode 1 0 0).1, 0, 1) := rfl
    rw [hcode]
    simp only
    rw [if_neg (by omega), Out.bind_ok, getAt_getD s.lengths 0 0 (by rw [h.nl]; omega), Out.bind_ok]
    rw [g2, Out.bind_ok, e2, Out.bind_ok]
    have h0 : s.types.getD (1 - 1) 0 = 0 := h.t0
    have h1 : secondAt s.types 1 = 1 := by unfold secondAt; rw [if_pos rfl]
    rw [h0, h1] at e3
    exact e3
  · rw [hc]; simpa using d3
  · rw [hc, List.range_succ_eq_map, List.map_cons, List.map_map]
    have : (fun k => blockLengthPrefixCode (s.lengths.getD k 0)) ∘ Nat.succ
        = fun k => blockLengthPrefixCode (s.lengths.getD (1 + k) 0) := by
      funext k; simp only [Function.comp]; rw [Nat.succ_eq_add_one, Nat.add_comm]
    rw [this]
    simpa using d4

structure CatInv (s : BSplit) (c : BSCode) (cat : Cat) (j : Nat) : Prop where
  jlt : j < s.types.length
  nbl : cat.nbl = s.numTypes
  btype : cat.btype = s.types.getD j 0
  second : 2 ≤ s.numTypes → cat.second = secondAt s.types (j + 1)
  last : 2 ≤ s.numTypes → c.last = s.types.getD j 0 ∧ c.secondLast = secondAt s.types (j + 1)
  tio : ∀ k, 1 ≤ k → k < s.types.length → SymIO c.typeDepths c.typeBits cat.typeCode (tcode s.types k)
  lio : ∀ k, 1 ≤ k → k < s.types.length →
    SymIO c.lengthDepths c.lengthBits cat.countCode (blockLengthPrefixCode (s.lengths.getD k 0))

theorem blockSplitCode_roundtrip (s : BSplit) (h : SplitOK s) (w : Writer) :
    ∃ bits c cat, buildAndStoreBlockSplitCode s BSCode.init w = .ok (c, w ++ bits) ∧
      (∀ rest, readCatHeader (bits ++ rest) = some (cat, rest)) ∧ CatInv s c cat 0 ∧
      (2 ≤ s.numTypes → cat.count = s.lengths.getD 0 0) := by
  have p24 : (2 : Nat) ^ 24 = 16777216 := by decide
  have hnt := h.nt
  have hnt1 := h.nt1
  have hcap := h.cap
  have hpos := h.pos
  have hn64 : (s.numTypes + two64 - 1) % two64 = s.numTypes - 1 :=
    wsub_of_le (by omega) (by unfold two64; omega)
  obtain ⟨th, lh, eh, dt, dl⟩ := splitHistos_first s h
  obtain ⟨vb, hv1, hv2⟩ := varLen8_roundtrip (s.numTypes - 1) (by omega) w
  unfold buildAndStoreBlockSplitCode
  rw [eh, Out.bind_ok]
  simp only
  rw [hn64, hv1, Out.bind_ok]
  by_cases h1 : s.numTypes = 1
  · rw [if_neg (by omega)]
    refine ⟨vb, BSCode.init, Cat.one, rfl, ?_, ?_, by omega⟩
    · intro rest
      unfold readCatHeader
      rw [hv2, h1]
      rfl
    · have hs := h.single h1
      exact ⟨by omega, h1.symm, h.t0.symm, fun h2 => by omega, fun h2 => by omega,
        fun k _ _ => by omega, fun k _ _ => by omega⟩
  · rw [if_pos (by omega)]
    have hm : (s.numTypes + 2) % two64 = s.numTypes + 2 := Nat.mod_eq_of_lt (by unfold two64; omega)
    rw [hm]
    have hsumT : th.sum ≤ 2 ^ 25 := by rw [dt.sum]; simp; omega
    have hzT : ∀ i, s.numTypes + 2 ≤ i → th.getD i 0 = 0 := by
      intro i hi
      rcases Nat.eq_zero_or_pos (th.getD i 0) with h0 | h0
      · exact h0
      · exfalso
        have := (dt.mem i).mp (by omega)
        simp only [List.mem_map, List.mem_range] at this
        obtain ⟨k, hk, rfl⟩ := this
        have := tcode_lt s h (1 + k) (by omega)
        omega
    simp only [BSCode.init]
    obtain ⟨td, tb, cb1, tc, hbt, rc1, sc1, _⟩ := buildN_roundtrip th (s.numTypes + 2) (s.numTypes + 2) 258 (w ++ vb)
      (by omega) (by rw [dt.len]; omega) (by omega) hsumT (by omega) (Nat.le_refl _) hzT
    rw [hbt, Out.bind_ok]
    simp only
    have hsumL : lh.sum ≤ 2 ^ 25 := by rw [dl.sum]; simp; omega
    have hzL : ∀ i, 26 ≤ i → lh.getD i 0 = 0 := fun i hi => getD_of_le lh i 0 (dl.len ▸ hi)
    obtain ⟨ld, lb, cb2, cc, hbl, rc2, sc2, _⟩ := buildN_roundtrip lh 26 26 26 (w ++ vb ++ cb1) (by omega)
      (by rw [dl.len]; omega) (by omega) hsumL (by omega) (Nat.le_refl _) hzL
    have hbl' : buildAndStoreHuffmanTree lh BROTLI_NUM_BLOCK_LEN_SYMBOLS BROTLI_NUM_BLOCK_LEN_SYMBOLS scratchTree
        (List.replicate 26 0) (List.replicate 26 0) (w ++ vb ++ cb1) = .ok (ld, lb, w ++ vb ++ cb1 ++ cb2) := hbl
    rw [hbl', Out.bind_ok]
    simp only
    rw [getAt_getD s.lengths 0 0 (by rw [h.nl]; omega), Out.bind_ok, getAt_getD s.types 0 0 (by omega), Out.bind_ok]
    have lio : ∀ k, k < s.types.length → SymIO ld lb cc (blockLengthPrefixCode (s.lengths.getD k 0)) := by
      intro k hk
      obtain ⟨l1, l2⟩ := h.len k hk
      obtain ⟨c26, _, _⟩ := BV.Props.C18.block_len_exact _ l1 l2
      exact sc2 _ c26 ((dl.mem _).mpr (List.mem_map.mpr ⟨k, List.mem_range.mpr hk, rfl⟩))
    have tio : ∀ k, 1 ≤ k → k < s.types.length → SymIO td tb tc (tcode s.types k) := by
      intro k hk1 hk
      exact sc1 _ (tcode_lt s h k hk) ((dt.mem _).mpr (List.mem_map.mpr ⟨k - 1, List.mem_range.mpr (by omega),
        by rw [show 1 + (k - 1) = k by omega]⟩))
    obtain ⟨l1, l2⟩ := h.len 0 (by omega)
    obtain ⟨lbits, es, er⟩ := storeBlockSwitch_ok
      ⟨1, 0, td, tb, ld, lb⟩ cc
      (s.lengths.getD 0 0) (s.types.getD 0 0) true [] l1 l2 (lio 0 (by omega)) (fun w => by simp)
    rw [es]
    refine ⟨vb ++ (cb1 ++ (cb2 ++ lbits)), ⟨s.types.getD 0 0, 1, td, tb, ld, lb⟩,
      ⟨s.numTypes, tc, cc, 0, s.lengths.getD 0 0, 1⟩, ?_, ?_, ?_, fun _ => rfl⟩
    · have : w ++ vb ++ cb1 ++ cb2 ++ [] ++ lbits = w ++ (vb ++ (cb1 ++ (cb2 ++ lbits))) := by simp
      rw [this]
    · intro rest
      unfold readCatHeader
      rw [List.append_assoc, hv2]
      simp only
      rw [if_neg (by omega)]
      have e1 : s.numTypes - 1 + 1 + 2 = s.numTypes + 2 := by omega
      have e2 : s.numTypes - 1 + 1 = s.numTypes := by omega
      rw [e1, e2, List.append_assoc, rc1]
      simp only
      rw [List.append_assoc, rc2]
      simp only
      rw [er]
    · exact ⟨by omega, rfl, h.t0.symm, fun _ => by unfold secondAt; simp,
        fun _ => ⟨rfl, by unfold secondAt; simp⟩, tio, fun k _ hk => lio k hk⟩

theorem tcode_decode (last second t nbl : Nat) (hl : last < nbl) (ht : t < nbl) (hn : nbl ≤ 256) :
    (if (nextBlockTypeCode last second t).1 = 0 then second
      else if (nextBlockTypeCode last second t).1 = 1 then (if last + 1 ≥ nbl then 0 else last + 1)
      else (nextBlockTypeCode last second t).1 - 2) = t := by
  have hm : (last + 1) % two64 = last + 1 := Nat.mod_eq_of_lt (by unfold two64; omega)
  unfold nextBlockTypeCode
  simp only [hm]
  by_cases h1 : t = last + 1
  · rw [if_pos h1]; simp only [Nat.one_ne_zero, if_false, if_true]; rw [if_neg (by omega)]; exact h1.symm
  · rw [if_neg h1]
    by_cases h2 : t = second
    · rw [if_pos h2]; simp; exact h2.symm
    · rw [if_neg h2]; simp

theorem CatInv.two {s : BSplit} {c : BSCode} {cat : Cat} {j : Nat} (h : SplitOK s) (_ : CatInv s c cat j)
    (hj : j + 1 < s.types.length) : 2 ≤ s.numTypes := by
  rcases Nat.lt_or_ge s.numTypes 2 with h1 | h1
  · have := h.single (by have := h.nt1; omega); omega
  · exact h1

def Cat.switched (cat : Cat) (t l : Nat) : Cat := { cat with btype := t, count := l - 1, second := cat.btype }

def BSCode.switched (c : BSCode) (t : Nat) : BSCode := { c with last := t, secondLast := c.last }

theorem switch_step (s : BSplit) (h : SplitOK s) (c : BSCode) (cat : Cat) (j : Nat) (hi : CatInv s c cat j)
    (hj : j + 1 < s.types.length) (h0 : cat.count = 0) :
    ∃ bits, (∀ w, storeBlockSwitch c (s.lengths.getD (j + 1) 0) (s.types.getD (j + 1) 0) false w
        = .ok (c.switched (s.types.getD (j + 1) 0), w ++ bits)) ∧
      (∀ rest, cat.next (bits ++ rest)
        = some (cat.switched (s.types.getD (j + 1) 0) (s.lengths.getD (j + 1) 0), rest)) ∧
      CatInv s (c.switched (s.types.getD (j + 1) 0))
        (cat.switched (s.types.getD (j + 1) 0) (s.lengths.getD (j + 1) 0)) (j + 1) := by
  have h2 := hi.two h hj
  obtain ⟨hl1, hl2⟩ := hi.last h2
  obtain ⟨l1, l2⟩ := h.len (j + 1) hj
  obtain ⟨tb, ts, tr⟩ := hi.tio (j + 1) (by omega) hj
  have htc : tcode s.types (j + 1) = (nextBlockTypeCode c.last c.secondLast (s.types.getD (j + 1) 0)).1 := by
    unfold tcode; rw [hl1, hl2]; rfl
  obtain ⟨lbits, es, er⟩ := storeBlockSwitch_ok c cat.countCode (s.lengths.getD (j + 1) 0) (s.types.getD (j + 1) 0)
    false tb l1 l2 (hi.lio (j + 1) (by omega) hj) (fun w => by
      simp only [Bool.false_eq_true, if_false]; rw [← htc]; exact ts w)
  have hdec := tcode_decode c.last c.secondLast (s.types.getD (j + 1) 0) s.numTypes
    (by rw [hl1]; exact h.tlt j hi.jlt) (h.tlt _ hj) h.nt
  refine ⟨tb ++ lbits, ?_, ?_, ?_⟩
  · intro w; rw [es, List.append_assoc]; rfl
  · intro rest
    unfold Cat.next
    rw [if_neg (by rw [hi.nbl]; omega), if_neg (by rw [h0]; simp), List.append_assoc, tr]
    simp only
    rw [htc, hi.second h2, hi.btype, hi.nbl, ← hl1, ← hl2, hdec, if_neg (by have := h.tlt _ hj; omega), er]
    simp only
    rw [if_neg (by omega)]
    rw [show cat.switched (s.types.getD (j + 1) 0) (s.lengths.getD (j + 1) 0) = ⟨cat.nbl, cat.typeCode, cat.countCode,
      s.types.getD (j + 1) 0, s.lengths.getD (j + 1) 0 - 1, cat.btype⟩ from rfl, hi.nbl, hi.btype, hl1]
  · exact ⟨hj, hi.nbl, rfl, fun _ => by
        show cat.btype = secondAt s.types (j + 1 + 1)
        unfold secondAt; rw [if_neg (by omega), hi.btype]; rfl,
      fun _ => ⟨rfl, by
        show c.last = secondAt s.types (j + 1 + 1)
        unfold secondAt; rw [if_neg (by omega), hl1]; rfl⟩, hi.tio, hi.lio⟩

theorem CatInv.setCount {s : BSplit} {c : BSCode} {cat : Cat} {j : Nat} (hi : CatInv s c cat j) (n : Nat) :
    CatInv s c { cat with count := n } j :=
  ⟨hi.jlt, hi.nbl, hi.btype, hi.second, hi.last, hi.tio, hi.lio⟩

theorem zip_drop (s : BSplit) (h : SplitOK s) (k : Nat) (hk : k < s.types.length) :
    (s.types.zip s.lengths).drop k = (s.types.getD k 0, s.lengths.getD k 0) :: (s.types.zip s.lengths).drop (k + 1) := by
  have hl : k < (s.types.zip s.lengths).length := by rw [List.length_zip, h.nl]; omega
  rw [List.drop_eq_getElem_cons hl, List.getElem_zip]
  congr 2
  · rw [List.getD_eq_getElem?_getD, List.getElem?_eq_getElem hk]; rfl
  · rw [List.getD_eq_getElem?_getD, List.getElem?_eq_getElem (by rw [h.nl]; exact hk)]; rfl

theorem switches_roundtrip (s : BSplit) (h : SplitOK s) : ∀ (n j : Nat) (c : BSCode) (cat : Cat)
    (acc : List (Nat × Nat)) (w : Writer), CatInv s c cat j → j + 1 + n = s.types.length →
    ∃ bits c', ((s.types.zip s.lengths).drop (j + 1)).foldlM (fun (cw : BSCode × Writer) tl =>
        storeBlockSwitch cw.1 tl.2 tl.1 false cw.2) (c, w) = .ok (c', w ++ bits) ∧
      ∀ rest, readSwitches n cat (bits ++ rest) acc
        = some (acc.reverse ++ (s.types.zip s.lengths).drop (j + 1), rest) := by
  intro n
  induction n with
  | zero =>
    intro j c cat acc w hi hn
    have : (s.types.zip s.lengths).drop (j + 1) = [] := by
      apply List.drop_eq_nil_of_le; rw [List.length_zip, h.nl]; omega
    rw [this]
    exact ⟨[], c, by simp, fun rest => by simp [readSwitches]⟩
  | succ n ih =>
    intro j c cat acc w hi hn
    have hj : j + 1 < s.types.length := by omega
    obtain ⟨l1, l2⟩ := h.len (j + 1) hj
    obtain ⟨b1, e1, r1, i1⟩ := switch_step s h c { cat with count := 0 } j (hi.setCount 0) hj rfl
    obtain ⟨b2, c', e2, r2⟩ := ih (j + 1) _ _ ((s.types.getD (j + 1) 0, s.lengths.getD (j + 1) 0) :: acc) (w ++ b1) i1
      (by omega)
    refine ⟨b1 ++ b2, c', ?_, ?_⟩
    · rw [zip_drop s h (j + 1) hj, List.foldlM_cons]
      simp only
      rw [e1, Out.bind_ok, e2, List.append_assoc]
    · intro rest
      unfold readSwitches
      rw [List.append_assoc, r1]
      simp only
      have hc : (Cat.switched { cat with count := 0 } (s.types.getD (j + 1) 0) (s.lengths.getD (j + 1) 0)).count + 1
          = s.lengths.getD (j + 1) 0 := by
        show s.lengths.getD (j + 1) 0 - 1 + 1 = _; omega
      have hb : (Cat.switched { cat with count := 0 } (s.types.getD (j + 1) 0) (s.lengths.getD (j + 1) 0)).btype
          = s.types.getD (j + 1) 0 := rfl
      rw [hc, hb, r2, zip_drop s h (j + 1) hj]
      simp

def remTypes (s : BSplit) (j rem : Nat) : List Nat :=
  List.replicate rem (s.types.getD j 0) ++
    ((s.types.zip s.lengths).drop (j + 1)).flatMap (fun tl => List.replicate tl.2 tl.1)

/-- `mult` is the factor of `entropy_ix_`: `histogram_length_`, or `1 << context_bits` with a context map -/
structure EncInv (s : BSplit) (mult : Nat) (e : BEnc) (cat : Cat) (j : Nat) : Prop where
  split : e.split = s
  ix : e.blockIx = j
  ci : CatInv s e.code cat j
  cnt : 2 ≤ s.numTypes → cat.count = e.blockLen
  ent : e.entropyIx = s.types.getD j 0 * mult
  le : e.blockLen ≤ 2 ^ 24

def BEnc.atBlock (e : BEnc) (j len ent : Nat) (c : BSCode) : BEnc :=
  { e with blockIx := j, blockLen := len, entropyIx := ent, code := c }

theorem adv_step (s : BSplit) (h : SplitOK s) (mult : Nat) (e : BEnc) (cat : Cat) (j : Nat) (shift : Option Nat)
    (hE : EncInv s mult e cat j)
    (hmS : ∀ cb, shift = some cb → mult = 2 ^ cb) (hmN : shift = none → mult = e.histLen) (hm : 256 * mult < two64)
    (hne : remTypes s j e.blockLen ≠ []) :
    ∃ bits e' cat' j', (∀ w, e.adv shift w = .ok (e', w ++ bits)) ∧
      (∀ rest, cat.next (bits ++ rest) = some (cat', rest)) ∧ EncInv s mult e' cat' j' ∧
      remTypes s j e.blockLen = s.types.getD j' 0 :: remTypes s j' e'.blockLen ∧
      e'.depths = e.depths ∧ e'.bits = e.bits ∧ e'.histLen = e.histLen := by
  have p24 : (2 : Nat) ^ 24 = 16777216 := by decide
  have hle := hE.le
  by_cases h0 : e.blockLen = 0
  · have hj : j + 1 < s.types.length := by
      rcases Nat.lt_or_ge (j + 1) s.types.length with hlt | hge
      · exact hlt
      · exfalso
        have : (s.types.zip s.lengths).drop (j + 1) = [] :=
          List.drop_eq_nil_of_le (by rw [List.length_zip, h.nl, Nat.min_self]; exact hge)
        unfold remTypes at hne; rw [this, h0] at hne; simp at hne
    have h2 := hE.ci.two h hj
    obtain ⟨l1, l2⟩ := h.len (j + 1) hj
    have htl := h.tlt (j + 1) hj
    have hnt := h.nt
    obtain ⟨b1, e1, r1, i1⟩ := switch_step s h e.code cat j hE.ci hj (by rw [hE.cnt h2]; exact h0)
    have hix : (e.blockIx + 1) % two64 = j + 1 := by
      rw [hE.ix]; exact Nat.mod_eq_of_lt (by have := h.cap; unfold two64; omega)
    have hent : ∀ sh : Option Nat, sh = shift → (match sh with
        | some cb => (s.types.getD (j + 1) 0 * 2 ^ cb) % two64
        | none => (s.types.getD (j + 1) 0 * e.histLen) % two64) = s.types.getD (j + 1) 0 * mult := by
      intro sh hsh
      have hlt : s.types.getD (j + 1) 0 * mult < two64 :=
        Nat.lt_of_le_of_lt (Nat.mul_le_mul_right _ (by omega)) hm
      cases sh with
      | some cb => simp only; rw [← hmS cb hsh.symm]; exact Nat.mod_eq_of_lt hlt
      | none => simp only; rw [← hmN hsh.symm]; exact Nat.mod_eq_of_lt hlt
    have hdec : (s.lengths.getD (j + 1) 0 + two64 - 1) % two64 = s.lengths.getD (j + 1) 0 - 1 :=
      wsub_of_le (by omega) (by unfold two64; omega)
    refine ⟨b1, e.atBlock (j + 1) (s.lengths.getD (j + 1) 0 - 1) (s.types.getD (j + 1) 0 * mult)
        (e.code.switched (s.types.getD (j + 1) 0)),
      cat.switched (s.types.getD (j + 1) 0) (s.lengths.getD (j + 1) 0), j + 1, ?_, r1, ?_, ?_, rfl, rfl, rfl⟩
    · intro w
      unfold BEnc.adv BEnc.switchIfNeeded
      rw [if_pos h0, hix, hE.split]
      simp only []
      rw [getAt_getD s.lengths _ 0 (by rw [h.nl]; exact hj), Out.bind_ok,
        getAt_getD s.types _ 0 hj, Out.bind_ok, e1, Out.bind_ok]
      simp only [Out.bind_ok]
      rw [hdec]
      cases shift with
      | some cb => have := hent (some cb) rfl; simp only at this ⊢; rw [this]; unfold BEnc.atBlock; rw [hE.split]
      | none => have := hent none rfl; simp only at this ⊢; rw [this]; unfold BEnc.atBlock; rw [hE.split]
    · exact ⟨hE.split, rfl, i1, fun _ => rfl, rfl, by show s.lengths.getD (j + 1) 0 - 1 ≤ 2 ^ 24; omega⟩
    · unfold remTypes
      rw [h0, List.replicate_zero, List.nil_append, zip_drop s h (j + 1) hj, List.flatMap_cons]
      show _ = _ :: (List.replicate (s.lengths.getD (j + 1) 0 - 1) _ ++ _)
      obtain ⟨l', hl'⟩ : ∃ l', s.lengths.getD (j + 1) 0 = l' + 1 := ⟨s.lengths.getD (j + 1) 0 - 1, by omega⟩
      rw [hl', List.replicate_succ, Nat.add_sub_cancel]
      rfl
  · have hdec : (e.blockLen + two64 - 1) % two64 = e.blockLen - 1 :=
      wsub_of_le (by omega) (by unfold two64; omega)
    refine ⟨[], { e with blockLen := e.blockLen - 1 },
      (if cat.nbl < 2 then cat else { cat with count := cat.count - 1 }), j, ?_, ?_, ?_, ?_, rfl, rfl, rfl⟩
    · intro w
      unfold BEnc.adv BEnc.switchIfNeeded
      rw [if_neg h0, Out.bind_ok]
      simp only
      rw [hdec, List.append_nil]
    · intro rest
      unfold Cat.next
      by_cases hn : cat.nbl < 2
      · rw [if_pos hn, if_pos hn]; rfl
      · rw [if_neg hn, if_neg hn, if_pos (by rw [hE.cnt (by rw [← hE.ci.nbl]; omega)]; exact h0)]; rfl
    · by_cases hn : cat.nbl < 2
      · rw [if_pos hn]
        exact ⟨hE.split, hE.ix, hE.ci, fun h2 => by rw [← hE.ci.nbl] at h2; omega, hE.ent,
          by show e.blockLen - 1 ≤ 2 ^ 24; omega⟩
      · rw [if_neg hn]
        exact ⟨hE.split, hE.ix, hE.ci.setCount _, fun h2 => by
            show cat.count - 1 = e.blockLen - 1
            rw [hE.cnt h2], hE.ent, by show e.blockLen - 1 ≤ 2 ^ 24; omega⟩
    · unfold remTypes
      show _ = _ :: (List.replicate (e.blockLen - 1) _ ++ _)
      obtain ⟨l', hl'⟩ : ∃ l', e.blockLen = l' + 1 := ⟨e.blockLen - 1, by omega⟩
      rw [hl', List.replicate_succ, Nat.add_sub_cancel]
      rfl

end BV.MetaBlock
