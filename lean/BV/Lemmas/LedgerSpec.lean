/-
What a clean, balanced judgement means in terms of plain event counts — the reading of property C09
that does not mention the judge's state: every block that was handed out was handed out once, freed
once, and that one free went through the allocator that produced it.
-/
import BV.Lemmas.LedgerJudge
namespace BV.Ledger

def isFreeOf (b : BlockId) : Ev → Bool
  | .free _ x => x == b
  | _ => false

def nAlloc (log : List Ev) (b : BlockId) : Nat := log.count (Ev.alloc b)
def nFree (log : List Ev) (b : BlockId) : Nat := log.countP (isFreeOf b)
def nFreeOwn (log : List Ev) (b : BlockId) : Nat := log.count (Ev.free b.alloc b)

structure Counts (j : Judge) (pre : List Ev) : Prop where
  alloc : ∀ b, nAlloc pre b = if b ∈ j.seen then 1 else 0
  free : ∀ b, nAlloc pre b = nFree pre b + j.live.count b
  own : ∀ b, nFreeOwn pre b = nFree pre b

theorem counts_step (j : Judge) (pre : List Ev) (ev : Ev) (h : Counts j pre) (hbad : (j.step ev).bad = j.bad) :
    Counts (j.step ev) (pre ++ [ev]) := by
  -- the three fields with `nAlloc`, `nFree`, `nFreeOwn` unfolded, the form in which `simp only` meets them below
  have h1 : ∀ b, pre.count (Ev.alloc b) = if b ∈ j.seen then 1 else 0 := h.alloc
  have h2 : ∀ b, pre.count (Ev.alloc b) = pre.countP (isFreeOf b) + j.live.count b := h.free
  have h3 : ∀ b, pre.count (Ev.free b.alloc b) = pre.countP (isFreeOf b) := h.own
  cases ev with
  | alloc x =>
    have hx : x ∉ j.seen := fun hx => by
      simp only [Judge.step, hx, if_true, Judge.bad] at hbad
      omega
    simp only [Judge.step, hx, if_false]
    refine ⟨fun b => ?_, fun b => ?_, fun b => ?_⟩
    · simp only [nAlloc, List.count_append, h1 b]
      by_cases hbx : b = x
      · subst hbx; simp [hx]
      · simp [hbx, Ne.symm hbx]
    · simp only [nAlloc, nFree, List.count_append, List.countP_append, h2 b]
      by_cases hbx : b = x
      · subst hbx; simp [isFreeOf]; omega
      · simp [isFreeOf, Ne.symm hbx]
    · simp only [nFreeOwn, nFree, List.count_append, List.countP_append, h3 b]
      simp [isFreeOf]
  | free via x =>
    have hxl : x ∈ j.live := by
      by_cases hxl : x ∈ j.live
      · exact hxl
      · simp only [Judge.step, hxl, if_false] at hbad
        split at hbad <;> simp only [Judge.bad] at hbad <;> omega
    obtain rfl : via = x.alloc := by
      by_cases hv : via = x.alloc
      · exact hv
      · simp only [Judge.step, hxl, hv, if_true, if_false, Judge.bad] at hbad
        omega
    simp only [Judge.step, hxl, if_true]
    have hpos := List.count_pos_iff.mpr hxl
    refine ⟨fun b => ?_, fun b => ?_, fun b => ?_⟩
    · simp only [nAlloc, List.count_append, h1 b]
      simp
    · simp only [nAlloc, nFree, List.count_append, List.countP_append, h2 b]
      by_cases hbx : b = x
      · subst hbx; simp [isFreeOf, List.count_erase_self]; omega
      · simp [isFreeOf, Ne.symm hbx, List.count_erase_of_ne hbx]
    · simp only [nFreeOwn, nFree, List.count_append, List.countP_append, h3 b]
      by_cases hbx : b = x
      · subst hbx; simp [isFreeOf]
      · have : ¬ (Ev.free x.alloc x = Ev.free b.alloc b) := fun e => by injection e with _ e2; exact hbx e2.symm
        simp [isFreeOf, Ne.symm hbx, this]
  | drop x =>
    refine ⟨fun b => ?_, fun b => ?_, fun b => ?_⟩
    -- a `drop` counts for nothing and leaves the judge's `seen` and `live` as they are: after `simp` the two sides
    -- are the same up to unfolding `Judge.step`, which `rfl` does
    · simp only [nAlloc, List.count_append, h1 b]
      simp
      rfl
    · simp only [nAlloc, nFree, List.count_append, List.countP_append, h2 b]
      simp [isFreeOf]
      rfl
    · simp only [nFreeOwn, nFree, List.count_append, List.countP_append, h3 b]
      simp [isFreeOf]

theorem counts_judge (log : List Ev) (h : (judge log).bad = 0) : Counts (judge log) log := by
  suffices ∀ (evs : List Ev) (j : Judge) (pre : List Ev), Counts j pre → (evs.foldl Judge.step j).bad = j.bad →
      Counts (evs.foldl Judge.step j) (pre ++ evs) by
    simpa [judge] using this log {} [] ⟨by simp [nAlloc], by simp [nAlloc, nFree], by simp [nFreeOwn, nFree]⟩ h
  intro evs
  induction evs with
  | nil => intro j pre h _; simpa using h
  | cons e es ih =>
    intro j pre h hbad
    have h1 := step_bad_mono j e
    have h2 := foldl_bad_mono es (j.step e)
    simpa using ih (j.step e) (pre ++ [e]) (counts_step j pre e h (by simp only [List.foldl_cons] at hbad; omega))
      (by simp only [List.foldl_cons] at hbad; omega)

theorem freed_not_live {log : List Ev} {via : Nat} {b : BlockId} (hm : Ev.free via b ∈ log)
    (hc : (judge log).bad = 0) : b ∉ (judge log).live := fun hl => by
  have h := counts_judge log hc
  have h1 := h.alloc b
  have h2 := h.free b
  have : 0 < nFree log b := List.countP_pos_iff.mpr ⟨_, hm, by simp [isFreeOf]⟩
  have := List.count_pos_iff.mpr hl
  split at h1 <;> omega

end BV.Ledger
