/-
C10, the decoder's copy path.  One copy: `decCopy` by path (`decCopy_cases`: byte-wise loop, or block copies `blockCopy`),
its frame, the invariant "every dictionary byte still within max_distance is intact" (`DictLive`) with the exact condition
`CopySafe` under which a copy preserves it, and the exact condition `SrcSafe` under which it reads the right bytes
(`decCopy_correct`: the byte-wise wrap copy after the speculative block equals the reference copy, and the block paths
equal it when the ranges do not overlap).  The whole first meta-block: under the two conditions the real copy path equals
the byte-by-byte reference decoder (`decRun_eq_refRun`).  The reference decoder `refRun` and the safety predicates C10 is
stated against (`DictLive`, `CopySafe`, `SrcSafe`, `CmdsSafe`) are defined here, next to the lemmas about them.
-/
import BV.Model.Dict

namespace BV.Dict

/-- end of the ring range a copy of `i ≥ 1` bytes at `pos` may write: the speculative 16-byte blocks overshoot
`pos + i` by at most 15 bytes -/
def writeEnd (pos i : Nat) : Nat := if i ≤ 16 then pos + 16 else if i ≤ 32 then pos + 32 else pos + i

theorem writeEnd_le (pos i : Nat) (hi : 1 ≤ i) : writeEnd pos i ≤ pos + i + 15 ∧ pos + 16 ≤ writeEnd pos i ∧ pos + i ≤ writeEnd pos i := by
  unfold writeEnd; split
  · omega
  · split <;> omega

/-- a block copy that reads the ring as it was before; `memmove16` is `blockCopy _ _ _ 16` by definition, and
`memcpy_within_slice` is one whenever it succeeds -/
def blockCopy (ring : Nat → Nat) (dst src n : Nat) : Nat → Nat :=
  fun j => if dst ≤ j ∧ j < dst + n then ring (src + (j - dst)) else ring j

theorem blockCopy_frame (ring : Nat → Nat) (dst src n j : Nat) (h : j < dst ∨ dst + n ≤ j) :
    blockCopy ring dst src n j = ring j :=
  if_neg (by omega)

theorem blockCopy_at (ring : Nat → Nat) (dst src n u : Nat) (h : u < n) :
    blockCopy ring dst src n (dst + u) = ring (src + u) := by
  unfold blockCopy; rw [if_pos (by omega), Nat.add_sub_cancel_left]

theorem memcpyWithin_some {ring r : Nat → Nat} {dst src n : Nat} (h : memcpyWithin ring dst src n = some r) :
    r = blockCopy ring dst src n := by
  unfold memcpyWithin at h
  split at h <;> split at h
  · exact (Option.some.inj h).symm
  · cases h
  · exact (Option.some.inj h).symm
  · cases h

theorem memmove16_frame (ring : Nat → Nat) (dst src j : Nat) (h : j < dst ∨ dst + 16 ≤ j) :
    memmove16 ring dst src j = ring j :=
  blockCopy_frame ring dst src 16 j h

theorem wrapCopyLoop_frame (R dist : Nat) : ∀ (i : Nat) (ring : Nat → Nat) (pos j : Nat), (j < pos ∨ pos + i ≤ j) →
    wrapCopyLoop R dist i ring pos j = ring j := by
  intro i
  induction i with
  | zero => intro ring pos j _; rfl
  | succ i ih =>
    intro ring pos j h
    rw [wrapCopyLoop, ih _ _ _ (by omega)]
    show (if j = pos then _ else ring j) = ring j
    rw [if_neg (by omega)]

theorem decCopy_cases {R : Nat} {ring ring' ring1 : Nat → Nat} {pos dist i src : Nat}
    (hsrc : srcIndex R pos dist = src) (h1 : memmove16 ring pos src = ring1)
    (h : decCopy R ring pos dist i = some ring') :
    ring' = wrapCopyLoop R dist i ring1 pos ∨
    ((src + i ≤ pos ∨ pos + i ≤ src) ∧ pos + i < R ∧ src + i < R ∧
      ((i ≤ 16 ∧ ring' = ring1) ∨
       (16 < i ∧ ∃ m, writeEnd pos i = pos + 16 + m ∧ ring' = blockCopy ring1 (pos + 16) (src + 16) m))) := by
  unfold decCopy at h
  simp only [hsrc, h1] at h
  split at h
  · cases h
  split at h
  · exact .inl (Option.some.inj h).symm
  split at h
  · exact .inl (Option.some.inj h).symm
  refine .inr ⟨by omega, by omega, by omega, ?_⟩
  unfold writeEnd
  split at h
  · refine .inr ⟨by omega, ?_⟩
    rw [if_neg (by omega)]
    split at h
    · exact ⟨i - 16, by rw [if_neg (by omega)]; omega, memcpyWithin_some h⟩
    · exact ⟨16, by rw [if_pos (by omega)], (Option.some.inj h).symm⟩
  · exact .inl ⟨by omega, (Option.some.inj h).symm⟩

theorem decCopy_frame (R : Nat) (ring ring' : Nat → Nat) (pos dist i : Nat) (hi : 1 ≤ i)
    (h : decCopy R ring pos dist i = some ring') (j : Nat) (hj : j < pos ∨ writeEnd pos i ≤ j) :
    ring' j = ring j := by
  obtain ⟨w1, w2, w3⟩ := writeEnd_le pos i hi
  rcases decCopy_cases rfl rfl h with rfl | ⟨_, _, _, ⟨_, rfl⟩ | ⟨_, m, hm, rfl⟩⟩
  · rw [wrapCopyLoop_frame _ _ _ _ _ _ (by omega), memmove16_frame _ _ _ _ (by omega)]
  · exact memmove16_frame _ _ _ _ (by omega)
  · rw [blockCopy_frame _ _ _ _ _ (by omega), memmove16_frame _ _ _ _ (by omega)]

theorem decWrite_frame (ring : Nat → Nat) (pos : Nat) (b : List Nat) (j : Nat) (h : j < pos ∨ pos + b.length ≤ j) :
    decWrite ring pos b j = ring j := by
  unfold decWrite; rw [if_neg (by omega)]

/-- the byte `k` positions before position 0 can still be asked for at `pos` iff `pos + k ≤ max_distance(pos) = min (pos + d') mbd`,
i.e. `k ≤ d'` and `pos + k ≤ mbd` -/
def DictLive (D : Dec) (R : Nat) (ring : Nat → Nat) (pos : Nat) : Prop :=
  ∀ k, 1 ≤ k → k ≤ D.dEff → pos + k ≤ D.mbd → ring (R - k) = D.dict (D.d - k)

theorem dictLive_alloc (D : Dec) (R : Nat) (hR : D.dEff ≤ R) : DictLive D R (D.ringAt R) 0 := by
  intro k hk1 hk _
  unfold Dec.ringAt
  have hd : D.dEff ≤ D.d := by unfold Dec.dEff; omega
  rw [if_pos (by omega)]
  congr 1
  omega

/-- the exact condition under which a copy of `i` bytes at `pos` cannot hurt the dictionary tail: the ring was not
shrunk, or every byte the copy may write (speculative overshoot included) lies below the dictionary -/
def CopySafe (D : Dec) (R pos i : Nat) : Prop := R = 2 ^ D.wbits ∨ writeEnd pos i ≤ R - D.dEff

theorem decCopy_dict_frame (D : Dec) (R : Nat) (ring ring' : Nat → Nat) (pos dist i : Nat) (hi : 1 ≤ i)
    (hsafe : CopySafe D R pos i) (h : decCopy R ring pos dist i = some ring')
    (k : Nat) (hk1 : 1 ≤ k) (hk : k ≤ D.dEff) (hreach : pos + i + k ≤ D.mbd) : ring' (R - k) = ring (R - k) := by
  obtain ⟨w1, w2, w3⟩ := writeEnd_le pos i hi
  apply decCopy_frame R ring ring' pos dist i hi h
  rcases hsafe with hfull | hbelow
  · -- full ring: a clobbered index is further than mbd from every later position
    right
    unfold Dec.mbd at hreach
    rw [← hfull] at hreach
    omega
  · right; omega

theorem dictLive_copy (D : Dec) (R : Nat) (ring ring' : Nat → Nat) (pos dist i : Nat)
    (hi : 1 ≤ i) (hlive : DictLive D R ring pos) (hsafe : CopySafe D R pos i)
    (h : decCopy R ring pos dist i = some ring') : DictLive D R ring' (pos + i) := by
  intro k hk1 hk hreach
  rw [decCopy_dict_frame D R ring ring' pos dist i hi hsafe h k hk1 hk hreach]
  exact hlive k hk1 hk (by omega)

theorem dictLive_write (D : Dec) (R : Nat) (ring : Nat → Nat) (pos : Nat) (b : List Nat)
    (hlive : DictLive D R ring pos) (hfit : pos + b.length + D.dEff ≤ R ∨ R = 2 ^ D.wbits) :
    DictLive D R (decWrite ring pos b) (pos + b.length) := by
  intro k hk1 hk hreach
  rw [decWrite_frame _ _ _ _ (by
    rcases hfit with h1 | h2
    · right; omega
    · right; unfold Dec.mbd at hreach; rw [← h2] at hreach; omega)]
  exact hlive k hk1 hk (by omega)

theorem wrapCopyLoop_at (R dist : Nat) : ∀ (n : Nat) (r : Nat → Nat) (p j : Nat), j < p → wrapCopyLoop R dist n r p j = r j :=
  fun n r p j h => wrapCopyLoop_frame R dist n r p j (Or.inl h)

/-- `[p, z)`: the not yet rewritten part of the zone the speculative block wrote -/
theorem wrapCopyLoop_agree (R dist z : Nat) : ∀ (n : Nat) (r1 r2 : Nat → Nat) (p : Nat),
    (∀ j, (j < p ∨ z ≤ j) → r1 j = r2 j) →
    (∀ p', p ≤ p' → p' < p + n → srcIndex R p' dist < p' ∨ z ≤ srcIndex R p' dist) →
    ∀ j, (j < p + n ∨ z ≤ j) → wrapCopyLoop R dist n r1 p j = wrapCopyLoop R dist n r2 p j := by
  intro n
  induction n with
  | zero => intro r1 r2 p hag _ j hj; exact hag j (by omega)
  | succ n ih =>
    intro r1 r2 p hag hsrc j hj
    rw [wrapCopyLoop, wrapCopyLoop]
    apply ih _ _ (p + 1)
    · intro j' hj'
      show (if j' = p then r1 (srcIndex R p dist) else r1 j') = (if j' = p then r2 (srcIndex R p dist) else r2 j')
      by_cases he : j' = p
      · rw [if_pos he, if_pos he]
        exact hag _ (by have := hsrc p (Nat.le_refl _) (by omega); omega)
      · rw [if_neg he, if_neg he]
        exact hag _ (by omega)
    · intro p' h1 h2
      exact hsrc p' (by omega) (by omega)
    · omega

theorem srcIndex_of_le (R p dist : Nat) (h : dist ≤ p) (hp : p - dist < R) : srcIndex R p dist = p - dist := by
  unfold srcIndex
  rw [show p + R - dist = (p - dist) + R by omega, Nat.add_mod_right, Nat.mod_eq_of_lt hp]

theorem srcIndex_of_gt (R p dist : Nat) (h : p < dist) (hd : dist ≤ p + R) : srcIndex R p dist = R - (dist - p) := by
  unfold srcIndex
  rw [Nat.mod_eq_of_lt (by omega)]; omega

theorem srcIndex_add (R pos dist t : Nat) (hd : dist ≤ pos + R) (h : srcIndex R pos dist + t < R) :
    srcIndex R (pos + t) dist = srcIndex R pos dist + t := by
  unfold srcIndex at *
  have e : pos + t + R - dist = (pos + R - dist) + t := by omega
  rw [e, Nat.add_mod, Nat.mod_eq_of_lt (a := t) (by omega), Nat.mod_eq_of_lt h]

theorem wrapCopyLoop_block (R dist : Nat) (ring : Nat → Nat) (pos i : Nat) (hR : 0 < R) (hd : dist ≤ pos + R)
    (hno : srcIndex R pos dist + i ≤ pos ∨ pos + i ≤ srcIndex R pos dist) (hsrcEnd : srcIndex R pos dist + i ≤ R) :
    ∀ (n : Nat) (r : Nat → Nat) (t : Nat), t + n = i →
      (∀ j, (j < pos ∨ pos + t ≤ j) → r j = ring j) →
      (∀ u, u < t → r (pos + u) = ring (srcIndex R pos dist + u)) →
      ∀ u, u < i → wrapCopyLoop R dist n r (pos + t) (pos + u) = ring (srcIndex R pos dist + u) := by
  intro n
  induction n with
  | zero =>
    intro r t ht _ hdone u hu
    exact hdone u (by omega)
  | succ n ih =>
    intro r t ht hout hdone u hu
    rw [wrapCopyLoop]
    have hsi : srcIndex R (pos + t) dist = srcIndex R pos dist + t := srcIndex_add R pos dist t hd (by omega)
    have := ih (fun j => if j = pos + t then r (srcIndex R (pos + t) dist) else r j) (t + 1) (by omega)
      (by
        intro j hj
        show (if j = pos + t then _ else r j) = ring j
        rw [if_neg (by omega)]
        exact hout j (by omega))
      (by
        intro u' hu'
        show (if pos + u' = pos + t then _ else r (pos + u')) = _
        by_cases he : u' = t
        · subst he
          rw [if_pos rfl, hsi]
          exact hout _ (by omega)
        · rw [if_neg (by omega)]
          exact hdone u' (by omega))
      u hu
    rw [← Nat.add_assoc] at this
    exact this

/-- the exact condition under which the copy's OWN source bytes are not hit by its speculative first block:
the distance respects a full-ring window (`dist ≤ R − 16`), or the block ends below the dictionary -/
def SrcSafe (D : Dec) (R pos dist : Nat) : Prop := dist ≤ R - 16 ∨ (pos + 16 ≤ R - D.dEff ∧ dist ≤ pos + D.dEff)

theorem srcSafe_zone (D : Dec) (R pos dist : Nat) (hR : 16 ≤ R) (hd1 : 1 ≤ dist) (hdR : dist ≤ pos + R) (hde : D.dEff ≤ R)
    (hs : SrcSafe D R pos dist) :
    ∀ p', pos ≤ p' → p' < R → srcIndex R p' dist < p' ∨ pos + 16 ≤ srcIndex R p' dist := by
  intro p' hp hpR
  by_cases hle : dist ≤ p'
  · left; rw [srcIndex_of_le R p' dist hle (by omega)]; omega
  · right
    rw [srcIndex_of_gt R p' dist (by omega) (by omega)]
    rcases hs with h1 | ⟨h2, h3⟩ <;> omega

theorem decCopy_correct (D : Dec) (R : Nat) (ring ring' : Nat → Nat) (pos dist i : Nat)
    (hR : 16 ≤ R) (hi : 1 ≤ i) (hd1 : 1 ≤ dist) (hdR : dist ≤ pos + R) (hde : D.dEff ≤ R) (hfit : pos + i ≤ R)
    (hs : SrcSafe D R pos dist)
    (h : decCopy R ring pos dist i = some ring') :
    ∀ j, j < pos + i → ring' j = wrapCopyLoop R dist i ring pos j := by
  intro j hj
  have hzone := srcSafe_zone D R pos dist hR hd1 hdR hde hs
  by_cases hjp : j < pos
  · rw [wrapCopyLoop_frame _ _ _ _ _ _ (Or.inl hjp)]
    exact decCopy_frame R ring ring' pos dist i hi h j (Or.inl hjp)
  rcases decCopy_cases rfl rfl h with rfl | ⟨hno, _, hse, hblk⟩
  · -- byte-wise path: the speculative block only wrote where the loop writes again before reading
    apply wrapCopyLoop_agree R dist (pos + 16) i _ _ pos
    · intro j' hj'; exact memmove16_frame _ _ _ _ (by omega)
    · intro p' h1 h2; exact hzone p' h1 (by omega)
    · omega
  · -- block paths: no overlap, no wrap of the source, so the reference copy is a block copy too
    obtain ⟨u, rfl⟩ : ∃ u, j = pos + u := ⟨j - pos, by omega⟩
    have hu : u < i := by omega
    have href := wrapCopyLoop_block R dist ring pos i (by omega) hdR hno (by omega) i ring 0 (by omega)
      (fun _ _ => rfl) (fun u' hu' => by omega) u hu
    rw [Nat.add_zero] at href
    rw [href]
    rcases hblk with ⟨h16, rfl⟩ | ⟨h16, m, hm, rfl⟩
    · exact blockCopy_at _ _ _ _ _ (by omega)
    · have hw := writeEnd_le pos i hi
      by_cases hu16 : u < 16
      · rw [blockCopy_frame _ _ _ _ _ (by omega)]; exact blockCopy_at _ _ _ _ _ hu16
      · obtain ⟨v, rfl⟩ : ∃ v, u = 16 + v := ⟨u - 16, by omega⟩
        rw [← Nat.add_assoc, blockCopy_at _ _ _ _ _ (by omega), memmove16_frame _ _ _ _ (by omega), Nat.add_assoc]

/-- reference decoder for the same commands: every copy byte by byte (RFC 7932), never speculative.  The byte loop is
`wrapCopyLoop` (BV/Model/Dict.lean), the model of the decoder's own post-wrap copy loop: specification and implementation share
it, which is why `decCopy_correct` is stated against `wrapCopyLoop` directly. -/
def refRun (R : Nat) : List DecCmd → (Nat → Nat) → Nat → (Nat → Nat) × Nat
  | [], ring, pos => (ring, pos)
  | .bytes b :: rest, ring, pos => refRun R rest (decWrite ring pos b) (pos + b.length)
  | .copy dist len :: rest, ring, pos => refRun R rest (wrapCopyLoop R dist len ring pos) (pos + len)

def Agree (D : Dec) (R pos : Nat) (r1 r2 : Nat → Nat) : Prop :=
  (∀ j, j < pos → r1 j = r2 j) ∧ (∀ k, 1 ≤ k → k ≤ D.dEff → pos + k ≤ D.mbd → r1 (R - k) = r2 (R - k))

theorem wrapCopyLoop_congr (D : Dec) (R dist : Nat) (hde : D.dEff ≤ R) (hd1 : 1 ≤ dist) (hmbd : dist ≤ D.mbd) :
    ∀ (n : Nat) (r1 r2 : Nat → Nat) (p : Nat), dist ≤ p + D.dEff → p + n + D.dEff ≤ R →
      Agree D R p r1 r2 → Agree D R (p + n) (wrapCopyLoop R dist n r1 p) (wrapCopyLoop R dist n r2 p) := by
  intro n
  induction n with
  | zero => intro r1 r2 p _ _ h; exact h
  | succ n ih =>
    intro r1 r2 p hdp hfit hag
    rw [wrapCopyLoop, wrapCopyLoop]
    have hstep : Agree D R (p + 1) (fun j => if j = p then r1 (srcIndex R p dist) else r1 j)
        (fun j => if j = p then r2 (srcIndex R p dist) else r2 j) := by
      constructor
      · intro j hj
        show (if j = p then _ else r1 j) = (if j = p then _ else r2 j)
        by_cases he : j = p
        · rw [if_pos he, if_pos he]
          by_cases hle : dist ≤ p
          · rw [srcIndex_of_le R p dist hle (by omega)]
            exact hag.1 _ (by omega)
          · rw [srcIndex_of_gt R p dist (by omega) (by omega)]
            exact hag.2 _ (by omega) (by omega) (by omega)
        · rw [if_neg he, if_neg he]; exact hag.1 j (by omega)
      · intro k hk1 hk hr
        show (if R - k = p then _ else r1 (R - k)) = (if R - k = p then _ else r2 (R - k))
        rw [if_neg (by omega), if_neg (by omega)]
        exact hag.2 k hk1 hk (by omega)
    have := ih _ _ (p + 1) (by omega) (by omega) hstep
    rw [Nat.add_assoc, Nat.add_comm 1 n] at this
    exact this

def CmdsSafe (D : Dec) (R : Nat) : List DecCmd → Nat → Prop
  | [], _ => True
  | .bytes b :: rest, pos => pos + b.length + D.dEff ≤ R ∧ CmdsSafe D R rest (pos + b.length)
  | .copy dist len :: rest, pos =>
    1 ≤ len ∧ 1 ≤ dist ∧ dist ≤ pos + D.dEff ∧ dist ≤ D.mbd ∧ pos + len + D.dEff ≤ R ∧
    CopySafe D R pos len ∧ SrcSafe D R pos dist ∧ CmdsSafe D R rest (pos + len)

theorem decRun_eq_refRun (D : Dec) (R : Nat) (hR : 16 ≤ R) (hde : D.dEff ≤ R) :
    ∀ (cmds : List DecCmd) (r1 r2 : Nat → Nat) (pos : Nat) (r1' : Nat → Nat) (pos' : Nat),
      CmdsSafe D R cmds pos → Agree D R pos r1 r2 →
      decRun R cmds r1 pos = some (r1', pos') →
      pos' = (refRun R cmds r2 pos).2 ∧ Agree D R pos' r1' (refRun R cmds r2 pos).1 := by
  intro cmds
  induction cmds with
  | nil =>
    intro r1 r2 pos r1' pos' _ hag h
    simp only [decRun, Option.some.injEq, Prod.mk.injEq] at h
    obtain ⟨rfl, rfl⟩ := h
    exact ⟨rfl, hag⟩
  | cons c rest ih =>
    intro r1 r2 pos r1' pos' hsafe hag h
    cases c with
    | bytes b =>
      obtain ⟨hfit, hrest⟩ := hsafe
      rw [decRun] at h
      rw [refRun]
      apply ih _ _ _ _ _ hrest _ h
      constructor
      · intro j hj
        unfold decWrite
        by_cases hin : pos ≤ j ∧ j < pos + b.length
        · rw [if_pos hin, if_pos hin]
        · rw [if_neg hin, if_neg hin]; exact hag.1 j (by omega)
      · intro k hk1 hk hr
        rw [decWrite_frame _ _ _ _ (by omega), decWrite_frame _ _ _ _ (by omega)]
        exact hag.2 k hk1 hk (by omega)
    | copy dist len =>
      obtain ⟨hl1, hd1, hdp, hdm, hfit, hcs, hss, hrest⟩ := hsafe
      rw [decRun] at h
      rw [refRun]
      cases hc : decCopy R r1 pos dist len with
      | none => rw [hc] at h; cases h
      | some r1c =>
        rw [hc] at h
        simp only at h
        apply ih _ _ _ _ _ hrest _ h
        have hcorr := decCopy_correct D R r1 r1c pos dist len hR hl1 hd1 (by omega) hde (by omega) hss hc
        have hcong := wrapCopyLoop_congr D R dist hde hd1 hdm len r1 r2 pos hdp hfit hag
        constructor
        · intro j hj
          rw [hcorr j hj]
          exact hcong.1 j hj
        · intro k hk1 hk hr
          rw [decCopy_dict_frame D R r1 r1c pos dist len hl1 hcs hc k hk1 hk hr, ← wrapCopyLoop_frame R dist len r1 pos (R - k) (by omega)]
          exact hcong.2 k hk1 hk hr

theorem refRun_dict (D : Dec) (R : Nat) (hde : D.dEff ≤ R) :
    ∀ (cmds : List DecCmd) (r : Nat → Nat) (pos : Nat), CmdsSafe D R cmds pos → DictLive D R r pos →
      DictLive D R (refRun R cmds r pos).1 (refRun R cmds r pos).2 := by
  intro cmds
  induction cmds with
  | nil => intro r pos _ h; exact h
  | cons c rest ih =>
    intro r pos hsafe hlive
    cases c with
    | bytes b =>
      obtain ⟨hfit, hrest⟩ := hsafe
      rw [refRun]
      apply ih _ _ hrest
      intro k hk1 hk hr
      rw [decWrite_frame _ _ _ _ (by omega)]
      exact hlive k hk1 hk (by omega)
    | copy dist len =>
      obtain ⟨_, _, _, _, hfit, _, _, hrest⟩ := hsafe
      rw [refRun]
      apply ih _ _ hrest
      intro k hk1 hk hr
      rw [wrapCopyLoop_frame R dist len r pos (R - k) (by omega)]
      exact hlive k hk1 hk (by omega)

end BV.Dict
