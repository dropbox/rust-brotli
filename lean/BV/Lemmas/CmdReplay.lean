import BV.Lemmas.MatchCmd
import BV.Model.Cbr
import BV.Model.MetaBlock
import BV.Lemmas.RecoderDist
/-! A command built by `Command::init` against the RFC decoder step, for ANY encoder: the packed fields, `cmdOK`, and
`RefOK.replays`: a backward reference that is a copy from the text or a static dictionary word (`RefOK`) becomes a command
that `decStep` executes to exactly the next bytes of the text.  `CreateBackwardReferences` (`SoundAt.ref`, BV/Lemmas/CbrDict.lean)
and `BrotliZopfliCreateCommands` (`NodeOK.ref`, BV/Lemmas/ZopfliCmd.lean) supply the reference. -/
open BV.Hasher BV.MatchFinder BV.Recoder BV.PrefixArith BV.MetaBlock BV.Cbr

namespace BV.MatchFinder

theorem or_shiftLeft_eq {lo k : Nat} (h : lo < 2 ^ k) (hi : Nat) : lo ||| (hi <<< k) = hi * 2 ^ k + lo := by
  rw [Nat.or_comm, ← Nat.shiftLeft_add_eq_or_of_lt h, Nat.shiftLeft_eq]

theorem pack_mod {lo k : Nat} (h : lo < 2 ^ k) (hi : Nat) : (hi * 2 ^ k + lo) % 2 ^ k = lo := by
  rw [Nat.mul_add_mod_self_right, Nat.mod_eq_of_lt h]

theorem pack_div {lo k : Nat} (h : lo < 2 ^ k) (hi : Nat) : (hi * 2 ^ k + lo) / 2 ^ k = hi := by
  rw [Nat.add_comm, Nat.add_mul_div_right _ _ (Nat.two_pow_pos k), Nat.div_eq_of_lt h, Nat.zero_add]

/-- `copy_len_` as `Command::init` packs it: the low 7 bits of the delta `code - len` (an `i8` seen as `u8`)
above the 25 bits of the copy length -/
theorem packCopyLen_val (len lc : Nat) (hlen : len < 2 ^ 25) :
    packCopyLen len lc = (lc + 256 - len % 256) % 256 % 128 * 2 ^ 25 + len := by
  have hsh : ∀ d, (d <<< 25) % 2 ^ 32 = (d % 128) <<< 25 := fun d => by
    rw [Nat.shiftLeft_eq, Nat.shiftLeft_eq, show (2 : Nat) ^ 32 = 128 * 2 ^ 25 by decide, Nat.mul_mod_mul_right]
  have := Nat.mod_lt ((lc + 256 - len % 256) % 256) (show 0 < 128 by decide)
  unfold packCopyLen
  simp only []
  rw [hsh, or_shiftLeft_eq hlen, Nat.mod_eq_of_lt (by omega)]

/-- `d ||| ((d &&& 0x40) <<< 1)` is how `copy_len_code()` sign-extends the 7-bit modifier to an `i8`: identity on `0..63`
(`neg_delta_bits`: `128 - e` becomes `256 - e`, i.e. `-e`) -/
theorem small_delta_bits : ∀ d : Fin 64, (d.val ||| ((d.val &&& 0x40) <<< 1)) % 256 = d.val := by decide

theorem packCopyLen_eq (len delta : Nat) (hlen : len < 2 ^ 25) (hdelta : delta < 64) :
    packCopyLen len (len + delta) = delta * 2 ^ 25 + len := by
  rw [packCopyLen_val _ _ hlen, show (len + delta + 256 - len % 256) % 256 % 128 = delta by omega]

theorem copyLenCode_small (len delta : Nat) (hlen : len < 2 ^ 25) (hdelta : delta < 64) :
    copyLenCode (delta * 2 ^ 25 + len) = len + delta := by
  have hm8 := small_delta_bits ⟨delta, hdelta⟩
  simp only at hm8
  unfold copyLenCode
  simp only []
  rw [Nat.shiftRight_eq_div_pow, pack_div hlen, show (0x01ffffff : Nat) = 2 ^ 25 - 1 by decide,
    Nat.and_two_pow_sub_one_eq_mod, pack_mod hlen, hm8, if_pos (by omega)]
  exact Nat.mod_eq_of_lt (by omega)

theorem neg_delta_bits : ∀ e : Fin 65, 1 ≤ e.val →
    ((128 - e.val) ||| (((128 - e.val) &&& 0x40) <<< 1)) % 256 = 256 - e.val := by decide

theorem packCopyLen_neg (lc e : Nat) (hlen : lc + e < 2 ^ 25) (he1 : 1 ≤ e) (he : e ≤ 64) :
    packCopyLen (lc + e) lc = (128 - e) * 2 ^ 25 + (lc + e) := by
  rw [packCopyLen_val _ _ hlen, show (lc + 256 - (lc + e) % 256) % 256 % 128 = 128 - e by omega]

theorem copyLenCode_pack_neg (lc e : Nat) (hlen : lc + e < 2 ^ 25) (he1 : 1 ≤ e) (he : e ≤ 64) :
    copyLenCode (packCopyLen (lc + e) lc) = lc := by
  have hm8 := neg_delta_bits ⟨e, by omega⟩ he1
  simp only at hm8
  unfold copyLenCode
  simp only [packCopyLen_neg lc e hlen he1 he]
  rw [Nat.shiftRight_eq_div_pow, pack_div hlen, show (0x01ffffff : Nat) = 2 ^ 25 - 1 by decide,
    Nat.and_two_pow_sub_one_eq_mod, pack_mod hlen, hm8, if_neg (by omega)]
  omega

theorem combine_ge_128 : ∀ (ic cc : Fin 24), combineLengthCodes ic.val cc.val false ≥ 128 := by
  decide +kernel

end BV.MatchFinder

namespace BV.Zopfli

/-- `copy_len_code()` and `copy_len()` of the field `Command::init` packs, for every delta an `i8`
restricted to 7 bits can carry: `-64 ≤ code - len ≤ 63` (`33554432 = 2^25`) -/
theorem pack_fields (len lc : Nat) (hlen : len < 2 ^ 25) (h1 : lc ≤ len + 63) (h2 : len ≤ lc + 64) :
    copyLenCode (packCopyLen len lc) = lc ∧ packCopyLen len lc % 33554432 = len := by
  by_cases hge : len ≤ lc
  · obtain ⟨delta, rfl⟩ : ∃ delta, lc = len + delta := ⟨lc - len, by omega⟩
    rw [packCopyLen_eq len delta hlen (by omega)]
    exact ⟨copyLenCode_small len delta hlen (by omega), by omega⟩
  · obtain ⟨e, rfl⟩ : ∃ e, len = lc + e := ⟨len - lc, by omega⟩
    exact ⟨copyLenCode_pack_neg lc e hlen (by omega) (by omega),
      by rw [packCopyLen_neg lc e hlen (by omega) (by omega)]; omega⟩

theorem commandInit_fields' (np nd ins len lc code : Nat) (hp : np ≤ 3) (hnd : nd ≤ 120) (hcode : code < 2 ^ 31)
    (hins : ins < 2 ^ 32) (hlen : len < 2 ^ 25) (h1 : lc ≤ len + 63) (h2 : len ≤ lc + 64) :
    (commandInit np nd ins len lc code).insertLen = ins ∧
    copyLenCode (commandInit np nd ins len lc code).copyLenField = lc ∧
    (commandInit np nd ins len lc code).distPrefix % 1024 = (prefixEncodeCopyDistance code nd np).sym ∧
    (commandInit np nd ins len lc code).distExtra = (prefixEncodeCopyDistance code nd np).extra ∧
    copyLen (commandInit np nd ins len lc code) = len := by
  have hU : U32 = 4294967296 := rfl
  have hnb := BV.Props.C18.dist_nbits_le np nd code hcode hp
  have hpw : 2 ^ (np + 1) ≤ 2 ^ 4 := Nat.pow_le_pow_right (by decide) (by omega)
  have hsymex : (prefixEncodeCopyDistance code nd np).sym < 1024 ∧
      (prefixEncodeCopyDistance code nd np).extra < 2 ^ 32 := by
    by_cases hdir : code < 16 + nd
    · rw [(BV.Props.C18.dist_direct_exact np nd code hdir).1]
      exact ⟨by show code < 1024; omega, by show 0 < 2 ^ 32; omega⟩
    · have h1 := BV.Props.C18.dist_symbol_lt_alphabet np nd code (by omega) 30 hnb
      obtain ⟨_, _, h3, _, _⟩ := BV.Props.C18.dist_encode_exact np nd code (by omega)
      have hpw2 : 2 ^ (prefixEncodeCopyDistance code nd np).nbits ≤ 2 ^ 30 :=
        Nat.pow_le_pow_right (by decide) hnb
      have : 30 * 2 ^ (np + 1) ≤ 30 * 16 := by omega
      exact ⟨by omega, by omega⟩
  obtain ⟨g1, g2⟩ := pack_fields len lc hlen h1 h2
  refine ⟨by simp only [commandInit]; exact Nat.mod_eq_of_lt (by omega), g1, ?_, ?_, g2⟩
  · simp only [commandInit, DistCode.packed]
    rw [BV.Lemmas.PrefixArith.or_eq_add_of_lt _ _ hsymex.1]
    omega
  · simp only [commandInit, DistCode.extra32]
    exact Nat.mod_eq_of_lt hsymex.2

/-- `np = nd = 0`: no postfix bits, no direct codes.  `2^24 + 2118` is the end of the last copy-length class
(base 2118, 24 extra bits); `2^26 + 12` = the largest distance of the standard alphabet (`2^26 - 4`) + 15, exclusive. -/
theorem cmdOK_commandInit' (large : Bool) (ins len lc code : Nat) (hins : ins ≤ 2 ^ 24)
    (hlen : len < 2 ^ 25) (h1 : lc ≤ len + 63) (h2 : len ≤ lc + 64) (hc2 : 2 ≤ lc) (hcu : lc < 2 ^ 24 + 2118)
    (hcode : code < 2 ^ 31) (hstd : large = false → code < 2 ^ 26 + 12) :
    cmdOK (distAlphabetSize large 0 0) 0 0 (commandInit 0 0 ins len lc code) = true := by
  obtain ⟨f1, f2, f3, f4, _⟩ := commandInit_fields' 0 0 ins len lc code (by omega) (by omega) hcode (by omega) hlen h1 h2
  have p24 : (2 : Nat) ^ 24 = 16777216 := by decide
  have hnb := BV.Props.C18.dist_nbits_le 0 0 code hcode (by omega)
  have hpk : (commandInit 0 0 ins len lc code).distPrefix
      = (prefixEncodeCopyDistance code 0 0).nbits * 1024 + (prefixEncodeCopyDistance code 0 0).sym ∧
      (prefixEncodeCopyDistance code 0 0).sym < 1024 := by
    have hs : (prefixEncodeCopyDistance code 0 0).sym < 1024 := by rw [← f3]; exact Nat.mod_lt _ (by decide)
    refine ⟨?_, hs⟩
    simp only [commandInit, DistCode.packed]
    rw [BV.Lemmas.PrefixArith.or_eq_add_of_lt _ _ hs]
    exact Nat.mod_eq_of_lt (by omega)
  obtain ⟨hpk1, hsym⟩ := hpk
  have hdiv : (commandInit 0 0 ins len lc code).distPrefix / 1024 = (prefixEncodeCopyDistance code 0 0).nbits := by
    rw [hpk1]; omega
  have hand : (prefixEncodeCopyDistance code 0 0).packed &&& 0x3ff = (prefixEncodeCopyDistance code 0 0).sym := by
    rw [show (0x3ff : Nat) = 2 ^ 10 - 1 by decide, Nat.and_two_pow_sub_one_eq_mod]
    have := f3; simp only [commandInit] at this; exact this
  obtain ⟨i1, _, _⟩ := BV.Props.C18.ins_code_exact ins (by omega)
  obtain ⟨c1, _, _⟩ := BV.Props.C18.copy_code_exact lc hc2 (by omega)
  unfold cmdOK
  simp only [f1, f2, f3, f4, hdiv, Bool.and_eq_true, decide_eq_true_eq, Bool.or_eq_true]
  refine ⟨⟨⟨⟨⟨⟨⟨?_, by omega⟩, hc2⟩, by omega⟩, ?_⟩, ?_⟩, ?_⟩, ?_⟩
  · simp only [commandInit, hand]
  · by_cases hz : (prefixEncodeCopyDistance code 0 0).sym = 0
    · right; simp [hz]
    · left
      have hb : ((prefixEncodeCopyDistance code 0 0).packed &&& 0x3ff == 0) = false := by
        rw [hand]; simp [hz]
      simp only [commandInit, hb, getLengthCode]
      exact combine_ge_128 ⟨_, i1⟩ ⟨_, c1⟩
  · by_cases hdir : code < 16 + 0
    · rw [(BV.Props.C18.dist_direct_exact 0 0 code hdir).1]
      simp only [distAlphabetSize]; split <;> omega
    · cases large with
      | true =>
        have := BV.Props.C18.dist_symbol_lt_alphabet 0 0 code (by omega) 30 hnb
        simp only [distAlphabetSize, if_true]; omega
      | false =>
        have h24 := BV.Lemmas.PrefixArith.pecd_nbits_le code 0 0 24 (by have := hstd rfl; omega)
        have := BV.Props.C18.dist_symbol_lt_alphabet 0 0 code (by omega) 24 h24
        simp only [distAlphabetSize]; simp; omega
  · rw [hpk1]; omega
  · right
    by_cases hdir : code < 16 + 0
    · have e := (BV.Props.C18.dist_direct_exact 0 0 code hdir).1
      rw [e]
      simp only []
      rw [if_pos (by omega)]
      simp
    · obtain ⟨e1, e2, e3, e4, e5⟩ := BV.Props.C18.dist_encode_exact 0 0 code (by omega)
      rw [if_neg (by omega)]
      simp only [Bool.and_eq_true, decide_eq_true_eq]
      exact ⟨⟨e1, e3⟩, by omega⟩

/-- `emitCommand_copy` without `ComputeDistanceCode`: ANY distance code that denotes `dist` under the RFC 7932 rules
(`hrfc`) will do -/
theorem decStep_copy (w : WordOracle) (np nd window : Nat) (hp : np ≤ 3) (hnd : nd ≤ 120)
    (mb : Bytes) (s : DecSt) (ins len dist code : Nat) (upd : Bool)
    (hins : ins < 2 ^ 32) (hroom : s.cursor + ins < mb.length) (hfit : s.cursor + ins + len ≤ mb.length)
    (hlen : len < 2 ^ 25) (hcode : code < 2 ^ 31)
    (hd1 : 1 ≤ dist) (hdw : dist ≤ min (s.out.length + ins) window)
    (hrfc : rfcDistance np nd s.ring (prefixEncodeCopyDistance code nd np).sym
      (prefixEncodeCopyDistance code nd np).extra = some ((dist : Int), upd))
    (hmatch : ∀ k, k < len →
      (s.out ++ (mb.drop s.cursor).take (ins + len)).getD (s.out.length + ins + k) 0 =
      (s.out ++ (mb.drop s.cursor).take (ins + len)).getD (s.out.length + ins - dist + k) 0) :
    decStep w np nd window mb s (commandInit np nd ins len len code)
      = some ⟨s.out ++ (mb.drop s.cursor).take (ins + len),
          if upd then (dist : Int) :: s.ring.take 3 else s.ring, s.cursor + ins + len⟩ := by
  obtain ⟨f1, f2, f3, f4, _⟩ := commandInit_fields' np nd ins len len code hp hnd hcode hins hlen (by omega) (by omega)
  have htake : ((mb.drop s.cursor).take ins).length = ins := by
    rw [List.length_take, List.length_drop]; omega
  have hsplit : (mb.drop s.cursor).take (ins + len)
      = (mb.drop s.cursor).take ins ++ (mb.drop (s.cursor + ins)).take len := by
    rw [List.take_add, List.drop_drop]
  have hcopy : copyBytes len dist (s.out ++ (mb.drop s.cursor).take ins)
      = s.out ++ (mb.drop s.cursor).take (ins + len) := by
    rw [hsplit, ← List.append_assoc]
    apply copyBytes_of_match len dist _ _ (by rw [List.length_take, List.length_drop]; omega) hd1
    · rw [List.length_append, htake]; exact Nat.le_trans hdw (Nat.min_le_left _ _)
    · intro k hk
      have := hmatch k hk
      rw [hsplit, ← List.append_assoc] at this
      rw [List.length_append, htake]
      exact this
  rw [decStep_copy_eq w np nd window mb s _ (dist : Int) upd (by rw [f1]; exact hroom) (by rw [f3, f4]; exact hrfc)
    (by omega) (by rw [f1, Int.toNat_natCast]; exact hdw) (by rw [f1, f2]; exact hfit), f1, f2, Int.toNat_natCast, hcopy]

/-- a static-dictionary reference under any transform: the expansion need not be as long as the word (`len ≠ lc`) -/
theorem decStep_word (w : WordOracle) (window : Nat) (mb : Bytes) (s : DecSt) (ins len lc dist : Nat)
    (hins : ins < 2 ^ 32) (hroom : s.cursor + ins < mb.length) (hfit : s.cursor + ins + len ≤ mb.length)
    (hlen : len < 2 ^ 25) (hl1 : lc ≤ len + 63) (hl2 : len ≤ lc + 64) (h4 : 4 ≤ lc) (h24 : lc ≤ 24)
    (hgt : dist > min (s.out.length + ins) window) (hd31 : dist + 15 < 2 ^ 31)
    (hw : w lc ((dist - min (s.out.length + ins) window - 1) % 2 ^ dictSizeBits.getD lc 0)
        ((dist - min (s.out.length + ins) window - 1) / 2 ^ dictSizeBits.getD lc 0)
      = some ((mb.drop (s.cursor + ins)).take len)) :
    decStep w 0 0 window mb s (commandInit 0 0 ins len lc (dist + 15))
      = some ⟨s.out ++ (mb.drop s.cursor).take (ins + len), s.ring, s.cursor + ins + len⟩ := by
  obtain ⟨f1, f2, f3, f4, _⟩ := commandInit_fields' 0 0 ins len lc (dist + 15) (by omega) (by omega) (by omega) hins hlen hl1 hl2
  have hwl : ((mb.drop (s.cursor + ins)).take len).length = len := by
    rw [List.length_take, List.length_drop]; omega
  rw [decStep_dict_eq w 0 0 window mb s _ (dist : Int) true _ (by rw [f1]; exact hroom)
    (by rw [f3, f4]; exact rfcDistance_long15 0 0 dist (by omega) s.ring) (by omega)
    (by rw [f1, Int.toNat_natCast]; exact hgt) (by rw [f2]; exact h4) (by rw [f2]; exact h24)
    (by rw [f1, f2, Int.toNat_natCast]; exact hw) (by rw [f1, hwl]; exact hfit), f1, hwl, List.append_assoc,
    List.take_add, List.drop_drop]

theorem decStep_dict (w : WordOracle) (window : Nat) (mb : Bytes) (s : DecSt) (ins len lc dist : Nat)
    (c0 c1 c2 c3 : Int) (hring : s.ring = [c0, c1, c2, c3]) (hc : CacheI32 [c0, c1, c2, c3])
    (hins : ins < 2 ^ 32) (hroom : s.cursor + ins < mb.length) (hfit : s.cursor + ins + len ≤ mb.length)
    (hlen : len < 2 ^ 25) (hl1 : lc ≤ len + 63) (hl2 : len ≤ lc + 64) (h4 : 4 ≤ lc) (h24 : lc ≤ 24)
    (hgt : dist > min (s.out.length + ins) window) (hd31 : dist + 15 < 2 ^ 31)
    (hw : w lc ((dist - min (s.out.length + ins) window - 1) % 2 ^ dictSizeBits.getD lc 0)
        ((dist - min (s.out.length + ins) window - 1) / 2 ^ dictSizeBits.getD lc 0)
      = some ((mb.drop (s.cursor + ins)).take len)) :
    decStep w 0 0 window mb s (commandInit 0 0 ins len lc (dist + 15))
      = some ⟨s.out ++ (mb.drop s.cursor).take (ins + len), s.ring, s.cursor + ins + len⟩ :=
  decStep_word w window mb s ins len lc dist hins hroom hfit hlen hl1 hl2 h4 h24 hgt hd31 hw

theorem rfcDistance_flag (np nd : Nat) (ring : List Int) (sym extra : Nat) (d : Int) (u : Bool)
    (h : rfcDistance np nd ring sym extra = some (d, u)) : u = decide (sym ≠ 0) := by
  by_cases hs : sym < 16
  · rw [rfcDistance_short np nd ring hs extra] at h
    obtain ⟨x, _, hx⟩ := Option.map_eq_some_iff.mp h
    exact (Prod.mk.inj hx).2.symm
  · obtain ⟨k, rfl⟩ : ∃ k, sym = k + 16 := ⟨sym - 16, by omega⟩
    rw [BV.Recoder.rfcDistance_long] at h
    rw [← (Prod.mk.inj (Option.some.inj h)).2]
    exact (decide_eq_true (Nat.succ_ne_zero _)).symm

end BV.Zopfli

namespace BV.Cbr

theorem out_extend (hist mb : Bytes) (c n : Nat) :
    (hist ++ mb.take c) ++ (mb.drop c).take n = hist ++ mb.take (c + n) := by
  rw [List.append_assoc, List.take_add]

theorem copyLen_initInsert (l : Nat) : copyLen (initInsert l) = 0 := by
  simp only [copyLen, initInsert]; decide

theorem cmdOK_initInsert (large : Bool) (l : Nat) (hl : l ≤ 2 ^ 24) :
    cmdOK (distAlphabetSize large 0 0) 0 0 (initInsert l) = true := by
  have hU : U32 = 4294967296 := rfl
  have p24 : (2 : Nat) ^ 24 = 16777216 := by decide
  have hins : (initInsert l).insertLen = l := by simp only [initInsert]; exact Nat.mod_eq_of_lt (by omega)
  have hclc : copyLenCode (initInsert l).copyLenField = 4 := by simp only [initInsert]; decide
  have hdp : (initInsert l).distPrefix = 1040 := by simp only [initInsert]; decide
  obtain ⟨i1, _, _⟩ := BV.Props.C18.ins_code_exact l (by omega)
  have c1 : getCopyLengthCode 4 < 24 := by decide
  unfold cmdOK
  simp only [hins, hclc, hdp, copyLen_initInsert, Bool.and_eq_true, decide_eq_true_eq, Bool.or_eq_true]
  refine ⟨⟨⟨⟨⟨⟨⟨?_, by omega⟩, by omega⟩, by omega⟩, ?_⟩, ?_⟩, by omega⟩, Or.inl trivial⟩
  · simp only [initInsert]; rfl
  · left
    simp only [initInsert, getLengthCode]
    exact combine_ge_128 ⟨_, i1⟩ ⟨_, c1⟩
  · simp only [distAlphabetSize]; split <;> omega

/-- the encoder's cache of last distances after a reference at text length `abs` (what `emitCommand` and `ccStep` compute): a copy
inside the window with a distance code other than 0 ("last distance") goes to the front -/
def pushDistance (window abs dist code : Nat) (c0 c1 c2 c3 : Int) (rest : List Int) : List Int :=
  if dist ≤ min abs window ∧ code > 0 then toI32 dist :: c0 :: c1 :: c2 :: rest else c0 :: c1 :: c2 :: c3 :: rest

/-- RFC 7932 §4: a copy whose distance code is not 0 pushes its distance; code 0 and dictionary words do not -/
def refRing (window abs : Nat) (ring : List Int) (dist code : Nat) : List Int :=
  if dist ≤ min abs window ∧ code ≠ 0 then (dist : Int) :: ring.take 3 else ring

/-- "After a reference" has three spellings: `pushDistance` (the encoder's cache), `refRing` (the decoder's ring, on plain values) and
`Zopfli.ringAfter` (BV/Lemmas/ZopfliCmd.lean: `refRing` on the fields of a node, equal by `rfl`).  This is the bridge: the encoder
pushes exactly when the decoder does, and its cache stays a list of at least four `i32`s. -/
theorem cache_after {c0 c1 c2 c3 : Int} {rest : List Int} (hci : CacheI32 (c0 :: c1 :: c2 :: c3 :: rest)) {window : Nat}
    (hwin : window ≤ 2 ^ 30) (dist code A : Nat) :
    (pushDistance window A dist code c0 c1 c2 c3 rest).take 4 = refRing window A [c0, c1, c2, c3] dist code ∧
    CacheI32 (pushDistance window A dist code c0 c1 c2 c3 rest) ∧
    4 ≤ (pushDistance window A dist code c0 c1 c2 c3 rest).length := by
  unfold pushDistance refRing
  by_cases h : dist ≤ min A window ∧ code ≠ 0
  · have hd : dist < 2 ^ 31 := by have := Nat.min_le_right A window; omega
    rw [if_pos ⟨h.1, Nat.pos_of_ne_zero h.2⟩, if_pos h, toI32_small _ hd]
    refine ⟨rfl, ?_, by simp⟩
    intro x hx
    simp only [List.take_succ_cons, List.take_zero, List.mem_cons, List.not_mem_nil, or_false] at hx
    rcases hx with rfl | rfl | rfl | rfl
    · omega
    · exact hci _ (by simp)
    · exact hci _ (by simp)
    · exact hci _ (by simp)
  · rw [if_neg (fun hc => h ⟨hc.1, Nat.ne_of_gt hc.2⟩), if_neg h]
    exact ⟨rfl, hci, by simp⟩

/-- `hmatch` is the soundness of the match on the text (`findLongestMatch_sound` gives it on the ring buffer,
`ring_match_is_text_match` transfers it) -/
theorem emitCommand_copy (w : WordOracle) (np nd window : Nat) (hp : np ≤ 3) (hnd : nd ≤ 120)
    (mb : Bytes) (s : DecSt) (sr : SR) (ins : Nat) (c0 c1 c2 c3 : Int) (rest : List Int)
    (hring : s.ring = [c0, c1, c2, c3]) (hc : CacheI32 (c0 :: c1 :: c2 :: c3 :: rest))
    (hins : ins < 2 ^ 32) (hroom : s.cursor + ins < mb.length) (hfit : s.cursor + ins + sr.len ≤ mb.length)
    (hlen : sr.len < 2 ^ 25) (hx : sr.lenXCode = 0)
    (hd1 : 1 ≤ sr.distance) (hdw : sr.distance ≤ min (s.out.length + ins) window) (hd31 : sr.distance + 15 < 2 ^ 31)
    (hmatch : ∀ k, k < sr.len →
      (s.out ++ (mb.drop s.cursor).take (ins + sr.len)).getD (s.out.length + ins + k) 0 =
      (s.out ++ (mb.drop s.cursor).take (ins + sr.len)).getD (s.out.length + ins - sr.distance + k) 0) :
    ∃ code, code ≤ sr.distance + 15 ∧
      emitCommand np nd (s.out.length + ins) window ins sr (c0 :: c1 :: c2 :: c3 :: rest)
        = some (commandInit np nd ins sr.len sr.len code, pushDistance window (s.out.length + ins) sr.distance code c0 c1 c2 c3 rest) ∧
      decStep w np nd window mb s (commandInit np nd ins sr.len sr.len code)
        = some ⟨s.out ++ (mb.drop s.cursor).take (ins + sr.len),
            (pushDistance window (s.out.length + ins) sr.distance code c0 c1 c2 c3 rest).take 4, s.cursor + ins + sr.len⟩ := by
  obtain ⟨code, hcode, hcode31, _, hrfc⟩ :=
    computeDistanceCode_sound np nd sr.distance (min (s.out.length + ins) window) c0 c1 c2 c3 rest hd1 (by omega) hc
  refine ⟨code, hcode31, ?_, ?_⟩
  · unfold emitCommand pushDistance
    simp only [hcode, hx, Nat.xor_zero]
  rw [BV.Zopfli.decStep_copy w np nd window hp hnd mb s ins sr.len sr.distance code _ hins hroom hfit hlen (by omega) hd1
    hdw (hring ▸ hrfc) hmatch, hring]
  unfold pushDistance
  by_cases hupd : code = 0
  · rw [if_neg (by rw [hupd]; decide), if_neg (fun h => absurd h.2 (by omega))]
    rfl
  · rw [if_pos (decide_eq_true hupd), if_pos ⟨hdw, Nat.pos_of_ne_zero hupd⟩, BV.Recoder.toI32_small sr.distance (by omega)]
    rfl

/-- `lc`: the copy length code; `abs`: the text length at which the reference starts -/
inductive RefOK (wo : WordOracle) (window : Nat) (T : Bytes) (abs : Nat) (ring : List Int)
    (len lc dist code : Nat) : Prop
  | copy (hd1 : 1 ≤ dist) (hdw : dist ≤ min abs window) (h2 : 2 ≤ len) (hlc : lc = len) (hcode : code < 2 ^ 31)
      (hrfc : rfcDistance 0 0 ring (prefixEncodeCopyDistance code 0 0).sym (prefixEncodeCopyDistance code 0 0).extra
        = some ((dist : Int), decide (code ≠ 0)))
      (hmatch : ∀ j, j < len → T.getD (abs - dist + j) 0 = T.getD (abs + j) 0)
  | word (hgt : dist > min abs window) (hcode : code = dist + 15) (hd31 : dist + 15 < 2 ^ 31)
      (h4 : 4 ≤ lc) (h24 : lc ≤ 24) (hne : len ≠ 0) (hl1 : lc ≤ len + 63) (hl2 : len ≤ lc + 64)
      (hw : wo lc ((dist - min abs window - 1) % 2 ^ dictSizeBits.getD lc 0)
          ((dist - min abs window - 1) / 2 ^ dictSizeBits.getD lc 0) = some ((T.drop abs).take len))

theorem RefOK.replays {wo : WordOracle} {window : Nat} {hist mb : Bytes} {abs len lc dist code : Nat} {d : DecSt}
    {ins : Nat} (h : RefOK wo window (hist ++ mb) abs d.ring len lc dist code)
    (hout : d.out = hist ++ mb.take d.cursor) (habs : abs = hist.length + d.cursor + ins)
    (hfit : d.cursor + ins + len ≤ mb.length) (hmb : mb.length ≤ 2 ^ 24)
    (large : Bool) (hstd : large = false → code < 2 ^ 26 + 12) :
    decStep wo 0 0 window mb d (commandInit 0 0 ins len lc code)
      = some ⟨hist ++ mb.take (d.cursor + ins + len), refRing window abs d.ring dist code, d.cursor + ins + len⟩ ∧
    (commandInit 0 0 ins len lc code).insertLen = ins ∧ copyLen (commandInit 0 0 ins len lc code) = len ∧ len ≠ 0 ∧
    cmdOK (distAlphabetSize large 0 0) 0 0 (commandInit 0 0 ins len lc code) = true := by
  have hlenout : d.out.length = hist.length + d.cursor := by
    rw [hout, List.length_append, List.length_take]; omega
  have habs' : abs = d.out.length + ins := by omega
  have hpre : d.out ++ (mb.drop d.cursor).take (ins + len) = hist ++ mb.take (d.cursor + ins + len) := by
    rw [hout, out_extend, Nat.add_assoc]
  obtain ⟨hlen, hins24, hins32, hlen24⟩ : len < 2 ^ 25 ∧ ins ≤ 2 ^ 24 ∧ ins < 2 ^ 32 ∧ len < 2 ^ 24 + 2118 := by
    have hp24 : (2 : Nat) ^ 24 = 16777216 := by decide
    omega
  clear hmb
  cases h with
  | copy hd1 hdw h2 hlc hcode hrfc hmatch =>
    cases hlc.symm
    obtain ⟨f1, _, _, _, f5⟩ := BV.Zopfli.commandInit_fields' 0 0 ins len len code (Nat.zero_le _) (Nat.zero_le _) hcode
      hins32 hlen (Nat.le_add_right _ _) (Nat.le_add_right _ _)
    refine ⟨?_, f1, f5, Nat.ne_of_gt (Nat.lt_of_lt_of_le (by decide) h2),
      BV.Zopfli.cmdOK_commandInit' large ins len len code hins24 hlen (Nat.le_add_right _ _)
      (Nat.le_add_right _ _) h2 hlen24 hcode hstd⟩
    rw [habs'] at hdw hmatch
    have hdo : dist ≤ d.out.length + ins := Nat.le_trans hdw (Nat.min_le_left _ _)
    rw [BV.Zopfli.decStep_copy wo 0 0 window (Nat.zero_le _) (Nat.zero_le _) mb d ins len dist code _ hins32 (by omega)
      hfit hlen hcode hd1 hdw hrfc (by
        intro j hj
        rw [hpre, ← List.take_length_add_append, BV.getD_take _ _ _ _ (by omega), BV.getD_take _ _ _ _ (by omega)]
        exact (hmatch j hj).symm), hpre, refRing, habs']
    by_cases hc0 : code = 0
    · rw [if_neg (by simp [hc0]), if_neg (by simp [hc0])]
    · rw [if_pos (by simp [hc0]), if_pos ⟨hdw, hc0⟩]
  | word hgt hcode hd31 h4 h24 hne hl1 hl2 hw =>
    subst hcode
    obtain ⟨f1, _, _, _, f5⟩ := BV.Zopfli.commandInit_fields' 0 0 ins len lc (dist + 15) (Nat.zero_le _) (Nat.zero_le _)
      hd31 hins32 hlen hl1 hl2
    refine ⟨?_, f1, f5, hne, BV.Zopfli.cmdOK_commandInit' large ins len lc (dist + 15) hins24 hlen hl1 hl2
      (Nat.le_trans (by decide) h4) (Nat.lt_of_le_of_lt h24 (by decide)) hd31 hstd⟩
    rw [habs'] at hgt
    rw [habs, Nat.add_assoc, List.drop_append, List.drop_of_length_le (Nat.le_add_right _ _), List.nil_append,
      Nat.add_sub_cancel_left, ← Nat.add_assoc, ← habs, habs'] at hw
    rw [BV.Zopfli.decStep_word wo window mb d ins len lc dist hins32 (by omega) hfit hlen hl1 hl2 h4 h24 hgt hd31 hw, hpre,
      refRing, if_neg (fun h => absurd h.1 (Nat.not_le_of_lt (habs' ▸ hgt)))]

end BV.Cbr
