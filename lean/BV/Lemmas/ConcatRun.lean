/-
Complete protocol runs (C12, C03): the result of a run is a function of the state and the bytes.  One
induction over `feedBuffer` (`feedBuffer_induct`) and one over `runAll` (`runAll_result`) carry
`Result`: `RunCons` once the header is accepted, `memberResult` (class of the member and its
closed form) in the header phase.  Slicing and capacity schedules are irrelevant because `Result`
does not mention them and fixes all that can be observed (`Result.unique`).  A lemma about one `stream` call
within a run is stated as `Carries Ψ W x acc r`; a lemma about a complete run as `RunTo`, of which `RunCons`
and `MemberRun` are the two instances met (`runCons_iff`, `memberRun_iff`).
-/
import BV.Lemmas.ConcatCall

namespace BV.Concat
open Outcome BV.Gen

theorem feedBuffer_succ_some {f : Nat} {s : State} {x caps acc : List Nat} {R : Run}
    (h : feedBuffer (f + 1) s x caps acc = some R) :
    ∃ r, stream s x (caps.headD (x.length + 8)) = ok r ∧
      (if isTerminal r.code then some ⟨r.st, r.code, acc ++ r.produced⟩
       else if r.code = NEEDS_MORE_INPUT ∧ x.drop r.consumed = [] then some ⟨r.st, r.code, acc ++ r.produced⟩
       else feedBuffer f r.st (x.drop r.consumed) caps.tail (acc ++ r.produced)) = some R := by
  unfold feedBuffer at h
  dsimp only at h
  cases hst : stream s x (caps.headD (x.length + 8)) with
  | panic t => rw [hst] at h; simp at h
  | ok r => rw [hst] at h; exact ⟨r, rfl, h⟩

theorem held_length (s : State) (hp : s.new_stream_pending = none) (hl : s.last_bytes_len ≤ 2) :
    (held s).length = s.last_bytes_len := by
  rw [held_none s hp]; simp; omega

structure RunCons (s : State) (x : List Nat) (acc : List Nat) (R : Run) : Prop where
  cons : R.emitted ++ held R.st = acc ++ held s ++ x
  code : R.code = NEEDS_MORE_INPUT
  pending : R.st.new_stream_pending = none
  len : R.st.last_bytes_len = min 2 (baseLen s + x.length)
  inv : Inv R.st
  ws : R.st.window_size = s.window_size

structure RunTo (total : List Nat) (len ws : Nat) (R : Run) : Prop where
  cons : R.emitted ++ held R.st = total
  code : R.code = NEEDS_MORE_INPUT
  pending : R.st.new_stream_pending = none
  len : R.st.last_bytes_len = len
  inv : Inv R.st
  ws : R.st.window_size = ws

/-- the part of a run's result that a caller can observe or that later calls depend on -/
def ObsEq (R1 R2 : Run) : Prop :=
  R1.emitted = R2.emitted ∧ R1.code = R2.code ∧ held R1.st = held R2.st ∧
  R1.st.last_bytes_len = R2.st.last_bytes_len ∧ R1.st.new_stream_pending = R2.st.new_stream_pending ∧
  R1.st.window_size = R2.st.window_size

theorem ObsEq.of_eq {R1 R2 : Run} (h : R1 = R2) : ObsEq R1 R2 := by
  subst h; exact ⟨rfl, rfl, rfl, rfl, rfl, rfl⟩

theorem RunTo.unique {total : List Nat} {len ws : Nat} {R1 R2 : Run} (c1 : RunTo total len ws R1)
    (c2 : RunTo total len ws R2) : ObsEq R1 R2 := by
  have hl : (held R1.st).length = (held R2.st).length := by
    rw [held_length R1.st c1.pending c1.inv.len_le, held_length R2.st c2.pending c2.inv.len_le, c1.len, c2.len]
  have he : R1.emitted ++ held R1.st = R2.emitted ++ held R2.st := by rw [c1.cons, c2.cons]
  obtain ⟨e1, e2⟩ := List.append_inj' he hl
  exact ⟨e1, by rw [c1.code, c2.code], e2, by rw [c1.len, c2.len], by rw [c1.pending, c2.pending],
    by rw [c1.ws, c2.ws]⟩

theorem runCons_iff {s : State} {x acc : List Nat} {R : Run} :
    RunCons s x acc R ↔ RunTo (acc ++ held s ++ x) (min 2 (baseLen s + x.length)) s.window_size R :=
  ⟨fun h => ⟨h.cons, h.code, h.pending, h.len, h.inv, h.ws⟩, fun h => ⟨h.cons, h.code, h.pending, h.len, h.inv, h.ws⟩⟩

/-- The call that returned `r` on the input `x`, with `acc` emitted before it, carries `W`, a property of the complete
run, backwards: if the call ends the run (as `feedBuffer` decides it), `W` holds of the run it leaves; if the run goes
on, `W` holds of every run whose rest, from `r.st` over what is left of `x`, satisfies `Ψ`. -/
def Carries (Ψ : State → List Nat → List Nat → Run → Prop) (W : Run → Prop) (x acc : List Nat) (r : Ret) : Prop :=
  if isTerminal r.code = true ∨ (r.code = NEEDS_MORE_INPUT ∧ x.drop r.consumed = []) then
    W ⟨r.st, r.code, acc ++ r.produced⟩
  else ∀ R, Ψ r.st (x.drop r.consumed) (acc ++ r.produced) R → W R

section
variable {Ψ Ψ' : State → List Nat → List Nat → Run → Prop} {W W' : Run → Prop} {x acc : List Nat} {r : Ret}

theorem Carries.ends (he : isTerminal r.code = true ∨ (r.code = NEEDS_MORE_INPUT ∧ x.drop r.consumed = []))
    (h : W ⟨r.st, r.code, acc ++ r.produced⟩) : Carries Ψ W x acc r := by
  unfold Carries; rwa [if_pos he]

theorem Carries.goesOn (hn : ¬ (isTerminal r.code = true ∨ (r.code = NEEDS_MORE_INPUT ∧ x.drop r.consumed = [])))
    (h : ∀ R, Ψ r.st (x.drop r.consumed) (acc ++ r.produced) R → W R) : Carries Ψ W x acc r := by
  unfold Carries; rwa [if_neg hn]

theorem Carries.mono (h : Carries Ψ W x acc r)
    (hΨ : ∀ R, Ψ' r.st (x.drop r.consumed) (acc ++ r.produced) R → Ψ r.st (x.drop r.consumed) (acc ++ r.produced) R)
    (hW : ∀ R, W R → W' R) : Carries Ψ' W' x acc r := by
  unfold Carries at h ⊢
  split
  · rw [if_pos ‹_›] at h; exact hW _ h
  · rw [if_neg ‹_›] at h; exact fun R hR => hW R (h R (hΨ R hR))

end

theorem Moved.run {owed : List Nat} {base : Nat} {x : List Nat} {k ws : Nat} {r : Ret} (h : Moved owed base x k ws r)
    (hI : Inv r.st) (acc : List Nat) :
    Carries RunCons (RunTo (acc ++ owed ++ x.drop k) (min 2 (base + (x.length - k))) ws) x acc r := by
  have hnt : ¬ isTerminal r.code = true := by
    rcases h.code with e | e <;> rw [e] <;> decide
  have hge := h.ge
  have hle := h.le
  have hglue := take_drop_glue x k r.consumed hge
  by_cases hdone : r.code = NEEDS_MORE_INPUT ∧ x.drop r.consumed = []
  · refine .ends (Or.inr hdone) ?_
    have hall : r.consumed = x.length := by
      have := List.drop_eq_nil_iff.mp hdone.2
      omega
    have hpn : r.st.new_stream_pending = none := by
      cases hq : r.st.new_stream_pending with
      | none => rfl
      | some d =>
        have := (h.copying (by rw [hq]; simp)).2.1
        rw [hdone.1] at this; exact absurd this (by decide)
    refine ⟨?_, hdone.1, hpn, by rw [h.len hpn, hall], hI, h.ws⟩
    show acc ++ r.produced ++ held r.st = _
    rw [hdone.2, List.append_nil] at hglue
    rw [List.append_assoc, h.cons, hglue, List.append_assoc]
  · refine .goesOn (fun a => a.elim hnt hdone) fun R hR => ?_
    refine ⟨?_, hR.code, hR.pending, ?_, hR.inv, by rw [hR.ws, h.ws]⟩
    · rw [hR.cons, List.append_assoc acc, h.cons, List.append_assoc, List.append_assoc, hglue, List.append_assoc]
    · rw [hR.len, List.length_drop]
      unfold baseLen
      cases hq : r.st.new_stream_pending with
      | none => dsimp only; rw [h.len hq]; omega
      | some d =>
        obtain ⟨c0, _, b1⟩ := h.copying (by rw [hq]; simp)
        dsimp only; rw [c0, b1]

/-- The one induction over the driver; `J` is what the calls keep. -/
theorem feedBuffer_induct {J : State → Prop} {Φ : State → List Nat → List Nat → Run → Prop}
    (step : ∀ s x acc cap r, J s → stream s x cap = ok r → J r.st ∧ Carries Φ (Φ s x acc) x acc r) :
    ∀ (fuel : Nat) (s : State) (x caps acc : List Nat) (R : Run),
      J s → feedBuffer fuel s x caps acc = some R →
      Φ s x acc R ∧ J R.st ∧ (isTerminal R.code = true ∨ R.code = NEEDS_MORE_INPUT) := by
  intro fuel
  induction fuel with
  | zero => intro s x caps acc R _ h; simp [feedBuffer] at h
  | succ f ih =>
    intro s x caps acc R hJ h
    obtain ⟨r, hst, h⟩ := feedBuffer_succ_some h
    obtain ⟨hJr, hs⟩ := step s x acc _ r hJ hst
    unfold Carries at hs
    by_cases ht : isTerminal r.code = true
    · rw [if_pos (Or.inl ht)] at hs
      rw [if_pos ht] at h; cases h; exact ⟨hs, hJr, Or.inl ht⟩
    · rw [if_neg ht] at h
      by_cases hd : r.code = NEEDS_MORE_INPUT ∧ x.drop r.consumed = []
      · rw [if_pos (Or.inr hd)] at hs; rw [if_pos hd] at h; cases h; exact ⟨hs, hJr, Or.inr hd.1⟩
      · rw [if_neg (fun a => a.elim ht hd)] at hs; rw [if_neg hd] at h
        obtain ⟨a, b⟩ := ih _ _ _ _ R hJr h
        exact ⟨hs R a, b⟩

theorem stream_runCons (s : State) (x acc : List Nat) (cap : Nat) (r : Ret) (hI : Inv s) (hS : Started s)
    (hset : Settled s) (hst : stream s x cap = ok r) :
    (Inv r.st ∧ Started r.st ∧ Settled r.st) ∧ Carries RunCons (RunCons s x acc) x acc r := by
  have hc := stream_cons s x _ r hI hset hst
  have hpost := stream_sat s x cap hI hS
  rw [hst, sat_ok] at hpost
  exact ⟨⟨hpost.inv, hpost.started, hc.settled⟩, (hc.moved.run hpost.inv acc).mono (fun _ h => h) fun R h =>
    runCons_iff.mpr (by simpa only [List.drop_zero, Nat.sub_zero] using h)⟩

theorem feedBuffer_cons (fuel : Nat) (s : State) (x caps acc : List Nat) (R : Run)
    (hI : Inv s) (hS : Started s) (hset : Settled s) (h : feedBuffer fuel s x caps acc = some R) :
    RunCons s x acc R :=
  (feedBuffer_induct (J := fun s => Inv s ∧ Started s ∧ Settled s) (Φ := RunCons)
    (fun s x acc cap r hJ hst => stream_runCons s x acc cap r hJ.1 hJ.2.1 hJ.2.2 hst)
    fuel s x caps acc R ⟨hI, hS, hset⟩ h).1

theorem feedBuffer_schedule_irrelevant (f1 f2 : Nat) (s : State) (x caps1 caps2 acc : List Nat) (R1 R2 : Run)
    (hI : Inv s) (hS : Started s) (hset : Settled s)
    (h1 : feedBuffer f1 s x caps1 acc = some R1) (h2 : feedBuffer f2 s x caps2 acc = some R2) :
    R1.emitted = R2.emitted ∧ R1.code = R2.code ∧ held R1.st = held R2.st ∧
    R1.st.last_bytes_len = R2.st.last_bytes_len ∧ R1.st.new_stream_pending = R2.st.new_stream_pending ∧
    R1.st.window_size = R2.st.window_size :=
  RunTo.unique (runCons_iff.mp (feedBuffer_cons f1 s x caps1 acc R1 hI hS hset h1))
    (runCons_iff.mp (feedBuffer_cons f2 s x caps2 acc R2 hI hS hset h2))

structure MemberRun (acc : List Nat) (o1 q : List Nat) (n' : NewStreamData) (w : Nat) (x : List Nat) (k : Nat)
    (s' : State) (R : Run) : Prop where
  cons : R.emitted ++ held R.st = acc ++ planOwed o1 q n' w x k
  code : R.code = NEEDS_MORE_INPUT
  pending : R.st.new_stream_pending = none
  len : R.st.last_bytes_len = min 2 (1 + (x.length - k))
  inv : Inv R.st
  ws : R.st.window_size = s'.window_size

theorem memberRun_iff {acc o1 q : List Nat} {n' : NewStreamData} {w : Nat} {x : List Nat} {k : Nat} {s' : State}
    {R : Run} : MemberRun acc o1 q n' w x k s' R ↔
      RunTo (acc ++ (o1 ++ q ++ owedOf n' w) ++ x.drop k) (min 2 (1 + (x.length - k))) s'.window_size R :=
  ⟨fun h => ⟨by rw [h.cons]; unfold planOwed; simp only [List.append_assoc], h.code, h.pending, h.len, h.inv, h.ws⟩,
   fun h => ⟨by rw [h.cons]; unfold planOwed; simp only [List.append_assoc], h.code, h.pending, h.len, h.inv, h.ws⟩⟩

/-- the four ways a complete run over a member `x` can end from a state in its header phase, each with the data
(strip result, look-ahead, accepted header) that fix it; `Result.absorb` / `.append` case on it -/
inductive MemberSpec (s : State) (x acc : List Nat) (R : Run) : Prop where
  | failed (nsp0 : NewStreamData) (s1 : State) (o1 : List Nat)
      (hp : s.new_stream_pending = some nsp0) (hw : nsp0.num_bytes_written = none)
      (hf : flushPreviousStream s [] 1 = ok (s1, o1, NOT_CRAFTED_FOR_APPEND))
      (hR : R = ⟨s, NOT_CRAFTED_FOR_APPEND, acc⟩)
  | partly (nsp0 : NewStreamData) (s1 : State) (o1 : List Nat) (nspX : NewStreamData) (k : Nat)
      (hp : s.new_stream_pending = some nsp0) (hw : nsp0.num_bytes_written = none)
      (hf : flushPreviousStream s [] 1 = ok (s1, o1, SUCCESS))
      (hl : headerLoop nsp0 x 0 = ok (nspX, k)) (hins : nspX.sufficient = false)
      (hR : R = ⟨{ s1 with new_stream_pending := some nspX }, NEEDS_MORE_INPUT, acc ++ o1⟩)
  | rejected (nsp0 : NewStreamData) (s1 : State) (o1 : List Nat) (nspX : NewStreamData) (k c : Nat)
      (hp : s.new_stream_pending = some nsp0) (hw : nsp0.num_bytes_written = none)
      (hf : flushPreviousStream s [] 1 = ok (s1, o1, SUCCESS))
      (hl : headerLoop nsp0 x 0 = ok (nspX, k)) (hsuf : nspX.sufficient = true)
      (hh : shiftHead { s1 with new_stream_pending := some nspX } nspX = ok (.inl c))
      (hR : R = ⟨{ s1 with new_stream_pending := some nspX }, c, acc ++ o1⟩)
  | accepted (nsp0 : NewStreamData) (s1 : State) (o1 : List Nat) (nspF : NewStreamData) (k : Nat)
      (s' : State) (n' : NewStreamData) (q : List Nat) (w : Nat)
      (plan : HdrPlan s x nsp0 s1 o1 nspF k s' n' q w) (run : MemberRun acc o1 q n' w x k s' R)

/-- `MemberSpec` as a function of `(s, x)`: the strip, the look-ahead and the header decision, each
computed without reference to capacities, fix the class and its data -/
def memberResult (s : State) (x acc : List Nat) (R : Run) : Prop :=
  ∃ nsp0, s.new_stream_pending = some nsp0 ∧
  match flushPreviousStream s [] 1 with
  | .ok (s1, o1, code) =>
    if code = NOT_CRAFTED_FOR_APPEND then R = ⟨s, NOT_CRAFTED_FOR_APPEND, acc⟩ else
    match headerLoop nsp0 x 0 with
    | .ok (nspX, k) =>
      if nspX.sufficient = false then
        R = ⟨{ s1 with new_stream_pending := some nspX }, NEEDS_MORE_INPUT, acc ++ o1⟩
      else
        match shiftHead { s1 with new_stream_pending := some nspX } nspX with
        | .ok (.inl c) => R = ⟨{ s1 with new_stream_pending := some nspX }, c, acc ++ o1⟩
        | .ok (.inr (s', n', q)) => ∃ w, n'.num_bytes_written = some w ∧ MemberRun acc o1 q n' w x k s' R
        | .panic _ => False
    | .panic _ => False
  | .panic _ => False

theorem memberResult_of_spec {s : State} {x acc : List Nat} {R : Run} (h : MemberSpec s x acc R) :
    memberResult s x acc R := by
  cases h with
  | failed nsp0 s1 o1 hp hw hf hR => exact ⟨nsp0, hp, by simpa [hf] using hR⟩
  | partly nsp0 s1 o1 nspX k hp hw hf hl hins hR => exact ⟨nsp0, hp, by simpa [hf, hl, hins] using hR⟩
  | rejected nsp0 s1 o1 nspX k c hp hw hf hl hsuf hh hR => exact ⟨nsp0, hp, by simpa [hf, hl, hsuf, hh] using hR⟩
  | accepted nsp0 s1 o1 nspF k s' n' q w plan run =>
    exact ⟨nsp0, plan.pending, by simpa [plan.strip, plan.look, plan.suff, plan.head] using ⟨w, plan.written, run⟩⟩

theorem memberResult_unique {s : State} {x acc : List Nat} {R1 R2 : Run} (h1 : memberResult s x acc R1)
    (h2 : memberResult s x acc R2) : ObsEq R1 R2 := by
  obtain ⟨n1, hp1, h1⟩ := h1
  obtain ⟨n2, hp2, h2⟩ := h2
  rw [hp1, Option.some.injEq] at hp2
  subst hp2
  cases hf : flushPreviousStream s [] 1 with
  | panic t => rw [hf] at h1; exact h1.elim
  | ok fr =>
    obtain ⟨s1, o1, code⟩ := fr
    rw [hf] at h1 h2
    dsimp only at h1 h2
    by_cases hc : code = NOT_CRAFTED_FOR_APPEND
    · rw [if_pos hc] at h1 h2; exact ObsEq.of_eq (h1.trans h2.symm)
    rw [if_neg hc] at h1 h2
    cases hl : headerLoop n1 x 0 with
    | panic t => rw [hl] at h1; exact h1.elim
    | ok lr =>
      obtain ⟨nspX, k⟩ := lr
      rw [hl] at h1 h2
      dsimp only at h1 h2
      by_cases hs : nspX.sufficient = false
      · rw [if_pos hs] at h1 h2; exact ObsEq.of_eq (h1.trans h2.symm)
      rw [if_neg hs] at h1 h2
      cases hh : shiftHead { s1 with new_stream_pending := some nspX } nspX with
      | panic t => rw [hh] at h1; exact h1.elim
      | ok hd =>
        rw [hh] at h1 h2
        cases hd with
        | inl c => exact ObsEq.of_eq (h1.trans h2.symm)
        | inr t =>
          obtain ⟨s', n', q⟩ := t
          obtain ⟨w1, hw1, r1⟩ := h1
          obtain ⟨w2, hw2, r2⟩ := h2
          rw [hw1, Option.some.injEq] at hw2
          subst hw2
          exact (memberRun_iff.mp r1).unique (memberRun_iff.mp r2)

/-- a member has been announced and its header not yet decided: the look-ahead is being filled, nothing of it written
(the complement of `Settled` on the states of the protocol) -/
def HeaderPhase (s : State) : Prop :=
  ∃ nsp0, s.new_stream_pending = some nsp0 ∧ nsp0.num_bytes_written = none

/-- what a complete run over the input `x` from `s` gives, by the phase `s` is in; either way capacity-free, hence
`Result.unique` -/
structure Result (s : State) (x acc : List Nat) (R : Run) : Prop where
  settled : Settled s → RunCons s x acc R
  header : HeaderPhase s → memberResult s x acc R

theorem Result.unique {s : State} {x acc : List Nat} {R1 R2 : Run} (h1 : Result s x acc R1) (h2 : Result s x acc R2)
    (hph : Settled s ∨ HeaderPhase s) : ObsEq R1 R2 :=
  hph.elim (fun hs => (runCons_iff.mp (h1.settled hs)).unique (runCons_iff.mp (h2.settled hs)))
    fun hh => memberResult_unique (h1.header hh) (h2.header hh)

/-- the states the protocol of the API reaches: the invariant, a member announced, and one of the two phases -/
structure Proto (s : State) : Prop where
  inv : Inv s
  started : Started s
  phase : Settled s ∨ HeaderPhase s

theorem not_header_of_settled {s : State} (h : Settled s) : ¬ HeaderPhase s := by
  rintro ⟨n, hp, hw⟩
  rcases h with e | ⟨d, w, hp', hw', _⟩
  · rw [hp] at e; cases e
  · rw [hp, Option.some.injEq] at hp'; subst hp'; rw [hw] at hw'; cases hw'

theorem stream_memberResult (s : State) (x acc : List Nat) (cap : Nat) (r : Ret) (hI : Inv s) (hS : Started s)
    (hph : HeaderPhase s) (h : stream s x cap = ok r) :
    Proto r.st ∧ Carries Result (memberResult s x acc) x acc r := by
  have hpost := stream_sat s x cap hI hS
  rw [h, sat_ok] at hpost
  obtain ⟨nsp0, hp, hw⟩ := hph
  -- a call that found no room for the strip changed nothing
  have stalled : r = ⟨s, NEEDS_MORE_OUTPUT, 0, []⟩ → Proto r.st ∧ Carries Result (memberResult s x acc) x acc r := by
    intro hr
    subst hr
    exact ⟨⟨hI, hS, Or.inr ⟨nsp0, hp, hw⟩⟩, .goesOn (by simp [isTerminal, NEEDS_MORE_OUTPUT, NEEDS_MORE_INPUT])
      fun R hR => by simpa using hR.header ⟨nsp0, hp, hw⟩⟩
  obtain ⟨fr, hfeq, hfp, hI1⟩ := sat_iff.mp (flush_inv s [] 1 hI (Nat.zero_le _) (by rw [hp]; rfl))
  obtain ⟨s1, o1, code⟩ := fr
  dsimp only at hI1
  rcases hfp.code with c0 | c2 | c124
  · dsimp only at c0; subst c0
    obtain ⟨hr50, _⟩ := hI.pend nsp0 hp
    obtain ⟨lr, hleq, hls⟩ := sat_iff.mp (headerLoop_sat x nsp0 0 hr50)
    obtain ⟨nspX, k⟩ := lr
    rcases header_call_prefix s x nsp0 s1 o1 nspX k hp hw hfeq hleq hI cap r h with
      hr | ⟨hI2, hsan1, hole, hwX, hr5X, hkx, hkall, hr⟩
    · exact stalled hr
    cases hsf : nspX.sufficient with
    | false =>
      rw [if_pos hsf] at hr
      cases hr
      exact ⟨⟨hI2, fun _ => rfl, Or.inr ⟨nspX, rfl, hwX⟩⟩, .ends (Or.inr ⟨rfl, by simp [hkall hsf]⟩)
        ⟨nsp0, hp, by simp [hfeq, hleq, hsf]⟩⟩
    | true =>
      rw [if_neg (by rw [hsf]; simp)] at hr
      have hsat := shiftHead_sat { s1 with new_stream_pending := some nspX } nspX hI2 hr5X hsf
      by_cases hfull : cap = o1.length
      · -- strip and look-ahead done, no room for the header: the same member, `k` bytes later
        rw [if_pos hfull] at hr
        cases hr
        refine ⟨⟨hI2, fun _ => rfl, Or.inr ⟨nspX, rfl, hwX⟩⟩,
          .goesOn (by simp [isTerminal, NEEDS_MORE_OUTPUT, NEEDS_MORE_INPUT]) fun R hR => ?_⟩
        obtain ⟨n2, hp2, hm⟩ := hR.header ⟨nspX, rfl, hwX⟩
        simp only [Option.some.injEq] at hp2
        subst hp2
        refine ⟨nsp0, hp, ?_⟩
        have hne : ¬ SUCCESS = NOT_CRAFTED_FOR_APPEND := by decide
        rw [flush_sanitized _ [] 1 (show ({ s1 with new_stream_pending := some nspX } : State).last_byte_sanitized = true
          from hsan1)] at hm
        simp only [headerLoop_sufficient _ hsf, hsf, hfeq, hleq, if_neg hne, Bool.true_eq_false, ↓reduceIte,
          List.append_nil] at hm ⊢
        cases hh : shiftHead { s1 with new_stream_pending := some nspX } nspX with
        | panic t => rw [hh] at hsat; simp at hsat
        | ok hd =>
          simp only [hh] at hm ⊢
          cases hd with
          | inl c => simpa using hm
          | inr t =>
            obtain ⟨w, hw', run⟩ := hm
            exact ⟨w, hw', by rw [run.cons]; unfold planOwed; simp [List.append_assoc], run.code, run.pending,
              by rw [run.len]; simp, run.inv, run.ws⟩
      rw [if_neg hfull] at hr
      have hlt : o1.length < cap := by omega
      cases hh : shiftHead { s1 with new_stream_pending := some nspX } nspX with
      | panic t => rw [hh] at hsat; simp at hsat
      | ok hd =>
        cases hd with
        | inl c =>
          have hcode : c = INVALID_WINDOW_SIZE ∨ c = WINDOW_SIZE_LARGER ∨ c = NOT_CRAFTED_FOR_CONCAT := by
            rwa [hh, sat_ok] at hsat
          rw [shiftAndCheck_factor _ nspX o1 _ hwX hlt, hh] at hr
          simp only [bind_ok, shiftFinish] at hr
          rw [if_pos (by rcases hcode with e | e | e <;> rw [e] <;> simp)] at hr
          cases hr
          exact ⟨⟨hI2, fun _ => rfl, Or.inr ⟨nspX, rfl, hwX⟩⟩,
            .ends (Or.inl (by show isTerminal c = true; rcases hcode with e | e | e <;> rw [e] <;> decide))
              ⟨nsp0, hp, by simp [hfeq, hleq, hsf, hh]⟩⟩
        | inr t =>
          obtain ⟨s', n', q⟩ := t
          rw [hh, sat_ok] at hsat
          obtain ⟨⟨ws, _, hs'⟩, ⟨w, hw', hwle⟩, hr5', hq1⟩ := hsat
          have fin : ∀ R, MemberRun acc o1 q n' w x k s' R → memberResult s x acc R := fun R run =>
            ⟨nsp0, hp, by simpa [hfeq, hleq, hsf, hh] using ⟨w, hw', run⟩⟩
          rw [shiftAndCheck_factor _ nspX o1 _ hwX hlt, hh] at hr
          simp only [bind_ok, shiftFinish] at hr
          have hm := copyOut_tail_moved s' n' w o1 q cap x k r hw' hwle hr5' (by rw [List.length_append, hq1]; omega)
            (Or.inl (fun e => by rw [e] at hq1; cases hq1)) (by rw [hs']; exact hsan1) (by simpa using hkx) hr
          rw [← List.append_assoc] at hm
          exact ⟨⟨hpost.inv, hpost.started, Or.inl hm.settled⟩, (hm.run hpost.inv acc).mono
            (fun R hR => hR.settled hm.settled) fun R h => fin R (memberRun_iff.mpr h)⟩
  · exact absurd (hfp.full c2) (by simp)
  · dsimp only at c124; subst c124
    rw [stream_flush_fail s s nsp0 x _ [] _ hp (flush_fail_any_cap s s1 o1 _ hI.len_le hfeq) (by decide)] at h
    cases h
    exact ⟨⟨hI, hS, Or.inr ⟨nsp0, hp, hw⟩⟩,
      .ends (Or.inl (by show isTerminal NOT_CRAFTED_FOR_APPEND = true; decide)) ⟨nsp0, hp, by simp [hfeq]⟩⟩

theorem stream_result (s : State) (x acc : List Nat) (cap : Nat) (r : Ret) (hJ : Proto s)
    (h : stream s x cap = ok r) : Proto r.st ∧ Carries Result (Result s x acc) x acc r := by
  obtain ⟨hI, hS, hset | hph⟩ := hJ
  · obtain ⟨hJr, this⟩ := stream_runCons s x acc cap r hI hS hset h
    exact ⟨⟨hJr.1, hJr.2.1, Or.inl hJr.2.2⟩, this.mono (fun R hR => hR.settled hJr.2.2) fun R h =>
      ⟨fun _ => h, fun hh => absurd hh (not_header_of_settled hset)⟩⟩
  · obtain ⟨hJr, this⟩ := stream_memberResult s x acc cap r hI hS hph h
    exact ⟨hJr, this.mono (fun _ h => h) fun R h => ⟨fun hs => absurd hph (not_header_of_settled hs), fun _ => h⟩⟩

theorem feedBuffer_result (fuel : Nat) (s : State) (x caps acc : List Nat) (R : Run) (hJ : Proto s)
    (h : feedBuffer fuel s x caps acc = some R) :
    Result s x acc R ∧ Proto R.st ∧ (isTerminal R.code = true ∨ R.code = NEEDS_MORE_INPUT) :=
  feedBuffer_induct (J := Proto) (Φ := Result) stream_result fuel s x caps acc R hJ h

theorem memberSpec_of_result {s : State} {x acc : List Nat} {R : Run} (hI : Inv s) (hph : HeaderPhase s)
    (h : memberResult s x acc R) : MemberSpec s x acc R := by
  obtain ⟨nsp0, hp, hm⟩ := h
  obtain ⟨n', hp', hw⟩ := hph
  rw [hp, Option.some.injEq] at hp'
  subst hp'
  obtain ⟨fr, hf, hfp, _⟩ := sat_iff.mp (flush_inv s [] 1 hI (Nat.zero_le _) (by rw [hp]; rfl))
  obtain ⟨s1, o1, code⟩ := fr
  rw [hf] at hm
  dsimp only at hm
  rcases hfp.code with c | c | c
  · dsimp only at c; subst c
    rw [if_neg (by decide)] at hm
    cases hl : headerLoop nsp0 x 0 with
    | panic t => rw [hl] at hm; exact hm.elim
    | ok lr =>
      obtain ⟨nspX, k⟩ := lr
      rw [hl] at hm
      dsimp only at hm
      cases hsf : nspX.sufficient with
      | false => rw [if_pos hsf] at hm; exact .partly nsp0 s1 o1 nspX k hp hw hf hl hsf hm
      | true =>
        rw [if_neg (by rw [hsf]; simp)] at hm
        cases hh : shiftHead { s1 with new_stream_pending := some nspX } nspX with
        | panic t => rw [hh] at hm; exact hm.elim
        | ok hd =>
          rw [hh] at hm
          cases hd with
          | inl c => exact .rejected nsp0 s1 o1 nspX k c hp hw hf hl hsf hh hm
          | inr t =>
            obtain ⟨s', n', q⟩ := t
            obtain ⟨w, hw', run⟩ := hm
            exact .accepted nsp0 s1 o1 nspX k s' n' q w ⟨hp, hw, hf, hl, hsf, hh, hw'⟩ run
  · exact absurd (hfp.full c) (by simp)
  · dsimp only at c; subst c
    rw [if_pos rfl] at hm
    exact .failed nsp0 s1 o1 hp hw hf hm

theorem headerLoop_extend_suff (nsp0 nspX : NewStreamData) (b y : List Nat) (k : Nat)
    (hl : headerLoop nsp0 b 0 = ok (nspX, k)) (hs : nspX.sufficient = true) :
    headerLoop nsp0 (b ++ y) 0 = ok (nspX, k) := by
  rw [headerLoop_append, hl]
  simp only [bind_ok]
  exact headerLoop_sufficient nspX hs y k

theorem headerLoop_extend (nsp0 nspA nspY : NewStreamData) (b y : List Nat) (j : Nat)
    (hl : headerLoop nsp0 b 0 = ok (nspA, b.length)) (hl' : headerLoop nspA y 0 = ok (nspY, j)) :
    headerLoop nsp0 (b ++ y) 0 = ok (nspY, b.length + j) := by
  rw [headerLoop_append, hl]
  simp only [bind_ok]
  have := headerLoop_offset y nspA b.length 0
  rw [Nat.add_zero] at this
  rw [this, hl']
  rfl

theorem spec_after_partial (s s1 : State) (o1 : List Nat) (nsp0 nspA : NewStreamData) (b y acc : List Nat) (R : Run)
    (hp : s.new_stream_pending = some nsp0) (hw : nsp0.num_bytes_written = none)
    (hf : flushPreviousStream s [] 1 = ok (s1, o1, SUCCESS)) (hsan1 : s1.last_byte_sanitized = true)
    (hl : headerLoop nsp0 b 0 = ok (nspA, b.length))
    (h : MemberSpec { s1 with new_stream_pending := some nspA } y (acc ++ o1) R) :
    MemberSpec s (b ++ y) acc R := by
  have hfA := flush_sanitized { s1 with new_stream_pending := some nspA } [] 1 hsan1
  cases h with
  | failed nsp0' s1' o1' hp' hw' hf' hR => rw [hfA] at hf'; simp at hf'
  | partly nsp0' s1' o1' nspY j hp' hw' hf' hl' hins hR =>
    simp only [Option.some.injEq] at hp'; subst hp'
    rw [hfA] at hf'; simp only [Outcome.ok.injEq, Prod.mk.injEq] at hf'; obtain ⟨rfl, rfl, _⟩ := hf'
    exact MemberSpec.partly nsp0 s1 o1 nspY (b.length + j) hp hw hf (headerLoop_extend _ _ _ _ _ _ hl hl') hins
      (by rw [hR]; simp)
  | rejected nsp0' s1' o1' nspY j c hp' hw' hf' hl' hsuf hh hR =>
    simp only [Option.some.injEq] at hp'; subst hp'
    rw [hfA] at hf'; simp only [Outcome.ok.injEq, Prod.mk.injEq] at hf'; obtain ⟨rfl, rfl, _⟩ := hf'
    exact MemberSpec.rejected nsp0 s1 o1 nspY (b.length + j) c hp hw hf (headerLoop_extend _ _ _ _ _ _ hl hl') hsuf hh
      (by rw [hR]; simp)
  | accepted nsp0' s1' o1' nspF j s' n' q w plan run =>
    have hp' := plan.pending
    simp only [Option.some.injEq] at hp'; subst hp'
    have hf' := plan.strip
    rw [hfA] at hf'; simp only [Outcome.ok.injEq, Prod.mk.injEq] at hf'; obtain ⟨rfl, rfl, _⟩ := hf'
    refine MemberSpec.accepted nsp0 s1 o1 nspF (b.length + j) s' n' q w
      ⟨hp, hw, hf, headerLoop_extend _ _ _ _ _ _ hl plan.look, plan.suff, plan.head, plan.written⟩
      ⟨?_, run.code, run.pending, ?_, run.inv, run.ws⟩
    · rw [run.cons]; unfold planOwed; rw [List.drop_append]; simp [List.append_assoc]
    · rw [run.len]; simp only [List.length_append]; congr 2; omega

theorem spec_after_accept (s : State) (b fl acc : List Nat) (r R : Run) (nsp0 : NewStreamData) (s1 : State)
    (o1 : List Nat) (nspF : NewStreamData) (k : Nat) (s' : State) (n' : NewStreamData) (q : List Nat) (w : Nat)
    (plan : HdrPlan s b nsp0 s1 o1 nspF k s' n' q w) (hk : k ≤ b.length)
    (run : MemberRun acc o1 q n' w b k s' r) (hR : RunCons r.st fl r.emitted R) :
    MemberSpec s (b ++ fl) acc R := by
  refine MemberSpec.accepted nsp0 s1 o1 nspF k s' n' q w
    ⟨plan.pending, plan.fresh, plan.strip, headerLoop_extend_suff _ _ _ _ _ plan.look plan.suff, plan.suff,
      plan.head, plan.written⟩
    ⟨?_, hR.code, hR.pending, ?_, hR.inv, by rw [hR.ws, run.ws]⟩
  · rw [hR.cons, run.cons]
    unfold planOwed
    rw [List.drop_append_of_le_length hk]
    simp [List.append_assoc]
  · rw [hR.len]
    have hb : baseLen r.st = r.st.last_bytes_len := by unfold baseLen; rw [run.pending]
    rw [hb, run.len]
    simp only [List.length_append]
    omega

theorem Result.absorb {s : State} {b acc : List Nat} {r : Run} (h : Result s b acc r) (hJ : Proto s)
    (ht : isTerminal r.code = true) (y : List Nat) : Result s (b ++ y) acc r := by
  refine ⟨fun hs => ?_, fun hph => memberResult_of_spec ?_⟩
  · have := (h.settled hs).code; rw [this] at ht; exact absurd ht (by decide)
  · cases memberSpec_of_result hJ.inv hph (h.header hph) with
    | failed nsp0 s1 o1 hp hw hfl hR => exact .failed nsp0 s1 o1 hp hw hfl hR
    | rejected nsp0 s1 o1 nspX k c hp hw hfl hl hsuf hh hR =>
      exact .rejected nsp0 s1 o1 nspX k c hp hw hfl (headerLoop_extend_suff _ _ _ _ _ hl hsuf) hsuf hh hR
    | partly nsp0 s1 o1 nspA k hp hw hfl hl hins hR => rw [hR] at ht; dsimp only at ht; exact absurd ht (by decide)
    | accepted nsp0 s1 o1 nspF k s' n' q w plan run => rw [run.code] at ht; exact absurd ht (by decide)

theorem Result.append {s : State} {b y acc : List Nat} {r R : Run} (h : Result s b acc r) (hJ : Proto s)
    (hIr : Inv r.st) (hn : r.code = NEEDS_MORE_INPUT) (hR : Result r.st y r.emitted R) : Result s (b ++ y) acc R := by
  obtain ⟨hI, hS, _⟩ := hJ
  refine ⟨fun hs => ?_, fun hph => memberResult_of_spec ?_⟩
  · have hr := h.settled hs
    have hR := hR.settled (Or.inl hr.pending)
    refine ⟨?_, hR.code, hR.pending, ?_, hR.inv, by rw [hR.ws, hr.ws]⟩
    · rw [hR.cons, hr.cons]; simp [List.append_assoc]
    · rw [hR.len]
      have hb : baseLen r.st = r.st.last_bytes_len := by unfold baseLen; rw [hr.pending]
      rw [hb, hr.len, List.length_append]
      omega
  · cases memberSpec_of_result hI hph (h.header hph) with
    | failed nsp0 s1 o1 hp hw hfl hr => rw [hr] at hn; dsimp only at hn; exact absurd hn (by decide)
    | rejected nsp0 s1 o1 nspX k c hp hw hfl hl hsuf hh hr =>
      rw [hr] at hn
      dsimp only at hn
      rw [hr] at hIr
      have := shiftHead_sat _ nspX hIr (hIr.pend nspX rfl).1 hsuf
      rw [hh, sat_ok] at this
      rcases this with e | e | e <;> rw [e] at hn <;> exact absurd hn (by decide)
    | partly nsp0 s1 o1 nspA k hp hw hfl hl hins hr =>
      obtain ⟨hfp, hI1⟩ : FlushPost s [] 1 (s1, o1, SUCCESS) ∧ Inv s1 := by
        have := flush_inv s [] 1 hI (Nat.zero_le _) (by rw [hp]; rfl)
        rwa [hfl, sat_ok] at this
      have hls := headerLoop_sat b nsp0 0 (hI.pend nsp0 hp).1
      rw [hl, sat_ok] at hls
      have hk : k = b.length := by
        rcases hls.done with e | e
        · rw [hins] at e; cases e
        · simpa using e
      subst hk
      have hwA : nspA.num_bytes_written = none := by rw [hls.written]; exact hw
      have hIA : Inv { s1 with new_stream_pending := some nspA } :=
        hI1.with_pending nspA hls.read_le hwA
      rw [hr] at hR
      exact spec_after_partial s s1 o1 nsp0 nspA b y acc R hp hw hfl (hfp.sanit rfl) hl
        (memberSpec_of_result hIA ⟨nspA, rfl, hwA⟩ (hR.header ⟨nspA, rfl, hwA⟩))
    | accepted nsp0 s1 o1 nspF k s' n' q w plan run =>
      have hls := headerLoop_sat b nsp0 0 (hI.pend nsp0 plan.pending).1
      rw [plan.look, sat_ok] at hls
      exact spec_after_accept s b y acc r R nsp0 s1 o1 nspF k s' n' q w plan (by simpa using hls.le) run
        (hR.settled (Or.inl run.pending))

theorem runAll_result (fuel : Nat) : ∀ (bufs : List (List Nat)) (s : State) (caps acc : List Nat) (R : Run),
    Proto s → bufs ≠ [] → runAll fuel s bufs caps acc = some R → Result s bufs.flatten acc R := by
  intro bufs
  induction bufs with
  | nil => intro s caps acc R _ hne; exact absurd rfl hne
  | cons b bs ih =>
    intro s caps acc R hJ _ h
    unfold runAll at h
    cases hf : feedBuffer fuel s b caps acc with
    | none => rw [hf] at h; simp at h
    | some r =>
      rw [hf] at h
      dsimp only at h
      obtain ⟨hr, hJr, hcode⟩ := feedBuffer_result fuel s b caps acc r hJ hf
      rw [List.flatten_cons]
      by_cases ht : isTerminal r.code = true
      · rw [if_pos ht] at h; cases h
        exact hr.absorb hJ ht _
      · rw [if_neg ht] at h
        have hn : r.code = NEEDS_MORE_INPUT := hcode.resolve_left ht
        cases bs with
        | nil =>
          simp only [runAll, Option.some.injEq] at h
          subst h
          rw [List.flatten_nil, List.append_nil, ← hn]
          exact hr
        | cons b2 bs2 => exact hr.append hJ hJr.inv hn (ih r.st [] r.emitted R hJr (by simp) h)

end BV.Concat
