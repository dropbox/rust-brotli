/-
C11, writer half: `CompressorWriterCustomIo::{write, flush_or_close, flush, into_inner}` and the
std layer, over an arbitrary encoder oracle and an arbitrary script of the wrapped writer.

`short_writes_transparent`, strong form: reference automata that talk to the encoder only, and the
proof that the writer over ANY fault-free script of the wrapped writer behaves exactly like them.
-/
import BV.Lemmas.AdaptersInner
import BV.Lemmas.AdaptersHyp
import BV.Lemmas.AdaptersLoop

namespace BV.Adapters
variable {σ : Type}

def Writer.armed (w : Writer σ) : Prop := w.errInvalid = true ∧ w.errZero = true

structure Writer.Reach (w w' : Writer σ) (newE : List ERec) (newL : List LogE) (p : Bytes) : Prop where
  bufSize : w'.bufSize = w.bufSize
  tail : w'.sink.tail = w.sink.tail
  fscript : w'.sink.fscript = w.sink.fscript
  elog : w'.elog = newE ++ w.elog
  log : w'.sink.log = newL ++ w.sink.log
  got : w'.sink.got = w.sink.got ++ p
  isPrefix : p <+: emitted newE

theorem Writer.Reach.refl (w : Writer σ) : Writer.Reach w w [] [] [] :=
  ⟨rfl, rfl, rfl, rfl, rfl, (List.append_nil _).symm, List.prefix_refl _⟩

theorem Writer.Reach.trans {w w1 w2 : Writer σ} {e1 e2 : List ERec} {l1 l2 : List LogE} {p1 p2 : Bytes}
    (h1 : Writer.Reach w w1 e1 l1 p1) (hp : p1 = emitted e1) (h2 : Writer.Reach w1 w2 e2 l2 p2) :
    Writer.Reach w w2 (e2 ++ e1) (l2 ++ l1) (p1 ++ p2) :=
  ⟨h2.bufSize.trans h1.bufSize, h2.tail.trans h1.tail, h2.fscript.trans h1.fscript,
    by rw [h2.elog, h1.elog, List.append_assoc], by rw [h2.log, h1.log, List.append_assoc],
    by rw [h2.got, h1.got, List.append_assoc],
    by rw [emitted_append, hp]; exact (List.prefix_append_right_inj _).mpr h2.isPrefix⟩

theorem Writer.Reach.disarm {w w' : Writer σ} {e : List ERec} {l : List LogE} {p : Bytes}
    (h : Writer.Reach w w' e l p) : Writer.Reach w { w' with errInvalid := false } e l p :=
  ⟨h.bufSize, h.tail, h.fscript, h.elog, h.log, h.got, h.isPrefix⟩

theorem emitted_single (op : Op) (input : Bytes) (cap : Nat) (ans : EncAns) (more fin : Bool) :
    emitted [⟨op, input, cap, ans, more, fin⟩] = ans.produced := by simp [emitted]

theorem fed_single (op : Op) (input : Bytes) (cap : Nat) (ans : EncAns) (more fin : Bool) :
    fed [⟨op, input, cap, ans, more, fin⟩] = input.take ans.consumed := by simp [fed]

/-- `w'`, `ans`, `r` is what `encodeAndHandOver` answers from `w`: the encoder's answer `ans` stayed within its slices,
and `write_all` handed `p` of its output over in the calls `new` -/
structure Writer.HandedOver (E : Enc σ) (op : Op) (input : Bytes) (w w' : Writer σ) (ans : EncAns) (r : Except Err Unit)
    (new : List LogE) (p : Bytes) : Prop where
  enc : w'.enc = (E.step w.enc op input w.bufSize).1
  ansEq : ans = (E.step w.enc op input w.bufSize).2
  consumed : ans.consumed ≤ input.length
  produced : ans.produced.length ≤ w.bufSize
  reach : Writer.Reach w w' [⟨op, input, w.bufSize, ans, E.hasMore w'.enc, E.isFinished w'.enc⟩] new p
  ok : r = .ok () → (w.errZero = true ∨ w.errInvalid = true) →
    p = ans.produced ∧ (∀ e ∈ new, e.faulty = false) ∧ w'.errZero = w.errZero ∧ w'.errInvalid = w.errInvalid

theorem encodeAndHandOver_spec (E : Enc σ) (w w' : Writer σ) (op : Op) (input : Bytes) (ans : EncAns)
    (r : Except Err Unit) (h : w.encodeAndHandOver E op input = some (w', ans, r)) :
    ∃ (new : List LogE) (p : Bytes), Writer.HandedOver E op input w w' ans r new p := by
  unfold Writer.encodeAndHandOver at h
  simp only at h
  split at h
  · cases h
  · next hsane =>
    have hs1 : (E.step w.enc op input w.bufSize).2.consumed ≤ input.length := Nat.le_of_not_lt (not_or.mp hsane).1
    have hs2 : (E.step w.enc op input w.bufSize).2.produced.length ≤ w.bufSize := Nat.le_of_not_lt (not_or.mp hsane).2
    split at h
    · next hpos =>
      obtain ⟨new, p, hD, hok⟩ :=
        writeAll_spec w.errZero w.errInvalid w.sink (E.step w.enc op input w.bufSize).2.produced
      generalize hwa : writeAll w.errZero w.errInvalid w.sink (E.step w.enc op input w.bufSize).2.produced = wa at h hD hok
      obtain ⟨ez, ei, s', rr⟩ := wa
      cases h
      exact ⟨new, p, rfl, rfl, hs1, hs2,
        ⟨rfl, hD.tail, hD.fscript, rfl, hD.log, hD.got, by rw [emitted_single]; exact hD.isPrefix⟩, hok⟩
    · next hz =>
      cases h
      have hnil : (E.step w.enc op input w.bufSize).2.produced = [] :=
        List.eq_nil_of_length_eq_zero (Nat.eq_zero_of_not_pos hz)
      exact ⟨[], [], rfl, rfl, hs1, hs2, ⟨rfl, rfl, rfl, rfl, rfl, (List.append_nil _).symm, List.nil_prefix⟩,
        fun _ _ => ⟨hnil.symm, by simp, rfl, rfl⟩⟩

theorem encodeAndHandOver_some (E : Enc σ) (hs : EncSane E) (w : Writer σ) (op : Op) (input : Bytes) :
    ∃ x, w.encodeAndHandOver E op input = some x := by
  unfold Writer.encodeAndHandOver
  simp only
  have h1 := hs.consumed_le w.enc op input w.bufSize
  have h2 := hs.produced_le w.enc op input w.bufSize
  split
  · next h => rcases h with h | h
              · exact absurd h (Nat.not_lt.mpr h1)
              · exact absurd h (Nat.not_lt.mpr h2)
  · split
    · exact ⟨_, rfl⟩
    · exact ⟨_, rfl⟩

section
variable {S R : Type}

/-- the part of the loop body that `write` and `flush_or_close` share; `k`: how to go on after an accepted call -/
def Writer.callTurn (E : Enc σ) (op : Op) (input : Bytes) (w : Writer σ)
    (k : Writer σ → EncAns → Turn S (Writer σ × Out (Except Err R))) : Turn S (Writer σ × Out (Except Err R)) :=
  match w.encodeAndHandOver E op input with
  | none => .stop (w, .panic)
  | some (w', _, .error e) => .stop (w', .done (.error e))
  | some (w', ans, .ok ()) =>
    if !ans.ok then
      if w'.errInvalid then .stop ({ w' with errInvalid := false }, .done (.error .invalidData))
      else .stop (w', .panic)
    else k w' ans

variable (E : Enc σ) (op : Op) (input : Bytes) (w : Writer σ)
  (k : Writer σ → EncAns → Turn S (Writer σ × Out (Except Err R)))

theorem Writer.callTurn_none (hE : w.encodeAndHandOver E op input = none) :
    Writer.callTurn E op input w k = .stop (w, .panic) := by
  unfold Writer.callTurn; rw [hE]

theorem Writer.callTurn_error {w' : Writer σ} {ans : EncAns} {e : Err}
    (hE : w.encodeAndHandOver E op input = some (w', ans, .error e)) :
    Writer.callTurn E op input w k = .stop (w', .done (.error e)) := by
  unfold Writer.callTurn; rw [hE]

theorem Writer.callTurn_ok {w' : Writer σ} {ans : EncAns}
    (hE : w.encodeAndHandOver E op input = some (w', ans, .ok ())) :
    Writer.callTurn E op input w k =
      if !ans.ok then
        if w'.errInvalid then .stop ({ w' with errInvalid := false }, .done (.error .invalidData))
        else .stop (w', .panic)
      else k w' ans := by
  unfold Writer.callTurn; rw [hE]

structure Writer.CallStopped (E : Enc σ) (w w' : Writer σ) (o : Out (Except Err R)) : Prop where
  live : o ≠ .livelock
  notOk : ∀ r, o ≠ .done (.ok r)
  noPanic : w.armed → EncSane E → o ≠ .panic
  reach : w.armed → ∃ newE newL p, Writer.Reach w w' newE newL p

structure Writer.CallAccepted (E : Enc σ) (op : Op) (input : Bytes) (w w' : Writer σ) (newL : List LogE) : Prop where
  ok : (E.step w.enc op input w.bufSize).2.ok = true
  enc : w'.enc = (E.step w.enc op input w.bufSize).1
  bufSize : w'.bufSize = w.bufSize
  consumed : (E.step w.enc op input w.bufSize).2.consumed ≤ input.length
  armed : w.armed → w'.armed
  clean : w.armed → ∀ e ∈ newL, e.faulty = false
  reach : w.armed → Writer.Reach w w' [⟨op, input, w.bufSize, (E.step w.enc op input w.bufSize).2,
    E.hasMore (E.step w.enc op input w.bufSize).1, E.isFinished (E.step w.enc op input w.bufSize).1⟩] newL
    (E.step w.enc op input w.bufSize).2.produced

theorem Writer.callTurn_cases :
    (∃ (w' : Writer σ) (o : Out (Except Err R)),
      Writer.callTurn E op input w k = .stop (w', o) ∧ Writer.CallStopped E w w' o) ∨
    (∃ (w' : Writer σ) (newL : List LogE),
      Writer.callTurn E op input w k = k w' (E.step w.enc op input w.bufSize).2 ∧
      Writer.CallAccepted E op input w w' newL) := by
  cases hE : w.encodeAndHandOver E op input with
  | none =>
    refine Or.inl ⟨w, .panic, Writer.callTurn_none E op input w k hE, by simp, by simp,
      fun _ hs => ?_, fun _ => ⟨[], [], [], Writer.Reach.refl w⟩⟩
    obtain ⟨x, hx⟩ := encodeAndHandOver_some E hs w op input
    rw [hx] at hE; cases hE
  | some x =>
    obtain ⟨w1, ans, r⟩ := x
    obtain ⟨new, p, hH⟩ := encodeAndHandOver_spec E w w1 op input ans r hE
    have hR := hH.reach
    have e1 := hH.enc
    have e5 := hH.consumed
    have hok1 := hH.ok
    obtain rfl := hH.ansEq
    cases r with
    | error e =>
      exact Or.inl ⟨w1, _, Writer.callTurn_error E op input w k hE, by simp, by simp,
        fun _ _ => by simp, fun _ => ⟨_, new, p, hR⟩⟩
    | ok u =>
      cases u
      have harm1 : w.armed → p = (E.step w.enc op input w.bufSize).2.produced ∧ (∀ e ∈ new, e.faulty = false) ∧ w1.armed :=
        fun harm => by
          obtain ⟨hall, hclean, hez, hei⟩ := hok1 rfl (Or.inl harm.2)
          exact ⟨hall, hclean, hei.trans harm.1, hez.trans harm.2⟩
      by_cases hok : (E.step w.enc op input w.bufSize).2.ok = true
      · refine Or.inr ⟨w1, new, by rw [Writer.callTurn_ok E op input w k hE]; simp [hok], hok, e1, hR.bufSize, e5,
          fun harm => (harm1 harm).2.2, fun harm => (harm1 harm).2.1, fun harm => ?_⟩
        rw [e1, (harm1 harm).1] at hR
        exact hR
      · have hok' : (E.step w.enc op input w.bufSize).2.ok = false := by simpa using hok
        by_cases hi : w1.errInvalid = true
        · exact Or.inl ⟨{ w1 with errInvalid := false }, .done (.error .invalidData),
            by rw [Writer.callTurn_ok E op input w k hE]; simp [hok', hi], by simp, by simp,
            fun _ _ => by simp, fun _ => ⟨_, new, p, hR.disarm⟩⟩
        · exact Or.inl ⟨w1, .panic, by rw [Writer.callTurn_ok E op input w k hE]; simp [hok', hi], by simp, by simp,
            fun harm => absurd (harm1 harm).2.2.1 hi, fun harm => absurd (harm1 harm).2.2.1 hi⟩

end

def Writer.writeTurn (E : Enc σ) (n : Nat) (s : Writer σ × Bytes) :
    Turn (Writer σ × Bytes) (Writer σ × Out (Except Err Nat)) :=
  if s.2.length = 0 then .stop (s.1, .done (.ok n))
  else Writer.callTurn E .process s.2 s.1 (fun w' ans => .next (w', s.2.drop ans.consumed))

theorem writeLoop_fuelLoop (E : Enc σ) (n : Nat) :
    FuelLoop (fun fuel (s : Writer σ × Bytes) => Writer.writeLoop E n fuel s.1 s.2)
      (fun s t => Writer.writeTurn E n s = .stop t) (fun s s' => Writer.writeTurn E n s = .next s')
      (fun s => (s.1, .livelock)) := by
  refine FuelLoop.ofTurn _ (fun _ => rfl) (fun fuel s => ?_)
  obtain ⟨w, rest⟩ := s
  simp only [Writer.writeLoop, Writer.writeTurn]
  split
  · rfl
  · cases hE : w.encodeAndHandOver E .process rest with
    | none => rw [Writer.callTurn_none _ _ _ _ _ hE]
    | some x =>
      obtain ⟨w1, ans, r⟩ := x
      cases r with
      | error e => rw [Writer.callTurn_error _ _ _ _ _ hE]
      | ok u =>
        cases u
        rw [Writer.callTurn_ok _ _ _ _ _ hE]
        dsimp only
        split
        · split <;> rfl
        · rfl

structure Writer.ReturnedOk (op : Op) (w w' : Writer σ) (rest : Bytes) (newE : List ERec) (newL : List LogE) (p : Bytes) :
    Prop where
  armed : w'.armed
  handedAll : p = emitted newE
  fedAll : fed newE = rest
  clean : ∀ e ∈ newL, e.faulty = false
  calls : ∀ r ∈ newE, r.op = op ∧ r.ans.ok = true ∧ r.cap = w.bufSize

theorem Writer.ReturnedOk.cons {E : Enc σ} {op : Op} {input rest : Bytes} {w w1 w' : Writer σ} {newE : List ERec}
    {newL newL0 : List LogE} {p : Bytes} (hA : Writer.CallAccepted E op input w w1 newL0) (harm : w.armed)
    (q : Writer.ReturnedOk op w1 w' rest newE newL p) :
    Writer.ReturnedOk op w w' (input.take (E.step w.enc op input w.bufSize).2.consumed ++ rest)
      (newE ++ [⟨op, input, w.bufSize, (E.step w.enc op input w.bufSize).2,
        E.hasMore (E.step w.enc op input w.bufSize).1, E.isFinished (E.step w.enc op input w.bufSize).1⟩])
      (newL ++ newL0) ((E.step w.enc op input w.bufSize).2.produced ++ p) :=
  ⟨q.armed, by rw [q.handedAll, emitted_append, emitted_single], by rw [fed_append, q.fedAll, fed_single],
    List.forall_mem_append.mpr ⟨q.clean, hA.clean harm⟩,
    List.forall_mem_append.mpr ⟨hA.bufSize ▸ q.calls, List.forall_mem_singleton.mpr ⟨rfl, hA.ok, rfl⟩⟩⟩

structure Writer.WriteOut (E : Enc σ) (n : Nat) (w : Writer σ) (rest : Bytes) (t : Writer σ × Out (Except Err Nat))
    (newE : List ERec) (newL : List LogE) (p : Bytes) : Prop where
  reach : Writer.Reach w t.1 newE newL p
  noPanic : EncSane E → t.2 ≠ .panic
  ok : ∀ m, t.2 = .done (.ok m) → m = n ∧ Writer.ReturnedOk .process w t.1 rest newE newL p

theorem writeLoop_spec (E : Enc σ) (n fuel : Nat) (w : Writer σ) (rest : Bytes) (harm : w.armed) :
    ∃ newE newL p, Writer.WriteOut E n w rest (Writer.writeLoop E n fuel w rest) newE newL p :=
  (writeLoop_fuelLoop E n).rule (I := fun s => s.1.armed)
    (Q := fun s t => ∃ newE newL p, Writer.WriteOut E n s.1 s.2 t newE newL p)
    (fun s _ => ⟨[], [], [], Writer.Reach.refl _, fun _ => by simp, fun m h => by cases h⟩)
    (fun s t harm ht => by
      unfold Writer.writeTurn at ht
      split at ht
      · next hz =>
        cases ht
        exact ⟨[], [], [], Writer.Reach.refl _, fun _ => by simp, fun m h => by
          cases h; exact ⟨rfl, harm, rfl, (List.eq_nil_of_length_eq_zero hz).symm, by simp, by simp⟩⟩
      · rcases Writer.callTurn_cases E .process s.2 s.1 _ with ⟨w', o, hc, hS⟩ | ⟨w', newL, hc, _⟩
        · rw [hc] at ht; cases ht
          obtain ⟨newE, newL, p, hR⟩ := hS.reach harm
          exact ⟨newE, newL, p, hR, hS.noPanic harm, fun m h => absurd h (hS.notOk m)⟩
        · rw [hc] at ht; cases ht)
    (fun s s' harm hn => by
      unfold Writer.writeTurn at hn
      split at hn
      · cases hn
      · rcases Writer.callTurn_cases E .process s.2 s.1 _ with ⟨w', o, hc, _⟩ | ⟨w', newL0, hc, hA⟩
        · rw [hc] at hn; cases hn
        · rw [hc] at hn; cases hn
          refine ⟨hA.armed harm, fun t ⟨newE, newL, p, q⟩ =>
            ⟨_, _, _, (hA.reach harm).trans (emitted_single ..).symm q.reach, q.noPanic, fun m hm => ?_⟩⟩
          have := (q.ok m hm).2.cons hA harm
          rw [List.take_append_drop] at this
          exact ⟨(q.ok m hm).1, this⟩)
    fuel (w, rest) harm

theorem writeLoop_ok (E : Enc σ) (n fuel : Nat) (w w' : Writer σ) (rest : Bytes) (m : Nat) (harm : w.armed)
    (h : Writer.writeLoop E n fuel w rest = (w', .done (.ok m))) :
    m = n ∧ ∃ (newE : List ERec) (newL : List LogE),
      Writer.Reach w w' newE newL (emitted newE) ∧ Writer.ReturnedOk .process w w' rest newE newL (emitted newE) := by
  obtain ⟨newE, newL, p, q⟩ := writeLoop_spec E n fuel w rest harm
  rw [h] at q
  obtain ⟨q1, q2⟩ := q.ok m rfl
  have hR := q.reach
  rw [q2.handedAll] at hR q2
  exact ⟨q1, newE, newL, hR, q2⟩

def Writer.closeK (E : Enc σ) (op : Op) (w' : Writer σ) : Turn (Writer σ) (Writer σ × Out (Except Err Unit)) :=
  if op = .flush then (if E.hasMore w'.enc then .next w' else .stop (w', .done (.ok ())))
  else if E.isFinished w'.enc then .stop (w', .done (.ok ())) else .next w'

def Writer.closeTurn (E : Enc σ) (op : Op) (w : Writer σ) : Turn (Writer σ) (Writer σ × Out (Except Err Unit)) :=
  Writer.callTurn E op [] w (fun w' _ => Writer.closeK E op w')

theorem flushOrClose_fuelLoop (E : Enc σ) (op : Op) :
    FuelLoop (Writer.flushOrClose E op) (fun w t => Writer.closeTurn E op w = .stop t)
      (fun w w' => Writer.closeTurn E op w = .next w') (fun w => (w, .livelock)) := by
  refine FuelLoop.ofTurn _ (fun _ => rfl) (fun fuel w => ?_)
  simp only [Writer.flushOrClose, Writer.closeTurn, Writer.closeK]
  cases hE : w.encodeAndHandOver E op [] with
  | none => rw [Writer.callTurn_none _ _ _ _ _ hE]
  | some x =>
    obtain ⟨w1, ans, r⟩ := x
    cases r with
    | error e => rw [Writer.callTurn_error _ _ _ _ _ hE]
    | ok u =>
      cases u
      rw [Writer.callTurn_ok _ _ _ _ _ hE]
      dsimp only
      split
      · split <;> rfl
      · split
        · split <;> rfl
        · split <;> rfl

theorem Writer.closeK_cases (E : Enc σ) (op : Op) (w' : Writer σ) :
    (Writer.closeK E op w' = .next w' ∧
      ((op = .flush ∧ E.hasMore w'.enc = true) ∨ (op ≠ .flush ∧ E.isFinished w'.enc = false))) ∨
    (Writer.closeK E op w' = .stop (w', .done (.ok ())) ∧
      (if op = .flush then E.hasMore w'.enc = false else E.isFinished w'.enc = true)) := by
  unfold Writer.closeK
  by_cases hop : op = .flush
  · subst hop
    cases hm : E.hasMore w'.enc
    · exact Or.inr ⟨by simp, by simp⟩
    · exact Or.inl ⟨by simp, Or.inl ⟨rfl, rfl⟩⟩
  · cases hf : E.isFinished w'.enc
    · exact Or.inl ⟨by simp [hop], Or.inr ⟨hop, rfl⟩⟩
    · exact Or.inr ⟨by simp [hop], by simp [hop]⟩

structure Writer.CloseOut (E : Enc σ) (op : Op) (w : Writer σ) (t : Writer σ × Out (Except Err Unit))
    (newE : List ERec) (newL : List LogE) (p : Bytes) : Prop where
  reach : Writer.Reach w t.1 newE newL p
  noPanic : EncSane E → t.2 ≠ .panic
  ok : t.2 = .done (.ok ()) → Writer.ReturnedOk op w t.1 [] newE newL p
  exit : t.2 = .done (.ok ()) → if op = .flush then E.hasMore t.1.enc = false else E.isFinished t.1.enc = true
  called : t.2 = .done (.ok ()) → newE ≠ []
  noInput : t.2 = .done (.ok ()) → ∀ r ∈ newE, r.input = []

theorem flushOrClose_spec (E : Enc σ) (op : Op) (fuel : Nat) (w : Writer σ) (harm : w.armed) :
    ∃ newE newL p, Writer.CloseOut E op w (Writer.flushOrClose E op fuel w) newE newL p :=
  (flushOrClose_fuelLoop E op).rule (I := Writer.armed) (Q := fun w t => ∃ newE newL p, Writer.CloseOut E op w t newE newL p)
    (fun w _ => ⟨[], [], [], Writer.Reach.refl _, fun _ => by simp, nofun, nofun, nofun, nofun⟩)
    (fun w t harm ht => by
      rcases Writer.callTurn_cases E op [] w _ with ⟨w', o, hc, hS⟩ | ⟨w', newL, hc, hA⟩
      · rw [Writer.closeTurn, hc] at ht; cases ht
        obtain ⟨newE, newL, p, hR⟩ := hS.reach harm
        exact ⟨newE, newL, p, hR, hS.noPanic harm, fun h => absurd h (hS.notOk ()), fun h => absurd h (hS.notOk ()),
          fun h => absurd h (hS.notOk ()), fun h => absurd h (hS.notOk ())⟩
      · rw [Writer.closeTurn, hc] at ht
        rcases Writer.closeK_cases E op w' with ⟨hk, _⟩ | ⟨hk, hex⟩
        · rw [hk] at ht; cases ht
        · rw [hk] at ht; cases ht
          refine ⟨_, newL, _, hA.reach harm, fun _ => by simp,
            fun _ => ⟨hA.armed harm, (emitted_single ..).symm, ?_, hA.clean harm, ?_⟩, fun _ => hex, fun _ => by simp,
            fun _ r hr => by cases List.mem_singleton.mp hr; rfl⟩
          · rw [fed_single, List.take_nil]
          · intro r hr; cases List.mem_singleton.mp hr; exact ⟨rfl, hA.ok, rfl⟩)
    (fun w w'' harm hn => by
      rcases Writer.callTurn_cases E op [] w _ with ⟨w', o, hc, _⟩ | ⟨w', newL0, hc, hA⟩
      · rw [Writer.closeTurn, hc] at hn; cases hn
      · rw [Writer.closeTurn, hc] at hn
        rcases Writer.closeK_cases E op w' with ⟨hk, _⟩ | ⟨hk, _⟩
        · rw [hk] at hn; cases hn
          refine ⟨hA.armed harm, fun t ⟨newE, newL, p, q⟩ =>
            ⟨_, _, _, (hA.reach harm).trans (emitted_single ..).symm q.reach, q.noPanic, fun hm => ?_, q.exit,
              fun _ => by simp, fun hm => List.forall_mem_append.mpr ⟨q.noInput hm, List.forall_mem_singleton.mpr rfl⟩⟩⟩
          have := (q.ok hm).cons hA harm
          rwa [List.take_nil, List.nil_append] at this
        · rw [hk] at hn; cases hn)
    fuel w harm

structure Writer.ClosedOk (E : Enc σ) (op : Op) (w w' : Writer σ) (newE : List ERec) (newL : List LogE) : Prop where
  reach : Writer.Reach w w' newE newL (emitted newE)
  done : Writer.ReturnedOk op w w' [] newE newL (emitted newE)
  exit : if op = .flush then E.hasMore w'.enc = false else E.isFinished w'.enc = true
  called : newE ≠ []
  noInput : ∀ r ∈ newE, r.input = []

theorem flushOrClose_ok (E : Enc σ) (op : Op) (fuel : Nat) (w w' : Writer σ) (harm : w.armed)
    (h : Writer.flushOrClose E op fuel w = (w', .done (.ok ()))) :
    ∃ (newE : List ERec) (newL : List LogE), Writer.ClosedOk E op w w' newE newL := by
  obtain ⟨newE, newL, p, q⟩ := flushOrClose_spec E op fuel w harm
  rw [h] at q
  have hR := q.reach
  have hD := q.ok rfl
  rw [hD.handedAll] at hR hD
  exact ⟨newE, newL, hR, hD, q.exit rfl, q.called rfl, q.noInput rfl⟩

theorem flushOrClose_prefix (E : Enc σ) (op : Op) : ∀ (fuel : Nat) (w : Writer σ),
    w.armed →
    ∃ (newE : List ERec) (newL : List LogE) (p : Bytes),
      (Writer.flushOrClose E op fuel w).1.elog = newE ++ w.elog ∧
      (Writer.flushOrClose E op fuel w).1.sink.log = newL ++ w.sink.log ∧
      (Writer.flushOrClose E op fuel w).1.sink.got = w.sink.got ++ p ∧ p <+: emitted newE := by
  intro fuel w harm
  obtain ⟨newE, newL, p, q⟩ := flushOrClose_spec E op fuel w harm
  exact ⟨newE, newL, p, q.reach.elog, q.reach.log, q.reach.got, q.reach.isPrefix⟩

theorem flushOrClose_no_panic (E : Enc σ) (hs : EncSane E) (op : Op) : ∀ (fuel : Nat) (w : Writer σ),
    w.armed → (Writer.flushOrClose E op fuel w).2 ≠ .panic := by
  intro fuel w harm
  obtain ⟨_, _, _, q⟩ := flushOrClose_spec E op fuel w harm
  exact q.noPanic hs

theorem writeLoop_terminates (E : Enc σ) (ops : Op → Prop) (rank : σ → Nat) (hp : EncProgress E ops rank)
    (hops : ops .process) (n : Nat) (w : Writer σ) (hb : 0 < w.bufSize) (rest : Bytes) :
    ∃ N, ∀ fuel, N ≤ fuel → (Writer.writeLoop E n fuel w rest).2 ≠ .livelock :=
  (writeLoop_fuelLoop E n).returns (invImage (fun s => (s.2.length, rank s.1.enc)) lex2)
    (I := fun s => 0 < s.1.bufSize) (live := fun t => t.2 ≠ .livelock)
    (fun s t _ ht => by
      unfold Writer.writeTurn at ht
      split at ht
      · cases ht; simp
      · rcases Writer.callTurn_cases E .process s.2 s.1 _ with ⟨w', o, hc, hS⟩ | ⟨w', newL, hc, _⟩
        · rw [hc] at ht; cases ht; exact hS.live
        · rw [hc] at ht; cases ht)
    (fun s s' hB hn => by
      unfold Writer.writeTurn at hn
      split at hn
      · cases hn
      · next hz =>
        rcases Writer.callTurn_cases E .process s.2 s.1 _ with ⟨w', o, hc, _⟩ | ⟨w', newL, hc, hA⟩
        · rw [hc] at hn; cases hn
        · rw [hc] at hn; cases hn
          have hle := hA.consumed
          refine ⟨by rw [hA.bufSize]; exact hB, lex2_iff.mpr ?_⟩
          by_cases hc0 : (E.step s.1.enc .process s.2 s.1.bufSize).2.consumed = 0
          · refine Or.inr ⟨by simp only [hc0, List.drop_zero], ?_⟩
            show rank w'.enc < rank s.1.enc
            rw [hA.enc]
            exact hp.stall s.1.enc .process s.2 s.1.bufSize hops hB hA.ok hc0
              (Or.inl ⟨rfl, fun h => hz (by rw [h]; rfl)⟩)
          · exact Or.inl (by simp only [List.length_drop]; omega))
    (w, rest) hb

theorem flushOrClose_terminates (E : Enc σ) (ops : Op → Prop) (rank : σ → Nat) (hp : EncProgress E ops rank)
    (op : Op) (hops : ops op) (hop : op ≠ .process) (w : Writer σ) (hB : 0 < w.bufSize) :
    ∃ N, ∀ fuel, N ≤ fuel → (Writer.flushOrClose E op fuel w).2 ≠ .livelock :=
  (flushOrClose_fuelLoop E op).returns (invImage (fun w => rank w.enc) Nat.lt_wfRel)
    (I := fun w => 0 < w.bufSize) (live := fun t => t.2 ≠ .livelock)
    (fun w t _ ht => by
      rcases Writer.callTurn_cases E op [] w _ with ⟨w', o, hc, hS⟩ | ⟨w', newL, hc, _⟩
      · rw [Writer.closeTurn, hc] at ht; cases ht; exact hS.live
      · rw [Writer.closeTurn, hc] at ht
        rcases Writer.closeK_cases E op w' with ⟨hk, _⟩ | ⟨hk, _⟩
        · rw [hk] at ht; cases ht
        · rw [hk] at ht; cases ht; simp)
    (fun w w'' hB hn => by
      rcases Writer.callTurn_cases E op [] w _ with ⟨w', o, hc, _⟩ | ⟨w', newL, hc, hA⟩
      · rw [Writer.closeTurn, hc] at hn; cases hn
      · rw [Writer.closeTurn, hc] at hn
        rcases Writer.closeK_cases E op w' with ⟨hk, hgo⟩ | ⟨hk, _⟩
        · rw [hk] at hn
          obtain rfl : w' = w'' := by injection hn
          refine ⟨by rw [hA.bufSize]; exact hB, ?_⟩
          show rank w'.enc < rank w.enc
          rw [hA.enc] at hgo ⊢
          refine hp.stall w.enc op [] w.bufSize hops hB hA.ok (Nat.le_zero.mp hA.consumed) ?_
          rcases hgo with ⟨h1, h2⟩ | ⟨h1, h2⟩
          · exact Or.inr (Or.inr ⟨h1, rfl, h2⟩)
          · refine Or.inr (Or.inl ⟨?_, rfl, h2⟩)
            cases op
            · exact absurd rfl hop
            · exact absurd rfl h1
            · rfl
        · rw [hk] at hn; cases hn)
    w hB

theorem Writer.flush_ok (E : Enc σ) (fuel : Nat) (w : Writer σ) (h : (Writer.flush E fuel w).2 = .done (.ok ())) :
    ∃ w1, Writer.flushOrClose E .flush fuel w = (w1, .done (.ok ())) ∧ w1.sink.flush.2 = .ok () ∧
      (Writer.flush E fuel w).1 = { w1 with sink := w1.sink.flush.1 } := by
  unfold Writer.flush at h ⊢
  generalize Writer.flushOrClose E .flush fuel w = x at h ⊢
  obtain ⟨w1, o⟩ := x
  cases o with
  | panic => simp at h
  | livelock => simp at h
  | done r =>
    cases r with
    | error e => simp at h
    | ok u =>
      cases u
      simp only at h ⊢
      cases hs : w1.sink.flush with
      | mk s' rr =>
        rw [hs] at h
        cases rr with
        | error c => simp at h
        | ok u' => cases u'; exact ⟨w1, rfl, by rw [hs], by rw [hs]⟩

/-- reference automaton of `write`: what it asks of the encoder, with no wrapped stream in sight -/
def specWriteLoop (E : Enc σ) (cap n : Nat) : Nat → σ → Bytes → σ × List ERec × Out (Except Err Nat)
  | 0, e, _ => (e, [], .livelock)
  | fuel + 1, e, rest =>
    if rest.length = 0 then (e, [], .done (.ok n))
    else
      let st := E.step e .process rest cap
      if st.2.consumed > rest.length ∨ st.2.produced.length > cap then (e, [], .panic)
      else if st.2.ok = false then (st.1, [⟨.process, rest, cap, st.2, E.hasMore st.1, E.isFinished st.1⟩], .done (.error .invalidData))
      else
        match specWriteLoop E cap n fuel st.1 (rest.drop st.2.consumed) with
        | (e', l, o) => (e', l ++ [⟨.process, rest, cap, st.2, E.hasMore st.1, E.isFinished st.1⟩], o)

def specFlushOrClose (E : Enc σ) (cap : Nat) (op : Op) : Nat → σ → σ × List ERec × Out (Except Err Unit)
  | 0, e => (e, [], .livelock)
  | fuel + 1, e =>
    let st := E.step e op [] cap
    if st.2.consumed > 0 ∨ st.2.produced.length > cap then (e, [], .panic)
    else if st.2.ok = false then (st.1, [⟨op, [], cap, st.2, E.hasMore st.1, E.isFinished st.1⟩], .done (.error .invalidData))
    else if (if op = .flush then E.hasMore st.1 = false else E.isFinished st.1 = true) then
      (st.1, [⟨op, [], cap, st.2, E.hasMore st.1, E.isFinished st.1⟩], .done (.ok ()))
    else
      match specFlushOrClose E cap op fuel st.1 with
      | (e', l, o) => (e', l ++ [⟨op, [], cap, st.2, E.hasMore st.1, E.isFinished st.1⟩], o)

structure Writer.CleanCall (E : Enc σ) (op : Op) (input : Bytes) (w w' : Writer σ) : Prop where
  enc : w'.enc = (E.step w.enc op input w.bufSize).1
  bufSize : w'.bufSize = w.bufSize
  errInvalid : w'.errInvalid = w.errInvalid
  errZero : w'.errZero = w.errZero
  elog : w'.elog = ⟨op, input, w.bufSize, (E.step w.enc op input w.bufSize).2,
    E.hasMore (E.step w.enc op input w.bufSize).1, E.isFinished (E.step w.enc op input w.bufSize).1⟩ :: w.elog
  got : w'.sink.got = w.sink.got ++ (E.step w.enc op input w.bufSize).2.produced
  ff : w'.sink.faultFree

theorem encodeAndHandOver_faultFree (E : Enc σ) (w : Writer σ) (op : Op) (input : Bytes) (hf : w.sink.faultFree) :
    let st := E.step w.enc op input w.bufSize
    if st.2.consumed > input.length ∨ st.2.produced.length > w.bufSize then w.encodeAndHandOver E op input = none
    else ∃ w', w.encodeAndHandOver E op input = some (w', st.2, .ok ()) ∧ Writer.CleanCall E op input w w' := by
  intro st
  unfold Writer.encodeAndHandOver
  simp only
  split
  · rfl
  · split
    · next hpos =>
      obtain ⟨q1, q2, q3, q4, q5⟩ := writeAll_faultFree w.errZero w.errInvalid w.sink st.2.produced hf
      generalize hwa : writeAll w.errZero w.errInvalid w.sink st.2.produced = wa at q1 q2 q3 q4 q5
      obtain ⟨ez, ei, s', rr⟩ := wa
      simp only at q1 q2 q3 q4 q5
      subst q1 q2 q3
      have : writeAll w.errZero w.errInvalid w.sink (E.step w.enc op input w.bufSize).2.produced = (w.errZero, w.errInvalid, s', .ok ()) := hwa
      simp only [this]
      exact ⟨_, rfl, rfl, rfl, rfl, rfl, rfl, q4, q5⟩
    · next hz =>
      have hnil : st.2.produced = [] := List.eq_nil_of_length_eq_zero (Nat.eq_zero_of_not_pos hz)
      exact ⟨_, rfl, rfl, rfl, rfl, rfl, rfl, by rw [show (E.step w.enc op input w.bufSize).2.produced = [] from hnil, List.append_nil], hf⟩

structure Writer.Tracks {R : Type} (w : Writer σ) (t : Writer σ × Out (Except Err R))
    (u : σ × List ERec × Out (Except Err R)) : Prop where
  out : t.2 = u.2.2
  enc : t.1.enc = u.1
  elog : t.1.elog = u.2.1 ++ w.elog
  got : t.1.sink.got = w.sink.got ++ emitted u.2.1
  ff : t.1.sink.faultFree
  bufSize : t.1.bufSize = w.bufSize

theorem Writer.Tracks.here {R : Type} (w : Writer σ) (hf : w.sink.faultFree) (o : Out (Except Err R)) :
    Writer.Tracks w (w, o) (w.enc, [], o) :=
  ⟨rfl, rfl, rfl, by simp [emitted], hf, rfl⟩

/-- `w''` is `w'` up to the stock error values -/
theorem Writer.Tracks.last {R : Type} {E : Enc σ} {op : Op} {input : Bytes} {w w' w'' : Writer σ}
    (c : Writer.CleanCall E op input w w') (he : w''.enc = w'.enc) (hl : w''.elog = w'.elog) (hs : w''.sink = w'.sink)
    (hb : w''.bufSize = w'.bufSize) (o : Out (Except Err R)) :
    Writer.Tracks w (w'', o) ((E.step w.enc op input w.bufSize).1, [⟨op, input, w.bufSize, (E.step w.enc op input w.bufSize).2,
      E.hasMore (E.step w.enc op input w.bufSize).1, E.isFinished (E.step w.enc op input w.bufSize).1⟩], o) :=
  ⟨rfl, he.trans c.enc, by rw [hl, c.elog]; rfl, by rw [hs, c.got]; simp [emitted], by rw [hs]; exact c.ff, hb.trans c.bufSize⟩

theorem Writer.Tracks.cons {R : Type} {E : Enc σ} {op : Op} {input : Bytes} {w w' : Writer σ}
    (c : Writer.CleanCall E op input w w') {t : Writer σ × Out (Except Err R)} {u : σ × List ERec × Out (Except Err R)}
    (h : Writer.Tracks w' t u) :
    Writer.Tracks w t (u.1, u.2.1 ++ [⟨op, input, w.bufSize, (E.step w.enc op input w.bufSize).2,
      E.hasMore (E.step w.enc op input w.bufSize).1, E.isFinished (E.step w.enc op input w.bufSize).1⟩], u.2.2) :=
  ⟨h.out, h.enc, by rw [h.elog, c.elog]; simp, by rw [h.got, c.got, emitted_append]; simp [emitted], h.ff,
    h.bufSize.trans c.bufSize⟩

/-- Induction on the fuel itself, no `FuelLoop` rule: the reference automaton (a fixed definition) takes the fuel and
builds its log on the way back, and the `Q` of `FuelLoop.rule` cannot speak of the fuel. -/
theorem writeLoop_faultFree_eq_spec (E : Enc σ) (n : Nat) : ∀ (fuel : Nat) (w : Writer σ) (rest : Bytes),
    w.sink.faultFree → w.errInvalid = true →
    Writer.Tracks w (Writer.writeLoop E n fuel w rest) (specWriteLoop E w.bufSize n fuel w.enc rest) := by
  intro fuel
  induction fuel with
  | zero => intro w rest hf _; exact .here w hf _
  | succ fuel ih =>
    intro w rest hf harm
    simp only [Writer.writeLoop, specWriteLoop]
    split
    · exact .here w hf _
    · have h := encodeAndHandOver_faultFree E w .process rest hf
      simp only at h
      split at h
      · next hins => rw [h, if_pos hins]; exact .here w hf _
      · next hsane =>
        obtain ⟨w', e0, c⟩ := h
        rw [e0, if_neg hsane]
        simp only
        by_cases hok : (E.step w.enc Op.process rest w.bufSize).2.ok = false
        · rw [if_pos hok]
          simp only [hok, Bool.not_false, if_true]
          rw [if_pos (by rw [c.errInvalid]; exact harm)]
          exact .last (w'' := { w' with errInvalid := false }) c rfl rfl rfl rfl _
        · rw [if_neg hok]
          have hok' : (E.step w.enc Op.process rest w.bufSize).2.ok = true := by simpa using hok
          simp only [hok', Bool.not_true, Bool.false_eq_true, if_false]
          have i := ih w' (rest.drop (E.step w.enc Op.process rest w.bufSize).2.consumed) c.ff (by rw [c.errInvalid]; exact harm)
          rw [c.enc, c.bufSize] at i
          exact i.cons c

theorem Writer.exit_if (E : Enc σ) (op : Op) (e : σ) {α : Type} (stop go : α) :
    (if op = .flush then (if E.hasMore e = true then go else stop) else if E.isFinished e = true then stop else go) =
      if (if op = .flush then E.hasMore e = false else E.isFinished e = true) then stop else go := by
  by_cases hop : op = .flush
  · subst hop; cases E.hasMore e <;> simp
  · cases E.isFinished e <;> simp [hop]

theorem flushOrClose_faultFree_eq_spec (E : Enc σ) (op : Op) : ∀ (fuel : Nat) (w : Writer σ),
    w.sink.faultFree → w.errInvalid = true →
    Writer.Tracks w (Writer.flushOrClose E op fuel w) (specFlushOrClose E w.bufSize op fuel w.enc) := by
  intro fuel
  induction fuel with
  | zero => intro w hf _; exact .here w hf _
  | succ fuel ih =>
    intro w hf harm
    simp only [Writer.flushOrClose, specFlushOrClose]
    have h := encodeAndHandOver_faultFree E w op [] hf
    simp only [List.length_nil] at h
    split at h
    · next hins => rw [h, if_pos hins]; exact .here w hf _
    · next hsane =>
      obtain ⟨w', e0, c⟩ := h
      rw [e0, if_neg hsane]
      simp only
      by_cases hok : (E.step w.enc op [] w.bufSize).2.ok = false
      · rw [if_pos hok]
        simp only [hok, Bool.not_false, if_true]
        rw [if_pos (by rw [c.errInvalid]; exact harm)]
        exact .last (w'' := { w' with errInvalid := false }) c rfl rfl rfl rfl _
      · rw [if_neg hok]
        have hok' : (E.step w.enc op [] w.bufSize).2.ok = true := by simpa using hok
        simp only [hok', Bool.not_true, Bool.false_eq_true, if_false]
        have i := ih w' c.ff (by rw [c.errInvalid]; exact harm)
        rw [c.enc, c.bufSize] at i
        rw [Writer.exit_if, c.enc]
        by_cases hex : (if op = .flush then E.hasMore (E.step w.enc op [] w.bufSize).1 = false
            else E.isFinished (E.step w.enc op [] w.bufSize).1 = true)
        · rw [if_pos hex, if_pos hex]; exact .last c rfl rfl rfl rfl _
        · rw [if_neg hex, if_neg hex]; exact i.cons c

end BV.Adapters
