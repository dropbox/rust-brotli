/-
Helper lemmas for the concatenator model (C16 / C12 / C03): the `sat`
(weakest-precondition style) predicate on outcomes and specifications of the
small building blocks.
-/
import BV.Model.Concat
import BV.Lemmas.ListNat

namespace BV.Concat
open Outcome BV.Gen

theorem hdr5 : NUM_STREAM_HEADER_BYTES = 5 := rfl

attribute [simp] SUCCESS NEEDS_MORE_INPUT NEEDS_MORE_OUTPUT NOT_CRAFTED_FOR_APPEND INVALID_WINDOW_SIZE
  WINDOW_SIZE_LARGER NOT_CRAFTED_FOR_CONCAT

@[simp] theorem bind_ok {α β} (v : α) (f : α → Outcome β) : (ok v).bind f = f v := rfl
@[simp] theorem bind_panic {α β} (t : Site) (f : α → Outcome β) :
    (Outcome.panic t : Outcome α).bind f = Outcome.panic t := rfl

def Outcome.sat {α} (x : Outcome α) (P : α → Prop) : Prop :=
  match x with
  | .ok v => P v
  | .panic _ => False

@[simp] theorem sat_ok {α} (v : α) (P : α → Prop) : (ok v).sat P ↔ P v := Iff.rfl
@[simp] theorem sat_panic {α} (t : Site) (P : α → Prop) : ¬ (Outcome.panic t : Outcome α).sat P := fun h => h

theorem sat_iff {α} {x : Outcome α} {P : α → Prop} : x.sat P ↔ ∃ v, x = ok v ∧ P v := by
  cases x with
  | panic t => simp [Outcome.sat]
  | ok v => simp [Outcome.sat]

theorem sat_bind {α β} {x : Outcome α} {f : α → Outcome β} {P : β → Prop} (Q : α → Prop)
    (hx : x.sat Q) (hf : ∀ v, Q v → (f v).sat P) : (x.bind f).sat P := by
  cases x with
  | panic t => exact absurd hx (sat_panic t Q)
  | ok v => exact hf v hx

theorem sat_mono {α} {x : Outcome α} {P Q : α → Prop} (hx : x.sat P) (h : ∀ v, P v → Q v) : x.sat Q := by
  cases x with
  | panic t => exact absurd hx (sat_panic t P)
  | ok v => exact h v hx

theorem sat_and {α} {x : Outcome α} {P Q : α → Prop} (h1 : x.sat P) (h2 : x.sat Q) :
    x.sat (fun v => P v ∧ Q v) := by
  cases x with
  | panic t => exact absurd h1 (sat_panic t P)
  | ok v => exact ⟨h1, h2⟩

theorem not_panic_of_sat {α} {x : Outcome α} {P : α → Prop} (h : x.sat P) (t : Site) : x ≠ Outcome.panic t := by
  intro e; rw [e] at h; exact h

def Outcome.map {α β} (f : α → β) : Outcome α → Outcome β
  | .ok v => .ok (f v)
  | .panic t => .panic t

@[simp] theorem map_ok {α β} (f : α → β) (v : α) : Outcome.map f (ok v) = ok (f v) := rfl
@[simp] theorem map_panic {α β} (f : α → β) (t : Site) : Outcome.map f (Outcome.panic t : Outcome α) = Outcome.panic t := rfl

theorem forRange_sat {α} (f : Nat → α → Outcome α) (I : Nat → α → Prop) :
    ∀ n start a, I start a →
      (∀ i a, start ≤ i → i < start + n → I i a → (f i a).sat (I (i + 1))) →
      (forRange f n start a).sat (I (start + n)) := by
  intro n
  induction n with
  | zero => intro start a h _; simpa [forRange] using h
  | succ n ih =>
    intro start a h hstep
    unfold forRange
    refine sat_bind (I (start + 1)) (hstep start a (Nat.le_refl _) (by omega) h) ?_
    intro a' ha'
    have := ih (start + 1) a' ha' (fun i a hi1 hi2 hI => hstep i a (by omega) (by omega) hI)
    have e : start + 1 + n = start + (n + 1) := by omega
    rw [e] at this
    exact this

/-- the (window, bits) pairs `parse_window_size` can return -/
def PwOk (w o : Nat) : Prop := 10 ≤ w ∧ w ≤ 30 ∧ (o = 1 ∨ o = 4 ∨ o = 7 ∨ o = 14)

theorem idx_sat_of_lt (site : Site) (l : List Nat) (i : Nat) (h : i < l.length) :
    (idx site l i).sat (fun v => v = l[i]) := by
  unfold idx
  rw [List.getElem?_eq_getElem h]
  simp

theorem and63_le (b : Nat) : b &&& 0x3f ≤ 63 := Nat.and_le_right

theorem sat_ite {α} {c : Prop} [Decidable c] {a b : Outcome α} {P : α → Prop}
    (h1 : c → a.sat P) (h2 : ¬ c → b.sat P) : (if c then a else b).sat P := by
  by_cases hc : c
  · rw [if_pos hc]; exact h1 hc
  · rw [if_neg hc]; exact h2 hc

theorem parseWindowSize_sat (bs : List Nat) (h : 2 ≤ bs.length) :
    (parseWindowSize bs).sat (fun r => ∀ w o, r = some (w, o) → PwOk w o) := by
  unfold parseWindowSize
  refine sat_bind _ (idx_sat_of_lt _ bs 0 (by omega)) ?_
  intro b0 _
  dsimp only
  iterate 15 (refine sat_ite (fun _ => by simp [PwOk]) (fun _ => ?_))
  refine sat_ite (fun _ => by simp) (fun _ => ?_)
  refine sat_bind _ (idx_sat_of_lt _ bs 1 (by omega)) ?_
  intro b1 _
  refine sat_ite (fun _ => by simp) (fun hr => ?_)
  simp [PwOk]
  omega

/-- every byte other than `0x11` is caught by one of the sixteen one-byte patterns of `parse_window_size` -/
theorem byte_class : ∀ b : Fin 256, b.val ≠ 17 → ¬ (b.val &&& 1 = 0) → ¬ (b.val &&& 15 = 3) → ¬ (b.val &&& 15 = 5) →
    ¬ (b.val &&& 15 = 7) → ¬ (b.val &&& 15 = 9) → ¬ (b.val &&& 15 = 11) → ¬ (b.val &&& 15 = 13) →
    ¬ (b.val &&& 15 = 15) → ¬ (b.val &&& 127 = 0x71) → ¬ (b.val &&& 127 = 0x61) → ¬ (b.val &&& 127 = 0x51) →
    ¬ (b.val &&& 127 = 0x41) → ¬ (b.val &&& 127 = 0x31) → ¬ (b.val &&& 127 = 0x21) → ¬ (b.val &&& 127 = 1) →
    ¬ (b.val &&& 0x80 ≠ 0) → False := by decide +kernel

/-- `parse_window_size` reads `bs[1]` only when `bs[0] = 0x11` -/
theorem parseWindowSize_sat_one (bs : List Nat) (b0 : Nat) (hb0 : bs[0]? = some b0) (hlt : b0 < 256)
    (hne : b0 ≠ 17) : (parseWindowSize bs).sat (fun _ => True) := by
  unfold parseWindowSize
  simp only [idx, hb0, bind_ok]
  iterate 15 (refine sat_ite (fun _ => by simp) (fun _ => ?_))
  refine sat_ite (fun _ => by simp) (fun _ => ?_)
  exfalso
  rename_i h1 h3 h5 h7 h9 hb hd hf g71 g61 g51 g41 g31 g21 g1 g80
  exact byte_class ⟨b0, hlt⟩ hne h1 h3 h5 h7 h9 hb hd hf g71 g61 g51 g41 g31 g21 g1 g80

theorem packLE_sat (site : Site) : ∀ (l : List Nat) (index acc : Nat), index + l.length ≤ 8 →
    (packLE site l index acc).sat (fun _ => True) := by
  intro l
  induction l with
  | nil => intro index acc _; simp [packLE]
  | cons a t ih =>
    intro index acc h
    unfold packLE
    simp only [List.length_cons] at h
    refine sat_ite (fun hc => by omega) (fun _ => ?_)
    exact ih _ _ (by omega)

theorem detectVarlenOffset_sat (bs : List Nat) (h2 : 2 ≤ bs.length) (h8 : bs.length ≤ 8) :
    (detectVarlenOffset bs).sat (fun r => ∀ v, r = some v →
      ∃ w o, parseWindowSize bs = ok (some (w, o)) ∧ PwOk w o ∧ o + 2 ≤ v) := by
  unfold detectVarlenOffset
  have hp := parseWindowSize_sat bs h2
  obtain ⟨pw, hpw, hpw2⟩ := sat_iff.mp hp
  rw [hpw]
  simp only [bind_ok]
  cases pw with
  | none => simp
  | some wo =>
    obtain ⟨w, o⟩ := wo
    have hok := hpw2 w o rfl
    dsimp only
    refine sat_bind _ (packLE_sat _ bs 0 0 (by omega)) ?_
    intro bytes0 _
    refine sat_ite (fun hc => ?_) (fun _ => ?_)
    · simp only [sat_ok]
      intro v hv
      refine ⟨w, o, rfl, hok, ?_⟩
      simp only [Option.some.injEq] at hv
      rw [if_pos hc.1] at hv
      omega
    refine sat_ite (fun _ => ?_) (fun _ => ?_)
    · refine sat_ite (fun _ => by simp) (fun _ => ?_)
      simp only [sat_ok]
      intro v hv
      refine ⟨w, o, rfl, hok, ?_⟩
      simp only [Option.some.injEq] at hv
      generalize decide (bytes0 >>> o &&& 1 ≠ 0) = c at hv
      cases c <;> simp at hv <;> omega
    · refine sat_ite (fun _ => by simp) (fun _ => ?_)
      simp only [sat_ok]
      intro v hv
      refine ⟨w, o, rfl, hok, ?_⟩
      simp only [Option.some.injEq] at hv
      generalize decide (bytes0 >>> o &&& 1 ≠ 0) = c at hv
      cases c <;> simp at hv <;> omega

end BV.Concat
