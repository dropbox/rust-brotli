import BV.Lemmas.StreamRunHist
/-
Consequences of a well-formed log: the requests tile the input; the emitted pieces compose.
-/
namespace BV.Stream
open BV.Bits

def Tiles : Nat → List Req → Nat → Prop
  | a, [], b => a = b
  | a, r :: rs, b => r.lo = a ∧ r.lo ≤ r.hi ∧ Tiles r.hi rs b

/-- site 2 (one-shot) requests carry a block length in `lo`, not a range -/
def slowReqs (rs : List Req) : List Req := rs.filter (fun r => r.site != 2)

def logCopied : List Ev → Nat
  | [] => 0
  | .copy c :: es => c.length + logCopied es
  | _ :: es => logCopied es

theorem logCopy_length (log : List Ev) : (logCopy log).length = logCopied log := by
  induction log with
  | nil => rfl
  | cons e es ih => cases e <;> simp [logCopy, logCopied, ih]

theorem logPos_ip (p : Pos) (log : List Ev) : (logPos p log).ip = p.ip + logCopied log := by
  induction log generalizing p with
  | nil => rfl
  | cons e es ih =>
    show (logPos (e.step p) es).ip = p.ip + logCopied (e :: es)
    rw [ih]
    cases e <;> simp [Ev.step, logCopied]
    omega

theorem logOK_tiles {p : Pos} {log : List Ev} (h : LogOK p log) (hle : p.lp ≤ p.ip) :
    Tiles p.lp (slowReqs (logReqs log)) (logPos p log).lp ∧ (logPos p log).lp ≤ (logPos p log).ip := by
  induction log generalizing p with
  | nil => exact ⟨rfl, hle⟩
  | cons e es ih =>
    obtain ⟨h1, h2⟩ := h
    show Tiles p.lp (slowReqs (logReqs (e :: es))) (logPos (e.step p) es).lp ∧ (logPos (e.step p) es).lp ≤ (logPos (e.step p) es).ip
    cases e with
    | enc k req pre skel taken =>
      obtain ⟨_, a2, a3, _, a5, _, a7⟩ := h1
      have hs : (Ev.enc k req pre skel taken).step p = { p with lp := p.ip, lf := if taken then p.ip else p.lf + pre, k := p.k + 1 } := rfl
      rw [hs] at h2 ⊢
      obtain ⟨t1, t2⟩ := ih h2 (Nat.le_refl _)
      refine ⟨?_, t2⟩
      have : slowReqs (logReqs (Ev.enc k req pre skel taken :: es)) = req :: slowReqs (logReqs es) := by
        simp [slowReqs, logReqs, Ev.req, List.filter_cons, List.filterMap_cons, a5]
      rw [this]
      refine ⟨a2, by rw [a2, a3]; exact a7, ?_⟩
      rw [a3]; exact t1
    | fast k req =>
      obtain ⟨_, _, a3⟩ := h1
      have hs : (Ev.fast k req).step p = { p with k := p.k + 1 } := rfl
      rw [hs] at h2 ⊢
      have : slowReqs (logReqs (Ev.fast k req :: es)) = slowReqs (logReqs es) := by
        simp [slowReqs, logReqs, Ev.req, List.filter_cons, List.filterMap_cons, a3]
      rw [this]
      exact ih h2 hle
    | copy c =>
      have hs : (Ev.copy c).step p = { p with ip := p.ip + c.length } := rfl
      rw [hs] at h2 ⊢
      have : slowReqs (logReqs (Ev.copy c :: es)) = slowReqs (logReqs es) := by simp [slowReqs, logReqs, Ev.req, List.filterMap_cons]
      rw [this]
      exact ih h2 (Nat.le_trans hle (Nat.le_add_right _ _))
    | _ => exact ih h2 hle

/-- input bytes whose encoding an event emits: an `encode_data` invocation advances
`last_flush_pos_` (by the stored prelude, or to `input_pos_` when it closes the meta-block), a
one-shot block covers exactly its bytes -/
def Ev.adv : Ev → Pos → Nat
  | .enc _ _ pre _ taken, p => (if taken then p.ip else p.lf + pre) - p.lf
  | .fast _ r, _ => r.lo
  | _, _ => 0

def logAdv : Pos → List Ev → Nat
  | _, [] => 0
  | p, e :: es => e.adv p + logAdv (e.step p) es

def logBodyBits (o : Oracle) : List Ev → List Bool
  | [] => []
  | .window _ :: es => logBodyBits o es
  | e :: es => e.bits o ++ logBodyBits o es

def PiecesDecode (Dec : List Bool → Bytes → Prop) (input : Bytes) (o : Oracle) : Nat → Pos → List Ev → Prop
  | _, _, [] => True
  | c, p, .window _ :: es => PiecesDecode Dec input o c p es
  | c, p, e :: es => Dec (e.bits o) ((input.drop c).take (e.adv p)) ∧ PiecesDecode Dec input o (c + e.adv p) (e.step p) es

theorem pieces_compose {Dec : List Bool → Bytes → Prop} (hnil : Dec [] [])
    (happ : ∀ a b x y, Dec a x → Dec b y → Dec (a ++ b) (x ++ y)) (input : Bytes) (o : Oracle) :
    ∀ (log : List Ev) (c : Nat) (p : Pos), PiecesDecode Dec input o c p log →
      Dec (logBodyBits o log) ((input.drop c).take (logAdv p log)) := by
  intro log
  induction log with
  | nil => intro c p _; simpa [logBodyBits, logAdv] using hnil
  | cons e es ih =>
    intro c p h
    cases e with
    | window b =>
      have hs : (Ev.window b).step p = p := rfl
      have ha : (Ev.window b).adv p = 0 := rfl
      show Dec (logBodyBits o es) ((input.drop c).take (logAdv p (Ev.window b :: es)))
      simp only [logAdv, ha, hs, Nat.zero_add]
      exact ih c p h
    | _ =>
      obtain ⟨h1, h2⟩ := h
      have := happ _ _ _ _ h1 (ih _ _ h2)
      rw [take_drop_add] at this
      exact this

theorem logAdv_lf {p : Pos} {log : List Ev} (h : LogOK p log) (hnf : ∀ e ∈ log, ∀ k r, e ≠ .fast k r) :
    p.lf + logAdv p log = (logPos p log).lf := by
  induction log generalizing p with
  | nil => rfl
  | cons e es ih =>
    obtain ⟨h1, h2⟩ := h
    have ih' := ih h2 (fun e' he' => hnf e' (List.mem_cons_of_mem _ he'))
    show p.lf + (e.adv p + logAdv (e.step p) es) = (logPos (e.step p) es).lf
    rw [← ih']
    cases e with
    | enc k req pre skel taken =>
      obtain ⟨_, _, _, _, _, a6, _⟩ := h1
      simp only [Ev.adv, Ev.step]
      split <;> omega
    | fast k r => exact absurd rfl (hnf _ (List.mem_cons_self) k r)
    | _ => simp [Ev.adv, Ev.step]

theorem logBodyBits_noWindow (o : Oracle) {log : List Ev} (h : NoWindow log) : logBodyBits o log = logBits o log := by
  induction log with
  | nil => rfl
  | cons e es ih =>
    have ih' := ih (fun e' he' => h e' (List.mem_cons_of_mem _ he'))
    have hne : ∀ b, e ≠ .window b := h e List.mem_cons_self
    cases e with
    | window b => exact absurd rfl (hne b)
    | _ => simp [logBodyBits, logBits, ih'] <;> rfl

theorem logBits_window (o : Oracle) (b : List Bool) {rest : List Ev} (h : NoWindow rest) :
    logBits o (.window b :: rest) = b ++ logBodyBits o (.window b :: rest) := by
  show _ = b ++ logBodyBits o rest
  rw [logBodyBits_noWindow o h]
  simp [logBits, Ev.bits]

theorem deliveredBits_fresh {s : St} (h : IsFresh s) : deliveredBits {} s = [] := by
  obtain ⟨p, rfl⟩ := h
  simp [deliveredBits, St.new, St.carry, bitsOf, bytesBits]

theorem pos_fresh {s : St} (h : IsFresh s) : s.pos = ⟨0, 0, 0, 0⟩ := by
  obtain ⟨p, rfl⟩ := h
  rfl

end BV.Stream
