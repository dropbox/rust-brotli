import BV.Lemmas.CbrLoop
/-
The loop theorem of `CreateBackwardReferences` in open form: the decoder state after the commands of one call, before
the meta-block is closed (its ring is the `dist_cache` the call returns; every command is a copy that does not end the
block).  This is what chains calls (merged meta-blocks, the blocks of a catable member); the closed form
`cbr_lockstep` is a corollary.
-/

namespace BV.Cbr
open BV.Hasher BV.MatchFinder BV.Recoder BV.PrefixArith BV.MetaBlock

/-- every command emitted inside the loop passes the two tests; the closing insert-only command is the only exception -/
def openSteps (w : WordOracle) (np nd window : Nat) (mb : Bytes) : DecSt → List Cmd → Option DecSt
  | s, [] => some s
  | s, c :: cs =>
    if s.cursor + c.insertLen ≠ mb.length ∧ copyLen c ≠ 0 then
      match decStep w np nd window mb s c with
      | none => none
      | some s' => if s'.cursor = s.cursor + c.insertLen + copyLen c then openSteps w np nd window mb s' cs else none
    else none

theorem openSteps_cons_some {w : WordOracle} {np nd window : Nat} {mb : Bytes} {s d' : DecSt} {c : Cmd} {cs : List Cmd} :
    openSteps w np nd window mb s (c :: cs) = some d' ↔
      (s.cursor + c.insertLen ≠ mb.length ∧ copyLen c ≠ 0) ∧
      ∃ s1, decStep w np nd window mb s c = some s1 ∧ s1.cursor = s.cursor + c.insertLen + copyLen c ∧
        openSteps w np nd window mb s1 cs = some d' := by
  rw [openSteps]
  by_cases hc : s.cursor + c.insertLen ≠ mb.length ∧ copyLen c ≠ 0
  · rw [if_pos hc]
    cases decStep w np nd window mb s c with
    | none => simp
    | some s1 => by_cases h1 : s1.cursor = s.cursor + c.insertLen + copyLen c <;> simp [hc, h1]
  · rw [if_neg hc]; simp [hc]

theorem openSteps_dec (w : WordOracle) (np nd window : Nat) (mb : Bytes) :
    ∀ (cmds : List Cmd) (s s' : DecSt), openSteps w np nd window mb s cmds = some s' →
      decSteps w np nd window mb s cmds = some s' := by
  intro cmds
  induction cmds with
  | nil => intro s s' h; simpa [openSteps, decSteps] using h
  | cons c cs ih =>
    intro s s' h
    obtain ⟨_, s1, hd, _, h⟩ := openSteps_cons_some.mp h
    simp only [decSteps, hd]
    exact ih s1 s' h

theorem openSteps_append (w : WordOracle) (np nd window : Nat) (mb : Bytes) :
    ∀ (xs ys : List Cmd) (d d' : DecSt), openSteps w np nd window mb d xs = some d' →
      openSteps w np nd window mb d (xs ++ ys) = openSteps w np nd window mb d' ys := by
  intro xs
  induction xs with
  | nil => intro ys d d' h; simp only [openSteps, Option.some.injEq] at h; subst h; rfl
  | cons x xs ih =>
    intro ys d d' h
    obtain ⟨hc, d1, hx, hcur, h⟩ := openSteps_cons_some.mp h
    simp only [openSteps, List.cons_append, if_pos hc, hx, if_pos hcur]
    exact ih ys d1 d' h

theorem lockstep_open (w : WordOracle) (np nd window : Nat) (mb : Bytes) :
    ∀ (cmds tail : List Cmd) (d d' : DecSt), openSteps w np nd window mb d cmds = some d' →
      lockstep w np nd window mb d d.cursor (cmds ++ tail) = lockstep w np nd window mb d' d'.cursor tail := by
  intro cmds
  induction cmds with
  | nil => intro tail d d' h; simp only [openSteps, Option.some.injEq] at h; subst h; rfl
  | cons c cs ih =>
    intro tail d d' h
    obtain ⟨hc, d1, hx, hcur, h⟩ := openSteps_cons_some.mp h
    rw [List.cons_append, lockstep_cons w np nd window mb d d1 c _ hx hc.1 hc.2 hcur]
    exact ih tail d1 d' h

variable {H : Type} {slotOK : DictItem → Prop} {ops : HasherOps H} {p : Params} {C : Ctx} {Good : Cmd → Prop}

theorem loop_open (hops : OpsOK slotOK ops p C.data C.k) (hemit : EmitHyp slotOK C p Good) (storeEnd : Nat)
    (h64 : C.hist.length + C.mb.length < 2 ^ 64) :
    ∀ (fuel : Nat) (s s' : St H) (d : DecSt) (cmds : List Cmd),
      loop ops p (C.hist.length + C.mb.length) storeEnd fuel s = some (cmds, s') → Sync C s d →
      ∃ d', Sync C s' d' ∧ (∀ c ∈ cmds, Good c) ∧
        openSteps C.w p.npostfix p.ndirect (maxBackwardLimit p) C.mb d cmds = some d' := by
  intro fuel
  induction fuel with
  | zero =>
    intro s s' d cmds h hs
    rw [loop] at h
    simp only [Option.some.injEq, Prod.mk.injEq] at h
    obtain ⟨rfl, rfl⟩ := h
    exact ⟨d, hs, fun c hc => (by cases hc), rfl⟩
  | succ fuel ih =>
    intro s s' d cmds h hs
    rw [loop] at h
    by_cases hcond : s.position + ops.hashTypeLength < C.hist.length + C.mb.length
    · rw [if_pos hcond] at h
      cases hst : step ops p (C.hist.length + C.mb.length) storeEnd s with
      | none => simp only [hst] at h; cases h
      | some r =>
        obtain ⟨oc, s1⟩ := r
        simp only [hst] at h
        cases hl : loop ops p (C.hist.length + C.mb.length) storeEnd fuel s1 with
        | none => simp only [hl] at h; cases h
        | some r2 =>
          obtain ⟨cs, s2⟩ := r2
          simp only [hl, Option.some.injEq, Prod.mk.injEq] at h
          obtain ⟨rfl, rfl⟩ := h
          have hg := step_inv hops hemit h64 hs hcond hst
          cases oc with
          | none =>
            obtain ⟨d', a, b, ds⟩ := ih s1 s2 d cs hl hg
            exact ⟨d', a, by simpa using b, by simpa using ds⟩
          | some cmd =>
            obtain ⟨d1, e1, e2, e3, e4, e5, e6⟩ := hg
            obtain ⟨d', a, b, ds⟩ := ih s1 s2 d1 cs hl e2
            refine ⟨d', a, ?_, ?_⟩
            · intro x hx
              simp only [Option.toList, List.singleton_append, List.mem_cons] at hx
              rcases hx with rfl | hx
              · exact e6
              · exact b x hx
            · simp only [Option.toList, List.singleton_append, openSteps, e1]
              rw [if_pos ⟨e3, e4⟩, if_pos e5]
              exact ds
    · rw [if_neg hcond] at h
      simp only [Option.some.injEq, Prod.mk.injEq] at h
      obtain ⟨rfl, rfl⟩ := h
      exact ⟨d, hs, fun c hc => (by cases hc), rfl⟩

theorem cbr_open {H : Type} {slotOK : DictItem → Prop} {ops : HasherOps H} {p : Params} {C : Ctx} {Good : Cmd → Prop}
    (hops : OpsOK slotOK ops p C.data C.k) (hemit : EmitHyp slotOK C p Good)
    (numBytes position : Nat) (h0 : H) (cache : List Int) (lastInsertLen numLiterals : Nat)
    (res : Result H)
    (hpos : position = C.hist.length + lastInsertLen) (hmb : C.mb.length = lastInsertLen + numBytes)
    (h64 : C.hist.length + C.mb.length < 2 ^ 64)
    (hc : CacheI32 cache) (hcl : 4 ≤ cache.length)
    (h : createBackwardReferences ops p numBytes position h0 cache lastInsertLen numLiterals = some res) :
    ∃ d', openSteps C.w p.npostfix p.ndirect (maxBackwardLimit p) C.mb ⟨C.hist, cache.take 4, 0⟩ res.cmds = some d' ∧
      d'.out = C.hist ++ C.mb.take d'.cursor ∧ d'.cursor + res.lastInsertLen = C.mb.length ∧
      d'.ring = res.cache.take 4 ∧ CacheI32 res.cache ∧ 4 ≤ res.cache.length ∧ (∀ c ∈ res.cmds, Good c) := by
  unfold createBackwardReferences at h
  simp only [] at h
  cases hp : ops.prepareCache cache with
  | none => simp only [hp] at h; cases h
  | some cache1 =>
    simp only [hp] at h
    have hpe : position + numBytes = C.hist.length + C.mb.length := by omega
    rw [hpe] at h
    cases hl : loop ops p (C.hist.length + C.mb.length)
        (if numBytes ≥ ops.storeLookahead then C.hist.length + C.mb.length - ops.storeLookahead + 1 else position)
        (numBytes + 1) ⟨h0, position, lastInsertLen, position + literalSpree p, cache1, numLiterals⟩ with
    | none => simp only [hl] at h; cases h
    | some r =>
      obtain ⟨cmds, s'⟩ := r
      simp only [hl, Option.some.injEq] at h
      subst h
      obtain ⟨pt, plen⟩ := hops.prepare _ _ hp
      have hs0 : Sync C (⟨h0, position, lastInsertLen, position + literalSpree p, cache1, numLiterals⟩ : St H)
          ⟨C.hist, cache.take 4, 0⟩ :=
        ⟨by simp, by simp only []; omega, by simp only []; omega, by simp only []; exact pt.symm,
          cacheI32_of_take pt hc, by simp only []; omega⟩
      obtain ⟨d', hs', hgood, hds⟩ := loop_open hops hemit _ h64 _ _ _ _ _ hl hs0
      refine ⟨d', hds, hs'.out, ?_, hs'.ring, hs'.cache, hs'.clen, hgood⟩
      have := hs'.pos; have := hs'.le
      simp only []
      omega

theorem closeMetaBlock_split (cmds : List Cmd) (l : Nat) : closeMetaBlock cmds l = cmds ++ closeMetaBlock [] l := by
  unfold closeMetaBlock; split <;> simp

theorem mem_closeMetaBlock_nil {c : Cmd} {l : Nat} (h : c ∈ closeMetaBlock [] l) : 0 < l ∧ c = initInsert l := by
  unfold closeMetaBlock at h
  split at h
  · rename_i hl; exact ⟨hl, List.mem_singleton.mp h⟩
  · cases h

theorem openSteps_close {w : WordOracle} {np nd window : Nat} {hist mb : Bytes} {ring : List Int} {cmds : List Cmd}
    {d' : DecSt} {lil : Nat} {Good : Cmd → Prop}
    (hopen : openSteps w np nd window mb ⟨hist, ring, 0⟩ cmds = some d')
    (hout : d'.out = hist ++ mb.take d'.cursor) (hcur : d'.cursor + lil = mb.length) (h32 : mb.length < 2 ^ 32)
    (hgood : ∀ c ∈ cmds, Good c) (hgi : ∀ l, 0 < l → l ≤ mb.length → Good (initInsert l)) :
    lockstep w np nd window mb ⟨hist, ring, 0⟩ 0 (closeMetaBlock cmds lil) = true ∧
    (∀ c ∈ closeMetaBlock cmds lil, Good c) ∧
    replayCommands w np nd window mb ring hist (closeMetaBlock cmds lil) = some (hist ++ mb) := by
  rw [closeMetaBlock_split, show lil = mb.length - d'.cursor by omega]
  refine ⟨?_, ?_, ?_⟩
  · rw [← lockstep_close w np nd window mb d' (by omega) h32]
    exact lockstep_open _ _ _ _ _ _ _ ⟨hist, ring, 0⟩ d' hopen
  · refine List.forall_mem_append.mpr ⟨hgood, fun c hc => ?_⟩
    obtain ⟨hl0, rfl⟩ := mem_closeMetaBlock_nil hc
    exact hgi _ hl0 (Nat.sub_le _ _)
  · unfold replayCommands
    rw [decSteps_append _ _ _ _ _ _ _ _ _ (openSteps_dec _ _ _ _ _ _ _ _ hopen),
      decSteps_close w np nd window hist mb d' hout (by omega) h32]
    rfl

theorem cbr_lockstep (hops : OpsOK slotOK ops p C.data C.k) (hemit : EmitHyp slotOK C p Good)
    (hgi : ∀ l, 0 < l → l ≤ C.mb.length → Good (initInsert l))
    (numBytes position : Nat) (h0 : H) (cache : List Int) (lastInsertLen numLiterals : Nat)
    (res : Result H)
    (hpos : position = C.hist.length + lastInsertLen) (hmb : C.mb.length = lastInsertLen + numBytes)
    (h32 : C.mb.length < 2 ^ 32) (h64 : C.hist.length + C.mb.length < 2 ^ 64)
    (hc : CacheI32 cache) (hcl : 4 ≤ cache.length)
    (h : createBackwardReferences ops p numBytes position h0 cache lastInsertLen numLiterals = some res) :
    lockstep C.w p.npostfix p.ndirect (maxBackwardLimit p) C.mb ⟨C.hist, cache.take 4, 0⟩ 0
        (closeMetaBlock res.cmds res.lastInsertLen) = true ∧
      (∀ c ∈ closeMetaBlock res.cmds res.lastInsertLen, Good c) ∧
      replayCommands C.w p.npostfix p.ndirect (maxBackwardLimit p) C.mb (cache.take 4) C.hist
        (closeMetaBlock res.cmds res.lastInsertLen) = some (C.hist ++ C.mb) :=
  let ⟨_, hopen, hout, hcur, _, _, _, hgood⟩ := cbr_open hops hemit numBytes position h0 cache lastInsertLen
    numLiterals res hpos hmb h64 hc hcl h
  openSteps_close hopen hout hcur h32 hgood hgi

end BV.Cbr
