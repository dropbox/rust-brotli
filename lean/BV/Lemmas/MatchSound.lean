import BV.Lemmas.MatchLen
import BV.Lemmas.ListNat
/-! The wrapping subtraction `wsub` in cases; what a search result denotes (`CopyOK`: a copy inside the window; `DictOK`: a
static-dictionary reference), and soundness of the static-dictionary search (`search_sound`), independent of the table contents. -/
namespace BV.MatchFinder
open BV.Hasher

theorem wsub_eq {a b : Nat} (ha : a < U64) (hb : b < U64) :
    wsub a b = if b ≤ a then a - b else a + U64 - b := by
  unfold wsub
  split
  · exact BV.wrapping_sub_eq a b U64 ‹_› ha
  · rw [Nat.mod_eq_of_lt hb]; exact Nat.mod_eq_of_lt (by omega)

theorem wsub_wsub {a b : Nat} (ha : a < U64) (hb : b < U64) : wsub a (wsub a b) = b := by
  rw [wsub_eq ha (show wsub a b < U64 from Nat.mod_lt _ (by decide)), wsub_eq ha hb]
  split <;> split <;> omega

theorem wsub_pos_of_lt {a b : Nat} (ha : a < U64) (h : wsub a b < a) : 0 < b := by
  rcases Nat.eq_zero_or_pos b with h0 | h0
  · subst h0
    unfold wsub at h
    simp only [Nat.zero_mod, Nat.sub_zero, Nat.add_mod_right] at h
    rw [Nat.mod_eq_of_lt ha] at h
    omega
  · exact h0

/-- `m` is the mask the code applies to the earlier position (`mask` or `mask as u32`).  `4 ≤ maxLength → 2 ≤ len`:
the command writers need `copy_len ≥ 2`, and every caller of the search has `max_length ≥ 4`. -/
def CopyOK (data : ByteArray) (m cm curIx maxLength maxBackward : Nat) (o : SR) : Prop :=
  0 < o.distance ∧ o.distance ≤ maxBackward ∧ o.len ≤ maxLength ∧ o.lenXCode = 0 ∧
  (4 ≤ maxLength → 2 ≤ o.len) ∧
  ∃ prev, o.distance = wsub curIx prev ∧ Agree data (prev &&& m) cm o.len

def DictOK (items : List DictItem) (data : ByteArray) (cm maxLength maxBackward maxDistance : Nat)
    (o : SR) : Prop :=
  ∃ d ∈ items,
    let len := d.item &&& 0x1f
    let cut := len - o.len
    0 < o.len ∧ o.len ≤ len ∧ len ≤ maxLength ∧ len < 25 ∧ cut < 10 ∧ o.lenXCode = len ^^^ o.len ∧
    o.distance = (maxBackward + (d.item >>> 5) + 1 +
      (((cut <<< 2) + ((kCutoffTransforms >>> (cut * 6)) &&& 0x3f)) <<< d.sizeBits)) % U64 ∧
    o.distance ≤ maxDistance ∧
    cm + len ≤ data.size ∧
    ∀ k, k < o.len → (data.get! (cm + k)).toNat = d.word.getD k 0

theorem firstDiffW_spec (w word : List Nat) : ∀ n,
    (firstDiffW w word n = none → ∀ k, k < n → w.getD k 0 = word.getD k 0) ∧
    (∀ i, firstDiffW w word n = some i → i < n ∧ ∀ k, k < i → w.getD k 0 = word.getD k 0) :=
  firstDiffBy_spec (firstDiffW w word) (w.getD · 0) (word.getD · 0) rfl fun _ => rfl

theorem dictMatchLen_spec {data : ByteArray} {cm len r : Nat} {word : List Nat}
    (h : dictMatchLen data cm word len = some r) :
    r ≤ len ∧ cm + len ≤ data.size ∧ ∀ k, k < r → (data.get! (cm + k)).toNat = word.getD k 0 := by
  unfold dictMatchLen at h
  cases hw : win data cm len with
  | none => simp [hw] at h
  | some w =>
    simp only [hw] at h
    split at h
    · cases h
    · injection h with h
      have hsz := (win_eq_some hw).1
      cases hf : firstDiffW w word len with
      | none =>
        rw [hf] at h
        simp only [Option.getD_none] at h
        subst h
        exact ⟨Nat.le_refl _, hsz, fun k hk => by
          rw [← win_getD hw k hk]; exact (firstDiffW_spec w word len).1 hf k hk⟩
      | some i =>
        rw [hf] at h
        simp only [Option.getD_some] at h
        subst h
        obtain ⟨hi, hall⟩ := (firstDiffW_spec w word len).2 i hf
        exact ⟨by omega, hsz, fun k hk => by
          rw [← win_getD hw k (by omega)]; exact hall k hk⟩

theorem testItem_sound {lbs : Nat} {d : DictItem} {data : ByteArray} {cm maxLength maxBackward
    maxDistance : Nat} {out o : SR}
    (h : testStaticDictionaryItem lbs d data cm maxLength maxBackward maxDistance out = some (some o)) :
    DictOK [d] data cm maxLength maxBackward maxDistance o := by
  unfold testStaticDictionaryItem at h
  simp only [] at h
  split at h
  · cases h
  · rename_i h25
    split at h
    · cases h
    · rename_i hml
      cases hm : dictMatchLen data cm d.word (d.item &&& 0x1f) with
      | none => simp [hm] at h
      | some matchlen =>
        simp only [hm] at h
        obtain ⟨hle, hsz, hall⟩ := dictMatchLen_spec hm
        split at h
        · cases h
        · rename_i hcut
          split at h
          · cases h
          · rename_i hdist
            split at h
            · cases h
            · simp only [Option.some.injEq] at h
              subst h
              refine ⟨d, List.mem_singleton.mpr rfl, ?_⟩
              simp only [kCutoffTransformsCount] at hcut
              dsimp only
              exact ⟨by omega, hle, by omega, by omega, by omega, rfl, rfl, by omega, hsz, hall⟩

theorem DictOK.mono {items items' : List DictItem} {data : ByteArray} {cm a b c : Nat} {o : SR}
    (h : DictOK items data cm a b c o) (hsub : ∀ d ∈ items, d ∈ items') :
    DictOK items' data cm a b c o := by
  obtain ⟨d, hd, rest⟩ := h
  exact ⟨d, hsub d hd, rest⟩

/-- a found flag the loop returns comes with a sound result, an unset one with the result untouched; the loop never resets
`is_match_found` (last part) -/
theorem dictLoop_sound (lbs : Nat) (items : List DictItem) (data : ByteArray) (cm maxLength
    maxBackward maxDistance : Nat) : ∀ (ds : List DictItem), (∀ d ∈ ds, d ∈ items) →
    ∀ (found : Bool) (out : SR) (c : Common) (f' : Bool) (o' : SR) (c' : Common),
    dictLoop lbs data cm maxLength maxBackward maxDistance ds found out c = some (f', o', c') →
    (found = true → DictOK items data cm maxLength maxBackward maxDistance out) →
    (f' = true → DictOK items data cm maxLength maxBackward maxDistance o') ∧
    (f' = false → o' = out) ∧ (found = true → f' = true) := by
  intro ds
  induction ds with
  | nil =>
    intro _ found out c f' o' c' h hin
    simp only [dictLoop, Option.some.injEq, Prod.mk.injEq] at h
    obtain ⟨rfl, rfl, rfl⟩ := h
    exact ⟨hin, fun _ => rfl, fun h => h⟩
  | cons d ds ih =>
    intro hsub found out c f' o' c' h hin
    have hsub' : ∀ x ∈ ds, x ∈ items := fun x hx => hsub x (List.mem_cons_of_mem _ hx)
    simp only [dictLoop] at h
    split at h
    · cases ht : testStaticDictionaryItem lbs d data cm maxLength maxBackward maxDistance out with
      | none => simp [ht] at h
      | some r =>
        cases r with
        | none =>
          simp only [ht] at h
          exact ih hsub' found out _ f' o' c' h hin
        | some o2 =>
          simp only [ht] at h
          have hd : DictOK items data cm maxLength maxBackward maxDistance o2 :=
            (testItem_sound ht).mono (fun x hx => by
              rw [List.mem_singleton.mp hx]; exact hsub d List.mem_cons_self)
          obtain ⟨a, _, t⟩ := ih hsub' true o2 _ f' o' c' h (fun _ => hd)
          refine ⟨a, fun hf => ?_, fun _ => t rfl⟩
          rw [t rfl] at hf; cases hf
    · exact ih hsub' found out _ f' o' c' h hin

theorem search_sound {lbs : Nat} {items : List DictItem} {data : ByteArray} {cm maxLength maxBackward
    maxDistance : Nat} {out : SR} {c : Common} {f' : Bool} {o' : SR} {c' : Common}
    (h : searchInStaticDictionary lbs items data cm maxLength maxBackward maxDistance out c = some (f', o', c')) :
    (f' = true → DictOK items data cm maxLength maxBackward maxDistance o') ∧ (f' = false → o' = out) := by
  unfold searchInStaticDictionary at h
  split at h
  · simp only [Option.some.injEq, Prod.mk.injEq] at h
    obtain ⟨rfl, rfl, rfl⟩ := h
    exact ⟨fun hh => (by cases hh), fun _ => rfl⟩
  · split at h
    · cases h
    · obtain ⟨a, b, _⟩ := dictLoop_sound lbs items data cm maxLength maxBackward maxDistance items (fun d hd => hd)
        false out c f' o' c' h (fun hh => (by cases hh))
      exact ⟨a, b⟩

end BV.MatchFinder
