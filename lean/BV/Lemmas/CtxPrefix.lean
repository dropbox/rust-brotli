/-
The literal contexts of a meta-block depend on the history only through its last two bytes: why the
catable mode stores the first two bytes of a member — behind them `prev_byte` / `prev_byte2` and every §7.1 context id
are the same for the member alone and for the member inside a concatenation.
-/
import BV.Lemmas.MetaBlockFullSim

namespace BV.MetaBlock
open BV.Recoder BV.PrefixArith

theorem lastB_prefix (h' out : Bytes) (h : 1 ≤ out.length) : lastB (h' ++ out) = lastB out := by
  unfold lastB
  rw [if_pos (by simp; omega), if_pos h]
  simp only [List.getD_eq_getElem?_getD, List.length_append]
  rw [List.getElem?_append_right (by omega)]
  congr 2
  omega

theorem last2B_prefix (h' out : Bytes) (h : 2 ≤ out.length) : last2B (h' ++ out) = last2B out := by
  unfold last2B
  rw [if_pos (by simp; omega), if_pos h]
  simp only [List.getD_eq_getElem?_getD, List.length_append]
  rw [List.getElem?_append_right (by omega)]
  congr 2
  omega

theorem litCtxs_prefix (mode : Nat) (h' : Bytes) : ∀ (bs out : Bytes), 2 ≤ out.length →
    litCtxs mode (h' ++ out) bs = litCtxs mode out bs := by
  intro bs
  induction bs with
  | nil => intro out _; rfl
  | cons b bs ih =>
    intro out h
    simp only [litCtxs]
    rw [lastB_prefix h' out (by omega), last2B_prefix h' out h, List.append_assoc]
    rw [ih (out ++ [b]) (by simp; omega)]

theorem litSymsOf_prefix (mode : Nat) (h' hist mb : Bytes) (h : 2 ≤ hist.length) : ∀ (cmds : List Cmd) (k : Nat),
    litSymsOf mode (h' ++ hist) mb k cmds = litSymsOf mode hist mb k cmds := by
  intro cmds
  induction cmds with
  | nil => intro k; rfl
  | cons c cs ih =>
    intro k
    simp only [litSymsOf]
    rw [List.append_assoc, litCtxs_prefix mode h' _ _ (by simp; omega), ih]

end BV.MetaBlock
