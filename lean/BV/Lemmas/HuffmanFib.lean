/-
C17: the two-queue merge over sorted leaves always merges
the two lightest roots, hence a tree of height `h` weighs at least
`fib (h + 2) · (lightest leaf)`.  This bounds the height of a round of
`BrotliCreateHuffmanTree` and gives the termination of its retry loop.
-/
import BV.Lemmas.HuffmanMerge

namespace BV.Lemmas.HuffmanFib
open BV.Bits BV.Huffman BV.Lemmas.HuffmanCanon BV.Lemmas.HuffmanShape
open BV.Lemmas.HuffmanMerge

def fib : Nat → Nat
  | 0 => 0
  | 1 => 1
  | n + 2 => fib n + fib (n + 1)

theorem fib_add_two (n : Nat) : fib (n + 2) = fib n + fib (n + 1) := rfl

theorem fib_pos (n : Nat) : 1 ≤ fib (n + 1) := by
  induction n with
  | zero => decide
  | succ n ih => rw [fib_add_two]; omega

theorem fib_le_succ (n : Nat) : fib n ≤ fib (n + 1) := by
  cases n with
  | zero => decide
  | succ n => rw [fib_add_two]; omega

theorem fib_mono {a b : Nat} (h : a ≤ b) : fib a ≤ fib b := by
  induction b with
  | zero => have : a = 0 := by omega
            subst this; exact Nat.le_refl _
  | succ b ih =>
    by_cases hab : a = b + 1
    · subst hab; exact Nat.le_refl _
    · exact Nat.le_trans (ih (by omega)) (fib_le_succ b)

/-- sortedness / Fibonacci part of the merge invariant (`a` = lower bound of the
leaf weights, `lastY` = weight of the heavier root of the last merge, `K q` =
weight of the heavier child of inner node `q`) -/
structure SInv (n a k : Nat) (pool : List Node) (i j : Nat) (tr : Nat → T) (lastY : Nat)
    (K : Nat → Nat) : Prop where
  hS1 : ∀ p q, i ≤ p → p < q → q < n → cntAt pool p ≤ cntAt pool q
  hS2 : ∀ p q, j ≤ p → p < q → q < 2 * n - k → cntAt pool p ≤ cntAt pool q
  hS3 : ∀ q, Avail n i j (2 * n - k) q → lastY ≤ cntAt pool q
  hS5 : ∀ q, j ≤ q → q < 2 * n - k → cntAt pool q ≤ 2 * lastY
  hleaf : ∀ q, i ≤ q → q < n → (tr q).height = 0
  hS6 : ∀ q, Avail n i j (2 * n - k) q → fib ((tr q).height + 2) * a ≤ cntAt pool q
  hS7 : ∀ q, j ≤ q → q < 2 * n - k → fib ((tr q).height + 1) * a ≤ K q ∧ K q ≤ lastY

theorem pick_min (n e i j x i' j' : Nat) (pool : List Node)
    (hS1 : ∀ p q, i ≤ p → p < q → q < n → cntAt pool p ≤ cntAt pool q)
    (hS2 : ∀ p q, j ≤ p → p < q → q < e → cntAt pool p ≤ cntAt pool q)
    (hrel : PickRel pool i j x i' j') :
    ∀ q, Avail n i j e q → cntAt pool x ≤ cntAt pool q := by
  intro q hq
  rcases hrel with ⟨rfl, hle, _, _⟩ | ⟨rfl, hlt, _, _⟩
  · rcases hq with ⟨h1, h2⟩ | ⟨h1, h2⟩
    · by_cases h : q = x
      · subst h; exact Nat.le_refl _
      · exact hS1 x q (Nat.le_refl _) (by omega) h2
    · by_cases h : q = j
      · subst h; exact hle
      · exact Nat.le_trans hle (hS2 j q (Nat.le_refl _) (by omega) h2)
  · rcases hq with ⟨h1, h2⟩ | ⟨h1, h2⟩
    · by_cases h : q = i
      · subst h; omega
      · have := hS1 i q (Nat.le_refl _) (by omega) h2; omega
    · by_cases h : q = x
      · subst h; exact Nat.le_refl _
      · exact hS2 x q (Nat.le_refl _) (by omega) h2

theorem cntAt_congr (a b : List Node) (q : Nat) (h : a[q]? = b[q]?) : cntAt a q = cntAt b q := by
  simp [cntAt, h]

theorem mergeLoop_fib (n a : Nat) (w : Nat → Nat) (lv : List Nat) :
    ∀ (k : Nat) (pool : List Node) (i j : Nat) (tr : Nat → T) (lastY : Nat) (K : Nat → Nat),
    MInv n w lv k pool i j tr → SInv n a k pool i j tr lastY K →
    ∃ pool' i' j' tr' lastY' K', mergeLoop n k pool i j = .ok pool' ∧
      MInv n w lv 0 pool' i' j' tr' ∧ SInv n a 0 pool' i' j' tr' lastY' K' ∧
      pool'.length = pool.length := by
  intro k
  induction k with
  | zero => intro pool i j tr lastY K h hs; exact ⟨pool, i, j, tr, lastY, K, rfl, h, hs, rfl⟩
  | succ k ih =>
    intro pool i j tr lastY K h hs
    obtain ⟨x, y, i1, j1, i2, j2, hax, hay, hxy, hrel1, hrel2, hsub1, hsub2, hii1, hii2, hi2n,
      hjj1, hjj2, hj2e, hrun, hinv, hsame, hcnte, hl2⟩ := mergeStep n w lv k pool i j tr h
    obtain ⟨e, he⟩ : ∃ e, e = 2 * n - (k + 1) := ⟨_, rfl⟩
    rw [← he] at hax hay hsub1 hsub2 hj2e hrun hinv hsame hcnte hl2
    have hk := h.hk
    have hj1' := h.hj1
    have he2 : e + 1 = 2 * n - k := by omega
    have hen : n + 1 ≤ e := by omega
    have hS1 := hs.hS1
    have hS2 := hs.hS2
    have hS3 := hs.hS3
    have hS5 := hs.hS5
    have hleaf := hs.hleaf
    have hS6 := hs.hS6
    have hS7 := hs.hS7
    rw [← he] at hS2 hS3 hS5 hS6 hS7
    clear he
    have hminx := pick_min n e i j x i1 j1 pool hS1 hS2 hrel1
    have hminy := pick_min n e i1 j1 y i2 j2 pool
      (fun p q h1 h2 h3 => hS1 p q (by omega) h2 h3)
      (fun p q h1 h2 h3 => hS2 p q (by omega) h2 h3) hrel2
    have hxy_le : cntAt pool x ≤ cntAt pool y := hminx y hay
    have hlastx : lastY ≤ cntAt pool x := hS3 x hax
    have hcnt_lt : ∀ q, q < e → cntAt (stepPool pool e x y) q = cntAt pool q :=
      fun q hq => cntAt_congr _ _ q (hsame q hq)
    have hFx := hS6 x hax
    have hFy := hS6 y hay
    have hpos : a ≤ cntAt pool x := by
      have h1 : 1 * a ≤ fib ((tr x).height + 2) * a := Nat.mul_le_mul_right a (fib_pos _)
      omega
    have hGy : fib ((tr y).height + 1) * a ≤ cntAt pool x := by
      rcases hay with ⟨h1, h2⟩ | ⟨h1, h2⟩
      · rw [hleaf y h1 h2]
        show fib 1 * a ≤ _
        simp only [fib, Nat.one_mul]; exact hpos
      · have := hS7 y h1 h2; omega
    have hheight : (stepTr tr e x y e).height = 1 + max (tr x).height (tr y).height := by
      simp [stepTr, T.height]
    have hS6e : fib ((stepTr tr e x y e).height + 2) * a ≤ cntAt pool x + cntAt pool y := by
      rw [hheight]
      rcases Nat.le_total (tr x).height (tr y).height with hle | hle
      · rw [Nat.max_eq_right hle]
        have e1 : 1 + (tr y).height + 2 = ((tr y).height + 1) + 2 := by omega
        rw [e1, fib_add_two, Nat.add_mul]
        have hFy' : fib ((tr y).height + 1 + 1) * a ≤ cntAt pool y := hFy
        omega
      · rw [Nat.max_eq_left hle]
        have e1 : 1 + (tr x).height + 2 = ((tr x).height + 1) + 2 := by omega
        rw [e1, fib_add_two, Nat.add_mul]
        have := Nat.mul_le_mul_right a (fib_le_succ ((tr x).height + 1))
        have hFx' : fib ((tr x).height + 1 + 1) * a ≤ cntAt pool x := hFx
        omega
    have hS7e : fib ((stepTr tr e x y e).height + 1) * a ≤ cntAt pool y := by
      rw [hheight]
      rcases Nat.le_total (tr x).height (tr y).height with hle | hle
      · rw [Nat.max_eq_right hle]
        have e1 : 1 + (tr y).height + 1 = (tr y).height + 2 := by omega
        rw [e1]; exact hFy
      · rw [Nat.max_eq_left hle]
        have e1 : 1 + (tr x).height + 1 = (tr x).height + 2 := by omega
        rw [e1]; omega
    have hsinv : SInv n a k (stepPool pool e x y) i2 j2 (stepTr tr e x y) (cntAt pool y)
        (fun q => if q = e then cntAt pool y else K q) := by
      refine { hS1 := ?_, hS2 := ?_, hS3 := ?_, hS5 := ?_, hleaf := ?_, hS6 := ?_, hS7 := ?_ }
      · intro p q h1 h2 h3
        rw [hcnt_lt p (by omega), hcnt_lt q (by omega)]
        exact hS1 p q (by omega) h2 h3
      · intro p q h1 h2 h3
        rw [← he2] at h3
        rw [hcnt_lt p (by omega)]
        by_cases hq : q = e
        · subst hq
          rw [hcnte]
          have := hS5 p (by omega) (by omega)
          omega
        · rw [hcnt_lt q (by omega)]
          exact hS2 p q (by omega) h2 (by omega)
      · intro q hq
        rw [← he2] at hq
        by_cases hqe : q = e
        · subst hqe; rw [hcnte]; omega
        · have hq' : Avail n i2 j2 e q := by
            rcases hq with h1 | ⟨h1, h2⟩
            · exact Or.inl h1
            · exact Or.inr ⟨h1, by omega⟩
          have hqlt : q < e := by rcases hq' with ⟨_, h2⟩ | ⟨_, h2⟩ <;> omega
          rw [hcnt_lt q hqlt]
          exact hminy q (hsub2 q hq').1
      · intro q h1 h2
        rw [← he2] at h2
        by_cases hqe : q = e
        · subst hqe; rw [hcnte]; omega
        · rw [hcnt_lt q (by omega)]
          have := hS5 q (by omega) (by omega)
          omega
      · intro q h1 h2
        simp only [stepTr]
        rw [if_neg (by omega)]
        exact hleaf q (by omega) h2
      · intro q hq
        rw [← he2] at hq
        by_cases hqe : q = e
        · subst hqe; rw [hcnte]; exact hS6e
        · have hq' : Avail n i2 j2 e q := by
            rcases hq with h1 | ⟨h1, h2⟩
            · exact Or.inl h1
            · exact Or.inr ⟨h1, by omega⟩
          have hq0 : Avail n i j e q := (hsub1 q (hsub2 q hq').1).1
          have hqlt : q < e := by rcases hq0 with ⟨_, h2⟩ | ⟨_, h2⟩ <;> omega
          rw [hcnt_lt q hqlt]
          simp only [stepTr, hqe, ↓reduceIte]
          exact hS6 q hq0
      · intro q h1 h2
        rw [← he2] at h2
        by_cases hqe : q = e
        · subst hqe
          simp only [↓reduceIte]
          exact ⟨hS7e, Nat.le_refl _⟩
        · simp only [hqe, ↓reduceIte, stepTr]
          have := hS7 q (by omega) (by omega)
          exact ⟨this.1, by omega⟩
    obtain ⟨pool', i', j', tr', lastY', K', hm, hinv', hsinv', hl'⟩ :=
      ih _ i2 j2 _ _ _ hinv hsinv
    exact ⟨pool', i', j', tr', lastY', K', by rw [hrun]; exact hm, hinv', hsinv',
      by rw [hl', hl2]⟩

end BV.Lemmas.HuffmanFib
