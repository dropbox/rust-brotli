/-
The command loop of the two-pass `StoreCommands` simulates the RFC 7932 command loop `readCommands` on every command /
literal buffer accepted by `replayQ1` (induction over the RFC commands).
-/
import BV.Lemmas.FragmentCmd
import BV.Lemmas.MetaBlockSim
namespace BV.Fragment
open BV.Bits BV.MetaBlock BV.Huffman BV.PrefixArith BV.Recoder
open BV.Lemmas.HuffmanRead (takeBits_bitsOf)

theorem storeCmdLoop_sim (wo : WordOracle) (window mlen : Nat) (litD litB cmdD cmdB : List Nat)
    (litC cmdC distC : Code) :
    ∀ (f : Nat) (cmds lits : List Nat) (done : Nat) (st fin : RdSt) (s : Sto),
      replayGo wo window mlen f cmds lits done st = some fin →
      (∀ b ∈ lits, SymOK litD litB litC b b) →
      (∀ c ∈ cmds, c % 256 < 64 → SymOK cmdD cmdB cmdC (c % 256) (q1Symbol (c % 256))) →
      (∀ c ∈ cmds, 64 ≤ c % 256 → SymOK cmdD cmdB distC (c % 256) (c % 256 - 64)) →
      Good s → (s.ix + 81 * cmds.length + 57 * lits.length) / 8 + 8 ≤ s.bytes.size →
      ∃ s' db, storeCmdLoop litD litB cmdD cmdB cmds lits s = .ok s' ∧ Wr s s' db ∧
        ∀ rest f', f ≤ f' →
          readCommands wo window 0 0 litC cmdC distC mlen f' done st (db ++ rest) = some (fin, rest) := by
  intro f
  induction f with
  | zero => intro cmds lits done st fin s hrep; simp [replayGo] at hrep
  | succ f ih =>
  intro cmds lits done st fin s hrep hlit hcmd hdist hg hr
  cases cmds with
  | nil =>
    simp only [replayGo] at hrep
    by_cases hc : lits.isEmpty ∧ done = mlen
    · rw [if_pos hc] at hrep
      injection hrep with hrep
      refine ⟨s, [], by rw [storeCmdLoop], Wr.refl s hg, ?_⟩
      intro rest f' hf
      obtain ⟨f'', rfl⟩ : ∃ f'', f' = f'' + 1 := ⟨f' - 1, by omega⟩
      simp [readCommands, hc.2, hrep]
    · rw [if_neg hc] at hrep; cases hrep
  | cons cmd cs =>
    simp only [List.length_cons] at hr
    simp only [replayGo] at hrep
    cases hstep : stepQ1 wo window mlen cmd cs lits done st with
    | none => rw [hstep] at hrep; cases hrep
    | some res =>
    rw [hstep] at hrep
    unfold stepQ1 at hstep
    simp only [] at hstep
    by_cases hbad : cmd % 256 ≥ 64 ∨ cmd % 256 = 0 ∨ cmd % 256 = 40 ∨
        cmd / 256 ≥ 2 ^ kNumExtraBits.getD (cmd % 256) 0 ∨ done ≥ mlen
    · rw [if_pos hbad] at hstep; cases hstep
    rw [if_neg hbad] at hstep
    have hc64 : cmd % 256 < 64 := by omega
    have hex : cmd / 256 < 2 ^ kNumExtraBits.getD (cmd % 256) 0 := by omega
    have hdone : done < mlen := by omega
    obtain ⟨ib, ie, cb, ce, hti, htc, hsym704, hne24, htab⟩ := cmd_tables (cmd % 256) hc64
    rw [hti, htc] at hstep
    simp only [] at hstep
    have hsymOK := hcmd cmd (by simp) hc64
    obtain ⟨ins, cl, s1, pre, hinsl, hinsm, hloop, hw1, hix1, hRI, hstep'⟩ : ∃ ins cl s1 pre,
        ins ≤ lits.length ∧ ins ≤ mlen - done ∧
        storeCmdLoop litD litB cmdD cmdB (cmd :: cs) lits s
          = storeCmdLoop litD litB cmdD cmdB cs (lits.drop ins) s1 ∧
        Wr s s1 pre ∧ s1.ix ≤ s.ix + 80 + 56 * ins ∧
        (∀ rest, readInsert litC cmdC mlen done st.out (pre ++ rest)
          = some (ins, cl, (rfcCmdDecode (q1Symbol (cmd % 256))).2.2, st.out ++ lits.take ins, rest)) ∧
        stepTail wo window mlen (rfcCmdDecode (q1Symbol (cmd % 256))).2.2 cs (lits.drop ins) (done + ins) cl
          (st.out ++ lits.take ins) st.ring = some res := by
      by_cases h24 : cmd % 256 < 24
      · rw [if_pos h24] at htab
        simp only [h24, if_true] at hstep
        obtain ⟨hie, hce, hib, hib2, hol⟩ := htab
        subst hie hce
        by_cases hover : ib + cmd / 256 > lits.length ∨ ib + cmd / 256 > mlen - done
        · rw [if_pos hover] at hstep; cases hstep
        rw [if_neg hover] at hstep
        obtain ⟨s1, lb, hloop, hw1, hix1, hrl⟩ := loop_step_ins litD litB cmdD cmdB cmdC litC cmd _ cs lits s h24 hsymOK
          hne24 hex (by rw [← hib]; exact hib2) hol (by rw [← hib]; omega) hlit hg (by rw [← hib]; omega)
        rw [← hib] at hloop hix1 hrl
        refine ⟨ib + cmd / 256, cb, s1, _, by omega, by omega, hloop, hw1, hix1, ?_, hstep⟩
        intro rest
        unfold readInsert
        simp only [List.append_assoc]
        rw [hsymOK.rd]
        simp only []
        rw [if_neg (by omega), hti, htc]
        simp only []
        rw [takeBits_bitsOf _ _ _ hex]
        simp only []
        rw [takeBits_zero]
        simp only [Nat.add_zero]
        rw [if_neg (by omega), hrl]
        simp
      · rw [if_neg h24] at htab
        simp only [h24, if_false] at hstep
        obtain ⟨hie, hce, hib⟩ := htab
        subst hie hce hib
        have hover : ¬ (0 > lits.length ∨ 0 > mlen - done) := by omega
        rw [if_neg hover] at hstep
        obtain ⟨s1, hloop, hw1, hix1⟩ := loop_step_plain litD litB cmdD cmdB cmdC cmd _ cs lits s (by omega) (by omega)
          hsymOK hne24 hex hg (by omega)
        refine ⟨0, cb + cmd / 256, s1, _, by omega, by omega, by simpa using hloop, hw1, by omega, ?_, hstep⟩
        intro rest
        unfold readInsert
        simp only [List.append_assoc]
        rw [hsymOK.rd]
        simp only []
        rw [if_neg (by omega), hti, htc]
        simp only []
        rw [takeBits_zero]
        simp only []
        rw [takeBits_bitsOf _ _ _ hex]
        simp only [Nat.add_zero]
        rw [if_neg (by omega)]
        simp [readLiterals]
    have hlit' : ∀ b ∈ lits.drop ins, SymOK litD litB litC b b := fun b hb => hlit b (List.mem_of_mem_drop hb)
    have hdl : (lits.drop ins).length = lits.length - ins := List.length_drop
    unfold stepTail at hstep'
    by_cases hfin : done + ins = mlen
    · rw [if_pos hfin] at hstep'
      by_cases hemp : cs.isEmpty ∧ (lits.drop ins).isEmpty
      · rw [if_pos hemp] at hstep'
        injection hstep' with hstep'
        subst hstep'
        simp only [] at hrep
        injection hrep with hrep
        have hcs : cs = [] := by simpa using hemp.1
        subst hcs
        refine ⟨s1, pre, by rw [hloop, storeCmdLoop], hw1, ?_⟩
        intro rest f' hf
        obtain ⟨f'', rfl⟩ : ∃ f'', f' = f'' + 1 := ⟨f' - 1, by omega⟩
        rw [readCommands, if_neg (by omega), hRI]
        simp only []
        rw [if_pos hfin, hrep]
      · rw [if_neg hemp] at hstep'; cases hstep'
    rw [if_neg hfin] at hstep'
    by_cases himp : (rfcCmdDecode (q1Symbol (cmd % 256))).2.2 = true
    · rw [if_pos himp] at hstep'
      cases hac : applyCopy wo window 0 0 mlen (done + ins) cl (st.out ++ lits.take ins) st.ring 0 0 with
      | none => rw [hac] at hstep'; cases hstep'
      | some nst =>
      obtain ⟨n, st'⟩ := nst
      rw [hac] at hstep'
      injection hstep' with hstep'
      subst hstep'
      simp only [] at hrep
      obtain ⟨s2, db2, e2, w2, r2⟩ := ih cs (lits.drop ins) (done + ins + n) st' fin s1 hrep hlit'
        (fun c hc => hcmd c (List.mem_cons_of_mem _ hc)) (fun c hc => hdist c (List.mem_cons_of_mem _ hc))
        hw1.good (by rw [hdl, hw1.size]; omega)
      refine ⟨s2, pre ++ db2, by rw [hloop, e2], hw1.trans w2, ?_⟩
      intro rest f' hf
      obtain ⟨f'', rfl⟩ : ∃ f'', f' = f'' + 1 := ⟨f' - 1, by omega⟩
      rw [readCommands, if_neg (by omega), List.append_assoc, hRI]
      simp only []
      rw [if_neg hfin]
      unfold readCopy
      rw [himp]
      simp only [if_true, show (0 : Nat) < 16 + 0 by decide, takeBits_zero, hac]
      exact r2 rest f'' (by omega)
    · rw [if_neg himp] at hstep'
      cases cs with
      | nil => simp at hstep'
      | cons dcmd cs' =>
      simp only [] at hstep'
      by_cases hdbad : dcmd % 256 < 64 ∨ dcmd % 256 ≥ 128 ∨ dcmd / 256 ≥ 2 ^ kNumExtraBits.getD (dcmd % 256) 0
      · rw [if_pos hdbad] at hstep'; cases hstep'
      rw [if_neg hdbad] at hstep'
      cases hac : applyCopy wo window 0 0 mlen (done + ins) cl (st.out ++ lits.take ins) st.ring (dcmd % 256 - 64)
          (dcmd / 256) with
      | none => rw [hac] at hstep'; cases hstep'
      | some nst =>
      obtain ⟨n, st'⟩ := nst
      rw [hac] at hstep'
      injection hstep' with hstep'
      subst hstep'
      simp only [] at hrep
      obtain ⟨hdn, hdne⟩ := dist_all (dcmd % 256) (by omega) (by omega)
      have hdsym := hdist dcmd (by simp) (by omega)
      simp only [List.length_cons] at hr
      obtain ⟨s2, hloop2, hw2, hix2⟩ := loop_step_plain litD litB cmdD cmdB distC dcmd _ cs' (lits.drop ins) s1
        (by omega) (by omega) hdsym hdne (by omega) hw1.good (by rw [hw1.size]; omega)
      obtain ⟨s3, db3, e3, w3, r3⟩ := ih cs' (lits.drop ins) (done + ins + n) st' fin s2 hrep hlit'
        (fun c hc => hcmd c (List.mem_cons_of_mem _ (List.mem_cons_of_mem _ hc)))
        (fun c hc => hdist c (List.mem_cons_of_mem _ (List.mem_cons_of_mem _ hc)))
        hw2.good (by rw [hdl, hw2.size, hw1.size]; omega)
      refine ⟨s3, pre ++ ((bitsOf (cmdD.getD (dcmd % 256) 0) (cmdB.getD (dcmd % 256) 0) ++
        bitsOf (kNumExtraBits.getD (dcmd % 256) 0) (dcmd / 256)) ++ db3), by rw [hloop, hloop2, e3],
        hw1.trans (hw2.trans w3), ?_⟩
      intro rest f' hf
      obtain ⟨f'', rfl⟩ : ∃ f'', f' = f'' + 1 := ⟨f' - 1, by omega⟩
      rw [readCommands, if_neg (by omega), List.append_assoc, hRI]
      simp only []
      rw [if_neg hfin]
      unfold readCopy
      have himp' : (rfcCmdDecode (q1Symbol (cmd % 256))).2.2 = false := by simpa using himp
      rw [himp']
      simp only [Bool.false_eq_true, if_false, List.append_assoc]
      rw [hdsym.rd]
      simp only []
      rw [hdn, takeBits_bitsOf _ _ _ (by omega)]
      simp only [hac]
      exact r3 rest f'' (by omega)

end BV.Fragment
