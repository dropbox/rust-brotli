/-
Facts about the prelude of the Rust-to-Lean translator (BV/Model/RsPrelude.lean): on values that fit, the
fixed-width operations are the mathematical ones (`wrapS`, `toU`, `sop` on values in range; the translator's
`(a + N - b) % N` for `wrapping_sub`; masks `(1 << k) - 1`; `63 ^ clz`), the shape of the generated no-panic
conditions, and the text the translator produces for `BrotliEncodeMlen`, which three generated modules contain.
The generated text carries its moduli and bounds as numerals (`4294967296`, `18446744073709551616`), which a bound
written `2 ^ 32` does not match syntactically: hence the lemmas at a literal width (`wrapS32_of_range`, `toU32_ofNat`,
`toU64_ofNat`, `and_1023` for `dist_prefix_ & 0x3ff`) and the equations `two_pow_30/32/64`.
-/
import BV.Model.RsPrelude
import BV.Lemmas.ListNat

namespace BV.Rs

theorem two_pow_30 : (2 : Nat) ^ 30 = 1073741824 := by decide
theorem two_pow_32 : (2 : Nat) ^ 32 = 4294967296 := by decide
theorem two_pow_64 : (2 : Nat) ^ 64 = 18446744073709551616 := by decide

theorem wrapS_of_range (w : Nat) (x : Int) (hw : 0 < w) (h1 : -2 ^ (w - 1) ≤ x) (h2 : x < 2 ^ (w - 1)) : wrapS w x = x := by
  unfold wrapS
  obtain ⟨k, rfl⟩ : ∃ k, w = k + 1 := ⟨w - 1, by omega⟩
  rw [Nat.add_sub_cancel] at *
  rw [Int.pow_succ, Int.emod_eq_of_lt (by omega) (by omega)]
  omega

theorem wrapS32_of_range (x : Int) (h1 : -2147483648 ≤ x) (h2 : x < 2147483648) : wrapS 32 x = x :=
  wrapS_of_range 32 x (by decide) h1 h2

/-! `toU w` is the quotient map `Int → ℤ/2^w`, read off as a `Nat`; `wrapS w'` is invisible under it when `w ≤ w'`.  A cast
fact of the generated text follows by pushing `toU` to the leaves. -/

theorem toU_cast (w : Nat) (x : Int) : ((toU w x : Nat) : Int) = x % 2 ^ w :=
  Int.toNat_of_nonneg (Int.emod_nonneg _ (Int.pow_ne_zero (by decide)))

theorem toU_lt (w : Nat) (x : Int) : toU w x < 2 ^ w := by
  have := Int.emod_lt_of_pos x (show (0 : Int) < 2 ^ w from Int.pow_pos (by decide))
  rw [← toU_cast] at this
  exact_mod_cast this

theorem toU_congr {w : Nat} {x y : Int} (h : x % 2 ^ w = y % 2 ^ w) : toU w x = toU w y := by
  unfold toU; rw [h]

theorem wrapS_emod (w : Nat) (x : Int) : wrapS w x % 2 ^ w = x % 2 ^ w := by
  unfold wrapS
  rw [Int.sub_emod, Int.emod_emod, ← Int.sub_emod, Int.add_sub_cancel]

theorem toU_wrapS {w w' : Nat} (h : w ≤ w') (x : Int) : toU w (wrapS w' x) = toU w x := by
  apply toU_congr
  have hd : (2 : Int) ^ w ∣ 2 ^ w' := ⟨2 ^ (w' - w), by rw [← Int.pow_add, Nat.add_sub_cancel' h]⟩
  rw [← Int.emod_emod_of_dvd _ hd, wrapS_emod, Int.emod_emod_of_dvd _ hd]

theorem toU_natCast (w n : Nat) : toU w (n : Int) = n % 2 ^ w := by
  unfold toU
  rw [show (2 : Int) ^ w = ((2 ^ w : Nat) : Int) from (Int.natCast_pow 2 w).symm, ← Int.natCast_emod, Int.toNat_natCast]

theorem toU_add (w : Nat) (a b : Int) : toU w (a + b) = (toU w a + toU w b) % 2 ^ w := by
  rw [← toU_natCast, Int.natCast_add, toU_cast, toU_cast]
  exact toU_congr (Int.add_emod a b _)

theorem toU_mul (w : Nat) (a b : Int) : toU w (a * b) = (toU w a * toU w b) % 2 ^ w := by
  rw [← toU_natCast, Int.natCast_mul, toU_cast, toU_cast]
  exact toU_congr (Int.mul_emod a b _)

theorem toU_sub (w : Nat) (a b : Int) : toU w (a - b) = (toU w a + 2 ^ w - toU w b) % 2 ^ w := by
  have hb : toU w b ≤ 2 ^ w := Nat.le_of_lt (toU_lt w b)
  rw [← toU_natCast, Nat.add_sub_assoc hb, Int.natCast_add, Int.natCast_sub hb, toU_cast, toU_cast, Int.natCast_pow]
  apply toU_congr
  rw [Int.sub_emod a b]
  generalize a % 2 ^ w = x
  generalize b % 2 ^ w = y
  rw [show x + (((2 : Nat) : Int) ^ w - y) = x - y + 2 ^ w from by show x + ((2 : Int) ^ w - y) = _; omega, Int.add_emod_right]

theorem toU_toU_mod {w w' : Nat} (h : w ≤ w') (x : Int) : toU w x = toU w' x % 2 ^ w := by
  rw [← toU_natCast, toU_cast]
  exact toU_congr (Int.emod_emod_of_dvd _ ⟨2 ^ (w' - w), by rw [← Int.pow_add, Nat.add_sub_cancel' h]⟩).symm

theorem toU_ofNat (w n : Nat) (h : n < 2 ^ w) : toU w (n : Int) = n := by
  rw [toU_natCast, Nat.mod_eq_of_lt h]

theorem toU32_ofNat (n : Nat) (h : n < 4294967296) : toU 32 (n : Int) = n := toU_ofNat 32 n h

theorem toU64_ofNat (n : Nat) (h : n < 18446744073709551616) : toU 64 (n : Int) = n := toU_ofNat 64 n h

theorem sop32_ofNat (f : Nat → Nat → Nat) (a b : Nat) (ha : a < 4294967296) (hb : b < 4294967296)
    (hf : f a b < 2147483648) : sop f 32 (a : Int) (b : Int) = (f a b : Nat) := by
  unfold sop
  rw [toU32_ofNat a ha, toU32_ofNat b hb]
  exact wrapS32_of_range _ (by omega) (by omega)

theorem wsub_wsub_of_le {N a b c : Nat} (hb : b ≤ a) (hc : c ≤ a - b) (ha : a < N) : (a + N - b + N - c) % N = a - b - c := by
  rw [show a + N - b + N - c = a - b - c + N + N by omega, Nat.add_mod_right, Nat.add_mod_right, Nat.mod_eq_of_lt (by omega)]

theorem shl_mask {N k np : Nat} (h : np < k) (hN : 2 ^ np < N) : ((1 <<< (np % k)) % N + N - 1) % N = 2 ^ np - 1 := by
  rw [Nat.mod_eq_of_lt h, Nat.one_shiftLeft, Nat.mod_eq_of_lt hN, wsub_of_le (Nat.pow_pos (by decide)) hN]

/-- the shape of the generated no-panic conditions -/
theorem ite_eq_true_of {c : Prop} [Decidable c] {a b : Bool} (ha : c → a = true) (hb : ¬ c → b = true) :
    (if c then a else b) = true := by
  by_cases h : c
  · rw [if_pos h]; exact ha h
  · rw [if_neg h]; exact hb h

theorem xor63 : ∀ k : Fin 64, 63 ^^^ (64 - 1 - k.val) = k.val := by decide

theorem xor63_clz (v : Nat) (h0 : v ≠ 0) (h : v < 2 ^ 64) : 63 ^^^ clz 64 v = Nat.log2 v := by
  unfold clz
  rw [if_neg h0]
  exact xor63 ⟨Nat.log2 v, (Nat.log2_lt h0).2 h⟩

/-- the text the translator produces for `BrotliEncodeMlen` (`src/enc/brotli_bit_stream.rs`), over any function `lg2` that
is the binary logarithm at `length - 1`: for `1 ≤ length ≤ 2^24` no `u32` operation wraps -/
theorem encode_mlen_text (lg2 : Nat → Nat) (len : Nat) (h1 : 1 ≤ len) (h : len ≤ 16777216)
    (hl : len ≠ 1 → lg2 (len - 1) = Nat.log2 (len - 1)) :
    ((len + 4294967296 - 1) % 4294967296,
      ((if decide ((if (len == 1) then 1 else (lg2 ((len + 4294967296 - 1) % 4294967296) + 1) % 4294967296) < 16) then 16
        else ((if (len == 1) then 1 else (lg2 ((len + 4294967296 - 1) % 4294967296) + 1) % 4294967296) + 3) % 4294967296) / 4 * 4) % 4294967296,
      ((if decide ((if (len == 1) then 1 else (lg2 ((len + 4294967296 - 1) % 4294967296) + 1) % 4294967296) < 16) then 16
        else ((if (len == 1) then 1 else (lg2 ((len + 4294967296 - 1) % 4294967296) + 1) % 4294967296) + 3) % 4294967296) / 4 + 4294967296 - 4) % 4294967296) =
    (len - 1,
      (if (if len = 1 then 1 else Nat.log2 (len - 1) + 1) < 16 then 16 else (if len = 1 then 1 else Nat.log2 (len - 1) + 1) + 3) / 4 * 4,
      (if (if len = 1 then 1 else Nat.log2 (len - 1) + 1) < 16 then 16 else (if len = 1 then 1 else Nat.log2 (len - 1) + 1) + 3) / 4 - 4) := by
  rw [wsub_of_le h1 (show len < 4294967296 by omega)]
  by_cases h1' : len = 1
  · subst h1'; simp
  · have hL : Nat.log2 (len - 1) < 24 := (Nat.log2_lt (by omega)).2 (by omega)
    have hb : (len == 1) = false := by simpa using h1'
    rw [hb, hl h1', if_neg h1']
    generalize Nat.log2 (len - 1) = L at hL
    simp only [Bool.false_eq_true, if_false, decide_eq_true_eq, Nat.mod_eq_of_lt (show L + 1 < 4294967296 by omega)]
    by_cases h16 : L + 1 < 16
    · rw [if_pos h16, if_pos h16]
    · rw [if_neg h16, if_neg h16, Nat.mod_eq_of_lt (show L + 1 + 3 < 4294967296 by omega),
        Nat.mod_eq_of_lt (show (L + 1 + 3) / 4 * 4 < 4294967296 by omega),
        wsub_of_le (show 4 ≤ (L + 1 + 3) / 4 by omega) (show (L + 1 + 3) / 4 < 4294967296 by omega)]

theorem and_1023 (x : Nat) : x &&& 1023 = x % 1024 := Nat.and_two_pow_sub_one_eq_mod x 10

end BV.Rs
