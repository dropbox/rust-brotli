import BV.Model.Stream
import BV.Lemmas.Bits
/-
Bit-level facts about what the stream machine writes itself (sync block, metadata header),
and the spec-side reader of RFC 7932 section 9.2 for metadata meta-blocks: for every block size up to
2^24 and every carry, the header `write_metadata_header` writes (and the zero fill) parses back to
exactly that size.
-/
namespace BV.Stream
open BV.Bits

theorem St.carry_length (s : St) : s.carry.length = s.lastBytesBits := bitsOf_length _ _

theorem bytesBits_append (a b : Bytes) : bytesBits (a ++ b) = bytesBits a ++ bytesBits b := by
  induction a with
  | nil => rfl
  | cons x xs ih => simp [bytesBits, ih]

theorem bytesBits_length (a : Bytes) : (bytesBits a).length = 8 * a.length := by
  induction a with
  | nil => rfl
  | cons x xs ih => simp [bytesBits, bitsOf_length, ih]; omega

theorem encodeBase128_length (fuel v : Nat) : (encodeBase128 fuel v).length ≤ fuel := by
  induction fuel generalizing v with
  | zero => simp [encodeBase128]
  | succ k ih =>
    unfold encodeBase128
    simp only
    split
    · simp only [List.length_cons]; have := ih (v / 128); omega
    · split <;> simp

theorem padToByte_length (w : Writer) : (padToByte w).length = (w.length + 7) / 8 * 8 := by
  unfold padToByte
  simp only [List.length_append, List.length_replicate]
  omega

theorem padToByte_length_le (w : Writer) : (padToByte w).length ≤ w.length + 7 := by
  rw [padToByte_length]; omega

namespace Spec

/-- the header of a metadata meta-block: `ISLAST = 0`, `MNIBBLES = 11` (the value 0),
reserved bit 0, `MSKIPBYTES` (2 bits), `MSKIPLEN - 1` in `MSKIPBYTES` bytes (an over-long
encoding — more than one byte with a zero last byte — is invalid).  Returns `MSKIPLEN` and
the bits behind the length field. -/
def parseMetadataHeader : List Bool → Option (Nat × List Bool)
  | false :: true :: true :: false :: k0 :: k1 :: rest =>
    let k := (if k0 then 1 else 0) + 2 * (if k1 then 1 else 0)
    if rest.length < 8 * k then none
    else
      let v := valOf (rest.take (8 * k))
      if k > 1 ∧ v / 2 ^ (8 * (k - 1)) = 0 then none
      else some (if k = 0 then 0 else v + 1, rest.drop (8 * k))
  | _ => none

/-- a whole metadata meta-block that starts `off` bits into a byte; returns the payload (as bits) and what follows -/
def parseMetadataBlock (off : Nat) (bs : List Bool) : Option (List Bool × List Bool) :=
  match parseMetadataHeader bs with
  | none => none
  | some (len, rest) =>
    let used := off + (bs.length - rest.length)
    let pad := (8 - used % 8) % 8
    if rest.length < pad + 8 * len then none
    else if (rest.take pad).any id then none
    else some ((rest.drop pad).take (8 * len), rest.drop (pad + 8 * len))

end Spec

/-- the six bits of the empty metadata block (`BrotliWriteBits(6, 6)`: the value 6 LSB first) -/
def syncBits : List Bool := [false, true, true, false, false, false]

theorem bytesBits_sealBytes (k : Nat) : ∀ v, bytesBits (sealBytes v k) = bitsOf (8 * k) v := by
  induction k with
  | zero => intro v; rfl
  | succ k ih =>
    intro v
    have e : sealBytes v (k + 1) = v % 256 :: sealBytes (v / 256) k := by
      unfold sealBytes
      rw [List.range_succ_eq_map, List.map_cons, List.map_map]
      congr 1
      · simp
      · apply List.map_congr_left
        intro i _
        simp only [Function.comp, Nat.pow_succ, Nat.mul_comm (256 ^ i) 256, ← Nat.div_div_eq_div_mul]
    rw [e, bytesBits, ih, show 8 * (k + 1) = 8 + 8 * k by omega, bitsOf_add, show (256 : Nat) = 2 ^ 8 from rfl, bitsOf_mod]

/-- the bytes of the padding block (`inject_byte_padding_block`), for every carry -/
theorem sync_block_bits_gen (c lb : Nat) (hlb : lb < 2 ^ c) :
    bytesBits (sealBytes (lb ||| (6 * 2 ^ c)) ((c + 6 + 7) / 8))
      = bitsOf c lb ++ syncBits ++ List.replicate (8 * ((c + 6 + 7) / 8) - c - 6) false := by
  obtain ⟨n, hn⟩ : ∃ n, 8 * ((c + 6 + 7) / 8) = c + (6 + n) := ⟨8 * ((c + 6 + 7) / 8) - c - 6, by omega⟩
  rw [bytesBits_sealBytes, hn, Nat.or_comm, bitsOf_pair c (6 + n) lb 6 hlb, bitsOf_add 6 n 6,
    show 6 / 2 ^ 6 = 0 from rfl, bitsOf_zero, show c + (6 + n) - c - 6 = n by omega, List.append_assoc]
  rfl

def syncParses (c : Nat) : Bool :=
  Spec.parseMetadataBlock c (syncBits ++ List.replicate ((8 - (c + 6) % 8) % 8) false) == some ([], [])

/-- bit offsets below 16 are all there are: the carry has at most 14 bits -/
theorem syncParses_all : ∀ c : Fin 16, syncParses c.val = true := by
  decide

/-- number of length bytes `write_metadata_header` uses for a non-empty block -/
def mdNbytes (n : Nat) : Nat := ((if n = 1 then 1 else Nat.log2 (n - 1) + 1) + 7) / 8

theorem mdNbytes_spec {n : Nat} (h1 : 1 ≤ n) (h2 : n ≤ 16777216) :
    1 ≤ mdNbytes n ∧ mdNbytes n ≤ 3 ∧ n - 1 < 2 ^ (8 * mdNbytes n) ∧
    (mdNbytes n ≤ 1 ∨ 2 ^ (8 * (mdNbytes n - 1)) ≤ n - 1) := by
  unfold mdNbytes
  by_cases hn1 : n = 1
  · subst hn1; simp
  · rw [if_neg hn1]
    have hm : n - 1 ≠ 0 := by omega
    have hlo : 2 ^ Nat.log2 (n - 1) ≤ n - 1 := Nat.log2_self_le hm
    have hhi : n - 1 < 2 ^ (Nat.log2 (n - 1) + 1) := Nat.lt_log2_self
    have hlt24 : Nat.log2 (n - 1) < 24 := (Nat.log2_lt hm).mpr (by omega)
    generalize hL : Nat.log2 (n - 1) = L at *
    have hcase : L < 8 ∨ (8 ≤ L ∧ L < 16) ∨ (16 ≤ L ∧ L < 24) := by omega
    rcases hcase with hc | ⟨hc1, hc2⟩ | ⟨hc1, hc2⟩
    · have hk : (L + 1 + 7) / 8 = 1 := by omega
      rw [hk]
      refine ⟨by omega, by omega, ?_, Or.inl (by omega)⟩
      have : 2 ^ (L + 1) ≤ 2 ^ (8 * 1) := Nat.pow_le_pow_right (by omega) (by omega)
      omega
    · have hk : (L + 1 + 7) / 8 = 2 := by omega
      rw [hk]
      refine ⟨by omega, by omega, ?_, Or.inr ?_⟩
      · have : 2 ^ (L + 1) ≤ 2 ^ (8 * 2) := Nat.pow_le_pow_right (by omega) (by omega)
        omega
      · have : 2 ^ (8 * (2 - 1)) ≤ 2 ^ L := Nat.pow_le_pow_right (by omega) (by omega)
        omega
    · have hk : (L + 1 + 7) / 8 = 3 := by omega
      rw [hk]
      refine ⟨by omega, by omega, ?_, Or.inr ?_⟩
      · have : 2 ^ (L + 1) ≤ 2 ^ (8 * 3) := Nat.pow_le_pow_right (by omega) (by omega)
        omega
      · have : 2 ^ (8 * (3 - 1)) ≤ 2 ^ L := Nat.pow_le_pow_right (by omega) (by omega)
        omega

theorem parseHeader_build (k v : Nat) (hk : k ≤ 3) (hv : v < 2 ^ (8 * k))
    (hmin : k ≤ 1 ∨ 2 ^ (8 * (k - 1)) ≤ v) (R : List Bool) :
    Spec.parseMetadataHeader ([false, true, true, false] ++ bitsOf 2 k ++ bitsOf (8 * k) v ++ R)
      = some (if k = 0 then 0 else v + 1, R) := by
  have hbits : bitsOf 2 k = [k % 2 == 1, k / 2 % 2 == 1] := by simp [bitsOf]
  rw [hbits]
  simp only [List.cons_append, List.nil_append, Spec.parseMetadataHeader]
  have hkk : ((if (k % 2 == 1) = true then 1 else 0) + 2 * (if (k / 2 % 2 == 1) = true then 1 else 0)) = k := by
    have : k = 0 ∨ k = 1 ∨ k = 2 ∨ k = 3 := by omega
    rcases this with rfl | rfl | rfl | rfl <;> rfl
  rw [hkk]
  have hlen : ¬ (bitsOf (8 * k) v ++ R).length < 8 * k := by
    rw [List.length_append, bitsOf_length]; omega
  rw [if_neg hlen]
  have htake : (bitsOf (8 * k) v ++ R).take (8 * k) = bitsOf (8 * k) v := by
    rw [List.take_append_of_le_length (by rw [bitsOf_length]; exact Nat.le_refl _)]
    rw [List.take_of_length_le (by rw [bitsOf_length]; exact Nat.le_refl _)]
  have hdrop : (bitsOf (8 * k) v ++ R).drop (8 * k) = R := by
    rw [List.drop_append_of_le_length (by rw [bitsOf_length]; exact Nat.le_refl _)]
    rw [List.drop_of_length_le (by rw [bitsOf_length]; exact Nat.le_refl _)]
    rfl
  simp only [htake, hdrop, valOf_bitsOf_lt hv]
  have hnot : ¬ (k > 1 ∧ v / 2 ^ (8 * (k - 1)) = 0) := by
    intro ⟨hk1, hz⟩
    rcases hmin with h | h
    · omega
    · have hpos : 0 < 2 ^ (8 * (k - 1)) := Nat.pow_pos (by omega)
      have : 1 ≤ v / 2 ^ (8 * (k - 1)) := (Nat.le_div_iff_mul_le hpos).mpr (by omega)
      omega
  rw [if_neg hnot]

/-- the header bits `write_metadata_header` appends behind the carry (before the zero fill) -/
def mdHeader (n : Nat) : List Bool :=
  [false, true, true, false] ++ bitsOf 2 (if n = 0 then 0 else mdNbytes n) ++
    bitsOf (8 * (if n = 0 then 0 else mdNbytes n)) (n - 1)

theorem mdHeader_length (n : Nat) : (mdHeader n).length = 6 + 8 * (if n = 0 then 0 else mdNbytes n) := by
  simp [mdHeader, bitsOf_length]; omega

theorem metadataHeaderBits_eq (n : Nat) (hn : n ≤ 16777216) (carry : Writer) :
    metadataHeaderBits n carry = padToByte (carry ++ mdHeader n) := by
  have e1 : carry ++ bitsOf 1 0 ++ bitsOf 2 3 ++ bitsOf 1 0 = carry ++ [false, true, true, false] := by
    simp [bitsOf]
  unfold metadataHeaderBits
  simp only [e1]
  by_cases h0 : n = 0
  · subst h0
    simp only [↓reduceIte, mdHeader, Nat.mul_zero, List.append_assoc]
    rfl
  · have hmod : (n % two32 + two32 - 1) % two32 = n - 1 := by
      have hlt : n < two32 := by unfold two32; omega
      rw [Nat.mod_eq_of_lt hlt]
      have : n + two32 - 1 = (n - 1) + two32 := by omega
      rw [this, Nat.add_mod_right, Nat.mod_eq_of_lt (by omega)]
    have hk : ((if n = 1 then 1 else Nat.log2 ((n % two32 + two32 - 1) % two32) + 1) + 7) / 8 = mdNbytes n := by
      rw [hmod]; rfl
    simp only [h0, ↓reduceIte, hk, mdHeader, List.append_assoc]

theorem metadataHeaderBits_length_le (n : Nat) (hn : n ≤ 16777216) (carry : Writer) :
    (metadataHeaderBits n carry).length ≤ carry.length + 37 := by
  rw [metadataHeaderBits_eq n hn]
  have h1 := padToByte_length_le (carry ++ mdHeader n)
  -- 37 = 6 header bits + at most 3 length bytes + at most 7 fill bits
  have h2 := mdHeader_length n
  rw [List.length_append] at h1
  by_cases h0 : n = 0
  · rw [if_pos h0] at h2; omega
  · rw [if_neg h0] at h2
    have := (mdNbytes_spec (by omega) hn).2.1
    omega

theorem padToByte_drop (a b : List Bool) :
    (padToByte (a ++ b)).drop a.length = b ++ List.replicate ((8 - (a.length + b.length) % 8) % 8) false := by
  unfold padToByte
  rw [List.append_assoc, List.drop_append_of_le_length (Nat.le_refl _), List.drop_of_length_le (Nat.le_refl _),
    List.length_append]
  rfl

/-- block form of C04 `metadata_header_inverse` -/
theorem metadataHeader_parses (n : Nat) (hn : n ≤ 16777216) (carry : Writer) (payload rest : List Bool)
    (hp : payload.length = 8 * n) :
    Spec.parseMetadataBlock carry.length ((metadataHeaderBits n carry).drop carry.length ++ payload ++ rest)
      = some (payload, rest) := by
  rw [metadataHeaderBits_eq n hn, padToByte_drop]
  generalize hpad : (8 - (carry.length + (mdHeader n).length) % 8) % 8 = pad
  have hparse : Spec.parseMetadataHeader (mdHeader n ++ List.replicate pad false ++ payload ++ rest)
      = some (n, List.replicate pad false ++ payload ++ rest) := by
    unfold mdHeader
    by_cases h0 : n = 0
    · subst h0
      have := parseHeader_build 0 0 (by omega) (by simp) (Or.inl (by omega)) (List.replicate pad false ++ payload ++ rest)
      simpa [List.append_assoc] using this
    · simp only [h0, ↓reduceIte]
      obtain ⟨k1, k3, kv, kmin⟩ := mdNbytes_spec (by omega) hn
      have := parseHeader_build (mdNbytes n) (n - 1) k3 kv kmin (List.replicate pad false ++ payload ++ rest)
      have hk0 : mdNbytes n ≠ 0 := by omega
      simp only [hk0, ↓reduceIte] at this
      have hn1 : n - 1 + 1 = n := by omega
      rw [hn1] at this
      simpa [List.append_assoc] using this
  unfold Spec.parseMetadataBlock
  simp only [List.append_assoc] at hparse ⊢
  rw [hparse]
  simp only
  have hused : carry.length + ((mdHeader n ++ (List.replicate pad false ++ (payload ++ rest))).length
      - (List.replicate pad false ++ (payload ++ rest)).length) = carry.length + (mdHeader n).length := by
    simp only [List.length_append]; omega
  rw [hused, hpad]
  have hlen : ¬ (List.replicate pad false ++ (payload ++ rest)).length < pad + 8 * n := by
    simp only [List.length_append, List.length_replicate, hp]; omega
  rw [if_neg hlen]
  have htake : (List.replicate pad false ++ (payload ++ rest)).take pad = List.replicate pad false := by
    rw [List.take_append_of_le_length (by simp), List.take_of_length_le (by simp)]
  rw [htake]
  have hany : (List.replicate pad false).any id = false := by
    simp
  rw [hany]
  simp only [Bool.false_eq_true, ↓reduceIte]
  have hdrop1 : (List.replicate pad false ++ (payload ++ rest)).drop pad = payload ++ rest := by
    rw [List.drop_append_of_le_length (by simp), List.drop_of_length_le (by simp)]; rfl
  have hdrop2 : (List.replicate pad false ++ (payload ++ rest)).drop (pad + 8 * n) = rest := by
    rw [← List.drop_drop, hdrop1, ← hp, List.drop_append_of_le_length (Nat.le_refl _), List.drop_of_length_le (Nat.le_refl _)]; rfl
  rw [hdrop1, hdrop2, ← hp, List.take_append_of_le_length (Nat.le_refl _), List.take_of_length_le (Nat.le_refl _)]

end BV.Stream
