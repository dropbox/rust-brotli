/-
C17: the header of a complex prefix code description
(`BrotliStoreHuffmanTreeOfHuffmanTreeToBitMask`: HSKIP and the code length code
lengths in their fixed variable-length code) is read back by the RFC 7932 §3.5
reader.
-/
import BV.Lemmas.HuffmanStoreRead

namespace BV.Lemmas.HuffmanHeader
open BV.Gen BV.Bits BV.Huffman BV.Lemmas.HuffmanCanon BV.Lemmas.HuffmanRead
open BV.Lemmas.HuffmanStoreRead

def vlcBits (v : Nat) : List Bool :=
  bitsOf (kHuffmanBitLengthHuffmanCodeBitLengths.getD v 0)
    (kHuffmanBitLengthHuffmanCodeSymbols.getD v 0)

/-- one row `(symbol, width, value)` of the RFC table tried on a stream -/
def vlcTry (bs : List Bool) (e : Nat × Nat × Nat) : Option (Nat × List Bool) :=
  (takeBits e.2.1 bs).bind fun p => if p.1 = e.2.2 then some (e.1, p.2) else none

theorem readClVlc_eq (bs : List Bool) : readClVlc bs = rfcClVlc.findSome? (vlcTry bs) := by
  unfold readClVlc
  congr 1
  funext ⟨sym, n, v⟩
  simp only [vlcTry]
  cases takeBits n bs <;> rfl

/-- the rows before `e` differ from it within the width they share with it, so they cannot match a stream that
starts with its bits -/
theorem findSome_vlcTry (rest : List Bool) (e : Nat × Nat × Nat) (he : e.2.2 < 2 ^ e.2.1) :
    ∀ (pre post : List (Nat × Nat × Nat)),
    (∀ a ∈ pre, a.2.2 % 2 ^ min e.2.1 a.2.1 ≠ e.2.2 % 2 ^ min e.2.1 a.2.1) →
    (pre ++ e :: post).findSome? (vlcTry (bitsOf e.2.1 e.2.2 ++ rest)) = some (e.1, rest) := by
  intro pre
  induction pre with
  | nil =>
    intro post _
    simp [vlcTry, takeBits_bitsOf _ _ rest he]
  | cons a pre ih =>
    intro post hap
    have hmiss : vlcTry (bitsOf e.2.1 e.2.2 ++ rest) a = none := by
      unfold vlcTry
      cases h : takeBits a.2.1 (bitsOf e.2.1 e.2.2 ++ rest) with
      | none => rfl
      | some p =>
        have := takeBits_low _ _ _ p.1 rest p.2 h
        rw [Option.bind_some, if_neg]
        intro hp
        rw [hp] at this
        exact hap a (by simp) this
    rw [List.cons_append, List.findSome?_cons, hmiss]
    exact ih post (fun a' ha' => hap a' (List.mem_cons_of_mem _ ha'))

theorem rfcClVlc_rows : ∀ v : Fin 6,
    rfcClVlc = rfcClVlc.take v.val ++ (v.val, kHuffmanBitLengthHuffmanCodeBitLengths.getD v.val 0,
        kHuffmanBitLengthHuffmanCodeSymbols.getD v.val 0) :: rfcClVlc.drop (v.val + 1) ∧
      kHuffmanBitLengthHuffmanCodeSymbols.getD v.val 0
        < 2 ^ kHuffmanBitLengthHuffmanCodeBitLengths.getD v.val 0 ∧
      ∀ a ∈ rfcClVlc.take v.val,
        a.2.2 % 2 ^ min (kHuffmanBitLengthHuffmanCodeBitLengths.getD v.val 0) a.2.1
          ≠ kHuffmanBitLengthHuffmanCodeSymbols.getD v.val 0
            % 2 ^ min (kHuffmanBitLengthHuffmanCodeBitLengths.getD v.val 0) a.2.1 := by
  decide

theorem readClVlc_spec (v : Nat) (hv : v ≤ 5) (rest : List Bool) :
    readClVlc (vlcBits v ++ rest) = some (v, rest) := by
  obtain ⟨hT, hfit, hap⟩ := rfcClVlc_rows ⟨v, by omega⟩
  have := findSome_vlcTry rest (v, kHuffmanBitLengthHuffmanCodeBitLengths.getD v 0,
    kHuffmanBitLengthHuffmanCodeSymbols.getD v 0) hfit _ (rfcClVlc.drop (v + 1)) hap
  rw [← hT] at this
  rw [readClVlc_eq]
  exact this

/-- code space taken by a code length code length -/
def g (v : Nat) : Nat := if v = 0 then 0 else 32 / 2 ^ v

theorem g_pos (v : Nat) (h0 : v ≠ 0) (h5 : v ≤ 5) : 1 ≤ g v := by
  have : v = 1 ∨ v = 2 ∨ v = 3 ∨ v = 4 ∨ v = 5 := by omega
  rcases this with rfl | rfl | rfl | rfl | rfl <;> decide

def bitsFor (cl : List Nat) (os : List Nat) : List Bool :=
  (os.map fun o => vlcBits (cl.getD o 0)).flatten

def fill (cl : List Nat) (acc : List Nat) (os : List Nat) : List Nat :=
  os.foldl (fun a o => a.set o (cl.getD o 0)) acc

def gsum (cl : List Nat) (os : List Nat) : Nat := (os.map fun o => g (cl.getD o 0)).sum

/-- the two ways the reader ends: the code space is used up exactly at a non-zero `k`-th length, or the positions
run out first -/
theorem readClLens_spec (cl : List Nat) (h5 : ∀ x ∈ cl, x ≤ 5) :
    ∀ (os : List Nat) (k space : Nat) (acc : List Nat) (rest : List Bool),
    k ≤ os.length → (∀ o ∈ os, o < cl.length) →
    ((1 ≤ k ∧ gsum cl (os.take k) = space ∧ cl.getD (os.getD (k - 1) 0) 0 ≠ 0) ∨
      (k = os.length ∧ gsum cl os < space)) →
    readClLens os space acc (bitsFor cl (os.take k) ++ rest)
      = some (fill cl acc (os.take k), rest) := by
  intro os
  induction os with
  | nil =>
    intro k space acc rest hk _ hmode
    have : k = 0 := by simpa using hk
    subst this
    rcases hmode with ⟨h1, _⟩ | _
    · omega
    · simp [readClLens, bitsFor, fill]
  | cons o os ih =>
    intro k space acc rest hk hlt hmode
    have hk1 : 1 ≤ k := by
      rcases hmode with ⟨h1, _⟩ | ⟨h1, _⟩
      · exact h1
      · rw [h1]; simp
    obtain ⟨k', rfl⟩ : ∃ k', k = k' + 1 := ⟨k - 1, by omega⟩
    have hk' : k' ≤ os.length := by simpa using hk
    have hol : o < cl.length := hlt o (by simp)
    have hv5 : cl.getD o 0 ≤ 5 := by
      apply h5
      rw [List.getD_eq_getElem?_getD, List.getElem?_eq_getElem hol]; simp
    have hmode' : (gsum cl (os.take k') + g (cl.getD o 0) = space ∧
          (k' = 0 → cl.getD o 0 ≠ 0) ∧ (1 ≤ k' → cl.getD (os.getD (k' - 1) 0) 0 ≠ 0)) ∨
        (k' = os.length ∧ gsum cl os + g (cl.getD o 0) < space) := by
      rcases hmode with ⟨_, hs, hnz⟩ | ⟨hkl, hs⟩
      · left
        simp only [List.take_succ_cons, gsum, List.map_cons, List.sum_cons] at hs
        refine ⟨by unfold gsum; omega, ?_, ?_⟩
        · intro h0; subst h0; simpa using hnz
        · intro h1
          have e : k' + 1 - 1 = (k' - 1) + 1 := by omega
          rw [e, List.getD_cons_succ] at hnz
          exact hnz
      · right
        simp only [gsum, List.map_cons, List.sum_cons] at hs
        exact ⟨by simpa using hkl, by unfold gsum; omega⟩
    have hbits : bitsFor cl (List.take (k' + 1) (o :: os)) ++ rest
        = vlcBits (cl.getD o 0) ++ (bitsFor cl (os.take k') ++ rest) := by
      simp [bitsFor, List.take_succ_cons]
    have hfill : fill cl acc (List.take (k' + 1) (o :: os))
        = fill cl (acc.set o (cl.getD o 0)) (os.take k') := by
      simp [fill, List.take_succ_cons]
    rw [hbits, hfill]
    have hrec : ∀ space', ((1 ≤ k' ∧ gsum cl (os.take k') = space' ∧
          cl.getD (os.getD (k' - 1) 0) 0 ≠ 0) ∨ (k' = os.length ∧ gsum cl os < space')) →
        readClLens os space' (acc.set o (cl.getD o 0)) (bitsFor cl (os.take k') ++ rest)
          = some (fill cl (acc.set o (cl.getD o 0)) (os.take k'), rest) := fun space' hm =>
      ih k' space' (acc.set o (cl.getD o 0)) rest hk'
        (fun x hx => hlt x (List.mem_cons_of_mem _ hx)) hm
    generalize cl.getD o 0 = v at hv5 hmode' hrec ⊢
    simp only [readClLens]
    rw [readClVlc_spec v hv5]
    simp only
    by_cases hv0 : v = 0
    · subst hv0
      simp only [ne_eq, not_true_eq_false, ↓reduceIte]
      apply hrec
      rcases hmode' with ⟨hs, hz, hnz⟩ | ⟨hkl, hs⟩
      · left
        have hk'1 : 1 ≤ k' := by
          by_cases h : k' = 0
          · exact absurd rfl (hz h)
          · omega
        exact ⟨hk'1, by simpa [g] using hs, hnz hk'1⟩
      · right
        exact ⟨hkl, by simpa [g] using hs⟩
    · simp only [ne_eq, hv0, not_false_eq_true, ↓reduceIte]
      have hgv : g v = 32 / 2 ^ v := by simp [g, hv0]
      rcases hmode' with ⟨hs, hz, hnz⟩ | ⟨hkl, hs⟩
      · rw [hgv] at hs
        by_cases hk0 : k' = 0
        · subst hk0
          simp only [List.take_zero, gsum, List.map_nil, List.sum_nil, Nat.zero_add] at hs
          simp [hs, bitsFor, fill]
        · -- a later non-zero length keeps the reader going
          have hk'1 : 1 ≤ k' := by omega
          have hnz' := hnz hk'1
          have hlt' : k' - 1 < (os.take k').length := by
            rw [List.length_take]; omega
          have hget : os.getD (k' - 1) 0 = (os.take k')[k' - 1] := by
            rw [List.getElem_take, List.getD_eq_getElem?_getD,
              List.getElem?_eq_getElem (by rw [List.length_take] at hlt'; omega)]
            rfl
          have hmem : g (cl.getD (os.getD (k' - 1) 0) 0)
              ∈ (os.take k').map fun o => g (cl.getD o 0) := by
            apply List.mem_map.mpr
            exact ⟨os.getD (k' - 1) 0, by rw [hget]; exact List.getElem_mem hlt', rfl⟩
          have hin : os.getD (k' - 1) 0 < cl.length := by
            apply hlt
            apply List.mem_cons_of_mem
            rw [hget]
            exact List.mem_of_mem_take (List.getElem_mem hlt')
          have hpos := g_pos _ hnz' (by
            apply h5
            rw [List.getD_eq_getElem?_getD, List.getElem?_eq_getElem hin]; simp)
          have hle := le_sum_of_mem _ _ hmem
          have hns : ¬ space ≤ 32 / 2 ^ v := by unfold gsum at hs; omega
          simp only [hns, ↓reduceIte]
          apply hrec
          left
          exact ⟨hk'1, by omega, hnz'⟩
      · rw [hgv] at hs
        have hns : ¬ space ≤ 32 / 2 ^ v := by omega
        simp only [hns, ↓reduceIte]
        apply hrec
        right
        exact ⟨hkl, by omega⟩

theorem order_lt : ∀ o ∈ kStorageOrder, o < 18 := by decide

theorem order_length : kStorageOrder.length = 18 := by decide

theorem order_getD_lt (j : Nat) (hj : j < 18) : kStorageOrder.getD j 0 < 18 := by
  have : ∀ j : Fin 18, kStorageOrder.getD j.val 0 < 18 := by decide
  exact this ⟨j, hj⟩

theorem getAt_order (j : Nat) (hj : j < 18) : getAt kStorageOrder j = .ok (kStorageOrder.getD j 0) :=
  getAt_getD kStorageOrder j 0 (by rw [order_length]; exact hj)

theorem codesToStoreLoop_spec (cl : List Nat) (hl : cl.length = 18) :
    ∀ c, c ≤ 18 → ∃ r, codesToStoreLoop cl c = .ok r ∧ r ≤ c ∧
      (∀ j, r ≤ j → j < c → cl.getD (kStorageOrder.getD j 0) 0 = 0) ∧
      (0 < r → cl.getD (kStorageOrder.getD (r - 1) 0) 0 ≠ 0) := by
  intro c
  induction c with
  | zero => intro _; exact ⟨0, rfl, Nat.le_refl _, fun j h1 h2 => by omega, fun h => by omega⟩
  | succ c ih =>
    intro hc
    have ho := order_getD_lt c (by omega)
    simp only [codesToStoreLoop, getAt_order c (by omega), Out.bind_ok,
      getAt_getD cl _ 0 (by rw [hl]; exact ho)]
    by_cases hd : cl.getD (kStorageOrder.getD c 0) 0 = 0
    · simp only [hd, ne_eq, not_true_eq_false, ↓reduceIte]
      obtain ⟨r, h1, h2, h3, h4⟩ := ih (by omega)
      refine ⟨r, h1, by omega, ?_, h4⟩
      intro j hj1 hj2
      by_cases hjc : j = c
      · subst hjc; exact hd
      · exact h3 j hj1 (by omega)
    · simp only [ne_eq, hd, not_false_eq_true, ↓reduceIte]
      exact ⟨c + 1, rfl, Nat.le_refl _, fun j h1 h2 => by omega, fun _ => by simpa using hd⟩

theorem vlc_fits (v : Nat) (hv : v ≤ 5) :
    kHuffmanBitLengthHuffmanCodeSymbols.getD v 0
      < 2 ^ kHuffmanBitLengthHuffmanCodeBitLengths.getD v 0 ∧
    kHuffmanBitLengthHuffmanCodeBitLengths.getD v 0 ≤ 56 := by
  have : ∀ v : Fin 6, kHuffmanBitLengthHuffmanCodeSymbols.getD v.val 0
      < 2 ^ kHuffmanBitLengthHuffmanCodeBitLengths.getD v.val 0 ∧
      kHuffmanBitLengthHuffmanCodeBitLengths.getD v.val 0 ≤ 56 := by decide
  exact this ⟨v, by omega⟩

theorem storeClLoop_spec (cl : List Nat) (hl : cl.length = 18) (h5 : ∀ x ∈ cl, x ≤ 5) :
    ∀ (c i : Nat) (w : Writer), i + c ≤ 18 →
    storeClLoop cl c i w = .ok (w ++ bitsFor cl ((kStorageOrder.drop i).take c)) := by
  intro c
  induction c with
  | zero => intro i w _; simp [storeClLoop, bitsFor]
  | succ c ih =>
    intro i w hic
    have ho := order_getD_lt i (by omega)
    have hv5 : cl.getD (kStorageOrder.getD i 0) 0 ≤ 5 := by
      apply h5
      rw [List.getD_eq_getElem?_getD, List.getElem?_eq_getElem (by rw [hl]; exact ho)]; simp
    obtain ⟨hfit, h56⟩ := vlc_fits _ hv5
    simp only [storeClLoop, getAt_order i (by omega), Out.bind_ok,
      getAt_getD cl _ 0 (by rw [hl]; exact ho)]
    rw [getAt_getD kHuffmanBitLengthHuffmanCodeBitLengths _ 0 (by
        have : kHuffmanBitLengthHuffmanCodeBitLengths.length = 6 := by decide
        omega),
      getAt_getD kHuffmanBitLengthHuffmanCodeSymbols _ 0 (by
        have : kHuffmanBitLengthHuffmanCodeSymbols.length = 6 := by decide
        omega)]
    simp only [Out.bind_ok, writeBits_ok _ _ w hfit h56]
    rw [ih (i + 1) _ (by omega)]
    have hd : kStorageOrder.drop i = kStorageOrder.getD i 0 :: kStorageOrder.drop (i + 1) := by
      rw [List.drop_eq_getElem_cons (by rw [order_length]; omega), List.getD_eq_getElem?_getD,
        List.getElem?_eq_getElem (by rw [order_length]; omega)]
      rfl
    rw [hd, List.take_succ_cons]
    simp [bitsFor, vlcBits, List.append_assoc]

theorem fill_length (cl : List Nat) : ∀ (os acc : List Nat), (fill cl acc os).length = acc.length := by
  intro os
  induction os with
  | nil => intro acc; rfl
  | cons o os ih => intro acc; simp only [fill, List.foldl_cons] at ih ⊢; rw [ih]; simp

theorem fill_getD (cl : List Nat) : ∀ (os acc : List Nat) (p : Nat), (∀ o ∈ os, o < acc.length) →
    (fill cl acc os).getD p 0 = if p ∈ os then cl.getD p 0 else acc.getD p 0 := by
  intro os
  induction os with
  | nil => intro acc p _; simp [fill]
  | cons o os ih =>
    intro acc p hlt
    have ho := hlt o (by simp)
    simp only [fill, List.foldl_cons] at ih ⊢
    rw [ih (acc.set o (cl.getD o 0)) p (by
      intro x hx; rw [List.length_set]; exact hlt x (List.mem_cons_of_mem _ hx))]
    by_cases hpo : p = o
    · subst hpo
      by_cases hin : p ∈ os
      · simp [hin]
      · simp only [hin, ↓reduceIte, List.mem_cons, true_or]
        rw [getD_set _ _ _ _ 0 ho]; simp
    · by_cases hin : p ∈ os
      · simp [hin]
      · simp only [hin, ↓reduceIte, List.mem_cons, hpo, or_self]
        rw [getD_set _ _ _ _ 0 ho]
        have hop : ¬ o = p := fun h => hpo h.symm
        rw [if_neg hop]

theorem gsum_append (cl a b : List Nat) : gsum cl (a ++ b) = gsum cl a + gsum cl b := by
  simp [gsum]

theorem gsum_zero (cl os : List Nat) (h : ∀ o ∈ os, cl.getD o 0 = 0) : gsum cl os = 0 := by
  induction os with
  | nil => rfl
  | cons o os ih =>
    simp only [gsum, List.map_cons, List.sum_cons, h o (by simp), g, ↓reduceIte, Nat.zero_add]
    exact ih (fun x hx => h x (List.mem_cons_of_mem _ hx))

theorem order_perm : kStorageOrder.Perm (List.range 18) := by decide

theorem map_range_getD (l : List Nat) (h : Nat → Nat) :
    (List.range l.length).map (fun s => h (l.getD s 0)) = l.map h := by
  apply List.ext_getElem?
  intro k
  simp only [List.getElem?_map]
  by_cases hk : k < l.length
  · simp [hk, List.getD_eq_getElem?_getD]
  · simp [hk]

theorem gsum_order_eq_kraft (cl : List Nat) (hl : cl.length = 18) (h5 : ∀ x ∈ cl, x ≤ 5) :
    gsum cl kStorageOrder = kraftSum 5 cl := by
  have hg : ∀ v, v ≤ 5 → g v = if v = 0 then 0 else 2 ^ (5 - v) := by
    intro v hv
    have : v = 0 ∨ v = 1 ∨ v = 2 ∨ v = 3 ∨ v = 4 ∨ v = 5 := by omega
    rcases this with rfl | rfl | rfl | rfl | rfl | rfl <;> decide
  unfold gsum
  rw [(order_perm.map fun o => g (cl.getD o 0)).sum_nat, ← hl, map_range_getD cl g]
  unfold kraftSum
  congr 1
  apply List.map_congr_left
  intro x hx
  exact hg x (h5 x hx)

theorem mem_drop_order (cl : List Nat) (c : Nat)
    (h : ∀ j, c ≤ j → j < 18 → cl.getD (kStorageOrder.getD j 0) 0 = 0) :
    ∀ o ∈ kStorageOrder.drop c, cl.getD o 0 = 0 := by
  intro o ho
  obtain ⟨i, hi, hio⟩ := List.getElem_of_mem ho
  rw [List.length_drop, order_length] at hi
  rw [List.getElem_drop] at hio
  have := h (c + i) (by omega) (by omega)
  have e : kStorageOrder.getD (c + i) 0 = kStorageOrder[c + i]'(by rw [order_length]; omega) := by
    rw [List.getD_eq_getElem?_getD, List.getElem?_eq_getElem (by rw [order_length]; omega)]; rfl
  rw [e, hio] at this
  exact this

theorem mem_take_order (cl : List Nat) (c : Nat) (hc : c ≤ 18)
    (h : ∀ j, j < c → cl.getD (kStorageOrder.getD j 0) 0 = 0) :
    ∀ o ∈ kStorageOrder.take c, cl.getD o 0 = 0 := by
  intro o ho
  obtain ⟨i, hi, hio⟩ := List.getElem_of_mem ho
  rw [List.length_take, order_length] at hi
  rw [List.getElem_take] at hio
  have := h i (by omega)
  have e : kStorageOrder.getD i 0 = kStorageOrder[i]'(by rw [order_length]; omega) := by
    rw [List.getD_eq_getElem?_getD, List.getElem?_eq_getElem (by rw [order_length]; omega)]; rfl
  rw [e, hio] at this
  exact this

theorem gsum_split (cl L : List Nat) (a : Nat) :
    gsum cl L = gsum cl (L.take a) + gsum cl (L.drop a) := by
  rw [← gsum_append, List.take_append_drop]

theorem mem_take_or_drop (L : List Nat) (a p : Nat) (h : p ∈ L) : p ∈ L.take a ∨ p ∈ L.drop a := by
  rw [← List.mem_append, List.take_append_drop]; exact h

/-- the storage order is a variable `L` here, so that the 18-entry table does not ride along in every step of the proof -/
theorem reader_part (cl L : List Nat) (hl : cl.length = 18) (h5 : ∀ x ∈ cl, x ≤ 5)
    (hLlen : L.length = 18) (hLlt : ∀ o ∈ L, o < 18) (hLall : ∀ p, p < 18 → p ∈ L)
    (skip cts : Nat) (hskip3 : skip ≤ 3) (hcts18 : cts ≤ 18)
    (hzfront : ∀ o ∈ L.take skip, cl.getD o 0 = 0) (hzback : ∀ o ∈ L.drop cts, cl.getD o 0 = 0)
    (hmode : (gsum cl L = 32 ∧ 0 < cts ∧ cl.getD (L.getD (cts - 1) 0) 0 ≠ 0) ∨
      (cts = 18 ∧ gsum cl L < 32)) (rest : List Bool) :
    readClLens (L.drop skip) 32 (List.replicate 18 0)
        (bitsFor cl ((L.drop skip).take (cts - skip)) ++ rest) = some (cl, rest) := by
  have hsplit1 := gsum_split cl L skip
  rw [gsum_zero cl _ hzfront, Nat.zero_add] at hsplit1
  have hlt : ∀ o ∈ L.drop skip, o < cl.length := by
    intro o ho; rw [hl]; exact hLlt o (List.mem_of_mem_drop ho)
  have hdroplen : (L.drop skip).length = 18 - skip := by rw [List.length_drop, hLlen]
  have hmodes : (1 ≤ cts - skip ∧ gsum cl ((L.drop skip).take (cts - skip)) = 32 ∧
        cl.getD ((L.drop skip).getD (cts - skip - 1) 0) 0 ≠ 0) ∨
      (cts - skip = (L.drop skip).length ∧ gsum cl (L.drop skip) < 32) := by
    rcases hmode with ⟨hk, hcts0, hnz⟩ | ⟨hc18, hk⟩
    · left
      have hge : skip ≤ cts - 1 := by
        by_cases h : cts - 1 < skip
        · exfalso
          apply hnz
          apply hzfront
          rw [List.getD_eq_getElem?_getD, List.getElem?_eq_getElem (by rw [hLlen]; omega)]
          simp only [Option.getD_some]
          rw [List.mem_take_iff_getElem]
          exact ⟨cts - 1, by rw [hLlen]; omega, rfl⟩
        · omega
      refine ⟨by omega, ?_, ?_⟩
      · have hsplit2 := gsum_split cl (L.drop skip) (cts - skip)
        have hdd : (L.drop skip).drop (cts - skip) = L.drop cts := by
          rw [List.drop_drop]; congr 1; omega
        rw [hdd, gsum_zero cl _ hzback] at hsplit2
        omega
      · have : (L.drop skip).getD (cts - skip - 1) 0 = L.getD (cts - 1) 0 := by
          rw [List.getD_eq_getElem?_getD, List.getD_eq_getElem?_getD, List.getElem?_drop]
          congr 2; omega
        rw [this]; exact hnz
    · right
      exact ⟨by rw [hdroplen, hc18], by omega⟩
  rw [readClLens_spec cl h5 (L.drop skip) (cts - skip) 32 (List.replicate 18 0) rest
    (by rw [hdroplen]; omega) hlt hmodes]
  congr 2
  apply List.ext_getElem?
  intro p
  by_cases hp : p < 18
  · have hgd := fill_getD cl ((L.drop skip).take (cts - skip)) (List.replicate 18 0) p
      (by intro o ho; simp; exact hLlt o (List.mem_of_mem_drop (List.mem_of_mem_take ho)))
    have hfl : (fill cl (List.replicate 18 0) ((L.drop skip).take (cts - skip))).length = 18 := by
      rw [fill_length]; simp
    rw [List.getD_eq_getElem?_getD, List.getElem?_eq_getElem (by omega)] at hgd
    rw [List.getElem?_eq_getElem (by omega), List.getElem?_eq_getElem (by omega)]
    simp only [Option.getD_some] at hgd
    rw [hgd]
    have hclp : cl.getD p 0 = cl[p] := by
      rw [List.getD_eq_getElem?_getD, List.getElem?_eq_getElem (by omega)]; rfl
    by_cases hin : p ∈ (L.drop skip).take (cts - skip)
    · rw [if_pos hin, hclp]
    · rw [if_neg hin, getD_replicate]
      have hz : cl.getD p 0 = 0 := by
        rcases mem_take_or_drop L skip p (hLall p hp) with h | h
        · exact hzfront p h
        · rcases mem_take_or_drop (L.drop skip) (cts - skip) p h with h | h
          · exact absurd h hin
          · rw [List.drop_drop] at h
            by_cases hle : skip ≤ cts
            · have e : skip + (cts - skip) = cts := by omega
              rw [e] at h
              exact hzback p h
            · have e : skip + (cts - skip) = skip := by omega
              rw [e] at h
              apply hzback p
              have : L.drop skip = (L.drop cts).drop (skip - cts) := by
                rw [List.drop_drop]; congr 1; omega
              rw [this] at h
              exact List.mem_of_mem_drop h
      rw [← hclp, hz]
  · rw [List.getElem?_eq_none (by rw [fill_length]; simp; omega),
      List.getElem?_eq_none (by omega)]

theorem header_roundtrip (cl : List Nat) (hl : cl.length = 18) (h5 : ∀ x ∈ cl, x ≤ 5)
    (numCodes : Nat)
    (hmode : (1 < numCodes ∧ kraftSum 5 cl = 32) ∨ (numCodes ≤ 1 ∧ kraftSum 5 cl < 32))
    (w rest : List Bool) :
    ∃ hskip body, storeHuffmanTreeOfHuffmanTreeToBitMask numCodes cl w
        = .ok (w ++ (bitsOf 2 hskip ++ body)) ∧ hskip < 4 ∧ hskip ≠ 1 ∧
      readClLens (kStorageOrder.drop hskip) 32 (List.replicate 18 0) (body ++ rest)
        = some (cl, rest) := by
  have htot := gsum_order_eq_kraft cl hl h5
  obtain ⟨cts, hcts, hcts18, hctsz, hctsnz, hctsB⟩ : ∃ cts,
      (if numCodes > 1 then codesToStoreLoop cl 18 else .ok 18) = .ok cts ∧ cts ≤ 18 ∧
      (∀ j, cts ≤ j → j < 18 → cl.getD (kStorageOrder.getD j 0) 0 = 0) ∧
      (1 < numCodes → 0 < cts → cl.getD (kStorageOrder.getD (cts - 1) 0) 0 ≠ 0) ∧
      (¬ numCodes > 1 → cts = 18) := by
    by_cases hn : numCodes > 1
    · obtain ⟨r, h1, h2, h3, h4⟩ := codesToStoreLoop_spec cl hl 18 (Nat.le_refl _)
      exact ⟨r, by rw [if_pos hn]; exact h1, h2, h3, fun _ => h4, fun h => absurd hn h⟩
    · exact ⟨18, by rw [if_neg hn], Nat.le_refl _, fun j h1 h2 => by omega,
        fun h => absurd h hn, fun _ => rfl⟩
  obtain ⟨skip, hskipdef, hskip3, hskip1, hskipz⟩ : ∃ skip,
      (if cl.getD 1 0 = 0 ∧ cl.getD 2 0 = 0 then (if cl.getD 3 0 = 0 then 3 else 2) else 0) = skip ∧
      skip ≤ 3 ∧ skip ≠ 1 ∧ (∀ j, j < skip → cl.getD (kStorageOrder.getD j 0) 0 = 0) := by
    refine ⟨_, rfl, ?_, ?_, ?_⟩
    · split
      · split <;> omega
      · omega
    · split
      · split <;> omega
      · omega
    · intro j hj
      have e0 : kStorageOrder.getD 0 0 = 1 := by decide
      have e1 : kStorageOrder.getD 1 0 = 2 := by decide
      have e2 : kStorageOrder.getD 2 0 = 3 := by decide
      split at hj
      · rename_i h12
        split at hj
        · rename_i h3
          have : j = 0 ∨ j = 1 ∨ j = 2 := by omega
          rcases this with rfl | rfl | rfl
          · rw [e0]; exact h12.1
          · rw [e1]; exact h12.2
          · rw [e2]; exact h3
        · have : j = 0 ∨ j = 1 := by omega
          rcases this with rfl | rfl
          · rw [e0]; exact h12.1
          · rw [e1]; exact h12.2
      · omega
  refine ⟨skip, bitsFor cl ((kStorageOrder.drop skip).take (cts - skip)), ?_, by omega, hskip1, ?_⟩
  ·
    unfold storeHuffmanTreeOfHuffmanTreeToBitMask
    rw [hcts]
    have e0 : kStorageOrder.getD 0 0 = 1 := by decide
    have e1 : kStorageOrder.getD 1 0 = 2 := by decide
    have e2 : kStorageOrder.getD 2 0 = 3 := by decide
    have hg1 := getAt_getD cl 1 0 (by omega)
    have hg2 := getAt_getD cl 2 0 (by omega)
    have hg3 := getAt_getD cl 3 0 (by omega)
    simp only [Out.bind_ok, getAt_order 0 (by omega), getAt_order 1 (by omega),
      getAt_order 2 (by omega), e0, e1, e2, hg1]
    have htail : (do
          let w ← writeBits 2 skip w
          storeClLoop cl (cts - skip) skip w)
        = .ok (w ++ (bitsOf 2 skip ++ bitsFor cl ((kStorageOrder.drop skip).take (cts - skip)))) := by
      rw [writeBits_ok 2 skip w (by omega) (by omega)]
      simp only [Out.bind_ok]
      by_cases hle : skip ≤ cts
      · rw [storeClLoop_spec cl hl h5 (cts - skip) skip _ (by omega), List.append_assoc]
      · have : cts - skip = 0 := by omega
        rw [this]
        simp [storeClLoop, bitsFor]
    generalize cl.getD 1 0 = a0 at hskipdef ⊢
    generalize cl.getD 2 0 = a1 at hskipdef hg2 ⊢
    generalize cl.getD 3 0 = a2 at hskipdef hg3 ⊢
    by_cases h0 : a0 = 0
    · by_cases h1 : a1 = 0
      · simp only [h0, h1, and_self, ↓reduceIte, hg2, hg3, Out.bind_ok] at hskipdef ⊢
        rw [hskipdef]; exact htail
      · simp only [h0, h1, and_false, ↓reduceIte, hg2, Out.bind_ok] at hskipdef ⊢
        rw [hskipdef]; exact htail
    · simp only [h0, false_and, ↓reduceIte, Out.bind_ok] at hskipdef ⊢
      rw [hskipdef]; exact htail
  ·
    have hzfront := mem_take_order cl skip (by omega) hskipz
    have hzback := mem_drop_order cl cts hctsz
    apply reader_part cl kStorageOrder hl h5 order_length order_lt
      (fun p hp => (order_perm.mem_iff).mpr (List.mem_range.mpr hp)) skip cts hskip3 hcts18
      hzfront hzback
    rcases hmode with ⟨hn, hk⟩ | ⟨hn, hk⟩
    · left
      have hcts0 : 0 < cts := by
        by_cases h : cts = 0
        · exfalso
          have hz : gsum cl kStorageOrder = 0 := by
            apply gsum_zero
            have := mem_drop_order cl 0 (fun j _ hj => hctsz j (by rw [h]; exact Nat.zero_le _) hj)
            simpa using this
          rw [htot, hk] at hz
          exact absurd hz (by decide)
        · exact Nat.pos_of_ne_zero h
      exact ⟨by rw [htot]; exact hk, hcts0, hctsnz hn hcts0⟩
    · right
      exact ⟨hctsB (Nat.not_lt.mpr hn), by rw [htot]; exact hk⟩

end BV.Lemmas.HuffmanHeader
