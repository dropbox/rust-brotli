/-
The ledger invariant of the slot model: after any sequence of micro-actions that only allocate from the instance's
allocator, the judge has recorded nothing bad and **the live set is exactly the multiset of blocks referenced from
the slots** (plus `lost`).  `Inv` is `Books` (`LedgerJudge.lean`) read on the slots; each micro-action is one of
its three moves.

From micro-actions to action lists and calls: the invariant along `W.acts`, and a symbolic "is this slot empty
afterwards" tracker (`Act.emptyAfter`, sound, not complete) that is evaluated on the act lists of the sites.
-/
import BV.Lemmas.LedgerJudge

namespace BV.Ledger

theorem Enc.get_set_same (e : Enc) (s : Slot) (v : List BlockId) : (e.set s v).get s = v := by
  cases s <;> rfl

theorem Enc.get_set_ne (e : Enc) {s t : Slot} (v : List BlockId) (h : s ≠ t) : (e.set s v).get t = e.get t := by
  cases s <;> cases t <;> first | rfl | exact absurd rfl h

theorem Enc.get_set (e : Enc) (t : Slot) (v : List BlockId) (s : Slot) :
    (e.set t v).get s = if t = s then v else e.get s := by
  split
  · next h => rw [h, Enc.get_set_same]
  · next h => exact Enc.get_set_ne e v h

theorem Enc.ext_get {e e' : Enc} (h : ∀ s, e.get s = e'.get s) : e = e' := by
  have h1 := h .storage; have h2 := h .commands; have h3 := h .ring; have h4 := h .hasher
  have h5 := h .table; have h6 := h .cbuf; have h7 := h .lbuf; have h8 := h .ext; have h9 := h .self
  have h10 := h .mem; have h11 := h .input; have h12 := h .tmp; have h13 := h .tmp2; have h14 := h .aux
  cases e; cases e'
  simp only [Enc.get] at h1 h2 h3 h4 h5 h6 h7 h8 h9 h10 h11 h12 h13 h14
  simp [h1, h2, h3, h4, h5, h6, h7, h8, h9, h10, h11, h12, h13, h14]

theorem Enc.count_set (e : Enc) (s : Slot) (v : List BlockId) (b : BlockId) :
    (e.set s v).held.count b + (e.get s).count b = e.held.count b + v.count b := by
  cases s <;> simp only [Enc.set, Enc.get, Enc.held, List.count_append] <;> ac_rfl

theorem Enc.count_set_nil (e : Enc) (s : Slot) (b : BlockId) :
    (e.set s []).held.count b + (e.get s).count b = e.held.count b := by
  have := Enc.count_set e s [] b
  rwa [List.count_nil, Nat.add_zero] at this

/-- `Books` read on a `W` (`Inv.books`, `Books.inv`), and the judge's `nodup` -/
structure Inv (w : W) : Prop where
  bad : (judge w.log).bad = 0
  live : ∀ b, (judge w.log).live.count b = w.enc.held.count b + w.lost.count b
  ser : ∀ b ∈ (judge w.log).seen, b.n < w.next
  nodup : (judge w.log).live.Nodup
  own : ∀ b, 0 < w.enc.held.count b → b.alloc = w.m8

theorem Inv.init (m8 q : Nat) : Inv (W.init m8 q) := by
  refine ⟨rfl, ?_, ?_, ?_, ?_⟩ <;> simp [W.init, judge, Enc.held]

def Act.safe (m8 : Nat) : Act → Prop
  | .alloc a _ _ => a = m8
  | .lose _ => False
  | _ => True

/-- a `lose` keeps the books right but the block is owed -/
def Act.owned (m8 : Nat) : Act → Prop
  | .alloc a _ _ => a = m8
  | _ => True

theorem act_m8 (w : W) (a : Act) : (w.act a).m8 = w.m8 := by
  cases a <;> simp [W.act]
  split <;> rfl

theorem act_lost_safe (w : W) (a : Act) (h : a.safe w.m8) : (w.act a).lost = w.lost := by
  cases a <;> simp [W.act, Act.safe] at h ⊢
  split <;> rfl

theorem Inv.books {w : W} (h : Inv w) : Books w.log w.next w.m8 w.enc.held w.lost :=
  ⟨h.bad, h.live, h.ser, h.own⟩

theorem Books.inv {w : W} {log : List Ev} {next m8 : Nat} {held lost : List BlockId} (h : Books log next m8 held lost)
    (hlog : w.log = log := by rfl) (hnext : w.next = next := by rfl) (hm8 : w.m8 = m8 := by rfl)
    (hheld : w.enc.held = held := by rfl) (hlost : w.lost = lost := by rfl) : Inv w := by
  subst hlog hnext hm8 hheld hlost
  exact ⟨h.bad, h.live, h.ser, (judge_wf _).nodup, h.own⟩

theorem Inv.act {w : W} (hw : Inv w) (a : Act) (ha : a.owned w.m8) : Inv (w.act a) := by
  cases a with
  | free s =>
    exact (hw.books.free (w.enc.get s) (held' := (w.enc.set s []).held) (w.enc.count_set_nil s)).inv
  | alloc a s k =>
    cases (ha : a = w.m8)
    refine (hw.books.alloc k (held' := (w.enc.set s (w.enc.get s ++ fresh w.m8 w.next k)).held) fun b => ?_).inv
    have := Enc.count_set w.enc s (w.enc.get s ++ fresh w.m8 w.next k) b
    rw [List.count_append] at this
    omega
  | lose s =>
    have h1 := w.enc.count_set_nil s
    refine (hw.books.repartition (held' := (w.enc.set s []).held) (lost' := w.lost ++ w.enc.get s)
      (fun b => ?_) fun b => Nat.le.intro (h1 b)).inv
    rw [List.count_append, ← h1 b]
    omega
  | move src dst =>
    by_cases hsd : src = dst
    · rw [W.act, if_pos hsd]; exact hw
    · have hcount : ∀ b, ((w.enc.set dst (w.enc.get dst ++ w.enc.get src)).set src []).held.count b
          = w.enc.held.count b := fun b => by
        have h1 := Enc.count_set w.enc dst (w.enc.get dst ++ w.enc.get src) b
        have h2 := Enc.count_set_nil (w.enc.set dst (w.enc.get dst ++ w.enc.get src)) src b
        rw [Enc.get_set_ne _ _ (Ne.symm hsd)] at h2
        rw [List.count_append] at h1
        omega
      rw [W.act, if_neg hsd]
      exact (hw.books.repartition (lost' := w.lost) (fun b => by rw [hcount b]) fun b => Nat.le_of_eq (hcount b)).inv

theorem acts_nil (w : W) : w.acts [] = w := rfl
theorem acts_cons (w : W) (a : Act) (as : List Act) : w.acts (a :: as) = (w.act a).acts as := rfl
theorem acts_append (w : W) (as bs : List Act) : w.acts (as ++ bs) = (w.acts as).acts bs := by
  simp [W.acts, List.foldl_append]

theorem acts_m8 (w : W) (as : List Act) : (w.acts as).m8 = w.m8 := by
  induction as generalizing w with
  | nil => rfl
  | cons a as ih => rw [acts_cons, ih, act_m8]

theorem Inv.acts {w : W} (hw : Inv w) (as : List Act) (h : ∀ a ∈ as, a.owned w.m8) : Inv (w.acts as) := by
  induction as generalizing w with
  | nil => exact hw
  | cons a as ih =>
    rw [acts_cons]
    apply ih (hw.act a (h a (by simp)))
    intro x hx
    rw [act_m8]
    exact h x (by simp [hx])

theorem acts_lost (w : W) (as : List Act) (h : ∀ a ∈ as, a.safe w.m8) : (w.acts as).lost = w.lost := by
  induction as generalizing w with
  | nil => rfl
  | cons a as ih =>
    rw [acts_cons, ih, act_lost_safe w a (h a (by simp))]
    intro x hx
    rw [act_m8]
    exact h x (by simp [hx])

/-- the tracker of empty slots, one action: `b` says that slot `s` is KNOWN to be empty before the action, the result
    that it is known to be empty after it.  `false` is "not known", not "holds a block": sound (`act_emptyAfter`), not
    complete.  A `move` into `s` gives `false` because what arrives is not looked at; out of `s`, `true`. -/
def Act.emptyAfter (s : Slot) (b : Bool) : Act → Bool
  | .free t => if t = s then true else b
  | .alloc _ t k => if t = s then b && (k == 0) else b
  | .lose t => if t = s then true else b
  | .move src dst => if src = dst then b else if src = s then true else if dst = s then false else b

def emptyAfterL (s : Slot) (b : Bool) (as : List Act) : Bool := as.foldl (Act.emptyAfter s) b

theorem fresh_zero (a n : Nat) : fresh a n 0 = [] := rfl

theorem act_emptyAfter (w : W) (s : Slot) (b : Bool) (a : Act) (hb : b = true → w.enc.get s = [])
    (h : a.emptyAfter s b = true) : (w.act a).enc.get s = [] := by
  cases a <;> simp only [W.act, Act.emptyAfter] at h ⊢ <;> (repeat' split at h) <;>
    simp_all [Enc.get_set, fresh]

theorem acts_emptyAfter (s : Slot) (as : List Act) : ∀ (w : W) (b : Bool), (b = true → w.enc.get s = []) →
    emptyAfterL s b as = true → (w.acts as).enc.get s = [] := by
  induction as with
  | nil => intro w b hb h; exact hb h
  | cons a as ih =>
    intro w b hb h
    rw [acts_cons]
    exact ih (w.act a) (a.emptyAfter s b) (fun h' => act_emptyAfter w s b a hb h') h

theorem emptyAfterL_append (s : Slot) (b : Bool) (as bs : List Act) :
    emptyAfterL s b (as ++ bs) = emptyAfterL s (emptyAfterL s b as) bs := by
  simp [emptyAfterL, List.foldl_append]

theorem Act.emptyAfter_mono (s : Slot) (a : Act) {b b' : Bool} (h : b = true → b' = true)
    (ha : a.emptyAfter s b = true) : a.emptyAfter s b' = true := by
  cases b' <;> cases b <;> first | exact ha | exact absurd (h rfl) nofun | skip
  cases a <;> simp only [Act.emptyAfter] at ha ⊢ <;> (repeat' split) <;> simp_all

theorem emptyAfterL_mono (s : Slot) (as : List Act) : ∀ {b b' : Bool}, (b = true → b' = true) →
    emptyAfterL s b as = true → emptyAfterL s b' as = true := by
  induction as with
  | nil => exact fun h => h
  | cons a as ih => exact fun h => ih (a.emptyAfter_mono s h)

theorem opBook_log (w : W) (op : Op) : (opBook w op).log = w.log := by cases op <;> rfl
theorem opBook_enc (w : W) (op : Op) : (opBook w op).enc = w.enc := by cases op <;> rfl
theorem opBook_lost (w : W) (op : Op) : (opBook w op).lost = w.lost := by cases op <;> rfl
theorem opBook_next (w : W) (op : Op) : (opBook w op).next = w.next := by cases op <;> rfl
theorem opBook_m8 (w : W) (op : Op) : (opBook w op).m8 = w.m8 := by cases op <;> rfl
theorem opBook_q (w : W) (op : Op) : (opBook w op).q = w.q := by cases op <;> rfl

theorem Inv.book {w : W} (hw : Inv w) (op : Op) : Inv (opBook w op) :=
  hw.books.inv (opBook_log w op) (opBook_next w op) (opBook_m8 w op) (congrArg Enc.held (opBook_enc w op))
    (opBook_lost w op)

theorem step_ok {fl : Flags} {w w' : W} {op : Op} (h : step fl w op = .ok w') :
    opGuard w op = none ∧ w' = opBook (w.acts (opActs fl w.m8 op)) op := by
  unfold step at h
  split at h
  · cases h
  · rename_i hg
    cases h
    exact ⟨hg, rfl⟩

theorem step_m8 {fl : Flags} {w w' : W} {op : Op} (h : step fl w op = .ok w') : w'.m8 = w.m8 := by
  rw [(step_ok h).2, opBook_m8, acts_m8]

theorem act_q (w : W) (a : Act) : (w.act a).q = w.q := by
  cases a <;> simp [W.act]
  split <;> rfl

theorem acts_q (w : W) (as : List Act) : (w.acts as).q = w.q := by
  induction as generalizing w with
  | nil => rfl
  | cons a as ih => rw [acts_cons, ih, act_q]

theorem step_q {fl : Flags} {w w' : W} {op : Op} (h : step fl w op = .ok w') : w'.q = w.q := by
  rw [(step_ok h).2, opBook_q, acts_q]

end BV.Ledger
