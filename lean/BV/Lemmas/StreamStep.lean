import BV.Lemmas.StreamInv
/-
The main loop of `compress_stream`: one iteration (`slowStep`: the ways it returns, invariant, what it may
do to the stream state and to the caller's cursors), the loop invariant `SlowInv` and the loop as a run of
iterations (`slowLoop_exit`).
-/
namespace BV.Stream
open BV.Bits

theorem copy_fields {s s' : St} {chunk : Bytes} {avail : Nat} (hi : s.isInitialized = true)
    (h : copyInputToRingBuffer s chunk avail = .ok s') :
    s'.params = s.params ∧ s'.inputPos = (s.inputPos + chunk.length) % two64
    ∧ s'.remainingMetadata = s.remainingMetadata ∧ s'.isInitialized = s.isInitialized
    ∧ s'.streamState = s.streamState ∧ s'.lastFlushPos = s.lastFlushPos
    ∧ s'.lastProcessedPos = s.lastProcessedPos ∧ s'.isLastBlockEmitted = s.isLastBlockEmitted
    ∧ s'.pending = s.pending ∧ s'.lastBytes = s.lastBytes ∧ s'.lastBytesBits = s.lastBytesBits
    ∧ s'.nextOut = s.nextOut ∧ s'.storageSize = s.storageSize ∧ s'.totalOut = s.totalOut
    ∧ s'.isFirstMb = s.isFirstMb ∧ s'.nEnc = s.nEnc := by
  unfold copyInputToRingBuffer at h
  rw [ensureInitialized_id hi] at h
  simp only at h
  cases hr : ringWrite s.ring chunk avail with
  | ok rb =>
    rw [hr] at h
    cases (ok_of_ite_panic h).2
    exact ⟨rfl, rfl, rfl, rfl, rfl, rfl, rfl, rfl, rfl, rfl, rfl, rfl, rfl, rfl, rfl, rfl⟩
  | panic => rw [hr] at h; cases h
  | fuel => rw [hr] at h; cases h

theorem copy_eq {s s1 : St} {chunk : Bytes} {avail : Nat} (hi : s.isInitialized = true)
    (h : copyInputToRingBuffer s chunk avail = .ok s1) :
    s1 = { s with ring := s1.ring, inputPos := (s.inputPos + chunk.length) % two64, first2 := s1.first2 } := by
  unfold copyInputToRingBuffer at h
  rw [ensureInitialized_id hi] at h
  simp only at h
  cases hr : ringWrite s.ring chunk avail with
  | ok rb => rw [hr] at h; cases (ok_of_ite_panic h).2; rfl
  | panic => rw [hr] at h; cases h
  | fuel => rw [hr] at h; cases h

/-- the room left in the current input block, wherever the position bookkeeping is in order -/
theorem rbs_of_le {s : St} (hlp : s.lastProcessedPos ≤ s.inputPos) (hlt : s.inputPos < two64)
    (hub : s.inputPos - s.lastProcessedPos ≤ s.blockSize) :
    remainingInputBlockSize s = s.blockSize - (s.inputPos - s.lastProcessedPos) := by
  unfold remainingInputBlockSize
  simp only [show s.unprocessed = s.inputPos - s.lastProcessedPos from wsub64_eq hlp hlt]
  split <;> omega

theorem copy_arith {ip lp bs n avail : Nat} (hlp : lp ≤ ip) (hblk : ip - lp ≤ bs)
    (hn : n ≤ bs - (ip - lp)) (_hn2 : n ≤ avail) (hw : ip + avail < two64) :
    (ip + n) % two64 = ip + n ∧ lp ≤ ip + n ∧ (ip + n) - lp ≤ bs := by
  have : ip + n < two64 := by omega
  rw [Nat.mod_eq_of_lt this]
  omega

theorem inv_copy {s s' : St} {chunk : Bytes} {avail availIn : Nat} (hI : Inv s)
    (hnf : s.streamState ≠ .flushRequested)
    (hn : chunk.length ≤ remainingInputBlockSize s) (hn2 : chunk.length ≤ availIn)
    (hw : s.inputPos + availIn < two64)
    (h : copyInputToRingBuffer s chunk avail = .ok s') :
    Inv s' ∧ s'.inputPos = s.inputPos + chunk.length ∧ s'.streamState = s.streamState
    ∧ s'.remainingMetadata = s.remainingMetadata := by
  obtain ⟨c1, c2, c3, c4, c5, c6, c7, c8, _⟩ := copy_fields hI.init h
  rw [rbs_of_le hI.lp_le hI.ip_lt hI.blk] at hn
  obtain ⟨a1, a2, a3⟩ := copy_arith hI.lp_le hI.blk hn hn2 hw
  rw [a1] at c2
  refine ⟨⟨c4.trans hI.init, ?_, ?_, ?_, ?_, ?_, ?_, ?_, ?_, ?_⟩, c2, c5, c3⟩
  · rw [c6, c7]; exact hI.fl_le
  · rw [c7, c2]; exact a2
  · rw [c2]; omega
  · rw [blockSize_congr (s := s) (s' := s') (by rw [c1]), c2, c7]; exact a3
  · rw [c8, c5]; exact hI.lastFin
  · rw [c5, c3]; exact hI.mdIff
  · rw [c3]; exact hI.mdLe
  · rw [c1, c6, c7]; exact hI.q01
  · rw [c5]; exact fun hfl => absurd hfl hnf

theorem slowStep_ok {o : Oracle} {op : Nat} {s s' : St} {io io' : Io} {c : Ctl}
    (h : slowStep o op s io = .ok (s', io', c)) :
    ((remainingInputBlockSize s ≠ 0 ∧ io.availIn ≠ 0) ∧
      min (remainingInputBlockSize s) io.availIn ≤ io.input.length ∧
      copyInputToRingBuffer s (io.input.take (min (remainingInputBlockSize s) io.availIn)) io.input.length = .ok s' ∧
      io' = { io with input := io.input.drop (min (remainingInputBlockSize s) io.availIn),
                      availIn := io.availIn - min (remainingInputBlockSize s) io.availIn } ∧ c = .cont) ∨
    (¬ (remainingInputBlockSize s ≠ 0 ∧ io.availIn ≠ 0) ∧
      ((injectFlushOrPushOutput s io = .ok (s', io', true) ∧ c = .cont) ∨
       (injectFlushOrPushOutput s io = .ok (s, io, false) ∧
        (((s.pending.length = 0 ∧ s.streamState = .processing ∧ (remainingInputBlockSize s = 0 ∨ op ≠ 0)) ∧
          ∃ s2 res req,
            encodeData o (updateSizeHint s io.availIn) 0 (decide (io.availIn = 0 ∧ op = 2)) (decide (io.availIn = 0 ∧ op = 1))
              = .ok (s2, res, req) ∧
            io' = { io with reqs := io.reqs ++ [req] } ∧
            ((res = false ∧ s' = s2 ∧ c = .fail) ∨
             (res = true ∧ s' = markAfterEncode s2 (decide (io.availIn = 0 ∧ op = 2)) (decide (io.availIn = 0 ∧ op = 1)) ∧
               c = .cont))) ∨
         (¬ (s.pending.length = 0 ∧ s.streamState = .processing ∧ (remainingInputBlockSize s = 0 ∨ op ≠ 0)) ∧
          s' = s ∧ io' = io ∧ c = .brk))))) := by
  unfold slowStep at h
  simp only at h
  by_cases hc : remainingInputBlockSize s ≠ 0 ∧ io.availIn ≠ 0
  · rw [if_pos hc] at h
    by_cases hl : min (remainingInputBlockSize s) io.availIn > io.input.length
    · rw [if_pos hl] at h; cases h
    · rw [if_neg hl] at h
      cases hcp : copyInputToRingBuffer s (io.input.take (min (remainingInputBlockSize s) io.availIn)) io.input.length with
      | ok s1 => rw [hcp] at h; cases h; exact Or.inl ⟨hc, Nat.le_of_not_gt hl, rfl, rfl, rfl⟩
      | panic => rw [hcp] at h; cases h
      | fuel => rw [hcp] at h; cases h
  · rw [if_neg hc] at h
    refine Or.inr ⟨hc, ?_⟩
    cases hp : injectFlushOrPushOutput s io with
    | panic => rw [hp] at h; cases h
    | fuel => rw [hp] at h; cases h
    | ok x =>
      obtain ⟨s1, io1, b⟩ := x
      rw [hp] at h
      cases b
      · obtain ⟨rfl, rfl, _⟩ := push_false hp
        refine Or.inr ⟨rfl, ?_⟩
        simp only at h
        by_cases hcond : s1.pending.length = 0 ∧ s1.streamState = .processing ∧ (remainingInputBlockSize s1 = 0 ∨ op ≠ 0)
        · rw [if_pos hcond] at h
          refine Or.inl ⟨hcond, ?_⟩
          cases henc : encodeData o (updateSizeHint s1 io1.availIn) 0 (decide (io1.availIn = 0 ∧ op = 2)) (decide (io1.availIn = 0 ∧ op = 1)) with
          | panic => rw [henc] at h; cases h
          | fuel => rw [henc] at h; cases h
          | ok y =>
            obtain ⟨s2, res, req⟩ := y
            rw [henc] at h
            cases res
            · cases h; exact ⟨_, _, _, rfl, rfl, Or.inl ⟨rfl, rfl, rfl⟩⟩
            · cases h; exact ⟨_, _, _, rfl, rfl, Or.inr ⟨rfl, rfl, rfl⟩⟩
        · rw [if_neg hcond] at h; cases h
          exact Or.inr ⟨hcond, rfl, rfl, rfl⟩
      · cases h; exact Or.inl ⟨rfl, rfl⟩

theorem slowStep_brk {o : Oracle} {op : Nat} {s s' : St} {io io' : Io}
    (h : slowStep o op s io = .ok (s', io', .brk)) :
    s' = s ∧ io' = io ∧ ¬(remainingInputBlockSize s ≠ 0 ∧ io.availIn ≠ 0)
    ∧ ¬(s.streamState = .flushRequested ∧ s.lastBytesBits ≠ 0)
    ∧ ¬(s.pending.length ≠ 0 ∧ io.availOut ≠ 0)
    ∧ ¬(s.pending.length = 0 ∧ s.streamState = .processing ∧ (remainingInputBlockSize s = 0 ∨ op ≠ 0)) := by
  rcases slowStep_ok h with ⟨_, _, _, _, hb⟩ |
    ⟨hc, ⟨_, hb⟩ | ⟨hp, ⟨_, _, _, _, _, _, ⟨_, _, hb⟩ | ⟨_, _, hb⟩⟩ | ⟨hne, rfl, rfl, _⟩⟩⟩
  · cases hb
  · cases hb
  · cases hb
  · cases hb
  · obtain ⟨_, _, p1, p2⟩ := push_false hp
    exact ⟨rfl, rfl, hc, p1, p2, hne⟩

theorem slowStep_spec {o : Oracle} {op : Nat} {s s' : St} {io io' : Io} {c : Ctl} (hI : Inv s)
    (hw : s.inputPos + io.availIn < two64) (hnp : s.streamState ≠ .processing → io.availIn = 0)
    (h : slowStep o op s io = .ok (s', io', c)) :
    Inv s' ∧ s'.inputPos + io'.availIn = s.inputPos + io.availIn ∧ c ≠ .fail
    ∧ s'.remainingMetadata = s.remainingMetadata ∧ io'.availIn ≤ io.availIn ∧ StateMove op s.streamState s' io' := by
  rcases slowStep_ok h with ⟨hc, hle, hcp, rfl, rfl⟩ |
    ⟨_, ⟨hp, rfl⟩ | ⟨_, ⟨hcond, s2, res, req, henc, rfl, hres⟩ | ⟨_, rfl, rfl, rfl⟩⟩⟩
  · have hlen : (io.input.take (min (remainingInputBlockSize s) io.availIn)).length = min (remainingInputBlockSize s) io.availIn := by
      rw [List.length_take]; omega
    have hnfl : s.streamState ≠ .flushRequested := by
      intro hfl
      exact hc.2 (hnp (by rw [hfl]; simp))
    obtain ⟨i1, i2, i3, i4⟩ := inv_copy hI hnfl (by rw [hlen]; exact Nat.min_le_left _ _) (by rw [hlen]; exact Nat.min_le_right _ _) hw hcp
    rw [hlen] at i2
    refine ⟨i1, ?_, by simp, i4, ?_, Or.inl i3⟩
    · simp only [i2]; omega
    · simp only; omega
  · have fa := (push_frame hp).availIn
    have f := St.frame_eq (push_frame hp).frame
    exact ⟨inv_push hI hp, by rw [f.inputPos, fa], by simp, f.remainingMetadata, Nat.le_of_eq fa, Or.inl f.streamState⟩
  · have hI2 := inv_updateSizeHint hI io.availIn
    rw [updateSizeHint_eq] at henc hI2
    generalize (updateSizeHint s io.availIn).params.sizeHint = k at henc hI2
    have hst : (s.hint k).streamState = .processing := hcond.2.1
    have hres' : res = true := encodeData_succeeds hI2 (by rw [hst]; simp) henc
    subst hres'
    rcases hres with ⟨hf, _⟩ | ⟨_, rfl, rfl⟩
    · cases hf
    have hIm := inv_encode_mark hI2 hst henc
    obtain ⟨f, _, _, _, _⟩ := encodeData_frame henc
    replace f := St.frame_eq f
    obtain ⟨_, kInputPos, kRemainingMetadata, _, _, _, _, _, _, kStreamState⟩ :=
      markAfterEncode_fields s2 (decide (io.availIn = 0 ∧ op = 2)) (decide (io.availIn = 0 ∧ op = 1))
    refine ⟨hIm, ?_, by simp, ?_, Nat.le_refl _, ?_⟩
    · simp only [kInputPos, f.inputPos, St.hint]
    · rw [kRemainingMetadata, f.remainingMetadata]; rfl
    · unfold StateMove
      rw [kStreamState, f.streamState, hst]
      by_cases h2 : io.availIn = 0 ∧ op = 2
      · rw [decide_eq_true h2]
        exact Or.inr ⟨hcond.2.1, h2.1, Or.inr ⟨h2.2, rfl⟩⟩
      · rw [decide_eq_false h2]
        by_cases h1 : io.availIn = 0 ∧ op = 1
        · rw [decide_eq_true h1]
          exact Or.inr ⟨hcond.2.1, h1.1, Or.inl ⟨h1.2, rfl⟩⟩
        · rw [decide_eq_false h1]
          exact Or.inl hcond.2.1.symm
  · exact ⟨hI, rfl, by simp, rfl, Nat.le_refl _, Or.inl rfl⟩

theorem slowStep_pending_finished {o : Oracle} {op : Nat} {s s' : St} {io io' : Io} {c : Ctl}
    (hst : s.streamState = .finished) (hin : io.availIn = 0)
    (h : slowStep o op s io = .ok (s', io', c)) : s'.pending.length ≤ s.pending.length := by
  rcases slowStep_ok h with ⟨hc, _⟩ | ⟨_, ⟨hp, _⟩ | ⟨_, ⟨hcond, _⟩ | ⟨_, rfl, _⟩⟩⟩
  · exact absurd hin hc.2
  · exact (push_pending_le (by rw [hst]; simp) hp).1
  · rw [hst] at hcond; cases hcond.2.1
  · exact Nat.le_refl _

theorem slowLoop_exit {o : Oracle} {op : Nat} (P : St → Io → Prop)
    (hstep : ∀ s io s' io' c, P s io → slowStep o op s io = .ok (s', io', c) → c ≠ .fail ∧ P s' io') :
    ∀ fuel s io s' io' r, P s io → slowLoop o op fuel s io = .ok (s', io', r) →
      r = true ∧ ∃ s1, P s1 io' ∧ s' = checkFlushComplete s1 ∧ slowStep o op s1 io' = .ok (s1, io', .brk) := by
  intro fuel
  induction fuel with
  | zero => intro s io s' io' r _ h; simp [slowLoop] at h
  | succ k ih =>
    intro s io s' io' r hP h
    unfold slowLoop at h
    cases hs : slowStep o op s io with
    | panic => rw [hs] at h; cases h
    | fuel => rw [hs] at h; cases h
    | ok x =>
      obtain ⟨s1, io1, c⟩ := x
      rw [hs] at h
      cases c
      · exact ih _ _ _ _ _ (hstep _ _ _ _ _ hP hs).2 h
      · cases h
        obtain ⟨e1, e2, _⟩ := slowStep_brk hs
        subst e1 e2
        exact ⟨rfl, _, hP, rfl, hs⟩
      · exact absurd rfl (hstep _ _ _ _ _ hP hs).1

/-- `c0`: the stream state at entry of the call; `n`: the number of bytes offered; `total`: the constant
`input_pos_ + available_in` -/
structure SlowInv (op : Nat) (c0 : SState) (n total : Nat) (s : St) (io : Io) : Prop where
  inv : Inv s
  sum : s.inputPos + io.availIn = total
  nowrap : total < two64
  rm : s.remainingMetadata = u32Max
  availLe : io.availIn ≤ n
  nonproc : c0 ≠ .processing → io.availIn = 0
  st : s.streamState = c0 ∨ (c0 = .processing ∧ io.availIn = 0 ∧
        ((op = 1 ∧ s.streamState = .flushRequested) ∨ (op = 2 ∧ s.streamState = .finished)))

theorem SlowInv.idle {op : Nat} {c0 : SState} {n total : Nat} {s : St} {io : Io} (hP : SlowInv op c0 n total s io) :
    s.streamState ≠ .processing → io.availIn = 0 := by
  intro hne
  rcases hP.st with h1 | ⟨_, h2, _⟩
  · exact hP.nonproc (by rw [← h1]; exact hne)
  · exact h2

theorem slowInv_step {o : Oracle} {op : Nat} {c0 : SState} {n total : Nat} {s s' : St} {io io' : Io} {c : Ctl}
    (hP : SlowInv op c0 n total s io) (h : slowStep o op s io = .ok (s', io', c)) :
    c ≠ .fail ∧ SlowInv op c0 n total s' io' := by
  obtain ⟨i1, i2, i3, i4, i5, i6⟩ := slowStep_spec hP.inv (by rw [hP.sum]; exact hP.nowrap) hP.idle h
  refine ⟨i3, ⟨i1, i2.trans hP.sum, hP.nowrap, i4.trans hP.rm, Nat.le_trans i5 hP.availLe, ?_, ?_⟩⟩
  · intro hc
    have := hP.nonproc hc
    omega
  · exact i6.track i5 hP.st

end BV.Stream
