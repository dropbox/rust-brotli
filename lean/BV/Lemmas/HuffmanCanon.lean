/-
C17: `BrotliConvertBitDepthsToSymbols` against the RFC 7932
§3.2 canonical code assignment.
-/
import BV.Lemmas.HuffmanBits
import BV.Lemmas.Bits

namespace BV.Lemmas.HuffmanCanon
open BV.Gen BV.Bits BV.Huffman BV.Lemmas.HuffmanBits

theorem countLen_cons (x : Nat) (xs : List Nat) (l : Nat) :
    countLen (x :: xs) l = (if x = l then 1 else 0) + countLen xs l := by
  unfold countLen
  rw [List.filter_cons]
  by_cases h : x = l <;> simp [h] <;> omega

theorem countLen_le (xs : List Nat) (l : Nat) : countLen xs l ≤ xs.length := by
  unfold countLen; exact List.length_filter_le _ _

theorem countLen_append (xs ys : List Nat) (l : Nat) :
    countLen (xs ++ ys) l = countLen xs l + countLen ys l := by
  unfold countLen; simp

theorem kraftSum_replicate_zero (L n : Nat) : kraftSum L (List.replicate n 0) = 0 := by
  unfold kraftSum
  induction n with
  | zero => rfl
  | succ n ih => simp [List.replicate_succ]

/-- the shape of `blCountLoop` and of `histoLoop`: `for s in ss { h[s] = h[s].wrapping_add(1) }` over `N` counters modulo `M` -/
theorem countLoop_spec (M N : Nat) (L : List Nat → List Nat → Out (List Nat))
    (hnil : ∀ h, L [] h = .ok h)
    (hcons : ∀ s ss h, L (s :: ss) h = getAt h s >>= fun c => L ss (h.set s ((c + 1) % M)))
    (ss : List Nat) : ∀ (h : List Nat), h.length = N →
    (∀ s ∈ ss, s < N) → (∀ l, l < N → h.getD l 0 + countLen ss l < M) →
    ∃ h', L ss h = .ok h' ∧ h'.length = N ∧
      ∀ l, l < N → h'.getD l 0 = h.getD l 0 + countLen ss l := by
  induction ss with
  | nil => intro h hlen _ _; exact ⟨h, hnil h, hlen, by simp [countLen]⟩
  | cons d ds ih =>
    intro h hlen hds hb
    have hd : d < N := hds d (by simp)
    have hdl : d < h.length := by omega
    rw [hcons, getAt_getD h d 0 hdl, Out.bind_ok]
    have hbd := hb d hd
    rw [countLen_cons] at hbd
    simp only [↓reduceIte] at hbd
    have hm : (h.getD d 0 + 1) % M = h.getD d 0 + 1 := Nat.mod_eq_of_lt (by omega)
    rw [hm]
    obtain ⟨h', h1, h2, h3⟩ := ih (h.set d (h.getD d 0 + 1)) (by simp [hlen])
      (fun x hx => hds x (List.mem_cons_of_mem _ hx))
      (by
        intro l hl
        rw [getD_set _ _ _ _ 0 hdl]
        have := hb l hl
        rw [countLen_cons] at this
        by_cases hdl' : d = l
        · subst hdl'; simp only [↓reduceIte] at this ⊢; omega
        · simp only [hdl', ↓reduceIte] at this ⊢; omega)
    refine ⟨h', h1, h2, ?_⟩
    intro l hl
    rw [h3 l hl, getD_set _ _ _ _ 0 hdl, countLen_cons]
    by_cases hdl' : d = l
    · subst hdl'; simp only [↓reduceIte]; omega
    · simp only [hdl', ↓reduceIte]; omega

theorem blCountLoop_spec (ds : List Nat) : ∀ (bl : List Nat), bl.length = 16 →
    (∀ d ∈ ds, d < 16) → (∀ l, l < 16 → bl.getD l 0 + countLen ds l < 65536) →
    ∃ bl', blCountLoop ds bl = .ok bl' ∧ bl'.length = 16 ∧
      ∀ l, l < 16 → bl'.getD l 0 = bl.getD l 0 + countLen ds l :=
  countLoop_spec 65536 16 blCountLoop (fun _ => rfl) (fun _ _ _ => rfl) ds

/-- `bl_count[l]` after `bl_count[0] = 0` -/
def cnt' (lens : List Nat) (l : Nat) : Nat := if l = 0 then 0 else countLen lens l

theorem firstCode_succ (lens : List Nat) (l : Nat) :
    firstCode lens (l + 1) = (firstCode lens l + cnt' lens l) * 2 := rfl

def countLt (lens : List Nat) (l : Nat) : Nat := (lens.filter (fun x => decide (x < l))).length

theorem countLt_succ (lens : List Nat) (l : Nat) :
    countLt lens (l + 1) = countLt lens l + countLen lens l := by
  induction lens with
  | nil => rfl
  | cons x xs ih =>
    unfold countLt countLen at *
    simp only [List.filter_cons]
    by_cases h1 : x < l
    · have h2 : x < l + 1 := by omega
      have h3 : ¬ x = l := by omega
      simp [h1, h2, h3]; omega
    · by_cases h3 : x = l
      · subst h3; simp; omega
      · have h2 : ¬ x < l + 1 := by omega
        simp [h1, h2, h3]; omega

theorem countLt_le (lens : List Nat) (l : Nat) : countLt lens l ≤ lens.length := by
  unfold countLt; exact List.length_filter_le _ _

theorem firstCode_le (lens : List Nat) (l : Nat) : firstCode lens l ≤ 2 ^ l * countLt lens l := by
  induction l with
  | zero => simp [firstCode]
  | succ l ih =>
    rw [firstCode_succ, countLt_succ, Nat.pow_succ]
    have hc : cnt' lens l ≤ countLen lens l := by unfold cnt'; split <;> omega
    have hp : 1 ≤ 2 ^ l := Nat.pow_pos (by decide)
    have : cnt' lens l ≤ 2 ^ l * countLen lens l := by
      calc cnt' lens l ≤ 1 * countLen lens l := by omega
        _ ≤ 2 ^ l * countLen lens l := Nat.mul_le_mul_right _ hp
    rw [Nat.mul_add]
    have e : 2 ^ l * 2 * countLt lens l = (2 ^ l * countLt lens l) * 2 := by
      rw [Nat.mul_assoc, Nat.mul_comm 2, ← Nat.mul_assoc]
    have e2 : 2 ^ l * 2 * countLen lens l = (2 ^ l * countLen lens l) * 2 := by
      rw [Nat.mul_assoc, Nat.mul_comm 2, ← Nat.mul_assoc]
    rw [e, e2]
    omega

theorem firstCode_add_lt (lens : List Nat) (hn : lens.length < 65536) (l : Nat) (hl : l ≤ 15) :
    firstCode lens l + cnt' lens l < 2147483648 := by
  have h1 := firstCode_le lens l
  have hc : cnt' lens l ≤ countLen lens l := by unfold cnt'; split <;> omega
  have hp : 1 ≤ 2 ^ l := Nat.pow_pos (by decide)
  have h2 : cnt' lens l ≤ 2 ^ l * countLen lens l := by
    calc cnt' lens l ≤ 1 * countLen lens l := by omega
      _ ≤ 2 ^ l * countLen lens l := Nat.mul_le_mul_right _ hp
  have h3 : 2 ^ l * countLt lens l + 2 ^ l * countLen lens l = 2 ^ l * countLt lens (l + 1) := by
    rw [countLt_succ, Nat.mul_add]
  have h4 := countLt_le lens (l + 1)
  have h5 : (2:Nat) ^ l ≤ 2 ^ 15 := Nat.pow_le_pow_right (by decide) hl
  have h6 : 2 ^ l * countLt lens (l + 1) ≤ 2 ^ 15 * 65535 :=
    Nat.mul_le_mul h5 (by omega)
  have : (2:Nat) ^ 15 * 65535 < 2147483648 := by decide
  omega

theorem nextCodeLoop_spec (lens : List Nat) (m : Nat) : ∀ j,
    (∀ l, l < j + m → firstCode lens l + cnt' lens l < 2147483648) →
    nextCodeLoop ((List.range' j m).map (cnt' lens)) (firstCode lens j) =
      .ok ((List.range' (j + 1) m).map fun l => firstCode lens l % 65536) := by
  induction m with
  | zero => intro j _; rfl
  | succ m ih =>
    intro j hb
    rw [List.range'_succ, List.map_cons, List.range'_succ, List.map_cons]
    have hbj := hb j (by omega)
    simp only [nextCodeLoop]
    have hno : ¬ (firstCode lens j < 2147483648 ∧ firstCode lens j + cnt' lens j ≥ 2147483648) := by
      omega
    simp only [hno, ↓reduceIte]
    have hc : (firstCode lens j + cnt' lens j) % u32 * 2 % u32 = firstCode lens (j + 1) := by
      rw [firstCode_succ]
      unfold u32
      rw [Nat.mod_eq_of_lt (by omega), Nat.mod_eq_of_lt (by omega)]
    rw [hc, ih (j + 1) (fun l hl => hb l (by omega))]
    rfl

theorem assignLoop_spec (ds : List Nat) : ∀ (i : Nat) (next bits : List Nat),
    next.length = 16 → (∀ d ∈ ds, d < 16) → i + ds.length ≤ bits.length →
    (∀ l, next.getD l 0 < 65536) →
    ∃ bits', assignLoop ds i next bits = .ok bits' ∧ bits'.length = bits.length ∧
      (∀ k, (k < i ∨ i + ds.length ≤ k) → bits'.getD k 0 = bits.getD k 0) ∧
      (∀ m, m < ds.length → bits'.getD (i + m) 0 =
        if ds.getD m 0 ≠ 0 then
          reverseBits (ds.getD m 0)
            ((next.getD (ds.getD m 0) 0 + countLen (ds.take m) (ds.getD m 0)) % 65536)
        else bits.getD (i + m) 0) := by
  induction ds with
  | nil =>
    intro i next bits _ _ _ _
    exact ⟨bits, rfl, rfl, fun _ _ => rfl, fun m hm => absurd hm (by simp)⟩
  | cons d ds ih =>
    intro i next bits hnl hds hlen hnb
    have hd : d < 16 := hds d (by simp)
    have hds' : ∀ x ∈ ds, x < 16 := fun x hx => hds x (List.mem_cons_of_mem _ hx)
    have hlen0 : i + (ds.length + 1) ≤ bits.length := hlen
    have hlen' : i + 1 + ds.length ≤ bits.length := by omega
    simp only [assignLoop]
    by_cases hd0 : d = 0
    · subst hd0
      simp only [ne_eq, not_true_eq_false, ↓reduceIte]
      obtain ⟨bits', h1, h2, h3, h4⟩ := ih (i + 1) next bits hnl hds' hlen' hnb
      refine ⟨bits', h1, h2, ?_, ?_⟩
      · intro k hk
        exact h3 k (by simp only [List.length_cons] at hk; omega)
      · intro m hm
        cases m with
        | zero => simpa using h3 i (by omega)
        | succ m =>
          have hm' : m < ds.length := by simp only [List.length_cons] at hm; omega
          have := h4 m hm'
          have e : i + 1 + m = i + (m + 1) := by omega
          rw [e] at this
          rw [this]
          simp only [List.getD_cons_succ, List.take_succ_cons, countLen_cons]
          by_cases hz : ds.getD m 0 = 0
          · rw [if_neg (fun h => h hz), if_neg (fun h => h hz)]
          · have hz' : ¬ (0 = ds.getD m 0) := fun h => hz h.symm
            simp only [hz', ↓reduceIte, Nat.zero_add]
    · simp only [ne_eq, hd0, not_false_eq_true, ↓reduceIte]
      have hdl : d < next.length := by omega
      have hil : i < bits.length := by omega
      simp only [getAt_getD next d 0 hdl, Out.bind_ok, setAt_of_lt bits i _ hil]
      obtain ⟨bits', h1, h2, h3, h4⟩ := ih (i + 1) (next.set d ((next.getD d 0 + 1) % 65536))
        (bits.set i (reverseBits d (next.getD d 0))) (by simp [hnl]) hds'
        (by simp; omega)
        (by
          intro l
          rw [getD_set _ _ _ _ 0 hdl]
          split
          · exact Nat.mod_lt _ (by decide)
          · exact hnb l)
      refine ⟨bits', h1, by simp [h2], ?_, ?_⟩
      · intro k hk
        rw [h3 k (by simp only [List.length_cons] at hk; omega), getD_set _ _ _ _ 0 hil]
        have : ¬ i = k := by simp only [List.length_cons] at hk; omega
        simp [this]
      · intro m hm
        cases m with
        | zero =>
          rw [Nat.add_zero, h3 i (by omega), getD_set _ _ _ _ 0 hil]
          have hm0 := Nat.mod_eq_of_lt (hnb d)
          simp only [List.getD_cons_zero, hd0, not_false_eq_true, ↓reduceIte, List.take_zero,
            countLen, List.filter_nil, List.length_nil, Nat.add_zero, hm0]
        | succ m =>
          have hm' : m < ds.length := by simp only [List.length_cons] at hm; omega
          have := h4 m hm'
          have e : i + 1 + m = i + (m + 1) := by omega
          rw [e] at this
          rw [this]
          simp only [List.getD_cons_succ, List.take_succ_cons, countLen_cons]
          split
          · congr 1
            rw [getD_set _ _ _ _ 0 hdl]
            by_cases hdd : d = ds.getD m 0
            · simp only [hdd, ↓reduceIte]
              omega
            · simp only [hdd, ↓reduceIte, Nat.zero_add]
          · rw [getD_set _ _ _ _ 0 hil]
            have : ¬ i = i + (m + 1) := by omega
            simp only [this, ↓reduceIte]

theorem reverseBits_mod (n x : Nat) (h1 : 1 ≤ n) (h16 : n ≤ 16) :
    reverseBits n (x % 65536) = reverseBits n x := by
  rw [reverseBits_eq n _ h1 h16, reverseBits_eq n _ h1 h16, ← revSpec_mod n (x % 65536),
    ← revSpec_mod n x]
  congr 1
  have : (65536 : Nat) = 2 ^ 16 := by decide
  rw [this]
  exact Nat.mod_mod_of_dvd _ (Nat.pow_dvd_pow 2 h16)

theorem canonicalCodes_getD (d : List Nat) (i : Nat) (hi : i < d.length) :
    (canonicalCodes d).getD i 0 =
      if d.getD i 0 = 0 then 0 else firstCode d (d.getD i 0) + countLen (d.take i) (d.getD i 0) := by
  unfold canonicalCodes
  simp [List.getD_eq_getElem?_getD, hi]

theorem convert_spec (d bits : List Nat) (hd : ∀ x ∈ d, x ≤ 15) (hn : d.length < 65536)
    (hb : d.length ≤ bits.length) :
    ∃ bits', convertBitDepthsToSymbols d d.length bits = .ok bits' ∧ bits'.length = bits.length ∧
      (∀ k, d.length ≤ k → bits'.getD k 0 = bits.getD k 0) ∧
      ∀ i, i < d.length → bits'.getD i 0 =
        if d.getD i 0 ≠ 0 then reverseBits (d.getD i 0) ((canonicalCodes d).getD i 0)
        else bits.getD i 0 := by
  have hd16 : ∀ x ∈ d, x < 16 := fun x hx => Nat.lt_succ_of_le (hd x hx)
  unfold convertBitDepthsToSymbols
  simp only [Nat.lt_irrefl, gt_iff_lt, ↓reduceIte, List.take_length]
  have hM : MAX_HUFFMAN_BITS = 16 := rfl
  simp only [hM]
  obtain ⟨bl, hbl1, hbl2, hbl3⟩ := blCountLoop_spec d (List.replicate 16 0) (by simp) hd16
    (by
      intro l hl
      have := countLen_le d l
      rw [getD_replicate]; omega)
  simp only [hbl1, Out.bind_ok]
  have htake : (bl.set 0 0).take (16 - 1) = (List.range' 0 15).map (cnt' d) := by
    apply List.ext_getElem?
    intro k
    simp only [Nat.add_one_sub_one, List.getElem?_take, List.getElem?_map]
    by_cases hk : k < 15
    · have hk16 : k < bl.length := by omega
      simp only [hk, ↓reduceIte, List.getElem?_set, List.getElem?_range' , Nat.zero_add]
      have h3 := hbl3 k (by omega)
      rw [getD_replicate, Nat.zero_add, List.getD_eq_getElem?_getD] at h3
      by_cases hk0 : k = 0
      · subst hk0; simp [cnt', hbl2]
      · have : ¬ 0 = k := fun h => hk0 h.symm
        simp only [this, ↓reduceIte, cnt', hk0, Nat.one_mul, Option.map_some]
        rw [List.getElem?_eq_getElem hk16] at h3 ⊢
        simpa using h3
    · simp [hk]
  rw [htake]
  have hnc := nextCodeLoop_spec d 15 0 (fun l hl => firstCode_add_lt d hn l (by omega))
  have hf0 : firstCode d 0 = 0 := rfl
  rw [hf0] at hnc
  simp only [hnc, Out.bind_ok]
  have hnext : ∀ l, ((0 : Nat) :: (List.range' (0 + 1) 15).map fun l => firstCode d l % 65536).getD l 0
      = if l < 16 then firstCode d l % 65536 else 0 := by
    intro l
    cases l with
    | zero => simp [hf0]
    | succ l =>
      simp only [List.getD_eq_getElem?_getD]
      by_cases hl : l < 15
      · have : l + 1 < 16 := by omega
        simp [this, Nat.add_comm]
      · have : ¬ l + 1 < 16 := by omega
        simp [this]
  obtain ⟨bits', h1, h2, h3, h4⟩ := assignLoop_spec d 0
    (0 :: (List.range' (0 + 1) 15).map fun l => firstCode d l % 65536) bits
    (by simp) hd16 (by omega)
    (by
      intro l; rw [hnext]; split
      · exact Nat.mod_lt _ (by decide)
      · decide)
  refine ⟨bits', h1, h2, fun k hk => h3 k (Or.inr (by omega)), ?_⟩
  intro i hi
  have h4i := h4 i hi
  rw [Nat.zero_add] at h4i
  rw [h4i]
  by_cases hz : d.getD i 0 = 0
  · rw [if_neg (fun h => h hz), if_neg (fun h => h hz)]
  · rw [if_pos hz, if_pos hz]
    have hmem : d.getD i 0 ∈ d := by
      rw [List.getD_eq_getElem?_getD, List.getElem?_eq_getElem hi]; simp
    have hl16 := hd16 _ hmem
    rw [hnext, if_pos hl16, canonicalCodes_getD d i hi, if_neg hz, Nat.mod_add_mod,
      reverseBits_mod _ _ (by omega) (by omega)]

end BV.Lemmas.HuffmanCanon
