/-
The stream-machine model (`BV/Model/Stream.lean`) as an encoder of the adapters: a cross-call rank that every
"stalled" call lowers (`call_good`), then `streamEnc o` and the proofs that it meets `EncSane` and `EncProgress`
for every payload oracle `o`, with no hypothesis on the oracle.
-/
import BV.Lemmas.StreamTermCall
import BV.Lemmas.StreamTotal
import BV.Lemmas.AdaptersHyp

namespace BV.Stream
open BV.Bits

theorem slowStep_availIn {o : Oracle} {op : Nat} {s s' : St} {io io' : Io} {c : Ctl}
    (h : slowStep o op s io = .ok (s', io', c)) : io'.availIn ≤ io.availIn := by
  rcases slowStep_ok h with ⟨_, _, _, rfl, _⟩ | ⟨_, ⟨hp, _⟩ | ⟨_, ⟨_, _, _, _, _, rfl, _⟩ | ⟨_, _, rfl, _⟩⟩⟩
  · exact Nat.sub_le _ _
  · exact Nat.le_of_eq (push_frame hp).availIn
  · exact Nat.le_refl _
  · exact Nat.le_refl _

/-- the bound on the staging buffer a state carries by itself (no input on offer): what the buffer
is, or what `get_brotli_storage` is asked for when the unflushed bytes are encoded -/
def stateCap (s : St) : Nat := max s.storageSize (2 * (s.inputPos - s.lastFlushPos) + 527)

theorem mcap_stateCap (s : St) : MCap (stateCap s) s := ⟨Nat.le_max_left _ _, Nat.le_max_right _ _⟩

theorem stateCap_le_of_mcap {M : Nat} {s : St} (h : MCap M s) : stateCap s ≤ M := Nat.max_le.mpr ⟨h.1, h.2⟩

theorem callCap_zero (s : St) : callCap s 0 = stateCap s := by
  unfold callCap stateCap
  simp

/-- two caps: `M` is the cap the potential runs with (`callCap`, per call); `K` is carried only to get
`stateCap s1 ≤ stateCap s` at the exit (`ExitFacts.stateCap_le`) -/
structure Stalled (pot : St → Io → Nat) (M K : Nat) (s : St) (io : Io) (t : St) (tio : Io) : Prop where
  lbb : t.lastBytesBits ≤ 14
  pot : tio.availIn = io.availIn → (t = s ∧ tio = io) ∨ pot t tio < pot s io
  cap : Cap M t tio
  mcap : tio.availIn = io.availIn → MCap K t

theorem Stalled.refl {pot : St → Io → Nat} {M K : Nat} {s : St} {io : Io} (hl : s.lastBytesBits ≤ 14) (hC : Cap M s io)
    (hK : MCap K s) : Stalled pot M K s io s io :=
  ⟨hl, fun _ => Or.inl ⟨rfl, rfl⟩, hC, fun _ => hK⟩

/-- `dM`, `dK`, `d2` have the shape in which `slowStep_decreases` / `fastStep_decreases` give them -/
theorem Stalled.step {pot : St → Io → Nat} {M K : Nat} {s t t' : St} {io tio tio' : Io} (h : Stalled pot M K s io t tio)
    (hle : tio.availIn ≤ io.availIn) (q1 : tio'.availIn ≤ tio.availIn) (d2 : t'.lastBytesBits ≤ 14)
    (dM : Cap M t tio → pot t' tio' < pot t tio ∧ Cap M t' tio')
    (dK : MCap K t → tio'.availIn = tio.availIn → MCap K t') : Stalled pot M K s io t' tio' := by
  obtain ⟨d1, d3⟩ := dM h.cap
  refine ⟨d2, fun heq => Or.inr ?_, d3, fun heq => dK (h.mcap (by omega)) (by omega)⟩
  rcases h.pot (by omega) with ⟨rfl, rfl⟩ | hlt
  · exact d1
  · exact Nat.lt_trans d1 hlt

theorem slowLoop_stalled {o : Oracle} {op M K fuel : Nat} {s s' : St} {io io' : Io} {r : Bool}
    (hop : op ≤ 2) (hnf : ¬ fastMode s.params) (hI : Inv s) (hrm : s.remainingMetadata = u32Max)
    (hw : s.inputPos + io.availIn < two64) (hacc : s.streamState ≠ .processing → io.availIn = 0)
    (hC : Cap M s io) (hK : MCap K s) (hl : s.lastBytesBits ≤ 14)
    (h : slowLoop o op fuel s io = .ok (s', io', r)) :
    r = true ∧ ∃ s1, s' = checkFlushComplete s1 ∧ MainExit op s io.availIn s1 io' ∧
      Stalled (slowPot op M) M K s io s1 io' := by
  have hX : ∀ t tio t' tio', SlowInv op s.streamState io.availIn (s.inputPos + io.availIn) t tio →
      Stalled (slowPot op M) M K s io t tio → slowStep o op t tio = .ok (t', tio', .cont) →
      Stalled (slowPot op M) M K s io t' tio' := by
    intro t tio t' tio' p1 p hs
    have hwt : t.inputPos + tio.availIn < two64 := by rw [p1.sum]; exact p1.nowrap
    obtain ⟨dM, _, d2⟩ := slowStep_decreases (M := M) p1.inv hwt p1.idle p.lbb hop hs
    obtain ⟨_, dK, _⟩ := slowStep_decreases (M := K) p1.inv hwt p1.idle p.lbb hop hs
    exact p.step p1.availLe (slowStep_availIn hs) d2 dM dK
  obtain ⟨hr, s1, _, hs', hx, hst⟩ := slowLoop_run hop hnf hI hrm hw hacc (.refl hl hC hK) hX h
  exact ⟨hr, s1, hs', hx, hst⟩

theorem fastLoop_stalled {o : Oracle} {op M K fuel : Nat} {s s' : St} {io io' : Io}
    (hop : op ≤ 2) (hI : Inv s) (hrm : s.remainingMetadata = u32Max) (hfm : fastMode s.params)
    (hacc : s.streamState ≠ .processing → io.availIn = 0)
    (hC : Cap M s io) (hK : MCap K s) (hl : s.lastBytesBits ≤ 14)
    (h : fastLoop o op fuel s io = .ok (s', io')) :
    MainExit op s io.availIn s' io' ∧ Stalled (fastPot M) M K s io s' io' := by
  have hX : ∀ t tio t' tio', FastInv op s.streamState io.availIn t tio → Stalled (fastPot M) M K s io t tio →
      fastStep o op t tio = .ok (t', tio', true) → Stalled (fastPot M) M K s io t' tio' := by
    intro t tio t' tio' p1 p hs
    obtain ⟨dM, _, d2⟩ := fastStep_decreases (M := M) p.lbb hop hs
    obtain ⟨_, dK, _⟩ := fastStep_decreases (M := K) p.lbb hop hs
    exact p.step p1.availLe (fastStep_spec p1.inv p1.fm hs).2.2.1 d2 dM dK
  exact (fastLoop_run hop hfm hI hrm hacc (.refl hl hC hK) hX h).2

/-- what holds of an encoder state between two API calls outside a metadata block -/
structure Good (s : St) : Prop where
  inv : Inv s
  rm : s.remainingMetadata = u32Max
  lbb : s.lastBytesBits ≤ 14
  /-- not `MainExit.quiet`, which is about a loop that broke with nothing pending -/
  quiet : s.streamState = .flushRequested → s.pending.length ≠ 0

/-- cross-call rank for PROCESS / FINISH requests: a function of the STATE alone (`stateCap s` bounds what
the one encode still due can leave pending; it does not grow in a call that consumes nothing).  The unit
`stateCap s + 8` is the unit `M + 8` of `slowPot` / `fastPot` at `M = stateCap s`: more than what is pending after an
encode (at most `M` bytes) and `padB ≤ 4` can add -/
def rankPF (s : St) : Nat :=
  (if s.streamState = .finished then 0 else 1) * (stateCap s + 8) + padB s + s.pending.length

/-- the same for FLUSH requests: the encode is due while the state is PROCESSING -/
def rankFl (s : St) : Nat :=
  (if s.streamState = .processing then 1 else 0) * (stateCap s + 8) + padB s + s.pending.length

/-- what the two potentials say at the exit of their loop (beside `MainExit`), in one shape: `due0`, `due1` are the 0/1
"an encode is due" indicators of the loop's potential at entry and exit, `availIn0` the input on offer at entry -/
structure ExitFacts (op M cap : Nat) (s : St) (availIn0 : Nat) (s1 : St) (io' : Io) (due0 due1 : Nat) : Prop where
  lastBits : s1.lastBytesBits ≤ 14
  due0_le : due0 ≤ 1
  due0_eq : op ≠ 0 → availIn0 = 0 → due0 = (if s.streamState = .processing then 1 else 0)
  due1_eq : (op ≠ 0 ∨ availIn0 ≠ 0) → io'.availIn = availIn0 → due1 = (if s1.streamState = .processing then 1 else 0)
  pot : io'.availIn = availIn0 → (s1 = s ∧ io'.availOut = cap) ∨
        due1 * (M + 8) + padB s1 + s1.pending.length < due0 * (M + 8) + padB s + s.pending.length
  stateCap_le : io'.availIn = availIn0 → stateCap s1 ≤ stateCap s

/-- the arithmetic of `stall_of_exit`: from the loop's potential (weight `X` on its "an encode is due" indicators `c`)
to the rank (the states' own weights `K1 ≤ K` on the indicators `f`) -/
theorem rank_lt_of_pot {c1 c0 f1 f0 X K1 K b1 p1 b0 p0 : Nat} (h : c1 * X + b1 + p1 < c0 * X + b0 + p0)
    (hk : K1 ≤ K) (hf : (X = K + 8 ∧ f1 = c1 ∧ f0 = c0) ∨ (c0 ≤ c1 ∧ f1 = f0)) :
    f1 * (K1 + 8) + b1 + p1 < f0 * (K + 8) + b0 + p0 := by
  have h2 := Nat.mul_le_mul_left f1 (Nat.add_le_add_right hk 8)
  rcases hf with ⟨rfl, rfl, rfl⟩ | ⟨hc, rfl⟩
  · omega
  · have h1 := Nat.mul_le_mul_right X hc
    omega

/-- a request `op` with `n` bytes of input that consumed none of them, from `s` to `s'`, lowered the rank of its kind -/
structure RankDown (op n : Nat) (s s' : St) : Prop where
  process : op = 0 → n ≠ 0 → rankPF s' < rankPF s
  finish : op = 2 → n = 0 → isFinished s' = false → rankPF s' < rankPF s
  flush : op = 1 → n = 0 → hasMoreOutput s' = true → rankFl s' < rankFl s

/-- in each of the three kinds of request (PROCESS with input, FINISH, FLUSH) only the strict case of `hE.pot` is
possible (the other one, no step at all, contradicts `hx.full` or the request's own hypothesis); `rank_lt_of_pot` then
turns the potential into the rank -/
theorem stall_of_exit {op M cap availIn0 due0 due1 : Nat} {s s1 : St} {io' : Io} (hG : Good s)
    (hacc : s.streamState ≠ .processing → availIn0 = 0) (hM0 : availIn0 = 0 → M = stateCap s)
    (hx : MainExit op s availIn0 s1 io') (hE : ExitFacts op M cap s availIn0 s1 io' due0 due1) :
    Good (checkFlushComplete s1) ∧
    (0 < cap → io'.availIn = availIn0 → RankDown op availIn0 s (checkFlushComplete s1)) := by
  have k8 : (checkFlushComplete s1).pending = s1.pending := by rw [checkFlushComplete_eq]
  have hst := checkFlushComplete_state s1
  have hpadB : padB (checkFlushComplete s1) = padB s1 := by rw [checkFlushComplete_eq]; rfl
  have hKc : stateCap (checkFlushComplete s1) = stateCap s1 := by rw [checkFlushComplete_eq]; rfl
  have hnmd : ∀ t : St, Inv t → t.remainingMetadata = u32Max → t.streamState = .processing ∨ t.streamState = .flushRequested ∨ t.streamState = .finished := by
    intro t hI hrm
    cases hs : t.streamState
    · exact Or.inl rfl
    · exact Or.inr (Or.inl rfl)
    · exact Or.inr (Or.inr rfl)
    · exact absurd hrm (hI.mdIff.mp (Or.inl hs))
    · exact absurd hrm (hI.mdIff.mp (Or.inr hs))
  have hgood : Good (checkFlushComplete s1) := by
    refine ⟨inv_checkFlushComplete hx.inv, by rw [checkFlushComplete_eq]; exact hx.rm, by rw [checkFlushComplete_eq]; exact hE.lastBits, ?_⟩
    intro hfl
    rw [hst] at hfl
    rw [k8]
    by_cases hc : s1.streamState = .flushRequested ∧ s1.pending.length = 0
    · rw [if_pos hc] at hfl; cases hfl
    · rw [if_neg hc] at hfl; intro h0; exact hc ⟨hfl, h0⟩
  refine ⟨hgood, ?_⟩
  intro hcap hcons
  have hkm := hE.stateCap_le hcons
  have busy : s1.streamState = .processing → (op ≠ 0 ∨ availIn0 ≠ 0) → s1.pending.length ≠ 0 := fun hp hor hz => by
    obtain ⟨h0, h1⟩ := hx.quiet hz hp
    exact hor.elim (fun h => h h0) (fun h => h (hcons.symm.trans h1))
  refine ⟨?_, ?_, ?_⟩
  · intro h0 ha
    have hc1 := hE.due1_eq (Or.inr ha) hcons
    have hs0 : s.streamState = .processing := by
      cases hs : s.streamState
      · rfl
      all_goals exact absurd (hacc (by rw [hs]; simp)) ha
    have hs1 : s1.streamState = .processing := by
      rcases hx.st with h | ⟨_, h, _⟩
      · rw [h, hs0]
      · rw [hcons] at h; exact absurd h ha
    have hp1 : s1.pending.length ≠ 0 := busy hs1 (Or.inr ha)
    have hst' : (checkFlushComplete s1).streamState = .processing := by rw [hst, hs1]; simp
    rcases hE.pot hcons with ⟨e1, e2⟩ | hlt
    · exact absurd e2 (by have := hx.full; omega)
    · unfold rankPF
      rw [hst', hs0, hpadB, k8, hKc]
      rw [hc1, hs1] at hlt
      exact rank_lt_of_pot hlt hkm (Or.inr ⟨hE.due0_le, rfl⟩)
  · intro h2 ha hnf
    have hMe := hM0 ha
    subst hMe
    have hc1 := hE.due1_eq (Or.inl (by omega)) hcons
    have hc0 := hE.due0_eq (by omega) ha
    rcases hE.pot hcons with ⟨e1, e2⟩ | hlt
    · subst e1
      have hp : s1.pending.length = 0 := by have := hx.full; omega
      rcases hnmd s1 hG.inv hG.rm with h | h | h
      · exact absurd hp (busy h (Or.inl (by omega)))
      · exact absurd hp (hG.quiet h)
      · exfalso
        have : isFinished (checkFlushComplete s1) = true := by
          unfold isFinished; rw [hst, k8, h]; simp [hp]
        rw [this] at hnf; cases hnf
    · unfold rankPF
      rw [hpadB, k8, hst, hKc]
      rw [hc1, hc0] at hlt
      have hss : s1.streamState = s.streamState ∨ (s.streamState = .processing ∧ s1.streamState = .finished) := by
        rcases hx.st with h1 | ⟨h0, _, ⟨h1, _⟩ | ⟨_, h1⟩⟩
        · exact Or.inl h1
        · omega
        · exact Or.inr ⟨h0, h1⟩
      rcases hss with h1 | ⟨h, h1⟩
      · rw [h1] at hlt ⊢
        rcases hnmd s hG.inv hG.rm with h | h | h
        · rw [h] at hlt ⊢; exact rank_lt_of_pot hlt hkm (Or.inl ⟨rfl, rfl, rfl⟩)
        · rw [h] at hlt ⊢
          refine rank_lt_of_pot hlt hkm (Or.inr ⟨Nat.le_refl _, ?_⟩)
          split <;> rfl
        · rw [h] at hlt ⊢; exact rank_lt_of_pot hlt hkm (Or.inl ⟨rfl, rfl, rfl⟩)
      · rw [h, h1] at hlt ⊢; exact rank_lt_of_pot hlt hkm (Or.inl ⟨rfl, rfl, rfl⟩)
  · intro h1 ha hmore
    have hMe := hM0 ha
    subst hMe
    have hc1 := hE.due1_eq (Or.inl (by omega)) hcons
    have hc0 := hE.due0_eq (by omega) ha
    have hp1 : s1.pending.length ≠ 0 := by
      unfold hasMoreOutput at hmore; rw [k8] at hmore; simpa using hmore
    rcases hE.pot hcons with ⟨e1, e2⟩ | hlt
    · exact absurd e2 (by have := hx.full; omega)
    · unfold rankFl
      have hflip : (if s1.streamState = .flushRequested ∧ s1.pending.length = 0 then SState.processing else s1.streamState) = s1.streamState :=
        if_neg (fun hh => hp1 hh.2)
      rw [hpadB, k8, hst, hflip, hKc]
      rw [hc1, hc0] at hlt
      exact rank_lt_of_pot hlt hkm (Or.inl ⟨rfl, rfl, rfl⟩)

theorem exitFacts_slow {op M cap : Nat} {s s1 : St} {io io' : Io} (hio : io.availOut = cap)
    (hnf : ¬ fastMode s.params) (hx : MainExit op s io.availIn s1 io')
    (hst : Stalled (slowPot op M) M (stateCap s) s io s1 io') :
    ExitFacts op M cap s io.availIn s1 io' (if canEnc op s io then 1 else 0) (if canEnc op s1 io' then 1 else 0) := by
  have b1 : ¬ (remainingInputBlockSize s1 ≠ 0 ∧ io'.availIn ≠ 0) := by
    rcases hx.exit with ⟨hf, _⟩ | ⟨_, h, _⟩
    · exact absurd (hx.fm.mp hf) hnf
    · exact h
  refine ⟨hst.lbb, by split <;> omega, ?_, ?_, ?_, fun hav => stateCap_le_of_mcap (hst.mcap hav)⟩
  · intro hop ha
    by_cases hp : s.streamState = .processing
    · have hce : canEnc op s io := by unfold canEnc; exact ⟨hp, Or.inr ⟨hop, ha⟩⟩
      rw [if_pos hce, if_pos hp]
    · have hce : ¬ canEnc op s io := by unfold canEnc; exact fun hh => hp hh.1
      rw [if_neg hce, if_neg hp]
  · intro hor hav
    by_cases hp : s1.streamState = .processing
    · have : remainingInputBlockSize s1 = 0 ∨ (op ≠ 0 ∧ io'.availIn = 0) := by
        by_cases ha : io.availIn = 0
        · rcases hor with h | h
          · exact Or.inr ⟨h, by rw [hav]; exact ha⟩
          · exact absurd ha h
        · left
          by_cases hr : remainingInputBlockSize s1 = 0
          · exact hr
          · exact absurd ⟨hr, by rw [hav]; exact ha⟩ b1
      have hce : canEnc op s1 io' := by unfold canEnc; exact ⟨hp, this⟩
      rw [if_pos hce, if_pos hp]
    · have hce : ¬ canEnc op s1 io' := by unfold canEnc; exact fun hh => hp hh.1
      rw [if_neg hce, if_neg hp]
  · intro hav
    rcases hst.pot hav with ⟨e1, e2⟩ | hlt
    · left; subst e2; exact ⟨e1, hio⟩
    · right
      unfold slowPot at hlt
      rw [hav] at hlt
      simp only [Nat.add_mul] at hlt
      omega

theorem exitFacts_fast {op M cap : Nat} {s s1 : St} {io io' : Io} (hio : io.availOut = cap)
    (hst : Stalled (fastPot M) M (stateCap s) s io s1 io') :
    ExitFacts op M cap s io.availIn s1 io' (if s.streamState = .processing then 1 else 0)
      (if s1.streamState = .processing then 1 else 0) := by
  refine ⟨hst.lbb, by split <;> omega, fun _ _ => rfl, fun _ _ => rfl, ?_, fun hav => stateCap_le_of_mcap (hst.mcap hav)⟩
  intro hav
  rcases hst.pot hav with ⟨e1, e2⟩ | hlt
  · left; subst e2; exact ⟨e1, hio⟩
  · right
    unfold fastPot at hlt
    rw [hav] at hlt
    simp only [Nat.add_mul] at hlt
    omega

theorem good_updateSizeHint {s : St} (hG : Good s) (n : Nat) : Good (updateSizeHint s n) := by
  have hI := inv_updateSizeHint hG.inv n
  rw [updateSizeHint_eq] at hI ⊢
  exact ⟨hI, hG.rm, hG.lbb, hG.quiet⟩

/-- what one PROCESS / FLUSH / FINISH call from a good state `s` answers: the cursors balance, the state is good again,
and an accepted call with room that consumed nothing lowered the rank -/
structure GoodCall (op cap : Nat) (input : Bytes) (s s' : St) (io' : Io) (r : Bool) : Prop where
  outBal : io'.out.length + io'.availOut = cap
  inLe : io'.availIn ≤ input.length
  good : Good s'
  stalled : r = true → 0 < cap → io'.availIn = input.length → RankDown op input.length s s'

/-- no hypothesis on the oracle: the potential runs with the per-call storage bound `callCap` -/
theorem call_good {o : Oracle} {op cap fuel : Nat} {input : Bytes} {s s' : St} {io' : Io} {r : Bool}
    (hop : op ≤ 2) (hG : Good s) (hw : s.inputPos + input.length < two64)
    (h : compressStream o fuel s op input cap = .ok (s', io', r)) : GoodCall op cap input s s' io' r := by
  have hL := call_ledger 0 (Nat.le_succ_of_le hop) hG.inv hw h
  have hC := cap_callCap s input cap
  have hM0 : input.length = 0 → callCap s input.length = stateCap s := fun h0 => by rw [h0]; exact callCap_zero s
  suffices hgs : Good s' ∧ (r = true → 0 < cap → io'.availIn = input.length → RankDown op input.length s s') from
    ⟨hL.outBal, hL.inLe, hgs.1, hgs.2⟩
  rcases compressStream_dispatch (o := o) (fuel := fuel) (cap := cap) (input := input) (Nat.le_succ_of_le hop) hG.inv with
    ⟨_, s0, hs0, he⟩ | ⟨_, ⟨h3, _⟩ | ⟨_, hrm, hacc, ⟨hfm, he⟩ | ⟨he, hnf⟩⟩⟩
  · rw [he] at h; cases h
    refine ⟨?_, fun hh => absurd hh (by simp)⟩
    rcases hs0 with rfl | rfl
    · exact hG
    · exact good_updateSizeHint hG 0
  · omega
  · rw [he] at h
    unfold compressStreamFast at h
    split at h
    · cases h
      exact ⟨hG, fun hh => absurd hh (by simp)⟩
    · split at h
      · next s1 io1 hl =>
        cases h
        obtain ⟨hx, hst⟩ := fastLoop_stalled hop hG.inv hrm hfm hacc hC (mcap_stateCap s) hG.lbb hl
        obtain ⟨g1, g2⟩ := stall_of_exit hG (availIn0 := input.length) hacc hM0 hx (exitFacts_fast (cap := cap) rfl hst)
        exact ⟨g1, fun _ => g2⟩
      · cases h
      · cases h
  · rw [he] at h
    obtain ⟨_, s1, rfl, hx, hst⟩ := slowLoop_stalled hop hnf hG.inv hrm hw hacc hC (mcap_stateCap s) hG.lbb h
    obtain ⟨g1, g2⟩ := stall_of_exit hG (availIn0 := input.length) hacc hM0 hx (exitFacts_slow (cap := cap) rfl hnf hx hst)
    exact ⟨g1, fun _ => g2⟩
end BV.Stream

namespace BV.Adapters
open BV.Stream
open Classical

def opCode : Op → Nat
  | .process => 0
  | .flush => 1
  | .finish => 2

theorem opCode_le (op : Op) : opCode op ≤ 2 := by cases op <;> simp [opCode]

def deadAns : EncAns := ⟨0, [], false, 0⟩

/-- `BrotliEncoderStateStruct` as modelled by `BV.Stream`, seen through the `Enc` interface.
`none` = the call panicked / ran out of the model's fuel / was made outside the envelope in which
the stream model's theorems apply (`Good`: invariant of the machine between calls outside metadata
blocks, carry ≤ 14 bits, a requested flush has something pending; stream position below 2^64).
`streamEnc_alive` shows that accepted calls never leave the envelope by themselves.
Not computable: the envelope `Good` is a `Prop` that is decided classically. -/
noncomputable def streamEnc (o : Oracle) : Enc (Option St) where
  step s op inp cap :=
    match s with
    | none => (none, deadAns)
    | some s =>
      if Good s ∧ s.inputPos + inp.length < two64 then
        match compressStream o (callFuel s inp.length cap) s (opCode op) inp cap with
        | .ok (s', io', r) => (some s', ⟨inp.length - io'.availIn, io'.out, r, s'.totalOut⟩)
        | _ => (none, deadAns)
      else (none, deadAns)
  hasMore s := match s with | some s => hasMoreOutput s | none => false
  isFinished s := match s with | some s => BV.Stream.isFinished s | none => false

theorem streamEnc_step (o : Oracle) (s : Option St) (op : Op) (inp : Bytes) (cap : Nat) :
    ((streamEnc o).step s op inp cap = (none, deadAns)) ∨
    (∃ s0 s' io' r, s = some s0 ∧ Good s0 ∧ s0.inputPos + inp.length < two64 ∧
      compressStream o (callFuel s0 inp.length cap) s0 (opCode op) inp cap = .ok (s', io', r) ∧
      (streamEnc o).step s op inp cap = (some s', ⟨inp.length - io'.availIn, io'.out, r, s'.totalOut⟩)) := by
  cases s with
  | none => exact Or.inl rfl
  | some s0 =>
    by_cases hg : Good s0 ∧ s0.inputPos + inp.length < two64
    · cases hc : compressStream o (callFuel s0 inp.length cap) s0 (opCode op) inp cap with
      | ok x =>
        obtain ⟨s', io', r⟩ := x
        right
        refine ⟨s0, s', io', r, rfl, hg.1, hg.2, hc, ?_⟩
        show (if Good s0 ∧ s0.inputPos + inp.length < two64 then _ else _) = _
        rw [if_pos hg, hc]
      | panic =>
        left
        show (if Good s0 ∧ s0.inputPos + inp.length < two64 then _ else _) = _
        rw [if_pos hg, hc]
      | fuel =>
        left
        show (if Good s0 ∧ s0.inputPos + inp.length < two64 then _ else _) = _
        rw [if_pos hg, hc]
    · left
      show (if Good s0 ∧ s0.inputPos + inp.length < two64 then _ else _) = _
      rw [if_neg hg]

theorem streamEnc_sane (o : Oracle) : EncSane (streamEnc o) := by
  constructor
  · intro s op inp cap
    rcases streamEnc_step o s op inp cap with h | ⟨s0, s', io', r, _, _, _, _, h⟩
    · rw [h]; simp [deadAns]
    · rw [h]; exact Nat.sub_le _ _
  · intro s op inp cap
    rcases streamEnc_step o s op inp cap with h | ⟨s0, s', io', r, _, hG, hw, hc, h⟩
    · rw [h]; simp [deadAns]
    · rw [h]
      have := (call_good (opCode_le op) hG hw hc).outBal
      show io'.out.length ≤ cap
      omega

def sRankPF : Option St → Nat
  | some s => rankPF s
  | none => 0
def sRankFl : Option St → Nat
  | some s => rankFl s
  | none => 0

def opsPF : Op → Prop := fun op => op = .process ∨ op = .finish
def opsFl : Op → Prop := fun op => op = .flush

theorem streamEnc_progress_pf (o : Oracle) : EncProgress (streamEnc o) opsPF sRankPF := by
  constructor
  intro s op inp cap hops hcap hok hcons hdem
  rcases streamEnc_step o s op inp cap with h | ⟨s0, s', io', r, hs, hG, hw, hc, h⟩
  · rw [h] at hok; simp [deadAns] at hok
  · rw [h] at hok hcons hdem ⊢
    subst hs
    simp only at hok hcons hdem
    subst hok
    have hcall := call_good (opCode_le op) hG hw hc
    have hav : io'.availIn = inp.length := by have := hcall.inLe; omega
    have hdown := hcall.stalled rfl hcap hav
    show rankPF s' < rankPF s0
    rcases hdem with ⟨h1, h2⟩ | ⟨h1, h2, h3⟩ | ⟨h1, _, _⟩
    · subst h1
      exact hdown.process rfl (fun hz => h2 (List.eq_nil_of_length_eq_zero hz))
    · subst h1 h2
      exact hdown.finish rfl rfl h3
    · subst h1
      rcases hops with h | h <;> cases h

theorem streamEnc_progress_fl (o : Oracle) : EncProgress (streamEnc o) opsFl sRankFl := by
  constructor
  intro s op inp cap hops hcap hok hcons hdem
  rcases streamEnc_step o s op inp cap with h | ⟨s0, s', io', r, hs, hG, hw, hc, h⟩
  · rw [h] at hok; simp [deadAns] at hok
  · rw [h] at hok hcons hdem ⊢
    subst hs
    simp only at hok hcons hdem
    subst hok
    have hcall := call_good (opCode_le op) hG hw hc
    have hav : io'.availIn = inp.length := by have := hcall.inLe; omega
    have hdown := hcall.stalled rfl hcap hav
    show rankFl s' < rankFl s0
    have hop : op = .flush := hops
    subst hop
    rcases hdem with ⟨h1, _⟩ | ⟨h1, _, _⟩ | ⟨_, h2, h3⟩
    · cases h1
    · cases h1
    · subst h2
      exact hdown.flush rfl rfl h3

theorem streamEnc_alive (o : Oracle) (s : Option St) (op : Op) (inp : Bytes) (cap : Nat)
    (s' : St) (h : ((streamEnc o).step s op inp cap).1 = some s') : Good s' := by
  rcases streamEnc_step o s op inp cap with h1 | ⟨s0, s1, io', r, _, hG, hw, hc, h1⟩
  · rw [h1] at h; cases h
  · rw [h1] at h
    simp only [Option.some.injEq] at h
    subst h
    exact (call_good (opCode_le op) hG hw hc).good

theorem good_fresh {s : St} (hf : IsFresh s) : Good (ensureInitialized s) := by
  obtain ⟨hI, _, _⟩ := inv_fresh hf
  obtain ⟨p, rfl⟩ := hf
  refine ⟨hI, by simp [ensureInitialized, St.new], ?_, by simp [ensureInitialized, St.new]⟩
  simp only [ensureInitialized, St.new]
  simp only [Bool.false_eq_true, if_false]
  exact (encodeWindowBits_range _ _).2

end BV.Adapters
