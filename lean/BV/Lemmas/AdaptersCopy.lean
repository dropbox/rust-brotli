/-
C11, copy function: `BrotliCompressCustomIoCustomDict` over an arbitrary encoder oracle and
arbitrary scripts of the wrapped reader and writer.

`short_reads_transparent` / `short_writes_transparent` for the copy function, strong form: two runs
that differ only in the scripts of the wrapped reader AND of the wrapped writer (all scripts free
of hard errors, premature `Ok(0)` reads and zero-length writes) make the same encoder calls, hand
the same bytes to the sink and return the same result — by simulation.
-/
import BV.Lemmas.AdaptersFill
import BV.Lemmas.AdaptersHyp
import BV.Lemmas.AdaptersLoop

namespace BV.Adapters
variable {σ : Type}

def Copy.WF (c : Copy σ) : Prop :=
  c.nextIn + c.availableIn ≤ c.ibuf.length ∧ c.pending.length < c.obufSize ∧ (c.readErr ≠ none → c.eof = true)

def Copy.window (c : Copy σ) : Bytes := (c.ibuf.drop c.nextIn).take c.availableIn

def Copy.nextOp (c : Copy σ) : Op := feedOp c.availableIn

def Copy.ans (E : Enc σ) (c1 : Copy σ) : σ × EncAns :=
  E.step c1.enc c1.nextOp c1.window (c1.obufSize - c1.pending.length)

def Copy.callRec (E : Enc σ) (c1 : Copy σ) : ERec :=
  ⟨c1.nextOp, c1.window, c1.obufSize - c1.pending.length, (c1.ans E).2, E.hasMore (c1.ans E).1, E.isFinished (c1.ans E).1⟩

theorem Copy.window_length (c : Copy σ) (h : c.nextIn + c.availableIn ≤ c.ibuf.length) :
    c.window.length = c.availableIn := by
  simp only [Copy.window, List.length_take, List.length_drop]; omega

structure Copy.Refilled (c c1 : Copy σ) (moved : Bytes) (newL : List LogE) : Prop where
  wf : c1.WF
  enc : c1.enc = c.enc
  elog : c1.elog = c.elog
  pending : c1.pending = c.pending
  obufSize : c1.obufSize = c.obufSize
  sink : c1.sink = c.sink
  totalOut : c1.totalOut = c.totalOut
  eofKept : c.eof = true → c1.eof = true
  errKept : ∀ e, c.readErr = some e → c1.readErr = some e
  window : c1.window = c.window ++ moved
  data : c.src.data = moved ++ c1.src.data
  avail : c1.availableIn = c.availableIn + moved.length
  log : c1.src.log = newL ++ c.src.log
  reads : c.readErr = none →
    (c1.readErr = none ∧ ∀ e ∈ newL, ∀ k, e.res ≠ .err k) ∨ (∃ k, c1.readErr = some (.inner k) ∧ ∃ e ∈ newL, e.res = .err k)

theorem Copy.refill_spec (c : Copy σ) (h : c.WF) :
    ∃ (moved : Bytes) (newL : List LogE), Copy.Refilled c c.refill moved newL := by
  obtain ⟨h1, h2, h3⟩ := h
  unfold Copy.refill
  split
  · next hc =>
    obtain ⟨ha, he⟩ := hc
    have hre : c.readErr = none := by
      cases hr : c.readErr with
      | none => rfl
      | some e => have := h3 (by simp [hr]); rw [he] at this; simp at this
    obtain ⟨moved, newL, k⟩ := fillBuf_spec c.ibuf 0 c.eof c.src 0 (Nat.zero_le _)
    have hfit : 0 + (fillBuf c.ibuf 0 c.eof c.src 0).len ≤ (fillBuf c.ibuf 0 c.eof c.src 0).buf.length := by
      rw [k.bufLen]; have := k.lenLe; omega
    have hwin : ((fillBuf c.ibuf 0 c.eof c.src 0).buf.drop 0).take (fillBuf c.ibuf 0 c.eof c.src 0).len
        = c.window ++ moved := by
      rw [List.drop_zero, k.filled, List.take_zero, show c.window = [] by simp [Copy.window, ha]]
    have hnone : ∀ e', c.readErr = some e' → False := fun e' he' => by rw [hre] at he'; cases he'
    unfold Copy.fill
    simp only [ha]
    cases herr : (fillBuf c.ibuf 0 c.eof c.src 0).err with
    | some e =>
      exact ⟨moved, newL, ⟨hfit, h2, fun _ => rfl⟩, rfl, rfl, rfl, rfl, rfl, rfl, fun _ => rfl, fun e' he' => (hnone e' he').elim,
        hwin, k.data, by rw [ha]; exact k.lenEq, k.log, fun _ => Or.inr ⟨e, rfl, _, k.errLog e herr, rfl⟩⟩
    | none =>
      exact ⟨moved, newL, ⟨hfit, h2, fun hne => absurd hre hne⟩, rfl, rfl, rfl, rfl, rfl, rfl,
        (fun he' => by rw [he] at he'; cases he'), fun e' he' => (hnone e' he').elim,
        hwin, k.data, by rw [ha]; exact k.lenEq, k.log, fun _ => Or.inl ⟨hre, k.okLog herr⟩⟩
  · next hc =>
    exact ⟨[], [], ⟨h1, h2, h3⟩, rfl, rfl, rfl, rfl, rfl, rfl, fun h' => h', fun e h' => h', by simp, by simp, by simp, by simp,
      fun hn => Or.inl ⟨hn, by simp⟩⟩

theorem Copy.window_advance (c : Copy σ) (k : Nat) :
    (c.ibuf.drop (c.nextIn + k)).take (c.availableIn - k) = c.window.drop k := by
  rw [Copy.window, List.drop_take, List.drop_drop]

/-- with `Copy.closeIter` the two last stages of the model's `Copy.iter`, split off so that each has its own lemmas;
`Copy.iter_eq` puts them together -/
def Copy.drain (E : Enc σ) (c2 : Copy σ) : Copy σ × Option Err :=
  if c2.pending.length = c2.obufSize ∨ E.isFinished c2.enc then
    match copyDrain c2.sink c2.pending with
    | (s', .ok ()) => ({ c2 with sink := s', pending := [] }, none)
    | (s', .error de) =>
      ({ c2 with sink := s' },
        some (match c2.readErr with
              | some re => re
              | none => (match de with | .inner c => .inner c | .zero => .unexpectedEof)))
  else (c2, none)

theorem Copy.drain_of_ok (E : Enc σ) {c2 : Copy σ} {s' : Sink}
    (hc : c2.pending.length = c2.obufSize ∨ E.isFinished c2.enc = true)
    (hd : copyDrain c2.sink c2.pending = (s', .ok ())) :
    Copy.drain E c2 = ({ c2 with sink := s', pending := [] }, none) := by
  unfold Copy.drain; rw [if_pos hc, hd]

theorem Copy.drain_of_not (E : Enc σ) {c2 : Copy σ}
    (hc : ¬ (c2.pending.length = c2.obufSize ∨ E.isFinished c2.enc = true)) : Copy.drain E c2 = (c2, none) := by
  unfold Copy.drain; rw [if_neg hc]

structure Copy.Drained (E : Enc σ) (c2 c3 : Copy σ) (oe : Option Err) (newW : List LogE) : Prop where
  /-- one equation in place of ten field equalities; `Copy.Drained.field g` reads it for the projection `g` -/
  frame : c3 = { c2 with sink := c3.sink, pending := c3.pending }
  log : c3.sink.log = newW ++ c2.sink.log
  clean : oe = none → ∀ e ∈ newW, e.faulty = false
  got : oe = none → c3.sink.got ++ c3.pending = c2.sink.got ++ c2.pending
  pending : oe = none → c3.pending = (if c2.pending.length = c2.obufSize ∨ E.isFinished c2.enc = true then [] else c2.pending)
  err : ∀ e re, oe = some e → c2.readErr = some re → e = re

theorem Copy.Drained.field {E : Enc σ} {c2 c3 : Copy σ} {oe : Option Err} {newW : List LogE} {α : Type}
    (d : Copy.Drained E c2 c3 oe newW) (g : Copy σ → α) : g c3 = g { c2 with sink := c3.sink, pending := c3.pending } :=
  congrArg g d.frame

theorem Copy.drain_spec (E : Enc σ) (c2 : Copy σ) :
    ∃ newW : List LogE, Copy.Drained E c2 (Copy.drain E c2).1 (Copy.drain E c2).2 newW := by
  obtain ⟨new, p, hD, hdone, _⟩ := copyDrain_spec c2.sink c2.pending
  have hlog := hD.log
  have hgot := hD.got
  unfold Copy.drain
  split
  · next hfull =>
    split
    · next s' hdr =>
      rw [hdr] at hlog hgot hdone
      obtain ⟨hall, hclean⟩ := hdone rfl
      exact ⟨new, rfl, hlog, fun _ => hclean, fun _ => by rw [List.append_nil, hgot, hall], fun _ => (if_pos hfull).symm,
        fun _ _ h => by cases h⟩
    · next s' de hdr =>
      rw [hdr] at hlog
      exact ⟨new, rfl, hlog, (fun h => by cases h), (fun h => by cases h), (fun h => by cases h),
        fun e re h hre => by cases h; rw [hre]⟩
  · next hnf => exact ⟨[], rfl, rfl, fun _ => by simp, fun _ => rfl, fun _ => (if_neg hnf).symm, fun _ _ h => by cases h⟩

def Copy.closeIter (ok fin : Bool) : Copy σ × Option Err → CIter σ
  | (c3, some e) => .stop c3 (.done (.error e))
  | (c3, none) =>
    if !ok then
      .stop c3 (.done (.error (match c3.readErr with | some re => re | none => Err.unexpectedEof)))
    else if fin then
      match c3.readErr with
      | some re => .stop c3 (.done (.error re))
      | none => .stop c3 (.done (.ok c3.totalOut))
    else .cont c3

theorem Copy.closeIter_cont {ok fin : Bool} {d : Copy σ × Option Err} {c' : Copy σ}
    (h : Copy.closeIter ok fin d = .cont c') : d = (c', none) ∧ ok = true ∧ fin = false := by
  obtain ⟨c3, oe⟩ := d
  cases oe with
  | some e => cases h
  | none =>
    simp only [Copy.closeIter] at h
    split at h
    · cases h
    · next hok =>
      split at h
      · split at h <;> cases h
      · next hfin => cases h; exact ⟨rfl, by simpa using hok, by simpa using hfin⟩

/-- `closeIter ok fin d` returned `Ok n` -/
structure Copy.ClosedOk (ok fin : Bool) (d : Copy σ × Option Err) (n : Nat) : Prop where
  drained : d.2 = none
  accepted : ok = true
  finished : fin = true
  noReadErr : d.1.readErr = none
  total : n = d.1.totalOut

/-- `closeIter ok fin d` left the loop with `res` -/
structure Copy.ClosedWith (ok fin : Bool) (d : Copy σ × Option Err) (res : Except Err Nat) : Prop where
  drainErr : ∀ e, d.2 = some e → res = .error e
  readErr : ∀ e, d.1.readErr = some e → d.2 = none → res = .error e
  ok : ∀ n, res = .ok n → Copy.ClosedOk ok fin d n

theorem Copy.closeIter_stop {ok fin : Bool} {d : Copy σ × Option Err} {c' : Copy σ} {o : Out (Except Err Nat)}
    (h : Copy.closeIter ok fin d = .stop c' o) : c' = d.1 ∧ ∃ res, o = .done res ∧ Copy.ClosedWith ok fin d res := by
  obtain ⟨c3, oe⟩ := d
  cases oe with
  | some e =>
    cases h
    exact ⟨rfl, _, rfl, (fun e he => by cases he; rfl), (fun _ _ h => by cases h), fun n hn => by cases hn⟩
  | none =>
    simp only [Copy.closeIter] at h
    split at h
    · cases h
      refine ⟨rfl, _, rfl, (fun e he => by cases he), fun e he _ => ?_, fun n hn => by cases hn⟩
      dsimp only at he ⊢
      rw [he]
    · next hok =>
      split at h
      · next hfin =>
        split at h
        · next re hre =>
          cases h
          exact ⟨rfl, _, rfl, (fun e he => by cases he), (fun e he _ => by rw [hre] at he; cases he; rfl),
            fun n hn => by cases hn⟩
        · next hre =>
          cases h
          refine ⟨rfl, _, rfl, (fun e he => by cases he), (fun e he _ => by rw [hre] at he; cases he), fun n hn => ?_⟩
          cases hn
          exact ⟨rfl, by simpa using hok, hfin, hre, rfl⟩
      · cases h

theorem Copy.iter_eq (E : Enc σ) (c : Copy σ) :
    Copy.iter E c =
      if (c.refill.ans E).2.consumed > c.refill.window.length ∨
          (c.refill.ans E).2.produced.length > c.refill.obufSize - c.refill.pending.length ∨
          c.refill.window.length ≠ c.refill.availableIn ∨ c.refill.pending.length > c.refill.obufSize then
        .stop (c.refill.afterStep E) .panic
      else Copy.closeIter (c.refill.ans E).2.ok (E.isFinished (c.refill.afterStep E).enc)
        (Copy.drain E (c.refill.afterStep E)) := by
  rfl

theorem Copy.iter_cases (E : Enc σ) (c : Copy σ) (h : c.WF) :
    (¬((c.refill.ans E).2.consumed ≤ c.refill.availableIn ∧
        (c.refill.ans E).2.produced.length ≤ c.refill.obufSize - c.refill.pending.length) ∧
      Copy.iter E c = .stop (c.refill.afterStep E) .panic) ∨
    ((c.refill.ans E).2.consumed ≤ c.refill.availableIn ∧
      (c.refill.ans E).2.produced.length ≤ c.refill.obufSize - c.refill.pending.length ∧
      Copy.iter E c = Copy.closeIter (c.refill.ans E).2.ok (E.isFinished (c.refill.ans E).1)
        (Copy.drain E (c.refill.afterStep E))) := by
  obtain ⟨_, _, f⟩ := Copy.refill_spec c h
  have w2 := f.wf.2.1
  have hwl := Copy.window_length c.refill f.wf.1
  rw [Copy.iter_eq, hwl]
  by_cases hs : (c.refill.ans E).2.consumed ≤ c.refill.availableIn ∧
      (c.refill.ans E).2.produced.length ≤ c.refill.obufSize - c.refill.pending.length
  · exact Or.inr ⟨hs.1, hs.2, by rw [if_neg (by omega)]; rfl⟩
  · exact Or.inl ⟨hs, by rw [if_pos (by omega)]⟩

/-- `c1` is the state AFTER the refill (`c.refill` at the uses), as in `Copy.Stopped` -/
structure Copy.IterOk (E : Enc σ) (c1 c' : Copy σ) (newW : List LogE) : Prop where
  wf : c'.WF
  consumed : (c1.ans E).2.consumed ≤ c1.availableIn
  ok : (c1.ans E).2.ok = true
  enc : c'.enc = (c1.ans E).1
  avail : c'.availableIn = c1.availableIn - (c1.ans E).2.consumed
  src : c'.src = c1.src
  eof : c'.eof = c1.eof
  readErr : c'.readErr = c1.readErr
  elog : c'.elog = c1.callRec E :: c1.elog
  window : c'.window = c1.window.drop (c1.ans E).2.consumed
  log : c'.sink.log = newW ++ c1.sink.log
  clean : ∀ e ∈ newW, e.faulty = false
  got : c'.sink.got ++ c'.pending = c1.sink.got ++ c1.pending ++ (c1.ans E).2.produced

theorem Copy.Drained.iterOk {E : Enc σ} {c1 c' : Copy σ} {newW : List LogE} (hwf : c1.WF)
    (hs : (c1.ans E).2.consumed ≤ c1.availableIn)
    (hpr : (c1.ans E).2.produced.length ≤ c1.obufSize - c1.pending.length) (hok : (c1.ans E).2.ok = true)
    (d : Copy.Drained E (c1.afterStep E) c' none newW) : Copy.IterOk E c1 c' newW := by
  obtain ⟨w1, w2, w3⟩ := hwf
  have d0 := d.frame
  refine ⟨?_, hs, hok, d.field Copy.enc, d.field Copy.availableIn, d.field Copy.src, d.field Copy.eof,
    d.field Copy.readErr, d.field Copy.elog, (d.field Copy.window).trans (Copy.window_advance c1 _), d.log, d.clean rfl, (d.got rfl).trans (List.append_assoc _ _ _).symm⟩
  rw [d0]
  refine ⟨?_, ?_, w3⟩
  · show c1.nextIn + (c1.ans E).2.consumed + (c1.availableIn - (c1.ans E).2.consumed) ≤ c1.ibuf.length
    omega
  · show c'.pending.length < c1.obufSize
    rw [d.pending rfl]
    split
    · exact Nat.lt_of_le_of_lt (Nat.zero_le _) w2
    · next hnf =>
      have : (c1.afterStep E).pending.length ≠ (c1.afterStep E).obufSize := fun hh => hnf (Or.inl hh)
      have hl : (c1.afterStep E).pending.length = c1.pending.length + (c1.ans E).2.produced.length := List.length_append
      have ho : (c1.afterStep E).obufSize = c1.obufSize := rfl
      omega

theorem Copy.iter_cont (E : Enc σ) (c c' : Copy σ) (h : c.WF) (hi : Copy.iter E c = .cont c') :
    ∃ newW : List LogE, Copy.IterOk E c.refill c' newW ∧ E.isFinished (c.refill.ans E).1 = false := by
  obtain ⟨_, _, f⟩ := Copy.refill_spec c h
  rcases Copy.iter_cases E c h with ⟨_, heq⟩ | ⟨hcons, hprod, heq⟩
  · rw [heq] at hi; cases hi
  · rw [heq] at hi
    obtain ⟨hd, hok, hfin⟩ := Copy.closeIter_cont hi
    obtain ⟨newW, d⟩ := Copy.drain_spec E (c.refill.afterStep E)
    rw [hd] at d
    exact ⟨newW, d.iterOk f.wf hcons hprod hok, hfin⟩

structure Copy.Stopped (E : Enc σ) (c1 c' : Copy σ) (o : Out (Except Err Nat)) (newW : List LogE) : Prop where
  readErr : c'.readErr = c1.readErr
  src : c'.src = c1.src
  elog : c'.elog = c1.callRec E :: c1.elog
  live : o ≠ .livelock
  panic : o = .panic → ¬((c1.ans E).2.consumed ≤ c1.availableIn ∧
    (c1.ans E).2.produced.length ≤ c1.obufSize - c1.pending.length)
  log : c'.sink.log = newW ++ c1.sink.log
  err : ∀ res e, o = .done res → c1.readErr = some e → res = .error e
  ok : ∀ n, o = .done (.ok n) → Copy.IterOk E c1 c' newW ∧ c1.readErr = none ∧ E.isFinished (c1.ans E).1 = true ∧
    c'.pending = [] ∧ n = c'.totalOut

theorem Copy.iter_stop (E : Enc σ) (c c' : Copy σ) (o : Out (Except Err Nat)) (h : c.WF)
    (hi : Copy.iter E c = .stop c' o) : ∃ newW : List LogE, Copy.Stopped E c.refill c' o newW := by
  obtain ⟨_, _, f⟩ := Copy.refill_spec c h
  rcases Copy.iter_cases E c h with ⟨hns, heq⟩ | ⟨hcons, hprod, heq⟩
  · rw [heq] at hi; cases hi
    exact ⟨[], rfl, rfl, rfl, by simp, fun _ => hns, rfl, by simp, by simp⟩
  · rw [heq] at hi
    obtain ⟨hc', res, ho, hcl⟩ := Copy.closeIter_stop hi
    obtain ⟨newW, d⟩ := Copy.drain_spec E (c.refill.afterStep E)
    subst hc' ho
    refine ⟨newW, d.field Copy.readErr, d.field Copy.src, d.field Copy.elog, by simp, by simp, d.log,
      fun res' e hr he => ?_, fun n hn => ?_⟩
    · cases hr
      cases hd : (Copy.drain E (c.refill.afterStep E)).2 with
      | some e' => rw [hcl.drainErr e' hd, d.err e' e hd he]
      | none => exact hcl.readErr e ((d.field Copy.readErr).trans he) hd
    · cases hn
      have q := hcl.ok n rfl
      rw [q.drained] at d
      exact ⟨d.iterOk f.wf hcons hprod q.accepted, (d.field Copy.readErr).symm.trans q.noReadErr, q.finished,
        (d.pending rfl).trans (if_pos (Or.inr q.finished)), q.total⟩

theorem Copy.loop_fuelLoop (E : Enc σ) :
    FuelLoop (Copy.loop E) (fun c t => Copy.iter E c = .stop t.1 t.2) (fun c c' => Copy.iter E c = .cont c')
      (fun c => (c, .livelock)) :=
  ⟨fun _ => rfl, fun fuel c t h => by simp only [Copy.loop, h], fun fuel c c' h => by simp only [Copy.loop, h],
    fun c => by
      cases h : Copy.iter E c with
      | stop c' o => exact Or.inl ⟨(c', o), rfl⟩
      | cont c' => exact Or.inr ⟨c', rfl⟩⟩

def Copy.todo (c : Copy σ) : Nat := c.src.data.length + c.availableIn

def Copy.measure (rank : σ → Nat) (c : Copy σ) : Nat × Nat × Nat := (c.todo, eofFlag c.eof, rank c.enc)

theorem Copy.iter_cont_measure (E : Enc σ) (ops : Op → Prop) (rank : σ → Nat) (hp : EncProgress E ops rank)
    (hops : ops .process ∧ ops .finish)
    (c c' : Copy σ) (h : c.WF) (hi : Copy.iter E c = .cont c') :
    c'.WF ∧ lex3.rel (Copy.measure rank c') (Copy.measure rank c) := by
  obtain ⟨_, k, hnotfin⟩ := Copy.iter_cont E c c' h hi
  obtain ⟨moved, newL, f⟩ := Copy.refill_spec c h
  have hcons := k.consumed
  have hok := k.ok
  refine ⟨k.wf, lex3_feed (T1 := c.refill.todo) (F1 := eofFlag c.refill.eof) (k := (c.refill.ans E).2.consumed) ?_
    (eofFlag_mono f.eofKept) ?_ ?_ ?_ ?_⟩
  · simp only [Copy.todo, f.avail, f.data, List.length_append]; omega
  · simp only [Copy.todo, k.avail, k.src]; omega
  · rw [k.eof]
  · simp only [Copy.todo]; omega
  · intro hc
    have hop : c.refill.nextOp = feedOp c.refill.window.length := by rw [Copy.window_length c.refill f.wf.1]; rfl
    rw [k.enc, ← f.enc]
    unfold Copy.ans at hok hnotfin hc ⊢
    rw [hop] at hok hnotfin hc ⊢
    exact hp.feed hops c.refill.enc c.refill.window _ (by have := f.wf.2.1; omega) hok hc hnotfin

structure Copy.ReturnedOk (E : Enc σ) (c c' : Copy σ) (n : Nat) (newE : List ERec) (newW : List LogE) : Prop where
  clean : ∀ e ∈ newW, e.faulty = false
  fin : E.isFinished c'.enc = true
  total : n = c'.totalOut
  pending : c'.pending = []
  got : c'.sink.got = c.sink.got ++ c.pending ++ emitted newE
  conserved : fed newE ++ c'.window ++ c'.src.data = c.window ++ c.src.data
  allOk : ∀ r ∈ newE, r.ans.ok = true

structure Copy.Returned (E : Enc σ) (c c' : Copy σ) (res : Except Err Nat) (newE : List ERec) (newR newW : List LogE) :
    Prop where
  elog : c'.elog = newE ++ c.elog
  srcLog : c'.src.log = newR ++ c.src.log
  sinkLog : c'.sink.log = newW ++ c.sink.log
  errRes : ∀ e, c'.readErr = some e → res = .error e
  errKept : ∀ e, c.readErr = some e → c'.readErr = some e
  reads : c.readErr = none →
    (c'.readErr = none ∧ ∀ e ∈ newR, ∀ k, e.res ≠ .err k) ∨ (∃ k, c'.readErr = some (.inner k) ∧ ∃ e ∈ newR, e.res = .err k)
  ok : ∀ n, res = .ok n → Copy.ReturnedOk E c c' n newE newW

theorem Copy.loop_done (E : Enc σ) (fuel : Nat) (c c' : Copy σ) (res : Except Err Nat) (hwf : c.WF)
    (h : Copy.loop E fuel c = (c', .done res)) :
    ∃ (newE : List ERec) (newR newW : List LogE), Copy.Returned E c c' res newE newR newW := by
  have := (Copy.loop_fuelLoop E).rule (I := Copy.WF)
    (Q := fun c t => ∀ res, t.2 = .done res → ∃ newE newR newW, Copy.Returned E c t.1 res newE newR newW)
    (fun _ _ _ hb => by cases hb)
    (fun c t hwf hi res hb => by
      obtain ⟨moved, newR0, f⟩ := Copy.refill_spec c hwf
      obtain ⟨newW, g⟩ := Copy.iter_stop E c t.1 t.2 hwf hi
      refine ⟨[c.refill.callRec E], newR0, newW, by rw [g.elog, f.elog]; rfl, by rw [g.src, f.log], by rw [g.log, f.sink],
        fun e he => g.err res e hb (g.readErr ▸ he), fun e he => by rw [g.readErr]; exact f.errKept e he,
        fun hn => by rw [g.readErr]; exact f.reads hn, fun n hn => ?_⟩
      subst hn
      obtain ⟨k, _, hfin, hpend, htot⟩ := g.ok n hb
      have hgot := k.got
      rw [hpend, List.append_nil] at hgot
      refine ⟨k.clean, by rw [k.enc]; exact hfin, htot, hpend, ?_, ?_, ?_⟩
      · rw [hgot, f.sink, f.pending]; simp [emitted, Copy.callRec]
      · rw [k.window, k.src]
        simp only [fed, Copy.callRec, List.reverse_cons, List.reverse_nil, List.nil_append, List.map_cons, List.map_nil,
          List.flatten_cons, List.flatten_nil, List.append_nil]
        rw [List.take_append_drop, f.window, f.data]; simp
      · intro r hr; simp at hr; subst hr; exact k.ok)
    (fun c c2 hwf hi => by
      obtain ⟨moved, newR0, f⟩ := Copy.refill_spec c hwf
      obtain ⟨newW0, k, _⟩ := Copy.iter_cont E c c2 hwf hi
      refine ⟨k.wf, fun t hQ res hb => ?_⟩
      obtain ⟨newE, newR, newW, i⟩ := hQ res hb
      refine ⟨newE ++ [c.refill.callRec E], newR ++ newR0, newW ++ newW0, ?_, ?_, ?_, i.errRes, ?_, ?_, ?_⟩
      · rw [i.elog, k.elog, f.elog]; simp
      · rw [i.srcLog, k.src, f.log]; simp
      · rw [i.sinkLog, k.log, f.sink]; simp
      · intro e he; exact i.errKept e (by rw [k.readErr]; exact f.errKept e he)
      · intro hn
        rcases f.reads hn with ⟨ha, hb⟩ | ⟨x, ha, e, he, hk⟩
        · rcases i.reads (by rw [k.readErr]; exact ha) with ⟨hc, hd⟩ | ⟨x, hc, e, he, hk⟩
          · exact Or.inl ⟨hc, List.forall_mem_append.mpr ⟨hd, hb⟩⟩
          · exact Or.inr ⟨x, hc, e, List.mem_append_left _ he, hk⟩
        · exact Or.inr ⟨x, i.errKept _ (by rw [k.readErr]; exact ha), e, List.mem_append_right _ he, hk⟩
      · intro n hn
        have j := i.ok n hn
        refine ⟨List.forall_mem_append.mpr ⟨j.clean, k.clean⟩, j.fin, j.total, j.pending, ?_, ?_,
          List.forall_mem_append.mpr ⟨j.allOk, List.forall_mem_singleton.mpr k.ok⟩⟩
        · rw [j.got, k.got, f.sink, f.pending, emitted_append]; simp [emitted, Copy.callRec]
        · have hsingle : fed [c.refill.callRec E] = c.refill.window.take (c.refill.ans E).2.consumed := by
            simp [fed, Copy.callRec]
          rw [fed_append, hsingle]
          have hre : c.refill.window.take (c.refill.ans E).2.consumed ++ fed newE ++ t.1.window ++ t.1.src.data
              = c.refill.window.take (c.refill.ans E).2.consumed ++ (fed newE ++ t.1.window ++ t.1.src.data) := by
            simp [List.append_assoc]
          rw [hre, j.conserved, k.window, k.src, ← List.append_assoc, List.take_append_drop, f.window, f.data]; simp)
    fuel c hwf res
  rw [h] at this
  exact this rfl

def Copy.init (ib ob : Nat) (e : σ) (src : Source) (sink : Sink) : Copy σ :=
  { ibuf := List.replicate ib 0, obufSize := ob, pending := [], nextIn := 0, availableIn := 0, eof := false,
    readErr := none, enc := e, src := src, sink := sink, totalOut := 0, elog := [] }

theorem Copy.init_WF (ib : Nat) {ob : Nat} (e : σ) (src : Source) (sink : Sink) (hob : 0 < ob) :
    (Copy.init ib ob e src sink).WF :=
  ⟨Nat.zero_le _, hob, fun h => absurd rfl h⟩

theorem Copy.run_eq (E : Enc σ) (fuel : Nat) {ib ob : Nat} (e : σ) (src : Source) (sink : Sink)
    (h : 0 < ib ∧ 0 < ob) : Copy.run E fuel ib ob e src sink = Copy.loop E fuel (Copy.init ib ob e src sink) := by
  unfold Copy.run; rw [if_neg (by omega)]; rfl

theorem Copy.run_panic (E : Enc σ) (fuel : Nat) {ib ob : Nat} (e : σ) (src : Source) (sink : Sink)
    (h : ¬(0 < ib ∧ 0 < ob)) : (Copy.run E fuel ib ob e src sink).2 = .panic := by
  unfold Copy.run; rw [if_pos (by omega)]

theorem Copy.fill_of_ok (c : Copy σ) (h : (fillBuf c.ibuf c.availableIn c.eof c.src 0).err = none) :
    c.fill = { c with ibuf := (fillBuf c.ibuf c.availableIn c.eof c.src 0).buf,
                      availableIn := (fillBuf c.ibuf c.availableIn c.eof c.src 0).len,
                      src := (fillBuf c.ibuf c.availableIn c.eof c.src 0).src,
                      eof := (fillBuf c.ibuf c.availableIn c.eof c.src 0).eof } := by
  unfold Copy.fill
  simp only [h]

/-- equal up to the scripts / logs of both wrapped streams and the bytes of the input buffer
outside the window -/
structure Copy.Sim (a b : Copy σ) : Prop where
  ilen : a.ibuf.length = b.ibuf.length
  nextIn : a.nextIn = b.nextIn
  avail : a.availableIn = b.availableIn
  window : a.window = b.window
  obuf : a.obufSize = b.obufSize
  pending : a.pending = b.pending
  eof : a.eof = b.eof
  readErr : a.readErr = b.readErr
  enc : a.enc = b.enc
  totalOut : a.totalOut = b.totalOut
  elog : a.elog = b.elog
  data : a.src.data = b.src.data
  got : a.sink.got = b.sink.got
  ffra : a.src.faultFree
  ffrb : b.src.faultFree
  ffwa : a.sink.faultFree
  ffwb : b.sink.faultFree
  fits : a.nextIn + a.availableIn ≤ a.ibuf.length

theorem Copy.refill_sim {a b : Copy σ} (h : Copy.Sim a b) : Copy.Sim a.refill b.refill := by
  unfold Copy.refill
  by_cases hc : a.availableIn = 0 ∧ a.eof = false
  · have hc' : b.availableIn = 0 ∧ b.eof = false := by rw [← h.avail, ← h.eof]; exact hc
    rw [if_pos hc, if_pos hc']
    have x := fillBuf_faultFree a.ibuf a.availableIn a.eof a.src 0 (by rw [hc.1]; exact Nat.zero_le _) h.ffra
    have y := fillBuf_faultFree b.ibuf b.availableIn b.eof b.src 0 (by rw [hc'.1]; exact Nat.zero_le _) h.ffrb
    have xbuf := x.bufLen
    have xlen := x.lenEq
    have xfilled := x.filled
    have xdata := x.data
    rw [Copy.fill_of_ok { a with nextIn := 0 } x.errNone, Copy.fill_of_ok { b with nextIn := 0 } y.errNone]
    have hm : fillAmount a.ibuf.length a.availableIn a.eof a.src.data.length
        = fillAmount b.ibuf.length b.availableIn b.eof b.src.data.length := by rw [h.ilen, h.avail, h.eof, h.data]
    have hfit : 0 + (fillBuf a.ibuf a.availableIn a.eof a.src 0).len ≤ (fillBuf a.ibuf a.availableIn a.eof a.src 0).buf.length := by
      rw [xlen, xbuf, hc.1]; unfold fillAmount; split <;> omega
    rw [hm] at xlen xfilled xdata
    refine ⟨?_, rfl, ?_, ?_, h.obuf, h.pending, ?_, h.readErr, h.enc, h.totalOut, h.elog, ?_, h.got, x.ff, y.ff,
      h.ffwa, h.ffwb, hfit⟩
    · exact xbuf.trans (h.ilen.trans y.bufLen.symm)
    · exact xlen.trans (by rw [h.avail]; exact y.lenEq.symm)
    · show List.take _ (List.drop 0 _) = List.take _ (List.drop 0 _)
      rw [List.drop_zero, List.drop_zero, xfilled, y.filled, h.avail, h.data, hc'.1]; rfl
    · exact x.eofEq.trans (by rw [h.eof, h.data, h.ilen, h.avail]; exact y.eofEq.symm)
    · exact xdata.trans (by rw [h.data]; exact y.data.symm)
  · have hc' : ¬ (b.availableIn = 0 ∧ b.eof = false) := by rw [← h.avail, ← h.eof]; exact hc
    rw [if_neg hc, if_neg hc']
    exact h

def CIter.Sim : CIter σ → CIter σ → Prop
  | .stop a o, .stop b o' => o = o' ∧ (o ≠ .panic → Copy.Sim a b)
  | .cont a, .cont b => Copy.Sim a b
  | _, _ => False

theorem Copy.afterStep_sim (E : Enc σ) {a b : Copy σ} (h : Copy.Sim a b)
    (hc : (a.ans E).2.consumed ≤ a.availableIn) : Copy.Sim (a.afterStep E) (b.afterStep E) := by
  have hop : b.nextOp = a.nextOp := by unfold Copy.nextOp; rw [h.avail]
  have hst : b.ans E = a.ans E := by unfold Copy.ans; rw [hop, ← h.enc, ← h.window, ← h.obuf, ← h.pending]
  have hrec : b.callRec E = a.callRec E := by unfold Copy.callRec; rw [hst, hop, h.window, h.obuf, h.pending]
  have wa : (a.afterStep E).window = a.window.drop (a.ans E).2.consumed := Copy.window_advance a _
  have wb : (b.afterStep E).window = b.window.drop (b.ans E).2.consumed := Copy.window_advance b _
  refine ⟨h.ilen, ?_, ?_, by rw [wa, wb, hst, h.window], h.obuf, ?_, h.eof, h.readErr, ?_, ?_, ?_, h.data, h.got, h.ffra,
    h.ffrb, h.ffwa, h.ffwb, ?_⟩
  · show a.nextIn + (a.ans E).2.consumed = b.nextIn + (b.ans E).2.consumed
    rw [hst, h.nextIn]
  · show a.availableIn - (a.ans E).2.consumed = b.availableIn - (b.ans E).2.consumed
    rw [hst, h.avail]
  · show a.pending ++ (a.ans E).2.produced = b.pending ++ (b.ans E).2.produced
    rw [hst, h.pending]
  · show (a.ans E).1 = (b.ans E).1
    rw [hst]
  · show (if (a.ans E).2.produced.length > 0 then (a.ans E).2.tot else a.totalOut) =
      (if (b.ans E).2.produced.length > 0 then (b.ans E).2.tot else b.totalOut)
    rw [hst, h.totalOut]
  · show a.callRec E :: a.elog = b.callRec E :: b.elog
    rw [hrec, h.elog]
  · show a.nextIn + (a.ans E).2.consumed + (a.availableIn - (a.ans E).2.consumed) ≤ a.ibuf.length
    have := h.fits; omega

theorem Copy.Sim.set_sink {a b : Copy σ} (h : Copy.Sim a b) (sa sb : Sink) (hg : sa.got = sb.got)
    (fa : sa.faultFree) (fb : sb.faultFree) :
    Copy.Sim { a with sink := sa, pending := [] } { b with sink := sb, pending := [] } :=
  ⟨h.ilen, h.nextIn, h.avail, h.window, h.obuf, rfl, h.eof, h.readErr, h.enc, h.totalOut, h.elog, h.data, hg,
   h.ffra, h.ffrb, fa, fb, h.fits⟩

theorem Copy.drain_sim (E : Enc σ) {a b : Copy σ} (h : Copy.Sim a b) :
    (Copy.drain E a).2 = none ∧ (Copy.drain E b).2 = none ∧ Copy.Sim (Copy.drain E a).1 (Copy.drain E b).1 := by
  have hcb : (a.pending.length = a.obufSize ∨ E.isFinished a.enc = true) ↔
      (b.pending.length = b.obufSize ∨ E.isFinished b.enc = true) := by rw [h.pending, h.obuf, h.enc]
  by_cases hc : a.pending.length = a.obufSize ∨ E.isFinished a.enc = true
  · obtain ⟨x1, x2, x3⟩ := copyDrain_faultFree a.sink a.pending h.ffwa
    obtain ⟨y1, y2, y3⟩ := copyDrain_faultFree b.sink b.pending h.ffwb
    rw [Copy.drain_of_ok E hc (Prod.ext rfl x1), Copy.drain_of_ok E (hcb.mp hc) (Prod.ext rfl y1)]
    exact ⟨rfl, rfl, h.set_sink _ _ (by rw [x2, y2, h.got, h.pending]) x3 y3⟩
  · rw [Copy.drain_of_not E hc, Copy.drain_of_not E (fun hb => hc (hcb.mpr hb))]
    exact ⟨rfl, rfl, h⟩

theorem Copy.closeIter_sim (ok fin : Bool) {a b : Copy σ} (h : Copy.Sim a b) :
    CIter.Sim (Copy.closeIter ok fin (a, none)) (Copy.closeIter ok fin (b, none)) := by
  simp only [Copy.closeIter]
  rw [← h.readErr, ← h.totalOut]
  split
  · exact ⟨rfl, fun _ => h⟩
  · split
    · split
      · exact ⟨rfl, fun _ => h⟩
      · exact ⟨rfl, fun _ => h⟩
    · exact h

theorem Copy.iter_sim (E : Enc σ) {a b : Copy σ} (h : Copy.Sim a b) :
    CIter.Sim (Copy.iter E a) (Copy.iter E b) := by
  have h1 := Copy.refill_sim h
  rw [Copy.iter_eq, Copy.iter_eq]
  generalize a.refill = a1 at h1
  generalize b.refill = b1 at h1
  have hwl := Copy.window_length a1 h1.fits
  have hst : b1.ans E = a1.ans E := by
    unfold Copy.ans Copy.nextOp; rw [← h1.avail, ← h1.enc, ← h1.window, ← h1.obuf, ← h1.pending]
  rw [hst, ← h1.window, ← h1.obuf, ← h1.pending, ← h1.avail]
  split
  · exact ⟨rfl, fun hne => absurd rfl hne⟩
  · next hsane =>
    have h2 := Copy.afterStep_sim E h1 (by omega)
    obtain ⟨da, db, h3⟩ := Copy.drain_sim E h2
    rw [← h2.enc, show Copy.drain E (a1.afterStep E) = ((Copy.drain E (a1.afterStep E)).1, none) from Prod.ext rfl da,
      show Copy.drain E (b1.afterStep E) = ((Copy.drain E (b1.afterStep E)).1, none) from Prod.ext rfl db]
    exact Copy.closeIter_sim _ _ h3

end BV.Adapters
