/-
The hypotheses about the streaming encoder (the oracle of the adapter model) under which the C11 theorems
are stated, the two transcripts `emitted` and `fed` of an encoder log in which the transparency theorems speak (no
hypotheses; the logs are newest first, hence the `reverse`), and a small concrete encoder that satisfies all the
hypotheses (non-vacuity).  The harness checks
their observable consequences on every answer it records from the real encoder (`Shadow::step` in
harness/src/adapters.rs): consumed ≤ offered, produced ≤ capacity, no "stalled" demanded call,
`total_out` bookkeeping.
-/
import BV.Model.Adapters
namespace BV.Adapters

structure EncSane (E : Enc σ) : Prop where
  consumed_le : ∀ s op inp cap, (E.step s op inp cap).2.consumed ≤ inp.length
  produced_le : ∀ s op inp cap, (E.step s op inp cap).2.produced.length ≤ cap

/-- a call whose caller will call again unless something moved -/
def Demanded (E : Enc σ) (s' : σ) (op : Op) (inp : Bytes) : Prop :=
  (op = .process ∧ inp ≠ []) ∨ (op = .finish ∧ inp = [] ∧ E.isFinished s' = false) ∨
  (op = .flush ∧ inp = [] ∧ E.hasMore s' = true)

/-- the hypothesis that the encoder cannot stall; think of `rank` as: pending output bytes, then "an encode
is still due".  `ops` is a parameter because each adapter loop needs the hypothesis only for the requests it
issues (`write`: PROCESS; `flush`: FLUSH; `into_inner`: FINISH; `read` and the copy function: PROCESS and
FINISH), and different request kinds may use different ranks. -/
structure EncProgress (E : Enc σ) (ops : Op → Prop) (rank : σ → Nat) : Prop where
  stall : ∀ s op inp cap, ops op → 0 < cap → (E.step s op inp cap).2.ok = true →
    (E.step s op inp cap).2.consumed = 0 → Demanded E (E.step s op inp cap).1 op inp →
    rank (E.step s op inp cap).1 < rank s

def allOps : Op → Prop := fun _ => True

/-- the request `read` and the copy function make -/
def feedOp (avail : Nat) : Op := if avail = 0 then .finish else .process

theorem EncProgress.feed {E : Enc σ} {ops : Op → Prop} {rank : σ → Nat} (hp : EncProgress E ops rank)
    (hops : ops .process ∧ ops .finish) (s : σ) (w : Bytes) (cap : Nat) (hcap : 0 < cap)
    (hok : (E.step s (feedOp w.length) w cap).2.ok = true)
    (hc : (E.step s (feedOp w.length) w cap).2.consumed = 0)
    (hfin : E.isFinished (E.step s (feedOp w.length) w cap).1 = false) :
    rank (E.step s (feedOp w.length) w cap).1 < rank s := by
  by_cases h : w.length = 0
  · rw [show feedOp w.length = .finish from if_pos h] at hok hc hfin ⊢
    exact hp.stall _ _ _ _ hops.2 hcap hok hc (Or.inr (Or.inl ⟨rfl, List.eq_nil_of_length_eq_zero h, hfin⟩))
  · rw [show feedOp w.length = .process from if_neg h] at hok hc ⊢
    exact hp.stall _ _ _ _ hops.1 hcap hok hc (Or.inl ⟨rfl, fun hn => h (by rw [hn]; rfl)⟩)

def emitted (elog : List ERec) : Bytes := (elog.reverse.map (fun r => r.ans.produced)).flatten

def fed (elog : List ERec) : Bytes := (elog.reverse.map (fun r => r.input.take r.ans.consumed)).flatten

theorem emitted_append (a b : List ERec) : emitted (a ++ b) = emitted b ++ emitted a := by
  simp [emitted]

theorem fed_append (a b : List ERec) : fed (a ++ b) = fed b ++ fed a := by
  simp [fed]

theorem emitted_cons (r : ERec) (l : List ERec) : emitted (r :: l) = emitted l ++ r.ans.produced := by
  simp [emitted]

theorem fed_cons (r : ERec) (l : List ERec) : fed (r :: l) = fed l ++ r.input.take r.ans.consumed := by
  simp [fed]

@[simp] theorem emitted_nil : emitted [] = [] := rfl
@[simp] theorem fed_nil : fed [] = [] := rfl

/-- non-vacuity of the hypotheses: an encoder that passes its input through, FINISH appending the end marker `255` once (`marked`) -/
structure Toy where
  pending : Bytes
  marked : Bool
deriving DecidableEq, Repr

def toyEnc : Enc Toy where
  step s op inp cap :=
    let s1 : Toy :=
      match op with
      | .process => ⟨s.pending ++ inp, s.marked⟩
      | .flush => ⟨s.pending ++ inp, s.marked⟩
      | .finish => if s.marked then ⟨s.pending ++ inp, true⟩ else ⟨s.pending ++ inp ++ [255], true⟩
    (⟨s1.pending.drop cap, s1.marked⟩, ⟨inp.length, s1.pending.take cap, true, 0⟩)
  hasMore s := s.pending != []
  isFinished s := s.marked && s.pending == []

theorem toy_sane : EncSane toyEnc := by
  constructor
  · intro s op inp cap; simp [toyEnc]
  · intro s op inp cap; simp [toyEnc, List.length_take]; omega

def toyRank (s : Toy) : Nat := s.pending.length + (if s.marked then 0 else 2)

theorem toy_progress : EncProgress toyEnc allOps toyRank := by
  constructor
  intro s op inp cap _ hcap _ hcons hdem
  have hinp : inp = [] := by
    have : inp.length = 0 := by simpa [toyEnc] using hcons
    exact List.eq_nil_of_length_eq_zero this
  subst hinp
  rcases hdem with ⟨_, h⟩ | ⟨hop, _, h⟩ | ⟨hop, _, h⟩
  · exact absurd rfl h
  · subst hop
    cases hm : s.marked
    · simp [toyEnc, toyRank, hm]; omega
    · simp [toyEnc, toyRank, hm] at h ⊢
      have : 0 < s.pending.length := by
        cases hp : s.pending with
        | nil => simp [hp] at h
        | cons a t => simp
      omega
  · subst hop
    simp [toyEnc, toyRank] at h ⊢
    have : 0 < s.pending.length := by
      cases hp : s.pending with
      | nil => simp [hp] at h
      | cons a t => simp
    omega

end BV.Adapters
