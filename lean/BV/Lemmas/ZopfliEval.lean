import BV.Lemmas.ZopfliInv
import BV.Lemmas.MatchSound
import BV.Model.Zopfli
/-!
`EvaluateNode`, in part: the value `ComputeDistanceShortcut` stores means what `SC` says (`computeDistanceShortcut_sc`); of
`StartPosQueue::push` the slot arithmetic of `at` (`slot_new`, `slot_old`) and that its bubble loop only permutes entries
(`pushLoop_all`).  PARTIAL: no property theorem rests on these; that `ComputeDistanceCache` returns the ring at the position
and that `push` keeps every live slot a sound start position are open.
-/

namespace BV.Zopfli
open BV.Hasher BV.MatchFinder BV.Recoder BV.PrefixArith BV.MetaBlock BV.Cbr BV

theorem computeDistanceShortcut_sc {K : Type} {C : ZC} {inf : K} {nodes : Array (Node K)} {pos : Nat}
    (h : DPInv C inf nodes pos) (hnb : C.numBytes ≤ 2 ^ 24) (hpos : pos ≤ C.numBytes)
    (n : Node K) (hn : nodes[pos]? = some n) (hreach : pos = 0 ∨ ¬ n.isStub) (sc : Nat)
    (hc : computeDistanceShortcut C.base pos C.window nodes = some sc) :
    SC C.window C.base nodes pos sc := by
  have hU : U64 = 18446744073709551616 := rfl
  have hU32 : U32 = 4294967296 := rfl
  have hp24 : (2 : Nat) ^ 24 = 16777216 := by decide
  rw [computeDistanceShortcut] at hc
  simp -zeta only [hn] at hc
  by_cases h0 : pos = 0
  · rw [if_pos h0] at hc
    injection hc with hc
    subst hc; subst h0
    exact ⟨[], Hist.zero, Or.inl ⟨rfl, rfl⟩⟩
  rw [if_neg h0] at hc
  have hns : ¬ n.isStub := by rcases hreach with h1 | h1; exact absurd h1 h0; exact h1
  rcases h.back pos n h0 hpos hn with hs | ⟨⟨hle, r, hr, hok⟩, hlt⟩
  · exact absurd hs hns
  have hidx : wsub (wsub pos n.copyLength) n.insertLength = pos - (n.insertLength + n.copyLength) := by
    have h1 : wsub pos n.copyLength = pos - n.copyLength := by
      rw [wsub_eq (by omega) (by omega), if_pos (by omega)]
    rw [h1, wsub_eq (by omega) (by omega), if_pos (by omega)]
    omega
  obtain ⟨m, hm, hmreach⟩ : ∃ m, nodes[pos - (n.insertLength + n.copyLength)]? = some m ∧
      (pos - (n.insertLength + n.copyLength) = 0 ∨ ¬ m.isStub) := by
    rcases hr.reached with h1 | ⟨m, hm, hms⟩
    · obtain ⟨n0, hn0, _⟩ := h.zero
      exact ⟨n0, by rw [h1]; exact hn0, Or.inl h1⟩
    · exact ⟨m, hm, Or.inr hms⟩
  obtain ⟨s0, hu0, P0, hP0, hcase⟩ := h.sc _ m hlt hm hmreach
  have hcpos := hok.copy_pos
  have hstep := Hist.step (window := C.window) (base := C.base) n h0 hn hns hcpos hle hP0
  by_cases hcond : n.distance + n.copyLength ≤ C.base + pos ∧ n.distance ≤ C.window ∧ n.distanceCode > 0
  · rw [if_pos hcond] at hc
    injection hc with hc
    have hsc : sc = pos := by rw [← hc]; exact Nat.mod_eq_of_lt (by omega)
    rw [hsc]
    rw [if_pos ⟨by have := Nat.le_min.mpr ⟨(by omega : n.distance ≤ C.base + pos - n.copyLength), hcond.2.1⟩; exact this,
      by omega⟩] at hstep
    exact ⟨_, hstep, Or.inr ⟨h0, Nat.le_refl _, n, P0, hn, hns, hle, hcond.2.1, hP0, rfl⟩⟩
  · rw [if_neg hcond] at hc
    rw [hidx] at hc
    simp -zeta only [hm] at hc
    injection hc with hc
    have hs0 : sc = s0 := by rw [← hc]; simp only [Node.shortcutOf, hu0]
    subst hs0
    rw [if_neg (by
      intro ⟨h1, h2⟩
      have := Nat.le_min.mp h1
      exact hcond ⟨by omega, this.2, by omega⟩)] at hstep
    refine ⟨P0, hstep, ?_⟩
    rcases hcase with hz | ⟨hs0, hse, n', P', hn', hst', hle', hdw', hP', hPe⟩
    · exact Or.inl hz
    · exact Or.inr ⟨hs0, by omega, n', P', hn', hst', hle', hdw', hP', hPe⟩

end BV.Zopfli

namespace BV.Zopfli
open BV.Hasher BV.MatchFinder BV.Recoder BV.PrefixArith BV

theorem and7 (x : Nat) : x &&& 7 = x % 8 := by
  rw [show (7 : Nat) = 2 ^ 3 - 1 by decide, Nat.and_two_pow_sub_one_eq_mod]

/-- slot of `at(j)` after a push = the push offset plus `j` -/
theorem slot_new (j idx : Nat) (hj : j < 8) :
    (wsub j (idx + 1)) % 8 = ((U64 - 1 - idx % U64) % 8 + j) % 8 := by
  have hU : U64 = 18446744073709551616 := rfl
  unfold wsub
  rw [hU]
  omega

/-- slot of the old `at(j)` = the push offset plus `j + 1` -/
theorem slot_old (j idx : Nat) (hj : j < 8) :
    (wsub j idx) % 8 = ((U64 - 1 - idx % U64) % 8 + (j + 1)) % 8 := by
  have hU : U64 = 18446744073709551616 := rfl
  unfold wsub
  rw [hU]
  omega

theorem pushLoop_all {K : Type} (ops : CostOps K) (P : PosData K → Prop) :
    ∀ (n off : Nat) (q q' : Array (PosData K)), pushLoop ops n off q = some q' →
      (∀ (i : Nat) (pd : PosData K), q[i]? = some pd → P pd) → q'.size = q.size ∧ ∀ (i : Nat) (pd : PosData K), q'[i]? = some pd → P pd := by
  intro n
  induction n with
  | zero =>
    intro off q q' h hp
    rw [pushLoop] at h
    injection h with h; subst h; exact ⟨rfl, hp⟩
  | succ n ih =>
    intro off q q' h hp
    rw [pushLoop] at h
    cases ha : q[off &&& 7]? with
    | none => simp only [ha] at h; cases h
    | some a =>
      cases hb : q[(off + 1) &&& 7]? with
      | none => simp only [ha, hb] at h; cases h
      | some b =>
        simp only [ha, hb] at h
        have hP2 : ∀ (i : Nat) (pd : PosData K), (if ops.lt b.costdiff a.costdiff = true then (q.set! (off &&& 7) b).set! ((off + 1) &&& 7) a else q)[i]?
            = some pd → P pd := by
          intro i pd hi
          split at hi
          · simp only [Array.set!, Array.getElem?_setIfInBounds] at hi
            split at hi
            · split at hi
              · injection hi with hi; subst hi; exact hp _ _ ha
              · cases hi
            · split at hi
              · split at hi
                · injection hi with hi; subst hi; exact hp _ _ hb
                · cases hi
              · exact hp i pd hi
          · exact hp i pd hi
        have hsz : (if ops.lt b.costdiff a.costdiff = true then (q.set! (off &&& 7) b).set! ((off + 1) &&& 7) a else q).size = q.size := by
          split <;> simp
        obtain ⟨e1, e2⟩ := ih (off + 1) _ q' h hP2
        exact ⟨by rw [e1, hsz], e2⟩

end BV.Zopfli
