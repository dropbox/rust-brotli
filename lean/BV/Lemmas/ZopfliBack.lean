import BV.Lemmas.ZopfliPath
/-! `ComputeShortestPathFromNodes`: from a node array in which every WRITTEN node is sound with respect to the
ring of last distances of its own backward chain (`AllBack`) to a sound forward path (`NodesOK`). -/
namespace BV.Zopfli
open BV.Hasher BV.MatchFinder BV.Recoder BV.PrefixArith BV.MetaBlock BV.Cbr

/-- as `BrotliInitZopfliNodes` left it: exactly the test of the tail skip of `ComputeShortestPathFromNodes` -/
def Node.isStub {K : Type} (n : Node K) : Prop := n.insertLength = 0 ∧ n.length = 1

inductive RingAt {K : Type} (window base : Nat) (nodes : Array (Node K)) (start : List Int) : Nat → List Int → Prop
  | zero : RingAt window base nodes start 0 start
  | step {e : Nat} {r : List Int} (n : Node K) : e ≠ 0 → nodes[e]? = some n → ¬ n.isStub → 0 < n.copyLength →
      n.insertLength + n.copyLength ≤ e →
      RingAt window base nodes start (e - (n.insertLength + n.copyLength)) r →
      RingAt window base nodes start e (ringAfter window (base + e - n.copyLength) r n)

def BackOK {K : Type} (wo : WordOracle) (window md : Nat) (T : Bytes) (base : Nat) (nodes : Array (Node K))
    (start : List Int) (e : Nat) (n : Node K) : Prop :=
  n.insertLength + n.copyLength ≤ e ∧
  ∃ r, RingAt window base nodes start (e - (n.insertLength + n.copyLength)) r ∧
    NodeOK wo window md T (base + e - n.copyLength) r n

def AllBack {K : Type} (wo : WordOracle) (window md : Nat) (T : Bytes) (base numBytes : Nat) (nodes : Array (Node K))
    (start : List Int) : Prop :=
  ∀ e n, e ≠ 0 → e ≤ numBytes → nodes[e]? = some n → n.isStub ∨ BackOK wo window md T base nodes start e n

theorem NodeOK.copy_pos {K : Type} {wo : WordOracle} {window md : Nat} {T : Bytes} {abs : Nat} {ring : List Int}
    {n : Node K} (h : NodeOK wo window md T abs ring n) : 0 < n.copyLength := by
  rcases h.kind with ⟨_, _, h2, _⟩ | ⟨_, _, _, _, _, h6, _⟩ <;> omega

theorem RingAt.det {K : Type} {window base : Nat} {nodes : Array (Node K)} {start : List Int} {e : Nat} {r r' : List Int}
    (h : RingAt window base nodes start e r) (h' : RingAt window base nodes start e r') : r = r' := by
  induction h generalizing r' with
  | zero =>
    cases h' with
    | zero => rfl
    | step n he _ _ _ _ _ => exact absurd rfl he
  | step n he hn _ _ _ _ ih =>
    cases h' with
    | zero => exact absurd rfl he
    | step n' _ hn' _ _ _ hr' =>
      rw [hn] at hn'
      injection hn' with hn'
      subst hn'
      rw [ih hr']

theorem RingAt.reached {K : Type} {window base : Nat} {nodes : Array (Node K)} {start : List Int} {e : Nat} {r : List Int}
    (h : RingAt window base nodes start e r) : e = 0 ∨ ∃ n, nodes[e]? = some n ∧ ¬ n.isStub := by
  cases h with
  | zero => exact Or.inl rfl
  | step n _ hn hs _ _ _ => exact Or.inr ⟨n, hn, hs⟩

theorem ringAfter_congr {K : Type} (window abs : Nat) (r : List Int) (n n' : Node K)
    (e2 : n'.distance = n.distance) (e3 : n'.dcil = n.dcil) : ringAfter window abs r n' = ringAfter window abs r n := by
  unfold ringAfter Node.distanceCode Node.shortCode
  rw [e2, e3]

theorem skipTail_spec {K : Type} (nodes : Array (Node K)) : ∀ (i idx : Nat), skipTail nodes i = some idx →
    idx ≤ i ∧ ∃ n, nodes[idx]? = some n ∧ ¬ n.isStub := by
  intro i
  induction i with
  | zero =>
    intro idx h
    rw [skipTail] at h
    cases hn : nodes[0]? with
    | none => simp only [hn] at h; cases h
    | some n =>
      simp only [hn] at h
      by_cases hs : n.insertLength = 0 ∧ n.length = 1
      · rw [if_pos hs] at h; cases h
      · rw [if_neg hs] at h
        injection h with h
        subst h
        exact ⟨Nat.le_refl _, n, hn, hs⟩
  | succ i ih =>
    intro idx h
    rw [skipTail] at h
    cases hn : nodes[i + 1]? with
    | none => simp only [hn] at h; cases h
    | some n =>
      simp only [hn] at h
      by_cases hs : n.insertLength = 0 ∧ n.length = 1
      · rw [if_pos hs] at h
        obtain ⟨a, b⟩ := ih idx h
        exact ⟨by omega, b⟩
      · rw [if_neg hs] at h
        injection h with h
        subst h
        exact ⟨Nat.le_refl _, n, hn, hs⟩

theorem setU_spec {K : Type} {nodes nodes' : Array (Node K)} {i : Nat} {u : U K} (h : setU nodes i u = some nodes') :
    ∃ n, nodes[i]? = some n ∧ nodes'[i]? = some { n with u := u } ∧ ∀ j, j ≠ i → nodes'[j]? = nodes[j]? := by
  unfold setU at h
  cases hn : nodes[i]? with
  | none => simp only [hn] at h; cases h
  | some n =>
    simp only [hn, Option.some.injEq] at h
    subst h
    have hi : i < nodes.size := by
      rcases Nat.lt_or_ge i nodes.size with hlt | hge
      · exact hlt
      · rw [Array.getElem?_eq_none hge] at hn; cases hn
    refine ⟨n, rfl, ?_, ?_⟩
    · simp [Array.set!, Array.getElem?_setIfInBounds, hi]
    · intro j hj
      simp [Array.set!, Array.getElem?_setIfInBounds, Ne.symm hj]

theorem PathOK.frame {K : Type} {wo : WordOracle} {window md : Nat} {T : Bytes} {base numBytes : Nat}
    {nodes nodes' : Array (Node K)} {pos offset : Nat} {ring : List Int}
    (h : PathOK wo window md T base numBytes nodes pos offset ring)
    (hsame : ∀ i, pos ≤ i → nodes'[i]? = nodes[i]?) :
    PathOK wo window md T base numBytes nodes' pos offset ring := by
  induction h with
  | done hp => exact PathOK.done hp
  | step nx h1 h2 h3 h4 _ ih =>
    exact PathOK.step nx h1 (by rw [hsame _ (by omega)]; exact h2) h3 h4 (ih (fun i hi => hsame i (by omega)))

structure BackInv {K : Type} (wo : WordOracle) (window md : Nat) (T : Bytes) (base numBytes : Nat)
    (nodes nodes' : Array (Node K)) (start : List Int) (index : Nat) : Prop where
  data : ∀ (i : Nat) (n : Node K), nodes[i]? = some n → ∃ n' : Node K, nodes'[i]? = some n' ∧ n'.length = n.length ∧ n'.distance = n.distance ∧ n'.dcil = n.dcil
  path : ∃ (r : List Int) (n : Node K) (off : Nat), RingAt window base nodes start index r ∧ nodes'[index]? = some n ∧ n.u = .next off ∧
    PathOK wo window md T base numBytes nodes' index off r

theorem backWalk_inv {K : Type} (wo : WordOracle) (window md : Nat) (T : Bytes) (base numBytes : Nat)
    (nodes : Array (Node K)) (start : List Int)
    (hall : AllBack wo window md T base numBytes nodes start) :
    ∀ (fuel : Nat) (nodes' nodes'' : Array (Node K)) (index cnt cnt' : Nat),
      backWalk fuel nodes' index cnt = some (nodes'', cnt') → index ≤ numBytes →
      BackInv wo window md T base numBytes nodes nodes' start index →
      BackInv wo window md T base numBytes nodes nodes'' start 0 := by
  intro fuel
  induction fuel with
  | zero => intro nodes' nodes'' index cnt cnt' h; rw [backWalk] at h; cases h
  | succ fuel ih =>
    intro nodes' nodes'' index cnt cnt' h hle hinv
    rw [backWalk] at h
    by_cases h0 : index = 0
    · rw [if_pos h0] at h
      simp only [Option.some.injEq, Prod.mk.injEq] at h
      obtain ⟨rfl, _⟩ := h
      subst h0
      exact hinv
    · rw [if_neg h0] at h
      obtain ⟨r, n', off, hr, hn', hu, hp⟩ := hinv.path
      simp only [hn'] at h
      obtain ⟨n, hn, hstub⟩ : ∃ n, nodes[index]? = some n ∧ ¬ n.isStub := by
        rcases hr.reached with h | h
        · exact absurd h h0
        · exact h
      obtain ⟨n2, hn2, e1, e2, e3⟩ := hinv.data index n hn
      rw [hn'] at hn2
      injection hn2 with hn2
      subst hn2
      have hcl : n'.copyLength = n.copyLength := by simp only [Node.copyLength, e1]
      have hil : n'.insertLength = n.insertLength := by simp only [Node.insertLength, e3]
      rcases hall index n h0 hle hn with hs | ⟨hb1, r0, hr0, hok⟩
      · exact absurd hs hstub
      · have hcpos := hok.copy_pos
        have hclt := copyLength_lt n
        have hilt : n.insertLength < 2 ^ 27 := by
          unfold Node.insertLength
          rw [show (0x07ffffff : Nat) = 2 ^ 27 - 1 by decide, Nat.and_two_pow_sub_one_eq_mod]
          exact Nat.mod_lt _ (by decide)
        have hcmd : n'.commandLength = n.insertLength + n.copyLength := by
          have hU : U32 = 4294967296 := rfl
          unfold Node.commandLength
          rw [hcl, hil, Nat.mod_eq_of_lt (by omega)]
          omega
        rw [hcmd, if_neg (by omega)] at h
        cases hset : setU nodes' (index - (n.insertLength + n.copyLength)) (.next (n.insertLength + n.copyLength)) with
        | none => simp only [hset] at h; cases h
        | some nodes2 =>
          simp only [hset] at h
          obtain ⟨m, hm, hm2, hother⟩ := setU_spec hset
          have hrstep := RingAt.step (window := window) (base := base) (start := start) n h0 hn hstub hcpos hb1 hr0
          have hreq : r = ringAfter window (base + index - n.copyLength) r0 n := hr.det hrstep
          refine ih nodes2 nodes'' _ _ _ h (by omega) ⟨?_, r0, _, _, hr0, hm2, rfl, ?_⟩
          · intro i x hx
            obtain ⟨x', hx', f1, f2, f3⟩ := hinv.data i x hx
            by_cases hi : i = index - (n.insertLength + n.copyLength)
            · subst hi
              rw [hm] at hx'
              injection hx' with hx'
              subst hx'
              exact ⟨_, hm2, f1, f2, f3⟩
            · exact ⟨x', by rw [hother i hi]; exact hx', f1, f2, f3⟩
          · -- the forward path from the start position: one step to `index`, then the path already built
            have hidx : index - (n.insertLength + n.copyLength) + (n.insertLength + n.copyLength) = index := by omega
            have hn2' : nodes2[index]? = some n' := by rw [hother index (by omega)]; exact hn'
            have hokn' : NodeOK wo window md T (base + (index - (n.insertLength + n.copyLength)) + n'.insertLength) r0 n' := by
              rw [hil, show base + (index - (n.insertLength + n.copyLength)) + n.insertLength = base + index - n.copyLength by omega]
              exact ⟨by rw [hcl]; exact hok.fit,
                by simpa only [Node.shortCode, Node.distance, e2, e3] using hok.code,
                by simpa only [Node.shortCode, Node.lengthCode, Node.copyLength, e1, e2, e3] using hok.kind⟩
            refine PathOK.step n' (by omega) (by rw [hidx]; exact hn2') hokn' (by rw [hil, hcl]; omega) ?_
            have hra : ringAfter window (base + (index - (n.insertLength + n.copyLength)) + n'.insertLength) r0 n' = r := by
              rw [hreq, hil, show base + (index - (n.insertLength + n.copyLength)) + n.insertLength = base + index - n.copyLength by omega]
              exact ringAfter_congr window _ r0 n n' e2 e3
            rw [hra, hil, hcl, show index - (n.insertLength + n.copyLength) + n.insertLength + n.copyLength = index by omega]
            have hoff : n'.nextOf = off := by simp only [Node.nextOf, hu]
            rw [hoff]
            exact hp.frame (fun i hi => hother i (by omega))

theorem shortestPath_nodesOK {K : Type} (wo : WordOracle) (window md : Nat) (T : Bytes) (base numBytes : Nat)
    (nodes nodes' : Array (Node K)) (start : List Int) (cnt : Nat)
    (hall : AllBack wo window md T base numBytes nodes start)
    (h : computeShortestPathFromNodes numBytes nodes = some (nodes', cnt)) :
    NodesOK wo window md T base numBytes nodes' start := by
  unfold computeShortestPathFromNodes at h
  cases hsk : skipTail nodes numBytes with
  | none => simp only [hsk] at h; cases h
  | some index =>
    simp only [hsk] at h
    obtain ⟨hile, n, hn, hstub⟩ := skipTail_spec nodes numBytes index hsk
    cases hset : setU nodes index (.next 0xffffffff) with
    | none => simp only [hset] at h; cases h
    | some nodes1 =>
      simp only [hset] at h
      obtain ⟨m, hm, hm2, hother⟩ := setU_spec hset
      obtain ⟨r, hr⟩ : ∃ r, RingAt window base nodes start index r := by
        by_cases h0 : index = 0
        · subst h0; exact ⟨_, RingAt.zero⟩
        · rcases hall index n h0 hile hn with hs | ⟨hb1, r0, hr0, hok⟩
          · exact absurd hs hstub
          · exact ⟨_, RingAt.step n h0 hn hstub hok.copy_pos hb1 hr0⟩
      have hinv0 : BackInv wo window md T base numBytes nodes nodes1 start index := by
        refine ⟨?_, r, _, _, hr, hm2, rfl, PathOK.done hile⟩
        intro i x hx
        by_cases hi : i = index
        · subst hi
          rw [hm] at hx
          injection hx with hx
          subst hx
          exact ⟨_, hm2, rfl, rfl, rfl⟩
        · exact ⟨x, by rw [hother i hi]; exact hx, rfl, rfl, rfl⟩
      have hfin := backWalk_inv wo window md T base numBytes nodes start hall _ _ _ _ _ _ h hile hinv0
      obtain ⟨r0, n0, off, hr0, hn0, hu0, hp0⟩ := hfin.path
      have : r0 = start := hr0.det RingAt.zero
      subst this
      exact ⟨n0, hn0, by simpa only [Node.nextOf, hu0] using hp0⟩

end BV.Zopfli
