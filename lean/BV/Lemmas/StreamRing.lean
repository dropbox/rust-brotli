import BV.Model.Stream
import BV.Lemmas.ListNat
/-
Ring-buffer CONTENT: what `RingBufferInitBuffer` / `RingBufferWriteTail` / `RingBufferWrite` /
`copy_input_to_ring_buffer` leave in `data_mo` — the 2-byte prefix, the data, the tail mirror and
the 7 bytes of slack — and the invariant `RingOK`: every position within the last `size_` bytes
lives at its offset modulo `size_`, wrapped positions are mirrored in the tail, through every lap
and across the position fold.
-/
namespace BV.Stream
open BV.Bits

theorem cellsGet_write (cells : List (Nat × Nat)) (bs : Bytes) : ∀ (start i : Nat),
    cellsGet (cellsWrite cells start bs) i =
      if start ≤ i ∧ i < start + bs.length then bs.getD (i - start) 0 else cellsGet cells i := by
  induction bs with
  | nil =>
    intro start i
    simp only [cellsWrite, List.length_nil, Nat.add_zero]
    rw [if_neg (by omega)]
  | cons b rest ih =>
    intro start i
    simp only [cellsWrite, cellsGet, List.length_cons]
    by_cases h0 : start = i
    · subst h0
      rw [if_pos rfl, if_pos ⟨Nat.le_refl _, by omega⟩]
      simp
    · rw [if_neg h0, ih]
      by_cases h1 : start + 1 ≤ i ∧ i < start + 1 + rest.length
      · rw [if_pos h1, if_pos ⟨by omega, by omega⟩]
        have : i - start = (i - (start + 1)) + 1 := by omega
        rw [this, List.getD_cons_succ]
      · rw [if_neg h1, if_neg (by omega)]

theorem mod_fwd {P size mp j : Nat} (hs : 0 < size) (hmp : P % size = mp) (hj : mp + j < 2 * size) :
    (P + j) % size = if mp + j < size then mp + j else mp + j - size := by
  have e : (P + j) % size = (P % size + j) % size := (Nat.mod_add_mod P size j).symm
  rw [e, hmp]
  split
  · rename_i h; exact Nat.mod_eq_of_lt h
  · rename_i h
    have h1 : size ≤ mp + j := by omega
    rw [Nat.mod_eq_sub_mod h1, Nat.mod_eq_of_lt (by omega)]

theorem mod_back {P size mp d : Nat} (hs : 0 < size) (hmp : P % size = mp) (hd : d ≤ P) (hds : d ≤ size) :
    (P - d) % size = if d ≤ mp then mp - d else mp + size - d := by
  have hP : P = size * (P / size) + mp := by rw [← hmp]; exact (Nat.div_add_mod P size).symm
  have hlt : mp < size := by rw [← hmp]; exact Nat.mod_lt _ hs
  generalize P / size = q at hP
  split
  · rename_i h
    have : P - d = size * q + (mp - d) := by omega
    rw [this, Nat.mul_add_mod, Nat.mod_eq_of_lt (by omega)]
  · rename_i h
    cases q with
    | zero => simp at hP; omega
    | succ q' =>
      have e1 : size * (q' + 1) = size * q' + size := by rw [Nat.mul_add, Nat.mul_one]
      have : P - d = size * q' + (mp + size - d) := by omega
      rw [this, Nat.mul_add_mod, Nat.mod_eq_of_lt (by omega)]

/-- for indices from 2 on: cells 0 and 1 are the prefix mirror -/
def Untouched (size tail mp n i : Nat) : Prop :=
  ¬ (2 + mp ≤ i ∧ i < 2 + mp + n) ∧ ¬ (size < mp + n ∧ i < 2 + (mp + n - size))
  ∧ ¬ (mp < tail ∧ 2 + size + mp ≤ i ∧ i < 2 + size + mp + min n (tail - mp))

theorem untouched_main {size tail mp n d r : Nat} (hmp : mp < size) (hd0 : 0 < d) (hd : d + n ≤ size)
    (hr : r = if d ≤ mp then mp - d else mp + size - d) : Untouched size tail mp n (2 + r) := by
  unfold Untouched
  split at hr <;> omega

theorem untouched_mirror {size tail mp n d r : Nat} (hmp : mp < size) (hd0 : 0 < d) (hd : d + n ≤ size)
    (hr : r = if d ≤ mp then mp - d else mp + size - d) : Untouched size tail mp n (2 + size + r) := by
  unfold Untouched
  split at hr <;> omega

theorem ringWriteCells_spec (rb : Ring) (bytes : Bytes) (hmask : rb.mask + 1 = rb.size)
    (htot : rb.totalSize = rb.size + rb.tailSize) (ht : 2 * rb.tailSize ≤ rb.size) (hn : bytes.length ≤ rb.tailSize)
    (hs4 : 4 ≤ rb.size) :
    (∀ i, 2 ≤ i → Untouched rb.size rb.tailSize (rb.pos % rb.size) bytes.length i →
        cellsGet (ringWriteCells rb bytes) i = cellsGet rb.cells i)
    ∧ (∀ j, j < bytes.length →
        cellsGet (ringWriteCells rb bytes) (2 + (if rb.pos % rb.size + j < rb.size then rb.pos % rb.size + j else rb.pos % rb.size + j - rb.size))
          = bytes.getD j 0)
    ∧ (∀ j, j < bytes.length → (rb.size ≤ rb.pos % rb.size + j ∨ rb.pos % rb.size + j < rb.tailSize) →
        cellsGet (ringWriteCells rb bytes) (2 + rb.size + (if rb.pos % rb.size + j < rb.size then rb.pos % rb.size + j else rb.pos % rb.size + j - rb.size))
          = bytes.getD j 0)
    ∧ cellsGet (ringWriteCells rb bytes) 0 = cellsGet (ringWriteCells rb bytes) (2 + rb.size - 2)
    ∧ cellsGet (ringWriteCells rb bytes) 1 = cellsGet (ringWriteCells rb bytes) (2 + rb.size - 1) := by
  have hmp : rb.pos % rb.size < rb.size := Nat.mod_lt _ (by omega)
  unfold ringWriteCells
  rw [hmask, htot]
  generalize rb.pos % rb.size = mp at *
  generalize hnn : bytes.length = n at *
  generalize rb.size = size at *
  generalize rb.tailSize = tail at *
  generalize rb.cells = c0 at *
  simp only
  have hc1 : ∀ i, cellsGet (if mp < tail then cellsWrite c0 (2 + size + mp) (bytes.take (min n (tail - mp))) else c0) i =
      if mp < tail ∧ 2 + size + mp ≤ i ∧ i < 2 + size + mp + min n (tail - mp) then bytes.getD (i - (2 + size + mp)) 0 else cellsGet c0 i := by
    intro i
    by_cases hm : mp < tail
    · rw [if_pos hm, cellsGet_write, List.length_take, hnn]
      have hmin : min (min n (tail - mp)) n = min n (tail - mp) := by omega
      rw [hmin]
      by_cases hr : 2 + size + mp ≤ i ∧ i < 2 + size + mp + min n (tail - mp)
      · have hr' : mp < tail ∧ 2 + size + mp ≤ i ∧ i < 2 + size + mp + min n (tail - mp) := ⟨hm, hr⟩
        rw [if_pos hr, if_pos hr', getD_take _ _ _ _ (by omega)]
      · have hr' : ¬ (mp < tail ∧ 2 + size + mp ≤ i ∧ i < 2 + size + mp + min n (tail - mp)) := fun hh => hr hh.2
        rw [if_neg hr, if_neg hr']
    · have hr' : ¬ (mp < tail ∧ 2 + size + mp ≤ i ∧ i < 2 + size + mp + min n (tail - mp)) := fun hh => hm hh.1
      rw [if_neg hm, if_neg hr']
  generalize (if mp < tail then cellsWrite c0 (2 + size + mp) (bytes.take (min n (tail - mp))) else c0) = c1 at hc1
  have hc2 : ∀ i, cellsGet (if mp + n ≤ size then cellsWrite c1 (2 + mp) bytes
        else cellsWrite (cellsWrite c1 (2 + mp) (bytes.take (min n (size + tail - mp)))) 2 ((bytes.drop (size - mp)).take (n - (size - mp)))) i =
      if size < mp + n ∧ 2 ≤ i ∧ i < 2 + (mp + n - size) then bytes.getD (size - mp + (i - 2)) 0
      else if 2 + mp ≤ i ∧ i < 2 + mp + n then bytes.getD (i - (2 + mp)) 0 else cellsGet c1 i := by
    intro i
    by_cases hw : mp + n ≤ size
    · have hnw : ¬ (size < mp + n ∧ 2 ≤ i ∧ i < 2 + (mp + n - size)) := by omega
      rw [if_pos hw, cellsGet_write, hnn, if_neg hnw]
    · rw [if_neg hw, cellsGet_write, cellsGet_write]
      have hl1 : ((bytes.drop (size - mp)).take (n - (size - mp))).length = n - (size - mp) := by
        rw [List.length_take, List.length_drop, hnn]; omega
      have hl2 : (bytes.take (min n (size + tail - mp))).length = n := by
        rw [List.length_take, hnn]; omega
      rw [hl1, hl2]
      by_cases hr : 2 ≤ i ∧ i < 2 + (n - (size - mp))
      · have hr' : size < mp + n ∧ 2 ≤ i ∧ i < 2 + (mp + n - size) := ⟨by omega, hr.1, by omega⟩
        rw [if_pos hr, if_pos hr', getD_take _ _ _ _ (by omega), getD_drop]
      · have hr' : ¬ (size < mp + n ∧ 2 ≤ i ∧ i < 2 + (mp + n - size)) := by omega
        rw [if_neg hr, if_neg hr']
        by_cases hr2 : 2 + mp ≤ i ∧ i < 2 + mp + n
        · rw [if_pos hr2, if_pos hr2, getD_take _ _ _ _ (by omega)]
        · rw [if_neg hr2, if_neg hr2]
  generalize (if mp + n ≤ size then cellsWrite c1 (2 + mp) bytes
        else cellsWrite (cellsWrite c1 (2 + mp) (bytes.take (min n (size + tail - mp)))) 2 ((bytes.drop (size - mp)).take (n - (size - mp)))) = c2 at hc2
  have hc3 : ∀ i, 2 ≤ i → cellsGet (cellsWrite (cellsWrite c2 0 [cellsGet c2 (2 + size - 2)]) 1 [cellsGet c2 (2 + size - 1)]) i = cellsGet c2 i := by
    intro i hi
    rw [cellsGet_write, cellsGet_write]
    simp only [List.length_cons, List.length_nil]
    have h1 : ¬ (1 ≤ i ∧ i < 1 + (0 + 1)) := by omega
    have h0 : ¬ (0 ≤ i ∧ i < 0 + (0 + 1)) := by omega
    rw [if_neg h1, if_neg h0]
  refine ⟨?_, ?_, ?_, ?_, ?_⟩
  · intro i hi hu
    obtain ⟨u1, u2, u3⟩ := hu
    have u2' : ¬ (size < mp + n ∧ 2 ≤ i ∧ i < 2 + (mp + n - size)) := fun hh => u2 ⟨hh.1, hh.2.2⟩
    rw [hc3 i hi, hc2, if_neg u2', if_neg u1, hc1, if_neg u3]
  · intro j hj
    by_cases hlt : mp + j < size
    · have a1 : ¬ (size < mp + n ∧ 2 ≤ 2 + (mp + j) ∧ 2 + (mp + j) < 2 + (mp + n - size)) := by omega
      have a2 : 2 + mp ≤ 2 + (mp + j) ∧ 2 + (mp + j) < 2 + mp + n := by omega
      rw [if_pos hlt, hc3 _ (by omega), hc2, if_neg a1, if_pos a2]
      congr 1; omega
    · have a1 : size < mp + n ∧ 2 ≤ 2 + (mp + j - size) ∧ 2 + (mp + j - size) < 2 + (mp + n - size) := by omega
      rw [if_neg hlt, hc3 _ (by omega), hc2, if_pos a1]
      congr 1; omega
  · intro j hj hcase
    by_cases hlt : mp + j < size
    · -- mirrored by the tail write
      have hmt : mp + j < tail := by rcases hcase with h | h <;> omega
      have a1 : ¬ (size < mp + n ∧ 2 ≤ 2 + size + (mp + j) ∧ 2 + size + (mp + j) < 2 + (mp + n - size)) := by omega
      have a2 : ¬ (2 + mp ≤ 2 + size + (mp + j) ∧ 2 + size + (mp + j) < 2 + mp + n) := by omega
      have a3 : mp < tail ∧ 2 + size + mp ≤ 2 + size + (mp + j) ∧ 2 + size + (mp + j) < 2 + size + mp + min n (tail - mp) := by omega
      rw [if_pos hlt, hc3 _ (by omega), hc2, if_neg a1, if_neg a2, hc1, if_pos a3]
      congr 1; omega
    · -- the wrapping write runs into the tail
      have a1 : ¬ (size < mp + n ∧ 2 ≤ 2 + size + (mp + j - size) ∧ 2 + size + (mp + j - size) < 2 + (mp + n - size)) := by omega
      have a2 : 2 + mp ≤ 2 + size + (mp + j - size) ∧ 2 + size + (mp + j - size) < 2 + mp + n := by omega
      rw [if_neg hlt, hc3 _ (by omega), hc2, if_neg a1, if_pos a2]
      congr 1; omega
  · rw [cellsGet_write, cellsGet_write, hc3 _ (by omega)]
    simp
  · rw [cellsGet_write, hc3 _ (by omega)]
    simp

/-- geometry of the ring buffer after `RingBufferSetup` -/
structure RingGeom (rb : Ring) : Prop where
  mask : rb.mask + 1 = rb.size
  total : rb.totalSize = rb.size + rb.tailSize
  tail : 2 * rb.tailSize ≤ rb.size
  pow : ∃ k, rb.size = 2 ^ k ∧ 2 ≤ k ∧ k ≤ 31

/-- `lap` of `RingBufferWrite`, `max(1 << 30, size_)`: once `pos_` has passed it, `pos_` is folded back
into the second lap, so it stays congruent to the stream position modulo `size_` (the size divides
the lap) and never returns to the first lap -/
def Ring.lap (rb : Ring) : Nat := max 1073741824 rb.size

structure LapOK (rb : Ring) : Prop where
  pow : ∃ j, rb.lap = 2 ^ j
  dvd : rb.size ∣ rb.lap
  sizeLe : rb.size ≤ rb.lap
  ge : 1073741824 ≤ rb.lap
  le : rb.lap ≤ 2147483648
  size4 : 4 ≤ rb.size

theorem RingGeom.lap_facts {rb : Ring} (g : RingGeom rb) : LapOK rb := by
  obtain ⟨k, hk, h2, h31⟩ := g.pow
  have h30 : (1073741824 : Nat) = 2 ^ 30 := by decide
  have h31' : (2147483648 : Nat) = 2 ^ 31 := by decide
  have hs4 : 4 ≤ rb.size := by
    rw [hk]
    have : 2 ^ 2 ≤ 2 ^ k := Nat.pow_le_pow_right (by omega) h2
    simpa using this
  by_cases hle : k ≤ 30
  · have hsz : rb.size ≤ 1073741824 := by rw [hk, h30]; exact Nat.pow_le_pow_right (by omega) hle
    have hlap : rb.lap = 1073741824 := Nat.max_eq_left hsz
    refine ⟨⟨30, hlap.trans h30⟩, ?_, by omega, by omega, by omega, hs4⟩
    rw [hlap, hk, h30]
    exact Nat.pow_dvd_pow 2 hle
  · have hk31 : k = 31 := by omega
    subst hk31
    have hsz : rb.size = 2147483648 := by rw [hk, h31']
    have hlap : rb.lap = 2147483648 := by unfold Ring.lap; rw [hsz]; decide
    exact ⟨⟨31, hlap.trans h31'⟩, by rw [hlap, hsz]; exact Nat.dvd_refl _, by omega, by omega, by omega, by omega⟩

theorem fold_pos {rb : Ring} {n P : Nat} (g : RingGeom rb) (hn : n ≤ 1073741824)
    (hS : P ≤ rb.lap → rb.pos = P) (hB : rb.lap < P → rb.lap ≤ rb.pos ∧ rb.pos < 2 * rb.lap ∧ rb.pos % rb.lap = P % rb.lap) :
    (P + n ≤ rb.lap → ringPosAfter rb n = P + n)
    ∧ (rb.lap < P + n →
        rb.lap ≤ ringPosAfter rb n ∧ ringPosAfter rb n < 2 * rb.lap ∧ ringPosAfter rb n % rb.lap = (P + n) % rb.lap) := by
  have hl := g.lap_facts.pow
  have h30 := g.lap_facts.ge
  have h31 := g.lap_facts.le
  unfold ringPosAfter
  unfold Ring.lap at *
  generalize max 1073741824 rb.size = lap at *
  generalize rb.pos = pos at *
  obtain ⟨j, hj⟩ := hl
  have hlpos : 0 < lap := by omega
  have hposlt : pos < 2 * lap := by
    by_cases hc : P ≤ lap
    · rw [hS hc]; omega
    · exact (hB (by omega)).2.1
  have hp64 : (pos + n) % two64 = pos + n := Nat.mod_eq_of_lt (by unfold two64; omega)
  rw [hp64]
  have hor : ∀ x, x < lap → (x ||| lap) % two32 = lap + x := by
    intro x hx
    rw [hj] at hx ⊢
    have hor := Nat.two_pow_add_eq_or_of_lt hx 1
    rw [Nat.mul_one] at hor
    rw [Nat.or_comm, ← hor]
    apply Nat.mod_eq_of_lt
    rw [← hj]; unfold two32; omega
  have hmodlt : (pos + n) % lap < lap := Nat.mod_lt _ hlpos
  have hcong : (pos + n) % lap = (P + n) % lap := by
    by_cases hc : P ≤ lap
    · rw [hS hc]
    · have := (hB (by omega)).2.2
      rw [Nat.add_mod, this, ← Nat.add_mod]
  constructor
  · intro hle
    have hPle : P ≤ lap := by omega
    have hpe := hS hPle
    rw [hpe, if_neg (by omega)]
    apply Nat.mod_eq_of_lt
    unfold two32; omega
  · intro hgt
    by_cases hbig : pos + n > lap
    · rw [if_pos hbig, hor _ hmodlt]
      refine ⟨by omega, by omega, ?_⟩
      rw [Nat.add_mod_left, Nat.mod_mod, hcong]
    · -- `pos + n = lap` exactly: nothing written past the lap boundary yet
      rw [if_neg hbig]
      have hPgt : lap < P := by
        by_cases hc : P ≤ lap
        · have := hS hc; omega
        · omega
      obtain ⟨b1, b2, b3⟩ := hB hPgt
      have hpe : pos + n = lap := by omega
      have hmod32 : (pos + n) % two32 = pos + n := Nat.mod_eq_of_lt (by unfold two32; omega)
      rw [hmod32]
      refine ⟨by omega, by omega, hcong⟩

/-- **the ring-buffer invariant**: `input` = every byte written so far.

`alloc`: `cur_size_` is what is allocated. `RingBufferWrite` allocates lazily: a first write shorter
than the tail gets a buffer of just that length, and the next write brings it to the full size
(`ringGrow`); so either the buffer is full-size or it holds exactly the input, which is short. -/
structure RingOK (rb : Ring) (input : Bytes) : Prop where
  geom : RingGeom rb
  posSmall : input.length ≤ rb.lap → rb.pos = input.length
  posBig : rb.lap < input.length → rb.lap ≤ rb.pos ∧ rb.pos < 2 * rb.lap ∧ rb.pos % rb.lap = input.length % rb.lap
  alloc : rb.curSize = rb.totalSize ∨ (rb.curSize = input.length ∧ input.length < rb.tailSize)
  main : ∀ p, p < input.length → input.length - p ≤ rb.size → rb.get (2 + p % rb.size) = input.getD p 0
  mirror : ∀ p, p < input.length → rb.size ≤ p → input.length - p ≤ rb.size → p % rb.size < rb.tailSize →
    rb.get (2 + rb.size + p % rb.size) = input.getD p 0

theorem RingOK.pos_mod {rb : Ring} {input : Bytes} (h : RingOK rb input) : rb.pos % rb.size = input.length % rb.size := by
  have hd := h.geom.lap_facts.dvd
  by_cases hc : input.length ≤ rb.lap
  · rw [h.posSmall hc]
  · have := (h.posBig (by omega)).2.2
    rw [← Nat.mod_mod_of_dvd rb.pos hd, this, Nat.mod_mod_of_dvd _ hd]

theorem RingOK.pos_zero {rb : Ring} {input : Bytes} (h : RingOK rb input) (h0 : rb.pos = 0) : input = [] := by
  have h30 := h.geom.lap_facts.ge
  by_cases hc : input.length ≤ rb.lap
  · have := h.posSmall hc
    rw [h0] at this
    exact List.eq_nil_of_length_eq_zero this.symm
  · have := (h.posBig (by omega)).1
    omega

theorem initBuffer_get {rb rb' : Ring} {buflen : Nat} (h : ringInitBuffer rb buflen = .ok rb') :
    rb'.curSize = buflen ∧ rb'.size = rb.size ∧ rb'.mask = rb.mask ∧ rb'.tailSize = rb.tailSize ∧ rb'.totalSize = rb.totalSize
    ∧ rb'.pos = rb.pos
    ∧ ∀ i, 2 ≤ i → ¬ (2 + buflen ≤ i ∧ i < 2 + buflen + 7) → rb'.get i = rb.get i := by
  unfold ringInitBuffer at h
  simp only at h
  split at h
  · simp at h
  · split at h
    · simp at h
    · simp only [Out.ok.injEq] at h
      subst h
      refine ⟨rfl, rfl, rfl, rfl, rfl, rfl, ?_⟩
      intro i hi hni
      unfold Ring.get
      simp only
      rw [cellsGet_write, cellsGet_write]
      simp only [List.length_replicate, List.length_cons, List.length_nil]
      have a1 : ¬ (2 + buflen ≤ i ∧ i < 2 + buflen + 7) := hni
      have a2 : ¬ (0 ≤ i ∧ i < 0 + (0 + 1 + 1)) := by omega
      rw [if_neg a1, if_neg a2]

theorem ringWriteMain_eq_ok {rb rb' : Ring} {bytes : Bytes} {avail : Nat} (h : ringWriteMain rb bytes avail = .ok rb') :
    rb' = { rb with pos := ringPosAfter rb bytes.length, cells := ringWriteCells rb bytes } := by
  unfold ringWriteMain at h
  extract_lets n mp p lim tailOk mid sz bstart bodyOk at h
  clear_value tailOk bodyOk
  cases tailOk
  · simp at h
  cases bodyOk
  · simp at h
  simp only [Bool.not_true, Bool.false_eq_true, if_false] at h
  split at h
  · cases h
  · cases h; rfl

theorem ringGrow_ok_cases {rb rbg : Ring} (h : ringGrow rb = .ok rbg) :
    (rb.curSize < rb.totalSize ∧ ∃ rbi, ringInitBuffer rb rb.totalSize = .ok rbi
        ∧ rbg = { rbi with cells := cellsWrite rbi.cells (2 + rbi.size - 2) [0, 0] })
    ∨ (¬ rb.curSize < rb.totalSize ∧ rbg = rb) := by
  unfold ringGrow at h
  by_cases hlt : rb.curSize < rb.totalSize
  · rw [if_pos hlt] at h
    cases hi : ringInitBuffer rb rb.totalSize with
    | ok rbi =>
      rw [hi] at h
      simp only at h
      split at h
      · cases h
      · cases h; exact Or.inl ⟨hlt, rbi, rfl, rfl⟩
    | panic => rw [hi] at h; cases h
    | fuel => rw [hi] at h; cases h
  · rw [if_neg hlt] at h
    cases h
    exact Or.inr ⟨hlt, rfl⟩

theorem ringWrite_ok_cases {rb rb' : Ring} {bytes : Bytes} {avail : Nat} (h : ringWrite rb bytes avail = .ok rb') :
    ((rb.pos = 0 ∧ bytes.length < rb.tailSize) ∧ ∃ rbi, ringInitBuffer { rb with pos := bytes.length } bytes.length = .ok rbi
        ∧ rb' = { rbi with cells := cellsWrite rbi.cells 2 bytes })
    ∨ (¬ (rb.pos = 0 ∧ bytes.length < rb.tailSize) ∧ ∃ rbg, ringGrow rb = .ok rbg
        ∧ rb' = { rbg with pos := ringPosAfter rbg bytes.length, cells := ringWriteCells rbg bytes }) := by
  unfold ringWrite at h
  simp only at h
  by_cases hf : rb.pos = 0 ∧ bytes.length < rb.tailSize
  · rw [if_pos hf] at h
    cases hi : ringInitBuffer { rb with pos := bytes.length } bytes.length with
    | ok rbi =>
      rw [hi] at h
      simp only at h
      split at h
      · cases h
      · cases h; exact Or.inl ⟨hf, rbi, rfl, rfl⟩
    | panic => rw [hi] at h; cases h
    | fuel => rw [hi] at h; cases h
  · rw [if_neg hf] at h
    cases hg : ringGrow rb with
    | ok rbg =>
      rw [hg] at h
      exact Or.inr ⟨hf, rbg, rfl, ringWriteMain_eq_ok h⟩
    | panic => rw [hg] at h; cases h
    | fuel => rw [hg] at h; cases h

theorem write_content {rb : Ring} {input bytes : Bytes} (g : RingGeom rb)
    (hposm : rb.pos % rb.size = input.length % rb.size) (hn : bytes.length ≤ rb.tailSize)
    (hmain : ∀ p, p < input.length → input.length - p ≤ rb.size → cellsGet rb.cells (2 + p % rb.size) = input.getD p 0)
    (hmir : ∀ p, p < input.length → rb.size ≤ p → input.length - p ≤ rb.size → p % rb.size < rb.tailSize →
      cellsGet rb.cells (2 + rb.size + p % rb.size) = input.getD p 0) :
    (∀ p, p < (input ++ bytes).length → (input ++ bytes).length - p ≤ rb.size →
      cellsGet (ringWriteCells rb bytes) (2 + p % rb.size) = (input ++ bytes).getD p 0)
    ∧ (∀ p, p < (input ++ bytes).length → rb.size ≤ p → (input ++ bytes).length - p ≤ rb.size → p % rb.size < rb.tailSize →
      cellsGet (ringWriteCells rb bytes) (2 + rb.size + p % rb.size) = (input ++ bytes).getD p 0) := by
  have hs4 := g.lap_facts.size4
  obtain ⟨sp1, sp2, sp3, -, -⟩ := ringWriteCells_spec rb bytes g.mask g.total g.tail hn hs4
  have hspos : 0 < rb.size := by omega
  have hmplt : rb.pos % rb.size < rb.size := Nat.mod_lt _ hspos
  have htail := g.tail
  rw [List.length_append]
  generalize hP : input.length = P at *
  generalize hN : bytes.length = n at *
  generalize hmp : rb.pos % rb.size = mp at *
  generalize rb.size = size at *
  generalize rb.tailSize = tail at *
  have hPm : P % size = mp := hposm.symm
  constructor
  · intro p hp hwin
    by_cases hold : p < P
    · have hd : P - p ≤ size := by omega
      have hb := mod_back (d := P - p) hspos hPm (by omega) hd
      have hpe : P - (P - p) = p := Nat.sub_sub_self (Nat.le_of_lt hold)
      rw [hpe] at hb
      rw [getD_append_left _ _ _ _ (by rw [hP]; exact hold), ← hmain p hold hd, hb]
      exact sp1 _ (Nat.le_add_right 2 _) (untouched_main hmplt (by omega) (by omega) rfl)
    · have hj : p - P < n := by omega
      have hf := mod_fwd (j := p - P) hspos hPm (by omega)
      have hpe : P + (p - P) = p := Nat.add_sub_cancel' (Nat.le_of_not_lt hold)
      rw [hpe] at hf
      rw [getD_append_right _ _ _ _ (by rw [hP]; omega), hP, hf]
      exact sp2 (p - P) hj
  · intro p hp hps hwin hr
    by_cases hold : p < P
    · have hd : P - p ≤ size := by omega
      have hb := mod_back (d := P - p) hspos hPm (by omega) hd
      have hpe : P - (P - p) = p := Nat.sub_sub_self (Nat.le_of_lt hold)
      rw [hpe] at hb
      rw [getD_append_left _ _ _ _ (by rw [hP]; exact hold), ← hmir p hold hps hd hr, hb]
      exact sp1 _ (by omega) (untouched_mirror hmplt (by omega) (by omega) rfl)
    · have hj : p - P < n := by omega
      have hf := mod_fwd (j := p - P) hspos hPm (by omega)
      have hpe : P + (p - P) = p := Nat.add_sub_cancel' (Nat.le_of_not_lt hold)
      rw [hpe] at hf
      have hr' := hr
      rw [hf] at hr'
      rw [getD_append_right _ _ _ _ (by rw [hP]; omega), hP, hf]
      apply sp3 (p - P) hj
      split at hr' <;> omega

theorem geom_of_eq {rb rb' : Ring} (g : RingGeom rb) (h1 : rb'.size = rb.size) (h2 : rb'.mask = rb.mask)
    (h3 : rb'.tailSize = rb.tailSize) (h4 : rb'.totalSize = rb.totalSize) : RingGeom rb' := by
  refine ⟨by rw [h1, h2]; exact g.mask, by rw [h4, h1, h3]; exact g.total, by rw [h3, h1]; exact g.tail, ?_⟩
  rw [h1]; exact g.pow

theorem lap_of_eq {rb rb' : Ring} (h1 : rb'.size = rb.size) : rb'.lap = rb.lap := by
  unfold Ring.lap; rw [h1]

structure Grown (rb rbg : Ring) (input : Bytes) : Prop where
  size : rbg.size = rb.size
  mask : rbg.mask = rb.mask
  tailSize : rbg.tailSize = rb.tailSize
  totalSize : rbg.totalSize = rb.totalSize
  pos : rbg.pos = rb.pos
  full : rbg.curSize = rbg.totalSize
  main : ∀ p, p < input.length → input.length - p ≤ rb.size → rbg.get (2 + p % rb.size) = input.getD p 0
  mirror : ∀ p, p < input.length → rb.size ≤ p → input.length - p ≤ rb.size → p % rb.size < rb.tailSize →
    rbg.get (2 + rb.size + p % rb.size) = input.getD p 0

theorem ringGrow_ok {rb rbg : Ring} {input : Bytes} (hR : RingOK rb input) (hg : ringGrow rb = .ok rbg) :
    Grown rb rbg input := by
  have g := hR.geom
  have hs4 := g.lap_facts.size4
  have htail := g.tail
  have htot := g.total
  rcases ringGrow_ok_cases hg with ⟨hlt, rbi, hinit, rfl⟩ | ⟨hge, rfl⟩
  · have hsmall : rb.curSize = input.length ∧ input.length < rb.tailSize := by
      rcases hR.alloc with ha | ha
      · omega
      · exact ha
    obtain ⟨i1, i2, i3, i4, i5, i6, i7⟩ := initBuffer_get hinit
    refine ⟨i2, i3, i4, i5, i6, by show rbi.curSize = rbi.totalSize; rw [i1, i5], ?_, ?_⟩
    · intro p hp hw
      have hps : p % rb.size = p := Nat.mod_eq_of_lt (by omega)
      rw [hps]
      show cellsGet (cellsWrite rbi.cells (2 + rbi.size - 2) [0, 0]) (2 + p) = _
      rw [cellsGet_write]
      simp only [List.length_cons, List.length_nil]
      have a1 : ¬ (2 + rbi.size - 2 ≤ 2 + p ∧ 2 + p < 2 + rbi.size - 2 + (0 + 1 + 1)) := by rw [i2]; omega
      rw [if_neg a1]
      have := i7 (2 + p) (by omega) (by omega)
      unfold Ring.get at this
      rw [this]
      have hm := hR.main p hp hw
      rw [hps] at hm
      exact hm
    · intro p hp hps _ _
      omega
  · have hfull : rbg.curSize = rbg.totalSize := by
      rcases hR.alloc with ha | ha
      · exact ha
      · omega
    exact ⟨rfl, rfl, rfl, rfl, rfl, hfull, hR.main, hR.mirror⟩

theorem ringWriteMain_ok {rb rbg : Ring} {input bytes : Bytes} (hR : RingOK rb input) (hG : Grown rb rbg input)
    (hn : bytes.length ≤ rb.tailSize) :
    RingOK { rbg with pos := ringPosAfter rbg bytes.length, cells := ringWriteCells rbg bytes } (input ++ bytes) := by
  have g := hR.geom
  have hsl := g.lap_facts.sizeLe
  have h31 := g.lap_facts.le
  have htail := g.tail
  obtain ⟨e1, e2, e3, e4, e5, e6, hmain, hmir⟩ := hG
  have gg : RingGeom rbg := geom_of_eq g e1 e2 e3 e4
  have hposm : rbg.pos % rbg.size = input.length % rbg.size := by rw [e5, e1]; exact hR.pos_mod
  have hn' : bytes.length ≤ rbg.tailSize := by rw [e3]; exact hn
  obtain ⟨w1, w2⟩ := write_content (input := input) gg hposm hn'
    (by intro p hp hw; rw [e1] at hw ⊢; exact hmain p hp hw)
    (by intro p hp hps hw hr; rw [e1] at hps hw ⊢; rw [e1, e3] at hr; exact hmir p hp hps hw hr)
  have hfold := fold_pos (n := bytes.length) (P := input.length) gg (by omega)
    (by rw [lap_of_eq e1, e5]; exact hR.posSmall) (by rw [lap_of_eq e1, e5]; exact hR.posBig)
  rw [lap_of_eq e1] at hfold
  have hlap' : ({ rbg with pos := ringPosAfter rbg bytes.length, cells := ringWriteCells rbg bytes } : Ring).lap = rb.lap :=
    lap_of_eq e1
  refine ⟨geom_of_eq gg rfl rfl rfl rfl, ?_, ?_, Or.inl e6, ?_, ?_⟩
  · intro hle
    rw [hlap', List.length_append] at hle
    rw [List.length_append]
    exact hfold.1 hle
  · intro hgt
    rw [hlap', List.length_append] at hgt
    rw [hlap', List.length_append]
    exact hfold.2 hgt
  · intro p hp hw
    exact w1 p hp hw
  · intro p hp hps hw hr
    exact w2 p hp hps hw hr

/-- writes of at most a tail's length: `copy_input_to_ring_buffer` never writes more than the rest of the input block -/
theorem ringWrite_ok {rb rb' : Ring} {input bytes : Bytes} {avail : Nat} (hR : RingOK rb input)
    (hn : bytes.length ≤ rb.tailSize) (h : ringWrite rb bytes avail = .ok rb') : RingOK rb' (input ++ bytes) := by
  have g := hR.geom
  have hsl := g.lap_facts.sizeLe
  have h30 := g.lap_facts.ge
  have htail := g.tail
  rcases ringWrite_ok_cases h with ⟨hfirst, rbi, hinit, rfl⟩ | ⟨-, rbg, hg, rfl⟩
  · -- the very first, small write: a buffer of exactly that size
    have hin : input = [] := hR.pos_zero hfirst.1
    subst hin
    obtain ⟨i1, i2, i3, i4, i5, i6, i7⟩ := initBuffer_get hinit
    have g' : RingGeom { rbi with cells := cellsWrite rbi.cells 2 bytes } := geom_of_eq g i2 i3 i4 i5
    have hlap' : ({ rbi with cells := cellsWrite rbi.cells 2 bytes } : Ring).lap = rb.lap := lap_of_eq i2
    have hsz' : ({ rbi with cells := cellsWrite rbi.cells 2 bytes } : Ring).size = rb.size := i2
    have hts' : ({ rbi with cells := cellsWrite rbi.cells 2 bytes } : Ring).tailSize = rb.tailSize := i4
    refine ⟨g', ?_, ?_, Or.inr ⟨?_, ?_⟩, ?_, ?_⟩
    · intro _; simp only [List.nil_append]; exact i6
    · intro hh; simp only [List.nil_append] at hh; rw [hlap'] at hh; omega
    · simp only [List.nil_append]; exact i1
    · simp only [List.nil_append]; rw [hts']; exact hfirst.2
    · intro p hp _
      simp only [List.nil_append] at hp ⊢
      rw [hsz']
      have hps : p % rb.size = p := Nat.mod_eq_of_lt (by omega)
      rw [hps]
      unfold Ring.get
      simp only
      rw [cellsGet_write, if_pos ⟨by omega, by omega⟩]
      congr 1; omega
    · intro p hp hps _ _
      simp only [List.nil_append] at hp
      rw [hsz'] at hps
      omega
  · exact ringWriteMain_ok hR (ringGrow_ok hR hg) hn

end BV.Stream
