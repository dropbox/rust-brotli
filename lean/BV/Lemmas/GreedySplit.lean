/-
C01 / greedy builder: the invariant of the `BlockSplitter` / `ContextBlockSplitter` state machine.

`rb` is the list of finished blocks, MOST RECENT FIRST: block type, recorded length, and the symbols
`(static context, symbol)` that went into it, in order.  `pend` are the symbols of the current, unfinished block.
`slack` is the padding of the most recent block (`FinishBlock` raises a short last block to `min_block_size`):
non-zero only behind the final call.
-/
import BV.Lemmas.GreedyHist

namespace BV.Greedy
open BV.Bits BV.Recoder BV.MetaBlock

theorem take_set_of_le {α : Type} (l : List α) (i n : Nat) (v : α) (h : n ≤ i) : (l.set i v).take n = l.take n :=
  List.take_set_of_le h

theorem take_of_take_succ {α : Type} (l xs : List α) (v : α) (n : Nat) (h : l.take (n + 1) = xs ++ [v]) (hn : xs.length = n) :
    l.take n = xs := by
  subst hn
  have : (l.take (xs.length + 1)).take xs.length = (xs ++ [v]).take xs.length := by rw [h]
  rw [List.take_take, Nat.min_eq_left (by omega), List.take_append_of_le_length (by omega), List.take_length] at this
  exact this

theorem getD_of_take_succ (l xs : List Nat) (v n : Nat) (h : l.take (n + 1) = xs ++ [v]) (hn : xs.length = n) :
    l.getD n 0 = v ∧ n < l.length := by
  have hl : n < l.length := by
    have := congrArg List.length h
    simp [List.length_take] at this
    omega
  refine ⟨?_, hl⟩
  have : (l.take (n + 1))[n]? = (xs ++ [v])[n]? := by rw [h]
  rw [List.getElem?_take_of_lt (by omega), List.getElem?_append_right (by omega), hn] at this
  simp at this
  rw [List.getD_eq_getElem?_getD, this]
  rfl

structure Blk where
  t : Nat
  len : Nat
  chunk : List (Nat × Nat)

def maxBlocks (N m : Nat) : Nat := N / m + 1

theorem maxBlocks_pos (N m : Nat) : 0 < maxBlocks N m := Nat.succ_pos _

def doneCount (rb : List Blk) : Nat := (rb.map (fun b => b.chunk.length)).sum

/-- The invariant.  `N`: the number of symbols the splitter was set up for (`num_symbols` of `initBS`); it fixes the length
`maxBlocks N min_block_size` of `types` and `lengths`, and no more than `N` symbols are ever fed (`total`).  `A`: the alphabet in
use, at most the histogram length `s.H` (`AH`); no symbol `≥ A` is ever counted (`zeroAbove`).  `K`, `HH`: `s.nc` (histograms
per block type) and `s.H` as numbers of their own (`ncEq`, `hEq`), so that statements about two states share them.
* `bound`: with it no length, count or position of the machine wraps (all are `≤ N + min_block_size`), the recorded
  lengths are `≤ 2^24` as `SplitOK.len` asks and the histogram totals `≤ 2^25`
* `slen`: `max_block_types + 1` slots, one per type and one for the current block (fewer if there cannot be that many blocks)
* `nb`, `typesEq`, `lensEq`: the split's arrays hold `rb`, oldest block first
* `chunkTail`, `chunkHead`, `chunkMin`, `slackLe`: a recorded length is the number of symbols of its block, but for the
  most recent one, which is `slack` longer; every one is at least `min_block_size`
* `nt0`, `curr`, `ntPos`: before the first block all counters are 0; later the current block is counted in slot `num_types`
* `t0`: the oldest block has type 0;  `single`: one type only while there is one block
* `last0`, `last1`, `last1'`: `last_histogram_ix_` are the types of the most recent and of the block before it
  (0 while there is no such block)
* `ent`: `last_entropy_` is two rows of `nc` entries, equal while there is one type
* `cov`, `pcov`: every symbol of a finished block is counted in the slot of its type, every pending one in the current slot
* `tot`, `ptot`: a slot holds no more counts than symbols were fed -/
structure Inv {F : Type} (N A K HH : Nat) (s : BS F) (rb : List Blk) (pend : List (Nat × Nat)) (slack : Nat) : Prop where
  ncEq : s.nc = K
  hEq : s.H = HH
  nc1 : 1 ≤ s.nc
  min1 : 1 ≤ s.minBlockSize
  mbt1 : 1 ≤ s.maxBlockTypes
  mbt : s.maxBlockTypes ≤ 256
  mbtK : s.maxBlockTypes * s.nc ≤ 256
  bound : N + s.minBlockSize ≤ 2 ^ 24
  AH : A ≤ s.H
  tlen : s.types.length = maxBlocks N s.minBlockSize
  llen : s.lengths.length = maxBlocks N s.minBlockSize
  slen : s.slots.length = min (maxBlocks N s.minBlockSize) (s.maxBlockTypes + 1)
  shaped : ∀ slot ∈ s.slots, Shaped s.nc s.H slot
  zeroAbove : ∀ slot ∈ s.slots, ∀ c x, A ≤ x → cnt slot c x = 0
  nb : s.numBlocks = rb.length
  typesEq : s.types.take rb.length = (rb.map (fun b => b.t)).reverse
  lensEq : s.lengths.take rb.length = (rb.map (fun b => b.len)).reverse
  chunkTail : ∀ b ∈ rb.tail, b.chunk.length = b.len
  chunkHead : ∀ b, rb.head? = some b → b.chunk.length + slack = b.len
  chunkMin : ∀ b ∈ rb, s.minBlockSize ≤ b.len
  slackLe : slack ≤ s.minBlockSize
  total : doneCount rb + pend.length ≤ N
  nt0 : rb = [] → s.numTypes = 0 ∧ s.curr = 0 ∧ s.last0 = 0
  curr : rb ≠ [] → s.curr = s.numTypes
  ntPos : rb ≠ [] → 1 ≤ s.numTypes
  ntMax : s.numTypes ≤ s.maxBlockTypes
  ntNb : s.numTypes ≤ rb.length
  tlt : ∀ b ∈ rb, b.t < s.numTypes
  t0 : ∀ b, rb.getLast? = some b → b.t = 0
  last0 : ∀ b, rb.head? = some b → s.last0 = b.t
  last1 : ∀ b, rb.tail.head? = some b → s.last1 = b.t
  last1' : rb.length ≤ 1 → s.last1 = 0
  single : s.numTypes = 1 → rb.length = 1
  ent : rb ≠ [] → ∃ e e', s.lastEntropy = e ++ e' ∧ e.length = s.nc ∧ (s.numTypes = 1 → e = e')
  cov : ∀ b ∈ rb, ∀ p ∈ b.chunk, p.1 < s.nc ∧ cnt (s.slots.getD b.t []) p.1 p.2 ≠ 0
  pcov : ∀ p ∈ pend, p.1 < s.nc ∧ cnt (s.slots.getD s.curr []) p.1 p.2 ≠ 0
  tot : ∀ t, t < s.numTypes → slotTotal (s.slots.getD t []) ≤ doneCount rb
  ptot : slotTotal (s.slots.getD s.curr []) ≤ pend.length

theorem sum_len_eq : ∀ (l : List Blk), (∀ b ∈ l, b.chunk.length = b.len) →
    (l.map (fun b => b.len)).sum = (l.map (fun b => b.chunk.length)).sum
  | [], _ => rfl
  | c :: cs, h => by
    simp only [List.map_cons, List.sum_cons]
    rw [sum_len_eq cs (fun b hb => h b (List.mem_cons_of_mem _ hb)), h c List.mem_cons_self]

theorem lens_sum {F : Type} {N A K HH : Nat} {s : BS F} {rb : List Blk} {pend : List (Nat × Nat)} {slack : Nat}
    (h : Inv N A K HH s rb pend slack) (hne : rb ≠ []) : (rb.map (fun b => b.len)).sum = doneCount rb + slack := by
  cases rb with
  | nil => exact absurd rfl hne
  | cons b rest =>
    have h1 := h.chunkHead b rfl
    have h2 : (rest.map (fun b => b.len)).sum = (rest.map (fun b => b.chunk.length)).sum :=
      sum_len_eq rest (by have ht := h.chunkTail; simpa using ht)
    simp only [doneCount, List.map_cons, List.sum_cons, h2]
    omega

theorem mul_le_sum_of_le (m : Nat) : ∀ (l : List Nat), (∀ x ∈ l, m ≤ x) → l.length * m ≤ l.sum
  | [], _ => by simp
  | a :: l, h => by
    have := mul_le_sum_of_le m l (fun x hx => h x (List.mem_cons_of_mem _ hx))
    have ha := h a List.mem_cons_self
    simp only [List.length_cons, List.sum_cons, Nat.add_mul, Nat.one_mul]
    omega

theorem blocks_le {F : Type} {N A K HH : Nat} {s : BS F} {rb : List Blk} {pend : List (Nat × Nat)} {slack : Nat}
    (h : Inv N A K HH s rb pend slack) : rb.length * s.minBlockSize ≤ doneCount rb + slack := by
  by_cases hne : rb = []
  · subst hne; simp
  · rw [← lens_sum h hne]
    have := mul_le_sum_of_le s.minBlockSize (rb.map (fun b => b.len)) (by
      intro x hx
      obtain ⟨b, hb, rfl⟩ := List.mem_map.mp hx
      exact h.chunkMin b hb)
    simpa using this

theorem room {F : Type} {N A K HH : Nat} {s : BS F} {rb : List Blk} {pend : List (Nat × Nat)}
    (h : Inv N A K HH s rb pend 0) : rb.length < maxBlocks N s.minBlockSize := by
  have h1 := blocks_le h
  have h2 := h.total
  have : rb.length ≤ N / s.minBlockSize := by
    rw [Nat.le_div_iff_mul_le h.min1]; omega
  unfold maxBlocks
  omega

theorem blocks_le_N {F : Type} {N A K HH : Nat} {s : BS F} {rb : List Blk} {pend : List (Nat × Nat)}
    (h : Inv N A K HH s rb pend 0) : rb.length ≤ N :=
  Nat.le_trans (Nat.le_of_lt_succ (room h)) (Nat.div_le_self _ _)

theorem curr_lt {F : Type} {N A K HH : Nat} {s : BS F} {rb : List Blk} {pend : List (Nat × Nat)}
    (h : Inv N A K HH s rb pend 0) : s.curr < s.slots.length := by
  rw [h.slen]
  have hr := room h
  by_cases hne : rb = []
  · rw [(h.nt0 hne).2.1]; omega
  · rw [h.curr hne]
    have := h.ntNb
    have := h.ntMax
    omega

theorem slot_mem {F : Type} (s : BS F) (t : Nat) (h : t < s.slots.length) : s.slots.getD t [] ∈ s.slots :=
  getD_mem s.slots t [] h

/-- the part of the invariant that matters only while symbols are still being added (`lt`: `AddSymbol` finishes the block when
it is full) -/
structure Dyn {F : Type} (s : BS F) (rb : List Blk) (pend : List (Nat × Nat)) : Prop where
  bs : s.blockSize = pend.length
  lt : s.blockSize < s.targetBlockSize
  mt : s.minBlockSize ≤ s.targetBlockSize
  tb : s.targetBlockSize ≤ doneCount rb + s.minBlockSize
  hh : s.histosSize = s.slots.length

theorem initBS_inv {F : Type} (ops : FOps F) (plain : Bool) (nc H alphabetSize minBlockSize : Nat) (thr : F) (N A : Nat)
    (hnc1 : 1 ≤ nc) (hnc : nc ≤ 13) (hp : plain = true → nc = 1) (hmin : 1 ≤ minBlockSize) (hal : alphabetSize ≤ H)
    (hAH : A ≤ H) (hb : N + minBlockSize ≤ 2 ^ 24) :
    ∃ s, initBS ops plain nc H alphabetSize minBlockSize thr N = .ok s ∧ Inv N A nc H s [] [] 0 ∧ Dyn s [] [] ∧
      s.minBlockSize = minBlockSize := by
  have hN : (N / minBlockSize + 1) % two64 = N / minBlockSize + 1 := by
    apply Nat.mod_eq_of_lt
    have : N / minBlockSize ≤ N := Nat.div_le_self _ _
    generalize N / minBlockSize = q at this ⊢
    unfold two64; omega
  obtain ⟨mbt, hmbt, h1, h256, hK⟩ : ∃ mbt, (if plain then 256 else 256 / nc) = mbt ∧ 1 ≤ mbt ∧ mbt ≤ 256 ∧ mbt * nc ≤ 256 := by
    cases plain with
    | true => exact ⟨256, rfl, by decide, Nat.le_refl _, by rw [hp rfl]; decide⟩
    | false => exact ⟨256 / nc, rfl, (Nat.le_div_iff_mul_le hnc1).mpr (by omega), Nat.div_le_self _ _, Nat.div_mul_le_self _ _⟩
  unfold initBS
  rw [if_neg (by omega), if_neg (by simp; intro _; omega), if_neg (by simp; intro _; omega), if_neg (by omega)]
  simp only [hN, hmbt]
  rw [if_neg (Nat.ne_of_gt (Nat.lt_min.mpr ⟨Nat.succ_pos _, Nat.succ_pos _⟩))]
  refine ⟨_, rfl, ?_, ⟨rfl, hmin, Nat.le_refl _, Nat.le_add_left _ _, by simp⟩, rfl⟩
  refine { ncEq := rfl, hEq := rfl, nc1 := hnc1, min1 := hmin, mbt1 := h1, mbt := h256, mbtK := hK, bound := hb, AH := hAH,
           tlen := by simp [maxBlocks], llen := by simp [maxBlocks], slen := by simp [maxBlocks], shaped := ?_,
           zeroAbove := ?_, nb := rfl, typesEq := by simp, lensEq := by simp, chunkTail := by simp, chunkHead := by simp,
           chunkMin := by simp, slackLe := Nat.zero_le _, total := Nat.zero_le _, nt0 := fun _ => ⟨rfl, rfl, rfl⟩,
           curr := fun h => absurd rfl h, ntPos := fun h => absurd rfl h, ntMax := Nat.zero_le _, ntNb := Nat.le_refl _,
           tlt := by simp, t0 := by simp, last0 := by simp, last1 := by simp, last1' := fun _ => rfl, single := by simp,
           ent := fun h => absurd rfl h, cov := by simp, pcov := by simp, tot := by simp, ptot := ?_ }
  · intro slot hs
    rw [(List.mem_replicate.mp hs).2]; exact zeroSlot_shaped nc H
  · intro slot hs c x _
    rw [(List.mem_replicate.mp hs).2]; exact zeroSlot_cnt nc H c x
  · show slotTotal ((List.replicate _ (zeroSlot nc H)).getD 0 []) ≤ 0
    rw [List.getD_eq_getElem?_getD, List.getElem?_replicate]
    split
    · exact Nat.le_of_eq (zeroSlot_total nc H)
    · exact Nat.le_refl _

theorem Inv.setBlockSize {F : Type} {N A K HH : Nat} {s : BS F} {rb : List Blk} {pend : List (Nat × Nat)} {k : Nat}
    (h : Inv N A K HH s rb pend k) (x : Nat) : Inv N A K HH { s with blockSize := x } rb pend k := { h with }

end BV.Greedy
