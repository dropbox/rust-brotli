/-
C17: binary trees laid out in a `HuffmanTree` pool,
`BrotliSetDepth` as a traversal of such a tree, Kraft equality of the depths.
-/
import BV.Lemmas.HuffmanCanon

namespace BV.Lemmas.HuffmanShape
open BV.Bits BV.Huffman BV.Lemmas.HuffmanCanon

inductive T where
  | leaf (v : Nat)
  | node (l r : T)

namespace T
def leaves : T → List Nat
  | leaf v => [v]
  | node l r => l.leaves ++ r.leaves

def size : T → Nat
  | leaf _ => 1
  | node l r => 1 + l.size + r.size

def height : T → Nat
  | leaf _ => 0
  | node l r => 1 + max l.height r.height

theorem size_pos (t : T) : 0 < t.size := by cases t <;> simp [size] <;> omega
end T

/-- `pool[p]` is the root of a layout of `t`: leaves are nodes with a negative
`index_left_` and `index_right_or_value_ = v`; inner nodes point to two roots
at smaller indices -/
inductive IsTree (pool : List Node) : Nat → T → Prop
  | leaf {p c : Nat} {l : Int} {v : Nat} :
      pool[p]? = some ⟨c, l, (v : Int)⟩ → l < 0 → IsTree pool p (.leaf v)
  | node {p c pl pr : Nat} {tl tr : T} :
      pool[p]? = some ⟨c, (pl : Int), (pr : Int)⟩ → pl < p → pr < p →
      IsTree pool pl tl → IsTree pool pr tr → IsTree pool p (.node tl tr)

theorem IsTree.frame {pool pool' : List Node} {p : Nat} {t : T} (h : IsTree pool p t)
    (hsame : ∀ q, q ≤ p → pool'[q]? = pool[q]?) : IsTree pool' p t := by
  induction h with
  | leaf hp hl => exact .leaf (by rw [hsame _ (Nat.le_refl _)]; exact hp) hl
  | node hp hl hr _ _ ihl ihr =>
    exact .node (by rw [hsame _ (Nat.le_refl _)]; exact hp) hl hr
      (ihl fun q hq => hsame q (by omega)) (ihr fun q hq => hsame q (by omega))

def assign : T → Nat → List Nat → List Nat
  | .leaf v, lev, d => d.set v lev
  | .node l r, lev, d => assign r (lev + 1) (assign l (lev + 1) d)

theorem assign_length (t : T) : ∀ lev d, (assign t lev d).length = d.length := by
  induction t with
  | leaf v => intro lev d; simp [assign]
  | node l r ihl ihr => intro lev d; simp [assign, ihl, ihr]

theorem assign_other (t : T) : ∀ lev d x, x ∉ t.leaves → (assign t lev d)[x]? = d[x]? := by
  induction t with
  | leaf v =>
    intro lev d x hx
    simp only [T.leaves, List.mem_singleton] at hx
    simp only [assign]
    exact List.getElem?_set_ne (fun h => hx h.symm)
  | node l r ihl ihr =>
    intro lev d x hx
    simp only [T.leaves, List.mem_append, not_or] at hx
    simp only [assign]
    rw [ihr _ _ _ hx.2, ihl _ _ _ hx.1]

theorem asUsize_natCast (n : Nat) : asUsize (n : Int) = n := by
  simp [asUsize]

/-- what `BrotliSetDepth` does after writing a leaf: pop finished levels, then
either return `true` or continue with the pending right sibling -/
def afterLeaf (pool : List Node) (M : Int) (f : Nat) (stack : List Int) (depth : List Nat) :
    Out (Bool × List Nat) :=
  match stack.dropWhile (· == -1) with
  | [] => .ok (true, depth)
  | q :: rest => setDepthLoop pool M f q (-1 :: rest) depth

theorem afterLeaf_neg_one (pool : List Node) (M : Int) (f : Nat) (stack : List Int)
    (depth : List Nat) : afterLeaf pool M f (-1 :: stack) depth = afterLeaf pool M f stack depth := by
  simp [afterLeaf]

theorem afterLeaf_nat (pool : List Node) (M : Int) (f : Nat) (q : Nat) (stack : List Int)
    (depth : List Nat) :
    afterLeaf pool M f ((q : Int) :: stack) depth = setDepthLoop pool M f q (-1 :: stack) depth := by
  have : ((q : Int) == -1) = false := by
    simp only [beq_eq_false_iff_ne, ne_eq]; omega
  simp [afterLeaf, this]

theorem visit (pool : List Node) (M : Nat) (hM : M ≤ 15) (t : T) :
    ∀ (p : Nat) (stack : List Int) (depth : List Nat) (f : Nat),
      IsTree pool p t → stack ≠ [] → stack.length ≤ M + 1 →
      (∀ v ∈ t.leaves, v < depth.length) → t.size ≤ f →
      (stack.length - 1 + t.height ≤ M →
        setDepthLoop pool M f p stack depth =
          afterLeaf pool M (f - t.size) stack (assign t (stack.length - 1) depth)) ∧
      (M < stack.length - 1 + t.height →
        ∃ d', setDepthLoop pool M f p stack depth = .ok (false, d') ∧ d'.length = depth.length ∧
          ∀ x, x ∉ t.leaves → d'[x]? = depth[x]?) := by
  induction t with
  | leaf v =>
    intro p stack depth f ht hne hlen hlv hf
    cases ht with
    | leaf hp hl =>
      rename_i c l
      simp only [T.size] at hf
      obtain ⟨f', rfl⟩ : ∃ f', f = f' + 1 := ⟨f - 1, by omega⟩
      have hv : v < depth.length := hlv v (by simp [T.leaves])
      have hlev : (stack.length - 1) % 256 = stack.length - 1 := Nat.mod_eq_of_lt (by omega)
      constructor
      · intro _
        have hl' : ¬ (l ≥ 0) := by omega
        simp only [setDepthLoop, asUsize_natCast, getAt, hp, Out.bind_ok,
          hl', ↓reduceIte, setAt, hv, hlev, T.size,
          Nat.add_sub_cancel, assign]
        rfl
      · intro h; simp only [T.height] at h; omega
  | node tl tr ihl ihr =>
    intro p stack depth f ht hne hlen hlv hf
    cases ht with
    | node hp hpl hpr htl htr =>
      rename_i c pl pr
      simp only [T.size] at hf
      obtain ⟨f', rfl⟩ : ∃ f', f = f' + 1 := ⟨f - 1, by omega⟩
      have hlvl : ∀ v ∈ tl.leaves, v < depth.length := fun v hv => hlv v (by simp [T.leaves, hv])
      have hlvr : ∀ v ∈ tr.leaves, v < depth.length := fun v hv => hlv v (by simp [T.leaves, hv])
      have hslen : 1 ≤ stack.length := by
        cases stack with
        | nil => exact absurd rfl hne
        | cons _ _ => simp
      have hstep : setDepthLoop pool M (f' + 1) p stack depth =
          if (stack.length : Int) > (M : Int) then .ok (false, depth)
          else if stack.length ≥ 16 then .panic
          else setDepthLoop pool M f' (pl : Int) ((pr : Int) :: stack) depth := by
        simp only [setDepthLoop, asUsize_natCast, getAt, hp, Out.bind_ok,
          show ((pl : Int) ≥ 0) from by omega, ↓reduceIte]
      by_cases hdeep : stack.length > M
      · have : (stack.length : Int) > (M : Int) := by omega
        rw [hstep, if_pos this]
        constructor
        · intro h; simp only [T.height] at h; omega
        · intro _; exact ⟨depth, rfl, rfl, fun _ _ => rfl⟩
      · have h1 : ¬ (stack.length : Int) > (M : Int) := by omega
        have h2 : ¬ stack.length ≥ 16 := by omega
        rw [hstep, if_neg h1, if_neg h2]
        have hL := ihl pl ((pr : Int) :: stack) depth f' htl (by simp)
          (by simp only [List.length_cons]; omega) hlvl (by omega)
        simp only [List.length_cons, Nat.add_sub_cancel] at hL
        by_cases hfl : stack.length + tl.height ≤ M
        · rw [hL.1 hfl, afterLeaf_nat]
          have hR := ihr pr (-1 :: stack) (assign tl stack.length depth) (f' - tl.size) htr
            (by simp) (by simp only [List.length_cons]; omega)
            (by intro v hv; rw [assign_length]; exact hlvr v hv) (by omega)
          simp only [List.length_cons, Nat.add_sub_cancel] at hR
          constructor
          · intro hfit
            simp only [T.height] at hfit
            rw [hR.1 (by omega), afterLeaf_neg_one]
            simp only [assign, T.size]
            have e1 : stack.length - 1 + 1 = stack.length := by omega
            have e2 : f' - tl.size - tr.size = f' + 1 - (1 + tl.size + tr.size) := by omega
            rw [e1, e2]
          · intro hno
            simp only [T.height] at hno
            obtain ⟨d', hd1, hd2, hd3⟩ := hR.2 (by omega)
            refine ⟨d', hd1, by rw [hd2, assign_length], ?_⟩
            intro x hx
            simp only [T.leaves, List.mem_append, not_or] at hx
            rw [hd3 x hx.2, assign_other _ _ _ _ hx.1]
        · obtain ⟨d', hd1, hd2, hd3⟩ := hL.2 (by omega)
          constructor
          · intro hfit; simp only [T.height] at hfit; omega
          · intro _
            refine ⟨d', hd1, hd2, ?_⟩
            intro x hx
            simp only [T.leaves, List.mem_append, not_or] at hx
            exact hd3 x hx.1

theorem setDepth_spec (pool : List Node) (M : Nat) (hM : M ≤ 15) (t : T) (p : Nat)
    (depth : List Nat) (ht : IsTree pool p t) (hlv : ∀ v ∈ t.leaves, v < depth.length)
    (hsz : t.size ≤ setDepthFuel) :
    (t.height ≤ M → setDepth (p : Int) pool depth (M : Int) = .ok (true, assign t 0 depth)) ∧
    (M < t.height → ∃ d', setDepth (p : Int) pool depth (M : Int) = .ok (false, d') ∧
        d'.length = depth.length ∧ ∀ x, x ∉ t.leaves → d'[x]? = depth[x]?) := by
  have h := visit pool M hM t p [-1] depth setDepthFuel ht (by simp) (by simp) hlv hsz
  simp only [List.length_cons, List.length_nil, Nat.zero_add, Nat.sub_self] at h
  constructor
  · intro hfit
    unfold setDepth
    rw [h.1 hfit]
    simp [afterLeaf]
  · intro hno
    exact h.2 hno

def kraftT (L : Nat) : T → Nat → Nat
  | .leaf _, lev => 2 ^ (L - lev)
  | .node l r, lev => kraftT L l (lev + 1) + kraftT L r (lev + 1)

theorem kraftT_eq (L : Nat) (t : T) : ∀ lev, lev + t.height ≤ L → kraftT L t lev = 2 ^ (L - lev) := by
  induction t with
  | leaf v => intro lev _; rfl
  | node l r ihl ihr =>
    intro lev h
    simp only [T.height] at h
    simp only [kraftT]
    rw [ihl (lev + 1) (by omega), ihr (lev + 1) (by omega)]
    have : L - lev = (L - (lev + 1)) + 1 := by omega
    rw [this, Nat.pow_succ]; omega

theorem kraftSum_set (L : Nat) (d : List Nat) (v x : Nat) (hv : v < d.length)
    (h0 : d.getD v 0 = 0) (hx : x ≠ 0) :
    kraftSum L (d.set v x) = kraftSum L d + 2 ^ (L - x) := by
  have := BV.sum_map_set (fun l => if l = 0 then 0 else 2 ^ (L - l)) 0 d v x hv
  simp only [h0, ↓reduceIte, Nat.add_zero, hx] at this
  exact this

theorem getD_of_getElem? (d d' : List Nat) (x : Nat) (h : d'[x]? = d[x]?) :
    d'.getD x 0 = d.getD x 0 := by
  simp [List.getD_eq_getElem?_getD, h]

theorem kraft_assign (L : Nat) (t : T) : ∀ (lev : Nat) (d : List Nat), t.leaves.Nodup →
    (∀ v ∈ t.leaves, v < d.length ∧ d.getD v 0 = 0) → (2 ≤ t.leaves.length ∨ 1 ≤ lev) →
    kraftSum L (assign t lev d) = kraftSum L d + kraftT L t lev := by
  induction t with
  | leaf v =>
    intro lev d _ hz hlev
    have := hz v (by simp [T.leaves])
    simp only [assign, kraftT]
    simp only [T.leaves, List.length_cons, List.length_nil] at hlev
    exact kraftSum_set L d v lev this.1 this.2 (by omega)
  | node l r ihl ihr =>
    intro lev d hnd hz hlev
    simp only [T.leaves] at hnd hz
    have hndl := (List.nodup_append.mp hnd).1
    have hndr := (List.nodup_append.mp hnd).2.1
    have hdisj := (List.nodup_append.mp hnd).2.2
    simp only [assign, kraftT]
    rw [ihr (lev + 1) _ hndr ?_ (Or.inr (by omega)), ihl (lev + 1) d hndl
      (fun v hv => hz v (List.mem_append_left _ hv)) (Or.inr (by omega))]
    · omega
    · intro v hv
      have hvl : v ∉ l.leaves := fun h => hdisj v h v hv rfl
      have := hz v (List.mem_append_right _ hv)
      rw [assign_length]
      exact ⟨this.1, by rw [getD_of_getElem? _ _ _ (assign_other l _ _ v hvl)]; exact this.2⟩

theorem assign_leaf (t : T) : ∀ (lev : Nat) (d : List Nat) (v : Nat), v ∈ t.leaves →
    (∀ v ∈ t.leaves, v < d.length) →
    ∃ x, (assign t lev d)[v]? = some x ∧ lev ≤ x ∧ x ≤ lev + t.height := by
  induction t with
  | leaf w =>
    intro lev d v hv hlen
    simp only [T.leaves, List.mem_singleton] at hv
    subst hv
    have := hlen v (by simp [T.leaves])
    exact ⟨lev, by simp [assign, this], Nat.le_refl _, by simp [T.height]⟩
  | node l r ihl ihr =>
    intro lev d v hv hlen
    simp only [T.leaves] at hv hlen
    simp only [assign, T.height]
    by_cases hr : v ∈ r.leaves
    · obtain ⟨x, h1, h2, h3⟩ := ihr (lev + 1) (assign l (lev + 1) d) v hr
        (by intro w hw; rw [assign_length]; exact hlen w (List.mem_append_right _ hw))
      exact ⟨x, h1, by omega, by omega⟩
    · have hl : v ∈ l.leaves := by
        rcases List.mem_append.mp hv with h | h
        · exact h
        · exact absurd h hr
      obtain ⟨x, h1, h2, h3⟩ := ihl (lev + 1) d v hl
        (fun w hw => hlen w (List.mem_append_left _ hw))
      refine ⟨x, ?_, by omega, by omega⟩
      rw [assign_other r _ _ v hr]; exact h1

theorem assign_pointwise (t : T) : ∀ (lev : Nat) (d1 d2 : List Nat) (x : Nat),
    d1.length = d2.length → (∀ v ∈ t.leaves, v < d1.length) →
    (x ∈ t.leaves ∨ d1[x]? = d2[x]?) → (assign t lev d1)[x]? = (assign t lev d2)[x]? := by
  induction t with
  | leaf v =>
    intro lev d1 d2 x hl hlv hx
    have hv := hlv v (by simp [T.leaves])
    simp only [assign]
    by_cases hxv : x = v
    · subst hxv
      rw [List.getElem?_set_self hv, List.getElem?_set_self (by omega)]
    · rw [List.getElem?_set_ne (fun h => hxv h.symm), List.getElem?_set_ne (fun h => hxv h.symm)]
      rcases hx with hx | hx
      · simp [T.leaves] at hx; exact absurd hx hxv
      · exact hx
  | node l r ihl ihr =>
    intro lev d1 d2 x hl hlv hx
    simp only [assign]
    simp only [T.leaves] at hlv hx
    apply ihr (lev + 1) _ _ x (by rw [assign_length, assign_length]; exact hl)
      (by intro v hv; rw [assign_length]; exact hlv v (List.mem_append_right _ hv))
    by_cases hr : x ∈ r.leaves
    · exact Or.inl hr
    · right
      apply ihl (lev + 1) d1 d2 x hl (fun v hv => hlv v (List.mem_append_left _ hv))
      rcases hx with hx | hx
      · rcases List.mem_append.mp hx with h | h
        · exact Or.inl h
        · exact absurd h hr
      · exact Or.inr hx

theorem assign_take (t : T) : ∀ (lev m : Nat) (d : List Nat),
    (assign t lev d).take m = assign t lev (d.take m) := by
  induction t with
  | leaf v => intro lev m d; simp [assign, List.take_set]
  | node l r ihl ihr => intro lev m d; simp [assign, ihl, ihr]

theorem assign_leaf_pos (t : T) (h2 : 2 ≤ t.leaves.length) (d : List Nat) (v : Nat)
    (hv : v ∈ t.leaves) (hlen : ∀ v ∈ t.leaves, v < d.length) :
    ∃ x, (assign t 0 d)[v]? = some x ∧ 1 ≤ x ∧ x ≤ t.height := by
  cases t with
  | leaf w => simp [T.leaves] at h2
  | node l r =>
    simp only [T.leaves] at hv hlen
    simp only [assign, T.height]
    by_cases hr : v ∈ r.leaves
    · obtain ⟨x, h1, h2, h3⟩ := assign_leaf r 1 (assign l 1 d) v hr
        (by intro w hw; rw [assign_length]; exact hlen w (List.mem_append_right _ hw))
      exact ⟨x, h1, by omega, by omega⟩
    · have hl : v ∈ l.leaves := by
        rcases List.mem_append.mp hv with h | h
        · exact h
        · exact absurd h hr
      obtain ⟨x, h1, h2, h3⟩ := assign_leaf l 1 d v hl
        (fun w hw => hlen w (List.mem_append_left _ hw))
      refine ⟨x, ?_, by omega, by omega⟩
      rw [assign_other r _ _ v hr]; exact h1

end BV.Lemmas.HuffmanShape
