/-
C17: the run-length serialisation of a code-length vector
(`BrotliWriteHuffmanTree`) read back by the RFC 7932 §3.5 expansion.  The round trip is proved for
any writer that emits one block per run (`rleWith`, `TakesRuns`) with blocks that meet `BlockOK`;
`BrotliWriteHuffmanTree` is one (`writeBlock`), the fast builder's loop another (its tail `tailF`
is here, the rest in `HuffmanFastStore`).
-/
import BV.Model.Huffman
import BV.Lemmas.ListNat

namespace BV.Lemmas.HuffmanRle
open BV.Huffman

/-- Repeat count denoted by a block of repeat codes whose extra-bits values are
`D` in *emission* order (the decoder reads them last-to-first), chaining factor
`k` (4 for code 16, 8 for code 17): the decoder's recurrence. -/
def valD (k : Nat) : List Nat → Nat
  | [] => 0
  | e :: rest => (if valD k rest > 0 then k * (valD k rest - 2) else 0) + 3 + e

theorem valD_ge_three (k : Nat) (D : List Nat) (h : D ≠ []) : 3 ≤ valD k D := by
  cases D with
  | nil => exact absurd rfl h
  | cons e rest => simp only [valD]; omega

theorem valD_repDigits (b : Nat) (r : Nat) : valD (2 ^ b) (repDigits b r) = r + 3 := by
  induction r using Nat.strongRecOn with
  | _ r ih =>
    rw [repDigits]
    have hdm := Nat.div_add_mod r (2 ^ b)
    have hle := Nat.div_le_self r (2 ^ b)
    generalize r / 2 ^ b = q at *
    by_cases hq : q = 0
    · subst hq
      simp only [↓reduceDIte, valD, gt_iff_lt, Nat.lt_irrefl, ↓reduceIte]
      omega
    · simp only [hq, ↓reduceDIte, valD]
      rw [ih (q - 1) (by omega)]
      simp only [show q - 1 + 3 > 0 by omega, ↓reduceIte, show q - 1 + 3 - 2 = q by omega]
      omega

/-- with the literal `4` (`8`) of the block lemmas: `rw` does not see `2 ^ 2` in it -/
theorem valD_repDigits2 (r : Nat) : valD 4 (repDigits 2 r) = r + 3 := valD_repDigits 2 r

theorem valD_repDigits3 (r : Nat) : valD 8 (repDigits 3 r) = r + 3 := valD_repDigits 3 r

theorem repDigits_ne_nil (b r : Nat) : repDigits b r ≠ [] := by
  rw [repDigits]; simp

theorem repDigits_lt (b : Nat) (r : Nat) : ∀ e ∈ repDigits b r, e < 2 ^ b := by
  induction r using Nat.strongRecOn with
  | _ r ih =>
    rw [repDigits]
    intro e he
    simp only [List.mem_cons] at he
    rcases he with rfl | he
    · exact Nat.mod_lt _ (Nat.pow_pos (by decide))
    · split at he
      · simp at he
      · rename_i hq
        have hlt : r / 2 ^ b - 1 < r := by
          have hle := Nat.div_le_self r (2 ^ b)
          revert hq hle
          generalize r / 2 ^ b = q
          omega
        exact ih _ hlt e he

def run (s : ExpandState) (l : List (Nat × Nat)) : ExpandState :=
  l.foldl (fun s p => expandStep s p.1 p.2) s

theorem run_append (s : ExpandState) (a b : List (Nat × Nat)) :
    run s (a ++ b) = run (run s a) b := List.foldl_append ..

@[simp] theorem run_nil (s : ExpandState) : run s [] = s := rfl
@[simp] theorem run_cons (s : ExpandState) (p : Nat × Nat) (l : List (Nat × Nat)) :
    run s (p :: l) = run (expandStep s p.1 p.2) l := rfl

theorem rfcExpand_eq_run (l : List (Nat × Nat)) :
    rfcExpandCodeLengths l = (run ⟨[], 8, none⟩ l).out := rfl

theorem stepLit (s : ExpandState) (v e : Nat) (h : v < 16) :
    expandStep s v e = ⟨s.out ++ [v], if v ≠ 0 then v else s.prevNonZero, none⟩ := by
  simp [expandStep, h]

theorem blockRep (sym k v : Nat) (hk : 1 ≤ k) (D : List Nat) (hD : D ≠ []) (s : ExpandState)
    (hstep : ∀ (t : ExpandState) (e : Nat), t.prevNonZero = s.prevNonZero → expandStep t sym e =
      ⟨t.out ++ List.replicate
          ((if pendingRepeat t v > 0 then k * (pendingRepeat t v - 2) else 0) + 3 + e - pendingRepeat t v) v,
        t.prevNonZero, some (v, (if pendingRepeat t v > 0 then k * (pendingRepeat t v - 2) else 0) + 3 + e)⟩)
    (h0 : pendingRepeat s v = 0) :
    run s (D.reverse.map fun e => (sym, e)) =
      ⟨s.out ++ List.replicate (valD k D) v, s.prevNonZero, some (v, valD k D)⟩ := by
  induction D with
  | nil => exact absurd rfl hD
  | cons e rest ih =>
    rw [List.reverse_cons, List.map_append, run_append]
    by_cases hr : rest = []
    · subst hr
      simp only [List.reverse_nil, List.map_nil, run_nil, List.map_cons, run_cons, hstep s e rfl,
        h0, valD]
      simp
    · rw [ih hr, List.map_cons, List.map_nil, run_cons, run_nil]
      rw [show ((sym, e) : Nat × Nat).1 = sym from rfl, show ((sym, e) : Nat × Nat).2 = e from rfl,
        hstep ⟨s.out ++ List.replicate (valD k rest) v, s.prevNonZero, some (v, valD k rest)⟩ e rfl]
      have h3 := valD_ge_three k rest hr
      simp only [pendingRepeat, valD, ↓reduceIte]
      simp only [show valD k rest > 0 by omega, ↓reduceIte, List.append_assoc,
        List.replicate_append_replicate]
      congr 3
      have := Nat.le_mul_of_pos_left (valD k rest - 2) hk
      omega

theorem block16 (D : List Nat) (hD : D ≠ []) (s : ExpandState)
    (h0 : pendingRepeat s s.prevNonZero = 0) :
    run s (D.reverse.map fun e => (16, e)) =
      ⟨s.out ++ List.replicate (valD 4 D) s.prevNonZero, s.prevNonZero,
        some (s.prevNonZero, valD 4 D)⟩ :=
  blockRep 16 4 s.prevNonZero (by decide) D hD s (fun t e ht => by simp [expandStep, ht]) h0

theorem block17 (D : List Nat) (hD : D ≠ []) (s : ExpandState)
    (h0 : pendingRepeat s 0 = 0) :
    run s (D.reverse.map fun e => (17, e)) =
      ⟨s.out ++ List.replicate (valD 8 D) 0, s.prevNonZero, some (0, valD 8 D)⟩ :=
  blockRep 17 8 0 (by decide) D hD s (fun t e _ => by simp [expandStep]) h0

theorem blockLit (n v : Nat) (hv : v < 16) (s : ExpandState) :
    run s (List.replicate n (v, 0)) =
      if n = 0 then s
      else ⟨s.out ++ List.replicate n v, if v ≠ 0 then v else s.prevNonZero, none⟩ := by
  induction n generalizing s with
  | zero => simp
  | succ n ih =>
    rw [List.replicate_succ, run_cons, ih, stepLit _ _ _ hv]
    by_cases hn : n = 0
    · subst hn; simp
    · simp only [hn, ↓reduceIte, Nat.add_eq_zero_iff, Nat.succ_ne_self, and_false,
        List.append_assoc, List.singleton_append]
      simp only [List.replicate_succ, ExpandState.mk.injEq, true_and, and_true]
      by_cases hv0 : v = 0 <;> simp [hv0]

def BlockOK (E : List (Nat × Nat)) (s : ExpandState) (v reps : Nat) : Prop :=
  (run s E).out = s.out ++ List.replicate reps v ∧
  (run s E).prevNonZero = (if v = 0 then s.prevNonZero else v) ∧
  ∀ x, pendingRepeat (run s E) x ≠ 0 → x = v ∧ 3 ≤ reps

theorem zerosBlock (reps : Nat) (h1 : 1 ≤ reps) (s : ExpandState) (h0 : pendingRepeat s 0 = 0) :
    BlockOK (writeRepsZeros reps) s 0 reps := by
  unfold BlockOK writeRepsZeros
  rw [if_pos rfl]
  by_cases h11 : reps = 11
  · subst h11
    simp only [↓reduceIte, show ¬ (10 < 3) by decide, run_append]
    have hl : run s [(0, 0)] = ⟨s.out ++ [0], s.prevNonZero, none⟩ := by
      simp [stepLit]
    rw [hl, block17 _ (repDigits_ne_nil 3 _) _ (by simp [pendingRepeat]), valD_repDigits3]
    refine ⟨by simp [List.replicate_succ], rfl, ?_⟩
    intro x hx
    simp only [pendingRepeat] at hx
    split at hx <;> simp_all
  · simp only [h11, ↓reduceIte, List.nil_append]
    by_cases h3 : reps < 3
    · simp only [h3, ↓reduceIte]
      rw [blockLit _ _ (by decide)]
      simp only [show reps ≠ 0 by omega, ↓reduceIte, ne_eq, not_true_eq_false]
      refine ⟨by first | rfl | trivial, by first | rfl | trivial, ?_⟩
      intro x hx; simp [pendingRepeat] at hx
    · simp only [h3, ↓reduceIte]
      rw [block17 _ (repDigits_ne_nil 3 _) _ h0, valD_repDigits3]
      have e : reps - 3 + 3 = reps := by omega
      rw [e]
      refine ⟨rfl, rfl, ?_⟩
      intro x hx
      simp only [pendingRepeat] at hx
      split at hx <;> simp_all <;> omega

/-- `writeRepsTail` as the fast builder has it: no special case for 7 -/
def tailF (v r : Nat) : List (Nat × Nat) :=
  if r < 3 then List.replicate r (v, 0) else (repDigits 2 (r - 3)).reverse.map fun e => (16, e)

theorem tailBlockF (v r : Nat) (hv0 : v ≠ 0) (hv : v < 16) (s1 : ExpandState)
    (hp1 : s1.prevNonZero = v) (h01 : pendingRepeat s1 v = 0) (hr0 : r = 0 → s1.rep = none) :
    BlockOK (tailF v r) s1 v r := by
  unfold BlockOK tailF
  rw [if_neg hv0]
  by_cases h3 : r < 3
  · simp only [h3, ↓reduceIte]
    rw [blockLit _ _ hv]
    by_cases hr : r = 0
    · subst hr
      simp only [↓reduceIte, List.replicate_zero, List.append_nil, true_and]
      refine ⟨hp1, ?_⟩
      intro x hx
      simp [pendingRepeat, hr0 rfl] at hx
    · simp only [hr, ↓reduceIte, ne_eq, hv0, not_false_eq_true]
      refine ⟨by first | rfl | trivial, by first | rfl | trivial, ?_⟩
      intro x hx; simp [pendingRepeat] at hx
  · simp only [h3, ↓reduceIte]
    rw [block16 _ (repDigits_ne_nil 2 _) _ (by rw [hp1]; exact h01), valD_repDigits2]
    have e : r - 3 + 3 = r := by omega
    rw [e, hp1]
    refine ⟨rfl, rfl, ?_⟩
    intro x hx
    simp only [pendingRepeat] at hx
    split at hx <;> simp_all <;> omega

def EntryShape (b : Nat) (e : Nat × Nat) : Prop :=
  (e.1 < b ∧ e.2 = 0) ∨ (e.1 = 16 ∧ e.2 < 4) ∨ (e.1 = 17 ∧ e.2 < 8)

theorem shape_tailF (b v r : Nat) (hv : v < b) : ∀ e ∈ tailF v r, EntryShape b e := by
  intro e he
  unfold tailF at he
  split at he
  · rw [List.mem_replicate] at he; rw [he.2]; exact Or.inl ⟨hv, rfl⟩
  · simp only [List.mem_map, List.mem_reverse] at he
    obtain ⟨x, hx, rfl⟩ := he
    exact Or.inr (Or.inl ⟨rfl, repDigits_lt 2 _ x hx⟩)

theorem shape_zeros (b reps : Nat) (hb : 0 < b) : ∀ e ∈ writeRepsZeros reps, EntryShape b e := by
  intro e he
  unfold writeRepsZeros at he
  by_cases h11 : reps = 11
  · subst h11
    simp only [↓reduceIte, show ¬ (10 < 3) by decide, List.mem_append, List.mem_cons,
      List.not_mem_nil, or_false, List.mem_map, List.mem_reverse] at he
    rcases he with rfl | ⟨x, hx, rfl⟩
    · exact Or.inl ⟨hb, rfl⟩
    · exact Or.inr (Or.inr ⟨rfl, repDigits_lt 3 _ x hx⟩)
  · simp only [h11, ↓reduceIte, List.nil_append] at he
    by_cases h3 : reps < 3
    · simp only [h3, ↓reduceIte] at he
      rw [List.mem_replicate] at he; rw [he.2]; exact Or.inl ⟨hb, rfl⟩
    · simp only [h3, ↓reduceIte, List.mem_map, List.mem_reverse] at he
      obtain ⟨x, hx, rfl⟩ := he
      exact Or.inr (Or.inr ⟨rfl, repDigits_lt 3 _ x hx⟩)

theorem shape_lit (b v : Nat) (hv : v < b) (c : Prop) [Decidable c] (T : List (Nat × Nat))
    (hT : ∀ e ∈ T, EntryShape b e) : ∀ e ∈ (if c then [(v, 0)] else []) ++ T, EntryShape b e := by
  intro e he
  rcases List.mem_append.mp he with he | he
  · split at he
    · rw [List.mem_singleton.mp he]; exact Or.inl ⟨hv, rfl⟩
    · cases he
  · exact hT e he

def writeRepsTail (v r : Nat) : List (Nat × Nat) :=
  (if r = 7 then [(v, 0)] else []) ++
    (if (if r = 7 then 6 else r) < 3 then List.replicate (if r = 7 then 6 else r) (v, 0)
     else (repDigits 2 ((if r = 7 then 6 else r) - 3)).reverse.map fun e => (16, e))

theorem writeReps_eq (prev v reps : Nat) :
    writeReps prev v reps =
      (if prev ≠ v then [(v, 0)] else []) ++
        writeRepsTail v (if prev ≠ v then (reps + u64 - 1) % u64 else reps) := by
  unfold writeReps writeRepsTail
  by_cases h : prev = v <;> simp only [h, ne_eq, not_true_eq_false, not_false_eq_true, ↓reduceIte,
    List.append_assoc] <;> split <;> split <;> rfl

theorem tailBlock (v r : Nat) (hv0 : v ≠ 0) (hv : v < 16) (s1 : ExpandState)
    (hp1 : s1.prevNonZero = v) (h01 : pendingRepeat s1 v = 0) (hr0 : r = 0 → s1.rep = none) :
    BlockOK (writeRepsTail v r) s1 v r := by
  unfold writeRepsTail
  by_cases h7 : r = 7
  · subst h7
    unfold BlockOK
    rw [if_neg hv0]
    simp only [↓reduceIte, show ¬ (6 < 3) by decide, run_append]
    have hl : run s1 [(v, 0)] = ⟨s1.out ++ [v], v, none⟩ := by
      simp [stepLit, hv, hv0]
    rw [hl, block16 _ (repDigits_ne_nil 2 _) _ (by simp [pendingRepeat]), valD_repDigits2]
    refine ⟨by simp [List.replicate_succ], rfl, ?_⟩
    intro x hx
    simp only [pendingRepeat] at hx
    split at hx <;> simp_all
  · simp only [h7, ↓reduceIte, List.nil_append]
    exact tailBlockF v r hv0 hv s1 hp1 h01 hr0

theorem BlockOK.lit_tail (T : Nat → List (Nat × Nat)) (prev v reps : Nat) (hv0 : v ≠ 0) (hv : v < 16)
    (h1 : 1 ≤ reps) (s : ExpandState) (hp : s.prevNonZero = prev) (h0 : pendingRepeat s v = 0)
    (hT : ∀ r s1, s1.prevNonZero = v → pendingRepeat s1 v = 0 → (r = 0 → s1.rep = none) →
      BlockOK (T r) s1 v r) :
    BlockOK ((if prev ≠ v then [(v, 0)] else []) ++ T (if prev ≠ v then reps - 1 else reps))
      s v reps := by
  by_cases hpv : prev = v
  · simp only [hpv, ne_eq, not_true_eq_false, ↓reduceIte, List.nil_append]
    exact hT reps s (hp.trans hpv) h0 (fun h => by omega)
  · obtain ⟨a, b, c⟩ := hT (reps - 1) ⟨s.out ++ [v], v, none⟩ rfl (by simp [pendingRepeat])
      (fun _ => rfl)
    have e : run s ([(v, 0)] ++ T (reps - 1)) = run ⟨s.out ++ [v], v, none⟩ (T (reps - 1)) := by
      rw [run_append, run_cons, run_nil, stepLit s v 0 hv, if_pos hv0]
    simp only [ne_eq, hpv, not_false_eq_true, ↓reduceIte]
    unfold BlockOK
    rw [e, if_neg hv0]
    rw [if_neg hv0] at b
    refine ⟨?_, b, fun x hx => ⟨(c x hx).1, by have := (c x hx).2; omega⟩⟩
    rw [a, List.append_assoc, List.singleton_append, ← List.replicate_succ]
    congr 2; omega

theorem nzBlock (prev v reps : Nat) (hv0 : v ≠ 0) (hv : v < 16) (h1 : 1 ≤ reps) (hr : reps < u64)
    (s : ExpandState) (hp : s.prevNonZero = prev) (h0 : pendingRepeat s v = 0) :
    BlockOK (writeReps prev v reps) s v reps := by
  rw [writeReps_eq, BV.pred_mod reps u64 h1 hr]
  exact BlockOK.lit_tail (writeRepsTail v) prev v reps hv0 hv h1 s hp h0
    fun r s1 => tailBlock v r hv0 hv s1

theorem take_runLen (v : Nat) (l : List Nat) (k : Nat) (hk : k ≤ runLen v l) :
    l.take k = List.replicate k v := by
  induction l generalizing k with
  | nil => simp [runLen] at hk; subst hk; rfl
  | cons x xs ih =>
    cases k with
    | zero => rfl
    | succ k =>
      simp only [runLen] at hk
      split at hk
      · rename_i hx
        subst hx
        simp [List.replicate_succ, ih k (by omega)]
      · omega

theorem head_drop_runLen (v : Nat) (l : List Nat) : (l.drop (runLen v l)).head? ≠ some v := by
  induction l with
  | nil => simp [runLen]
  | cons x xs ih =>
    simp only [runLen]
    split
    · simpa using ih
    · rename_i hx; simp; exact hx

/-- the invariant of `rleWith_roundtrip` between blocks -/
def Good (s : ExpandState) (l : List Nat) : Prop :=
  ∀ x, l.head? = some x → pendingRepeat s x = 0

def rleWith (R : Nat → List Nat → Nat) (B : Nat → Nat → Nat → List (Nat × Nat)) :
    Nat → List Nat → List (Nat × Nat)
  | _, [] => []
  | prev, v :: rest =>
    B prev v (R v rest) ++ rleWith R B (if v = 0 then prev else v) (rest.drop (R v rest - 1))
termination_by _ l => l.length
decreasing_by all_goals (simp; omega)

/-- `3 ≤ R v rest`: such a block can leave a repeat code pending, so it has to take the whole run -/
def TakesRuns (R : Nat → List Nat → Nat) : Prop :=
  ∀ v rest, 1 ≤ R v rest ∧ R v rest - 1 ≤ runLen v rest ∧ (3 ≤ R v rest → R v rest - 1 = runLen v rest)

theorem rleWith_roundtrip (R : Nat → List Nat → Nat) (B : Nat → Nat → Nat → List (Nat × Nat))
    (hR : TakesRuns R) (bound : Nat)
    (hB : ∀ prev v reps s, v < 16 → 1 ≤ reps → reps < bound → s.prevNonZero = prev → pendingRepeat s v = 0 →
      BlockOK (B prev v reps) s v reps) :
    ∀ (n : Nat) (l : List Nat), l.length = n → l.length < bound → (∀ x ∈ l, x < 16) →
    ∀ (prev : Nat) (s : ExpandState), s.prevNonZero = prev → Good s l →
      (run s (rleWith R B prev l)).out = s.out ++ l := by
  intro n
  induction n using Nat.strongRecOn with
  | _ n ih =>
    intro l hn hlen hlt prev s hp hg
    cases l with
    | nil => rw [rleWith]; simp
    | cons v rest =>
      rw [rleWith, run_append]
      obtain ⟨hreps1, hrepsle, hmax⟩ := hR v rest
      generalize R v rest = reps at hreps1 hrepsle hmax
      have hrl := runLen_le v rest
      have hlen' : (v :: rest).length = rest.length + 1 := rfl
      have hsplit : v :: rest = List.replicate reps v ++ rest.drop (reps - 1) := by
        have h1 : reps = (reps - 1) + 1 := by omega
        conv => rhs; rw [h1, List.replicate_succ, ← take_runLen v rest (reps - 1) hrepsle]
        simp
      obtain ⟨ho, hpz, hpost⟩ := hB prev v reps s (hlt v (by simp)) hreps1
        (by rw [hlen'] at hlen; omega) hp (hg v rfl)
      rw [ih _ (by rw [List.length_drop, ← hn, hlen']; omega) _ rfl
        (by rw [List.length_drop]; rw [hlen'] at hlen; omega)
        (fun x hx => hlt x (List.mem_cons_of_mem _ (List.mem_of_mem_drop hx))) _ _
        (by rw [hpz, hp])]
      · rw [ho, List.append_assoc, ← hsplit]
      · intro x hx
        refine Decidable.byContradiction fun hox => ?_
        obtain ⟨hxv, h3⟩ := hpost x hox
        subst hxv
        rw [hmax h3] at hx
        exact head_drop_runLen x rest hx

theorem rleWith_forall (R : Nat → List Nat → Nat) (B : Nat → Nat → Nat → List (Nat × Nat))
    (P : Nat × Nat → Prop) (Q : Nat → Prop) (hB : ∀ prev v reps, Q v → ∀ e ∈ B prev v reps, P e) :
    ∀ (n : Nat) (l : List Nat), l.length = n → (∀ x ∈ l, Q x) → ∀ prev,
      ∀ e ∈ rleWith R B prev l, P e := by
  intro n
  induction n using Nat.strongRecOn with
  | _ n ih =>
    intro l hn hl prev e he
    cases l with
    | nil => rw [rleWith] at he; cases he
    | cons v rest =>
      rw [rleWith] at he
      rcases List.mem_append.mp he with he | he
      · exact hB _ _ _ (hl v (by simp)) e he
      · exact ih _ (by rw [List.length_drop, ← hn]; simp; omega) _ rfl
          (fun x hx => hl x (List.mem_cons_of_mem _ (List.mem_of_mem_drop hx))) _ e he

theorem rleWith_length (R : Nat → List Nat → Nat) (B : Nat → Nat → Nat → List (Nat × Nat))
    (hR : TakesRuns R) (bound : Nat)
    (hB : ∀ prev v reps, 1 ≤ reps → reps < bound → (B prev v reps).length ≤ reps) :
    ∀ (n : Nat) (l : List Nat), l.length = n → l.length < bound → ∀ prev,
      (rleWith R B prev l).length ≤ l.length := by
  intro n
  induction n using Nat.strongRecOn with
  | _ n ih =>
    intro l hn hlen prev
    cases l with
    | nil => rw [rleWith]; simp
    | cons v rest =>
      rw [rleWith, List.length_append]
      obtain ⟨h1, h2, _⟩ := hR v rest
      have hrl := runLen_le v rest
      have hlen' : (v :: rest).length = rest.length + 1 := rfl
      have := hB prev v (R v rest) h1 (by rw [hlen'] at hlen; omega)
      have := ih _ (by rw [List.length_drop, ← hn, hlen']; omega) (rest.drop (R v rest - 1)) rfl
        (by rw [List.length_drop]; rw [hlen'] at hlen; omega) (if v = 0 then prev else v)
      rw [List.length_drop] at this
      rw [hlen']; omega

def writeBlock (prev v reps : Nat) : List (Nat × Nat) :=
  if v = 0 then writeRepsZeros reps else writeReps prev v reps

theorem shape_writeBlock (b prev v reps : Nat) (hv : v < b) :
    ∀ e ∈ writeBlock prev v reps, EntryShape b e := by
  unfold writeBlock
  split
  · exact shape_zeros b reps (by omega)
  · rw [writeReps_eq]
    exact shape_lit b v hv _ _ (shape_lit b v hv _ _ (shape_tailF b v _ hv))

theorem writeLoop_eq (useNZ useZ : Bool) : ∀ (n : Nat) (l : List Nat), l.length = n → ∀ prev,
    writeLoop useNZ useZ prev l =
      rleWith (fun v rest => if (v ≠ 0 ∧ useNZ) ∨ (v = 0 ∧ useZ) then 1 + runLen v rest else 1)
        writeBlock prev l := by
  intro n
  induction n using Nat.strongRecOn with
  | _ n ih =>
    intro l hn prev
    cases l with
    | nil => rw [writeLoop, rleWith]
    | cons v rest =>
      rw [writeLoop, rleWith]
      have hd : ∀ k, (rest.drop k).length < n := fun k => by
        rw [List.length_drop, ← hn]; simp; omega
      by_cases hv0 : v = 0
      · simp only [hv0, ↓reduceIte, writeBlock]; rw [ih _ (hd _) _ rfl]
      · simp only [hv0, ↓reduceIte, writeBlock]; rw [ih _ (hd _) _ rfl]

theorem takesRuns_writeLoop (useNZ useZ : Bool) :
    TakesRuns fun v rest => if (v ≠ 0 ∧ useNZ) ∨ (v = 0 ∧ useZ) then 1 + runLen v rest else 1 := by
  intro v rest
  have := runLen_le v rest
  dsimp only
  split <;> omega

theorem writeLoop_roundtrip (useNZ useZ : Bool) :
    ∀ (n : Nat) (l : List Nat), l.length = n → l.length < u64 → (∀ x ∈ l, x < 16) →
    ∀ (prev : Nat) (s : ExpandState), s.prevNonZero = prev → Good s l →
      (run s (writeLoop useNZ useZ prev l)).out = s.out ++ l := by
  intro n l hn hlen hlt prev s hp hg
  rw [writeLoop_eq useNZ useZ n l hn]
  refine rleWith_roundtrip _ _ (takesRuns_writeLoop useNZ useZ) u64
    (fun prev v reps s hv h1 hb hp h0 => ?_) n l hn hlen hlt prev s hp hg
  unfold writeBlock
  split
  · next h => subst h; exact zerosBlock reps h1 s h0
  · next h => exact nzBlock prev v reps h hv h1 hb s hp h0

theorem trim_lt (d : List Nat) (h : ∀ x ∈ d, x < 16) : ∀ x ∈ trimTrailingZeros d, x < 16 := by
  intro x hx
  unfold trimTrailingZeros at hx
  rw [List.mem_reverse] at hx
  exact h x (List.mem_reverse.mp ((List.dropWhile_sublist _).mem hx))

theorem trim_length_le (d : List Nat) : (trimTrailingZeros d).length ≤ d.length := by
  unfold trimTrailingZeros
  rw [List.length_reverse]
  have := (List.dropWhile_sublist (fun x => x == 0) (l := d.reverse)).length_le
  simpa using this

theorem dropWhile_zero_pad (l : List Nat) :
    List.replicate (l.length - (l.dropWhile (· == 0)).length) 0 ++ l.dropWhile (· == 0) = l := by
  induction l with
  | nil => rfl
  | cons x xs ih =>
    by_cases hx : x = 0
    · subst hx
      simp only [List.dropWhile_cons, beq_self_eq_true, ↓reduceIte, List.length_cons]
      have hle : (xs.dropWhile (· == 0)).length ≤ xs.length := (List.dropWhile_sublist _).length_le
      have : xs.length + 1 - (xs.dropWhile (· == 0)).length
          = (xs.length - (xs.dropWhile (· == 0)).length) + 1 := by omega
      rw [this, List.replicate_succ, List.cons_append, ih]
    · simp [hx]

theorem trim_pad (d : List Nat) :
    trimTrailingZeros d ++ List.replicate (d.length - (trimTrailingZeros d).length) 0 = d := by
  unfold trimTrailingZeros
  have := dropWhile_zero_pad d.reverse
  have h2 := congrArg List.reverse this
  simp only [List.reverse_append, List.reverse_replicate, List.reverse_reverse,
    List.length_reverse] at h2 ⊢
  exact h2

theorem repDigits_length (b r : Nat) : (repDigits b r).length ≤ r + 1 := by
  induction r using Nat.strongRecOn with
  | _ r ih =>
    rw [repDigits]
    by_cases hq : r / 2 ^ b = 0
    · simp [hq]
    · simp only [hq, ↓reduceDIte, List.length_cons]
      have hle : r / 2 ^ b ≤ r := Nat.div_le_self _ _
      generalize r / 2 ^ b = q at hq hle ⊢
      have := ih (q - 1) (by omega)
      omega

theorem tailF_length (v r : Nat) : (tailF v r).length ≤ r := by
  unfold tailF
  split
  · simp
  · have := repDigits_length 2 (r - 3)
    simp only [List.length_map, List.length_reverse]; omega

theorem writeRepsZeros_length (reps : Nat) (h1 : 1 ≤ reps) :
    (writeRepsZeros reps).length ≤ reps := by
  unfold writeRepsZeros
  by_cases h11 : reps = 11
  · subst h11
    have := repDigits_length 3 (10 - 3)
    simp only [↓reduceIte, show ¬ (10 < 3) by decide, List.length_append, List.length_cons,
      List.length_nil, List.length_map, List.length_reverse]
    omega
  · simp only [h11, ↓reduceIte, List.nil_append]
    split
    · simp
    · have := repDigits_length 3 (reps - 3)
      simp only [List.length_map, List.length_reverse]
      omega

theorem writeRepsTail_length (v r : Nat) : (writeRepsTail v r).length ≤ r := by
  unfold writeRepsTail
  by_cases h7 : r = 7
  · subst h7
    have := repDigits_length 2 (6 - 3)
    simp only [↓reduceIte, show ¬ (6 < 3) by decide, List.length_append, List.length_cons,
      List.length_nil, List.length_map, List.length_reverse]
    omega
  · simp only [h7, ↓reduceIte, List.nil_append]
    split
    · simp
    · have := repDigits_length 2 (r - 3)
      simp only [List.length_map, List.length_reverse]
      omega

theorem writeReps_length (prev v reps : Nat) (h1 : 1 ≤ reps) (hr : reps < u64) :
    (writeReps prev v reps).length ≤ reps := by
  rw [writeReps_eq]
  by_cases hpv : prev = v
  · simp only [hpv, ne_eq, not_true_eq_false, ↓reduceIte, List.nil_append]
    exact writeRepsTail_length v reps
  · simp only [ne_eq, hpv, not_false_eq_true, ↓reduceIte, BV.pred_mod reps u64 h1 hr,
      List.length_append, List.length_cons, List.length_nil]
    have := writeRepsTail_length v (reps - 1)
    omega

theorem writeLoop_length (useNZ useZ : Bool) :
    ∀ (n : Nat) (l : List Nat), l.length = n → l.length < u64 → ∀ prev,
      (writeLoop useNZ useZ prev l).length ≤ l.length := by
  intro n l hn hlen prev
  rw [writeLoop_eq useNZ useZ n l hn]
  refine rleWith_length _ _ (takesRuns_writeLoop useNZ useZ) u64 (fun prev v reps h1 hb => ?_)
    n l hn hlen prev
  unfold writeBlock
  split
  · exact writeRepsZeros_length reps h1
  · exact writeReps_length prev v reps h1 hb

end BV.Lemmas.HuffmanRle
