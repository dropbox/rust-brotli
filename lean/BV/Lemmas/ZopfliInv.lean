import BV.Lemmas.ZopfliBack
/-! The invariant of the Zopfli dynamic programme (`UpdateNodes` / `EvaluateNode`), its spec-side notions
(`Hist`: the distances pushed along a backward chain; `SC`: what a `shortcut` value means) and the lemma that
writing one sound node keeps it. -/
namespace BV.Zopfli
open BV.Hasher BV.MatchFinder BV.Recoder BV.PrefixArith BV.MetaBlock BV.Cbr

def SameData {K : Type} (n n' : Node K) : Prop :=
  n'.length = n.length ∧ n'.distance = n.distance ∧ n'.dcil = n.dcil

theorem SameData.copyLength {K : Type} {n n' : Node K} (h : SameData n n') : n'.copyLength = n.copyLength := by
  simp only [Node.copyLength, h.1]
theorem SameData.insertLength {K : Type} {n n' : Node K} (h : SameData n n') : n'.insertLength = n.insertLength := by
  simp only [Node.insertLength, h.2.2]
theorem SameData.distanceCode {K : Type} {n n' : Node K} (h : SameData n n') : n'.distanceCode = n.distanceCode := by
  unfold Node.distanceCode Node.shortCode
  rw [h.2.1, h.2.2]
theorem SameData.isStub {K : Type} {n n' : Node K} (h : SameData n n') : n'.isStub ↔ n.isStub := by
  simp only [Node.isStub, h.insertLength, h.1]

def DataLe {K : Type} (nodes nodes' : Array (Node K)) (b : Nat) : Prop :=
  ∀ (i : Nat) (n : Node K), i ≤ b → nodes[i]? = some n → ∃ n' : Node K, nodes'[i]? = some n' ∧ SameData n n'

theorem DataLe.mono {K : Type} {nodes nodes' : Array (Node K)} {b b' : Nat} (h : DataLe nodes nodes' b) (hb : b' ≤ b) :
    DataLe nodes nodes' b' := fun i n hi hn => h i n (by omega) hn

theorem RingAt.congrLe {K : Type} {window base : Nat} {nodes nodes' : Array (Node K)} {start : List Int}
    {e : Nat} {r : List Int} (h : RingAt window base nodes start e r) (hsame : DataLe nodes nodes' e) :
    RingAt window base nodes' start e r := by
  induction h with
  | zero => exact RingAt.zero
  | step n he hn hs hc hle _ ih =>
    obtain ⟨n', hn', hd⟩ := hsame _ n (Nat.le_refl _) hn
    have := RingAt.step (window := window) (base := base) (start := start) n' he hn'
      (by rw [hd.isStub]; exact hs) (by rw [hd.copyLength]; exact hc) (by rw [hd.copyLength, hd.insertLength]; exact hle)
      (by rw [hd.copyLength, hd.insertLength]; exact ih (hsame.mono (by omega)))
    rw [ringAfter_congr window _ _ n n' hd.2.1 hd.2.2, hd.copyLength] at this
    exact this

theorem RingAt.congr {K : Type} {window base : Nat} {nodes nodes' : Array (Node K)} {start : List Int}
    (hsame : ∀ (i : Nat) (n : Node K), nodes[i]? = some n → ∃ n' : Node K, nodes'[i]? = some n' ∧ n'.length = n.length ∧ n'.distance = n.distance ∧ n'.dcil = n.dcil)
    {e : Nat} {r : List Int} (h : RingAt window base nodes start e r) : RingAt window base nodes' start e r :=
  h.congrLe fun i n _ hn => hsame i n hn

inductive Hist {K : Type} (window base : Nat) (nodes : Array (Node K)) : Nat → List Int → Prop
  | zero : Hist window base nodes 0 []
  | step {e : Nat} {P : List Int} (n : Node K) : e ≠ 0 → nodes[e]? = some n → ¬ n.isStub → 0 < n.copyLength →
      n.insertLength + n.copyLength ≤ e →
      Hist window base nodes (e - (n.insertLength + n.copyLength)) P →
      Hist window base nodes e
        (if n.distance ≤ min (base + e - n.copyLength) window ∧ n.distanceCode ≠ 0 then (n.distance : Int) :: P else P)

theorem Hist.det {K : Type} {window base : Nat} {nodes : Array (Node K)} {e : Nat} {P P' : List Int}
    (h : Hist window base nodes e P) (h' : Hist window base nodes e P') : P = P' := by
  induction h generalizing P' with
  | zero =>
    cases h' with
    | zero => rfl
    | step n he _ _ _ _ _ => exact absurd rfl he
  | step n he hn _ _ _ _ ih =>
    cases h' with
    | zero => exact absurd rfl he
    | step n' _ hn' _ _ _ hr' =>
      rw [hn] at hn'
      injection hn' with hn'
      subst hn'
      rw [ih hr']

theorem Hist.congrLe {K : Type} {window base : Nat} {nodes nodes' : Array (Node K)}
    {e : Nat} {P : List Int} (h : Hist window base nodes e P) (hsame : DataLe nodes nodes' e) :
    Hist window base nodes' e P := by
  induction h with
  | zero => exact Hist.zero
  | step n he hn hs hc hle _ ih =>
    obtain ⟨n', hn', hd⟩ := hsame _ n (Nat.le_refl _) hn
    have := Hist.step (window := window) (base := base) n' he hn'
      (by rw [hd.isStub]; exact hs) (by rw [hd.copyLength]; exact hc) (by rw [hd.copyLength, hd.insertLength]; exact hle)
      (by rw [hd.copyLength, hd.insertLength]; exact ih (hsame.mono (by omega)))
    rw [hd.copyLength, hd.distanceCode, hd.2.1] at this
    exact this

theorem take4_push (d : Int) (P start : List Int) :
    d :: ((P ++ start).take 4).take 3 = ((d :: P) ++ start).take 4 := by
  rw [List.take_take]
  simp

theorem Hist.ringAt {K : Type} {window base : Nat} {nodes : Array (Node K)} {e : Nat} {P : List Int}
    (h : Hist window base nodes e P) (start : List Int) (hs : start.length = 4) :
    RingAt window base nodes start e ((P ++ start).take 4) := by
  induction h with
  | zero =>
    have : ([] ++ start).take 4 = start := by rw [List.nil_append, ← hs, List.take_length]
    rw [this]; exact RingAt.zero
  | step n he hn hst hc hle _ ih =>
    have := RingAt.step (window := window) (base := base) (start := start) n he hn hst hc hle ih
    unfold ringAfter at this
    split
    · rename_i hc2
      rw [if_pos hc2, take4_push] at this
      exact this
    · rename_i hc2
      rw [if_neg hc2] at this
      exact this

def SC {K : Type} (window base : Nat) (nodes : Array (Node K)) (e s : Nat) : Prop :=
  ∃ P, Hist window base nodes e P ∧
    ((s = 0 ∧ P = []) ∨
     (s ≠ 0 ∧ s ≤ e ∧ ∃ (n : Node K) (P' : List Int), nodes[s]? = some n ∧ ¬ n.isStub ∧ n.insertLength + n.copyLength ≤ s ∧
        n.distance ≤ window ∧ Hist window base nodes (s - (n.insertLength + n.copyLength)) P' ∧ P = (n.distance : Int) :: P'))

theorem SC.congrLe {K : Type} {window base : Nat} {nodes nodes' : Array (Node K)} {e s : Nat}
    (h : SC window base nodes e s) (hsame : DataLe nodes nodes' e) : SC window base nodes' e s := by
  obtain ⟨P, hP, hcase⟩ := h
  refine ⟨P, hP.congrLe hsame, ?_⟩
  rcases hcase with h0 | ⟨hs0, hse, n, P', hn, hst, hle, hdw, hP', hPe⟩
  · exact Or.inl h0
  · obtain ⟨n', hn', hd⟩ := hsame s n hse hn
    refine Or.inr ⟨hs0, hse, n', P', hn', by rw [hd.isStub]; exact hst, by rw [hd.copyLength, hd.insertLength]; exact hle,
      by rw [hd.2.1]; exact hdw, ?_, by rw [hd.2.1]; exact hPe⟩
    rw [hd.copyLength, hd.insertLength]
    exact hP'.congrLe (hsame.mono (by omega))

theorem copyLength_eq {K : Type} (n : Node K) : n.copyLength = n.length % 2 ^ 25 := by
  unfold Node.copyLength
  rw [show (0x01ffffff : Nat) = 2 ^ 25 - 1 by decide, Nat.and_two_pow_sub_one_eq_mod]

theorem insertLength_eq {K : Type} (n : Node K) : n.insertLength = n.dcil % 2 ^ 27 := by
  unfold Node.insertLength
  rw [show (0x07ffffff : Nat) = 2 ^ 27 - 1 by decide, Nat.and_two_pow_sub_one_eq_mod]

theorem shortCode_eq {K : Type} (n : Node K) : n.shortCode = n.dcil / 2 ^ 27 := by
  unfold Node.shortCode
  rw [Nat.shiftRight_eq_div_pow]

theorem lengthCode_eq {K : Type} (n : Node K) : n.lengthCode = wsub32 ((n.copyLength + 9) % U32) (n.length / 2 ^ 25) := by
  unfold Node.lengthCode
  rw [Nat.shiftRight_eq_div_pow]

/-- the node written by `UpdateZopfliNode(nodes, pos, start_pos, len, len_code, dist, short_code, cost)` -/
def mkNode {K : Type} (pos start len lenCode dist shortCode : Nat) (cost : K) : Node K :=
  { length := (len ||| (wsub (len + 9) lenCode <<< 25)) % U32
    distance := dist % U32
    dcil := (wsub pos start % U32) ||| ((shortCode <<< 27) % U32)
    u := .cost cost }

theorem updateZopfliNode_eq {K : Type} (nodes : Array (Node K)) (pos start len lenCode dist shortCode : Nat) (cost : K) :
    updateZopfliNode nodes pos start len lenCode dist shortCode cost
      = if pos + len < nodes.size then some (nodes.set! (pos + len) (mkNode pos start len lenCode dist shortCode cost))
        else none := by
  simp only [updateZopfliNode, mkNode]

theorem mkNode_fields {K : Type} (pos start len lenCode dist shortCode : Nat) (cost : K)
    (hlen : len < 2 ^ 25) (hlc : lenCode ≤ len + 9) (hlc2 : len + 9 < lenCode + 128) (hd : dist < 2 ^ 32)
    (hsp : start ≤ pos) (hins : pos - start < 2 ^ 27) (hpos : pos < 2 ^ 63) (hsc : shortCode < 32) :
    (mkNode pos start len lenCode dist shortCode cost).copyLength = len ∧
    (mkNode pos start len lenCode dist shortCode cost).lengthCode = lenCode ∧
    (mkNode pos start len lenCode dist shortCode cost).insertLength = pos - start ∧
    (mkNode pos start len lenCode dist shortCode cost).shortCode = shortCode ∧
    (mkNode pos start len lenCode dist shortCode cost).distance = dist := by
  have hU : U32 = 2 ^ 32 := rfl
  have hU64 : U64 = 2 ^ 64 := rfl
  -- both packed words are `hi * 2 ^ k + lo` with `lo < 2 ^ k`; the fields are its quotient and remainder
  have hL : (mkNode pos start len lenCode dist shortCode cost).length = (len + 9 - lenCode) * 2 ^ 25 + len := by
    show (len ||| (wsub (len + 9) lenCode <<< 25)) % U32 = _
    rw [wsub_eq (by omega) (by omega), if_pos hlc, or_shiftLeft_eq hlen, Nat.mod_eq_of_lt (by omega)]
  have hD : (mkNode pos start len lenCode dist shortCode cost).dcil = shortCode * 2 ^ 27 + (pos - start) := by
    show (wsub pos start % U32) ||| ((shortCode <<< 27) % U32) = _
    rw [wsub_eq (by omega) (by omega), if_pos hsp, Nat.mod_eq_of_lt (by omega),
      Nat.mod_eq_of_lt (by rw [Nat.shiftLeft_eq]; omega), or_shiftLeft_eq hins]
  refine ⟨?_, ?_, ?_, ?_, ?_⟩
  · rw [copyLength_eq, hL, pack_mod hlen]
  · rw [lengthCode_eq, copyLength_eq, hL, pack_mod hlen, pack_div hlen, Nat.mod_eq_of_lt (by omega),
      wsub32, wrapping_sub_eq _ _ _ (Nat.sub_le _ _) (by omega), Nat.sub_sub_self hlc]
  · rw [insertLength_eq, hD, pack_mod hins]
  · rw [shortCode_eq, hD, pack_div hins]
  · show dist % U32 = dist
    exact Nat.mod_eq_of_lt hd

structure ZC where
  wo : WordOracle
  window : Nat
  md : Nat
  T : Bytes
  base : Nat
  numBytes : Nat
  /-- the ring of last distances at block offset 0 -/
  start : List Int

structure DPInv {K : Type} (C : ZC) (inf : K) (nodes : Array (Node K)) (lim : Nat) : Prop where
  size : nodes.size = C.numBytes + 1
  zero : ∃ n0 : Node K, nodes[0]? = some n0 ∧ ¬ n0.isStub
  back : ∀ (e : Nat) (n : Node K), e ≠ 0 → e ≤ C.numBytes → nodes[e]? = some n →
    n.isStub ∨ (BackOK C.wo C.window C.md C.T C.base nodes C.start e n ∧ e - (n.insertLength + n.copyLength) < lim)
  sc : ∀ (e : Nat) (n : Node K), e < lim → nodes[e]? = some n → (e = 0 ∨ ¬ n.isStub) →
    ∃ s, n.u = .shortcut s ∧ SC C.window C.base nodes e s
  stub : ∀ (e : Nat) (n : Node K), lim ≤ e → nodes[e]? = some n → n.isStub → n.u = .cost inf

theorem DPInv.allBack {K : Type} {C : ZC} {inf : K} {nodes : Array (Node K)} {lim : Nat} (h : DPInv C inf nodes lim) :
    AllBack C.wo C.window C.md C.T C.base C.numBytes nodes C.start := by
  intro e n he hle hn
  rcases h.back e n he hle hn with hs | ⟨hb, _⟩
  · exact Or.inl hs
  · exact Or.inr hb

theorem set_getElem? {K : Type} (nodes : Array (Node K)) (w : Nat) (nn : Node K) (hw : w < nodes.size) :
    (nodes.set! w nn)[w]? = some nn ∧ ∀ j, j ≠ w → (nodes.set! w nn)[j]? = nodes[j]? := by
  refine ⟨by simp [Array.set!, Array.getElem?_setIfInBounds, hw], fun j hj => ?_⟩
  simp [Array.set!, Array.getElem?_setIfInBounds, Ne.symm hj]

theorem dataLe_set {K : Type} (nodes : Array (Node K)) (w : Nat) (nn : Node K) (hw : w < nodes.size) (b : Nat) (hb : b < w) :
    DataLe nodes (nodes.set! w nn) b := by
  intro i n hi hn
  exact ⟨n, by rw [(set_getElem? nodes w nn hw).2 i (by omega)]; exact hn, ⟨rfl, rfl, rfl⟩⟩

theorem DPInv.write {K : Type} {C : ZC} {inf : K} {nodes : Array (Node K)} {lim : Nat} (h : DPInv C inf nodes lim)
    (w : Nat) (nn : Node K) (hlw : lim ≤ w) (hw : w ≤ C.numBytes) (hns : ¬ nn.isStub)
    (hb : BackOK C.wo C.window C.md C.T C.base nodes C.start w nn) (hst : w - (nn.insertLength + nn.copyLength) < lim) :
    DPInv C inf (nodes.set! w nn) lim := by
  have hwsz : w < nodes.size := by rw [h.size]; omega
  obtain ⟨hget, hoth⟩ := set_getElem? nodes w nn hwsz
  have hframe : ∀ b, b < w → DataLe nodes (nodes.set! w nn) b := fun b hb => dataLe_set nodes w nn hwsz b hb
  have hback : ∀ (e : Nat) (n : Node K), BackOK C.wo C.window C.md C.T C.base nodes C.start e n →
      e - (n.insertLength + n.copyLength) < lim →
      BackOK C.wo C.window C.md C.T C.base (nodes.set! w nn) C.start e n := by
    intro e n ⟨h1, r, hr, hok⟩ hlt
    exact ⟨h1, r, hr.congrLe (hframe _ (by omega)), hok⟩
  refine ⟨by simp [h.size], ?_, ?_, ?_, ?_⟩
  · obtain ⟨n0, hn0, hs0⟩ := h.zero
    by_cases h0 : w = 0
    · subst h0; exact ⟨nn, hget, hns⟩
    · exact ⟨n0, by rw [hoth 0 (Ne.symm h0)]; exact hn0, hs0⟩
  · intro e n he hle hn
    by_cases hew : e = w
    · subst hew
      rw [hget] at hn
      injection hn with hn
      subst hn
      exact Or.inr ⟨hback _ _ hb hst, hst⟩
    · rw [hoth e hew] at hn
      rcases h.back e n he hle hn with hs | ⟨hbo, hlt⟩
      · exact Or.inl hs
      · exact Or.inr ⟨hback _ _ hbo hlt, hlt⟩
  · intro e n he hn hr
    rw [hoth e (by omega)] at hn
    obtain ⟨s, hu, hsc⟩ := h.sc e n he hn hr
    exact ⟨s, hu, hsc.congrLe (hframe _ (by omega))⟩
  · intro e n he hn hs
    by_cases hew : e = w
    · subst hew
      rw [hget] at hn
      injection hn with hn
      subst hn
      exact absurd hs hns
    · rw [hoth e hew] at hn
      exact h.stub e n he hn hs

end BV.Zopfli
