/-
Bit-level lemmas for C03: `parse_window_size` as a function of its first byte (`pwsCore`), end-marker
strip/append.
-/
import BV.Lemmas.ConcatFlush
import BV.Lemmas.Bits
namespace BV.Concat
open Outcome BV.Gen

/-- `parse_window_size` after the first byte has been fetched; `second` is the (lazy) `bytes_so_far[1]` -/
def pwsCore (b0 : Nat) (second : Outcome Nat) : Outcome (Option (Nat × Nat)) :=
  if b0 &&& 1 = 0 then ok (some (16, 1)) else
  if b0 &&& 15 = 0x3 then ok (some (18, 4)) else
  if b0 &&& 15 = 0x5 then ok (some (19, 4)) else
  if b0 &&& 15 = 0x7 then ok (some (20, 4)) else
  if b0 &&& 15 = 0x9 then ok (some (21, 4)) else
  if b0 &&& 15 = 0xb then ok (some (22, 4)) else
  if b0 &&& 15 = 0xd then ok (some (23, 4)) else
  if b0 &&& 15 = 0xf then ok (some (24, 4)) else
  if b0 &&& 127 = 0x71 then ok (some (15, 7)) else
  if b0 &&& 127 = 0x61 then ok (some (14, 7)) else
  if b0 &&& 127 = 0x51 then ok (some (13, 7)) else
  if b0 &&& 127 = 0x41 then ok (some (12, 7)) else
  if b0 &&& 127 = 0x31 then ok (some (11, 7)) else
  if b0 &&& 127 = 0x21 then ok (some (10, 7)) else
  if b0 &&& 127 = 0x1 then ok (some (17, 7)) else
  if b0 &&& 0x80 ≠ 0 then ok none else
  second.bind fun b1 =>
  if ¬ (10 ≤ (b1 &&& 0x3f) ∧ (b1 &&& 0x3f) ≤ 30) then ok none else
  ok (some (b1 &&& 0x3f, 14))

theorem parseWindowSize_eq_core (bs : List Nat) :
    parseWindowSize bs = (idx .pwsIndex0 bs 0).bind fun b0 => pwsCore b0 (idx .pwsIndex1 bs 1) := rfl

theorem ite_both {α} {c : Prop} [Decidable c] {a a' b b' : Outcome α} {r : α}
    (h : (if c then a else b) = ok r) (ha : a = ok r → a' = ok r) (hb : b = ok r → b' = ok r) :
    (if c then a' else b') = ok r := by
  by_cases hc : c
  · rw [if_pos hc] at h ⊢; exact ha h
  · rw [if_neg hc] at h ⊢; exact hb h

/-- a result obtained while the second byte is a panic did not look at it: it is the result for every second byte -/
theorem pwsCore_mono (b0 : Nat) (t : Site) (x : Outcome Nat) (r : Option (Nat × Nat))
    (h : pwsCore b0 (Outcome.panic t) = ok r) : pwsCore b0 x = ok r := by
  unfold pwsCore at h ⊢
  iterate 16 (refine ite_both h (fun h => h) (fun h => ?_))
  simp at h

theorem parseWindowSize_cons2 (b0 b1 : Nat) (rest : List Nat) :
    parseWindowSize (b0 :: b1 :: rest) = pwsCore b0 (ok b1) := by
  rw [parseWindowSize_eq_core]; simp [idx]

theorem one_shl_and_ne_zero (T i : Nat) : ((1 <<< i) &&& T ≠ 0) ↔ T.testBit i = true := by
  rw [Nat.one_shiftLeft]
  constructor
  · intro h
    cases hb : T.testBit i with
    | true => rfl
    | false =>
      exfalso; apply h
      apply Nat.eq_of_testBit_eq
      intro j
      rw [Nat.testBit_and, Nat.testBit_two_pow, Nat.zero_testBit]
      by_cases e : i = j
      · subst e; simp [hb]
      · simp [e]
  · intro h e
    have := congrArg (fun x => x.testBit i) e
    simp only [Nat.testBit_and, Nat.testBit_two_pow_self, h, Nat.zero_testBit] at this
    simp at this

/-- `T` carries the end marker (ISLAST, ISLASTEMPTY: two 1 bits) directly above its `n` data bits `D`, nothing above it -/
structure Marked (T n D : Nat) : Prop where
  eq : T = D + 3 * 2 ^ n
  lt : D < 2 ^ n

theorem Marked.bounds {T n D : Nat} (h : Marked T n D) :
    3 * 2 ^ n ≤ T ∧ T < 4 * 2 ^ n ∧ 2 ^ (n + 1) ≤ T ∧ T < 2 ^ (n + 2) := by
  have e1 : 2 ^ (n + 1) = 2 * 2 ^ n := by rw [Nat.pow_succ]; omega
  have e2 : 2 ^ (n + 2) = 4 * 2 ^ n := by rw [Nat.pow_succ, Nat.pow_succ]; omega
  have := h.eq; have := h.lt
  omega

theorem Marked.top_bit {T n D : Nat} (h : Marked T n D) : T.testBit (n + 1) = true := by
  obtain ⟨_, _, h3, h4⟩ := h.bounds
  rw [Nat.testBit_eq_decide_div_mod_eq]
  have : T / 2 ^ (n + 1) = 1 := by
    apply Nat.div_eq_of_lt_le
    · omega
    · have e2 : 2 ^ (n + 2) = 2 * 2 ^ (n + 1) := by rw [Nat.pow_succ]; omega
      omega
  rw [this]; rfl

theorem Marked.above {T n D : Nat} (h : Marked T n D) (i : Nat) (hi : n + 1 < i) : T.testBit i = false := by
  obtain ⟨_, _, _, h4⟩ := h.bounds
  apply Nat.testBit_lt_two_pow
  exact Nat.lt_of_lt_of_le h4 (Nat.pow_le_pow_right (by decide) (by omega))

theorem Marked.shr {T n D : Nat} (h : Marked T n D) : T >>> n = 3 := by
  obtain ⟨h1, h2, _, _⟩ := h.bounds
  rw [Nat.shiftRight_eq_div_pow]
  exact Nat.div_eq_of_lt_le (by omega) (by omega)

theorem Marked.mask {T n D : Nat} (h : Marked T n D) : T &&& ((1 <<< n) - 1) = D := by
  rw [Nat.one_shiftLeft, Nat.and_two_pow_sub_one_eq_mod, h.eq, Nat.add_mul_mod_self_right,
    Nat.mod_eq_of_lt h.lt]

theorem findHighLoop_marked (T n D max : Nat) (h : Marked T n D) (hmax : max ≤ 16) (hn : n + 1 < max) :
    ∀ fuel i idx0, i + fuel = max → n + 1 ≤ max - 1 - i → 1 ≤ fuel →
      findHighLoop T max fuel i idx0 = ok (n + 1) := by
  intro fuel
  induction fuel with
  | zero => intro i idx0 _ _ h1; omega
  | succ f ih =>
    intro i idx0 hsum hge _
    unfold findHighLoop
    rw [if_neg (by omega), if_neg (by omega)]
    dsimp only
    rw [if_neg (by omega)]
    by_cases e : max - 1 - i = n + 1
    · rw [e, if_pos ((one_shl_and_ne_zero T (n + 1)).mpr h.top_bit)]
    · have hb : ¬ ((1 <<< (max - 1 - i)) &&& T ≠ 0) := by
        rw [one_shl_and_ne_zero, h.above _ (by omega)]; simp
      rw [if_neg hb]
      exact ih (i + 1) _ (by omega) (by omega) (by omega)

/-- the state after a successful strip; for `n ≥ 8` the low byte `D % 256` has gone to the output -/
def stripped (s : State) (n D : Nat) : State :=
  if n < 8 then
    { s with last_bytes := (D, 0), last_bytes_len := 1, last_byte_bit_offset := n, last_byte_sanitized := true }
  else
    { s with last_bytes := (D / 256, 0), last_bytes_len := 1, last_byte_bit_offset := n - 8,
             last_byte_sanitized := true, any_bytes_emitted := true }

theorem flush_marked (s : State) (n D cap : Nat) (out : List Nat)
    (hs : s.last_byte_sanitized = false) (hlen : s.last_bytes_len = 1 ∨ s.last_bytes_len = 2)
    (hn : n + 2 ≤ 8 * s.last_bytes_len)
    (hm : Marked (s.last_bytes.1 + (s.last_bytes.2 <<< 8)) n D) :
    flushPreviousStream s out cap = flushStrip s out cap (s.last_bytes.1 + (s.last_bytes.2 <<< 8)) n := by
  rw [flush_unsanitized s out cap hs (by omega), if_neg (by omega), if_neg (by omega),
    findHighLoop_marked _ n D (s.last_bytes_len * 8) hm (by omega) (by omega) _ 0 _ (by omega) (by omega) (by omega),
    bind_ok, if_neg (by omega), Nat.add_sub_cancel, hm.shr, if_neg (by simp)]

theorem strip_end_marker_gen (s : State) (n D cap : Nat) (out : List Nat)
    (hs : s.last_byte_sanitized = false) (hlen : s.last_bytes_len = 1 ∨ s.last_bytes_len = 2)
    (hn : n + 2 ≤ 8 * s.last_bytes_len)
    (hm : Marked (s.last_bytes.1 + (s.last_bytes.2 <<< 8)) n D) (hcap : out.length < cap) :
    flushPreviousStream s out cap =
      ok (stripped s n D, if n < 8 then out else out ++ [D % 256], SUCCESS) := by
  rw [flush_marked s n D cap out hs hlen hn hm]
  have hD := hm.lt
  by_cases h8 : n ≥ 8
  · have hl2 : s.last_bytes_len = 2 := by omega
    have hD14 : D < 2 ^ 14 := Nat.lt_of_lt_of_le hD (Nat.pow_le_pow_right (by decide) (by omega))
    have hshr : D >>> 8 % 256 = D / 256 := by
      rw [Nat.shiftRight_eq_div_pow]
      have : D / 2 ^ 8 < 256 := by omega
      omega
    rw [flushStrip_ge8_room s out cap _ n h8 (by omega) hcap (by omega), flushFin_lt8 _ _ _ (by omega), hm.mask,
      hshr]
    simp [stripped, hl2, show ¬ n < 8 by omega]
  · have hlt : n < 8 := by omega
    have hD7 : D < 2 ^ 7 := Nat.lt_of_lt_of_le hD (Nat.pow_le_pow_right (by decide) (by omega))
    have hshr : D >>> 8 % 256 = 0 := by
      rw [Nat.shiftRight_eq_div_pow]
      have : D / 2 ^ 8 = 0 := Nat.div_eq_of_lt (by omega)
      omega
    rw [flushStrip_lt8 s out cap _ n hlt, flushFin_lt8 _ _ _ hlt, hm.mask, Nat.mod_eq_of_lt (by omega : D < 256),
      hshr, if_pos hlt]
    rcases hlen with h1 | h2
    · simp [stripped, hlt, h1]
    · simp [stripped, hlt, h2]

theorem or_marker (d k : Nat) (hd : d < 2 ^ k) : (d ||| (0 <<< 8)) ||| (3 <<< k) = d + 3 * 2 ^ k := by
  rw [Nat.zero_shiftLeft, Nat.or_zero, Nat.or_comm, ← Nat.shiftLeft_add_eq_or_of_lt hd, Nat.shiftLeft_eq]
  omega

theorem marker_bytes (d k : Nat) (hd : d < 2 ^ k) (hk : k ≤ 7) :
    d + 3 * 2 ^ k < 512 ∧ (d + 3 * 2 ^ k) >>> 8 % 256 = (d + 3 * 2 ^ k) / 256 ∧
    (k ≤ 6 → d + 3 * 2 ^ k < 256) := by
  have hpow : 2 ^ k ≤ 2 ^ 7 := Nat.pow_le_pow_right (by decide) hk
  refine ⟨by omega, ?_, fun h6 => ?_⟩
  · rw [Nat.shiftRight_eq_div_pow]; omega
  · have : 2 ^ k ≤ 2 ^ 6 := Nat.pow_le_pow_right (by decide) h6
    omega

theorem appendEof_value (s : State) (d k : Nat) (hs : s.last_byte_sanitized = true)
    (hl : s.last_bytes_len = 1) (hlb : s.last_bytes = (d, 0)) (hk : s.last_byte_bit_offset = k)
    (hd : d < 2 ^ k) (hk7 : k ≤ 7) :
    appendEofMetablockToLastBytes s =
      ok { s with last_bytes := ((d + 3 * 2 ^ k) % 256, (d + 3 * 2 ^ k) / 256),
                  last_byte_sanitized := false,
                  last_byte_bit_offset := if k + 2 ≥ 8 then k + 2 - 8 else k + 2,
                  last_bytes_len := if k = 7 then 2 else 1 } := by
  unfold appendEofMetablockToLastBytes
  rw [if_neg (by simp [hs])]
  dsimp only
  rw [hl, hk, hlb]
  rw [if_neg (by omega), if_neg (by omega), if_neg (by omega), if_neg (by omega)]
  have hsmall : 3 <<< ((1 - 1) * 8 + k) % 2 ^ 16 = 3 <<< k := by
    have e : (1 - 1) * 8 + k = k := by omega
    rw [e, Nat.shiftLeft_eq]
    have : 2 ^ k ≤ 2 ^ 7 := Nat.pow_le_pow_right (by decide) hk7
    omega
  rw [hsmall]
  dsimp only
  rw [or_marker d k hd, if_neg (by omega)]
  obtain ⟨_, hhi, _⟩ := marker_bytes d k hd hk7
  rw [hhi]
  by_cases h8 : k + 2 ≥ 8
  · rw [if_pos h8, if_pos h8]
    by_cases h7 : k = 7
    · rw [if_pos (by omega), if_neg (by omega), if_pos h7]
    · rw [if_neg (by omega), if_neg h7]
  · rw [if_neg h8, if_neg h8, if_neg (by omega)]

theorem finish_one_byte_tail (s : State) (d k cap : Nat) (hs : s.last_byte_sanitized = true)
    (hl : s.last_bytes_len = 1) (hlb : s.last_bytes = (d, 0)) (hk : s.last_byte_bit_offset = k)
    (hd : d < 2 ^ k) (hk7 : k ≤ 7) (hcap : 2 ≤ cap) :
    ∃ st, finish s cap = ok ⟨st, SUCCESS, 0,
      if k = 7 then [(d + 3 * 2 ^ k) % 256, (d + 3 * 2 ^ k) / 256] else [d + 3 * 2 ^ k]⟩ := by
  unfold finish
  rw [if_pos ⟨hs, by omega⟩, appendEof_value s d k hs hl hlb hk hd hk7]
  simp only [bind_ok]
  have c0 : ¬ (([] : List Nat).length = cap) := by simp; omega
  have c1 : ∀ x : Nat, ¬ (([] ++ [x] : List Nat).length = cap) := by intro x; simp; omega
  have p0 : ([] : List Nat).length < cap := by simp; omega
  have p1 : ∀ x : Nat, ([] ++ [x] : List Nat).length < cap := by intro x; simp; omega
  by_cases h7 : k = 7
  · simp only [h7, if_true]
    simp only [finishLoop, c0, c1, if_false, push, p0, p1, if_true, bind_ok]
    exact ⟨_, rfl⟩
  · simp only [h7, if_false]
    have hlt := (marker_bytes d k hd hk7).2.2 (by omega)
    simp only [finishLoop, c0, if_false, push, p0, if_true, bind_ok, Nat.mod_eq_of_lt hlt]
    exact ⟨_, rfl⟩

theorem bitsOf_eq (n v : Nat) : BV.Bits.bitsOf n v = bitsOf n v := by
  induction n generalizing v with
  | zero => rfl
  | succ n ih =>
    simp only [BV.Bits.bitsOf, bitsOf, ih]
    by_cases h : v % 2 = 1 <;> simp [h]

theorem bitsOf_length (n v : Nat) : (bitsOf n v).length = n := by
  rw [← bitsOf_eq]; exact BV.Bits.bitsOf_length n v

theorem bitsOf_zero (n : Nat) : bitsOf n 0 = List.replicate n false := by
  rw [← bitsOf_eq]; exact BV.Bits.bitsOf_zero n

theorem bitsOf_append (a b v : Nat) : bitsOf (a + b) v = bitsOf a v ++ bitsOf b (v / 2 ^ a) := by
  simp only [← bitsOf_eq]; exact BV.Bits.bitsOf_add a b v

theorem bitsOf_mod (a v : Nat) : bitsOf a (v % 2 ^ a) = bitsOf a v := by
  simp only [← bitsOf_eq]; exact BV.Bits.bitsOf_mod a v

theorem flatMap_bits_eq (m : List Nat) : m.flatMap (BV.Bits.bitsOf 8) = bytesToBits m := by
  have : BV.Bits.bitsOf 8 = bitsOf 8 := funext (bitsOf_eq 8)
  rw [this]; rfl

theorem bytesToBits_length (m : List Nat) : (bytesToBits m).length = 8 * m.length := by
  rw [← flatMap_bits_eq, BV.Bits.flatMap_bitsOf_length]

theorem bytesToBits_cons (a : Nat) (t : List Nat) : bytesToBits (a :: t) = bitsOf 8 a ++ bytesToBits t := rfl

theorem add_mul_two_pow (t X k : Nat) (ht : t < 2 ^ k) :
    (t + X * 2 ^ k) % 2 ^ k = t ∧ (t + X * 2 ^ k) / 2 ^ k = X :=
  ⟨by rw [Nat.add_mul_mod_self_right, Nat.mod_eq_of_lt ht],
   by rw [Nat.add_comm, Nat.mul_comm, Nat.mul_add_div (Nat.pow_pos (by decide)), Nat.div_eq_of_lt ht, Nat.add_zero]⟩

/-- `t + X·2^k` as bits: the `k` tail bits, the `d` bits of `X`, zero padding -/
theorem spliced_bits (t X k d m : Nat) (ht : t < 2 ^ k) (hX : X < 2 ^ d) (hm : k + d ≤ m) :
    bitsOf m (t + X * 2 ^ k) = bitsOf k t ++ bitsOf d X ++ List.replicate (m - k - d) false := by
  have e : m = k + (d + (m - k - d)) := by omega
  obtain ⟨hmod, hdiv⟩ := add_mul_two_pow t X k ht
  conv => lhs; rw [e]
  rw [bitsOf_append, ← bitsOf_mod k, hmod, hdiv, bitsOf_append, Nat.div_eq_of_lt hX, bitsOf_zero,
    List.append_assoc]

theorem Marked.bits {T n D : Nat} (h : Marked T n D) (m : Nat) (hm : n + 2 ≤ m) :
    bitsOf m T = bitsOf n D ++ [true, true] ++ List.replicate (m - n - 2) false := by
  rw [h.eq]; exact spliced_bits D 3 n 2 m h.lt (by decide) hm

theorem bits_le1 (T : Nat) : bytesToBits [T] = bitsOf 8 T := by simp [bytesToBits]
theorem bits_le2 (T : Nat) : bytesToBits [T % 256, T / 256] = bitsOf 16 T := by
  rw [show (16 : Nat) = 8 + 8 by rfl, bitsOf_append, show (256 : Nat) = 2 ^ 8 by decide, ← bitsOf_mod 8 T]
  simp [bytesToBits]

theorem stripped_bits (s : State) (n D : Nat) :
    bitsOf n D = bytesToBits (if n < 8 then [] else [D % 256]) ++
      bitsOf (stripped s n D).last_byte_bit_offset (stripped s n D).last_bytes.1 := by
  unfold stripped
  by_cases h8 : n < 8
  · simp [h8, bytesToBits]
  · simp only [h8, if_false, bytesToBits, List.flatMap_cons, List.flatMap_nil, List.append_nil]
    rw [show n = 8 + (n - 8) by omega, bitsOf_append, Nat.add_sub_cancel_left,
      show (256 : Nat) = 2 ^ 8 by decide, bitsOf_mod]

theorem div256_lt (D n : Nat) (hD : D < 2 ^ n) (h8 : 8 ≤ n) : D / 256 < 2 ^ (n - 8) := by
  have e : 2 ^ n = 256 * 2 ^ (n - 8) := by
    rw [show (256 : Nat) = 2 ^ 8 by decide, ← Nat.pow_add]; congr 1; omega
  apply Nat.div_lt_of_lt_mul; rw [← e]; exact hD

theorem stripped_tail_lt (s : State) (n D : Nat) (hD : D < 2 ^ n) :
    (stripped s n D).last_bytes.1 < 2 ^ (stripped s n D).last_byte_bit_offset := by
  unfold stripped
  by_cases h8 : n < 8
  · simp only [h8, if_true]; exact hD
  · simp only [h8, if_false]; exact div256_lt D n hD (by omega)

theorem strip_then_finish_gen (s : State) (n D cap : Nat) (hn : n + 2 ≤ 16) (hD : D < 2 ^ n) (hcap : 2 ≤ cap) :
    (∃ st, finish (stripped s n D) cap = ok ⟨st, SUCCESS, 0,
      if n < 8 then (if n = 7 then [(D + 3 * 2 ^ n) % 256, (D + 3 * 2 ^ n) / 256] else [D + 3 * 2 ^ n])
      else [(D + 3 * 2 ^ n) / 256]⟩) ∧
    (8 ≤ n → D % 256 = (D + 3 * 2 ^ n) % 256) := by
  by_cases h8 : n < 8
  · rw [if_pos h8]
    refine ⟨?_, fun h => by omega⟩
    refine finish_one_byte_tail (stripped s n D) D n cap ?_ ?_ ?_ ?_ hD (by omega) hcap <;> simp [stripped, h8]
  · rw [if_neg h8]
    have hk : n - 8 ≤ 6 := by omega
    have e : 2 ^ n = 256 * 2 ^ (n - 8) := by
      rw [show (256 : Nat) = 2 ^ 8 by decide, ← Nat.pow_add]; congr 1; omega
    have hd := div256_lt D n hD (by omega)
    have hT : (D + 3 * 2 ^ n) / 256 = D / 256 + 3 * 2 ^ (n - 8) := by omega
    refine ⟨?_, fun _ => by omega⟩
    obtain ⟨st, hst⟩ := finish_one_byte_tail (stripped s n D) (D / 256) (n - 8) cap
      (by simp [stripped, h8]) (by simp [stripped, h8]) (by simp [stripped, h8]) (by simp [stripped, h8]) hd
      (by omega) hcap
    rw [if_neg (by omega)] at hst
    exact ⟨st, by rw [hst, hT]⟩

end BV.Concat
