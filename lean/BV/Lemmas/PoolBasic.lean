/-
Helper lemmas for C07: what the invariants read of a pool state.  They see the worker list only
through sums `wsum g` of per-worker indicators (`busy`, `holdsArc`, `hasId`, …) and the ghost history
only through `joinedIds` and `runCount`; every transition is composed of the four update helpers
`setW`, `log`, `notifyAll`, `setSpc`, whose effect on each field and on these sums is stated here.
-/
import BV.Model.Pool
import BV.Lemmas.ListNat

namespace BV.Lemmas.Pool
open BV.Gen BV.FixedQueue BV.Pool

def wsum (g : WPc → Nat) (ws : List WPc) : Nat := (ws.map g).sum

@[simp] theorem wsum_nil (g : WPc → Nat) : wsum g [] = 0 := rfl
@[simp] theorem wsum_cons (g : WPc → Nat) (p : WPc) (ws : List WPc) :
    wsum g (p :: ws) = g p + wsum g ws := by simp [wsum]

theorem wsum_set (g : WPc → Nat) {ws : List WPc} {i : Nat} {p : WPc} (p' : WPc)
    (h : ws[i]? = some p) : wsum g (ws.set i p') + g p = wsum g ws + g p' := by
  obtain ⟨hi, rfl⟩ := List.getElem?_eq_some_iff.mp h
  have := BV.sum_map_set g p' ws i p' hi
  rwa [List.getD_eq_getElem?_getD, List.getElem?_eq_getElem hi] at this

theorem wsum_set_eq (g : WPc → Nat) {ws : List WPc} {i : Nat} {p p' : WPc}
    (h : ws[i]? = some p) (hg : g p' = g p) : wsum g (ws.set i p') = wsum g ws := by
  have := wsum_set g p' h
  omega

theorem wsum_map_wake (g : WPc → Nat) (hg : ∀ p, g p.wake = g p) (ws : List WPc) :
    wsum g (ws.map WPc.wake) = wsum g ws := by
  induction ws with
  | nil => rfl
  | cons a t ih => simp [hg, ih]

theorem wsum_set_wake (g : WPc → Nat) (hg : ∀ p, g p.wake = g p) {ws : List WPc} {i : Nat}
    {p : WPc} (p' : WPc) (h : ws[i]? = some p) :
    wsum g ((ws.map WPc.wake).set i p') + g p = wsum g ws + g p' := by
  have h' : (ws.map WPc.wake)[i]? = some p.wake := by simp [h]
  have := wsum_set g p' h'
  rw [wsum_map_wake g hg, hg] at this
  exact this

theorem wsum_set_wake_eq (g : WPc → Nat) (hg : ∀ p, g p.wake = g p) {ws : List WPc} {i : Nat}
    {p p' : WPc} (h : ws[i]? = some p) (hp : g p' = g p) :
    wsum g ((ws.map WPc.wake).set i p') = wsum g ws := by
  have := wsum_set_wake g hg p' h
  omega

theorem wsum_replicate (g : WPc → Nat) (n : Nat) (p : WPc) : wsum g (List.replicate n p) = n * g p := by
  induction n with
  | zero => simp
  | succ n ih => simp [List.replicate_succ, ih, Nat.succ_mul]; omega

theorem wsum_le (g g' : WPc → Nat) (h : ∀ p, g p ≤ g' p) (ws : List WPc) : wsum g ws ≤ wsum g' ws := by
  induction ws with
  | nil => simp
  | cons a t ih => simp only [wsum_cons]; have := h a; omega

theorem wsum_ge_of_mem (g : WPc → Nat) {ws : List WPc} {i : Nat} {p : WPc} (h : ws[i]? = some p) :
    g p ≤ wsum g ws := by
  induction ws generalizing i with
  | nil => simp at h
  | cons a t ih =>
    cases i with
    | zero => simp at h; subst h; simp
    | succ i => simp at h; have := ih h; simp only [wsum_cons]; omega

theorem wsum_eq_zero (g : WPc → Nat) {ws : List WPc} (h : wsum g ws = 0) {p : WPc} (hp : p ∈ ws) :
    g p = 0 := by
  obtain ⟨i, hi, rfl⟩ := List.mem_iff_getElem.mp hp
  have := wsum_ge_of_mem g (List.getElem?_eq_getElem hi)
  omega

theorem wsum_eq_zero_of (g : WPc → Nat) {ws : List WPc} (h : ∀ p, p ∈ ws → g p = 0) :
    wsum g ws = 0 := by
  induction ws with
  | nil => rfl
  | cons a t ih =>
    rw [wsum_cons, h a List.mem_cons_self, ih fun p hp => h p (List.mem_cons_of_mem _ hp)]

def busy : WPc → Nat
  | .atRun _ => 1
  | .atLockB _ => 1
  | _ => 0

/-- the worker still owns its `possible_job` (and the `Arc` clone inside) -/
def holdsArc : WPc → Nat
  | .atRun _ => 1
  | _ => 0

theorem holdsArc_le_busy (p : WPc) : holdsArc p ≤ busy p := by
  cases p <;> simp [holdsArc, busy]

/-- indicator of `a = b` (a definition, so that `simp` cannot change the `Decidable`
instance and `omega` sees one atom) -/
def eqInd (a b : Nat) : Nat := if a = b then 1 else 0

/-- work id `id` has been handed out (`cur` = `cur_work_id`), as an indicator: the right-hand side of
the ledger equation `Inv.part` -/
def below (id cur : Nat) : Nat := if id < cur then 1 else 0

theorem eqInd_self (a : Nat) : eqInd a a = 1 := by simp [eqInd]
theorem eqInd_ne {a b : Nat} (h : a ≠ b) : eqInd a b = 0 := by simp [eqInd, h]
theorem eqInd_le (a b : Nat) : eqInd a b ≤ 1 := by unfold eqInd; split <;> omega
theorem below_le (a b : Nat) : below a b ≤ 1 := by unfold below; split <;> omega
theorem below_succ (id cur : Nat) : below id (cur + 1) = below id cur + eqInd cur id := by
  unfold below eqInd
  by_cases c1 : cur = id
  · subst c1; simp
  · by_cases c2 : id < cur
    · have : id < cur + 1 := by omega
      simp [c1, c2, this]
    · have : ¬ id < cur + 1 := by omega
      simp [c1, c2, this]
theorem below_zero (id : Nat) : below id 0 = 0 := by simp [below]
theorem below_pos {id cur : Nat} (h : below id cur = 1) : id < cur := by
  unfold below at h; split at h <;> simp_all
theorem below_of_lt {id cur : Nat} (h : id < cur) : below id cur = 1 := by simp [below, h]
theorem below_of_ge {id cur : Nat} (h : cur ≤ id) : below id cur = 0 := by
  have : ¬ id < cur := by omega
  simp [below, this]

def hasId (id : Nat) : WPc → Nat
  | .atRun j => eqInd j.workId id
  | .atLockB r => eqInd r.workId id
  | _ => 0

def hasIdB (id : Nat) : WPc → Nat
  | .atLockB r => eqInd r.workId id
  | _ => 0

def isExited : WPc → Nat
  | .exited => 1
  | _ => 0

@[simp] theorem busy_wake (p : WPc) : busy p.wake = busy p := by cases p <;> rfl
@[simp] theorem holdsArc_wake (p : WPc) : holdsArc p.wake = holdsArc p := by cases p <;> rfl
@[simp] theorem hasId_wake (id : Nat) (p : WPc) : hasId id p.wake = hasId id p := by cases p <;> rfl
@[simp] theorem hasIdB_wake (id : Nat) (p : WPc) : hasIdB id p.wake = hasIdB id p := by cases p <;> rfl
@[simp] theorem isExited_wake (p : WPc) : isExited p.wake = isExited p := by cases p <;> rfl

theorem wake_ne_waiting (p : WPc) : p.wake ≠ .waiting := by cases p <;> simp [WPc.wake]
theorem wake_eq_exited {p : WPc} (h : p.wake = .exited) : p = .exited := by
  cases p <;> simp [WPc.wake] at h ⊢

def joinedIds : List (Nat × Ev) → List Nat
  | [] => []
  | (_, .join id _) :: h => id :: joinedIds h
  | _ :: h => joinedIds h

def runCount (id : Nat) : List (Nat × Ev) → Nat
  | [] => 0
  | (_, .run id') :: h => eqInd id' id + runCount id h
  | _ :: h => runCount id h

def quiet : Ev → Bool
  | .join _ _ => false
  | .run _ => false
  | _ => true

theorem joinedIds_cons_of_quiet {e : Ev} (he : quiet e = true) (t : Nat) (h : List (Nat × Ev)) :
    joinedIds ((t, e) :: h) = joinedIds h := by
  cases e <;> first | rfl | cases he

theorem runCount_cons_of_quiet {e : Ev} (he : quiet e = true) (id t : Nat) (h : List (Nat × Ev)) :
    runCount id ((t, e) :: h) = runCount id h := by
  cases e <;> first | rfl | cases he

def cntJ (id : Nat) (l : List Job) : Nat := l.countP (fun j => j.workId == id)
def cntR (id : Nat) (l : List Reply) : Nat := l.countP (fun r => r.workId == id)

section proj
variable (s : State) (i : Nat) (p : WPc) (t : Nat) (e : Ev) (q : SPc)

-- The update helpers of the model are plain definitions, not reducible: `simp` needs one equation per
-- helper and field to see through them.

@[simp] theorem setW_jobs : (s.setW i p).jobs = s.jobs := rfl
@[simp] theorem setW_results : (s.setW i p).results = s.results := rfl
@[simp] theorem setW_nip : (s.setW i p).numInProgress = s.numInProgress := rfl
@[simp] theorem setW_imm : (s.setW i p).immediateShutdown = s.immediateShutdown := rfl
@[simp] theorem setW_shutdown : (s.setW i p).shutdown = s.shutdown := rfl
@[simp] theorem setW_cur : (s.setW i p).curWorkId = s.curWorkId := rfl
@[simp] theorem setW_arc : (s.setW i p).arc = s.arc := rfl
@[simp] theorem setW_workers : (s.setW i p).workers = s.workers.set i p := rfl
@[simp] theorem setW_spc : (s.setW i p).spc = s.spc := rfl
@[simp] theorem setW_prog : (s.setW i p).prog = s.prog := rfl
@[simp] theorem setW_spawned : (s.setW i p).spawned = s.spawned := rfl
@[simp] theorem setW_hist : (s.setW i p).hist = s.hist := rfl

@[simp] theorem log_jobs : (s.log t e).jobs = s.jobs := rfl
@[simp] theorem log_results : (s.log t e).results = s.results := rfl
@[simp] theorem log_nip : (s.log t e).numInProgress = s.numInProgress := rfl
@[simp] theorem log_imm : (s.log t e).immediateShutdown = s.immediateShutdown := rfl
@[simp] theorem log_shutdown : (s.log t e).shutdown = s.shutdown := rfl
@[simp] theorem log_cur : (s.log t e).curWorkId = s.curWorkId := rfl
@[simp] theorem log_arc : (s.log t e).arc = s.arc := rfl
@[simp] theorem log_workers : (s.log t e).workers = s.workers := rfl
@[simp] theorem log_spc : (s.log t e).spc = s.spc := rfl
@[simp] theorem log_prog : (s.log t e).prog = s.prog := rfl
@[simp] theorem log_spawned : (s.log t e).spawned = s.spawned := rfl
@[simp] theorem log_hist : (s.log t e).hist = (t, e) :: s.hist := rfl

@[simp] theorem notifyAll_jobs : s.notifyAll.jobs = s.jobs := rfl
@[simp] theorem notifyAll_results : s.notifyAll.results = s.results := rfl
@[simp] theorem notifyAll_nip : s.notifyAll.numInProgress = s.numInProgress := rfl
@[simp] theorem notifyAll_imm : s.notifyAll.immediateShutdown = s.immediateShutdown := rfl
@[simp] theorem notifyAll_shutdown : s.notifyAll.shutdown = s.shutdown := rfl
@[simp] theorem notifyAll_cur : s.notifyAll.curWorkId = s.curWorkId := rfl
@[simp] theorem notifyAll_arc : s.notifyAll.arc = s.arc := rfl
@[simp] theorem notifyAll_workers : s.notifyAll.workers = s.workers.map WPc.wake := rfl
@[simp] theorem notifyAll_spc : s.notifyAll.spc = s.spc.wake := rfl
@[simp] theorem notifyAll_prog : s.notifyAll.prog = s.prog := rfl
@[simp] theorem notifyAll_spawned : s.notifyAll.spawned = s.spawned := rfl
@[simp] theorem notifyAll_hist : s.notifyAll.hist = s.hist := rfl

@[simp] theorem setSpc_jobs : (s.setSpc q).jobs = s.jobs := rfl
@[simp] theorem setSpc_results : (s.setSpc q).results = s.results := rfl
@[simp] theorem setSpc_nip : (s.setSpc q).numInProgress = s.numInProgress := rfl
@[simp] theorem setSpc_imm : (s.setSpc q).immediateShutdown = s.immediateShutdown := rfl
@[simp] theorem setSpc_shutdown : (s.setSpc q).shutdown = s.shutdown := rfl
@[simp] theorem setSpc_cur : (s.setSpc q).curWorkId = s.curWorkId := rfl
@[simp] theorem setSpc_arc : (s.setSpc q).arc = s.arc := rfl
@[simp] theorem setSpc_workers : (s.setSpc q).workers = s.workers := rfl
@[simp] theorem setSpc_spc : (s.setSpc q).spc = q := rfl
@[simp] theorem setSpc_prog : (s.setSpc q).prog = s.prog := rfl
@[simp] theorem setSpc_spawned : (s.setSpc q).spawned = s.spawned := rfl
@[simp] theorem setSpc_hist : (s.setSpc q).hist = s.hist := rfl
end proj

theorem firstLive_drop (ws : List WPc) (k : Nat) :
    (∃ t, firstLive (ws.drop k) (k + 1) = some t ∧ k + 1 ≤ t ∧ t ≤ ws.length ∧
      ws[t - 1]? ≠ some .exited ∧ ∀ j, k + 1 ≤ j → j < t → ws[j - 1]? = some .exited) ∨
    (firstLive (ws.drop k) (k + 1) = none ∧
      ∀ j, k + 1 ≤ j → j ≤ ws.length → ws[j - 1]? = some .exited) := by
  rcases Nat.lt_or_ge k ws.length with hk | hk
  · rw [List.drop_eq_getElem_cons hk, firstLive]
    by_cases he : ws[k] = .exited
    · rw [if_pos he]
      have hke : ws[k]? = some .exited := by rw [List.getElem?_eq_getElem hk, he]
      have step : ∀ j, k + 1 ≤ j → (k + 1 + 1 ≤ j → ws[j - 1]? = some .exited) →
          ws[j - 1]? = some .exited := fun j h1 h2 => by
        rcases Nat.lt_or_ge (k + 1) j with h | h
        · exact h2 h
        · rw [Nat.le_antisymm h h1]; exact hke
      rcases firstLive_drop ws (k + 1) with ⟨t, h1, h2, h3, h4, h5⟩ | ⟨h1, h2⟩
      · exact .inl ⟨t, h1, by omega, h3, h4, fun j hj1 hj2 => step j hj1 fun h => h5 j h hj2⟩
      · exact .inr ⟨h1, fun j hj1 hj2 => step j hj1 fun h => h2 j h hj2⟩
    · rw [if_neg he]
      refine .inl ⟨k + 1, rfl, Nat.le_refl _, hk, ?_, fun j h1 h2 => absurd h1 (by omega)⟩
      rw [Nat.add_sub_cancel, List.getElem?_eq_getElem hk]
      exact fun h => he (Option.some.inj h)
  · rw [List.drop_eq_nil_of_le hk]
    exact .inr ⟨rfl, fun j h1 h2 => absurd h2 (by omega)⟩
termination_by ws.length - k

theorem joinFrom_cases (s : State) (tid : Nat) (rest : List Op) (first : Bool) (htid : 1 ≤ tid) :
    (∃ t e, quiet e = true ∧ tid ≤ t ∧ t ≤ s.workers.length ∧ s.workers[t - 1]? ≠ some .exited ∧
        (∀ k, tid ≤ k → k < t → s.workers[k - 1]? = some .exited) ∧
        joinFrom s tid rest first = { s with spc := .joining t }.log 0 e) ∨
    (∃ e, quiet e = true ∧
        (∀ k, tid ≤ k → k ≤ s.workers.length → s.workers[k - 1]? = some .exited) ∧
        joinFrom s tid rest first = { s with spc := .ready, prog := rest }.log 0 e) := by
  obtain ⟨k, rfl⟩ : ∃ k, tid = k + 1 := ⟨tid - 1, by omega⟩
  unfold joinFrom
  rw [Nat.add_sub_cancel]
  rcases firstLive_drop s.workers k with ⟨t, h1, h2, h3, h4, h5⟩ | ⟨h1, h2⟩ <;> rw [h1]
  · exact .inl ⟨t, _, by cases first <;> rfl, h2, h3, h4, h5, rfl⟩
  · exact .inr ⟨_, by cases first <;> rfl, h2, rfl⟩

def stepHead (s : State) : Except Err State :=
  match s.prog with
  | [] => .error .badChoice
  | .spawn idx :: rest => stepSpawn s idx rest
  | .join n :: rest => stepJoin s n rest
  | .unwrapInput :: rest =>
    .ok ({ s with spc := .ready, prog := rest }.log 0 (.unwrap (s.arc == 1)))
  | .dropPool :: rest => stepDrop s rest

theorem stepSub_loopHead {s : State} (h : s.spc = .ready ∨ s.spc = .woken) :
    stepSub s = stepHead s := by
  rcases h with h | h <;> simp only [stepSub, h] <;> rfl

end BV.Lemmas.Pool
