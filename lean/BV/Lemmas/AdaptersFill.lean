/-
The refill loop `fillBuf` shared by `CompressorReader` and the copy function: what it does whatever the wrapped reader
answers (`fillBuf_spec`, on which both adapters build), and that over a wrapped reader that never fails its result does
not depend on the script at all (`fillBuf_faultFree`).
-/
import BV.Lemmas.AdaptersInner
namespace BV.Adapters

/-- a wrapped reader that may be slow (short reads, `Interrupted`) but never fails and never
answers `Ok(0)` while it still has data -/
def Source.faultFree (s : Source) : Prop := (∀ b ∈ s.script, b.faultFree = true) ∧ s.tail.faultFree = true

def readRes : Except Nat Bytes → Res
  | .ok bs => .n bs.length
  | .error c => .err c

structure Source.Read (s s' : Source) (n : Nat) (r : Except Nat Bytes) : Prop where
  tail : s'.tail = s.tail
  log : ∃ pre, s'.log = ⟨1, n, readRes r⟩ :: (pre ++ s.log) ∧ ∀ e ∈ pre, e = ⟨1, n, .intr⟩
  script : ∃ used, s.script = used ++ s'.script
  data : match r with
    | .ok bs => bs.length ≤ n ∧ s.data = bs ++ s'.data
    | .error _ => s'.data = s.data

theorem Source.read_cases (s s' : Source) (n : Nat) (r : Except Nat Bytes) (h : s.read n = (s', r)) :
    Source.Read s s' n r := by
  unfold Source.read at h
  obtain ⟨pre, hp, hq⟩ := retryCall_log s.tail 1 n (min n s.data.length) s.script s.log
  obtain ⟨used, hu⟩ := retryCall_script s.tail 1 n (min n s.data.length) s.script s.log
  have hle := retryCall_le s.tail 1 n (min n s.data.length) s.script s.log
  split at h
  · next sc lg k heq =>
    simp only [Prod.mk.injEq] at h
    obtain ⟨h1, h2⟩ := h
    subst h1 h2
    have hk := hle k (by rw [heq])
    simp only [heq] at hp hu
    refine ⟨rfl, ⟨pre, ?_, hq⟩, ⟨used, hu⟩, ⟨?_, ?_⟩⟩
    · simp only [readRes, List.length_take]
      have : min k s.data.length = k := by omega
      rw [this]; simpa [exceptToRes] using hp
    · simp [List.length_take]; omega
    · simp
  · next sc lg c heq =>
    simp only [Prod.mk.injEq] at h
    obtain ⟨h1, h2⟩ := h
    subst h1 h2
    simp only [heq] at hp hu
    exact ⟨rfl, ⟨pre, by simpa [exceptToRes, readRes] using hp, hq⟩, ⟨used, hu⟩, rfl⟩

theorem Source.read_faultFree (s : Source) (n : Nat) (hf : s.faultFree) (hn : 0 < n) :
    ∃ bs, (s.read n).2 = .ok bs ∧ (s.data ≠ [] → bs ≠ []) ∧ (s.read n).1.faultFree := by
  obtain ⟨k, hk, hkpos⟩ := retryCall_faultFree s.tail 1 n (min n s.data.length) s.script s.log hf.1 hf.2
  obtain ⟨used, hu⟩ := retryCall_script s.tail 1 n (min n s.data.length) s.script s.log
  have hff : ∀ b ∈ (retryCall s.tail 1 n (min n s.data.length) s.script s.log).1, b.faultFree = true := by
    intro b hb; apply hf.1; rw [hu]; exact List.mem_append_right _ hb
  unfold Source.read
  split
  · next sc lg k' heq =>
    simp only [heq] at hk hff
    simp only [Except.ok.injEq] at hk
    subst hk
    refine ⟨s.data.take k', rfl, ?_, ⟨hff, hf.2⟩⟩
    intro hd
    have hpos : 0 < min n s.data.length := by
      have : 0 < s.data.length := List.length_pos_iff.mpr hd
      omega
    have hk2pos := hkpos hpos
    intro hnil
    have : (s.data.take k').length = 0 := by rw [hnil]; rfl
    have hle := retryCall_le s.tail 1 n (min n s.data.length) s.script s.log k' (by rw [heq])
    have h0 : min k' s.data.length = 0 := by rw [← List.length_take]; exact this
    have hdl : 0 < s.data.length := List.length_pos_iff.mpr hd
    omega
  · next sc lg c heq => simp [heq] at hk

theorem storeAt_take (buf : Bytes) (len : Nat) (bs : Bytes) (h1 : len + bs.length ≤ buf.length) :
    (storeAt buf len bs).take (len + bs.length) = buf.take len ++ bs := by
  have hl : (buf.take len).length = len := by simp [List.length_take]; omega
  unfold storeAt
  rw [List.take_take, Nat.min_eq_left h1, List.append_assoc, List.take_append]
  simp only [hl]
  rw [List.take_of_length_le (by omega)]
  simp

structure Filled (buf : Bytes) (len : Nat) (eof : Bool) (src : Source) (f : Fill) (moved : Bytes) (newL : List LogE) :
    Prop where
  bufLen : f.buf.length = buf.length
  lenLe : f.len ≤ buf.length
  tail : f.src.tail = src.tail
  eofKept : eof = true → f.eof = true
  loopOver : f.err = none → ¬(f.len < buf.length ∧ f.eof = false)
  lenEq : f.len = len + moved.length
  filled : f.buf.take f.len = buf.take len ++ moved
  data : src.data = moved ++ f.src.data
  log : f.src.log = newL ++ src.log
  errLog : ∀ c, f.err = some c → ⟨1, buf.length - f.len, .err c⟩ ∈ newL
  okLog : f.err = none → ∀ e ∈ newL, ∀ c, e.res ≠ .err c

theorem fillBuf_spec (buf : Bytes) (len : Nat) (eof : Bool) (src : Source) (reads : Nat) (hlen : len ≤ buf.length) :
    ∃ (moved : Bytes) (newL : List LogE), Filled buf len eof src (fillBuf buf len eof src reads) moved newL := by
  fun_induction fillBuf buf len eof src reads
  case case1 buf len eof src reads h src' c hx =>
    have hR := Source.read_cases _ _ _ _ hx
    have t1 := hR.tail
    have hd := hR.data
    obtain ⟨pre, hl, hp⟩ := hR.log
    refine ⟨[], ⟨1, buf.length - len, .err c⟩ :: pre, rfl, hlen, t1, fun h' => h', by simp, by simp, by simp,
      by simpa using hd.symm, by simpa [readRes] using hl, ?_, by simp⟩
    intro c' hc'; simp at hc'; subst hc'; simp
  case case2 buf len eof src reads h src' bs hx hz ih =>
    have hR := Source.read_cases _ _ _ _ hx
    have t1 := hR.tail
    obtain ⟨hble, hd⟩ := hR.data
    obtain ⟨pre, hl, hp⟩ := hR.log
    have hbs : bs = [] := List.eq_nil_of_length_eq_zero hz
    subst hbs
    obtain ⟨moved, newL, i⟩ := ih hlen
    refine ⟨moved, newL ++ ⟨1, buf.length - len, .n 0⟩ :: pre, i.bufLen, i.lenLe, by rw [i.tail, t1], fun _ => i.eofKept rfl,
      i.loopOver, i.lenEq, i.filled, ?_, ?_, ?_, ?_⟩
    · rw [hd]; simpa using i.data
    · rw [i.log, hl]; simp [readRes]
    · intro c hc; exact List.mem_append_left _ (i.errLog c hc)
    · exact fun hn => List.forall_mem_append.mpr
        ⟨i.okLog hn, List.forall_mem_cons.mpr ⟨by simp, fun e h' => by rw [hp e h']; simp⟩⟩
  case case3 buf len eof src reads h src' bs hx hz ih =>
    have hR := Source.read_cases _ _ _ _ hx
    have t1 := hR.tail
    obtain ⟨hble, hd⟩ := hR.data
    obtain ⟨pre, hl, hp⟩ := hR.log
    have hfit : len + bs.length ≤ buf.length := by omega
    obtain ⟨moved, newL, i⟩ := ih (by rw [storeAt_length]; exact hfit)
    have hbuf := i.bufLen
    have hle := i.lenLe
    have hover := i.loopOver
    have herr := i.errLog
    rw [storeAt_length] at hbuf hle hover herr
    refine ⟨bs ++ moved, newL ++ ⟨1, buf.length - len, .n bs.length⟩ :: pre, hbuf, hle, by rw [i.tail, t1],
      fun he => absurd he (by simp [h.2]), hover, ?_, ?_, ?_, ?_, ?_, ?_⟩
    · rw [i.lenEq]; simp; omega
    · rw [i.filled, storeAt_take _ _ _ hfit]; simp
    · rw [hd, i.data]; simp
    · rw [i.log, hl]; simp [readRes]
    · intro c hc; exact List.mem_append_left _ (herr c hc)
    · exact fun hn => List.forall_mem_append.mpr
        ⟨i.okLog hn, List.forall_mem_cons.mpr ⟨by simp, fun e h' => by rw [hp e h']; simp⟩⟩
  case case4 buf len eof src reads h =>
    exact ⟨[], [], rfl, hlen, rfl, fun h' => h', fun _ => h, by simp, by simp, by simp, by simp, by simp, by simp⟩

def fillAmount (bufLen len : Nat) (eof : Bool) (avail : Nat) : Nat :=
  if eof then 0 else min (bufLen - len) avail

theorem fillBuf_faultFree_len (buf : Bytes) (len : Nat) (eof : Bool) (src : Source) (reads : Nat)
    (hlen : len ≤ buf.length) (hf : src.faultFree) :
    (fillBuf buf len eof src reads).err = none ∧
    (fillBuf buf len eof src reads).len = len + fillAmount buf.length len eof src.data.length ∧
    (fillBuf buf len eof src reads).eof = (eof || decide (src.data.length < buf.length - len)) ∧
    (fillBuf buf len eof src reads).src.faultFree := by
  fun_induction fillBuf buf len eof src reads
  case case1 buf len eof src reads h src' c hx =>
    obtain ⟨bs, hb, _⟩ := Source.read_faultFree src (buf.length - len) hf (by omega)
    rw [hx] at hb; cases hb
  case case2 buf len eof src reads h src' bs hx hz ih =>
    obtain ⟨bs', hb, hne, hff⟩ := Source.read_faultFree src (buf.length - len) hf (by omega)
    rw [hx] at hb hff; cases hb
    have hd := (Source.read_cases _ _ _ _ hx).data.2
    have hdnil : src.data = [] := by
      cases hsd : src.data with
      | nil => rfl
      | cons a t => exact absurd (List.eq_nil_of_length_eq_zero hz) (hne (by simp [hsd]))
    have hd' : src'.data = [] := by rw [hdnil, List.eq_nil_of_length_eq_zero hz] at hd; exact hd.symm
    obtain ⟨i1, i2, i3, i4⟩ := ih hlen hff
    refine ⟨i1, ?_, ?_, i4⟩
    · rw [i2]; simp [fillAmount, hdnil]
    · rw [i3]; simp [h.2, hdnil]; omega
  case case3 buf len eof src reads h src' bs hx hz ih =>
    obtain ⟨bs', hb, _, hff⟩ := Source.read_faultFree src (buf.length - len) hf (by omega)
    rw [hx] at hb hff; cases hb
    obtain ⟨hble, hd⟩ := (Source.read_cases _ _ _ _ hx).data
    obtain ⟨i1, i2, i3, i4⟩ := ih (by rw [storeAt_length]; omega) hff
    rw [storeAt_length] at i2 i3
    have he : eof = false := h.2
    subst he
    have hdl : src.data.length = bs.length + src'.data.length := by rw [hd, List.length_append]
    refine ⟨i1, ?_, ?_, i4⟩
    · rw [i2]; simp only [fillAmount, Bool.false_eq_true, if_false]
      clear ih hx hff hf i1 i2 i3 i4 hd hz
      omega
    · rw [i3]; simp only [Bool.false_or, decide_eq_decide]
      clear ih hx hff hf i1 i2 i3 i4 hd hz
      omega
  case case4 buf len eof src reads h =>
    refine ⟨rfl, ?_, ?_, hf⟩
    · cases eof
      · have : ¬ len < buf.length := by simpa using h
        simp [fillAmount]; omega
      · simp [fillAmount]
    · cases eof
      · have : ¬ len < buf.length := by simpa using h
        simp; omega
      · simp

/-- `f` is the result of a refill loop over a fault-free source: a function of the buffer, the fill level, the EOF
flag and the remaining source bytes only — not of the script -/
structure FilledClean (buf : Bytes) (len : Nat) (eof : Bool) (src : Source) (f : Fill) : Prop where
  errNone : f.err = none
  bufLen : f.buf.length = buf.length
  lenEq : f.len = len + fillAmount buf.length len eof src.data.length
  filled : f.buf.take f.len = buf.take len ++ src.data.take (fillAmount buf.length len eof src.data.length)
  data : f.src.data = src.data.drop (fillAmount buf.length len eof src.data.length)
  eofEq : f.eof = (eof || decide (src.data.length < buf.length - len))
  ff : f.src.faultFree

theorem fillBuf_faultFree (buf : Bytes) (len : Nat) (eof : Bool) (src : Source) (reads : Nat)
    (hlen : len ≤ buf.length) (hf : src.faultFree) : FilledClean buf len eof src (fillBuf buf len eof src reads) := by
  obtain ⟨herr, hlenEq, heof, hff⟩ := fillBuf_faultFree_len buf len eof src reads hlen hf
  obtain ⟨moved, newL, k⟩ := fillBuf_spec buf len eof src reads hlen
  have hm : moved.length = fillAmount buf.length len eof src.data.length := by have := k.lenEq; omega
  have ht : src.data.take (fillAmount buf.length len eof src.data.length) = moved := by
    rw [← hm]; conv => lhs; rw [k.data]
    exact List.take_left' rfl
  have hdr : src.data.drop (fillAmount buf.length len eof src.data.length) = (fillBuf buf len eof src reads).src.data := by
    rw [← hm]; conv => lhs; rw [k.data]
    exact List.drop_left' rfl
  exact ⟨herr, k.bufLen, hlenEq, by rw [k.filled, ht], hdr.symm, heof, hff⟩

end BV.Adapters
