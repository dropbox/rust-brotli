/-
C17: `BrotliStoreHuffmanTreeToBitMask` / RFC reader round trip
for an abstract "symbol I/O" (covers the ordinary code-length code and the
single-symbol code whose code word has zero length).
-/
import BV.Lemmas.HuffmanStoreRead

namespace BV.Lemmas.HuffmanStoreIO
open BV.Bits BV.Huffman BV.Lemmas.HuffmanBits BV.Lemmas.HuffmanCanon BV.Lemmas.HuffmanPrefix
open BV.Lemmas.HuffmanRead BV.Lemmas.HuffmanRle BV.Lemmas.HuffmanStoreRead

structure SymIO (clW clR clBits : List Nat) (symBits : Nat → List Bool) (used : Nat → Prop) :
    Prop where
  hlenW : clW.length = 18
  hlenB : clBits.length = 18
  hw : ∀ s (w : Writer), s < 18 → used s →
    writeBits (clW.getD s 0) (clBits.getD s 0) w = .ok (w ++ symBits s)
  hr : ∀ s (rest : List Bool), s < 18 → used s → readSym clR (symBits s ++ rest) = some (s, rest)

def ValidEntryU (used : Nat → Prop) (e : Nat × Nat) : Prop :=
  e.1 < 18 ∧ used e.1 ∧ (e.1 = 16 → e.2 < 4) ∧ (e.1 = 17 → e.2 < 8)

def entryBitsU (symBits : Nat → List Bool) (e : Nat × Nat) : List Bool :=
  symBits e.1 ++ (if e.1 = 16 then bitsOf 2 e.2 else if e.1 = 17 then bitsOf 3 e.2 else [])

theorem _root_.BV.Lemmas.HuffmanRle.EntryShape.valid {b : Nat} {e : Nat × Nat} {used : Nat → Prop} (h : EntryShape b e)
    (hb : b ≤ 16) (hu : used e.1) : ValidEntryU used e := by
  rcases h with h | h | h
  · exact ⟨by omega, hu, fun _ => by omega, fun _ => by omega⟩
  · exact ⟨by omega, hu, fun _ => h.2, fun _ => by omega⟩
  · exact ⟨by omega, hu, fun _ => by omega, fun _ => h.2⟩

theorem storeEntriesU {clW clR clBits : List Nat} {symBits : Nat → List Bool} {used : Nat → Prop}
    (hc : SymIO clW clR clBits symBits used) :
    ∀ (E : List (Nat × Nat)) (w : Writer), (∀ e ∈ E, ValidEntryU used e) →
    storeHuffmanTreeToBitMask clW clBits E w = .ok (w ++ (E.map (entryBitsU symBits)).flatten) := by
  intro E
  induction E with
  | nil => intro w _; simp [storeHuffmanTreeToBitMask]
  | cons e E ih =>
    intro w hv
    obtain ⟨ix, extra⟩ := e
    obtain ⟨h18, hused, h16, h17⟩ := hv (ix, extra) (by simp)
    simp only at h18 hused h16 h17
    simp only [storeHuffmanTreeToBitMask, getAt_getD clW ix 0 (by rw [hc.hlenW]; exact h18),
      getAt_getD clBits ix 0 (by rw [hc.hlenB]; exact h18), Out.bind_ok, hc.hw ix w h18 hused]
    by_cases e16 : ix = 16
    · subst e16
      simp only [↓reduceIte, writeBits_ok 2 extra _ (h16 rfl) (by omega), Out.bind_ok]
      rw [ih _ (fun e he => hv e (List.mem_cons_of_mem _ he))]
      simp [entryBitsU]
    · by_cases e17 : ix = 17
      · subst e17
        simp only [e16, ↓reduceIte, writeBits_ok 3 extra _ (h17 rfl) (by omega), Out.bind_ok]
        rw [ih _ (fun e he => hv e (List.mem_cons_of_mem _ he))]
        simp [entryBitsU]
      · simp only [e16, e17, ↓reduceIte]
        rw [ih _ (fun e he => hv e (List.mem_cons_of_mem _ he))]
        simp [entryBitsU, e16, e17]

theorem readEntriesU {clW clR clBits : List Nat} {symBits : Nat → List Bool} {used : Nat → Prop}
    (hc : SymIO clW clR clBits symBits used) (A : Nat) :
    ∀ (E : List (Nat × Nat)) (s0 : ExpandState) (f : Nat) (rest : List Bool),
    (∀ e ∈ E, ValidEntryU used e) → E.length + 1 ≤ f →
    (∀ k, k < E.length → (run s0 (E.take k)).out.length < A ∧
        kraftSum 15 (run s0 (E.take k)).out < 32768) →
    (run s0 E).out.length ≤ A → kraftSum 15 (run s0 E).out = 32768 →
    readLensGo clR A f s0 ((E.map (entryBitsU symBits)).flatten ++ rest)
      = some ((run s0 E).out ++ List.replicate (A - (run s0 E).out.length) 0, rest) := by
  intro E
  induction E with
  | nil =>
    intro s0 f rest _ hf _ hlen hkr
    obtain ⟨f', rfl⟩ : ∃ f', f = f' + 1 := ⟨f - 1, by simp at hf; omega⟩
    simp only [run_nil] at hlen hkr
    simp only [List.map_nil, List.flatten_nil, List.nil_append, readLensGo, run_nil, hkr]
    simp [show ¬ s0.out.length > A by omega]
  | cons e E ih =>
    intro s0 f rest hv hf hpre hlen hkr
    obtain ⟨f', rfl⟩ : ∃ f', f = f' + 1 := ⟨f - 1, by simp at hf; omega⟩
    obtain ⟨ix, extra⟩ := e
    obtain ⟨h18, hused, h16, h17⟩ := hv (ix, extra) (by simp)
    simp only at h18 hused h16 h17
    have h0 := hpre 0 (by simp)
    simp only [List.take_zero, run_nil] at h0
    have hgo : ¬ (s0.out.length ≥ A ∨ kraftSum 15 s0.out ≥ 32768) := by omega
    simp only [List.map_cons, List.flatten_cons, readLensGo, hgo, ↓reduceIte]
    have hsym := hc.hr ix
      ((if ix = 16 then bitsOf 2 extra else if ix = 17 then bitsOf 3 extra else []) ++
        ((E.map (entryBitsU symBits)).flatten ++ rest)) h18 hused
    have hassoc : entryBitsU symBits (ix, extra) ++ (List.map (entryBitsU symBits) E).flatten ++ rest
        = symBits ix ++
          ((if ix = 16 then bitsOf 2 extra else if ix = 17 then bitsOf 3 extra else []) ++
            ((E.map (entryBitsU symBits)).flatten ++ rest)) := by
      simp [entryBitsU, List.append_assoc]
    rw [hassoc, hsym]
    simp only
    have hrec : ∀ s1, s1 = expandStep s0 ix extra →
        readLensGo clR A f' s1 ((E.map (entryBitsU symBits)).flatten ++ rest)
          = some ((run s0 ((ix, extra) :: E)).out ++
              List.replicate (A - (run s0 ((ix, extra) :: E)).out.length) 0, rest) := by
      intro s1 hs1
      subst hs1
      apply ih (expandStep s0 ix extra) f' rest (fun e he => hv e (List.mem_cons_of_mem _ he))
        (by simp at hf; omega)
      · intro k hk
        have := hpre (k + 1) (by simp; omega)
        simpa using this
      · simpa using hlen
      · simpa using hkr
    by_cases hlit : ix < 16
    · have e16 : ¬ ix = 16 := by omega
      have e17 : ¬ ix = 17 := by omega
      simp only [hlit, ↓reduceIte, e16, e17, List.nil_append]
      have hes : expandStep s0 ix 0 = expandStep s0 ix extra := by
        simp [expandStep, hlit]
      rw [hes]
      exact hrec _ rfl
    · simp only [hlit, ↓reduceIte]
      by_cases e16 : ix = 16
      · subst e16
        simp only [↓reduceIte, takeBits_bitsOf 2 extra _ (h16 rfl)]
        exact hrec _ rfl
      · have e17 : ix = 17 := by omega
        subst e17
        simp only [show ¬ (17 = 16) by decide, ↓reduceIte, takeBits_bitsOf 3 extra _ (h17 rfl)]
        exact hrec _ rfl

theorem trim_getD (d : List Nat) (i : Nat) (h : i < (trimTrailingZeros d).length) :
    (trimTrailingZeros d).getD i 0 = d.getD i 0 := by
  conv => rhs; rw [← trim_pad d]
  rw [List.getD_eq_getElem?_getD, List.getD_eq_getElem?_getD, List.getElem?_append_left h]

theorem trim_length_le_of_zeros (d : List Nat) (A : Nat)
    (hz : ∀ i, A ≤ i → i < d.length → d.getD i 0 = 0) : (trimTrailingZeros d).length ≤ A := by
  by_cases hne : trimTrailingZeros d = []
  · rw [hne]; exact Nat.zero_le _
  · by_cases hle : (trimTrailingZeros d).length ≤ A
    · exact hle
    · exfalso
      have hlast := trim_last d hne
      have hl := trim_length_le d
      have hpos : 0 < (trimTrailingZeros d).length := List.length_pos_iff.mpr hne
      have hg := trim_getD d ((trimTrailingZeros d).length - 1) (by omega)
      rw [hz _ (by omega) (by omega)] at hg
      apply hlast
      rw [List.getLast_eq_getElem]
      have : (trimTrailingZeros d).getD ((trimTrailingZeros d).length - 1) 0
          = (trimTrailingZeros d)[(trimTrailingZeros d).length - 1]'(by omega) := by
        rw [List.getD_eq_getElem?_getD, List.getElem?_eq_getElem (by omega)]; rfl
      rw [← this]; exact hg

theorem trim_take (d : List Nat) (A : Nat) (hA : A ≤ d.length)
    (hz : ∀ i, A ≤ i → i < d.length → d.getD i 0 = 0) :
    trimTrailingZeros d ++ List.replicate (A - (trimTrailingZeros d).length) 0 = d.take A := by
  have hle := trim_length_le_of_zeros d A hz
  have hl := trim_length_le d
  conv => rhs; rw [← trim_pad d]
  rw [List.take_append, List.take_of_length_le hle, List.take_replicate]
  congr 2
  omega

theorem store_entries_roundtripA {clW clR clBits : List Nat} {symBits : Nat → List Bool}
    {used : Nat → Prop} (hc : SymIO clW clR clBits symBits used) (d : List Nat) (A : Nat)
    (hd : ∀ x ∈ d, x ≤ 15) (hlen : d.length < 2 ^ 64) (hk : kraftSum 15 d = 32768)
    (hA : A ≤ d.length) (hz : ∀ i, A ≤ i → i < d.length → d.getD i 0 = 0)
    (useNZ useZ : Bool)
    (hvalid : ∀ e ∈ writeHuffmanTreeWith useNZ useZ d, ValidEntryU used e) (w rest : List Bool) :
    storeHuffmanTreeToBitMask clW clBits (writeHuffmanTreeWith useNZ useZ d) w
        = .ok (w ++ ((writeHuffmanTreeWith useNZ useZ d).map (entryBitsU symBits)).flatten) ∧
      readLensGo clR A (A + 1) ⟨[], 8, none⟩
        (((writeHuffmanTreeWith useNZ useZ d).map (entryBitsU symBits)).flatten ++ rest)
        = some (d.take A, rest) := by
  refine ⟨storeEntriesU hc _ w hvalid, ?_⟩
  have hd' : ∀ x ∈ trimTrailingZeros d, x < 16 :=
    trim_lt d (fun x hx => Nat.lt_succ_of_le (hd x hx))
  have hl := trim_length_le d
  have hlA := trim_length_le_of_zeros d A hz
  have hrt := writeLoop_roundtrip useNZ useZ _ (trimTrailingZeros d) rfl
    (by unfold u64; omega) hd' 8 ⟨[], 8, none⟩ rfl (by intro x _; rfl)
  have hout : (run ⟨[], 8, none⟩ (writeHuffmanTreeWith useNZ useZ d)).out = trimTrailingZeros d := by
    simpa [writeHuffmanTreeWith] using hrt
  have hkt : kraftSum 15 (trimTrailingZeros d) = 32768 := by rw [kraftSum_trim]; exact hk
  have hne : trimTrailingZeros d ≠ [] := by
    intro h; rw [h] at hkt; simp [kraftSum] at hkt
  have hwl := writeLoop_length useNZ useZ _ (trimTrailingZeros d) rfl (by unfold u64; omega) 8
  have hElen : (writeHuffmanTreeWith useNZ useZ d).length ≤ A := by
    unfold writeHuffmanTreeWith; omega
  have hwf : WF ⟨[], 8, none⟩ := fun v c h => by simp at h
  have hpre := prefix_conditions (writeHuffmanTreeWith useNZ useZ d) ⟨[], 8, none⟩ hwf A
    (by rw [hout]; exact hne)
    (by
      have := trim_last d hne
      simpa [hout] using this)
    (by rw [hout]; intro x hx; have := hd' x hx; omega)
    (by rw [hout]; exact hlA) (by rw [hout]; exact hkt)
  have := readEntriesU hc A (writeHuffmanTreeWith useNZ useZ d) ⟨[], 8, none⟩
    (A + 1) rest hvalid (by omega) hpre (by rw [hout]; exact hlA) (by rw [hout]; exact hkt)
  rw [this, hout, trim_take d A hA hz]

theorem store_entries_roundtripU {clW clR clBits : List Nat} {symBits : Nat → List Bool}
    {used : Nat → Prop} (hc : SymIO clW clR clBits symBits used) (d : List Nat)
    (hd : ∀ x ∈ d, x ≤ 15) (hlen : d.length < 2 ^ 64) (hk : kraftSum 15 d = 32768)
    (useNZ useZ : Bool)
    (hvalid : ∀ e ∈ writeHuffmanTreeWith useNZ useZ d, ValidEntryU used e) (w rest : List Bool) :
    storeHuffmanTreeToBitMask clW clBits (writeHuffmanTreeWith useNZ useZ d) w
        = .ok (w ++ ((writeHuffmanTreeWith useNZ useZ d).map (entryBitsU symBits)).flatten) ∧
      readLensGo clR d.length (d.length + 1) ⟨[], 8, none⟩
        (((writeHuffmanTreeWith useNZ useZ d).map (entryBitsU symBits)).flatten ++ rest)
        = some (d, rest) := by
  have := store_entries_roundtripA hc d d.length hd hlen hk (Nat.le_refl _)
    (fun i h1 h2 => absurd h2 (by omega)) useNZ useZ hvalid w rest
  rwa [List.take_length] at this

theorem symIO_of_clCode (cl clBits : List Nat) (hc : ClCode cl clBits) :
    SymIO cl cl clBits (fun s => bitsOf (cl.getD s 0) (clBits.getD s 0))
      (fun s => cl.getD s 0 ≠ 0) :=
  { hlenW := hc.hlen, hlenB := hc.hblen,
    hw := by
      intro s w h18 hused
      have hmem : cl.getD s 0 ∈ cl := by
        rw [List.getD_eq_getElem?_getD, List.getElem?_eq_getElem (by rw [hc.hlen]; exact h18)]; simp
      have hl15 := hc.hall _ hmem
      apply writeBits_ok _ _ w _ (by omega)
      rw [hc.hbits s h18 hused, reverseBits_eq _ _ (by omega) (by omega)]
      exact revSpec_lt _ _,
    hr := by
      intro s rest h18 hused
      have := readSym_spec cl s rest (by rw [hc.hlen]; exact h18) hc.hall hc.hk hused hc.h2
      rw [← hc.hbits s h18 hused] at this
      exact this }

end BV.Lemmas.HuffmanStoreIO
