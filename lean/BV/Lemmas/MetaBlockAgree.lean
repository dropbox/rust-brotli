/-
C01 / meta-block writers: the GENERAL reader extends the single-type reader.  Whatever
`readMetaBlockFull` (NBLTYPES = 1 per category, NTREES = 1) accepts, `readMetaBlockFullG` reads to the same
result: with one block type `Cat.next` never switches, with an all-zero context map every context selects tree 0.
So every theorem stated with the single-type reader holds for the general reader.
-/
import BV.Lemmas.MetaBlockCtx

namespace BV.MetaBlock
open BV.Gen BV.Bits BV.Huffman BV.PrefixArith BV.Recoder BV.HeaderSpec

def Trees.one (np nd m : Nat) (lit cmd dist : Code) : Trees :=
  ⟨np, nd, [m], List.replicate 64 0, List.replicate 4 0, [lit], [cmd], [dist]⟩

theorem getD_lt_of_all (l : List Nat) (B i : Nat) (hB : 0 < B) (h : l.all (· < B) = true) : l.getD i 0 < B := by
  rcases Nat.lt_or_ge i l.length with hi | hi
  · have := List.all_eq_true.mp h _ (getD_mem l i 0 hi)
    simpa using this
  · rw [List.getD_eq_getElem?_getD, List.getElem?_eq_none hi]; exact hB

theorem rfcLiteralContext_lt (mode p1 p2 : Nat) : rfcLiteralContext mode p1 p2 < 64 := by
  unfold rfcLiteralContext
  split
  · exact Nat.mod_lt _ (by decide)
  · split
    · exact Nat.mod_lt _ (by decide)
    · split
      · have a := getD_lt_of_all kUTF8ContextLookup 64 p1 (by decide) utf8_table.2
        have b := getD_lt_of_all kUTF8ContextLookup 64 (256 + p2) (by decide) utf8_table.2
        have : kUTF8ContextLookup.getD p1 0 ||| kUTF8ContextLookup.getD (256 + p2) 0 < 2 ^ 6 := Nat.or_lt_two_pow a b
        exact this
      · have a := getD_lt_of_all kSigned3BitContextLookup 8 p1 (by decide) signed_table.2
        have b := getD_lt_of_all kSigned3BitContextLookup 8 p2 (by decide) signed_table.2
        omega

theorem rfcDistanceContext_lt (cl : Nat) : rfcDistanceContext cl < 4 := by
  unfold rfcDistanceContext
  split
  · decide
  · split
    · decide
    · split <;> decide

theorem readLiteralsG_one (np nd m : Nat) (lit cmd dist : Code) : ∀ (n : Nat) (out acc : Bytes) (bs : List Bool),
    readLiteralsG (Trees.one np nd m lit cmd dist) n Cat.one (out ++ acc) bs
      = (readLiterals lit n acc bs).map fun p => (Cat.one, out ++ p.1, p.2) := by
  intro n
  induction n with
  | zero => intro out acc bs; rfl
  | succ n ih =>
    intro out acc bs
    unfold readLiteralsG readLiterals
    have hn : Cat.one.next bs = some (Cat.one, bs) := rfl
    rw [hn]
    simp only
    have hb : Cat.one.btype = 0 := rfl
    rw [hb, Nat.mul_zero, Nat.zero_add]
    have hm : (Trees.one np nd m lit cmd dist).cmapL = List.replicate 64 0 := rfl
    have hl : (Trees.one np nd m lit cmd dist).lit = [lit] := rfl
    rw [hm, List.getElem?_replicate_of_lt (rfcLiteralContext_lt _ _ _)]
    simp only
    rw [hl]
    simp only [List.getElem?_cons_zero]
    cases lit.read bs with
    | none => rfl
    | some p =>
      obtain ⟨b, r⟩ := p
      simp only
      rw [List.append_assoc, ih]

theorem readInsertG_one (np nd m : Nat) (lit cmd dist : Code) (mlen done : Nat) (out : Bytes) (bs : List Bool) :
    readInsertG (Trees.one np nd m lit cmd dist) Cat.one Cat.one mlen done out bs
      = (readInsert lit cmd mlen done out bs).map fun p => (Cat.one, Cat.one, p.1, p.2.1, p.2.2.1, p.2.2.2.1, p.2.2.2.2) := by
  unfold readInsertG readInsert
  have hn : Cat.one.next bs = some (Cat.one, bs) := rfl
  rw [hn]
  simp only
  have hb : Cat.one.btype = 0 := rfl
  have hc : (Trees.one np nd m lit cmd dist).cmd = [cmd] := rfl
  rw [hb, hc]
  simp only [List.getElem?_cons_zero]
  cases cmd.read bs with
  | none => rfl
  | some p =>
    obtain ⟨sym, bs1⟩ := p
    simp only
    split
    · rfl
    · cases rfcInsTable[(rfcCmdDecode sym).1]? with
      | none => rfl
      | some ie =>
        obtain ⟨ib, ie⟩ := ie
        cases rfcCopyTable[(rfcCmdDecode sym).2.1]? with
        | none => rfl
        | some ce =>
          obtain ⟨cb, ce⟩ := ce
          simp only
          cases takeBits ie bs1 with
          | none => rfl
          | some q =>
            obtain ⟨e1, bs2⟩ := q
            simp only
            cases takeBits ce bs2 with
            | none => rfl
            | some q2 =>
              obtain ⟨e2, bs3⟩ := q2
              simp only
              split
              · rfl
              · have := readLiteralsG_one np nd m lit cmd dist (ib + e1) out [] bs3
                rw [List.append_nil] at this
                rw [this]
                cases readLiterals lit (ib + e1) [] bs3 with
                | none => rfl
                | some r => rfl

theorem readCopyG_one (wo : WordOracle) (window np nd m : Nat) (lit cmd dist : Code) (mlen done : Nat) (imp : Bool)
    (cl : Nat) (out : Bytes) (ring : List Int) (bs : List Bool) :
    readCopyG wo window (Trees.one np nd m lit cmd dist) Cat.one mlen done imp cl out ring bs
      = (readCopy wo window np nd dist mlen done imp cl out ring bs).map fun p => (Cat.one, p.1, p.2.1, p.2.2) := by
  unfold readCopyG readCopy
  have hnp : (Trees.one np nd m lit cmd dist).npostfix = np := rfl
  have hnd : (Trees.one np nd m lit cmd dist).ndirect = nd := rfl
  rw [hnp, hnd]
  cases imp with
  | true =>
    simp only [if_true]
    cases takeBits (if 0 < 16 + nd then 0 else rfcDistNBits np nd 0) bs with
    | none => rfl
    | some q =>
      obtain ⟨extra, bs1⟩ := q
      simp only
      cases applyCopy wo window np nd mlen done cl out ring 0 extra with
      | none => rfl
      | some r => rfl
  | false =>
    simp only [Bool.false_eq_true, if_false]
    have hn : Cat.one.next bs = some (Cat.one, bs) := rfl
    rw [hn]
    simp only
    have hb : Cat.one.btype = 0 := rfl
    have hm : (Trees.one np nd m lit cmd dist).cmapD = List.replicate 4 0 := rfl
    have hd : (Trees.one np nd m lit cmd dist).dist = [dist] := rfl
    rw [hb, Nat.mul_zero, Nat.zero_add, hm, List.getElem?_replicate_of_lt (rfcDistanceContext_lt _)]
    simp only
    rw [hd]
    simp only [List.getElem?_cons_zero]
    cases dist.read bs with
    | none => rfl
    | some p =>
      obtain ⟨ds, bs1⟩ := p
      simp only
      cases takeBits (if ds < 16 + nd then 0 else rfcDistNBits np nd ds) bs1 with
      | none => rfl
      | some q =>
        obtain ⟨extra, bs2⟩ := q
        simp only
        cases applyCopy wo window np nd mlen done cl out ring ds extra with
        | none => rfl
        | some r => rfl

theorem readCommandsG_one (wo : WordOracle) (window np nd m : Nat) (lit cmd dist : Code) (mlen : Nat) :
    ∀ (f done : Nat) (s : RdSt) (bs : List Bool),
    readCommandsG wo window (Trees.one np nd m lit cmd dist) mlen f done Cat.one Cat.one Cat.one s bs
      = readCommands wo window np nd lit cmd dist mlen f done s bs := by
  intro f
  induction f with
  | zero => intro done s bs; rfl
  | succ f ih =>
    intro done s bs
    unfold readCommandsG readCommands
    split
    · rfl
    · rw [readInsertG_one]
      cases readInsert lit cmd mlen done s.out bs with
      | none => rfl
      | some p =>
        obtain ⟨ins, cl, imp, out, bs1⟩ := p
        simp only [Option.map_some]
        split
        · rfl
        · rw [readCopyG_one]
          cases readCopy wo window np nd dist mlen (done + ins) imp cl out s.ring bs1 with
          | none => rfl
          | some q =>
            obtain ⟨n, s', bs2⟩ := q
            simp only [Option.map_some]
            exact ih _ _ _

theorem readCatHeader_zero (bs r : List Bool) (h : readVarLen8 bs = some (0, r)) :
    readCatHeader bs = some (Cat.one, r) := by
  unfold readCatHeader
  rw [h]
  rfl

theorem readContextMap_zero (size : Nat) (bs r : List Bool) (h : readVarLen8 bs = some (0, r)) :
    readContextMap size bs = some (1, List.replicate size 0, r) := by
  unfold readContextMap
  rw [h]
  rfl

theorem readCompressedBodyG_extends (wo : WordOracle) (window : Nat) (large : Bool) (mlen : Nat) (s : RdSt)
    (bs : List Bool) (r : RdSt × List Bool) (h : readCompressedBody wo window large mlen s bs = some r) :
    readCompressedBodyG wo window large mlen s bs = some r := by
  unfold readCompressedBody at h
  unfold readCompressedBodyG
  cases h1 : readVarLen8 bs with
  | none => rw [h1] at h; cases h
  | some p1 =>
    obtain ⟨nl, b1⟩ := p1
    rw [h1] at h
    simp only at h
    by_cases e1 : nl = 0
    case neg => rw [if_pos e1] at h; cases h
    rw [if_neg (by omega)] at h
    subst e1
    rw [readCatHeader_zero bs b1 h1]
    simp only
    cases h2 : readVarLen8 b1 with
    | none => rw [h2] at h; cases h
    | some p2 =>
      obtain ⟨ni, b2⟩ := p2
      rw [h2] at h
      simp only at h
      by_cases e2 : ni = 0
      case neg => rw [if_pos e2] at h; cases h
      rw [if_neg (by omega)] at h
      subst e2
      rw [readCatHeader_zero b1 b2 h2]
      simp only
      cases h3 : readVarLen8 b2 with
      | none => rw [h3] at h; cases h
      | some p3 =>
        obtain ⟨ndt, b3⟩ := p3
        rw [h3] at h
        simp only at h
        by_cases e3 : ndt = 0
        case neg => rw [if_pos e3] at h; cases h
        rw [if_neg (by omega)] at h
        subst e3
        rw [readCatHeader_zero b2 b3 h3]
        simp only
        cases h4 : takeBits 2 b3 with
        | none => rw [h4] at h; cases h
        | some p4 =>
          obtain ⟨np, b4⟩ := p4
          rw [h4] at h
          simp only at h ⊢
          cases h5 : takeBits 4 b4 with
          | none => rw [h5] at h; cases h
          | some p5 =>
            obtain ⟨ndm, b5⟩ := p5
            rw [h5] at h
            simp only at h ⊢
            cases h6 : takeBits 2 b5 with
            | none => rw [h6] at h; cases h
            | some p6 =>
              obtain ⟨m, b6⟩ := p6
              rw [h6] at h
              simp only at h
              have hmodes : readModes Cat.one.nbl b5 = some ([m], b6) := by
                show readModes 1 b5 = _
                simp [readModes, h6]
              rw [hmodes]
              simp only
              cases h7 : readVarLen8 b6 with
              | none => rw [h7] at h; cases h
              | some p7 =>
                obtain ⟨tl, b7⟩ := p7
                rw [h7] at h
                simp only at h
                by_cases e7 : tl = 0
                case neg => rw [if_pos e7] at h; cases h
                rw [if_neg (by omega)] at h
                subst e7
                rw [readContextMap_zero _ b6 b7 h7]
                simp only
                cases h8 : readVarLen8 b7 with
                | none => rw [h8] at h; cases h
                | some p8 =>
                  obtain ⟨td, b8⟩ := p8
                  rw [h8] at h
                  simp only at h
                  by_cases e8 : td = 0
                  case neg => rw [if_pos e8] at h; cases h
                  rw [if_neg (by omega)] at h
                  subst e8
                  rw [readContextMap_zero _ b7 b8 h8]
                  simp only
                  cases h9 : readCode 256 b8 with
                  | none => rw [h9] at h; cases h
                  | some p9 =>
                    obtain ⟨lit, b9⟩ := p9
                    rw [h9] at h
                    simp only at h
                    cases h10 : readCode 704 b9 with
                    | none => rw [h10] at h; cases h
                    | some p10 =>
                      obtain ⟨cmd, b10⟩ := p10
                      rw [h10] at h
                      simp only at h
                      cases h11 : readCode (distAlphabetSize large np (ndm * 2 ^ np)) b10 with
                      | none => rw [h11] at h; cases h
                      | some p11 =>
                        obtain ⟨dist, b11⟩ := p11
                        rw [h11] at h
                        simp only at h
                        have hc1 : readCodes 256 1 b8 = some ([lit], b9) := by simp [readCodes, h9]
                        have hc2 : readCodes 704 Cat.one.nbl b9 = some ([cmd], b10) := by
                          show readCodes 704 1 b9 = _
                          simp [readCodes, h10]
                        have hc3 : readCodes (distAlphabetSize large np (ndm * 2 ^ np)) 1 b10 = some ([dist], b11) := by
                          simp [readCodes, h11]
                        rw [hc1]
                        simp only
                        rw [hc2]
                        simp only
                        rw [hc3]
                        simp only
                        have := readCommandsG_one wo window np (ndm * 2 ^ np) m lit cmd dist mlen (mlen + 1) 0 s b11
                        unfold Trees.one at this
                        rw [← h]
                        exact this

theorem readMetaBlockFullG_extends (wo : WordOracle) (window : Nat) (large : Bool) (pos : Nat) (s : RdSt)
    (bs : List Bool) (x : RdSt × Bool × Nat × List Bool) (h : readMetaBlockFull wo window large pos s bs = some x) :
    readMetaBlockFullG wo window large pos s bs = some x := by
  unfold readMetaBlockFull at h
  unfold readMetaBlockFullG
  cases hh : HeaderSpec.readMetaBlock pos bs with
  | none => rw [hh] at h; cases h
  | some p =>
    obtain ⟨mbk, pos', r⟩ := p
    rw [hh] at h
    cases mbk with
    | lastEmpty => exact h
    | metadata _ => exact h
    | raw _ => exact h
    | compressed mlen isLast =>
      simp only at h ⊢
      cases hb : readCompressedBody wo window large mlen s r with
      | none => rw [hb] at h; cases h
      | some q =>
        rw [hb] at h
        rw [readCompressedBodyG_extends wo window large mlen s r q hb]
        exact h

theorem readMetaBlocksG_extends (wo : WordOracle) (window : Nat) (large : Bool) : ∀ (f pos : Nat) (s : RdSt)
    (bs : List Bool) (x : RdSt × List Bool), readMetaBlocks wo window large f pos s bs = some x →
    readMetaBlocksG wo window large f pos s bs = some x := by
  intro f
  induction f with
  | zero => intro pos s bs x h; simp [readMetaBlocks] at h
  | succ f ih =>
    intro pos s bs x h
    unfold readMetaBlocks at h
    unfold readMetaBlocksG
    cases hm : readMetaBlockFull wo window large pos s bs with
    | none => rw [hm] at h; cases h
    | some q =>
      obtain ⟨s', last, pos', r⟩ := q
      rw [hm] at h
      rw [readMetaBlockFullG_extends wo window large pos s bs _ hm]
      cases last with
      | true => exact h
      | false => exact ih pos' s' r x h

end BV.MetaBlock
