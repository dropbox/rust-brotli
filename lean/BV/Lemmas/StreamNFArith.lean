import BV.Lemmas.StreamNFSum
/-
C08, run level: the log arithmetic `nfLogArith : NFLogArith o`.  The meta-block lengths are read off the log
(`open_tail`: a `Run` with `BlocksOK`, Lemmas/HeaderStreamBound.lean), then `run_bound` and the head arithmetic.
-/
namespace BV.Stream
open BV.Bits BV.Header

theorem logBits_cons (o : Oracle) (e : Ev) (es : List Ev) : logBits o (e :: es) = e.bits o ++ logBits o es := by
  unfold logBits; rfl

theorem logPos_cons (p : Pos) (e : Ev) (es : List Ev) : logPos p (e :: es) = logPos (e.step p) es := rfl

theorem path_done {o : Oracle} {log : List Ev} {b : NFPh} (h : Path nfT .done log b) (p : Pos) :
    b = .done ∧ (logBits o log).length = 0 ∧ logPos p log = p := by
  induction log with
  | nil => exact ⟨h.symm, rfl, rfl⟩
  | cons e es ih =>
    obtain ⟨a1, t1, p1⟩ := h
    have he : a1 = .done ∧ e.bits o = [] ∧ e.step p = p := by
      cases e with
      | push => exact ⟨t1, rfl, rfl⟩
      | tau j => exact ⟨t1, rfl, rfl⟩
      | _ => exact t1.elim
    obtain ⟨rfl, hb, hs⟩ := he
    rw [logBits_cons, logPos_cons, hb, hs]
    exact ih p1

theorem EvQuiet.facts {e : Ev} (h : EvQuiet e) (o : Oracle) (p : Pos) :
    e.bits o = [] ∧ (e.step p).lf = p.lf ∧ (e.step p).lp = p.lp ∧ p.ip ≤ (e.step p).ip := by
  cases e with
  | copy c => exact ⟨rfl, rfl, rfl, Nat.le_add_right _ _⟩
  | push => exact ⟨rfl, rfl, rfl, Nat.le_refl _⟩
  | tau j => exact ⟨rfl, rfl, rfl, Nat.le_refl _⟩
  | _ => exact h.elim

theorem nfT_open {W : Nat} {a b : NFPh} {e : Ev} (ha : a = .mid ∨ a = .start W) (t : nfT a e b) :
    (b = a ∧ EvQuiet e) ∨
    ∃ k req pre skel taken, e = .enc k req pre skel taken ∧ (req.isLast = true → taken = true) ∧ b = nextPh req.isLast
      ∧ pre ≤ 2 ∧ (a = .mid → pre = 0 ∧ skel = [])
      ∧ (a = .start W → ∃ magic kk, kk ≤ 5 ∧ W + skel.length = headLen W magic kk pre) := by
  rcases ha with rfl | rfl
  · cases e with
    | enc k req pre skel taken =>
      obtain ⟨h1, h2, h3, h4⟩ : pre = 0 ∧ skel = [] ∧ (req.isLast = true → taken = true) ∧ b = nextPh req.isLast := t
      exact Or.inr ⟨k, req, pre, skel, taken, rfl, h3, h4, by omega, fun _ => ⟨h1, h2⟩, nofun⟩
    | _ => exact Or.inl t
  · cases e with
    | enc k req pre skel taken =>
      obtain ⟨_, h2, h3, h4, h5⟩ : req.lf = 0 ∧ pre ≤ 2 ∧ (∃ magic kk, kk ≤ 5 ∧ W + skel.length = headLen W magic kk pre)
        ∧ (req.isLast = true → taken = true) ∧ b = nextPh req.isLast := t
      exact Or.inr ⟨k, req, pre, skel, taken, rfl, h4, h5, h2, nofun, fun _ => h3⟩
    | _ => exact Or.inl t

theorem blocksOK_cons_of_all (e len : Nat) (lens : List Nat) (h1 : 2 ^ 14 ≤ len + e) (h2 : BlocksOK 0 lens) :
    BlocksOK e (len :: lens) := by
  cases lens with
  | nil => trivial
  | cons l2 r => exact ⟨h1, h2⟩

theorem enc_bits_length (o : Oracle) (k : Nat) (req : Req) (pre : Nat) (skel : List Bool) (taken : Bool) :
    ((Ev.enc k req pre skel taken).bits o).length
      = skel.length + (if taken then ((o k req).bits.drop skel.length).length else 0) := by
  cases taken <;> simp [Ev.bits]

theorem PieceGuard.final {P len m : Nat} (h : PieceGuard P len m true) :
    ∃ lens Pm, Run P lens Pm ∧ P + m ≤ (Pm + 2 + 7) / 8 * 8 ∧ (∀ x, BlocksOK x lens) ∧ lens.sum = len
      ∧ (∀ l ∈ lens, l ≠ 0) := by
  obtain ⟨body, _, b2, b3, _, b5⟩ := h
  by_cases hl : len = 0
  · obtain rfl := b2 hl
    exact ⟨[], body, Run.nil _, b5, fun _ => trivial, hl.symm, fun _ hm => nomatch hm⟩
  · exact ⟨[len], body, Run.cons (b3 hl) (Run.nil _), b5, fun _ => trivial, Nat.add_zero _,
      fun l hm => by rw [List.mem_singleton.mp hm]; exact hl⟩

theorem PieceGuard.nonfinal {P len m : Nat} (h : PieceGuard P len m false) (hl : len ≠ 0) : Guard P len (P + m) := by
  obtain ⟨body, _, _, b3, b4, b5⟩ := h
  obtain rfl : body = P + m := Nat.le_antisymm b4 b5
  exact b3 hl

/-- `sk`: the skeleton bits the first `encode_data` event carries, with its `pre` prelude bytes; `lens`: the input
lengths of the closed meta-blocks; `x`: extra bytes the first of them is counted with -/
theorem open_tail {o : Oracle} (W : Nat) : ∀ (log : List Ev) (a : NFPh) (P : Nat) (p : Pos), a = .mid ∨ a = .start W →
    Path nfT a log .done → LogOK p log → (∀ e ∈ log, (∃ w, e = .window w) ∨ EvFull e) → LogGuard o P p log →
    p.lf ≤ p.lp →
    ∃ pre sk lens Pm, pre ≤ 2 ∧ (a = .mid → pre = 0 ∧ sk = 0)
      ∧ (a = .start W → ∃ magic kk, kk ≤ 5 ∧ W + sk = headLen W magic kk pre)
      ∧ Run (P + sk) lens Pm ∧ P + (logBits o log).length ≤ (Pm + 2 + 7) / 8 * 8
      ∧ (∀ x, p.lf + pre ≤ p.lp + x → BlocksOK x lens)
      ∧ lens.sum + (p.lf + pre) = (logPos p log).ip ∧ (∀ l ∈ lens, l ≠ 0) := by
  intro log
  induction log with
  | nil =>
    intro a P p ha h
    rcases ha with rfl | rfl <;> cases h
  | cons e es ih =>
    intro a P p ha hpath hok hfull hG hlf
    obtain ⟨a1, t1, p1⟩ := hpath
    obtain ⟨ok1, ok2⟩ := hok
    obtain ⟨g1, g2⟩ := hG
    have hfull' : ∀ e' ∈ es, (∃ w, e' = .window w) ∨ EvFull e' := fun e' he' => hfull e' (List.mem_cons_of_mem _ he')
    rw [logBits_cons, logPos_cons, List.length_append]
    rcases nfT_open ha t1 with ⟨rfl, hq⟩ | ⟨k, req, pre, skel, taken, rfl, hlast, rfl, hp2, hmid, hstart⟩
    · obtain ⟨q1, q2, q3, q4⟩ := hq.facts o p
      rw [q1] at g2
      rw [q1, List.length_nil, Nat.zero_add]
      obtain ⟨pre, sk, lens, Pm, r⟩ := ih a1 P (e.step p) ha p1 ok2 hfull' g2 (by rw [q2, q3]; exact hlf)
      rw [q2, q3] at r
      exact ⟨pre, sk, lens, Pm, r⟩
    · obtain ⟨_, o2, o3, _, _, o6, o7⟩ : k = p.k ∧ req.lo = p.lp ∧ req.hi = p.ip ∧ req.lf = p.lf ∧ req.site ≠ 2
        ∧ p.lf + pre ≤ p.ip ∧ p.lp ≤ p.ip := ok1
      obtain ⟨_, _, _, hfl⟩ : ReqFull req := by
        rcases hfull _ List.mem_cons_self with ⟨w, hw⟩ | h
        · cases hw
        · exact h
      rw [o2, o3] at hfl
      have g1 : taken = true → PieceGuard (P + skel.length) (p.ip - (p.lf + pre))
        ((o k req).bits.drop skel.length).length req.isLast := g1
      have hstep : (Ev.enc k req pre skel taken).step p = ⟨p.ip, p.ip, if taken then p.ip else p.lf + pre, p.k + 1⟩ := rfl
      rw [enc_bits_length, hstep] at g2 ⊢
      rw [hstep] at ok2
      refine ⟨pre, skel.length, ?_⟩
      have hsk : a = .mid → pre = 0 ∧ skel.length = 0 := fun h => ⟨(hmid h).1, by rw [(hmid h).2]; rfl⟩
      generalize ((o k req).bits.drop skel.length).length = m at g1 g2 ⊢
      generalize skel.length = sk at g1 g2 hstart hsk ⊢
      cases hil : req.isLast with
      | true =>
        obtain rfl := hlast hil
        rw [hil] at p1 g1
        obtain ⟨_, r2, r3⟩ := path_done (o := o) p1 ⟨p.ip, p.ip, p.ip, p.k + 1⟩
        obtain ⟨lens, Pm, q1, q2, q3, q4, q5⟩ := (g1 rfl).final
        simp only [↓reduceIte]
        rw [r2, r3, Nat.add_zero, ← Nat.add_assoc]
        exact ⟨lens, Pm, hp2, hsk, hstart, q1, q2, fun x _ => q3 x, by rw [q4]; exact Nat.sub_add_cancel o6, q5⟩
      | false =>
        rw [hil] at p1 g1
        have hf14 := hfl hil
        cases taken with
        | false =>
          -- nothing emitted: the open meta-block goes on, its start now behind the prelude
          simp only [Bool.false_eq_true, ↓reduceIte, Nat.add_zero] at g2 ok2 ⊢
          obtain ⟨pre', sk', lens, Pm, _, r0, _, r1, r2, r3, r4, r5⟩ :=
            ih .mid (P + sk) ⟨p.ip, p.ip, p.lf + pre, p.k + 1⟩ (Or.inl rfl) p1 ok2 hfull' g2 o6
          obtain ⟨rfl, rfl⟩ := r0 rfl
          exact ⟨lens, Pm, hp2, hsk, hstart, r1, by rw [← Nat.add_assoc]; exact r2,
            fun x _ => r3 x (Nat.le_trans o6 (Nat.le_add_right _ _)), r4, r5⟩
        | true =>
          -- a non-final meta-block: it ends exactly where its piece ends and covers at least 2^14 - 2 bytes
          simp only [↓reduceIte] at g2 ok2 ⊢
          have h14 : (2 : Nat) ^ 14 = 16384 := by decide
          have hl0 : p.ip - (p.lf + pre) ≠ 0 := by omega
          have hg := (g1 rfl).nonfinal hl0
          obtain ⟨pre', sk', lens, Pm, _, r0, _, r1, r2, r3, r4, r5⟩ :=
            ih .mid (P + (sk + m)) ⟨p.ip, p.ip, p.ip, p.k + 1⟩ (Or.inl rfl) p1 ok2 hfull' g2 (Nat.le_refl _)
          obtain ⟨rfl, rfl⟩ := r0 rfl
          rw [Nat.add_zero, ← Nat.add_assoc] at r1
          refine ⟨(p.ip - (p.lf + pre)) :: lens, Pm, hp2, hsk, hstart, Run.cons hg r1, by rw [← Nat.add_assoc]; exact r2, ?_, ?_, ?_⟩
          · intro x hx
            exact blocksOK_cons_of_all x _ lens (by omega) (r3 0 (Nat.le_refl _))
          · have r4' : lens.sum + (p.ip + 0) = (logPos ⟨p.ip, p.ip, p.ip, p.k + 1⟩ es).ip := r4
            rw [List.sum_cons, ← r4']
            omega
          · intro l hl
            rcases List.mem_cons.mp hl with rfl | h
            · exact hl0
            · exact r5 l h

theorem mid_tail {o : Oracle} : ∀ (log : List Ev) (P : Nat) (p : Pos),
    Path nfT .mid log .done → LogOK p log → (∀ e ∈ log, (∃ w, e = .window w) ∨ EvFull e) → LogGuard o P p log →
    p.lf ≤ p.lp → p.lp ≤ p.ip →
    ∃ lens Pm, Run P lens Pm ∧ P + (logBits o log).length ≤ (Pm + 2 + 7) / 8 * 8 ∧ (∀ e, BlocksOK e lens)
      ∧ lens.sum + p.lf = (logPos p log).ip ∧ (∀ l ∈ lens, l ≠ 0) := by
  intro log P p hpath hok hfull hG h1 _
  obtain ⟨pre, sk, lens, Pm, _, r0, _, r1, r2, r3, r4, r5⟩ := open_tail 0 log .mid P p (Or.inl rfl) hpath hok hfull hG h1
  obtain ⟨rfl, rfl⟩ := r0 rfl
  exact ⟨lens, Pm, r1, r2, fun e => r3 e (by omega), r4, r5⟩

theorem start_tail {o : Oracle} (W : Nat) : ∀ (log : List Ev) (p : Pos),
    Path nfT (.start W) log .done → LogOK p log → (∀ e ∈ log, (∃ w, e = .window w) ∨ EvFull e) → LogGuard o W p log →
    p.lf = 0 → p.lp = 0 →
    ∃ magic kk pre lens Pm, kk ≤ 5 ∧ pre ≤ 2 ∧ Run (headLen W magic kk pre) lens Pm
      ∧ W + (logBits o log).length ≤ (Pm + 2 + 7) / 8 * 8 ∧ BlocksOK pre lens
      ∧ lens.sum + pre = (logPos p log).ip ∧ (∀ l ∈ lens, l ≠ 0) := by
  intro log p hpath hok hfull hG h1 h2
  obtain ⟨pre, sk, lens, Pm, hp2, _, r0, r1, r2, r3, r4, r5⟩ :=
    open_tail W log (.start W) W p (Or.inr rfl) hpath hok hfull hG (by omega)
  obtain ⟨magic, kk, hk, hH⟩ := r0 rfl
  rw [h1, Nat.zero_add] at r4
  exact ⟨magic, kk, pre, lens, Pm, hk, hp2, hH ▸ r1, r2, r3 pre (by omega), r4, r5⟩

theorem total_arith (W kk pre n : Nat) (magic : Bool) (lens : List Nat) (Pm : Nat)
    (hW : W ≤ 14) (hk : kk ≤ 5) (hp : pre ≤ 2) (hn : n < 2 ^ 54)
    (hrun : Run (headLen W magic kk pre) lens Pm) (hb : BlocksOK pre lens) (hsum : lens.sum + pre = n)
    (hpos : ∀ l ∈ lens, l ≠ 0) :
    (Pm + 2 + 7) / 8 ≤ BV.Stored.maxCompressedSize n := by
  have hH : headLen W magic kk pre ≤ 104 + (if pre = 0 then 0 else 24 + 8 * pre) :=
    Nat.le_trans (BV.Header.headLen_le W kk pre magic hW) (by omega)
  have hrb := run_bound hrun pre hb
  rw [BV.Stored.max_closed n hn]
  cases lens with
  | nil =>
    cases hrun
    obtain rfl : pre = n := by simpa using hsum
    have := whole_fits _ pre hH hp
    rwa [Nat.mul_div_cancel _ (by decide)] at this
  | cons a r =>
    have := hpos a List.mem_cons_self
    simp only [List.sum_cons] at hsum
    rw [if_neg (List.cons_ne_nil _ _), List.sum_cons, hsum] at hrb
    exact partial_fits _ pre n Pm hH hp (by omega) (by omega)

theorem path_junk_nf {log : List Ev} {b : NFPh} (h : Path nfT .junk log b) : b = .junk :=
  h.absorbing fun _ _ t => t

theorem nfLogArith (o : Oracle) : NFLogArith o := by
  intro log hpath hok hfull hG hn
  cases log with
  | nil => cases hpath
  | cons e es =>
    obtain ⟨a1, t1, p1⟩ := hpath
    obtain ⟨w, rfl, hj | ⟨ha, hw1, hw14⟩⟩ : ∃ w, e = .window w ∧ (a1 = .junk ∨ (a1 = .start w.length ∧ 1 ≤ w.length ∧ w.length ≤ 14)) := t1
    · subst hj
      have := path_junk_nf p1
      cases this
    · subst ha
      obtain ⟨_, ok2⟩ := hok
      obtain ⟨_, g2⟩ := hG
      have hst : (Ev.window w).step ⟨0, 0, 0, 0⟩ = ⟨0, 0, 0, 0⟩ := rfl
      have hb : (Ev.window w).bits o = w := rfl
      rw [hst] at ok2 g2
      rw [hb, Nat.zero_add] at g2
      rw [logPos_cons, hst] at hn ⊢
      rw [logBits_cons, hb, List.length_append]
      obtain ⟨magic, kk, pre, lens, Pm, hk, hp, hrun, hbits, hbl, hsum, hpos⟩ :=
        start_tail w.length es ⟨0, 0, 0, 0⟩ p1 ok2 (fun e' he' => hfull e' (List.mem_cons_of_mem _ he')) g2 rfl rfl
      have := total_arith w.length kk pre _ magic lens Pm hw14 hk hp hn hrun hbl hsum hpos
      omega

end BV.Stream
