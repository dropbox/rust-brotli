/-
What `encodeDataPayload` (BV/Model/E2E.lean) reads of its ring slice.  `mbBytes_of_blockOK` is declared into
`BV.Props.C01E2E`, the name under which the documents cite it.
-/
import BV.Model.E2E
import BV.Props.C01Chain

namespace BV.E2E
open BV.Hasher BV.MatchFinder BV.Recoder BV.Cbr BV.Bits BV.MetaBlock

theorem wrapPosition_small {p : Nat} (h : p < 2 ^ 30) : wrapPosition p = p := by
  unfold wrapPosition
  have h0 : p >>> 30 = 0 := by rw [Nat.shiftRight_eq_div_pow]; exact Nat.div_eq_of_lt h
  simp only [h0]
  rw [if_neg (by omega)]
  exact Nat.mod_eq_of_lt (by unfold U32; omega)

theorem mbBytes_spec (data : ByteArray) (mask : Nat) :
    ∀ (n pos : Nat) (l : Bytes), mbBytes data mask pos n = .ok l →
      l.length = n ∧ ∀ j, j < n → byteAt data ((pos + j) &&& mask) = some (l.getD j 0) := by
  intro n
  induction n with
  | zero =>
    intro pos l h
    simp only [mbBytes, Out.ok.injEq] at h
    subst h
    exact ⟨rfl, fun j hj => absurd hj (Nat.not_lt_zero _)⟩
  | succ n ih =>
    intro pos l h
    rw [mbBytes] at h
    cases hb : byteAt data (pos &&& mask) with
    | none => rw [hb] at h; cases h
    | some b =>
      rw [hb] at h
      cases hr : mbBytes data mask (pos + 1) n with
      | panic => rw [hr] at h; cases h
      | fuel => rw [hr] at h; cases h
      | ok l' =>
        rw [hr] at h
        simp only [Out.bind, Out.ok.injEq] at h
        subst h
        obtain ⟨hl, hj⟩ := ih (pos + 1) l' hr
        refine ⟨by simp [hl], ?_⟩
        intro j hjn
        cases j with
        | zero => simpa using hb
        | succ j =>
          have := hj j (by omega)
          rw [show pos + 1 + j = pos + (j + 1) by omega] at this
          simpa using this

theorem ringList_getAt {data : ByteArray} {i b : Nat} (h : byteAt data i = some b) : getAt (ringList data) i = .ok b := by
  unfold byteAt at h
  split at h
  · rename_i hi
    simp only [Option.some.injEq] at h
    unfold getAt ringList
    have hi' : i < data.data.size := hi
    have : (List.map (fun x : UInt8 => x.toNat) data.data.toList)[i]? = some b := by
      rw [List.getElem?_map, Array.getElem?_toList, Array.getElem?_eq_getElem hi']
      simp only [Option.map_some, Option.some.injEq]
      rw [← h]
      show data.data[i].toNat = (data.data[i]!).toNat
      rw [getElem!_pos data.data i hi']
    rw [this]
  · cases h

theorem ringList_length (data : ByteArray) : (ringList data).length = data.size := by
  show (List.map (fun x : UInt8 => x.toNat) data.data.toList).length = data.data.size
  rw [List.length_map, Array.length_toList]

end BV.E2E

namespace BV.Props.C01E2E
open BV.Hasher BV.MatchFinder BV.Recoder BV.PrefixArith BV.MetaBlock BV.Cbr BV.E2E BV.Bits BV.Props.C01Chain

theorem mbBytes_of_blockOK {p : Cbr.Params} {large : Bool} {data : ByteArray} {k tail : Nat} {hist mb : Bytes} {lo : Nat}
    (hb : BlockOK p large data k tail hist mb lo) {mb' : Bytes}
    (h : mbBytes data (2 ^ k - 1) hist.length mb.length = .ok mb') :
    mb' = mb ∧ RingHolds (ringList data) (2 ^ k - 1) hist.length mb ∧ ∀ b ∈ mb, b < 256 := by
  obtain ⟨hl, hj⟩ := mbBytes_spec data (2 ^ k - 1) mb.length hist.length mb' h
  have hval : ∀ j, j < mb.length → mb'.getD j 0 = mb.getD j 0 ∧ mb'.getD j 0 < 256 := by
    intro j hjl
    have h1 := hj j hjl
    rw [Nat.and_two_pow_sub_one_eq_mod] at h1
    have h2 := hb.ring.holds (hist.length + j) (by have := hb.lo_le; omega) (by omega)
    unfold byteAt at h1
    split at h1
    · simp only [Option.some.injEq] at h1
      have h3 : (hist ++ mb).getD (hist.length + j) 0 = mb.getD j 0 := by
        rw [List.getD_eq_getElem?_getD, List.getD_eq_getElem?_getD, List.getElem?_append_right (by omega)]
        congr 2; omega
      refine ⟨?_, ?_⟩
      · rw [← h1, ← h3, ← h2]; rfl
      · rw [← h1]; exact UInt8.toNat_lt _
    · cases h1
  have heq : mb' = mb := by
    apply List.ext_getElem hl
    intro j h1 h2
    have := (hval j h2).1
    rw [List.getD_eq_getElem?_getD, List.getD_eq_getElem?_getD, List.getElem?_eq_getElem h1, List.getElem?_eq_getElem h2] at this
    simpa using this
  subst heq
  refine ⟨rfl, ?_, ?_⟩
  · intro j hjl
    have h1 := hj j hjl
    have hp : posOf hist.length j = hist.length + j := by
      unfold posOf
      exact Nat.mod_eq_of_lt (by have := hb.total; unfold MetaBlock.two64; omega)
    rw [hp]
    exact ringList_getAt h1
  · intro b hbm
    obtain ⟨j, hjl, rfl⟩ := List.getElem_of_mem hbm
    have := (hval j hjl).2
    rw [List.getD_eq_getElem?_getD, List.getElem?_eq_getElem hjl] at this
    simpa using this

end BV.Props.C01E2E
