/-
C08 — Advertised maximum compressed size is honoured.  Model: `BV/Model/Stored.lean` (`BrotliEncoderMaxCompressedSize(+Multi)`,
`MakeUncompressedStream`, the decision logic of `encoder_compress`) and `BV/Model/Header.lean` (what a stream starts with);
specification side `BV/Lemmas/HeaderSpec.lean` (RFC 7932 §9.2, written independently).  Everything holds for every input
length / byte string; `stream_bound_counterexample` is the defect D17 (known finding).
-/
import BV.Lemmas.HeaderStored
import BV.Lemmas.HeaderStoredDecode
import BV.Lemmas.HeaderStreamBound
import BV.Lemmas.HeaderGuard
import BV.Lemmas.HeaderBlocks

namespace BV.Props.C08
open BV.Bits BV.Bits.Out BV.Header BV.Stored BV.HeaderSpec

/-- `bound_formula`: closed form of `BrotliEncoderMaxCompressedSize` for every `usize` argument.  `t` is the
"tail overhead" (above 2^54 the wrapping subtraction in the code can make it 3 again); the second branch is the
wrap-to-0 case; the last addition is unchecked, hence `% 2^64`. -/
theorem bound_formula (n : Nat) (hn : n < 2 ^ 64) :
    ∃ t, (t = 3 ∨ t = 4) ∧ (n < 2 ^ 54 → (t = 3 ↔ n < 2 ^ 14)) ∧
      maxCompressedSize n =
        if n = 0 then 17
        else if 2 ^ 64 ≤ n + 4 * (n / 2 ^ 14) + t + 3 then 0
        else (n + 4 * (n / 2 ^ 14) + t + 3 + 16) % 2 ^ 64 :=
  max_formula n hn

/-- closed form below 2^54 (every length a real buffer can have) -/
theorem bound_closed_form (n : Nat) (hn : n < 2 ^ 54) :
    maxCompressedSize n = if n = 0 then 17 else if n < 2 ^ 14 then n + 22 else n + 4 * (n / 2 ^ 14) + 23 :=
  max_closed n hn

/-- the formula's literals as harvested from `BrotliEncoderMaxCompressedSize`: 16 spare bytes,
one 4-byte allowance per 2^14 input bytes, the 2^24 / 2^20 tail test -/
theorem bound_literals : litsMax = [16, 14, 24, 1, 20, 4, 3, 2, 4, 1, 0, 1, 0] := rfl

theorem bound_monotone (n m : Nat) (h : n ≤ m) (hm : m < 2 ^ 63) :
    maxCompressedSize n ≤ maxCompressedSize m ∧ n < maxCompressedSize n := by
  -- below 2^63 nothing wraps
  have key : ∀ k, k < 2 ^ 63 → ∃ t, (t = 3 ∨ t = 4) ∧
      maxCompressedSize k = if k = 0 then 17 else k + 4 * (k / 2 ^ 14) + t + 19 := by
    intro k hk
    obtain ⟨t, ht, _, e⟩ := bound_formula k (by omega)
    refine ⟨t, ht, ?_⟩
    rw [e]
    split
    · rfl
    · rw [if_neg (by omega), Nat.mod_eq_of_lt (by omega)]
  obtain ⟨t, ht, en⟩ := key n (by omega)
  refine ⟨?_, by rw [en]; split <;> omega⟩
  rcases Nat.eq_or_lt_of_le h with rfl | hlt
  · exact Nat.le_refl _
  · obtain ⟨u, hu, em⟩ := key m hm
    have d1 : n / 2 ^ 14 ≤ m / 2 ^ 14 := Nat.div_le_div_right h
    rw [en, em, if_neg (show ¬ m = 0 by omega)]
    split <;> omega

/-- the wrap-to-0 case exists (the largest `usize`), and so does the zone where
only the final `+ magic_size` overflows (a panic in a debug build; the release
build wraps: `Max = 0 … 15`) -/
theorem bound_wraps : maxCompressedSize (2 ^ 64 - 1) = 0 ∧
    maxCompressedSizeOverflows 18442241573325438941 = true ∧ maxCompressedSize 18442241573325438941 = 0 ∧
    maxCompressedSizeOverflows 18442241573325438940 = false := by decide

/-- `stored_stream_fits`: into an output buffer of at least the advertised size `MakeUncompressedStream` does not
panic and writes at most `BrotliEncoderMaxCompressedSize(|x|)` bytes. -/
theorem stored_stream_fits (x : List Nat) (cap : Nat) (hn : x.length < 2 ^ 54)
    (hcap : maxCompressedSize x.length ≤ cap) :
    ∃ out, makeUncompressedStream x x.length cap = ok out ∧ out.length ≤ maxCompressedSize x.length := by
  obtain ⟨out, h1, h2, _⟩ := mus_fits x cap hn hcap
  exact ⟨out, h1, h2⟩

example : makeUncompressedStream [1, 2, 3] 3 (maxCompressedSize 3) = ok [0x21, 0x03, 0x10, 0x00, 0x08, 1, 2, 3, 0x03] :=
  stored_example

/-- `stored_stream_decodes`: for every non-empty byte string `x` (any length below
2^54), the stored stream read by the RFC readers is: window 10 (7-bit form), an
empty metadata meta-block, then one *uncompressed* meta-block per chunk, then
the empty last meta-block; the chunks concatenate to exactly `x`, every chunk
but the last is 2^24 bytes long, every chunk has 1‥2^24 bytes (so 4, 5 or 6
length nibbles are what the reader accepted).  No entropy-coded block occurs:
the framing alone yields the input. -/
theorem stored_stream_decodes (x : List Nat) (cap : Nat) (hx : ∀ b ∈ x, b < 256)
    (hn : x.length < 2 ^ 54) (h0 : 0 < x.length) (hcap : maxCompressedSize x.length ≤ cap) :
    ∃ out r chunks, makeUncompressedStream x x.length cap = ok out ∧
      readWbits (out.flatMap (bitsOf 8)) = some (10, false, r) ∧
      decodeFraming (chunks.length + 2) 7 r
        = some (MetaBlock.metadata [] :: (chunks.map MetaBlock.raw ++ [MetaBlock.lastEmpty])) ∧
      chunks.flatten = x ∧ FullButLast chunks ∧
      ∀ c ∈ chunks, 1 ≤ c.length ∧ c.length ≤ 2 ^ 24 := by
  have hspec := chunksOf_spec x hx
  refine ⟨_, false :: (bitsOf 8 3 ++ (bodyBytes (chunksOf x) ++ [3]).flatMap (bitsOf 8)), chunksOf x,
    mus_content x cap hn h0 hcap, ?_, ?_, chunksOf_flatten x, chunksOf_full x,
    fun c hc => ⟨(hspec c hc).1, (hspec c hc).2.1⟩⟩
  · rw [List.append_assoc, List.flatMap_append]
    exact (read_preamble _).1
  · rw [decodeFraming_metadata _ _ _ _ _ _ (read_preamble _).2,
      decodeFraming_body (chunksOf x) 16 ((chunksOf x).length + 1) (by decide) (by omega) hspec]
    rfl

/-- the empty input: the one-byte stream `06` = window 16, empty last meta-block -/
theorem stored_stream_empty (cap : Nat) (hcap : 1 ≤ cap) :
    makeUncompressedStream [] 0 cap = ok [6] ∧
    ∃ r, readWbits (([6] : List Nat).flatMap (bitsOf 8)) = some (16, false, r) ∧
      decodeFraming 1 1 r = some [MetaBlock.lastEmpty] := by
  refine ⟨?_, _, rfl, by decide⟩
  simp only [makeUncompressedStream, lit, litsMus, BV.Gen.lits_MakeUncompressedStream, List.getD_cons_zero,
    List.getD_cons_succ, if_true]
  rw [push_ok _ _ _ (by simp; omega)]
  rfl

/-- non-vacuity: a 3-byte input -/
example : ∃ out r, makeUncompressedStream [1, 2, 3] 3 25 = ok out ∧
    readWbits (out.flatMap (bitsOf 8)) = some (10, false, r) ∧
    decodeFraming 3 7 r = some [MetaBlock.metadata [], MetaBlock.raw [1, 2, 3], MetaBlock.lastEmpty] := by
  have hm : maxCompressedSize 3 = 25 := by decide
  exact ⟨_, _, hm ▸ stored_example, rfl, by decide⟩

/-- `oneshot_contract`: `encoder_compress` on an input of `n = |x|` bytes with
`*encoded_size = outCap` and an output slice of at least that length, for EVERY
outcome `so` of the stream phase that stays within the caller's buffer
(`so.totalOut ≤ outCap`: the stream machine never writes more than
`available_out`):

* it does not panic;
* `outCap = 0` ⇒ it returns false;
* on success the reported size is within the buffer AND within the bound, and the
  bytes are the `[6]` stream of the empty input, the stream phase's complete
  output (which then succeeded and finished), or the stored stream;
* `outCap ≥ Max n` ⇒ it returns true;
* on failure `*encoded_size` is 0 (or the untouched 0 of the zero-capacity call). -/
theorem oneshot_contract (x : List Nat) (outCap bufLen : Nat) (so : StreamOutcome)
    (hn : x.length < 2 ^ 54) (hbuf : outCap ≤ bufLen) (hso : so.totalOut ≤ outCap) :
    ∃ r, encoderCompress x x.length outCap bufLen so = ok r ∧
      (outCap = 0 → r.ret = false) ∧
      (r.ret = true → r.encodedSize ≤ outCap ∧ r.encodedSize ≤ maxCompressedSize x.length ∧
        ((x.length = 0 ∧ r.bytes = [6] ∧ r.encodedSize = 1) ∨
         (so.result = true ∧ so.finished = true ∧ r.bytes = so.bytes ∧ r.encodedSize = so.totalOut) ∨
         (makeUncompressedStream x x.length bufLen = ok r.bytes ∧ r.encodedSize = r.bytes.length))) ∧
      (maxCompressedSize x.length ≤ outCap → r.ret = true) ∧
      (r.ret = false → r.encodedSize = 0) := by
  have hpos : 17 ≤ maxCompressedSize x.length := by
    rw [max_closed x.length hn]; split <;> try split
    all_goals omega
  simp only [encoderCompress, lit, BV.Gen.lits_encoder_compress, List.getD_cons_zero, List.getD_cons_succ]
  by_cases hc0 : outCap = 0
  · rw [if_pos hc0]
    exact ⟨_, rfl, fun _ => rfl, fun h => by simp at h, fun h => by omega, fun _ => hc0⟩
  rw [if_neg hc0]
  by_cases hn0 : x.length = 0
  · rw [if_pos hn0, if_neg (by omega)]
    exact ⟨_, rfl, fun h => absurd h hc0,
      fun _ => ⟨by show 1 ≤ outCap; omega, by show 1 ≤ maxCompressedSize x.length; omega, Or.inl ⟨hn0, rfl, rfl⟩⟩,
      fun _ => rfl, fun h => by simp at h⟩
  rw [if_neg hn0]
  split
  · rw [if_neg (by omega)]
    by_cases hbig : outCap ≥ maxCompressedSize x.length
    · obtain ⟨out, h1, h2, _⟩ := mus_fits x bufLen hn (by omega)
      rw [if_pos hbig, h1]
      exact ⟨_, rfl, fun h => absurd h hc0,
        fun _ => ⟨by show out.length ≤ outCap; omega, h2, Or.inr (Or.inr ⟨rfl, rfl⟩)⟩, fun _ => rfl,
        fun h => by simp at h⟩
    · rw [if_neg hbig]
      exact ⟨_, rfl, fun _ => rfl, fun h => by simp at h, fun h => absurd h hbig, fun _ => rfl⟩
  · rename_i hfb
    simp only [Bool.or_eq_true, Bool.not_eq_true', Bool.and_eq_true, decide_eq_true_eq, not_or,
      Bool.not_eq_false, not_and, ne_eq] at hfb
    obtain ⟨hres, hle⟩ := hfb
    have hle' : so.totalOut ≤ maxCompressedSize x.length := Nat.le_of_not_lt (hle (by omega))
    exact ⟨_, rfl, fun h => absurd h hc0,
      fun _ => ⟨hso, hle', Or.inr (Or.inl ⟨hres.1, hres.2, rfl, rfl⟩)⟩, fun _ => rfl, fun h => by simp at h⟩

/-- non-vacuity: a stream phase that fails makes a sufficiently large call fall back to the stored stream -/
example : ∃ r, encoderCompress [7] 1 23 23 { result := false, finished := false, totalOut := 0, bytes := [] } = ok r ∧
    r.ret = true ∧ makeUncompressedStream [7] 1 23 = ok r.bytes := by
  obtain ⟨r, h, _, h2, h3, _⟩ := oneshot_contract [7] 23 23
    { result := false, finished := false, totalOut := 0, bytes := [] } (by decide) (by decide) (by decide)
  have hr : r.ret = true := h3 (by decide)
  obtain ⟨_, _, h4⟩ := h2 hr
  rcases h4 with ⟨h5, _⟩ | ⟨h5, _⟩ | ⟨h5, _⟩
  · simp at h5
  · simp at h5
  · exact ⟨r, h, hr, h5⟩

/- FULL STATEMENT (`stream_total_le_bound`), which is FALSE for the unchanged code
(defect D17, known finding `header:c08:stream-exceeds-bound:size_hint-above-u32`):

  ∀ p input st, 2 ≤ p.quality → p.sizeHint < 2^64 → input.length < 2^54 →
    streamStart true p input = ok st →
    (st.whole → st.bits.length / 8 ≤ Max |input|) ∧
    (¬ st.whole → ∀ lens Pm, Run st.bits.length lens Pm → BlocksOK st.prelude lens →
        lens.sum + st.prelude = |input| → (Pm + 2 + 7) / 8 ≤ Max |input|)

It is proved below with `p.sizeHint < 2^35` in place of `< 2^64`
(`stream_total_le_bound_partial`): that covers every value the parameter call
`set_parameter(BROTLI_PARAM_SIZE_HINT, u32)` and the C ABI can set.
`stream_bound_counterexample` is a concrete violation outside that range and
`stream_bound_sharp` shows that 2^35 is the exact threshold under `Guard` alone. -/

/-- `stream_total_le_bound_partial`: a stream produced at quality ≥ 2 without any
flush, for ANY parameters with `size_hint < 2^35` (window, large_window, catable,
appendable, use_dictionary, magic_number arbitrary) and any input shorter than
2^54: its payload-independent head (window bits, magic block, catable prelude)
followed by meta-blocks of input lengths `lens` — where the payload encoder obeys
`Guard` (a meta-block of `len` bytes advances the whole-byte position by at most
`len + 4`, `+ 5` above 2^20: the "stored when bigger than input + 4" fallback of
`WriteMetaBlockInternal`) and `BlocksOK` (every non-final meta-block covers
≥ 2^14 input bytes: nothing is emitted before an input block is full) — and
closed by the empty last meta-block is at most `BrotliEncoderMaxCompressedSize`
bytes long.  When nothing is left for the payload encoder (`whole`) the claim is
unconditional. -/
theorem stream_total_le_bound_partial (p : Params) (input : List Nat) (st : Start)
    (hq : 2 ≤ p.quality) (hh : p.sizeHint < 2 ^ 35) (hn : input.length < 2 ^ 54)
    (hs : streamStart true p input = ok st) :
    (st.whole = true → st.bits.length / 8 ≤ maxCompressedSize input.length) ∧
    (st.whole = false → ∀ lens Pm, Run st.bits.length lens Pm → BlocksOK st.prelude lens →
        lens.sum + st.prelude = input.length → (Pm + 2 + 7) / 8 ≤ maxCompressedSize input.length) :=
  stream_total_bound p input st hq hh hn hs

/-- the worst configuration inside the proved range (non-vacuity) -/
def exampleTight : Params where
  quality := 5
  lgwin := 26
  lgblock := 0
  largeWindow := true
  catable := true
  appendable := true
  useDictionary := false
  magicNumber := true
  sizeHint := 2 ^ 35 - 1

set_option maxRecDepth 8192 in
example : ∃ st, streamStart true exampleTight [1, 2, 3] = ok st ∧ st.whole = false ∧ st.prelude = 2 ∧
    st.bits.length = 8 * 18 ∧ Run (8 * 18) [1] (8 * 18 + 8 * 4) ∧ BlocksOK 2 [1] :=
  ⟨_, rfl, rfl, rfl, rfl, Run.cons (by decide) (Run.nil _), trivial⟩

def exampleD17 : Params where
  quality := 2
  lgwin := 22
  lgblock := 0
  largeWindow := false
  catable := false
  appendable := false
  useDictionary := true
  magicNumber := true
  sizeHint := 2 ^ 63

/-- `stream_bound_counterexample` (defect D17): with `magic_number` and
`size_hint = 2^63` the complete stream for the empty input is 18 bytes, the
advertised bound is 17. -/
theorem stream_bound_counterexample :
    ∃ st, streamStart true exampleD17 [] = ok st ∧ st.whole = true ∧
      st.bits.length / 8 = 18 ∧ maxCompressedSize ([] : List Nat).length = 17 := by
  obtain ⟨st, hs, hp⟩ := exists_ok_of_check (streamStart true exampleD17 [])
    (fun st => st.whole && st.bits.length / 8 == 18) (by decide +kernel)
  simp only [Bool.and_eq_true, beq_iff_eq] at hp
  exact ⟨st, hs, hp.1, hp.2, by decide⟩

/-- like `exampleTight` with the size hint 2^35 (6 base-128 bytes) -/
def exampleSharp : Params where
  quality := 5
  lgwin := 26
  lgblock := 0
  largeWindow := true
  catable := true
  appendable := true
  useDictionary := false
  magicNumber := true
  sizeHint := 2 ^ 35

/-- `stream_bound_sharp`: `2^35` is the exact threshold of the arithmetic: with
`size_hint = 2^35`, catable, magic number and large window, a 100-byte input
whose single meta-block uses what `Guard` allows ends 1 byte above the bound. -/
theorem stream_bound_sharp :
    ∃ st, streamStart true exampleSharp (List.replicate 100 0) = ok st ∧ st.whole = false ∧ st.prelude = 2 ∧
      st.bits.length = 8 * 19 ∧
      Run (8 * 19) [98] (8 * 19 + 8 * (98 + 4) + 7) ∧ BlocksOK 2 [98] ∧ 98 + 2 = 100 ∧
      (8 * 19 + 8 * (98 + 4) + 7 + 2 + 7) / 8 = 123 ∧ maxCompressedSize 100 = 122 := by
  obtain ⟨st, hs, hp⟩ := exists_ok_of_check (streamStart true exampleSharp (List.replicate 100 0))
    (fun st => !st.whole && st.prelude == 2 && st.bits.length == 8 * 19) (by decide +kernel)
  simp only [Bool.and_eq_true, Bool.not_eq_true', beq_iff_eq] at hp
  exact ⟨st, hs, hp.1.1, hp.1.2, hp.2, Run.cons (by decide) (Run.nil _), trivial, rfl, by decide, by decide⟩

/-- `guard_holds`: the size decision of `WriteMetaBlockInternal` (model
`BV.Stored.writeMetaBlockInternal`: early `should_compress` branch, compressed attempt,
"`bytes + 4 + saved_byte_location < storage_ix >> 3` ⇒ rewind and store uncompressed", the
separate empty last block of appendable streams).  For EVERY verdict of `should_compress` and
EVERY bit string the compressed attempt may have appended: on a meta-block of 1‥2^24 bytes,
started below bit 256 of the staging storage (so that the `storage_ix as u8` of the rewind is
exact), the call does not panic, `Guard` holds of the data-carrying block, and what follows it is
at most the 2-bit empty last block with its padding. -/
theorem guard_holds (appendable catable actualIsLast : Bool) (data : List Nat) (o : MbOracle) (w : Writer)
    (hcat : catable = true → appendable = true)
    (h1 : 1 ≤ data.length) (h2 : data.length ≤ 2 ^ 24) (hw : w.length < 256) :
    ∃ r, writeMetaBlockInternal appendable catable actualIsLast data o w = ok r ∧
      Guard w.length data.length r.body.length ∧ w.length ≤ r.body.length ∧
      r.body.length ≤ r.fin.length ∧ r.fin.length ≤ (r.body.length + 2 + 7) / 8 * 8 :=
  wmbi_guard appendable catable actualIsLast data o w hcat h1 h2 hw

/-- the literal `4` of the fallback test and the two `>> 3` are the ones of the Rust source -/
theorem guard_literals : lit litsWmbi 17 = 4 ∧ lit litsWmbi 8 = 3 ∧ lit litsWmbi 18 = 3 := by decide

/-- non-vacuity of `guard_holds`: an attempt of 100 one-bits on a 3-byte block is replaced by the
stored representation (4 header bytes incl. the 7 carry bits, 3 payload bytes) -/
example : ∃ r, writeMetaBlockInternal false false false [1, 2, 3] { shouldCompress := true, attempt := List.replicate 100 true }
      (List.replicate 7 true) = ok r ∧ r.body.length = 8 * 7 ∧ r.fin = r.body := ⟨_, rfl, rfl, rfl⟩

/-- the stream head is below bit 256: the precondition of `guard_holds` for the first
invocation (later ones start from at most 7 carry bits) -/
theorem head_below_256 (p : Params) (input : List Nat) (st : Start) (hq : 2 ≤ p.quality)
    (hh : p.sizeHint < 2 ^ 64) (hs : streamStart true p input = ok st) (hw : st.whole = false) :
    st.bits.length < 256 := by
  obtain ⟨s1, s2, s3⟩ := streamStart_length p input st hq hh hs
  obtain ⟨w1, _⟩ := lastBytesBits_le p
  have hk := (encodeBase128_spec (effectiveParams p input.length).sizeHint
    (effective_sizeHint_lt p input.length hh) []).2.2.1
  have hpre : st.prelude ≤ 2 := by rw [s1]; split <;> omega
  have hne : ¬ input.length = st.prelude := by
    intro h; have := s2.mpr h; rw [hw] at this; exact Bool.false_ne_true this
  simp only [hne, if_false] at s3
  rw [s3]
  exact headLen_lt_256 _ _ _ _ w1 hk hpre

/-- `stream_total_le_bound_modelled`: the stream bound with `Guard` discharged.  A stream
produced at quality ≥ 2 without any flush, any parameters with `size_hint < 2^35`: head, then
meta-blocks written by `WriteMetaBlockInternal` with ARBITRARY payload-coder choices
(`RunW`: each step is the model applied to a staging storage that continues the bit position),
then the empty last block — at most `BrotliEncoderMaxCompressedSize` bytes.  Remaining
hypotheses: the meta-block lengths are 1‥2^24 (`MaxMetablockSize`), they add up to the input,
and `BlocksOK` (per invocation: `nonfinal_metablock_covers_block` below). -/
theorem stream_total_le_bound_modelled (p : Params) (input : List Nat) (st : Start)
    (hq : 2 ≤ p.quality) (hh : p.sizeHint < 2 ^ 35) (hn : input.length < 2 ^ 54)
    (hs : streamStart true p input = ok st) (hw : st.whole = false)
    (steps : List (List Nat × MbOracle × Bool)) (Pm : Nat)
    (hrun : RunW (p.appendable || p.catable) p.catable st.bits.length steps Pm)
    (hlen : ∀ s ∈ steps, 1 ≤ s.1.length ∧ s.1.length ≤ 2 ^ 24)
    (hblocks : BlocksOK st.prelude (steps.map (·.1.length)))
    (hsum : (steps.map (·.1.length)).sum + st.prelude = input.length) :
    (Pm + 2 + 7) / 8 ≤ maxCompressedSize input.length := by
  have hcat : p.catable = true → (p.appendable || p.catable) = true := by intro h; simp [h]
  exact (stream_total_bound p input st hq hh hn hs).2 hw _ _ (runW_run hcat hrun hlen) hblocks hsum

set_option maxRecDepth 16384 in
/-- non-vacuity: a `RunW` of one 1-byte meta-block behind the head of `exampleTight` -/
example : ∃ st, streamStart true exampleTight [1, 2, 3] = ok st ∧
    RunW true true st.bits.length [([3], { shouldCompress := false, attempt := [] }, true)] (8 * 18 + 8 * 4) := by
  refine ⟨_, rfl, ?_⟩
  exact RunW.cons (D := 18) (w := []) rfl (by decide) rfl (RunW.nil _)

/-- `nonfinal_metablock_covers_block` (over the stream machine's model of `compress_stream`): in the main
loop, for PROCESS and FINISH (no FLUSH, no metadata), a payload-encoder invocation that is not the
last one has `force_flush = false`, sees exactly one full input block (`hi - lo = 2^lgblock`) and
the meta-block `[lf, hi)` it may close contains that block.  With `block_size_ge_2_14` this is
`BlocksOK` for every non-final meta-block: its length plus the (at most 2, first block only)
prelude bytes taken from its front is ≥ 2^14. -/
theorem nonfinal_metablock_covers_block {o : BV.Stream.Oracle} {op : Nat} {s s' : BV.Stream.St}
    {io io' : BV.Stream.Io} {c : BV.Stream.Ctl} (hI : BV.Stream.Inv s) (hop : op = 0 ∨ op = 2)
    (h : BV.Stream.slowStep o op s io = .ok (s', io', c)) :
    io'.reqs = io.reqs ∨
    ∃ req, io'.reqs = io.reqs ++ [req] ∧ req.site = 0 ∧ req.forceFlush = false ∧
      req.lo = s.lastProcessedPos ∧ req.hi = s.inputPos ∧ req.lf = s.lastFlushPos ∧ req.lf ≤ req.lo ∧
      (req.isLast = false → req.hi - req.lo = s.blockSize ∧ s.blockSize ≤ req.hi - req.lf) :=
  BV.StreamBlocks.slowStep_nonfinal_request_full_block hI hop h

theorem block_size_ge_2_14 (s : BV.Stream.St) (hni : s.isInitialized = false)
    (hq : ¬ ((BV.Stream.ensureInitialized s).params.quality = 0 ∨ (BV.Stream.ensureInitialized s).params.quality = 1)) :
    2 ^ 14 ≤ (BV.Stream.ensureInitialized s).blockSize :=
  BV.StreamBlocks.blockSize_ge s hni hq

/-- the same fact on THIS model, whose literals are regenerated from `ComputeLgBlock` and which the
harness compares with the code's `params.lgblock` after initialisation on the whole
quality × lgwin × requested-lgblock grid (`header lgblock` lines): at quality ≥ 2 the input block
is 2^14 ‥ 2^24 bytes, whatever `lgwin` and whatever `lgblock` was requested -/
theorem header_lgblock_ge_14 (p : Params) (hq : 2 ≤ p.quality) :
    14 ≤ (ensureInitialized true p).params.lgblock ∧ (ensureInitialized true p).params.lgblock ≤ 24 := by
  have hs := sanitize_quality true p
  have hw := sanitized_lgwin_range p
  simp only [ensureInitialized, computeLgBlock, lit, litsLgb, BV.Gen.lits_ComputeLgBlock, List.getD_cons_zero,
    List.getD_cons_succ]
  rw [hs]
  generalize (sanitizeParams true p).lgwin = w at *
  generalize (sanitizeParams true p).lgblock = b at *
  split
  · omega
  · split
    · omega
    · split
      · split <;> omega
      · omega

/-- the two hand-written mirrors of `ComputeLgBlock` (this model; the stream machine's model used
by `block_size_ge_2_14`) are the same function -/
theorem lgblock_models_agree (sp : BV.Stream.Params) (hp : Params)
    (h1 : hp.quality = sp.quality) (h2 : hp.lgwin = sp.lgwin) (h3 : hp.lgblock = sp.lgblock) :
    computeLgBlock hp = BV.Stream.computeLgBlock sp := by
  simp only [computeLgBlock, BV.Stream.computeLgBlock, lit, litsLgb, BV.Gen.lits_ComputeLgBlock, List.getD_cons_zero,
    List.getD_cons_succ, h1, h2, h3]
  rfl

theorem blocks_ok_of_cover (lens : List Nat) (extra : Nat)
    (h : ∀ i, i + 1 < lens.length → 2 ^ 14 ≤ lens.getD i 0 + (if i = 0 then extra else 0)) :
    BlocksOK extra lens :=
  BV.StreamBlocks.blocksOK_of_cover lens extra h

/-
Run level: `BV/Props/C08Run.lean` derives `BlocksOK` for whole histories of the stream machine and states the sum over a run
(`stream_total_le_bound_run`).  The two models of the head (`BV.Header.streamStart`, `BV.Stream.encMagic/encPrelude`) are tied
to the same code by their correspondence runs, not to each other by a theorem.
-/

end BV.Props.C08
