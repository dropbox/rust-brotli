/-
C01E2ERun — the payload model of `encode_data` (quality 2/3) over a SEQUENCE of forced invocations, with the RFC reader's
state threaded through: output so far and the ring of last distances, which equals `dist_cache_[..4]` after every
invocation — also when the block ends up stored and the encoder rolls `dist_cache_` back to `saved_dist_cache_`.
-/
import BV.Props.C01E2E

namespace BV.Props.C01E2E
open BV.Hasher BV.MatchFinder BV.Recoder BV.PrefixArith BV.MetaBlock BV.Cbr BV.E2E BV.Bits BV.Props.C01Chain

theorem payload_step_core (e : EParams) (P : BasicP) (cells : Nat) (kindDict : Bool)
    (hch : chooseHasher e.quality = some (P, cells, kindDict))
    (wo : WordOracle) (dict : ByteArray → Nat → Option (List DictItem)) (data : ByteArray) (k tail : Nat) (hk : k ≤ 32)
    (hist mb : Bytes) (lo : Nat) (hb : BlockOK e.cbr e.large data k tail hist mb lo)
    (hsize : 2 ^ k ≤ data.size) (hmbk : mb.length ≤ 2 ^ k)
    (hd : DictFaithful wo (if e.useDict then dict else fun _ _ => none) data)
    (ps : PSt) (hF : Fresh ps)
    (lp lf ip : Nat) (hlf : lf = hist.length) (hlp : lp = hist.length) (hip : ip = hist.length + mb.length)
    (hsmall : ip < 2 ^ 30) (h1 : 1 ≤ mb.length) (hcat : e.catable = true → e.appendable = true)
    (isLast forceFlush verdict : Bool) (hforce : isLast = true ∨ forceFlush = true)
    (w : List Bool) (hw : w.length < 256) (r : Res)
    (h : encodeDataPayload e dict data (2 ^ k - 1) lp lf ip isLast forceFlush verdict ps w = .ok r) :
    ∃ bits, r.w = w ++ bits ∧ r.emit = true ∧ r.wrote = true ∧ Fresh r.st ∧
      Reads wo (maxBackwardLimit e.cbr) e.large isLast w.length ⟨hist, ps.distCache.take 4⟩ bits
        ⟨hist ++ mb, r.st.distCache.take 4⟩ := by
  obtain ⟨bits, s'', c⟩ := payload_core e P cells kindDict hch wo dict data k tail hk hist mb lo hb hsize
    hd ps hF.cmds hF.lil hF.i32 hF.len lp lf ip hlf hlp hip hsmall h1 hcat isLast forceFlush verdict hforce w hw r h
  obtain ⟨rfl, hF'⟩ := c.fresh hF.saved
  exact ⟨bits, c.app, c.emit, c.wrote, hF', c.reads⟩

/-- `payload_single_roundtrip` with the reader's FINAL STATE: one forced `encode_data`
invocation at quality 2/3 that starts a fresh meta-block (`Fresh ps`: no pending commands, an i32 distance cache of ≥ 4
entries, `saved_dist_cache_ = dist_cache_[..4]`) takes the RFC reader from `(hist, dist_cache_[..4] before)` to
`(hist ++ mb, dist_cache_[..4] after)` and leaves a `Fresh` payload state again. -/
theorem payload_step_roundtrip (e : EParams) (hq : e.quality = 2 ∨ e.quality = 3)
    (wo : WordOracle) (dict : ByteArray → Nat → Option (List DictItem)) (data : ByteArray) (k tail : Nat) (hk : k ≤ 32)
    (hist mb : Bytes) (lo : Nat) (hb : BlockOK e.cbr e.large data k tail hist mb lo)
    (hsize : 2 ^ k ≤ data.size) (hmbk : mb.length ≤ 2 ^ k)
    (hd : DictFaithful wo (if e.useDict then dict else fun _ _ => none) data)
    (ps : PSt) (hF : Fresh ps)
    (lp lf ip : Nat) (hlf : lf = hist.length) (hlp : lp = hist.length) (hip : ip = hist.length + mb.length)
    (hsmall : ip < 2 ^ 30) (h1 : 1 ≤ mb.length) (hcat : e.catable = true → e.appendable = true)
    (isLast forceFlush verdict : Bool) (hforce : isLast = true ∨ forceFlush = true)
    (w : List Bool) (hw : w.length < 256) (r : Res)
    (h : encodeDataPayload e dict data (2 ^ k - 1) lp lf ip isLast forceFlush verdict ps w = .ok r) :
    ∃ bits, r.w = w ++ bits ∧ r.emit = true ∧ r.wrote = true ∧ Fresh r.st ∧
      Reads wo (maxBackwardLimit e.cbr) e.large isLast w.length ⟨hist, ps.distCache.take 4⟩ bits
        ⟨hist ++ mb, r.st.distCache.take 4⟩ := by
  rcases hq with hq | hq
  · exact payload_step_core e H2 65537 true (by simp [chooseHasher, hq]) wo dict data k tail hk hist mb lo hb hsize hmbk hd
      ps hF lp lf ip hlf hlp hip hsmall h1 hcat isLast forceFlush verdict hforce w hw r h
  · exact payload_step_core e H3 65538 false (by simp [chooseHasher, hq]) wo dict data k tail hk hist mb lo hb hsize hmbk hd
      ps hF lp lf ip hlf hlp hip hsmall h1 hcat isLast forceFlush verdict hforce w hw r h

/-- the payload state `ensure_initialized` leaves is `Fresh` (also the catable placeholder cache) -/
theorem fresh_init (catable : Bool) : Fresh (PSt.init catable) := by
  cases catable
  · refine ⟨rfl, rfl, ?_, by decide, rfl⟩
    intro x hx
    simp [PSt.init] at hx
    rcases hx with rfl | rfl | rfl | rfl <;> decide
  · refine ⟨rfl, rfl, ?_, by decide, rfl⟩
    intro x hx
    simp [PSt.init] at hx
    subst hx
    decide

/-- one forced invocation: `data` is the ring slice at that moment, `w` the storage bits (carry, skeleton) it starts behind -/
structure Step where
  data : ByteArray
  ip : Nat
  isLast : Bool
  forceFlush : Bool
  verdict : Bool
  w : List Bool

/-- the payload model run over the invocations: each one starts where the previous one flushed
(`last_processed_pos_ = last_flush_pos_ = lf`) with the payload state the previous one left -/
def payRun (e : EParams) (dict : ByteArray → Nat → Option (List DictItem)) (k : Nat) : PSt → Nat → List Step → Option (List Res)
  | _, _, [] => some []
  | ps, lf, s :: ss =>
    match encodeDataPayload e dict s.data (2 ^ k - 1) lf lf s.ip s.isLast s.forceFlush s.verdict ps s.w with
    | .ok r => (payRun e dict k r.st s.ip ss).map (r :: ·)
    | _ => none

/-- the hypotheses of `payload_step_roundtrip`, per invocation, for the text `T` -/
def StepsOK (e : EParams) (wo : WordOracle) (dict : ByteArray → Nat → Option (List DictItem)) (k : Nat) (T : Bytes) :
    Nat → List Step → Prop
  | _, [] => True
  | lf, s :: ss =>
    (∃ tail lo, BlockOK e.cbr e.large s.data k tail (T.take lf) ((T.drop lf).take (s.ip - lf)) lo) ∧
    lf < s.ip ∧ s.ip ≤ T.length ∧ s.ip < 2 ^ 30 ∧ s.ip - lf ≤ 2 ^ k ∧ 2 ^ k ≤ s.data.size ∧
    DictFaithful wo (if e.useDict then dict else fun _ _ => none) s.data ∧
    (s.isLast = true ∨ s.forceFlush = true) ∧ s.w.length < 256 ∧ StepsOK e wo dict k T s.ip ss

def ChainReads (wo : WordOracle) (window : Nat) (large : Bool) (T : Bytes) : RdSt → List Step → List Res → Prop
  | _, [], [] => True
  | st, s :: ss, r :: rs =>
    ∃ bits, r.w = s.w ++ bits ∧ r.emit = true ∧
      Reads wo window large s.isLast s.w.length st bits ⟨T.take s.ip, r.st.distCache.take 4⟩ ∧
      ChainReads wo window large T ⟨T.take s.ip, r.st.distCache.take 4⟩ ss rs
  | _, _, _ => False

/-- A sequence of forced `encode_data` invocations at quality 2/3 over the text `T` (every
invocation closes the meta-block `[lf, ip)` it was given; FLUSH / FINISH histories), run by the payload model from a
`Fresh` payload state: every piece appends `bits_i` behind its storage bits, and the RFC reader — its state THREADED
through the pieces: output so far and ring of last distances = the encoder's `dist_cache_[..4]`, rolled back when a
block ends up stored — reads piece `i` from `(T[..ip_{i-1}], ring_{i-1})` to `(T[..ip_i], ring_i)`; the last one, if
`is_last`, as the end of the stream.  No hypothesis about the payload encoder: per invocation only `BlockOK` (ring slice holds
the text), `DictFaithful`, positions < 2^30, < 256 storage bits. -/
theorem payload_run_roundtrip (e : EParams) (hq : e.quality = 2 ∨ e.quality = 3) (hcat : e.catable = true → e.appendable = true)
    (wo : WordOracle) (dict : ByteArray → Nat → Option (List DictItem)) (k : Nat) (hk : k ≤ 32) (T : Bytes) :
    ∀ (steps : List Step) (ps : PSt) (lf : Nat) (out : List Res), Fresh ps → lf ≤ T.length → StepsOK e wo dict k T lf steps →
      payRun e dict k ps lf steps = some out →
      ChainReads wo (maxBackwardLimit e.cbr) e.large T ⟨T.take lf, ps.distCache.take 4⟩ steps out := by
  intro steps
  induction steps with
  | nil =>
    intro ps lf out _ _ _ h
    simp only [payRun, Option.some.injEq] at h
    subst h
    trivial
  | cons s ss ih =>
    intro ps lf out hF hle hS h
    obtain ⟨⟨tail, lo, hb⟩, h1, h2, h3, h4, h5, h6, h7, h8, hrest⟩ := hS
    rw [payRun] at h
    cases hr : encodeDataPayload e dict s.data (2 ^ k - 1) lf lf s.ip s.isLast s.forceFlush s.verdict ps s.w with
    | panic => rw [hr] at h; cases h
    | fuel => rw [hr] at h; cases h
    | ok r =>
      rw [hr] at h
      simp only [Option.map_eq_some_iff] at h
      obtain ⟨rs, hrs, rfl⟩ := h
      have hl1 : (T.take lf).length = lf := by rw [List.length_take]; omega
      have hl2 : ((T.drop lf).take (s.ip - lf)).length = s.ip - lf := by
        rw [List.length_take, List.length_drop]; omega
      have hcat' : T.take lf ++ (T.drop lf).take (s.ip - lf) = T.take s.ip := by
        have := BV.take_drop_add T 0 lf (s.ip - lf)
        simp only [List.drop_zero, Nat.zero_add] at this
        rw [this]; congr 1; omega
      obtain ⟨bits, a1, a2, _, a4, a5⟩ := payload_step_roundtrip e hq wo dict s.data k tail hk (T.take lf)
        ((T.drop lf).take (s.ip - lf)) lo hb h5 (by rw [hl2]; exact h4) h6 ps hF lf lf s.ip hl1.symm hl1.symm
        (by rw [hl1, hl2]; omega) h3 (by rw [hl2]; omega) hcat s.isLast s.forceFlush s.verdict h7 s.w h8 r hr
      rw [hcat'] at a5
      refine ⟨bits, a1, a2, a5, ?_⟩
      exact ih r.st s.ip rs a4 h2 hrest hrs

/-! non-vacuity: a one-invocation run over `BV.Cbr.Example` (quality 2, FINISH) meets `StepsOK`, and the initial payload
state is `Fresh`; every correspondence line of the `e2e` stage whose calls are all forced is a longer instance -/
example : StepsOK exE (fun _ _ _ => none) (fun _ _ => none) 6 BV.Cbr.Example.text 0
      [⟨BV.Cbr.Example.data, 32, true, false, true, []⟩] ∧ Fresh (PSt.init false) ∧ 0 ≤ BV.Cbr.Example.text.length := by
  refine ⟨⟨⟨32, 0, ?_⟩, by decide, by decide, by decide, by decide, by decide, ?_, Or.inl rfl, by decide, trivial⟩,
    fresh_init false, Nat.zero_le _⟩
  · show BlockOK exE.cbr exE.large BV.Cbr.Example.data 6 32 [] BV.Cbr.Example.text 0
    exact ⟨rfl, rfl, BV.Cbr.Example.ring_ok, by decide, by decide, by decide, by decide, fun _ => by decide,
      fun _ => by decide, by decide, by decide⟩
  · simpa [exE] using dictFaithful_none _ _

/-
STATUS.  Proved here: forced invocations chained at the PAYLOAD level (reader state threaded, rollback included).
Still open for the whole-history statement (see the end of BV/Props/C01E2E.lean):
* meta-blocks kept open across invocations: `writePart_roundtrip` already takes an arbitrary command list with its lock-step
  and final-state facts; what is missing is the front half for a non-`Fresh` state — `extendLastCommand` + a second
  CreateBackwardReferences call — i.e. instantiating `Merged` / `Merged.extend` (BV/Lemmas/CbrMerge.lean; its field
  hypotheses are discharged against this model in `merged_extend_of_e2e`, BV/Props/C14Chain.lean) with the model's `ps.cmds`;
* the bit POSITION: `Reads` is stated at the position `|w_i|` of each invocation's own storage (carry < 8 bits + skeleton),
  as the encoder sees it; gluing the pieces into ONE `readMetaBlocks` run over the delivered stream needs that the reader
  depends on the position only modulo 8 (for a non-last compressed meta-block not at all: BV/Lemmas/ReadShift.lean; C04Run
  `blocks_one` / `PayloadDecode` is the bridge on the reader side);
* the stream machine: `StepsOK` per invocation (`BlockOK` from `RingOK` at each `encode_data` event; `lf`, `ip`, flags,
  carry from the log of `delivered_is_framed_concat`).
-/

end BV.Props.C01E2E
