/-
C10 — custom (prefix) dictionary: encoder (`BV.Dict.setCustomDictionary`) and decoder (`BV.Dict.Dec`) agree on the
history, on `max_distance` at every position and on the context bytes whenever the dictionary is used; an ignored
dictionary is harmless; the decoder's speculative copy path is modelled, with the known finding as a counterexample
and the exact condition that excludes it.

NOT proved (hypotheses, exercised by engine `dict` on the real code): that the payload encoder's commands replay to the
input under the encoder's own view (the premise of `C10_roundtrip_partial`, stated inline; discharged for quality 2–9 in
C10Chain), and that quality 0/1 emit no static-dictionary reference (no statement here mentions it).  The decoder model is hand-written from brotli-decompressor 4.0.3: its allocation /
`max_distance` part is tied by the differential decode, its copy path by the `dict decrun` correspondence.
-/
import BV.Lemmas.DictDec
import BV.Lemmas.DictEnc
import BV.Lemmas.DictCopy
import BV.Model.Recoder

namespace BV.Props.C10
open BV.Dict BV.Header

/-- the decoder that reads the stream made from `p0` and is handed the same dictionary:
window bits = what the header declares -/
def decoderFor (p0 : Params) (size : Nat) (dict : Nat → Nat) : Dec :=
  ⟨(headerLgwin (ensureInitialized true p0).params).toNat, size, dict⟩

theorem header_wbits_used (p0 : Params) (hq : 2 ≤ encQ p0) :
    (headerLgwin (ensureInitialized true p0).params).toNat = encL p0 := by
  unfold headerLgwin encL
  unfold encQ at hq
  simp only [lit, litsInit, BV.Gen.lits_ensure_initialized, List.getD_cons_zero, List.getD_cons_succ]
  rw [if_neg (by omega)]

theorem header_wbits_ge (p0 : Params) :
    encL p0 ≤ (headerLgwin (ensureInitialized true p0).params).toNat := by
  unfold headerLgwin encL
  simp only [lit, litsInit, BV.Gen.lits_ensure_initialized, List.getD_cons_zero, List.getD_cons_succ]
  split <;> omega

theorem decoderFor_dEff (p0 : Params) (size : Nat) (dict : Nat → Nat) (hq : 2 ≤ encQ p0) :
    (decoderFor p0 size dict).dEff = encDEff (encL p0) size := by
  unfold Dec.dEff decoderFor encDEff; simp only [header_wbits_used p0 hq]

theorem decoderFor_mbd (p0 : Params) (size : Nat) (dict : Nat → Nat) (hq : 2 ≤ encQ p0) :
    (decoderFor p0 size dict).mbd = 2 ^ encL p0 - 16 := by
  unfold Dec.mbd decoderFor; simp only [header_wbits_used p0 hq]

theorem enc_book_used (p0 : Params) (size : Nat) (dict : Nat → Nat) (hsz : 0 < size) (hq : 2 ≤ encQ p0) :
    ∃ s, setCustomDictionary p0 size dict size = some s ∧
      s.params = (ensureInitialized true p0).params ∧ s.customDictionary = true ∧
      s.inputPos = encDEff (encL p0) size ∧ s.lastFlushPos = encDEff (encL p0) size ∧
      s.lastProcessedPos = encDEff (encL p0) size ∧ s.recoderPos = encDEff (encL p0) size ∧
      s.ring.pos = encDEff (encL p0) size ∧
      s.prevByte = dict (size - 1) ∧
      s.prevByte2 = (if 2 ≤ encDEff (encL p0) size then dict (size - 2) else 0) ∧
      ∀ i, i < encDEff (encL p0) size → s.ring.at i = dict (size - encDEff (encL p0) size + i) :=
  let ⟨s, hs, u⟩ := setCustomDictionary_used p0 size dict hsz hq
  ⟨s, hs, u.params, u.custom, u.inputPos, u.flushed, u.processed, u.recoder, u.ringPos, u.prev1, u.prev2, u.ringAt⟩

/-- dictionary ignored (empty dictionary, or sanitised quality 0/1): nothing is copied, all positions stay 0,
and the stream is switched to self-contained mode (`catable = appendable = true`) -/
theorem enc_book_ignored (p0 : Params) (size : Nat) (dict : Nat → Nat) (dlen : Nat)
    (h : size = 0 ∨ encQ p0 = 0 ∨ encQ p0 = 1) :
    ∃ s, setCustomDictionary p0 size dict dlen = some s ∧
      s.params = { (ensureInitialized true p0).params with catable := true, appendable := true } ∧
      s.customDictionary = false ∧ s.inputPos = 0 ∧ s.lastFlushPos = 0 ∧ s.lastProcessedPos = 0 ∧
      s.recoderPos = 0 ∧ s.prevByte = 0 ∧ s.prevByte2 = 0 ∧ s.ring.pos = 0 ∧ s.ring.dataLen = 0 := by
  obtain ⟨s0, hinit, hpar, hF, hip, hpb, hpb2⟩ := encInit_fresh p0
  have hL := encL_range p0
  unfold setCustomDictionary
  rw [hinit]
  have hlw : ¬ (s0.params.lgwin < 0 ∨ s0.params.lgwin ≥ 64) := by
    rw [hpar]; unfold encL at hL; omega
  simp only [hlw, if_false]
  have hqq : size = 0 ∨ s0.params.quality = 0 ∨ s0.params.quality = 1 := by
    rw [hpar]; exact h
  simp only [hqq, if_true]
  obtain ⟨z1, z2, z3, z4⟩ := encInit_zero p0 s0 hinit
  exact ⟨_, rfl, by rw [hpar], z3, hip, z1, z2, z4, hpb, hpb2, hF.pos, hF.dlen⟩

theorem dec_max_distance_closed (D : Dec) (hw : 5 ≤ D.wbits) (ps : List Nat) (P : Nat)
    (hs : (ps ++ [P]).Pairwise (· ≤ ·)) :
    D.runMax 0 (ps ++ [P]) = min (P + D.dEff) D.mbd := by
  have hpos : (0 : Nat) ≠ D.mbd := by
    unfold Dec.mbd
    have : 2 ^ 5 ≤ 2 ^ D.wbits := Nat.pow_le_pow_right (by decide) hw
    omega
  exact D.runMax_closed_aux ps 0 0 P (Or.inl hpos) hs (by intros; omega)

/-- For every parameter struct, every non-empty dictionary and every sanitised
quality ≥ 2 (so also dictionary lengths 1 and 2, lengths beyond the window, raw `lgwin` outside 10..24):
the encoder's state after `set_custom_dictionary` and the decoder that is given the same dictionary
and reads the header's window bits agree on
(1) the number of history bytes: the encoder's starting position is the decoder's `custom_dict_size`;
(2) `max_distance` at EVERY later stream position `P` (encoder: `min(position, 2^lgwin−16)` with
    position = start + P; decoder: its sticky state machine along any run of positions);
(3) the two literal-context bytes at the first input byte. -/
theorem dict_positions_agree (p0 : Params) (size : Nat) (dict : Nat → Nat) (hsz : 0 < size) (hq : 2 ≤ encQ p0) :
    ∃ s, setCustomDictionary p0 size dict size = some s ∧
      s.lastFlushPos = (decoderFor p0 size dict).dEff ∧ s.lastProcessedPos = (decoderFor p0 size dict).dEff ∧
      s.inputPos = (decoderFor p0 size dict).dEff ∧ s.recoderPos = (decoderFor p0 size dict).dEff ∧
      (∀ (ps : List Nat) (P : Nat), (ps ++ [P]).Pairwise (· ≤ ·) →
        encMaxDistance (encL p0) (s.lastProcessedPos + P) = (decoderFor p0 size dict).runMax 0 (ps ++ [P])) ∧
      (∀ rbits, (decoderFor p0 size dict).dEff ≤ 2 ^ rbits → 2 ≤ 2 ^ rbits →
        s.prevByte = (decoderFor p0 size dict).ctx1 rbits ∧ s.prevByte2 = (decoderFor p0 size dict).ctx2 rbits) := by
  obtain ⟨s, hs, u⟩ := setCustomDictionary_used p0 size dict hsz hq
  have hde := decoderFor_dEff p0 size dict hq
  have hmbd := decoderFor_mbd p0 size dict hq
  obtain ⟨_, _, hpos⟩ := encDEff_bounds p0 size
  have hde1 := hpos hsz
  refine ⟨s, hs, by rw [u.flushed, hde], by rw [u.processed, hde], by rw [u.inputPos, hde], by rw [u.recoder, hde], ?_, ?_⟩
  · intro ps P hsorted
    rw [dec_max_distance_closed (decoderFor p0 size dict)
      (by show 5 ≤ (headerLgwin (ensureInitialized true p0).params).toNat
          rw [header_wbits_used p0 hq]; exact Nat.le_trans (by decide) (encL_range p0).1) ps P hsorted,
      u.processed, hde, hmbd]
    exact congrArg (min · _) (Nat.add_comm _ _)
  · intro rbits hR h2R
    constructor
    · rw [u.prev1]
      unfold Dec.ctx1
      rw [Dec.before_eq _ rbits 1 (Nat.le_refl 1) (by rw [hde]; exact hde1) hR]
      rfl
    · rw [u.prev2]
      unfold Dec.ctx2
      by_cases h2 : 2 ≤ encDEff (encL p0) size
      · rw [if_pos h2, Dec.before_eq _ rbits 2 (by decide) (by rw [hde]; exact h2) hR]
        rfl
      · rw [if_neg h2, Dec.before_zero _ rbits 2 (by rw [hde]; exact Nat.lt_of_not_le h2) h2R]

/-- The usable tail is what both sides find below the first input byte: the byte the
encoder's ring buffer holds at stream position `d' − k` is the byte the decoder finds `k` positions before
its position 0, for every `1 ≤ k ≤ d'`; both are `dict[size − k]`. -/
theorem dict_tail_in_ring (p0 : Params) (size : Nat) (dict : Nat → Nat) (hsz : 0 < size) (hq : 2 ≤ encQ p0) :
    ∃ s, setCustomDictionary p0 size dict size = some s ∧
      ∀ rbits k, (decoderFor p0 size dict).dEff ≤ 2 ^ rbits → 1 ≤ k → k ≤ (decoderFor p0 size dict).dEff →
        s.ring.at (s.lastProcessedPos - k) = (decoderFor p0 size dict).before rbits k ∧
        s.ring.at (s.lastProcessedPos - k) = dict (size - k) := by
  obtain ⟨s, hs, u⟩ := setCustomDictionary_used p0 size dict hsz hq
  have hde := decoderFor_dEff p0 size dict hq
  have hle := (encDEff_bounds p0 size).1
  refine ⟨s, hs, ?_⟩
  intro rbits k hR hk1 hk
  have e : s.ring.at (s.lastProcessedPos - k) = dict (size - k) := by
    rw [hde] at hk
    rw [u.processed, u.ringAt _ (Nat.sub_lt (Nat.lt_of_lt_of_le hk1 hk) hk1)]
    generalize encDEff (encL p0) size = d' at hk hle
    exact congrArg dict (by omega)
  exact ⟨by rw [e, Dec.before_eq _ rbits k hk1 hk hR]; rfl, e⟩

/-- **dictionary ignored ⇒ the decoder's extra prefix is harmless for LZ77 copies**: with sanitised quality
0/1 (or an empty dictionary) the encoder's positions start at 0 whatever dictionary the decoder holds;
every distance `dist` the encoder may use at stream position `P` (`≤ min(P, 2^lgwin−16)`) is
(a) `≤ P`: it refers to output already produced, identical on both sides, and
(b) `≤` the decoder's `max_distance` at `P` (window bits from the header, `≥ lgwin`; any dictionary
    length `d`): the decoder also takes it for an LZ77 copy.
What remains is that no static-dictionary reference is emitted — true of `compress_fragment_fast` /
`compress_fragment_two_pass` (quality 0/1), which have no dictionary code path; not a theorem here,
exercised by engine `dict`. -/
theorem dict_ignored_harmless (p0 : Params) (d : Nat) (dict : Nat → Nat) (P dist : Nat)
    (hd : dist ≤ encMaxDistance (encL p0) P) :
    dist ≤ P ∧ dist ≤ (decoderFor p0 d dict).closed P := by
  have hge := header_wbits_ge p0
  unfold encMaxDistance at hd
  unfold Dec.closed Dec.mbd Dec.dEff decoderFor
  simp only
  have hpow : 2 ^ encL p0 ≤ 2 ^ (headerLgwin (ensureInitialized true p0).params).toNat :=
    Nat.pow_le_pow_right (by decide) hge
  generalize 2 ^ (headerLgwin (ensureInitialized true p0).params).toNat = W at *
  generalize 2 ^ encL p0 = V at *
  omega

open BV.Recoder in
def encHistory (s : Enc) : BV.Recoder.Bytes := (List.range s.lastProcessedPos).map s.ring.at

open BV.Recoder in
def decHistory (D : Dec) (rbits : Nat) : BV.Recoder.Bytes :=
  (List.range D.dEff).map fun i => D.before rbits (D.dEff - i)

theorem histories_agree (p0 : Params) (size : Nat) (dict : Nat → Nat) (hsz : 0 < size) (hq : 2 ≤ encQ p0)
    (rbits : Nat) (hR : (decoderFor p0 size dict).dEff ≤ 2 ^ rbits) :
    ∃ s, setCustomDictionary p0 size dict size = some s ∧
      encHistory s = decHistory (decoderFor p0 size dict) rbits := by
  obtain ⟨s, hs, u⟩ := setCustomDictionary_used p0 size dict hsz hq
  have hde := decoderFor_dEff p0 size dict hq
  have hle := (encDEff_bounds p0 size).1
  refine ⟨s, hs, ?_⟩
  unfold encHistory decHistory
  rw [u.processed, hde]
  apply List.map_congr_left
  intro i hi
  have hi' : i < encDEff (encL p0) size := List.mem_range.mp hi
  rw [u.ringAt i hi', Dec.before_eq _ rbits _ (Nat.sub_pos_of_lt hi') (by rw [hde]; exact Nat.sub_le _ _) hR]
  show dict (size - encDEff (encL p0) size + i) = dict (size - (encDEff (encL p0) size - i))
  generalize encDEff (encL p0) size = d' at hi' hle
  exact congrArg dict (by omega)

open BV.Recoder in
/-- PAYLOAD HYPOTHESIS (not proved, the payload encoder is not
modelled): the raw command array of a meta-block, read with RFC 7932 semantics (`replayCommands`) against
the ENCODER's own view — history = its ring buffer content below the first input byte, window
`2^lgwin − 16` — reproduces the meta-block input `mb`.  CONCLUSION: the decoder that was given the same
dictionary (history = the tail it loaded below position 0, window from the header bits) reproduces `mb` too. -/
theorem C10_roundtrip_partial (p0 : Params) (size : Nat) (dict : Nat → Nat) (hsz : 0 < size) (hq : 2 ≤ encQ p0)
    (rbits : Nat) (hR : (decoderFor p0 size dict).dEff ≤ 2 ^ rbits)
    (w : WordOracle) (np nd : Nat) (mb : Bytes) (ring : List Int) (cmds : List Cmd) :
    ∃ s, setCustomDictionary p0 size dict size = some s ∧
      (replayCommands w np nd (2 ^ encL p0 - 16) mb ring (encHistory s) cmds = some (encHistory s ++ mb) →
       replayCommands w np nd (decoderFor p0 size dict).mbd mb ring (decHistory (decoderFor p0 size dict) rbits) cmds
         = some (decHistory (decoderFor p0 size dict) rbits ++ mb)) := by
  obtain ⟨s, hs, hh⟩ := histories_agree p0 size dict hsz hq rbits hR
  exact ⟨s, hs, by rw [decoderFor_mbd p0 size dict hq, ← hh]; exact id⟩

/-- the 61-byte input of `/verif/proposed/decoder-shrunk-ring-clobbers-dict.md` -/
def witnessInput : List Nat :=
  [0xe5,0xe5,0xe5,0xe5,0xe5,0xe5,0xe5,0x68,0x72,0x6f,0x75,0x67,0x68,0x20,0x64,0x69,0xe5,0x73,0x73,0x61,0x72,0x79,0x2e,0x20,
   0x41,0x6c,0x74,0x68,0x6f,0x75,0x67,0x68,0x20,0x70,0x65,0x72,0x66,0x6f,0x72,0x6d,0xe5,0xe5,0xff,0x54,0x67,0x0e,0xb4,0xa1,
   0xe5,0xe5,0xe5,0xe5,0x08,0x50,0xae,0xad,0xaa,0x24,0x61,0xe5,0xe5]

/-- the decoder given the 1-byte dictionary `e5`, window bits 10 -/
def witnessDec : Dec := ⟨10, 1, fun _ => 0xe5⟩

/-- the copy at distance 49 starts at the dictionary byte and runs on into the start of the output -/
def witnessCmds : List DecCmd :=
  [.bytes (witnessInput.take 48), .copy 49 4, .bytes (witnessInput.drop 52)]

/-- Counterexample, proved on the model of brotli-decompressor's copy path:
for the 1-byte dictionary `e5` and a single last meta-block of 61 bytes the decoder shrinks its ring to 64 bytes
(dictionary at index 63); the command sequence is valid — the byte-by-byte reference decoder, and the same copy path
in an UNshrunk ring, give the input — but the speculative `memmove16` of the copy at position 48 overwrites ring[63],
its own source, and the decoder returns `00` at byte 48: wrong bytes of the right length, exactly what the real
decoder returns.  The copy violates both safety conditions. -/
theorem decoder_shrunk_ring_clobbers_dict :
    witnessDec.ringSize true 61 = 64 ∧
    (List.range 61).map (refRun 64 witnessCmds (witnessDec.ringAt 64) 0).1 = witnessInput ∧
    (decRun 1024 witnessCmds (witnessDec.ringAt 1024) 0).map (fun r => (List.range r.2).map r.1) = some witnessInput ∧
    decOutput witnessDec 61 witnessCmds = some (witnessInput.take 48 ++ [0, 0xe5, 0xe5, 0xe5] ++ witnessInput.drop 52) ∧
    decOutput witnessDec 61 witnessCmds ≠ some witnessInput ∧
    ¬ CopySafe witnessDec 64 48 4 ∧ ¬ SrcSafe witnessDec 64 48 49 := by
  refine ⟨by decide, by decide, by decide, by decide, by decide, ?_, ?_⟩
  · unfold CopySafe; decide
  · unfold SrcSafe; decide

/-- The exact condition that excludes the finding.  Let the decoder (any window bits, any
dictionary, ring of size `R ≥ 16` holding the tail, `R = ringbuffer_size` shrunk or not) execute the commands of its
first meta-block from the freshly allocated ring.  If every copy satisfies
`CopySafe` (`R = 2^wbits`, i.e. the ring was not shrunk, or every byte the copy may write — speculative overshoot of up
to 15 bytes included — ends below the dictionary: `writeEnd pos len ≤ R − d'`) and
`SrcSafe` (`distance ≤ R − 16`, or its first 16-byte block ends below the dictionary),
then the decoder's copy path produces exactly the output of the byte-by-byte RFC reference decoder, and every
dictionary byte that is still within `max_distance` at the end is intact.  (In an unshrunk ring both hold for every legal
copy: `full_ring_copies_safe`.) -/
theorem dict_tail_readable (D : Dec) (R : Nat) (hR : 16 ≤ R) (hde : D.dEff ≤ R) (cmds : List DecCmd)
    (ring' : Nat → Nat) (pos' : Nat) (hsafe : CmdsSafe D R cmds 0)
    (h : decRun R cmds (D.ringAt R) 0 = some (ring', pos')) :
    pos' = (refRun R cmds (D.ringAt R) 0).2 ∧
    (∀ j, j < pos' → ring' j = (refRun R cmds (D.ringAt R) 0).1 j) ∧
    DictLive D R ring' pos' := by
  obtain ⟨h1, h2⟩ := decRun_eq_refRun D R hR hde cmds _ _ 0 ring' pos' hsafe ⟨fun _ _ => rfl, fun _ _ _ _ => rfl⟩ h
  refine ⟨h1, h2.1, ?_⟩
  -- the reference run never touches the dictionary region it can still reach; combine with agreement
  intro k hk1 hk hr
  rw [h2.2 k hk1 hk hr]
  exact refRun_dict D R hde cmds (D.ringAt R) 0 hsafe (dictLive_alloc D R hde) k hk1 hk (by rw [← h1]; exact hr)

theorem full_ring_copies_safe (D : Dec) (pos dist len : Nat) (hd : dist ≤ D.mbd) :
    CopySafe D (2 ^ D.wbits) pos len ∧ SrcSafe D (2 ^ D.wbits) pos dist :=
  ⟨Or.inl rfl, Or.inl (by unfold Dec.mbd at hd; exact hd)⟩

/-- a 1-byte dictionary at quality 9, lgwin 22: used, position 1, context bytes (dict[0], 0) -/
example : (setCustomDictionary (⟨9, 22, 0, false, false, false, true, false, 0⟩ : Params) 1 (dictGen 7) 1).map
    (fun s => (s.lastFlushPos, s.prevByte, s.prevByte2, s.recoderPos, s.ring.at 0)) = some (1, 7, 0, 1, 7) := by
  decide

/-- a dictionary longer than the window (lgwin 10): only the last 1008 bytes count -/
example : (setCustomDictionary (⟨5, 10, 0, false, false, false, true, false, 0⟩ : Params) 3000 (dictGen 1) 3000).map
    (fun s => (s.lastFlushPos, s.prevByte, s.ring.at 0)) = some (1008, dictGen 1 2999, dictGen 1 1992) := by
  decide

/-- raw lgwin 5 is sanitised to 10 BEFORE the truncation length is computed -/
example : (setCustomDictionary (⟨5, 5, 0, false, false, false, true, false, 0⟩ : Params) 600 (dictGen 0) 600).map
    (fun s => s.lastFlushPos) = some 600 := by
  decide

/-- the hypotheses of `dict_positions_agree` hold for it -/
example : 0 < 1 ∧ 2 ≤ encQ (⟨9, 22, 0, false, false, false, true, false, 0⟩ : Params) := by decide

/-- quality 1 ignores the dictionary and switches to self-contained mode -/
example : (setCustomDictionary (⟨1, 16, 0, false, false, false, true, false, 0⟩ : Params) 50 (dictGen 0) 50).map
    (fun s => (s.lastFlushPos, s.params.catable, s.params.appendable)) = some (0, true, true) := by
  decide

/-- the decoder's state machine on a concrete run (wbits 10, 5-byte dictionary) -/
example : (⟨10, 5, dictGen 0⟩ : Dec).runMax 0 [0, 3, 3, 900, 1003, 1004, 2000] = 1008 := by decide
example : (⟨10, 5, dictGen 0⟩ : Dec).runMax 0 [0, 3, 3, 900] = 905 := by decide

end BV.Props.C10
