import BV.Lemmas.StreamChunkMerge
import BV.Props.C05
/-
C05, input chunking — "output bytes depend on input, settings and call points only, not on buffering",
the half about how the caller cuts the INPUT.

Setting: the main loop of `compress_stream` (not the quality 0/1 one-shot path), not catable, an
explicit size hint (`update_size_hint` is then the identity: with size_hint = 0 the hint the first
invocation stores is `unprocessed + available_in`, which does depend on the first chunk), initialised
encoder, no 64-bit wrap.  These are the fields of `VGood`.

Which fields of a payload-encoder request (`Req`: site, `[lo, hi)`, `lf`, `is_last`, `force_flush`)
could depend on the chunking, and what is proved (on the model, machine `vstep` of
Lemmas/StreamChunk: `ustep` with the ring buffer erased, every `ustep` step IS a `vstep` step —
`ustep_er`):

* `lo`, `hi`, `lf` (where the blocks are cut): a request is issued when the block counter
  `remaining_input_block_size` reaches 0, and copying `n` bytes moves that counter by exactly `n`
  (`rbs_vCopy`) — block boundaries are a function of the cumulative position, not of the chunks;
* `is_last` / `force_flush` of a block that becomes full: computed as `available_in == 0 && op == …`
  at the moment the block is encoded.  If the block becomes full with the LAST byte of the request,
  the flags are set when that byte came with the FINISH / FLUSH call itself, and not set when it came
  with a PROCESS call before (the FINISH / FLUSH call then issues one more, EMPTY, flagged request).
  This is real: `chunking_counterexample_*` below (the model, from a fresh encoder, 16384 bytes at
  quality 2), and stage `boundary` of `bvh stream c05` on the real code (requests as predicted in
  80/80 cases, bytes differ in 6/80 with the generated data).

Theorem `chunking_irrelevant`: ANY two ways of cutting the same data into PROCESS chunks in front of
the same kind of final request, all requests driven under arbitrary output schedules: equal states up
to the ring buffer, equal bytes — PROVIDED, for each history, the final request is a PROCESS, or has a
byte of its own, or the PROCESS data do not end on an input-block boundary (`NotBoundary`: the
cumulative count of unprocessed bytes is not a multiple of the block size).  That is exactly the
complement of the counter-example: the characterisation is sharp.  The tree violates
the chunking clause of C05 exactly where the proviso bites (known finding
`stream:c05:in-chunking:block-multiple`).  `process_chunking_irrelevant` is the one-step form.
The oracle is asked with (invocation number, request) and the invocation number is part of the
compared state (`nEnc`), so the bytes are equal with no hypothesis on the oracle.  The request lists
themselves: `merged_requests` and `step_vreq`.
-/
namespace BV.Props.C05Chunk
open BV.Stream BV.Bits

theorem vmerge_end {o : Oracle} {op2 : Nat} {M C e : Abs} {d : Bool} {L : Nat → Prop}
    (hm : ∃ m x, VPath o op2 M m x ∧ (x = C ∨ (vstep o op2 C = some x ∧ ¬ FlushStep C x ∧ vreq op2 C = [])) ∧ L m)
    (he : VEnd o op2 C e d) (hf : d = true ∨ vstep o op2 e = none) : VEnd o op2 M e d := by
  obtain ⟨m, x, hp, hx, _⟩ := hm
  obtain ⟨n, q⟩ := vend_at.mp he
  rcases hx with rfl | ⟨hs, hnf, _⟩
  · exact vend_at.mpr ⟨m + n, q.prepend (vpath_walk.mp hp)⟩
  · obtain ⟨k, _, q'⟩ := q.tail hs hnf hf
    exact vend_at.mpr ⟨m + k, q'.prepend (vpath_walk.mp hp)⟩

/-- an end of a run together with the payload-encoder requests issued on the way (`vlog`; the step
that completes a flush issues none) -/
def VEndL (o : Oracle) (op : Nat) (a b : Abs) (log : List Req) : Bool → Prop
  | false => ∃ n, VPath o op a n b ∧ vlog o op n a = log
  | true => ∃ n x, VPath o op a n x ∧ vstep o op x = some b ∧ FlushStep x b ∧ vlog o op n a = log

theorem vendL_at {o : Oracle} {op : Nat} {a b : Abs} {log : List Req} {d : Bool} :
    VEndL o op a b log d ↔ ∃ n, At (vstep o op) FlushStep a n b d ∧ vlog o op n a = log := by
  cases d with
  | false => simp only [VEndL, At, vpath_walk]
  | true =>
    simp only [VEndL, At, vpath_walk]
    exact ⟨fun ⟨n, x, p, s, f, l⟩ => ⟨n, ⟨x, p, s, f⟩, l⟩, fun ⟨n, ⟨x, p, s, f⟩, l⟩ => ⟨n, x, p, s, f, l⟩⟩

theorem VEndL.toVEnd {o : Oracle} {op : Nat} {a b : Abs} {log : List Req} {d : Bool} (h : VEndL o op a b log d) : VEnd o op a b d := by
  obtain ⟨n, q, _⟩ := vendL_at.mp h
  exact vend_at.mpr ⟨n, q⟩

/-- **the requests of the merged run are the requests of the two runs, in order** (ring-free machine, under the
proviso of `vmerge`): every field of every request (`lo`, `hi`, `lf`, `is_last`, `force_flush`) is therefore
independent of where the chunk boundary was. -/
theorem merged_requests {o : Oracle} {op2 n1 : Nat} {s : St} {out c1 c2 : Bytes} {b1 e : Abs} {d : Bool} {log2 : List Req}
    (p1 : VPath o 0 ⟨s, out, c1, c1.length⟩ n1 b1) (t1 : vstep o 0 b1 = none) (hin : b1.input = [])
    (hS : VStart s (c1 ++ c2)) (hsafe : op2 = 0 ∨ c2 ≠ [] ∨ NotBoundary s c1)
    (he : VEndL o op2 ⟨b1.s, b1.out, c2, c2.length⟩ e log2 d) (hf : d = true ∨ vstep o op2 e = none) :
    VEndL o op2 ⟨s, out, c1 ++ c2, (c1 ++ c2).length⟩ e (vlog o 0 n1 ⟨s, out, c1, c1.length⟩ ++ log2) d := by
  obtain ⟨m, x, hp, hx, hlog⟩ := vmerge (o := o) (op2 := op2) (c2 := c2) n1 s out c1 b1 p1 t1 hin hS hsafe
  obtain ⟨n, q, hl⟩ := vendL_at.mp he
  rcases hx with rfl | ⟨hs, hnf, hv⟩
  · exact vendL_at.mpr ⟨m + n, q.prepend (vpath_walk.mp hp), by rw [vlog_append hp, hlog, hl]⟩
  · obtain ⟨k, rfl, q'⟩ := q.tail hs hnf hf
    refine vendL_at.mpr ⟨m + k, q'.prepend (vpath_walk.mp hp), ?_⟩
    rw [vlog_append hp, hlog, ← hl, vlog_succ _ hs, hv, List.nil_append]

/-- **tie of the request log to the model**: the request an `encode_data` step of the model's main loop
issues (what the correspondence run compares with the hook log of the real code) is the request
`vreq` of the ring-free configuration at that step -/
theorem step_vreq {o : Oracle} {op : Nat} {s s2 : St} {io : Io} {req : Req} (del : Bytes)
    (hI : Inv s) (hnf : ¬ fastMode s.params)
    (hnc : ¬ (remainingInputBlockSize s ≠ 0 ∧ io.availIn ≠ 0)) (hnp : ¬ PadDue s)
    (hst : s.streamState = .processing) (hgo : remainingInputBlockSize s = 0 ∨ op ≠ 0)
    (h : encodeData o (updateSizeHint s io.availIn) 0 (slowIl op io) (slowFf op io) = .ok (s2, true, req)) :
    vreq op (erA (absOf s io del)) = [req] := by
  obtain ⟨_, hreq, _⟩ := encodeData_frame h
  have hv := vreq_enc (op := op) (a := erA (absOf s io del)) hI.init hnf hnc hnp ⟨hst, hgo⟩
  rw [hv, hreq]
  obtain ⟨_, _, _, _, _, hInputPos, _, _, _, hLastFlushPos, hLastProcessedPos, _⟩ := updateSizeHint_fields s io.availIn
  simp only [reqOf, hInputPos, hLastFlushPos, hLastProcessedPos, Req.mk.injEq, List.cons.injEq, and_true, true_and]
  exact ⟨rfl, rfl, rfl, rfl, rfl⟩

theorem vgood_absR {s t : St} {inp inp' del del' : Bytes} (hG : VGood (absR s inp del)) (hp : t.params = s.params)
    (hi : t.isInitialized = s.isInitialized) (hw : t.inputPos + inp'.length < two64) : VGood (absR t inp' del') :=
  hG.of_eq hp hi hw rfl

theorem erA_absR (s : St) (rem del : Bytes) : erA (absR s rem del) = ⟨er (core s), del ++ s.pending, rem, rem.length⟩ := rfl

theorem vpos_of_inv {s : St} (hI : Inv s) : VPos (er (core s)) := ⟨hI.fl_le, hI.lp_le, hI.blk⟩

theorem inv_ensure {s : St} (h : IsFresh s ∨ Inv s) : Inv (ensureInitialized s) := by
  rcases h with h | h
  · exact (inv_fresh h).1
  · rw [ensureInitialized_id h.init]; exact h

theorem driveReq_vend {o : Oracle} {fuel op : Nat} {sched : List SchedStep} {s s' : St} {chunk del del' : Bytes} {d : Bool}
    (hop : op ≤ 2) (hB : Bnd op s chunk) (hG : VGood (absR s chunk del))
    (h : driveReq o fuel op sched s chunk del false = some (s', [], del', d))
    (e : d = true ∨ ustep o op (absR s' [] del') = none) :
    VEnd o op (erA (absR s chunk del)) (erA (absR s' [] del')) d ∧ VGood (absR s' [] del')
    ∧ (d = true ∨ vstep o op (erA (absR s' [] del')) = none) := by
  obtain ⟨r, _⟩ := BV.Props.C05.schedule_refines_abstract hop hB h
  obtain ⟨v, g⟩ := rpath_er r hG
  exact ⟨v, g, e.imp_right (final_er g rfl)⟩

/-- **process_chunking_irrelevant**: moving bytes between a PROCESS call and the request behind it
does not change what the encoder produces — if that request is a PROCESS or keeps a byte of its own.
Run A: PROCESS `c1` (driven to completion under schedule 1, all input consumed), then `(op2, c2)`
(schedule 2); run B: `(op2, c1 ++ c2)` (schedule 3), from a start that agrees abstractly with the
start of run A.  Both end with the same core state up to the ring buffer and the same bytes. -/
theorem process_chunking_irrelevant {o : Oracle} {f1 f2 f3 op2 : Nat} {sched1 sched2 sched3 : List SchedStep}
    {s s1 s2 t t3 : St} {c1 c2 del del1 del2 delt del3 : Bytes} {d2 d3 : Bool}
    (hop2 : op2 ≤ 2) (hsafe : op2 = 0 ∨ c2 ≠ [] ∨ NotBoundary s c1)
    (hG : VGood (absR s (c1 ++ c2) del)) (hproc : s.streamState = .processing)
    (hB1 : Bnd 0 s c1)
    (h1 : driveReq o f1 0 sched1 s c1 del false = some (s1, [], del1, false))
    (e1 : ustep o 0 (absR s1 [] del1) = none)
    (hB2 : Bnd op2 s1 c2)
    (h2 : driveReq o f2 op2 sched2 s1 c2 del1 false = some (s2, [], del2, d2))
    (e2 : d2 = true ∨ ustep o op2 (absR s2 [] del2) = none)
    (hcore : core t = core s) (hout : delt ++ t.pending = del ++ s.pending)
    (hB3 : Bnd op2 t (c1 ++ c2))
    (h3 : driveReq o f3 op2 sched3 t (c1 ++ c2) delt false = some (t3, [], del3, d3))
    (e3 : d3 = true ∨ ustep o op2 (absR t3 [] del3) = none) :
    er (core s2) = er (core t3) ∧ del2 ++ s2.pending = del3 ++ t3.pending := by
  obtain ⟨⟨n1, p1⟩, g1, f1⟩ := driveReq_vend (Nat.zero_le 2) hB1 (vgood_absR hG rfl rfl hB1.wrap) h1 (Or.inr e1)
  have t1 := f1.resolve_left (fun h => by cases h)
  rw [erA_absR] at p1
  have hIs : Inv s := by
    rcases hB1.inv with h | h
    · have : s.isInitialized = true := hG.init
      rw [isFreshInit h] at this; cases this
    · exact h
  have hS : VStart (er (core s)) (c1 ++ c2) := VStart.of_good (vgood_erA.mpr hG) hproc (vpos_of_inv hIs)
  have hm := vmerge (o := o) (op2 := op2) (c2 := c2) n1 (er (core s)) (del ++ s.pending) c1 _ p1 t1 rfl hS hsafe
  obtain ⟨v2, _, fin2⟩ := driveReq_vend hop2 hB2 (vgood_absR g1 rfl rfl hB2.wrap) h2 e2
  have vA := vmerge_end hm v2 fin2
  have hc := core_eq_iff.mp hcore
  obtain ⟨v3, _, fin3⟩ := driveReq_vend hop2 hB3 (vgood_absR hG hc.1 hc.2.2.2.2.2.2.2.2.2.1 hB3.wrap) h3 e3
  have hstart : erA (absR t (c1 ++ c2) delt) = ⟨er (core s), del ++ s.pending, c1 ++ c2, (c1 ++ c2).length⟩ := by
    rw [erA_absR, hcore, hout]
  rw [hstart] at v3
  have := vend_final_eq vA v3 fin2 fin3
  rw [erA_absR, erA_absR] at this
  simp only [Abs.mk.injEq] at this
  exact ⟨this.1, this.2.1⟩

theorem vpath_len_unique {o : Oracle} {op : Nat} {a b1 b2 : Abs} {n1 n2 : Nat}
    (p1 : VPath o op a n1 b1) (p2 : VPath o op a n2 b2)
    (f1 : vstep o op b1 = none ∨ ∃ y, vstep o op b1 = some y ∧ FlushStep b1 y)
    (f2 : vstep o op b2 = none ∨ ∃ y, vstep o op b2 = some y ∧ FlushStep b2 y) : n1 = n2 :=
  (Walk.stop_unique (vpath_walk.mp p1) f1 (vpath_walk.mp p2) f2).1

theorem vend_toL {o : Oracle} {op : Nat} {a b : Abs} {d : Bool} (h : VEnd o op a b d) : ∃ log, VEndL o op a b log d := by
  obtain ⟨n, q⟩ := vend_at.mp h
  exact ⟨_, vendL_at.mpr ⟨n, q, rfl⟩⟩

theorem vendL_final_eq {o : Oracle} {op : Nat} {a b1 b2 : Abs} {l1 l2 : List Req} {d1 d2 : Bool}
    (h1 : VEndL o op a b1 l1 d1) (h2 : VEndL o op a b2 l2 d2)
    (f1 : d1 = true ∨ vstep o op b1 = none) (f2 : d2 = true ∨ vstep o op b2 = none) : b1 = b2 ∧ l1 = l2 := by
  obtain ⟨n1, q1, rfl⟩ := vendL_at.mp h1
  obtain ⟨n2, q2, rfl⟩ := vendL_at.mp h2
  obtain ⟨rfl, rfl⟩ := q1.final_eq q2 f1 f2
  exact ⟨rfl, rfl⟩

/-- a request list run on the ring-free machine: every request to its end, all of its input consumed;
a PROCESS request does not complete a flush; the last index is the list of payload-encoder requests issued -/
inductive VRun (o : Oracle) : List (Nat × Bytes) → St → Bytes → St → Bytes → List Req → Prop
  | nil (s : St) (out : Bytes) : VRun o [] s out s out []
  | cons {op : Nat} {chunk : Bytes} {rest : List (Nat × Bytes)} {s s' : St} {out out' : Bytes} {e : Abs} {d : Bool} {l1 l2 : List Req} :
      VEndL o op ⟨s, out, chunk, chunk.length⟩ e l1 d → (d = true ∨ vstep o op e = none) → e.input = [] →
      (op = 0 → d = false) → VRun o rest e.s e.out s' out' l2 → VRun o ((op, chunk) :: rest) s out s' out' (l1 ++ l2)

theorem vrun_det {o : Oracle} (reqs : List (Nat × Bytes)) :
    ∀ {s s1 s2 : St} {out out1 out2 : Bytes} {g1 g2 : List Req}, VRun o reqs s out s1 out1 g1 → VRun o reqs s out s2 out2 g2 →
      s1 = s2 ∧ out1 = out2 ∧ g1 = g2 := by
  induction reqs with
  | nil => intro s s1 s2 out out1 out2 g1 g2 h1 h2; cases h1; cases h2; exact ⟨rfl, rfl, rfl⟩
  | cons r rest ih =>
    intro s s1 s2 out out1 out2 g1 g2 h1 h2
    cases h1 with
    | cons v1 f1 _ _ r1 =>
      cases h2 with
      | cons v2 f2 _ _ r2 =>
        obtain ⟨he, hl⟩ := vendL_final_eq v1 v2 f1 f2
        subst he
        subst hl
        obtain ⟨q1, q2, q3⟩ := ih r1 r2
        exact ⟨q1, q2, by rw [q3]⟩

theorem vrun_merge {o : Oracle} {op2 : Nat} {c1 c2 : Bytes} {rest : List (Nat × Bytes)} {s s' : St} {out out' : Bytes}
    (hsafe : op2 = 0 ∨ c2 ≠ [] ∨ NotBoundary s c1) (hS : VStart s (c1 ++ c2))
    {g : List Req} (h : VRun o ((0, c1) :: (op2, c2) :: rest) s out s' out' g) : VRun o ((op2, c1 ++ c2) :: rest) s out s' out' g := by
  cases h with
  | @cons _ _ _ _ _ _ _ e1 d1 l1 l23 v1 f1 i1 hd1 r1 =>
    have hd : d1 = false := hd1 rfl
    subst hd
    obtain ⟨n1, p1, hl1⟩ := v1
    have t1 : vstep o 0 e1 = none := by rcases f1 with h | h; cases h; exact h
    cases r1 with
    | @cons _ _ _ _ _ _ _ e2 d2 l2 l3 v2 f2 i2 hd2 r2 =>
      have hm := merged_requests p1 t1 i1 hS hsafe v2 f2
      rw [← List.append_assoc, ← hl1]
      exact .cons hm f2 i2 hd2 r2

def procs (cs : List Bytes) : List (Nat × Bytes) := cs.map (fun c => (0, c))

theorem vstart_mono {s : St} {a b : Bytes} (h : VStart s (a ++ b)) : VStart s a := h.left

theorem vrun_merge_all {o : Oracle} {op : Nat} {c : Bytes} {rest : List (Nat × Bytes)} :
    ∀ (cs : List Bytes) (c1 : Bytes) {s s' : St} {out out' : Bytes} {g : List Req}, VStart s (c1 ++ cs.flatten ++ c) →
      (op = 0 ∨ c ≠ [] ∨ NotBoundary s (c1 ++ cs.flatten)) →
      VRun o ((0, c1) :: (procs cs ++ (op, c) :: rest)) s out s' out' g → VRun o ((op, c1 ++ cs.flatten ++ c) :: rest) s out s' out' g := by
  intro cs
  induction cs with
  | nil =>
    intro c1 s s' out out' g hS hsafe h
    simp only [procs, List.map_nil, List.nil_append, List.flatten_nil, List.append_nil] at h hS hsafe ⊢
    exact vrun_merge hsafe hS h
  | cons c2 cs ih =>
    intro c1 s s' out out' g hS hsafe h
    have hS' : VStart s ((c1 ++ c2) ++ cs.flatten ++ c) := by
      simpa [List.flatten_cons, List.append_assoc] using hS
    have hS2 : VStart s (c1 ++ c2) := vstart_mono (vstart_mono hS')
    have h' : VRun o ((0, c1 ++ c2) :: (procs cs ++ (op, c) :: rest)) s out s' out' g :=
      vrun_merge (Or.inl rfl) hS2 (by simpa [procs] using h)
    have hsafe' : op = 0 ∨ c ≠ [] ∨ NotBoundary s ((c1 ++ c2) ++ cs.flatten) := by
      simpa [List.flatten_cons, List.append_assoc] using hsafe
    have := ih (c1 ++ c2) hS' hsafe' h'
    simpa [List.flatten_cons, List.append_assoc] using this

theorem vrun_chunking {o : Oracle} {op : Nat} {c c' : Bytes} {cs cs' : List Bytes} {s s1 s2 : St} {out out1 out2 : Bytes} {g1 g2 : List Req}
    (hsafe : op = 0 ∨ c ≠ [] ∨ NotBoundary s cs.flatten) (hsafe' : op = 0 ∨ c' ≠ [] ∨ NotBoundary s cs'.flatten)
    (hdata : cs.flatten ++ c = cs'.flatten ++ c')
    (hS : VStart s (cs.flatten ++ c))
    (h1 : VRun o (procs cs ++ [(op, c)]) s out s1 out1 g1) (h2 : VRun o (procs cs' ++ [(op, c')]) s out s2 out2 g2) :
    s1 = s2 ∧ out1 = out2 ∧ g1 = g2 := by
  have key : ∀ (ds : List Bytes) (d : Bytes), (op = 0 ∨ d ≠ [] ∨ NotBoundary s ds.flatten) → VStart s (ds.flatten ++ d) → ∀ {t : St} {ot : Bytes} {g : List Req},
      VRun o (procs ds ++ [(op, d)]) s out t ot g → VRun o [(op, ds.flatten ++ d)] s out t ot g := by
    intro ds d hs hSd t ot g h
    cases ds with
    | nil => simpa [procs] using h
    | cons d1 ds =>
      have := vrun_merge_all (o := o) (rest := []) ds d1 (by simpa [List.flatten_cons, List.append_assoc] using hSd)
        (by simpa [List.flatten_cons] using hs) (by simpa [procs] using h)
      simpa [List.flatten_cons, List.append_assoc] using this
  have r1 := key cs c hsafe hS h1
  have r2 := key cs' c' hsafe' (hdata ▸ hS) h2
  rw [hdata] at r1
  exact vrun_det _ r1 r2

theorem vstep_idle {o : Oracle} {s : St} {out : Bytes} (hS : VStart s []) (hb : remainingInputBlockSize s ≠ 0) :
    vstep o 0 ⟨s, out, [], 0⟩ = none :=
  vstep_rest (a := ⟨s, out, [], 0⟩) hS.good.init hS.good.nf hS.proc rfl hb

theorem vrun_insert_empty {o : Oracle} {rest : List (Nat × Bytes)} {s s' : St} {out out' : Bytes} {g : List Req}
    (hS : VStart s []) (hb : remainingInputBlockSize s ≠ 0) (h : VRun o rest s out s' out' g) :
    VRun o ((0, []) :: rest) s out s' out' g := by
  have := VRun.cons (o := o) (e := ⟨s, out, [], 0⟩) (d := false) (l1 := []) ⟨0, .nil _, rfl⟩ (Or.inr (vstep_idle hS hb)) rfl (fun _ => rfl) h
  simpa using this

theorem vrun_chunking_empty_tail {o : Oracle} {op : Nat} {cs cs' : List Bytes} {s s1 s2 : St} {out out1 out2 : Bytes} {g1 g2 : List Req}
    (hdata : cs.flatten = cs'.flatten) (hS : VStart s cs.flatten) (hb : remainingInputBlockSize s ≠ 0)
    (h1 : VRun o (procs cs ++ [(op, [])]) s out s1 out1 g1) (h2 : VRun o (procs cs' ++ [(op, [])]) s out s2 out2 g2) :
    s1 = s2 ∧ out1 = out2 ∧ g1 = g2 := by
  have key : ∀ (ds : List Bytes), VStart s ds.flatten → ∀ {t : St} {ot : Bytes} {g : List Req},
      VRun o (procs ds ++ [(op, [])]) s out t ot g → VRun o [(0, ds.flatten), (op, [])] s out t ot g := by
    intro ds hSd t ot g h
    rcases List.eq_nil_or_concat ds with rfl | ⟨es, d, rfl⟩
    · simp only [procs, List.map_nil, List.nil_append, List.flatten_nil] at h ⊢
      exact vrun_insert_empty (by simpa using hSd) hb h
    · simp only [List.concat_eq_append] at h hSd ⊢
      cases es with
      | nil => simpa [procs] using h
      | cons e1 es =>
        have hfl : (e1 :: es ++ [d]).flatten = e1 ++ es.flatten ++ d := by simp [List.append_assoc]
        have := vrun_merge_all (o := o) (op := 0) (c := d) (rest := [(op, [])]) es e1
          (by rw [← hfl]; exact hSd) (Or.inl rfl) (by simpa [procs] using h)
        rw [hfl]; exact this
  have r1 := key cs hS h1
  have r2 := key cs' (hdata ▸ hS) h2
  rw [hdata] at r1
  exact vrun_det _ r1 r2

/-- `C05.Driven` with all of each request's input consumed and no PROCESS request completing a flush -/
inductive DrivenC (o : Oracle) : List (Nat × Bytes) → St → Bytes → St → Bytes → Prop
  | nil (s : St) (del : Bytes) : DrivenC o [] s del s del
  | cons {op fuel : Nat} {chunk : Bytes} {sched : List SchedStep} {rest : List (Nat × Bytes)}
      {s s1 s' : St} {del del1 del' : Bytes} {d1 : Bool} :
      op ≤ 2 → Bnd op s chunk →
      driveReq o fuel op sched s chunk del false = some (s1, [], del1, d1) →
      (d1 = true ∨ ustep o op (absR s1 [] del1) = none) → (op = 0 → d1 = false) →
      DrivenC o rest s1 del1 s' del' → DrivenC o ((op, chunk) :: rest) s del s' del'

theorem rpath_skip_init {o : Oracle} {op : Nat} {a b : Abs} {d : Bool} (hni : a.s.isInitialized = false)
    (hst : a.s.streamState = .processing) (h : RPath o op a b d) (hf : d = true ∨ ustep o op b = none) :
    RPath o op { a with s := core (ensureInitialized a.s) } b d := by
  have hu := ustep_fresh (o := o) (op := op) hni
  obtain ⟨n, q⟩ := rpath_at.mp h
  obtain ⟨k, _, q'⟩ := q.tail hu (fun hfl => by have := hfl.1; rw [hst] at this; cases this) hf
  exact rpath_at.mpr ⟨k, q'⟩

/-- **every driven request list is a run of the ring-free machine** (the encoder may be fresh: the
facts `VGood` are about the state `ensure_initialized` makes of it — sanitised quality, chosen lgblock) -/
theorem drivenC_vrun {o : Oracle} (reqs : List (Nat × Bytes)) :
    ∀ {s s' : St} {del del' : Bytes}, DrivenC o reqs s del s' del' → VGood (absR (ensureInitialized s) [] del) →
      ∃ g, VRun o reqs (er (core (ensureInitialized s))) (del ++ s.pending) (er (core (ensureInitialized s'))) (del' ++ s'.pending) g := by
  induction reqs with
  | nil => intro s s' del del' h _; cases h; exact ⟨[], .nil _ _⟩
  | cons r rest ih =>
    intro s s' del del' h hG
    cases h with
    | @cons op _ chunk _ _ _ s1 _ _ del1 _ d1 hop hB hd hf h0 hr =>
      obtain ⟨r1, _⟩ := BV.Props.C05.schedule_refines_abstract hop hB hd
      have hGc : VGood (absR (ensureInitialized s) chunk del) := vgood_absR hG rfl rfl (by rw [ensure_inputPos]; exact hB.wrap)
      have r1' : RPath o op (absR (ensureInitialized s) chunk del) (absR s1 [] del1) d1 := by
        by_cases hi : s.isInitialized = true
        · rw [ensureInitialized_id hi]; exact r1
        · have hfr : IsFresh s := hB.inv.resolve_right (fun h => hi h.init)
          have hni : (absR s chunk del).s.isInitialized = false := (Bool.not_eq_true _).mp hi
          have hst : (absR s chunk del).s.streamState = .processing := by
            obtain ⟨p, rfl⟩ := hfr; rfl
          have := rpath_skip_init hni hst r1 hf
          have e : ({ absR s chunk del with s := core (ensureInitialized (absR s chunk del).s) } : Abs) = absR (ensureInitialized s) chunk del := by
            simp only [absR, core_ensure, ensure_pending]
          rw [e] at this
          exact this
      obtain ⟨v1, g1⟩ := rpath_er r1' hGc
      have fin : d1 = true ∨ vstep o op (erA (absR s1 [] del1)) = none := hf.imp_right (final_er g1 rfl)
      have hi1 : s1.isInitialized = true := g1.init
      obtain ⟨g2, hrec⟩ := ih hr (by rw [ensureInitialized_id hi1]; exact g1)
      rw [ensureInitialized_id hi1] at hrec
      have hp : (ensureInitialized s).pending = s.pending := ensure_pending s
      have v1' : VEnd o op ⟨er (core (ensureInitialized s)), del ++ s.pending, chunk, chunk.length⟩ (erA (absR s1 [] del1)) d1 := by
        rw [erA_absR, hp] at v1; exact v1
      obtain ⟨l1, v1L⟩ := vend_toL v1'
      exact ⟨l1 ++ g2, .cons (e := erA (absR s1 [] del1)) v1L fin rfl h0 hrec⟩

theorem core_ensure_congr {s t : St} (h : core t = core s) : core (ensureInitialized t) = core (ensureInitialized s) := by
  rw [← core_ensure t, ← core_ensure s, h]

theorem er_core_ensure_of_core {s t : St} (h : core t = core s) :
    er (core (ensureInitialized t)) = er (core (ensureInitialized s)) := by
  rw [core_ensure_congr h]

theorem vgood_transfer {s t : St} {D del delt : Bytes}
    (hcore : er (core (ensureInitialized t)) = er (core (ensureInitialized s)))
    (hG : VGood (absR (ensureInitialized s) D del)) :
    VGood (absR (ensureInitialized s) [] del) ∧ VGood (absR (ensureInitialized t) [] delt) := by
  have hw : (ensureInitialized s).inputPos + D.length < two64 := hG.nowrap
  have hip : (ensureInitialized t).inputPos = (ensureInitialized s).inputPos := by
    have := congrArg St.inputPos hcore; exact this
  refine ⟨vgood_absR hG rfl rfl (Nat.lt_of_le_of_lt (Nat.le_add_right _ _) hw), vgood_absR hG ?_ ?_ ?_⟩
  · have := congrArg St.params hcore; exact this
  · have := congrArg St.isInitialized hcore; exact this
  · rw [hip]; exact Nat.lt_of_le_of_lt (Nat.le_add_right _ _) hw

theorem ensure_state (s : St) : (ensureInitialized s).streamState = s.streamState := by
  unfold ensureInitialized; split <;> rfl

theorem drivenC_pair {o : Oracle} {reqs reqs' : List (Nat × Bytes)} {D : Bytes} {s t s' t' : St} {del delt del' delt' : Bytes}
    (hI : IsFresh s ∨ Inv s) (hG : VGood (absR (ensureInitialized s) D del)) (hproc : s.streamState = .processing)
    (hcore : er (core (ensureInitialized t)) = er (core (ensureInitialized s))) (hout : delt ++ t.pending = del ++ s.pending)
    (h1 : DrivenC o reqs s del s' del') (h2 : DrivenC o reqs' t delt t' delt') :
    VStart (er (core (ensureInitialized s))) D
    ∧ ∃ g1 g2, VRun o reqs (er (core (ensureInitialized s))) (del ++ s.pending) (er (core (ensureInitialized s'))) (del' ++ s'.pending) g1
        ∧ VRun o reqs' (er (core (ensureInitialized s))) (del ++ s.pending) (er (core (ensureInitialized t'))) (delt' ++ t'.pending) g2 := by
  obtain ⟨hG0, hGt⟩ := vgood_transfer (delt := delt) hcore hG
  obtain ⟨g1, v1⟩ := drivenC_vrun _ h1 hG0
  obtain ⟨g2, v2⟩ := drivenC_vrun _ h2 hGt
  rw [hcore, hout] at v2
  exact ⟨VStart.of_good (vgood_erA.mpr hG) ((ensure_state s).trans hproc) (vpos_of_inv (inv_ensure hI)), g1, g2, v1, v2⟩

/-- **chunking_irrelevant** (model, any output schedules): two ways of cutting the same data into
PROCESS chunks in front of the same kind of final request — PROCESS, FLUSH or FINISH, its own chunk
empty in neither history (or the request a PROCESS) —, every request driven to completion under its
own output-capacity / `take_output` schedule, from starts in PROCESSING that are equal UP TO THE RING
BUFFER (a fresh encoder, or an initialised one; main loop, not catable, size hint set, no 64-bit wrap —
stated of the state `ensure_initialized` makes of the start; `er_core_ensure_of_core`: abstractly equal
starts qualify): equal core states up to the ring buffer — positions, carry, stream state, the number
of payload-encoder invocations — and equal bytes produced; and the two histories' runs of the ring-free
machine (third conjunct) issue THE SAME LIST `g` of payload-encoder requests.  The first two conjuncts have the form of the
hypothesis, so the theorem chains over FLUSH-separated segments: histories with the same FLUSH points
whose segments are cut differently agree segment by segment.
(`ensureInitialized` in the conclusion is the identity: the end states are initialised.) -/
theorem chunking_irrelevant {o : Oracle} {op : Nat} {c c' : Bytes} {cs cs' : List Bytes}
    {s t s' t' : St} {del delt del' delt' : Bytes}
    (hsafe : op = 0 ∨ c ≠ [] ∨ NotBoundary (ensureInitialized s) cs.flatten)
    (hsafe' : op = 0 ∨ c' ≠ [] ∨ NotBoundary (ensureInitialized s) cs'.flatten)
    (hdata : cs.flatten ++ c = cs'.flatten ++ c') (hI : IsFresh s ∨ Inv s)
    (hG : VGood (absR (ensureInitialized s) (cs.flatten ++ c) del)) (hproc : s.streamState = .processing)
    (hcore : er (core (ensureInitialized t)) = er (core (ensureInitialized s)))
    (hout : delt ++ t.pending = del ++ s.pending)
    (h1 : DrivenC o (procs cs ++ [(op, c)]) s del s' del')
    (h2 : DrivenC o (procs cs' ++ [(op, c')]) t delt t' delt') :
    er (core (ensureInitialized s')) = er (core (ensureInitialized t')) ∧ del' ++ s'.pending = delt' ++ t'.pending
    ∧ ∃ g, VRun o (procs cs ++ [(op, c)]) (er (core (ensureInitialized s))) (del ++ s.pending)
              (er (core (ensureInitialized s'))) (del' ++ s'.pending) g
         ∧ VRun o (procs cs' ++ [(op, c')]) (er (core (ensureInitialized s))) (del ++ s.pending)
              (er (core (ensureInitialized t'))) (delt' ++ t'.pending) g := by
  obtain ⟨hS, g1, g2, v1, v2⟩ := drivenC_pair hI hG hproc hcore hout h1 h2
  obtain ⟨q1, q2, q3⟩ := vrun_chunking (s := er (core (ensureInitialized s))) hsafe hsafe' hdata hS v1 v2
  subst q3
  exact ⟨q1, q2, g1, v1, v2⟩

/-- **chunking_irrelevant_empty_tail** (model, any output schedules): the shape of every adapter (CompressorWriter /
CompressorReader / BrotliCompressCustomIo only ever issue FLUSH / FINISH with `available_in == 0`) — any two ways
of cutting the same data into PROCESS chunks, both followed by the same EMPTY FLUSH / FINISH request,
from abstractly equal starts at a request boundary (fresh or initialised): equal core states up to the
ring buffer, equal bytes -/
theorem chunking_irrelevant_empty_tail {o : Oracle} {op : Nat} {cs cs' : List Bytes}
    {s t s' t' : St} {del delt del' delt' : Bytes}
    (hdata : cs.flatten = cs'.flatten) (hI : IsFresh s ∨ Inv s)
    (hG : VGood (absR (ensureInitialized s) cs.flatten del)) (hproc : s.streamState = .processing)
    (hb : remainingInputBlockSize (ensureInitialized s) ≠ 0)
    (hcore : er (core (ensureInitialized t)) = er (core (ensureInitialized s)))
    (hout : delt ++ t.pending = del ++ s.pending)
    (h1 : DrivenC o (procs cs ++ [(op, [])]) s del s' del')
    (h2 : DrivenC o (procs cs' ++ [(op, [])]) t delt t' delt') :
    er (core (ensureInitialized s')) = er (core (ensureInitialized t')) ∧ del' ++ s'.pending = delt' ++ t'.pending
    ∧ ∃ g, VRun o (procs cs ++ [(op, [])]) (er (core (ensureInitialized s))) (del ++ s.pending)
              (er (core (ensureInitialized s'))) (del' ++ s'.pending) g
         ∧ VRun o (procs cs' ++ [(op, [])]) (er (core (ensureInitialized s))) (del ++ s.pending)
              (er (core (ensureInitialized t'))) (delt' ++ t'.pending) g := by
  obtain ⟨hS, g1, g2, v1, v2⟩ := drivenC_pair hI hG hproc hcore hout h1 h2
  obtain ⟨q1, q2, q3⟩ := vrun_chunking_empty_tail hdata hS hb v1 v2
  subst q3
  exact ⟨q1, q2, g1, v1, v2⟩

/-- one segment of a history: PROCESS chunks, then one request `(op, c)` -/
structure Seg where
  cs : List Bytes
  op : Nat
  c : Bytes

/-- two histories with the same FLUSH / FINISH points, cut differently between them: segment `i` of
the first is `procs cs ++ [(op, c)]`, of the second `procs cs' ++ [(op, c')]` with the same data and the
same `op`; each segment is driven (any output schedules) from where the previous one ended, and at the
start of each segment of the first history the side conditions of `chunking_irrelevant` hold -/
inductive SegRuns (o : Oracle) : List (Seg × Seg) → St → Bytes → St → Bytes → St → Bytes → St → Bytes → Prop
  | nil (s t : St) (del delt : Bytes) : SegRuns o [] s del s del t delt t delt
  | cons {g g' : Seg} {rest : List (Seg × Seg)} {s m s' t m' t' : St} {del dm del' delt dm' delt' : Bytes} :
      g'.op = g.op → g.cs.flatten ++ g.c = g'.cs.flatten ++ g'.c →
      (g.op = 0 ∨ g.c ≠ [] ∨ NotBoundary (ensureInitialized s) g.cs.flatten) →
      (g.op = 0 ∨ g'.c ≠ [] ∨ NotBoundary (ensureInitialized s) g'.cs.flatten) →
      (IsFresh s ∨ Inv s) → VGood (absR (ensureInitialized s) (g.cs.flatten ++ g.c) del) → s.streamState = .processing →
      DrivenC o (procs g.cs ++ [(g.op, g.c)]) s del m dm →
      DrivenC o (procs g'.cs ++ [(g.op, g'.c)]) t delt m' dm' →
      SegRuns o rest m dm s' del' m' dm' t' delt' → SegRuns o ((g, g') :: rest) s del s' del' t delt t' delt'

/-- **chunking_irrelevant_segments**: histories with the same FLUSH / FINISH points whose segments are
cut differently (under the proviso, segment by segment) produce the same bytes and end in the same
state up to the ring buffer -/
theorem chunking_irrelevant_segments {o : Oracle} (gs : List (Seg × Seg)) :
    ∀ {s s' t t' : St} {del del' delt delt' : Bytes}, SegRuns o gs s del s' del' t delt t' delt' →
      er (core (ensureInitialized t)) = er (core (ensureInitialized s)) → delt ++ t.pending = del ++ s.pending →
      er (core (ensureInitialized s')) = er (core (ensureInitialized t')) ∧ del' ++ s'.pending = delt' ++ t'.pending := by
  induction gs with
  | nil =>
    intro s s' t t' del del' delt delt' h hc ho
    cases h
    exact ⟨hc.symm, ho.symm⟩
  | cons g gs ih =>
    intro s s' t t' del del' delt delt' h hc ho
    cases h with
    | cons hop hdata hsafe hsafe' hI hG hproc h1 h2 hr =>
      obtain ⟨e1, e2, _⟩ := chunking_irrelevant hsafe hsafe' hdata hI hG hproc hc ho h1 h2
      exact ih hr e1.symm e2.symm

def cxStart : St := (setParameter (setParameter St.new 1 2).1 5 16384).1
def cxOracle : Oracle := fun _ r =>
  { result := true, emit := true, bits := if r.isLast then [true, true] else [false, true, false] }
def reqsOf (r : Out (St × Io × Bool)) : List Req := match r with | .ok (_, io, _) => io.reqs | _ => []
def stOf (r : Out (St × Io × Bool)) : St := match r with | .ok (s, _, _) => s | _ => {}
/-- exactly one input block (`2^14` bytes at quality 2) -/
def cxData : Bytes := List.replicate 16384 7
/-- history A: PROCESS all 16384 bytes, then FINISH with nothing -/
def cxA1 := compressStream cxOracle 40 cxStart 0 cxData 1000
def cxA2 := compressStream cxOracle 40 (stOf cxA1) 2 [] 1000
/-- history B: FINISH with the 16384 bytes -/
def cxB := compressStream cxOracle 40 cxStart 2 cxData 1000

/-- both histories evaluated in one run of the kernel: they begin with the same copy of the block into
the ring buffer, which is most of the work -/
theorem chunking_counterexample_runs : (reqsOf cxA1 ++ reqsOf cxA2, reqsOf cxB)
    = ([{ site := 0, lo := 0, hi := 16384, lf := 0, isLast := false, forceFlush := false },
        { site := 0, lo := 16384, hi := 16384, lf := 16384, isLast := true, forceFlush := false }],
       [{ site := 0, lo := 0, hi := 16384, lf := 0, isLast := true, forceFlush := false }]) := by decide +kernel

/-- **chunking_counterexample** (1): history A issues the full block WITHOUT `is_last`, then an empty
`is_last` request -/
theorem chunking_counterexample_a : reqsOf cxA1 ++ reqsOf cxA2
    = [{ site := 0, lo := 0, hi := 16384, lf := 0, isLast := false, forceFlush := false },
       { site := 0, lo := 16384, hi := 16384, lf := 16384, isLast := true, forceFlush := false }] :=
  (Prod.mk.inj chunking_counterexample_runs).1

/-- **chunking_counterexample** (2): history B issues the same block WITH `is_last` — the request
sequences of two chunkings of the same input differ, so (the payload encoder answering differently,
as the real one does when the first request closes its meta-block) do the bytes -/
theorem chunking_counterexample_b : reqsOf cxB
    = [{ site := 0, lo := 0, hi := 16384, lf := 0, isLast := true, forceFlush := false }] :=
  (Prod.mk.inj chunking_counterexample_runs).2

/-- the same on the ring-free machine (`vlog`) -/
theorem chunking_counterexample_vlog :
    (vlog cxOracle 0 2 ⟨er (core (ensureInitialized cxStart)), [], cxData, 16384⟩,
     vlog cxOracle 2 2 ⟨er (core (ensureInitialized cxStart)), [], cxData, 16384⟩)
    = ([{ site := 0, lo := 0, hi := 16384, lf := 0, isLast := false, forceFlush := false }],
       [{ site := 0, lo := 0, hi := 16384, lf := 0, isLast := true, forceFlush := false }]) := by decide +kernel

set_option maxRecDepth 100000 in
example : vlog cxOracle 0 2 ⟨er (core (ensureInitialized cxStart)), [], cxData, 16384⟩
    = [{ site := 0, lo := 0, hi := 16384, lf := 0, isLast := false, forceFlush := false }] :=
  (Prod.mk.inj chunking_counterexample_vlog).1
set_option maxRecDepth 100000 in
example : vlog cxOracle 2 2 ⟨er (core (ensureInitialized cxStart)), [], cxData, 16384⟩
    = [{ site := 0, lo := 0, hi := 16384, lf := 0, isLast := true, forceFlush := false }] :=
  (Prod.mk.inj chunking_counterexample_vlog).2

/-- an initialised quality-5 encoder with size hint 1000 meets `VGood` and is in PROCESSING -/
def nvStart : St := ensureInitialized (setParameter (setParameter St.new 1 5).1 5 1000).1
example : VGood (absR nvStart [1, 2, 3, 4] []) :=
  ⟨by decide, by decide, by decide, by decide, by decide, by decide, rfl⟩
example : nvStart.streamState = .processing := by decide
/-- a FRESH quality-5 encoder with size hint 1000: the hypotheses of `chunking_irrelevant` hold of it -/
def nvFresh : St := (setParameter (setParameter St.new 1 5).1 5 1000).1
example : VGood (absR (ensureInitialized nvFresh) [1, 2, 3, 4] []) :=
  ⟨by decide, by decide, by decide, by decide, by decide, by decide, rfl⟩
example : nvFresh.streamState = .processing ∧ remainingInputBlockSize (ensureInitialized nvFresh) ≠ 0 := by decide
example : NotBoundary (ensureInitialized nvFresh) [1, 2] := by unfold NotBoundary; decide
example : Bnd 0 nvFresh [1, 2] := bnd_fresh (setParameter_fresh (setParameter_fresh ⟨{}, rfl⟩ 1 5) 5 1000) (by decide)
/-- the two histories PROCESS [1, 2], FINISH [3, 4] and FINISH [1, 2, 3, 4] run to completion in the model -/
def nvCheck (r : Option (St × Bytes × Bytes × Bool)) : Bool :=
  match r with
  | some (_, rem, _, _) => rem.isEmpty
  | none => false
def nvMid : St := match driveReq BV.Props.C05.exOracle 60 0 [.call 100] nvStart [1, 2] [] false with
  | some (s, _, _, _) => s
  | none => nvStart
example : nvCheck (driveReq BV.Props.C05.exOracle 60 0 [.call 100] nvStart [1, 2] [] false) = true := by decide +kernel
example : nvCheck (driveReq BV.Props.C05.exOracle 60 2 [.call 1, .take 0, .call 100] nvMid [3, 4] [] false) = true := by decide +kernel
example : nvCheck (driveReq BV.Props.C05.exOracle 60 2 [.call 100] nvStart [1, 2, 3, 4] [] false) = true := by decide +kernel

end BV.Props.C05Chunk
