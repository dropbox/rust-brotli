/-
C16 — Concatenator is total on arbitrary bytes.

"Fed any byte strings as member files under any buffer slicing, the
concatenator's stream and finish calls return a result code without panicking,
without looping forever under the more-input/more-output protocol, and without
advancing the input or output cursors beyond the buffers they were given."

Model: BV/Model/Concat.lean — a line-by-line port of `src/concat/mod.rs` in which
every Rust panic site is an explicit `Outcome.panic` branch.

`Inv` (BV.Concat.Inv) is the state invariant; `Started s` says that the caller
announced a member (`new_brotli_file`) before streaming into a fresh `new()`
instance — the "member files" protocol of the property.  Without it the
implementation DOES panic: see `stream_before_new_brotli_file_panics`.
-/
import BV.Lemmas.ConcatStream
import BV.Lemmas.ConcatSerial

namespace BV.Props.C16
open BV.Concat BV.Concat.Outcome

theorem inv_new : Inv State.new ∧ ¬ Started State.new ∧ Started (newBrotliFile State.new) := by
  refine ⟨Inv.new, ?_, started_newBrotliFile _⟩
  intro h
  have := h rfl
  simp [State.new] at this

/-- `new_with_window_size w` succeeds for every `w ≥ 10`; the result satisfies the invariant and needs no
`new_brotli_file` (`Started`); `window_size` carries `LARGE_WINDOW_FLAG` (bit 7) exactly when `w > 24` -/
theorem inv_new_with_window_size (w : Nat) (h : 10 ≤ w) (h8 : w < 256) :
    ∃ s, State.newWithWindowSize w = ok s ∧ Inv s ∧ Started s ∧
      s.window_size = (w ||| (if w > 24 then LARGE_WINDOW_FLAG else 0)) ∧ s.window_size ≠ 0 := by
  have hws : (w ||| (if w > 24 then LARGE_WINDOW_FLAG else 0)) ≠ 0 := by
    have := @Nat.left_le_or w (if w > 24 then LARGE_WINDOW_FLAG else 0)
    omega
  -- every branch returns a state of this shape, with a tail of one or two bytes
  have mk : ∀ (lb : Nat × Nat) (len : Nat), len ≤ 2 → ∀ s : State,
      s = { last_bytes := lb, last_bytes_len := len, last_byte_bit_offset := 0,
            last_byte_sanitized := false, any_bytes_emitted := false, new_stream_pending := none,
            window_size := w ||| (if w > 24 then LARGE_WINDOW_FLAG else 0) } →
      ∃ s', ok s = ok s' ∧ Inv s' ∧ Started s' ∧
        s'.window_size = (w ||| (if w > 24 then LARGE_WINDOW_FLAG else 0)) ∧ s'.window_size ≠ 0 := by
    rintro lb len hl s rfl
    exact ⟨_, rfl, { len_le := hl, off_lt := (by show 0 < 8; omega), ws0 := fun e => absurd e hws,
                     san := fun e => (by simp at e), tail := fun e => (by simp at e),
                     pend := fun d hd => (by simp at hd) },
      fun e => absurd e hws, rfl, hws⟩
  unfold State.newWithWindowSize
  dsimp only
  by_cases c1 : w > 24
  · rw [if_pos c1]; exact mk _ 2 (by omega) _ rfl
  rw [if_neg c1]
  by_cases c2 : w = 16
  · rw [if_pos c2]; exact mk _ 1 (by omega) _ rfl
  rw [if_neg c2]
  by_cases c3 : w > 17
  · rw [if_pos c3, if_neg (by omega), if_neg (by omega)]
    exact mk _ 1 (by omega) _ rfl
  rw [if_neg c3]
  have : w = 15 ∨ w = 14 ∨ w = 13 ∨ w = 12 ∨ w = 11 ∨ w = 10 ∨ w = 17 := by omega
  rcases this with rfl | rfl | rfl | rfl | rfl | rfl | rfl <;> exact mk _ 2 (by omega) _ rfl

/-- a window size below 10 hits `assert_eq!(log_window_size, 17)` -/
theorem new_with_window_size_rejects (w : Nat) (h : w < 10) :
    State.newWithWindowSize w = Outcome.panic .nwwsAssert17 := by
  have : w = 0 ∨ w = 1 ∨ w = 2 ∨ w = 3 ∨ w = 4 ∨ w = 5 ∨ w = 6 ∨ w = 7 ∨ w = 8 ∨ w = 9 := by omega
  rcases this with rfl | rfl | rfl | rfl | rfl | rfl | rfl | rfl | rfl | rfl <;> rfl

theorem inv_new_brotli_file (s : State) (h : Inv s) : Inv (newBrotliFile s) ∧ Started (newBrotliFile s) :=
  ⟨h.newBrotliFile, started_newBrotliFile s⟩

theorem inv_stream (s : State) (inp : List Nat) (cap : Nat) (hI : Inv s) (hS : Started s)
    (r : Ret) (hr : stream s inp cap = ok r) : Inv r.st ∧ Started r.st := by
  have := stream_sat s inp cap hI hS
  rw [hr] at this
  exact ⟨this.inv, this.started⟩

theorem inv_finish (s : State) (cap : Nat) (hI : Inv s) (r : Ret) (hr : finish s cap = ok r) :
    Inv r.st ∧ (Started s → Started r.st) := by
  have := finish_sat s cap hI
  rw [hr] at this
  refine ⟨this.inv, fun hS e => ?_⟩
  rw [this.pending]; rw [this.ws] at e; exact hS e

theorem no_panic_stream (s : State) (inp : List Nat) (cap : Nat) (hI : Inv s) (hS : Started s) :
    ∃ r, stream s inp cap = ok r :=
  let ⟨r, hr, _⟩ := sat_iff.mp (stream_sat s inp cap hI hS); ⟨r, hr⟩

theorem no_panic_finish (s : State) (cap : Nat) (hI : Inv s) : ∃ r, finish s cap = ok r :=
  let ⟨r, hr, _⟩ := sat_iff.mp (finish_sat s cap hI); ⟨r, hr⟩

theorem no_panic (s : State) (hI : Inv s) :
    (Started s → ∀ inp cap site, stream s inp cap ≠ Outcome.panic site) ∧
    (∀ cap site, finish s cap ≠ Outcome.panic site) :=
  ⟨fun hS inp cap site => not_panic_of_sat (stream_sat s inp cap hI hS) site,
   fun cap site => not_panic_of_sat (finish_sat s cap hI) site⟩

/-- The `Started` hypothesis cannot be dropped: streaming into a fresh `new()`
instance BEFORE `new_brotli_file`, then announcing a member and streaming its
header, trips `assert_eq!(self.last_byte_bit_offset, 0)` in
`shift_and_check_new_stream_header`.  Call sequence: `new(); stream([ff 07]);
new_brotli_file(); stream([01 02 03 04 05])` (driver line
`concat 0 S:ff07:10 N S:0102030405:10` → `1:2:- - panic`; the real code panics too). -/
theorem stream_before_new_brotli_file_panics :
    (stream State.new [0xff, 0x07] 10).bind (fun r => stream (newBrotliFile r.st) [1, 2, 3, 4, 5] 10)
      = Outcome.panic .shiftAssertOffset0 := by
  decide

theorem cursors_in_bounds (s : State) (hI : Inv s) :
    (Started s → ∀ inp cap r, stream s inp cap = ok r →
      r.consumed ≤ inp.length ∧ r.produced.length ≤ cap) ∧
    (∀ cap r, finish s cap = ok r → r.consumed = 0 ∧ r.produced.length ≤ cap) := by
  refine ⟨fun hS inp cap r hr => ?_, fun cap r hr => ?_⟩
  · have := stream_sat s inp cap hI hS
    rw [hr] at this
    exact ⟨this.consumed_le, this.produced_le⟩
  · have := finish_sat s cap hI
    rw [hr] at this
    exact ⟨this.consumed, this.bound⟩

/-- `parse_window_size` needs 2 bytes (it reads `bs[1]` only when `bs[0] = 0x11`);
`detect_varlen_offset` needs 2..8 bytes (its `u64` accumulator shift overflows from the
9th byte on).  `stream` passes 4 or 5 bytes. -/
theorem header_parsers_total (bs : List Nat) :
    (2 ≤ bs.length → ∃ r, parseWindowSize bs = ok r) ∧
    (2 ≤ bs.length → bs.length ≤ 8 → ∃ r, detectVarlenOffset bs = ok r) ∧
    (∀ b, b < 256 → b ≠ 0x11 → ∃ r, parseWindowSize [b] = ok r) := by
  refine ⟨fun h => ?_, fun h2 h8 => ?_, fun b hb hne => ?_⟩
  · obtain ⟨r, hr, _⟩ := sat_iff.mp (parseWindowSize_sat bs h); exact ⟨r, hr⟩
  · obtain ⟨r, hr, _⟩ := sat_iff.mp (detectVarlenOffset_sat bs h2 h8); exact ⟨r, hr⟩
  · obtain ⟨r, hr, _⟩ := sat_iff.mp (parseWindowSize_sat_one [b] b rfl hb hne); exact ⟨r, hr⟩

theorem parse_window_size_range (bs : List Nat) (h : 2 ≤ bs.length) (w o : Nat)
    (hr : parseWindowSize bs = ok (some (w, o))) :
    10 ≤ w ∧ w ≤ 30 ∧ (o = 1 ∨ o = 4 ∨ o = 7 ∨ o = 14) := by
  have := parseWindowSize_sat bs h
  rw [hr] at this
  exact this w o rfl

/-- the bounds of `header_parsers_total` are sharp -/
example : parseWindowSize [] = Outcome.panic .pwsIndex0 := by decide
example : parseWindowSize [0x11] = Outcome.panic .pwsIndex1 := by decide
example : detectVarlenOffset [0, 0, 0, 0, 0, 0, 0, 0, 0] = Outcome.panic .dvoShl := by decide

/-- Every `stream` call ends for a reason the caller can act on: it answers
`NeedsMoreInput` having consumed ALL the input it was offered, or
`NeedsMoreOutput` having filled ALL the output room it was offered, or a terminal
error code; it never answers `Success`.  Hence a call that was offered at least one input byte and
at least one byte of room either advances a cursor or ends the run, and a
caller that supplies a non-empty resource after each request cannot livelock. -/
theorem protocol_progress (s : State) (inp : List Nat) (cap : Nat) (hI : Inv s) (hS : Started s)
    (r : Ret) (hr : stream s inp cap = ok r) :
    ((r.code = NEEDS_MORE_INPUT ∧ r.consumed = inp.length) ∨
     (r.code = NEEDS_MORE_OUTPUT ∧ r.produced.length = cap) ∨
     isTerminal r.code = true) ∧
    (inp ≠ [] → cap ≠ 0 → 1 ≤ r.consumed ∨ 1 ≤ r.produced.length ∨ isTerminal r.code = true) := by
  have h := stream_sat s inp cap hI hS
  rw [hr] at h
  have hp := h.ends
  refine ⟨hp, fun hi hc => ?_⟩
  have : inp.length ≠ 0 := fun e => hi (List.eq_nil_of_length_eq_zero e)
  rcases hp with p | p | p
  · exact Or.inl (by omega)
  · exact Or.inr (Or.inl (by omega))
  · exact Or.inr (Or.inr p)

/-- `finish` answers `Success`, or `NeedsMoreOutput` having filled all the room it
was given; it emits at most 2 bytes in total over all calls (the tail shrinks by
what was emitted), so it succeeds after at most two retries with room ≥ 1. -/
theorem finish_progress (s : State) (cap : Nat) (hI : Inv s) (r : Ret) (hr : finish s cap = ok r) :
    (r.code = SUCCESS ∨ (r.code = NEEDS_MORE_OUTPUT ∧ r.produced.length = cap)) ∧
    r.st.last_bytes_len + r.produced.length ≤ 2 ∧
    (2 ≤ cap → r.code = SUCCESS) := by
  have h := finish_sat s cap hI
  rw [hr] at h
  refine ⟨h.code, h.total, fun hc => ?_⟩
  rcases h.code with c | c
  · exact c
  · have h1 := h.total
    have h2 := h.nmo c.1
    omega

def SafeRun : State → List Op → Prop
  | s, [] => Inv s
  | s, op :: rest => Inv s ∧ ∃ r, applyOp s op = ok r ∧ r.consumed ≤ op.inLen ∧ r.produced.length ≤ op.room ∧
      SafeRun r.st rest

theorem safeRun_of_inv : ∀ (ops : List Op) (s : State), Inv s → (Started s ∨ announcedFirst ops = true) →
    SafeRun s ops := by
  intro ops
  induction ops with
  | nil => intro s hI _; exact hI
  | cons op rest ih =>
    intro s hI hS
    refine ⟨hI, ?_⟩
    cases op with
    | N =>
      obtain ⟨hI', hS'⟩ := inv_new_brotli_file s hI
      exact ⟨_, rfl, Nat.le_refl _, Nat.le_refl _, ih _ hI' (Or.inl hS')⟩
    | S inp cap =>
      have hSt : Started s := by
        rcases hS with h | h
        · exact h
        · simp [announcedFirst] at h
      obtain ⟨r, hr, hpost⟩ := sat_iff.mp (stream_sat s inp cap hI hSt)
      exact ⟨r, hr, hpost.consumed_le, hpost.produced_le, ih _ hpost.inv (Or.inl hpost.started)⟩
    | F cap =>
      obtain ⟨r, hr, hpost⟩ := sat_iff.mp (finish_sat s cap hI)
      refine ⟨r, hr, by rw [hpost.consumed]; exact Nat.zero_le _, hpost.bound, ih _ hpost.inv ?_⟩
      rcases hS with h | h
      · exact Or.inl (fun e => by rw [hpost.pending]; rw [hpost.ws] at e; exact h e)
      · exact Or.inr (by simpa [announcedFirst] using h)
    | Z =>
      refine ⟨⟨s, SUCCESS, 0, []⟩, by simp [applyOp, saveRestore_id s], Nat.le_refl _, Nat.le_refl _, ih _ hI ?_⟩
      rcases hS with h | h
      · exact Or.inl h
      · exact Or.inr (by simpa [announcedFirst] using h)

/-- For EVERY list of protocol operations — `N` (new_brotli_file),
`S inp cap` (stream on arbitrary bytes with arbitrary room), `F cap` (finish), `Z` (save to the
120-byte buffer and restore) — starting from `new()` with `new_brotli_file` before the first
`stream` (`announcedFirst`, decidable), or from `new_with_window_size w` for any valid `w` with no
condition at all: every call returns, the invariant holds in every state reached, and no call
advances a cursor beyond the buffer it was given. -/
theorem reachable_no_panic (ops : List Op) :
    (announcedFirst ops = true → SafeRun State.new ops) ∧
    (∀ w, 10 ≤ w → w ≤ 30 → ∃ s, State.newWithWindowSize w = ok s ∧ SafeRun s ops) := by
  refine ⟨fun h => safeRun_of_inv ops State.new inv_new.1 (Or.inr h), fun w h10 h30 => ?_⟩
  obtain ⟨s, hs, hI, hS, _⟩ := inv_new_with_window_size w h10 (by omega)
  exact ⟨s, hs, safeRun_of_inv ops s hI (Or.inl hS)⟩

/-- a concrete long sequence meets the protocol condition (save/restore and a `finish` before the
first member, two members in small slices with zero-room calls, a refused third member,
`finish` in one-byte steps) … -/
example : announcedFirst [.Z, .F 0, .N, .Z, .S [0x8b, 0x01] 0, .S [0x80, 0x03, 0x61] 1, .S [0x62, 0x63, 0x03] 100,
    .Z, .N, .S [0x3b] 0, .S [0x00, 0x00] 1, .Z, .S [0x00, 0x03] 1, .S [] 5, .N, .S [0xff, 0xff, 0xff, 0xff] 9,
    .F 0, .F 1, .Z, .F 1, .F 7] = true := by decide

/-- … and the condition cannot be dropped (`stream_before_new_brotli_file_panics`): -/
example : announcedFirst [.S [0xff, 0x07] 10, .N, .S [1, 2, 3, 4, 5] 10] = false := by decide

/-- non-vacuity: a state in the middle of a header copy satisfies the hypotheses -/
example : Inv { last_bytes := (5, 0), last_bytes_len := 1, last_byte_sanitized := true,
                any_bytes_emitted := true, last_byte_bit_offset := 3, window_size := 22,
                new_stream_pending := some ⟨⟨1, 2, 3, 4, 5⟩, 4, some 1⟩ } ∧
  Started { last_bytes := (5, 0), last_bytes_len := 1, last_byte_sanitized := true,
            any_bytes_emitted := true, last_byte_bit_offset := 3, window_size := 22,
            new_stream_pending := some ⟨⟨1, 2, 3, 4, 5⟩, 4, some 1⟩ } := by
  refine ⟨{ len_le := by decide, off_lt := by decide, ws0 := fun e => by simp at e,
            san := fun _ => ⟨rfl, by decide⟩, tail := fun _ _ => ⟨rfl, by decide⟩, pend := fun d hd => ?_ },
    fun e => by simp at e⟩
  simp only [Option.some.injEq] at hd
  subst hd
  exact ⟨by decide, fun w hw => by simp at hw; subst hw; exact ⟨by decide, by decide⟩⟩

end BV.Props.C16
