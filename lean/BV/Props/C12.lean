/-
C12 — Concatenator output is independent of buffer slicing and state save/restore.

"For any sequence of member streams, the bytes the concatenator emits and the
result it finally reports are the same however the member bytes are sliced into
input buffers and however small the output buffers are, provided the caller
follows the more-input/more-output protocol. Serialising the state to its
fixed-size buffer and restoring it between any two calls changes nothing."

Model: BV/Model/Concat.lean.
-/
import BV.Lemmas.ConcatSerial
import BV.Lemmas.ConcatStall
import BV.Lemmas.ConcatRun

namespace BV.Props.C12
open BV.Concat BV.Concat.Outcome

/-!
The notions of the statements below are `BV.Concat`'s.  A state with `Inv` and `Started` is in one of two phases.
`HeaderPhase s`: a member is announced and nothing of its header is accepted yet (`new_stream_pending = Some` with
`num_bytes_written = None`: strip of the previous end marker, look-ahead).  `Settled s`: the current member's header has
been accepted (`new_stream_pending` is `None`, or `Some` with `num_bytes_written = Some _`): header copy-out, tail fill,
pass-through. -/

/-- the save/restore clause: `deserialize_from_buffer (serialize_to_buffer s) = s` with NO range hypothesis on the
state (all seven fields, `Some`/`None` of `new_stream_pending` and of `num_bytes_written`, and the five look-ahead bytes
are covered), into any buffer of at least 21 bytes, whatever it contained before -/
theorem serialize_roundtrip (s : State) (buf : List Nat) (h : 21 ≤ buf.length) :
    ∃ buf', serializeToBuffer s buf = ok (some buf') ∧ buf'.length = buf.length ∧
      deserializeFromBuffer buf' = ok (some s) :=
  deserialize_serialize s buf h

/-- shorter buffers are refused with `Err(())` by both functions — no panic, no partial write -/
theorem serialize_short_buffer (s : State) (buf : List Nat) (h : buf.length < 21) :
    serializeToBuffer s buf = ok none ∧ deserializeFromBuffer buf = ok none := by
  unfold serializeToBuffer deserializeFromBuffer
  rw [hdr5, if_pos (by omega), if_pos (by omega)]
  exact ⟨rfl, rfl⟩

/-- what the C ABI does on every call (serialise into a zeroed 120-byte buffer,
deserialise) is the identity on states: inserting it between any two calls changes nothing -/
theorem save_restore_irrelevant (s : State) : saveRestore s = ok s := saveRestore_id s

/-- the C ABI entry point = the Rust call on the restored state, with the cursors
advanced by exactly the consumed / produced amounts (clause `ffi_cursors` of the property text) -/
theorem ffi_stream_is_stream (s : State) (inp : List Nat) (availOut : Nat) (hI : Inv s) (hS : Started s) :
    ∃ cur r cur', toBroccoli s = ok cur ∧ stream s inp availOut = ok r ∧ toBroccoli r.st = ok cur' ∧
      broccoliConcatStream cur inp availOut =
        ok ⟨cur', r.code, r.consumed, r.produced.length, inp.length - r.consumed,
            availOut - r.produced.length, r.produced⟩ ∧
      r.consumed ≤ inp.length ∧ r.produced.length ≤ availOut := by
  obtain ⟨cur, hc1, hc2, _⟩ := toBroccoli_ok s
  obtain ⟨r, hr, hpost⟩ := sat_iff.mp (stream_sat s inp availOut hI hS)
  obtain ⟨cur', hc1', _, _⟩ := toBroccoli_ok r.st
  refine ⟨cur, r, cur', hc1, hr, hc1', ?_, hpost.consumed_le, hpost.produced_le⟩
  unfold broccoliConcatStream
  rw [hc2]
  simp only [bind_ok, hr]
  rw [if_neg (by have := hpost.consumed_le; omega), if_neg (by have := hpost.produced_le; omega), hc1']
  rfl

theorem no_progress_no_change (s : State) (hp : s.new_stream_pending = none) :
    (∀ inp, stream s inp 0 = ok ⟨s, NEEDS_MORE_OUTPUT, 0, []⟩) ∧
    (∀ cap, cap ≠ 0 → stream s [] cap = ok ⟨s, NEEDS_MORE_INPUT, 0, []⟩) := by
  refine ⟨fun inp => stream_none_nocap s inp hp, fun cap hc => ?_⟩
  rw [stream_none s [] cap hp]
  unfold streamTail
  rw [hp]
  by_cases h2 : s.last_bytes_len ≠ 2
  · simp [h2, hc]
  · simp [h2, streamCopy, hc]

/-- Member pending: a call that is offered neither input nor output room moves no
cursor; the only thing it may do to the state is strip the previous member's end
marker (when that needs no output byte), and that is invisible: every later call
behaves exactly as if the stalled call had not happened, and repeating the
stalled call gives the same answer and state again.  (Literal "state unchanged"
is FALSE here: `stream (new_brotli_file (new_with_window_size 22)) [] 0` sets
`last_byte_sanitized` — see the example below.) -/
theorem no_progress_no_observable_change (s : State) (r : Ret) (h : stream s [] 0 = ok r) :
    r.consumed = 0 ∧ r.produced = [] ∧ (∀ inp cap, stream r.st inp cap = stream s inp cap) ∧
    stream r.st [] 0 = ok r :=
  stall_transparent s r h

example : ∃ s r, stream s [] 0 = ok r ∧ r.st ≠ s ∧ r.code = NEEDS_MORE_INPUT := by
  refine ⟨newBrotliFile { State.new with last_bytes := (0x3b, 0), last_bytes_len := 1, window_size := 22 }, _, rfl, ?_, rfl⟩
  decide

/-- The number of header bytes taken for a new member depends only on its first
byte: 4, or 5 when `byte0 & 127 = 17` — never on how many more bytes happen to be
in the buffer; and the look-ahead contents are exactly those bytes. -/
theorem lookahead_is_exact (a b c d : Nat) :
    (127 &&& a ≠ 17 → ∀ rest, headerLoop NewStreamData.new (a :: b :: c :: d :: rest) 0
        = ok (⟨⟨a, b, c, d, 0⟩, 4, none⟩, 4)) ∧
    (127 &&& a = 17 → ∀ e rest, headerLoop NewStreamData.new (a :: b :: c :: d :: e :: rest) 0
        = ok (⟨⟨a, b, c, d, e⟩, 5, none⟩, 5)) :=
  ⟨fun h rest => headerLoop_new_4 a b c d rest h, fun h e rest => headerLoop_new_5 a b c d e rest h⟩

theorem lookahead_slicing (x y : List Nat) (nsp : NewStreamData) (off : Nat) :
    headerLoop nsp (x ++ y) off = (headerLoop nsp x off).bind (fun r => headerLoop r.1 y r.2) :=
  headerLoop_append x y nsp off

/-- with no room at all the strip of the previous member's end marker either does the same or stalls untouched:
`no_progress_no_observable_change` -/
theorem flush_room_irrelevant (s : State) (c1 c2 : Nat) (h1 : 1 ≤ c1) (h2 : 1 ≤ c2) :
    flushPreviousStream s [] c1 = flushPreviousStream s [] c2 :=
  flush_any_room s c1 c2 h1 h2

/-- One split in the header phase, when `a` does not complete the look-ahead (`hins`) and the strip of the previous
end marker emits no byte (`hf0`: first member, or fewer than 8 data bits left in the tail): the second call on `b` behaves
exactly like the unsplit call on `a ++ b`, with the input cursor shifted by `a.length`. -/
theorem header_phase_split (s s1 : State) (out1 : List Nat) (nsp0 nspA : NewStreamData) (a b : List Nat)
    (c1 cap : Nat)
    (hp : s.new_stream_pending = some nsp0) (hw : nsp0.num_bytes_written = none)
    (hr5 : nsp0.num_bytes_read ≤ 5)
    (hf0 : flushPreviousStream s [] 0 = ok (s1, out1, SUCCESS))
    (hl : headerLoop nsp0 a 0 = ok (nspA, a.length)) (hins : nspA.sufficient = false) :
    stream s a c1 = ok ⟨{ s1 with new_stream_pending := some nspA }, NEEDS_MORE_INPUT, a.length, []⟩ ∧
    stream s (a ++ b) cap =
      Outcome.map (Ret.shiftIn a.length) (stream { s1 with new_stream_pending := some nspA } b cap) := by
  obtain ⟨_, hsan, _, hall⟩ := flush_stall s s1 out1 hf0
  exact header_phase_split_gen s s1 nsp0 nspA a b c1 cap hp hw (hall [] c1) (hall [] cap) hsan hl hins hr5

/-- non-vacuity: the first member `8b 01 | 80 03 61 62 63` of a fresh instance -/
example : ∃ s1 nspA,
    flushPreviousStream (newBrotliFile State.new) [] 0 = ok (s1, [], SUCCESS) ∧
    headerLoop NewStreamData.new [0x8b, 0x01] 0 = ok (nspA, 2) ∧ nspA.sufficient = false :=
  ⟨_, _, rfl, rfl, by decide⟩

theorem stream_conservation (s : State) (inp : List Nat) (cap : Nat) (r : Ret) (hI : Inv s) (hset : Settled s)
    (h : stream s inp cap = ok r) :
    held s ++ inp.take r.consumed = r.produced ++ held r.st ∧ Settled r.st ∧
    (r.code = NEEDS_MORE_INPUT ∨ r.code = NEEDS_MORE_OUTPUT) := by
  have := stream_cons s inp cap r hI hset h
  exact ⟨this.cons, this.settled, this.code⟩

/-- `slicing_irrelevant`.  From ANY protocol state — a member in its header
phase (right after `new_brotli_file`, or with part of the look-ahead read, or waiting for
room for the header) or a member whose header has been accepted (`Settled`) — any two ways of
slicing the same remaining bytes into input buffers and any two schedules of output
capacities (including calls with no room at all) give runs that agree on: every emitted
byte, the final result code (`NeedsMoreInput`, or the same terminal error), the bytes still
owed, the tail length, the pending look-ahead and the window.  This covers the strip of the
previous end marker emitting its completed byte in the same call that realigns the header,
headers split over any number of buffers, header copy-out into tiny buffers, and the
pass-through. -/
theorem slicing_irrelevant (f1 f2 : Nat) (s : State) (bufs1 bufs2 : List (List Nat))
    (caps1 caps2 acc : List Nat) (R1 R2 : Run) (hI : Inv s) (hS : Started s)
    (hphase : Settled s ∨ HeaderPhase s)
    (hne1 : bufs1 ≠ []) (hne2 : bufs2 ≠ []) (hsame : bufs1.flatten = bufs2.flatten)
    (h1 : runAll f1 s bufs1 caps1 acc = some R1) (h2 : runAll f2 s bufs2 caps2 acc = some R2) :
    ObsEq R1 R2 := by
  have r1 := runAll_result f1 bufs1 s caps1 acc R1 ⟨hI, hS, hphase⟩ hne1 h1
  rw [hsame] at r1
  exact r1.unique (runAll_result f2 bufs2 s caps2 acc R2 ⟨hI, hS, hphase⟩ hne2 h2) hphase

/-- with `BV.Concat.stream_result` (`Proto r.st`: `stream` keeps a state in one of the two phases) every reachable state
meets `hphase` of `slicing_irrelevant` -/
theorem phase_after_new_brotli_file (s : State) : HeaderPhase (newBrotliFile s) :=
  ⟨NewStreamData.new, rfl, rfl⟩

/-- what a complete run of a member amounts to, whatever the schedule: exactly one of
"strip failed" (`NotCraftedForAppend`, nothing emitted), "look-ahead incomplete" (only the
strip's byte emitted, the bytes read so far kept), "header refused" (terminal code, only the
strip's byte emitted), or "accepted" with the closed form
`emitted ++ tail = acc ++ stripByte ++ headerBytes ++ member[k..]`. -/
theorem member_run_classified (fuel : Nat) (s : State) (bufs : List (List Nat)) (caps acc : List Nat) (R : Run)
    (hI : Inv s) (hS : Started s) (hph : HeaderPhase s) (hne : bufs ≠ [])
    (h : runAll fuel s bufs caps acc = some R) : MemberSpec s bufs.flatten acc R :=
  memberSpec_of_result hI hph ((runAll_result fuel bufs s caps acc R ⟨hI, hS, Or.inr hph⟩ hne h).header hph)

/-- non-vacuity, with a strip that emits a byte: the previous member's tail `63 d5`
(marker in the top two bits of the second byte, so the strip emits `63`) and the member
`3b 00 00 00 07`, once in one buffer with ample room, once in three buffers: both runs exist and emit the same bytes.
`runAll` gives `caps` to the FIRST buffer only, and `[0x3b]` is used up after two calls — capacity 0 (the call stalls:
`NEEDS_MORE_OUTPUT`, nothing consumed) and capacity 1 (exactly the room for the strip's byte) — so the `1, 0, 1` behind
them are never used: the other two buffers are fed with ample room, and no header copy-out into small buffers happens here -/
example : ∃ R1 R2,
    runAll 30 (newBrotliFile { State.new with last_bytes := (0x63, 0xd5), last_bytes_len := 2, window_size := 22 })
      [[0x3b, 0, 0, 0, 7]] [] [] = some R1 ∧
    runAll 30 (newBrotliFile { State.new with last_bytes := (0x63, 0xd5), last_bytes_len := 2, window_size := 22 })
      [[0x3b], [0, 0], [0, 7]] [0, 1, 1, 0, 1] [] = some R2 ∧
    R1.emitted = [0x63, 0xd5, 0, 0] ∧ R2.emitted = R1.emitted ∧ R1.code = NEEDS_MORE_INPUT := by
  refine ⟨_, _, rfl, rfl, ?_, ?_, ?_⟩ <;> decide

/-- a settled state: a complete run holds back the last two bytes (fewer if there are not two) as the tail -/
theorem run_closed_form (fuel : Nat) (s : State) (bufs : List (List Nat)) (caps acc : List Nat) (R : Run)
    (hI : Inv s) (hS : Started s) (hset : Settled s) (hne : bufs ≠ [])
    (h : runAll fuel s bufs caps acc = some R) :
    R.emitted ++ held R.st = acc ++ held s ++ bufs.flatten ∧ R.code = NEEDS_MORE_INPUT ∧
    R.st.new_stream_pending = none ∧ R.st.last_bytes_len = min 2 (baseLen s + bufs.flatten.length) := by
  have := (runAll_result fuel bufs s caps acc R ⟨hI, hS, Or.inl hset⟩ hne h).settled hset
  exact ⟨this.cons, this.code, this.pending, this.len⟩

/-- non-vacuity: a pass-through state fed `01 02 03 04 05` as `[01 02 03][04 05]` with
capacities 1, 0, 2, then ample, and as one buffer with ample room: both runs exist -/
example : ∃ R1 R2,
    runAll 20 { State.new with last_bytes := (0xaa, 0xbb), last_bytes_len := 2, window_size := 22 }
      [[1, 2, 3], [4, 5]] [1, 0, 2] [] = some R1 ∧
    runAll 20 { State.new with last_bytes := (0xaa, 0xbb), last_bytes_len := 2, window_size := 22 }
      [[1, 2, 3, 4, 5]] [] [] = some R2 ∧ R1.emitted = [0xaa, 0xbb, 1, 2, 3] ∧ R2.emitted = R1.emitted := by
  refine ⟨_, _, rfl, rfl, ?_, ?_⟩ <;> decide

end BV.Props.C12
