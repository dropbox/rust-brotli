/-
C02 composed with the stream model: `compress_part`'s success condition as a theorem about
`BV.Stream.compressStream` (from C20 `stream_refines_contract`, `request_completes` and the byte ledger
`call_ledger`), with no hypothesis on the payload-encoder oracle: one call; `Ok(bytes)` iff everything the call
produced fits the job buffer, and then `bytes` is the complete stream; never `Ok` with a cut stream (the defect of
/verif/proposed/D19-multi-part-truncated-q01.md).

Scope.  The encoder state at the call is either FRESH (job 0; every job at quality 0/1 and every
job with an empty prefix: `set_custom_dictionary…` returns before touching positions) or ANY state
satisfying the stream invariant `Inv` in `processing` outside a metadata block.  A quality ≥ 2 job
with a non-empty prefix is NOT covered: after its dictionary call the positions start at `dict_size`
with `custom_dictionary = true`, and the stream model (BV/Model/Stream.lean) has neither the dictionary call nor that
flag — its catable prelude keeps the bare `assert!(last_processed_pos_ < 2)`, so from such a state
the MODEL predicts a panic and the `Inv`-form below is vacuous there.  For those jobs the one-shot
contract remains the recorded-answer hypothesis of `part_succeeds_when_stream_fits` (checked on every
recomputed job by the `multi` stage, /verif/harness/src/multi.rs: `Ok` ⇒ finished).
That the stream does fit (`out ++ pending ≤ BrotliEncoderMaxCompressedSize`) is C08's subject
(`stream_total_le_bound_*`, quality ≥ 2; false at quality 0/1 with small windows).
-/
import BV.Props.C02
import BV.Props.C20
import BV.Lemmas.StreamTotal
import BV.Model.StreamJob

namespace BV.Props.C02Part
open BV.Multi BV.Multi.Res BV.Lemmas.Multi BV.Stream BV.StreamJob

/-- In any state satisfying the invariant, `processing`, outside a
metadata block: `compress_stream(FINISH, input, cap)` returns `true`; the bytes stored and the room
left add up to `cap`; and `is_finished()` holds afterwards IF AND ONLY IF everything the call
produced — delivered `out` plus still `pending` — is at most `cap` bytes; in that case nothing is
pending and the whole input has been consumed.  No hypothesis on the payload encoder. -/
theorem finish_call_contract {o : Oracle} {fuel cap : Nat} {input : Bytes} {s s' : St} {io' : Io} {r : Bool}
    (hI : Inv s) (hst : s.streamState = .processing) (hrm : s.remainingMetadata = u32Max)
    (hw : s.inputPos + input.length < two64)
    (h : compressStream o fuel s 2 input cap = .ok (s', io', r)) :
    r = true ∧ io'.out.length + io'.availOut = cap ∧ io'.availIn ≤ input.length ∧
    (isFinished s' = true ↔ io'.out.length + s'.pending.length ≤ cap) ∧
    (isFinished s' = true → io'.availIn = 0 ∧ s'.pending = []) := by
  have habs : absC s = .processing := by rw [absC_eq hI hrm, hst]
  have hr : r = true := by
    rw [(BV.Props.C20.stream_refines_contract (by decide) hI hw h).1, habs]
    simp [Contract.accepts]
  subst hr
  obtain ⟨hc1, hc2⟩ := BV.Props.C20.request_completes (by decide) hI hrm hw h
  have hL := call_ledger 0 (by decide) hI hw h
  have hbal : io'.out.length + io'.availOut = cap := hL.outBal
  have hin : io'.availIn ≤ input.length := hL.inLe
  have hfin : s'.pending.length = 0 → isFinished s' = true ∧ io'.availIn = 0 := by
    intro hp
    have hd := hc2 hp
    have := hd.finishDone rfl hst
    exact ⟨isFinished_iff.mpr ⟨this, hp⟩, hd.consumed⟩
  refine ⟨rfl, hbal, hin, ⟨?_, ?_⟩, ?_⟩
  · intro hf
    have hp := (isFinished_iff.mp hf).2
    omega
  · intro hfit
    by_cases hp : s'.pending.length = 0
    · exact (hfin hp).1
    · have : io'.availOut = 0 := Decidable.byContradiction fun ha => hp (hc1 ha)
      omega
  · intro hf
    have hp := (isFinished_iff.mp hf).2
    exact ⟨(hfin hp).2, List.eq_nil_of_length_eq_zero hp⟩

theorem finish_call_contract_fresh {o : Oracle} {fuel cap : Nat} {input : Bytes} {s s' : St} {io' : Io} {r : Bool}
    (hf : IsFresh s) (hw : input.length < two64)
    (h : compressStream o fuel s 2 input cap = .ok (s', io', r)) :
    r = true ∧ io'.out.length + io'.availOut = cap ∧ io'.availIn ≤ input.length ∧
    (isFinished s' = true ↔ io'.out.length + s'.pending.length ≤ cap) ∧
    (isFinished s' = true → io'.availIn = 0 ∧ s'.pending = []) := by
  obtain ⟨hI, hw', h'⟩ := call_fresh hf (by rw [hf.inputPos, Nat.zero_add]; exact hw) h
  obtain ⟨p, rfl⟩ := hf
  exact finish_call_contract hI (by simp [ensureInitialized, St.new]) (by simp [ensureInitialized, St.new]) hw' h'

/-- the states `compress_part` can be in when it issues its call: fresh, or (after a dictionary
call) initialised, `processing`, outside a metadata block -/
def CallState (s : St) (inLen : Nat) : Prop :=
  (IsFresh s ∧ inLen < two64) ∨
  (Inv s ∧ s.streamState = .processing ∧ s.remainingMetadata = u32Max ∧ s.inputPos + inLen < two64)

theorem finish_call_contract' {o : Oracle} {fuel cap : Nat} {input : Bytes} {s s' : St} {io' : Io} {r : Bool}
    (hs : CallState s input.length)
    (h : compressStream o fuel s 2 input cap = .ok (s', io', r)) :
    r = true ∧ io'.out.length + io'.availOut = cap ∧ io'.availIn ≤ input.length ∧
    (isFinished s' = true ↔ io'.out.length + s'.pending.length ≤ cap) ∧
    (isFinished s' = true → io'.availIn = 0 ∧ s'.pending = []) := by
  rcases hs with ⟨hf, hw⟩ | ⟨hI, hst, hrm, hw⟩
  · exact finish_call_contract_fresh hf hw h
  · exact finish_call_contract hI hst hrm hw h

/-- Job `i < t` of an `n`-byte input (`n·t < 2^64`), its piece handed to
the stream machine in one FINISH call with the job buffer `BrotliEncoderMaxCompressedSize(len)` as
room: `compress_part` answers `Ok(out)` when everything the call produced fits the buffer and
`Err(InsufficientOutputSpace)` otherwise — after this ONE call, whatever further answers (`rest`)
the encoder might have given.  The one-shot contract is not assumed: it is `finish_call_contract`. -/
theorem part_of_stream_model (i t n : Nat) (hi : i < t) (ht64 : t < U64) (hnt : n * t < U64)
    {o : Oracle} {fuel : Nat} {input : Bytes} {s s' : St} {io' : Io} {r : Bool}
    (hlen : input.length = bnd t n (i + 1) - bnd t n i) (hs : CallState s input.length)
    (h : compressStream o fuel s 2 input (maxCompressedSize input.length) = .ok (s', io', r))
    (rest : List EncAns) :
    compressPart i t n (observed input.length s' io' r :: rest) =
      if io'.out.length + s'.pending.length ≤ maxCompressedSize input.length then .ok io'.out else .err := by
  obtain ⟨hr, hbal, hin, hiff, hfin⟩ := finish_call_contract' hs h
  subst hr
  unfold observed
  rw [BV.Props.C02.part_one_call i t n _ rest hi ht64 hnt rfl (by show input.length - io'.availIn ≤ _; omega)
    (by show io'.out.length ≤ _; rw [← hlen]; omega)]
  simp only [hiff]

/-- over the stream model `compress_part` is `Ok` exactly when the encoder
reports a finished stream, and then its bytes are the COMPLETE output of the encoder (nothing
pending, whole piece consumed) — and it is never `panic`/`spin` once the call returns. -/
theorem part_ok_iff_finished (i t n : Nat) (hi : i < t) (ht64 : t < U64) (hnt : n * t < U64)
    {o : Oracle} {fuel : Nat} {input : Bytes} {s s' : St} {io' : Io} {r : Bool}
    (hlen : input.length = bnd t n (i + 1) - bnd t n i) (hs : CallState s input.length)
    (h : compressStream o fuel s 2 input (maxCompressedSize input.length) = .ok (s', io', r))
    (rest : List EncAns) :
    (isFinished s' = true →
      compressPart i t n (observed input.length s' io' r :: rest) = .ok io'.out ∧
      s'.pending = [] ∧ io'.availIn = 0) ∧
    (isFinished s' = false → compressPart i t n (observed input.length s' io' r :: rest) = .err) := by
  obtain ⟨_, _, _, hiff, hfin⟩ := finish_call_contract' hs h
  have hp := part_of_stream_model i t n hi ht64 hnt hlen hs h rest
  refine ⟨fun hf => ?_, fun hnf => ?_⟩
  · rw [hp, if_pos (hiff.1 hf)]
    exact ⟨rfl, (hfin hf).2, (hfin hf).1⟩
  · rw [hp, if_neg]
    intro hfit
    rw [hiff.2 hfit] at hnf
    cases hnf

theorem streamJob_ok {o : Oracle} {fuel : Nat} {p : Params} {i t n : Nat} {piece : Bytes} {b : List Nat}
    (h : streamJob o fuel p i t n piece = .ok b) :
    ∃ s' io' r, compressStream o fuel { St.new with params := jobParams p i } 2 piece (maxCompressedSize piece.length)
        = .ok (s', io', r) ∧ compressPart i t n [observed piece.length s' io' r] = .ok b := by
  unfold streamJob at h
  cases hc : compressStream o fuel { St.new with params := jobParams p i } 2 piece (maxCompressedSize piece.length) with
  | panic => rw [hc] at h; cases h
  | fuel => rw [hc] at h; cases h
  | ok v =>
    rw [hc] at h
    exact ⟨v.1, v.2.1, v.2.2, rfl, h⟩

/-- `CompressMulti` with EVERY job run over the stream machine on a
fresh encoder — the situation of ALL jobs at quality 0/1 (the dictionary is not used there; the
qualities at which the cut-stream defect D19 lived), of single-threaded calls, and of inputs shorter
than the thread count — any spawner, any payload encoders `os i`, any capacity: if the call returns
`Ok(k)` then for every job its FINISH call returned `true` with `is_finished()`, nothing pending
and the whole piece consumed, the job's bytes are ALL bytes that call produced, and `output[..k]`
is the reference splice of these complete streams, `k ≤` capacity, input handed back.
(C02 `multi_ok_sound` composed with `part_ok_iff_finished`; no oracle hypothesis.) -/
theorem multi_ok_over_stream_model (sp : Spawner) (t n cap : Nat) (os : Nat → Oracle) (fuel : Nat) (p : Params)
    (pieces : Nat → Bytes) (ht64 : t < U64) (hnt : n * t < U64)
    (hlen : ∀ i, i < t → (pieces i).length = bnd t n (i + 1) - bnd t n i)
    (r : MultiRet) (k : Nat)
    (h : compressMulti sp t (fun i => streamJob (os i) fuel p i t n (pieces i)) cap = ok r)
    (hk : r.result = .ok k) :
    ∃ bs : List (List Nat), bs.length = t ∧ spliceAll cap bs = some r.out ∧ k = r.out.length ∧
      r.returned = true ∧
      ∀ i b, bs[i]? = some b → ∃ s' io' rr,
        compressStream (os i) fuel { St.new with params := jobParams p i } 2 (pieces i)
          (maxCompressedSize (pieces i).length) = .ok (s', io', rr) ∧
        rr = true ∧ isFinished s' = true ∧ s'.pending = [] ∧ io'.availIn = 0 ∧ b = io'.out := by
  obtain ⟨bs, hl, hj, hs, hkk, hret⟩ := BV.Props.C02.multi_ok_sound sp t (fun i => streamJob (os i) fuel p i t n (pieces i)) cap r k h hk
  refine ⟨bs, hl, hs, hkk, hret, ?_⟩
  intro i b hib
  have hit : i < t := by
    rw [← hl]
    exact (List.getElem?_eq_some_iff.1 hib).1
  have hjob := hj i b hib
  have hw : (pieces i).length < two64 := by
    have h1 := hlen i hit
    have h2 : bnd t n (i + 1) ≤ n := bnd_le t n (i + 1) (by omega) (by omega)
    have h3 : n ≤ n * t := Nat.le_mul_of_pos_right n (by omega)
    have h4 : U64 = two64 := by simp [U64, two64]
    omega
  obtain ⟨s', io', rr, hc, hjob⟩ := streamJob_ok hjob
  have hcs : CallState ({ St.new with params := jobParams p i } : St) (pieces i).length :=
    Or.inl ⟨⟨_, rfl⟩, hw⟩
  obtain ⟨hfin, hnf⟩ := part_ok_iff_finished i t n hit ht64 hnt (hlen i hit) hcs hc []
  obtain ⟨hrr, _, _, _, _⟩ := finish_call_contract' hcs hc
  cases hf : isFinished s' with
  | false => rw [hnf hf] at hjob; cases hjob
  | true =>
    obtain ⟨h1, h2, h3⟩ := hfin hf
    rw [h1] at hjob
    injection hjob with hjob
    exact ⟨s', io', rr, hc, hrr, hf, h2, h3, hjob.symm⟩

example : CallState St.new 5 := Or.inl ⟨⟨{}, rfl⟩, by decide⟩
example : CallState (ensureInitialized St.new) 5 :=
  Or.inr ⟨(inv_fresh ⟨{}, rfl⟩).1, by simp [ensureInitialized, St.new], by simp [ensureInitialized, St.new],
    by simp [ensureInitialized, St.new, two64]⟩

/-- non-vacuity: a toy payload encoder (44 bits per invocation; with the 4-bit window carry 6 whole bytes) on a
fresh encoder, job 0 of 1 over 3 bytes.  With the job buffer the call finishes and `compress_part` is `Ok` with
the 6 bytes; with room for 2 bytes the same call returns `true`, NOT finished, 2 bytes delivered and 4 pending:
`Err(InsufficientOutputSpace)`, not `Ok` with the 2 bytes. -/
def toyOracle : Oracle := fun _ _ => { bits := List.replicate 44 true }

example : (match compressStream toyOracle 200 St.new 2 [1, 2, 3] (maxCompressedSize 3) with
    | .ok (s', io', r) =>
      decide (compressPart 0 1 3 [observed 3 s' io' r] = .ok [251, 255, 255, 255, 255, 255]) &&
        r && isFinished s' && decide (io'.availIn = 0)
    | _ => false) = true := by decide +kernel

example : (match compressStream toyOracle 200 St.new 2 [1, 2, 3] 2 with
    | .ok (s', io', r) => r && !isFinished s' && decide (io'.out.length = 2) && decide (s'.pending.length = 4)
    | _ => false) = true := by decide +kernel

end BV.Props.C02Part
