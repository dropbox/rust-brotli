/-
C17 — Prefix codes are complete, length-limited, canonical and serialise faithfully.

"For every symbol histogram the code builder assigns a non-zero length to
exactly the symbols that occur (when two or more occur), no length exceeds the
limit (15, or 5 for the code-length alphabet), the lengths satisfy Kraft
equality, and the bit patterns are the canonical assignment. The run-length
serialisation of the length vector expands back to that same vector."

Property theorems ONLY (helper lemmas live in BV/Lemmas/Huffman*.lean).  The
executable model is BV/Model/Huffman.lean (+ BV/Model/Bits.lean); the static
tables are the generated BV/Gen/Source.lean.  The specification side
(`canonicalCodes`, `rfcExpandCodeLengths`, `kraftSum`) is RFC 7932 §3.2/§3.5
written independently of the encoder functions, at the end of the model file.
-/
import BV.Lemmas.HuffmanRle
import BV.Lemmas.HuffmanPrefix
import BV.Lemmas.HuffmanCreate
import BV.Lemmas.HuffmanEntry
import BV.Lemmas.HuffmanRead
import BV.Lemmas.HuffmanStoreRead
import BV.Lemmas.HuffmanStoreTree
import BV.Lemmas.HuffmanOptRle
import BV.Lemmas.HuffmanEntryPoints

namespace BV.Props.C17
open BV.Gen BV.Bits BV.Huffman

/-- `BrotliWriteHuffmanTree`, for either value of each of its two RLE switches:
the RFC 7932 §3.5 expansion of the emitted (code-length symbol, extra bits)
sequence is the input vector without its trailing zeros (the encoder drops
them, the decoder pads with zeros up to the alphabet size).  This covers the
base-4 / base-8 digit emission, the `repetitions == 7` / `== 11` special cases
and the `Reverse` of each block. -/
theorem rle_roundtrip (d : List Nat) (hd : ∀ x ∈ d, x ≤ 15) (hlen : d.length < 2 ^ 64)
    (useNZ useZ : Bool) :
    rfcExpandCodeLengths (writeHuffmanTreeWith useNZ useZ d) = trimTrailingZeros d := by
  have hd' : ∀ x ∈ trimTrailingZeros d, x < 16 :=
    Lemmas.HuffmanRle.trim_lt d (fun x hx => Nat.lt_succ_of_le (hd x hx))
  have hl := Lemmas.HuffmanRle.trim_length_le d
  have := Lemmas.HuffmanRle.writeLoop_roundtrip useNZ useZ _ (trimTrailingZeros d) rfl
    (by unfold u64; omega) hd' 8 ⟨[], 8, none⟩ rfl (by intro x _; rfl)
  rw [Lemmas.HuffmanRle.rfcExpand_eq_run]
  simpa [writeHuffmanTreeWith] using this

/-- non-vacuity: a vector with long runs, a run of 7, a run of 11 zeros, trailing zeros -/
example : (∀ x ∈ [3, 3, 3, 3, 3, 3, 3, 0, 0, 0, 0, 0, 0, 0, 0, 0, 0, 0, 15, 8, 8, 8, 8, 0, 0], x ≤ 15)
    ∧ [3, 3, 3, 3, 3, 3, 3, 0, 0, 0, 0, 0, 0, 0, 0, 0, 0, 0, 15, 8, 8, 8, 8, 0, 0].length < 2 ^ 64 := by
  decide

/-- the decoder's padding restores the dropped zeros -/
theorem trim_pad (d : List Nat) :
    trimTrailingZeros d ++ List.replicate (d.length - (trimTrailingZeros d).length) 0 = d :=
  Lemmas.HuffmanRle.trim_pad d

/-- The same for the function as it runs: the switches are chosen by `decide_over_rle_use` when `length > 50`. -/
theorem rle_roundtrip_run (depth : List Nat) (length cap : Nat) (syms extras : List Nat)
    (hd : ∀ x ∈ depth, x ≤ 15) (hlen : depth.length < 2 ^ 64)
    (h : writeHuffmanTree depth length cap = .ok (syms, extras)) :
    rfcExpandCodeLengths (syms.zip extras) = trimTrailingZeros (depth.take length) := by
  unfold writeHuffmanTree at h
  split at h
  · cases h
  · simp only [] at h
    split at h
    · cases h
    · injection h with h
      injection h with h1 h2
      subst h1 h2
      rw [List.zip_map', List.map_id'' (by intro x; rfl)]
      refine rle_roundtrip _ (fun x hx => hd x (List.mem_of_mem_take hx)) ?_ _ _
      rw [List.length_take]; omega

/-- `BrotliWriteHuffmanTree` writes at most `length` entries, so with the 704-entry
arrays of `BrotliStoreHuffmanTree` it cannot run off their end for any alphabet
of at most 704 symbols: the model never takes its panic branch. -/
theorem rle_never_panics (depth : List Nat) (length cap : Nat) (hl : length ≤ depth.length)
    (hc : length ≤ cap) (h64 : depth.length < 2 ^ 64) :
    ∃ syms extras, writeHuffmanTree depth length cap = .ok (syms, extras) ∧
      syms.length = extras.length ∧ syms.length ≤ length := by
  unfold writeHuffmanTree
  have hlt : (depth.take length).length = length := by rw [List.length_take]; omega
  have h1 := Lemmas.HuffmanRle.trim_length_le (depth.take length)
  have h2 := Lemmas.HuffmanRle.writeLoop_length (rleSwitches (depth.take length)).1
    (rleSwitches (depth.take length)).2 _ (trimTrailingZeros (depth.take length)) rfl
    (by unfold u64; omega) 8
  have h3 : (writeHuffmanTreeWith (rleSwitches (depth.take length)).1
      (rleSwitches (depth.take length)).2 (depth.take length)).length ≤ length := by
    unfold writeHuffmanTreeWith; omega
  simp only [show ¬ length > depth.length by omega, ↓reduceIte,
    show ¬ (writeHuffmanTreeWith (rleSwitches (depth.take length)).1
      (rleSwitches (depth.take length)).2 (depth.take length)).length > cap by omega]
  exact ⟨_, _, rfl, by simp, by simpa using h3⟩

/-- `BrotliConvertBitDepthsToSymbols(depth, len, bits)` never panics on a depth
vector with entries `≤ 15`, writes exactly the entries of symbols with a
non-zero depth, and what it writes for symbol `i` is the RFC 7932 §3.2
canonical code of `i` (`canonicalCodes`, MSB-first value) passed through
`BrotliReverseBits` (the bit writer is LSB-first).  No Kraft hypothesis is
needed for this: the `u16` truncations of `next_code` do not change the low
`depth[i] ≤ 15` bits. -/
theorem canonical (d bits : List Nat) (hd : ∀ x ∈ d, x ≤ 15) (hn : d.length < 65536)
    (hb : d.length ≤ bits.length) :
    ∃ bits', convertBitDepthsToSymbols d d.length bits = .ok bits' ∧
      bits'.length = bits.length ∧
      (∀ k, d.length ≤ k → bits'.getD k 0 = bits.getD k 0) ∧
      ∀ i, i < d.length → bits'.getD i 0 =
        if d.getD i 0 ≠ 0 then reverseBits (d.getD i 0) ((canonicalCodes d).getD i 0)
        else bits.getD i 0 :=
  Lemmas.HuffmanCanon.convert_spec d bits hd hn hb

/-- non-vacuity of `canonical`, and the RFC 7932 §3.2 example
(lengths 3,3,3,3,3,2,4,4 ↦ codes 010,011,100,101,110,00,1110,1111) -/
example : (∀ x ∈ [3, 3, 3, 3, 3, 2, 4, 4], x ≤ 15) ∧ [3, 3, 3, 3, 3, 2, 4, 4].length < 65536 ∧
    canonicalCodes [3, 3, 3, 3, 3, 2, 4, 4] = [2, 3, 4, 5, 6, 0, 14, 15] := by decide

theorem canonical_fits (lens : List Nat) (L i : Nat) (hi : i < lens.length)
    (hall : ∀ x ∈ lens, x ≤ L) (hk : kraftSum L lens ≤ 2 ^ L) (h0 : lens.getD i 0 ≠ 0) :
    (canonicalCodes lens).getD i 0 < 2 ^ lens.getD i 0 :=
  Lemmas.HuffmanPrefix.code_lt lens L i hi hall hk h0

/-- the code of `i` is not the leading `lens[i]` bits of the (not shorter) code of `j` -/
theorem canonical_prefix_free (lens : List Nat) (L i j : Nat) (hi : i < lens.length)
    (hj : j < lens.length) (hall : ∀ x ∈ lens, x ≤ L) (hij : i ≠ j)
    (hi0 : lens.getD i 0 ≠ 0) (hle : lens.getD i 0 ≤ lens.getD j 0) :
    (canonicalCodes lens).getD j 0 / 2 ^ (lens.getD j 0 - lens.getD i 0)
      ≠ (canonicalCodes lens).getD i 0 :=
  Lemmas.HuffmanPrefix.prefix_free lens L i j hi hj hall hij hi0 hle

/-- non-vacuity of the two: a complete code of 8 symbols, `i = 5` (length 2), `j = 6` (length 4) -/
example : (5 < [3, 3, 3, 3, 3, 2, 4, 4].length) ∧ (6 < [3, 3, 3, 3, 3, 2, 4, 4].length) ∧
    (∀ x ∈ [3, 3, 3, 3, 3, 2, 4, 4], x ≤ 15) ∧ kraftSum 15 [3, 3, 3, 3, 3, 2, 4, 4] ≤ 2 ^ 15 ∧
    [3, 3, 3, 3, 3, 2, 4, 4].getD 5 0 ≠ 0 ∧
    [3, 3, 3, 3, 3, 2, 4, 4].getD 5 0 ≤ [3, 3, 3, 3, 3, 2, 4, 4].getD 6 0 := by decide

theorem reverse_bits_spec (n b i : Nat) (h1 : 1 ≤ n) (h16 : n ≤ 16) :
    (reverseBits n b).testBit i = (decide (i < n) && b.testBit (n - 1 - i)) := by
  rw [Lemmas.HuffmanBits.reverseBits_eq n b h1 h16, Lemmas.HuffmanBits.revSpec_testBit]

theorem reverse_bits_involutive (n b : Nat) (h1 : 1 ≤ n) (h16 : n ≤ 16) :
    reverseBits n (reverseBits n b) = b % 2 ^ n := by
  rw [Lemmas.HuffmanBits.reverseBits_eq n b h1 h16, Lemmas.HuffmanBits.reverseBits_eq n _ h1 h16,
    Lemmas.HuffmanBits.revSpec_revSpec]

example : reverseBits 5 0b10110 = 0b01101 ∧ reverseBits 16 1 = 32768 ∧ reverseBits 1 1 = 1 := by
  decide

/-- `kCodeLengthDepth`, `kCodeLengthBits`: the static code-length code of the fast builder (generated from `constants.rs`) -/
theorem static_code_length_code_complete : kraftSum 5 kCodeLengthDepth = 2 ^ 5 := by decide

theorem static_code_length_code_canonical :
    kCodeLengthBits = (List.range 18).map fun i =>
      if kCodeLengthDepth.getD i 0 = 0 then 0
      else reverseBits (kCodeLengthDepth.getD i 0) ((canonicalCodes kCodeLengthDepth).getD i 0) := by
  decide

open BV.Lemmas.HuffmanShape in
/-- `BrotliSetDepth(p, pool, zeroed depth, M)` on a pool that lays out a full
binary tree `t` (`IsTree`: leaves = nodes with negative `index_left_`, inner
nodes point to two roots at smaller indices) with distinct leaf symbols:
if `t` is not higher than `M` it returns `true` and the depths satisfy Kraft
EQUALITY and are `≤ M`; otherwise it returns `false` (never panics, never
runs out of its explicit 16-entry stack). -/
theorem set_depth_kraft (pool : List Node) (M : Nat) (hM : M ≤ 15) (t : T) (p len : Nat)
    (ht : IsTree pool p t) (hnd : t.leaves.Nodup) (hlv : ∀ v ∈ t.leaves, v < len)
    (h2 : 2 ≤ t.leaves.length) (hsz : t.size ≤ setDepthFuel) :
    (t.height ≤ M → ∃ depth, setDepth (p : Int) pool (List.replicate len 0) (M : Int)
        = .ok (true, depth) ∧ kraftSum M depth = 2 ^ M ∧ ∀ x ∈ depth, x ≤ M) ∧
    (M < t.height → ∃ depth, setDepth (p : Int) pool (List.replicate len 0) (M : Int)
        = .ok (false, depth)) :=
  Lemmas.HuffmanCreate.setDepth_kraft pool M hM t p len ht hnd hlv h2 hsz

open BV.Lemmas.HuffmanShape in
/-- non-vacuity: the 3-leaf tree `((2,0),1)` laid out in a 5-node pool -/
example : IsTree [⟨1, -1, 2⟩, ⟨1, -1, 0⟩, ⟨2, 0, 1⟩, ⟨2, -1, 1⟩, ⟨4, 2, 3⟩] 4
    (.node (.node (.leaf 2) (.leaf 0)) (.leaf 1)) :=
  .node (c := 4) (pl := 2) (pr := 3) rfl (by decide) (by decide)
    (.node (c := 2) (pl := 0) (pr := 1) rfl (by decide) (by decide)
      (.leaf (c := 1) (l := -1) rfl (by decide)) (.leaf (c := 1) (l := -1) rfl (by decide)))
    (.leaf (c := 2) (l := -1) rfl (by decide))

open BV.Lemmas.HuffmanCreate BV.Lemmas.HuffmanFib in
/-- MAIN THEOREM for the exact builder.  `BrotliCreateHuffmanTree(data, len, M,
tree, zeroed depth)`, at least two occurring symbols, scratch `tree` of at
least `2·len + 1` nodes, limit `M ≤ 15`.  If for some retry round `R ≤ 31`

  `Σ data + len · 2^R  <  min (2^32 − 1) (fib (M + 3) · 2^R)`

then the retry loop TERMINATES (within `R + 1` rounds), nothing panics, and the
returned depths satisfy Kraft EQUALITY for limit `M`, `depth[i] ≠ 0 ↔ data[i] ≠ 0`,
and `depth[i] ≤ M`.  The first bound excludes the `u32` wrap of the node counts
(without it the claim is false: `sentinel_collision_panics`); the second is the
Fibonacci bound on the height of a Huffman tree whose lightest leaf weighs
`2^R` (the two-queue merge over the leaves sorted by `SortHuffmanTreeItems`
always merges the two lightest roots). -/
theorem create_huffman_tree_total (data : List Nat) (M R : Nat) (hM : M ≤ 15)
    (hlen : data.length ≤ 16383) (hn2 : 2 ≤ (data.filter (· ≠ 0)).length) (tree : List Node)
    (htl : 2 * data.length + 1 ≤ tree.length) (hR : R ≤ 31)
    (hW : data.sum + data.length * 2 ^ R < 4294967295)
    (hfit : data.sum + data.length * 2 ^ R < fib (M + 3) * 2 ^ R) :
    ∃ depth, createHuffmanTree data data.length (M : Int) tree (List.replicate data.length 0)
        = .ok depth ∧ depth.length = data.length ∧
      (∀ v, v < data.length → (depth.getD v 0 ≠ 0 ↔ data.getD v 0 ≠ 0)) ∧
      (∀ v, v < data.length → depth.getD v 0 ≤ M) ∧ kraftSum M depth = 2 ^ M :=
  create_total data M R hM hlen hn2 tree htl hR hW hfit

open BV.Lemmas.HuffmanFib in
/-- The instance C17 quantifies over: alphabets of up to 704 symbols, limit 15,
histogram total at most `2^25` (a meta-block has at most `2^24` symbols, so
every histogram the encoder builds sums to at most `2^24`; individual counts
may be anything up to the total; the statement assumes `2^25`, a factor of two to spare).
Round `R = 15` meets both bounds. -/
theorem tree_kraft_eq (data : List Nat) (hlen : data.length ≤ 704) (hsum : data.sum ≤ 2 ^ 25)
    (hn2 : 2 ≤ (data.filter (· ≠ 0)).length) (tree : List Node)
    (htl : 2 * data.length + 1 ≤ tree.length) :
    ∃ depth, createHuffmanTree data data.length 15 tree (List.replicate data.length 0)
        = .ok depth ∧ depth.length = data.length ∧
      (∀ v, v < data.length → (depth.getD v 0 ≠ 0 ↔ data.getD v 0 ≠ 0)) ∧
      (∀ v, v < data.length → depth.getD v 0 ≤ 15) ∧ kraftSum 15 depth = 2 ^ 15 := by
  have hf : fib (15 + 3) = 2584 := by decide
  have h1 : data.length * 2 ^ 15 ≤ 704 * 2 ^ 15 := Nat.mul_le_mul_right _ hlen
  have e1 : (2:Nat) ^ 15 = 32768 := by decide
  have e2 : (2:Nat) ^ 25 = 33554432 := by decide
  rw [e1] at h1
  rw [e2] at hsum
  exact create_huffman_tree_total data 15 15 (by decide) (by omega) hn2 tree htl (by decide)
    (by rw [e1]; omega) (by rw [hf, e1]; omega)

/-- non-vacuity of `tree_kraft_eq`, and the value the model computes (= the real code's) -/
example : [5, 1, 1, 3, 0, 7].length ≤ 704 ∧ [5, 1, 1, 3, 0, 7].sum ≤ 2 ^ 25 ∧
    2 ≤ ([5, 1, 1, 3, 0, 7].filter (· ≠ 0)).length ∧
    createHuffmanTree [5, 1, 1, 3, 0, 7] 6 15 (List.replicate 13 default) (List.replicate 6 0)
      = .ok [2, 4, 4, 3, 0, 1] := by decide +kernel

theorem depth_le_limit (data : List Nat) (hlen : data.length ≤ 704) (hsum : data.sum ≤ 2 ^ 25)
    (hn2 : 2 ≤ (data.filter (· ≠ 0)).length) (tree : List Node)
    (htl : 2 * data.length + 1 ≤ tree.length) (depth : List Nat)
    (h : createHuffmanTree data data.length 15 tree (List.replicate data.length 0) = .ok depth) :
    ∀ x ∈ depth, x ≤ 15 := by
  obtain ⟨d, h1, h2, _, h4, _⟩ := tree_kraft_eq data hlen hsum hn2 tree htl
  rw [h] at h1
  injection h1 with h1
  subst h1
  intro x hx
  obtain ⟨v, hv, hxv⟩ := List.getElem_of_mem hx
  have := h4 v (by omega)
  rw [List.getD_eq_getElem?_getD, List.getElem?_eq_getElem hv] at this
  simpa [hxv] using this

/-- `retry_terminates`: the count_limit doubling loop does not diverge (the model's
`.fuel` outcome = "the Rust loop never exits") and does not panic -/
theorem retry_terminates (data : List Nat) (hlen : data.length ≤ 704) (hsum : data.sum ≤ 2 ^ 25)
    (hn2 : 2 ≤ (data.filter (· ≠ 0)).length) (tree : List Node)
    (htl : 2 * data.length + 1 ≤ tree.length) :
    createHuffmanTree data data.length 15 tree (List.replicate data.length 0) ≠ .fuel ∧
    createHuffmanTree data data.length 15 tree (List.replicate data.length 0) ≠ .panic := by
  obtain ⟨d, h1, _⟩ := tree_kraft_eq data hlen hsum hn2 tree htl
  rw [h1]; exact ⟨by simp, by simp⟩

/-- with limit 1 and three symbols the loop does diverge (the real function hangs on this input) -/
example : createHuffmanTree [1, 1, 1] 3 1 (List.replicate 7 default) [0, 0, 0] = .fuel := by
  decide +kernel

/-- The `u32` wrap / sentinel collision: two counts that sum to `u32::MAX` and a
third not smaller make `BrotliCreateHuffmanTree` index `depth[usize::MAX]`
(confirmed on the real code: `index out of bounds: the len is 3 but the index
is 18446744073709551615`, entropy_encode.rs:45).  The same happens with every
count `≤ 2^24` and 512 symbols (count 2^24 − 1 once and 2^24 for the other
511: the subtree of 256 leaves that contains the smaller count sums to exactly
`u32::MAX`; real code and `bvdrive` both panic) — that instance is checked by
the correspondence run, not by the kernel (evaluating it takes ten minutes). -/
theorem sentinel_collision_panics :
    createHuffmanTree [2147483647, 2147483648, 2147483648] 3 15
      (List.replicate 7 default) [0, 0, 0] = .panic := by decide +kernel

open BV.Lemmas.HuffmanFib in
/-- `BrotliStoreHuffmanTree` builds the code for the 18 code-length symbols with
`BrotliCreateHuffmanTree(histogram, 18, 5, …)`; the histogram counts the at most
704 entries written by `BrotliWriteHuffmanTree`.  With two or more symbols in
use the depths are `≤ 5`, complete and exact on the support (round `R = 8`). -/
theorem code_length_code_complete (histo : List Nat) (hlen : histo.length = 18)
    (hsum : histo.sum ≤ 704) (hn2 : 2 ≤ (histo.filter (· ≠ 0)).length) (tree : List Node)
    (htl : 37 ≤ tree.length) :
    ∃ depth, createHuffmanTree histo 18 5 tree (List.replicate 18 0) = .ok depth ∧
      depth.length = 18 ∧
      (∀ v, v < 18 → (depth.getD v 0 ≠ 0 ↔ histo.getD v 0 ≠ 0)) ∧
      (∀ v, v < 18 → depth.getD v 0 ≤ 5) ∧ kraftSum 5 depth = 2 ^ 5 := by
  have hf : fib (5 + 3) = 21 := by decide
  have e1 : (2:Nat) ^ 8 = 256 := by decide
  have := create_huffman_tree_total histo 5 8 (by decide) (by omega) hn2 tree (by omega)
    (by decide) (by rw [e1, hlen]; omega) (by rw [hf, e1, hlen]; omega)
  rw [hlen] at this
  exact this

example : [3, 0, 0, 7, 1, 0, 0, 0, 2, 0, 0, 0, 0, 0, 0, 0, 9, 4].length = 18 ∧
    [3, 0, 0, 7, 1, 0, 0, 0, 2, 0, 0, 0, 0, 0, 0, 0, 9, 4].sum ≤ 704 ∧
    2 ≤ ([3, 0, 0, 7, 1, 0, 0, 0, 2, 0, 0, 0, 0, 0, 0, 0, 9, 4].filter (· ≠ 0)).length := by decide

open BV.Lemmas.HuffmanCreate BV.Lemmas.HuffmanFib in
/-- The `'break11` loop of `BrotliBuildAndStoreHuffmanTreeFast` (its own sort
comparator, limit 14, freshly allocated `2·length + 1` nodes) over the first
`m ≤ 704` histogram entries with total `≤ 2^25`, at least two of them non-zero,
and `depth[..m]` zeroed as the function does: it terminates (round `R = 16` at
the latest), does not panic, leaves `depth[m..]` alone, and `depth[..m]` is
complete for limit 14 (hence for 15), exact on the support and `≤ 14`. -/
theorem fast_tree_kraft_eq (data : List Nat) (m : Nat) (hm : m ≤ data.length) (hm704 : m ≤ 704)
    (hsum : (data.take m).sum ≤ 2 ^ 25) (hn2 : 2 ≤ ((data.take m).filter (· ≠ 0)).length)
    (rest : List Nat) :
    ∃ depth', fastLoop data m createFuel 1 (List.replicate (2 * m + 1) default)
        (List.replicate m 0 ++ rest) = .ok depth' ∧
      depth'.length = m + rest.length ∧ depth'.drop m = rest ∧
      (∀ v, v < m → (depth'.getD v 0 ≠ 0 ↔ data.getD v 0 ≠ 0)) ∧
      (∀ v, v < m → depth'.getD v 0 ≤ 14) ∧ kraftSum 14 (depth'.take m) = 2 ^ 14 := by
  obtain ⟨depth', he, hg⟩ := Lemmas.HuffmanEntry.fast_front data m rest hm hm704 hsum hn2
  refine ⟨depth', he, by simpa using hg.hlen, ?_, hg.hsupp, hg.hlim, hg.hkraft⟩
  apply List.ext_getElem?
  intro k
  rw [List.getElem?_drop, hg.hframe (m + k) (by omega),
    List.getElem?_append_right (by simp), List.length_replicate]
  congr 1; omega

example : (3 : Nat) ≤ [4, 0, 9, 1].length ∧ ([4, 0, 9, 1].take 3).sum ≤ 2 ^ 25 ∧
    2 ≤ (([4, 0, 9, 1].take 3).filter (· ≠ 0)).length := by decide

/-- `BuildAndStoreHuffmanTree(histogram, len, alphabet_size, tree, depth, bits, …)`
(the exact builder), `len ≤ 704`, histogram total `≤ 2^25`, two or more symbols
in use: whenever the model returns (i.e. also the serialisation did not hit an
`assert`), `depth[..len]` is Kraft-complete for limit 15, non-zero exactly at
the symbols in use, `≤ 15`, the rest of `depth` is untouched, and `bits[i]` is
the bit-reversed RFC 7932 §3.2 canonical code of `depth[..len]` for every
symbol in use (other entries of `bits` untouched). -/
theorem build_and_store_good (histogram : List Nat) (len alphabetSize : Nat) (tree : List Node)
    (depth bits : List Nat) (w : Writer) (depth' bits' : List Nat) (w' : Writer)
    (hlen : len ≤ histogram.length) (h704 : len ≤ 704)
    (hsum : (histogram.take len).sum ≤ 2 ^ 25)
    (hn2 : 2 ≤ ((histogram.take len).filter (· ≠ 0)).length)
    (htl : 2 * len + 1 ≤ tree.length) (hdl : len ≤ depth.length) (hbl : len ≤ bits.length)
    (h : buildAndStoreHuffmanTree histogram len alphabetSize tree depth bits w
      = .ok (depth', bits', w')) :
    depth'.length = depth.length ∧ depth'.drop len = depth.drop len ∧
    (∀ v, v < len → (depth'.getD v 0 ≠ 0 ↔ histogram.getD v 0 ≠ 0)) ∧
    (∀ v, v < len → depth'.getD v 0 ≤ 15) ∧ kraftSum 15 (depth'.take len) = 2 ^ 15 ∧
    bits'.length = bits.length ∧ (∀ k, len ≤ k → bits'.getD k 0 = bits.getD k 0) ∧
    ∀ i, i < len → bits'.getD i 0 =
      if depth'.getD i 0 ≠ 0 then
        reverseBits (depth'.getD i 0) ((canonicalCodes (depth'.take len)).getD i 0)
      else bits.getD i 0 := by
  obtain ⟨hg, hb1, hb2, hb3⟩ := Lemmas.HuffmanEntryPoints.build_good histogram len alphabetSize tree
    depth bits w depth' bits' w' hlen h704 hsum hn2 htl hdl hbl h
  refine ⟨by simpa [Nat.add_sub_cancel' hdl] using hg.hlen, ?_, hg.hsupp, hg.hlim, hg.hkraft,
    hb1, hb2, hb3⟩
  apply List.ext_getElem?
  intro k
  rw [List.getElem?_drop, List.getElem?_drop, hg.hframe (len + k) (by omega),
    List.getElem?_append_right (by simp), List.length_replicate, List.getElem?_drop]
  congr 1; omega

/-- non-vacuity, and the complete answer of the model on this histogram
(depths; bits; 29 stored bits), equal to the real function's -/
example : (6 ≤ [5, 1, 1, 3, 0, 7].length) ∧ ([5, 1, 1, 3, 0, 7].take 6).sum ≤ 2 ^ 25 ∧
    2 ≤ (([5, 1, 1, 3, 0, 7].take 6).filter (· ≠ 0)).length ∧
    (buildAndStoreHuffmanTree [5, 1, 1, 3, 0, 7] 6 6 (List.replicate 1409 default)
      (List.replicate 6 0) (List.replicate 6 0) []).bind (fun r => .ok (r.1, r.2.1, r.2.2.length))
      = .ok ([2, 4, 4, 3, 0, 1], [1, 7, 15, 3, 0, 0], 29) := by decide +kernel

/-- `BrotliBuildAndStoreHuffmanTreeFast` (the builder of quality ≤ 2), alphabet
`≤ 704`, histogram total `≤ 2^25`, two or more symbols counted by its scan
(`fastScan … = (count, symbols, length)` is that scan): whenever the model
returns, `depth[..length]` is Kraft-complete for limit 14 (a fortiori a valid
code of limit 15), non-zero exactly at the symbols in use, `≤ 14`, and
`bits[..length]` is its bit-reversed canonical code. -/
theorem fast_build_and_store_good (histogram : List Nat) (total maxBits : Nat)
    (depth bits : List Nat) (w : Writer) (depth' bits' : List Nat) (w' : Writer)
    (count length : Nat) (symbols : List Nat)
    (hscan : fastScan histogram total 0 0 [0, 0, 0, 0] = .ok (count, symbols, length))
    (hc2 : 2 ≤ count) (h704 : histogram.length ≤ 704) (hsum : histogram.sum ≤ 2 ^ 25)
    (hbl : length ≤ bits.length)
    (h : buildAndStoreHuffmanTreeFast histogram total maxBits depth bits w
      = .ok (depth', bits', w')) :
    length ≤ histogram.length ∧
    (∀ v, v < length → (depth'.getD v 0 ≠ 0 ↔ histogram.getD v 0 ≠ 0)) ∧
    (∀ v, v < length → depth'.getD v 0 ≤ 14) ∧ kraftSum 14 (depth'.take length) = 2 ^ 14 ∧
    bits'.length = bits.length ∧ (∀ k, length ≤ k → bits'.getD k 0 = bits.getD k 0) ∧
    ∀ i, i < length → bits'.getD i 0 =
      if depth'.getD i 0 ≠ 0 then
        reverseBits (depth'.getD i 0) ((canonicalCodes (depth'.take length)).getD i 0)
      else bits.getD i 0 := by
  obtain ⟨hl, hg, hb1, hb2, hb3⟩ := Lemmas.HuffmanEntryPoints.fast_good histogram total maxBits depth
    bits w depth' bits' w' count length symbols hscan hc2 h704 hsum hbl h
  exact ⟨hl, hg.hsupp, hg.hlim, hg.hkraft, hb1, hb2, hb3⟩

example : fastScan [4, 0, 9, 1] 14 0 0 [0, 0, 0, 0] = .ok (3, [0, 2, 3, 0], 4) ∧
    (buildAndStoreHuffmanTreeFast [4, 0, 9, 1] 14 2 (List.replicate 4 0) (List.replicate 4 0) []).bind
      (fun r => .ok (r.1, r.2.1, r.2.2.length)) = .ok ([2, 0, 1, 2], [1, 0, 0, 3], 10) := by
  decide +kernel

theorem kraft_limit_mono (lens : List Nat) (h : ∀ x ∈ lens, x ≤ 14)
    (hk : kraftSum 14 lens = 2 ^ 14) : kraftSum 15 lens = 2 ^ 15 := by
  exact Lemmas.HuffmanStoreTree.kraft_complete_15 14 (by decide) lens h hk

theorem rfc_code_length_tables :
    rfcClOrder = kStorageOrder ∧
    rfcClVlc = (List.range 6).map fun l =>
      (l, kHuffmanBitLengthHuffmanCodeBitLengths.getD l 0,
        kHuffmanBitLengthHuffmanCodeSymbols.getD l 0) := by decide

/-- `symbol_roundtrip`: for every prefix code with lengths `≤ 15`, Kraft sum `≤ 1`
and at least two symbols in use, a symbol written the way the encoder writes
it — `BrotliWriteBits(depth[s], bits[s])` with `bits[s]` the bit-reversed
canonical code (`canonical`) — passes both `assert`s of `BrotliWriteBits`, and the
RFC 7932 §3.2 decoder reading the stream from that point returns `s` and stops
exactly behind its bits. -/
theorem symbol_roundtrip (lens : List Nat) (s : Nat) (w rest : List Bool) (hs : s < lens.length)
    (hall : ∀ x ∈ lens, x ≤ 15) (hk : kraftSum 15 lens ≤ 2 ^ 15) (h0 : lens.getD s 0 ≠ 0)
    (h2 : 2 ≤ ((List.range lens.length).filter fun t => lens.getD t 0 != 0).length) :
    ∃ code, writeBits (lens.getD s 0)
        (reverseBits (lens.getD s 0) ((canonicalCodes lens).getD s 0)) w = .ok (w ++ code) ∧
      code.length = lens.getD s 0 ∧ readSym lens (code ++ rest) = some (s, rest) := by
  have hmem : lens.getD s 0 ∈ lens := by
    rw [List.getD_eq_getElem?_getD, List.getElem?_eq_getElem hs]; simp
  have hl15 := hall _ hmem
  refine ⟨bitsOf (lens.getD s 0) (reverseBits (lens.getD s 0) ((canonicalCodes lens).getD s 0)),
    ?_, Bits.bitsOf_length _ _,
    Lemmas.HuffmanRead.readSym_spec lens s rest hs hall hk h0 h2⟩
  unfold writeBits
  have hlt : reverseBits (lens.getD s 0) ((canonicalCodes lens).getD s 0) < 2 ^ lens.getD s 0 := by
    rw [Lemmas.HuffmanBits.reverseBits_eq _ _ (by omega) (by omega)]
    exact Lemmas.HuffmanBits.revSpec_lt _ _
  rw [Nat.div_eq_of_lt hlt]
  simp only [ne_eq, not_true_eq_false, ↓reduceIte, show ¬ lens.getD s 0 > 56 by omega]

/-- non-vacuity: the code `[2,4,4,3,0,1]` built above, symbol 3 -/
example : (3 < [2, 4, 4, 3, 0, 1].length) ∧ (∀ x ∈ [2, 4, 4, 3, 0, 1], x ≤ 15) ∧
    kraftSum 15 [2, 4, 4, 3, 0, 1] ≤ 2 ^ 15 ∧ [2, 4, 4, 3, 0, 1].getD 3 0 ≠ 0 ∧
    2 ≤ ((List.range [2, 4, 4, 3, 0, 1].length).filter
      fun t => [2, 4, 4, 3, 0, 1].getD t 0 != 0).length := by decide

/-- `StoreStaticCodeLengthCode`'s 40 bits are HSKIP = 0 followed by the RFC 7932 §3.5
encoding of the code length code lengths `kCodeLengthDepth` -/
theorem static_code_length_code_stored :
    (storeStaticCodeLengthCode []).bind (fun w => .ok (takeBits 2 w)) = .ok (some (0,
      (bitsOf 38 (0xff55555554 / 4)))) ∧
    readClLens rfcClOrder 32 (List.replicate 18 0) (bitsOf 38 (0xff55555554 / 4))
      = some (kCodeLengthDepth, []) := by decide +kernel

/-- Complete descriptions read back (checked instances of `store_tree_roundtrip`):
what `BuildAndStoreHuffmanTree` / the fast builder store for these histograms —
a complex code, the four simple forms NSYM = 1..4 (both tree shapes of
NSYM = 4), a code using both repeat codes, the fast builder's static-code
form — is decoded by the RFC reader to exactly the depths, consuming all bits. -/
theorem store_tree_roundtrip_instances :
    (∀ h ∈ [[5, 1, 1, 3, 0, 7], [5, 1], [0, 0, 4], [5, 0, 1], [5, 0, 1, 9], [5, 3, 1, 9],
        [5, 5, 5, 5], [1, 1, 1, 1, 1, 1, 1, 0, 0, 0, 0, 0, 0, 0, 0, 0, 0, 0, 0, 0, 0, 0, 9, 9, 9, 9,
          9, 9, 9, 9, 9, 9, 9, 3]],
      (buildAndStoreHuffmanTree h h.length h.length (List.replicate 1409 default)
        (List.replicate h.length 0) (List.replicate h.length 0) []).bind
        (fun r => .ok (readPrefixCode h.length r.2.2 == some (r.1, []))) = .ok true) ∧
    (∀ h ∈ [[5, 1, 1, 3, 0, 7], [4, 0, 9, 1], [3, 3, 3, 3, 3, 3, 3, 3, 3, 0, 0, 0, 1, 1, 1, 1, 1, 8]],
      (buildAndStoreHuffmanTreeFast h h.sum (alphabetBits h.length)
        (List.replicate h.length 0) (List.replicate h.length 0) []).bind
        (fun r => .ok (readPrefixCode h.length r.2.2 == some (r.1, []))) = .ok true) := by
  decide +kernel

open BV.Lemmas.HuffmanStoreRead in
/-- `store_tree_roundtrip_partial` (partial = one part of the description, its body; not an
incomplete result: the full statement is `store_tree_roundtrip` below): what
`BrotliStoreHuffmanTreeToBitMask` writes for the entries of `BrotliWriteHuffmanTree` passes every
`BrotliWriteBits` assertion, and the RFC 7932 §3.5 reader returns exactly `d` and stops exactly behind
these bits — for ANY usable code-length code (`ClCode`) that covers the emitted symbols (`ValidEntry`),
in particular for the static one of the fast builder (`example` below). -/
theorem store_tree_roundtrip_partial (cl clBits : List Nat) (hc : ClCode cl clBits) (d : List Nat)
    (hd : ∀ x ∈ d, x ≤ 15) (hlen : d.length < 2 ^ 64) (hk : kraftSum 15 d = 32768)
    (useNZ useZ : Bool)
    (hvalid : ∀ e ∈ writeHuffmanTreeWith useNZ useZ d, ValidEntry cl e) (w rest : List Bool) :
    ∃ bits, storeHuffmanTreeToBitMask cl clBits (writeHuffmanTreeWith useNZ useZ d) w
        = .ok (w ++ bits) ∧
      readLensGo cl d.length (d.length + 1) ⟨[], 8, none⟩ (bits ++ rest) = some (d, rest) :=
  ⟨_, Lemmas.HuffmanStoreIO.store_entries_roundtripU (Lemmas.HuffmanStoreIO.symIO_of_clCode cl clBits hc) d hd hlen
    hk useNZ useZ hvalid w rest⟩

open BV.Lemmas.HuffmanStoreRead in
/-- non-vacuity: the static code-length code of the fast builder is a usable `ClCode` -/
example : ClCode kCodeLengthDepth kCodeLengthBits := Lemmas.HuffmanFastStore.static_clcode

/-- `store_tree_roundtrip` (FULL, for the complex form): for every depth vector
`depths[..num]` with `num ≤ 704`, entries `≤ 15` and Kraft EQUALITY (what
`tree_kraft_eq` guarantees for the builder's output: its `kraftSum 15 depth = 2 ^ 15` is accepted
for `hk` as it stands, `2 ^ 15` evaluates to `32768`), and a scratch tree of at
least 37 nodes, `BrotliStoreHuffmanTree(depths, num, tree, 0, zeroed storage)`
does not panic (no index out of range, no `BrotliWriteBits` assertion, the
inner `BrotliCreateHuffmanTree(…, 18, 5, …)` terminates), and the RFC 7932 §3.5
reader `readPrefixCode` applied to the written bits returns exactly `depths[..num]` and consumes every
bit.  Both branches of the code are covered: two or more code-length symbols
in use (`num_codes = 2`, trailing zero code-length code lengths dropped), and a
single one (`num_codes = 1`, all 18 lengths stored, its length zeroed before
writing the symbols).
The simple forms (NSYM 1..4 of `StoreSimpleHuffmanTree` and of the fast
builder) and the fast builder's static-code form are covered, in general, by
`build_and_store_roundtrip` and `fast_build_and_store_roundtrip` below.
The lemma of the same short name in `Lemmas.HuffmanStoreTree` is the case `num = depths.length`. -/
theorem store_tree_roundtrip (depths : List Nat) (num : Nat) (tree : List Node)
    (hnum : num ≤ depths.length) (h704 : num ≤ 704) (hd : ∀ x ∈ depths.take num, x ≤ 15)
    (hk : kraftSum 15 (depths.take num) = 32768) (htl : 37 ≤ tree.length) :
    ∃ w, storeHuffmanTree depths num tree [] = .ok w ∧
      readPrefixCode num w = some (depths.take num, []) := by
  simpa using Lemmas.HuffmanStoreTree.store_tree_roundtrip_ctx depths num num tree [] [] hnum h704 hd hk htl
    (Nat.le_refl _) (fun i h1 h2 => absurd h2 (Nat.not_lt.mpr h1))

/-- non-vacuity: the depths `[2,4,4,3,0,1]` of the running example (followed by an
unrelated entry), with the stored bits evaluated -/
example : (6 ≤ [2, 4, 4, 3, 0, 1, 9].length) ∧ (∀ x ∈ [2, 4, 4, 3, 0, 1, 9].take 6, x ≤ 15) ∧
    kraftSum 15 ([2, 4, 4, 3, 0, 1, 9].take 6) = 32768 ∧
    (storeHuffmanTree [2, 4, 4, 3, 0, 1, 9] 6 (List.replicate 37 default) []).bind
      (fun w => .ok (w.length, readPrefixCode 6 w)) = .ok (29, some ([2, 4, 4, 3, 0, 1], [])) := by
  decide +kernel

/-- `store_tree_roundtrip` in a bit-stream context: `w` already written, `rest` following,
and a reader whose alphabet size `A` is smaller than the stored vector (`depths[A..num]`
zero; e.g. the distance code: 140 table entries, 64 symbols read). -/
theorem store_tree_roundtrip_ctx (depths : List Nat) (num A : Nat) (tree : List Node)
    (w rest : List Bool) (hnum : num ≤ depths.length) (h704 : num ≤ 704)
    (hd : ∀ x ∈ depths.take num, x ≤ 15) (hk : kraftSum 15 (depths.take num) = 32768)
    (htl : 37 ≤ tree.length) (hA : A ≤ num)
    (hz : ∀ i, A ≤ i → i < num → depths.getD i 0 = 0) :
    ∃ bits, storeHuffmanTree depths num tree w = .ok (w ++ bits) ∧
      readPrefixCode A (bits ++ rest) = some (depths.take A, rest) :=
  Lemmas.HuffmanStoreTree.store_tree_roundtrip_ctx depths num A tree w rest hnum h704 hd hk htl hA hz

/-- `build_and_store_roundtrip` (GENERAL, every input the exact builder accepts).
`BuildAndStoreHuffmanTree(histogram, len, A, tree, depth, bits, storage)` as the meta-block
writers call it: zeroed `depth`/`bits` tables of `n ≥ len` entries, alphabet size
`1 ≤ A ≤ len ≤ 704`, no count at or above `A`, counts summing to at most `2^25`
(with `len ≤ 704` this keeps `Σ + len · 2^15` below `2^32 − 1`, the bound without which
`sentinel_collision_panics` applies), any bits `w` already written and any
bits `rest` following.  Whenever the model returns, what it appended (`cb`) is:
* two or more symbols in use — whichever of the three stored forms is chosen
  (`StoreSimpleHuffmanTree` NSYM = 2, 3, 4 with its sort of the symbols by depth and
  the tree-select bit; `BrotliStoreHuffmanTree`): the RFC 7932 §3.4/§3.5 reader applied
  to `cb ++ rest` returns exactly `depth[..A]` and stops exactly at `rest`;
* exactly one symbol `s` in use: `cb` is the NSYM = 1 description `0b0001` (4 bits),
  `s` (`alphabetBits A` bits), and the tables stay all zero (a zero-length code word:
  the data loop writes nothing for `s`);
* no symbol in use: the NSYM = 1 description of symbol 0.
The lemma of the same name in `Lemmas.HuffmanEntryPoints` adds, in the first case, that depths and
bit patterns are good; here that is `build_and_store_good`. -/
theorem build_and_store_roundtrip (histogram : List Nat) (len A n : Nat) (tree : List Node)
    (w rest : List Bool) (depth' bits' : List Nat) (w' : Writer)
    (hlen : len ≤ histogram.length) (h704 : len ≤ 704) (hsum : (histogram.take len).sum ≤ 2 ^ 25)
    (htl : 2 * len + 1 ≤ tree.length) (ht37 : 37 ≤ tree.length) (hn : len ≤ n)
    (hA1 : 1 ≤ A) (hA : A ≤ len)
    (hz : ∀ i, A ≤ i → i < len → histogram.getD i 0 = 0)
    (h : buildAndStoreHuffmanTree histogram len A tree (List.replicate n 0) (List.replicate n 0) w
      = .ok (depth', bits', w')) :
    ∃ cb, w' = w ++ cb ∧
      (2 ≤ ((histogram.take len).filter (· ≠ 0)).length →
        readPrefixCode A (cb ++ rest) = some (depth'.take A, rest)) ∧
      (∀ s, s < len → histogram.getD s 0 ≠ 0 →
        ((histogram.take len).filter (· ≠ 0)).length = 1 →
          cb = bitsOf 4 1 ++ bitsOf (alphabetBits A) s ∧ depth' = List.replicate n 0 ∧
          bits' = List.replicate n 0) ∧
      (((histogram.take len).filter (· ≠ 0)).length = 0 →
          cb = bitsOf 4 1 ++ bitsOf (alphabetBits A) 0 ∧ depth' = List.replicate n 0 ∧
          bits' = List.replicate n 0) := by
  obtain ⟨cb, hw, hmany, hone, hnone⟩ := Lemmas.HuffmanEntryPoints.build_and_store_roundtrip
    histogram len A n tree w rest depth' bits' w' hlen h704 hsum htl ht37 hn hA1 hA hz h
  exact ⟨cb, hw, fun h => (hmany h).1, hone, hnone⟩

/-- non-vacuity: the hypotheses hold and the three cases occur (complex form, 8 table
entries of which 6 are read; NSYM = 3; NSYM = 1), with the model's answers evaluated;
the stream continues with `[true]` -/
example : (∀ h ∈ [[5, 1, 1, 3, 0, 7, 0, 0], [5, 0, 1, 9, 0, 0, 0, 0], [0, 0, 4, 0, 0, 0, 0, 0]],
      8 ≤ h.length ∧ (h.take 8).sum ≤ 2 ^ 25 ∧ (∀ i : Fin 8, 6 ≤ i.val → h.getD i.val 0 = 0) ∧
      (buildAndStoreHuffmanTree h 8 6 (List.replicate 37 default) (List.replicate 8 0)
        (List.replicate 8 0) []).bind
        (fun r => .ok (readPrefixCode 6 (r.2.2 ++ [true]) == some (r.1.take 6, [true]))) = .ok true) ∧
    (([5, 1, 1, 3, 0, 7, 0, 0].take 8).filter (· ≠ 0)).length = 5 ∧
    (([5, 0, 1, 9, 0, 0, 0, 0].take 8).filter (· ≠ 0)).length = 3 ∧
    (([0, 0, 4, 0, 0, 0, 0, 0].take 8).filter (· ≠ 0)).length = 1 := by decide +kernel

/-- `fast_build_and_store_roundtrip` (GENERAL, every input the fast builder accepts).
`BrotliBuildAndStoreHuffmanTreeFast(histogram, histogram_total, max_bits, depth, bits, storage)`
as `BrotliStoreMetaBlockFast` calls it: `histogram_total` = the sum of the counts
(`≤ 2^25`), `max_bits` = the width of the alphabet, at most 704 counts, none at or above
`A`, zeroed tables of `n ≥ A` entries.  Whenever the model returns, with `count` the
number of symbols in use:
* `count ≥ 2` — NSYM = 2, 3, 4 (with the fast builder's own sort), or, for five or more,
  the static code-length code `0xff55555554` followed by the depths with the precomputed
  repeat patterns `kZeroRepsBits/Depth`, `kNonZeroRepsBits/Depth`: the RFC reader returns
  exactly `depth[..A]` and stops exactly at `rest`;
* `count = 1`, `count = 0`: as in `build_and_store_roundtrip`.
The lemma of the same name in `Lemmas.HuffmanEntryPoints` also returns the scan's result and, in
the first case, that depths and bit patterns are good (here: `fast_build_and_store_good`). -/
theorem fast_build_and_store_roundtrip (histogram : List Nat) (A n : Nat)
    (w rest : List Bool) (depth' bits' : List Nat) (w' : Writer)
    (h704 : histogram.length ≤ 704) (hsum : histogram.sum ≤ 2 ^ 25)
    (hA1 : 1 ≤ A) (hAn : A ≤ n) (hA : A ≤ 65536)
    (hz : ∀ i, A ≤ i → histogram.getD i 0 = 0)
    (h : buildAndStoreHuffmanTreeFast histogram histogram.sum (alphabetBits A)
      (List.replicate n 0) (List.replicate n 0) w = .ok (depth', bits', w')) :
    ∃ cb, w' = w ++ cb ∧
      (2 ≤ (histogram.filter (· ≠ 0)).length →
        readPrefixCode A (cb ++ rest) = some (depth'.take A, rest)) ∧
      (∀ s, histogram.getD s 0 ≠ 0 → (histogram.filter (· ≠ 0)).length = 1 →
          cb = bitsOf 4 1 ++ bitsOf (alphabetBits A) s ∧ depth' = List.replicate n 0 ∧
          bits' = List.replicate n 0) ∧
      ((histogram.filter (· ≠ 0)).length = 0 →
          cb = bitsOf 4 1 ++ bitsOf (alphabetBits A) 0 ∧ depth' = List.replicate n 0 ∧
          bits' = List.replicate n 0) := by
  obtain ⟨cb, count, symbols, length, hw, _, hcount, _, hmany, hone, hnone⟩ :=
    Lemmas.HuffmanEntryPoints.fast_build_and_store_roundtrip histogram A n w rest depth' bits' w'
      h704 hsum hA1 hAn hA hz h
  rw [← hcount]
  exact ⟨cb, hw, fun h => (hmany h).1, hone, hnone⟩

/-- non-vacuity: static-code form (a run of 9 equal depths, a run of zeros), NSYM = 3,
NSYM = 1; 18 or 8 table entries, 20 resp. 8 counts -/
example : (∀ h ∈ [[3, 3, 3, 3, 3, 3, 3, 3, 3, 0, 0, 0, 1, 1, 1, 1, 1, 8, 0, 0],
        [5, 0, 1, 9, 0, 0, 0, 0], [0, 0, 4, 0, 0, 0, 0, 0]],
      h.length ≤ 704 ∧ h.sum ≤ 2 ^ 25 ∧ (∀ i : Fin 20, 18 ≤ i.val → h.getD i.val 0 = 0) ∧
      (buildAndStoreHuffmanTreeFast h h.sum (alphabetBits 18) (List.replicate 18 0)
        (List.replicate 18 0) []).bind
        (fun r => .ok (readPrefixCode 18 (r.2.2 ++ [true]) == some (r.1.take 18, [true]))) = .ok true) ∧
    ([3, 3, 3, 3, 3, 3, 3, 3, 3, 0, 0, 0, 1, 1, 1, 1, 1, 8, 0, 0].filter (· ≠ 0)).length = 15 := by
  decide +kernel

/-- `optimize_counts_for_rle_safe`.  `BrotliOptimizeHistograms` (metablock.rs) rewrites
every literal / command / distance histogram in place with
`BrotliOptimizeHuffmanCountsForRle(length, counts, good_for_rle)` before
`BuildAndStoreHuffmanTree` sees it.  What is TRUE of that rewrite, for every
histogram of `u32` counts shorter than `2^31`, whenever the function returns:
the length is unchanged, every count is still a `u32`, and a NON-ZERO COUNT
STAYS NON-ZERO — so every symbol that occurs in the data still occurs in the
histogram the code is built from, and by "support exact" of the builder it gets
a code word.  (The isolated-zero filling writes 1 over zeros only; a smoothed
stride is overwritten with `max(1, rounded average)` unless its sum is 0, in
which case it was all zeros.)
What is NOT true: zeros do not stay zero (`optimize_counts_fills_zeros`): the
built code may contain symbols that never occur, which costs code space but
not correctness. -/
theorem optimize_counts_for_rle_safe (length : Nat) (counts good r : List Nat)
    (hb : ∀ x ∈ counts, x < 2 ^ 32) (hl : counts.length < 2 ^ 31)
    (h : optimizeHuffmanCountsForRle length counts good = .ok r) :
    r.length = counts.length ∧ (∀ p, counts.getD p 0 ≠ 0 → r.getD p 0 ≠ 0) ∧
      ∀ x ∈ r, x < 2 ^ 32 := by
  have := Lemmas.HuffmanOptRle.optimize_keep length counts good r hb hl h
  exact ⟨this.hlen, this.hnz, this.hu32⟩

/-- non-vacuity, and the negative half: symbol 5 does not occur but gets count 1 -/
theorem optimize_counts_fills_zeros :
    optimizeHuffmanCountsForRle 17 [3, 3, 3, 3, 3, 0, 3, 3, 3, 3, 3, 3, 3, 3, 3, 3, 3]
      (List.replicate 17 0) = .ok [3, 3, 3, 3, 3, 1, 3, 3, 3, 3, 3, 3, 3, 3, 3, 3, 3] := by
  decide +kernel

end BV.Props.C17
