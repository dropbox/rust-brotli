/-
C01 ("streams crossing 2^30 / 2^32 positions"), translator tie: theorems stated DIRECTLY over the
Lean definition generated from the Rust text of `WrapPosition` (src/enc/encode.rs,
tools/rs2lean.py -> BV/Gen/FnC01.lean) — the function that folds the 64-bit stream position into
the 32-bit positions the match finders and the ring buffer work with.  What the encoder relies on:
the low 30 bits survive (every ring-buffer / hash mask is below 2^30), nothing changes below
3 GiB, a wrapped position never becomes small again (so "have we filled the window" tests stay
true), and the result always fits the `u32` it is stored in.
The same generated module holds `Log2FloorNonZero`, `BrotliEncodeMlen` and `StoreCompressedMetaBlockHeader`
(src/enc/brotli_bit_stream.rs); the last, as an operation list, is tied to the header writer of the meta-block model
(`store_compressed_header_generated`).
-/
import BV.Gen.FnC01
import BV.Lemmas.RsWriter
import BV.Lemmas.RsPrelude
import BV.Model.MetaBlock

namespace BV.Props.C01Gen
open BV.Gen.FnC01 BV.Rs BV.Bits BV.Bits.Out

/-- the generated bit manipulation as arithmetic: beyond 3 GiB the position keeps its low 30 bits and alternates between the
second and third GiB -/
theorem wrap_position_closed_form (p : Nat) (hp : p < 2 ^ 64) :
    WrapPosition p =
      if p / 2 ^ 30 > 2 then p % 2 ^ 30 + ((p / 2 ^ 30 - 1) % 2 + 1) * 2 ^ 30 else p % 2 ^ 32 := by
  rw [two_pow_64] at hp
  unfold WrapPosition
  simp only [Nat.shiftRight_eq_div_pow, Nat.reduceMod, two_pow_30, two_pow_32, decide_eq_true_eq]
  split
  · rename_i hgb
    have hmask : (1 <<< (30 % 32) % 4294967296 + 4294967296 - 1) % 4294967296 = 2 ^ 30 - 1 :=
      shl_mask (by decide) (by decide)
    rw [hmask, Nat.and_two_pow_sub_one_eq_mod, Nat.and_one_is_mod, two_pow_30]
    have e1 : (p / 1073741824 + 18446744073709551616 - 1) % 18446744073709551616 = p / 1073741824 - 1 :=
      wsub_of_le (by omega) (by omega)
    rw [e1]
    have hlt : (p / 1073741824 - 1) % 2 < 2 := Nat.mod_lt _ (by decide)
    have e2 : ((p / 1073741824 - 1) % 2 % 4294967296 + 1) % 4294967296 = (p / 1073741824 - 1) % 2 + 1 := by omega
    rw [e2, Nat.shiftLeft_eq, two_pow_30]
    have e3 : ((p / 1073741824 - 1) % 2 + 1) * 1073741824 % 4294967296 = ((p / 1073741824 - 1) % 2 + 1) * 1073741824 := by omega
    rw [e3]
    have hlow : p % 4294967296 % 1073741824 < 2 ^ 30 := by omega
    have := Nat.shiftLeft_add_eq_or_of_lt hlow ((p / 1073741824 - 1) % 2 + 1)
    rw [Nat.shiftLeft_eq, two_pow_30] at this
    rw [Nat.or_comm, ← this]
    omega
  · rfl

theorem wrap_position_mod (p : Nat) (hp : p < 2 ^ 64) : WrapPosition p % 2 ^ 31 = p % 2 ^ 31 := by
  rw [wrap_position_closed_form p hp]
  have h31 : (2:Nat) ^ 31 = 2147483648 := by decide
  rw [two_pow_30, h31, two_pow_32]
  split <;> omega

theorem wrap_position_low_bits (p : Nat) (hp : p < 2 ^ 64) : WrapPosition p % 2 ^ 30 = p % 2 ^ 30 := by
  have := wrap_position_mod p hp
  omega

theorem wrap_position_identity (p : Nat) (hp : p < 3 * 2 ^ 30) : WrapPosition p = p := by
  rw [two_pow_30] at hp
  rw [wrap_position_closed_form p (by have : (2:Nat) ^ 64 = 18446744073709551616 := by decide
                                      omega)]
  rw [two_pow_30, two_pow_32]
  split <;> omega

theorem wrap_position_range (p : Nat) (hp : p < 2 ^ 64) :
    WrapPosition p < 2 ^ 32 ∧ (2 ^ 30 ≤ p → 2 ^ 30 ≤ WrapPosition p) ∧
      (3 * 2 ^ 30 ≤ p → WrapPosition p < 3 * 2 ^ 30) := by
  rw [wrap_position_closed_form p hp]
  rw [two_pow_64] at hp
  rw [two_pow_30, two_pow_32]
  split <;> omega

theorem wrap_position_distance (p d : Nat) (hp : p + d < 2 ^ 64) (h1 : 2 ^ 30 ≤ p) :
    (WrapPosition (p + d) + 2 ^ 31 - WrapPosition p) % 2 ^ 31 = d % 2 ^ 31 := by
  have ha := wrap_position_mod (p + d) hp
  have hb := wrap_position_mod p (by omega)
  have ra := (wrap_position_range (p + d) hp).2.1 (by omega)
  -- the wrapped `p` is below 3 GiB, so the subtraction is not truncated
  have rb : WrapPosition p < 3 * 2 ^ 30 := by
    by_cases h3 : 3 * 2 ^ 30 ≤ p
    · exact (wrap_position_range p (by omega)).2.2 h3
    · rw [wrap_position_identity p (by omega)]; omega
  generalize WrapPosition (p + d) = a at *
  generalize WrapPosition p = b at *
  omega

example : WrapPosition (5 * 2 ^ 30 + 7) = 2 ^ 30 + 7 := by decide
example : WrapPosition (6 * 2 ^ 30 + 7) = 2 * 2 ^ 30 + 7 := by decide
example : WrapPosition (2 ^ 32 + 5) = 2 * 2 ^ 30 + 5 := by decide

theorem log2_floor_non_zero_generated (v : Nat) (h0 : v ≠ 0) (h : v < 2 ^ 64) :
    Log2FloorNonZero v = Nat.log2 v :=
  xor63_clz v h0 h

theorem encode_mlen_generated (len a b c : Nat) (h1 : 1 ≤ len) (h : len ≤ 2 ^ 24) :
    BrotliEncodeMlen len a b c = BV.PrefixArith.encodeMlen len := by
  have hlt : len - 1 < 2 ^ 64 := Nat.lt_of_le_of_lt (Nat.sub_le _ _) (Nat.lt_of_le_of_lt h (by decide))
  exact encode_mlen_text Log2FloorNonZero len h1 h
    (fun h1' => log2_floor_non_zero_generated (len - 1) (by omega) hlt)

theorem runOps_bind_nil : ∀ (x : Out Writer), (x >>= runOps []) = x :=
  BV.Rs.runOps_bind_nil

theorem store_compressed_header_ops_last (length : Nat) : StoreCompressedMetaBlockHeader true length =
    [WOp.bits 1 1, WOp.bits 1 0, WOp.bits 2 (BrotliEncodeMlen (length % 4294967296) 0 0 0).2.2,
      WOp.bits ((BrotliEncodeMlen (length % 4294967296) 0 0 0).2.1 % 256) (BrotliEncodeMlen (length % 4294967296) 0 0 0).1] := by
  unfold StoreCompressedMetaBlockHeader
  rfl

theorem store_compressed_header_ops_notlast (length : Nat) : StoreCompressedMetaBlockHeader false length =
    [WOp.bits 1 0, WOp.bits 2 (BrotliEncodeMlen (length % 4294967296) 0 0 0).2.2,
      WOp.bits ((BrotliEncodeMlen (length % 4294967296) 0 0 0).2.1 % 256) (BrotliEncodeMlen (length % 4294967296) 0 0 0).1,
      WOp.bits 1 0] := by
  unfold StoreCompressedMetaBlockHeader
  rfl

/-- the generated operation list of `StoreCompressedMetaBlockHeader`, run on any writer, is what the meta-block writer
model (BV.MetaBlock, over which the C01MetaBlock round-trip theorems are stated) writes -/
theorem store_compressed_header_generated (isLast : Bool) (length : Nat) (w : Writer)
    (h1 : 1 ≤ length % 2 ^ 32) (h : length % 2 ^ 32 ≤ 2 ^ 24) :
    runOps (StoreCompressedMetaBlockHeader isLast length) w =
      BV.MetaBlock.storeCompressedMetaBlockHeader isLast length w := by
  rw [two_pow_32] at h1 h
  have hm := encode_mlen_generated (length % 4294967296) 0 0 0 h1 h
  have hg : ¬ (length % 4294967296 = 0 ∨ length % 4294967296 > 16777216) := by omega
  unfold BV.MetaBlock.storeCompressedMetaBlockHeader BV.MetaBlock.two32
  cases isLast
  · rw [store_compressed_header_ops_notlast, hm]
    simp only [runOps_cons_bits, runOps_nil, bind_ok_right, hg, if_false, Bool.false_eq_true, Out.bind_ok]
  · rw [store_compressed_header_ops_last, hm]
    simp only [runOps_cons_bits, runOps_nil, bind_ok_right, hg, if_false, if_true]

example : StoreCompressedMetaBlockHeader true 5 = [WOp.bits 1 1, WOp.bits 1 0, WOp.bits 2 0, WOp.bits 16 4] := by decide

end BV.Props.C01Gen
