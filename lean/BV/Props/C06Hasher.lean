/-
C06, concrete — the shared pre-built match index of `CompressMulti`'s
`favor_cpu_efficiency` branch, over the CONCRETE hasher models of C19.

`BV.Props.C06.favor_cpu_equiv` is stated over an abstract hasher with two hypotheses about
`BulkStoreRange` (`Additive`, `Local`).  Here both are proved for the executable models of
`BasicHasher` (H2, H3, H4, H54), `AdvHasher` (H5, H5q5, H5q7, H6) and `H9`
(BV/Model/Hasher.lean, tied to `src/enc/backward_references/mod.rs` by C19's correspondence run and
again, through the favor loop itself, by the `favor` stage of this property), so that no hypothesis
about the hasher is left.

What is modelled of the real code (threading.rs):
* the favor loop `for thread_index in 1..num_threads`: `range = get_range(thread_index − 1, ..)`,
  `overlap = StoreLookahead() − 1`, guard `range.end > overlap && range.end − overlap > stored_end`,
  `BulkStoreRange(input, usize::MAX, stored_end, range.end − overlap)`, `stored_end = range.end − overlap`
  — `prebuilt` (BV/Lemmas/MultiFavor.lean); job `thread_index` receives a clone (C19 `clone_eq_*`);
* the job side `set_custom_dictionary_with_optional_precomputed_hasher` — `jobIndex`: early return
  at quality < 2 / empty prefix, truncation to the last `2^lgwin − 16` bytes with the handed index
  DISCARDED, `StoreLookaheadThenStore(dict)` = `BulkStoreRange(dict, usize::MAX, 0, size − overlap)`
  otherwise (`selfbuilt`).
An index is an `Option`: `none` = a Rust panic (slice index / `split_at`); the equations therefore
also say that the shared build panics exactly when the job's own build would.

Where shared and own index DIFFER, and why it does not matter:
* truncated prefix (`bnd > 2^lgwin − 16`): the job throws the shared index away and compresses with
  its own (`favor_truncated_differs`, `job_index_*`);
* quality 0/1: `jobIndex` keeps whatever was handed in, but the fragment compressors of these
  qualities never read `hasher_` (not modelled; exercised by the favor on/off byte comparison);
* NOT modelled: that `hasher_setup` chooses the same KIND for the shared index (from
  `SanitizeParams(params.clone())`) and inside the job (from the job's own sanitised params with
  `catable`/`appendable`/`magic_number` changed) — `ChooseHasher` reads quality, lgwin, size_hint
  and q9_5 only; the `favor` stage records the kind of both real indexes on every case and compares
  their tables cell by cell with the model's.  H10 (quality 10/11) has no concrete model: its
  `BulkStoreRange` is the fold of an opaque `Store` (C19 `bulk_eq_fold_store_h10`), so additivity
  holds and locality reduces to one statement about `Store` (`favor_cpu_equiv_h10`).
-/
import BV.Props.C06
import BV.Props.C19
import BV.Lemmas.MultiFavorKinds
import BV.Lemmas.MultiFavorNoPanic

namespace BV.Props.C06Hasher
open BV.Multi BV.Hasher BV.Lemmas.Multi

/-- `BasicHasher::BulkStoreRange(data, usize::MAX, ·, ·)`, panicked index states included; 7 = `StoreLookahead() − 1`.
`P.Ok` (the hash fits `u32`) holds for the four real kinds. -/
theorem bulk_additive_local_basic (P : BasicP) (hP : P.Ok) (len : Nat) :
    Additive (basicModel P len) ∧ Local (basicModel P len) 7 :=
  ⟨basicModel_additive hP len, basicModel_local hP len⟩

/-- `H9::BulkStoreRange`; `StoreLookahead() = 4` -/
theorem bulk_additive_local_h9 (P : H9P) : Additive (h9Model P) ∧ Local (h9Model P) 3 :=
  ⟨h9Model_additive P, h9Model_local P⟩

/-- `AdvHasher::BulkStoreRange` (32 positions at a time from 35-byte copies, then the tail loop):
additive and local for the stores that start from the constructor's zeroed tables at position 0 and
end at a `usize` position — what the favor loop and `StoreLookaheadThenStore` do.  (From other
starting states the batched path additionally needs the exact-table-size invariant, C19.) -/
theorem bulk_additive_local_adv (P : AdvP) (hP : P.Ok) (hl : 1 ≤ P.lookahead) :
    AdditiveFrom (advModel P) (2 ^ 64) ∧ LocalFrom (advModel P) (P.lookahead - 1) (2 ^ 64) :=
  ⟨advModel_additive hP, advModel_local hP hl⟩

/-- `favor_cpu_equiv` for H2/H3/H4/H54 (any table length `len`, any hash that fits `u32`): the two indexes are
equal as tables, cell by cell, or both builds panic -/
theorem favor_cpu_equiv_basic (P : BasicP) (hP : P.Ok) (len : Nat)
    (input : List Nat) (t n lgwin quality j : Nat) (hq : 2 ≤ quality) (hl : 10 ≤ lgwin)
    (hnt : bnd t n (j + 1) ≤ 2 ^ lgwin - 16) :
    (prebuilt (basicModel P len) input t n 7 (j + 1)).1
      = selfbuilt (basicModel P len) input (bnd t n (j + 1)) lgwin quality 7 :=
  BV.Props.C06.favor_cpu_equiv (basicModel P len) 7 (basicModel_additive hP len) (basicModel_local hP len)
    input t n lgwin quality j hq hl hnt

/-- quality 9 / 9.5 -/
theorem favor_cpu_equiv_h9 (P : H9P)
    (input : List Nat) (t n lgwin quality j : Nat) (hq : 2 ≤ quality) (hl : 10 ≤ lgwin)
    (hnt : bnd t n (j + 1) ≤ 2 ^ lgwin - 16) :
    (prebuilt (h9Model P) input t n 3 (j + 1)).1
      = selfbuilt (h9Model P) input (bnd t n (j + 1)) lgwin quality 3 :=
  BV.Props.C06.favor_cpu_equiv (h9Model P) 3 (h9Model_additive P) (h9Model_local P)
    input t n lgwin quality j hq hl hnt

/-- `favor_cpu_equiv_adv`: H5/H5q5/H5q7 (look-ahead 4) and H6 (look-ahead 8).  `j + 1 ≤ t` (the job
exists) and `n ≤ 2^64` (the input length is a `usize`) make every stored position a `usize`. -/
theorem favor_cpu_equiv_adv (P : AdvP) (hP : P.Ok) (hla : 1 ≤ P.lookahead)
    (input : List Nat) (t n lgwin quality j : Nat) (hq : 2 ≤ quality) (hl : 10 ≤ lgwin)
    (hj : j + 1 ≤ t) (hn : n ≤ 2 ^ 64) (hnt : bnd t n (j + 1) ≤ 2 ^ lgwin - 16) :
    (prebuilt (advModel P) input t n (P.lookahead - 1) (j + 1)).1
      = selfbuilt (advModel P) input (bnd t n (j + 1)) lgwin quality (P.lookahead - 1) :=
  favor_cpu_equiv_from (advModel P) (P.lookahead - 1) (2 ^ 64) (advModel_additive hP) (advModel_local hP hla)
    input t n lgwin quality j hq hl hj hn hnt

/-- the kinds `ChooseHasher` can select at quality 2..9 (C19 `concrete_kinds_ok` discharges the hash
hypotheses; table lengths as allocated by `InitializeH2..H54`, see `RealKindsBuild`; `overlap = StoreLookahead() − 1`
is 7, 7, 7, 7, 3, 7, 3) -/
theorem favor_cpu_equiv_real_kinds
    (input : List Nat) (t n lgwin quality j : Nat) (hq : 2 ≤ quality) (hl : 10 ≤ lgwin)
    (hj : j + 1 ≤ t) (hn : n ≤ 2 ^ 64) (hnt : bnd t n (j + 1) ≤ 2 ^ lgwin - 16) :
    (prebuilt (basicModel H2 65545) input t n 7 (j + 1)).1
      = selfbuilt (basicModel H2 65545) input (bnd t n (j + 1)) lgwin quality 7 ∧
    (prebuilt (basicModel H3 65546) input t n 7 (j + 1)).1
      = selfbuilt (basicModel H3 65546) input (bnd t n (j + 1)) lgwin quality 7 ∧
    (prebuilt (basicModel H4 131080) input t n 7 (j + 1)).1
      = selfbuilt (basicModel H4 131080) input (bnd t n (j + 1)) lgwin quality 7 ∧
    (prebuilt (basicModel H54 1048588) input t n 7 (j + 1)).1
      = selfbuilt (basicModel H54 1048588) input (bnd t n (j + 1)) lgwin quality 7 ∧
    (∀ bucketBits blockBits, bucketBits + blockBits ≤ 32 →
      (prebuilt (advModel (adv32P bucketBits blockBits)) input t n 3 (j + 1)).1
        = selfbuilt (advModel (adv32P bucketBits blockBits)) input (bnd t n (j + 1)) lgwin quality 3) ∧
    (∀ bucketBits blockBits hashLen, bucketBits + blockBits ≤ 32 →
      (prebuilt (advModel (adv64P bucketBits blockBits hashLen)) input t n 7 (j + 1)).1
        = selfbuilt (advModel (adv64P bucketBits blockBits hashLen)) input (bnd t n (j + 1)) lgwin quality 7) ∧
    (prebuilt (h9Model H9std) input t n 3 (j + 1)).1
      = selfbuilt (h9Model H9std) input (bnd t n (j + 1)) lgwin quality 3 :=
  ⟨favor_cpu_equiv_basic H2 H2_ok _ input t n lgwin quality j hq hl hnt,
   favor_cpu_equiv_basic H3 H3_ok _ input t n lgwin quality j hq hl hnt,
   favor_cpu_equiv_basic H4 H4_ok _ input t n lgwin quality j hq hl hnt,
   favor_cpu_equiv_basic H54 H54_ok _ input t n lgwin quality j hq hl hnt,
   fun bb kb h => favor_cpu_equiv_adv (adv32P bb kb) (adv32P_ok bb kb h) (by show 1 ≤ 4; decide) input t n lgwin quality j hq hl hj hn hnt,
   fun bb kb hlen h => favor_cpu_equiv_adv (adv64P bb kb hlen) (adv64P_ok bb kb hlen h) (by show 1 ≤ 8; decide) input t n lgwin quality j hq hl hj hn hnt,
   favor_cpu_equiv_h9 H9std input t n lgwin quality j hq hl hnt⟩

/-- `job_index_basic`: with the truncation branch of `set_custom_dictionary_with_optional_
precomputed_hasher` in the picture (`jobIndex`), the restriction "prefix not truncated" goes away:
for every job `j + 1 ≤ t`, every input, window `lgwin ≥ 10` and quality ≥ 2 the job's encoder holds
the same index whether `CompressMulti` handed it the shared one or nothing. -/
theorem job_index_basic (P : BasicP) (hP : P.Ok) (len : Nat)
    (input : List Nat) (t n lgwin quality j : Nat) (hq : 2 ≤ quality) (hl : 10 ≤ lgwin) (hj : j + 1 ≤ t) :
    jobIndex (basicModel P len) input (bnd t n (j + 1)) lgwin quality 7
        (some (prebuilt (basicModel P len) input t n 7 (j + 1)).1)
      = jobIndex (basicModel P len) input (bnd t n (j + 1)) lgwin quality 7 none :=
  jobIndex_favor_irrelevant (basicModel P len) 7 n ((basicModel_additive hP len).from n)
    ((basicModel_local hP len).from n) input t n lgwin quality j hq hl hj (Nat.le_refl _)

theorem job_index_h9 (P : H9P)
    (input : List Nat) (t n lgwin quality j : Nat) (hq : 2 ≤ quality) (hl : 10 ≤ lgwin) (hj : j + 1 ≤ t) :
    jobIndex (h9Model P) input (bnd t n (j + 1)) lgwin quality 3 (some (prebuilt (h9Model P) input t n 3 (j + 1)).1)
      = jobIndex (h9Model P) input (bnd t n (j + 1)) lgwin quality 3 none :=
  jobIndex_favor_irrelevant (h9Model P) 3 n ((h9Model_additive P).from n) ((h9Model_local P).from n)
    input t n lgwin quality j hq hl hj (Nat.le_refl _)

theorem job_index_adv (P : AdvP) (hP : P.Ok) (hla : 1 ≤ P.lookahead)
    (input : List Nat) (t n lgwin quality j : Nat) (hq : 2 ≤ quality) (hl : 10 ≤ lgwin) (hj : j + 1 ≤ t)
    (hn : n ≤ 2 ^ 64) :
    jobIndex (advModel P) input (bnd t n (j + 1)) lgwin quality (P.lookahead - 1)
        (some (prebuilt (advModel P) input t n (P.lookahead - 1) (j + 1)).1)
      = jobIndex (advModel P) input (bnd t n (j + 1)) lgwin quality (P.lookahead - 1) none :=
  jobIndex_favor_irrelevant (advModel P) (P.lookahead - 1) (2 ^ 64) (advModel_additive hP) (advModel_local hP hla)
    input t n lgwin quality j hq hl hj hn

/-- the `debug_assert!(orig_hasher == self.hasher_)` of `set_custom_dictionary_with_optional_
precomputed_hasher` (debug builds re-index the prefix and compare) cannot fire for a `BasicHasher`
handed in by the favor branch: it is reached only when the prefix is not truncated, where the two
indexes are equal — and `PartialEq` on the tables says so (C19 `clone_eq_basic`: slice equality) -/
theorem debug_assert_holds_basic (P : BasicP) (hP : P.Ok) (len : Nat)
    (input : List Nat) (t n lgwin quality j : Nat) (hq : 2 ≤ quality) (hl : 10 ≤ lgwin)
    (hnt : bnd t n (j + 1) ≤ 2 ^ lgwin - 16) (shared own : Tab)
    (hs : (prebuilt (basicModel P len) input t n 7 (j + 1)).1 = some shared)
    (ho : selfbuilt (basicModel P len) input (bnd t n (j + 1)) lgwin quality 7 = some own) :
    Basic.eq shared own = true := by
  rw [favor_cpu_equiv_basic P hP len input t n lgwin quality j hq hl hnt, ho] at hs
  injection hs with hs
  subst hs
  simp [Basic.eq]

/-- a toy `BasicHasher` kind, small enough for the kernel -/
def toyP : BasicP := { sweep := 2, hash := fun w => w.headD 0 % 8 }

theorem toyP_ok : toyP.Ok := ⟨fun w => by simp only [toyP, U32]; omega⟩

/-- 3 jobs over 60 bytes: job 2 (prefix 40 bytes) gets an index that was built by TWO bulk stores
(`[0, 13)` then `[13, 33)`), is not empty, did not panic, and equals the one-call index of the job -/
example :
    (prebuilt (basicModel toyP 16) ((List.range 60).map (· * 37 % 251)) 3 60 7 2).1
      = selfbuilt (basicModel toyP 16) ((List.range 60).map (· * 37 % 251)) (bnd 3 60 2) 22 5 7 ∧
    (prebuilt (basicModel toyP 16) ((List.range 60).map (· * 37 % 251)) 3 60 7 2).2 = 33 ∧
    (prebuilt (basicModel toyP 16) ((List.range 60).map (· * 37 % 251)) 3 60 7 1).2 = 13 ∧
    ((prebuilt (basicModel toyP 16) ((List.range 60).map (· * 37 % 251)) 3 60 7 2).1).isSome = true ∧
    (prebuilt (basicModel toyP 16) ((List.range 60).map (· * 37 % 251)) 3 60 7 2).1
      ≠ (basicModel toyP 16).empty :=
  ⟨favor_cpu_equiv_basic toyP toyP_ok 16 _ 3 60 22 5 1 (by decide) (by decide) (by decide),
   by decide +kernel, by decide +kernel, by decide +kernel, by decide +kernel⟩

/-- a read past the end of the input panics in both builds alike: with only 36 of the 40 prefix
bytes present both sides are `none` (the equation of `favor_cpu_equiv_basic` covers it) -/
example :
    (prebuilt (basicModel toyP 16) ((List.range 36).map (· * 37 % 251)) 3 60 7 2).1 = none ∧
    selfbuilt (basicModel toyP 16) ((List.range 36).map (· * 37 % 251)) (bnd 3 60 2) 22 5 7 = none := by
  decide +kernel

/-- TRUNCATED prefix, concrete kind (scaled-down window `lgwin = 5`: 16 bytes kept of 30): the
shared index and the job's own index differ as tables -/
theorem favor_truncated_differs :
    (prebuilt (basicModel toyP 16) ((List.range 60).map (· * 37 % 251)) 2 60 7 1).1
      ≠ selfbuilt (basicModel toyP 16) ((List.range 60).map (· * 37 % 251)) (bnd 2 60 1) 5 5 7 ∧
    dictPlan (bnd 2 60 1) 5 5 = ⟨true, 14, 16⟩ := by
  decide +kernel

theorem truncated_job_uses_own_index {H : Type} (M : HasherModel H) (input : List Nat)
    (size lgwin quality overlap : Nat) (hq : 2 ≤ quality) (htr : size > 2 ^ lgwin - 16) (opt : Option H) :
    jobIndex M input size lgwin quality overlap opt = selfbuilt M input size lgwin quality overlap := by
  have hplan : dictPlan size lgwin quality = ⟨true, size - (2 ^ lgwin - 16), 2 ^ lgwin - 16⟩ := by
    unfold dictPlan
    rw [if_neg (by omega), if_pos htr]
  unfold jobIndex
  rw [hplan]
  simp only [Bool.true_eq_false, if_false]
  rw [if_pos (by omega)]

/-- `favor_cpu_equiv_h10`: the binary-tree index, `Store` and the empty forest OPAQUE (as in C19).
Additivity needs nothing; what remains of the abstract hypotheses is exactly one statement about
`Store`: at position `ix` it reads `data[.. ix + 128)` only (`StoreLookahead() = 128` = the
`max_length` it passes to `StoreAndFindMatchesH10`; positions behind `ix` are earlier input). -/
theorem favor_cpu_equiv_h10 {σ : Type} (store : ByteArray → Nat → σ → Option σ) (empty : σ)
    (hloc : ∀ d d' ix st k, Agree d d' k → ix + 128 ≤ k → store d ix st = store d' ix st)
    (input : List Nat) (t n lgwin quality j : Nat) (hq : 2 ≤ quality) (hl : 10 ≤ lgwin)
    (hnt : bnd t n (j + 1) ≤ 2 ^ lgwin - 16) :
    (prebuilt (h10Model store empty) input t n 127 (j + 1)).1
      = selfbuilt (h10Model store empty) input (bnd t n (j + 1)) lgwin quality 127 :=
  BV.Props.C06.favor_cpu_equiv (h10Model store empty) 127 (h10Model_additive store empty)
    (h10Model_local store empty 128 (by decide) hloc) input t n lgwin quality j hq hl hnt

/-- non-vacuity: a `Store` that files (position, first byte of its 128-byte window) is local -/
example : ∀ d d' ix (st : List (Nat × Nat)) k, Agree d d' k → ix + 128 ≤ k →
    (fun (d : ByteArray) ix (st : List (Nat × Nat)) => (win d ix 128).map fun w => st ++ [(ix, w.headD 0)]) d ix st
      = (fun (d : ByteArray) ix (st : List (Nat × Nat)) => (win d ix 128).map fun w => st ++ [(ix, w.headD 0)]) d' ix st := by
  intro d d' ix st k h hk
  simp only [h ix 128 hk]

/-- `shared_index_is_partition`: the `BulkStoreRange` calls of the favor loop are consecutive
pieces `[0, c₁), [c₁, c₂), …` (`favorPieces`: sorted cut points from 0, the last one = `stored_end`),
and the shared index handed to job `j` is C19's `runPieces` over them — e.g. for a `BasicHasher`, by
C19 `partition_irrelevant_basic`, the one-position-at-a-time index of `[0, stored_end)`. -/
theorem shared_index_is_partition (P : BasicP) (hP : P.Ok) (len : Nat) (input : List Nat) (t n j : Nat) :
    Sorted 0 (favorPieces t n 7 j).1 ∧
    endOf 0 (favorPieces t n 7 j).1 = (prebuilt (basicModel P len) input t n 7 j).2 ∧
    (prebuilt (basicModel P len) input t n 7 j).1
      = forRange (Basic.store P (toBA input) (2 ^ 64 - 1)) 0 (prebuilt (basicModel P len) input t n 7 j).2
          (Array.replicate len 0) := by
  have hp := prebuilt_is_partition (Basic.bulkStoreRange P) (Array.replicate len 0) input t n 7 j
  have hs := favorPieces_sorted t n 7 j
  have hpart := BV.Props.C19.partition_irrelevant_basic P hP (toBA input) 64 0 (favorPieces t n 7 j).1 hs.1
    (Array.replicate len 0)
  have hm : USIZE_MAX = 2 ^ 64 - 1 := usize_max_eq
  have hp' : prebuilt (basicModel P len) input t n 7 j =
      (runPieces (Basic.bulkStoreRange P (toBA input) USIZE_MAX) (Basic.bulkStoreRange P (toBA input) USIZE_MAX) 0
        (favorPieces t n 7 j).1 (Array.replicate len 0), (favorPieces t n 7 j).2) := hp
  refine ⟨hs.1, by rw [hp', hs.2], ?_⟩
  rw [hp']
  dsimp only
  rw [hm]
  have hsr : Basic.storeRange P (toBA input) (2 ^ 64 - 1) = Basic.bulkStoreRange P (toBA input) (2 ^ 64 - 1) := rfl
  rw [hsr] at hpart
  rw [hpart, hs.2, Nat.sub_zero]

/-- one `BuildsOK` for each kind `ChooseHasher` selects at quality 2..9, with the tables `InitializeH2..H9` allocate.
The four table lengths are the literals of `InitializeH2..H54` (encode.rs): `65537 + 8`, `65538 + 8`, `131072 + 8`,
`1048580 + 8`; what is needed of them is `2 ^ bucket_bits + sweep ≤ len` (`hb` below) -/
structure RealKindsBuild : Prop where
  h2 : BuildsOK (basicModel H2 65545) 7 (fun b => b.size = 65545)
  h3 : BuildsOK (basicModel H3 65546) 7 (fun b => b.size = 65546)
  h4 : BuildsOK (basicModel H4 131080) 7 (fun b => b.size = 131080)
  h54 : BuildsOK (basicModel H54 1048588) 7 (fun b => b.size = 1048588)
  adv32 : ∀ bucketBits blockBits, bucketBits + blockBits ≤ 32 →
    BuildsOK (advModel (adv32P bucketBits blockBits)) 3 (fun _ => True)
  adv64 : ∀ bucketBits blockBits hashLen, bucketBits + blockBits ≤ 32 →
    BuildsOK (advModel (adv64P bucketBits blockBits hashLen)) 7 (fun _ => True)
  h9 : BuildsOK (h9Model H9std) 3 (fun _ => True)

theorem real_kinds_build : RealKindsBuild := by
  have hb : ∀ (hl bb sweep len : Nat), bb ≤ 64 → 2 ^ bb + sweep ≤ len →
      ∀ w, (basicP bb sweep hl).hash w % U32 + (basicP bb sweep hl).sweep ≤ len := by
    intro hl bb sweep len h1 h2 w
    have := basicHash_lt hl bb h1 w
    have hm : basicHash hl bb w % U32 ≤ basicHash hl bb w := Nat.mod_le _ _
    simp only [basicP]
    omega
  exact ⟨basic_buildsOK H2_ok (by decide) 65545 (hb 5 16 1 65545 (by decide) (by decide)),
    basic_buildsOK H3_ok (by decide) 65546 (hb 5 16 2 65546 (by decide) (by decide)),
    basic_buildsOK H4_ok (by decide) 131080 (hb 5 17 4 131080 (by decide) (by decide)),
    basic_buildsOK H54_ok (by decide) 1048588 (hb 7 20 4 1048588 (by decide) (by decide)),
    fun bb kb h => adv_buildsOK (adv32P_ok bb kb h) (adv32_key_lt bb kb (by omega)) (blockMask_lt kb) (by show 1 ≤ 4; decide),
    fun bb kb hlen h => adv_buildsOK (adv64P_ok bb kb hlen h) (adv64_key_lt bb kb hlen (by omega)) (blockMask_lt kb)
      (by show 1 ≤ 8; decide),
    h9_buildsOK h9std_key_lt⟩

/-- `favor_branch_never_panics`.  The shared index is built on the CALLING thread (before the last
job runs): a panic there would be a panic of `CompressMulti` that no job caused — the model
`BV.Multi.compressMulti` has no site for it.  Justification: for every kind `ChooseHasher` selects at
quality 2..9, every thread count `t ≥ 1`, every job `j ≤ t` and every input of `n` bytes (`n` a
`usize`), the index handed to job `j` is `some` table(s): every `Store` of the loop reads its
look-ahead window inside `input[.. range.end)` and writes inside the tables `InitializeH2..H9`
allocate (hash values stay below the bucket count; table lengths as allocated). -/
theorem favor_branch_never_panics (input : List Nat) (t n j : Nat) (ht : 0 < t) (hj : j ≤ t)
    (hn : n ≤ input.length) (hn64 : n ≤ 2 ^ 64) :
    (∃ b, (prebuilt (basicModel H2 65545) input t n 7 j).1 = some b ∧ b.size = 65545) ∧
    (∃ b, (prebuilt (basicModel H3 65546) input t n 7 j).1 = some b ∧ b.size = 65546) ∧
    (∃ b, (prebuilt (basicModel H4 131080) input t n 7 j).1 = some b ∧ b.size = 131080) ∧
    (∃ b, (prebuilt (basicModel H54 1048588) input t n 7 j).1 = some b ∧ b.size = 1048588) ∧
    (∀ bucketBits blockBits, bucketBits + blockBits ≤ 32 →
      ∃ st, (prebuilt (advModel (adv32P bucketBits blockBits)) input t n 3 j).1 = some st) ∧
    (∀ bucketBits blockBits hashLen, bucketBits + blockBits ≤ 32 →
      ∃ st, (prebuilt (advModel (adv64P bucketBits blockBits hashLen)) input t n 7 j).1 = some st) ∧
    (∃ st, (prebuilt (h9Model H9std) input t n 3 j).1 = some st) := by
  have K := real_kinds_build
  have go : ∀ {σ : Type} {M : HasherModel (Option σ)} {ov : Nat} {Q : σ → Prop}, BuildsOK M ov Q →
      ∃ st, (prebuilt M input t n ov j).1 = some st ∧ Q st := fun K => K.shared input t n j ht hj hn hn64
  exact ⟨go K.h2, go K.h3, go K.h4, go K.h54, fun bb kb h => (go (K.adv32 bb kb h)).imp fun _ h => h.1,
    fun bb kb hl h => (go (K.adv64 bb kb hl h)).imp fun _ h => h.1, (go K.h9).imp fun _ h => h.1⟩

/-- `job_dictionary_indexing_never_panics`: the same for the index a job builds ITSELF in
`set_custom_dictionary…` (`StoreLookaheadThenStore` over the kept part of its prefix) — every kind
of quality 2..9, every prefix length `size ≤ input.len()`, truncated to the window or not: the
result is `some` table(s).  With `favor_branch_never_panics`: whichever index the job's encoder ends
up holding (`jobIndex`: its own, or the handed one), building it did not panic. -/
theorem job_dictionary_indexing_never_panics (input : List Nat) (size lgwin quality : Nat)
    (hsz : size ≤ input.length) (h64 : size ≤ 2 ^ 64) :
    (∃ st, selfbuilt (basicModel H2 65545) input size lgwin quality 7 = some st) ∧
    (∃ st, selfbuilt (basicModel H3 65546) input size lgwin quality 7 = some st) ∧
    (∃ st, selfbuilt (basicModel H4 131080) input size lgwin quality 7 = some st) ∧
    (∃ st, selfbuilt (basicModel H54 1048588) input size lgwin quality 7 = some st) ∧
    (∀ bucketBits blockBits, bucketBits + blockBits ≤ 32 →
      ∃ st, selfbuilt (advModel (adv32P bucketBits blockBits)) input size lgwin quality 3 = some st) ∧
    (∀ bucketBits blockBits hashLen, bucketBits + blockBits ≤ 32 →
      ∃ st, selfbuilt (advModel (adv64P bucketBits blockBits hashLen)) input size lgwin quality 7 = some st) ∧
    (∃ st, selfbuilt (h9Model H9std) input size lgwin quality 3 = some st) := by
  have K := real_kinds_build
  have go : ∀ {σ : Type} {M : HasherModel (Option σ)} {ov : Nat} {Q : σ → Prop}, BuildsOK M ov Q →
      ∃ st, selfbuilt M input size lgwin quality ov = some st := fun K => K.own input size lgwin quality hsz h64
  exact ⟨go K.h2, go K.h3, go K.h4, go K.h54, fun bb kb h => go (K.adv32 bb kb h), fun bb kb hl h => go (K.adv64 bb kb hl h),
    go K.h9⟩

/-- the bound on the input is needed: with fewer bytes than `get_range` was told the look-ahead
window of the last stored position leaves the slice and `BulkStoreRange` panics (toy kind; the real
code passes `input.len()` itself, so `n = input.length`) -/
example : (prebuilt (basicModel toyP 16) ((List.range 36).map (· * 37 % 251)) 3 60 7 2).1 = none := by
  decide +kernel

end BV.Props.C06Hasher
