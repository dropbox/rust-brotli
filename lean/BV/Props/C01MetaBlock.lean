/-
C01 (second module) — the compressed meta-block writers of quality ≤ 3 round-trip.

`BV/Props/C01.lean` assumes of the payload encoder that "the bits of a compressed meta-block decode to the input range"
(`MetaBlockDecodes.payload`, over an abstract decoding relation).  Here that sentence is proved, against the RFC reader, for
the two simplest real writers, `BrotliStoreMetaBlockTrivial` (quality 3) and `BrotliStoreMetaBlockFast` (quality ≤ 2).  No
declaration joins the two: a `MetaBlockDecodes` is not built from these theorems.

Model: `BV/Model/MetaBlock.lean` (`storeCompressedMetaBlockHeader`, `buildHistograms`, `storeData`,
`storeMetaBlockTrivial`, `storeMetaBlockFast`), composed from the models of C17 (`buildAndStoreHuffmanTree`,
`buildAndStoreHuffmanTreeFast`), C18 (`getInsertLengthCode`, `getCopyLengthCode`, `copyLenCode`, `encodeMlen`)
and the raw command record of C14.  SPEC side, written from RFC 7932 independently of the writers:
`readMetaBlockFull` / `readMetaBlocks` = §9.2 header (`BV.HeaderSpec.readMetaBlock`, C08/C15) → NBLTYPES×3 / NPOSTFIX / NDIRECT /
context mode / NTREES×2 (restricted to one block type and one tree per category) → three prefix codes
(`readCode`: C17's §3.4/§3.5 reader `readPrefixCode`, NSYM = 1 read here) → the §9.3/§10 command loop
`readCommands` (insert-and-copy symbol, extra bits, literals, distance symbol — implied 0 for symbols < 128 —,
ring of last distances `rfcDistance`, LZ77 copy or static-dictionary word) until MLEN bytes are produced →
zero padding to the byte boundary after the last meta-block.

What is assumed of a command array (all three are Bool-valued and evaluated by the correspondence run on
every command array the real match finders produced, `metablock hyp` lines):
* `cmdOK`   — each command is one `Command::init` / `init_insert` could have built (C18 / C14 `init_commands_are_wf`):
              command symbol = `get_length_code` of its lengths, lengths in range, symbol < 128 only with distance
              symbol 0, distance symbol inside the alphabet, NDISTBITS field and extra bits consistent;
* `lockstep`— the RFC decoder (C14 `decStep`) accepts the array and the writer's position bookkeeping
              (`pos += insert_len + copy_len()`) agrees with the decoder's cursor before every command; a command whose
              insert part completes the meta-block is the last one and has `copy_len() = 0`;
* `replayCommands … = some (history ++ mb)` — C14's payload hypothesis: the decoder run on the raw commands
              reproduces the meta-block bytes.
Histograms: nothing is assumed.  `BuildHistograms` is modelled and proved to count exactly the literal bytes,
command symbols and distance symbols written (`buildHistograms_inv`); the totals are ≤ MLEN + 1 ≤ 2^24 + 1,
which is below the 2^25 bound C17 needs for its no-`u32`-wrap hypothesis.
-/
import BV.Lemmas.MetaBlockWmbi
import BV.Lemmas.MetaBlockFast

namespace BV.Props.C01MetaBlock
open BV.Gen BV.Bits BV.Huffman BV.PrefixArith BV.Recoder BV.MetaBlock BV.HeaderSpec

/-- **header_roundtrip** — `StoreCompressedMetaBlockHeader(is_last, length)` for every `1 ≤ length ≤ 2^24`
and both values of `is_last`, behind any already written bits `w` and before any following bits `rest`:
no `BrotliWriteBits` / `BrotliEncodeMlen` assertion fails, and the RFC 7932 §9.2 reader (ISLAST, ISLASTEMPTY,
MNIBBLES, MLEN − 1 with the minimal-nibbles check, ISUNCOMPRESSED) returns "compressed meta-block of `length`
bytes, ISLAST as written" and stops exactly behind the header. -/
theorem header_roundtrip (isLast : Bool) (length : Nat) (w rest : List Bool) (h1 : 1 ≤ length)
    (h2 : length ≤ 2 ^ 24) :
    ∃ hb, storeCompressedMetaBlockHeader isLast length w = .ok (w ++ hb) ∧
      readMetaBlock w.length (hb ++ rest) = some (MetaBlock.compressed length isLast, w.length + hb.length, rest) :=
  ⟨headerBits isLast length, storeHeader_ok isLast length w h1 h2, readHeader_ok isLast length w.length rest h1 h2⟩

example : storeCompressedMetaBlockHeader true 65537 [] =
    .ok ([true, false] ++ bitsOf 2 1 ++ bitsOf 20 65536) := by decide

theorem distAlphabet_values (large : Bool) :
    distAlphabetSize large 0 0 = (if large then 140 else 64) := by cases large <;> rfl

/-- **trivial_metablock_roundtrip** — `BrotliStoreMetaBlockTrivial` (quality 3).
For EVERY ring buffer / mask / start position holding the meta-block bytes `mb` (`1 ≤ |mb| ≤ 2^24`, wrapped or
not; `hIP`: the two slices `InputPairFromMaskedInput` takes are inside the buffer — true for a ring of exactly
`mask + 1` bytes and `|mb| ≤` its size, `BV.MetaBlock.inputPairCheck_ok`), every command array
satisfying `cmdOK` and `lockstep`, every history (`hist` = custom-dictionary tail ++ earlier output), distance
ring `dc`, window, static-dictionary oracle, standard or large-window distance alphabet, `is_last`, and already
written bits `w`:
* the model of the writer does NOT PANIC (no slice index out of range, no `BrotliWriteBits` / `BrotliEncodeMlen`
  assertion, every Huffman tree construction terminates) and appends some `bits` to `w`;
* for whatever bits `rest` follow, the RFC reader, started at bit position `|w|` with the decoder state
  `(hist, dc)`, accepts `bits ++ rest`, stops exactly behind `bits` (behind the zero padding when `is_last`),
  reports ISLAST as written and the position `|w ++ bits|`;
* its output is what C14's RFC decoder `replayCommands` produces from the raw commands — hence, with C14's
  payload hypothesis `replayCommands … = some (hist ++ mb)`, exactly `hist ++ mb`. -/
theorem trivial_metablock_roundtrip (wo : WordOracle) (window : Nat) (large : Bool) (ring : Bytes)
    (start mask : Nat) (mb : Bytes) (isLast : Bool) (cmds : List Cmd) (hist : Bytes) (dc : List Int)
    (w : List Bool)
    (hR : RingHolds ring mask start mb) (h256 : ∀ b ∈ mb, b < 256)
    (h1 : 1 ≤ mb.length) (h2 : mb.length ≤ 2 ^ 24) (hst : start < 2 ^ 64)
    (hIP : inputPairCheck ring start mb.length mask = .ok ())
    (hok : ∀ c ∈ cmds, cmdOK (distAlphabetSize large 0 0) 0 0 c = true)
    (hlock : lockstep wo 0 0 window mb ⟨hist, dc, 0⟩ 0 cmds = true) :
    ∃ bits out ring',
      storeMetaBlockTrivial ring start mb.length mask isLast (distAlphabetSize large 0 0) cmds w = .ok (w ++ bits) ∧
      replayCommands wo 0 0 window mb dc hist cmds = some out ∧
      (∀ rest, readMetaBlockFull wo window large w.length ⟨hist, dc⟩ (bits ++ rest)
        = some (⟨out, ring'⟩, isLast, (w ++ bits).length, rest)) ∧
      (replayCommands wo 0 0 window mb dc hist cmds = some (hist ++ mb) → out = hist ++ mb) := by
  obtain ⟨bits, fin, e, hdec, _, hrd⟩ := trivial_core wo window large ring start mask mb isLast cmds hist dc w
    hR h256 h1 h2 (by unfold two64; simpa using hst) hIP hok hlock
  refine ⟨bits, fin.out, fin.ring, e, ?_, hrd, ?_⟩
  · unfold replayCommands; rw [hdec]; rfl
  · intro hp
    unfold replayCommands at hp
    rw [hdec] at hp
    simpa using hp

/-- **fast_metablock_roundtrip** — `BrotliStoreMetaBlockFast` (quality ≤ 2), BOTH branches: `n_commands ≤ 128`
with the standard distance alphabet (literal code from `BrotliBuildAndStoreHuffmanTreeFast`, the static command code of
`StoreStaticCommandHuffmanTree` and the static distance code of `StoreStaticDistanceHuffmanTree`) and otherwise
(three codes from the fast builder).  Same statement as `trivial_metablock_roundtrip`: no panic, the RFC reader
consumes exactly the emitted bits and outputs what `replayCommands` outputs.
(Before the fix `5ef5adf` of /repo the static branch was also taken with the 140-symbol large-window alphabet and
panicked on a distance symbol ≥ 64 — `/verif/proposed/fast-static-distance-large-window.md`.) -/
theorem fast_metablock_roundtrip (wo : WordOracle) (window : Nat) (large : Bool) (ring : Bytes)
    (start mask : Nat) (mb : Bytes) (isLast : Bool) (cmds : List Cmd) (hist : Bytes) (dc : List Int)
    (w : List Bool)
    (hR : RingHolds ring mask start mb) (h256 : ∀ b ∈ mb, b < 256)
    (h1 : 1 ≤ mb.length) (h2 : mb.length ≤ 2 ^ 24) (hst : start < 2 ^ 64)
    (hIP : inputPairCheck ring start mb.length mask = .ok ())
    (hok : ∀ c ∈ cmds, cmdOK (distAlphabetSize large 0 0) 0 0 c = true)
    (hlock : lockstep wo 0 0 window mb ⟨hist, dc, 0⟩ 0 cmds = true) :
    ∃ bits out ring',
      storeMetaBlockFast ring start mb.length mask isLast (distAlphabetSize large 0 0) cmds w = .ok (w ++ bits) ∧
      replayCommands wo 0 0 window mb dc hist cmds = some out ∧
      (∀ rest, readMetaBlockFull wo window large w.length ⟨hist, dc⟩ (bits ++ rest)
        = some (⟨out, ring'⟩, isLast, (w ++ bits).length, rest)) ∧
      (replayCommands wo 0 0 window mb dc hist cmds = some (hist ++ mb) → out = hist ++ mb) := by
  obtain ⟨bits, fin, e, hdec, _, hrd⟩ := fast_core wo window large ring start mask mb isLast cmds hist dc w
    hR h256 h1 h2 (by unfold two64; simpa using hst) hIP hok hlock
  refine ⟨bits, fin.out, fin.ring, e, ?_, hrd, ?_⟩
  · unfold replayCommands; rw [hdec]; rfl
  · intro hp
    unfold replayCommands at hp
    rw [hdec] at hp
    simpa using hp

/-- regression witness for the large-window fix `5ef5adf`: the command `Command::new` builds for insert 1, copy 7,
distance 2^26 + 5 (distance symbol 64, 25 extra bits) satisfies `cmdOK`; the fast writer, which before the fix indexed the
64-entry static distance code with it and panicked, takes the built-codes branch and returns -/
theorem fast_writer_large_window_symbol_64 :
    cmdOK 140 0 0 ⟨1, 7, 8, 141, 25664⟩ = true ∧
    (storeMetaBlockFast [65, 65, 65, 65, 65, 65, 65, 65] 0 8 7 true 140 [⟨1, 7, 8, 141, 25664⟩] []).bind
      (fun w => .ok w.length) = .ok 96 := by
  constructor
  · decide
  · decide +kernel

theorem readMetaBlocks_step (wo : WordOracle) (window : Nat) (large : Bool) (pos pos' : Nat) (s s' : RdSt)
    (bits rest : List Bool) (f : Nat) (h : ReadsTo wo window large pos s bits false pos' s') :
    readMetaBlocks wo window large (f + 1) pos s (bits ++ rest) = readMetaBlocks wo window large f pos' s' rest := by
  simp only [readMetaBlocks, h rest]

theorem readMetaBlocks_last (wo : WordOracle) (window : Nat) (large : Bool) (pos pos' : Nat) (s s' : RdSt)
    (bits rest : List Bool) (f : Nat) (h : ReadsTo wo window large pos s bits true pos' s') :
    readMetaBlocks wo window large (f + 1) pos s (bits ++ rest) = some (s', rest) := by
  simp only [readMetaBlocks, h rest]

open BV.Stored (writeMetaBlockInternal MbOracle) in
/-- **wmbi_trivial_roundtrip** — `WriteMetaBlockInternal` at quality 3 (model of its size decision:
`BV.Stored.writeMetaBlockInternal`, C08 `guard_holds`; compressed attempt = `BrotliStoreMetaBlockTrivial`).
For EVERY verdict of `should_compress`, appendable / catable / last or not: the attempt is written without panic,
the call returns, and what it leaves in the storage — the compressed meta-block, or the stored one when the attempt
was not tried or is more than `len + 4` bytes long, plus the separate empty last meta-block of appendable streams —
is read by the RFC reader from the decoder state `(hist, dc)` to a state whose output is `hist ++ mb`:
as one non-last meta-block if the stream goes on, as the end of the stream if `actual_is_last`.
(`w.length < 256`: the staging storage holds at most the stream head and 7 carry bits, C08 `headLen_lt_256`.) -/
theorem wmbi_trivial_roundtrip (wo : WordOracle) (window : Nat) (large : Bool) (ring : Bytes)
    (start mask : Nat) (mb : Bytes) (appendable catable actualIsLast shouldCompress : Bool) (cmds : List Cmd)
    (hist : Bytes) (dc : List Int) (w : List Bool)
    (hR : RingHolds ring mask start mb) (h256 : ∀ b ∈ mb, b < 256)
    (h1 : 1 ≤ mb.length) (h2 : mb.length ≤ 2 ^ 24) (hst : start < 2 ^ 64)
    (hIP : inputPairCheck ring start mb.length mask = .ok ())
    (hok : ∀ c ∈ cmds, cmdOK (distAlphabetSize large 0 0) 0 0 c = true)
    (hlock : lockstep wo 0 0 window mb ⟨hist, dc, 0⟩ 0 cmds = true)
    (hpay : replayCommands wo 0 0 window mb dc hist cmds = some (hist ++ mb))
    (hcat : catable = true → appendable = true) (hw : w.length < 256) :
    ∃ att r bits s'',
      storeMetaBlockTrivial ring start mb.length mask (if appendable then false else actualIsLast)
        (distAlphabetSize large 0 0) cmds w = .ok (w ++ att) ∧
      writeMetaBlockInternal appendable catable actualIsLast mb ⟨shouldCompress, att⟩ w = .ok r ∧
      r.fin = w ++ bits ∧ s''.out = hist ++ mb ∧
      (actualIsLast = true → ∀ rest f,
        readMetaBlocks wo window large (f + 2) w.length ⟨hist, dc⟩ (bits ++ rest) = some (s'', rest)) ∧
      (actualIsLast = false → ReadsTo wo window large w.length ⟨hist, dc⟩ bits false (w.length + bits.length) s'') := by
  obtain ⟨att, out, ring', e, _, hrd, hout⟩ := trivial_metablock_roundtrip wo window large ring start mask mb
    (if appendable then false else actualIsLast) cmds hist dc w hR h256 h1 h2 hst hIP hok hlock
  have ho := hout hpay
  obtain ⟨r, bits, s'', a1, a2, a3, a4, a5⟩ := wmbi_reads wo window large appendable catable actualIsLast mb
    ⟨shouldCompress, att⟩ w ⟨hist, dc⟩ ⟨out, ring'⟩ hcat h1 h2 hw h256 ho
    (fun _ => by intro rest; rw [hrd rest, List.length_append])
  exact ⟨att, r, bits, s'', e, a1, a2, a3, a4, a5⟩

open BV.Stored (writeMetaBlockInternal MbOracle) in
/-- **wmbi_fast_roundtrip** — the same for quality 2 (compressed attempt = `BrotliStoreMetaBlockFast`) -/
theorem wmbi_fast_roundtrip (wo : WordOracle) (window : Nat) (large : Bool) (ring : Bytes)
    (start mask : Nat) (mb : Bytes) (appendable catable actualIsLast shouldCompress : Bool) (cmds : List Cmd)
    (hist : Bytes) (dc : List Int) (w : List Bool)
    (hR : RingHolds ring mask start mb) (h256 : ∀ b ∈ mb, b < 256)
    (h1 : 1 ≤ mb.length) (h2 : mb.length ≤ 2 ^ 24) (hst : start < 2 ^ 64)
    (hIP : inputPairCheck ring start mb.length mask = .ok ())
    (hok : ∀ c ∈ cmds, cmdOK (distAlphabetSize large 0 0) 0 0 c = true)
    (hlock : lockstep wo 0 0 window mb ⟨hist, dc, 0⟩ 0 cmds = true)
    (hpay : replayCommands wo 0 0 window mb dc hist cmds = some (hist ++ mb))
    (hcat : catable = true → appendable = true) (hw : w.length < 256) :
    ∃ att r bits s'',
      storeMetaBlockFast ring start mb.length mask (if appendable then false else actualIsLast)
        (distAlphabetSize large 0 0) cmds w = .ok (w ++ att) ∧
      writeMetaBlockInternal appendable catable actualIsLast mb ⟨shouldCompress, att⟩ w = .ok r ∧
      r.fin = w ++ bits ∧ s''.out = hist ++ mb ∧
      (actualIsLast = true → ∀ rest f,
        readMetaBlocks wo window large (f + 2) w.length ⟨hist, dc⟩ (bits ++ rest) = some (s'', rest)) ∧
      (actualIsLast = false → ReadsTo wo window large w.length ⟨hist, dc⟩ bits false (w.length + bits.length) s'') := by
  obtain ⟨att, out, ring', e, _, hrd, hout⟩ := fast_metablock_roundtrip wo window large ring start mask mb
    (if appendable then false else actualIsLast) cmds hist dc w hR h256 h1 h2 hst hIP hok hlock
  have ho := hout hpay
  obtain ⟨r, bits, s'', a1, a2, a3, a4, a5⟩ := wmbi_reads wo window large appendable catable actualIsLast mb
    ⟨shouldCompress, att⟩ w ⟨hist, dc⟩ ⟨out, ring'⟩ hcat h1 h2 hw h256 ho
    (fun _ => by intro rest; rw [hrd rest, List.length_append])
  exact ⟨att, r, bits, s'', e, a1, a2, a3, a4, a5⟩

theorem ringHolds_of_check (ring : Bytes) (mask start : Nat) (mb : Bytes)
    (h : ((List.range mb.length).all fun k => getAt ring (posOf start k &&& mask) == .ok (mb.getD k 0)) = true) :
    RingHolds ring mask start mb := by
  intro k hk
  rw [List.all_eq_true] at h
  have := h k (List.mem_range.mpr hk)
  simpa using this

/-! non-vacuity: a command array the real encoder produced (quality 5, lgwin 10: two copies through short distance
codes, the second one ends the meta-block), in a 32-byte ring at a wrapping position -/
def exMb : Bytes := [0x69, 0x8e, 0x69, 0x69, 0x8e, 0x69, 0x8e, 0x69, 0x69, 0x8e, 0x69, 0x8e, 0x69, 0x69, 0x8e,
  0x69, 0x8e, 0x69, 0x69, 0x8e, 0x69]
def exRing : Bytes := [0x69, 0x8e, 0x69, 0x8e, 0x69, 0x69, 0x8e, 0x69, 0, 0, 0, 0, 0, 0, 0, 0, 0, 0, 0,
  0x69, 0x8e, 0x69, 0x69, 0x8e, 0x69, 0x8e, 0x69, 0x69, 0x8e, 0x69, 0x8e, 0x69]
def exCmds : List Cmd := [⟨5, 10, 0, 232, 5⟩, ⟨0, 6, 0, 132, 3⟩]
def noWords : WordOracle := fun _ _ _ => none

example : RingHolds exRing 31 19 exMb ∧ (∀ b ∈ exMb, b < 256) ∧ 1 ≤ exMb.length ∧ exMb.length ≤ 2 ^ 24 ∧
    inputPairCheck exRing 19 exMb.length 31 = .ok () ∧
    (∀ c ∈ exCmds, cmdOK (distAlphabetSize false 0 0) 0 0 c = true) ∧
    lockstep noWords 0 0 1008 exMb ⟨[], [4, 11, 15, 16], 0⟩ 0 exCmds = true ∧
    replayCommands noWords 0 0 1008 exMb [4, 11, 15, 16] [] exCmds = some ([] ++ exMb) :=
  ⟨ringHolds_of_check _ _ _ _ (by decide), by decide, by decide, by decide, by decide, by decide, by decide, by decide⟩

end BV.Props.C01MetaBlock
