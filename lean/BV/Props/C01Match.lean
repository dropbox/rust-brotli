/-
C01Match — the match finders of the payload encoder only emit sound copies or static-dictionary
references, and a command built from a sound copy replays to the matched bytes.
(Supports C01's mechanism "match finders only emit distances <= min(position, 2^lgwin-16) or
static-dictionary references"; C01 itself is BV/Props/C01.lean.)

Model: BV/Model/MatchFinder.lean (`FindLongestMatch` of `BasicHasher`
H2/H3/H4/H54, `AdvHasher` H5/H5q5/H5q7/H6, `H9`; the match-length functions; `TestStaticDictionaryItem`
/ `SearchInStaticDictionary` with the dictionary lookup as an oracle; `ComputeDistanceCode`,
`Command::init`, the command-building step of `CreateBackwardReferences`), over BV/Model/Hasher.lean
(tables, hash functions as parameters).  Decoder side (independent spec): `BV.Recoder.decStep`,
`rfcDistance`, `rfcDistDecode` (RFC 7932 sections 4 and 5 as used by C14/C18).

The `match_sound_*` theorems and `distance_code_sound` hold for EVERY table content (stale, wrapped, future or
self-referencing entries, any counters), EVERY distance cache, EVERY data buffer and mask:
soundness does not depend on what is in the hash table.
-/
import BV.Lemmas.CmdReplay
import BV.Lemmas.MatchTop

namespace BV.Props.C01Match
open BV.Hasher BV.MatchFinder BV.Recoder BV.PrefixArith

/-- what a successful search may return: a copy, or a reference into the static dictionary (`DictOK`).  `m` is the mask the
code applies to the earlier position; `4 ≤ max_length` holds in every call of the loop. -/
def SoundResult (dict : Option (List DictItem)) (data : ByteArray) (m mask curIx maxLength
    maxBackward maxDistance : Nat) (o : SR) : Prop :=
  (0 < o.distance ∧ o.distance ≤ maxBackward ∧ o.len ≤ maxLength ∧ o.lenXCode = 0 ∧
    (4 ≤ maxLength → 2 ≤ o.len) ∧
    Agree data ((curIx - o.distance) &&& m) (curIx &&& mask) o.len) ∨
  (∃ items, dict = some items ∧ DictOK items data (curIx &&& mask) maxLength maxBackward maxDistance o)

/-- the internal form (`∃ prev` with `distance = cur - prev` wrapping) in the clean form above -/
theorem soundResult_of_sound {dict : Option (List DictItem)} {data : ByteArray} {m mask curIx maxLength
    maxBackward maxDistance : Nat} {o : SR} (hc : curIx < 2 ^ 64) (hmb : maxBackward ≤ curIx)
    (hm : m < 2 ^ 64)
    (h : Sound dict data m (curIx &&& mask) curIx maxLength maxBackward maxDistance o) :
    SoundResult dict data m mask curIx maxLength maxBackward maxDistance o := by
  rcases h with ⟨h1, h2, h3, h4, h4b, prev, hp, hag⟩ | h
  · left
    refine ⟨h1, h2, h3, h4, h4b, ?_⟩
    have hU : U64 = 2 ^ 64 := by decide
    -- `distance = cur - prev (mod 2^64)` and `distance ≤ cur` pin down `prev mod 2^64`
    have hprev : prev % 2 ^ 64 = curIx - o.distance := by
      have hlt : prev % U64 < U64 := Nat.mod_lt _ (by decide)
      have := wsub_eq (a := curIx) (b := prev % U64) (by rw [hU]; exact hc) hlt
      have hw : wsub curIx prev = wsub curIx (prev % U64) := by
        unfold wsub; rw [Nat.mod_mod]
      rw [hw, this] at hp
      rw [hU] at hp hlt
      split at hp <;> omega
    have hand : prev &&& m = (curIx - o.distance) &&& m := by
      have h1 : (prev &&& m) % 2 ^ 64 = prev &&& m :=
        Nat.mod_eq_of_lt (Nat.lt_of_le_of_lt Nat.and_le_right hm)
      rw [← h1, Nat.and_mod_two_pow, hprev, Nat.mod_eq_of_lt hm]
    rw [← hand]; exact hag
  · exact Or.inr h

/-- BasicHasher (H2, H3, H4, H54): whatever `FindLongestMatch` returns with `true` is a sound
copy or a dictionary reference — for every table, every distance cache (the cached last distance
is window-checked like every other candidate), every buffer.  The earlier position is masked with
`ring_buffer_mask as u32` in this family.  (`by exact hc` here and below: the lemma asks for `curIx < U64`,
which is `hc` after unfolding `U64`; `by exact` is elaborated once that type is known.) -/
theorem match_sound_basic (P : BasicP) (useDict : Bool) (lbs : Nat) (dict : Option (List DictItem))
    (data : ByteArray) (mask : Nat) (cache : List Int) (curIx maxLength maxBackward maxDistance : Nat)
    (out o : SR) (b b' : Tab) (c c' : Common) (hc : curIx < 2 ^ 64) (hmb : maxBackward ≤ curIx)
    (h : Basic.findLongestMatch P useDict lbs dict data mask cache curIx maxLength maxBackward
      maxDistance out b c = some (true, o, b', c')) :
    SoundResult dict data (mask % U32) mask curIx maxLength maxBackward maxDistance o :=
  soundResult_of_sound hc hmb (Nat.lt_of_lt_of_le (Nat.mod_lt _ (by decide)) (by decide))
    (Basic.findLongestMatch_sound (by exact hc) h)

/-- AdvHasher (H5, H5q5, H5q7, H6), incl. the `backward == 0` skip: same statement, for every
`num`/`buckets` content -/
theorem match_sound_adv (P : AdvP) (numLast lbs : Nat) (dict : Option (List DictItem))
    (data : ByteArray) (mask : Nat) (hmask : mask < 2 ^ 64) (cache : List Int)
    (curIx maxLength maxBackward maxDistance : Nat)
    (out o : SR) (st st' : AdvSt) (c c' : Common) (hc : curIx < 2 ^ 64) (hmb : maxBackward ≤ curIx)
    (h : Adv.findLongestMatch P numLast lbs dict data mask cache curIx maxLength maxBackward
      maxDistance out st c = some (true, o, st', c')) :
    SoundResult dict data mask mask curIx maxLength maxBackward maxDistance o :=
  soundResult_of_sound hc hmb hmask (Adv.findLongestMatch_sound (by exact hc) h)

theorem match_sound_h9 (P : H9P) (lbs : Nat) (dict : Option (List DictItem))
    (data : ByteArray) (mask : Nat) (hmask : mask < 2 ^ 64) (cache : List Int)
    (curIx maxLength maxBackward maxDistance : Nat)
    (out o : SR) (st st' : AdvSt) (c c' : Common) (hc : curIx < 2 ^ 64) (hmb : maxBackward ≤ curIx)
    (h : H9.findLongestMatch P lbs dict data mask cache curIx maxLength maxBackward
      maxDistance out st c = some (true, o, st', c')) :
    SoundResult dict data mask mask curIx maxLength maxBackward maxDistance o :=
  soundResult_of_sound hc hmb hmask (H9.findLongestMatch_sound (by exact hc) h)

theorem match_without_dictionary_in_window {data : ByteArray} {m mask curIx maxLength maxBackward
    maxDistance : Nat} {o : SR}
    (h : SoundResult none data m mask curIx maxLength maxBackward maxDistance o) :
    0 < o.distance ∧ o.distance ≤ maxBackward ∧ o.len ≤ maxLength ∧ (4 ≤ maxLength → 2 ≤ o.len) ∧
      Agree data ((curIx - o.distance) &&& m) (curIx &&& mask) o.len := by
  rcases h with ⟨h1, h2, h3, _, h4b, h5⟩ | ⟨items, hi, _⟩
  · exact ⟨h1, h2, h3, h4b, h5⟩
  · cases hi

/-- `distance > max_backward` is how the decoder recognises a dictionary reference.  `hsmall`: the distance arithmetic
does not wrap — item is a `u16`, size_bits at most 31, positions far below 2^62. -/
theorem dict_reference_beyond_window {items : List DictItem} {data : ByteArray} {cm maxLength
    maxBackward maxDistance : Nat} {o : SR}
    (h : DictOK items data cm maxLength maxBackward maxDistance o)
    (hsmall : ∀ d ∈ items, maxBackward + (d.item >>> 5) + 1 + (100 <<< d.sizeBits) < 2 ^ 64) :
    maxBackward < o.distance ∧ o.distance ≤ maxDistance ∧ 0 < o.len ∧ o.len ≤ maxLength := by
  obtain ⟨d, hd, h1, h2, h3, _, h5, _, h7, h8, _, _⟩ := h
  have hs := hsmall d hd
  have hU : U64 = 2 ^ 64 := by decide
  have htid : ((d.item &&& 0x1f) - o.len) <<< 2 +
      ((kCutoffTransforms >>> (((d.item &&& 0x1f) - o.len) * 6)) &&& 0x3f) < 100 := by
    have : (kCutoffTransforms >>> (((d.item &&& 0x1f) - o.len) * 6)) &&& 0x3f ≤ 0x3f := Nat.and_le_right
    rw [Nat.shiftLeft_eq]
    omega
  have hmono : ∀ x y b : Nat, x ≤ y → x <<< b ≤ y <<< b := fun x y b hxy => by
    simp only [Nat.shiftLeft_eq]; exact Nat.mul_le_mul_right _ hxy
  have hshift := hmono _ _ d.sizeBits (Nat.le_of_lt htid)
  generalize (((d.item &&& 0x1f) - o.len) <<< 2 +
      ((kCutoffTransforms >>> (((d.item &&& 0x1f) - o.len) * 6)) &&& 0x3f)) <<< d.sizeBits = X at h7 hshift
  generalize 100 <<< d.sizeBits = Y at hs hshift
  rw [hU, Nat.mod_eq_of_lt (by omega)] at h7
  exact ⟨by omega, h8, h1, by omega⟩

/-- `ComputeDistanceCode` + `PrefixEncodeCopyDistance`: the distance symbol and extra bits of the
command denote, under the RFC 7932 section 4 rules (short codes 0–15 relative to the ring of
last distances, which is the encoder's distance cache; longer codes by `rfcDistDecode`), exactly
the backward distance; the decoder's "push onto the ring" flag equals the encoder's
`distance_code > 0` cache update rule. -/
theorem distance_code_sound (np nd distance maxDistance : Nat) (c0 c1 c2 c3 : Int)
    (rest : List Int) (hd1 : 1 ≤ distance) (hd : distance < 2 ^ 31)
    (hc : CacheI32 (c0 :: c1 :: c2 :: c3 :: rest)) :
    ∃ code, computeDistanceCode distance maxDistance (c0 :: c1 :: c2 :: c3 :: rest) = some code ∧
      code ≤ distance + 15 ∧ (distance > maxDistance → code = distance + 15) ∧
      rfcDistance np nd [c0, c1, c2, c3] (prefixEncodeCopyDistance code nd np).sym
        (prefixEncodeCopyDistance code nd np).extra = some ((distance : Int), decide (code ≠ 0)) :=
  computeDistanceCode_sound np nd distance maxDistance c0 c1 c2 c3 rest hd1 hd hc

/-- a command built (`Command::init` on `ComputeDistanceCode`) from a copy whose bytes match in
the text replays, under the RFC 7932 decoder step `decStep`, to exactly the next
`ins + len` bytes of the meta-block; the decoder's ring of last distances afterwards is the
encoder's updated distance cache. -/
theorem command_replays (w : WordOracle) (np nd window : Nat) (hp : np ≤ 3) (hnd : nd ≤ 120)
    (mb : Bytes) (s : DecSt) (sr : SR) (ins : Nat) (c0 c1 c2 c3 : Int) (rest : List Int)
    (hring : s.ring = [c0, c1, c2, c3]) (hc : CacheI32 (c0 :: c1 :: c2 :: c3 :: rest))
    (hins : ins < 2 ^ 32) (hroom : s.cursor + ins < mb.length) (hfit : s.cursor + ins + sr.len ≤ mb.length)
    (hlen : sr.len < 2 ^ 25) (hx : sr.lenXCode = 0)
    (hd1 : 1 ≤ sr.distance) (hdw : sr.distance ≤ min (s.out.length + ins) window) (hd31 : sr.distance + 15 < 2 ^ 31)
    (hmatch : ∀ k, k < sr.len →
      (s.out ++ (mb.drop s.cursor).take (ins + sr.len)).getD (s.out.length + ins + k) 0 =
      (s.out ++ (mb.drop s.cursor).take (ins + sr.len)).getD (s.out.length + ins - sr.distance + k) 0) :
    ∃ cmd cache', emitCommand np nd (s.out.length + ins) window ins sr (c0 :: c1 :: c2 :: c3 :: rest)
        = some (cmd, cache') ∧
      decStep w np nd window mb s cmd
        = some ⟨s.out ++ (mb.drop s.cursor).take (ins + sr.len), cache'.take 4, s.cursor + ins + sr.len⟩ :=
  let ⟨_, _, he, hs⟩ := BV.Cbr.emitCommand_copy w np nd window hp hnd mb s sr ins c0 c1 c2 c3 rest hring hc hins hroom hfit
    hlen hx hd1 hdw hd31 hmatch
  ⟨_, _, he, hs⟩

/-- a match found in the ring buffer is a match in the text, whenever both stretches are still held by the ring and the
match is at most one tail (input block) long: this is how the hypothesis `hmatch` of `command_replays` follows from
`match_sound_basic/_adv/_h9`.  The ring hypothesis is `RingViewW` (BV/Props/C01.lean, proved from `RingOK` by `ring_view_w`)
over `ringBytes data` = the bytes of the slice the hashers read. -/
theorem ring_match_is_text_match {data : ByteArray} {k tail : Nat} {T : Bytes} {lo hi : Nat}
    (hv : BV.Props.C01.RingViewW (ringBytes data) k tail T lo hi) (htail : tail ≤ 2 ^ k)
    {cur d len : Nat} (hd : d ≤ cur) (hlo : lo ≤ cur - d)
    (hhi : cur + len ≤ hi) (hlen : len ≤ tail) (hag : Agree data ((cur - d) % 2 ^ k) (cur % 2 ^ k) len) :
    ∀ j, j < len → T.getD (cur - d + j) 0 = T.getD (cur + j) 0 :=
  BV.MatchFinder.ring_match_is_text_match hv htail hd hlo hhi hlen hag

/-- the composition for AdvHasher: a `true` result without dictionary, found in a ring buffer that
holds the text produced so far plus the pending bytes of the meta-block, yields a command that the
RFC decoder turns into exactly those pending bytes. -/
theorem found_copy_replays (P : AdvP) (numLast lbs : Nat) (data : ByteArray) (k : Nat) (cache : List Int)
    (maxLength maxBackward maxDistance : Nat) (out o : SR) (st st' : AdvSt) (c c' : Common)
    (w : WordOracle) (np nd window : Nat) (hp : np ≤ 3) (hnd : nd ≤ 120)
    (mb : Bytes) (s : DecSt) (ins : Nat) (c0 c1 c2 c3 : Int) (rest : List Int) (lo hi tail : Nat)
    (hk : k ≤ 63) (hcur : s.out.length + ins < 2 ^ 64)
    (hmbw : maxBackward = min (s.out.length + ins) window)
    (hfound : Adv.findLongestMatch P numLast lbs none data (2 ^ k - 1) cache (s.out.length + ins) maxLength
      maxBackward maxDistance out st c = some (true, o, st', c'))
    (hv : BV.Props.C01.RingViewW (ringBytes data) k tail (s.out ++ (mb.drop s.cursor).take (ins + o.len)) lo hi)
    (htail : tail ≤ 2 ^ k) (hmt : maxLength ≤ tail)
    (hlo : lo ≤ s.out.length + ins - o.distance) (hhi : s.out.length + ins + o.len ≤ hi)
    (hring : s.ring = [c0, c1, c2, c3]) (hc : CacheI32 (c0 :: c1 :: c2 :: c3 :: rest))
    (hins : ins < 2 ^ 32) (hroom : s.cursor + ins < mb.length) (hfit : s.cursor + ins + o.len ≤ mb.length)
    (hlen : o.len < 2 ^ 25) (hd31 : o.distance + 15 < 2 ^ 31) :
    ∃ cmd cache', emitCommand np nd (s.out.length + ins) window ins o (c0 :: c1 :: c2 :: c3 :: rest)
        = some (cmd, cache') ∧
      decStep w np nd window mb s cmd
        = some ⟨s.out ++ (mb.drop s.cursor).take (ins + o.len), cache'.take 4, s.cursor + ins + o.len⟩ := by
  have hmask : 2 ^ k - 1 < 2 ^ 64 := by
    have : 2 ^ k ≤ 2 ^ 63 := Nat.pow_le_pow_right (by decide) hk
    omega
  have hs := match_sound_adv P numLast lbs none data (2 ^ k - 1) hmask cache (s.out.length + ins)
    maxLength maxBackward maxDistance out o st st' c c' hcur (by rw [hmbw]; exact Nat.min_le_left _ _) hfound
  obtain ⟨h1, h2, h3, _, h4⟩ := match_without_dictionary_in_window hs
  rcases hs with ⟨_, _, _, hx, _, _⟩ | ⟨_, hi', _⟩
  · rw [Nat.and_two_pow_sub_one_eq_mod, Nat.and_two_pow_sub_one_eq_mod] at h4
    have hdle : o.distance ≤ s.out.length + ins := by rw [hmbw] at h2; exact Nat.le_trans h2 (Nat.min_le_left _ _)
    have hm := BV.MatchFinder.ring_match_is_text_match hv htail hdle hlo hhi (by omega) h4
    exact command_replays w np nd window hp hnd mb s o ins c0 c1 c2 c3 rest hring hc hins hroom hfit hlen hx
      h1 (by rw [← hmbw]; exact h2) hd31 (fun j hj => (hm j hj).symm)
  · cases hi'

def toyP : BasicP := { sweep := 1, hash := fun w => w.headD 0 % 16 }
def toyData : ByteArray := ByteArray.mk ((Array.range 64).map fun i => (i % 8 * 17 + 3).toUInt8)
def toyCache : List Int := [0x7ffffff0, 0x7ffffff0, 0x7ffffff0, 0x7ffffff0]
def toyTab : Tab := (Array.replicate 24 0).set! 3 (2 ^ 31 + 32)

/-- the catable placeholder 0x7ffffff0 in the cache: with a window of 1008 the cached distance is
NOT taken (the window check `cached_backward <= max_backward` rejects it), a real candidate
in the bucket is; and the result is sound.  A 64-byte buffer, position 2^31 + 40. -/
example :
    Basic.findLongestMatch toyP false 540 none toyData 63 toyCache (2 ^ 31 + 40) 16 1008 0x3fffffc
      ⟨0, 0, 0, 2020⟩ toyTab ⟨0, 0⟩
      = some (true, ⟨16, 0, 8, 3990⟩, toyTab.set! 3 ((2 ^ 31 + 40) % U32), ⟨0, 0⟩) := by
  decide +kernel

/-- the hypotheses of `distance_code_sound` / `command_replays` are satisfiable: the initial cache -/
example : CacheI32 [4, 11, 15, 16] := by
  intro x hx
  simp at hx
  rcases hx with rfl | rfl | rfl | rfl <;> omega

/-- and `ComputeDistanceCode` on it: distance 12 = second-last + 1 is short code 11 -/
example : computeDistanceCode 12 1000 [4, 11, 15, 16] = some 11 := by decide +kernel

end BV.Props.C01Match
