import BV.Lemmas.StreamTinyFree
import BV.Lemmas.StreamRunSim
import BV.Lemmas.StreamStore
import BV.Lemmas.StreamRunTile
/-
C01 — Streaming compression round-trips for every input, setting and call history.

Model: `BV/Model/Stream.lean` (see C20).  The payload encoder is an oracle; this file says
exactly what is proved about everything AROUND it, and isolates what is assumed about it
(`OracleOK`: checked on every recorded invocation of every correspondence run;
`MetaBlockDecodes`: the un-modelled core, judged by the two decoders on every run).

Full statement of the property (not provable here): for every history of calls obeying the
contract, every call returns true without panicking, the stream finishes, and the concatenated
output decodes to the concatenated input.  What is proved: the call-level part (`calls_succeed`,
`finishes`), the tiling of the input by payload-encoder requests (`requests_tile_input`), the
bit-exact framing of everything the state machine emits around the payload encoder's bits
(`delivered_is_framed_concat_*`), the part of the property `stream_no_panic` (DESIGN.md; no declaration has
that name) about the 16-byte staging buffer and `storage_` (`tiny_buf_invariant`, `tiny_buf_never_overflows`,
`storage_invariant`, `storage_never_overflows`), and the composition `C01_roundtrip_partial`
under the explicit hypothesis that each payload piece decodes to its input range.  What of
`stream_no_panic` is not proved is listed in the note at the end.
-/
namespace BV.Props.C01
open BV.Stream BV.Bits

/-- **calls_succeed**: under the documented contract (`Contract.accepts`) every `compress_stream`
call that returns a value returns `true` — whatever the payload encoder answers -/
theorem calls_succeed {o : Oracle} {fuel op cap : Nat} {input : Bytes} {s s' : St} {io' : Io} {r : Bool}
    (hop : op ≤ 3) (hI : Inv s) (hw : s.inputPos + input.length < two64)
    (hc : Contract.accepts (absC s) op input.length = true)
    (h : compressStream o fuel s op input cap = .ok (s', io', r)) : r = true ∧ Inv s' := by
  obtain ⟨h1, h2⟩ := compressStream_refines hop hI hw h
  have hr : r = true := by rw [h1, hc]
  exact ⟨hr, (h2 hr).1⟩

/-- **finishes**: a FINISH call from `processing` that returns with nothing pending — in particular
any FINISH call that returns with output room left — has finished the stream: `is_finished()` holds
and all input is consumed.  (With `cap ≥ 1` per call this bounds the number of calls by
`⌈bytes still to deliver / cap⌉ + 1`; from `flushing` one more call.) -/
theorem finishes {o : Oracle} {fuel cap : Nat} {input : Bytes} {s s' : St} {io' : Io}
    (hI : Inv s) (hrm : s.remainingMetadata = u32Max) (hw : s.inputPos + input.length < two64)
    (hst : s.streamState = .processing)
    (h : compressStream o fuel s 2 input cap = .ok (s', io', true))
    (hroom : io'.availOut ≠ 0 ∨ s'.pending.length = 0) :
    isFinished s' = true ∧ io'.availIn = 0 := by
  obtain ⟨d1, d2⟩ := compressStream_drained (by omega) hI hw h
  have hp : s'.pending.length = 0 := by
    rcases hroom with hr | hp
    · exact d1 hr
    · exact hp
  have hD := d2 hp
  refine ⟨?_, hD.consumed⟩
  simp [isFinished, hD.finishDone rfl hst, hp]

/-- C20's `finished_call_is_identity`, stated with `is_finished()` -/
theorem finished_stays {o : Oracle} {fuel op cap : Nat} {s : St}
    (hop : op ≤ 2) (hI : Inv s) (hfin : isFinished s = true) :
    compressStream o (fuel + 1) s op [] cap = .ok (s, Io.start [] cap, true) := by
  have h1 : s.streamState = .finished ∧ s.pending.length = 0 := by simpa [isFinished] using hfin
  exact finished_call_exact hop hI h1.1 (List.eq_nil_of_length_eq_zero h1.2)

/-- **requests_tile_input** (per invocation): the request of an `encode_data` invocation is
`[last_processed_pos_, input_pos_)` (with `last_flush_pos_` = start of the open meta-block);
a successful invocation moves `last_processed_pos_` forward inside that range and never moves
`last_flush_pos_` past it; a forced one (FLUSH / FINISH / before metadata) leaves nothing unflushed.
Whole histories: `requests_tile_input_run`. -/
theorem requests_tile_input {o : Oracle} {s s' : St} {site : Nat} {il ff : Bool} {req : Req} (hI : Inv s)
    (h : encodeData o s site il ff = .ok (s', true, req)) :
    req.lo = s.lastProcessedPos ∧ req.hi = s.inputPos ∧ req.lf = s.lastFlushPos
    ∧ req.lo ≤ s'.lastProcessedPos ∧ s'.lastProcessedPos ≤ req.hi
    ∧ req.lf ≤ s'.lastFlushPos ∧ s'.lastFlushPos ≤ s'.lastProcessedPos
    ∧ s'.inputPos = s.inputPos
    ∧ ((il = true ∨ ff = true) → s'.lastFlushPos = req.hi ∧ s'.lastProcessedPos = req.hi) := by
  obtain ⟨f, hreq, _⟩ := encodeData_frame h
  obtain ⟨p1, p2, p3, p4⟩ := encodeData_pos h hI.fl_le hI.lp_le hI.ip_lt
  replace f := St.frame_eq f
  subst hreq
  refine ⟨rfl, rfl, rfl, p2, p3, p4, p1, f.inputPos, ?_⟩
  intro hf
  have := encodeData_forced h hf hI.lp_le hI.ip_lt hI.q01
  simp only [reqOf]
  omega

theorem input_pos_tracks_consumption {o : Oracle} {op : Nat} {s s' : St} {io io' : Io} {c : Ctl} (hI : Inv s)
    (hw : s.inputPos + io.availIn < two64) (hnp : s.streamState ≠ .processing → io.availIn = 0)
    (h : slowStep o op s io = .ok (s', io', c)) :
    s'.inputPos + io'.availIn = s.inputPos + io.availIn :=
  (slowStep_spec hI hw hnp h).2.1

/-- `carryOf w` is (`last_bytes_`, `last_bytes_bits_`), `wholeBytes w` what is delivered -/
theorem carry_neither_drops_nor_duplicates (w : Writer) :
    bytesBits (wholeBytes w) ++ bitsOf (carryOf w).2 (carryOf w).1 = w := pack_unpack w

/-- **delivered_is_framed_concat** (encode step): with nothing pending, a successful `encode_data`
appends to the emitted bit stream `skel ++ tail`, `skel` = the bits the state machine writes
itself (magic-number metadata block, stored catable prelude; may be empty) and `tail` = nothing
or the payload encoder's bits behind `skel` — bit-exactly, whatever the carry -/
theorem delivered_is_framed_concat_encode {o : Oracle} {d : Bytes} {s s' : St} {site : Nat} {il ff : Bool} {req : Req}
    (h : encodeData o s site il ff = .ok (s', true, req)) (hpend : s.pending = []) (hl : s.lastBytesBits < 8) :
    ∃ skel, emitted d s' = emitted d s ++ skel ∨
            emitted d s' = emitted d s ++ skel ++ (o s.nEnc req).bits.drop skel.length := by
  refine ⟨(encMid s il).2.drop s.carry.length, ?_⟩
  rw [emitted_encode h hpend, (encodeData_spec h).1]
  split
  · exact Or.inr (List.append_assoc _ _ _).symm
  · exact Or.inl (by rw [List.append_nil])

theorem delivered_is_framed_concat_push {d : Bytes} {s s' : St} {io io' : Io} {b : Bool}
    (hst : s.streamState ≠ .flushRequested) (h : injectFlushOrPushOutput s io = .ok (s', io', b)) :
    emitted (d ++ io'.out) s' = emitted (d ++ io.out) s := emitted_push hst h

theorem delivered_is_framed_concat_pad {d : Bytes} {s s' : St} (hc : s.lastBytesBits < 8) (hv : CarryOK s)
    (h : injectBytePaddingBlock s = .ok s') :
    emitted d s' = emitted d s ++ syncBits ++ List.replicate (8 * ((s.lastBytesBits + 6 + 7) / 8) - s.lastBytesBits - 6) false
    ∧ s'.lastBytesBits = 0 ∧ s'.lastBytes = 0 := by
  have hp := pad_pending h
  have hz : s'.lastBytesBits = 0 ∧ s'.lastBytes = 0 := by
    obtain ⟨nx, rfl⟩ := pad_result h
    exact ⟨rfl, rfl⟩
  refine ⟨?_, hz⟩
  have hsync := sync_block_bits_gen s.lastBytesBits s.lastBytes hv
  unfold emitted St.carry
  rw [hp, hz.1, hz.2, ← List.append_assoc, bytesBits_append, hsync, bytesBits_append]
  simp [bitsOf, List.append_assoc]

theorem carry_wellformed (w : Writer) : (carryOf w).1 < 2 ^ (carryOf w).2 ∧ (carryOf w).2 < 8 := carryOf_lt w

/-- **stream_no_panic**, partial (1): the invariant `TinyOK` — whenever the output cursor points
into `tiny_buf_`, the pending bytes fit behind it and there is no carry next to them; a null
cursor means nothing pending; no carry inside a metadata body — holds after initialisation and is
preserved by EVERY call (accepted or refused) and by `take_output`.  Hypotheses: the state
invariant and a carry of at most 14 bits (`carry_bound_invariant` of C20) — whatever the oracle
answers. -/
theorem tiny_buf_invariant {o : Oracle} {fuel op cap : Nat} {input : Bytes} {s s' : St} {io' : Io} {r : Bool}
    (hop : op ≤ 3) (hI : Inv s) (hw : s.inputPos + input.length < two64) (hl : s.lastBytesBits ≤ 14)
    (hT : TinyOK s)
    (h : compressStream o fuel s op input cap = .ok (s', io', r)) : TinyOK s' :=
  tinyOK_call hop hI hw hl hT h

theorem tiny_buf_invariant_initial {s : St} (h : IsFresh s) : TinyOK (ensureInitialized s) := tinyOK_fresh h

theorem tiny_buf_invariant_take {s s' : St} {size : Nat} {out : Bytes} (hT : TinyOK s)
    (h : takeOutput s size = .ok (s', out)) : TinyOK s' := tinyOK_take hT h

/-- **stream_no_panic**, partial (2): under `TinyOK` none of the four places that index
`tiny_buf_` can run past its 16 bytes: the padding block is either staged at `tiny_buf_[0..3]` or
appended behind pending output in `storage_` (never behind a stale `tiny_buf_` cursor — the panic
of /verif/proposed/tinybuf-stale-padding.md); a push and `take_output` stay inside; the metadata
header (carry ≤ 14 bits, length field ≤ 3 bytes) fits -/
theorem tiny_buf_never_overflows {s : St} (hT : TinyOK s) (hl : s.lastBytesBits ≤ 14) :
    (s.lastBytesBits ≠ 0 →
      injectBytePaddingBlock s = .ok (padResult s (.tiny 0)) ∨ (∃ off, s.nextOut = .dyn off ∧ s.pending.length ≠ 0))
    ∧ (∀ off (io : Io), s.nextOut = .tiny off → off + min s.pending.length io.availOut ≤ 16)
    ∧ (∀ off, s.nextOut = .tiny off → takeSliceOk s = true)
    ∧ ¬ ((bitsOf s.lastBytesBits s.lastBytes).length + 6) / 8 + 8 > 16 :=
  ⟨fun hlb => pad_tiny_safe hT hlb, fun off io hno => push_tiny_safe (io := io) hT hno,
   fun off hno => take_tiny_safe hT hno, md_header_tiny_safe hl⟩

/-- **storage_invariant**: `StoreOK` — whenever the output cursor points into `storage_`, the
pending bytes fit behind it, with two spare bytes as long as a padding block can still be appended
behind them, and the carry is below 8 bits — is preserved by EVERY call (accepted or refused),
whatever the oracle answers, and by `take_output`; it holds of a fresh encoder. -/
theorem storage_invariant {o : Oracle} {fuel op cap : Nat} {input : Bytes} {s s' : St} {io' : Io} {r : Bool}
    (hop : op ≤ 3) (hR : IsFresh s ∨ Inv s) (hw : s.inputPos + input.length < two64) (hS : StoreOK s)
    (h : compressStream o fuel s op input cap = .ok (s', io', r)) : StoreOK s' :=
  storeOK_call hop hR hw hS h

theorem storage_invariant_initial {s : St} (h : IsFresh s) : StoreOK s := storeOK_fresh h

theorem storage_invariant_take {s s' : St} {size : Nat} {out : Bytes} (hS : StoreOK s)
    (h : takeOutput s size = .ok (s', out)) : StoreOK s' := storeOK_take hS h

/-- **storage_never_overflows** (1), the sites that index `storage_` behind the cursor: under `StoreOK`
the padding block appended behind pending output, every push and `take_output` stay inside -/
theorem storage_never_overflows {s : St} (hS : StoreOK s) {off : Nat} (hno : s.nextOut = .dyn off) :
    (s.lastBytesBits ≠ 0 → s.pending.length ≠ 0 → off + s.pending.length + (s.lastBytesBits + 6 + 7) / 8 ≤ s.storageSize)
    ∧ (∀ avail, off + min s.pending.length avail ≤ s.storageSize)
    ∧ takeSliceOk s = true := by
  have hf := hS.fits off hno
  have hc := hS.carry off hno
  refine ⟨?_, ?_, ?_⟩
  · intro h1 h2
    rw [if_neg (by intro hh; rcases hh with hh | hh; exact h1 hh; exact h2 hh)] at hf
    omega
  · intro avail
    have : min s.pending.length avail ≤ s.pending.length := Nat.min_le_left _ _
    split at hf <;> omega
  · unfold takeSliceOk
    rw [hno]
    simp only [decide_eq_true_eq]
    split at hf <;> omega

/-- **storage_never_overflows** (2), `encode_data`: `get_brotli_storage(2 * span + 527)` is enough for
every answer within the `OracleOK` size bound (`≤ 8 * (2 * span + 500)` bits over a span of `span`
bytes), behind a carry of at most 14 bits, the magic-number block and the stored prelude: the only
way `encode_data` can panic is the catable-prelude assertion (`last_processed_pos_ < 2`). -/
theorem encode_data_storage_suffices {o : Oracle} {s : St} {site : Nat} {il ff : Bool} (hO : OracleOK o) (hsite : site ≠ 2)
    (hI : Inv s) (hl : s.lastBytesBits ≤ 14) (hsmall : s.inputPos < 4611686018427387904)
    (h : encodeData o s site il ff = .panic) :
    encPre3 (encMagic (encEntry s il) s.carry) (s.unprocessed % two32) = .panic :=
  encodeData_panic_only_prelude hO hsite hI hl hsmall h

/-- **storage_never_overflows** (3), the one-shot path: a block is written in place only when the
caller's buffer has `2 * block + 503` bytes, else staged in `storage_` grown to that size; either
way none of its three bound checks can fire for an answer within the `OracleOK` size bound -/
theorem fast_path_storage_suffices {o : Oracle} (hO : OracleOK o) {op : Nat} {s : St} {io : Io} (hl : s.lastBytesBits ≤ 14)
    (hin : io.availIn = io.input.length) (hsmall : io.availIn < 4611686018427387904) :
    ¬ fastCap (fastS1 s io) io (fastInplace s io) < 2 ∧ ¬ fastBs s io > io.input.length
    ∧ ¬ (s.lastBytesBits + (o s.nEnc (fastReq op s io)).bits.length) / 8 + 2 > fastCap (fastS1 s io) io (fastInplace s io) := by
  have hbs : fastBs s io ≤ io.availIn := Nat.min_le_right _ _
  have hmax : fastMaxOut s io = 2 * fastBs s io + 503 := by
    unfold fastMaxOut
    apply Nat.mod_eq_of_lt
    unfold two64; omega
  have hcap : fastMaxOut s io ≤ fastCap (fastS1 s io) io (fastInplace s io) := by
    unfold fastCap
    cases hip : fastInplace s io
    · simp only [Bool.false_eq_true, ↓reduceIte]
      unfold fastS1; rw [hip]; exact fastStorage_ge s _
    · simp only [↓reduceIte]
      unfold fastInplace at hip
      simpa using hip
  have hfit := hO.fits s.nEnc (fastReq op s io)
  have hsite : (fastReq op s io).site = 2 := rfl
  have hlo : (fastReq op s io).lo = fastBs s io := rfl
  rw [hsite, if_pos rfl, hlo] at hfit
  refine ⟨by omega, by omega, by omega⟩

/-- **out_ok_after_call** (the fact `OutOk` that C13 assumes of states handed back by a stream call):
after every `compress_stream` call the pending bytes lie inside the buffer `next_out_` points into —
`storage_` or the 16-byte `tiny_buf_` — so `take_output` cannot slice out of range.  The invariants
it rests on are re-established with it. -/
theorem out_ok_after_call {o : Oracle} {fuel op cap : Nat} {input : Bytes} {s s' : St} {io' : Io} {r : Bool}
    (hop : op ≤ 3) (hI : Inv s) (hw : s.inputPos + input.length < two64) (hl : s.lastBytesBits ≤ 14)
    (hT : TinyOK s) (hS : StoreOK s)
    (h : compressStream o fuel s op input cap = .ok (s', io', r)) :
    PendingInBuffer s' ∧ TinyOK s' ∧ StoreOK s' ∧ s'.lastBytesBits ≤ 14 := by
  have hT' := tinyOK_call hop hI hw hl hT h
  have hS' := storeOK_call hop (Or.inr hI) hw hS h
  exact ⟨pendingInBuffer_of hS' hT', hT', hS', compressStream_lbb hop hI hw hl h⟩

theorem out_ok_initial {s : St} (h : IsFresh s) :
    PendingInBuffer (ensureInitialized s) ∧ TinyOK (ensureInitialized s) ∧ StoreOK (ensureInitialized s)
    ∧ (ensureInitialized s).lastBytesBits ≤ 14 := by
  have hT := tinyOK_fresh h
  have hS : StoreOK (ensureInitialized s) := by
    apply storeOK_notDyn
    intro off ho
    obtain ⟨p, rfl⟩ := h
    simp [ensureInitialized, St.new] at ho
  exact ⟨pendingInBuffer_of hS hT, hT, hS, ensureInitialized_lbb s (isFreshInit h)⟩

/-- **ring_buffer_faithful** (one write): `RingBufferWrite` — small first allocation, growth to the
full size, tail-mirror write, body write (straight or wrapping into the tail and around), prefix
mirror, position fold — keeps `RingOK` (spelled out in `ring_ok_reads`) for `input` = all bytes written so far.
`pos_` is the stream position up to one lap (`max(2^30, size_)`) and afterwards congruent to it
modulo the lap — hence modulo `size_` — and above the first lap: through every lap and across the
position fold, for every ring size incl. the 2^31-byte ring of lgwin 30 (the ring of
/verif/proposed/ringbuffer-fold-lgwin30.md).
Writes of at most `tail_size_` bytes (one input block) — all `copy_input_to_ring_buffer` ever does. -/
theorem ring_buffer_faithful_write {rb rb' : Ring} {input bytes : Bytes} {avail : Nat} (hR : RingOK rb input)
    (hn : bytes.length ≤ rb.tailSize) (h : ringWrite rb bytes avail = .ok rb') : RingOK rb' (input ++ bytes) :=
  ringWrite_ok hR hn h

/-- what `RingOK` says, spelled out for readers of the ring (`data[i]` = `data_mo[2 + i]`, the slice
the hashers and the literal emitter get) -/
theorem ring_ok_reads {rb : Ring} {input : Bytes} (hR : RingOK rb input) :
    (∀ p, p < input.length → input.length - p ≤ rb.size → rb.get (2 + p % rb.size) = input.getD p 0)
    ∧ (∀ p, p < input.length → rb.size ≤ p → input.length - p ≤ rb.size → p % rb.size < rb.tailSize →
        rb.get (2 + rb.size + p % rb.size) = input.getD p 0)
    ∧ rb.pos % rb.size = input.length % rb.size
    ∧ (input.length ≤ rb.lap → rb.pos = input.length) :=
  ⟨hR.main, hR.mirror, hR.pos_mod, hR.posSmall⟩

/-- **ring_buffer_faithful** (whole history): after ANY history on a fresh encoder — every interleaving
of calls, operations, capacities — the ring buffer holds exactly the bytes the log says were copied
into it (`logCopy log`, the chunks of its `copy` events in order; `input_pos_` is their number):
`RingOK`; and the tail is one input block. -/
theorem ring_buffer_faithful {o : Oracle} {fuel : Nat} {calls : List Call} {s0 s : St} {t : Trace}
    (hf : IsFresh s0) (hops : HistOK calls) (hw : histLen calls < two64)
    (h : run o fuel calls s0 {} = .ok (s, t)) (hi : s.isInitialized = true) :
    ∃ log : List Ev, log.filterMap Ev.req = t.reqs ∧ RingOK s.ring (logCopy log)
      ∧ s.ring.tailSize = s.blockSize ∧ s.inputPos = (logCopy log).length := by
  have hip : s0.inputPos = 0 := hf.inputPos
  obtain ⟨log, f⟩ := run_facts (o := o) (fuel := fuel) (t0 := {}) (runOK_fresh hf) hops (by rw [hip]; omega) h
  have hr : t.reqs = logReqs log := by
    have := f.reqs
    simp only [List.nil_append] at this
    exact this
  have hring := f.ring [] (Or.inl ⟨hf, rfl⟩)
  simp only [List.nil_append] at hring
  rcases hring with ⟨hfr, _⟩ | hR
  · rw [isFreshInit hfr] at hi; cases hi
  · refine ⟨log, hr.symm, hR.ok, hR.tail, ?_⟩
    have hpos := congrArg Pos.ip f.pos
    rw [pos_fresh hf, logPos_ip] at hpos
    rw [logCopy_length]
    have hpos' : s.inputPos = 0 + logCopied log := hpos
    omega

/-- the view a match finder has of the ring buffer (cf. `RingView` of Lemmas/MatchCmd.lean, which the
hasher proofs assume): `data i` = `data_mo[2 + i]`, ring of `2^k` bytes, text `T`:
positions `lo ≤ p < hi` live at their offset, and WRAPPED positions with a small offset are mirrored
behind the ring.  (`RingView.mirror` asks `data[i] = data[i - 2^k]` for EVERY `i ≥ 2^k` below the
allocation; the code does not maintain that — not for the 7 slack bytes, not for first-lap bytes that
arrived through the small first allocation — but it maintains this, which is what a reader that runs
off the end of the ring while staying inside the text needs.) -/
structure RingViewW (data : Nat → Nat) (k tail : Nat) (T : Bytes) (lo hi : Nat) : Prop where
  holds : ∀ p, lo ≤ p → p < hi → data (p % 2 ^ k) = T.getD p 0
  mirror : ∀ p, lo ≤ p → p < hi → 2 ^ k ≤ p → p % 2 ^ k < tail → data (2 ^ k + p % 2 ^ k) = T.getD p 0

/-- the last `size_` bytes are a whole block and a window before it: the ring is at least window + block long -/
theorem ring_view_w {rb : Ring} {T : Bytes} {k : Nat} (hR : RingOK rb T) (hk : rb.size = 2 ^ k) :
    RingViewW (fun i => rb.get (2 + i)) k rb.tailSize T (T.length - rb.size) T.length := by
  refine ⟨?_, ?_⟩
  · intro p hlo hhi
    have := hR.main p hhi (by omega)
    rw [hk] at this
    exact this
  · intro p hlo hhi hge hr
    have := hR.mirror p hhi (by rw [hk]; exact hge) (by omega) (by rw [hk]; exact hr)
    rw [hk] at this
    simpa [Nat.add_assoc] using this

/-- what an 8-byte hash load at the end of the input sees during the first lap -/
theorem ring_slack_zero {s s' : St} {chunk input : Bytes} {avail : Nat} (hi : s.isInitialized = true)
    (hR : RingOK s.ring input) (hn : chunk.length ≤ s.ring.tailSize)
    (h : copyInputToRingBuffer s chunk avail = .ok s') :
    RingOK s'.ring (input ++ chunk)
    ∧ (s'.ring.pos ≤ s'.ring.mask → ∀ i, i < 7 → s'.ring.get (2 + s'.ring.pos + i) = 0) :=
  copy_ring_ok hi hR hn h

/-- what is assumed of the payload encoder for the round trip: a relation `Dec bits bytes`
("these bits, as a sequence of meta-blocks, decode to these bytes") that is compositional, knows the
magic-number block the state machine writes itself, and holds of every payload piece for the input range of
its request.  The first three fields are facts about the FORMAT (RFC 7932: meta-blocks concatenate; a metadata
block, which the magic-number block is, decodes to nothing) — C15's `magic_block_exact` reads that block back as
metadata with an independent reader, on the model BV/Model/Header.lean; the last field is the un-modelled encoder core. -/
structure MetaBlockDecodes (Dec : List Bool → Bytes → Prop) (input : Bytes) (o : Oracle) : Prop where
  nil : Dec [] []
  append : ∀ a b x y, Dec a x → Dec b y → Dec (a ++ b) (x ++ y)
  skeleton : ∀ s w, Dec ((encMagic s w).2.1.drop w.length) []
  payload : ∀ k r, r.site ≠ 2 → Dec ((o k r).bits) ((input.drop r.lf).take (r.hi - r.lf))

/-- **C01_roundtrip_partial**: one composition step under `MetaBlockDecodes`; the round trip over a whole
history, conditional on the payload pieces, is `C01_roundtrip_run` (under `PiecesOK`). -/
theorem C01_roundtrip_partial {Dec : List Bool → Bytes → Prop} {input : Bytes} {o : Oracle}
    (hD : MetaBlockDecodes Dec input o) (sofar piece : List Bool) (a b : Nat)
    (h1 : Dec sofar (input.take a)) (h2 : Dec piece ((input.drop a).take b)) :
    Dec (sofar ++ piece) (input.take (a + b)) := by
  have := hD.append sofar piece _ _ h1 h2
  rw [List.take_add]
  exact this

/-! ### whole histories (the run-level object `BV/Model/StreamRun.lean`)

`run o fuel calls s0 {}` folds `set_parameter` / `compress_stream(op, chunk, cap)` /
`take_output(size)` over a history with ONE oracle and returns the final state and a `Trace`
(delivered bytes, concatenated requests, closed flags, consumed input).  A history has a LOG —
the list of events (`Ev`) of the atomic steps it is made of (`Lemmas/StreamLts*`): `window`
(stream header), `copy`, `push`, `pad` (sync block), `enc` (an `encode_data` invocation: the
skeleton's own bits — magic-number block, stored prelude — and, if `taken`, the payload encoder's
bits behind them), `fast` (one quality 0/1 block), `mdHeader`, `mdBody`, `tau`.  `Ev.bits` is what
an event appends to the bit stream, `Ev.step` what it does to the positions. -/

/-- **delivered_is_framed_concat** (whole history): for every history on a fresh
encoder — any parameters, any interleaving of calls, any output capacities, any oracle — there is
a log such that
* everything produced so far (`deliveredBits`: delivered bytes, pending bytes, carry) is EXACTLY the
  concatenation of the bits of the log's events, in order: nothing dropped, duplicated or reordered;
* the log starts with the stream header (`window`) — emitted once, by the first `compress_stream` —
  and has no other; behind it come, in call order, skeleton pieces, payload pieces, sync blocks,
  metadata headers and bodies, each of the form `Ev.bits` gives it;
* its payload-encoder events are the trace's request list, numbered 0, 1, 2, … (`LogOK`: each
  request is the one the positions dictate), and the final positions are the log's (`logPos`). -/
theorem delivered_is_framed_concat {o : Oracle} {fuel : Nat} {calls : List Call} {s0 s : St} {t : Trace}
    (hf : IsFresh s0) (hops : HistOK calls) (hw : histLen calls < two64)
    (h : run o fuel calls s0 {} = .ok (s, t)) :
    ∃ log : List Ev,
      deliveredBits t s = log.flatMap (Ev.bits o)
      ∧ (log = [] ∨ ∃ b rest, log = .window b :: rest ∧ NoWindow rest)
      ∧ log.filterMap Ev.req = t.reqs
      ∧ LogOK ⟨0, 0, 0, 0⟩ log
      ∧ s.pos = logPos ⟨0, 0, 0, 0⟩ log := by
  have hip : s0.inputPos = 0 := hf.inputPos
  obtain ⟨log, f⟩ := run_facts (o := o) (fuel := fuel) (t0 := {}) (runOK_fresh hf) hops (by rw [hip]; omega) h
  refine ⟨log, ?_, ?_, ?_, ?_, ?_⟩
  · have := f.bits
    rw [deliveredBits_fresh hf, List.nil_append] at this
    exact this
  · rcases f.win with ⟨_, _, a3⟩ | ⟨_, _, b, r, a3, a4⟩ | ⟨a1, _, _⟩
    · exact Or.inl a3
    · exact Or.inr ⟨b, r, a3, a4⟩
    · rw [isFreshInit hf] at a1; cases a1
  · have := f.reqs
    simp only [List.nil_append] at this
    exact this.symm
  · have := f.lok
    rw [pos_fresh hf] at this
    exact this
  · have := f.pos
    rw [pos_fresh hf] at this
    exact this

/-- **requests_tile_input** (whole history): the `[lo, hi)` ranges of all `encode_data` requests
of a history are consecutive, start at 0 and end at `last_processed_pos_`, which never runs ahead
of `input_pos_`; `input_pos_` is the number of bytes copied into the ring buffer; the invocation
counter is the number of requests.  (The one-shot path's requests carry block lengths instead of
ranges and do not move the positions.) -/
theorem requests_tile_input_run {o : Oracle} {fuel : Nat} {calls : List Call} {s0 s : St} {t : Trace}
    (hf : IsFresh s0) (hops : HistOK calls) (hw : histLen calls < two64)
    (h : run o fuel calls s0 {} = .ok (s, t)) :
    Tiles 0 (slowReqs t.reqs) s.lastProcessedPos ∧ s.lastProcessedPos ≤ s.inputPos
    ∧ s.nEnc = t.reqs.length
    ∧ ∃ log : List Ev, log.filterMap Ev.req = t.reqs ∧ s.inputPos = logCopied log := by
  obtain ⟨log, _, _, hr, hok, hpos⟩ := delivered_is_framed_concat hf hops hw h
  obtain ⟨t1, t2⟩ := logOK_tiles hok (Nat.le_refl _)
  have hlp : s.lastProcessedPos = (logPos ⟨0, 0, 0, 0⟩ log).lp := congrArg Pos.lp hpos
  have hipp : s.inputPos = (logPos ⟨0, 0, 0, 0⟩ log).ip := congrArg Pos.ip hpos
  have hk : s.nEnc = (logPos ⟨0, 0, 0, 0⟩ log).k := congrArg Pos.k hpos
  have hr' : logReqs log = t.reqs := hr
  refine ⟨by rw [hlp, ← hr']; exact t1, by rw [hlp, hipp]; exact t2, ?_, log, hr, ?_⟩
  · rw [hk, logPos_k, ← hr']; simp
  · rw [hipp, logPos_ip]; simp

/-- **closed flags = meta-block boundaries** (whole history): the trace's `closed` list is
`closesMb` applied to the requests in order (invocation `k` = position in the list; the quality
class is fixed at first use), and for the log's `encode_data` events the flag means what `Ev.cl`
says: flag TRUE ⇒ after the invocation `last_flush_pos_ = hi` of its request (the open meta-block,
which started at the request's `lf` — plus the stored prelude — ends there); flag FALSE ⇒ the
payload encoder's bits were not emitted (`taken = false`) and `last_flush_pos_` only moved over the
stored prelude: the meta-block stays open.  So the meta-block ranges of a history are determined by
`t.reqs` and `t.closed` alone. -/
theorem closed_flags_mark_boundaries {o : Oracle} {fuel : Nat} {calls : List Call} {s0 s : St} {t : Trace}
    (hf : IsFresh s0) (hops : HistOK calls) (hw : histLen calls < two64)
    (h : run o fuel calls s0 {} = .ok (s, t)) :
    t.closed = closedFlags o s.q01 0 t.reqs ∧
    ∃ log : List Ev, log.filterMap Ev.req = t.reqs ∧ LogOK ⟨0, 0, 0, 0⟩ log ∧ LogCl o s.q01 ⟨0, 0, 0, 0⟩ log
      ∧ s.pos = logPos ⟨0, 0, 0, 0⟩ log := by
  have hip : s0.inputPos = 0 := hf.inputPos
  obtain ⟨log, f⟩ := run_facts (o := o) (fuel := fuel) (t0 := {}) (runOK_fresh hf) hops (by rw [hip]; omega) h
  have hr : t.reqs = logReqs log := by
    have := f.reqs
    simp only [List.nil_append] at this
    exact this
  have hp0 := pos_fresh hf
  refine ⟨?_, log, hr.symm, by rw [← hp0]; exact f.lok, by rw [← hp0]; exact f.cl, by rw [← hp0]; exact f.pos⟩
  have := f.closed
  have hk : s0.nEnc = 0 := congrArg Pos.k hp0
  rw [hk, ← hr] at this
  simpa using this

/-- what the round trip assumes of the format and of the payload encoder, per emitted piece:
`Dec bits bytes` ("these bits, a sequence of complete meta-blocks, decode to these bytes") is
compositional, and every piece of the log decodes to the input range it covers (`Ev.adv`: an
`encode_data` event covers what it moves `last_flush_pos_` over — its stored prelude, or the whole
open meta-block when it closes it; a one-shot block covers its bytes; everything else — sync blocks,
metadata — covers nothing).  The skeleton pieces are format facts (C04 proves the metadata ones
against an independent reader); the payload pieces are the un-modelled encoder core. -/
structure PiecesOK (Dec : List Bool → Bytes → Prop) (input : Bytes) (o : Oracle) (log : List Ev) : Prop where
  nil : Dec [] []
  append : ∀ a b x y, Dec a x → Dec b y → Dec (a ++ b) (x ++ y)
  pieces : PiecesDecode Dec input o 0 ⟨0, 0, 0, 0⟩ log

/-- **C01_roundtrip** over a whole history: there is a log (the one of `delivered_is_framed_concat`)
such that, if every piece decodes to its range, then everything produced so far is the stream
header followed by bits that decode to the first `logAdv` bytes of the input — and without one-shot
blocks `logAdv` is exactly `last_flush_pos_`: at every moment the emitted stream decodes to the
input up to the last flush position; after FINISH (`last_flush_pos_ = input_pos_`) to all of it. -/
theorem C01_roundtrip_run {Dec : List Bool → Bytes → Prop} {input : Bytes} {o : Oracle} {fuel : Nat}
    {calls : List Call} {s0 s : St} {t : Trace}
    (hf : IsFresh s0) (hops : HistOK calls) (hw : histLen calls < two64)
    (h : run o fuel calls s0 {} = .ok (s, t)) :
    ∃ log : List Ev, log.filterMap Ev.req = t.reqs ∧
      (PiecesOK Dec input o log →
        ∃ header, deliveredBits t s = header ++ logBodyBits o log
          ∧ Dec (logBodyBits o log) (input.take (logAdv ⟨0, 0, 0, 0⟩ log))
          ∧ ((∀ e ∈ log, ∀ k r, e ≠ .fast k r) → logAdv ⟨0, 0, 0, 0⟩ log = s.lastFlushPos)) := by
  obtain ⟨log, hb, hwin, hr, hok, hpos⟩ := delivered_is_framed_concat hf hops hw h
  refine ⟨log, hr, ?_⟩
  intro hP
  have hdec := pieces_compose hP.nil hP.append input o log 0 ⟨0, 0, 0, 0⟩ hP.pieces
  simp only [List.drop_zero] at hdec
  have hlf : (∀ e ∈ log, ∀ k r, e ≠ .fast k r) → logAdv ⟨0, 0, 0, 0⟩ log = s.lastFlushPos := by
    intro hnf
    have := logAdv_lf hok hnf
    have hl : s.lastFlushPos = (logPos ⟨0, 0, 0, 0⟩ log).lf := congrArg Pos.lf hpos
    rw [hl, ← this]; simp
  rcases hwin with rfl | ⟨b, rest, rfl, hnw⟩
  · exact ⟨[], by rw [hb]; rfl, hdec, hlf⟩
  · refine ⟨b, ?_, hdec, hlf⟩
    rw [hb]
    exact logBits_window o b hnw

/-- `MetaBlockDecodes` is satisfiable (trivially, by the relation "always") -/
example (input : Bytes) (o : Oracle) : MetaBlockDecodes (fun _ _ => True) input o :=
  ⟨trivial, fun _ _ _ _ _ _ => trivial, fun _ _ => trivial, fun _ _ _ => trivial⟩

example : Contract.accepts .processing 2 10 = true := by decide

def exampleOracle : Oracle := fun _ _ => { result := true, emit := true, bits := List.replicate 20 true }
def exampleRunOk (r : Out (St × Trace)) : Bool :=
  match r with
  | .ok (s, t) => t.reqs.length == 1 && t.delivered.length != 0 && isFinished s && t.closed == [true]
  | _ => false
-- a concrete history runs: quality 5, FINISH with three bytes, ample room — one request, output delivered
example : exampleRunOk (run exampleOracle 40 [.setParam 1 5, .stream 2 [1, 2, 3] 100] St.new {}) = true := by decide
example : HistOK [.setParam 1 5, .stream 2 [1, 2, 3] 100] := ⟨by omega, trivial⟩

/-
STATUS of `stream_no_panic`.  Proved: `tiny_buf_` (TinyOK, `tiny_buf_never_overflows`), `storage_`
(StoreOK, `storage_never_overflows` 1-3: every site that indexes `storage_`, given `OracleOK.fits`
and positions below 2^62), the metadata-header staging.  Proved per step but NOT composed into a statement
about whole histories: the catable-prelude assertion of `encode_data` (`last_processed_pos_ < 2`: `PreOK`,
`step_safeP`, `encodeData_no_panic` of Lemmas/StreamSafe) and the slice bounds of `RingBufferWrite` for the
writes `copy_input_to_ring_buffer` makes (`ringWrite_no_panic`, `copy_no_panic` of Lemmas/StreamRing2; the
CONTENT of the ring buffer is `ring_buffer_faithful`).  The model has every
one of those sites as an explicit `.panic` outcome, the correspondence run replays ~100k histories per
quick run without reaching one, and the harness catches real panics (`catch_unwind`).
The q0/q1 FRAGMENT writers (compress_fragment, compress_fragment_two_pass) are outside the model:
they are the oracle of site 2 / of the quality 0/1 `encode_data`, judged by the two decoders only
(input classes `fragment` of the c01 stage).
-/

end BV.Props.C01
