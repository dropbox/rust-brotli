/-
C15Window — "a decoder limited to the declared window can decode the stream": the window a decoder DERIVES FROM THE HEADER
BITS is the window the command generator's lock-step theorems (BV/Props/C01Chain.lean) were proved against.
Encoder side: `genInit` / `cbrParams` (BV/Model/Window.lean), the head of `ensure_initialized` composed of the definitions
GENERATED from the Rust text (BV/Gen/FnC15.lean), tied to the real encoder by the `window` correspondence stage;
`gen_init_header` equates it with the hand-written `BV.Header.ensureInitialized`.  Decoder side (specification):
`BV.HeaderSpec.readWbits`, `BV.Recoder.decStep`/`replayCommands`, `BV.MetaBlock.lockstep`, and `copyEvents` (which distance each
copy resolves to, LZ77 copy or static-dictionary reference).
The file also holds a lemma development of its own, about that decoder (`copyBytes_drop` … `decSteps_drop`, before
`decoder_limited_to_declared_window`: dropping a prefix of the output commutes with a decoder step as long as one window of
bytes is kept); nothing else uses it, so it stands next to the one theorem it serves.
-/
import BV.Props.C15
import BV.Props.C01Chain
import BV.Gen.FnC15
import BV.Model.Window
import BV.Lemmas.HeaderWindow

namespace BV.Props.C15Window
open BV.Bits BV.Header BV.HeaderSpec BV.Recoder BV.MetaBlock BV.Cbr BV.Hasher BV.MatchFinder BV.PrefixArith
open BV.Props.C01Chain BV.Window

abbrev GenParams := BV.Window.GenParams
-- `BV.Props.C15Window.genInit` is the name the `window` correspondence stage (harness/src/window.rs) cites
export BV.Window (genInit cbrParams genHeaderBits)

def hdrParams (gp : GenParams) : Header.Params :=
  { quality := gp.quality, lgwin := gp.lgwin, lgblock := gp.lgblock, largeWindow := gp.large_window,
    catable := gp.catable, appendable := gp.appendable, useDictionary := gp.use_dictionary,
    magicNumber := gp.magic_number, sizeHint := gp.size_hint }

def declaredWbits (gp : GenParams) : Nat := (clampWindow gp.quality gp.lgwin gp.large_window).toNat

/-- RFC 7932 §9.1: "the sliding window size is `(1 << WBITS) − 16`".  The same `2 ^ w − 16` has two more names: the decoder's
`BV.Recoder.windowSize w` (equal by `rfl`, middle part of `decoder_derives_declared_window`) and the encoder's
`BV.Cbr.maxBackwardLimit p` (`maxBackwardLimit_eq` below; against `windowSize`: `BV.Props.C14Chain.windowSize_eq`) -/
def declaredWindow (gp : GenParams) : Nat := 2 ^ declaredWbits gp - 16

theorem gen_sanitize_lgwin (gp : GenParams) :
    (BV.Gen.FnC15.SanitizeParams gp).lgwin = max 10 (min (if gp.large_window then 30 else 24) gp.lgwin) := by
  rw [sanitize_eq]

theorem gen_sanitize_quality (gp : GenParams) :
    (BV.Gen.FnC15.SanitizeParams gp).quality = min 11 (max 0 gp.quality) := by
  rw [sanitize_eq]

theorem gen_sanitize_large (gp : GenParams) : (BV.Gen.FnC15.SanitizeParams gp).large_window = gp.large_window := by
  rw [sanitize_eq]

theorem gen_sanitize_mode_dist (gp : GenParams) :
    (BV.Gen.FnC15.SanitizeParams gp).mode = gp.mode ∧ (BV.Gen.FnC15.SanitizeParams gp).dist = gp.dist := by
  rw [sanitize_eq]; exact ⟨rfl, rfl⟩

theorem choose_keeps (g : GenParams) :
    (BV.Gen.FnC15.ChooseDistanceParams g).lgwin = g.lgwin ∧ (BV.Gen.FnC15.ChooseDistanceParams g).quality = g.quality ∧
    (BV.Gen.FnC15.ChooseDistanceParams g).large_window = g.large_window := by
  unfold BV.Gen.FnC15.ChooseDistanceParams BV.Gen.FnC15.BrotliInitDistanceParams
  exact ⟨rfl, rfl, rfl⟩

theorem gen_init_header (gp : GenParams) :
    (genInit gp).lgwin = (ensureInitialized true (hdrParams gp)).params.lgwin ∧
    (genInit gp).quality = (ensureInitialized true (hdrParams gp)).params.quality ∧
    (genInit gp).large_window = (ensureInitialized true (hdrParams gp)).params.largeWindow := by
  obtain ⟨a, b, c⟩ := choose_keeps
    { BV.Gen.FnC15.SanitizeParams gp with lgblock := BV.Gen.FnC15.ComputeLgBlock (BV.Gen.FnC15.SanitizeParams gp) }
  refine ⟨?_, ?_, ?_⟩
  · rw [init_params_lgwin, sanitize_lgwin]
    show (BV.Gen.FnC15.ChooseDistanceParams _).lgwin = _
    rw [a]; exact gen_sanitize_lgwin gp
  · rw [init_params_quality, sanitize_quality]
    show (BV.Gen.FnC15.ChooseDistanceParams _).quality = _
    rw [b]; exact gen_sanitize_quality gp
  · rw [init_params_large]
    show (BV.Gen.FnC15.ChooseDistanceParams _).large_window = _
    rw [c]; exact gen_sanitize_large gp

/-- the request leaves NPOSTFIX = NDIRECT = 0: quality below 4, or a non-FONT mode with the two
`dist` fields at their initial value 0 (`set_parameter` has no way to set them before the first call
other than through the mode) -/
def PlainDist (gp : GenParams) : Prop :=
  gp.quality < 4 ∨ (gp.mode ≠ 2 ∧ gp.dist.distance_postfix_bits = 0 ∧ gp.dist.num_direct_distance_codes = 0)

/-- `max_distance = 0x3FFFFFC` with the standard alphabet (64 symbols), `0x7FFFFFC` with the large-window one (140 symbols) -/
theorem gen_init_dist (gp : GenParams) (h : PlainDist gp) :
    (genInit gp).dist = ⟨0, 0, if gp.large_window then 140 else 64, if gp.large_window then 0x7FFFFFC else 0x3FFFFFC⟩ := by
  have hp : PlainDist { BV.Gen.FnC15.SanitizeParams gp with
      lgblock := BV.Gen.FnC15.ComputeLgBlock (BV.Gen.FnC15.SanitizeParams gp) } := by
    rw [sanitize_eq]
    exact h.imp (fun hq => by show min 11 (max 0 gp.quality) < 4; omega) id
  unfold genInit
  rw [choose_plain _ hp, init_dist_plain]
  simp only [gen_sanitize_large]

theorem maxBackwardLimit_eq (p : Cbr.Params) : maxBackwardLimit p = 2 ^ p.lgwin - 16 := by
  simp [maxBackwardLimit, Nat.one_shiftLeft]

theorem gen_init_lgwin_nat (gp : GenParams) :
    ((genInit gp).lgwin.toNat : Int) = max 10 (min (if gp.large_window then 30 else 24) gp.lgwin) := by
  rw [(gen_init_header gp).1, init_params_lgwin, sanitize_lgwin]
  show ((max 10 (min (if gp.large_window then 30 else 24) gp.lgwin) : Int).toNat : Int) = _
  omega

/-- the header declares the sanitised `lgwin`, raised to 18 at quality 0 / 1 (`ensure_initialized`:
`if quality == 0 || quality == 1 { lgwin = max(lgwin, 18) }`) -/
theorem declaredWbits_eq (gp : GenParams) :
    declaredWbits gp = if gp.quality ≤ 1 then max (cbrParams (genInit gp)).lgwin 18 else (cbrParams (genInit gp)).lgwin := by
  have h := gen_init_lgwin_nat gp
  show (clampWindow gp.quality gp.lgwin gp.large_window).toNat
    = if gp.quality ≤ 1 then max (genInit gp).lgwin.toNat 18 else (genInit gp).lgwin.toNat
  unfold clampWindow
  dsimp only
  split <;> omega

/-- **window_used_le_declared** in the decoder's units: the backward limit every match finder call
works with (`(1 << params.lgwin) − 16`) never exceeds the window the header declares -/
theorem cbr_window_le_declared (gp : GenParams) :
    maxBackwardLimit (cbrParams (genInit gp)) ≤ declaredWindow gp := by
  have hle : (cbrParams (genInit gp)).lgwin ≤ declaredWbits gp := by
    rw [declaredWbits_eq]; split <;> omega
  rw [maxBackwardLimit_eq]
  exact Nat.sub_le_sub_right (Nat.pow_le_pow_right (by decide) hle) 16

/-- quality 2 on: every quality that runs `CreateBackwardReferences` -/
theorem cbr_window_eq_declared (gp : GenParams) (hq : 2 ≤ gp.quality) :
    maxBackwardLimit (cbrParams (genInit gp)) = declaredWindow gp := by
  rw [maxBackwardLimit_eq, declaredWindow, declaredWbits_eq, if_neg (by omega)]

/-- **decoder_derives_declared_window**: what a decoder reads (RFC 7932 §9.1 reader, independent of the
encoder model) from the first bits of ANY stream of this encoder is `declaredWbits`, in the requested
form — so its sliding window is `declaredWindow`; for quality ≥ 2 that is exactly the backward limit of
the command generator -/
theorem decoder_derives_declared_window (gp : GenParams) (rest : List Bool) :
    readWbits (pendingWriter (ensureInitialized true (hdrParams gp)) ++ rest)
      = some (declaredWbits gp, gp.large_window, rest) ∧
    windowSize (declaredWbits gp) = declaredWindow gp ∧
    (2 ≤ gp.quality → maxBackwardLimit (cbrParams (genInit gp)) = windowSize (declaredWbits gp)) :=
  ⟨BV.Props.C15.declared_window (hdrParams gp) rest, rfl, cbr_window_eq_declared gp⟩

/-- RFC 7932 §4 / §8, per command with a copy part: the distance its distance symbol denotes (given
the decoder's ring of last distances) and whether the decoder executes it as an LZ77 copy (`true`:
distance ≤ min(bytes produced so far, window)) or as a static-dictionary reference (`false`).
Written from the RFC, independently of `decStep`; `none` = the command has no copy part
(its insert completes the meta-block) or is malformed. -/
def copyEvent (np nd window : Nat) (mb : Bytes) (s : DecSt) (c : Cmd) : Option (Nat × Bool) :=
  if s.cursor + c.insertLen ≥ mb.length then none else
  match rfcDistance np nd s.ring (c.distPrefix % 1024) c.distExtra with
  | none => none
  | some (d, _) => if d ≤ 0 then none else some (d.toNat, decide (d.toNat ≤ min (s.out.length + c.insertLen) window))

def copyEvents (w : WordOracle) (np nd window : Nat) (mb : Bytes) : DecSt → List Cmd → List (Nat × Bool)
  | _, [] => []
  | s, c :: cs =>
    (copyEvent np nd window mb s c).toList ++
      (match decStep w np nd window mb s c with
       | none => []
       | some s' => copyEvents w np nd window mb s' cs)

/-- along the decoder's run every backward reference it resolves as an LZ77 copy (flag `true` of `copyEvent`) has distance `1 ≤ d ≤ window` -/
theorem lz77_copies_within_window (w : WordOracle) (np nd window : Nat) (mb : Bytes) (cs : List Cmd) :
    ∀ (s : DecSt) (d : Nat), (d, true) ∈ copyEvents w np nd window mb s cs → 1 ≤ d ∧ d ≤ window := by
  induction cs with
  | nil => intro s d h; cases h
  | cons c cs ih =>
    intro s d h
    simp only [copyEvents, List.mem_append] at h
    rcases h with h | h
    · simp only [copyEvent] at h
      split at h
      · cases h
      · split at h
        · cases h
        · rename_i dd u _
          split at h
          · cases h
          · simp only [Option.toList_some, List.mem_singleton, Prod.mk.injEq] at h
            obtain ⟨rfl, h2⟩ := h
            have := of_decide_eq_true h2.symm
            omega
    · cases hs : decStep w np nd window mb s c with
      | none => simp only [hs] at h; cases h
      | some s' => simp only [hs] at h; exact ih s' d h

theorem copyBytes_drop : ∀ (n d : Nat) (out : Bytes) (k : Nat), 1 ≤ d → d + k ≤ out.length →
    (copyBytes n d out).drop k = copyBytes n d (out.drop k) := by
  intro n
  induction n with
  | zero => intro d out k _ _; rfl
  | succ n ih =>
    intro d out k h1 h2
    have hb : out.getD (out.length - d) 0 = (out.drop k).getD ((out.drop k).length - d) 0 := by
      rw [List.getD_eq_getElem?_getD, List.getD_eq_getElem?_getD, List.getElem?_drop, List.length_drop]
      congr 2; omega
    rw [copyBytes, copyBytes, ih d _ k h1 (by rw [List.length_append]; omega),
      List.drop_append_of_le_length (by omega), hb]

theorem applyCopy_drop (wo : WordOracle) (window np nd mlen done cl : Nat) (out : Bytes) (ring : List Int)
    (ds extra k : Nat) (hk : k + window ≤ out.length) :
    applyCopy wo window np nd mlen done cl (out.drop k) ring ds extra
      = (applyCopy wo window np nd mlen done cl out ring ds extra).map
          fun r => (r.1, ⟨r.2.out.drop k, r.2.ring⟩) := by
  have hmin : min (out.drop k).length window = min out.length window := by
    rw [List.length_drop]; omega
  unfold applyCopy
  rw [hmin]
  cases rfcDistance np nd ring ds extra with
  | none => rfl
  | some r =>
    obtain ⟨d, upd⟩ := r
    dsimp only
    by_cases h0 : d ≤ 0
    · rw [if_pos h0, if_pos h0]; rfl
    rw [if_neg h0, if_neg h0]
    by_cases hd : d.toNat ≤ min out.length window
    · rw [if_pos hd, if_pos hd]
      split
      · rfl
      · rw [Option.map_some, ← copyBytes_drop _ _ _ _ (by omega) (by omega)]
    · rw [if_neg hd, if_neg hd]
      split
      · rfl
      · cases wo cl ((d.toNat - min out.length window - 1) % 2 ^ dictSizeBits.getD cl 0)
            ((d.toNat - min out.length window - 1) / 2 ^ dictSizeBits.getD cl 0) with
        | none => rfl
        | some word =>
          dsimp only
          split
          · rfl
          · rw [Option.map_some, List.drop_append_of_le_length (by omega)]

theorem applyCopy_out_le (wo : WordOracle) (window np nd mlen done cl : Nat) (out : Bytes) (ring : List Int)
    (ds extra : Nat) (r : Nat × RdSt) (h : applyCopy wo window np nd mlen done cl out ring ds extra = some r) :
    out.length ≤ r.2.out.length := by
  unfold applyCopy at h
  split at h
  · cases h
  · split at h
    · cases h
    · split at h
      · split at h
        · cases h
        · cases h; rw [copyBytes_length]; omega
      · split at h
        · cases h
        · split at h
          · cases h
          · split at h
            · cases h
            · cases h; rw [List.length_append]; omega

theorem decStep_drop (w : WordOracle) (np nd window : Nat) (mb : Bytes) (s : DecSt) (c : Cmd) (k : Nat)
    (hk : k + window ≤ s.out.length) :
    decStep w np nd window mb ⟨s.out.drop k, s.ring, s.cursor⟩ c
      = (decStep w np nd window mb s c).map (fun s' => { s' with out := s'.out.drop k }) := by
  have e : ∀ X : Bytes, s.out.drop k ++ X = (s.out ++ X).drop k := fun X =>
    (List.drop_append_of_le_length (by omega)).symm
  rw [decStep_eq, decStep_eq]
  dsimp only
  split
  · rfl
  split
  · rfl
  split
  · rw [Option.map_some, e]
  · rw [e, applyCopy_drop _ _ _ _ _ _ _ _ _ _ _ _ (by rw [List.length_append]; omega), Option.map_map, Option.map_map]
    rfl

theorem decStep_out_mono (w : WordOracle) (np nd window : Nat) (mb : Bytes) (s : DecSt) (c : Cmd) (s' : DecSt)
    (h : decStep w np nd window mb s c = some s') : s.out.length ≤ s'.out.length := by
  rw [decStep_eq] at h
  split at h
  · cases h
  split at h
  · cases h
  split at h
  · cases h; rw [List.length_append]; omega
  · obtain ⟨r, hr, rfl⟩ := Option.map_eq_some_iff.mp h
    have := applyCopy_out_le _ _ _ _ _ _ _ _ _ _ _ r hr
    rw [List.length_append] at this
    exact Nat.le_trans (Nat.le_add_right _ _) this

theorem decSteps_drop (w : WordOracle) (np nd window : Nat) (mb : Bytes) (cs : List Cmd) :
    ∀ (s : DecSt) (k : Nat), k + window ≤ s.out.length →
      decSteps w np nd window mb ⟨s.out.drop k, s.ring, s.cursor⟩ cs
        = (decSteps w np nd window mb s cs).map (fun s' => { s' with out := s'.out.drop k }) := by
  induction cs with
  | nil => intro s k _; rfl
  | cons c cs ih =>
    intro s k hk
    simp only [decSteps]
    rw [decStep_drop w np nd window mb s c k hk]
    cases hs : decStep w np nd window mb s c with
    | none => rfl
    | some s' =>
      simp only [Option.map_some]
      have hmono : s.out.length ≤ s'.out.length := decStep_out_mono w np nd window mb s c s' hs
      exact ih s' k (by omega)

/-- **decoder_limited_to_declared_window** (the bounded-memory reading of "a decoder limited to the declared
window can decode the stream"): the RFC decoder needs, of everything it has produced, only the last
`window` bytes.  Replaying any command list from a history of which all but the last `window` (or more)
bytes have been DISCARDED (`hist.drop k`, `k + window ≤ |hist|`) succeeds exactly when the full replay does
and produces the full result minus the discarded bytes — for every window, command list, word oracle.
With `window = 2^W − 16` read from the header this is a decoder with a `2^W`-byte ring buffer. -/
theorem decoder_limited_to_declared_window (w : WordOracle) (np nd window : Nat) (mb : Bytes) (ring : List Int)
    (hist : Bytes) (cmds : List Cmd) (k : Nat) (hk : k + window ≤ hist.length) :
    replayCommands w np nd window mb ring (hist.drop k) cmds
      = (replayCommands w np nd window mb ring hist cmds).map (fun out => out.drop k) := by
  unfold replayCommands
  have := decSteps_drop w np nd window mb cmds ⟨hist, ring, 0⟩ k hk
  simp only [] at this
  rw [this]
  cases decSteps w np nd window mb ⟨hist, ring, 0⟩ cmds <;> rfl

/-- with the window `2^W − 16` a decoder reads from the header: a block that is replayed from the full history (what
`emitted_distances_within_declared_window`, at the end of this file, concludes of the generator's blocks) is replayed to the
same block by a decoder that kept only the last `2^W − 16` bytes of the history -/
theorem cbr_block_decodes_with_window_memory (wo : WordOracle) (W : Nat) (mb : Bytes) (ring : List Int) (hist : Bytes)
    (cmds : List Cmd) (h : replayCommands wo 0 0 (2 ^ W - 16) mb ring hist cmds = some (hist ++ mb))
    (hlong : 2 ^ W - 16 ≤ hist.length) :
    replayCommands wo 0 0 (2 ^ W - 16) mb ring (hist.drop (hist.length - (2 ^ W - 16))) cmds
      = some (hist.drop (hist.length - (2 ^ W - 16)) ++ mb) := by
  rw [decoder_limited_to_declared_window wo 0 0 (2 ^ W - 16) mb ring hist cmds _ (by omega), h]
  simp only [Option.map_some]
  rw [List.drop_append_of_le_length (by omega)]

/-- window 4: one literal, then a copy of 2 bytes from distance 4 (last distance), replayed on a history cut to its last 4 bytes -/
example : replayCommands (fun _ _ _ => none) 0 0 4 [9, 2, 3] [4, 11, 15, 16] ([5, 6, 7, 1, 2, 3, 4].drop 3)
    [⟨1, 2, 0, getLengthCode 1 2 true, 0⟩] = some ([1, 2, 3, 4, 9, 2, 3]) := by decide

/-! ## quality 0 / 1: the fragment writers

The header of a quality 0/1 stream declares `max(lgwin, 18)`; `compress_fragment_fast` /
`compress_fragment_two_pass` never consult `lgwin` for distances: a candidate is used only when
`ip − candidate ≤ MAX_DISTANCE = 262128 = 2^18 − 16` (the hash table holds positions of the current
fragment only).  Stated here over the two-pass model BV/Model/Fragment.lean: the guard lemmas
(`BV.Fragment.scan_candidate_within_table_window`, BV/Lemmas/FragmentWindow.lean; the loop of immediate matches `chain` carries the same guard `wsub c.ip cand > 262128 → stop` textually), the parameter side
(`q01_declared_window_covers_table_window`) and the decoder side (`applyCopy_lz77_window_mono`: an LZ77 copy
within a smaller window is executed identically by a decoder with any larger window — the fragment
writers emit no static-dictionary references, so replaying their commands with the DECLARED window instead
of 2^18 − 16 changes nothing).  NOT in this file: the induction through `matchLoop` / `chain` / `createCommands` that
every distance word in the command buffer encodes such a distance.  For the two-pass writer (quality 1) it is
`BV.Props.C01Fragment.create_commands_replays`, stated for EVERY reader window `≥ 262128`, hence by
`q01_declared_window_covers_table_window` for the declared one; the two are not composed into one theorem (this file does not
import C01Fragment).  For the quality-0 writer `compress_fragment_fast` nothing of the kind is proved: its match loop is not
modelled (BV/Model/Fragment.lean has only the pieces that carry its bit-level invariants). -/

theorem q01_declared_window_covers_table_window (gp : GenParams) (hq : gp.quality ≤ 1) :
    262128 ≤ declaredWindow gp ∧ 18 ≤ declaredWbits gp := by
  have h18 : 18 ≤ declaredWbits gp := by
    rw [declaredWbits_eq, if_pos hq]; exact Nat.le_max_right _ _
  have := Nat.pow_le_pow_right (show 0 < 2 by decide) h18
  refine ⟨?_, h18⟩
  unfold declaredWindow
  have e : (2 : Nat) ^ 18 = 262144 := by decide
  omega

theorem applyCopy_lz77_window_mono (wo : WordOracle) (W W' np nd mlen done cl : Nat) (out : Bytes) (ring : List Int)
    (ds extra : Nat) (d : Int) (upd : Bool) (hW : W ≤ W')
    (hd : rfcDistance np nd ring ds extra = some (d, upd)) (hle : d.toNat ≤ min out.length W) :
    applyCopy wo W' np nd mlen done cl out ring ds extra = applyCopy wo W np nd mlen done cl out ring ds extra := by
  unfold applyCopy
  simp only [hd]
  have h' : d.toNat ≤ min out.length W' := by omega
  simp only [hle, h', if_true]

example : (262128 : Nat) = 2 ^ 18 - 16 := by decide
example : declaredWbits { (default : GenParams) with quality := 1, lgwin := 10 } = 18 ∧
    declaredWbits { (default : GenParams) with quality := 0, lgwin := 22 } = 22 := by decide

/-- what is assumed of one meta-block besides the parameters: the ring-buffer view (exactly
`BlockOK.ring`, proved from the `RingBufferWrite` invariant by `ring_hypothesis_of_ringOK`), the
geometry side conditions, and `lo` at least one DECLARED window before the block -/
structure BlockData (data : ByteArray) (k tail : Nat) (hist mb : Bytes) (lo window : Nat) : Prop where
  ring : BV.Props.C01.RingViewW (ringBytes data) k tail (hist ++ mb) lo (hist.length + mb.length)
  tail_le : tail ≤ 2 ^ k
  block_le : mb.length ≤ tail
  lo_le : lo ≤ hist.length - window
  len : mb.length ≤ 2 ^ 24
  total : hist.length + mb.length < 2 ^ 64

theorem declaredWbits_range (gp : GenParams) :
    10 ≤ declaredWbits gp ∧ declaredWbits gp ≤ 30 ∧ (gp.large_window = false → declaredWbits gp ≤ 24) := by
  obtain ⟨a, b, c⟩ := clampWindow_range gp.quality gp.lgwin gp.large_window
  unfold declaredWbits
  refine ⟨by omega, by omega, fun h => by have := c h; omega⟩

/-- **blockOK_of_header**: every PARAMETER hypothesis of `BlockOK` (NPOSTFIX = NDIRECT = 0, window ≤ 2^30,
standard alphabet only up to 2^26 − 4 for window and `max_distance`) holds of the parameters
`ensure_initialized` produces; what remains is the data -/
theorem blockOK_of_header (gp : GenParams) (hq : 2 ≤ gp.quality) (hpd : PlainDist gp)
    (data : ByteArray) (k tail : Nat) (hist mb : Bytes) (lo : Nat)
    (hd : BlockData data k tail hist mb lo (declaredWindow gp)) :
    BlockOK (cbrParams (genInit gp)) gp.large_window data k tail hist mb lo := by
  have hw := cbr_window_eq_declared gp hq
  have hdist := gen_init_dist gp hpd
  obtain ⟨r1, r2, r3⟩ := declaredWbits_range gp
  have p30 : 2 ^ declaredWbits gp ≤ 2 ^ 30 := Nat.pow_le_pow_right (by decide) r2
  exact
    { ring := hd.ring, tail_le := hd.tail_le, block_le := hd.block_le, len := hd.len, total := hd.total
      lo_le := by rw [hw]; exact hd.lo_le
      np := by
        show (genInit gp).dist.distance_postfix_bits = 0
        rw [hdist]
      nd := by
        show (genInit gp).dist.num_direct_distance_codes = 0
        rw [hdist]
      window := by rw [hw]; unfold declaredWindow; omega
      std := by
        intro hl
        have p24 : 2 ^ declaredWbits gp ≤ 2 ^ 24 := Nat.pow_le_pow_right (by decide) (r3 hl)
        rw [hw]; unfold declaredWindow
        have : (2 : Nat) ^ 24 - 16 ≤ 2 ^ 26 - 4 := by decide
        omega
      dist := by
        intro hl
        show (genInit gp).dist.max_distance ≤ 2 ^ 26 - 4
        rw [hdist, hl]; decide }

/-- **emitted_distances_within_declared_window** (abstract sound hasher; the three bucketed families
are instances through `basicOps_ok` / `advOps_ok` / `h9Ops_ok`, see the corollaries below).

For every request `gp` with quality ≥ 2 (any integers, any flags) that leaves NPOSTFIX = NDIRECT = 0,
every meta-block processed by the `CreateBackwardReferences` model WITH THE PARAMETERS
`ensure_initialized` PRODUCES (`cbrParams (genInit gp)`: sanitised `lgwin`, `large_window`,
`ChooseDistanceParams`), every sound hasher, starting cache, pending insert:

* the window `W` a decoder reads from the header bits of the stream (RFC §9.1 reader, any continuation
  `rest`) gives the sliding window `2^W − 16`, and the commands of the block, closed as `encode.rs`
  closes them, are `cmdOK`, in `lockstep` with, and replayed to exactly `hist ++ mb` by, the RFC decoder
  RUN WITH THAT DECLARED WINDOW (not with the encoder's `max_backward_limit`): the two are proved equal;
* along that run every LZ77 copy has distance `1 ≤ d ≤ 2^W − 16` — every other copy is a
  static-dictionary reference, which the decoder resolves to the same word the encoder meant because it
  computes `distance − min(produced, window) − 1` with the same window. -/
theorem emitted_distances_within_declared_window {H : Type} (ops : HasherOps H) (gp : GenParams)
    (hq : 2 ≤ gp.quality) (hpd : PlainDist gp) (wo : WordOracle)
    (data : ByteArray) (k tail : Nat) (hist mb : Bytes) (lo : Nat)
    (hd : BlockData data k tail hist mb lo (declaredWindow gp))
    (hops : OpsOK (SlotOK wo) ops (cbrParams (genInit gp)) data k)
    (numBytes position : Nat) (h0 : H) (cache : List Int) (lastInsertLen numLiterals : Nat) (res : Result H)
    (hpos : position = hist.length + lastInsertLen) (hmb : mb.length = lastInsertLen + numBytes)
    (hc : CacheI32 cache) (hcl : 4 ≤ cache.length)
    (h : createBackwardReferences ops (cbrParams (genInit gp)) numBytes position h0 cache lastInsertLen numLiterals = some res)
    (rest : List Bool) :
    ∃ W, readWbits (pendingWriter (ensureInitialized true (hdrParams gp)) ++ rest) = some (W, gp.large_window, rest) ∧
      W = declaredWbits gp ∧
      (∀ c ∈ closeMetaBlock res.cmds res.lastInsertLen, cmdOK (distAlphabetSize gp.large_window 0 0) 0 0 c = true) ∧
      lockstep wo 0 0 (2 ^ W - 16) mb ⟨hist, cache.take 4, 0⟩ 0 (closeMetaBlock res.cmds res.lastInsertLen) = true ∧
      replayCommands wo 0 0 (2 ^ W - 16) mb (cache.take 4) hist (closeMetaBlock res.cmds res.lastInsertLen)
        = some (hist ++ mb) ∧
      ∀ d, (d, true) ∈ copyEvents wo 0 0 (2 ^ W - 16) mb ⟨hist, cache.take 4, 0⟩
          (closeMetaBlock res.cmds res.lastInsertLen) → 1 ≤ d ∧ d ≤ 2 ^ W - 16 := by
  have hb := blockOK_of_header gp hq hpd data k tail hist mb lo hd
  obtain ⟨a, b, c⟩ := commands_lockstep ops (cbrParams (genInit gp)) gp.large_window wo data k tail hist mb lo hb hops
    numBytes position h0 cache lastInsertLen numLiterals res hpos hmb hc hcl h
  rw [cbr_window_eq_declared gp hq] at b c
  exact ⟨declaredWbits gp, (decoder_derives_declared_window gp rest).1, rfl, a, b, c,
    fun d hd' => lz77_copies_within_window _ _ _ _ _ _ _ d hd'⟩

/-- the same with NOTHING assumed about the hasher, for the BasicHasher family (H2, H3, H4, H54):
`OpsOK` is `match_sound_basic` -/
theorem emitted_distances_within_declared_window_basic (P : BasicP) (useDict : Bool) (lbs : Nat) (gp : GenParams)
    (hq : 2 ≤ gp.quality) (hpd : PlainDist gp) (wo : WordOracle)
    (data : ByteArray) (k tail : Nat) (hk : k ≤ 32) (hist mb : Bytes) (lo : Nat)
    (hd : BlockData data k tail hist mb lo (declaredWindow gp))
    (dict : ByteArray → Nat → Option (List DictItem)) (hdf : DictFaithful wo dict data)
    (numBytes position : Nat) (b0 : Tab) (c0 : Common) (cache : List Int) (lastInsertLen numLiterals : Nat)
    (res : Result (Tab × Common))
    (hpos : position = hist.length + lastInsertLen) (hmb : mb.length = lastInsertLen + numBytes)
    (hc : CacheI32 cache) (hcl : 4 ≤ cache.length)
    (h : createBackwardReferences (basicOps P useDict lbs dict data (2 ^ k - 1)) (cbrParams (genInit gp)) numBytes position
      (b0, c0) cache lastInsertLen numLiterals = some res) (rest : List Bool) :
    ∃ W, readWbits (pendingWriter (ensureInitialized true (hdrParams gp)) ++ rest) = some (W, gp.large_window, rest) ∧
      W = declaredWbits gp ∧
      (∀ c ∈ closeMetaBlock res.cmds res.lastInsertLen, cmdOK (distAlphabetSize gp.large_window 0 0) 0 0 c = true) ∧
      lockstep wo 0 0 (2 ^ W - 16) mb ⟨hist, cache.take 4, 0⟩ 0 (closeMetaBlock res.cmds res.lastInsertLen) = true ∧
      replayCommands wo 0 0 (2 ^ W - 16) mb (cache.take 4) hist (closeMetaBlock res.cmds res.lastInsertLen)
        = some (hist ++ mb) ∧
      ∀ d, (d, true) ∈ copyEvents wo 0 0 (2 ^ W - 16) mb ⟨hist, cache.take 4, 0⟩
          (closeMetaBlock res.cmds res.lastInsertLen) → 1 ≤ d ∧ d ≤ 2 ^ W - 16 :=
  emitted_distances_within_declared_window _ gp hq hpd wo data k tail hist mb lo hd
    (basicOps_ok _ P useDict lbs _ data k hk _ hdf) numBytes position (b0, c0) cache lastInsertLen numLiterals res
    hpos hmb hc hcl h rest

/-- AdvHasher family (H5, H6, and the q9.5 variants) -/
theorem emitted_distances_within_declared_window_adv (P : AdvP) (hla : 4 ≤ P.lookahead) (numLast lbs : Nat) (gp : GenParams)
    (hq : 2 ≤ gp.quality) (hpd : PlainDist gp) (wo : WordOracle)
    (data : ByteArray) (k tail : Nat) (hk : k ≤ 32) (hist mb : Bytes) (lo : Nat)
    (hd : BlockData data k tail hist mb lo (declaredWindow gp))
    (dict : ByteArray → Nat → Option (List DictItem)) (hdf : DictFaithful wo dict data)
    (numBytes position : Nat) (st0 : AdvSt) (c0 : Common) (cache : List Int) (lastInsertLen numLiterals : Nat)
    (res : Result (AdvSt × Common))
    (hpos : position = hist.length + lastInsertLen) (hmb : mb.length = lastInsertLen + numBytes)
    (hc : CacheI32 cache) (hcl : 4 ≤ cache.length)
    (h : createBackwardReferences (advOps P numLast lbs dict data (2 ^ k - 1)) (cbrParams (genInit gp)) numBytes position
      (st0, c0) cache lastInsertLen numLiterals = some res) (rest : List Bool) :
    ∃ W, readWbits (pendingWriter (ensureInitialized true (hdrParams gp)) ++ rest) = some (W, gp.large_window, rest) ∧
      W = declaredWbits gp ∧
      (∀ c ∈ closeMetaBlock res.cmds res.lastInsertLen, cmdOK (distAlphabetSize gp.large_window 0 0) 0 0 c = true) ∧
      lockstep wo 0 0 (2 ^ W - 16) mb ⟨hist, cache.take 4, 0⟩ 0 (closeMetaBlock res.cmds res.lastInsertLen) = true ∧
      replayCommands wo 0 0 (2 ^ W - 16) mb (cache.take 4) hist (closeMetaBlock res.cmds res.lastInsertLen)
        = some (hist ++ mb) ∧
      ∀ d, (d, true) ∈ copyEvents wo 0 0 (2 ^ W - 16) mb ⟨hist, cache.take 4, 0⟩
          (closeMetaBlock res.cmds res.lastInsertLen) → 1 ≤ d ∧ d ≤ 2 ^ W - 16 :=
  emitted_distances_within_declared_window _ gp hq hpd wo data k tail hist mb lo hd
    (advOps_ok _ P numLast lbs _ data k hk _ hla hdf) numBytes position (st0, c0) cache lastInsertLen numLiterals res
    hpos hmb hc hcl h rest

/-- H9 (quality 9 with large inputs) -/
theorem emitted_distances_within_declared_window_h9 (P : H9P) (lbs : Nat) (gp : GenParams)
    (hq : 2 ≤ gp.quality) (hpd : PlainDist gp) (wo : WordOracle)
    (data : ByteArray) (k tail : Nat) (hk : k ≤ 32) (hist mb : Bytes) (lo : Nat)
    (hd : BlockData data k tail hist mb lo (declaredWindow gp))
    (dict : ByteArray → Nat → Option (List DictItem)) (hdf : DictFaithful wo dict data)
    (numBytes position : Nat) (st0 : AdvSt) (c0 : Common) (cache : List Int) (lastInsertLen numLiterals : Nat)
    (res : Result (AdvSt × Common))
    (hpos : position = hist.length + lastInsertLen) (hmb : mb.length = lastInsertLen + numBytes)
    (hc : CacheI32 cache) (hcl : 4 ≤ cache.length)
    (h : createBackwardReferences (h9Ops P lbs dict data (2 ^ k - 1)) (cbrParams (genInit gp)) numBytes position
      (st0, c0) cache lastInsertLen numLiterals = some res) (rest : List Bool) :
    ∃ W, readWbits (pendingWriter (ensureInitialized true (hdrParams gp)) ++ rest) = some (W, gp.large_window, rest) ∧
      W = declaredWbits gp ∧
      (∀ c ∈ closeMetaBlock res.cmds res.lastInsertLen, cmdOK (distAlphabetSize gp.large_window 0 0) 0 0 c = true) ∧
      lockstep wo 0 0 (2 ^ W - 16) mb ⟨hist, cache.take 4, 0⟩ 0 (closeMetaBlock res.cmds res.lastInsertLen) = true ∧
      replayCommands wo 0 0 (2 ^ W - 16) mb (cache.take 4) hist (closeMetaBlock res.cmds res.lastInsertLen)
        = some (hist ++ mb) ∧
      ∀ d, (d, true) ∈ copyEvents wo 0 0 (2 ^ W - 16) mb ⟨hist, cache.take 4, 0⟩
          (closeMetaBlock res.cmds res.lastInsertLen) → 1 ≤ d ∧ d ≤ 2 ^ W - 16 :=
  emitted_distances_within_declared_window _ gp hq hpd wo data k tail hist mb lo hd
    (h9Ops_ok _ P lbs _ data k hk _ hdf) numBytes position (st0, c0) cache lastInsertLen numLiterals res
    hpos hmb hc hcl h rest

/-- a request: quality 5, lgwin 10 (everything else at the value `BrotliEncoderInitParams` gives the
fields that matter here: mode GENERIC, dist fields 0) -/
def exampleReq : GenParams := { (default : GenParams) with quality := 5, lgwin := 10 }

example : cbrParams (genInit exampleReq) = ⟨5, 10, 0x3FFFFFC, 0, 0⟩ ∧ declaredWbits exampleReq = 10 ∧
    declaredWindow exampleReq = 1008 ∧ PlainDist exampleReq := by
  refine ⟨rfl, by decide, by decide, Or.inr ⟨by decide, rfl, rfl⟩⟩

/-- large window, FONT mode at quality 3 (< 4: the FONT postfix is not applied), lgwin beyond the range -/
example : cbrParams (genInit { (default : GenParams) with quality := 3, lgwin := 99, large_window := true, mode := 2 })
    = ⟨3, 30, 0x7FFFFFC, 0, 0⟩ := rfl

/-- FONT mode from quality 4 on is NOT covered (`PlainDist` fails): NPOSTFIX = 1, NDIRECT = 12 -/
example : (genInit { (default : GenParams) with quality := 4, lgwin := 22, mode := 2 }).dist = ⟨1, 12, 124, 134217732⟩ := by
  decide

/-- the concrete run of BV/Lemmas/CbrDict.lean (`Example`: a 32-byte text in a 64-byte ring, BasicHasher,
one static-dictionary slot) IS a run with the parameters of the request `exampleReq`; every hypothesis of
`emitted_distances_within_declared_window_basic` holds of it, the header of that stream reads back as
WBITS = 10, and the decoder run with the window 2^10 − 16 replays its two commands (a static-dictionary
reference and the closing insert) to the text -/
example : ∃ res, createBackwardReferences (basicOps Example.hasher true 540 Example.dict Example.data (2 ^ 6 - 1))
      (cbrParams (genInit exampleReq)) 32 0 (Array.replicate 32 0, ⟨0, 0⟩) [4, 11, 15, 16] 0 0 = some res ∧
    readWbits (pendingWriter (ensureInitialized true (hdrParams exampleReq)) ++ [true, true]) = some (10, false, [true, true]) ∧
    replayCommands Example.oracle 0 0 (2 ^ 10 - 16) Example.text [4, 11, 15, 16] []
      (closeMetaBlock res.cmds res.lastInsertLen) = some Example.text := by
  have hp : cbrParams (genInit exampleReq) = Example.params := rfl
  have hd : BlockData Example.data 6 32 [] Example.text 0 (declaredWindow exampleReq) :=
    ⟨Example.ring_ok, by decide, by decide, by decide, by decide, by decide⟩
  cases hr : createBackwardReferences (basicOps Example.hasher true 540 Example.dict Example.data (2 ^ 6 - 1))
      (cbrParams (genInit exampleReq)) 32 0 (Array.replicate 32 0, ⟨0, 0⟩) [4, 11, 15, 16] 0 0 with
  | none => have := Example.run; rw [← hp, hr] at this; cases this
  | some res =>
    obtain ⟨W, h1, h2, _, _, h5, _⟩ := emitted_distances_within_declared_window_basic Example.hasher true 540 exampleReq
      (by decide) (Or.inr ⟨by decide, rfl, rfl⟩) Example.oracle Example.data 6 32 (by decide) [] Example.text 0 hd
      Example.dict Example.dict_ok 32 0 (Array.replicate 32 0) ⟨0, 0⟩ [4, 11, 15, 16] 0 0 res rfl rfl
      (by intro x hx; simp at hx; rcases hx with rfl | rfl | rfl | rfl <;> decide) (by decide) hr [true, true]
    have hW : W = 10 := by rw [h2]; decide
    subst hW
    exact ⟨res, rfl, h1, by simpa using h5⟩

end BV.Props.C15Window
