/-
C02 — Multi-threaded compression never returns success with wrong or truncated data.

Property theorems ONLY (helper lemmas: BV/Lemmas/Multi*.lean).  Model: BV/Model/Multi.lean
(`get_range`, `compress_part`, `CompressMulti` of src/enc/threading.rs with the three
spawners; the single-stream encoder is an oracle — per job a recorded result) on top of the
complete concatenator model BV/Model/Concat.lean (nothing assumed there: C03, C12, C16).

Spec side (written independently of the code-mirroring functions, BV/Lemmas/MultiStitch.lean):
`spliceAll cap bs` — the members `bs` pushed through the concatenator the way its API
prescribes (per member `new_brotli_file` + one `stream` call with all the room left, which
must answer `NeedsMoreInput|Success`; then `finish = Success`); `pieces_prefix` — slices glued.
-/
import BV.Lemmas.MultiSound
import BV.Lemmas.MultiBound
import BV.Lemmas.MultiSplice
import BV.Props.C13

namespace BV.Props.C02
open BV.Multi BV.Multi.Res BV.Lemmas.Multi

/-- `ranges_tile`.  For every input length `n` and thread count `1 ≤ t` (a `usize`) with
`n·t < 2^64`: no multiplication of `get_range` overflows (debug and release build agree); the
pieces are `[bnd i, bnd (i+1))` with `bnd k = k·n/t`: consecutive (piece `i` ends where piece
`i+1` starts), ordered, inside `[0, n]`, the first starts at 0, the last ends at `n`; and —
the tiling itself, on ANY list of length `n` — the slices `input[lo_i .. hi_i]` glued in index
order are the input: nothing lost, nothing doubled. -/
theorem ranges_tile (t n : Nat) (ht : 1 ≤ t) (ht64 : t < U64) (hnt : n * t < U64) :
    (∀ i, i < t → getRange i t n = ok (bnd t n i, bnd t n (i + 1)) ∧
                  getRangeWrap i t n = ok (bnd t n i, bnd t n (i + 1)) ∧
                  bnd t n i ≤ bnd t n (i + 1) ∧ bnd t n (i + 1) ≤ n) ∧
    bnd t n 0 = 0 ∧ bnd t n t = n ∧
    (∀ {α : Type} (input : List α), input.length = n →
      ((List.range t).flatMap fun i => (input.drop (bnd t n i)).take (bnd t n (i + 1) - bnd t n i)) = input) := by
  refine ⟨fun i hi => ⟨getRange_eq i t n hi ht64 hnt, getRangeWrap_eq i t n hi ht64 hnt,
    bnd_mono t n (Nat.le_succ i), bnd_le t n (i + 1) (by omega) (by omega)⟩, bnd_zero t n, bnd_top t n (by omega), ?_⟩
  intro α input hlen
  rw [pieces_prefix input t n t, bnd_top t n (by omega), ← hlen, List.take_length]

/-- non-vacuity: 7 bytes over 3 threads are cut `[0,2) [2,4) [4,7)` -/
example : getRange 0 3 7 = ok (0, 2) ∧ getRange 1 3 7 = ok (2, 4) ∧ getRange 2 3 7 = ok (4, 7) := by decide

/-- outside the bound the debug build panics where the release build wraps to a WRONG range:
`n = 2^63`, 4 threads, piece 2 -/
example : getRange 2 4 (2 ^ 63) = panic .rangeMul ∧ getRangeWrap 2 4 (2 ^ 63) = ok (0, 2 ^ 61) := by decide

/-- For every thread count `1 ≤ t` (the pool: `≤ MAX_THREADS`), every spawner, every output
capacity and ALL job outputs (arbitrary bytes, or `Err`): if no job panics or spins,
`CompressMulti` returns; none of its own panic sites and none of the concatenator's is
reachable (C16's invariant is threaded through the stitch loop); the bytes written stay inside
the buffer; the input is handed back. -/
theorem multi_no_panic (sp : Spawner) (t : Nat) (jobs : Nat → JobRes) (cap : Nat) (ht : 1 ≤ t)
    (hp : sp = .pool → t ≤ BV.Gen.MAX_THREADS) (hc : Clean jobs t) :
    ∃ r, compressMulti sp t jobs cap = ok r ∧ r.returned = true ∧ r.out.length ≤ cap := by
  rw [compressMulti_clean sp t jobs cap (by omega) hp hc]
  exact loop_total cap _ (allJoined_fine sp t jobs hc)

/-- the pool's `assert!(num_threads <= MAX_THREADS)`: 17 threads panic at the first spawn -/
example : compressMulti .pool 17 (fun _ => .ok [0x3b]) 100 = panic .poolAssert := by decide

/-- `multi_ok_sound`.  If `CompressMulti` returns `Ok(k)` — any spawner, hence (C07
`join_returns_own`, see C06) any schedule — then EVERY job returned `Ok(bytes_i)`, every
concatenator call answered `Success|NeedsMoreInput`, `finish` answered `Success`
(`spliceAll … = some out`), `output[..k]` is exactly the reference splice of
`bytes_0 … bytes_{t-1}` in index order, `k ≤ output.len()`, and the input was handed back. -/
theorem multi_ok_sound (sp : Spawner) (t : Nat) (jobs : Nat → JobRes) (cap : Nat) (r : MultiRet) (k : Nat)
    (h : compressMulti sp t jobs cap = ok r) (hk : r.result = .ok k) :
    ∃ bs : List (List Nat), bs.length = t ∧ (∀ i b, bs[i]? = some b → jobs i = .ok b) ∧
      spliceAll cap bs = some r.out ∧ k = r.out.length ∧ r.returned = true :=
  compressMulti_ok_sound h hk

/-- …and conversely: whenever every job is `Ok` and the reference splice succeeds, every
spawner returns `Ok` with exactly these bytes.  Together: `Ok(k)` ⇔ all jobs `Ok` ∧ splice ok. -/
theorem multi_ok_complete (sp : Spawner) (t : Nat) (jobs : Nat → JobRes) (cap : Nat) (bs : List (List Nat))
    (out : List Nat) (ht : 1 ≤ t) (hp : sp = .pool → t ≤ BV.Gen.MAX_THREADS) (hlen : bs.length = t)
    (hj : ∀ i b, bs[i]? = some b → jobs i = .ok b) (hs : spliceAll cap bs = some out) :
    compressMulti sp t jobs cap = ok ⟨.ok out.length, out, true⟩ := by
  have hc : Clean jobs t := by
    intro i hi
    have := hj i bs[i] (List.getElem?_eq_getElem (by omega))
    rw [this]; exact ⟨by simp, by simp⟩
  rw [compressMulti_clean sp t jobs cap (by omega) hp hc]
  exact (loop_ok_iff cap _ _ out true).mpr ⟨bs, (allJoined_eq_iff sp t jobs bs).mpr ⟨hlen, hj⟩, hs, rfl, rfl⟩

/-- non-vacuity (2 jobs: an appendable member with magic header and an empty catable member):
the stitched stream is the first member — `3b` contributes nothing -/
example : compressMulti .threads 2 (fun i => if i = 0 then .ok [0x6b, 0x11, 0x00, 0xe1, 0x97, 0x82, 0x01, 0x00, 0x03] else .ok [0x3b]) 100
    = ok ⟨.ok 9, [0x6b, 0x11, 0x00, 0xe1, 0x97, 0x82, 0x01, 0x00, 0x03], true⟩ := by decide

/-- Regression target (defect D18): the stitch loop of `compressMultiV0` overwrites
`compression_result` in every iteration.  Empty input, magic header, 2 threads, a 2-byte
output buffer: job 0's look-ahead does not fit (`NeedsMoreOutput`), job 1 (`3b`) is shorter
than the look-ahead (`NeedsMoreInput`) — that aggregation answers `Ok(2)` with the cut
header `6b 11`, although the reference splice fails; `compressMulti` answers
`Err(InsufficientOutputSpace)`. -/
theorem error_overwritten_v0 :
    let jobs : Nat → JobRes := fun i => if i = 0 then .ok [0x6b, 0x11, 0x00, 0xe1, 0x97, 0x82, 0x01, 0x00, 0x03] else .ok [0x3b]
    compressMultiV0 .threads 2 jobs 2 = ok ⟨.ok 2, [0x6b, 0x11], true⟩ ∧
    spliceAll 2 [[0x6b, 0x11, 0x00, 0xe1, 0x97, 0x82, 0x01, 0x00, 0x03], [0x3b]] = none ∧
    compressMulti .threads 2 jobs 2 = ok ⟨.error .insufficient, [0x6b, 0x11], true⟩ := by
  decide

/-- the same overwrite with a failed JOB: `[Err, Ok]` gives `Ok` with job 0 missing -/
example : compressMultiV0 .inline 2 (fun i => if i = 0 then .err else .ok [0x3b]) 10 = ok ⟨.ok 1, [0x3b], true⟩ ∧
    compressMulti .inline 2 (fun i => if i = 0 then .err else .ok [0x3b]) 10 = ok ⟨.error .insufficient, [], true⟩ := by
  decide

/-- `multi_input_returned`.  On EVERY return path of `CompressMulti` on which no job panicked
the input token is back in `owned_input` — success, `InsufficientOutputSpace`, concatenation
and finalisation errors, a failed job. -/
theorem multi_input_returned (sp : Spawner) (t : Nat) (jobs : Nat → JobRes) (cap : Nat) (r : MultiRet)
    (hnp : ∀ i, i < t → jobs i ≠ .panic) (h : compressMulti sp t jobs cap = ok r) : r.returned = true := by
  obtain ⟨_, hrun⟩ := compressMulti_inv h
  obtain ⟨x, hx, hf⟩ := bind_eq_ok hrun
  cases x with
  | inr e =>
    obtain ⟨hm, _⟩ := stitch_inr cap _ acc0 e hx
    simp only [allJoined, List.mem_map, List.mem_range] at hm
    obtain ⟨i, hi, hj⟩ := hm
    exact absurd ((joined_execErr_iff sp _).mp hj).2 (hnp i hi)
  | inl a =>
    simp only [wrapUp, finishUp] at hf
    cases hr : a.res with
    | error e => rw [hr] at hf; simp only [ok.injEq] at hf; subst hf; rfl
    | ok k =>
      rw [hr] at hf
      dsimp only at hf
      cases hfin : BV.Concat.finish a.cat (cap - a.out.length) with
      | panic s => rw [hfin] at hf; cases hf
      | ok f => rw [hfin] at hf; simp only [ok.injEq] at hf; subst hf; rfl

/-- the hypothesis is needed, and this is the only way to lose the input: a job thread of the
thread-per-job spawner panicked (`join` → `Err(ThreadExecError)`, the early `return`; the other
jobs may still be running and hold their clones of the `Arc`) -/
example : compressMulti .threads 2 (fun i => if i = 0 then .panic else .ok [0x3b]) 10
    = ok ⟨.error .threadExec, [], false⟩ := by decide

/-- with the pool the same job makes its `join` wait for ever (the worker died before
publishing); with the inline spawner and for the last job the panic is the caller's -/
example : compressMulti .pool 2 (fun i => if i = 0 then .panic else .ok [0x3b]) 10 = hang ∧
    compressMulti .inline 2 (fun i => if i = 0 then .panic else .ok [0x3b]) 10 = panic (.jobOnCaller 0) ∧
    compressMulti .threads 2 (fun i => if i = 0 then .ok [0x3b] else .panic) 10 = panic (.jobOnCaller 1) := by
  decide

/-- Regression target (defect D13): in `compressMultiV0`, `compression_result?` returns before the
hand-back — one thread, an output buffer that is too small -/
theorem input_not_returned_v0 :
    compressMultiV0 .threads 1 (fun _ => .ok [0x3b]) 0 = ok ⟨.error (.finalization BV.Concat.NEEDS_MORE_OUTPUT), [], true⟩ ∧
    compressMultiV0 .threads 1 (fun _ => .ok [0x0b, 0x01, 0x80, 0x61, 0x03]) 2 = ok ⟨.error .insufficient, [0x0b, 0x01], false⟩ ∧
    compressMulti .threads 1 (fun _ => .ok [0x0b, 0x01, 0x80, 0x61, 0x03]) 2 = ok ⟨.error .insufficient, [0x0b, 0x01], true⟩ := by
  decide

/-- (item `part_truncation_impossible` of the property) ALL qualities: whenever `compress_part`
reports `Ok(bytes)`, the encoder call that ended the loop returned `true` AND reported
`is_finished()`, and `bytes` are all the bytes the recorded calls produced, in order. -/
theorem part_ok_is_finished : ∀ (calls : List EncAns) (availIn availOut : Nat) (acc bytes : List Nat),
    partLoop calls availIn availOut acc = ok (.ok bytes) →
    ∃ (pre : List CallAns) (last : CallAns), last.result = true ∧ last.finished = true ∧
      calls.take (pre.length + 1) = (pre ++ [last]).map EncAns.ans ∧
      bytes = acc ++ (pre ++ [last]).flatMap (·.produced) := by
  intro calls
  induction calls with
  | nil => intro _ _ _ _ h; simp [partLoop] at h
  | cons c rest ih =>
    intro availIn availOut acc bytes h
    cases c with
    | panic => simp [partLoop] at h
    | ans a =>
      simp only [partLoop] at h
      split at h
      · cases h
      · split at h
        · cases h
        · split at h
          · rename_i hfin
            simp only [ok.injEq, JobRes.ok.injEq] at h
            exact ⟨[], a, by simpa using hfin.1, by simpa using hfin.2, by simp, by simp [h]⟩
          · split at h
            · cases h
            · obtain ⟨pre, last, h1, h2, h3, h4⟩ := ih _ _ _ _ h
              refine ⟨a :: pre, last, h1, h2, ?_, ?_⟩
              · simp only [List.length_cons, List.take_succ_cons, List.cons_append, List.map_cons, h3]
              · rw [h4]; simp

/-- one accepted call decides the job, whatever the record holds after it -/
theorem part_one_call (i t n : Nat) (a : CallAns) (rest : List EncAns) (hi : i < t) (ht64 : t < U64) (hnt : n * t < U64)
    (hres : a.result = true) (hcons : a.consumed ≤ bnd t n (i + 1) - bnd t n i)
    (hfit : a.produced.length ≤ maxCompressedSize (bnd t n (i + 1) - bnd t n i)) :
    compressPart i t n (.ans a :: rest) = if a.finished then .ok a.produced else .err := by
  unfold compressPart
  rw [getRange_eq i t n hi ht64 hnt]
  have hm : bnd t n i ≤ bnd t n (i + 1) := bnd_mono t n (show i ≤ i + 1 by omega)
  have hle := bnd_le t n (i + 1) (by omega) (by omega)
  dsimp only
  rw [if_neg (by omega), if_neg (by omega), if_neg (by omega)]
  simp only [partLoop]
  rw [if_neg (by omega), if_neg (by omega)]
  cases a.finished <;> simp [hres]

/-- (item `part_truncation_impossible_q2` of the property) The hypotheses under which a job SUCCEEDS: the instance
`finished = true` of `part_one_call`.  If the FINISH
call on a fresh encoder, handed the whole piece and a buffer that holds the whole stream,
returns `true`, finished, with the whole stream (the stream machine's contract,
C20/C01) and the stream fits `BrotliEncoderMaxCompressedSize(len)` (C08 `stream_total_le_bound_partial`,
proved for quality ≥ 2; FALSE at quality 0/1 with lgwin < 14, where the job answers
`Err(InsufficientOutputSpace)`, not a cut stream), then the job is `Ok(stream)`. -/
theorem part_succeeds_when_stream_fits (i t n : Nat) (stream : List Nat) (rest : List EncAns) (consumed : Nat)
    (hi : i < t) (ht64 : t < U64) (hnt : n * t < U64)
    (hcons : consumed ≤ bnd t n (i + 1) - bnd t n i)
    (hfit : stream.length ≤ maxCompressedSize (bnd t n (i + 1) - bnd t n i)) :
    compressPart i t n (.ans ⟨true, true, consumed, stream⟩ :: rest) = .ok stream :=
  part_one_call i t n ⟨true, true, consumed, stream⟩ rest hi ht64 hnt rfl hcons hfit

/-- non-vacuity + the q0/1 shape: a call that returns `true` with a full buffer but NOT
finished is an error, not `Ok` with a cut stream -/
example : compressPart 0 1 5 [.ans ⟨true, true, 5, [0x0b, 0x02, 0x80, 1, 2, 3, 4, 5, 3]⟩] = .ok [0x0b, 0x02, 0x80, 1, 2, 3, 4, 5, 3] ∧
    compressPart 0 1 5 [.ans ⟨true, false, 5, List.replicate 27 0⟩] = .err := by decide

/-- `dict_prefix_positions`.  Quality ≥ 2, window `lgwin` (sanitised, ≥ 10), prefix of `size ≥ 1`
bytes.  The dictionary is used; if `size > 2^lgwin − 16` exactly the LAST `2^lgwin − 16` bytes
are kept (`dropped + kept = size`), otherwise all; the first input byte gets position `kept`
(not `size`): job position `p` is absolute position `p + dropped`.  So an index built over the
untruncated prefix (absolute positions) is not the job's own index unless `dropped = 0`. -/
theorem dict_prefix_positions (size lgwin quality : Nat) (hq : 2 ≤ quality) (hs : 1 ≤ size) (hl : 10 ≤ lgwin) :
    (dictPlan size lgwin quality).used = true ∧
    (dictPlan size lgwin quality).dropped + (dictPlan size lgwin quality).kept = size ∧
    (dictPlan size lgwin quality).kept = min size (2 ^ lgwin - 16) ∧
    ((dictPlan size lgwin quality).dropped = 0 ↔ size ≤ 2 ^ lgwin - 16) ∧
    (∀ {α : Type} (input : List α), size ≤ input.length →
      ((input.take size).drop (dictPlan size lgwin quality).dropped).length = (dictPlan size lgwin quality).kept) := by
  have hpow : 1024 ≤ 2 ^ lgwin := by
    have : (2 : Nat) ^ 10 ≤ 2 ^ lgwin := Nat.pow_le_pow_right (by decide) hl
    simpa using this
  unfold dictPlan
  have h1 : ¬ (size = 0 ∨ quality = 0 ∨ quality = 1) := by omega
  rw [if_neg h1]
  by_cases hbig : size > 2 ^ lgwin - 16
  · rw [if_pos hbig]
    refine ⟨rfl, ?_, ?_, ?_, ?_⟩
    · show size - (2 ^ lgwin - 16) + (2 ^ lgwin - 16) = size; omega
    · show 2 ^ lgwin - 16 = min size (2 ^ lgwin - 16); omega
    · show size - (2 ^ lgwin - 16) = 0 ↔ size ≤ 2 ^ lgwin - 16; omega
    · intro α input hin
      show ((input.take size).drop (size - (2 ^ lgwin - 16))).length = 2 ^ lgwin - 16
      simp only [List.length_drop, List.length_take]; omega
  · rw [if_neg hbig]
    refine ⟨rfl, ?_, ?_, ?_, ?_⟩
    · show 0 + size = size; omega
    · show size = min size (2 ^ lgwin - 16); omega
    · show (0 : Nat) = 0 ↔ size ≤ 2 ^ lgwin - 16; omega
    · intro α input hin
      show ((input.take size).drop 0).length = size
      simp only [List.drop_zero, List.length_take]; omega

/-- quality 0/1 ignore the dictionary altogether -/
example : dictPlan 5000 13 1 = ⟨false, 0, 0⟩ ∧ dictPlan 15000 13 6 = ⟨true, 6824, 8176⟩ ∧ dictPlan 1 13 6 = ⟨true, 0, 1⟩ := by decide

/-- `multi_succeeds_when_sized` — FULL (no run-time-checked assumption).
Job outputs: `m₀` (job 0) and `dᵢ.m` (job i ≥ 1), well-formed in the sense of C03
`concat_bits`: `m₀` has a parsable window field, more bytes than the concatenator's
look-ahead and ends with its end marker; every later output is `MemberOK` behind `m₀`'s header
(window not larger, same header form, first meta-block header inside the look-ahead — the
catable prelude —, end marker in its last two bytes).  Size: job 0 is at most `c0`, every other
job at most `ci` bytes longer than `piece + 4·(piece ≫ 14)`, with `c0 + ci·(t−1) ≤ 22 + 8t`.
Then for every spawner, `|out| ≥ BrotliEncoderMaxCompressedSizeMulti(n, t)` implies `Ok(k)`:
no concatenator call answers `NeedsMoreOutput`, `finish` answers `Success`, `k` is at most the
advertised bound and the output, as a bit string, is the closed form of `concat_bits` (only the
last end marker survives, every later window field is gone).
The joints never lengthen the output and shorten it by 0 or 1 byte only (`splice_sized`), which is
why the bits stripped at the joints cannot pay for larger per-job slacks. -/
theorem multi_succeeds_when_sized (sp : Spawner) (t n cap c0 ci : Nat) (jobs : Nat → JobRes)
    (m0 pre0 : List Nat) (a0 b0 n0 D0 wsz0 wo0 : Nat) (ds : List BV.Concat.MemberData)
    (ht : 1 ≤ t) (hp : sp = .pool → t ≤ BV.Gen.MAX_THREADS) (hn : n < 2 ^ 62) (hn0 : 0 < n)
    (hlen : ds.length + 1 = t) (hj0 : jobs 0 = .ok m0) (hji : ∀ i d, ds[i]? = some d → jobs (i + 1) = .ok d.m)
    (hbytes : ∀ y, y ∈ m0 → y < 256) (hlong : BV.Concat.need (m0.headD 0) + 1 ≤ m0.length)
    (hparse : BV.Concat.parseWindowSize (m0.take (BV.Concat.need (m0.headD 0))) = .ok (some (wsz0, wo0)))
    (hm0 : m0 = pre0 ++ [a0, b0]) (hmark : BV.Concat.Marked (a0 + (b0 <<< 8)) n0 D0)
    (hok : ∀ d, d ∈ ds → BV.Concat.MemberOK (wsz0 ||| (if wo0 = 14 then BV.Concat.LARGE_WINDOW_FLAG else 0)) d)
    (hc : c0 + ci * (t - 1) ≤ 22 + 8 * t)
    (h0 : m0.length ≤ piece t n 0 + 4 * (piece t n 0 / 16384) + c0)
    (hi : ∀ i d, ds[i]? = some d → d.m.length ≤ piece t n (i + 1) + 4 * (piece t n (i + 1) / 16384) + ci)
    (hcap : maxCompressedSizeMulti n t ≤ cap) :
    ∃ out, compressMulti sp t jobs cap = ok ⟨.ok out.length, out, true⟩ ∧
      out.length ≤ maxCompressedSizeMulti n t ∧
      BV.Concat.bytesToBits out = BV.Concat.bytesToBits pre0 ++ BV.Concat.bitsOf n0 D0 ++ BV.Concat.laterBits n0 ds
        ++ [true, true] ++ List.replicate (14 - BV.Concat.lastN n0 ds) false := by
  have hbl : (m0 :: ds.map fun d => d.m).length = t := by simp; omega
  have hsum := sized_arith_zero t n c0 ci (fun i => ((m0 :: ds.map fun d => d.m).getD i []).length) (by omega) hn hn0 hc
    (by simpa using h0)
    (by
      rintro (_ | j) hi0 hit
      · omega
      · have hlt : j < ds.length := by omega
        simpa [List.getD_eq_getElem?_getD, List.getElem?_eq_getElem hlt] using hi j ds[j] (List.getElem?_eq_getElem hlt))
  rw [← hbl, sumTo_lengths] at hsum
  have hsum' : m0.length + (ds.map fun d => d.m.length).sum ≤ maxCompressedSizeMulti n t := by
    simpa [List.map_map, Function.comp_def, hbl] using hsum
  obtain ⟨out, hsp, hol, hbits⟩ := splice_sized cap m0 pre0 a0 b0 n0 D0 wsz0 wo0 ds hbytes hlong hparse hm0 hmark hok
    (by omega)
  refine ⟨out, ?_, by omega, hbits⟩
  apply multi_ok_complete sp t jobs cap (m0 :: ds.map fun d => d.m) out ht hp hbl _ hsp
  intro i b hb
  cases i with
  | zero => simp at hb; subst hb; exact hj0
  | succ j =>
    simp only [List.getElem?_cons_succ, List.getElem?_map, Option.map_eq_some_iff] at hb
    obtain ⟨d, hd, rfl⟩ := hb
    exact hji j d hd

/-- the per-job size hypotheses discharged by C08: every job output has the length of a
never-flushed stream of C08's shape (`JobStream`: payload-independent head, meta-blocks obeying
`Guard` — at most `len + 4` (`+ 5`) bytes per meta-block — and `BlocksOK`, empty last block) for
its piece `xs i` under its parameters: job 0 the caller's with `appendable`, jobs ≥ 1
additionally `catable`, no magic header.  `wmax` bounds the window field (4 for lgwin 16 and
18..24 in the normal form, 14 always).  The slack constants `jobSlack` are PROVED from
`streamStart_length` and `run_bound`; the arithmetic condition decides which thread counts are
covered (examples below): this, not the concatenator, is what limits the theorem — with `Guard`
alone a model stream may spend `len + 4` bytes on every meta-block, and then 16 jobs with 7- or
14-bit window fields or a magic header do exceed the advertised bound. -/
theorem multi_succeeds_when_sized_c08 (sp : Spawner) (t n cap wmax : Nat) (jobs : Nat → JobRes)
    (p0 : BV.Header.Params) (xs : Nat → List Nat)
    (m0 pre0 : List Nat) (a0 b0 n0 D0 wsz0 wo0 : Nat) (ds : List BV.Concat.MemberData)
    (ht : 1 ≤ t) (hp : sp = .pool → t ≤ BV.Gen.MAX_THREADS) (hn : n < 2 ^ 54) (hn0 : 0 < n)
    (hlen : ds.length + 1 = t) (hj0 : jobs 0 = .ok m0) (hji : ∀ i d, ds[i]? = some d → jobs (i + 1) = .ok d.m)
    (hbytes : ∀ y, y ∈ m0 → y < 256) (hlong : BV.Concat.need (m0.headD 0) + 1 ≤ m0.length)
    (hparse : BV.Concat.parseWindowSize (m0.take (BV.Concat.need (m0.headD 0))) = .ok (some (wsz0, wo0)))
    (hm0 : m0 = pre0 ++ [a0, b0]) (hmark : BV.Concat.Marked (a0 + (b0 <<< 8)) n0 D0)
    (hok : ∀ d, d ∈ ds → BV.Concat.MemberOK (wsz0 ||| (if wo0 = 14 then BV.Concat.LARGE_WINDOW_FLAG else 0)) d)
    (hq : 2 ≤ p0.quality) (hh : p0.sizeHint < 2 ^ 35) (hw4 : wmax ≤ 4 ∨ 14 ≤ wmax)
    (hW0 : (BV.Header.ensureInitialized true { p0 with appendable := true }).lastBytesBits ≤ wmax)
    (hWi : (BV.Header.ensureInitialized true { p0 with appendable := true, catable := true, magicNumber := false }).lastBytesBits ≤ wmax)
    (hx : ∀ i, i < t → (xs i).length = piece t n i)
    (hs0 : JobStream { p0 with appendable := true } (xs 0) m0.length)
    (hsi : ∀ i d, ds[i]? = some d →
      JobStream { p0 with appendable := true, catable := true, magicNumber := false } (xs (i + 1)) d.m.length)
    (hc : jobSlack wmax p0.magicNumber p0.catable + jobSlack wmax false true * (t - 1) ≤ 22 + 8 * t)
    (hcap : maxCompressedSizeMulti n t ≤ cap) :
    ∃ out, compressMulti sp t jobs cap = ok ⟨.ok out.length, out, true⟩ ∧ out.length ≤ maxCompressedSizeMulti n t := by
  have hpl : ∀ i, i < t → piece t n i < 2 ^ 54 := by
    intro i hi
    have h1 : bnd t n (i + 1) ≤ n := bnd_le t n (i + 1) (by omega) (by omega)
    unfold piece; omega
  have e14 : (2 : Nat) ^ 14 = 16384 := by decide
  obtain ⟨out, h1, h2, _⟩ := multi_succeeds_when_sized sp t n cap _ _ jobs m0 pre0 a0 b0 n0 D0 wsz0 wo0 ds ht hp
    (by have : (2 : Nat) ^ 54 ≤ 2 ^ 62 := Nat.pow_le_pow_right (by decide) (by decide)
        omega) hn0 hlen hj0 hji hbytes hlong hparse hm0 hmark hok hc
    (by
      have := jobStream_le { p0 with appendable := true } (xs 0) m0.length wmax hq hh
        (by rw [hx 0 (by omega)]; exact hpl 0 (by omega)) hW0 hs0
      rw [hx 0 (by omega), e14] at this
      exact this)
    (by
      intro i d hd
      have hit : i + 1 < t := by
        have : i < ds.length := by
          rcases Nat.lt_or_ge i ds.length with h | h
          · exact h
          · rw [List.getElem?_eq_none h] at hd; cases hd
        omega
      have := jobStream_le { p0 with appendable := true, catable := true, magicNumber := false } (xs (i + 1)) d.m.length wmax
        hq hh (by rw [hx _ hit]; exact hpl _ hit) hWi (hsi i d hd)
      rw [hx _ hit, e14] at this
      exact this)
    hcap
  exact ⟨out, h1, h2⟩

/-- which thread counts `Guard` + `BlocksOK` cover (non-vacuity of the arithmetic condition):
normal-form window field of ≤ 4 bits (lgwin 16, 18..24) and no magic header — ALL of 1..16 (up
to 25); with the magic header up to 13 (catable: 10); with a 7- or 14-bit window field
(lgwin 10..15, 17, large window) up to 8, with the magic header up to 4. -/
example : ∀ t, 1 ≤ t → t ≤ 16 → jobSlack 4 false false + jobSlack 4 false true * (t - 1) ≤ 22 + 8 * t := by
  intro t h1 h2; simp only [jobSlack]; simp; omega
example : ∀ t, 1 ≤ t → t ≤ 16 → jobSlack 4 false true + jobSlack 4 false true * (t - 1) ≤ 22 + 8 * t := by
  intro t h1 h2; simp only [jobSlack]; simp; omega
example : ∀ t, 1 ≤ t → t ≤ 13 → jobSlack 4 true false + jobSlack 4 false true * (t - 1) ≤ 22 + 8 * t := by
  intro t h1 h2; simp only [jobSlack]; simp; omega
example : ∀ t, 1 ≤ t → t ≤ 8 → jobSlack 14 false false + jobSlack 14 false true * (t - 1) ≤ 22 + 8 * t := by
  intro t h1 h2; simp only [jobSlack]; simp; omega
example : ∀ t, 1 ≤ t → t ≤ 4 → jobSlack 14 true false + jobSlack 14 false true * (t - 1) ≤ 22 + 8 * t := by
  intro t h1 h2; simp only [jobSlack]; simp; omega
/-- …and the condition does fail beyond: 16 jobs, 7-bit window fields -/
example : ¬ (jobSlack 14 false false + jobSlack 14 false true * (16 - 1) ≤ 22 + 8 * 16) := by decide
example : maxCompressedSizeMulti 5000 4 = 5054 ∧ maxCompressedSize 0 = 17 := by decide

/-- non-vacuity of `multi_succeeds_when_sized`: job 0 = `8b 01 80 03 61 62 63 03` (lgwin 22, end
marker on 8 data bits), job 1 = `3b 00 00 00 03` (`MemberOK`: 4 window bits, first meta-block
header ends at bit 6, marker in its last two bytes), 8 input bytes over 2 threads, the pool
spawner, a buffer of exactly the advertised bound -/
def exD : BV.Concat.MemberData := ⟨[0x3b, 0x00, 0x00, 0x00, 0x03], 4, 6, 8, 0⟩

theorem exD_ok : BV.Concat.MemberOK (22 ||| (if (4 : Nat) = 14 then BV.Concat.LARGE_WINDOW_FLAG else 0)) exD :=
  { bytes := by decide
    long := by decide
    parse := ⟨22, by decide, by decide⟩
    form := by decide
    det := by decide
    fit := by decide
    room := by decide
    marker := ⟨[0x3b, 0x00, 0x00], 0x00, 0x03, rfl, ⟨by decide, by decide⟩⟩ }

example : ∃ out, compressMulti .pool 2 (fun i => if i = 0 then .ok [0x8b, 0x01, 0x80, 0x03, 0x61, 0x62, 0x63, 0x03] else .ok exD.m)
      (maxCompressedSizeMulti 8 2) = ok ⟨.ok out.length, out, true⟩ ∧ out.length ≤ maxCompressedSizeMulti 8 2 := by
  obtain ⟨out, h1, h2, _⟩ := multi_succeeds_when_sized .pool 2 8 (maxCompressedSizeMulti 8 2) 6 9
    (fun i => if i = 0 then .ok [0x8b, 0x01, 0x80, 0x03, 0x61, 0x62, 0x63, 0x03] else .ok exD.m)
    [0x8b, 0x01, 0x80, 0x03, 0x61, 0x62, 0x63, 0x03] [0x8b, 0x01, 0x80, 0x03, 0x61, 0x62] 0x63 0x03 8 0x63 22 4 [exD]
    (by decide) (fun _ => by decide) (by decide) (by decide) rfl rfl
    (by intro i d h; cases i with
        | zero => simp at h; subst h; rfl
        | succ j => simp at h)
    (by decide) (by decide) (by decide) rfl ⟨by decide, by decide⟩
    (by intro d hd; simp at hd; subst hd; exact exD_ok)
    (by decide) (by decide)
    (by intro i d h; cases i with
        | zero => simp at h; subst h; decide
        | succ j => simp at h)
    (Nat.le_refl _)
  exact ⟨out, h1, h2⟩

/-- `BrotliEncoderCompressMulti` (C13 `thread_count_clamp`): 0 threads are rejected before anything
is touched, 1 thread takes the single-stream path, and `desired ≥ 2` calls `CompressMulti` with
`t = min(desired, 16)` allocator slots — so the pool's `assert!(num_threads <= MAX_THREADS)` cannot
fire (`multi_no_panic` applies for every spawner and every `desired`), and the bound the caller
computes with `desired` (`BrotliEncoderMaxCompressedSizeMulti(n, desired)`) is at least the bound
for the `t` threads actually used, so `multi_succeeds_when_sized` applies to the clamped call. -/
theorem ffi_thread_clamp (desired : Nat) (hd : 2 ≤ desired) (n cap : Nat) (jobs : Nat → JobRes) (sp : Spawner)
    (hc : Clean jobs (min desired 16)) :
    BV.FFI.multiDispatch desired = .multi (min desired 16) ∧
    (∃ r, compressMulti sp (min desired 16) jobs cap = ok r ∧ r.returned = true ∧ r.out.length ≤ cap) ∧
    maxCompressedSizeMulti n (min desired 16) ≤ maxCompressedSizeMulti n desired := by
  obtain ⟨hdis, h16, hle, _⟩ := (BV.Props.C13.thread_count_clamp desired).2.2 hd
  refine ⟨hdis, multi_no_panic sp _ jobs cap (by omega) (fun _ => h16) hc, ?_⟩
  unfold maxCompressedSizeMulti
  omega

example : BV.FFI.multiDispatch 0 = .reject ∧ BV.FFI.multiDispatch 1 = .single ∧ BV.FFI.multiDispatch 40 = .multi 16 := by
  decide

end BV.Props.C02
