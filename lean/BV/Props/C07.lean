/-
C07 — Worker pool: each job runs once, results are routed correctly, no deadlock.

Property theorems ONLY.  Models: BV/Model/FixedQueue.lean (`src/enc/fixed_queue.rs`),
BV/Model/Pool.lean (`src/enc/worker_pool.rs` as used by `CompressMulti`).
Helper lemmas: BV/Lemmas/Pool*.lean.  `MAX_THREADS` is the generated
`BV.Gen.MAX_THREADS`, read from `src/enc/fixed_queue.rs`.
-/
import BV.Lemmas.PoolFixedQueue
import BV.Lemmas.PoolReach
import BV.Lemmas.PoolRoute
import BV.Lemmas.PoolLive
import BV.Lemmas.PoolTerm
import BV.Lemmas.PoolContract

namespace BV.Props.C07
open BV.Gen BV.FixedQueue BV.Lemmas.FixedQueue BV.Pool BV.Lemmas.Pool

/-- For EVERY sequence of `push` / `pop` / `remove f` calls on a fresh queue: the model
never panics (`remove`'s `assert!` is never hit), the values returned are exactly those
of the abstract list queue `specRun` (`push` = append unless `MAX_THREADS` items are
stored, `pop` = head, `remove f` = first item matching `f`, the head taking its place),
the final queue is well formed (window fully occupied, every other slot `None`) and its
contents are the abstract list. -/
theorem fixed_queue_refines_list {α : Type} (ops : List (QOp α)) :
    ∃ q', runQ (new : FixedQueue α) ops = some ((specRun [] ops).1, q') ∧ WF q' ∧
      q'.items = (specRun [] ops).2 ∧ q'.size = q'.items.length ∧ q'.size ≤ MAX_THREADS := by
  obtain ⟨q', h1, h2, h3⟩ := runQ_refines (new : FixedQueue α) wf_new ops
  rw [items_new] at h1 h3
  exact ⟨q', h1, h2, h3, h2.length_items.symm, h2.size_le⟩

/-- `remove` changes the ORDER of the remaining items (the head is moved into the hole);
what is preserved is the multiset: the old contents are a permutation of the removed
item followed by the new contents. Nothing is lost or duplicated. -/
theorem fixed_queue_remove_multiset {α : Type} (q : FixedQueue α) (w : WF q) (f : Option α → Bool) :
    (∃ x q', q.remove f = some (some x, q') ∧ f (some x) = true ∧ WF q' ∧
        (x :: q'.items).Perm q.items) ∨
    (q.remove f = some (none, q) ∧ ∀ x, x ∈ q.items → f (some x) = false) := by
  rcases remove_spec w f with ⟨h1, h2⟩ | ⟨k, x, q1, R⟩
  · exact .inr ⟨h2, h1⟩
  · exact .inl ⟨x, q1, R.eq, R.hit, R.wf, R.perm⟩

/-- the `assert!(is_none.is_none())` in `remove` cannot fire on ANY queue value, well
formed or not (the target slot was `take()`n two statements earlier) -/
theorem fixed_queue_remove_assert_dead {α : Type} (q : FixedQueue α) (f : Option α → Bool) :
    (q.remove f).isSome :=
  remove_isSome q f

theorem fixed_queue_push_err_iff_full {α : Type} (q : FixedQueue α) (x : α) :
    q.push x = none ↔ q.size = MAX_THREADS := by
  unfold FixedQueue.push
  split <;> simp [*]

/-- non-vacuity: a wrap-around run (start index passes `MAX_THREADS`) with a `remove`
from the middle, evaluated by the model, agrees with the abstract run -/
example :
    (runQ (new : FixedQueue Nat)
      ((List.range 16).map QOp.push ++ [.pop, .pop, .push 100, .push 101, .push 102,
        .remove (fun o => o == some 7), .pop])).map (fun r => r.2.items)
      = some [4, 5, 6, 2, 8, 9, 10, 11, 12, 13, 14, 15, 100, 101] := by decide

/-!
The theorems below hold in every `Reachable` state of every program that obeys `contract`
(Model/Pool.lean), which is what `CompressMulti` guarantees: ≤ 15 spawns per batch, all joined before
it returns.
-/

/-- `Inv`: BV/Lemmas/PoolInv.lean; a `step` is a worker step, a submitter step or a spurious wake-up -/
theorem inv_inductive :
    (∀ n p, contract p = true → BV.Lemmas.Pool.Inv (init n p)) ∧
    (∀ s s' c, BV.Lemmas.Pool.Inv s → step s c = .ok s' → BV.Lemmas.Pool.Inv s') :=
  ⟨inv_init, fun _ _ _ I h => inv_step I h⟩

/-- `Inv` spelled out.  `wsum busy` = the workers between their pop and their publish; the sum of the three sizes is
the number of spawned-but-not-joined jobs; the counting conjunct says that every id `< cur_work_id` is in exactly ONE
place (the jobs queue, one worker at `atRun`/`atLockB`, the results queue, the joined list) and no id `≥ cur_work_id`
is anywhere; `wsum holdsArc` = popped and not yet dropped. -/
theorem inv_reachable_spelled_out {n : Nat} {p : List Op} (hc : contract p = true) {s : State}
    (hr : Reachable n p s) :
    WF s.jobs ∧ WF s.results ∧
    s.jobs.size + s.numInProgress + s.results.size ≤ MAX_THREADS ∧
    s.jobs.size + s.numInProgress + s.results.size + (joinedIds s.hist).length = s.curWorkId ∧
    s.numInProgress = wsum busy s.workers ∧
    (∀ id, cntJ id s.jobs.items + wsum (hasId id) s.workers + cntR id s.results.items
        + (joinedIds s.hist).count id = if id < s.curWorkId then 1 else 0) ∧
    s.arc = 1 + s.jobs.size + wsum holdsArc s.workers := by
  have I := inv_reachable hc hr
  exact ⟨I.wfJ, I.wfR, spawn_cond_of_inv I, I.total, I.nip, fun id => by rw [I.part id]; rfl, I.arc⟩

/-- non-vacuity: the `CompressMulti` shape — two batches on the same pool (15 jobs joined
in order, then 3 jobs joined out of order), input retrieved after each, then drop — obeys
the contract -/
example : contract ((List.range 15).map Op.spawn ++ (List.range 15).map Op.join ++ [.unwrapInput]
    ++ [.spawn 7, .spawn 8, .spawn 9, .join 17, .join 15, .join 16, .unwrapInput, .dropPool]) = true := by
  decide

/-- The programs the property quantifies over obey the contract: ANY sequence of batches on
the same pool — each batch spawns at most `MAX_THREADS` jobs (CompressMulti: at most 15),
joins exactly these jobs in ANY order (`order` is a permutation of the batch positions) and
retrieves the input — followed by `d`.  So every theorem below applies to all of them. -/
theorem batches_obey_contract (bs : List (List Nat × List Nat)) (hok : BatchesOk bs) :
    contract (batchesOps 0 bs ++ [.dropPool]) = true :=
  contract_of_batches bs hok

/-- non-vacuity: a 3-job batch joined in the order 2,0,1, then a 1-job batch -/
example : BatchesOk [([7, 8, 9], [2, 0, 1]), ([5], [0])] ∧
    batchesOps 0 [([7, 8, 9], [2, 0, 1]), ([5], [0])] ++ [.dropPool]
      = [.spawn 7, .spawn 8, .spawn 9, .join 2, .join 0, .join 1, .unwrapInput,
         .spawn 5, .join 3, .unwrapInput, .dropPool] := by
  refine ⟨?_, rfl⟩
  intro b hb
  simp only [List.mem_cons, List.not_mem_nil, or_false] at hb
  rcases hb with rfl | rfl
  · exact ⟨by decide, by decide⟩
  · exact ⟨by decide, by decide⟩

/-- Under the contract, for ANY number of workers and ANY schedule (incl. spurious
wake-ups), no panic site of the model is reachable: not `jobs.push(..).unwrap()` in
`spawn`, not `results.push(..).unwrap()` in `do_work`, not the `num_in_progress -= 1`
underflow, not the `assert!` in `FixedQueue::remove`. -/
theorem push_never_fails (n : Nat) (p : List Op) (hc : contract p = true) (sched : List Choice)
    (site : PanicSite) : runSched (init n p) sched ≠ .error (.panic site) := by
  intro h
  obtain ⟨s1, c, hr, hs⟩ := run_error .init h
  exact no_panic_of_inv (inv_reachable hc hr) c site hs

/-- Under the contract the loop condition of `spawn` holds at its first evaluation in
every reachable state: the "hope room frees up" `cvar.wait` branch is dead code. -/
theorem backpressure_dead {n : Nat} {p : List Op} (hc : contract p = true) {s : State}
    (hr : Reachable n p s) : s.jobs.size + s.numInProgress + s.results.size ≤ MAX_THREADS :=
  spawn_cond_of_inv (inv_reachable hc hr)

theorem seventeen_spawns_violate_contract : contract seventeenSpawns = false := by decide

/-- the contract is needed: with one (slow) worker, scheduling the submitter 17 times
makes the 17th `spawn` pass the `≤ MAX_THREADS` test with 16 queued jobs and panic in
`jobs.push(..).unwrap()`.  (The test in `spawn` is `<=`; the unused `_push_job` has `<`.) -/
theorem contract_is_needed :
    runSched (init 1 seventeenSpawns) (List.replicate 17 (.run 0)) = .error (.panic .jobsPush) := by
  decide

/-- the same program does not panic if the worker drains the queue in between
(non-vacuity of the model's `spawn`: 17 un-joined spawns are fine when they are not
all queued at once — here one is in progress when the 17th is pushed) -/
example : (match runSched (init 1 seventeenSpawns) (.run 0 :: .run 1 :: List.replicate 16 (.run 0)) with
    | .ok s => s.jobs.size == 16 && s.numInProgress == 1
    | .error _ => false) = true := by decide

/-- In every reachable state every job has been run AT MOST once, and every job whose
`join` has returned has been run EXACTLY once. -/
theorem exactly_once {n : Nat} {p : List Op} (hc : contract p = true) {s : State}
    (hr : Reachable n p s) (id : Nat) :
    runCount id s.hist ≤ 1 ∧ (id ∈ joinedIds s.hist → runCount id s.hist = 1) :=
  run_once_of_inv (inv_reachable hc hr) (invR_reachable hc hr) id

/-- Every `join` that has returned — event `j<id>=<v>` — returned the result of its own
job: `v` is the value (= `index`) of the `id`-th spawn op of the program. -/
theorem join_returns_own {n : Nat} {p : List Op} (hc : contract p = true) {s : State}
    (hr : Reachable n p s) {t id v : Nat} (h : (t, Ev.join id v) ∈ s.hist) :
    (spawnIdxs p)[id]? = some v :=
  join_value_of_inv (inv_reachable hc hr) (invR_reachable hc hr) h

/-- … and the op `j<k>` waits for work id `k`: when it completes, the event is `j<k>=…`. -/
theorem join_op_joins_its_handle {n : Nat} {p : List Op} (hc : contract p = true) {s s' : State}
    (hr : Reachable n p s) {k : Nat} {rest : List Op} (hp : s.prog = .join k :: rest)
    (hs : step s (.run 0) = .ok s') (hdone : s'.prog = rest) :
    ∃ v, s'.hist = (0, Ev.join k v) :: s.hist ∧ (spawnIdxs p)[k]? = some v := by
  have I := inv_reachable hc hr
  cases trans_of_step I hs with
  | join n' rest' j r results' _ hp' hsp =>
    rw [hp] at hp'; cases hp'
    have hjn := I.spawned_workId hsp
    refine ⟨r.value, by rw [hjn]; rfl, join_returns_own hc (hr.step hs) (t := 0) ?_⟩
    rw [hjn]; exact List.mem_cons_self
  | joinWait =>
    have : Op.join k :: rest = rest := hp ▸ hdone
    exact absurd (congrArg List.length this) (by simp)
  | spawn _ _ _ _ hp' | unwrap _ _ hp' | dropPark _ _ _ _ hp' | dropDone _ _ _ hp'
  | joinPark _ _ _ _ _ hp' | joinDone _ _ _ _ hp' => rw [hp] at hp'; cases hp'

/-- non-vacuity: 2 workers, joins in the opposite order of the spawns -/
example : (match runSched (init 2 [.spawn 7, .spawn 9, .join 1, .join 0])
      ([0, 0, 1, 2, 1, 2, 1, 2, 0, 0].map Choice.run) with
    | .ok s => s.hist.filterMap (fun e => match e.2 with | .join id v => some (id, v) | _ => none)
    | .error _ => []) = [(0, 7), (1, 9)] := by decide

/-- When every spawned job has been joined the strong count of the shared input is 1, so
`Arc::try_unwrap` in `OwnedRetriever::unwrap` succeeds (`u` logs `u1`).  This uses
`arc = 1 + #queued + #atRun` (`Inv.arc`): the worker drops its `possible_job` (transition
`atRun → atLockB`) BEFORE it publishes the result (transition `atLockB → atLockA`), so a
joined job holds no clone.  If the drop came after the publish, the clone would be held in
a pc that is not counted in `num_in_progress` and this proof would not go through. -/
theorem arc_one_after_all_joined {n : Nat} {p : List Op} (hc : contract p = true) {s : State}
    (hr : Reachable n p s) (hall : ∀ id, id < s.curWorkId → id ∈ joinedIds s.hist) :
    s.arc = 1 := by
  have I := inv_reachable hc hr
  obtain ⟨hj, -, -, hb⟩ := idle_of_all_joined I hall
  have hw : wsum holdsArc s.workers = 0 :=
    wsum_eq_zero_of holdsArc fun q hq => Nat.le_zero.mp (hb q hq ▸ holdsArc_le_busy q)
  have := I.arc
  omega

/-- the drop happens in the `r` step, before the publishing `b` step: after `s0 p0 r0` the
count is already back to 1 although the result is not yet published -/
example : (match runSched (init 1 [.spawn 5, .join 0]) [.run 0, .run 1, .run 1] with
    | .ok s => s.arc == 1 && s.numInProgress == 1 && s.results.size == 0
    | .error _ => false) = true := by decide

theorem unwrap_reports_arc (s : State) (rest : List Op) (hspc : s.spc = .ready)
    (hp : s.prog = .unwrapInput :: rest) :
    step s (.run 0) = .ok ({ s with spc := .ready, prog := rest }.log 0 (.unwrap (s.arc == 1))) := by
  simp [step, stepSub, hspc, hp]

/-- non-vacuity, and the order matters: right after the LAST join returns the input can be
retrieved (`u1`); while the job has been run and published but the OTHER job is still
queued the count is 2 and `u` would fail (`u0`) -/
example : (match runSched (init 1 [.spawn 1, .spawn 2, .join 0, .unwrapInput, .join 1, .unwrapInput])
      ([0, 0, 1, 1, 1, 0, 0, 1, 1, 1, 0, 0].map Choice.run) with
    | .ok s => s.hist.filterMap (fun e => match e.2 with | .unwrap b => some b | _ => none)
    | .error _ => []) = [true, false] := by decide

/-- The no-lost-wake-up invariant, in every reachable state (any number of workers, any
interleaving, incl. spurious wake-ups):
* a worker parked in `cvar.wait` ⇒ the jobs queue is empty and `immediate_shutdown` is not
  set (every `jobs.push` and the flag store are followed by `notify_all` under the lock);
* the submitter parked in `cvar.wait` ⇒ it is inside `join` for job `k` and `k`'s reply is
  not in the results queue (every `results.push` is followed by `notify_all`);
* no worker exits before `immediate_shutdown`; once `drop` has returned all have exited. -/
theorem no_lost_wakeup {n : Nat} {p : List Op} (hc : contract p = true) {s : State}
    (hr : Reachable n p s) :
    (∀ w, w ∈ s.workers → w = .waiting → s.jobs.size = 0 ∧ s.immediateShutdown = false) ∧
    (s.spc = .waiting → ∃ k rest, s.prog = .join k :: rest ∧ cntR k s.results.items = 0) ∧
    (s.immediateShutdown = false → ∀ w, w ∈ s.workers → w ≠ .exited) ∧
    (dropped s = true → ∀ w, w ∈ s.workers → w = .exited) := by
  have L := invL_reachable hc hr
  exact ⟨L.waitW, L.subWait, L.noExit, L.afterDrop⟩

/-- Deadlock freedom: in every reachable state that is not `done` (the submitter has ops
left, or is parked inside one) some thread is runnable WITHOUT the help of a spurious
wake-up, and scheduling it succeeds (`step` returns a successor state — not
`bad-choice`, `bad-prog` or a panic).  For any `n ≥ 1` workers, any contract-abiding program
(any number of batches, any join order), any interleaving. -/
theorem deadlock_free {n : Nat} (hn : 1 ≤ n) {p : List Op} (hc : contract p = true) {s : State}
    (hr : Reachable n p s) (hnd : s.done = false) :
    s.anyRunnable = true ∧ ∃ t s', step s (.run t) = .ok s' := by
  have I := inv_reachable hc hr
  have L := invL_reachable hc hr
  have h := runnable_of_inv I L (by rw [workers_length_reachable hc hr]; exact hn) hnd
  exact ⟨h, step_ok_of_anyRunnable I L h⟩

theorem done_spec (s : State) : s.done = true ↔
    (s.prog = [] ∧ s.spc = .ready ∧ (s.immediateShutdown = true → ∀ w, w ∈ s.workers → w = .exited)) := by
  simp only [State.done, State.finished, Bool.and_eq_true, List.isEmpty_iff, beq_iff_eq,
    Bool.or_eq_true, Bool.not_eq_true', List.all_eq_true]
  constructor
  · rintro ⟨⟨h1, h2⟩, h3⟩
    refine ⟨h1, h2, fun him w hw => ?_⟩
    rcases h3 with h3 | h3
    · rw [him] at h3; cases h3
    · exact h3 w hw
  · rintro ⟨h1, h2, h3⟩
    refine ⟨⟨h1, h2⟩, ?_⟩
    cases him : s.immediateShutdown
    · exact .inl rfl
    · exact .inr (h3 him)

/-- non-vacuity: a state in which both workers and the submitter are parked is NOT
reachable under the contract, but the wait set does fill up: here both workers wait, the
submitter (about to spawn) is the only runnable thread -/
example : (match runSched (init 2 [.spawn 3, .join 0, .dropPool]) [.run 1, .run 2] with
    | .ok s => s.workers == [.waiting, .waiting] && s.anyRunnable && !s.done
    | .error _ => false) = true := by decide

/-- without a worker (`n = 0`, excluded by `1 ≤ n`) the pool does deadlock -/
example : (match runSched (init 0 [.spawn 3, .join 0]) [.run 0, .run 0] with
    | .ok s => !s.anyRunnable && !s.done
    | .error _ => false) = true := by decide

/-- The termination measure `mu = major * (2n + 8) + minor` (BV/Lemmas/PoolTerm.lean;
`major` = weighted ops left + 3·queued + 2·running + 1·unpublished + live workers + what is
left of `d`; `minor` = 2·woken + 1·about-to-lock threads): EVERY thread step, of any thread,
in any reachable state, strictly decreases it; a spurious wake-up adds exactly 2. -/
theorem measure_decreases {n : Nat} {p : List Op} (hc : contract p = true) {s s' : State}
    (hr : Reachable n p s) :
    (∀ t, step s (.run t) = .ok s' → mu s' < mu s) ∧
    (∀ t, step s (.spurious t) = .ok s' → mu s' = mu s + 2) :=
  ⟨fun _ h => mu_step_run (inv_reachable hc hr) (invL_reachable hc hr) h,
   fun _ h => mu_step_spurious (inv_reachable hc hr) h⟩

/-- Every `spawn`, `join` and `drop` returns, and NO fairness assumption is needed for it (the name
is the property's).  For every execution prefix `cs` (any
interleaving): the number of thread steps in it is bounded by a constant of the program and
pool size plus twice the number of spurious wake-ups in it; and unless the run is complete
(`done`: program finished, workers gone if dropped) some thread can take a step.  So an
execution with finitely many spurious wake-ups can neither go on forever nor get stuck: it
reaches `done`.  No thread of this system spins (each thread step consumes potential), so this is
stronger than termination under weak fairness; only "finitely many spurious wake-ups" is assumed. -/
theorem terminates_under_fairness {n : Nat} (hn : 1 ≤ n) {p : List Op} (hc : contract p = true)
    {cs : List Choice} {s : State} (h : runSched (init n p) cs = .ok s) :
    nRuns cs ≤ (progW p + n + dropW (hasDrop p) n) * (2 * n + 8) + (n + 1) + 2 * nSpur cs ∧
    (s.done = false → ∃ t s', step s (.run t) = .ok s') := by
  constructor
  · have := sched_bounded (inv_init n p hc) (invL_init n p) h
    rw [mu_init] at this
    omega
  · intro hnd
    exact (deadlock_free hn hc (reachable_run .init h) hnd).2

/-- non-vacuity / tightness check of the bound's shape on a real run: 15 thread steps, no
spurious wake-up; the bound evaluates to 17·12+3 = 207 -/
example : nRuns ([0, 0, 1, 2, 1, 2, 1, 2, 0, 0, 0, 0, 1, 2, 0].map Choice.run) = 15 ∧
    (progW [.spawn 7, .spawn 9, .join 1, .join 0, .unwrapInput, .dropPool] + 2
      + dropW (hasDrop [.spawn 7, .spawn 9, .join 1, .join 0, .unwrapInput, .dropPool]) 2)
      * (2 * 2 + 8) + (2 + 1) = 207 := by decide

/-- Dropping the pool terminates all workers: once `immediate_shutdown` is set (it stays
set), each step of a worker strictly decreases its `stepsToExit` (≤ 3: finish the job in
hand, publish it, see the flag), no other thread's step or wake-up changes that worker's pc,
and (theorem `deadlock_free`) `drop`'s join of a live worker always leaves that worker
runnable.  Hence every worker exits after at most 3 of its own steps, and `d` completes. -/
theorem drop_stops_workers {n : Nat} {p : List Op} (hc : contract p = true) {s s' : State}
    (hr : Reachable n p s) (himm : s.immediateShutdown = true) {c : Choice}
    (h : step s c = .ok s') (i : Nat) :
    s'.immediateShutdown = true ∧
    (c = .run (i + 1) →
      stepsToExit (s'.workers[i]?.getD .exited) < stepsToExit (s.workers[i]?.getD .exited)) ∧
    (c ≠ .run (i + 1) → s'.workers[i]? = s.workers[i]?) ∧
    (∀ w, stepsToExit w ≤ 3) := by
  have I := inv_reachable hc hr
  have L := invL_reachable hc hr
  refine ⟨imm_step I h himm, ?_, fun hne => other_step_after_drop I L himm h hne, ?_⟩
  · intro hcq; subst hcq; exact own_step_after_drop I himm h
  · intro w; cases w <;> simp [stepsToExit]

/-- after `d` has returned every worker has exited (in every reachable state) -/
theorem drop_returns_after_all_exited {n : Nat} {p : List Op} (hc : contract p = true) {s : State}
    (hr : Reachable n p s) (hd : s.immediateShutdown = true) (hj : ∀ t, s.spc ≠ .joining t) :
    ∀ w, w ∈ s.workers → w = .exited := by
  apply (invL_reachable hc hr).afterDrop
  cases hs : s.spc <;> simp [dropped, hd, isJoining, hs]
  exact hj _ hs

/-- non-vacuity: drop while one job is queued, one running, one unpublished: all three
workers exit, `d` completes -/
example : (match runSched (init 3 [.spawn 1, .spawn 2, .spawn 3, .dropPool])
      ([0, 0, 0, 1, 2, 1, 0, 1, 1, 2, 2, 2, 3, 0].map Choice.run) with
    | .ok s => s.done && s.workers == [.exited, .exited, .exited] && s.jobs.size == 1
    | .error _ => false) = true := by decide

/-- The pool remains usable for further batches.  Whenever every job spawned so far has
been joined (and the pool has not been dropped), the shared state IS the initial state up
to the monotone counters: both queues are fresh queues except for `start`, nothing is in
progress, the input's strong count is 1, no flag is set, and every worker is at the top of
its loop (`atLockA`), parked (`waiting`) or about to re-check (`woken`).  `cur_work_id`,
the `start` counters and the history are the only other differences from `init`; none of
the theorems above depends on them (they are stated for every reachable state of
multi-batch programs). -/
theorem reusable {n : Nat} {p : List Op} (hc : contract p = true) {s : State}
    (hr : Reachable n p s) (hall : ∀ id, id < s.curWorkId → id ∈ joinedIds s.hist)
    (hnd : s.immediateShutdown = false) :
    s.jobs = { (new : FixedQueue Job) with start := s.jobs.start } ∧
    s.results = { (new : FixedQueue Reply) with start := s.results.start } ∧
    s.numInProgress = 0 ∧ s.arc = 1 ∧ s.shutdown = false ∧
    ∀ w, w ∈ s.workers → w = .atLockA ∨ w = .waiting ∨ w = .woken := by
  have I := inv_reachable hc hr
  have L := invL_reachable hc hr
  obtain ⟨hj, hres, hnip, hb⟩ := idle_of_all_joined I hall
  refine ⟨empty_queue_eq_new I.wfJ hj, empty_queue_eq_new I.wfR hres, hnip,
    arc_one_after_all_joined hc hr hall, I.noShutdown, ?_⟩
  intro w hw
  have h1 := L.noExit hnd w hw
  have h2 := hb w hw
  cases w <;> simp [busy] at h1 h2 ⊢

/-- non-vacuity: two batches on one pool; between them the hypotheses of `reusable` hold -/
example : (match runSched (init 2 [.spawn 1, .spawn 2, .join 0, .join 1, .spawn 3, .join 2])
      ([0, 0, 1, 2, 1, 2, 1, 2, 0, 0].map Choice.run) with
    | .ok s => s.curWorkId == 2 && (joinedIds s.hist == [1, 0]) && !s.immediateShutdown
        && s.prog == [.spawn 3, .join 2]
    | .error _ => false) = true := by decide

end BV.Props.C07
