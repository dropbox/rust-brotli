/-
C15, translator tie, direct theorems: `ChooseDistanceParams` (src/enc/encode.rs) and `BrotliInitDistanceParams`
(src/enc/metablock.rs) have no hand-written model; the properties the stream header and the distance coder rely on
(a legal RFC 7932 (NDIRECT, NPOSTFIX) pair, the alphabet size, nothing but `dist` touched) are stated over the Lean
definitions GENERATED from the current Rust text (tools/rs2lean.py -> BV/Gen/FnC15.lean), for every parameter structure.
-/
import BV.Gen.FnC15

namespace BV.Props.C15GenD
open BV.Gen.FnC15

/-- the `(num_direct_distance_codes, distance_postfix_bits)` pair `ChooseDistanceParams` hands to
`BrotliInitDistanceParams` (the generated expression, named) -/
def chosen (p : BrotliEncoderParams) : Nat × Nat :=
  let num_direct_distance_codes : Nat := 0
  let distance_postfix_bits : Nat := 0
  ((if (decide (p.quality ≥ (4 : Int))) then
    let (num_direct_distance_codes, distance_postfix_bits) := ((if (p.mode == 2) then
      let distance_postfix_bits : Nat := 1
      let num_direct_distance_codes : Nat := 12
      (num_direct_distance_codes, distance_postfix_bits)
    else
      let distance_postfix_bits : Nat := p.dist.distance_postfix_bits
      let num_direct_distance_codes : Nat := p.dist.num_direct_distance_codes
      (num_direct_distance_codes, distance_postfix_bits)) : Nat × Nat)
    let ndirect_msb : Nat := ((num_direct_distance_codes >>> (distance_postfix_bits % 32)) &&& 15)
    if (((decide (distance_postfix_bits > (3 % 4294967296))) || (decide (num_direct_distance_codes > (120 % 4294967296)))) || (((ndirect_msb <<< (distance_postfix_bits % 32)) % 4294967296) != num_direct_distance_codes)) then
      let distance_postfix_bits : Nat := 0
      let num_direct_distance_codes : Nat := 0
      (num_direct_distance_codes, distance_postfix_bits)
    else
      (num_direct_distance_codes, distance_postfix_bits)
  else
    (num_direct_distance_codes, distance_postfix_bits)) : Nat × Nat)

theorem choose_unfold (p : BrotliEncoderParams) :
    ChooseDistanceParams p = BrotliInitDistanceParams p (chosen p).2 (chosen p).1 := rfl

/-- the validity test, on the whole range it lets through -/
theorem test_fin : ∀ (np : Fin 4) (nd : Fin 121),
    ((((nd.val >>> (np.val % 32)) &&& 15) <<< (np.val % 32)) % 4294967296 != nd.val) = false →
      (nd.val >>> np.val) <<< np.val = nd.val ∧ nd.val >>> np.val ≤ 15 := by decide +kernel

/-- what `ChooseDistanceParams` selects is always a legal RFC 7932 pair: NPOSTFIX <= 3, NDIRECT <= 120 a multiple of
2^NPOSTFIX whose quotient fits the 4-bit field of the meta-block header -/
theorem chosen_valid (p : BrotliEncoderParams) :
    (chosen p).2 ≤ 3 ∧ (chosen p).1 ≤ 120 ∧ ((chosen p).1 >>> (chosen p).2) <<< (chosen p).2 = (chosen p).1 ∧
      (chosen p).1 >>> (chosen p).2 ≤ 15 := by
  unfold chosen
  by_cases hq : p.quality ≥ 4
  · have dq : decide (p.quality ≥ (4 : Int)) = true := by simpa using hq
    simp only [dq, if_true]
    by_cases hm : p.mode = 2
    · have dm : (p.mode == 2) = true := by simpa using hm
      simp only [dm, if_true]
      decide
    · have dm : (p.mode == 2) = false := by simpa using hm
      simp only [dm, if_false, Bool.false_eq_true]
      generalize p.dist.distance_postfix_bits = np
      generalize p.dist.num_direct_distance_codes = nd
      by_cases h3 : np > 3
      · have : decide (np > 3 % 4294967296) = true := by simpa using h3
        simp [this]
      · have d3 : decide (np > 3 % 4294967296) = false := by simpa using h3
        by_cases h120 : nd > 120
        · have : decide (nd > 120 % 4294967296) = true := by simpa using h120
          simp [d3, this]
        · have d120 : decide (nd > 120 % 4294967296) = false := by simpa using h120
          simp only [d3, d120, Bool.false_or]
          cases ht : ((((nd >>> (np % 32)) &&& 15) <<< (np % 32)) % 4294967296 != nd) with
          | true => simp
          | false =>
            simp only [Bool.false_eq_true, if_false]
            have := test_fin ⟨np, by omega⟩ ⟨nd, by omega⟩ ht
            exact ⟨by omega, by omega, this.1, this.2⟩
  · have dq : decide (p.quality ≥ (4 : Int)) = false := by simpa using hq
    simp [dq]

theorem choose_distance_params_postfix (p : BrotliEncoderParams) :
    (ChooseDistanceParams p).dist.distance_postfix_bits = (chosen p).2 ∧
    (ChooseDistanceParams p).dist.num_direct_distance_codes = (chosen p).1 := by
  rw [choose_unfold]
  unfold BrotliInitDistanceParams
  constructor <;> rfl

theorem chosen_low_quality (p : BrotliEncoderParams) (h : p.quality < 4) : chosen p = (0, 0) := by
  unfold chosen
  have dq : decide (p.quality ≥ (4 : Int)) = false := by simp; omega
  simp [dq]

/-- font mode: NPOSTFIX 1, NDIRECT 12 -/
theorem chosen_font (p : BrotliEncoderParams) (h : p.quality ≥ 4) (hm : p.mode = 2) : chosen p = (12, 1) := by
  unfold chosen
  have dq : decide (p.quality ≥ (4 : Int)) = true := by simpa using h
  have dm : (p.mode == 2) = true := by simpa using hm
  simp only [dq, dm, if_true]
  decide

theorem choose_distance_params_frame (p : BrotliEncoderParams) :
    ChooseDistanceParams p = { p with dist := (ChooseDistanceParams p).dist } := by
  rw [choose_unfold]
  unfold BrotliInitDistanceParams
  rfl

/-- the third conjunct is the generated `max_distance` expression of `BrotliInitDistanceParams` -/
theorem sizes_fin : ∀ (np : Fin 4) (nd : Fin 121),
    BROTLI_DISTANCE_ALPHABET_SIZE np.val nd.val 24 = 16 + nd.val + 24 * 2 ^ (np.val + 1) ∧
    BROTLI_DISTANCE_ALPHABET_SIZE np.val nd.val 62 = 16 + nd.val + 62 * 2 ^ (np.val + 1) ∧
    ((((nd.val + ((1 <<< (((((24 + np.val) % 4294967296) + 2) % 4294967296) % 32)) % 4294967296)) % 4294967296) + 4294967296 - ((1 <<< (((np.val + 2) % 4294967296) % 32)) % 4294967296)) % 4294967296)
      = nd.val + 2 ^ (26 + np.val) - 2 ^ (np.val + 2) := by decide +kernel

/-- without large windows: RFC 7932 section 4 with 24 distance-bit classes -/
theorem choose_distance_params_small (p : BrotliEncoderParams) (hl : p.large_window = false) :
    (ChooseDistanceParams p).dist.alphabet_size = 16 + (chosen p).1 + 24 * 2 ^ ((chosen p).2 + 1) ∧
    (ChooseDistanceParams p).dist.max_distance = (chosen p).1 + 2 ^ (26 + (chosen p).2) - 2 ^ ((chosen p).2 + 2) := by
  obtain ⟨h3, h120, _, _⟩ := chosen_valid p
  have hs := sizes_fin ⟨(chosen p).2, by omega⟩ ⟨(chosen p).1, by omega⟩
  simp only [] at hs
  rw [choose_unfold]
  unfold BrotliInitDistanceParams
  simp only [hl, Bool.false_eq_true, if_false]
  exact ⟨hs.1, hs.2.2⟩

/-- with large windows: 62 distance-bit classes -/
theorem choose_distance_params_large_alphabet (p : BrotliEncoderParams) (hl : p.large_window = true) :
    (ChooseDistanceParams p).dist.alphabet_size = 16 + (chosen p).1 + 62 * 2 ^ ((chosen p).2 + 1) := by
  obtain ⟨h3, h120, _, _⟩ := chosen_valid p
  have hs := sizes_fin ⟨(chosen p).2, by omega⟩ ⟨(chosen p).1, by omega⟩
  simp only [] at hs
  rw [choose_unfold]
  unfold BrotliInitDistanceParams
  simp only [hl, if_true]
  split <;> (try split) <;> exact hs.2.1

example : (ChooseDistanceParams { (default : BrotliEncoderParams) with quality := 9, mode := 2 }).dist =
    { distance_postfix_bits := 1, num_direct_distance_codes := 12, alphabet_size := 124, max_distance := 134217732 } := by decide +kernel
example : chosen { (default : BrotliEncoderParams) with quality := 9, dist := { (default : BrotliDistanceParams) with distance_postfix_bits := 2, num_direct_distance_codes := 13 } } = (0, 0) := by
  decide +kernel

end BV.Props.C15GenD
