/-
C06 — PURITY, operationally; what of it is a theorem, what is left to the real code.

`BV.Props.C06.inline_equals_pool_equals_threads` needs: "the jobs of the two runs return the same
values".  This file says what that means for the code and reduces it as far as the models go.

WHAT A JOB IS HANDED.  `compress_part(hasher, thread_index, num_threads, &(input, params), alloc)`
reads: `params`; `thread_index`, `num_threads`; its piece `input[range]`; the dictionary prefix
`input[..range.start]`; the `hasher` handed in (Uninit, or a clone of the shared index); and an
allocator.  `JobIn` is that list minus the allocator, with the hasher replaced by the index the
job's encoder HOLDS after `set_custom_dictionary_with_optional_precomputed_hasher` (`jobIndex`) —
the only way the handed hasher reaches the encoder.

PURITY := the job's value is `F (JobIn)` for one function `F` — the same `F` whatever spawner runs
the job, on whatever thread, with whatever allocator history, and whether the index was handed in or
built by the job.

PROVED HERE: under PURITY in this form the result of `CompressMulti` is the same for all three
spawners and for `favor_cpu_efficiency` on and off (`favor_and_spawner_independent`); and the modelled
part of a job, `streamJob` (the job over the stream machine: fresh encoder with the job's parameter
changes, one FINISH call into `BrotliEncoderMaxCompressedSize(len)` bytes, `compress_part`'s loop on
what it observes), is pure by construction: the stream machine consults the payload encoder only
through `Req` (positions and flags; no allocator identity, no thread id, no address) and the invocation
count, so two runs of a job differ only if their payload encoders answer the same request differently.

LEFT TO THE REAL CODE (exercised by the 3-spawner x fresh/reused pool x repeat x favor on/off byte
comparison of stage `multi`, not proved): that the payload encoder — match finders, block
splitter, entropy coders, i.e. the oracle — is a function of the encoder state it is called in
(ring-buffer content = dictionary prefix + piece, the index held, params, the request) and of
nothing else: no read of uninitialised allocator memory, no dependence on the addresses or the
history of the per-thread allocators, no thread-local or global state.  (C05 proves independence of
the caller's OUTPUT-buffer slicing for the stream machine; `StandardAlloc` zero-fills.)  And, for
quality ≥ 2 jobs with a non-empty prefix, that the encoder state after the dictionary call is the
`JobIn`-determined one (the stream model has no dictionary call).
-/
import BV.Props.C02Part
import BV.Lemmas.MultiFavorKinds
import BV.Props.C06

namespace BV.Props.C06Pure
open BV.Multi BV.Multi.Res BV.Lemmas.Multi BV.Stream BV.StreamJob

/-- what `compress_part` is handed, minus the allocator; `held` = the match index the job's encoder
holds when it starts compressing (job 0: the empty index of its first `encode_data`) -/
structure JobIn (H : Type) where
  quality : Nat
  lgwin : Nat
  index : Nat
  threads : Nat
  piece : List Nat
  dict : List Nat
  held : H

/-- `none` = the `Uninit` hasher that `CompressMulti` hands a job when `favor_cpu_efficiency` is off or there is
one thread; `n = input.len()` -/
def jobIn {H : Type} (M : HasherModel H) (input : List Nat) (t n lgwin quality overlap : Nat) (favor : Bool)
    (i : Nat) : JobIn H :=
  { quality := quality, lgwin := lgwin, index := i, threads := t
    piece := (input.drop (bnd t n i)).take (bnd t n (i + 1) - bnd t n i)
    dict := input.take (bnd t n i)
    held := if i = 0 then M.empty
            else jobIndex M input (bnd t n i) lgwin quality overlap
              (if favor ∧ t > 1 then some (prebuilt M input t n overlap i).1 else none) }

/-- the spawner is not an argument of `jobIn`; the favor flag is, and drops out: -/
theorem jobIn_favor_irrelevant {H : Type} (M : HasherModel H) (overlap bound : Nat)
    (hA : AdditiveFrom M bound) (hL : LocalFrom M overlap bound)
    (input : List Nat) (t n lgwin quality : Nat) (hq : 2 ≤ quality) (hl : 10 ≤ lgwin) (hn : n ≤ bound)
    (i : Nat) (hi : i < t) :
    jobIn M input t n lgwin quality overlap true i = jobIn M input t n lgwin quality overlap false i := by
  unfold jobIn
  cases i with
  | zero => rfl
  | succ j =>
    have ht1 : t > 1 := by omega
    have e := jobIndex_favor_irrelevant M overlap bound hA hL input t n lgwin quality j hq hl (by omega) hn
    simp only [Nat.succ_ne_zero, if_false, ht1, and_self, if_true, Bool.false_eq_true, false_and, e]

/-- `favor_and_spawner_independent`.  PURITY: job `i`'s value is `F (jobIn …)`.  Then for
1 ≤ t ≤ MAX_THREADS, quality ≥ 2, any capacity, and job values without panic/spin: every pair of
(spawner, favor flag) gives the same `CompressMulti` result — same `Ok(k)`/error, same bytes, input
handed back. -/
theorem favor_and_spawner_independent {H : Type} (M : HasherModel H) (overlap bound : Nat)
    (hA : AdditiveFrom M bound) (hL : LocalFrom M overlap bound) (F : JobIn H → JobRes)
    (input : List Nat) (t n lgwin quality cap : Nat) (hq : 2 ≤ quality) (hl : 10 ≤ lgwin) (hn : n ≤ bound)
    (ht : 1 ≤ t) (ht16 : t ≤ BV.Gen.MAX_THREADS) (sp1 sp2 : Spawner) (f1 f2 : Bool)
    (hc : Clean (fun i => F (jobIn M input t n lgwin quality overlap f1 i)) t) :
    compressMulti sp1 t (fun i => F (jobIn M input t n lgwin quality overlap f1 i)) cap
      = compressMulti sp2 t (fun i => F (jobIn M input t n lgwin quality overlap f2 i)) cap := by
  apply BV.Props.C06.inline_equals_pool_equals_threads sp1 sp2 t _ _ cap ht ht16 _ hc
  intro i hi
  have e := jobIn_favor_irrelevant M overlap bound hA hL input t n lgwin quality hq hl hn i hi
  show F _ = F _
  cases f1 <;> cases f2 <;> simp [e]

theorem favor_and_spawner_independent_basic (P : BV.Hasher.BasicP) (hP : P.Ok) (len : Nat)
    (F : JobIn (Option BV.Hasher.Tab) → JobRes)
    (input : List Nat) (t n lgwin quality cap : Nat) (hq : 2 ≤ quality) (hl : 10 ≤ lgwin)
    (ht : 1 ≤ t) (ht16 : t ≤ BV.Gen.MAX_THREADS) (sp1 sp2 : Spawner) (f1 f2 : Bool)
    (hc : Clean (fun i => F (jobIn (basicModel P len) input t n lgwin quality 7 f1 i)) t) :
    compressMulti sp1 t (fun i => F (jobIn (basicModel P len) input t n lgwin quality 7 f1 i)) cap
      = compressMulti sp2 t (fun i => F (jobIn (basicModel P len) input t n lgwin quality 7 f2 i)) cap :=
  favor_and_spawner_independent (basicModel P len) 7 n ((basicModel_additive hP len).from n)
    ((basicModel_local hP len).from n) F input t n lgwin quality cap hq hl (Nat.le_refl _) ht ht16 sp1 sp2 f1 f2 hc

theorem favor_and_spawner_independent_adv (P : BV.Hasher.AdvP) (hP : P.Ok) (hla : 1 ≤ P.lookahead)
    (F : JobIn (Option BV.Hasher.AdvSt) → JobRes)
    (input : List Nat) (t n lgwin quality cap : Nat) (hq : 2 ≤ quality) (hl : 10 ≤ lgwin) (hn : n ≤ 2 ^ 64)
    (ht : 1 ≤ t) (ht16 : t ≤ BV.Gen.MAX_THREADS) (sp1 sp2 : Spawner) (f1 f2 : Bool)
    (hc : Clean (fun i => F (jobIn (advModel P) input t n lgwin quality (P.lookahead - 1) f1 i)) t) :
    compressMulti sp1 t (fun i => F (jobIn (advModel P) input t n lgwin quality (P.lookahead - 1) f1 i)) cap
      = compressMulti sp2 t (fun i => F (jobIn (advModel P) input t n lgwin quality (P.lookahead - 1) f2 i)) cap :=
  favor_and_spawner_independent (advModel P) (P.lookahead - 1) (2 ^ 64) (advModel_additive hP)
    (advModel_local hP hla) F input t n lgwin quality cap hq hl hn ht ht16 sp1 sp2 f1 f2 hc

theorem favor_and_spawner_independent_h9 (P : BV.Hasher.H9P) (F : JobIn (Option BV.Hasher.AdvSt) → JobRes)
    (input : List Nat) (t n lgwin quality cap : Nat) (hq : 2 ≤ quality) (hl : 10 ≤ lgwin)
    (ht : 1 ≤ t) (ht16 : t ≤ BV.Gen.MAX_THREADS) (sp1 sp2 : Spawner) (f1 f2 : Bool)
    (hc : Clean (fun i => F (jobIn (h9Model P) input t n lgwin quality 3 f1 i)) t) :
    compressMulti sp1 t (fun i => F (jobIn (h9Model P) input t n lgwin quality 3 f1 i)) cap
      = compressMulti sp2 t (fun i => F (jobIn (h9Model P) input t n lgwin quality 3 f2 i)) cap :=
  favor_and_spawner_independent (h9Model P) 3 n ((h9Model_additive P).from n) ((h9Model_local P).from n)
    F input t n lgwin quality cap hq hl (Nat.le_refl _) ht ht16 sp1 sp2 f1 f2 hc

/-- instance: quality 10/11 (`H10`, opaque `Store`), under the one remaining statement about `Store`
(it reads `data[.. ix + 128)` only, C06Hasher `favor_cpu_equiv_h10`) -/
theorem favor_and_spawner_independent_h10 {σ : Type} (store : ByteArray → Nat → σ → Option σ) (empty : σ)
    (hloc : ∀ d d' ix st k, Agree d d' k → ix + 128 ≤ k → store d ix st = store d' ix st)
    (F : JobIn (Option σ) → JobRes)
    (input : List Nat) (t n lgwin quality cap : Nat) (hq : 2 ≤ quality) (hl : 10 ≤ lgwin)
    (ht : 1 ≤ t) (ht16 : t ≤ BV.Gen.MAX_THREADS) (sp1 sp2 : Spawner) (f1 f2 : Bool)
    (hc : Clean (fun i => F (jobIn (h10Model store empty) input t n lgwin quality 127 f1 i)) t) :
    compressMulti sp1 t (fun i => F (jobIn (h10Model store empty) input t n lgwin quality 127 f1 i)) cap
      = compressMulti sp2 t (fun i => F (jobIn (h10Model store empty) input t n lgwin quality 127 f2 i)) cap :=
  favor_and_spawner_independent (h10Model store empty) 127 n ((h10Model_additive store empty).from n)
    ((h10Model_local store empty 128 (by decide) hloc).from n)
    F input t n lgwin quality cap hq hl (Nat.le_refl _) ht ht16 sp1 sp2 f1 f2 hc

/-- non-vacuity: an `F` that looks at what it is handed (the job's value is the piece if the held
index did not panic) meets the hypotheses; 3 jobs, favor on, thread-per-job against favor off, inline -/
def toyF (x : JobIn (Option BV.Hasher.Tab)) : JobRes := if x.held.isSome then JobRes.ok x.piece else JobRes.err

example (P : BV.Hasher.BasicP) (hP : P.Ok) (input : List Nat) (cap : Nat) :
    compressMulti .threads 3 (fun i => toyF (jobIn (basicModel P 16) input 3 input.length 22 5 7 true i)) cap
      = compressMulti .inline 3 (fun i => toyF (jobIn (basicModel P 16) input 3 input.length 22 5 7 false i)) cap :=
  favor_and_spawner_independent_basic P hP 16 toyF input 3 input.length 22 5 cap (by decide) (by decide)
    (by decide) (by decide) .threads .inline true false
    (fun i _ => by
      show toyF _ ≠ .panic ∧ toyF _ ≠ .spin
      unfold toyF
      split <;> simp)

/-! `jobParams`, `streamJob`: BV/Model/StreamJob.lean (tied to the real `compress_part` by the `sjob`
lines of stage `favor`, /verif/harness/src/favor.rs).  The two statements below hold by construction of the model
(extensionality of the structure `Req`; `streamJob` is a function of its oracle): they record what the model can and
cannot depend on. -/

/-- the payload encoder is asked through `Req` only, and a `Req` is six numbers/flags:
two requests with the same call site, positions and flags are THE SAME request — there is no field
for an allocator, a thread or an address -/
theorem req_is_positions_and_flags (a b : Req) (h1 : a.site = b.site) (h2 : a.lo = b.lo) (h3 : a.hi = b.hi)
    (h4 : a.lf = b.lf) (h5 : a.isLast = b.isLast) (h6 : a.forceFlush = b.forceFlush) : a = b := by
  cases a; cases b; simp_all

theorem stream_job_congr (o1 o2 : Oracle) (h : ∀ k req, o1 k req = o2 k req) (fuel : Nat) (p : Params)
    (i t n : Nat) (piece : Bytes) : streamJob o1 fuel p i t n piece = streamJob o2 fuel p i t n piece := by
  have : o1 = o2 := funext fun k => funext fun req => h k req
  rw [this]

/-- the value of a modelled job is decided by its ONE call (C02Part): `Ok` with the complete stream
when the call's output fits the job buffer, `Err` otherwise; never a panic or a spin of the loop -/
theorem stream_job_value (o : Oracle) (fuel : Nat) (p : Params) (i t n : Nat) (piece : Bytes)
    (hi : i < t) (ht64 : t < U64) (hnt : n * t < U64) (hlen : piece.length = bnd t n (i + 1) - bnd t n i)
    (hw : piece.length < two64) {s' : St} {io' : Io} {r : Bool}
    (h : compressStream o fuel { St.new with params := jobParams p i } 2 piece (maxCompressedSize piece.length)
      = .ok (s', io', r)) :
    streamJob o fuel p i t n piece =
      if io'.out.length + s'.pending.length ≤ maxCompressedSize piece.length then .ok io'.out else .err := by
  unfold streamJob
  rw [h]
  exact BV.Props.C02Part.part_of_stream_model i t n hi ht64 hnt hlen (Or.inl ⟨⟨_, rfl⟩, hw⟩) h []

/-- a modelled job never spins: with C20's fuel (`call_terminates_callCap`: a function of the
initial state and the piece length alone, NO hypothesis on the payload encoder) the FINISH call
returns or hits one of its modelled panics, and then `compress_part`'s loop ends after that one
call — the job is `Ok`, `Err` or `panic`, never `spin` -/
theorem stream_job_never_spins (o : Oracle) (fuel : Nat) (p : Params) (i t n : Nat) (piece : Bytes)
    (hi : i < t) (ht64 : t < U64) (hnt : n * t < U64) (hlen : piece.length = bnd t n (i + 1) - bnd t n i)
    (hw : piece.length < two64)
    (hfuel : callPot (callCap (ensureInitialized { St.new with params := jobParams p i }) piece.length)
      (ensureInitialized { St.new with params := jobParams p i }) piece.length < fuel) :
    streamJob o fuel p i t n piece ≠ .spin := by
  have hf : IsFresh ({ St.new with params := jobParams p i } : St) := ⟨_, rfl⟩
  obtain ⟨hI, _, _⟩ := inv_fresh hf
  have hip : (ensureInitialized ({ St.new with params := jobParams p i } : St)).inputPos = 0 := by
    simp [ensureInitialized, St.new]
  have hw' : (ensureInitialized ({ St.new with params := jobParams p i } : St)).inputPos + piece.length < two64 := by
    rw [hip, Nat.zero_add]; exact hw
  have hop : (2 : Nat) ≤ 3 := by omega
  have hl := BV.Props.C20.carry_bound_initial ({ St.new with params := jobParams p i } : St) rfl
  have hterm := BV.Props.C20.call_terminates_callCap (o := o) (op := 2) (cap := maxCompressedSize piece.length)
    (input := piece) hop hI hw' hl hfuel
  rw [← compressStream_ensure] at hterm
  cases h : compressStream o fuel { St.new with params := jobParams p i } 2 piece (maxCompressedSize piece.length) with
  | fuel => exact absurd h hterm
  | panic => unfold streamJob; rw [h]; intro e; cases e
  | ok v =>
    obtain ⟨s', io', r⟩ := v
    rw [stream_job_value o fuel p i t n piece hi ht64 hnt hlen hw h]
    split <;> simp

example : streamJob BV.Props.C02Part.toyOracle 50000 {} 0 1 3 [1, 2, 3] ≠ .spin :=
  stream_job_never_spins BV.Props.C02Part.toyOracle 50000 {} 0 1 3 [1, 2, 3] (by decide) (by decide) (by decide) (by decide)
    (by decide) (by decide +kernel)

/-- non-vacuity: the toy payload encoder of C02Part, job 0 of 1 over 3 bytes -/
example : streamJob BV.Props.C02Part.toyOracle 5000 {} 0 1 3 [1, 2, 3] = .ok [251, 255, 255, 255, 255, 255] := by decide +kernel

end BV.Props.C06Pure
