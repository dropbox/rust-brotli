/-
C01Zopfli — quality 10 / 11: from the Zopfli node array to the decoder.

`BrotliZopfliCreateCommands` (model `zopfliCreateCommands`, BV/Model/Zopfli.lean, tied to the real function by
the `cc` lines of stage `zopfli`) walks the `next` offsets of a node array and builds one command per node.
`zopfli_commands_lockstep` proves, for EVERY node array whose path is sound (`NodesOK`), the conclusion of
`C01Chain.commands_lockstep`, so that the meta-block writer theorems of BV/Props/C01MetaBlock*.lean apply to
quality 10 / 11 exactly as they do to quality 2–9.

Spec side: `NodeOK` / `ringAfter` (BV/Lemmas/ZopfliCmd.lean), `PathOK` / `NodesOK` (BV/Lemmas/ZopfliPath.lean) talk
about the text `hist ++ mb`, the RFC distance rules `rfcDistance` and the decoder's word oracle — not about the ring
buffer, H10 or the cost model.  What differs from the quality 2–9 chain: the distance code is the node's own
(short code chosen from Zopfli's table `kDistanceCacheIndex/Offset`, not by `ComputeDistanceCode`), and a
dictionary reference may be LONGER than its word (transforms that add bytes), i.e. `copy_len_code < copy_len`.
The soundness of the dynamic programme that fills the array, and of the H10 matches it is fed, is PARTIAL: see
`cache_probes_sound_partial`, `h10_short_matches_sound_partial`.

Scope as in C01Chain: one call covering one meta-block (`mb` = the `last_insert_len` pending literals followed by
the `num_bytes` of the block), NPOSTFIX = NDIRECT = 0.
-/
import BV.Lemmas.ZopfliExample
import BV.Lemmas.ZopfliH10
import BV.Lemmas.ZopfliUpd
import BV.Props.C01MetaBlock

namespace BV.Props.C01Zopfli
open BV.Hasher BV.MatchFinder BV.Recoder BV.PrefixArith BV.MetaBlock BV.Cbr BV.Zopfli

/-- For EVERY node array (any cost type, any costs, any `u` fields off the
path) whose path from `nodes[0].next` is sound — each node reached describes an insert followed by a copy
whose source bytes equal the target bytes in `hist ++ mb`, or a dictionary reference the decoder's word
oracle expands to the next bytes; a non-zero short code denotes the node's distance under the RFC rules
relative to the ring of last distances at that point; the walk ends inside the block — every starting
distance cache of `i32`s, every pending `last_insert_len`: the commands of `BrotliZopfliCreateCommands`,
closed with the insert-only command for the trailing literals as `encode.rs` does, satisfy `cmdOK` and
`lockstep`, and the RFC decoder replays them to exactly `hist ++ mb`. -/
theorem zopfli_commands_lockstep {K : Type} (p : Zopfli.Params) (large : Bool) (wo : WordOracle) (hist mb : Bytes)
    (nodes : Array (Node K)) (numBytes position : Nat) (cache : List Int) (lastInsertLen numLiterals : Nat)
    (res : CmdResult)
    (hnp : p.npostfix = 0) (hnd : p.ndirect = 0)
    (hwin : Zopfli.maxBackwardLimit p ≤ 2 ^ 30) (hmd : p.maxDistance + 15 < 2 ^ 31)
    (hstd : large = false → Zopfli.maxBackwardLimit p ≤ 2 ^ 26 - 4) (hdist : large = false → p.maxDistance ≤ 2 ^ 26 - 4)
    (hlen : mb.length ≤ 2 ^ 24)
    (hpos : position = hist.length + lastInsertLen) (hmb : mb.length = lastInsertLen + numBytes)
    (hc : CacheI32 cache) (hcl : 4 ≤ cache.length)
    (hn : NodesOK wo (Zopfli.maxBackwardLimit p) p.maxDistance (hist ++ mb) position numBytes nodes (cache.take 4))
    (h : zopfliCreateCommands p.npostfix p.ndirect numBytes position (Zopfli.maxBackwardLimit p) nodes cache
      lastInsertLen numLiterals = some res) :
    (∀ c ∈ closeMetaBlock res.cmds res.lastInsertLen, cmdOK (distAlphabetSize large 0 0) 0 0 c = true) ∧
    lockstep wo 0 0 (Zopfli.maxBackwardLimit p) mb ⟨hist, cache.take 4, 0⟩ 0
      (closeMetaBlock res.cmds res.lastInsertLen) = true ∧
    replayCommands wo 0 0 (Zopfli.maxBackwardLimit p) mb (cache.take 4) hist
      (closeMetaBlock res.cmds res.lastInsertLen) = some (hist ++ mb) := by
  rw [hnp, hnd] at h
  exact zopfli_lockstep wo (Zopfli.maxBackwardLimit p) p.maxDistance large hist mb nodes numBytes position cache
    lastInsertLen numLiterals res hwin hmd hstd hdist hlen hpos hmb hc hcl hn h

/-- `fast_metablock_roundtrip` with its command hypotheses discharged for the commands of `BrotliZopfliCreateCommands`
over any sound node array.  (Quality 10 / 11 use `BrotliStoreMetaBlock`; this instance shows that the command hypotheses
`cmdOK`, `lockstep` and the payload hypothesis, which every writer theorem takes, are met.) -/
theorem zopfli_fast_roundtrip {K : Type} (p : Zopfli.Params) (large : Bool) (wo : WordOracle) (hist mb : Bytes)
    (nodes : Array (Node K)) (numBytes position : Nat) (cache : List Int) (lastInsertLen numLiterals : Nat)
    (res : CmdResult)
    (hnp : p.npostfix = 0) (hnd : p.ndirect = 0)
    (hwin : Zopfli.maxBackwardLimit p ≤ 2 ^ 30) (hmd : p.maxDistance + 15 < 2 ^ 31)
    (hstd : large = false → Zopfli.maxBackwardLimit p ≤ 2 ^ 26 - 4) (hdist : large = false → p.maxDistance ≤ 2 ^ 26 - 4)
    (hlen : mb.length ≤ 2 ^ 24)
    (hpos : position = hist.length + lastInsertLen) (hmb : mb.length = lastInsertLen + numBytes)
    (hc : CacheI32 cache) (hcl : 4 ≤ cache.length)
    (hn : NodesOK wo (Zopfli.maxBackwardLimit p) p.maxDistance (hist ++ mb) position numBytes nodes (cache.take 4))
    (h : zopfliCreateCommands p.npostfix p.ndirect numBytes position (Zopfli.maxBackwardLimit p) nodes cache
      lastInsertLen numLiterals = some res)
    (ring : Bytes) (start mask : Nat) (isLast : Bool) (w : List Bool)
    (hR : RingHolds ring mask start mb) (h256 : ∀ b ∈ mb, b < 256) (h1 : 1 ≤ mb.length) (hst : start < 2 ^ 64)
    (hIP : inputPairCheck ring start mb.length mask = .ok ()) :
    ∃ bits ring',
      storeMetaBlockFast ring start mb.length mask isLast (distAlphabetSize large 0 0)
        (closeMetaBlock res.cmds res.lastInsertLen) w = .ok (w ++ bits) ∧
      ∀ rest, readMetaBlockFull wo (Zopfli.maxBackwardLimit p) large w.length ⟨hist, cache.take 4⟩ (bits ++ rest)
        = some (⟨hist ++ mb, ring'⟩, isLast, (w ++ bits).length, rest) := by
  obtain ⟨hok, hlock, hrep⟩ := zopfli_commands_lockstep p large wo hist mb nodes numBytes position cache
    lastInsertLen numLiterals res hnp hnd hwin hmd hstd hdist hlen hpos hmb hc hcl hn h
  obtain ⟨bits, out, ring', e, _, hrd, hout⟩ := BV.Props.C01MetaBlock.fast_metablock_roundtrip wo (Zopfli.maxBackwardLimit p)
    large ring start mask mb isLast _ hist (cache.take 4) w hR h256 h1 hlen hst hIP hok hlock
  have := hout hrep
  subst this
  exact ⟨bits, ring', e, hrd⟩

/-- If every WRITTEN node of the array the dynamic programme leaves (a node is
written iff it fails the tail-skip test `insert_length == 0 && length == 1`) is `BackOK` — sound, in the
sense of `NodeOK`, relative to the ring of last distances `RingAt` that the decoder has after the commands
of the node's own backward chain — then the array `ComputeShortestPathFromNodes` returns, with the `next`
chain written into the `u` fields, satisfies `NodesOK`, the hypothesis of `zopfli_commands_lockstep`. -/
theorem shortest_path_nodesOK {K : Type} (wo : WordOracle) (window md : Nat) (T : Bytes) (base numBytes : Nat)
    (nodes nodes' : Array (Node K)) (start : List Int) (cnt : Nat)
    (hall : AllBack wo window md T base numBytes nodes start)
    (h : computeShortestPathFromNodes numBytes nodes = some (nodes', cnt)) :
    NodesOK wo window md T base numBytes nodes' start :=
  shortestPath_nodesOK wo window md T base numBytes nodes nodes' start cnt hall h

/-- The two composed: sound nodes, `ComputeShortestPathFromNodes`, then
`BrotliZopfliCreateCommands` (what `BrotliCreateZopfliBackwardReferences` / `ZopfliIterate` do after the
dynamic programme): the closed command list is `cmdOK`, in `lockstep`, and replays to `hist ++ mb`. -/
theorem path_commands_lockstep {K : Type} (p : Zopfli.Params) (large : Bool) (wo : WordOracle) (hist mb : Bytes)
    (nodes nodes' : Array (Node K)) (cnt numBytes position : Nat) (cache : List Int) (lastInsertLen numLiterals : Nat)
    (res : CmdResult)
    (hnp : p.npostfix = 0) (hnd : p.ndirect = 0)
    (hwin : Zopfli.maxBackwardLimit p ≤ 2 ^ 30) (hmd : p.maxDistance + 15 < 2 ^ 31)
    (hstd : large = false → Zopfli.maxBackwardLimit p ≤ 2 ^ 26 - 4) (hdist : large = false → p.maxDistance ≤ 2 ^ 26 - 4)
    (hlen : mb.length ≤ 2 ^ 24)
    (hpos : position = hist.length + lastInsertLen) (hmb : mb.length = lastInsertLen + numBytes)
    (hc : CacheI32 cache) (hcl : 4 ≤ cache.length)
    (hall : AllBack wo (Zopfli.maxBackwardLimit p) p.maxDistance (hist ++ mb) position numBytes nodes (cache.take 4))
    (hsp : computeShortestPathFromNodes numBytes nodes = some (nodes', cnt))
    (h : zopfliCreateCommands p.npostfix p.ndirect numBytes position (Zopfli.maxBackwardLimit p) nodes' cache
      lastInsertLen numLiterals = some res) :
    (∀ c ∈ closeMetaBlock res.cmds res.lastInsertLen, cmdOK (distAlphabetSize large 0 0) 0 0 c = true) ∧
    lockstep wo 0 0 (Zopfli.maxBackwardLimit p) mb ⟨hist, cache.take 4, 0⟩ 0
      (closeMetaBlock res.cmds res.lastInsertLen) = true ∧
    replayCommands wo 0 0 (Zopfli.maxBackwardLimit p) mb (cache.take 4) hist
      (closeMetaBlock res.cmds res.lastInsertLen) = some (hist ++ mb) :=
  zopfli_commands_lockstep p large wo hist mb nodes' numBytes position cache lastInsertLen numLiterals res hnp hnd
    hwin hmd hstd hdist hlen hpos hmb hc hcl (shortest_path_nodesOK _ _ _ _ _ _ nodes nodes' _ cnt hall hsp) h

/-- The invariant `DPInv` of the dynamic programme (BV/Lemmas/ZopfliInv.lean: every written
node is `BackOK` with an evaluated start position, every stored `shortcut` means what `SC` says, untouched nodes
carry the infinite cost) is the right one: whenever it holds for the array handed to
`ComputeShortestPathFromNodes`, the commands are `cmdOK`, in `lockstep`, and replay to `hist ++ mb`. -/
theorem dp_commands_lockstep {K : Type} (p : Zopfli.Params) (large : Bool) (wo : WordOracle) (hist mb : Bytes) (inf : K)
    (nodes nodes' : Array (Node K)) (lim cnt numBytes position : Nat) (cache : List Int) (lastInsertLen numLiterals : Nat)
    (res : CmdResult)
    (hnp : p.npostfix = 0) (hnd : p.ndirect = 0)
    (hwin : Zopfli.maxBackwardLimit p ≤ 2 ^ 30) (hmd : p.maxDistance + 15 < 2 ^ 31)
    (hstd : large = false → Zopfli.maxBackwardLimit p ≤ 2 ^ 26 - 4) (hdist : large = false → p.maxDistance ≤ 2 ^ 26 - 4)
    (hlen : mb.length ≤ 2 ^ 24)
    (hpos : position = hist.length + lastInsertLen) (hmb : mb.length = lastInsertLen + numBytes)
    (hc : CacheI32 cache) (hcl : 4 ≤ cache.length)
    (hdp : DPInv ⟨wo, Zopfli.maxBackwardLimit p, p.maxDistance, hist ++ mb, position, numBytes, cache.take 4⟩ inf nodes lim)
    (hsp : computeShortestPathFromNodes numBytes nodes = some (nodes', cnt))
    (h : zopfliCreateCommands p.npostfix p.ndirect numBytes position (Zopfli.maxBackwardLimit p) nodes' cache
      lastInsertLen numLiterals = some res) :
    (∀ c ∈ closeMetaBlock res.cmds res.lastInsertLen, cmdOK (distAlphabetSize large 0 0) 0 0 c = true) ∧
    lockstep wo 0 0 (Zopfli.maxBackwardLimit p) mb ⟨hist, cache.take 4, 0⟩ 0
      (closeMetaBlock res.cmds res.lastInsertLen) = true ∧
    replayCommands wo 0 0 (Zopfli.maxBackwardLimit p) mb (cache.take 4) hist
      (closeMetaBlock res.cmds res.lastInsertLen) = some (hist ++ mb) :=
  path_commands_lockstep p large wo hist mb nodes nodes' cnt numBytes position cache lastInsertLen numLiterals res hnp hnd
    hwin hmd hstd hdist hlen hpos hmb hc hcl hdp.allBack hsp h

/-- The sixteen distance-cache probes of `UpdateNodes` (`for j in 0..16`: the
`i32` sum of a cache entry and the table offset, the wrap / window / continuation-byte filters,
`FindMatchLengthWithLimit` against the ring, and the `for l in best_len+1..=len` loop writing nodes with short
code `j + 1`) keep the invariant FOR EVERY COST ORACLE: whatever `ops.lt` answers, each node they write is a copy
whose bytes agree in the text (`ring_match_is_text_match` over the ring view) and whose short code denotes
its distance under the RFC rules relative to the ring at the start position (`zopfli_short_code`: Zopfli's table
`kDistanceCacheIndex/Offset` = RFC 7932 symbols 0..15).
PARTIAL: this is one layer of the soundness of the dynamic programme (that the array it leaves satisfies `DPInv`).  Proved besides it: `match_loop_sound_partial` (the matches of the match
finder), `DPInv.write`, `shortest_path_nodesOK`, `dp_commands_lockstep`.  NOT proved: (a) the glue `candidate` /
`UpdateNodes` around these two loops (the queue lookup `queue.at k` has the index `k.wrapping_sub(idx) & 7`; unfolding
`candidate` makes the Lean KERNEL compare `k + 2^64` in successor form, i.e. count to 2^64 — a proof-engineering
obstacle, not a doubt about the statement), (b) `EvaluateNode` (proved of it, BV/Lemmas/ZopfliEval.lean: the stored `shortcut`
means what `SC` says, and the slot arithmetic of the queue; NOT proved: that `ComputeDistanceCache` returns the ring `RingAt`
of the position and that `StartPosQueue::push` keeps the queue entries sound), (c) the outer loops (`BrotliZopfliComputeShortestPath`,
`ZopfliIterate`, skip logic) and (d) `le(inf, literal cost) = false`, needed so that an untouched node never enters the queue. -/
theorem cache_probes_sound_partial {K : Type} {C : ZC} {inf : K} {lim : Nat} {q : Queue K} {data : ByteArray} {k tail lo : Nat}
    (hz : ZOK C data k tail lo) (ops : CostOps K) (m : CostModel K) (pos : Nat) (hlim : lim = pos + 1)
    (hpos : pos ≤ C.numBytes) (pd : PosData K) (hpdq : ∀ nodes, Inv2 C inf lim q nodes → PDOK C nodes lim pd)
    (inscode : Nat) (baseCost : K) (bestLen : Nat) (s s' : UN K) (hbl : 1 ≤ bestLen) (hinv : Inv2 C inf lim q s.nodes)
    (h : cacheLoop ops m data (2 ^ k - 1) (C.base + pos) (min (C.base + pos) C.window) (wsub C.numBytes pos) pos pd.pos
      inscode pd.cache baseCost 16 0 bestLen s = some s') :
    Inv2 C inf lim q s'.nodes :=
  cacheLoop_inv hz ops m pos hlim hpos pd hpdq inscode baseCost 16 0 bestLen s s' (by omega) hbl hinv h

/-- The match loop of `UpdateNodes` (`for j in 0..num_matches`: distance symbol
cost, the `len = max_match_len` jump for dictionary / very long matches, `while len <= max_match_len` writing
nodes without short code) keeps the invariant for every cost oracle and EVERY match list that is sound in the
sense of `MatchOK` (a match within `min(position, window)` is a real match of its length in the text; a match
beyond it is a dictionary reference the decoder's oracle expands to the next bytes): copies are written for
every length up to the match length, dictionary references only with the match's own length.  PARTIAL: see
`cache_probes_sound_partial`. -/
theorem match_loop_sound_partial {K : Type} {C : ZC} {inf : K} {lim : Nat} {q : Queue K} {data : ByteArray} {k tail lo : Nat}
    (hz : ZOK C data k tail lo) (ops : CostOps K) (m : CostModel K) (p : Zopfli.Params) (pos : Nat) (hlim : lim = pos + 1)
    (pd : PosData K) (hpdq : ∀ nodes, Inv2 C inf lim q nodes → PDOK C nodes lim pd)
    (inscode : Nat) (baseCost : K) (ms : List Match) (len : Nat) (s s' : UN K)
    (hms : ∀ x ∈ ms, MatchOK C pos x) (hlen : 2 ≤ len) (hinv : Inv2 C inf lim q s.nodes)
    (h : matchLoop ops m p (min (C.base + pos) C.window) pos pd.pos inscode baseCost ms len s = some s') :
    Inv2 C inf lim q s'.nodes :=
  matchLoop_inv hz ops m p pos hlim pd hpdq inscode baseCost ms len s s' hms hlen hinv h

/-- A first layer of `MatchOK` for the modelled `FindAllMatchesH10`: every
match its short-distance loop reports (`for i in (stop+1 ..= cur_ix-1).rev()` with the `best_len <= 2` guard, the
`backward > max_backward` break, the two-byte filter and `FindMatchLengthWithLimit`) is `BackwardMatch::init(backward, len)`
with `1 ≤ backward ≤ min(max_backward, cur_ix)`, `len ≤ max_length`, and `len` agreeing bytes at the two masked ring
positions.  PARTIAL: the binary-tree walk `StoreAndFindMatchesH10` (the other source of ring matches), the bit-field
decoding of `BackwardMatch`, the transfer from the ring to the text and the dictionary oracle hypothesis are not done. -/
theorem h10_short_matches_sound_partial (data : ByteArray) (mask curIx maxLength maxBackward stop : Nat)
    (hcur : curIx < 2 ^ 63) (hmb : maxBackward ≤ curIx) (bestLen : Nat) (acc : List Match)
    (h : Zopfli.H10.shortLoop data mask curIx maxLength maxBackward stop 65 (wsub curIx 1) 1 [] = some (bestLen, acc)) :
    ∀ x ∈ acc, RingMatch data mask curIx maxLength maxBackward x := by
  have hU : U64 = 18446744073709551616 := rfl
  refine shortLoop_sound data mask curIx maxLength maxBackward stop hcur hmb 65 (wsub curIx 1) 1 [] (bestLen, acc) h ?_
    (fun x hx => by cases hx)
  rw [wsub_eq (by omega) (by omega)]
  split <;> omega

/-- a concrete node array meets every hypothesis of `zopfli_commands_lockstep`; the run emits one copy
command and leaves one pending literal, and the theorem yields that the RFC decoder replays the closed
command list to the text -/
example : ∃ res, zopfliCreateCommands 0 0 10 0 (Zopfli.maxBackwardLimit ZEx.params) ZEx.nodes [4, 11, 15, 16] 0 0 = some res ∧
    closeMetaBlock res.cmds res.lastInsertLen = [⟨3, 6, 0, 156, 1041⟩, initInsert 1] ∧
    replayCommands (fun _ _ _ => none) 0 0 (Zopfli.maxBackwardLimit ZEx.params) ZEx.text [4, 11, 15, 16] []
      (closeMetaBlock res.cmds res.lastInsertLen) = some ZEx.text := by
  cases hr : zopfliCreateCommands 0 0 10 0 (Zopfli.maxBackwardLimit ZEx.params) ZEx.nodes [4, 11, 15, 16] 0 0 with
  | none => have := ZEx.run; rw [hr] at this; cases this
  | some res =>
    have hrun := ZEx.run
    rw [hr] at hrun
    simp only [Option.map_some, Option.some.injEq, Prod.mk.injEq] at hrun
    obtain ⟨_, _, hrep⟩ := zopfli_commands_lockstep ZEx.params false (fun _ _ _ => none) [] ZEx.text
      ZEx.nodes 10 0 [4, 11, 15, 16] 0 0 res rfl rfl (by decide) (by decide) (fun _ => by decide) (fun _ => by decide)
      (by decide) rfl rfl (by intro x hx; simp at hx; rcases hx with rfl | rfl | rfl | rfl <;> decide) (by decide)
      ZEx.nodes_ok hr
    refine ⟨res, rfl, ?_, by simpa using hrep⟩
    rw [hrun.1, hrun.2.1]; rfl

/-- the array as the dynamic programme leaves it (one written node, the rest untouched) satisfies `AllBack`,
`ComputeShortestPathFromNodes` succeeds on it (one command), and `shortest_path_nodesOK` yields `NodesOK` -/
example : ∃ nodes' cnt, computeShortestPathFromNodes 10 ZEx.nodesDP = some (nodes', cnt) ∧ cnt = 1 ∧
    NodesOK (fun _ _ _ => none) (Zopfli.maxBackwardLimit ZEx.params) ZEx.params.maxDistance ([] ++ ZEx.text) 0 10
      nodes' [4, 11, 15, 16] := by
  cases hr : computeShortestPathFromNodes 10 ZEx.nodesDP with
  | none => have := ZEx.runDP; rw [hr] at this; cases this
  | some r =>
    obtain ⟨nodes', cnt⟩ := r
    have hrun := ZEx.runDP
    rw [hr] at hrun
    simp only [Option.map_some, Option.some.injEq] at hrun
    exact ⟨nodes', cnt, rfl, hrun, shortest_path_nodesOK _ _ _ _ _ _ _ _ _ _ ZEx.nodesDP_ok hr⟩

/-- the invariant of the dynamic programme is satisfiable: the concrete array above (one written node whose start
position 0 has been evaluated, `shortcut 0` stored at position 0, all other nodes untouched with the infinite cost)
satisfies `DPInv` with one position evaluated -/
example : DPInv ⟨fun _ _ _ => none, Zopfli.maxBackwardLimit ZEx.params, ZEx.params.maxDistance, [] ++ ZEx.text, 0, 10,
    [4, 11, 15, 16]⟩ (0 : Nat) ZEx.nodesDP 1 := by
  refine ⟨rfl, ⟨_, rfl, by unfold Node.isStub; decide⟩, ?_, ?_, ?_⟩
  · intro e n he hle hn
    rcases ZEx.nodesDP_get e n he hn with rfl | ⟨rfl, rfl⟩
    · exact Or.inl ⟨by decide, by decide⟩
    · rcases ZEx.nodesDP_ok 9 _ he hle hn with hs | hb
      · exact Or.inl hs
      · exact Or.inr ⟨hb, by decide⟩
  · intro e n he hn _
    have : e = 0 := by omega
    subst this
    have hn0 : n = ⟨0, 0, 0, .shortcut 0⟩ := by
      have : ZEx.nodesDP[0]? = some ⟨0, 0, 0, .shortcut 0⟩ := rfl
      rw [this] at hn; injection hn with hn; exact hn.symm
    subst hn0
    exact ⟨0, rfl, [], Hist.zero, Or.inl ⟨rfl, rfl⟩⟩
  · intro e n he hn hs
    rcases ZEx.nodesDP_get e n (by omega) hn with rfl | ⟨rfl, rfl⟩
    · rfl
    · exact absurd hs (by unfold Node.isStub; decide)

/-- the short-distance loop on a concrete ring (`1 2 3 1 2 3 1 2 3 9`, position 6): it reports the match of length 3
at distance 3, and `h10_short_matches_sound_partial` certifies it -/
example : ∃ bl acc, Zopfli.H10.shortLoop ⟨(([1, 2, 3, 1, 2, 3, 1, 2, 3, 9] ++ List.replicate 60 0).map UInt8.ofNat).toArray⟩
      63 6 3 6 0 65 (wsub 6 1) 1 [] = some (bl, acc) ∧ acc = [Match.init 3 3] ∧
    ∀ x ∈ acc, RingMatch ⟨(([1, 2, 3, 1, 2, 3, 1, 2, 3, 9] ++ List.replicate 60 0).map UInt8.ofNat).toArray⟩ 63 6 3 6 x := by
  have hrun : Zopfli.H10.shortLoop ⟨(([1, 2, 3, 1, 2, 3, 1, 2, 3, 9] ++ List.replicate 60 0).map UInt8.ofNat).toArray⟩
      63 6 3 6 0 65 (wsub 6 1) 1 [] = some (3, [Match.init 3 3]) := by decide +kernel
  exact ⟨3, _, hrun, rfl, h10_short_matches_sound_partial _ 63 6 3 6 0 (by decide) (by decide) 3 _ hrun⟩

end BV.Props.C01Zopfli
