import BV.Lemmas.StreamLtsCall
import BV.Lemmas.StreamTermCall
/-
C20 — Streaming state machine honours its call contract.

Model: `BV/Model/Stream.lean` (mirrors `src/enc/encode.rs`: `set_parameter`,
`ensure_initialized`, `compress_stream`, `compress_stream_fast`, `process_metadata`,
`take_output`, … ; the payload encoder is an arbitrary oracle `o : Nat → Req → Ans` — NO
hypothesis about it is used in this file).  Spec side: the 6-state automaton `CState` /
`Contract.accepts` / `Contract.succ` of `BV/Lemmas/StreamContract.lean`, written from the
documented contract (c/brotli/encode.h), and the abstraction `absC`.

`Inv` is the state invariant (established by `ensure_initialized` on any fresh encoder, preserved
by every call: part of each theorem's conclusion).  `s.inputPos + input.length < 2^64` says the
stream is shorter than 2^64 bytes.
-/
namespace BV.Props.C20
open BV.Stream BV.Bits

/-- the parameter table of the documented interface: ids `set_parameter` accepts (with the
value restriction of DISABLE_LITERAL_CONTEXT_MODELING) — spec side, written from
`BrotliEncoderParameter` -/
def paramAccepted (id v : Nat) : Bool :=
  (id ∈ [0, 1, 2, 3, 5, 6, 150, 151, 152, 153, 154, 155, 156, 157, 158, 159, 160, 161, 162, 164, 165, 166, 167, 168, 169, 171])
  || (id == 4 && (v == 0 || v == 1))

theorem setParamRaw_table (p : Params) (id v : Nat) : (setParamRaw p id v).isSome = paramAccepted id v := by
  unfold setParamRaw
  split
  all_goals first
    | rfl
    | skip
  · -- DISABLE_LITERAL_CONTEXT_MODELING: only 0 and 1
    by_cases h0 : v = 0
    · subst h0; rfl
    · by_cases h1 : v = 1
      · subst h1; rfl
      · rw [if_pos ⟨h0, h1⟩]
        simp [paramAccepted, h0, h1]
  · simp_all [paramAccepted]

theorem set_parameter_table (s : St) (h : s.isInitialized = false) (id v : Nat) :
    (setParameter s id v).2 = paramAccepted id v := by
  unfold setParameter
  rw [h, ← setParamRaw_table s.params id v]
  simp only [Bool.false_eq_true, ↓reduceIte]
  cases setParamRaw s.params id v <;> rfl

/-- **params_frozen** (1): after first use every `set_parameter` is refused and changes nothing -/
theorem params_frozen (s : St) (h : s.isInitialized = true) (id v : Nat) :
    setParameter s id v = (s, false) := by
  simp [setParameter, h]

/-- **params_frozen** (2): any `compress_stream` call — accepted or refused — is a "first use" -/
theorem first_use_freezes {o : Oracle} {fuel op cap : Nat} {input : Bytes} {s s' : St} {io' : Io} {r : Bool}
    (hop : op ≤ 3) (hf : IsFresh s) (hw : input.length < two64)
    (h : compressStream o fuel s op input cap = .ok (s', io', r)) :
    s'.isInitialized = true := by
  obtain ⟨hI, hw, h⟩ := call_fresh hf (by rw [hf.inputPos, Nat.zero_add]; exact hw) h
  cases r
  · rcases (refused_unchanged hop hI hw h).1 with rfl | rfl
    · exact hI.init
    · exact (inv_updateSizeHint hI 0).init
  · exact ((compressStream_refines hop hI hw h).2 rfl).1.init

/-- **stream_refines_contract**: in every state satisfying the invariant, `compress_stream`
returns `true` exactly when the contract automaton accepts the call, and then the abstract
state moves along a contract transition with the reported number of consumed bytes; the
invariant holds again. -/
theorem stream_refines_contract {o : Oracle} {fuel op cap : Nat} {input : Bytes} {s s' : St} {io' : Io} {r : Bool}
    (hop : op ≤ 3) (hI : Inv s) (hw : s.inputPos + input.length < two64)
    (h : compressStream o fuel s op input cap = .ok (s', io', r)) :
    r = Contract.accepts (absC s) op input.length ∧
    (r = true → Inv s' ∧ io'.availIn ≤ input.length ∧
      Contract.succ (absC s) op input.length (input.length - io'.availIn) (absC s')) :=
  compressStream_refines hop hI hw h

/-- `absC` of a fresh encoder is `processing` -/
theorem stream_refines_contract_fresh {o : Oracle} {fuel op cap : Nat} {input : Bytes} {s s' : St} {io' : Io} {r : Bool}
    (hop : op ≤ 3) (hf : IsFresh s) (hw : input.length < two64)
    (h : compressStream o fuel s op input cap = .ok (s', io', r)) :
    r = Contract.accepts (absC s) op input.length ∧
    (r = true → Inv s' ∧ io'.availIn ≤ input.length ∧
      Contract.succ (absC s) op input.length (input.length - io'.availIn) (absC s')) := by
  obtain ⟨hI, hw, h⟩ := call_fresh hf (by rw [hf.inputPos, Nat.zero_add]; exact hw) h
  obtain ⟨_, hproc, hfr⟩ := inv_fresh hf
  have := compressStream_refines hop hI hw h
  rw [hproc] at this
  rw [hfr]
  exact this

theorem take_output_refines {s s' : St} {size : Nat} {out : Bytes} (hI : Inv s)
    (h : takeOutput s size = .ok (s', out)) :
    Inv s' ∧ s.pending = out ++ s'.pending ∧
    (absC s' = absC s ∨ (absC s = .flushing ∧ absC s' = .processing) ∨ (absC s = .finishing ∧ absC s' = .finished)) := by
  obtain ⟨hI', hp, hrm, hst⟩ := takeOutput_spec hI h
  refine ⟨hI', hp, ?_⟩
  by_cases hm : s.remainingMetadata = u32Max
  · have hm' : s'.remainingMetadata = u32Max := hrm.trans hm
    have hlen : s.pending.length = out.length + s'.pending.length := by
      have := congrArg List.length hp
      simpa using this
    rw [absC_eq hI hm, absC_eq hI' hm']
    rcases hst with h1 | ⟨h1, h2, h3⟩
    · rw [h1]
      cases hs : s.streamState
      · exact Or.inl rfl
      · exact Or.inl rfl
      · by_cases hp0 : s.pending.length = 0
        · have hp1 : s'.pending.length = 0 := by omega
          simp [hp0, hp1]
        · by_cases hp1 : s'.pending.length = 0
          · simp [hp0, hp1]
          · simp [hp0, hp1]
      · exact Or.inl rfl
      · exact Or.inl rfl
    · rw [h1, h3]; simp
  · have hm' : s'.remainingMetadata ≠ u32Max := by rw [hrm]; exact hm
    rw [absC_md hI.init hm, absC_md hI'.init hm', hrm]
    exact Or.inl rfl

/-- **no_input_after_finish**: once a finish request has been accepted (abstract state
`finishing` or `finished`), no call consumes input -/
theorem no_input_after_finish {o : Oracle} {fuel op cap : Nat} {input : Bytes} {s s' : St} {io' : Io} {r : Bool}
    (hop : op ≤ 3) (hI : Inv s) (hw : s.inputPos + input.length < two64)
    (hfin : absC s = .finishing ∨ absC s = .finished)
    (h : compressStream o fuel s op input cap = .ok (s', io', r)) :
    io'.availIn = input.length ∧ (absC s' = .finishing ∨ absC s' = .finished) := by
  cases r
  · obtain ⟨hs, hio⟩ := refused_unchanged hop hI hw h
    subst hio
    refine ⟨rfl, ?_⟩
    rcases hs with rfl | rfl
    · exact hfin
    · rw [absC_updateSizeHint]; exact hfin
  · obtain ⟨hacc, hsucc⟩ := compressStream_refines hop hI hw h
    obtain ⟨_, hav, hs⟩ := hsucc rfl
    rcases hfin with hf | hf <;> rw [hf] at hs hacc <;> simp only [Contract.succ] at hs
    · have hn : input.length = 0 := by
        simp [Contract.accepts] at hacc; simp [hacc.2]
      exact ⟨by omega, hs.2⟩
    · have hn : input.length = 0 := by
        simp [Contract.accepts] at hacc; simp [hacc.2]
      exact ⟨by omega, Or.inr hs.2⟩

/-- **finished_absorbing** (1): every `compress_stream` call, accepted or refused -/
theorem finished_absorbing {o : Oracle} {fuel op cap : Nat} {input : Bytes} {s s' : St} {io' : Io} {r : Bool}
    (hop : op ≤ 3) (hI : Inv s) (hw : s.inputPos + input.length < two64) (hfin : absC s = .finished)
    (h : compressStream o fuel s op input cap = .ok (s', io', r)) :
    absC s' = .finished ∧ io'.availIn = input.length := by
  cases r
  · obtain ⟨hs, hio⟩ := refused_unchanged hop hI hw h
    subst hio
    refine ⟨?_, rfl⟩
    rcases hs with rfl | rfl
    · exact hfin
    · rw [absC_updateSizeHint]; exact hfin
  · obtain ⟨hacc, hsucc⟩ := compressStream_refines hop hI hw h
    obtain ⟨_, hav, hs⟩ := hsucc rfl
    rw [hfin] at hs hacc
    simp only [Contract.succ] at hs
    have hn : input.length = 0 := by
      simp [Contract.accepts] at hacc; simp [hacc.2]
    exact ⟨hs.2, by omega⟩

/-- **finished_absorbing** (2), exact form: in the FINISHED state with nothing pending an
accepted call returns the very same state and delivers nothing -/
theorem finished_call_is_identity {o : Oracle} {fuel op cap : Nat} {s : St}
    (hop : op ≤ 2) (hI : Inv s) (hst : s.streamState = .finished) (hp : s.pending = []) :
    compressStream o (fuel + 1) s op [] cap = .ok (s, Io.start [] cap, true) :=
  finished_call_exact hop hI hst hp

/-- the `take_output` half of **finished_absorbing** (the statement does not look at the stream state) -/
theorem finished_take_output_is_identity {s : St} (hp : s.pending = []) (size : Nat) (hok : takeSliceOk s = true) :
    takeOutput s size = .ok (s, []) := by
  unfold takeOutput
  rw [hok]
  simp [takeCount, hp]

/-- **violations_fail_clean**: a call the contract does not allow (input while flushing or
finishing, a different amount of metadata or another operation mid-block, more than 2^24
bytes of metadata, metadata after finish) returns `false`, consumes and produces nothing, and
leaves the state as it was — except that `update_size_hint(0)` may have filled in
`params.size_hint` (it runs before the metadata checks; harmless: the field is only read by
the payload encoder's heuristics) -/
theorem violations_fail_clean {o : Oracle} {fuel op cap : Nat} {input : Bytes} {s s' : St} {io' : Io} {r : Bool}
    (hop : op ≤ 3) (hI : Inv s) (hw : s.inputPos + input.length < two64)
    (hv : Contract.accepts (absC s) op input.length = false)
    (h : compressStream o fuel s op input cap = .ok (s', io', r)) :
    r = false ∧ io' = Io.start input cap ∧ (s' = s ∨ s' = updateSizeHint s 0) := by
  have hr : r = false := by rw [(compressStream_refines hop hI hw h).1, hv]
  subst hr
  obtain ⟨hs, hio⟩ := refused_unchanged hop hI hw h
  exact ⟨rfl, hio, hs⟩

/-- **request_completes** (1): PROCESS / FLUSH / FINISH outside a metadata block.  An accepted
call that returns with output room left has nothing pending, and a call that returns with
nothing pending has COMPLETED the request (`Drained`): all offered input is consumed; a FLUSH
from `processing` has been performed (stream state back to PROCESSING, no carry bits, nothing
unflushed); a FINISH from `processing` has reached FINISHED; in the states `flushing` /
`finishing` the call only drains (so a FINISH issued while a flush is still draining needs one
more call).  Hence a caller that repeats the request with `cap ≥ 1` sees, at every call, either
completion or a completely filled output buffer: the number of calls is at most
`⌈bytes delivered / cap⌉ + 2`.  No hypothesis on the oracle. -/
theorem request_completes {o : Oracle} {fuel op cap : Nat} {input : Bytes} {s s' : St} {io' : Io}
    (hop : op ≤ 2) (hI : Inv s) (hrm : s.remainingMetadata = u32Max) (hw : s.inputPos + input.length < two64)
    (h : compressStream o fuel s op input cap = .ok (s', io', true)) :
    (io'.availOut ≠ 0 → s'.pending.length = 0) ∧ (s'.pending.length = 0 → Drained op s.streamState s' io') :=
  compressStream_drained hop hI hw h

/-- **request_completes** (2): EMIT_METADATA.  An accepted call that returns with output room
left, or with nothing pending, has completed the block: every payload byte consumed, stream
state back to PROCESSING. -/
theorem metadata_completes {o : Oracle} {fuel cap : Nat} {input : Bytes} {s s' : St} {io' : Io}
    (hI : Inv s) (hw : s.inputPos + input.length < two64)
    (h : compressStream o fuel s 3 input cap = .ok (s', io', true)) :
    (io'.availOut ≠ 0 → s'.pending.length = 0) ∧
    (s'.pending.length = 0 → s'.remainingMetadata = u32Max ∧ s'.streamState = .processing ∧ io'.availIn = 0) :=
  metadata_drained hI hw h

theorem take_output_completes {s s' : St} {size : Nat} {out : Bytes} (hI : Inv s)
    (h : takeOutput s size = .ok (s', out)) (hp : s'.pending = []) (hfl : s.streamState = .flushRequested)
    (hout : out ≠ []) : s'.streamState = .processing := by
  rcases takeOutput_cases h with ⟨_, rfl⟩ | ⟨rfl, _⟩
  · exact absurd rfl hout
  · rw [checkFlushComplete_state]
    have hp' : (takeAdvance s (takeCount s size)).pending = [] := by
      rw [checkFlushComplete_eq] at hp; exact hp
    have hst : (takeAdvance s (takeCount s size)).streamState = .flushRequested := hfl
    simp [hst, hp']

/-- **request_completes** (3), every call terminates: the three loops of the model are defined
with fuel; with at least `callPot M s n = (2n + 2)(M + 8) + 17n + pending + 16` units
(`n` bytes offered) `compress_stream` never runs out of it — it returns a value or one of the
modelled panics.  NO hypothesis on the payload encoder: `M` only has to bound the staging buffer as it is and as this call can grow it
(`Cap M`: `storage_.len() ≤ M`, `2 * (input_pos_ + n − last_flush_pos_) + 527 ≤ M`, `2n + 527 ≤ M` —
e.g. `M = callCap s n`, `call_terminates_callCap`), because what one invocation can leave pending is
bounded by the machine's own `storage[1 + (storage_ix >> 3)]` checks (`encodeData_store`): a longer
answer is a panic, not a spin.  The metadata loop's potential needs `encode_data(force_flush)` to end
with `last_flush_pos_ = input_pos_` (`encodeData_forced`): with a quality 0/1 branch of `encode_data` that leaves
`last_flush_pos_` behind, the loop really spins (/verif/proposed/metadata-q01-catable-livelock.md). -/
theorem call_terminates {o : Oracle} {M fuel op cap : Nat} {input : Bytes} {s : St}
    (hC : Cap M s { input := input, availIn := input.length, availOut := cap })
    (hop : op ≤ 3) (hI : Inv s) (hw : s.inputPos + input.length < two64) (hl : s.lastBytesBits ≤ 14)
    (hfuel : callPot M s input.length < fuel) :
    compressStream o fuel s op input cap ≠ .fuel :=
  compressStream_terminates hC hop hI hw hl hfuel

theorem call_terminates_callCap {o : Oracle} {fuel op cap : Nat} {input : Bytes} {s : St}
    (hop : op ≤ 3) (hI : Inv s) (hw : s.inputPos + input.length < two64) (hl : s.lastBytesBits ≤ 14)
    (hfuel : callPot (callCap s input.length) s input.length < fuel) :
    compressStream o fuel s op input cap ≠ .fuel :=
  compressStream_terminates (cap_callCap s input cap) hop hI hw hl hfuel

/-- the side condition `hl` of `call_terminates` (and of C01's buffer theorems); `take_output` does not touch the
carry (`takeOutput_fields`) -/
theorem carry_bound_invariant {o : Oracle} {fuel op cap : Nat} {input : Bytes} {s s' : St} {io' : Io} {r : Bool}
    (hop : op ≤ 3) (hI : Inv s) (hw : s.inputPos + input.length < two64) (hl : s.lastBytesBits ≤ 14)
    (h : compressStream o fuel s op input cap = .ok (s', io', r)) : s'.lastBytesBits ≤ 14 :=
  compressStream_lbb hop hI hw hl h

theorem carry_bound_initial (s : St) (h : s.isInitialized = false) : (ensureInitialized s).lastBytesBits ≤ 14 :=
  ensureInitialized_lbb s h

/-- the hypotheses can be met -/
example : IsFresh St.new := ⟨{}, rfl⟩
example : Inv (ensureInitialized St.new) := (inv_fresh ⟨{}, rfl⟩).1
/-- the contract really refuses something and really accepts something -/
example : Contract.accepts .flushing 0 1 = false := by decide
example : Contract.accepts (.metadata 5) 3 5 = true := by decide
example : Contract.accepts .processing 3 16777217 = false := by decide
/-- the storage bound of `call_terminates` is met by a concrete value for every state and call -/
example (s : St) (input : Bytes) (cap : Nat) : Cap (callCap s input.length) s { input := input, availIn := input.length, availOut := cap } :=
  cap_callCap s input cap

end BV.Props.C20
