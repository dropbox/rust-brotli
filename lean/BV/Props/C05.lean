import BV.Lemmas.StreamFrame
import BV.Lemmas.StreamSchedRun
import BV.Lemmas.StreamSchedMd
/-
C05 — Output bytes depend on input, settings and call points only, not on buffering.

Model: `BV/Model/Stream.lean` (see C20).  What the model can say about this property is the
output-buffer half: how the caller slices the output (capacities 0, 1, …, ample; push vs
`take_output`; the in-place vs staged path of the quality 0/1 loop) never reaches the payload
encoder and never changes the emitted bit stream.  Allocator independence, run-to-run
determinism and build-profile independence have no counterpart in a functional model (there is
no allocator and no profile in it): those parts are validated by the harness (pairs of histories
compared byte for byte) and labelled as such in the registration.  Input-chunking independence at
quality ≥ 2 concerns which requests are issued: BV/Props/C05Chunk.lean.

PROVED for PROCESS / FLUSH / FINISH / EMIT_METADATA requests (`out_slicing_irrelevant`, `_md`, `_seq`,
`_seq_md`): for a request — or a sequence of requests — driven to completion under any schedule of
output capacities and `take_output` calls, the bytes produced and the final state (everything but the
output cursor, the pending bytes' location, `total_out_` and the size of `storage_`) do not depend on
the schedule.  Proof: a simulation onto the capacity-free machines `ustep` / `ustepM`
(Lemmas/StreamSched*), on whose one trajectory every run walks.
-/
namespace BV.Props.C05
open BV.Stream BV.Bits

/-- the payload encoder is asked with a `Req` that contains positions and flags only — no
caller cursor, no pending-output size: syntactically, by the type of `Req` -/
theorem requests_blind_to_output (s : St) (site : Nat) (il ff : Bool) :
    reqOf s site il ff = { site := site, lo := s.lastProcessedPos, hi := s.inputPos, lf := s.lastFlushPos,
                           isLast := il, forceFlush := ff } := rfl

/-- the request `encode_data` issues does not read the output side of the state.  That `encode_data` as a whole is blind to the
output side, size of `storage_` included, is `encode_abs` (Lemmas/StreamSched). -/
theorem encode_request_blind (o : Oracle) (s : St) (site : Nat) (il ff : Bool) (nx : NextOut) (tot : Nat) :
    reqOf { s with nextOut := nx, totalOut := tot } site il ff = reqOf s site il ff := rfl

/-- pushing output with capacity `a` and then `b` is one push with capacity `a + b` -/
theorem push_split (pending : Bytes) (a b : Nat) :
    pending.take a ++ (pending.drop a).take b = pending.take (a + b)
    ∧ (pending.drop a).drop b = pending.drop (a + b) := by
  refine ⟨?_, ?_⟩
  · rw [List.take_add]
  · rw [List.drop_drop]

theorem push_keeps_stream {d : Bytes} {s s' : St} {io io' : Io} {b : Bool}
    (hst : s.streamState ≠ .flushRequested) (h : injectFlushOrPushOutput s io = .ok (s', io', b)) :
    emitted (d ++ io'.out) s' = emitted (d ++ io.out) s := emitted_push hst h

theorem take_output_keeps_stream {d out : Bytes} {s s' : St} {size : Nat} (hI : Inv s)
    (h : takeOutput s size = .ok (s', out)) : emitted (d ++ out) s' = emitted d s := by
  obtain ⟨_, hp, _, _⟩ := takeOutput_spec hI h
  have hlb : s'.lastBytes = s.lastBytes ∧ s'.lastBytesBits = s.lastBytesBits := by
    rcases takeOutput_cases h with ⟨rfl, _⟩ | ⟨rfl, _⟩
    · exact ⟨rfl, rfl⟩
    · rw [checkFlushComplete_eq]; exact ⟨rfl, rfl⟩
  unfold emitted St.carry
  rw [hlb.1, hlb.2, hp, List.append_assoc]

/-- **in-place = staged** (quality 0/1): writing a block straight into the caller's buffer (`true`) and staging it
in `storage_` (`false`) differ only in where the bytes are (caller's buffer vs pending) -/
theorem inplace_eq_staged (s : St) (io : Io) (ans : Ans) (req : Req) (bs : Nat) (il ff : Bool)
    (hp : s.pending = []) :
    (fastEncode s io ans req bs true il ff).2.out ++ (fastEncode s io ans req bs true il ff).1.pending
      = (fastEncode s io ans req bs false il ff).2.out ++ (fastEncode s io ans req bs false il ff).1.pending
    ∧ (fastEncode s io ans req bs true il ff).1.lastBytes = (fastEncode s io ans req bs false il ff).1.lastBytes
    ∧ (fastEncode s io ans req bs true il ff).1.lastBytesBits = (fastEncode s io ans req bs false il ff).1.lastBytesBits
    ∧ (fastEncode s io ans req bs true il ff).1.streamState = (fastEncode s io ans req bs false il ff).1.streamState
    ∧ (fastEncode s io ans req bs true il ff).2.availIn = (fastEncode s io ans req bs false il ff).2.availIn
    ∧ (fastEncode s io ans req bs true il ff).2.input = (fastEncode s io ans req bs false il ff).2.input
    ∧ (fastEncode s io ans req bs true il ff).2.reqs = (fastEncode s io ans req bs false il ff).2.reqs := by
  unfold fastEncode
  simp [hp]

theorem inplace_eq_staged_stream (d : Bytes) (s : St) (io : Io) (ans : Ans) (req : Req) (bs : Nat) (il ff : Bool)
    (hp : s.pending = []) :
    emitted (d ++ (fastEncode s io ans req bs true il ff).2.out) (fastEncode s io ans req bs true il ff).1
      = emitted (d ++ (fastEncode s io ans req bs false il ff).2.out) (fastEncode s io ans req bs false il ff).1 := by
  obtain ⟨h1, h2, h3, _⟩ := inplace_eq_staged s io ans req bs il ff hp
  unfold emitted St.carry
  rw [h2, h3, List.append_assoc, h1, List.append_assoc]

theorem fast_block_appends (d : Bytes) (s : St) (io : Io) (ans : Ans) (req : Req) (bs : Nat) (ip il ff : Bool)
    (hp : s.pending = []) :
    emitted (d ++ (fastEncode s io ans req bs ip il ff).2.out) (fastEncode s io ans req bs ip il ff).1
      = emitted (d ++ io.out) s ++ ans.bits := by
  have key : emitted (d ++ (fastEncode s io ans req bs false il ff).2.out) (fastEncode s io ans req bs false il ff).1
      = emitted (d ++ io.out) s ++ ans.bits := by
    unfold fastEncode emitted St.carry
    simp only [Bool.false_eq_true, ↓reduceIte, hp, List.append_nil]
    rw [bytesBits_append, List.append_assoc, pack_unpack, List.append_assoc]
  cases ip
  · exact key
  · rw [inplace_eq_staged_stream d s io ans req bs il ff hp]; exact key

/-- **out_slicing_irrelevant_partial**: a push with any capacity changes neither the emitted bit stream
`bits(delivered ++ pending) ++ carry` nor positions, state, parameters and requests.  The induction
over arbitrary schedules of calls is `out_slicing_irrelevant` below; the harness compares such runs
byte for byte (`stream c05`: caps 1 / 0+take / random, against ample). -/
theorem out_slicing_irrelevant_partial {d : Bytes} {s s' : St} {io io' : Io} {b : Bool}
    (hst : s.streamState ≠ .flushRequested) (h : injectFlushOrPushOutput s io = .ok (s', io', b)) :
    emitted (d ++ io'.out) s' = emitted (d ++ io.out) s
    ∧ s'.lastFlushPos = s.lastFlushPos ∧ s'.lastProcessedPos = s.lastProcessedPos ∧ s'.inputPos = s.inputPos
    ∧ s'.streamState = s.streamState ∧ s'.params = s.params ∧ io'.availIn = io.availIn ∧ io'.reqs = io.reqs := by
  have pf := push_frame h
  have f := St.frame_eq pf.frame
  exact ⟨emitted_push hst h, pf.lastFlushPos, pf.lastProcessedPos, f.inputPos, f.streamState, f.params, pf.availIn, pf.reqs⟩

/-- **every run refines the abstract machine**: a request `(op, chunk)` driven from a call boundary
under ANY schedule (capacities 0, 1, …; `take_output` of any size at any point) stands on the
trajectory of the capacity-free abstract machine `ustep` from its start: on its flush-free part, or
— flag `true` — exactly one step past it, that step being the one that completed the flush. -/
theorem schedule_refines_abstract {o : Oracle} {fuel op : Nat} {sched : List SchedStep} {s s' : St}
    {chunk rem' del del' : Bytes} {d' : Bool} (hop2 : op ≤ 2) (hB : Bnd op s chunk)
    (h : driveReq o fuel op sched s chunk del false = some (s', rem', del', d')) :
    RPath o op (absR s chunk del) (absR s' rem' del') d' ∧ Bnd op s' rem' :=
  let r := drive_rpath (o := o) (fuel := fuel) hop2 (absR s chunk del) sched s chunk del false s' rem' del' d' hB ⟨0, .nil _⟩
    (fun hh => by cases hh) h
  ⟨r.1, r.2.1⟩

/-- **out_slicing_irrelevant** (full strength, one request): two runs of the same request
`(op, chunk)`, `op` ∈ PROCESS / FLUSH / FINISH, from call boundaries that agree abstractly (same core
state, same bytes produced so far), under two arbitrary schedules and fuels, each run complete
(`Final`: its flush has just completed, or the abstract machine has nothing left to do — e.g. its
last call returned with nothing pending, `complete_when_nothing_pending`) END IN THE SAME ABSTRACT
CONFIGURATION: equal core states, equal bytes produced (delivered ++ pending), equal input left. -/
theorem out_slicing_irrelevant {o : Oracle} {fuel1 fuel2 op : Nat} {sched1 sched2 : List SchedStep}
    {s1 s2 s1' s2' : St} {chunk del1 del2 rem1 rem2 del1' del2' : Bytes} {d1 d2 : Bool}
    (hop2 : op ≤ 2) (hB1 : Bnd op s1 chunk) (hB2 : Bnd op s2 chunk)
    (hcore : core s1 = core s2) (hout : del1 ++ s1.pending = del2 ++ s2.pending)
    (h1 : driveReq o fuel1 op sched1 s1 chunk del1 false = some (s1', rem1, del1', d1))
    (h2 : driveReq o fuel2 op sched2 s2 chunk del2 false = some (s2', rem2, del2', d2))
    (f1 : d1 = true ∨ ustep o op (absR s1' rem1 del1') = none)
    (f2 : d2 = true ∨ ustep o op (absR s2' rem2 del2') = none) :
    core s1' = core s2' ∧ del1' ++ s1'.pending = del2' ++ s2'.pending ∧ rem1 = rem2 := by
  have ha : absR s1 chunk del1 = absR s2 chunk del2 := by
    simp only [absR, hcore, hout]
  obtain ⟨r1, _⟩ := schedule_refines_abstract hop2 hB1 h1
  obtain ⟨r2, _⟩ := schedule_refines_abstract hop2 hB2 h2
  rw [ha] at r1
  have := rpath_final_eq r1 r2 f1 f2
  simp only [absR, Abs.mk.injEq] at this
  exact ⟨this.1, this.2.1, this.2.2.1⟩

/-- a checkable completion criterion: a call that returns with nothing pending has completed its request -/
theorem complete_when_nothing_pending {o : Oracle} {fuel op cap : Nat} {rem : Bytes} {s s' : St} {io' : Io}
    (hop2 : op ≤ 2) (hB : Bnd op s rem)
    (h : compressStream o fuel s op rem cap = .ok (s', io', true)) (hp : s'.pending = []) (d : Bytes) :
    callDone op s' = true ∨ ustep o op (absR s' io'.input d) = none := by
  obtain ⟨hI, hw, _, hnfl⟩ := hB.ensure
  have hcall : compressStream o fuel (ensureInitialized s) op rem cap = .ok (s', io', true) := by
    rw [← compressStream_ensure]; exact h
  obtain ⟨_, _, s1, ⟨evs, hsteps, _⟩, hs', hx⟩ := call_main hop2 hI hw hcall
  have hin : io'.availIn = io'.input.length := steps_inOK hsteps hop2 rfl
  have k8 : (checkFlushComplete s1).pending = s1.pending := by rw [checkFlushComplete_eq]
  have hp1 : s1.pending.length = 0 := by
    rw [hs', k8] at hp; rw [hp]; rfl
  have hst' := checkFlushComplete_state s1
  have hI1 := hx.inv
  have hnp1 := hx.noPad
  by_cases hfl : s1.streamState = .flushRequested
  · left
    have h0 : op ≠ 0 := by
      intro hh; subst hh
      exact steps_op0 hsteps (hnfl rfl) hfl
    unfold callDone
    rw [hs', hst', if_pos ⟨hfl, hp1⟩, k8]
    simp [h0, hp1]
  · right
    rw [hs', checkFlushComplete_id hfl]
    rcases hx.exit with ⟨hfm, hc⟩ | ⟨hnf, hc1, hc2⟩
    · rw [hin] at hc
      rw [ustep_fast (a := absR s1 io'.input d) hI1.init hfm]
      exact (if_neg hnp1).trans ((if_neg fun hh => hc ⟨hp1, hh⟩).trans (if_neg hfl))
    · rw [hin] at hc1
      rw [ustep_slow (a := absR s1 io'.input d) hI1.init hnf]
      exact (if_neg hc1).trans ((if_neg hnp1).trans ((if_neg fun hh => hc2 ⟨hp1, hh⟩).trans (if_neg hfl)))

/-- a sequence of requests, each driven to completion under its own schedule, the caller keeping the
contract between requests (no input outside PROCESSING, no 64-bit wrap of the position) -/
inductive Driven (o : Oracle) : List (Nat × Bytes) → St → Bytes → St → Bytes → Prop
  | nil (s : St) (del : Bytes) : Driven o [] s del s del
  | cons {op fuel : Nat} {chunk : Bytes} {sched : List SchedStep} {rest : List (Nat × Bytes)}
      {s s1 s' : St} {del rem1 del1 del' : Bytes} {d1 : Bool} :
      op ≤ 2 → Bnd op s chunk →
      driveReq o fuel op sched s chunk del false = some (s1, rem1, del1, d1) →
      (d1 = true ∨ ustep o op (absR s1 rem1 del1) = none) →
      Driven o rest s1 del1 s' del' → Driven o ((op, chunk) :: rest) s del s' del'

/-- **every run of a metadata request refines the abstract metadata machine**: an EMIT_METADATA request
driven from a call boundary under ANY schedule (capacities 0, 1, …, so that the payload goes out
directly, through the 16-byte `tiny_buf_`, or both; `take_output` of any size at any point) stands on
the trajectory of the capacity-free machine `ustepM` on normalised configurations (`absRM`: in
METADATA_BODY the payload not yet consumed counts as produced): before the completion of the block,
or — flag `true` — exactly one step past it, that step being the one that completed the block. -/
theorem schedule_refines_abstract_md {o : Oracle} {fuel : Nat} {sched : List SchedStep} {s s' : St}
    {chunk rem' del del' : Bytes} {d' : Bool} (hB : BndM s chunk)
    (h : driveReq o fuel 3 sched s chunk del false = some (s', rem', del', d')) :
    RPathM o (absRM s chunk del) (absRM s' rem' del') d' ∧ BndM s' rem'
    ∧ (d' = true → s'.pending = [] ∧ s'.streamState = .processing) :=
  drive_rpathM (o := o) (fuel := fuel) (absRM s chunk del) sched s chunk del false s' rem' del' d' hB ⟨0, .nil _⟩
    (fun hh => by cases hh) h

/-- **out_slicing_irrelevant for EMIT_METADATA** (full strength, one request): two runs of the same
metadata request from call boundaries that agree abstractly (same core state — which may hold
buffered, not yet flushed input —, same bytes produced so far), under two arbitrary schedules and
fuels, each run complete (flag `true`: its last call returned in PROCESSING, the block is closed),
END IN THE SAME CONFIGURATION: equal core states, equal bytes produced (delivered ++ pending: the
flushed meta-block if input was buffered, the header, the payload), equal input left. -/
theorem out_slicing_irrelevant_md {o : Oracle} {fuel1 fuel2 : Nat} {sched1 sched2 : List SchedStep}
    {s1 s2 s1' s2' : St} {chunk del1 del2 rem1 rem2 del1' del2' : Bytes}
    (hB1 : BndM s1 chunk) (hB2 : BndM s2 chunk)
    (hcore : core s1 = core s2) (hout : del1 ++ s1.pending = del2 ++ s2.pending)
    (h1 : driveReq o fuel1 3 sched1 s1 chunk del1 false = some (s1', rem1, del1', true))
    (h2 : driveReq o fuel2 3 sched2 s2 chunk del2 false = some (s2', rem2, del2', true)) :
    core s1' = core s2' ∧ del1' ++ s1'.pending = del2' ++ s2'.pending ∧ rem1 = rem2 := by
  have ha : absRM s1 chunk del1 = absRM s2 chunk del2 := absRM_of_core chunk hcore hout
  obtain ⟨r1, _, e1⟩ := schedule_refines_abstract_md hB1 h1
  obtain ⟨r2, _, e2⟩ := schedule_refines_abstract_md hB2 h2
  rw [ha] at r1
  have := rpathM_done_eq r1 r2
  have n1 : s1'.streamState ≠ .metadataBody := by rw [(e1 rfl).2]; simp
  have n2 : s2'.streamState ≠ .metadataBody := by rw [(e2 rfl).2]; simp
  unfold absRM at this
  rw [absM_of_not_body n1, absM_of_not_body n2] at this
  simp only [absOf, Io.start, List.append_nil, Abs.mk.injEq] at this
  exact ⟨this.1, this.2.1, this.2.2.1⟩

inductive DrivenAll (o : Oracle) : List (Nat × Bytes) → St → Bytes → St → Bytes → Prop
  | nil (s : St) (del : Bytes) : DrivenAll o [] s del s del
  | req {op fuel : Nat} {chunk : Bytes} {sched : List SchedStep} {rest : List (Nat × Bytes)}
      {s s1 s' : St} {del rem1 del1 del' : Bytes} {d1 : Bool} :
      op ≤ 2 → Bnd op s chunk →
      driveReq o fuel op sched s chunk del false = some (s1, rem1, del1, d1) →
      (d1 = true ∨ ustep o op (absR s1 rem1 del1) = none) →
      DrivenAll o rest s1 del1 s' del' → DrivenAll o ((op, chunk) :: rest) s del s' del'
  | md {fuel : Nat} {chunk : Bytes} {sched : List SchedStep} {rest : List (Nat × Bytes)}
      {s s1 s' : St} {del rem1 del1 del' : Bytes} :
      BndM s chunk →
      driveReq o fuel 3 sched s chunk del false = some (s1, rem1, del1, true) →
      DrivenAll o rest s1 del1 s' del' → DrivenAll o ((3, chunk) :: rest) s del s' del'

/-- **out_slicing_irrelevant** (full strength, request sequences with metadata): two complete drivings
of the same sequence of PROCESS / FLUSH / FINISH / EMIT_METADATA requests — different capacity
schedules, different `take_output` interleavings, different fuels — from abstractly equal starts
deliver the same bytes (delivered ++ still pending) and end in the same abstract state -/
theorem out_slicing_irrelevant_seq_md {o : Oracle} (reqs : List (Nat × Bytes)) :
    ∀ {s1 s2 s1' s2' : St} {del1 del2 del1' del2' : Bytes},
      DrivenAll o reqs s1 del1 s1' del1' → DrivenAll o reqs s2 del2 s2' del2' →
      core s1 = core s2 → del1 ++ s1.pending = del2 ++ s2.pending →
      core s1' = core s2' ∧ del1' ++ s1'.pending = del2' ++ s2'.pending := by
  induction reqs with
  | nil =>
    intro s1 s2 s1' s2' del1 del2 del1' del2' h1 h2 hc ho
    cases h1; cases h2
    exact ⟨hc, ho⟩
  | cons r rest ih =>
    intro s1 s2 s1' s2' del1 del2 del1' del2' h1 h2 hc ho
    cases h1 with
    | req hop1 hB1 hd1 hf1 hr1 =>
      cases h2 with
      | req hop2 hB2 hd2 hf2 hr2 =>
        obtain ⟨e1, e2, _⟩ := out_slicing_irrelevant hop1 hB1 hB2 hc ho hd1 hd2 hf1 hf2
        exact ih hr1 hr2 e1 e2
      | md hB2 hd2 hr2 => omega
    | md hB1 hd1 hr1 =>
      cases h2 with
      | req hop2 hB2 hd2 hf2 hr2 => omega
      | md hB2 hd2 hr2 =>
        obtain ⟨e1, e2, _⟩ := out_slicing_irrelevant_md hB1 hB2 hc ho hd1 hd2
        exact ih hr1 hr2 e1 e2

theorem Driven.toAll {o : Oracle} {reqs : List (Nat × Bytes)} {s s' : St} {del del' : Bytes}
    (h : Driven o reqs s del s' del') : DrivenAll o reqs s del s' del' := by
  induction h with
  | nil s del => exact .nil s del
  | cons hop hB hd hf _ ih => exact .req hop hB hd hf ih

theorem out_slicing_irrelevant_seq {o : Oracle} (reqs : List (Nat × Bytes)) :
    ∀ {s1 s2 s1' s2' : St} {del1 del2 del1' del2' : Bytes},
      Driven o reqs s1 del1 s1' del1' → Driven o reqs s2 del2 s2' del2' →
      core s1 = core s2 → del1 ++ s1.pending = del2 ++ s2.pending →
      core s1' = core s2' ∧ del1' ++ s1'.pending = del2' ++ s2'.pending :=
  fun h1 h2 => out_slicing_irrelevant_seq_md reqs h1.toAll h2.toAll

example : (fastEncode {} {} { bits := [true, false, true] } { site := 2, lo := 0, hi := 0, isLast := false, forceFlush := false } 0 true false false).2.out
    = (fastEncode {} {} { bits := [true, false, true] } { site := 2, lo := 0, hi := 0, isLast := false, forceFlush := false } 0 false false false).1.pending := by
  decide

/- two concrete schedules of one FINISH request (ample room vs one byte at a time with
`take_output` in between) both run, complete, and — as the theorem says — agree -/
def exOracle : Oracle := fun _ _ => { result := true, emit := true, bits := List.replicate 20 true }
def exStart : St := (setParameter St.new 1 5).1
example : Bnd 2 exStart [1, 2, 3] := bnd_fresh (setParameter_fresh ⟨{}, rfl⟩ 1 5) (by decide)
def exCheck (r : Option (St × Bytes × Bytes × Bool)) : Bool :=
  match r with
  | some (s, rem, _, _) => isFinished s && rem.isEmpty
  | none => false
example : exCheck (driveReq exOracle 60 2 [.call 100] exStart [1, 2, 3] [] false) = true := by decide +kernel
example : exCheck (driveReq exOracle 60 2 [.call 1, .take 1, .call 1, .take 0, .call 1, .call 1, .take 0] exStart [1, 2, 3] [] false) = true := by decide +kernel

example : BndM exStart [7, 8, 9] := bndM_fresh (setParameter_fresh ⟨{}, rfl⟩ 1 5) (by decide)
def exDone (r : Option (St × Bytes × Bytes × Bool)) : Bool :=
  match r with
  | some (s, rem, _, d) => d && rem.isEmpty && decide (s.streamState = .processing)
  | none => false
def exBytes (r : Option (St × Bytes × Bytes × Bool)) : Bytes :=
  match r with
  | some (s, _, del, _) => del ++ s.pending
  | none => []
def exBuffered : St :=
  match driveReq exOracle 60 0 [.call 100] exStart [1, 2, 3] [] false with
  | some (s, _, _, _) => s
  | none => exStart
example : exBuffered.inputPos = 3 ∧ exBuffered.lastFlushPos = 0 := by decide
/-- three schedules of one EMIT_METADATA request of 20 bytes behind buffered input (ample room; one
byte of room per call; no room at all and `take_output`, i.e. through the 16-byte `tiny_buf_`): all
run, complete, and — as the theorem says — produce the same bytes -/
def exPayload : Bytes := List.range 20
example : exDone (driveReq exOracle 80 3 [.call 100] exBuffered exPayload [] false) = true := by decide +kernel
def exSchedOne : List SchedStep := List.replicate 25 (.call 1)
def exSchedTiny : List SchedStep := (List.replicate 5 [SchedStep.call 0, .take 0]).flatten
def exSchedTiny3 : List SchedStep := (List.replicate 11 [SchedStep.call 0, .take 3]).flatten
example : exDone (driveReq exOracle 80 3 exSchedOne exBuffered exPayload [] false) = true := by decide +kernel
example : exDone (driveReq exOracle 80 3 exSchedTiny exBuffered exPayload [] false) = true := by decide +kernel
example : exDone (driveReq exOracle 80 3 exSchedTiny3 exBuffered exPayload [] false) = true := by decide +kernel
example : exBytes (driveReq exOracle 80 3 [.call 100] exBuffered exPayload [] false)
    = exBytes (driveReq exOracle 80 3 exSchedTiny3 exBuffered exPayload [] false) := by decide +kernel
example : exBytes (driveReq exOracle 80 3 [.call 100] exBuffered exPayload [] false)
    = [251, 255, 255, 214, 4] ++ exPayload := by decide +kernel

end BV.Props.C05
