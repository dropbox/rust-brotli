/-
# C09 — every block obtained from a plugged-in allocator is returned to it exactly once

Model: `BV/Model/Ledger.lean` (slots + ledger + sites + entry points, assembled under the site flags
regenerated from the Rust source).  Spec side: `judge` (independent replay of a raw event log) and the
count-based reading `exactly_once`.

Assumption built into the model (an oracle, checked at run time by the harness after every call; "ScopedBalanced" in
the property's text): temporaries of one call are allocated and freed inside it — a call's temporaries are
`scopedActs`, an allocation followed by its free (proved, not assumed, for the IR logger's command queue:
`command_queue_balanced`).  Multi-threaded entry points: per job fate (`multiFates`).
-/
import BV.Lemmas.LedgerJob
import BV.Lemmas.LedgerSpec
import BV.Lemmas.LedgerCall
import BV.Lemmas.LedgerInterleave
namespace BV.Props.C09
open BV.Ledger

/-- every site flag extracted from the current Rust sources has the value the proofs need; from a source tree in
    which one of the sites lacks its cleanup (or a new exit path forgets it) the flag is generated `false` and this
    fails -/
theorem tree_flags : Flags.current = Flags.allTrue := by decide

theorem allTrue_sitesOk : Flags.allTrue.sitesOk = true := rfl

/-- the owning fields of `BrotliEncoderStateStruct`, as generated from the struct definition, are
    exactly the model's seven field slots, and `cleanup` names every one of them -/
theorem fields_generated :
    (∀ f ∈ BV.Gen.encoderAllocFields, f ∈ fieldSlots.map Prod.fst) ∧
    (∀ f ∈ fieldSlots.map Prod.fst, f ∈ BV.Gen.encoderAllocFields) ∧
    (∀ f ∈ BV.Gen.encoderAllocFields, f ∈ BV.Gen.cleanupFreedFields) ∧
    BV.Gen.encoderAllocFields.length = 7 ∧ BV.Gen.ringBufferAllocFields = ["data_mo"] := by decide

theorem cleanup_generated :
    cleanupActs = BV.Gen.cleanupFreedFields.filterMap (fun f => (fieldSlots.lookup f).map Act.free) := by decide

/-- every hasher variant releases at most two blocks and `Uninit` none (what the `hasher` slot assumes) -/
theorem hasher_arms_generated :
    (∀ v ∈ BV.Gen.hasherVariants, v ∈ BV.Gen.hasherFreeArms.map Prod.fst) ∧
    (∀ a ∈ BV.Gen.hasherFreeArms, a.2 ≤ 2) ∧ BV.Gen.hasherFreeArms.lookup "Uninit" = some 0 := by decide

/-- **ledger_wf**: for every accepted history of the model (any op sequence, any parameters), from a
    fresh instance: no block is freed twice, no free names a block that was never allocated, every free
    goes through the allocator that produced the block, no identity is handed out twice.  Needs only
    that every allocation is made from the instance's own allocator (`oneshotHasherOwn`: the one-shot entry point
    takes its hasher from the instance's allocator, not from the spare one). -/
theorem ledger_wf (fl : Flags) (hown : fl.oneshotHasherOwn = true) (m8 q : Nat) (ops : List Op) (w : W)
    (h : run fl (W.init m8 q) ops = .ok w) :
    (judge w.log).foreign = 0 ∧ (judge w.log).double = 0 ∧ (judge w.log).unknown = 0 ∧
      (judge w.log).realloc = 0 := by
  have hb := (run_inv hown ops _ _ (Inv.init m8 q) h).bad
  simp only [Judge.bad] at hb
  omega

/-- **the live set is exactly what the slots reference** (plus what a defective site abandoned): the
    model-side statement of the harness oracle "live set == blocks held by the long-lived fields" -/
theorem live_is_fields (fl : Flags) (hown : fl.oneshotHasherOwn = true) (m8 q : Nat) (ops : List Op) (w : W)
    (h : run fl (W.init m8 q) ops = .ok w) (b : BlockId) :
    (judge w.log).live.count b = w.enc.held.count b + w.lost.count b :=
  (run_inv hown ops _ _ (Inv.init m8 q) h).live b

theorem nothing_lost (m8 q : Nat) (ops : List Op) (w : W) (h : run Flags.current (W.init m8 q) ops = .ok w) :
    w.lost = [] := by
  rw [tree_flags] at h
  exact run_lost rfl ops _ _ h

/-- **cleanup_frees_all_fields**: after `cleanup`, whatever the history before, each of the seven
    owning fields is empty, the blocks they held are not live, and nothing else changed hands -/
theorem cleanup_frees_all_fields (fl : Flags) (hown : fl.oneshotHasherOwn = true) (m8 q : Nat) (ops : List Op)
    (w w' : W) (h : run fl (W.init m8 q) ops = .ok w) (hc : step fl w .cleanup = .ok w') :
    w'.enc.fields = [] ∧ (∀ b ∈ w.enc.fields, b ∉ (judge w'.log).live) ∧
    (∀ s, s.isField = false → w'.enc.get s = w.enc.get s) := by
  have hw := run_inv hown ops _ _ (Inv.init m8 q) h
  have hw' := step_inv hown hw hc
  obtain ⟨_, rfl⟩ := step_ok hc
  refine ⟨List.eq_nil_iff_forall_not_mem.mpr fun b hb => ?_, ?_, ?_⟩
  · obtain ⟨s, hs, hb⟩ := Enc.mem_fields hb
    rw [opBook_enc] at hb
    have he : (w.acts (opActs fl w.m8 .cleanup)).enc.get s = [] :=
      acts_emptyAfter s _ w false nofun (cleanup_empties_fields s hs false)
    rw [he] at hb
    cases hb
  · intro b hb
    obtain ⟨s, hs, hb⟩ := Enc.mem_fields hb
    refine freed_not_live (via := w.m8) ?_ hw'.bad
    rw [opBook_log]
    exact acts_freesFirst s b _ w (by cases s <;> first | rfl | cases hs) hb
  · intro s hs
    rw [opBook_enc]
    cases s <;> simp [Slot.isField] at hs <;> rfl

/-- the four growth sites: `get_brotli_storage`, `GetHashTableInternal`, `RingBufferInitBuffer`, the
    command-array growth of `encode_data` -/
def growthSite (m8 : Nat) : Slot → List Act
  | .storage => storageGrowActs m8
  | .table => tableGrowActs m8
  | .ring => ringInitActs m8
  | .commands => commandsGrowActs m8
  | _ => []

def isGrowthSlot : Slot → Bool
  | .storage | .table | .ring | .commands => true
  | _ => false

/-- **replace_frees_old**: in any state reachable by the model (invariant), a growth site frees the
    block it replaces through the instance's allocator, leaves exactly one fresh block in the field,
    and the replaced block is not live afterwards — right after the site and after any later actions -/
theorem replace_frees_old (w : W) (hw : Inv w) (s : Slot) (hs : isGrowthSlot s = true) (htmp : w.enc.tmp = [])
    (b : BlockId) (hb : b ∈ w.enc.get s) (later : List Act)
    (hlater : ∀ a ∈ later, a.owned w.m8) :
    Ev.free w.m8 b ∈ (w.acts (growthSite w.m8 s)).log ∧
    (w.acts (growthSite w.m8 s)).enc.get s = [⟨w.m8, w.next⟩] ∧
    b ∉ (judge (w.acts (growthSite w.m8 s)).log).live ∧
    b ∉ (judge ((w.acts (growthSite w.m8 s)).acts later).log).live := by
  have h4 : s = .storage ∨ s = .table ∨ s = .ring ∨ s = .commands := by
    cases s <;> simp [isGrowthSlot] at hs <;> simp
  have hown : ∀ a ∈ growthSite w.m8 s, a.owned w.m8 := by
    rcases h4 with rfl | rfl | rfl | rfl <;>
      simp [growthSite, storageGrowActs, tableGrowActs, ringInitActs, commandsGrowActs, Act.owned]
  have hw1 := hw.acts _ hown
  have hw2 := hw1.acts later (by intro a ha; rw [acts_m8]; exact hlater a ha)
  have hmem := acts_freesFirst s b (growthSite w.m8 s) w (by rcases h4 with rfl | rfl | rfl | rfl <;> rfl) hb
  refine ⟨hmem, ?_, freed_not_live hmem hw1.bad, ?_⟩
  · rcases h4 with rfl | rfl | rfl | rfl <;>
      simp [growthSite, storageGrowActs, tableGrowActs, ringInitActs, commandsGrowActs, W.acts, W.act,
        Enc.get, Enc.set, fresh, htmp]
  · exact freed_not_live ((acts_log_prefix _ later).subset hmem) hw2.bad

/-- **replace_frees_old, whole call**: a `compress_stream` call is ANY number of `encode_data` rounds
    (`callActs`); in whichever round a field is re-allocated (`get_brotli_storage`, `GetHashTableInternal`,
    `RingBufferInitBuffer`, command growth — several times per call, several fields per round), every
    block the field holds at the start of that round is freed through the instance's allocator and is
    not live when the call returns -/
theorem replace_frees_old_call (w : W) (hw : Inv w) (pre : List CsDelta) (d : CsDelta) (post : List CsDelta)
    (s : Slot) (hs : d.grows s = true) (b : BlockId) (hb : b ∈ (w.acts (callActs w.m8 pre)).enc.get s) :
    Ev.free w.m8 b ∈ (w.acts (callActs w.m8 (pre ++ d :: post))).log ∧
    b ∉ (judge (w.acts (callActs w.m8 (pre ++ d :: post))).log).live := by
  have hmem : Ev.free w.m8 b ∈ (w.acts (callActs w.m8 (pre ++ d :: post))).log := by
    rw [callActs_append, show callActs w.m8 (d :: post) = roundActs w.m8 d ++ callActs w.m8 post from rfl,
      acts_append, acts_append]
    refine (acts_log_prefix _ (callActs w.m8 post)).subset ?_
    have := acts_freesFirst s b (roundActs w.m8 d) (w.acts (callActs w.m8 pre))
      (round_freesFirst w.m8 d s hs) hb
    rwa [acts_m8] at this
  exact ⟨hmem, freed_not_live hmem (hw.acts _ (callActs_owned w.m8 _)).bad⟩

theorem replace_frees_old_cs (fl : Flags) (hown : fl.oneshotHasherOwn = true) (m8 q : Nat) (ops later : List Op)
    (d : CsDelta) (w w' w'' : W) (h : run fl (W.init m8 q) ops = .ok w) (hc : step fl w (.cs d) = .ok w')
    (hl : run fl w' later = .ok w'') (s : Slot) (hs : d.grows s = true) (b : BlockId) (hb : b ∈ w.enc.get s) :
    Ev.free w.m8 b ∈ w'.log ∧ b ∉ (judge w'.log).live ∧ b ∉ (judge w''.log).live := by
  have hw := run_inv hown ops _ _ (Inv.init m8 q) h
  have hw' := step_inv hown hw hc
  have hw'' := run_inv hown later _ _ hw' hl
  have hmem : Ev.free w.m8 b ∈ w'.log := by
    obtain ⟨_, rfl⟩ := step_ok hc
    rw [opBook_log, roundActs_eq_opActs]
    exact acts_freesFirst s b _ w (round_freesFirst w.m8 d s hs) hb
  refine ⟨hmem, freed_not_live hmem hw'.bad, ?_⟩
  obtain ⟨suf, hsuf⟩ := run_log_prefix later w' w'' hl
  exact freed_not_live (via := w.m8) (by rw [hsuf]; exact List.mem_append_left _ hmem) hw''.bad

/-! ## `entry_point_releases_all` — one theorem per entry point

`body` is an ARBITRARY list of body calls (`compress_stream` in any mode incl. failed calls and calls
that grow any field, `take_output`, `set_custom_dictionary`), so early destruction (any prefix of a
longer history) and error returns (a body that stops anywhere) are covered.  The statements are about
`Flags.allTrue`; `tree_flags` says that this is the tree the build was generated from, and the
corollary `…_current` restates the most exposed ones for `Flags.current`. -/

def ReleasesAll (w : W) : Prop := (judge w.log).clean = true ∧ (judge w.log).live = []

/-- Rust streaming instance: `new`, any history, `BrotliEncoderDestroyInstance` -/
theorem entry_point_releases_all_stream (m8 q : Nat) (body : List Op) (hb : ∀ op ∈ body, op.isBody = true)
    (w : W) (h : run Flags.allTrue (W.init m8 q) (epStream body) = .ok w) : ReleasesAll w :=
  stream_releases allTrue_sitesOk m8 q body hb h

/-- C ABI: `BrotliEncoderCreateInstance` with callbacks, any history, `BrotliEncoderDestroyInstance`
    (the state block itself included) -/
theorem entry_point_releases_all_ffi (m8 q : Nat) (body : List Op) (hb : ∀ op ∈ body, op.isBody = true)
    (w : W) (h : run Flags.allTrue (W.init m8 q) (epFfi body) = .ok w) : ReleasesAll w :=
  ep_releases allTrue_sitesOk m8 q [.create true] body [.ffiDestroy] hb (fun s => by cases s <;> rfl) h

/-- `CompressorWriterCustomIo`: any writes / flushes / failed calls, then `drop` (also after `into_inner`
    took the output) -/
theorem entry_point_releases_all_writer (m8 q : Nat) (body : List Op) (hb : ∀ op ∈ body, op.isBody = true)
    (w : W) (h : run Flags.allTrue (W.init m8 q) (epWriter Flags.allTrue body) = .ok w) : ReleasesAll w :=
  entry_point_releases_all_stream m8 q body hb w h

/-- `CompressorReaderCustomIo`: any reads incl. errors of the wrapped reader, then `StateWrapper::drop` -/
theorem entry_point_releases_all_reader (m8 q : Nat) (body : List Op) (hb : ∀ op ∈ body, op.isBody = true)
    (w : W) (h : run Flags.allTrue (W.init m8 q) (epReader Flags.allTrue body) = .ok w) : ReleasesAll w :=
  entry_point_releases_all_stream m8 q body hb w h

/-- `BrotliCompressCustomIoCustomDict` (the copy function): normal exit, encoder failure, read error and
    the early return on a write error -/
theorem entry_point_releases_all_copy (m8 q : Nat) (body : List Op) (hb : ∀ op ∈ body, op.isBody = true)
    (w : W) (h : run Flags.allTrue (W.init m8 q) (epCopy Flags.allTrue body) = .ok w) : ReleasesAll w :=
  entry_point_releases_all_stream m8 q body hb w h

/-- Rust one-shot (`encoder_compress`), with and without the quality-10 hasher made up front; `other` is
    the identity of the spare allocator -/
theorem entry_point_releases_all_oneshot (m8 q other : Nat) (q10 : Bool) (lens : List Nat) (body : List Op)
    (hb : ∀ op ∈ body, op.isBody = true) (w : W)
    (h : run Flags.allTrue (W.init m8 q) (epOneshot Flags.allTrue q10 other lens body) = .ok w) : ReleasesAll w := by
  cases q10
  · exact entry_point_releases_all_stream m8 q body hb w h
  · exact ep_releases allTrue_sitesOk m8 q [.create false, .oneshotHasher other lens] body [.cleanup] hb
      (fun s => by cases s <;> rfl) h

/-- `help_brotli_encoder_compress_single` (1-thread branch of the C-ABI multi call) -/
theorem entry_point_releases_all_ffi_single (m8 q : Nat) (body : List Op) (hb : ∀ op ∈ body, op.isBody = true)
    (w : W) (h : run Flags.allTrue (W.init m8 q) (epFfiSingle Flags.allTrue body) = .ok w) : ReleasesAll w :=
  entry_point_releases_all_stream m8 q body hb w h

/-- one allocator's share of a multi-threaded call (`CompressMulti` / `CompressMultiSlice` / work pool,
    Rust and C ABI): `compress_part` in either arm, without a dictionary (job 0), with a dictionary built
    in place, or with the pre-computed hasher cloned for this job by the coordinator — kept, or destroyed
    and rebuilt when the dictionary is truncated; optionally carrying `CompressMultiSlice`'s input copy.
    EXACT hypothesis: the coordinator joined this job (`join()` returned `Ok`, or it is the last job, run
    inline, and every earlier join returned `Ok`) — i.e. `multiFates t p` gives `joined` for it.  What
    happens otherwise is `job_panicked_strands_what_it_held` / `job_unjoined_strands_at_most_output`. -/
theorem entry_point_releases_all_job (m8 q : Nat) (slice ok : Bool) (body : List Op)
    (hb : ∀ op ∈ body, op.isBody = true) (w : W) :
    -- job without dictionary
    (run Flags.allTrue (W.init m8 q) (epJob Flags.allTrue slice [] none body ok) = .ok w → ReleasesAll w) ∧
    -- dictionary, hasher built by the job
    (∀ ring fresh, run Flags.allTrue (W.init m8 q) (epJob Flags.allTrue slice [] (some (ring, fresh)) body ok) = .ok w →
      ReleasesAll w) ∧
    -- dictionary + pre-computed hasher
    (∀ x xs ring fresh, run Flags.allTrue (W.init m8 q) (epJob Flags.allTrue slice (x :: xs) (some (ring, fresh)) body ok) = .ok w →
      ReleasesAll w) := by
  have key : ∀ ext dict, (dict = none → ext = []) →
      run Flags.allTrue (W.init m8 q) (epJob Flags.allTrue slice ext dict body ok) = .ok w → ReleasesAll w := by
    intro ext dict hd h
    have hj := job_ends allTrue_sitesOk Flags.allTrue rfl m8 q slice ok ext dict hd body hb h
    refine hj.inv.balanced hj.lost fun s => ?_
    by_cases hm : s = .mem
    · exact hm ▸ hj.mem (by cases ok <;> rfl)
    · by_cases hs : s = .input
      · exact hs ▸ hj.input fun _ => rfl
      · exact hj.others s hm hs
  exact ⟨key [] none fun _ => rfl, fun ring fresh => key [] _ fun _ => rfl, fun x xs ring fresh => key _ _ nofun⟩

/-- **command_queue_balanced**: the allocation skeleton of `LogMetaBlock` — `k` helper blocks,
    `CommandQueue::new` for ANY number of commands, ANY number of pushes (each push on a full queue
    allocates the doubled queue and frees the old one), `CommandQueue::free` — keeps the ledger
    invariant, leaves every slot of the encoder exactly as it was, loses nothing, leaves the live set
    unchanged, and never ends over-full (so `command_queue.free(callback).unwrap()` cannot panic) -/
theorem command_queue_balanced (w : W) (hw : Inv w) (ht : w.enc.tmp = []) (ht2 : w.enc.tmp2 = [])
    (haux : w.enc.aux = []) (k numCommands pushes : Nat) :
    Inv (logMetaBlockIR w k numCommands pushes).1 ∧ (logMetaBlockIR w k numCommands pushes).1.enc = w.enc ∧
    (logMetaBlockIR w k numCommands pushes).1.lost = w.lost ∧ (logMetaBlockIR w k numCommands pushes).2 = true ∧
    ∀ b, (judge (logMetaBlockIR w k numCommands pushes).1.log).live.count b = (judge w.log).live.count b := by
  have hw1 : Inv (w.acts [.alloc w.m8 .aux k]) := hw.act (.alloc w.m8 .aux k) rfl
  have hfr1 : ∀ t, t ≠ Slot.aux → (w.acts [.alloc w.m8 .aux k]).enc.get t = w.enc.get t :=
    fun t h1 => act_frame w (.alloc w.m8 .aux k) t (decide_eq_false (Ne.symm h1))
  have ht' : (w.acts [.alloc w.m8 .aux k]).enc.tmp = [] := by have := hfr1 .tmp (by decide); simpa [Enc.get, ht] using this
  have ht2' : (w.acts [.alloc w.m8 .aux k]).enc.tmp2 = [] := by have := hfr1 .tmp2 (by decide); simpa [Enc.get, ht2] using this
  have hq := queue_balanced _ hw1 ht' ht2' numCommands pushes
  have hinv : Inv (logMetaBlockIR w k numCommands pushes).1 := hq.inv.act (.free .aux) trivial
  have henc : (logMetaBlockIR w k numCommands pushes).1.enc = w.enc := by
    apply Enc.ext_get
    intro t
    by_cases h1 : t = .aux
    · subst h1; simp [logMetaBlockIR, W.acts, W.act, Enc.get, Enc.set, haux]
    · have : (logMetaBlockIR w k numCommands pushes).1.enc.get t =
          (cqFree (cqPushN pushes (cqNew (w.acts [.alloc w.m8 .aux k]) numCommands))).1.enc.get t :=
        act_frame _ (.free .aux) t (decide_eq_false (Ne.symm h1))
      rw [this, hq.enc, hfr1 t h1]
  have hlost : (logMetaBlockIR w k numCommands pushes).1.lost = w.lost := by
    have : (logMetaBlockIR w k numCommands pushes).1.lost =
        (cqFree (cqPushN pushes (cqNew (w.acts [.alloc w.m8 .aux k]) numCommands))).1.lost := by
      simp [logMetaBlockIR, W.acts, W.act]
    rw [this, hq.lost]; simp [W.acts, W.act]
  refine ⟨hinv, henc, hlost, hq.notOver, ?_⟩
  intro b
  rw [hinv.live b, hw.live b, henc, hlost]

/-- non-vacuity: 100 commands (queue of 110 slots), 500 pushes: three growths, nothing left, not over-full -/
example : (logMetaBlockIR (W.init 0 5) 6 100 500).2 = true ∧
    (judge (logMetaBlockIR (W.init 0 5) 6 100 500).1.log).allocs = 10 ∧
    (judge (logMetaBlockIR (W.init 0 5) 6 100 500).1.log).frees = 10 ∧
    (cqPushN 500 (cqNew (W.init 0 5) 100)).2.cap = 880 := by decide +kernel

/-! ## The early returns of `CompressMulti` (a job panicked / a lock is poisoned)

`entry_point_releases_all_job` above is about a job the coordinator **joined** (`join()` returned `Ok`),
which is the case for every job iff no job panics.  When job `p` panics, `CompressMulti` returns from
inside the join loop (`multiFates`): the jobs before `p` were joined (theorem above), job `p` unwound
(`job_panicked_strands_what_it_held`), the jobs after `p` ran to completion but nobody takes their result
(`job_unjoined_strands_at_most_output`). -/

theorem held_mem_input (e : Enc) (h : ∀ s, (s ≠ .mem ∧ s ≠ .input) → e.get s = []) (b : BlockId) :
    e.held.count b = e.mem.count b + e.input.count b := by
  rw [Enc.ext_get (e := e) (e' := { mem := e.mem, input := e.input }) fun s => by
    cases s <;> first | rfl | exact h _ ⟨nofun, nofun⟩]
  simp [Enc.held, List.count_append]

/-- what an un-joined job leaves behind: the ledger is clean and the only blocks still live are the
    job's output block and (allocator 0 of `CompressMultiSlice`) the input copy -/
def StrandsAtMostOutput (w : W) : Prop :=
  (judge w.log).clean = true ∧ ∀ b, (judge w.log).live.count b = w.enc.mem.count b + w.enc.input.count b

theorem strands_of_empty {w : W} (h : Inv w ∧ w.lost = [] ∧ ∀ s, (s ≠ Slot.mem ∧ s ≠ Slot.input) → w.enc.get s = []) :
    StrandsAtMostOutput w := by
  obtain ⟨hi, hl, he⟩ := h
  refine ⟨(clean_iff_bad _).mpr hi.bad, fun b => ?_⟩
  rw [hi.live b, hl, held_mem_input _ he b]
  simp

/-- **un-joined job** (a job after the panicking one, or any job when `CompressMulti` returns before the
    join loop): whatever it did, only its output block / the input copy can remain; in the error arm of
    `compress_part` the output block is freed by the job itself -/
theorem job_unjoined_strands_at_most_output (m8 q : Nat) (slice ok : Bool) (body : List Op)
    (hb : ∀ op ∈ body, op.isBody = true) (w : W) :
    (run Flags.allTrue (W.init m8 q) (epJob Flags.unjoined slice [] none body ok) = .ok w → StrandsAtMostOutput w) ∧
    (∀ ring fresh, run Flags.allTrue (W.init m8 q) (epJob Flags.unjoined slice [] (some (ring, fresh)) body ok) = .ok w →
      StrandsAtMostOutput w) ∧
    (∀ x xs ring fresh, run Flags.allTrue (W.init m8 q) (epJob Flags.unjoined slice (x :: xs) (some (ring, fresh)) body ok) = .ok w →
      StrandsAtMostOutput w) := by
  have key : ∀ ext dict, (dict = none → ext = []) →
      run Flags.allTrue (W.init m8 q) (epJob Flags.unjoined slice ext dict body ok) = .ok w → StrandsAtMostOutput w := by
    intro ext dict hd h
    have hj := job_ends allTrue_sitesOk Flags.unjoined rfl m8 q slice ok ext dict hd body hb h
    exact strands_of_empty ⟨hj.inv, hj.lost, fun s hs => hj.others s hs.1 hs.2⟩
  exact ⟨key [] none fun _ => rfl, fun ring fresh => key [] _ fun _ => rfl, fun x xs ring fresh => key _ _ nofun⟩

/-- **panicking job**: at whatever point of whatever history the thread unwinds, every block it holds is
    dropped without `free_cell`: the ledger stays clean (nothing is freed twice or elsewhere), nothing is
    referenced any more, and exactly the blocks it held are stranded -/
theorem job_panicked_strands_what_it_held (fl : Flags) (hown : fl.oneshotHasherOwn = true) (m8 q : Nat)
    (done : List Op) (w : W) (h : run fl (W.init m8 q) done = .ok w) :
    (judge (w.acts abandonAllActs).log).clean = true ∧ (w.acts abandonAllActs).enc.held = [] ∧
    (w.acts abandonAllActs).log = w.log ∧
    ∀ b, (judge (w.acts abandonAllActs).log).live.count b = w.enc.held.count b + w.lost.count b := by
  have hw := run_inv hown done _ _ (Inv.init m8 q) h
  have hlog : (w.acts abandonAllActs).log = w.log :=
    acts_lose_log w [.storage, .commands, .ring, .hasher, .table, .cbuf, .lbuf, .ext, .self, .mem, .input, .tmp, .tmp2, .aux]
  refine ⟨?_, ?_, hlog, ?_⟩
  · rw [hlog]; exact (clean_iff_bad _).mpr hw.bad
  · exact held_nil_of_slots _ fun s => acts_emptyAfter s _ w false nofun (by cases s <;> rfl)
  · intro b
    rw [hlog]
    exact hw.live b

theorem multi_fates (t : Nat) (p : Option Nat) (i : Nat) (hi : i < t) :
    (multiFates t p)[i]? = some (match p with
      | none => JobFate.joined
      | some k => if i < k then .joined else if i = k then .panicked else .unjoined) := by
  cases p <;> simp [multiFates, hi]

example : multiFates 4 (some 1) = [.joined, .panicked, .unjoined, .unjoined] := by decide
example : multiFates 3 none = [.joined, .joined, .joined] := by decide

/-- **interleaving**: however the events of the per-thread allocators are interleaved in time, the whole
    log is clean and balanced iff the sub-log of every allocator is (a block's identity contains its
    allocator, so the sub-logs cannot interfere) -/
theorem interleaving_clean_iff (log : List Ev) :
    ((judge log).clean = true ∧ (judge log).live = []) ↔
      ∀ a, (judge (proj a log)).clean = true ∧ (judge (proj a log)).live = [] := by
  simp only [clean_iff_bad]
  exact interleaving_clean log

/-- `logs a`: the events of thread `a` and of the coordinator acting on allocator `a` -/
theorem any_interleaving (logs : Nat → List Ev) (log : List Ev) (hproj : ∀ a, proj a log = logs a) :
    ((judge log).clean = true ∧ (judge log).live = []) ↔
      ∀ a, (judge (logs a)).clean = true ∧ (judge (logs a)).live = [] := by
  rw [interleaving_clean_iff]
  simp [hproj]

/-- two allocators, two interleavings of the same sub-logs, one verdict; and a leak in one sub-log is a
    leak of every interleaving -/
example : (judge [.alloc ⟨0, 0⟩, .alloc ⟨1, 0⟩, .free 1 ⟨1, 0⟩, .free 0 ⟨0, 0⟩]).live = [] ∧
    (judge [.alloc ⟨1, 0⟩, .free 1 ⟨1, 0⟩, .alloc ⟨0, 0⟩, .free 0 ⟨0, 0⟩]).live = [] ∧
    (judge (proj 1 [.alloc ⟨0, 0⟩, .alloc ⟨1, 0⟩, .free 0 ⟨0, 0⟩])).live = [⟨1, 0⟩] := by decide

theorem fastPrologue_owned (w : W) (kBlock buf : Nat) : ∀ a ∈ fastPrologueActs w kBlock buf, a.owned w.m8 :=
  all_owned (lose := true) (by
    unfold fastPrologueActs
    repeat' split
    all_goals simp [Act.okB])

theorem fastEpilogue_owned (w : W) (m8 : Nat) (b : Bool) : ∀ a ∈ fastEpilogueActs w b, a.owned m8 :=
  all_owned (lose := true) (by
    unfold fastEpilogueActs
    split <;> simp [Act.okB])

def BufShape (e : Enc) : Prop := (e.cbuf = [] ∧ e.lbuf = []) ∨ (∃ c l, e.cbuf = [c] ∧ e.lbuf = [l])

/-- **fast_path_buffers_balanced**: the prologue / epilogue of `compress_stream_fast` (quality 1) —
    allocate the two block-sized buffers into the fields when the input is large, alias the fields into
    locals, or allocate short temporaries; afterwards put the locals back or free them — keeps the ledger
    invariant, loses nothing, leaves no local behind, keeps the fields' shape, gives back exactly the
    blocks it borrowed from the fields, and in the short-input case frees both temporaries -/
theorem fast_path_buffers_balanced (w : W) (hw : Inv w) (kBlock buf : Nat) (ht : w.enc.tmp = [])
    (ht2 : w.enc.tmp2 = []) (hshape : BufShape w.enc) :
    Inv (fastPath w kBlock buf) ∧ (fastPath w kBlock buf).lost = w.lost ∧
    (fastPath w kBlock buf).enc.tmp = [] ∧ (fastPath w kBlock buf).enc.tmp2 = [] ∧
    BufShape (fastPath w kBlock buf).enc ∧
    (w.enc.cbuf ≠ [] → (fastPath w kBlock buf).enc = w.enc ∧ (fastPath w kBlock buf).log = w.log) ∧
    (w.enc.cbuf = [] → buf ≠ kBlock → (fastPath w kBlock buf).enc = w.enc) := by
  have hinv : Inv (fastPath w kBlock buf) := by
    unfold fastPath
    apply Inv.acts
    · exact hw.acts _ (fastPrologue_owned w kBlock buf)
    · exact fastEpilogue_owned _ _ _
  refine ⟨hinv, ?_⟩
  by_cases hq : w.q = 1
  · rcases hshape with ⟨hc, hl⟩ | ⟨c, l, hc, hl⟩
    · by_cases hk : buf = kBlock
      · subst hk
        simp [fastPath, fastPrologueActs, fastEpilogueActs, hq, hc, hl, ht, ht2, W.acts, W.act, Enc.get, Enc.set,
          fresh, BufShape]
      · by_cases h0 : buf = 0
        · subst h0
          have hk' : ¬ (0 = kBlock) := hk
          simp [fastPath, fastPrologueActs, fastEpilogueActs, hq, hc, hl, ht, ht2, hk', W.acts, W.act, Enc.get,
            Enc.set, BufShape]
          cases hE : w.enc; simp_all
        · simp [fastPath, fastPrologueActs, fastEpilogueActs, hq, hc, hl, ht, ht2, hk, h0, W.acts, W.act, Enc.get,
            Enc.set, fresh, BufShape]
          cases hE : w.enc; simp_all
    · simp [fastPath, fastPrologueActs, fastEpilogueActs, hq, hc, hl, ht, ht2, W.acts, W.act, Enc.get, Enc.set,
        BufShape]
      cases hE : w.enc; simp_all
  · -- other qualities: nothing happens (`command_buf`, `literal_buf` stay default and their free is a no-op)
    simp [fastPath, fastPrologueActs, fastEpilogueActs, hq, ht, ht2, W.acts, W.act, Enc.get, Enc.set]
    refine ⟨hshape, ?_, ?_⟩ <;> intros <;> (cases hE : w.enc; simp_all)

/-- **exactly_once**: if the judge finds a log clean and balanced then each allocated block was freed
    exactly once, through its own allocator (`nFreeOwn`), and nothing else was ever freed -/
theorem exactly_once (log : List Ev) (hc : (judge log).clean = true) (hl : (judge log).live = []) (b : BlockId) :
    nAlloc log b ≤ 1 ∧ nFree log b = nAlloc log b ∧ nFreeOwn log b = nAlloc log b := by
  have h := counts_judge log ((clean_iff_bad _).mp hc)
  have ha := h.alloc b
  have hf := h.free b
  have ho := h.own b
  rw [hl, List.count_nil] at hf
  split at ha <;> omega

theorem releasesAll_exactly_once (w : W) (h : ReleasesAll w) (b : BlockId) :
    nAlloc w.log b ≤ 1 ∧ nFree w.log b = nAlloc w.log b ∧ nFreeOwn w.log b = nAlloc w.log b :=
  exactly_once w.log h.1 h.2 b

/-- the C-ABI destroy and the 1-thread multi helper release everything on the tree this build was
    generated from (with `ffiDestroyCleanup` resp. `ffiSingleCleanup` false they do not: `ffi_destroy_needs_cleanup`,
    `ffi_single_needs_cleanup` below) -/
theorem entry_point_releases_all_ffi_current (m8 q : Nat) (body : List Op) (hb : ∀ op ∈ body, op.isBody = true)
    (w : W) (h : run Flags.current (W.init m8 q) (epFfi body) = .ok w) : ReleasesAll w := by
  rw [tree_flags] at h
  exact entry_point_releases_all_ffi m8 q body hb w h

theorem entry_point_releases_all_ffi_single_current (m8 q : Nat) (body : List Op)
    (hb : ∀ op ∈ body, op.isBody = true) (w : W)
    (h : run Flags.current (W.init m8 q) (epFfiSingle Flags.current body) = .ok w) : ReleasesAll w := by
  rw [tree_flags] at h
  exact entry_point_releases_all_ffi_single m8 q body hb w h

theorem entry_point_releases_all_oneshot_current (m8 q other : Nat) (q10 : Bool) (lens : List Nat) (body : List Op)
    (hb : ∀ op ∈ body, op.isBody = true) (w : W)
    (h : run Flags.current (W.init m8 q) (epOneshot Flags.current q10 other lens body) = .ok w) : ReleasesAll w := by
  rw [tree_flags] at h
  exact entry_point_releases_all_oneshot m8 q other q10 lens body hb w h

/-! ## Non-vacuity -/

/-- a history that grows every field of a quality-5 instance, replaces storage and the command array,
    sets a dictionary on the live instance, and has scoped temporaries -/
def sampleBody : List Op :=
  [.setDict (some 500) [16384, 262144],
   .cs { storage := some 200527, commands := some 49169, ring := some 8454153, temps := 17 },
   .cs { storage := some 306313, commands := some 60000, temps := 3 },
   .setDict (some 9000000) [16384, 262144],
   .cs {}]

def sampleBodyQ1 : List Op :=
  [.cs { table := some 131072, q1bufs := some 131072 }, .cs { storage := some 262647, table := some 262144, temps := 2 }]

example : (∀ op ∈ sampleBody, op.isBody = true) ∧ (∀ op ∈ sampleBodyQ1, op.isBody = true) := by decide

/-- (live blocks at the end, allocations, frees) of an accepted history -/
def statsAfter (fl : Flags) (m8 q : Nat) (ops : List Op) : Option (Nat × Nat × Nat) :=
  match run fl (W.init m8 q) ops with
  | .ok w => some ((judge w.log).live.length, (judge w.log).allocs, (judge w.log).frees)
  | .error _ => none

example : statsAfter Flags.allTrue 7 5 (epStream sampleBody) = some (0, 31, 31) := by decide +kernel
example : statsAfter Flags.allTrue 7 5 (epFfi sampleBody) = some (0, 32, 32) := by decide +kernel
example : statsAfter Flags.allTrue 3 1 (epWriter Flags.allTrue sampleBodyQ1) = some (0, 7, 7) := by decide +kernel
example : statsAfter Flags.allTrue 3 9 (epOneshot Flags.allTrue true 4 [1, 2] sampleBody) = some (0, 33, 33) := by decide +kernel
example : statsAfter Flags.allTrue 2 5 (epJob Flags.allTrue true [16384, 262144] (some (some 100, [])) sampleBody true) =
    some (0, 36, 36) := by decide +kernel
example : statsAfter Flags.allTrue 2 5 (epJob Flags.allTrue false [16384, 262144] (some (some 100, [5, 6])) sampleBody false) =
    some (0, 37, 37) := by decide +kernel
/-- the guards are real: storage never shrinks, a hasher is not set up twice, no hash table at quality 5 -/
example : run Flags.allTrue (W.init 0 5) [.create false, .cs { storage := some 10 }, .cs { storage := some 10 }] =
    .error "storage-not-grown" := rfl
example : run Flags.allTrue (W.init 0 5) [.create false, .cs { hasher := [1] }, .cs { hasher := [1] }] =
    .error "hasher-setup" := rfl
example : run Flags.allTrue (W.init 0 5) [.create false, .cs { table := some 4096 }] = .error "table" := rfl

/-! ## The defects: what each site flag is needed for (counterexamples on the model; `run_d9` of
/verif/harness/src/ledger.rs, run as `bvh ledger d9`, holds the corresponding minimal reproductions for the Rust code) -/

def owedAfter (fl : Flags) (q : Nat) (ops : List Op) : Nat × Nat :=
  match run fl (W.init 0 q) ops with
  | .ok w => ((judge w.log).live.length, (judge w.log).foreign)
  | .error _ => (0, 0)

/-- D9: without the cleanup call the C-ABI destroy leaves the five blocks of a quality-5 instance live -/
theorem ffi_destroy_needs_cleanup :
    owedAfter { Flags.allTrue with ffiDestroyCleanup := false } 5
      (epFfi [.cs { storage := some 200527, commands := some 49169, ring := some 8454153, hasher := [16384, 262144] }]) = (5, 0) := rfl

/-- D9, second site: `help_brotli_encoder_compress_single` -/
theorem ffi_single_needs_cleanup :
    owedAfter { Flags.allTrue with ffiSingleCleanup := false } 5
      (epFfiSingle { Flags.allTrue with ffiSingleCleanup := false }
        [.cs { storage := some 200527, commands := some 49169, ring := some 8454153, hasher := [16384, 262144] }]) = (5, 0) := rfl

/-- quality-10 one-shot: a hasher taken from the spare allocator is freed through the caller's -/
theorem oneshot_q10_needs_own_allocator :
    owedAfter { Flags.allTrue with oneshotHasherOwn := false } 9
      (epOneshot { Flags.allTrue with oneshotHasherOwn := false } true 1 [1, 2] [.cs { storage := some 100 }]) = (0, 2) := rfl

/-- `set_custom_dictionary` on an instance that already has a hasher -/
theorem set_dict_needs_free :
    owedAfter { Flags.allTrue with setDictFrees := false } 5
      (epStream [.setDict (some 500) [1, 2], .setDict (some 900) [1, 2]]) = (2, 0) := rfl

/-- writer `Drop` that skips the destroy (an edit of the regression catalogue, /verif/DESIGN.md Appendix G, row C09) -/
theorem writer_drop_needs_destroy :
    owedAfter Flags.allTrue 5 (epWriter { Flags.allTrue with writerDropDestroys := false } [.cs { storage := some 100 }]) = (1, 0) := rfl

end BV.Props.C09
