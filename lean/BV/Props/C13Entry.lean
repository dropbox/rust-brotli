/-
C13, the remaining exported functions of `src/ffi/compressor.rs` (model: `BV/Model/FFIEntry.lean`, tied
by the driver lines `ffi V`, `ffi X n`, `ffi Q st avail`, `ffi C …`, `ffi D q lgwin size`):
`BrotliEncoderVersion`, `BrotliEncoderMaxCompressedSize`, `BrotliEncoderCompress`,
`BrotliEncoderSetCustomDictionary`, `BrotliEncoderIsFinished` / `BrotliEncoderHasMoreOutput`.

`BrotliEncoderCompress` is stated over C08's model of `encoder_compress` (`BV.Stored.encoderCompress`,
literals regenerated from the source) and C08's theorem `oneshot_contract`; the outcome of the
stream phase inside it is an arbitrary `StreamOutcome` that stays within the caller's buffer.
-/
import BV.Props.C08
import BV.Model.FFIEntry
namespace BV.Props.C13
open BV.FFI BV.Stream BV.Stored

/-- `unwrapped_entry_points_cannot_panic`, the two exports without an instance.
`BrotliEncoderVersion` is a constant.  `BrotliEncoderMaxCompressedSize` is NOT behind `catch_panic`:
in a release build (the shipped profile; unchecked `+`) it is total and is C08's bound function; the
single operation that panics when overflow checks are compiled in is the final `result + 16`, and it
does so exactly for the arguments singled out by `maxCompressedSizeOverflows` — which exist (second
example below: the export then aborts the process, the frame being `extern "C"`), but none of them
is below 2^63. -/
theorem unwrapped_stateless_entry_points (n : Nat) :
    ffiVersion = 0x01000f01 ∧
    ffiMaxCompressedSize n = maxCompressedSize n ∧
    (ffiMaxCompressedSizeChecked n = none ↔ maxCompressedSizeOverflows n = true) ∧
    (maxCompressedSizeOverflows n = false → ffiMaxCompressedSizeChecked n = some (ffiMaxCompressedSize n)) := by
  refine ⟨rfl, rfl, ?_, ?_⟩
  · unfold ffiMaxCompressedSizeChecked
    cases maxCompressedSizeOverflows n <;> simp
  · intro h
    unfold ffiMaxCompressedSizeChecked ffiMaxCompressedSize
    rw [h]; rfl

example : ffiMaxCompressedSizeChecked 100 = some 122 := by decide
example : ffiMaxCompressedSizeChecked 18442241573325438941 = none := by decide

/-- `BrotliEncoderIsFinished` / `BrotliEncoderHasMoreOutput` read `stream_state_` and
`available_out_` only: two instances that agree on these two fields get the same answers; the
answers are 0/1; "finished" implies "no more output" -/
theorem query_entry_points (s t : St) (h1 : s.streamState = t.streamState) (h2 : s.pending.length = t.pending.length) :
    ffiIsFinished s = ffiIsFinished t ∧ ffiHasMoreOutput s = ffiHasMoreOutput t ∧
    ffiIsFinished s ≤ 1 ∧ ffiHasMoreOutput s ≤ 1 ∧ (ffiIsFinished s = 1 → ffiHasMoreOutput s = 0) := by
  unfold ffiIsFinished ffiHasMoreOutput isFinished hasMoreOutput
  rw [h1, h2]
  refine ⟨rfl, rfl, by split <;> omega, by split <;> omega, ?_⟩
  intro h
  by_cases hf : t.streamState = .finished ∧ t.pending.length = 0
  · simp [hf.2]
  · simp [hf] at h
    exact absurd ⟨h.1, by simp [h.2]⟩ hf

/-- the slices `BrotliEncoderCompress` builds: a zero `input_size` gives the empty input whatever the
pointer (NULL included), and the output slice is exactly `*encoded_size` long — the `bufLen =
outSize` situation of C08's model -/
theorem oneshot_slices (mem : Mem) (c : OneShotCall) :
    (c.inputSize = 0 → inputSlice mem c.inputPtr c.inputSize = []) ∧ outSliceLen c = c.encodedSize := by
  refine ⟨?_, rfl⟩
  intro h; simp [inputSlice, h]

/-- `BrotliEncoderCompress` through the C ABI (`ffi_oneshot_contract`): for a caller whose input
pointer addresses `input_size` bytes (below 2^54) and for EVERY outcome of the stream phase that
stays within the caller's buffer,
* nothing unwinds into `catch_panic` from the wrapper's own slices or from `encoder_compress`'s
  indexing (the empty-input store `output[0] = 6` and the stored-stream fallback always have room);
* the return value is 0 or 1; `*encoded_size = 0` ⇒ 0;
* on 1, `*encoded_size` (after) is at most `*encoded_size` (before) — the bytes lie inside the
  caller's buffer — and at most `BrotliEncoderMaxCompressedSize(input_size)`;
* a buffer of the advertised bound always succeeds; on 0, `*encoded_size` is 0 afterwards. -/
theorem ffi_oneshot_contract (mem : Mem) (c : OneShotCall) (so : StreamOutcome)
    (hlen : (inputSlice mem c.inputPtr c.inputSize).length = c.inputSize) (hn : c.inputSize < 2 ^ 54)
    (hso : so.totalOut ≤ c.encodedSize) :
    (ffiCompress mem c so).unwound = false ∧ (ffiCompress mem c so).ret ≤ 1 ∧
    (c.encodedSize = 0 → (ffiCompress mem c so).ret = 0) ∧
    ((ffiCompress mem c so).ret = 1 → ∃ sz, (ffiCompress mem c so).encodedSize = some sz ∧ sz ≤ c.encodedSize ∧
        sz ≤ ffiMaxCompressedSize c.inputSize) ∧
    (ffiMaxCompressedSize c.inputSize ≤ c.encodedSize → (ffiCompress mem c so).ret = 1) ∧
    ((ffiCompress mem c so).ret = 0 → (ffiCompress mem c so).encodedSize = some 0) := by
  obtain ⟨r, hr, h1, h2, h3, h4⟩ := BV.Props.C08.oneshot_contract (inputSlice mem c.inputPtr c.inputSize) c.encodedSize c.encodedSize so
    (by rw [hlen]; exact hn) (Nat.le_refl _) hso
  rw [hlen] at hr h2 h3
  have hval : ffiCompress mem c so = ⟨if r.ret then 1 else 0, some r.encodedSize, r.bytes, false⟩ := by
    unfold ffiCompress outSliceLen
    rw [hr]
  rw [hval]
  refine ⟨rfl, by simp only; split <;> omega, ?_, ?_, ?_, ?_⟩
  · intro h0; simp [h1 h0]
  · intro hret
    have : r.ret = true := by
      cases hrr : r.ret
      · simp [hrr] at hret
      · rfl
    obtain ⟨a, b, _⟩ := h2 this
    exact ⟨r.encodedSize, rfl, a, b⟩
  · intro hcap; simp [h3 hcap]
  · intro hret
    have : r.ret = false := by
      cases hrr : r.ret
      · rfl
      · simp [hrr] at hret
    simp [h4 this]

/-- `BrotliEncoderSetCustomDictionary`: the Rust method always sees a slice of exactly `size` bytes
(empty — whatever the pointer, NULL included — when `size = 0`), and the call is a FIRST USE of the
instance: afterwards every `SetParameter` is refused; an empty dictionary, or quality 0/1, switch
`catable` and `appendable` on and copy nothing -/
theorem set_custom_dictionary_entry (mem : Mem) (dict : Option Nat) (s : St) (size : Nat) :
    (size = 0 → dictSlice mem dict size = []) ∧
    (setCustomDictionaryHead s size).1.isInitialized = true ∧
    (∀ id v, ffiSetParameter (setCustomDictionaryHead s size).1 id v = ((setCustomDictionaryHead s size).1, 0)) ∧
    ((setCustomDictionaryHead s size).2 = false →
      (setCustomDictionaryHead s size).1.params.catable = true ∧ (setCustomDictionaryHead s size).1.params.appendable = true) := by
  have hinit : (ensureInitialized s).isInitialized = true := by
    unfold ensureInitialized; split
    · assumption
    · rfl
  have hi : (setCustomDictionaryHead s size).1.isInitialized = true := by
    unfold setCustomDictionaryHead
    simp only
    split
    · exact hinit
    · exact hinit
  refine ⟨fun h => by simp [dictSlice, inputSlice, h], hi, ?_, ?_⟩
  · intro id v
    simp [ffiSetParameter, setParameter, hi]
  · unfold setCustomDictionaryHead
    simp only
    split
    · intro _; exact ⟨rfl, rfl⟩
    · intro h; cases h

/-- a 3-byte input into a 25-byte buffer (the advertised bound) whose stream phase failed: the stored
fallback succeeds -/
example : (ffiCompress (fun _ n => List.replicate n 7) ⟨5, 22, 0, 3, some 1000, 25, some 5000⟩
    { result := false, finished := false, totalOut := 0, bytes := [] }).ret = 1 :=
  (ffi_oneshot_contract (fun _ n => List.replicate n 7) ⟨5, 22, 0, 3, some 1000, 25, some 5000⟩
    { result := false, finished := false, totalOut := 0, bytes := [] } (by simp [inputSlice]) (by decide) (by decide)).2.2.2.2.1 (by decide)
example : (ffiCompress (fun _ n => List.replicate n 7) ⟨5, 22, 0, 0, none, 0, none⟩
    { result := false, finished := false, totalOut := 0, bytes := [] }).ret = 0 := by decide
example : (setCustomDictionaryHead St.new 0).1.params.catable = true := by decide

end BV.Props.C13
