/-
C19, translator tie: the hasher model `BV.Hasher` takes its hash functions as PARAMETERS and instantiates
them, at the end of the file, with hand-written formulas (`basicHash`, `le`, `H9std` …).  Here the Lean
definitions GENERATED from the current Rust text of `BROTLI_UNALIGNED_LOAD32/64` (src/enc/static_dict.rs),
`Hash14` and the four `BasicHashComputer::HashBytes` bodies (H2Sub, H3Sub, H4Sub, H54Sub;
src/enc/backward_references/mod.rs; tools/rs2lean.py -> BV/Gen/FnC19.lean) are proved equal to those
formulas on every slice that holds the 8 (4) bytes the Rust code loads — on a shorter slice the Rust code
panics (`split_at`), which the `_ok` companion states exactly.
-/
import BV.Gen.FnC19
import BV.Model.Hasher
import BV.Lemmas.ListNat

namespace BV.Props.C19Gen
open BV.Gen.FnC19 BV.Hasher

theorem or_shl (x y k : Nat) (h : x < 2 ^ k) : x ||| (y <<< k) = x + y * 2 ^ k :=
  BV.or_shl x y k h

/-- `x | (y * 2^k)` with `x < 2^k`, the power given as a literal -/
theorem or_mul_lit (x y p k : Nat) (hp : p = 2 ^ k) (h : x < p) : x ||| y * p = x + y * p := by
  subst hp
  have := or_shl x y k h
  rw [Nat.shiftLeft_eq] at this
  exact this

theorem or_byte {N : Nat} (acc b k : Nat) (ha : acc < 2 ^ k) (hb : b < 256) (hN : 2 ^ (k + 8) ≤ N) :
    acc ||| (b <<< k) % N = acc + b * 2 ^ k := by
  have : b * 2 ^ k < 2 ^ (k + 8) := by
    rw [Nat.pow_add, Nat.mul_comm (2 ^ k)]
    exact Nat.mul_lt_mul_of_pos_right hb (Nat.pow_pos (by decide))
  rw [Nat.shiftLeft_eq, Nat.mod_eq_of_lt (Nat.lt_of_lt_of_le this hN), ← Nat.shiftLeft_eq, BV.or_shl _ _ _ ha, Nat.shiftLeft_eq]

theorem load64_generated (b0 b1 b2 b3 b4 b5 b6 b7 : Nat) (rest : List Nat)
    (h0 : b0 < 256) (h1 : b1 < 256) (h2 : b2 < 256) (h3 : b3 < 256) (h4 : b4 < 256) (h5 : b5 < 256)
    (h6 : b6 < 256) (h7 : b7 < 256) :
    BROTLI_UNALIGNED_LOAD64 (b0 :: b1 :: b2 :: b3 :: b4 :: b5 :: b6 :: b7 :: rest)
      = le [b0, b1, b2, b3, b4, b5, b6, b7] := by
  unfold BROTLI_UNALIGNED_LOAD64
  have hp : BV.Rs.splice (List.replicate 8 0) 0
      ((BV.Rs.slice (b0 :: b1 :: b2 :: b3 :: b4 :: b5 :: b6 :: b7 :: rest) 0 8),
        (BV.Rs.slice (b0 :: b1 :: b2 :: b3 :: b4 :: b5 :: b6 :: b7 :: rest) 8
          (List.length (b0 :: b1 :: b2 :: b3 :: b4 :: b5 :: b6 :: b7 :: rest)))).1
      = [b0, b1, b2, b3, b4, b5, b6, b7] := by
    simp [BV.Rs.splice, BV.Rs.slice, List.replicate]
  simp only [hp, List.getD_cons_zero, List.getD_cons_succ, le, Nat.reduceMod]
  rw [or_byte b0 b1 8 (by omega) h1 (by decide), or_byte _ b2 16 (by omega) h2 (by decide),
    or_byte _ b3 24 (by omega) h3 (by decide), or_byte _ b4 32 (by omega) h4 (by decide),
    or_byte _ b5 40 (by omega) h5 (by decide), or_byte _ b6 48 (by omega) h6 (by decide),
    or_byte _ b7 56 (by omega) h7 (by decide)]
  omega

theorem load32_generated (b0 b1 b2 b3 : Nat) (rest : List Nat)
    (h0 : b0 < 256) (h1 : b1 < 256) (h2 : b2 < 256) (h3 : b3 < 256) :
    BROTLI_UNALIGNED_LOAD32 (b0 :: b1 :: b2 :: b3 :: rest) = le [b0, b1, b2, b3] := by
  unfold BROTLI_UNALIGNED_LOAD32
  have hp : BV.Rs.splice (List.replicate 4 0) 0
      ((BV.Rs.slice (b0 :: b1 :: b2 :: b3 :: rest) 0 4),
        (BV.Rs.slice (b0 :: b1 :: b2 :: b3 :: rest) 4 (List.length (b0 :: b1 :: b2 :: b3 :: rest)))).1
      = [b0, b1, b2, b3] := by
    simp [BV.Rs.splice, BV.Rs.slice, List.replicate]
  simp only [hp, List.getD_cons_zero, List.getD_cons_succ, le, Nat.reduceMod]
  rw [or_byte b0 b1 8 (by omega) h1 (by decide), or_byte _ b2 16 (by omega) h2 (by decide),
    or_byte _ b3 24 (by omega) h3 (by decide)]
  omega

theorem load64_ok_generated (sl : List Nat) : BROTLI_UNALIGNED_LOAD64_ok sl = decide (8 ≤ sl.length) := by
  unfold BROTLI_UNALIGNED_LOAD64_ok
  by_cases h : 8 ≤ sl.length
  · have hl : (BV.Rs.slice sl 0 8).length = 8 := by simp [BV.Rs.slice]; omega
    simp [h, hl, BV.Rs.splice]
  · simp [h]

theorem load32_ok_generated (sl : List Nat) : BROTLI_UNALIGNED_LOAD32_ok sl = decide (4 ≤ sl.length) := by
  unfold BROTLI_UNALIGNED_LOAD32_ok
  by_cases h : 4 ≤ sl.length
  · have hl : (BV.Rs.slice sl 0 4).length = 4 := by simp [BV.Rs.slice]; omega
    simp [h, hl, BV.Rs.splice]
  · simp [h]

/-- the shift amounts `64 - 8 * len` / `64 - bits` of the four `HashBytes`, as the generated `i32` expressions evaluate -/
theorem sh24 : BV.Rs.toU 64 (BV.Rs.wrapS 32 ((64 : Int) - (BV.Rs.wrapS 32 ((8 : Int) * (5 : Int))))) % 64 = 24 := by decide
theorem sh8 : BV.Rs.toU 64 (BV.Rs.wrapS 32 ((64 : Int) - (BV.Rs.wrapS 32 ((8 : Int) * (7 : Int))))) % 64 = 8 := by decide
theorem sh48 : BV.Rs.toU 64 (BV.Rs.wrapS 32 ((64 : Int) - (16 : Int))) % 64 = 48 := by decide
theorem sh47 : BV.Rs.toU 64 (BV.Rs.wrapS 32 ((64 : Int) - (17 : Int))) % 64 = 47 := by decide
theorem sh44 : BV.Rs.toU 64 (BV.Rs.wrapS 32 ((64 : Int) - (20 : Int))) % 64 = 44 := by decide

theorem shr_lt (x k : Nat) (hx : x < 18446744073709551616) (hk : 32 ≤ k) : x >>> k % 4294967296 = x >>> k := by
  apply Nat.mod_eq_of_lt
  rw [Nat.shiftRight_eq_div_pow]
  have h1 : x / 2 ^ k ≤ x / 2 ^ 32 := Nat.div_le_div_left (Nat.pow_le_pow_right (by decide) hk) (by decide)
  have h2 : x / 2 ^ 32 < 4294967296 := by
    rw [Nat.div_lt_iff_lt_mul (by decide)]; omega
  omega

/-- `H2Sub::HashBytes` / `H3Sub` / `H4Sub` / `H54Sub`: the model's `basicHash` of the eight loaded bytes
(the instances `BV.Hasher.H2`, `H3`, `H4`, `H54` are `basicP bits sweep len` with exactly these numbers) -/
theorem hash_bytes_h2_generated (b0 b1 b2 b3 b4 b5 b6 b7 : Nat) (rest : List Nat)
    (h0 : b0 < 256) (h1 : b1 < 256) (h2 : b2 < 256) (h3 : b3 < 256) (h4 : b4 < 256) (h5 : b5 < 256)
    (h6 : b6 < 256) (h7 : b7 < 256) :
    HashBytes_H2 (b0 :: b1 :: b2 :: b3 :: b4 :: b5 :: b6 :: b7 :: rest) = H2.hash [b0, b1, b2, b3, b4, b5, b6, b7] := by
  unfold HashBytes_H2
  rw [load64_generated _ _ _ _ _ _ _ _ _ h0 h1 h2 h3 h4 h5 h6 h7, sh24, sh48, shr_lt _ _ (Nat.mod_lt _ (by decide)) (by decide)]
  rfl

theorem hash_bytes_h3_generated (b0 b1 b2 b3 b4 b5 b6 b7 : Nat) (rest : List Nat)
    (h0 : b0 < 256) (h1 : b1 < 256) (h2 : b2 < 256) (h3 : b3 < 256) (h4 : b4 < 256) (h5 : b5 < 256)
    (h6 : b6 < 256) (h7 : b7 < 256) :
    HashBytes_H3 (b0 :: b1 :: b2 :: b3 :: b4 :: b5 :: b6 :: b7 :: rest) = H3.hash [b0, b1, b2, b3, b4, b5, b6, b7] := by
  unfold HashBytes_H3
  rw [load64_generated _ _ _ _ _ _ _ _ _ h0 h1 h2 h3 h4 h5 h6 h7, sh24, sh48, shr_lt _ _ (Nat.mod_lt _ (by decide)) (by decide)]
  rfl

theorem hash_bytes_h4_generated (b0 b1 b2 b3 b4 b5 b6 b7 : Nat) (rest : List Nat)
    (h0 : b0 < 256) (h1 : b1 < 256) (h2 : b2 < 256) (h3 : b3 < 256) (h4 : b4 < 256) (h5 : b5 < 256)
    (h6 : b6 < 256) (h7 : b7 < 256) :
    HashBytes_H4 (b0 :: b1 :: b2 :: b3 :: b4 :: b5 :: b6 :: b7 :: rest) = H4.hash [b0, b1, b2, b3, b4, b5, b6, b7] := by
  unfold HashBytes_H4
  rw [load64_generated _ _ _ _ _ _ _ _ _ h0 h1 h2 h3 h4 h5 h6 h7, sh24, sh47, shr_lt _ _ (Nat.mod_lt _ (by decide)) (by decide)]
  rfl

theorem hash_bytes_h54_generated (b0 b1 b2 b3 b4 b5 b6 b7 : Nat) (rest : List Nat)
    (h0 : b0 < 256) (h1 : b1 < 256) (h2 : b2 < 256) (h3 : b3 < 256) (h4 : b4 < 256) (h5 : b5 < 256)
    (h6 : b6 < 256) (h7 : b7 < 256) :
    HashBytes_H54 (b0 :: b1 :: b2 :: b3 :: b4 :: b5 :: b6 :: b7 :: rest) = H54.hash [b0, b1, b2, b3, b4, b5, b6, b7] := by
  unfold HashBytes_H54
  rw [load64_generated _ _ _ _ _ _ _ _ _ h0 h1 h2 h3 h4 h5 h6 h7, sh8, sh44, shr_lt _ _ (Nat.mod_lt _ (by decide)) (by decide)]
  rfl

theorem hash14_generated (b0 b1 b2 b3 : Nat) (rest : List Nat)
    (h0 : b0 < 256) (h1 : b1 < 256) (h2 : b2 < 256) (h3 : b3 < 256) :
    Hash14 (b0 :: b1 :: b2 :: b3 :: rest) = (le [b0, b1, b2, b3] * kHashMul32 % U32) >>> 18 := by
  unfold Hash14
  rw [load32_generated _ _ _ _ _ h0 h1 h2 h3]
  have : BV.Rs.toU 64 (BV.Rs.wrapS 32 ((32 : Int) - (14 : Int))) % 32 = 18 := by decide
  simp only [this]
  rfl

theorem hash_bytes_ok_generated (data : List Nat) :
    HashBytes_H2_ok data = decide (8 ≤ data.length) ∧ HashBytes_H3_ok data = decide (8 ≤ data.length) ∧
    HashBytes_H4_ok data = decide (8 ≤ data.length) ∧ HashBytes_H54_ok data = decide (8 ≤ data.length) := by
  unfold HashBytes_H2_ok HashBytes_H3_ok HashBytes_H4_ok HashBytes_H54_ok
  simp only [load64_ok_generated]
  refine ⟨?_, ?_, ?_, ?_⟩ <;> (by_cases h : 8 ≤ data.length <;> simp [h] <;> decide)

example : HashBytes_H2 [1, 2, 3, 4, 5, 6, 7, 8] = H2.hash [1, 2, 3, 4, 5, 6, 7, 8] := by decide
example : HashBytes_H54_ok [1, 2, 3, 4, 5, 6, 7] = false := by decide
example : Hash14 [1, 2, 3, 4] = (le [1, 2, 3, 4] * kHashMul32 % U32) >>> 18 := by decide

end BV.Props.C19Gen
