/-
C08, run level: the stream clauses of "the advertised maximum compressed size is honoured", stated over `run`
(BV/Model/StreamRun.lean: `set_parameter` / `compress_stream` / `take_output` folded over a whole history with
one oracle): the stream phase of the one-shot call, and the never-flushed stream at quality ≥ 2.
-/
import BV.Props.C08
import BV.Lemmas.StreamTotal
import BV.Model.StreamNF
import BV.Lemmas.StreamNFFull
import BV.Lemmas.StreamNFSum
import BV.Lemmas.StreamNFArith

namespace BV.Props.C08Run
open BV.Stream BV.Bits BV.Stored

theorem stream_phase_within_buffer {o : Oracle} {fuel op cap : Nat} {input : Bytes} {s s' : St} {io' : Io} {r : Bool}
    (hop : op ≤ 3) (hf : IsFresh s) (hw : input.length < two64) (hcap : cap < two64)
    (h : compressStream o fuel s op input cap = .ok (s', io', r)) :
    io'.out.length + io'.availOut = cap ∧ io'.out.length ≤ cap ∧ s'.totalOut = io'.out.length := by
  have hip : s.inputPos = 0 := hf.inputPos
  have ht0 : s.totalOut = 0 := by obtain ⟨p, rfl⟩ := hf; rfl
  have hL := call_ledger_run 0 hop (Or.inl hf) (by rw [hip]; omega) h
  have h1 := hL.outBal
  have h2 := hL.total (by rw [ht0]; rfl)
  simp only at h1 h2
  refine ⟨h1, by omega, ?_⟩
  rw [h2, Nat.zero_add]
  exact Nat.mod_eq_of_lt (by omega)

/-- `oneshot_contract` with its stream-phase hypothesis (`so.totalOut ≤ outCap`, the encoder's own
`total_out_`) discharged by the byte ledger, whenever the stream phase returns at all (no panic of the stream
machine: C01) -/
theorem oneshot_contract_run {o : Oracle} {fuel : Nat} (x : Bytes) (outCap bufLen : Nat) (s : St) (so : StreamOutcome)
    (hf : IsFresh s) (hn : x.length < 2 ^ 54) (hbuf : outCap ≤ bufLen) (hcap : outCap < two64)
    (hso : outcomeOf (compressStream o fuel s 2 x outCap) = some so) :
    ∃ r, encoderCompress x x.length outCap bufLen so = .ok r ∧
      (outCap = 0 → r.ret = false) ∧
      (r.ret = true → r.encodedSize ≤ outCap ∧ r.encodedSize ≤ maxCompressedSize x.length ∧
        ((x.length = 0 ∧ r.bytes = [6] ∧ r.encodedSize = 1) ∨
         (so.result = true ∧ so.finished = true ∧ r.bytes = so.bytes ∧ r.encodedSize = so.totalOut ∧ so.totalOut = so.bytes.length) ∨
         (makeUncompressedStream x x.length bufLen = .ok r.bytes ∧ r.encodedSize = r.bytes.length))) ∧
      (maxCompressedSize x.length ≤ outCap → r.ret = true) ∧
      (r.ret = false → r.encodedSize = 0) := by
  have hle : so.totalOut ≤ outCap ∧ so.totalOut = so.bytes.length := by
    unfold outcomeOf at hso
    split at hso
    · rename_i s' io' res hc
      simp only [Option.some.injEq] at hso
      subst hso
      obtain ⟨_, q2, q3⟩ := stream_phase_within_buffer (by omega) hf (by unfold two64; omega) hcap hc
      exact ⟨by simp only; omega, q3⟩
    · cases hso
  obtain ⟨r, h1, h2, h3, h4, h5⟩ := BV.Props.C08.oneshot_contract x outCap bufLen so hn hbuf hle.1
  refine ⟨r, h1, h2, ?_, h4, h5⟩
  intro hr
  obtain ⟨a1, a2, a3⟩ := h3 hr
  refine ⟨a1, a2, ?_⟩
  rcases a3 with a | ⟨b1, b2, b3, b4⟩ | c
  · exact Or.inl a
  · exact Or.inr (Or.inl ⟨b1, b2, b3, b4, hle.2⟩)
  · exact Or.inr (Or.inr c)

theorem oneshotState_fresh (quality lgwin : Int) (n : Nat) : IsFresh (oneshotState quality lgwin n) := by
  have h0 : IsFresh St.new := ⟨{}, rfl⟩
  unfold oneshotState
  simp only
  split
  · exact setParameter_fresh (setParameter_fresh (setParameter_fresh (setParameter_fresh (setParameter_fresh h0 _ _) _ _) _ _) _ _) _ _
  · exact setParameter_fresh (setParameter_fresh (setParameter_fresh (setParameter_fresh h0 _ _) _ _) _ _) _ _

/-- the one-shot call as one object over the stream machine (`oneshotRun`: the `set_parameter` calls of
`encoder_compress` on a new encoder, one `compress_stream(FINISH)` with `available_out = *encoded_size`, then
the decision logic), for every behaviour of the payload encoder: the contract of `oneshot_contract` whenever the
stream phase returns -/
theorem oneshot_run_contract {o : Oracle} {fuel : Nat} (quality lgwin : Int) (x : Bytes) (outCap bufLen : Nat)
    (hn : x.length < 2 ^ 54) (hbuf : outCap ≤ bufLen) (hcap : outCap < two64) (res : Out OneShot)
    (h : oneshotRun o fuel quality lgwin x outCap bufLen = some res) :
    ∃ r, res = .ok r ∧ (outCap = 0 → r.ret = false) ∧
      (r.ret = true → r.encodedSize ≤ outCap ∧ r.encodedSize ≤ maxCompressedSize x.length) ∧
      (maxCompressedSize x.length ≤ outCap → r.ret = true) ∧ (r.ret = false → r.encodedSize = 0) := by
  unfold oneshotRun at h
  split at h
  · simp only [Option.some.injEq] at h
    subst h
    obtain ⟨r, h1, h2, h3, h4, h5⟩ := BV.Props.C08.oneshot_contract x outCap bufLen ⟨false, false, 0, []⟩ hn hbuf (Nat.zero_le _)
    exact ⟨r, h1, h2, fun hr => ⟨(h3 hr).1, (h3 hr).2.1⟩, h4, h5⟩
  · split at h
    · rename_i so hso
      simp only [Option.some.injEq] at h
      subst h
      obtain ⟨r, h1, h2, h3, h4, h5⟩ := oneshot_contract_run x outCap bufLen _ so (oneshotState_fresh quality lgwin x.length) hn hbuf hcap hso
      exact ⟨r, h1, h2, fun hr => ⟨(h3 hr).1, (h3 hr).2.1⟩, h4, h5⟩
    · cases h

/-- the request side of `BlocksOK` (C08), from the run: in every history of `set_parameter` / `take_output` / PROCESS / FINISH calls on a
fresh encoder that ends at quality ≥ 2, every payload-encoder request (`t.reqs`, compared with the real run on
every `stream` / `header nfrun` line) is an `encode_data` request of the main loop, is never a forced flush,
starts its meta-block no later than its own range, and — unless it is the final one — sees a full input block
of at least 2^14 bytes, so the span `hi - lf` of every meta-block it closes is at least 2^14; no hypothesis on
the payload encoder -/
theorem nonfinal_requests_cover_blocks_run {o : Oracle} {fuel : Nat} {calls : List Call} {s0 s : St} {t : Trace}
    (hf : IsFresh s0) (hnf : NeverFlushed calls) (hw : histLen calls < two64)
    (h : run o fuel calls s0 {} = .ok (s, t)) (hq : s.q01 = false) :
    ∀ r ∈ t.reqs, r.site = 0 ∧ r.forceFlush = false ∧ r.lf ≤ r.lo
      ∧ (r.isLast = false → 2 ^ 14 ≤ r.hi - r.lo ∧ 2 ^ 14 ≤ r.hi - r.lf) := by
  intro r hr
  obtain ⟨h1, h2, h3, h4⟩ := nf_requests_full hf hnf hw h hq r hr
  exact ⟨h1, h2, h3, fun hl => ⟨h4 hl, by have := h4 hl; omega⟩⟩

example : NeverFlushed [.setParam 1 5, .stream 0 [1, 2, 3] 100, .take 0, .stream 2 [] 100] :=
  ⟨Or.inl rfl, Or.inr rfl, trivial⟩

/-- for every never-flushed history on a fresh encoder with `size_hint < 2^35` that ends FINISHED at
quality ≥ 2, the log of the history — the one whose pieces concatenate to exactly the delivered bit stream and
whose requests are the trace's — has the grammar `nfT` from `fresh` to `done`:
one stream header of 1‥14 bits; then only copies, pushes and bookkeeping until the FIRST `encode_data`
event, which starts at `last_flush_pos_ = 0` and writes, carry included, exactly
`headLen W magic kk pre` bits (`kk ≤ 5` size-hint bytes, `pre ≤ 2` prelude bytes); later `encode_data`
events write no skeleton; the final one emits its meta-block and is followed by pushes only; no sync
block, one-shot block, metadata event or second header occurs; every non-final request sees ≥ 2^14 bytes. -/
theorem never_flushed_run_structure {o : Oracle} {fuel : Nat} {calls : List Call} {s0 s : St} {t : Trace}
    (hf : IsFresh s0) (hh : s0.params.sizeHint < 2 ^ 35) (hnf : NeverFlushed calls) (hw : histLen calls < two64)
    (h : run o fuel calls s0 {} = .ok (s, t)) (hq : s.q01 = false) (hfin : isFinished s = true) :
    ∃ log : List Ev, deliveredBits t s = logBits o log ∧ logReqs log = t.reqs ∧ LogOK ⟨0, 0, 0, 0⟩ log
      ∧ s.pos = logPos ⟨0, 0, 0, 0⟩ log ∧ Path nfT .fresh log .done
      ∧ (∀ e ∈ log, (∃ w, e = .window w) ∨ EvFull e) := by
  obtain ⟨hk1, hk2⟩ := histOK_of_neverFlushed hnf
  have hk3 : HistOp ((nfqSim o).prod (nfSim o)).opOK calls := histOp_mono (fun op hop => ⟨hop, hop⟩) hk2
  have hip : s0.inputPos = 0 := hf.inputPos
  obtain ⟨log, hsim, f⟩ := run_sim ((nfqSim o).prod (nfSim o)) (fuel := fuel) (t0 := {}) (runOK_fresh hf) hk1 hk3 (by rw [hip]; omega) h
  obtain ⟨b, ⟨hb1, hb2⟩, hpath⟩ := hsim (.pre, .fresh) ⟨hf, hf, hh⟩
  obtain ⟨p1, p2⟩ := path_prod (nfqSim o) (nfSim o) hpath
  have hb2' : b.2 = .done := nfR_finished hb2 hq (isFinished_iff.mp hfin).1
  rw [hb2'] at p2
  have hp0 := pos_fresh hf
  refine ⟨log, ?_, ?_, by rw [← hp0]; exact f.lok, by rw [← hp0]; exact f.pos, p2, ?_⟩
  · have := f.bits
    rw [deliveredBits_fresh hf, List.nil_append] at this
    exact this
  · have := f.reqs
    simp only [List.nil_append] at this
    exact this.symm
  · rcases path_pre p1 with hj | hfull
    · have : s.q01 = true := by
        have := hb1
        rw [hj] at this
        exact this.2
      rw [hq] at this; cases this
    · exact hfull

/-- the stream clause at run level: for every never-flushed history (any chunking, capacities and interleaving
of `take_output`) on a fresh encoder with `size_hint < 2^35` that ends FINISHED at quality ≥ 2 with total input
`n = input_pos_ < 2^54`, there is a log — whose pieces concatenate to exactly the delivered bit stream and
whose requests are the trace's — such that, if every emitted payload piece obeys the per-meta-block growth
bound (`LogGuard`: what `guard_holds` proves of `WriteMetaBlockInternal`), then
total bytes delivered ≤ BrotliEncoderMaxCompressedSize(n).  The growth bound is the only payload hypothesis:
`BlocksOK`, the meta-block boundaries, the size of the stream head and the absence of sync blocks come from
the run. -/
theorem stream_total_le_bound_run {o : Oracle} {fuel : Nat} {calls : List Call} {s0 s : St} {t : Trace}
    (hf : IsFresh s0) (hh : s0.params.sizeHint < 2 ^ 35) (hnf : NeverFlushed calls) (hw : histLen calls < two64)
    (h : run o fuel calls s0 {} = .ok (s, t)) (hq : s.q01 = false) (hfin : isFinished s = true)
    (hn : s.inputPos < 2 ^ 54) :
    ∃ log : List Ev, deliveredBits t s = logBits o log ∧ logReqs log = t.reqs ∧
      (LogGuard o 0 ⟨0, 0, 0, 0⟩ log → t.delivered.length ≤ maxCompressedSize s.inputPos) := by
  obtain ⟨log, hb, hr, hok, hpos, hpath, hfull⟩ := never_flushed_run_structure hf hh hnf hw h hq hfin
  refine ⟨log, hb, hr, ?_⟩
  intro hG
  have hip : s.inputPos = (logPos ⟨0, 0, 0, 0⟩ log).ip := congrArg Pos.ip hpos
  have hlt : (logPos ⟨0, 0, 0, 0⟩ log).ip < 2 ^ 54 := by rw [← hip]; exact hn
  have := nfLogArith o log hpath hok hfull hG hlt
  rw [← hip] at this
  have hlen : 8 * t.delivered.length ≤ (logBits o log).length := by
    rw [← hb]
    unfold deliveredBits
    rw [List.length_append, bytesBits_length, List.length_append]
    omega
  omega

/-- the growth bound of a piece is what `WriteMetaBlockInternal` guarantees (`guard_holds`): `PieceGuard` holds of
what the size-decision model writes behind a staging storage `w` whose length is congruent to the global bit position -/
theorem pieceGuard_of_wmbi (app cat last : Bool) (data : List Nat) (mo : MbOracle) (w : Writer) (D : Nat) (r : MbOut)
    (hcat : cat = true → app = true) (h1 : 1 ≤ data.length) (h2 : data.length ≤ 2 ^ 24) (hw : w.length < 256)
    (hr : writeMetaBlockInternal app cat last data mo w = .ok r) (m : Nat)
    (hm : r.body.length ≤ w.length + m ∧ w.length + m ≤ (if last then r.fin.length else r.body.length)) :
    PieceGuard (8 * D + w.length) data.length m last := by
  obtain ⟨r', hr', g1, g2, g3, g4⟩ := BV.Props.C08.guard_holds app cat last data mo w hcat h1 h2 hw
  rw [hr] at hr'
  cases hr'
  refine ⟨8 * D + r.body.length, by omega, fun h0 => by omega, fun _ => BV.Stored.guard_shift D _ _ _ g1, by omega, ?_⟩
  cases last
  · simp only [Bool.false_eq_true, if_false] at hm ⊢
    omega
  · simp only [if_true] at hm ⊢
    omega

example : PieceGuard 8 3 40 true := ⟨48, by decide, by decide, fun _ => by decide, by decide, by decide⟩

def exampleFinished (r : Out (St × Trace)) : Bool :=
  match r with
  | .ok (s, _) => isFinished s && !s.q01
  | _ => false
example : exampleFinished (run (fun _ _ => { result := true, emit := true, bits := List.replicate 20 true }) 40
    [.setParam 1 5, .stream 2 [1, 2, 3] 100] St.new {}) = true := by decide

def exampleOracle : Oracle := fun _ _ => { result := true, emit := true, bits := List.replicate 20 true }
def exampleCheck (r : Option (Out OneShot)) (ret : Bool) (sz : Nat) (k : String) : Bool :=
  match r with | some (.ok r) => r.ret == ret && r.encodedSize == sz && r.kind == k | _ => false
example : exampleCheck (oneshotRun exampleOracle 60 5 22 [1, 2, 3] 100 100) true 3 "stream" = true := by decide
example : exampleCheck (oneshotRun exampleOracle 60 5 22 [1, 2, 3] 2 2) false 0 "too-small" = true := by decide

/-
META-BLOCK LENGTHS ≤ 2^24.  Not needed by `stream_total_le_bound_run` (its payload hypothesis is the growth
bound itself), but needed to OBTAIN that bound from `guard_holds` (`pieceGuard_of_wmbi`: `1 ≤ len ≤ 2^24`).
The stream machine does NOT force it: in `encode_data` the decision to keep accumulating is
`!is_last && !force_flush && !should_flush && next_input_fits_metablock && num_literals_ < max_literals &&
num_commands_ < max_commands` — evaluated behind `BrotliCreateBackwardReferences`, on the payload side — and
the model takes its outcome as the oracle's `emit` answer; nothing else in the machine (ring size, block size,
`get_brotli_storage`) ends a meta-block.  With the emit rule as an oracle hypothesis — `emit = false` only if
`(hi - lf) + 2^lgblock ≤ MaxMetablockSize ≤ 2^24` (`next_input_fits_metablock`) — every closed span is ≤ 2^24:
a request's span grows by at most one input block (`Inv.blk`) over the previous, unemitted one.  The harness
checks "no closed span above 2^24" on every `header nfrun` history.
-/

end BV.Props.C08Run
