/-
C01Chain — from the match finders to the decoder: the commands `CreateBackwardReferences` produces
(quality 2–9 loop, model BV/Model/Cbr.lean) satisfy the hypotheses `cmdOK` / `lockstep` /
`replayCommands … = some (hist ++ mb)` under which BV/Props/C01MetaBlock.lean proves that the
meta-block writers round-trip — for whichever matches the hasher returns.

Scope: one `CreateBackwardReferences` call covering one meta-block (`mb` = the `last_insert_len`
pending literals followed by the `num_bytes` of the block), NPOSTFIX = NDIRECT = 0 (what quality 2–3
and every non-FONT mode use), positions = number of bytes produced so far (no wrap of the 3 GiB
position counter), H10 / Zopfli (quality 10, 11) out of scope.

The ring hypothesis (`BlockOK.ring`) is `RingViewW` of BV/Props/C01.lean, which `ring_view_w` proves from the
`RingBufferWrite` invariant `RingOK`; `blockOK_of_ringOK` and `cbr_fast_roundtrip_of_ringOK` compose the two.  The one
remaining representation step is `hdata`: the `ByteArray` the match-finder models read is the slice `data_mo[2..]` of
the stream model's cell map.
-/
import BV.Lemmas.CbrOps
import BV.Lemmas.CbrOpen
import BV.Props.C01MetaBlock
import BV.Lemmas.CbrDict

namespace BV.Props.C01Chain
open BV.Hasher BV.MatchFinder BV.Recoder BV.PrefixArith BV.MetaBlock BV.Cbr

structure BlockOK (p : Params) (large : Bool) (data : ByteArray) (k tail : Nat) (hist mb : Bytes) (lo : Nat) : Prop where
  np : p.npostfix = 0
  nd : p.ndirect = 0
  ring : BV.Props.C01.RingViewW (ringBytes data) k tail (hist ++ mb) lo (hist.length + mb.length)
  /-- `tail_size_` (one input block) is at most the ring (`RingGeom.tail`: even half of it), and the
  bytes handed to this call — pending literals + block — are at most one input block, so that no match
  read runs past ring + tail -/
  tail_le : tail ≤ 2 ^ k
  block_le : mb.length ≤ tail
  lo_le : lo ≤ hist.length - maxBackwardLimit p
  /-- `2^lgwin - 16 ≤ 2^30` (lgwin ≤ 30); the standard distance alphabet is only used up to lgwin 24,
  with `params.dist.max_distance = 0x3FFFFFC` (the bound `TestStaticDictionaryItem` checks) -/
  window : maxBackwardLimit p ≤ 2 ^ 30
  std : large = false → maxBackwardLimit p ≤ 2 ^ 26 - 4
  dist : large = false → p.maxDistance ≤ 2 ^ 26 - 4
  len : mb.length ≤ 2 ^ 24
  total : hist.length + mb.length < 2 ^ 64

theorem BlockOK.emitHyp {p : Params} {large : Bool} {data : ByteArray} {k tail : Nat} {hist mb : Bytes} {lo : Nat}
    (hb : BlockOK p large data k tail hist mb lo) (wo : WordOracle) :
    EmitHyp (SlotOK wo) ⟨wo, data, k, hist, mb, lo⟩ p (fun c => cmdOK (distAlphabetSize large 0 0) 0 0 c = true) :=
  emitHyp_all _ p large hb.np hb.nd tail hb.ring hb.tail_le hb.block_le hb.lo_le hb.window hb.std hb.dist hb.len

/-- Abstract hasher: for EVERY hasher whose `true` results are sound (`OpsOK`: a copy whose bytes agree in the ring buffer,
or a static dictionary reference `DictOK` to a slot that satisfies the word-oracle hypothesis `SlotOK wo`) — whatever it
finds, misses, stores or skips — every starting distance cache of `i32`s, every pending `last_insert_len`, every block: the
command list of `CreateBackwardReferences`, closed with the insert-only command for the trailing literals as `encode.rs`
does, satisfies `cmdOK` for every command and `lockstep`, and the RFC decoder replays it to exactly `hist ++ mb`. -/
theorem commands_lockstep {H : Type} (ops : HasherOps H) (p : Params) (large : Bool) (wo : WordOracle)
    (data : ByteArray) (k tail : Nat) (hist mb : Bytes) (lo : Nat)
    (hb : BlockOK p large data k tail hist mb lo) (hops : OpsOK (SlotOK wo) ops p data k)
    (numBytes position : Nat) (h0 : H) (cache : List Int) (lastInsertLen numLiterals : Nat) (res : Result H)
    (hpos : position = hist.length + lastInsertLen) (hmb : mb.length = lastInsertLen + numBytes)
    (hc : CacheI32 cache) (hcl : 4 ≤ cache.length)
    (h : createBackwardReferences ops p numBytes position h0 cache lastInsertLen numLiterals = some res) :
    (∀ c ∈ closeMetaBlock res.cmds res.lastInsertLen, cmdOK (distAlphabetSize large 0 0) 0 0 c = true) ∧
    lockstep wo 0 0 (maxBackwardLimit p) mb ⟨hist, cache.take 4, 0⟩ 0
      (closeMetaBlock res.cmds res.lastInsertLen) = true ∧
    replayCommands wo 0 0 (maxBackwardLimit p) mb (cache.take 4) hist
      (closeMetaBlock res.cmds res.lastInsertLen) = some (hist ++ mb) := by
  have p24 : (2 : Nat) ^ 24 = 16777216 := by decide
  obtain ⟨a, b, c⟩ := cbr_lockstep (C := ⟨wo, data, k, hist, mb, lo⟩) hops
    (hb.emitHyp wo)
    (fun l _ hl => cmdOK_initInsert large l (Nat.le_trans hl hb.len))
    numBytes position h0 cache lastInsertLen numLiterals res hpos hmb (show mb.length < 2 ^ 32 by have := hb.len; omega) hb.total hc hcl h
  simp only [hb.np, hb.nd] at a c
  exact ⟨b, a, c⟩

/-- the three bucketed families: NOTHING about the hasher is assumed — `OpsOK` is proved for them
(`basicOps_ok`, `advOps_ok`, `h9Ops_ok`, BV/Lemmas/CbrOps.lean).  The static dictionary enters through `dict` (the slots looked up for the
four bytes at a ring position) and `DictFaithful wo dict data`: every non-empty slot agrees with the
decoder's word oracle (`SlotOK`: length 4..24, NDBITS, index in range, and the oracle's expansion
under each of the ten cut-off transforms is the word minus its last `cut` bytes).  With the
dictionary off (`dict = fun _ _ => none`, `params.use_dictionary = false`, every catable / appendable
stream) that hypothesis is `dictFaithful_none`, i.e. nothing. -/
theorem commands_lockstep_basic (P : BasicP) (useDict : Bool) (lbs : Nat) (p : Params) (large : Bool) (wo : WordOracle)
    (data : ByteArray) (k tail : Nat) (hk : k ≤ 32) (hist mb : Bytes) (lo : Nat) (hb : BlockOK p large data k tail hist mb lo)
    (dict : ByteArray → Nat → Option (List DictItem)) (hd : DictFaithful wo dict data)
    (numBytes position : Nat) (b0 : Tab) (c0 : Common) (cache : List Int) (lastInsertLen numLiterals : Nat)
    (res : Result (Tab × Common))
    (hpos : position = hist.length + lastInsertLen) (hmb : mb.length = lastInsertLen + numBytes)
    (hc : CacheI32 cache) (hcl : 4 ≤ cache.length)
    (h : createBackwardReferences (basicOps P useDict lbs dict data (2 ^ k - 1)) p numBytes position
      (b0, c0) cache lastInsertLen numLiterals = some res) :
    (∀ c ∈ closeMetaBlock res.cmds res.lastInsertLen, cmdOK (distAlphabetSize large 0 0) 0 0 c = true) ∧
    lockstep wo 0 0 (maxBackwardLimit p) mb ⟨hist, cache.take 4, 0⟩ 0 (closeMetaBlock res.cmds res.lastInsertLen) = true ∧
    replayCommands wo 0 0 (maxBackwardLimit p) mb (cache.take 4) hist (closeMetaBlock res.cmds res.lastInsertLen)
      = some (hist ++ mb) :=
  commands_lockstep _ p large wo data k tail hist mb lo hb
    (basicOps_ok _ P useDict lbs _ data k hk p hd)
    numBytes position (b0, c0) cache lastInsertLen numLiterals res hpos hmb hc hcl h

/-- the same for AdvHasher (H5, H6, and every `AdvP` with a lookahead of at least 4) -/
theorem commands_lockstep_adv (P : AdvP) (hla : 4 ≤ P.lookahead) (numLast lbs : Nat) (p : Params) (large : Bool)
    (wo : WordOracle) (data : ByteArray) (k tail : Nat) (hk : k ≤ 32) (hist mb : Bytes) (lo : Nat)
    (hb : BlockOK p large data k tail hist mb lo)
    (dict : ByteArray → Nat → Option (List DictItem)) (hd : DictFaithful wo dict data)
    (numBytes position : Nat) (st0 : AdvSt) (c0 : Common) (cache : List Int) (lastInsertLen numLiterals : Nat)
    (res : Result (AdvSt × Common))
    (hpos : position = hist.length + lastInsertLen) (hmb : mb.length = lastInsertLen + numBytes)
    (hc : CacheI32 cache) (hcl : 4 ≤ cache.length)
    (h : createBackwardReferences (advOps P numLast lbs dict data (2 ^ k - 1)) p numBytes position
      (st0, c0) cache lastInsertLen numLiterals = some res) :
    (∀ c ∈ closeMetaBlock res.cmds res.lastInsertLen, cmdOK (distAlphabetSize large 0 0) 0 0 c = true) ∧
    lockstep wo 0 0 (maxBackwardLimit p) mb ⟨hist, cache.take 4, 0⟩ 0 (closeMetaBlock res.cmds res.lastInsertLen) = true ∧
    replayCommands wo 0 0 (maxBackwardLimit p) mb (cache.take 4) hist (closeMetaBlock res.cmds res.lastInsertLen)
      = some (hist ++ mb) :=
  commands_lockstep _ p large wo data k tail hist mb lo hb
    (advOps_ok _ P numLast lbs _ data k hk p hla hd)
    numBytes position (st0, c0) cache lastInsertLen numLiterals res hpos hmb hc hcl h

theorem commands_lockstep_h9 (P : H9P) (lbs : Nat) (p : Params) (large : Bool)
    (wo : WordOracle) (data : ByteArray) (k tail : Nat) (hk : k ≤ 32) (hist mb : Bytes) (lo : Nat)
    (hb : BlockOK p large data k tail hist mb lo)
    (dict : ByteArray → Nat → Option (List DictItem)) (hd : DictFaithful wo dict data)
    (numBytes position : Nat) (st0 : AdvSt) (c0 : Common) (cache : List Int) (lastInsertLen numLiterals : Nat)
    (res : Result (AdvSt × Common))
    (hpos : position = hist.length + lastInsertLen) (hmb : mb.length = lastInsertLen + numBytes)
    (hc : CacheI32 cache) (hcl : 4 ≤ cache.length)
    (h : createBackwardReferences (h9Ops P lbs dict data (2 ^ k - 1)) p numBytes position
      (st0, c0) cache lastInsertLen numLiterals = some res) :
    (∀ c ∈ closeMetaBlock res.cmds res.lastInsertLen, cmdOK (distAlphabetSize large 0 0) 0 0 c = true) ∧
    lockstep wo 0 0 (maxBackwardLimit p) mb ⟨hist, cache.take 4, 0⟩ 0 (closeMetaBlock res.cmds res.lastInsertLen) = true ∧
    replayCommands wo 0 0 (maxBackwardLimit p) mb (cache.take 4) hist (closeMetaBlock res.cmds res.lastInsertLen)
      = some (hist ++ mb) :=
  commands_lockstep _ p large wo data k tail hist mb lo hb
    (h9Ops_ok _ P lbs _ data k hk p hd)
    numBytes position (st0, c0) cache lastInsertLen numLiterals res hpos hmb hc hcl h

/-- non-vacuity: a concrete ring buffer (first lap: tail and slack all zero, as the code leaves them), hasher, dictionary slot and word oracle satisfy every
hypothesis of `commands_lockstep_basic`; the run emits a static-dictionary reference, and
`commands_lockstep_basic` yields that the RFC decoder replays the closed command list to the text -/
example : ∃ res, createBackwardReferences (basicOps Example.hasher true 540 Example.dict Example.data (2 ^ 6 - 1))
      Example.params 32 0 (Array.replicate 32 0, ⟨0, 0⟩) [4, 11, 15, 16] 0 0 = some res ∧
    closeMetaBlock res.cmds res.lastInsertLen = [⟨8, 4, 1, 186, 3092⟩, initInsert 20] ∧
    replayCommands Example.oracle 0 0 (maxBackwardLimit Example.params) Example.text [4, 11, 15, 16] []
      (closeMetaBlock res.cmds res.lastInsertLen) = some Example.text := by
  have hb : BlockOK Example.params false Example.data 6 32 [] Example.text 0 :=
    ⟨rfl, rfl, Example.ring_ok, by decide, by decide, by decide, by decide, fun _ => by decide, fun _ => by decide,
      by decide, by decide⟩
  cases hr : createBackwardReferences (basicOps Example.hasher true 540 Example.dict Example.data (2 ^ 6 - 1))
      Example.params 32 0 (Array.replicate 32 0, ⟨0, 0⟩) [4, 11, 15, 16] 0 0 with
  | none => have := Example.run; rw [hr] at this; cases this
  | some res =>
    have hrun := Example.run
    rw [hr] at hrun
    simp only [Option.map_some, Option.some.injEq, Prod.mk.injEq] at hrun
    obtain ⟨_, _, hrep⟩ := commands_lockstep_basic Example.hasher true 540 Example.params false Example.oracle
      Example.data 6 32 (by decide) [] Example.text 0 hb Example.dict Example.dict_ok 32 0 (Array.replicate 32 0) ⟨0, 0⟩
      [4, 11, 15, 16] 0 0 res rfl rfl (by intro x hx; simp at hx; rcases hx with rfl | rfl | rfl | rfl <;> decide)
      (by decide) hr
    refine ⟨res, rfl, ?_, by simpa using hrep⟩
    rw [hrun.1, hrun.2.1]; rfl

/-- `fast_metablock_roundtrip` (quality 2, `BrotliStoreMetaBlockFast`) with its
command hypotheses DISCHARGED: the commands are those of `CreateBackwardReferences` over any sound
hasher; the writer does not panic, and the RFC reader, started with the decoder state
`(hist, distance cache)`, consumes exactly the emitted bits and outputs `hist ++ mb`.
(`ring`/`RingHolds`/`inputPairCheck` are the writer's view of the same ring buffer.) -/
theorem cbr_fast_roundtrip {H : Type} (ops : HasherOps H) (p : Params) (large : Bool) (wo : WordOracle)
    (data : ByteArray) (k tail : Nat) (hist mb : Bytes) (lo : Nat)
    (hb : BlockOK p large data k tail hist mb lo) (hops : OpsOK (SlotOK wo) ops p data k)
    (numBytes position : Nat) (h0 : H) (cache : List Int) (lastInsertLen numLiterals : Nat) (res : Result H)
    (hpos : position = hist.length + lastInsertLen) (hmb : mb.length = lastInsertLen + numBytes)
    (hc : CacheI32 cache) (hcl : 4 ≤ cache.length)
    (h : createBackwardReferences ops p numBytes position h0 cache lastInsertLen numLiterals = some res)
    (ring : Bytes) (start mask : Nat) (isLast : Bool) (w : List Bool)
    (hR : RingHolds ring mask start mb) (h256 : ∀ b ∈ mb, b < 256) (h1 : 1 ≤ mb.length) (hst : start < 2 ^ 64)
    (hIP : inputPairCheck ring start mb.length mask = .ok ()) :
    ∃ bits ring',
      storeMetaBlockFast ring start mb.length mask isLast (distAlphabetSize large 0 0)
        (closeMetaBlock res.cmds res.lastInsertLen) w = .ok (w ++ bits) ∧
      ∀ rest, readMetaBlockFull wo (maxBackwardLimit p) large w.length ⟨hist, cache.take 4⟩ (bits ++ rest)
        = some (⟨hist ++ mb, ring'⟩, isLast, (w ++ bits).length, rest) := by
  obtain ⟨hok, hlock, hrep⟩ := commands_lockstep ops p large wo data k tail hist mb lo hb hops numBytes position h0 cache
    lastInsertLen numLiterals res hpos hmb hc hcl h
  obtain ⟨bits, out, ring', e, _, hrd, hout⟩ := BV.Props.C01MetaBlock.fast_metablock_roundtrip wo (maxBackwardLimit p)
    large ring start mask mb isLast _ hist (cache.take 4) w hR h256 h1 hb.len hst hIP hok hlock
  have := hout hrep
  subst this
  exact ⟨bits, ring', e, hrd⟩

/-- the same for quality 3 (`BrotliStoreMetaBlockTrivial`) -/
theorem cbr_trivial_roundtrip {H : Type} (ops : HasherOps H) (p : Params) (large : Bool) (wo : WordOracle)
    (data : ByteArray) (k tail : Nat) (hist mb : Bytes) (lo : Nat)
    (hb : BlockOK p large data k tail hist mb lo) (hops : OpsOK (SlotOK wo) ops p data k)
    (numBytes position : Nat) (h0 : H) (cache : List Int) (lastInsertLen numLiterals : Nat) (res : Result H)
    (hpos : position = hist.length + lastInsertLen) (hmb : mb.length = lastInsertLen + numBytes)
    (hc : CacheI32 cache) (hcl : 4 ≤ cache.length)
    (h : createBackwardReferences ops p numBytes position h0 cache lastInsertLen numLiterals = some res)
    (ring : Bytes) (start mask : Nat) (isLast : Bool) (w : List Bool)
    (hR : RingHolds ring mask start mb) (h256 : ∀ b ∈ mb, b < 256) (h1 : 1 ≤ mb.length) (hst : start < 2 ^ 64)
    (hIP : inputPairCheck ring start mb.length mask = .ok ()) :
    ∃ bits ring',
      storeMetaBlockTrivial ring start mb.length mask isLast (distAlphabetSize large 0 0)
        (closeMetaBlock res.cmds res.lastInsertLen) w = .ok (w ++ bits) ∧
      ∀ rest, readMetaBlockFull wo (maxBackwardLimit p) large w.length ⟨hist, cache.take 4⟩ (bits ++ rest)
        = some (⟨hist ++ mb, ring'⟩, isLast, (w ++ bits).length, rest) := by
  obtain ⟨hok, hlock, hrep⟩ := commands_lockstep ops p large wo data k tail hist mb lo hb hops numBytes position h0 cache
    lastInsertLen numLiterals res hpos hmb hc hcl h
  obtain ⟨bits, out, ring', e, _, hrd, hout⟩ := BV.Props.C01MetaBlock.trivial_metablock_roundtrip wo (maxBackwardLimit p)
    large ring start mask mb isLast _ hist (cache.take 4) w hR h256 h1 hb.len hst hIP hok hlock
  have := hout hrep
  subst this
  exact ⟨bits, ring', e, hrd⟩

theorem ring_hypothesis_of_ringOK {rb : BV.Stream.Ring} {T : Bytes} {k : Nat} (data : ByteArray)
    (hR : BV.Stream.RingOK rb T) (hk : rb.size = 2 ^ k)
    (hdata : ∀ i, i < 2 ^ k + rb.tailSize → (data.get! i).toNat = rb.get (2 + i)) :
    BV.Props.C01.RingViewW (ringBytes data) k rb.tailSize T (T.length - rb.size) T.length ∧ rb.tailSize ≤ 2 ^ k := by
  have hv := BV.Props.C01.ring_view_w hR hk
  have ht : rb.tailSize ≤ 2 ^ k := by have := hR.geom.tail; omega
  have hpos : 0 < 2 ^ k := Nat.pow_pos (by decide)
  refine ⟨⟨?_, ?_⟩, ht⟩
  · intro p hlo hhi
    have := hv.holds p hlo hhi
    have hm := Nat.mod_lt p hpos
    simp only [ringBytes, hdata (p % 2 ^ k) (by omega)]
    exact this
  · intro p hlo hhi hge hr
    have := hv.mirror p hlo hhi hge hr
    simp only [ringBytes, hdata (2 ^ k + p % 2 ^ k) (by omega)]
    exact this

/-- `hwb`: the ring is `2^(max(lgwin, lgblock) + 1)` bytes; `hblk`: `tail_size_` is one input block -/
theorem blockOK_of_ringOK {rb : BV.Stream.Ring} (p : Params) (large : Bool) (data : ByteArray) (k : Nat)
    (hist mb : Bytes) (hR : BV.Stream.RingOK rb (hist ++ mb)) (hk : rb.size = 2 ^ k)
    (hdata : ∀ i, i < 2 ^ k + rb.tailSize → (data.get! i).toNat = rb.get (2 + i))
    (hnp : p.npostfix = 0) (hnd : p.ndirect = 0) (hwb : maxBackwardLimit p + mb.length ≤ rb.size)
    (hblk : mb.length ≤ rb.tailSize) (hwin : maxBackwardLimit p ≤ 2 ^ 30)
    (hstd : large = false → maxBackwardLimit p ≤ 2 ^ 26 - 4) (hdist : large = false → p.maxDistance ≤ 2 ^ 26 - 4)
    (hlen : mb.length ≤ 2 ^ 24) (htot : hist.length + mb.length < 2 ^ 64) :
    BlockOK p large data k rb.tailSize hist mb (hist.length + mb.length - rb.size) := by
  obtain ⟨hv, ht⟩ := ring_hypothesis_of_ringOK data hR hk hdata
  rw [List.length_append] at hv
  exact ⟨hnp, hnd, hv, ht, hblk, by omega, hwin, hstd, hdist, hlen, htot⟩

theorem cbr_fast_roundtrip_of_ringOK {H : Type} {rb : BV.Stream.Ring} (ops : HasherOps H) (p : Params) (large : Bool)
    (wo : WordOracle) (data : ByteArray) (k : Nat) (hist mb : Bytes)
    (hR : BV.Stream.RingOK rb (hist ++ mb)) (hk : rb.size = 2 ^ k)
    (hdata : ∀ i, i < 2 ^ k + rb.tailSize → (data.get! i).toNat = rb.get (2 + i))
    (hnp : p.npostfix = 0) (hnd : p.ndirect = 0) (hwb : maxBackwardLimit p + mb.length ≤ rb.size)
    (hblk : mb.length ≤ rb.tailSize) (hwin : maxBackwardLimit p ≤ 2 ^ 30)
    (hstd : large = false → maxBackwardLimit p ≤ 2 ^ 26 - 4) (hdist : large = false → p.maxDistance ≤ 2 ^ 26 - 4)
    (hlen : mb.length ≤ 2 ^ 24) (htot : hist.length + mb.length < 2 ^ 64)
    (hops : OpsOK (SlotOK wo) ops p data k)
    (numBytes position : Nat) (h0 : H) (cache : List Int) (lastInsertLen numLiterals : Nat) (res : Result H)
    (hpos : position = hist.length + lastInsertLen) (hmb : mb.length = lastInsertLen + numBytes)
    (hc : CacheI32 cache) (hcl : 4 ≤ cache.length)
    (h : createBackwardReferences ops p numBytes position h0 cache lastInsertLen numLiterals = some res)
    (ring : Bytes) (start mask : Nat) (isLast : Bool) (w : List Bool)
    (hRH : RingHolds ring mask start mb) (h256 : ∀ b ∈ mb, b < 256) (h1 : 1 ≤ mb.length) (hst : start < 2 ^ 64)
    (hIP : inputPairCheck ring start mb.length mask = .ok ()) :
    ∃ bits ring',
      storeMetaBlockFast ring start mb.length mask isLast (distAlphabetSize large 0 0)
        (closeMetaBlock res.cmds res.lastInsertLen) w = .ok (w ++ bits) ∧
      ∀ rest, readMetaBlockFull wo (maxBackwardLimit p) large w.length ⟨hist, cache.take 4⟩ (bits ++ rest)
        = some (⟨hist ++ mb, ring'⟩, isLast, (w ++ bits).length, rest) :=
  cbr_fast_roundtrip ops p large wo data k rb.tailSize hist mb _
    (blockOK_of_ringOK p large data k hist mb hR hk hdata hnp hnd hwb hblk hwin hstd hdist hlen htot) hops
    numBytes position h0 cache lastInsertLen numLiterals res hpos hmb hc hcl h ring start mask isLast w hRH h256 h1 hst hIP

theorem cbr_trivial_roundtrip_of_ringOK {H : Type} {rb : BV.Stream.Ring} (ops : HasherOps H) (p : Params) (large : Bool)
    (wo : WordOracle) (data : ByteArray) (k : Nat) (hist mb : Bytes)
    (hR : BV.Stream.RingOK rb (hist ++ mb)) (hk : rb.size = 2 ^ k)
    (hdata : ∀ i, i < 2 ^ k + rb.tailSize → (data.get! i).toNat = rb.get (2 + i))
    (hnp : p.npostfix = 0) (hnd : p.ndirect = 0) (hwb : maxBackwardLimit p + mb.length ≤ rb.size)
    (hblk : mb.length ≤ rb.tailSize) (hwin : maxBackwardLimit p ≤ 2 ^ 30)
    (hstd : large = false → maxBackwardLimit p ≤ 2 ^ 26 - 4) (hdist : large = false → p.maxDistance ≤ 2 ^ 26 - 4)
    (hlen : mb.length ≤ 2 ^ 24) (htot : hist.length + mb.length < 2 ^ 64)
    (hops : OpsOK (SlotOK wo) ops p data k)
    (numBytes position : Nat) (h0 : H) (cache : List Int) (lastInsertLen numLiterals : Nat) (res : Result H)
    (hpos : position = hist.length + lastInsertLen) (hmb : mb.length = lastInsertLen + numBytes)
    (hc : CacheI32 cache) (hcl : 4 ≤ cache.length)
    (h : createBackwardReferences ops p numBytes position h0 cache lastInsertLen numLiterals = some res)
    (ring : Bytes) (start mask : Nat) (isLast : Bool) (w : List Bool)
    (hRH : RingHolds ring mask start mb) (h256 : ∀ b ∈ mb, b < 256) (h1 : 1 ≤ mb.length) (hst : start < 2 ^ 64)
    (hIP : inputPairCheck ring start mb.length mask = .ok ()) :
    ∃ bits ring',
      storeMetaBlockTrivial ring start mb.length mask isLast (distAlphabetSize large 0 0)
        (closeMetaBlock res.cmds res.lastInsertLen) w = .ok (w ++ bits) ∧
      ∀ rest, readMetaBlockFull wo (maxBackwardLimit p) large w.length ⟨hist, cache.take 4⟩ (bits ++ rest)
        = some (⟨hist ++ mb, ring'⟩, isLast, (w ++ bits).length, rest) :=
  cbr_trivial_roundtrip ops p large wo data k rb.tailSize hist mb _
    (blockOK_of_ringOK p large data k hist mb hR hk hdata hnp hnd hwb hblk hwin hstd hdist hlen htot) hops
    numBytes position h0 cache lastInsertLen numLiterals res hpos hmb hc hcl h ring start mask isLast w hRH h256 h1 hst hIP

end BV.Props.C01Chain
