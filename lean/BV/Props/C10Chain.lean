/-
C10Chain — the payload hypothesis of `C10_roundtrip_partial` discharged for quality 2–9 by composition with the C01
chain.  No new model.  The chain holds for an arbitrary history, so it is instantiated with
`hist := encHistory s ++ prev` (dictionary tail ++ input consumed so far); `views_agree` turns the encoder's view
(history, window) into the decoder's.

Beyond the chain's own hypotheses there remain, for every theorem of this file (the command-level one says so in its
name, `_partial`): (1) `BlockOK.ring`: the `ByteArray` the match
finders read holds `encHistory s ++ prev ++ mb` (C10 proves the dictionary part for ITS ring model, `dict_tail_in_ring`;
the stream model's ring is not identified with it in Lean); (2) for quality 4–9 (`C10_full_roundtrip_q49`) `copy_len() ≥ 2`
for copying commands (a 1-byte static-dictionary match is reachable at extreme `literal_byte_score`) and the block-split /
histogram hypotheses `MBOK` / `Covers`; (3) quality 10/11 (Zopfli); (4) one `CreateBackwardReferences` call per
meta-block; (5) the real decoder's copy path on the dictionary tail is C10's `dict_tail_readable` /
`decoder_shrunk_ring_clobbers_dict`, not repeated here.
-/
import BV.Props.C01Chain
import BV.Props.C10
import BV.Lemmas.ChainFinal
import BV.Props.C01MetaBlockFull

namespace BV.Props.C10Chain
open BV.Hasher BV.MatchFinder BV.Recoder BV.PrefixArith BV.MetaBlock BV.Cbr BV.Props.C01Chain
open BV.Dict BV.Props.C10

theorem decoder_window (p0 : BV.Header.Params) (size : Nat) (dict : Nat → Nat) (hq : 2 ≤ encQ p0) (p : Cbr.Params)
    (hlg : p.lgwin = encL p0) : (decoderFor p0 size dict).mbd = maxBackwardLimit p := by
  have hw := header_wbits_used p0 hq
  unfold Dec.mbd decoderFor maxBackwardLimit
  simp only [hw, hlg, Nat.one_shiftLeft]

theorem decHistory_length (D : Dec) (rbits : Nat) : (decHistory D rbits).length = D.dEff := by
  simp [decHistory]

/-- the encoder's view of a block is the decoder's: after `set_custom_dictionary` the encoder's history is the tail the
decoder loaded below position 0, so a block that follows `prev` starts at the decoder's position, and every search with
the sanitised `lgwin` uses the decoder's `max_backward_distance` as its window.  The statements below are the C01Chain
statements about `CreateBackwardReferences` read through these equations. -/
theorem views_agree (p0 : BV.Header.Params) (size : Nat) (dict : Nat → Nat) (hsz : 0 < size) (hq : 2 ≤ encQ p0)
    (rbits : Nat) (hR : (decoderFor p0 size dict).dEff ≤ 2 ^ rbits) :
    ∃ s, setCustomDictionary p0 size dict size = some s ∧ encHistory s = decHistory (decoderFor p0 size dict) rbits ∧
      (∀ prev : Bytes, (encHistory s ++ prev).length = (decoderFor p0 size dict).dEff + prev.length) ∧
      ∀ p : Cbr.Params, p.lgwin = encL p0 → (decoderFor p0 size dict).mbd = maxBackwardLimit p := by
  obtain ⟨s, hs, hh⟩ := histories_agree p0 size dict hsz hq rbits hR
  exact ⟨s, hs, hh, fun prev => by rw [List.length_append, hh, decHistory_length],
    fun p hlg => decoder_window p0 size dict hq p hlg⟩

/-- The window test of the RFC-level replay is the real decoder's: with the
decoder's history in front (`d'` bytes), after `produced` output bytes `replayCommands` / `lockstep` compare a distance
with `min(|history ++ produced|, 2^wbits − 16)`; this is the value the decoder's sticky `max_distance` state machine
holds after ANY non-decreasing run of positions ending at `|produced|` (C10 `dec_max_distance_closed`). -/
theorem dec_max_distance_is_replay_window (D : Dec) (hw : 5 ≤ D.wbits) (rbits : Nat) (produced : Bytes)
    (ps : List Nat) (hs : (ps ++ [produced.length]).Pairwise (· ≤ ·)) :
    min (decHistory D rbits ++ produced).length D.mbd = D.runMax 0 (ps ++ [produced.length]) := by
  rw [dec_max_distance_closed D hw ps produced.length hs, List.length_append, decHistory_length]
  omega

/-- Custom-dictionary round trip at the command level for quality 2–9, NO payload
hypothesis.  `s` = the encoder after `set_custom_dictionary`; `prev` = the input consumed before this block; the block
`mb` (pending `last_insert_len` literals ++ `num_bytes`) is searched at encoder position
`d' + |prev| + last_insert_len` — the decoder's position, `dict_positions_agree` — over ANY hasher state.  Then every
command satisfies the writers' `cmdOK`, the RFC decoder holding the same dictionary runs in `lockstep` with the encoder
from its own state, and it reproduces dictionary tail ++ `prev` ++ `mb`. -/
theorem C10_roundtrip_q29_partial (p0 : BV.Header.Params) (size : Nat) (dict : Nat → Nat) (hsz : 0 < size)
    (hq : 2 ≤ encQ p0) (rbits : Nat) (hR : (decoderFor p0 size dict).dEff ≤ 2 ^ rbits) :
    ∃ s, setCustomDictionary p0 size dict size = some s ∧
      s.lastProcessedPos = (decoderFor p0 size dict).dEff ∧ (encHistory s).length = (decoderFor p0 size dict).dEff ∧
      ∀ {H : Type} (ops : HasherOps H) (p : Cbr.Params) (large : Bool) (wo : WordOracle) (data : ByteArray)
        (k tail : Nat) (prev mb : Bytes) (lo : Nat) (_hlg : p.lgwin = encL p0)
        (_hb : BlockOK p large data k tail (encHistory s ++ prev) mb lo) (_hops : OpsOK (SlotOK wo) ops p data k)
        (numBytes position : Nat) (h0 : H) (cache : List Int) (lastInsertLen numLiterals : Nat) (res : Result H)
        (_hpos : position = (decoderFor p0 size dict).dEff + prev.length + lastInsertLen)
        (_hmb : mb.length = lastInsertLen + numBytes) (_hc : CacheI32 cache) (_hcl : 4 ≤ cache.length)
        (_h : createBackwardReferences ops p numBytes position h0 cache lastInsertLen numLiterals = some res),
        (∀ c ∈ closeMetaBlock res.cmds res.lastInsertLen, cmdOK (distAlphabetSize large 0 0) 0 0 c = true) ∧
        lockstep wo 0 0 (decoderFor p0 size dict).mbd mb
          ⟨decHistory (decoderFor p0 size dict) rbits ++ prev, cache.take 4, 0⟩ 0
          (closeMetaBlock res.cmds res.lastInsertLen) = true ∧
        replayCommands wo 0 0 (decoderFor p0 size dict).mbd mb (cache.take 4)
          (decHistory (decoderFor p0 size dict) rbits ++ prev) (closeMetaBlock res.cmds res.lastInsertLen)
          = some (decHistory (decoderFor p0 size dict) rbits ++ prev ++ mb) := by
  obtain ⟨s, hs, hh, hlen, hwin⟩ := views_agree p0 size dict hsz hq rbits hR
  obtain ⟨s', hs', _, hlp, _⟩ := dict_positions_agree p0 size dict hsz hq
  rw [hs] at hs'
  cases hs'
  refine ⟨s, hs, hlp, by rw [hh, decHistory_length], fun {H} ops p large wo data k tail prev mb lo hlg => ?_⟩
  rw [hwin p hlg, ← hh, ← hlen prev]
  exact commands_lockstep ops p large wo data k tail (encHistory s ++ prev) mb lo

/-- `C10_roundtrip_q29_partial` continued for the quality-2 writer (the suffix `_q29` is that of the chain) down to the bits: `CreateBackwardReferences`, `BrotliStoreMetaBlockFast`,
then the RFC 7932 reader in the state of the decoder that holds the same dictionary = dictionary tail ++ earlier input
++ block, consuming exactly the emitted bits. -/
theorem C10_fast_roundtrip_q29 (p0 : BV.Header.Params) (size : Nat) (dict : Nat → Nat) (hsz : 0 < size)
    (hq : 2 ≤ encQ p0) (rbits : Nat) (hR : (decoderFor p0 size dict).dEff ≤ 2 ^ rbits) :
    ∃ s, setCustomDictionary p0 size dict size = some s ∧
      ∀ {H : Type} (ops : HasherOps H) (p : Cbr.Params) (large : Bool) (wo : WordOracle) (data : ByteArray)
        (k tail : Nat) (prev mb : Bytes) (lo : Nat) (_hlg : p.lgwin = encL p0)
        (_hb : BlockOK p large data k tail (encHistory s ++ prev) mb lo) (_hops : OpsOK (SlotOK wo) ops p data k)
        (numBytes position : Nat) (h0 : H) (cache : List Int) (lastInsertLen numLiterals : Nat) (res : Result H)
        (_hpos : position = (decoderFor p0 size dict).dEff + prev.length + lastInsertLen)
        (_hmb : mb.length = lastInsertLen + numBytes) (_hc : CacheI32 cache) (_hcl : 4 ≤ cache.length)
        (_h : createBackwardReferences ops p numBytes position h0 cache lastInsertLen numLiterals = some res)
        (ring : Bytes) (start mask : Nat) (isLast : Bool) (w : List Bool)
        (_hRH : RingHolds ring mask start mb) (_h256 : ∀ b ∈ mb, b < 256) (_h1 : 1 ≤ mb.length) (_hst : start < 2 ^ 64)
        (_hIP : inputPairCheck ring start mb.length mask = .ok ()),
        ∃ bits ring',
          storeMetaBlockFast ring start mb.length mask isLast (distAlphabetSize large 0 0)
            (closeMetaBlock res.cmds res.lastInsertLen) w = .ok (w ++ bits) ∧
          ∀ rest, readMetaBlockFull wo (decoderFor p0 size dict).mbd large w.length
              ⟨decHistory (decoderFor p0 size dict) rbits ++ prev, cache.take 4⟩ (bits ++ rest)
            = some (⟨decHistory (decoderFor p0 size dict) rbits ++ prev ++ mb, ring'⟩, isLast, (w ++ bits).length, rest) := by
  obtain ⟨s, hs, hh, hlen, hwin⟩ := views_agree p0 size dict hsz hq rbits hR
  refine ⟨s, hs, fun {H} ops p large wo data k tail prev mb lo hlg => ?_⟩
  rw [hwin p hlg, ← hh, ← hlen prev]
  exact cbr_fast_roundtrip ops p large wo data k tail (encHistory s ++ prev) mb lo

/-- the same for the quality-3 writer (`BrotliStoreMetaBlockTrivial`) -/
theorem C10_trivial_roundtrip_q29 (p0 : BV.Header.Params) (size : Nat) (dict : Nat → Nat) (hsz : 0 < size)
    (hq : 2 ≤ encQ p0) (rbits : Nat) (hR : (decoderFor p0 size dict).dEff ≤ 2 ^ rbits) :
    ∃ s, setCustomDictionary p0 size dict size = some s ∧
      ∀ {H : Type} (ops : HasherOps H) (p : Cbr.Params) (large : Bool) (wo : WordOracle) (data : ByteArray)
        (k tail : Nat) (prev mb : Bytes) (lo : Nat) (_hlg : p.lgwin = encL p0)
        (_hb : BlockOK p large data k tail (encHistory s ++ prev) mb lo) (_hops : OpsOK (SlotOK wo) ops p data k)
        (numBytes position : Nat) (h0 : H) (cache : List Int) (lastInsertLen numLiterals : Nat) (res : Result H)
        (_hpos : position = (decoderFor p0 size dict).dEff + prev.length + lastInsertLen)
        (_hmb : mb.length = lastInsertLen + numBytes) (_hc : CacheI32 cache) (_hcl : 4 ≤ cache.length)
        (_h : createBackwardReferences ops p numBytes position h0 cache lastInsertLen numLiterals = some res)
        (ring : Bytes) (start mask : Nat) (isLast : Bool) (w : List Bool)
        (_hRH : RingHolds ring mask start mb) (_h256 : ∀ b ∈ mb, b < 256) (_h1 : 1 ≤ mb.length) (_hst : start < 2 ^ 64)
        (_hIP : inputPairCheck ring start mb.length mask = .ok ()),
        ∃ bits ring',
          storeMetaBlockTrivial ring start mb.length mask isLast (distAlphabetSize large 0 0)
            (closeMetaBlock res.cmds res.lastInsertLen) w = .ok (w ++ bits) ∧
          ∀ rest, readMetaBlockFull wo (decoderFor p0 size dict).mbd large w.length
              ⟨decHistory (decoderFor p0 size dict) rbits ++ prev, cache.take 4⟩ (bits ++ rest)
            = some (⟨decHistory (decoderFor p0 size dict) rbits ++ prev ++ mb, ring'⟩, isLast, (w ++ bits).length, rest) := by
  obtain ⟨s, hs, hh, hlen, hwin⟩ := views_agree p0 size dict hsz hq rbits hR
  refine ⟨s, hs, fun {H} ops p large wo data k tail prev mb lo hlg => ?_⟩
  rw [hwin p hlg, ← hh, ← hlen prev]
  exact cbr_trivial_roundtrip ops p large wo data k tail (encHistory s ++ prev) mb lo

/-- The additional command hypothesis of the quality ≥ 4 writer theorems (`faithful`: after
every command the decoder's output is history ++ a prefix of the block) for the decoder that holds the dictionary, and
the decoder's ring after the block = the distance cache the call returns -/
theorem C10_faithful_q29 (p0 : BV.Header.Params) (size : Nat) (dict : Nat → Nat) (hsz : 0 < size)
    (hq : 2 ≤ encQ p0) (rbits : Nat) (hR : (decoderFor p0 size dict).dEff ≤ 2 ^ rbits) :
    ∃ s, setCustomDictionary p0 size dict size = some s ∧
      ∀ {H : Type} (ops : HasherOps H) (p : Cbr.Params) (large : Bool) (wo : WordOracle) (data : ByteArray)
        (k tail : Nat) (prev mb : Bytes) (lo : Nat) (_hlg : p.lgwin = encL p0)
        (_hb : BlockOK p large data k tail (encHistory s ++ prev) mb lo) (_hops : OpsOK (SlotOK wo) ops p data k)
        (numBytes position : Nat) (h0 : H) (cache : List Int) (lastInsertLen numLiterals : Nat) (res : Result H)
        (_hpos : position = (decoderFor p0 size dict).dEff + prev.length + lastInsertLen)
        (_hmb : mb.length = lastInsertLen + numBytes) (_hc : CacheI32 cache) (_hcl : 4 ≤ cache.length)
        (_h : createBackwardReferences ops p numBytes position h0 cache lastInsertLen numLiterals = some res),
        faithful wo 0 0 (decoderFor p0 size dict).mbd mb (decHistory (decoderFor p0 size dict) rbits ++ prev)
          ⟨decHistory (decoderFor p0 size dict) rbits ++ prev, cache.take 4, 0⟩
          (closeMetaBlock res.cmds res.lastInsertLen) ∧
        decSteps wo 0 0 (decoderFor p0 size dict).mbd mb ⟨decHistory (decoderFor p0 size dict) rbits ++ prev, cache.take 4, 0⟩
          (closeMetaBlock res.cmds res.lastInsertLen)
          = some ⟨decHistory (decoderFor p0 size dict) rbits ++ prev ++ mb, res.cache.take 4, mb.length⟩ := by
  obtain ⟨s, hs, hh, hlen, hwin⟩ := views_agree p0 size dict hsz hq rbits hR
  refine ⟨s, hs, fun {H} ops p large wo data k tail prev mb lo hlg => ?_⟩
  rw [hwin p hlg, ← hh, ← hlen prev]
  intro hb hops numBytes position h0 cache lastInsertLen numLiterals res hpos hmb hc hcl h
  exact ⟨cbr_faithful ops p large wo data k tail _ mb lo hb hops numBytes position h0 cache lastInsertLen numLiterals res hpos
      hmb hc hcl h,
    (cbr_final_state ops p large wo data k tail _ mb lo hb hops numBytes position h0 cache lastInsertLen numLiterals res hpos
      hmb hc hcl h).1⟩

/-- Quality 4–9 down to the bits, with a custom dictionary: `CreateBackwardReferences`,
then `BrotliStoreMetaBlock` (model `storeMetaBlockFull`: block splits, context maps, literal context modelling) with ANY
well-formed `MetaBlockSplit` whose histograms cover the emitted symbols (`MBOK` / `Covers`; for the greedy builder:
C01Greedy's `greedy_split_wellformed`), then the GENERAL RFC 7932 reader in the state of the decoder that holds the same
dictionary = dictionary tail ++ earlier input ++ block, consuming exactly the emitted bits.  `prevByte` / `prevByte2`
are the last two bytes of the DECODER's history (for the first block: of the dictionary tail, `dict_positions_agree` (3)).
The command hypotheses `cmdOK`, `lockstep`, `faithful` and the payload are discharged; `hcl2` (`copy_len() ≥ 2` for copying
commands) stays: a 1-byte static-dictionary match is reachable with an extreme `literal_byte_score`. -/
theorem C10_full_roundtrip_q49 (p0 : BV.Header.Params) (size : Nat) (dict : Nat → Nat) (hsz : 0 < size)
    (hq : 2 ≤ encQ p0) (rbits : Nat) (hR : (decoderFor p0 size dict).dEff ≤ 2 ^ rbits) :
    ∃ s, setCustomDictionary p0 size dict size = some s ∧
      ∀ {H : Type} (ops : HasherOps H) (p : Cbr.Params) (large : Bool) (wo : WordOracle) (data : ByteArray)
        (k tail : Nat) (prev mb : Bytes) (lo : Nat) (_hlg : p.lgwin = encL p0)
        (_hb : BlockOK p large data k tail (encHistory s ++ prev) mb lo) (_hops : OpsOK (SlotOK wo) ops p data k)
        (numBytes position : Nat) (h0 : H) (cache : List Int) (lastInsertLen numLiterals : Nat) (res : Result H)
        (_hpos : position = (decoderFor p0 size dict).dEff + prev.length + lastInsertLen)
        (_hmb : mb.length = lastInsertLen + numBytes) (_hc : CacheI32 cache) (_hcl : 4 ≤ cache.length)
        (_h : createBackwardReferences ops p numBytes position h0 cache lastInsertLen numLiterals = some res)
        (_hcl2 : ∀ c ∈ closeMetaBlock res.cmds res.lastInsertLen, copyLen c ≠ 0 → 2 ≤ copyLen c)
        (ring : Bytes) (start mask prevByte prevByte2 : Nat) (isLast : Bool) (mode : Nat) (mbs : MBSplit) (w : List Bool)
        (_hRH : RingHolds ring mask start mb) (_h256 : ∀ b ∈ mb, b < 256)
        (_hh256 : ∀ b ∈ decHistory (decoderFor p0 size dict) rbits ++ prev, b < 256)
        (_h1 : 1 ≤ mb.length) (_h64 : start + mb.length < 2 ^ 64)
        (_hIP : inputPairCheck ring start mb.length mask = .ok ())
        (_hprev : prevByte = lastB (decHistory (decoderFor p0 size dict) rbits ++ prev) ∧
          prevByte2 = last2B (decHistory (decoderFor p0 size dict) rbits ++ prev)) (_hmode : mode < 4)
        (_hM : MBOK mbs (distAlphabetSize large 0 0))
        (_hcL : Covers mbs.litHistos (effMap mbs.litCmap mbs.litCmapSize mbs.lit.numTypes 64) 64
          (remTypes mbs.lit 0 (mbs.lit.lengths.getD 0 0))
          (litSymsOf mode (decHistory (decoderFor p0 size dict) rbits ++ prev) mb 0
            (closeMetaBlock res.cmds res.lastInsertLen)))
        (_hcI : Covers mbs.cmdHistos (trivialMap mbs.cmd.numTypes 1) 1
          (remTypes mbs.cmd 0 (mbs.cmd.lengths.getD 0 0))
          ((closeMetaBlock res.cmds res.lastInsertLen).map fun c => (0, c.cmdPrefix)))
        (_hcD : Covers mbs.distHistos (effMap mbs.distCmap mbs.distCmapSize mbs.dist.numTypes 4) 4
          (remTypes mbs.dist 0 (mbs.dist.lengths.getD 0 0)) (distSymsOf (closeMetaBlock res.cmds res.lastInsertLen))),
        ∃ bits ring',
          storeMetaBlockFull ring start mb.length mask prevByte prevByte2 isLast ⟨0, 0, distAlphabetSize large 0 0, large⟩
            mode (closeMetaBlock res.cmds res.lastInsertLen) mbs w = .ok (w ++ bits) ∧
          ∀ rest, readMetaBlockFullG wo (decoderFor p0 size dict).mbd large w.length
              ⟨decHistory (decoderFor p0 size dict) rbits ++ prev, cache.take 4⟩ (bits ++ rest)
            = some (⟨decHistory (decoderFor p0 size dict) rbits ++ prev ++ mb, ring'⟩, isLast, (w ++ bits).length, rest) := by
  obtain ⟨s, hs, hh, hlen, hwin⟩ := views_agree p0 size dict hsz hq rbits hR
  refine ⟨s, hs, fun {H} ops p large wo data k tail prev mb lo hlg => ?_⟩
  rw [hwin p hlg, ← hh, ← hlen prev]
  intro hb hops numBytes position h0 cache lastInsertLen numLiterals res hpos hmb hc hcl h hcl2 ring start mask prevByte
    prevByte2 isLast mode mbs w hRH h256 hh256 h1 h64 hIP hprev hmode hM hcL hcI hcD
  obtain ⟨hok, hlock, hrep⟩ := commands_lockstep ops p large wo data k tail (encHistory s ++ prev) mb lo hb hops numBytes
    position h0 cache lastInsertLen numLiterals res hpos hmb hc hcl h
  have hfa := cbr_faithful ops p large wo data k tail (encHistory s ++ prev) mb lo hb hops numBytes position h0 cache
    lastInsertLen numLiterals res hpos hmb hc hcl h
  have hA544 : distAlphabetSize large 0 0 ≤ 544 := by cases large <;> decide
  obtain ⟨bits, out, ring', e, _, hrd, hout⟩ := BV.Props.C01MetaBlockFull.full_metablock_roundtrip wo (maxBackwardLimit p) ring
    start mask prevByte prevByte2 mb isLast ⟨0, 0, distAlphabetSize large 0 0, large⟩ mode _ mbs
    (encHistory s ++ prev) (cache.take 4) w hRH h256 hh256 h1 hb.len h64 hIP hprev hmode
    (by show 0 ≤ 3; decide) (by show 0 % 2 ^ 0 = 0; decide) (by show 0 / 2 ^ 0 < 16; decide) rfl hA544 hok hcl2 hlock hfa hM
    hcL hcI hcD
  have := hout hrep
  subst this
  exact ⟨bits, ring', e, hrd⟩

/-! ### non-vacuity: an 8-byte custom dictionary (the first 8 bytes of `BV.Cbr.Example.text`) at quality 5, lgwin 10;
the block is the remaining 24 bytes, searched at position 8 = `d'`.  Every hypothesis of `C10_roundtrip_q29_partial`
is met; the conclusion is the decoder-side replay. -/

def exP : BV.Header.Params := ⟨5, 10, 0, false, false, false, true, false, 0⟩
def exDict : Nat → Nat := fun i => Example.text.getD i 0

example : ∃ res, createBackwardReferences (basicOps Example.hasher true 540 Example.dict Example.data (2 ^ 6 - 1))
      Example.params 24 8 (Array.replicate 32 0, ⟨0, 0⟩) [4, 11, 15, 16] 0 0 = some res ∧
    decHistory (decoderFor exP 8 exDict) 10 = Example.text.take 8 ∧
    replayCommands Example.oracle 0 0 (decoderFor exP 8 exDict).mbd (Example.text.drop 8) [4, 11, 15, 16]
      (decHistory (decoderFor exP 8 exDict) 10) (closeMetaBlock res.cmds res.lastInsertLen) = some Example.text := by
  obtain ⟨s, hs, _, _, hth⟩ := C10_roundtrip_q29_partial exP 8 exDict (by decide) (by decide) 10 (by decide)
  have hE : (setCustomDictionary exP 8 exDict 8).map encHistory = some (Example.text.take 8) := by decide
  rw [hs] at hE
  simp only [Option.map_some, Option.some.injEq] at hE
  have hD : decHistory (decoderFor exP 8 exDict) 10 = Example.text.take 8 := by decide
  have hb : BlockOK Example.params false Example.data 6 32 (encHistory s ++ []) (Example.text.drop 8) 0 := by
    rw [hE]
    exact ⟨rfl, rfl, Example.ring_ok, by decide, by decide, by decide, by decide, fun _ => by decide, fun _ => by decide,
      by decide, by decide⟩
  have hrun : (createBackwardReferences (basicOps Example.hasher true 540 Example.dict Example.data (2 ^ 6 - 1))
      Example.params 24 8 (Array.replicate 32 0, ⟨0, 0⟩) [4, 11, 15, 16] 0 0).isSome = true := by decide +kernel
  cases hr : createBackwardReferences (basicOps Example.hasher true 540 Example.dict Example.data (2 ^ 6 - 1))
      Example.params 24 8 (Array.replicate 32 0, ⟨0, 0⟩) [4, 11, 15, 16] 0 0 with
  | none => rw [hr] at hrun; cases hrun
  | some res =>
    obtain ⟨_, _, hrep⟩ := hth (basicOps Example.hasher true 540 Example.dict Example.data (2 ^ 6 - 1)) Example.params false
      Example.oracle Example.data 6 32 [] (Example.text.drop 8) 0 (by decide) hb
      (basicOps_ok _ Example.hasher true 540 _ Example.data 6 (by decide) Example.params Example.dict_ok)
      24 8 (Array.replicate 32 0, ⟨0, 0⟩) [4, 11, 15, 16] 0 0 res (by decide) (by decide)
      (by intro x hx; simp at hx; rcases hx with rfl | rfl | rfl | rfl <;> decide) (by decide) hr
    refine ⟨res, rfl, hD, ?_⟩
    have e : decHistory (decoderFor exP 8 exDict) 10 ++ [] ++ Example.text.drop 8 = Example.text := by rw [hD]; decide
    rw [List.append_nil] at hrep e
    rw [e] at hrep
    simpa using hrep

end BV.Props.C10Chain
