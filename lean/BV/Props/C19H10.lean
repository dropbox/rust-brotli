/-
C19H10 — H10 (`hash_to_binary_tree.rs`) with a MODELLED `Store`.

BV/Props/C19.lean states the H10 entry points over an opaque `store : Nat → σ → Option σ`
(`bulk_eq_fold_store_h10`, `store_range_eq_fold_store_h10_short`, `h10_store_range_thins`, `partition_irrelevant_h10`).
BV/Model/Zopfli.lean models the real thing: `H10.store` = `StoreAndFindMatchesH10` with `max_length = 128`,
`max_backward = window_mask - 15`, no match output (re-rooting the binary tree at the position), and `H10.storeRange`
(the stride-8 loop for long ranges followed by the dense loop over the last 63 positions), tied to the code through the
`sp` lines of stage `zopfli` (BrotliZopfliComputeShortestPath on a real H10 instance).

What is stated: the modelled `StoreRange` IS the generic one instantiated with the modelled `Store`, so every
C19 theorem about H10 holds for the real `Store` model; in particular short ranges are the per-position loop, and —
by design, as the property text says — long ranges are thinned.
-/
import BV.Lemmas.ZopfliStore
import BV.Props.C19

namespace BV.Props.C19H10
open BV.Hasher BV.Zopfli

theorem dense_eq_forRange (windowMask invalid : Nat) (data : ByteArray) (mask hi : Nat) :
    ∀ (fuel j : Nat) (st : H10St), hi - j ≤ fuel →
      Zopfli.H10.storeStride windowMask invalid data mask 1 hi fuel j st
        = forRange (fun i s => Zopfli.H10.store windowMask invalid data mask i s) j (hi - j) st := by
  intro fuel
  induction fuel with
  | zero =>
    intro j st h
    rw [Zopfli.H10.storeStride, show hi - j = 0 by omega, forRange]
  | succ fuel ih =>
    intro j st h
    rw [Zopfli.H10.storeStride]
    by_cases hj : j < hi
    · rw [if_pos hj, show hi - j = (hi - (j + 1)) + 1 by omega, forRange]
      cases hs : Zopfli.H10.store windowMask invalid data mask j st with
      | none => rfl
      | some st1 => exact ih (j + 1) st1 (by omega)
    · rw [if_neg hj, show hi - j = 0 by omega, forRange]

theorem thin_eq_thinLoop (windowMask invalid : Nat) (data : ByteArray) (mask hi : Nat) :
    ∀ (f1 f2 j : Nat) (st : H10St), hi - j ≤ f1 → hi - j ≤ f2 →
      Zopfli.H10.storeStride windowMask invalid data mask 8 hi f1 j st
        = Hasher.H10.thinLoop (fun i s => Zopfli.H10.store windowMask invalid data mask i s) hi f2 j st := by
  intro f1
  induction f1 with
  | zero =>
    intro f2 j st h1 _
    rw [Zopfli.H10.storeStride]
    cases f2 with
    | zero => rw [Hasher.H10.thinLoop]
    | succ f2 => rw [Hasher.H10.thinLoop, if_neg (by omega)]
  | succ f1 ih =>
    intro f2 j st h1 h2
    rw [Zopfli.H10.storeStride]
    by_cases hj : j < hi
    · rw [if_pos hj]
      cases f2 with
      | zero => omega
      | succ f2 =>
        rw [Hasher.H10.thinLoop, if_pos hj]
        cases hs : Zopfli.H10.store windowMask invalid data mask j st with
        | none => rfl
        | some st1 => exact ih f2 (j + 8) st1 (by omega) (by omega)
    · rw [if_neg hj]
      cases f2 with
      | zero => rw [Hasher.H10.thinLoop]
      | succ f2 => rw [Hasher.H10.thinLoop, if_neg hj]

theorem h10_store_range_is_generic (windowMask invalid : Nat) (data : ByteArray) (mask ixStart ixEnd : Nat) (st : H10St) :
    Zopfli.H10.storeRange windowMask invalid data mask ixStart ixEnd st
      = Hasher.H10.storeRange (fun i s => Zopfli.H10.store windowMask invalid data mask i s) ixStart ixEnd st := by
  unfold Zopfli.H10.storeRange Hasher.H10.storeRange
  simp only []
  by_cases h512 : ixStart + 512 ≤ (if ixStart + 63 ≤ ixEnd then ixEnd - 63 else ixStart)
  · rw [if_pos h512, if_pos h512,
      thin_eq_thinLoop windowMask invalid data mask _ _ ((if ixStart + 63 ≤ ixEnd then ixEnd - 63 else ixStart) - ixStart)
        ixStart st (by omega) (by omega)]
    cases Hasher.H10.thinLoop (fun i s => Zopfli.H10.store windowMask invalid data mask i s)
        (if ixStart + 63 ≤ ixEnd then ixEnd - 63 else ixStart)
        ((if ixStart + 63 ≤ ixEnd then ixEnd - 63 else ixStart) - ixStart) ixStart st with
    | none => rfl
    | some st1 => exact dense_eq_forRange windowMask invalid data mask ixEnd _ _ st1 (by omega)
  · rw [if_neg h512, if_neg h512]
    exact dense_eq_forRange windowMask invalid data mask ixEnd _ _ st (by omega)

theorem store_range_eq_fold_store_h10_model (windowMask invalid : Nat) (data : ByteArray) (mask s e : Nat) (st : H10St)
    (h : e < s + 63) :
    Zopfli.H10.storeRange windowMask invalid data mask s e st
      = forRange (fun i x => Zopfli.H10.store windowMask invalid data mask i x) s (e - s) st := by
  rw [h10_store_range_is_generic]
  exact BV.Props.C19.store_range_eq_fold_store_h10_short _ s e st h

/-- non-vacuity: on a concrete ring (64 bytes, window mask 63, empty tree) the modelled `StoreRange` over three
positions returns, and returns what the fold over `Store` returns. -/
example : ∃ st, Zopfli.H10.storeRange 63 0xffffffff ⟨(List.replicate 200 (7 : UInt8)).toArray⟩ 63 0 3
      ⟨Array.replicate 131072 0, Array.replicate 128 0⟩ = some st ∧
    forRange (fun i x => Zopfli.H10.store 63 0xffffffff ⟨(List.replicate 200 (7 : UInt8)).toArray⟩ 63 i x) 0 3
      ⟨Array.replicate 131072 0, Array.replicate 128 0⟩ = some st := by
  rw [store_range_eq_fold_store_h10_model 63 0xffffffff _ 63 0 3 _ (by decide), Nat.sub_zero]
  -- the ring is constant, so every position hashes to bucket 6257; `Store(i)` invalidates the roots `2i`, `2i+1`
  have hf : ∃ st, forRange (fun i x => Zopfli.H10.store 63 0xffffffff ⟨(List.replicate 200 (7 : UInt8)).toArray⟩ 63 i x) 0 3
      ⟨Array.replicate 131072 0, Array.replicate 128 0⟩ = some st := by
    rw [forRange_succ,
      Zopfli.H10.store_eq_some _ _ _ _ _ 6257 0 _ _ (((Array.replicate 128 0).set! 0 0xffffffff).set! 1 0xffffffff),
      Option.bind_some, forRange_succ, Nat.zero_add,
      Zopfli.H10.store_eq_some _ _ _ _ _ 6257 0 _ _
        (((((Array.replicate 128 0).set! 0 0xffffffff).set! 1 0xffffffff).set! 2 0xffffffff).set! 3 0xffffffff),
      Option.bind_some, forRange_succ,
      Zopfli.H10.store_eq_some _ _ _ _ _ 6257 1 _ _
        (((((((Array.replicate 128 0).set! 0 0xffffffff).set! 1 0xffffffff).set! 2 0xffffffff).set! 3 0xffffffff).set! 4
          0xffffffff).set! 5 0xffffffff),
      Option.bind_some, forRange_zero]
    · exact ⟨_, rfl⟩
    -- per step: the hash of the position, the bucket entry, the forest the walk returns
    · decide +kernel
    · simp [U32]
    · decide +kernel
    · decide +kernel
    · simp [U32]
    · decide +kernel
    · decide +kernel
    · simp
    · decide +kernel
  obtain ⟨st, hst⟩ := hf
  exact ⟨st, hst, hst⟩

end BV.Props.C19H10
