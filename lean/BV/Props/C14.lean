/-
C14 — the meta-block callback (IR) replays to exactly the input.

Model `BV.Recoder` (`process_command_queue`, `CommandQueue`, `InputPair::split_at`, `InputPairFromMaskedInput`,
`distance_index_and_offset`, the assertions of `LogMetaBlock`), tied to the code by running `process_command_queue` on
crafted command arrays / block splits / wrap positions and on the raw commands of the real encoder.  The spec side is
written independently of the mirrored code: `replayIR` (what a consumer of the callback does) and `replayCommands`
(what RFC 7932 says a decoder does with the same raw command array).  Everything holds for EVERY command array,
block-split description (also inconsistent ones), literal split, wrap position, distance parameters, cache and history.

NOT proved here: that the encoder's commands decode to the input (`PayloadOK`, the payload hypothesis; discharged for
quality 2–9 in C14Chain).  `slices_tile` is proved on top of the stream-machine model of C01/C20 relative to a small
callback-invocation interface (`BV.Slices.loggedSlices`).
-/
import BV.Lemmas.RecoderSim
import BV.Lemmas.RecoderSlices
import BV.Lemmas.RecoderStride
import BV.Props.C18

namespace BV.Props.C14
open BV.Recoder BV.PrefixArith

/-- `CommandQueue::new(num_commands)` followed by any number of `push`es (any
number of doublings): the callback receives exactly the pushed commands, in order, and `overfull` (which would
make `free(..).unwrap()` panic) is never set. -/
theorem queue_growth_lossless (numCommands : Nat) (vs : List IR) :
    ((Queue.new numCommands).pushAll vs).items = vs ∧ ((Queue.new numCommands).pushAll vs).overfull = false := by
  obtain ⟨h1, h2⟩ := Queue.pushAll_lossless vs (Queue.new numCommands) (Queue.new_ok numCommands)
  exact ⟨by rw [h2]; rfl, h1.not_over⟩

theorem logMetaBlock_eq (e : Env) (i0 i1 : Bytes) (cmds : List Cmd) (dc : List Int) (nbe : Nat)
    (ir : List IR) (nbe' : Nat) (h : logMetaBlock e i0 i1 cmds dc nbe = some (ir, nbe')) :
    processCommandQueue e (mkPair i0 i1) cmds dc nbe = some (ir, nbe') := by
  unfold logMetaBlock at h
  split at h
  · split at h
    · cases h
    rename_i ir0 n0 hp
    obtain ⟨q1, q2⟩ := queue_growth_lossless cmds.length ir0
    simp only [q2, q1] at h
    rw [hp]
    simpa using h
  · cases h

/-- the loop state `process_command_queue` starts from -/
def initSt (i0 i1 : Bytes) (nbe : Nat) (dc : List Int) (ls cs ds : Nat) : St :=
  { iter := mkPair i0 i1, mbLen := (mkPair i0 i1).len, nbe := nbe, cache := dc, lc := 0, cc := 0, dc := 0,
    lsub := ls, csub := cs, dsub := ds, out := [IR.bsl 0] }

theorem initSt_pos (i0 i1 : Bytes) (nbe : Nat) (dc : List Int) (ls cs ds : Nat) :
    Pos (i0 ++ i1) (initSt i0 i1 nbe dc ls cs ds) 0 :=
  ⟨mkPair_rep i0 i1, rfl, by
    show 0 + (i0.length + i1.length) = (i0 ++ i1).length
    rw [Nat.zero_add, List.length_append]⟩

/-- For EVERY raw command array `cmds`, block-split description (`e.btl`,
`e.btc`, `e.btd`, consistent or not), split of the meta-block into the two ring-buffer halves `i0 ++ i1`
(wrap position), distance cache, history `h` (custom-dictionary tail ++ all earlier input) with the recoder
position equal to its length:
if `process_command_queue` does not panic and the RFC 7932 decoder accepts the same command array
(`replayCommands … = some r`), then replaying the IR handed to the callback yields exactly `r`
— in particular every IR copy has `1 ≤ distance ≤ bytes produced so far (+ dictionary)` and `≤ window`, and
every dictionary command expands to its `final_size` (otherwise `replayIR` is `none`) —
and the returned `num_bytes_encoded` is the decoder's position `r.length`. -/
theorem recode_preserves_replay (w : WordOracle) (e : Env) (i0 i1 : Bytes) (cmds : List Cmd)
    (dc : List Int) (h : Bytes) (ir : List IR) (nbe' : Nat) (r : Bytes)
    (hE : EnvOK e w (windowSize e.lgwin)) (h32 : (i0 ++ i1).length < 2 ^ 32)
    (hdc : CacheOk dc) (wf : CmdsWF cmds e.dp)
    (hm : processCommandQueue e (mkPair i0 i1) cmds dc h.length = some (ir, nbe'))
    (hd : replayCommands w e.dp.npostfix e.dp.ndirect (windowSize e.lgwin) (i0 ++ i1) dc h cmds = some r) :
    replayIR w (windowSize e.lgwin) (i0 ++ i1) ir h = some r ∧ nbe' = r.length := by
  unfold processCommandQueue at hm
  split at hm
  · rename_i ls cs ds _ _ _
    rw [if_neg (by rw [hdc.1]; exact fun h => h rfl)] at hm
    split at hm
    · cases hm
    rename_i s' hs
    cases hm
    obtain ⟨t', ht, rfl⟩ := Option.map_eq_some_iff.mp hd
    have hsim := stepAll_sim w (windowSize e.lgwin) (i0 ++ i1) h h32 e hE cmds (initSt i0 i1 h.length dc ls cs ds) s' _ t'
      ⟨initSt_pos i0 i1 _ dc ls cs ds, rfl, rfl, fun _ => ⟨rfl, hdc⟩⟩ wf hs ht
    exact ⟨hsim.out, hsim.nbe⟩
  · cases hm

/-- **position bookkeeping for EVERY command array** (no well-formedness, no payload hypothesis, any block
splits, any dictionary oracle): after the loop, `num_bytes_encoded` has advanced by exactly the number of
meta-block bytes consumed (`input.len() − mb_len`), and the input iterator holds exactly the unconsumed rest.
In particular the position never runs ahead of the input, whatever the commands claim. -/
theorem recoder_position_every_array (e : Env) (i0 i1 : Bytes) (cmds : List Cmd) (dc : List Int) (nbe ls cs ds : Nat)
    (s' : St) (h32 : (i0 ++ i1).length < 2 ^ 32)
    (hm : stepAll e (initSt i0 i1 nbe dc ls cs ds) cmds = some s') :
    s'.nbe + s'.mbLen = nbe + (i0 ++ i1).length ∧ s'.iter.len = s'.mbLen ∧ s'.mbLen ≤ (i0 ++ i1).length := by
  obtain ⟨n, p, e1⟩ := stepAll_position (i0 ++ i1) h32 e cmds _ s' 0 (initSt_pos i0 i1 nbe dc ls cs ds) hm
  have hsum := p.sum
  have e2 : s'.nbe = nbe + n := e1
  exact ⟨by omega, p.iterLen, by omega⟩

/-- **the literal-splitting loop terminates**: the fuel the model gives the `while tmp_inserts.len() > btypel_sub`
loop (`inserts.len() + types.len() + 2`) is never the reason for a `none`: any extra fuel leaves the result
unchanged, for every block-split description and every starting counter (meta-block slices are ≤ 2^24 < 2^31 bytes).
So a model `panic` of the literal part always is a Rust panic site, and the Rust loop cannot spin. -/
theorem literal_loop_terminates (e : Env) (s : St) (inserts : Pair) (k : Nat) (h31 : inserts.len ≤ 2 ^ 31) :
    litLoop e.he e.btl (inserts.len + e.btl.types.length + 2 + k) inserts s.lsub s.lc s.mbLen s.out =
    litLoop e.he e.btl (inserts.len + e.btl.types.length + 2) inserts s.lsub s.lc s.mbLen s.out :=
  litLoop_fuel_enough e.he e.btl k _ inserts s.lsub s.lc s.mbLen s.out h31 (by omega)

/-- PAYLOAD HYPOTHESIS (the only unproved link): the RFC decoder, run on the encoder's command array with
the encoder's history, reproduces the meta-block input -/
def PayloadOK (w : WordOracle) (e : Env) (mb : Bytes) (dc : List Int) (h : Bytes) (cmds : List Cmd) : Prop :=
  replayCommands w e.dp.npostfix e.dp.ndirect (windowSize e.lgwin) mb dc h cmds = some (h ++ mb)

/-- Under the payload hypothesis the IR of a meta-block replays to
history ++ input byte for byte, and the recoder position advances by exactly the meta-block length -/
theorem recode_replays_input (w : WordOracle) (e : Env) (i0 i1 : Bytes) (cmds : List Cmd)
    (dc : List Int) (h : Bytes) (ir : List IR) (nbe' : Nat)
    (hE : EnvOK e w (windowSize e.lgwin)) (h32 : (i0 ++ i1).length < 2 ^ 32)
    (hdc : CacheOk dc) (wf : CmdsWF cmds e.dp)
    (hm : logMetaBlock e i0 i1 cmds dc h.length = some (ir, nbe'))
    (hp : PayloadOK w e (i0 ++ i1) dc h cmds) :
    replayIR w (windowSize e.lgwin) (i0 ++ i1) ir h = some (h ++ (i0 ++ i1)) ∧
      nbe' = h.length + (i0 ++ i1).length := by
  obtain ⟨a, b⟩ := recode_preserves_replay w e i0 i1 cmds dc h ir nbe' _ hE h32 hdc wf
    (logMetaBlock_eq e i0 i1 cmds dc h.length ir nbe' hm) hp
  exact ⟨a, by rw [b]; simp⟩

/-- one logged meta-block: the two ring-buffer halves, the raw commands and the saved distance cache -/
structure MbCall where
  i0 : Bytes
  i1 : Bytes
  cmds : List Cmd
  dc : List Int
  env : Env

/-- run the logger over a sequence of meta-blocks, threading `recoder_state.num_bytes_encoded`;
returns the position handed to each call and the final position -/
def runLog : Nat → List MbCall → Option (List Nat × Nat)
  | nbe, [] => some ([], nbe)
  | nbe, m :: ms =>
    match logMetaBlock m.env m.i0 m.i1 m.cmds m.dc nbe with
    | none => none
    | some (_, nbe') => (runLog nbe' ms).map fun (ps, fin) => (nbe :: ps, fin)

def streamPositions : Nat → List MbCall → List Nat
  | _, [] => []
  | p, m :: ms => p :: streamPositions (p + (m.i0 ++ m.i1).length) ms

def SeqOK (w : WordOracle) : Bytes → List MbCall → Prop
  | _, [] => True
  | h, m :: ms =>
    EnvOK m.env w (windowSize m.env.lgwin) ∧ (m.i0 ++ m.i1).length < 2 ^ 32 ∧ CacheOk m.dc ∧ CmdsWF m.cmds m.env.dp ∧
    PayloadOK w m.env (m.i0 ++ m.i1) m.dc h m.cmds ∧ SeqOK w (h ++ (m.i0 ++ m.i1)) ms

/-- Start the recoder at the length of the history the decoder
starts with (`h` = the effective custom-dictionary tail; `set_custom_dictionary` seeds
`num_bytes_encoded = d'`, C10 `enc_book_used`; without a dictionary `h = []`).  Then the
`num_bytes_encoded` handed to EVERY later `LogMetaBlock` call is the decoder's position at that meta-block —
dictionary tail + all earlier input — and the final value is the total. -/
theorem recoder_position_is_stream_position (w : WordOracle) :
    ∀ (ms : List MbCall) (h : Bytes) (ps : List Nat) (fin : Nat), SeqOK w h ms →
      runLog h.length ms = some (ps, fin) →
      ps = streamPositions h.length ms ∧ fin = h.length + (ms.map fun m => (m.i0 ++ m.i1).length).sum := by
  intro ms
  induction ms with
  | nil => intro h ps fin _ hr; simp [runLog] at hr; obtain ⟨rfl, rfl⟩ := hr; simp [streamPositions]
  | cons m ms ih =>
    intro h ps fin hok hr
    obtain ⟨hE, h32, hdc, wf, hp, hrest⟩ := hok
    unfold runLog at hr
    split at hr
    · cases hr
    rename_i ir nbe' hl
    obtain ⟨_, hn⟩ := recode_replays_input w m.env m.i0 m.i1 m.cmds m.dc h ir nbe' hE h32 hdc wf hl hp
    obtain ⟨⟨ps', fin'⟩, hrr, hr⟩ := Option.map_eq_some_iff.mp hr
    cases hr
    rw [hn, ← List.length_append] at hrr
    obtain ⟨a, b⟩ := ih (h ++ (m.i0 ++ m.i1)) _ _ hrest hrr
    exact ⟨by rw [a]; simp [streamPositions], by rw [b]; simp; omega⟩

open BV.Lemmas.PrefixArith in
/-- **the encoder's commands are well formed** — a command whose distance fields were stored by
`Command::init` (`PrefixEncodeCopyDistance`, model `prefixEncodeCopyDistance`; `init_insert` is the case
`dc = 16`) for a distance code `dc < 2^31` satisfies `DistWF` for the same distance parameters.
So `CmdsWF` is a fact about everything `CreateBackwardReferences` /
the Zopfli path produce, as long as the block's distance parameters are the ones the commands were built
with. -/
theorem init_commands_are_wf (p nd dc : Nat) (hp : p ≤ 3) (hnd : nd ≤ 120) (hdc : dc < 2 ^ 31) (c : Cmd)
    (h1 : c.distPrefix = (prefixEncodeCopyDistance dc nd p).packed)
    (h2 : c.distExtra = (prefixEncodeCopyDistance dc nd p).extra32) : DistWF c ⟨p, nd⟩ := by
  have hlt : c.distPrefix < 65536 := by rw [h1]; unfold DistCode.packed; exact Nat.mod_lt _ (by decide)
  refine ⟨hlt, ?_⟩
  intro hlong
  simp only at hlong ⊢
  by_cases hs : dc < 16 + nd
  · exfalso
    have := (BV.Props.C18.dist_direct_exact p nd dc hs).1
    rw [h1, this] at hlong
    simp only [DistCode.packed] at hlong
    have h1' : (0 * 1024 ||| dc) % 65536 % 1024 ≤ dc := by
      simp only [Nat.zero_mul, Nat.zero_or]
      exact Nat.le_trans (Nat.mod_le _ _) (Nat.mod_le _ _)
    omega
  · have hge : 16 + nd ≤ dc := by omega
    obtain ⟨e1, e2, e3, e4, e5⟩ := BV.Props.C18.dist_encode_exact p nd dc hge
    have hnb := BV.Props.C18.dist_nbits_le p nd dc hdc hp
    have hsym := BV.Props.C18.dist_symbol_lt_alphabet p nd dc hge 30 hnb
    generalize prefixEncodeCopyDistance dc nd p = code at *
    have hpw : 2 ^ (p + 1) ≤ 2 ^ 4 := Nat.pow_le_pow_right (by decide) (by omega)
    have hsym' : code.sym < 1024 := by
      have : 30 * 2 ^ (p + 1) ≤ 30 * 16 := by omega
      omega
    have hpk : code.packed = code.nbits * 1024 + code.sym := by
      unfold DistCode.packed
      rw [or_eq_add_of_lt _ _ hsym', Nat.mod_eq_of_lt (by omega)]
    have hpow : 2 ^ code.nbits ≤ 2 ^ 30 := Nat.pow_le_pow_right (by decide) hnb
    have hex : code.extra32 = code.extra := by
      unfold DistCode.extra32
      exact Nat.mod_eq_of_lt (by omega)
    rw [h1, h2, hpk, hex]
    have hm : (code.nbits * 1024 + code.sym) % 1024 = code.sym := by omega
    have hdv : (code.nbits * 1024 + code.sym) / 1024 = code.nbits := by omega
    rw [hm, hdv]
    exact ⟨e1, by omega⟩

section Slices
open BV.Slices BV.Stream

/-- **exactly one slice per input range on every path of `WriteMetaBlockInternal`**: not compressible
(`store_uncompressed_meta_block`, logged), compressed (logged by `store_meta_block*`), and compressed-then-stored-raw
(the fallback passes `suppress_meta_block_logging = true`): the logged list is `[(lf, hi)]` in all of them. -/
theorem one_slice_per_range (lf hi : Nat) (shouldCompress fallback : Bool) (h : lf < hi) :
    wmbLogs lf hi shouldCompress fallback = [(lf, hi)] := wmb_logs_once lf hi shouldCompress fallback h

/-- **one `encode_data` invocation** hands over consecutive non-empty ranges from `last_flush_pos_` before to
`last_flush_pos_` after (catable 2-byte prelude first, then the meta-block). -/
theorem slices_of_one_invocation {o : Oracle} {sc fb : Bool} {s s' : Stream.St} {site : Nat} {il ff : Bool} {req : Req}
    (hI : Inv s) (hq : 2 ≤ s.params.quality) (h : encodeData o s site il ff = .ok (s', true, req)) :
    Chain (loggedSlices o sc fb s site il ff) s.lastFlushPos s'.lastFlushPos := logged_chain hI hq h

/-- **one `compress_stream` call** (PROCESS / FLUSH / FINISH on the general path) extends a history by exactly the
slices the modelled loop logs: the loop of `BV.Stream.slowLoop` is an instance of the interface `Hist`. -/
theorem compress_stream_call_is_history {o : Oracle} {sc fb : Bool} {op : Nat} {c0 : SState} {n total fuel : Nat}
    {s0 s s' : Stream.St} {sl : List Slice} {io io' : Io} {r : Bool}
    (hH : Hist o s0 sl s) (hP : SlowInv op c0 n total s io) (hq : 2 ≤ s.params.quality)
    (h : slowLoop o op fuel s io = .ok (s', io', r)) :
    Hist o s0 (sl ++ slowLoopSlices o sc fb op fuel s io) s' ∧ s'.params.quality = s.params.quality :=
  slowLoop_hist fuel s0 s s' sl io io' r hH hP hq h

/-- Over a whole history the ranges handed to the callback are
consecutive, non-empty, and once `last_flush_pos_ = input_pos_` (after FLUSH / FINISH) they cover exactly the input fed
since the start: nothing twice (also not on the stored fallback), nothing skipped (also not the catable prelude). -/
theorem slices_tile {o : Oracle} {s0 s : Stream.St} {sl : List Slice} (input : Stream.Bytes)
    (h : Hist o s0 sl s) (hflushed : s.lastFlushPos = s.inputPos) :
    Chain sl s0.lastFlushPos s.inputPos ∧
    cover input sl = (input.drop s0.lastFlushPos).take (s.inputPos - s0.lastFlushPos) :=
  BV.Slices.slices_tile input h hflushed

/-- non-vacuity: the catable prelude followed by the rest of a 10-byte input -/
example : Chain [(0, 2), (2, 10)] 0 10 := ⟨rfl, by decide, rfl, by decide, rfl⟩
example : cover [10, 11, 12, 13, 14, 15, 16, 17, 18, 19] [(0, 2), (2, 10)] = [10, 11, 12, 13, 14, 15, 16, 17, 18, 19] := by decide

end Slices

/-- **the `choose_stride` assertion follows from the allocation policy, for every block count**: whatever IR
`process_command_queue` pushes into `StrideEval` (any number of literal block switches, any literals), no score index of
`update_cost_base` is out of range, the three assertions of `choose_stride` hold and all its reads are in bounds; it
chooses one stride per `BlockSwitchLiteral` command. -/
theorem stride_pass_never_panics (ir : List IR) : stridePass ir = some (countBsl ir) := by
  unfold stridePass
  obtain ⟨s, e, h, hn⟩ := StrideSt.pushAll_ok ir StrideSt.new StrideSt.new_ok
  rw [e]
  simp only [s.chooseAsserts_of_ok h, s.chooseReadsOk_of_ok h, Bool.and_self, if_true]
  rw [hn]
  simp [StrideSt.new]

/-- the bound itself: after any IR, `score.len() ≥ 8 · epochs + 8` (what `choose_stride` reads), and `≥ 32` -/
theorem stride_score_bound (ir : List IR) :
    ∃ s, StrideSt.new.pushAll ir = some s ∧ 32 ≤ s.len ∧ s.epoch * 8 + 8 ≤ s.len ∧ s.epoch = countBsl ir := by
  obtain ⟨s, e, h, hn⟩ := StrideSt.pushAll_ok ir StrideSt.new StrideSt.new_ok
  exact ⟨s, e, h.1, h.2, by rw [hn]; simp [StrideSt.new]⟩

/-- `chooseAssertsOld` / `stridePassOld` (BV/Model/Recoder.lean) carry the third assertion of `choose_stride`
(src/enc/stride_eval.rs) in the form `score.len() > (n << 3) + 7 + 8`, which the crate had up to commit 9944f91; the current
form is `score.len() >= (n << 3) + 8` (`chooseAsserts`).  The earlier form demands 8 more slots than the allocation policy
guarantees: it fails exactly when the last epoch's scores end at the end of the array, first at 3, 7, 15, 31 literal blocks. -/
theorem old_choose_stride_assert_too_strict :
    (∀ s : StrideSt, s.Ok → (s.chooseAssertsOld s.epoch = false ↔ s.len < s.epoch * 8 + 16)) ∧
    stridePassOld (List.replicate 3 (IR.bsl 0)) = none ∧ stridePassOld (List.replicate 7 (IR.bsl 0)) = none ∧
    stridePassOld (List.replicate 15 (IR.bsl 0)) = none ∧ stridePassOld (List.replicate 31 (IR.bsl 0)) = none :=
  have ⟨p3, p7, p15, p31, _ok4, _ok2⟩ := old_assert_panics_at_3_7_15_31
  ⟨old_assert_fails_iff, p3, p7, p15, p31⟩

/-- `PriorEval`: every score index of a literal is inside the fixed 8192-entry table and `choose_bitmask` fills an array
of exactly that size. -/
theorem prior_pass_indices_in_bounds (strideByte cmPrior highNibble : Nat) (h1 : strideByte < 256) (h2 : cmPrior < 256)
    (h3 : highNibble < 16) :
    priorUpperIndex strideByte cmPrior < priorScoreLen ∧ priorLowerIndex cmPrior highNibble < priorScoreLen ∧
    priorScoreLen = numMixingValues := by
  unfold priorUpperIndex priorLowerIndex priorScoreLen numMixingValues
  omega

/-! ### non-vacuity: a concrete meta-block that wraps the ring buffer inside its first literal run -/

def noWords : WordOracle := fun _ _ _ => none
def exEnv : Env := { dp := ⟨0, 0⟩, lgwin := 22, hedq := 0, ctxSome := true, btl := Split.nop, btc := Split.nop,
                     btd := Split.nop, expand := fun _ _ => none }
/-- insert 3 + copy 6 at distance 3 (symbol 17, 1 extra bit = 0), then the closing insert-only command (1 byte) -/
def exCmds : List Cmd := [⟨3, 6, 0, 130, 1041⟩, ⟨1, 134217728, 0, 130, 1040⟩]
def exI0 : Bytes := [1, 2]
def exI1 : Bytes := [3, 1, 2, 3, 1, 2, 3, 9]
def exHist : Bytes := [7, 7, 7, 7, 7]       -- e.g. a 5-byte custom dictionary tail

example : processCommandQueue exEnv (mkPair exI0 exI1) exCmds [4, 11, 15, 16] exHist.length =
    some ([IR.bsl 0, IR.lit 0 2 false, IR.lit 2 1 false, IR.copy 3 6, IR.lit 9 1 false], 15) := by decide

example : replayCommands noWords 0 0 (windowSize 22) (exI0 ++ exI1) [4, 11, 15, 16] exHist exCmds =
    some (exHist ++ (exI0 ++ exI1)) := by decide

example : replayIR noWords (windowSize 22) (exI0 ++ exI1)
    [IR.bsl 0, IR.lit 0 2 false, IR.lit 2 1 false, IR.copy 3 6, IR.lit 9 1 false] exHist =
    some (exHist ++ (exI0 ++ exI1)) := by decide

/-- the hypotheses of `recode_preserves_replay` / `recode_replays_input` hold for it -/
example : EnvOK exEnv noWords (windowSize exEnv.lgwin) :=
  ⟨rfl, by decide, ⟨fun _ _ _ _ => rfl, fun _ _ _ _ h => by cases h⟩⟩

example : CmdsWF exCmds exEnv.dp := by
  intro c hc
  simp only [exCmds, List.mem_cons, List.mem_nil_iff, or_false] at hc
  rcases hc with rfl | rfl
  · exact ⟨⟨by decide, fun _ => by decide⟩, by decide⟩
  · exact ⟨⟨by decide, fun _ => by decide⟩, by decide⟩

example : CacheOk [4, 11, 15, 16] := ⟨rfl, by decide⟩

example : PayloadOK noWords exEnv (exI0 ++ exI1) [4, 11, 15, 16] exHist exCmds := by
  unfold PayloadOK; decide

/-- and a copy that the recoder must refuse to call a dictionary word only because the history is counted:
with the recoder position 0 instead of 5 the same array panics: the copy is taken for a static-dictionary word
(`if final_distance > max_distance` in `process_command_queue`, brotli_bit_stream.rs, and the `assert!`s of that branch) — what
`recoder_position_is_stream_position` rules out for runs with a custom dictionary -/
example : processCommandQueue exEnv (mkPair [] [1, 2, 3, 4]) [⟨0, 4, 0, 130, 1041⟩] [4, 11, 15, 16] 0 = none := by decide
example : (processCommandQueue exEnv (mkPair [] [7, 7, 7, 7]) [⟨0, 4, 0, 130, 1041⟩] [4, 11, 15, 16] 5).isSome = true := by
  decide

end BV.Props.C14
