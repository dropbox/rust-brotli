/-
C03Catable — the CATABLE PROMISE of the payload encoder at the command level, for quality 2–9.  (`CatableBody` below is
the name DESIGN.md gives this promise as the assumption of property C03; there is no Lean declaration of that name, and
the theorems of BV/Props/C03.lean, which are about stored and metadata blocks, do not need it.)  The promise: the commands
`CreateBackwardReferences` produces for a member made in catable mode are POSITION INDEPENDENT — the RFC 7932 decoder
replays them to `h' ++ member` behind EVERY foreign history `h'`, from EVERY distance ring, with every window at least as
large as the encoder's and every static dictionary.

Catable parameter set: BV/Model/Catable.lean (tied by `catable setparam` / `catable init` lines of `hasher catable`).
`createBackwardReferences` is BV/Model/Cbr.lean (tied by `hasher cbr` lines, also emitted for the catable runs),
`replayCommands` / `decSteps` the RFC semantics of BV/Model/Recoder.lean (C14), `lockstep` / writers / reader
BV/Model/MetaBlock.lean (C01MetaBlock).

What catable mode changes in encode.rs, and where each item enters:
 1. `use_dictionary = false`      → the hashers get no static dictionary, so they return no dictionary hit: hypothesis
                                     `OpsOK (SlotOK noWords)`, which for the three hasher families is
                                     `basicOps_ok / advOps_ok / h9Ops_ok … dictFaithful_none` (`basic_/adv_/h9_dictionary_off`).
                                     NECESSARY: `dictionary_reference_is_position_dependent`.
 2. `dist_cache_ = 0x7ffffff0 × 16` → the initial ring is related (`RingRel`) to EVERY decoder ring
                                     (`catable_init_ring_free`).  NECESSARY: `default_cache_is_position_dependent`.
 3. positions count from the member start → `max_distance = min(position, window)` never reaches before the member:
                                     this is `hist` = the member's own earlier bytes in the chain theorem.
 4. the first two bytes are stored → at the command level they are just the first two bytes of `hist`; their purpose
                                     (the literal CONTEXT of the first two compressed literals would otherwise be the
                                     previous member's last bytes) concerns the entropy coder, not the commands.

`CatableBody` is thereby a theorem at the command level for quality 2–9, and at the bit level (same bit offset) for
quality 2–3 and for quality 4–9 with the greedy block splitter (`catable_greedy_bits_position_independent`; for another
`MetaBlockSplit` under `MBOK` / `Covers`).  Not covered: quality 10/11 (Zopfli) and 0/1 (fragment compressors: no
distance cache, no dictionary), the chain's own `BlockOK` (ring buffer holds the text), more than one
`CreateBackwardReferences` call per meta-block, NPOSTFIX / NDIRECT ≠ 0, and the WRITER half of re-reading a compressed
meta-block at a different BIT offset (reader half: `compressed_metablock_offset_independent`).
-/
import BV.Lemmas.CatableReplay
import BV.Lemmas.ReplayFaithful
import BV.Lemmas.CbrLen2
import BV.Lemmas.CtxPrefix
import BV.Lemmas.ReadShift
import BV.Props.C01MetaBlockFull
import BV.Props.C01Greedy
import BV.Model.Catable
import BV.Props.C01Chain
import BV.Lemmas.ChainFinal

namespace BV.Props.C03Catable
open BV.Hasher BV.MatchFinder BV.Recoder BV.PrefixArith BV.MetaBlock BV.Cbr BV.Catable BV.Props.C01Chain

/-- pure RFC 7932 fact, no encoder involved: a command array that a decoder WITHOUT static dictionary accepts
is accepted with ANY foreign prefix `h'` in front of the history, any ring that shares the non-poisoned entries (`RingRel`),
any larger window and ANY static dictionary, and outputs `h' ++ out`. -/
theorem replay_position_independent (w' : WordOracle) (np nd window window' : Nat) (hw : window ≤ window')
    (mb hist h' : Bytes) (ra rb : List Int) (cmds : List Cmd) (out : Bytes) (hrel : RingRel window ra rb)
    (h : replayCommands noWords np nd window mb ra hist cmds = some out) :
    replayCommands w' np nd window' mb rb (h' ++ hist) cmds = some (h' ++ out) := by
  unfold replayCommands at h ⊢
  cases hd : decSteps noWords np nd window mb ⟨hist, ra, 0⟩ cmds with
  | none => rw [hd] at h; cases h
  | some sa =>
    rw [hd] at h
    simp only [Option.map_some, Option.some.injEq] at h
    obtain ⟨rb', e, _⟩ := decSteps_indep w' np nd window window' hw mb h' cmds ⟨hist, ra, 0⟩ sa rb hrel hd
    rw [e, ← h]
    rfl

theorem lockstep_position_independent (w' : WordOracle) (np nd window window' : Nat) (hw : window ≤ window')
    (mb hist h' : Bytes) (ra rb : List Int) (cmds : List Cmd) (hrel : RingRel window ra rb)
    (h : lockstep noWords np nd window mb ⟨hist, ra, 0⟩ 0 cmds = true) :
    lockstep w' np nd window' mb ⟨h' ++ hist, rb, 0⟩ 0 cmds = true :=
  lockstep_indep w' np nd window window' hw mb h' cmds ⟨hist, ra, 0⟩ rb 0 hrel h

theorem catableFlags_eq : catableFlags = ⟨true, true, false⟩ := by decide

/-- the placeholder is poisoned for every window the format allows (`2^lgwin − 16`, lgwin ≤ 30) -/
theorem poison_poisoned (window : Nat) (hw : window ≤ 2 ^ 30) : Poisoned window poison := by
  unfold Poisoned poison
  omega

/-- after `ensure_initialized` in catable mode the encoder's distance cache is 16 `i32`s
whose first four entries are related to EVERY four-entry decoder ring: nothing is assumed about what the previous
member left in the decoder's ring. -/
theorem catable_init_ring_free (window : Nat) (hw : window ≤ 2 ^ 30) (rb : List Int) (hl : rb.length = 4) :
    RingRel window ((distCacheAfterInit catableFlags).take 4) rb ∧ CacheI32 (distCacheAfterInit catableFlags) ∧
    4 ≤ (distCacheAfterInit catableFlags).length ∧ savedDistCacheAfterInit catableFlags = (distCacheAfterInit catableFlags).take 4 := by
  have e : distCacheAfterInit catableFlags = List.replicate 16 poison := by decide
  refine ⟨?_, ?_, by rw [e]; decide, by decide⟩
  · rw [e]
    apply RingRel.of_poisoned
    · simp [hl]
    · intro a ha
      have : a = poison := by
        have := List.mem_of_mem_take ha
        exact List.eq_of_mem_replicate this
      rw [this]; exact poison_poisoned window hw
  · rw [e]
    intro x hx
    have : x = poison := List.eq_of_mem_replicate (List.mem_of_mem_take hx)
    rw [this]; unfold poison; omega

/-- one `CreateBackwardReferences` call (quality 2–9 loop, abstract hasher that returns no static-dictionary
hit: `OpsOK (SlotOK noWords)`) over the block `mb` of a member whose earlier bytes are `hist`, from a distance cache whose
first four entries are related to the decoder's ring `ring'`: for EVERY foreign history `h'`, window
`window' ≥ 2^lgwin − 16` and static dictionary `w'` the decoder runs in `lockstep` with the encoder and ends with
`h' ++ hist ++ mb`.  The conjuncts about `ring''` and the RETURNED cache are the hypotheses of the next block. -/
theorem catable_block_position_independent {H : Type} (ops : HasherOps H) (p : Params) (large : Bool)
    (data : ByteArray) (k tail : Nat) (hist mb : Bytes) (lo : Nat)
    (hb : BlockOK p large data k tail hist mb lo) (hops : OpsOK (SlotOK noWords) ops p data k)
    (numBytes position : Nat) (h0 : H) (cache : List Int) (lastInsertLen numLiterals : Nat) (res : Result H)
    (hpos : position = hist.length + lastInsertLen) (hmb : mb.length = lastInsertLen + numBytes)
    (hc : CacheI32 cache) (hcl : 4 ≤ cache.length)
    (h : createBackwardReferences ops p numBytes position h0 cache lastInsertLen numLiterals = some res)
    (h' : Bytes) (ring' : List Int) (hrel : RingRel (maxBackwardLimit p) (cache.take 4) ring')
    (w' : WordOracle) (window' : Nat) (hw : maxBackwardLimit p ≤ window') :
    (∀ c ∈ closeMetaBlock res.cmds res.lastInsertLen, cmdOK (distAlphabetSize large 0 0) 0 0 c = true) ∧
    lockstep w' 0 0 window' mb ⟨h' ++ hist, ring', 0⟩ 0 (closeMetaBlock res.cmds res.lastInsertLen) = true ∧
    ∃ ring'', decSteps w' 0 0 window' mb ⟨h' ++ hist, ring', 0⟩ (closeMetaBlock res.cmds res.lastInsertLen)
        = some ⟨h' ++ (hist ++ mb), ring'', mb.length⟩ ∧
      RingRel (maxBackwardLimit p) (res.cache.take 4) ring'' ∧ CacheI32 res.cache ∧ 4 ≤ res.cache.length := by
  obtain ⟨hok, hlock, _⟩ := commands_lockstep ops p large noWords data k tail hist mb lo hb hops numBytes position h0
    cache lastInsertLen numLiterals res hpos hmb hc hcl h
  obtain ⟨hA, hci, hcl'⟩ := cbr_final_state ops p large noWords data k tail hist mb lo hb hops numBytes position h0 cache
    lastInsertLen numLiterals res hpos hmb hc hcl h
  obtain ⟨ring'', hB, hrel''⟩ := decSteps_indep w' 0 0 (maxBackwardLimit p) window' hw mb h' _ _ _ ring' hrel hA
  refine ⟨hok, ?_, ring'', hB, hrel'', hci, hcl'⟩
  exact lockstep_position_independent w' 0 0 (maxBackwardLimit p) window' hw mb hist h' (cache.take 4) ring' _ hrel hlock

/-- the remaining command hypothesis of the quality ≥ 4 writer theorems
(`full_metablock_roundtrip`: `faithful`, after every command the decoder's output is history ++ a prefix of the block)
holds in the foreign state too -/
theorem catable_block_faithful {H : Type} (ops : HasherOps H) (p : Params) (large : Bool)
    (data : ByteArray) (k tail : Nat) (hist mb : Bytes) (lo : Nat)
    (hb : BlockOK p large data k tail hist mb lo) (hops : OpsOK (SlotOK noWords) ops p data k)
    (numBytes position : Nat) (h0 : H) (cache : List Int) (lastInsertLen numLiterals : Nat) (res : Result H)
    (hpos : position = hist.length + lastInsertLen) (hmb : mb.length = lastInsertLen + numBytes)
    (hc : CacheI32 cache) (hcl : 4 ≤ cache.length)
    (h : createBackwardReferences ops p numBytes position h0 cache lastInsertLen numLiterals = some res)
    (h' : Bytes) (ring' : List Int) (hrel : RingRel (maxBackwardLimit p) (cache.take 4) ring')
    (w' : WordOracle) (window' : Nat) (hw : maxBackwardLimit p ≤ window') :
    faithful w' 0 0 window' mb (h' ++ hist) ⟨h' ++ hist, ring', 0⟩ (closeMetaBlock res.cmds res.lastInsertLen) := by
  obtain ⟨_, _, ring'', hdec, _⟩ := catable_block_position_independent ops p large data k tail hist mb lo hb hops numBytes
    position h0 cache lastInsertLen numLiterals res hpos hmb hc hcl h h' ring' hrel w' window' hw
  rw [← List.append_assoc] at hdec
  exact faithful_of_final w' 0 0 window' mb (h' ++ hist) _ ⟨h' ++ hist, ring', 0⟩ ring'' (by simp) hdec

/-- one meta-block of a member: the `CreateBackwardReferences` call that produced its commands -/
structure Blk (H : Type) where
  ops : HasherOps H
  data : ByteArray
  k : Nat
  tail : Nat
  lo : Nat
  mb : Bytes
  numBytes : Nat
  position : Nat
  h0 : H
  lastInsertLen : Nat
  numLiterals : Nat
  res : Result H

/-- the blocks of a member, threaded as encode.rs threads them -/
def BlocksOK {H : Type} (p : Params) (large : Bool) : Bytes → List Int → List (Blk H) → Prop
  | _, _, [] => True
  | hist, cache, b :: bs =>
    BlockOK p large b.data b.k b.tail hist b.mb b.lo ∧ OpsOK (SlotOK noWords) b.ops p b.data b.k ∧
    b.position = hist.length + b.lastInsertLen ∧ b.mb.length = b.lastInsertLen + b.numBytes ∧
    createBackwardReferences b.ops p b.numBytes b.position b.h0 cache b.lastInsertLen b.numLiterals = some b.res ∧
    BlocksOK p large (hist ++ b.mb) b.res.cache bs

def replayBlocks (w : WordOracle) (window : Nat) : Bytes → List Int → List (Bytes × List Cmd) → Option (Bytes × List Int)
  | out, ring, [] => some (out, ring)
  | out, ring, (mb, cmds) :: rest =>
    match decSteps w 0 0 window mb ⟨out, ring, 0⟩ cmds with
    | none => none
    | some s => if s.cursor = mb.length then replayBlocks w window s.out s.ring rest else none

/-- any number of meta-blocks of one member (each one
`CreateBackwardReferences` call, closed as encode.rs closes it), started from a cache related to the decoder's ring:
behind every foreign history, with every window ≥ the encoder's and every static dictionary, the decoder consumes all
meta-blocks and outputs `h' ++ hist ++ block₁ ++ … ++ blockₙ`. -/
theorem catable_member_position_independent {H : Type} (p : Params) (large : Bool) (w' : WordOracle) (window' : Nat)
    (hw : maxBackwardLimit p ≤ window') (h' : Bytes) :
    ∀ (bs : List (Blk H)) (hist : Bytes) (cache ring' : List Int), BlocksOK p large hist cache bs →
      CacheI32 cache → 4 ≤ cache.length → RingRel (maxBackwardLimit p) (cache.take 4) ring' →
      ∃ ring'', replayBlocks w' window' (h' ++ hist) ring'
          (bs.map fun b => (b.mb, closeMetaBlock b.res.cmds b.res.lastInsertLen))
        = some (h' ++ (hist ++ (bs.map (·.mb)).flatten), ring'') := by
  intro bs
  induction bs with
  | nil => intro hist cache ring' _ _ _ _; exact ⟨ring', by simp [replayBlocks]⟩
  | cons b bs ih =>
    intro hist cache ring' hok hc hcl hrel
    obtain ⟨hb, hops, hpos, hmb, hrun, hrest⟩ := hok
    obtain ⟨_, _, ring1, hdec, hrel1, hc1, hcl1⟩ := catable_block_position_independent b.ops p large b.data b.k b.tail
      hist b.mb b.lo hb hops b.numBytes b.position b.h0 cache b.lastInsertLen b.numLiterals b.res hpos hmb hc hcl hrun
      h' ring' hrel w' window' hw
    obtain ⟨ring2, hrec⟩ := ih (hist ++ b.mb) b.res.cache ring1 hrest hc1 hcl1 hrel1
    refine ⟨ring2, ?_⟩
    simp only [List.map_cons, replayBlocks, hdec, if_true]
    rw [hrec]
    simp [List.append_assoc]

/-- the member as the encoder really starts it in catable mode: distance cache =
`dist_cache_` after `ensure_initialized` with `BROTLI_PARAM_CATABLE = 1` (all 0x7ffffff0), `hist` = the bytes of the
member that precede the first compressed meta-block (the two stored bytes).  NO condition on the decoder's ring
(beyond having four entries) or history: `CatableBody` at the command level. -/
theorem catable_member_from_init {H : Type} (p : Params) (large : Bool) (hwin : maxBackwardLimit p ≤ 2 ^ 30)
    (bs : List (Blk H)) (hist : Bytes) (hok : BlocksOK p large hist (distCacheAfterInit catableFlags) bs)
    (w' : WordOracle) (window' : Nat) (hw : maxBackwardLimit p ≤ window') (h' : Bytes) (ring' : List Int)
    (hl : ring'.length = 4) :
    ∃ ring'', replayBlocks w' window' (h' ++ hist) ring'
        (bs.map fun b => (b.mb, closeMetaBlock b.res.cmds b.res.lastInsertLen))
      = some (h' ++ (hist ++ (bs.map (·.mb)).flatten), ring'') := by
  obtain ⟨hrel, hc, hcl, _⟩ := catable_init_ring_free (maxBackwardLimit p) hwin ring' hl
  exact catable_member_position_independent p large w' window' hw h' bs hist _ ring' hok hc hcl hrel

theorem basic_dictionary_off (P : BasicP) (lbs : Nat) (data : ByteArray) (k : Nat) (hk : k ≤ 32) (p : Params) :
    OpsOK (SlotOK noWords) (basicOps P false lbs (fun _ _ => none) data (2 ^ k - 1)) p data k :=
  basicOps_ok _ P false lbs _ data k hk p (dictFaithful_none noWords data)

theorem adv_dictionary_off (P : AdvP) (hla : 4 ≤ P.lookahead) (numLast lbs : Nat) (data : ByteArray) (k : Nat)
    (hk : k ≤ 32) (p : Params) :
    OpsOK (SlotOK noWords) (advOps P numLast lbs (fun _ _ => none) data (2 ^ k - 1)) p data k :=
  advOps_ok _ P numLast lbs _ data k hk p hla (dictFaithful_none noWords data)

theorem h9_dictionary_off (P : H9P) (lbs : Nat) (data : ByteArray) (k : Nat) (hk : k ≤ 32) (p : Params) :
    OpsOK (SlotOK noWords) (h9Ops P lbs (fun _ _ => none) data (2 ^ k - 1)) p data k :=
  h9Ops_ok _ P lbs _ data k hk p (dictFaithful_none noWords data)

/-- quality 2.  The bits `BrotliStoreMetaBlockFast` emits for the block
(they are computed from the block and its commands only) are read by the RFC 7932 reader, started behind ANY foreign
history with ANY related ring, window ≥ the encoder's and any static dictionary, to exactly `h' ++ hist ++ mb`. -/
theorem catable_fast_bits_position_independent {H : Type} (ops : HasherOps H) (p : Params) (large : Bool)
    (data : ByteArray) (k tail : Nat) (hist mb : Bytes) (lo : Nat)
    (hb : BlockOK p large data k tail hist mb lo) (hops : OpsOK (SlotOK noWords) ops p data k)
    (numBytes position : Nat) (h0 : H) (cache : List Int) (lastInsertLen numLiterals : Nat) (res : Result H)
    (hpos : position = hist.length + lastInsertLen) (hmb : mb.length = lastInsertLen + numBytes)
    (hc : CacheI32 cache) (hcl : 4 ≤ cache.length)
    (h : createBackwardReferences ops p numBytes position h0 cache lastInsertLen numLiterals = some res)
    (ring : Bytes) (start mask : Nat) (isLast : Bool) (w : List Bool)
    (hR : RingHolds ring mask start mb) (h256 : ∀ b ∈ mb, b < 256) (h1 : 1 ≤ mb.length) (hst : start < 2 ^ 64)
    (hIP : inputPairCheck ring start mb.length mask = .ok ()) :
    ∃ bits, storeMetaBlockFast ring start mb.length mask isLast (distAlphabetSize large 0 0)
        (closeMetaBlock res.cmds res.lastInsertLen) w = .ok (w ++ bits) ∧
      ∀ (h' : Bytes) (ring' : List Int) (_ : RingRel (maxBackwardLimit p) (cache.take 4) ring')
        (w' : WordOracle) (window' : Nat) (_ : maxBackwardLimit p ≤ window'),
        ∃ ring'', ∀ rest, readMetaBlockFull w' window' large w.length ⟨h' ++ hist, ring'⟩ (bits ++ rest)
          = some (⟨h' ++ (hist ++ mb), ring''⟩, isLast, (w ++ bits).length, rest) := by
  obtain ⟨bits, e, hq⟩ := bits_of_all_readers
    (P := fun _ ring' _ window' => RingRel (maxBackwardLimit p) (cache.take 4) ring' ∧ maxBackwardLimit p ≤ window')
    (Q := fun h' ring' w' window' bits => ∃ ring'', ∀ rest, readMetaBlockFull w' window' large w.length
      ⟨h' ++ hist, ring'⟩ (bits ++ rest) = some (⟨h' ++ (hist ++ mb), ring''⟩, isLast, (w ++ bits).length, rest))
    (h₀ := []) (w₀ := noWords) ⟨RingRel.refl _ _, Nat.le_refl _⟩
    (fun h' ring' w' window' ⟨hrel, hw⟩ => by
      obtain ⟨hok, hlock, ring2, hdec, _⟩ := catable_block_position_independent ops p large data k tail hist mb lo hb hops
        numBytes position h0 cache lastInsertLen numLiterals res hpos hmb hc hcl h h' ring' hrel w' window' hw
      obtain ⟨bits, out, ring'', e, hrep, hrd, _⟩ := BV.Props.C01MetaBlock.fast_metablock_roundtrip w' window' large ring
        start mask mb isLast _ (h' ++ hist) ring' w hR h256 h1 hb.len hst hIP hok hlock
      rw [replay_out hdec hrep] at hrd
      exact ⟨bits, e, ring'', hrd⟩)
  exact ⟨bits, e, fun h' ring' hrel w' window' hw => hq h' ring' w' window' ⟨hrel, hw⟩⟩

/-- the same for quality 3 (`BrotliStoreMetaBlockTrivial`) -/
theorem catable_trivial_bits_position_independent {H : Type} (ops : HasherOps H) (p : Params) (large : Bool)
    (data : ByteArray) (k tail : Nat) (hist mb : Bytes) (lo : Nat)
    (hb : BlockOK p large data k tail hist mb lo) (hops : OpsOK (SlotOK noWords) ops p data k)
    (numBytes position : Nat) (h0 : H) (cache : List Int) (lastInsertLen numLiterals : Nat) (res : Result H)
    (hpos : position = hist.length + lastInsertLen) (hmb : mb.length = lastInsertLen + numBytes)
    (hc : CacheI32 cache) (hcl : 4 ≤ cache.length)
    (h : createBackwardReferences ops p numBytes position h0 cache lastInsertLen numLiterals = some res)
    (ring : Bytes) (start mask : Nat) (isLast : Bool) (w : List Bool)
    (hR : RingHolds ring mask start mb) (h256 : ∀ b ∈ mb, b < 256) (h1 : 1 ≤ mb.length) (hst : start < 2 ^ 64)
    (hIP : inputPairCheck ring start mb.length mask = .ok ()) :
    ∃ bits, storeMetaBlockTrivial ring start mb.length mask isLast (distAlphabetSize large 0 0)
        (closeMetaBlock res.cmds res.lastInsertLen) w = .ok (w ++ bits) ∧
      ∀ (h' : Bytes) (ring' : List Int) (_ : RingRel (maxBackwardLimit p) (cache.take 4) ring')
        (w' : WordOracle) (window' : Nat) (_ : maxBackwardLimit p ≤ window'),
        ∃ ring'', ∀ rest, readMetaBlockFull w' window' large w.length ⟨h' ++ hist, ring'⟩ (bits ++ rest)
          = some (⟨h' ++ (hist ++ mb), ring''⟩, isLast, (w ++ bits).length, rest) := by
  obtain ⟨bits, e, hq⟩ := bits_of_all_readers
    (P := fun _ ring' _ window' => RingRel (maxBackwardLimit p) (cache.take 4) ring' ∧ maxBackwardLimit p ≤ window')
    (Q := fun h' ring' w' window' bits => ∃ ring'', ∀ rest, readMetaBlockFull w' window' large w.length
      ⟨h' ++ hist, ring'⟩ (bits ++ rest) = some (⟨h' ++ (hist ++ mb), ring''⟩, isLast, (w ++ bits).length, rest))
    (h₀ := []) (w₀ := noWords) ⟨RingRel.refl _ _, Nat.le_refl _⟩
    (fun h' ring' w' window' ⟨hrel, hw⟩ => by
      obtain ⟨hok, hlock, ring2, hdec, _⟩ := catable_block_position_independent ops p large data k tail hist mb lo hb hops
        numBytes position h0 cache lastInsertLen numLiterals res hpos hmb hc hcl h h' ring' hrel w' window' hw
      obtain ⟨bits, out, ring'', e, hrep, hrd, _⟩ := BV.Props.C01MetaBlock.trivial_metablock_roundtrip w' window' large ring
        start mask mb isLast _ (h' ++ hist) ring' w hR h256 h1 hb.len hst hIP hok hlock
      rw [replay_out hdec hrep] at hrd
      exact ⟨bits, e, ring'', hrd⟩)
  exact ⟨bits, e, fun h' ring' hrel w' window' hw => hq h' ring' w' window' ⟨hrel, hw⟩⟩

/-- with the dictionary off every copying command copies at least two bytes (the writers'
hypothesis `hcl2`) -/
theorem catable_copylen2 {H : Type} (ops : HasherOps H) (p : Params) (large : Bool)
    (data : ByteArray) (k tail : Nat) (hist mb : Bytes) (lo : Nat)
    (hb : BlockOK p large data k tail hist mb lo) (hops : OpsOK (SlotOK noWords) ops p data k)
    (numBytes position : Nat) (h0 : H) (cache : List Int) (lastInsertLen numLiterals : Nat) (res : Result H)
    (hpos : position = hist.length + lastInsertLen) (hmb : mb.length = lastInsertLen + numBytes)
    (hc : CacheI32 cache) (hcl : 4 ≤ cache.length)
    (h : createBackwardReferences ops p numBytes position h0 cache lastInsertLen numLiterals = some res) :
    ∀ c ∈ closeMetaBlock res.cmds res.lastInsertLen, copyLen c ≠ 0 → 2 ≤ copyLen c :=
  cbr_copylen2 (C := ⟨noWords, data, k, hist, mb, lo⟩) hops
    (hb.emitHyp noWords)
    numBytes position h0 cache lastInsertLen numLiterals res hpos hmb hb.total hc hcl h

/-- quality 4–9 (`BrotliStoreMetaBlock`, model `storeMetaBlockFull`: block
splits, context maps, literal context modelling).  The block of a catable member whose earlier bytes `hist` are AT LEAST
TWO (the stored prelude: behind it `prev_byte`, `prev_byte2` and every §7.1 context id are the decoder's whatever
precedes the member), searched by `CreateBackwardReferences` with the dictionary off, written with ANY well-formed
`MetaBlockSplit` whose histograms cover the emitted symbols (`MBOK` / `Covers`: for the greedy builder this is
C01Greedy's `greedy_split_wellformed`): the writer does not panic, and the bits it emits are read by the GENERAL RFC 7932
reader, started behind ANY foreign history `h'`, with ANY related ring, window ≥ the encoder's and any static dictionary,
to exactly `h' ++ hist ++ mb`. -/
theorem catable_full_bits_position_independent {H : Type} (ops : HasherOps H) (p : Params) (large : Bool)
    (data : ByteArray) (k tail : Nat) (hist mb : Bytes) (lo : Nat)
    (hb : BlockOK p large data k tail hist mb lo) (hops : OpsOK (SlotOK noWords) ops p data k)
    (numBytes position : Nat) (h0 : H) (cache : List Int) (lastInsertLen numLiterals : Nat) (res : Result H)
    (hpos : position = hist.length + lastInsertLen) (hmb : mb.length = lastInsertLen + numBytes)
    (hc : CacheI32 cache) (hcl : 4 ≤ cache.length)
    (h : createBackwardReferences ops p numBytes position h0 cache lastInsertLen numLiterals = some res)
    (hist2 : 2 ≤ hist.length)
    (ring : Bytes) (start mask prevByte prevByte2 : Nat) (isLast : Bool) (mode : Nat) (mbs : MBSplit) (w : List Bool)
    (hR : RingHolds ring mask start mb) (h256 : ∀ b ∈ mb, b < 256) (hh256 : ∀ b ∈ hist, b < 256)
    (h1 : 1 ≤ mb.length) (h64 : start + mb.length < 2 ^ 64)
    (hIP : inputPairCheck ring start mb.length mask = .ok ())
    (hprev : prevByte = lastB hist ∧ prevByte2 = last2B hist) (hmode : mode < 4)
    (hM : MBOK mbs (distAlphabetSize large 0 0))
    (hcL : Covers mbs.litHistos (effMap mbs.litCmap mbs.litCmapSize mbs.lit.numTypes 64) 64
      (remTypes mbs.lit 0 (mbs.lit.lengths.getD 0 0))
      (litSymsOf mode hist mb 0 (closeMetaBlock res.cmds res.lastInsertLen)))
    (hcI : Covers mbs.cmdHistos (trivialMap mbs.cmd.numTypes 1) 1
      (remTypes mbs.cmd 0 (mbs.cmd.lengths.getD 0 0))
      ((closeMetaBlock res.cmds res.lastInsertLen).map fun c => (0, c.cmdPrefix)))
    (hcD : Covers mbs.distHistos (effMap mbs.distCmap mbs.distCmapSize mbs.dist.numTypes 4) 4
      (remTypes mbs.dist 0 (mbs.dist.lengths.getD 0 0)) (distSymsOf (closeMetaBlock res.cmds res.lastInsertLen))) :
    ∃ bits, storeMetaBlockFull ring start mb.length mask prevByte prevByte2 isLast
        ⟨0, 0, distAlphabetSize large 0 0, large⟩ mode (closeMetaBlock res.cmds res.lastInsertLen) mbs w = .ok (w ++ bits) ∧
      ∀ (h' : Bytes) (_ : ∀ b ∈ h', b < 256) (ring' : List Int) (_ : RingRel (maxBackwardLimit p) (cache.take 4) ring')
        (w' : WordOracle) (window' : Nat) (_ : maxBackwardLimit p ≤ window'),
        ∃ ring'', ∀ rest, readMetaBlockFullG w' window' large w.length ⟨h' ++ hist, ring'⟩ (bits ++ rest)
          = some (⟨h' ++ (hist ++ mb), ring''⟩, isLast, (w ++ bits).length, rest) := by
  have hA544 : distAlphabetSize large 0 0 ≤ 544 := by cases large <;> decide
  have hcl2 := catable_copylen2 ops p large data k tail hist mb lo hb hops numBytes position h0 cache lastInsertLen
    numLiterals res hpos hmb hc hcl h
  obtain ⟨bits, e, hq⟩ := bits_of_all_readers
    (P := fun h' ring' _ window' => (∀ b ∈ h', b < 256) ∧ RingRel (maxBackwardLimit p) (cache.take 4) ring' ∧
      maxBackwardLimit p ≤ window')
    (Q := fun h' ring' w' window' bits => ∃ ring'', ∀ rest, readMetaBlockFullG w' window' large w.length
      ⟨h' ++ hist, ring'⟩ (bits ++ rest) = some (⟨h' ++ (hist ++ mb), ring''⟩, isLast, (w ++ bits).length, rest))
    (h₀ := []) (w₀ := noWords) ⟨fun _ hb' => (by cases hb'), RingRel.refl _ _, Nat.le_refl _⟩
    (fun h' ring' w' window' ⟨hh', hrel, hw⟩ => by
      obtain ⟨hok, hlock, ring2, hdec, _⟩ := catable_block_position_independent ops p large data k tail hist mb lo hb hops
        numBytes position h0 cache lastInsertLen numLiterals res hpos hmb hc hcl h h' ring' hrel w' window' hw
      have hfa := catable_block_faithful ops p large data k tail hist mb lo hb hops numBytes position h0 cache
        lastInsertLen numLiterals res hpos hmb hc hcl h h' ring' hrel w' window' hw
      -- behind two bytes of the member the contexts do not see the foreign history
      obtain ⟨bits, out, ring'', e, hrep, hrd, _⟩ := BV.Props.C01MetaBlockFull.full_metablock_roundtrip w' window' ring
        start mask prevByte prevByte2 mb isLast ⟨0, 0, distAlphabetSize large 0 0, large⟩ mode _ mbs (h' ++ hist) ring' w hR
        h256 (by intro b hb'; rcases List.mem_append.mp hb' with x | x; exact hh' b x; exact hh256 b x) h1 hb.len h64 hIP
        (by rw [lastB_prefix h' hist (by omega), last2B_prefix h' hist hist2]; exact hprev) hmode (by show 0 ≤ 3; decide)
        (by show 0 % 2 ^ 0 = 0; decide) (by show 0 / 2 ^ 0 < 16; decide) rfl hA544 hok hcl2 hlock hfa hM
        (by rw [litSymsOf_prefix mode h' hist mb hist2]; exact hcL) hcI hcD
      rw [replay_out hdec hrep] at hrd
      exact ⟨bits, e, ring'', hrd⟩)
  exact ⟨bits, e, fun h' hh' ring' hrel w' window' hw => hq h' ring' w' window' ⟨hh', hrel, hw⟩⟩

open BV.Greedy in
/-- the quality 4–9 pipeline with NO hypothesis on the `MetaBlockSplit`:
`CreateBackwardReferences` (dictionary off), `BrotliBuildMetaBlockGreedy` (model `BV.Greedy.buildGreedy`, any float oracle
with `OracleOK`, any static context map with `StaticOK`; `greedy_split_wellformed` of C01Greedy), `BrotliStoreMetaBlock`:
neither the builder nor the writer panics, and the emitted bits are read by the general RFC 7932 reader from EVERY
foreign state to `h' ++ hist ++ mb`. -/
theorem catable_greedy_bits_position_independent {H F : Type} (ops : HasherOps H) (fops : FOps F) (hirr : OracleOK fops)
    (p : Params) (large : Bool)
    (data : ByteArray) (k tail : Nat) (hist mb : Bytes) (lo : Nat)
    (hb : BlockOK p large data k tail hist mb lo) (hops : OpsOK (SlotOK noWords) ops p data k)
    (numBytes position : Nat) (h0 : H) (cache : List Int) (lastInsertLen numLiterals : Nat) (res : Result H)
    (hpos : position = hist.length + lastInsertLen) (hmb : mb.length = lastInsertLen + numBytes)
    (hc : CacheI32 cache) (hcl : 4 ≤ cache.length)
    (h : createBackwardReferences ops p numBytes position h0 cache lastInsertLen numLiterals = some res)
    (hist2 : 2 ≤ hist.length)
    (ring : Bytes) (start mask prevByte prevByte2 : Nat) (isLast : Bool) (mode numContexts : Nat) (scm : List Nat)
    (w : List Bool)
    (hR : RingHolds ring mask start mb) (h256 : ∀ b ∈ mb, b < 256) (hh256 : ∀ b ∈ hist, b < 256)
    (h1 : 1 ≤ mb.length) (h64 : start + mb.length < 2 ^ 64)
    (hIP : inputPairCheck ring start mb.length mask = .ok ())
    (hprev : prevByte = lastB hist ∧ prevByte2 = last2B hist) (hmode : mode < 4) (hst : StaticOK numContexts scm)
    (hsz1 : mb.length + 512 ≤ 2 ^ 24) (hsz2 : (closeMetaBlock res.cmds res.lastInsertLen).length + 1024 ≤ 2 ^ 24) :
    ∃ mbs bits,
      buildGreedy fops ring start mask prevByte prevByte2 mode numContexts scm (closeMetaBlock res.cmds res.lastInsertLen)
        = .ok mbs ∧
      storeMetaBlockFull ring start mb.length mask prevByte prevByte2 isLast
        ⟨0, 0, distAlphabetSize large 0 0, large⟩ mode (closeMetaBlock res.cmds res.lastInsertLen) mbs w = .ok (w ++ bits) ∧
      ∀ (h' : Bytes) (_ : ∀ b ∈ h', b < 256) (ring' : List Int) (_ : RingRel (maxBackwardLimit p) (cache.take 4) ring')
        (w' : WordOracle) (window' : Nat) (_ : maxBackwardLimit p ≤ window'),
        ∃ ring'', ∀ rest, readMetaBlockFullG w' window' large w.length ⟨h' ++ hist, ring'⟩ (bits ++ rest)
          = some (⟨h' ++ (hist ++ mb), ring''⟩, isLast, (w ++ bits).length, rest) := by
  have hA544 : distAlphabetSize large 0 0 ≤ 544 := by cases large <;> decide
  have hcl2 := catable_copylen2 ops p large data k tail hist mb lo hb hops numBytes position h0 cache lastInsertLen
    numLiterals res hpos hmb hc hcl h
  obtain ⟨hok, hlockA, _⟩ := catable_block_position_independent ops p large data k tail hist mb lo hb hops numBytes
    position h0 cache lastInsertLen numLiterals res hpos hmb hc hcl h [] (cache.take 4) (RingRel.refl _ _) noWords
    (maxBackwardLimit p) (Nat.le_refl _)
  obtain ⟨mbs, e, hM, hcL, hcI, hcD⟩ := BV.Props.C01Greedy.greedy_split_wellformed fops hirr noWords (maxBackwardLimit p)
    ring start mask prevByte prevByte2 mb ⟨0, 0, distAlphabetSize large 0 0, large⟩ mode numContexts scm _ ([] ++ hist)
    (cache.take 4) hR h256 (by simpa using hh256) h64 (by simpa using hprev) hmode hst hA544 hok hcl2 hlockA hsz1 hsz2
  obtain ⟨bits, e2, hrd⟩ := catable_full_bits_position_independent ops p large data k tail hist mb lo hb hops numBytes
    position h0 cache lastInsertLen numLiterals res hpos hmb hc hcl h hist2 ring start mask prevByte prevByte2 isLast mode mbs
    w hR h256 hh256 h1 h64 hIP hprev hmode hM (by simpa using hcL) hcI hcD
  exact ⟨mbs, bits, e, e2, hrd⟩

/-- READER half of "the concatenator may shift a member's compressed
meta-blocks to any bit offset": bits that begin with the compressed, non-last §9.2 header of a meta-block of `len` bytes
(`headerBits false len`, what `StoreCompressedMetaBlockHeader` writes first) are read at every bit offset `off2` to the
same decoder state, consuming the same number of bits, as at the offset `off` they were written for.  The WRITER half —
that the bits `BrotliStoreMetaBlockFast / Trivial / BrotliStoreMetaBlock` emit begin with that header and do not depend
on what was written before them — holds by construction of the writer models (first statement; every later step
appends) but is internal to the proofs of C01MetaBlock (`fast_core`, `trivial_core`, `full_core` choose such bits) and
not exported; with it, the `catable_*_bits_position_independent` theorems hold at every bit offset. -/
theorem compressed_metablock_offset_independent (w' : WordOracle) (window' : Nat) (large : Bool) (len : Nat)
    (h1 : 1 ≤ len) (h2 : len ≤ 2 ^ 24) (tail : List Bool) (off off2 : Nat) (s s' : RdSt) (rest : List Bool) (n : Nat)
    (h : readMetaBlockFull w' window' large off s (BV.MetaBlock.headerBits false len ++ tail) = some (s', false, off + n, rest)) :
    readMetaBlockFull w' window' large off2 s (BV.MetaBlock.headerBits false len ++ tail) = some (s', false, off2 + n, rest) := by
  have := read_header_prefixed_any_offset w' window' large len h1 h2 tail off off2 s s' rest (off + n) h
  rw [show off + n - off = n by omega] at this
  exact this

/-- with the static dictionary ON the promise fails: a command that is a dictionary reference for the member alone
(distance 8 > max_distance = 2 after two bytes: word 5 of length 4) is an ordinary — and wrong — LZ77 copy as
soon as ten foreign bytes precede the member -/
theorem dictionary_reference_is_position_dependent :
    let w : WordOracle := fun len idx tid => if len = 4 ∧ idx = 5 ∧ tid = 0 then some [116, 105, 109, 101] else none
    let cmds : List Cmd := [⟨2, 4, 3, 130, 2066⟩]
    let mb : Bytes := [1, 2, 116, 105, 109, 101]
    replayCommands w 0 0 1008 mb [poison, poison, poison, poison] [] cmds = some mb ∧
    replayCommands w 0 0 1008 mb [poison, poison, poison, poison] [9, 9, 9, 9, 9, 9, 9, 9, 9, 9] cmds
      ≠ some ([9, 9, 9, 9, 9, 9, 9, 9, 9, 9] ++ mb) := by
  decide

/-- with the default distance cache `[4, 11, 15, 16]` the promise fails: a command using distance symbol 0 ("last
distance" = 4 for the member alone) copies from wherever the previous member's last distance points -/
theorem default_cache_is_position_dependent :
    let cmds : List Cmd := [⟨4, 4, 0, 2, 0⟩]
    let mb : Bytes := [1, 2, 3, 4, 1, 2, 3, 4]
    replayCommands noWords 0 0 1008 mb [4, 11, 15, 16] [] cmds = some mb ∧
    replayCommands noWords 0 0 1008 mb [2, 11, 15, 16] [] cmds ≠ some mb := by
  decide

/-- a hand-made member with a repeat-last-distance command (symbol 0 AFTER the member's own first copy): accepted
without dictionary from the all-poison ring, hence — by `replay_position_independent` — behind a foreign history, from a
foreign ring, with a larger window and an arbitrary dictionary -/
example : replayCommands (fun _ _ _ => some [7]) 0 0 65520 [1, 2, 3, 1, 2, 3, 9, 2, 3] [5, 6, 7, 8] [42, 43]
    [⟨3, 3, 0, 130, 1041⟩, ⟨1, 2, 0, 64, 0⟩] = some ([42, 43] ++ [1, 2, 3, 1, 2, 3, 9, 2, 3]) := by
  have hA : replayCommands noWords 0 0 1008 [1, 2, 3, 1, 2, 3, 9, 2, 3] [poison, poison, poison, poison] []
      [⟨3, 3, 0, 130, 1041⟩, ⟨1, 2, 0, 64, 0⟩] = some [1, 2, 3, 1, 2, 3, 9, 2, 3] := by decide
  have hrel : RingRel 1008 [poison, poison, poison, poison] [5, 6, 7, 8] :=
    RingRel.of_poisoned _ _ _ rfl (by intro a ha; simp at ha; subst ha; exact poison_poisoned 1008 (by decide))
  have := replay_position_independent (fun _ _ _ => some [7]) 0 0 1008 65520 (by decide) _ [] [42, 43] _ [5, 6, 7, 8] _ _
    hrel hA
  simpa using this

/-- the hypotheses of `catable_member_from_init` are met by a concrete one-block member: `BV.Cbr.Example`'s text
searched with the dictionary off from the all-poison cache; the conclusion holds behind the foreign history `[200, 201]`
and the foreign ring `[1, 2, 1, 2]` -/
example : ∃ (b : Blk (Tab × Common)) (ring'' : List Int),
    b.mb = Example.text ∧
    replayBlocks (fun _ _ _ => some [0]) 65520 ([200, 201] ++ []) [1, 2, 1, 2]
      ([b].map fun b => (b.mb, closeMetaBlock b.res.cmds b.res.lastInsertLen))
      = some ([200, 201] ++ ([] ++ Example.text), ring'') := by
  have hb : BlockOK Example.params false Example.data 6 32 [] Example.text 0 :=
    ⟨rfl, rfl, Example.ring_ok, by decide, by decide, by decide, by decide, fun _ => by decide, fun _ => by decide,
      by decide, by decide⟩
  have hrun : (createBackwardReferences (basicOps Example.hasher false 540 (fun _ _ => none) Example.data (2 ^ 6 - 1))
      Example.params 32 0 (Array.replicate 32 0, ⟨0, 0⟩) (distCacheAfterInit catableFlags) 0 0).isSome = true := by
    decide +kernel
  cases hr : createBackwardReferences (basicOps Example.hasher false 540 (fun _ _ => none) Example.data (2 ^ 6 - 1))
      Example.params 32 0 (Array.replicate 32 0, ⟨0, 0⟩) (distCacheAfterInit catableFlags) 0 0 with
  | none => rw [hr] at hrun; cases hrun
  | some res =>
    let b : Blk (Tab × Common) :=
      ⟨basicOps Example.hasher false 540 (fun _ _ => none) Example.data (2 ^ 6 - 1), Example.data, 6, 32, 0, Example.text,
        32, 0, (Array.replicate 32 0, ⟨0, 0⟩), 0, 0, res⟩
    have hok : BlocksOK Example.params false [] (distCacheAfterInit catableFlags) [b] :=
      ⟨hb, basic_dictionary_off Example.hasher 540 Example.data 6 (by decide) Example.params, rfl,
        (by show Example.text.length = 0 + 32; decide), hr, trivial⟩
    obtain ⟨ring'', h⟩ := catable_member_from_init Example.params false (by decide) [b] [] hok (fun _ _ _ => some [0]) 65520
      (by decide) [200, 201] [1, 2, 1, 2] rfl
    exact ⟨b, ring'', rfl, by simpa using h⟩

end BV.Props.C03Catable
