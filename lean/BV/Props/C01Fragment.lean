/-
C01: the quality-1 fragment writer `compress_fragment_two_pass` and the invariants of the quality-0 writer
`compress_fragment_fast`, on the REAL BYTE STORAGE.  Every theorem is about `BV.Fragment.*` (model
`BV/Model/Fragment.lean`, which the correspondence stage `fragment` runs against the real functions); the reader is the
independent RFC 7932 reader of `BV.MetaBlock`.

NOT reached: for every input fragment, `is_last`, table size 2^8..2^17, `ShouldCompress` answers, and start state with
(W1) on a storage of 2·n + 503 bytes, `compressFragmentTwoPass` returns `.ok s'` and `readMetaBlocks` on the bits of `s'`
behind the start decodes history ++ input.  Missing between the theorems below and that statement:
  (a) `CmdCodeOK` — `BuildAndStoreCommandPrefixCode`: the bit patterns computed on the PERMUTED 64-entry depth array
      equal the canonical code of the 704-entry array that is stored (an order-embedding argument over C17
      `canonical`; it is FALSE if command code 0 or 40 is used, see `stepQ1`); a hypothesis, evaluated per run (field `cc=`
      of the driver's output, BV/Drive/Fragment.lean, where the correspondence lines `cc` / `q1` named below are produced too);
  (b) that `createCommands` RETURNS, as a property theorem (`match_loop_returns` and `final_total` are its two parts; the
      whole is the totality half of `createCommands_spec`, BV/Lemmas/FragmentCC.lean);
  (c) the induction over the blocks of `twoPassImpl` (composition by `readMetaBlocks_step`, mechanical);
  (d) the storage bound: the bits written fit in 2·n + 503 bytes (needs a cost bound for the length-limited prefix
      codes); the theorems take the room as a hypothesis, the search stage runs the real code on exactly that storage.
-/
import BV.Lemmas.FragmentQ0
import BV.Lemmas.FragmentReplay

namespace BV.Props.C01Fragment
open BV.Bits BV.Fragment BV.MetaBlock BV.Huffman BV.Recoder

/-- `BrotliWriteBits(n, v)` on a storage with (W1) (`Good`): the stream (the first `storage_ix` bits of the
storage) is extended by the `n` low bits of `v`, LSB first, and (W1) holds again. -/
theorem write_bits_appends (n v : Nat) (s : Sto) (hg : Good s) (hv : v < 2 ^ n) (hn : n ≤ 56)
    (hroom : (s.ix + n) / 8 + 8 ≤ s.bytes.size) :
    ∃ s', BV.Fragment.writeBits n v s = .ok s' ∧ s'.ix = s.ix + n ∧ s'.bytes.size = s.bytes.size ∧
      s'.bits = s.bits ++ bitsOf n v ∧ Good s' := by
  obtain ⟨s', e, w⟩ := Sto.writeBits_ok n v s hg hv hn hroom
  exact ⟨s', e, by rw [w.ix, bitsOf_length], w.size, w.bits, w.good⟩

/-- non-vacuity: 3 bits already written (0b101) in a stale storage, 5 more bits -/
example : Good ⟨#[5, 0xaa, 0xaa, 0xaa, 0xaa, 0xaa, 0xaa, 0xaa, 0xaa, 0xaa], 3⟩ ∧ (19 : Nat) < 2 ^ 5 ∧
    (BV.Fragment.writeBits 5 19 ⟨#[5, 0xaa, 0xaa, 0xaa, 0xaa, 0xaa, 0xaa, 0xaa, 0xaa, 0xaa], 3⟩).bind
      (fun s => .ok (s.bytes.toList, s.ix)) = .ok ([157, 0, 0, 0, 0, 0, 0, 0, 0xaa, 0xaa], 8) := by
  refine ⟨⟨by decide, by decide⟩, by decide, by decide⟩

/-- what goes wrong WITHOUT (W1): a stale bit above the position survives the write
(storage byte 0b1000_0101 at position 3: the stream reads 1 at bit 7 although 0 was written) -/
example : (BV.Fragment.writeBits 5 0 ⟨#[0x85, 0, 0, 0, 0, 0, 0, 0, 0, 0], 3⟩).bind
    (fun s => .ok (s.bits)) = .ok [true, false, true, false, false, false, false, true] := by decide

/-- `RewindBitPosition(new_ix)`: the stream is cut at `new_ix` and (W1) holds at `new_ix`, whatever the storage holds. -/
theorem rewind_restores_w1 (newIx : Nat) (s : Sto) (hsz : s.bytes.size < 1152921504606846976)
    (hin : newIx / 8 < s.bytes.size) (hle : newIx ≤ s.ix) :
    ∃ s', rewindBitPosition newIx s = .ok s' ∧ s'.ix = newIx ∧ s'.bytes.size = s.bytes.size ∧
      Good s' ∧ s'.bits = s.bits.take newIx :=
  rewind_ok newIx s hsz hin hle

/-- non-vacuity, aligned and unaligned: the partial byte loses the bits of the abandoned attempt -/
example : (rewindBitPosition 8 ⟨#[0xff, 0xff, 0xff], 20⟩).bind (fun s => .ok s.bytes.toList) = .ok [0xff, 0, 0xff] ∧
    (rewindBitPosition 11 ⟨#[0xff, 0xff, 0xff], 20⟩).bind (fun s => .ok s.bytes.toList) = .ok [0xff, 7, 0xff] := by
  decide

/-- A block for which `ShouldCompress` said no: `EmitUncompressedMetaBlock` on a storage with (W1) and room
appends `storedBits block ix` (header, zero padding, the bytes) — the bytes behind the position may be stale —
and the RFC reader started at that position decodes exactly `block` behind the history. -/
theorem uncompressed_block_roundtrip (wo : WordOracle) (window : Nat) (block lits cmds : List Nat) (st : RdSt)
    (s : Sto) (h1 : 1 ≤ block.length) (h2 : block.length ≤ 2 ^ 24) (hb : ∀ b ∈ block, b < 256) (hg : Good s)
    (hr : (s.ix + 28) / 8 + 8 + block.length + 1 ≤ s.bytes.size) :
    ∃ s', storeBlock block lits cmds false s = .ok s' ∧ s'.bits = s.bits ++ storedBits block s.ix ∧ Good s' ∧
      ∀ rest, readMetaBlockFull wo window false s.ix st (storedBits block s.ix ++ rest)
        = some (⟨st.out ++ block, st.ring⟩, false, s.ix + (storedBits block s.ix).length, rest) := by
  obtain ⟨s', e, w⟩ := emitUncompressed_ok block s hg h1 h2 hr
  refine ⟨s', ?_, w.bits, w.good, (streamReader wo window false).stored block s.ix st h1 h2 hb⟩
  unfold storeBlock
  rw [if_neg (by simp), e]

/-- The size fallback of `compress_fragment_two_pass` (`storage_ix − initial > 31 + 8·n`): from ANY storage
`s1` the attempt left behind (same buffer, position not before the start `ix0`), rewind + uncompressed emission
produce the stream as it was at `ix0` followed by ONE stored meta-block that decodes to the whole input.
(This is where the rewind mask matters: the partial byte at the start position is cleared of the attempt's bits,
the whole byte if the start is aligned.) -/
theorem fallback_roundtrip (wo : WordOracle) (window : Nat) (input : List Nat) (st : RdSt) (ix0 : Nat) (s1 : Sto)
    (h1 : 1 ≤ input.length) (h2 : input.length ≤ 2 ^ 24) (hb : ∀ b ∈ input, b < 256)
    (hsz : s1.bytes.size < 1152921504606846976) (hle : ix0 ≤ s1.ix)
    (hr : (ix0 + 28) / 8 + 8 + input.length + 1 ≤ s1.bytes.size) :
    ∃ s2 s3, rewindBitPosition ix0 s1 = .ok s2 ∧ emitUncompressedMetaBlock input s2 = .ok s3 ∧
      s3.bits = s1.bits.take ix0 ++ storedBits input ix0 ∧ Good s3 ∧
      ∀ rest, readMetaBlockFull wo window false ix0 st (storedBits input ix0 ++ rest)
        = some (⟨st.out ++ input, st.ring⟩, false, ix0 + (storedBits input ix0).length, rest) := by
  obtain ⟨s2, e2, i2, z2, g2, b2⟩ := rewind_ok ix0 s1 hsz (by omega) hle
  obtain ⟨s3, e3, w3⟩ := emitUncompressed_ok input s2 g2 h1 h2 (by rw [i2, z2]; exact hr)
  rw [i2] at w3
  exact ⟨s2, s3, e2, e3, by rw [w3.bits, b2], w3.good, (streamReader wo window false).stored input ix0 st h1 h2 hb⟩

/-- non-vacuity: a 2-byte input, start at bit 4 behind the stream header 0b0011, the attempt left 0xff
everywhere; the result is header nibble, stored-block header, padding, the two bytes, a cleared byte -/
example : (rewindBitPosition 4 ⟨Array.replicate 40 0xff |>.setIfInBounds 0 0xf3, 77⟩).bind
    (fun s => (emitUncompressedMetaBlock [7, 9] s).bind fun s => .ok ((s.bytes.toList.take 6), s.ix))
      = .ok ([0x83, 0, 0x80, 7, 9, 0], 40) := by decide

/-- The command loop of `StoreCommands`, for every command / literal buffer the RFC replay `replayGo` accepts and
tables that agree with three reader codes on the symbols used (`SymOK`): it returns, re-establishes (W1), and the RFC
command loop `readCommands` on the bits written ends in the state the replay computed, exactly behind them.
`hr` is room for the worst case: 81 bits per command word, 57 per literal. -/
theorem command_loop_simulates_rfc (wo : WordOracle) (window mlen : Nat) (litD litB cmdD cmdB : List Nat)
    (litC cmdC distC : Code) (f : Nat) (cmds lits : List Nat) (done : Nat) (st fin : RdSt) (s : Sto)
    (hrep : replayGo wo window mlen f cmds lits done st = some fin)
    (hlit : ∀ b ∈ lits, SymOK litD litB litC b b)
    (hcmd : ∀ c ∈ cmds, c % 256 < 64 → SymOK cmdD cmdB cmdC (c % 256) (q1Symbol (c % 256)))
    (hdist : ∀ c ∈ cmds, 64 ≤ c % 256 → SymOK cmdD cmdB distC (c % 256) (c % 256 - 64))
    (hg : Good s) (hr : (s.ix + 81 * cmds.length + 57 * lits.length) / 8 + 8 ≤ s.bytes.size) :
    ∃ s' db, storeCmdLoop litD litB cmdD cmdB cmds lits s = .ok s' ∧ s'.bits = s.bits ++ db ∧ Good s' ∧
      ∀ rest f', f ≤ f' →
        readCommands wo window 0 0 litC cmdC distC mlen f' done st (db ++ rest) = some (fin, rest) := by
  obtain ⟨s', db, e, w, r⟩ := storeCmdLoop_sim wo window mlen litD litB cmdD cmdB litC cmdC distC f cmds lits
    done st fin s hrep hlit hcmd hdist hg hr
  exact ⟨s', db, e, w.bits, w.good, r⟩

/-- non-vacuity of the replay hypothesis, on a buffer the REAL `CreateCommands` produced (40 equal bytes:
insert 1, distance 1, copy 39 = 2 + 37 with the implied last distance): the replay ends with the block -/
example : (replayQ1 (fun _ _ _ => none) 262128 40 [1, 80, 1829] [0x99] 0 ⟨[], [4, 11, 15, 16]⟩).map (·.out)
    = some (List.replicate 40 0x99) := by decide +kernel

/-- … and the excluded command codes: an insert of length 0 (code 0) is rejected (see `stepQ1`) -/
example : replayQ1 (fun _ _ _ => none) 262128 3 [1, 0, 80] [7] 0 ⟨[], [4, 11, 15, 16]⟩ = none := by
  decide +kernel

/-- One compressed block of `compress_fragment_two_pass_impl`
(`store_meta_block_header`, 13 zero bits, `StoreCommands`) for EVERY command / literal buffer accepted by
`replayQ1` from the reader state `st` (history, distance ring): the writer returns, (W1) holds again, and the
RFC reader started at the block's first bit reads one non-last compressed meta-block and ends in the state
`fin` the replay computed (`fin.out = history ++ block` is what the per-run replay check compares).
PARTIAL because `CmdCodeOK cmds` is a hypothesis (module header, (a)); `hr` is the room hypothesis ((d)). -/
theorem compressed_block_roundtrip_partial (wo : WordOracle) (window : Nat) (block lits cmds : List Nat)
    (st fin : RdSt) (s : Sto) (h1 : 1 ≤ block.length) (h2 : block.length ≤ 2 ^ 24)
    (hl256 : ∀ b ∈ lits, b < 256) (hll : lits.length ≤ 2 ^ 24)
    (hrep : replayQ1 wo window block.length cmds lits 0 st = some fin)
    (hcc : CmdCodeOK cmds) (hg : Good s)
    (hr : ∀ litD litB cb1 ch cmdD cmdB cb23,
      buildAndStoreHuffmanTreeFast (histo 256 lits) lits.length 8 (List.replicate 256 0) (List.replicate 256 0) []
        = .ok (litD, litB, cb1) →
      cmdHistoQ1 cmds = .ok ch →
      buildAndStoreCommandPrefixCodeQ1 ch (List.replicate 128 0) (List.replicate 128 0) [] = .ok (cmdD, cmdB, cb23) →
      (s.ix + 41 + cb1.length + cb23.length + 81 * cmds.length + 57 * lits.length) / 8 + 8 ≤ s.bytes.size) :
    ∃ s' bits, storeBlock block lits cmds true s = .ok s' ∧ s'.bits = s.bits ++ bits ∧ Good s' ∧
      ∀ rest, readMetaBlockFull wo window false s.ix st (bits ++ rest)
        = some (fin, false, s.ix + bits.length, rest) := by
  obtain ⟨s', bits, e, w, r⟩ := compressed_block_reads wo window block lits cmds st fin s h1 h2 hl256 hll hrep hcc
    hg hr
  exact ⟨s', bits, e, w.bits, w.good, r⟩

/-- `is_last`: the bits 1, 1 and the jump to the byte boundary are the RFC's empty last meta-block -/
theorem final_bits_roundtrip (wo : WordOracle) (window : Nat) (st : RdSt) (s : Sto) (hg : Good s)
    (hr : (s.ix + 2) / 8 + 9 ≤ s.bytes.size) :
    ∃ s', writeLastEmpty s = .ok s' ∧ s'.bits = s.bits ++ emptyLastBits s.ix ∧ s'.ix % 8 = 0 ∧
      ∀ rest, readMetaBlockFull wo window false s.ix st (emptyLastBits s.ix ++ rest)
        = some (st, true, s.ix + (emptyLastBits s.ix).length, rest) := by
  obtain ⟨s', e, i, _, b⟩ := writeLastEmpty_ok s hg hr
  refine ⟨s', e, b, ?_, (streamReader wo window false).emptyLast s.ix st⟩
  rw [i]
  simp only [emptyLastBits, padTo8, List.length_append, List.length_cons, List.length_nil,
    List.length_replicate]
  omega

/-- `BuildAndStoreLiteralPrefixCode` on a block of at least 2^15 bytes (every first block that can be followed
by a merged block: `kFirstBlockSize = 3 << 15`): the histogram handed to the prefix-code builder counts every
byte value at least once.  With C17 (`fast_build_and_store_good`: depth ≠ 0 ↔ count ≠ 0) every byte value
has a code word, so the literals of a merged block — data the code was not built from — are encodable.
(The trial change /verif/seeded/C01-q0-exact-histogram-merged-block, which raises the threshold to 2^17, makes the 98304-byte first block take the exact
branch, for which `exact_literal_histogram_zero` shows the opposite.) -/
theorem sampled_literal_histogram_positive (input : List Nat) (h : 32768 ≤ input.length)
    (h2 : input.length < 2147483648) (v : Nat) (hv : v < 256) :
    (literalHistogram input).1.getD v 0 ≠ 0 :=
  sampled_histogram_positive input h h2 v hv

theorem exact_literal_histogram_zero (input : List Nat) (h : input.length < 32768) (v : Nat) (hv : v < 256)
    (hnot : v ∉ input) : (literalHistogram input).1.getD v 0 = 0 :=
  exact_histogram_zero input h v hv hnot

/-- non-vacuity of the second: "ab", byte value 99 -/
example : (literalHistogram [97, 98]).1.getD 99 0 = 0 ∧ (literalHistogram [97, 98]).1.getD 97 0 = 3 := by
  decide +kernel

/-- The two-pass `CreateCommands` (model `createCommands` = the real hash-table match finder, tied bit-exactly by the
correspondence lines `cc` / `q1`) on a block `[ii, ii + mlen)` of a fragment (`mlen < 2^24`; the real blocks are ≤ 2^17),
from EVERY hash-table state whose entries are earlier positions (`TB table (ii + 1)`: what `GetHashTable`'s zero fill and
the previous blocks of the same fragment leave), for every RFC window ≥ 2^18 − 16 (the writers' `MAX_DISTANCE`;
`lgwin ≥ 18` at quality 0/1): IF the call returns (no slice panic), the RFC 7932 execution `replayQ1` accepts the command /
literal buffers it returns from "hist ++ input before the block" and reproduces exactly the block; no code 0 / 40 is used
(`replayQ1` rejects them); and the table again holds earlier positions, so the statement chains over the blocks of one
fragment. -/
theorem create_commands_replays (wo : WordOracle) (window : Nat) (inp : Array Nat) (hist : List Nat)
    (ring0 : List Int) (ii mlen inputSize tableBits minMatch capLit capCmd : Nat) (table t' : Array Int)
    (lits cmds : List Nat) (hwin : 262128 ≤ window) (hb : ∀ i, inp.getD i 0 < 256)
    (hmm : minMatch = 4 ∨ minMatch = 6) (hsz : ii + mlen ≤ inp.size) (h31 : inp.size < 2147483648)
    (h1 : 1 ≤ mlen) (hml : mlen < 16777216) (htb : TB table (ii + 1))
    (h : createCommands ii mlen inputSize inp table tableBits minMatch capLit capCmd = .ok (t', lits, cmds)) :
    ∃ ring, replayQ1 wo window mlen cmds lits 0 ⟨hist ++ inp.toList.take ii, ring0⟩
        = some ⟨hist ++ inp.toList.take (ii + mlen), ring⟩ ∧ TB t' (ii + mlen + 1) := by
  -- any table size will do for what the call returns: every hash is below 2^32
  obtain ⟨c, g1, m1, m2, ⟨k, ring, hk, _, hrep⟩, hfin⟩ :=
    (createCommands_spec (T := Fragment.two32) (RP.emits (wo := wo) (hist := hist) (ring0 := ring0) hwin hb hmm hsz hml) (by omega)
      hsz h31 h1 (fun _ _ => Nat.mod_lt _ (by decide)) htb ⟨0, ring0, by omega, Or.inl rfl, fun f C L => by simp⟩).1 _ h
  dsimp only at g1 hfin
  subst g1
  refine ⟨ring, ?_, m1⟩
  unfold replayQ1
  rcases hfin with ⟨hne, g2, g3⟩ | ⟨hlast, g3, g2⟩
  · have := hrep 1 [] []
    rw [List.append_nil, List.append_nil, ← g3, ← g2, replayGo, if_pos ⟨rfl, by omega⟩, hne] at this
    exact replayGo_mono wo window mlen _ _ _ _ _ _ _ this (by omega)
  · have := hrep 1 [emitInsertLenQ1 (ii + mlen - c.nextEmit)] ((inp.toList.drop c.nextEmit).take (ii + mlen - c.nextEmit))
    rw [replay_final wo (window := window) (hist := hist) ring 0 m2 hlast (by rw [Array.length_toList]; exact hsz) hml,
      ← g3, ← g2] at this
    exact replayGo_mono wo window mlen _ _ _ _ _ _ _ this (by omega)

/-- non-vacuity: 40 bytes "abcdeabcde…", zeroed table of 256 entries: the call returns insert 5, distance 5,
copy 35 (= 2 + 33 at the last distance), and the zeroed table meets `TB` -/
example : (createCommands 0 40 40 ((List.range 40).map fun i => 97 + i % 5).toArray (Array.replicate 256 0) 8 4 40 40).bind
      (fun r => .ok (r.2.1, r.2.2)) = .ok ([97, 98, 99, 100, 101], [5, 82, 805]) ∧
    TB (Array.replicate 256 0) (0 + 1) := by
  refine ⟨by decide +kernel, ?_⟩
  intro i hi
  rw [Array.size_replicate] at hi
  rw [Array.getD_eq_getD_getElem?, Array.getElem?_replicate, if_pos hi]
  exact ⟨by decide, by decide⟩

/-- `CreateCommands` + one compressed block of the two-pass writer,
WITHOUT the replay hypothesis: the RFC reader decodes the block's bits to history ++ block.
PARTIAL: `CmdCodeOK cmds` ((a) of the module header) and the room `hr` ((d)) remain hypotheses. -/
theorem compressed_block_roundtrip_cc_partial (wo : WordOracle) (window : Nat) (inp : Array Nat) (hist : List Nat)
    (ring0 : List Int) (ii mlen inputSize tableBits minMatch capLit capCmd : Nat) (table t' : Array Int)
    (lits cmds : List Nat) (s : Sto) (hwin : 262128 ≤ window) (hb : ∀ i, inp.getD i 0 < 256)
    (hmm : minMatch = 4 ∨ minMatch = 6) (hsz : ii + mlen ≤ inp.size) (h31 : inp.size < 2147483648)
    (h1 : 1 ≤ mlen) (hml : mlen < 16777216) (htb : TB table (ii + 1))
    (h : createCommands ii mlen inputSize inp table tableBits minMatch capLit capCmd = .ok (t', lits, cmds))
    (hl256 : ∀ b ∈ lits, b < 256) (hll : lits.length ≤ 2 ^ 24)
    (hcc : CmdCodeOK cmds) (hg : Good s)
    (hr : ∀ litD litB cb1 ch cmdD cmdB cb23,
      buildAndStoreHuffmanTreeFast (histo 256 lits) lits.length 8 (List.replicate 256 0) (List.replicate 256 0) []
        = .ok (litD, litB, cb1) →
      cmdHistoQ1 cmds = .ok ch →
      buildAndStoreCommandPrefixCodeQ1 ch (List.replicate 128 0) (List.replicate 128 0) [] = .ok (cmdD, cmdB, cb23) →
      (s.ix + 41 + cb1.length + cb23.length + 81 * cmds.length + 57 * lits.length) / 8 + 8 ≤ s.bytes.size) :
    ∃ s' bits ring, storeBlock ((inp.extract ii (ii + mlen)).toList) lits cmds true s = .ok s' ∧
      s'.bits = s.bits ++ bits ∧ Good s' ∧ TB t' (ii + mlen + 1) ∧
      ∀ rest, readMetaBlockFull wo window false s.ix ⟨hist ++ inp.toList.take ii, ring0⟩ (bits ++ rest)
        = some (⟨hist ++ inp.toList.take (ii + mlen), ring⟩, false, s.ix + bits.length, rest) := by
  obtain ⟨ring, hrep, htb'⟩ := create_commands_replays wo window inp hist ring0 ii mlen inputSize tableBits minMatch
    capLit capCmd table t' lits cmds hwin hb hmm hsz h31 h1 hml htb h
  have hlen : ((inp.extract ii (ii + mlen)).toList).length = mlen := by
    rw [extract_toList, List.length_take, List.length_drop, Array.length_toList]; omega
  obtain ⟨s', bits, e, w, g, r⟩ := compressed_block_roundtrip_partial wo window ((inp.extract ii (ii + mlen)).toList)
    lits cmds ⟨hist ++ inp.toList.take ii, ring0⟩ ⟨hist ++ inp.toList.take (ii + mlen), ring⟩ s
    (by rw [hlen]; exact h1) (by rw [hlen]; have : (2 : Nat) ^ 24 = 16777216 := by decide
                                 omega) hl256 hll (by rw [hlen]; exact hrep) hcc hg hr
  exact ⟨s', bits, ring, e, w, g, htb', r⟩

/-- The `while !goto_emit_remainder` loop of the two-pass `CreateCommands` (model `matchLoop`: candidate search, both
hash-refresh copies, the immediate-match chain) RETURNS under the callers' sizes `Sz`, from every state whose table holds
earlier positions, whose buffers hold at most one word / literal per byte emitted so far and whose `last_distance` is −1 or
at most the position: no `Out.panic` (slice index, buffer capacity, `ip − 3`/`ip − 5` underflow), no `Out.fuel`, and the
buffer bounds are re-established, so the final insert fits (`final_total`).  `Sz.hT` holds of a table of `2^table_bits`
slots (`hash_in_table`). -/
theorem match_loop_returns (inp : Array Nat) (ii mlen inputSize minMatch ipLimit shift T capCmd capLit : Nat)
    (sz : Sz inp ii mlen inputSize minMatch ipLimit shift T capCmd capLit) (f nh : Nat) (c : CC)
    (hts : c.table.size = T) (hnh : nh < T) (htb : TB c.table c.ip) (hne : c.nextEmit < c.ip) (hii : ii ≤ c.nextEmit)
    (hip : c.ip ≤ ii + mlen) (hcm : c.cmds.size ≤ c.nextEmit - ii) (hli : c.lits.size ≤ c.nextEmit - ii)
    (hld : c.lastDist = -1 ∨ (0 < c.lastDist ∧ c.lastDist ≤ (c.ip : Int))) (hf : 1 ≤ f)
    (hmeas : ii + mlen + 1 ≤ c.ip + f) :
    ∃ c', matchLoop inp capCmd capLit shift minMatch (ii + mlen) ipLimit f nh c = .ok c' ∧
      c'.cmds.size ≤ c'.nextEmit - ii ∧ c'.lits.size ≤ c'.nextEmit - ii ∧ ii ≤ c'.nextEmit ∧
      c'.nextEmit ≤ ii + mlen :=
  -- the loop keeps every invariant of the emissions; here none is needed
  have ⟨h4, h6, hroom, hend, h31, hlim, hcc, hcl⟩ := sz.facts
  ((matchLoop_spec (Inv := fun _ _ _ _ => True) ⟨fun _ _ _ _ _ => trivial, fun _ _ _ _ => trivial⟩ ⟨h4, h6⟩ hend h31
    hlim sz.hT f nh c htb hne hii hip hld trivial).2 (by omega)).mono
    fun _ ⟨_, a, b, _, d, e, _⟩ => ⟨by omega, by omega, a, b⟩

theorem hash_in_table (v off len tb : Nat) (htb : tb ≤ 64) : hashAt v off (64 - tb) len < 2 ^ tb := by
  unfold hashAt
  apply Nat.lt_of_le_of_lt (Nat.mod_le _ _)
  rw [Nat.div_lt_iff_lt_mul (Nat.pow_pos (by decide)), ← Nat.pow_add, show tb + (64 - tb) = 64 by omega]
  exact Nat.mod_lt _ (by decide)

end BV.Props.C01Fragment
