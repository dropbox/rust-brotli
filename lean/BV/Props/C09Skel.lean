/-
# C09, the temporaries inside one `encode_data` call: generated allocation skeletons are balanced

`BV.Gen.skelFns` (file `BV/Gen/LedgerSkel.lean`, written by `tools/gen_skel.py` from the CURRENT Rust
sources on every check) holds, per function of the call trees below `BV.Gen.skelRoots`, its allocation
skeleton: control structure (sequence, branch, loop, early return, calls) with only the statements that
allocate, free or move a block.  `BV.Skel.rootOf` inlines the calls (`expand`); `BV.Skel.chk` is a static
checker (abstract interpretation over "this place may hold a block") that accepts a skeleton only if on
EVERY path — any branch choice, any loop count, any early return, any allocation of length 0 —

* no place is overwritten while it may hold a block (`x = allocate(..)` without a preceding free),
* no local goes out of scope while it may hold a block (a `return` before the `free_cell`, a free moved
  into an `if`),
* at the exit of the root nothing is held except under the root's declared out-parameters.

`skeletons_balanced_expanded` runs the checker on every generated root (`skeletons_balanced` is its first
half): a missing free on one path of the Rust code changes the generated value and the evaluation fails; a refactoring that
keeps the balance keeps it true; a function the extractor cannot read becomes `opaque` (listed in
`BV.Gen.skelUnavailable`; for those the run-time check of the `ledger` stage still decides).
The meaning of the checker's verdict is proved once and for all in `BV/Lemmas/AllocSkelChk.lean` (`chk_sound`:
the checker is sound for the path semantics `BV.Skel.run`, for every script); `skeleton_balanced` below puts
the two together.
-/
import BV.Gen.LedgerSkel
import BV.Lemmas.AllocSkelChk
import BV.Lemmas.AllocSkelInv
namespace BV.Props.C09Skel
open BV.Skel BV.Ledger

/-- inlining depth: the call trees are acyclic, and that 16 rounds suffice is checked, not assumed
(`skeletons_expanded`: no call is left) -/
def fuel : Nat := 16

def rootSk (r : String × Nat × List Nat) : Option Sk := rootOf BV.Gen.skelFns fuel r.2.1 r.2.2

/-- a root with the parameters under which places may already hold a block when it is entered:
`((name, index of the function in `skelFns`, atoms of its out-parameters), atoms of its entry parameters)`, the shape
of the generated lists `skelRoots` and `skelRootsIn`.  So `r.1.2.1` is the function, `r.1.2.2` the out-parameters and
`r.2` the entry parameters -/
abbrev RootIn := (String × Nat × List Nat) × List Nat

def rootsIn : List RootIn := BV.Gen.skelRoots.zip BV.Gen.skelRootsIn

def rootOk (r : RootIn) : Bool :=
  match rootSk r.1 with
  | none => true
  | some s => balancedFrom (entryVars r.2 s) r.1.2.2 s

def callFree : Sk → Bool
  | .seq a b => callFree a && callFree b
  | .alt a b => callFree a && callFree b
  | .loop b => callFree b
  | .scope _ b => callFree b
  | .call .. => false
  | _ => true

/-- both tests of one root, so that the kernel expands its skeleton once -/
def rootChecked (r : RootIn) : Bool :=
  match rootSk r.1 with
  | none => true
  | some s => balancedFrom (entryVars r.2 s) r.1.2.2 s && callFree s

theorem skeletons_balanced_expanded : rootsIn.all rootChecked = true := by decide +kernel

/-- **skeletons_balanced**: every allocation skeleton generated from the current tree passes the checker -/
theorem skeletons_balanced : rootsIn.all rootOk = true := by
  refine List.all_eq_true.mpr fun r hr => ?_
  have h := List.all_eq_true.mp skeletons_balanced_expanded r hr
  unfold rootChecked at h
  unfold rootOk
  split at h
  · rfl
  · exact (Bool.and_eq_true _ _ ▸ h).1

/-- **skeleton_balanced**: for every generated root that has a skeleton, on EVERY path (`sc` = any script of
    branch choices, loop counts, zero-length allocations) through the expanded skeleton, started in a state
    where at most the places under the root's entry parameters hold a block (none for the function roots;
    `self.*` for the method roots `StrideEval::update_block_type`, `CommandQueue::push`): no block is lost
    (nothing overwritten, no local leaves its scope holding a block — early returns included), and whatever
    is still held at the exit sits under one of the root's declared out-parameters -/
theorem skeleton_balanced (r : RootIn) (hr : r ∈ rootsIn) (sk : Sk)
    (hsk : rootSk r.1 = some sk) (s : St) (hs : Abs (entryVars r.2 sk) s) (sc : List Nat) :
    (run sk (s, sc)).st.lost = s.lost ∧
    ∀ p ∈ (run sk (s, sc)).st.store, ∃ a, p.1.head? = some a ∧ a ∈ r.1.2.2 := by
  have h := List.all_eq_true.mp skeletons_balanced r hr
  simp only [rootOk, hsk] at h
  exact balancedFrom_sound _ r.1.2.2 sk h s hs sc

/-- from an empty store every block allocated on the path was freed on the path (`hi` is not used: from an
    empty store the entry parameters play no part) -/
theorem skeleton_balanced_closed (r : RootIn) (hr : r ∈ rootsIn) (hi : r.2 = []) (he : r.1.2.2 = [])
    (sk : Sk) (hsk : rootSk r.1 = some sk) (s : St) (hs : s.store = []) (sc : List Nat) :
    (run sk (s, sc)).st.lost = s.lost ∧ (run sk (s, sc)).st.store = [] := by
  have ha : Abs (entryVars r.2 sk) s := by intro p hp; rw [hs] at hp; cases hp
  exact (skeleton_balanced r hr sk hsk s ha sc).imp_right fun h2 => store_nil_of_no_esc (he ▸ h2)

/-! ## The same, read on the alloc / free EVENTS that `run` writes (the format of the counting allocator), through
`SInv`: the judge's live set is exactly "held by tracked places + lost" -/

/-- **skeleton_balanced_events**: for every covered root, on every path, the event log of the run (the old
    log followed by the events of the run) is judged clean — no double free, no free of an unknown or foreign
    block, no identity handed out twice — and its live set has changed by exactly the blocks that tracked
    places hold at the exit minus those they held at the entry: every OTHER block allocated during the run was
    freed during the run, once, through the allocator that produced it -/
theorem skeleton_balanced_events (r : RootIn) (hr : r ∈ rootsIn) (sk : Sk) (hsk : rootSk r.1 = some sk)
    (s : St) (hinv : SInv s) (hs : Abs (entryVars r.2 sk) s) (sc : List Nat) :
    (∃ evs, (run sk (s, sc)).st.log = s.log ++ evs) ∧
    (judge (run sk (s, sc)).st.log).clean = true ∧
    (∀ b, (judge (run sk (s, sc)).st.log).live.count b + s.held.count b =
      (judge s.log).live.count b + (run sk (s, sc)).st.held.count b) ∧
    (∀ p ∈ (run sk (s, sc)).st.store, ∃ a, p.1.head? = some a ∧ a ∈ r.1.2.2) := by
  obtain ⟨h1, h2⟩ := skeleton_balanced r hr sk hsk s hs sc
  have hi' := SInv.run sk s sc hinv
  refine ⟨run_log_prefix sk s sc, (BV.Ledger.clean_iff_bad _).mpr hi'.bad, ?_, h2⟩
  intro b
  rw [hi'.live b, hinv.live b, h1]
  omega

/-- roots without entry- and out-parameters (`WriteMetaBlockInternal`, the three store functions, the two Zopfli
    front ends): the live set of the event log after the run EQUALS the live set before it -/
theorem skeleton_balanced_events_closed (r : RootIn) (hr : r ∈ rootsIn) (hi : r.2 = []) (he : r.1.2.2 = [])
    (sk : Sk) (hsk : rootSk r.1 = some sk) (s : St) (hinv : SInv s) (hs : s.store = []) (sc : List Nat) :
    (judge (run sk (s, sc)).st.log).clean = true ∧
    ∀ b, (judge (run sk (s, sc)).st.log).live.count b = (judge s.log).live.count b := by
  have ha : Abs (entryVars r.2 sk) s := by intro p hp; rw [hs] at hp; cases hp
  obtain ⟨_, hc, hl, _⟩ := skeleton_balanced_events r hr sk hsk s hinv ha sc
  obtain ⟨_, hst⟩ := skeleton_balanced_closed r hr hi he sk hsk s hs sc
  refine ⟨hc, fun b => ?_⟩
  have := hl b
  simp [St.held, hs, hst] at this
  exact this

/-- non-vacuity: the hypotheses are met by a fresh ledger -/
example : SInv ({ m8 := 3 } : St) ∧ ({ m8 := 3 } : St).store = [] := ⟨SInv.init 3, rfl⟩

theorem roots_aligned : BV.Gen.skelRoots.length = BV.Gen.skelRootsIn.length := by decide

theorem skeletons_expanded :
    BV.Gen.skelRoots.all (fun r => match rootSk r with | none => true | some s => callFree s) = true := by
  rw [← List.map_fst_zip (Nat.le_of_eq roots_aligned), List.all_map]
  refine List.all_eq_true.mpr fun r hr => ?_
  have h := List.all_eq_true.mp skeletons_balanced_expanded r hr
  unfold rootChecked at h
  show (match rootSk r.1 with | none => true | some s => callFree s) = true
  split at h
  · rfl
  · exact (Bool.and_eq_true _ _ ▸ h).2

/-! ## The checker is not vacuous -/

/-- `let t = allocate(..); if c { return; } free_cell(t)` — the early return leaks `t` -/
example : balanced (.scope 9 (.seq (.alloc 1 [9, 2]) (.seq (.alt .ret .skip) (.free 1 [9, 2])))) = false := by decide
/-- the free moved inside an `if` -/
example : balanced (.scope 9 (.seq (.alloc 1 [9, 2]) (.alt (.free 1 [9, 2]) .skip))) = false := by decide
/-- re-allocation in a loop without freeing the old block -/
example : balanced (.scope 9 (.seq (.loop (.alloc 1 [9, 2])) (.free 1 [9, 2]))) = false := by decide
/-- the growth idiom `new = allocate; free_cell(replace(&mut old, new))` in a loop, released at the end: accepted -/
example : balanced (.scope 9 (.seq (.loop (.seq (.alloc 1 [9, 3]) (.seq (.free 1 [9, 2]) (.move [9, 3] [9, 2]))))
    (.free 1 [9, 2]))) = true := by decide
/-- a method entered on a live object: the growth idiom is accepted, the plain overwrite `self.score = new`
    (the old block dropped without `free_cell`) is rejected -/
example : balancedFrom [[5, 6]] [5] (.alt (.seq (.alloc 1 [9, 2]) (.seq (.free 1 [5, 6]) (.move [9, 2] [5, 6]))) .skip) = true := by decide
example : balancedFrom [[5, 6]] [5] (.alt (.seq (.alloc 1 [9, 2]) (.move [9, 2] [5, 6])) .skip) = false := by decide
/-- a callee that fills an out-parameter and a caller that forgets one of two fields -/
example : balanced (expand [.seq (.alloc 1 [5, 6]) (.alloc 2 [5, 7])] 2
    (.scope 1000000 (.seq (.call 0 0 [(5, [1000000, 8])]) (.free 1 [1000000, 8, 6])))) = false := by decide
example : balanced (expand [.seq (.alloc 1 [5, 6]) (.alloc 2 [5, 7])] 2
    (.scope 1000000 (.seq (.call 0 0 [(5, [1000000, 8])]) (.seq (.free 1 [1000000, 8, 6]) (.free 2 [1000000, 8, 7]))))) = true := by decide

/-- the test that tells a generated skeleton from an empty one; no statement of this file is about it -/
def hasAlloc : Sk → Bool
  | .seq a b => hasAlloc a || hasAlloc b
  | .alt a b => hasAlloc a || hasAlloc b
  | .loop b => hasAlloc b
  | .scope _ b => hasAlloc b
  | .alloc .. => true
  | _ => false

end BV.Props.C09Skel
