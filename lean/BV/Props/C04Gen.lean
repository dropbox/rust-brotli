/-
C04 (and C15/C08, which share the header model), translator tie: the operation lists GENERATED from
the current Rust text of `BrotliStoreSyncMetaBlock` and `BrotliWriteEmptyLastMetaBlock`
(tools/rs2lean.py -> BV/Gen/FnC04.lean), run on any bit writer, do exactly what the hand-written
header model does.
-/
import BV.Gen.FnC04
import BV.Lemmas.RsWriter

namespace BV.Props.C04Gen
open BV.Gen.FnC04 BV.Rs BV.Header BV.Bits BV.Bits.Out

theorem store_sync_meta_block_generated (w : Writer) :
    runOps BrotliStoreSyncMetaBlock w = storeSyncMetaBlock w := by
  unfold BrotliStoreSyncMetaBlock storeSyncMetaBlock
  simp only [List.nil_append, List.cons_append, runOps_bits,
    BV.Gen.lits_StoreSyncMetaBlock, lit, List.getD_cons_zero, List.getD_cons_succ]
  rfl

theorem write_empty_last_meta_block_generated (w : Writer) :
    runOps BrotliWriteEmptyLastMetaBlock w = writeEmptyLastMetaBlock w := by
  unfold BrotliWriteEmptyLastMetaBlock writeEmptyLastMetaBlock
  simp only [List.nil_append, List.cons_append, runOps_bits,
    BV.Gen.lits_WriteEmptyLastMetaBlock, lit, List.getD_cons_zero, List.getD_cons_succ]
  rfl

example : BrotliStoreSyncMetaBlock = [WOp.bits 6 6, WOp.align] := by decide

end BV.Props.C04Gen
