/-
C02 composed with C08Run: the "fits" hypothesis of `part_of_stream_model` discharged from
`BV.Props.C08Run.stream_total_le_bound_run` (the job's FINISH call followed by `take_output(0)` is a
never-flushed history), with `LogGuard` — what C08 `guard_holds` proves of `WriteMetaBlockInternal` — as the only
hypothesis about the payload encoder.

`_partial`.  FULL STATEMENT: for every fresh-encoder job at quality ≥ 2 whose payload pieces obey `LogGuard`,
`compress_part = Ok(complete stream)`.  PROVED under three extra hypotheses:
 (1) `hfin`/`hrun`: the call followed by `take_output(0)` leaves the encoder FINISHED.  Missing: the case in which
     the call returns early because the job buffer is full while input is still unconsumed; excluding it needs a
     drain-to-finish liveness lemma over `run` (C05's schedule independence), which no module states;
 (2) `hpos`: `input_pos_` after the job is the piece length (the `stream` stage compares `ip` on every call);
 (3) `hmax`: C08's model of `BrotliEncoderMaxCompressedSize` (BV/Model/Stored.lean) is at most C02's
     (BV/Model/Multi.lean) at this length: two models of the same Rust function, each tied by its own
     correspondence lines; proved below 2^14 bytes (`max_models_agree_small`), kernel-checked at sample lengths above.
The theorem ends at `compress_part = Ok(stream)`.  It is not connected to `multi_succeeds_when_sized(_c08)`, which
assume `MemberOK` (C03's side) and the per-job size bounds (`JobStream`, Lemmas/MultiBound) as hypotheses of their
own; quality ≥ 2 jobs with a dictionary prefix are outside the stream model (C02Part's scope), and at quality 0/1 the
bound is false for small windows.
-/
import BV.Props.C02Part
import BV.Props.C08Run

namespace BV.Props.C02Run
open BV.Multi BV.Multi.Res BV.Lemmas.Multi BV.Stream BV.StreamJob BV.Props.C02Part

/-- see the file header; the conclusion holds whatever further answers (`rest`) the encoder might have given -/
theorem part_succeeds_when_stream_fits_run_partial (i t n : Nat) (hi : i < t) (ht64 : t < U64) (hnt : n * t < U64)
    {o : Oracle} {fuel : Nat} {piece : Bytes} {s0 s2 : St} {tr : Trace}
    (hlen : piece.length = bnd t n (i + 1) - bnd t n i)
    (hf : IsFresh s0) (hh : s0.params.sizeHint < 2 ^ 35) (hn : piece.length < 2 ^ 54)
    (hrun : run o fuel [.stream 2 piece (maxCompressedSize piece.length), .take 0] s0 {} = .ok (s2, tr))
    (hq : s2.q01 = false) (hfin : isFinished s2 = true) (hpos : s2.inputPos = piece.length)
    (hmax : BV.Stored.maxCompressedSize piece.length ≤ maxCompressedSize piece.length) :
    ∃ (s' : St) (io' : Io) (r : Bool) (log : List Ev),
      compressStream o fuel s0 2 piece (maxCompressedSize piece.length) = .ok (s', io', r) ∧
      deliveredBits tr s2 = logBits o log ∧ logReqs log = tr.reqs ∧
      (LogGuard o 0 ⟨0, 0, 0, 0⟩ log →
        ∀ rest, compressPart i t n (observed piece.length s' io' r :: rest) = .ok io'.out) := by
  have hw : piece.length < two64 := by
    have : (2 : Nat) ^ 54 < two64 := by decide
    omega
  simp only [run, runCall] at hrun
  cases hc : compressStream o fuel s0 2 piece (maxCompressedSize piece.length) with
  | panic => rw [hc] at hrun; simp at hrun
  | fuel => rw [hc] at hrun; simp at hrun
  | ok v =>
    obtain ⟨s', io', r⟩ := v
    rw [hc] at hrun
    simp only at hrun
    cases ht : takeOutput s' 0 with
    | panic => rw [ht] at hrun; simp at hrun
    | fuel => rw [ht] at hrun; simp at hrun
    | ok w =>
      obtain ⟨s2', out2⟩ := w
      rw [ht] at hrun
      injection hrun with hrun
      injection hrun with hs2 htr
      subst hs2
      have hcs : CallState s0 piece.length := Or.inl ⟨hf, hw⟩
      have hI' : Inv s' := ((BV.Props.C20.stream_refines_contract_fresh (by decide) hf hw hc).2
        (finish_call_contract' hcs hc).1).1
      obtain ⟨_, hpend, _, _⟩ := takeOutput_spec hI' ht
      have hp2 : s2'.pending = [] := List.eq_nil_of_length_eq_zero (isFinished_iff.mp hfin).2
      have hrun' : run o fuel [.stream 2 piece (maxCompressedSize piece.length), .take 0] s0 {} = .ok (s2', tr) := by
        simp only [run, runCall, hc, ht, htr]
      have hnf : NeverFlushed [Call.stream 2 piece (maxCompressedSize piece.length), Call.take 0] :=
        ⟨Or.inr rfl, trivial⟩
      have hhl : histLen [Call.stream 2 piece (maxCompressedSize piece.length), Call.take 0] < two64 := by
        show piece.length + (0 + 0) < two64
        omega
      have hn' : s2'.inputPos < 2 ^ 54 := by rw [hpos]; exact hn
      obtain ⟨log, hb, hr, hG⟩ := BV.Props.C08Run.stream_total_le_bound_run
        (calls := [Call.stream 2 piece (maxCompressedSize piece.length), Call.take 0]) hf hh hnf hhl hrun' hq hfin hn'
      refine ⟨s', io', r, log, rfl, hb, hr, ?_⟩
      intro hLG rest
      have hle := hG hLG
      rw [hpos] at hle
      have hdel : tr.delivered.length = io'.out.length + out2.length := by
        rw [← htr]; simp [Trace.afterStream]
      have hpl : s'.pending.length = out2.length := by rw [hpend, hp2, List.append_nil]
      have hfit : io'.out.length + s'.pending.length ≤ maxCompressedSize piece.length := by omega
      rw [part_of_stream_model i t n hi ht64 hnt hlen hcs hc rest, if_pos hfit]

/-- the two models of `BrotliEncoderMaxCompressedSize` (C08's literal-driven one, C02's) agree below
2^14 bytes (closed forms of both sides); for longer pieces the inequality is the hypothesis `hmax` -/
theorem max_models_agree_small (n : Nat) (hn : n < 2 ^ 14) :
    BV.Stored.maxCompressedSize n ≤ maxCompressedSize n := by
  rw [BV.Stored.max_closed n (by omega)]
  by_cases h0 : n = 0
  · subst h0; simp [maxCompressedSize_zero]
  · have := maxCompressedSize_ge n (by omega) (by omega)
    rw [if_neg h0, if_pos hn]
    omega

example : BV.Stored.maxCompressedSize 100000 = maxCompressedSize 100000 ∧
    BV.Stored.maxCompressedSize 16384 = maxCompressedSize 16384 ∧
    BV.Stored.maxCompressedSize (2 ^ 30 + 7) = maxCompressedSize (2 ^ 30 + 7) := by decide

end BV.Props.C02Run
