/-
C18, translator tie (second file): the Lean definitions GENERATED from the current Rust text in by-value struct mode
(tools/rs2lean.py -> BV/Gen/FnC18v.lean; `Command` and `BrotliDistanceParams` are Lean structures) equal the hand-written
model `BV.PrefixArith` on the format's ranges.  `Command::distance_index_and_offset` of the same generated file is tied
to its model BV/Model/Recoder.lean in `BV.Props.C14Gen`.
Imports `BV.Props.C18`: `get_length_code`, `GetBlockLengthPrefixCode` and `StoreCommandExtra` are tied through that property's exactness theorems
(`ins_code_exact`, `copy_code_exact`, `block_len_exact`).
-/
import BV.Gen.FnC18v
import BV.Props.C18Gen
import BV.Props.C18
import BV.Lemmas.RsLoops

namespace BV.Props.C18vGen
open BV.Gen BV.PrefixArith BV.Rs BV.Lemmas.PrefixArith

/-! the five functions that FnC18 (flattened mode) also holds: same Rust text, same Lean term -/
theorem log2_same : FnC18v.Log2FloorNonZero = FnC18.Log2FloorNonZero := rfl
theorem ins_same : FnC18v.GetInsertLengthCode = FnC18.GetInsertLengthCode := rfl
theorem copy_same : FnC18v.GetCopyLengthCode = FnC18.GetCopyLengthCode := rfl
theorem combine_same : FnC18v.combine_length_codes = FnC18.combine_length_codes := rfl
theorem pecd_same : FnC18v.PrefixEncodeCopyDistance = FnC18.PrefixEncodeCopyDistance := rfl

theorem get_length_code_generated (insertlen copylen : Nat) (u : Bool) (code : Nat)
    (hi : insertlen < 22594 + 2 ^ 24) (hc2 : 2 ≤ copylen) (hc : copylen < 2118 + 2 ^ 24) :
    FnC18v.get_length_code insertlen copylen u code = getLengthCode insertlen copylen u := by
  unfold FnC18v.get_length_code getLengthCode
  rw [ins_same, copy_same, combine_same]
  rw [BV.Props.C18Gen.get_insert_length_code_generated insertlen (by omega),
    BV.Props.C18Gen.get_copy_length_code_generated copylen hc2 (by omega)]
  have h1 := (BV.Props.C18.ins_code_exact insertlen hi).1
  have h2 := (BV.Props.C18.copy_code_exact copylen hc2 hc).1
  exact BV.Props.C18Gen.combine_length_codes_generated ⟨_, h1⟩ ⟨_, h2⟩ u

/-- body of the generated `while code < 25 && len >= table[code + 1].offset` loop -/
def blBody (len : Nat) : Nat → Ctl Nat Empty :=
  fun code =>
    if ((decide (code < (BV.Rs.toU 32 (BV.Rs.wrapS 32 ((26 : Int) - (1 : Int)))))) && (decide (len ≥ (List.getD BV.Gen.kBlockLengthPrefixCode ((code + 1) % 4294967296) default).1))) then
      let code : Nat := ((code + 1) % 4294967296)
      BV.Rs.Ctl.next code
    else
      BV.Rs.Ctl.brk code

theorem bl_loop (len : Nat) : ∀ (fuel code : Nat), code ≤ 25 →
    whileLoop fuel code (blBody len) = blockLenWalk len fuel code := by
  have e25 : BV.Rs.toU 32 (BV.Rs.wrapS 32 ((26 : Int) - (1 : Int))) = 25 := by decide
  intro fuel
  induction fuel with
  | zero => intro code _; rfl
  | succ f ih =>
    intro code hc
    rw [whileLoop_succ]
    unfold blockLenWalk
    simp only [blBody, e25, Nat.mod_eq_of_lt (show code + 1 < 4294967296 by omega), Bool.and_eq_true, decide_eq_true_eq,
      show (default : Nat × Nat) = (0, 0) from rfl]
    by_cases h : code < 25 ∧ len ≥ (kBlockLengthPrefixCode.getD (code + 1) (0, 0)).1
    · rw [if_pos h, if_pos h]
      exact ih (code + 1) (by omega)
    · rw [if_neg h, if_neg h]

theorem start_code (len : Nat) :
    BV.Rs.toU 32 (if (decide (len ≥ 177)) then ( (if (decide (len ≥ 753)) then ( (20 : Int)) else ( (14 : Int)))) else ( (if (decide (len ≥ 41)) then ( (7 : Int)) else ( (0 : Int)))))
      = (if len ≥ 177 then (if len ≥ 753 then 20 else 14) else if len ≥ 41 then 7 else 0) := by
  by_cases h1 : len ≥ 177 <;> by_cases h2 : len ≥ 753 <;> by_cases h3 : len ≥ 41 <;> simp [h1, h2, h3] <;> decide

theorem block_length_prefix_code_generated (len : Nat) :
    FnC18v.BlockLengthPrefixCode len = blockLengthPrefixCode len := by
  unfold blockLengthPrefixCode
  show whileLoop 26 _ (blBody len) = _
  rw [start_code, bl_loop]
  split <;> (try split) <;> omega

theorem get_block_length_prefix_code_generated (len a b c : Nat) (h1 : 1 ≤ len) (h2 : len ≤ 2 ^ 24) :
    FnC18v.GetBlockLengthPrefixCode len a b c = getBlockLengthPrefixCode len := by
  unfold FnC18v.GetBlockLengthPrefixCode getBlockLengthPrefixCode
  rw [block_length_prefix_code_generated]
  obtain ⟨_, hb, _⟩ := BV.Props.C18.block_len_exact len h1 h2
  unfold blOff at hb
  have h24 : (2 : Nat) ^ 24 = 16777216 := by decide
  rw [h24] at h2
  have e : (len + 4294967296 - (kBlockLengthPrefixCode.getD (blockLengthPrefixCode len) (0, 0)).1) % 4294967296
      = len - (kBlockLengthPrefixCode.getD (blockLengthPrefixCode len) (0, 0)).1 := by omega
  show (_, _, (len + 4294967296 - (kBlockLengthPrefixCode.getD (blockLengthPrefixCode len) (0, 0)).1) % 4294967296) = _
  rw [e]
  rfl

/-- the `i8` delta of `copy_len_code`, all 128 values of the 7-bit modifier -/
theorem delta_fin : ∀ m : Fin 128,
    BV.Rs.wrapS 8 ((((m.val ||| (((m.val &&& 64) <<< (1 % 32)) % 4294967296)) % 256) : Nat) : Int)
      = (if (m.val ||| ((m.val &&& 0x40) <<< 1)) % 256 < 128 then (((m.val ||| ((m.val &&& 0x40) <<< 1)) % 256 : Nat) : Int)
         else (((m.val ||| ((m.val &&& 0x40) <<< 1)) % 256 : Nat) : Int) - 256) := by
  decide +kernel

theorem clc_pos (len m8 : Nat) (hlen : len < 33554432) (h8 : m8 < 128) :
    toU 32 (wrapS 32 (wrapS 32 ((len : Nat) : Int) + ((m8 : Nat) : Int))) = (len + m8) % 4294967296 := by
  rw [toU_wrapS (Nat.le_refl _), toU_add, toU_wrapS (Nat.le_refl _), toU_natCast, toU_natCast]
  show (len % 4294967296 + m8 % 4294967296) % 4294967296 = _
  rw [← Nat.add_mod]

theorem clc_neg (len m8 : Nat) (hlen : len < 33554432) (h8 : 128 ≤ m8) (h9 : m8 < 256) :
    toU 32 (wrapS 32 (wrapS 32 ((len : Nat) : Int) + (((m8 : Nat) : Int) - 256))) = (len + 4294967296 - (256 - m8)) % 4294967296 := by
  rw [toU_wrapS (Nat.le_refl _), toU_add, toU_wrapS (Nat.le_refl _), toU_sub, toU_natCast, toU_natCast]
  show (len % 4294967296 + (m8 % 4294967296 + 4294967296 - 256) % 4294967296) % 4294967296 = _
  omega

theorem copy_len_code_generated (c : FnC18v.Command) (h : c.copy_len_ < 2 ^ 32) :
    FnC18v.copy_len_code c = copyLenCode c.copy_len_ := by
  rw [two_pow_32] at h
  unfold FnC18v.copy_len_code copyLenCode
  have hm : c.copy_len_ >>> (25 % 32) < 128 := by
    show c.copy_len_ >>> 25 < 128
    rw [Nat.shiftRight_eq_div_pow]
    have : (2:Nat) ^ 25 = 33554432 := by decide
    rw [this]; omega
  have hd := delta_fin ⟨c.copy_len_ >>> (25 % 32), hm⟩
  simp only [] at hd
  dsimp only
  rw [hd]
  have e25 : c.copy_len_ >>> (25 % 32) = c.copy_len_ >>> 25 := rfl
  rw [e25]
  have hl : c.copy_len_ &&& 33554431 = c.copy_len_ % 33554432 := Nat.and_two_pow_sub_one_eq_mod _ 25
  rw [hl, two_pow_32]
  have hm8 : (c.copy_len_ >>> 25 ||| (c.copy_len_ >>> 25 &&& 0x40) <<< 1) % 256 < 256 := Nat.mod_lt _ (by decide)
  generalize (c.copy_len_ >>> 25 ||| (c.copy_len_ >>> 25 &&& 0x40) <<< 1) % 256 = m8 at hm8
  have hlen : c.copy_len_ % 33554432 < 33554432 := Nat.mod_lt _ (by decide)
  generalize c.copy_len_ % 33554432 = len at hlen
  clear hd hm e25 hl h
  by_cases h8 : m8 < 128
  · simp only [h8, if_true]
    exact clc_pos len m8 hlen h8
  · simp only [h8, if_false]
    exact clc_neg len m8 hlen (by omega) hm8

/-- the `i8` difference `copylen_code - copylen` as the `u8` stored in bits 25.. of `copy_len_` -/
theorem delta8_generated (cl clc : Nat) (h1 : cl < 33554432) (h2 : clc < 33554432) :
    toU 8 (wrapS 8 (wrapS 32 ((wrapS 32 ((clc : Nat) : Int)) - (wrapS 32 ((cl : Nat) : Int))))) = (clc + 256 - cl % 256) % 256 := by
  rw [toU_wrapS (Nat.le_refl _), toU_wrapS (by decide), toU_sub, toU_wrapS (by decide), toU_wrapS (by decide), toU_natCast,
    toU_natCast]
  show (clc % 256 + 256 - cl % 256) % 256 = _
  omega

/-- `Command::init` (and `Command::new`) -/
theorem init_generated (self_ : FnC18v.Command) (dist : FnC18v.BrotliDistanceParams) (il cl clc dc : Nat)
    (hp : dist.distance_postfix_bits ≤ 3) (hnd : dist.num_direct_distance_codes ≤ 120) (hdc : dc < 2 ^ 62)
    (hil : il < 22594 + 2 ^ 24) (hcl : cl < 2 ^ 25) (hclc2 : 2 ≤ clc) (hclc : clc < 2118 + 2 ^ 24) :
    FnC18v.init self_ dist il cl clc dc =
      { insert_len_ := il % 4294967296,
        copy_len_ := packCopyLen cl clc,
        dist_extra_ := (prefixEncodeCopyDistance dc dist.num_direct_distance_codes dist.distance_postfix_bits).extra32,
        cmd_prefix_ := getLengthCode il clc
          (((prefixEncodeCopyDistance dc dist.num_direct_distance_codes dist.distance_postfix_bits).packed &&& 1023) == 0),
        dist_prefix_ := (prefixEncodeCopyDistance dc dist.num_direct_distance_codes dist.distance_postfix_bits).packed } := by
  have h25 : (2 : Nat) ^ 25 = 33554432 := by decide
  have h24 : (2 : Nat) ^ 24 = 16777216 := by decide
  rw [h25] at hcl
  rw [h24] at hclc
  unfold FnC18v.init
  simp only [pecd_same, BV.Props.C18Gen.prefix_encode_copy_distance_generated dc _ _ _ _ hp hnd hdc,
    get_length_code_generated il clc _ _ hil hclc2 (by omega), delta8_generated cl clc hcl (by omega)]
  have e : cl % 4294967296 = cl := Nat.mod_eq_of_lt (by omega)
  have epack : (cl ||| (((clc + 256 - cl % 256) % 256) <<< (25 % 32)) % 4294967296) = packCopyLen cl clc := by
    unfold packCopyLen
    have hx : ((clc + 256 - cl % 256) % 256) <<< (25 % 32) % 4294967296 < 4294967296 := Nat.mod_lt _ (by decide)
    have hor : cl ||| (((clc + 256 - cl % 256) % 256) <<< (25 % 32)) % 4294967296 < 2 ^ 32 :=
      Nat.or_lt_two_pow (by omega) (by omega)
    show _ = (cl ||| (((clc + 256 - cl % 256) % 256) <<< 25) % 2 ^ 32) % 2 ^ 32
    rw [Nat.mod_eq_of_lt hor]
  rw [e, epack]

theorem command_new_generated (dist : FnC18v.BrotliDistanceParams) (il cl clc dc : Nat)
    (hp : dist.distance_postfix_bits ≤ 3) (hnd : dist.num_direct_distance_codes ≤ 120) (hdc : dc < 2 ^ 62)
    (hil : il < 22594 + 2 ^ 24) (hcl : cl < 2 ^ 25) (hclc2 : 2 ≤ clc) (hclc : clc < 2118 + 2 ^ 24) :
    FnC18v.Command_new dist il cl clc dc =
      { insert_len_ := il % 4294967296,
        copy_len_ := packCopyLen cl clc,
        dist_extra_ := (prefixEncodeCopyDistance dc dist.num_direct_distance_codes dist.distance_postfix_bits).extra32,
        cmd_prefix_ := getLengthCode il clc
          (((prefixEncodeCopyDistance dc dist.num_direct_distance_codes dist.distance_postfix_bits).packed &&& 1023) == 0),
        dist_prefix_ := (prefixEncodeCopyDistance dc dist.num_direct_distance_codes dist.distance_postfix_bits).packed } := by
  unfold FnC18v.Command_new
  exact init_generated _ dist il cl clc dc hp hnd hdc hil hcl hclc2 hclc

/-- `Command::init_insert`: an insert-only command (copy length 4 in the code, 0 stored; distance symbol 16 with 1 extra bit) -/
theorem init_insert_generated (self_ : FnC18v.Command) (il : Nat) (hil : il < 22594 + 2 ^ 24) :
    FnC18v.init_insert self_ il =
      { insert_len_ := il % 4294967296, copy_len_ := 134217728, dist_extra_ := 0,
        cmd_prefix_ := getLengthCode il 4 false, dist_prefix_ := 1040 } := by
  unfold FnC18v.init_insert
  simp only [get_length_code_generated il 4 false _ hil (by decide) (by decide)]
  have e1 : BV.Rs.toU 32 (BV.Rs.wrapS 32 ((4 : Int) * (2 : Int) ^ (25 % 32))) = 134217728 := by decide
  have e2 : (((1 <<< (10 % 16)) % 65536) ||| (16 % 65536)) = 1040 := by decide
  rw [e1, e2]

theorem extra_le_24 : ∀ i : Fin 24, kInsExtra.getD i.val 0 ≤ 24 ∧ kCopyExtra.getD i.val 0 ≤ 24 := by decide

theorem store_command_extra_generated (cmd : FnC18v.Command) (h32 : cmd.copy_len_ < 2 ^ 32)
    (hil : cmd.insert_len_ < 22594 + 2 ^ 24) (hc2 : 2 ≤ copyLenCode cmd.copy_len_) (hc : copyLenCode cmd.copy_len_ < 2118 + 2 ^ 24) :
    FnC18v.StoreCommandExtra cmd =
      [WOp.bits (storeCommandExtra cmd.insert_len_ cmd.copy_len_).1 (storeCommandExtra cmd.insert_len_ cmd.copy_len_).2] := by
  unfold FnC18v.StoreCommandExtra storeCommandExtra
  simp only [copy_len_code_generated cmd h32, ins_same, copy_same, FnC18v.GetInsertExtra, FnC18v.GetInsertBase,
    FnC18v.GetCopyBase, FnC18v.GetCopyExtra, List.nil_append]
  rw [BV.Props.C18Gen.get_insert_length_code_generated _ (by omega),
    BV.Props.C18Gen.get_copy_length_code_generated _ hc2 (by omega)]
  obtain ⟨i1, i2, i3⟩ := BV.Props.C18.ins_code_exact _ hil
  obtain ⟨c1, c2, c3⟩ := BV.Props.C18.copy_code_exact _ hc2 hc
  have b1 := (extra_le_24 ⟨_, i1⟩).1
  have b2 := (extra_le_24 ⟨_, c1⟩).2
  simp only [] at b1 b2
  generalize kInsExtra.getD (getInsertLengthCode cmd.insert_len_) 0 = ie at *
  generalize kCopyExtra.getD (getCopyLengthCode (copyLenCode cmd.copy_len_)) 0 = ce at *
  generalize kInsBase.getD (getInsertLengthCode cmd.insert_len_) 0 = ib at *
  generalize kCopyBase.getD (getCopyLengthCode (copyLenCode cmd.copy_len_)) 0 = cb at *
  generalize copyLenCode cmd.copy_len_ = clc at *
  generalize cmd.insert_len_ = il at *
  have h24 : (2 : Nat) ^ 24 = 16777216 := by decide
  rw [h24] at hil hc
  have e1 : (il + 4294967296 - ib) % 4294967296 = il - ib := wsub_of_le (by omega) (by omega)
  have e2 : (clc + 4294967296 - cb) % 4294967296 = clc - cb := wsub_of_le (by omega) (by omega)
  have e3 : (ie + ce) % 4294967296 % 256 = ie + ce := by omega
  have e4 : ie % 64 = ie := by omega
  have hlt : clc - cb < 2 ^ ce := by omega
  have hpow : 2 ^ ce * 2 ^ ie ≤ 2 ^ 24 * 2 ^ 24 := Nat.mul_le_mul (Nat.pow_le_pow_right (by decide) b2) (Nat.pow_le_pow_right (by decide) b1)
  have e5 : ((clc - cb) <<< ie) % 18446744073709551616 = (clc - cb) <<< ie := by
    apply Nat.mod_eq_of_lt
    rw [Nat.shiftLeft_eq]
    have : (clc - cb) * 2 ^ ie < 2 ^ ce * 2 ^ ie := Nat.mul_lt_mul_of_pos_right hlt (Nat.pow_pos (by decide))
    have : (2 : Nat) ^ 24 * 2 ^ 24 = 281474976710656 := by decide
    omega
  rw [e1, e2, e3, e4, e5]

example : FnC18v.copy_len_code { (default : FnC18v.Command) with copy_len_ := packCopyLen 10 9 } = 9 := by decide +kernel
example : (FnC18v.Command_new ⟨0, 0, 0, 0⟩ 3 10 9 1000).dist_prefix_ = 8 * 1024 + 31 := by decide +kernel
example : FnC18v.GetBlockLengthPrefixCode 1000 0 0 0 = (20, 9, 247) := by decide +kernel
example : FnC18v.StoreCommandExtra (FnC18v.Command_new ⟨0, 0, 0, 0⟩ 300 20 20 1000) = [WOp.bits 9 (2 <<< 7 ||| 106)] := by decide +kernel

end BV.Props.C18vGen
