/-
C15 — Header declares the requested window; magic header states mode and size hint.

Model: `BV/Model/Header.lean` (mirrors `SanitizeParams`, `ComputeLgBlock`,
`EncodeWindowBits`, `ensure_initialized`, `update_size_hint`, `encode_base_128`,
`BrotliWriteMetadataMetaBlock`, the head of `encode_data` and the quality-0/1
dispatch of `compress_stream`; literals regenerated from the Rust source).
Specification side: `BV/Lemmas/HeaderSpec.lean` (RFC 7932 §9.1 / §9.2 readers,
large-window extension, base-128 reader, `clampWindow`, `modeByte`) — written
independently of the model.

All theorems hold for EVERY raw parameter value (quality, lgwin any integer,
any flag combination, any `u64` size hint) and every input; nothing is sampled.
-/
import BV.Lemmas.Header
import BV.Lemmas.HeaderBits
import BV.Lemmas.HeaderMagic
import BV.Lemmas.HeaderStart
import BV.Model.Stored

namespace BV.Props.C15
open BV.Bits BV.Bits.Out BV.Header BV.HeaderSpec

/-- `wbits_roundtrip`: for every window 10‥30 in the large form and 10‥24 in the
normal form, the RFC reader applied to the bits of `EncodeWindowBits` (followed
by anything) returns the window and the form and consumes exactly those bits;
the bit count is 1 / 4 / 7 / 14 by form; and the 16-bit `last_bytes_` carries
nothing above those bits. -/
theorem wbits_roundtrip (lgwin : Int) (lw : Bool) (h1 : 10 ≤ lgwin) (h2 : lgwin ≤ 30)
    (h3 : lw = false → lgwin ≤ 24) (rest : List Bool) :
    readWbits (bitsOf (encodeWindowBits lgwin lw).2 (encodeWindowBits lgwin lw).1 ++ rest)
        = some (lgwin.toNat, lw, rest) ∧
    (encodeWindowBits lgwin lw).2 = (if lw then 14 else if lgwin.toNat = 16 then 1 else if 18 ≤ lgwin.toNat then 4 else 7) ∧
    (encodeWindowBits lgwin lw).1 / 2 ^ (encodeWindowBits lgwin lw).2 = 0 := by
  obtain ⟨w, rfl⟩ : ∃ w : Nat, lgwin = (w : Int) := ⟨lgwin.toNat, by omega⟩
  have g1 : 10 ≤ w := by omega
  have g2 : w ≤ 30 := by omega
  refine ⟨?_, ?_, ?_⟩
  · cases lw
    · simpa using wbits_roundtrip_small w g1 (by have := h3 rfl; omega) rest
    · simpa using wbits_roundtrip_large w g1 g2 rest
  · rw [wbits_count w g1 g2 lw]; simp
  · exact wbits_high_zero w g1 g2 lw (by intro h; have := h3 h; omega)

/-- non-vacuity: all four forms occur -/
example : (encodeWindowBits 16 false).2 = 1 ∧ (encodeWindowBits 22 false).2 = 4 ∧
    (encodeWindowBits 12 false).2 = 7 ∧ (encodeWindowBits 28 true).2 = 14 := by decide

/-- `declared_window`: for every raw quality and lgwin (any integers), every flag
combination and size hint: the bits pending after `ensure_initialized` — which
every stream begins with (`stream_begins_with_window`) — read back, under the
RFC reader, as the window `clamp(lgwin, 10, large ? 30 : 24)`, raised to 18 at
quality ≤ 1, in the form that was requested. -/
theorem declared_window (p : Params) (rest : List Bool) :
    readWbits (pendingWriter (ensureInitialized true p) ++ rest)
      = some ((clampWindow p.quality p.lgwin p.largeWindow).toNat, p.largeWindow, rest) := by
  rw [pending_eq]
  obtain ⟨h1, h2, h3⟩ := clampWindow_range p.quality p.lgwin p.largeWindow
  exact (wbits_roundtrip _ _ h1 h2 h3 rest).1

theorem stream_begins_with_window (p : Params) (input : List Nat) (st : Start)
    (h : streamStart true p input = ok st) :
    ∃ tail, readWbits st.bits
      = some ((clampWindow p.quality p.lgwin p.largeWindow).toNat, p.largeWindow, tail) := by
  obtain ⟨t, ht⟩ := (streamStart_post p input st h).1
  exact ⟨t, by rw [ht]; exact declared_window p t⟩

/-- non-vacuity: a concrete stream start, its declared window is 18 although 12 was requested (quality 1) -/
def exampleQ1 : Params where
  quality := 1
  lgwin := 12
  lgblock := 0
  largeWindow := false
  catable := false
  appendable := false
  useDictionary := true
  magicNumber := false
  sizeHint := 0

example : ∃ st, streamStart true exampleQ1 [97, 98] = ok st ∧ (readWbits st.bits).map (·.1) = some 18 :=
  ⟨_, rfl, by decide⟩

/-- the one-shot call (`encoder_compress`, no `large_window` argument): it asks for
large windows exactly when `lgwin > 24`, so its streams declare
`clamp(lgwin, 10, lgwin > 24 ? 30 : 24)` (18 at least for quality ≤ 1) in the
large form iff `lgwin > 24` — in particular the normal form for `lgwin = 24`. -/
theorem oneshot_declared_window (quality lgwin : Int) (n : Nat) (rest : List Bool) :
    readWbits (pendingWriter (ensureInitialized true (BV.Stored.oneshotParams quality lgwin n)) ++ rest)
      = some ((clampWindow quality lgwin (decide (lgwin > 24))).toNat, decide (lgwin > 24), rest) := by
  rw [declared_window]
  have hq : clampWindow (BV.Stored.oneshotParams quality lgwin n).quality lgwin (decide (lgwin > 24))
      = clampWindow quality lgwin (decide (lgwin > 24)) := by
    simp only [BV.Stored.oneshotParams, lit, BV.Gen.lits_encoder_compress, List.getD_cons_zero,
      List.getD_cons_succ, clampWindow]
    split <;> simp <;> omega
  show some ((clampWindow (BV.Stored.oneshotParams quality lgwin n).quality lgwin (decide (lgwin > 24))).toNat,
    decide (lgwin > 24), rest) = _
  rw [hq]

example : (BV.Stored.oneshotParams 5 24 3).largeWindow = false ∧ (BV.Stored.oneshotParams 5 25 3).largeWindow = true := by
  decide

/-- `large_header_iff_requested`: the 14-bit large-window form is used exactly when
`large_window` was requested (whatever lgwin) -/
theorem large_header_iff_requested (p : Params) :
    ((ensureInitialized true p).lastBytesBits = 14 ↔ p.largeWindow = true) ∧
    (∀ rest, (readWbits (pendingWriter (ensureInitialized true p) ++ rest)).map (·.2.1) = some p.largeWindow) := by
  constructor
  · obtain ⟨h1, h2, h3⟩ := clampWindow_range p.quality p.lgwin p.largeWindow
    have hb : (ensureInitialized true p).lastBytesBits
        = (encodeWindowBits (clampWindow p.quality p.lgwin p.largeWindow) p.largeWindow).2 := by
      have := header_lgwin p
      have hl := init_params_large p
      simp only [ensureInitialized] at *
      rw [this, hl]
    rw [hb, (wbits_roundtrip _ _ h1 h2 h3 []).2.1]
    cases p.largeWindow <;> simp
    split <;> try split
    all_goals omega
  · intro rest; rw [declared_window]; rfl

/-- `window_used_le_declared`: the window the match finders work with
(`params.lgwin` after sanitising: it bounds `max_backward_limit = 2^lgwin − 16`
everywhere) never exceeds the declared one; they are equal from quality 2 on; and
the ring buffer holds at least twice that window. -/
theorem window_used_le_declared (p : Params) :
    (ensureInitialized true p).params.lgwin ≤ clampWindow p.quality p.lgwin p.largeWindow ∧
    (2 ≤ p.quality → (ensureInitialized true p).params.lgwin = clampWindow p.quality p.lgwin p.largeWindow) ∧
    (ensureInitialized true p).params.lgwin + 1 ≤ computeRbBits (ensureInitialized true p).params := by
  rw [init_params_lgwin, sanitize_lgwin]
  refine ⟨?_, ?_, ?_⟩
  · simp only [clampWindow]; cases p.largeWindow <;> simp <;> omega
  · intro hq; simp only [clampWindow]; cases p.largeWindow <;> simp <;> omega
  · simp only [computeRbBits, lit, BV.Gen.lits_ComputeRbBits, List.getD_cons_zero]
    have : (ensureInitialized true p).params.lgwin = max 10 (min (if p.largeWindow then 30 else 24) p.lgwin) := by
      rw [init_params_lgwin, sanitize_lgwin]
    rw [this]
    omega

/-- `base128_roundtrip`: for every `u64` value, `encode_base_128` yields 1‥10
bytes (each `< 256`) that the base-128 reader decodes to the value, leaving
whatever follows untouched. -/
theorem base128_roundtrip (v : Nat) (hv : v < 2 ^ 64) (rest : List Nat) :
    decodeBase128 (encodeBase128 v ++ rest) = some (v, rest) ∧
    1 ≤ (encodeBase128 v).length ∧ (encodeBase128 v).length ≤ 10 ∧ ∀ b ∈ encodeBase128 v, b < 256 :=
  encodeBase128_spec v hv rest

example : encodeBase128 300 = [0xac, 0x02] ∧ (encodeBase128 (2 ^ 64 - 1)).length = 10 := by decide

/-- the size hint the magic block states: the caller's, or — when that is 0 — the
amount of input seen at the first encoder call, capped at 2^30 -/
theorem effective_hint (p : Params) (n : Nat) (hn : n < 2 ^ 64) :
    (effectiveParams p n).sizeHint = if p.sizeHint = 0 then min n (2 ^ 30) else p.sizeHint := by
  have hs : (ensureInitialized true p).params.sizeHint = p.sizeHint := rfl
  simp only [effectiveParams, hs, updateSizeHint, lit, litsUsh, BV.Gen.lits_update_size_hint,
    List.getD_cons_zero, List.getD_cons_succ]
  split
  · simp only [Nat.add_zero, Nat.mod_eq_of_lt hn]
    split
    · omega
    · have : n < 2 ^ 32 := by omega
      rw [Nat.mod_eq_of_lt this]; omega
  · rfl

/-- the payload the model writes is the specified one: magic bytes with the mode
byte of the *requested* flags (catable implies appendable), the crate VERSION,
the base-128 size hint -/
theorem magic_payload_spec (p : Params) (n : Nat) :
    magicPayload (effectiveParams p n)
      = [0xe1, 0x97, modeByte p.catable p.appendable p.useDictionary, BV.Gen.BROTLI_CRATE_VERSION]
        ++ encodeBase128 (effectiveParams p n).sizeHint := by
  have e2 : (effectiveParams p n).catable = p.catable := rfl
  have e3 : (effectiveParams p n).appendable = (p.appendable || p.catable) :=
    congrArg Params.appendable (sanitizeParams_eq true p)
  have e4 : (effectiveParams p n).useDictionary = p.useDictionary := rfl
  simp only [magicPayload, magicNumber_eq, e2, e3, e4, modeByte]
  cases p.catable <;> cases p.appendable <;> cases p.useDictionary <;> rfl

/-- `magic_block_exact`: with `magic_number` on (any other parameters, any input),
the stream is: window bits ‖ metadata meta-block header with MSKIPLEN = 4 + k ‖
zero padding to the byte boundary ‖ `e1 97 8x` (mode table) ‖ VERSION ‖
base-128 size hint (k bytes) ‖ rest.  Under the RFC readers: the window is read
first, then a *metadata* meta-block (no content) whose payload is exactly those
4 + k bytes, ending on a byte boundary; the base-128 reader recovers the size hint. -/
theorem magic_block_exact (p : Params) (input : List Nat) (st : Start)
    (hh : p.sizeHint < 2 ^ 64) (hn : input.length < 2 ^ 64) (hm : p.magicNumber = true)
    (h : streamStart true p input = ok st) :
    ∃ (r1 tail : List Bool) (pos' : Nat),
      readWbits st.bits = some ((clampWindow p.quality p.lgwin p.largeWindow).toNat, p.largeWindow, r1) ∧
      readMetaBlock (ensureInitialized true p).lastBytesBits r1
        = some (MetaBlock.metadata
            ([0xe1, 0x97, modeByte p.catable p.appendable p.useDictionary, BV.Gen.BROTLI_CRATE_VERSION]
              ++ encodeBase128 (if p.sizeHint = 0 then min input.length (2 ^ 30) else p.sizeHint)),
            pos', tail) ∧
      pos' % 8 = 0 ∧
      decodeBase128 (encodeBase128 (if p.sizeHint = 0 then min input.length (2 ^ 30) else p.sizeHint))
        = some (if p.sizeHint = 0 then min input.length (2 ^ 30) else p.sizeHint, []) ∧
      (encodeBase128 (if p.sizeHint = 0 then min input.length (2 ^ 30) else p.sizeHint)).length ≤ 10 := by
  have hhint := effective_sizeHint_lt p input.length hh
  obtain ⟨t, ht⟩ := (streamStart_post p input st h).2.2 ((sanitized_magic p).trans hm) hhint
  have hb := encodeBase128_spec (effectiveParams p input.length).sizeHint hhint []
  have heff := effective_hint p input.length hn
  have hlen : (pendingWriter (ensureInitialized true p)).length = (ensureInitialized true p).lastBytesBits := by
    simp [pendingWriter]
  rw [jump_eq] at ht
  have h14 : (pendingWriter (ensureInitialized true p) ++
      magicHeaderBits (encodeBase128 (effectiveParams p input.length).sizeHint).length).length
      = (ensureInitialized true p).lastBytesBits + 14 := by
    simp [magicHeaderBits, hlen]
  rw [h14] at ht
  have hr := readMeta_magic (effectiveParams p input.length) (pendingWriter (ensureInitialized true p)) t hhint
  rw [hlen, magic_payload_spec] at hr
  simp only [List.append_assoc] at hr ht
  rw [magic_payload_spec] at ht
  rw [heff] at hr ht hb
  refine ⟨_, t, _, ?_, hr, ?_, by simpa using hb.1, hb.2.2.1⟩
  · rw [ht]
    exact declared_window p _
  · simp only [List.length_append, List.length_cons, List.length_nil]
    omega

/-- without `magic_number` the model writes no magic block (the first meta-block
belongs to the payload / prelude) -/
theorem no_magic_unless_requested (p : Params) (input : List Nat) (st : Start)
    (hm : p.magicNumber = false) (h : streamStart true p input = ok st) : st.magic = false :=
  (streamStart_post p input st h).2.1.trans ((sanitized_magic p).trans hm)

/-- non-vacuity of `magic_block_exact`: a concrete catable stream with the magic block -/
def exampleMagic : Params where
  quality := 5
  lgwin := 22
  lgblock := 0
  largeWindow := true
  catable := true
  appendable := false
  useDictionary := false
  magicNumber := true
  sizeHint := 0

set_option maxRecDepth 4096 in
example : ∃ st, streamStart true exampleMagic [97, 98] = ok st ∧
    toBytes st.bits = [0x11, 0x96, 0x45, 0x00, 0xe1, 0x97, 0x81, 0x01, 0x02, 0x08, 0x00, 0x08, 0x61, 0x62, 0x03] :=
  ⟨_, rfl, rfl⟩

end BV.Props.C15
