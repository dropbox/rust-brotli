/-
C14, translator tie: the Lean definition GENERATED from the current Rust text of
`Command::distance_index_and_offset` (src/enc/command.rs; tools/rs2lean.py -> BV/Gen/FnC18v.lean, `Command` and
`BrotliDistanceParams` as Lean structures) returns what the recoder model's `BV.Recoder.distanceIndexAndOffset`
(over which C14's theorems about the IR of `LogMetaBlock` are stated) returns, on every command with a `u16`
distance prefix and every `u32` NDIRECT, WHENEVER the model returns (`none` = a debug-build overflow / shift
panic, which the release-semantics generated function cannot show): the 16 short-code rows, the direct codes
and the long codes (`>>`/`&` against `/`/`%`, the `u32` wrap-arounds shown not to happen).
The generated debug no-panic companion `distance_index_and_offset_ok` holds on the same commands whenever the
model returns (`distance_index_and_offset_ok_generated`).
-/
import BV.Gen.FnC18v
import BV.Model.Recoder
import BV.Lemmas.RsPrelude

namespace BV.Props.C14Gen
open BV.Gen BV.Rs BV.Recoder

def toCmd (c : FnC18v.Command) : Cmd := ⟨c.insert_len_, c.copy_len_, c.dist_extra_, c.cmd_prefix_, c.dist_prefix_⟩
def toDp (d : FnC18v.BrotliDistanceParams) : DistParams := ⟨d.distance_postfix_bits, d.num_direct_distance_codes⟩

theorem toCmd_distPrefix (c : FnC18v.Command) : (toCmd c).distPrefix = c.dist_prefix_ := rfl
theorem toCmd_distExtra (c : FnC18v.Command) : (toCmd c).distExtra = c.dist_extra_ := rfl
theorem toDp_ndirect (d : FnC18v.BrotliDistanceParams) : (toDp d).ndirect = d.num_direct_distance_codes := rfl
theorem toDp_npostfix (d : FnC18v.BrotliDistanceParams) : (toDp d).npostfix = d.distance_postfix_bits := rfl

theorem wrapS64_of_range (x : Int) (h1 : -9223372036854775808 ≤ x) (h2 : x < 9223372036854775808) : wrapS 64 x = x :=
  wrapS_of_range 64 x (by decide) h1 h2

theorem short_table : ∀ k : Fin 16,
    shortCodeTable[k.val]? = some (List.getD [(1, (0 : Int)), (2, (0 : Int)), (3, (0 : Int)), (4, (0 : Int)), (1, (BV.Rs.wrapS 64 (-(1 : Int)))), (1, (1 : Int)), (1, (BV.Rs.wrapS 64 (-(2 : Int)))), (1, (2 : Int)), (1, (BV.Rs.wrapS 64 (-(3 : Int)))), (1, (3 : Int)), (2, (BV.Rs.wrapS 64 (-(1 : Int)))), (2, (1 : Int)), (2, (BV.Rs.wrapS 64 (-(2 : Int)))), (2, (2 : Int)), (2, (BV.Rs.wrapS 64 (-(3 : Int)))), (2, (3 : Int))] k.val (0, (0 : Int))) := by
  decide +kernel

theorem mask_eq (np : Nat) (h : np < 32) :
    ((((1 <<< (np % 32)) % 4294967296) + 4294967296 - 1) % 4294967296) = 2 ^ np - 1 :=
  shl_mask h (Nat.pow_lt_pow_right (by decide) h)

theorem long_arith (sh dextra _v _lcode _nd : Nat) (hsh : sh < 4294967296) (h4 : 4 ≤ sh)
    (h1 : sh - 4 + dextra < 4294967296) :
    ((sh + 4294967296 - 4) % 4294967296 + dextra) % 4294967296 = sh - 4 + dextra := by
  omega

theorem long_sum (v lcode nd : Nat) (h : v + lcode + nd + 1 < 4294967296) :
    ((((((v + lcode) % 4294967296) + nd) % 4294967296) + 1) % 4294967296) = v + lcode + nd + 1 := by
  omega

theorem of_guard_some {α : Type} {c : Prop} [Decidable c] {X : Option α} {r : α}
    (h : (if c then none else X) = some r) : ¬ c ∧ X = some r := by
  by_cases hc : c
  · rw [if_pos hc] at h; cases h
  · rw [if_neg hc] at h; exact ⟨hc, h⟩

/-- `sh`: the shifted bucket base, `v`: the shifted offset -/
theorem long_some (c : Cmd) (dp : DistParams) (r : Nat × Int) (h : distanceIndexAndOffset c dp = some r)
    (hB : ¬ c.distPrefix % 1024 < 16 + dp.ndirect) :
    ∃ sh v, sh = (2 + (c.distPrefix % 1024 - 16 - dp.ndirect) / 2 ^ dp.npostfix % 2) * 2 ^ (c.distPrefix % 65536 / 1024) % 4294967296 ∧
      v = (sh - 4 + c.distExtra) * 2 ^ dp.npostfix % 4294967296 ∧
      dp.npostfix < 32 ∧ c.distPrefix % 65536 / 1024 < 32 ∧ 4 ≤ sh ∧ sh - 4 + c.distExtra < 4294967296 ∧
      v + (c.distPrefix % 1024 - 16 - dp.ndirect) % 2 ^ dp.npostfix + dp.ndirect + 1 < 4294967296 ∧
      r = (0, ((v + (c.distPrefix % 1024 - 16 - dp.ndirect) % 2 ^ dp.npostfix + dp.ndirect + 1 : Nat) : Int)) := by
  unfold distanceIndexAndOffset at h
  rw [if_neg (show ¬ c.distPrefix % 1024 < 16 by omega), if_neg hB] at h
  obtain ⟨hC, h⟩ := of_guard_some h
  obtain ⟨h4, h⟩ := of_guard_some h
  obtain ⟨h5, h⟩ := of_guard_some h
  obtain ⟨h6, h⟩ := of_guard_some h
  exact ⟨_, _, rfl, rfl, by omega, by omega, Nat.le_of_not_lt h4, Nat.lt_of_not_le h5, Nat.lt_of_not_le h6,
    (Option.some.inj h).symm⟩

theorem short_some (c : Cmd) (dp : DistParams) (r : Nat × Int) (h : distanceIndexAndOffset c dp = some r)
    (hA : c.distPrefix % 1024 < 16) : shortCodeTable[c.distPrefix % 1024]? = some r := by
  unfold distanceIndexAndOffset at h
  rwa [if_pos hA] at h

theorem direct_some (c : Cmd) (dp : DistParams) (r : Nat × Int) (h : distanceIndexAndOffset c dp = some r)
    (hA : ¬ c.distPrefix % 1024 < 16) (hB : c.distPrefix % 1024 < 16 + dp.ndirect) :
    r = (0, ((c.distPrefix % 1024 + 1 - 16 : Nat) : Int)) := by
  unfold distanceIndexAndOffset at h
  rw [if_neg hA, if_pos hB] at h
  exact (Option.some.inj h).symm

theorem one_shl_ge (np : Nat) (h : np < 32) : 1 ≤ (1 <<< (np % 32)) % 4294967296 := by
  have e : np % 32 = np := Nat.mod_eq_of_lt h
  rw [e, Nat.one_shiftLeft]
  have hlt : 2 ^ np < 2 ^ 32 := Nat.pow_lt_pow_right (by decide) h
  have hpos : 0 < 2 ^ np := Nat.pow_pos (by decide)
  rw [two_pow_32] at hlt
  omega

theorem dio_both (c : FnC18v.Command) (dp : FnC18v.BrotliDistanceParams) (hp : c.dist_prefix_ < 65536)
    (hnd : dp.num_direct_distance_codes < 4294967296) (r : Nat × Int)
    (h : distanceIndexAndOffset (toCmd c) (toDp dp) = some r) :
    FnC18v.distance_index_and_offset c dp = r ∧ FnC18v.distance_index_and_offset_ok c dp = true := by
  have hndb : c.dist_prefix_ >>> (10 % 16) = c.dist_prefix_ % 65536 / 1024 := by
    rw [Nat.mod_eq_of_lt hp]
    exact Nat.shiftRight_eq_div_pow _ 10
  have hdp : c.dist_prefix_ % 1024 < 1024 := Nat.mod_lt _ (by decide)
  unfold FnC18v.distance_index_and_offset FnC18v.distance_index_and_offset_ok
  simp only [and_1023, hndb, decide_eq_true_eq, Bool.true_and]
  by_cases hA : c.dist_prefix_ % 1024 < 16
  · have hs := short_some _ _ r h hA
    have ht := short_table ⟨c.dist_prefix_ % 1024, hA⟩
    rw [toCmd_distPrefix] at hs
    simp only [] at ht
    rw [if_pos hA, if_pos hA]
    exact ⟨Option.some.inj (ht.symm.trans hs), by simp [hA]⟩
  rw [if_neg hA, if_neg hA, Nat.mod_eq_of_lt (show 16 + dp.num_direct_distance_codes < 18446744073709551616 by omega)]
  by_cases hB : c.dist_prefix_ % 1024 < 16 + dp.num_direct_distance_codes
  · have hr := direct_some _ _ r h hA hB
    rw [toCmd_distPrefix] at hr
    rw [if_pos hB, if_pos hB, hr, wrapS64_of_range (((c.dist_prefix_ % 1024 : Nat) : Int) + 1) (by omega) (by omega),
      wrapS64_of_range _ (by omega) (by omega)]
    simp only [Bool.and_eq_true, decide_eq_true_eq]
    exact ⟨congrArg (Prod.mk 0) (by omega), by omega⟩
  · obtain ⟨sh, v, hsh, hv, hnp, hndb32, h4, h5, h6, rfl⟩ := long_some _ _ r h hB
    simp only [toCmd_distPrefix, toCmd_distExtra, toDp_ndirect, toDp_npostfix] at hsh hv hnp hndb32 h5 h6 ⊢
    have hshlt : sh < 4294967296 := by rw [hsh]; exact Nat.mod_lt _ (by decide)
    have hone := one_shl_ge _ hnp
    have h2 : 2 + (c.dist_prefix_ % 1024 - 16 - dp.num_direct_distance_codes) / 2 ^ dp.distance_postfix_bits % 2 < 4294967296 := by omega
    rw [if_neg hB, if_neg hB, mask_eq _ hnp]
    -- no `u32` operation wraps: every bound is among `long_some`'s
    simp only [wsub_of_le (Nat.le_of_not_lt hA) (show c.dist_prefix_ % 1024 < 4294967296 by omega),
      wsub_of_le (show dp.num_direct_distance_codes ≤ c.dist_prefix_ % 1024 - 16 by omega) (show c.dist_prefix_ % 1024 - 16 < 4294967296 by omega),
      Nat.and_two_pow_sub_one_eq_mod, Nat.mod_eq_of_lt hnp, Nat.mod_eq_of_lt hndb32, Nat.shiftRight_eq_div_pow,
      Nat.and_one_is_mod, Nat.mod_eq_of_lt h2, Nat.shiftLeft_eq, ← hsh,
      wsub_of_le h4 hshlt, Nat.mod_eq_of_lt h5, ← hv, long_sum v _ _ h6, Bool.and_eq_true, decide_eq_true_eq] at hone ⊢
    exact ⟨trivial, by omega⟩

theorem distance_index_and_offset_generated (c : FnC18v.Command) (dp : FnC18v.BrotliDistanceParams) (hp : c.dist_prefix_ < 65536)
    (hnd : dp.num_direct_distance_codes < 4294967296) (r : Nat × Int)
    (h : distanceIndexAndOffset (toCmd c) (toDp dp) = some r) :
    FnC18v.distance_index_and_offset c dp = r :=
  (dio_both c dp hp hnd r h).1

theorem distance_index_and_offset_ok_generated (c : FnC18v.Command) (dp : FnC18v.BrotliDistanceParams) (hp : c.dist_prefix_ < 65536)
    (hnd : dp.num_direct_distance_codes < 4294967296) (r : Nat × Int)
    (h : distanceIndexAndOffset (toCmd c) (toDp dp) = some r) :
    FnC18v.distance_index_and_offset_ok c dp = true :=
  (dio_both c dp hp hnd r h).2

example : distanceIndexAndOffset ⟨0, 0, 5, 0, 8 * 1024 + 31⟩ ⟨0, 0⟩ = some (0, 770) := by decide +kernel
example : FnC18v.distance_index_and_offset ⟨0, 0, 5, 0, 8 * 1024 + 31⟩ ⟨0, 0, 0, 0⟩ = (0, 770) := by decide +kernel
example : FnC18v.distance_index_and_offset ⟨0, 0, 0, 0, 6⟩ ⟨0, 0, 0, 0⟩ = (1, -2) := by decide +kernel

end BV.Props.C14Gen
