import BV.Lemmas.StreamLtsCall
import BV.Lemmas.StreamMdVerbatim
/-
C04 — A completed flush makes all prior input decodable; metadata is transparent.

Model: `BV/Model/Stream.lean` (see C20).  Spec side: `Spec.parseMetadataBlock` — RFC 7932
section 9.2 for metadata meta-blocks (header fields, over-long length rejected, zero fill bits up
to the byte boundary, payload), written independently of the writer.  No hypothesis about the
payload-encoder oracle is used in this file.

Not here but in `BV/Props/C04Run.lean`: "a streaming decoder fed only the flushed prefix reproduces every input byte"
composes `flush_complete` (below: the prefix ends on a byte boundary with nothing unflushed and
nothing pending) with the decodability of the compressed meta-blocks themselves, which is the
payload encoder and stays a hypothesis there (`PiecesOK` of C01, `PayloadDecode`) — that half is judged on the real
code by the decoders on every run.
-/
namespace BV.Props.C04
open BV.Stream BV.Bits

/-- **flush_complete**: if a FLUSH call (stream shorter than 2^64) returns `true` with no output pending, then all of its input has been consumed, the stream state is
PROCESSING again, there are no carry bits (the bytes delivered so far end on a byte boundary)
and nothing is left unflushed (`last_flush_pos_ = input_pos_`; in the quality 0/1 path no input is
ever buffered).  Holds from PROCESSING (the flush was performed by this call or an earlier one
that could not drain) and from a pending flush (`flushRequested`).  The call is outside a metadata block: `hrm`
says so, but the proof does not use it — inside a block a FLUSH call is refused (returns `false`), and `hst` with
`Inv.mdIff` gives `hrm` anyway. -/
theorem flush_complete {o : Oracle} {fuel cap : Nat} {input : Bytes} {s s' : St} {io' : Io}
    (hI : Inv s) (hrm : s.remainingMetadata = u32Max) (hw : s.inputPos + input.length < two64)
    (hst : s.streamState = .processing ∨ s.streamState = .flushRequested)
    (h : compressStream o fuel s 1 input cap = .ok (s', io', true))
    (hdrained : hasMoreOutput s' = false) :
    io'.availIn = 0 ∧ s'.streamState = .processing ∧ s'.lastBytesBits = 0
    ∧ (s'.lastFlushPos = s'.inputPos ∨ fastMode s'.params) := by
  have hp : s'.pending.length = 0 := by simpa [hasMoreOutput] using hdrained
  have hD := (compressStream_drained (by omega) hI hw h).2 hp
  rcases hst with hs | hs
  · obtain ⟨a, b, c⟩ := hD.flushDone rfl hs
    exact ⟨hD.consumed, a, b, c⟩
  · obtain ⟨a, b, c⟩ := hD.reflush hs
    exact ⟨hD.consumed, a, b, c⟩

/-- a FLUSH call that returns with output room left has completed the flush (so a caller that
offers `cap ≥ 1` needs at most `⌈pending bytes / cap⌉ + 1` calls).  `hrm` is not used by the proof: a FLUSH call
inside a metadata block returns `false`. -/
theorem flush_completes_with_room {o : Oracle} {fuel cap : Nat} {input : Bytes} {s s' : St} {io' : Io}
    (hI : Inv s) (hrm : s.remainingMetadata = u32Max) (hw : s.inputPos + input.length < two64)
    (h : compressStream o fuel s 1 input cap = .ok (s', io', true)) (hroom : io'.availOut ≠ 0) :
    hasMoreOutput s' = false := by
  have := (compressStream_drained (by omega) hI hw h).1 hroom
  simp [hasMoreOutput, this]

/-- **sync_block_is_empty_metadata** (1): for every carry of `c < 8` bits (value `lb < 2^c`) the
bytes `inject_byte_padding_block` appends are: the carry bits, the six bits `0 11 0 00`
(ISLAST 0, MNIBBLES = 0, reserved 0, MSKIPBYTES 0) and zero bits up to the byte boundary -/
theorem sync_block_bits (c lb : Nat) (hc : c < 8) (hlb : lb < 2 ^ c) :
    bytesBits (sealBytes (lb ||| (6 * 2 ^ c)) ((c + 6 + 7) / 8))
      = bitsOf c lb ++ syncBits ++ List.replicate (8 * ((c + 6 + 7) / 8) - c - 6) false :=
  sync_block_bits_gen c lb hlb

/-- the same for the 14-bit carry a large-window stream header leaves (FLUSH as the very first call) -/
theorem sync_block_bits_large (w : Nat) (hw : w < 64) :
    bytesBits (sealBytes (((w * 256) ||| 0x11) ||| (6 * 2 ^ 14)) ((14 + 6 + 7) / 8))
      = bitsOf 14 ((w * 256) ||| 0x11) ++ syncBits ++ List.replicate (8 * ((14 + 6 + 7) / 8) - 14 - 6) false :=
  sync_block_bits_gen 14 _ (Nat.or_lt_two_pow (by omega) (by decide))

/-- **sync_block_is_empty_metadata** (2): the spec reads those six bits and the fill bits, at every
bit offset, as a metadata block with an EMPTY payload that ends on the byte boundary -/
theorem sync_block_is_empty_metadata (c : Nat) (hc : c < 16) :
    Spec.parseMetadataBlock c (syncBits ++ List.replicate ((8 - (c + 6) % 8) % 8) false) = some ([], []) := by
  have := syncParses_all ⟨c, hc⟩
  simpa [syncParses] using this

/-- `inject_byte_padding_block` appends exactly the bytes `sync_block_bits` is about -/
theorem padding_appends_sync {s s' : St} (h : injectBytePaddingBlock s = .ok s') :
    s'.pending = s.pending ++ sealBytes (s.lastBytes ||| (6 * 2 ^ s.lastBytesBits)) ((s.lastBytesBits + 6 + 7) / 8)
    ∧ s'.lastBytesBits = 0 :=
  ⟨pad_pending h, (pad_frame h).lastBytesBits⟩

/-- **metadata_header_inverse**: for EVERY block size `n ≤ 2^24` and every carry, what
`write_metadata_header` writes behind the carry, followed by `n` payload bytes, is read back by
the spec as a metadata block with exactly that payload, ending exactly behind it
(`n = 0` uses the special form MSKIPBYTES = 0; `n = 1` needs MSKIPBYTES = 1: with MSKIPBYTES = 0 for one byte
the header does not read back — last example below; /verif/proposed/metadata-len1-header.md) -/
theorem metadata_header_inverse (n : Nat) (hn : n ≤ 16777216) (carry : Writer) (payload rest : List Bool)
    (hp : payload.length = 8 * n) :
    Spec.parseMetadataBlock carry.length ((metadataHeaderBits n carry).drop carry.length ++ payload ++ rest)
      = some (payload, rest) :=
  metadataHeader_parses n hn carry payload rest hp

theorem metadata_header_aligned (n : Nat) (carry : Writer) : (metadataHeaderBits n carry).length % 8 = 0 := by
  unfold metadataHeaderBits padToByte
  simp only [List.length_append, List.length_replicate]
  omega

/-- **metadata_verbatim** (1): the first EMIT_METADATA call of a block (nothing buffered), for any
output capacity incl. 0: bytes delivered ++ bytes still owed = pending ++ header ++ payload -/
theorem metadata_verbatim_first {o : Oracle} {fuel cap : Nat} {input : Bytes} {s s' : St} {io' : Io}
    (hI : Inv s) (hst : s.streamState = .processing) (hlf : s.inputPos = s.lastFlushPos)
    (hw : s.inputPos + input.length < two64)
    (h : compressStream o fuel s 3 input cap = .ok (s', io', true)) :
    io'.out ++ mdOwed s' io'.input
      = s.pending ++ toBytes (metadataHeaderBits (input.length % two32) s.carry) ++ input := by
  have := (metadata_call_conserve hI hlf h).1
  rw [this]
  unfold mdEnter
  rw [if_pos hst]
  unfold mdOwed St.carry
  simp

/-- **metadata_verbatim** (2): every further call inside the block, for any capacity -/
theorem metadata_verbatim_next {o : Oracle} {fuel cap : Nat} {input : Bytes} {s s' : St} {io' : Io}
    (hI : Inv s) (hst : s.streamState = .metadataHead ∨ s.streamState = .metadataBody)
    (hlf : s.inputPos = s.lastFlushPos) (hw : s.inputPos + input.length < two64)
    (h : compressStream o fuel s 3 input cap = .ok (s', io', true)) :
    io'.out ++ mdOwed s' io'.input = mdOwed s input ∧ io'.input.length = io'.availIn := by
  have hc := metadata_call_conserve hI hlf h
  refine ⟨?_, hc.2⟩
  rw [hc.1]
  unfold mdEnter
  have hnp : s.streamState ≠ .processing := by rcases hst with h1 | h1 <;> rw [h1] <;> simp
  rw [if_neg hnp]

/-- **metadata_verbatim** (3): `take_output` in between -/
theorem metadata_verbatim_take {s s' : St} {size : Nat} {out inp : Bytes} (hI : Inv s)
    (hst : s.streamState = .metadataHead ∨ s.streamState = .metadataBody)
    (h : takeOutput s size = .ok (s', out)) : out ++ mdOwed s' inp = mdOwed s inp :=
  takeOutput_conserve hI hst h

/-- **metadata_verbatim** (4): when the block is complete (nothing pending, PROCESSING again) nothing is owed.
How the four parts chain, for a caller that re-offers the input left (`io'.input`) in the next call: (1) gives
`out₁ ++ owed₁ = pending ++ header ++ payload`; every further call (2) and every `take_output` (3) gives
`outₖ ++ owedₖ = owedₖ₋₁`, for any capacity (0, 1, the 16-byte staging buffer, ample); so
`out₁ ++ … ++ outₙ ++ owedₙ = pending ++ header ++ payload`, and (4) is `owedₙ = []`.  The telescoped equation is
not stated as one theorem here; over whole histories the metadata discipline is `run_factsX` (Lemmas/StreamRunMd, used in
C04Run). -/
theorem metadata_verbatim_done {s' : St} (hp : s'.pending = []) (hst : s'.streamState = .processing) :
    mdOwed s' [] = [] := by
  unfold mdOwed
  simp [hp, hst]

/-- **metadata_contract**: a different amount of metadata or another operation mid-block, more
than 2^24 bytes, and metadata while flushing / after finish are refused, cleanly
(`violations_fail_clean` of C20 specialised) -/
theorem metadata_contract {o : Oracle} {fuel op cap : Nat} {input : Bytes} {s s' : St} {io' : Io} {r : Bool}
    (hop : op ≤ 3) (hI : Inv s) (hw : s.inputPos + input.length < two64)
    (hbad : (∃ n, absC s = .metadata n ∧ (op ≠ 3 ∨ input.length ≠ n)) ∨
            (op = 3 ∧ absC s = .processing ∧ input.length > 16777216) ∨
            (op = 3 ∧ (absC s = .flushing ∨ absC s = .finishing ∨ absC s = .finished)))
    (h : compressStream o fuel s op input cap = .ok (s', io', r)) :
    r = false ∧ io' = Io.start input cap ∧ (s' = s ∨ s' = updateSizeHint s 0) := by
  have hv : Contract.accepts (absC s) op input.length = false := by
    rcases hbad with ⟨n, h1, h2⟩ | ⟨h1, h2, h3⟩ | ⟨h1, h2⟩
    · rw [h1]
      rcases h2 with h2 | h2 <;> simp [Contract.accepts, h2]
    · rw [h2, h1]; simp [Contract.accepts]; omega
    · rcases h2 with h2 | h2 | h2 <;> rw [h2, h1] <;> simp [Contract.accepts]
  have hr : r = false := by rw [(compressStream_refines hop hI hw h).1, hv]
  subst hr
  obtain ⟨hs, hio⟩ := refused_unchanged hop hI hw h
  exact ⟨rfl, hio, hs⟩

example : Spec.parseMetadataBlock 3 (syncBits ++ List.replicate 7 false) = some ([], []) := by decide
/-- a 1-byte block: header `0 11 0 10 00000000` (MSKIPBYTES 1, MSKIPLEN-1 = 0), then the byte -/
example : (metadataHeaderBits 1 []).drop 0 = [false, true, true, false, true, false,
    false, false, false, false, false, false, false, false, false, false] := by decide
example : Spec.parseMetadataBlock 0 ((metadataHeaderBits 1 []) ++ bitsOf 8 0xaf) = some (bitsOf 8 0xaf, []) := by decide
/-- the header with MSKIPBYTES 0 for one byte is NOT read back as a 1-byte block -/
example : Spec.parseMetadataBlock 0 ([false, true, true, false, false, false, false, false] ++ bitsOf 8 0xaf)
    ≠ some (bitsOf 8 0xaf, []) := by decide

end BV.Props.C04
