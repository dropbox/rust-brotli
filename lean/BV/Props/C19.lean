/-
C19 — Batched match-index updates equal one-at-a-time updates.

Model: BV/Model/Hasher.lean (`src/enc/backward_references/mod.rs`:
`BasicHasher`, `AdvHasher`, `H9`, clone/eq; `hash_to_binary_tree.rs`: H10 entry points over an
opaque `Store`).

The hash functions are PARAMETERS of every theorem (`BasicP.hash`, `AdvP.mixWord`, `H9P.hash`,
the whole `Store` for H10); what is assumed about them is spelled out in `BasicP.Ok` / `AdvP.Ok`
and proved for the concrete multiplicative hashes of the four `BasicHasher` kinds and the two `AdvHasher` families
(`concrete_kinds_ok`; H9 needs no hypothesis, H10's `Store` stays opaque).
"The fold of `Store`" is `forRange (store …) s (e - s)`: `for ix in s..e { Store(data, mask, ix) }`.
Outcomes are `Option`s: `none` = the Rust code panics (slice index, `split_at`, `assert_eq!`), so
every equation below also says that the batched path panics exactly when the loop would.
Masks are ring-buffer masks `2^k - 1` (`usize::MAX = 2^64 - 1`); NO assumption on the data buffer.
-/
import BV.Lemmas.HasherMisc
import BV.Lemmas.HasherSpec

namespace BV.Props.C19
open BV.Hasher

/-- `StoreRange` (4 positions per iteration, one 11-byte window read, per-position sweep slot;
chunks straddling the ring end handled per position) equals the fold of `Store`:
all data, all `[s, e)`, all ring masks, all starting tables. -/
theorem store_range_eq_fold_store_basic (P : BasicP) (hP : P.Ok) (data : ByteArray) (k s e : Nat)
    (b : Tab) :
    Basic.storeRange P data (2 ^ k - 1) s e b
      = forRange (Basic.store P data (2 ^ k - 1)) s (e - s) b :=
  Basic.storeRange_eq_fold hP data k s e b

/-- `BulkStoreRange` of a `BasicHasher` (which calls `StoreRange`) equals the fold of `Store` -/
theorem bulk_eq_fold_store_basic (P : BasicP) (hP : P.Ok) (data : ByteArray) (k s e : Nat)
    (b : Tab) :
    Basic.bulkStoreRange P data (2 ^ k - 1) s e b
      = forRange (Basic.store P data (2 ^ k - 1)) s (e - s) b :=
  Basic.storeRange_eq_fold hP data k s e b

/-- … hence the batched paths realise the reference semantics of the index (written
independently of the update code in BV/Lemmas/HasherSpec.lean): table size unchanged, every slot
holds the LAST position of `[s, e)` filed under it (`Basic.slotOf`), every other slot is untouched. -/
theorem basic_index_reference_semantics (P : BasicP) (hP : P.Ok) (data : ByteArray) (k s e : Nat)
    (b b' : Tab) (h : Basic.bulkStoreRange P data (2 ^ k - 1) s e b = some b') :
    b'.size = b.size ∧ ∀ t,
      (∀ ix, Basic.lastWriter (Basic.slotOf P data (2 ^ k - 1)) s (e - s) t = some ix →
        b'[t]? = some (ix % U32)) ∧
      (Basic.lastWriter (Basic.slotOf P data (2 ^ k - 1)) s (e - s) t = none → b'[t]? = b[t]?) := by
  rw [bulk_eq_fold_store_basic P hP] at h
  exact Basic.fold_store_spec P data (2 ^ k - 1) s (e - s) b b' h

/-- `StoreRange` (`StoreRangeOptBatch`: 4 positions per iteration from one 7-byte word, `num`
counters bumped before the bucket writes; only when the look-ahead is 4) equals the fold of
`Store`.  `sizesAsserted` is what the two `assert_eq!` of the batched path demand of the table
sizes; it holds for every hasher the constructors make and is preserved by every update
(`adv_sizes_invariant`). -/
theorem store_range_eq_fold_store_adv (P : AdvP) (hP : P.Ok) (data : ByteArray) (k s e : Nat)
    (st : AdvSt) (hsz : Adv.sizesAsserted P st = true) :
    Adv.storeRange P data (2 ^ k - 1) s e st
      = forRange (Adv.store P data (2 ^ k - 1)) s (e - s) st :=
  Adv.storeRange_eq_fold hP data k s e st hsz

/-- `BulkStoreRange` (`BulkStoreRangeOptMemFetch`: 32 positions per iteration from a 35-byte
copy, only with `mask == usize::MAX`; tail loop) equals the fold of `Store`, for EVERY mask
value.  `e ≤ 2^64`: positions are `usize`. -/
theorem bulk_eq_fold_store_adv (P : AdvP) (hP : P.Ok) (data : ByteArray) (mask s e : Nat)
    (he : e ≤ 2 ^ 64) (st : AdvSt) (hsz : Adv.sizesAsserted P st = true) :
    Adv.bulkStoreRange P data mask s e st = forRange (Adv.store P data mask) s (e - s) st :=
  Adv.bulkStoreRange_eq_fold hP data mask s e he st hsz

/-- … hence the batched paths realise the reference semantics of the index (written independently
of the update code in BV/Lemmas/HasherSpec.lean; counters are `u16`): sizes unchanged; the counter
of every key ends at (old + number of positions of `[s, e)` with that key) mod 2^16; every bucket
slot holds the LAST position sent to it, where the `j`-th position with a key goes to ring slot
`(old counter + j) mod 2^16 & block_mask` of the key's block; every other slot is untouched. -/
theorem adv_index_reference_semantics (P : AdvP) (hP : P.Ok) (data : ByteArray) (k s e : Nat)
    (num0 b0 : Tab) (hsz : Adv.sizesAsserted P ⟨num0, b0⟩ = true)
    (hu16 : ∀ key, num0.getD key 0 < U16) (st' : AdvSt)
    (h : Adv.storeRange P data (2 ^ k - 1) s e ⟨num0, b0⟩ = some st') :
    st'.num.size = num0.size ∧ st'.buckets.size = b0.size ∧
    (∀ key, key < num0.size → st'.num[key]? =
      some ((num0.getD key 0 + Adv.countKey (Adv.keyOf P data (2 ^ k - 1)) s (e - s) key) % U16)) ∧
    ∀ t,
      (∀ ix, Basic.lastWriter (Adv.slotOf P (Adv.keyOf P data (2 ^ k - 1)) num0 s) s (e - s) t = some ix →
        st'.buckets[t]? = some (ix % U32)) ∧
      (Basic.lastWriter (Adv.slotOf P (Adv.keyOf P data (2 ^ k - 1)) num0 s) s (e - s) t = none →
        st'.buckets[t]? = b0[t]?) := by
  rw [store_range_eq_fold_store_adv P hP data k s e _ hsz] at h
  exact Adv.fold_store_spec P hP data (2 ^ k - 1) s num0 b0 hu16 (e - s) st' h

theorem adv_sizes_invariant (P : AdvP) :
    Adv.sizesAsserted P ⟨Array.replicate P.bucketSize 0,
      Array.replicate (P.bucketSize * (1 <<< P.blockBits)) 0⟩ = true ∧
    ∀ data mask ix st st', Adv.sizesAsserted P st = true →
      Adv.store P data mask ix st = some st' → Adv.sizesAsserted P st' = true :=
  ⟨Adv.init_sizesAsserted P, fun _ _ _ _ _ hs h => Adv.store_sizesAsserted hs h⟩

theorem store_range_eq_fold_store_h9 (P : H9P) (data : ByteArray) (mask s e : Nat) (st : AdvSt) :
    H9.storeRange P data mask s e st = forRange (H9.store P data mask) s (e - s) st := rfl

theorem bulk_eq_fold_store_h9 (P : H9P) (data : ByteArray) (mask s e : Nat) (st : AdvSt) :
    H9.bulkStoreRange P data mask s e st = forRange (H9.store P data mask) s (e - s) st := rfl

theorem bulk_eq_fold_store_h10 {σ : Type} (store : Nat → σ → Option σ) (s e : Nat) (st : σ) :
    H10.bulkStoreRange store s e st = forRange store s (e - s) st := rfl

theorem store_range_eq_fold_store_h10_short {σ : Type} (store : Nat → σ → Option σ) (s e : Nat)
    (st : σ) (h : e < s + 63) : H10.storeRange store s e st = forRange store s (e - s) st := by
  unfold H10.storeRange
  have h1 : ¬ (s + 63 ≤ e) := by omega
  simp only [h1, if_false]
  have h2 : ¬ (s + 512 ≤ s) := by omega
  simp only [h2, if_false]

/-- H10 `StoreRange` thins ranges of 63 positions and more by design: with a `Store` that merely counts
its calls, a range of 100 positions costs 63 calls, one of 1000 positions 63 + ⌈937/8⌉ = 181 calls -/
theorem h10_store_range_thins :
    H10.storeRange (fun _ (n : Nat) => some (n + 1)) 0 100 0 = some 63 ∧
    H10.storeRange (fun _ (n : Nat) => some (n + 1)) 0 1000 0 = some 181 ∧
    H10.bulkStoreRange (fun _ (n : Nat) => some (n + 1)) 0 1000 0 = some 1000 := by
  decide +kernel

/-- BasicHasher: indexing `[s, c₁), [c₁, c₂), …` piece by piece, each piece through `StoreRange`
or `BulkStoreRange`, equals indexing the whole range one position at a time -/
theorem partition_irrelevant_basic (P : BasicP) (hP : P.Ok) (data : ByteArray) (k s : Nat)
    (pieces : List (Bool × Nat)) (hs : Sorted s pieces) (b : Tab) :
    runPieces (Basic.storeRange P data (2 ^ k - 1)) (Basic.bulkStoreRange P data (2 ^ k - 1)) s pieces b
      = forRange (Basic.store P data (2 ^ k - 1)) s (endOf s pieces - s) b :=
  runPieces_eq_fold (I := fun _ => True) (bound := endOf s pieces) (fun _ _ _ _ _ => trivial)
    (fun s e st _ _ => Basic.storeRange_eq_fold hP data k s e st)
    (fun s e st _ _ => Basic.storeRange_eq_fold hP data k s e st)
    pieces s b trivial hs (Nat.le_refl _)

theorem partition_irrelevant_adv (P : AdvP) (hP : P.Ok) (data : ByteArray) (k s : Nat)
    (pieces : List (Bool × Nat)) (hs : Sorted s pieces) (he : endOf s pieces ≤ 2 ^ 64)
    (st : AdvSt) (hsz : Adv.sizesAsserted P st = true) :
    runPieces (Adv.storeRange P data (2 ^ k - 1)) (Adv.bulkStoreRange P data (2 ^ k - 1)) s pieces st
      = forRange (Adv.store P data (2 ^ k - 1)) s (endOf s pieces - s) st :=
  runPieces_eq_fold (I := fun st => Adv.sizesAsserted P st = true) (bound := 2 ^ 64)
    (fun _ _ _ hx h => Adv.store_sizesAsserted hx h)
    (fun s e st hst _ => Adv.storeRange_eq_fold hP data k s e st hst)
    (fun s e st hst he => Adv.bulkStoreRange_eq_fold hP data _ s e he st hst)
    pieces s st hsz hs he

theorem partition_irrelevant_h9 (P : H9P) (data : ByteArray) (mask s : Nat)
    (pieces : List (Bool × Nat)) (hs : Sorted s pieces) (st : AdvSt) :
    runPieces (H9.storeRange P data mask) (H9.bulkStoreRange P data mask) s pieces st
      = forRange (H9.store P data mask) s (endOf s pieces - s) st :=
  runPieces_eq_fold (I := fun _ => True) (bound := endOf s pieces) (fun _ _ _ _ _ => trivial)
    (fun _ _ _ _ _ => rfl) (fun _ _ _ _ _ => rfl) pieces s st trivial hs (Nat.le_refl _)

theorem partition_irrelevant_h10 {σ : Type} (store : Nat → σ → Option σ) (s : Nat)
    (pieces : List (Bool × Nat)) (hs : Sorted s pieces) (st : σ) :
    runPieces (H10.bulkStoreRange store) (H10.bulkStoreRange store) s pieces st
      = forRange store s (endOf s pieces - s) st :=
  runPieces_eq_fold (I := fun _ => True) (bound := endOf s pieces) (fun _ _ _ _ _ => trivial)
    (fun _ _ _ _ _ => rfl) (fun _ _ _ _ _ => rfl) pieces s st trivial hs (Nat.le_refl _)

/-- `clone_with_alloc` of a `BasicHasher` table: never panics, yields the same table, and
`PartialEq` says so -/
theorem clone_eq_basic (b : Tab) :
    Basic.clone b = some b ∧ ∀ c, Basic.clone b = some c → Basic.eq c b = true := by
  refine ⟨cloneTab_eq b, fun c h => ?_⟩
  rw [show Basic.clone b = some b from cloneTab_eq b] at h
  injection h with h
  subst h
  simp [Basic.eq]

/-- `clone_with_alloc` of an `AdvHasher` / `H9`: both tables are copied -/
theorem clone_eq_adv (st : AdvSt) :
    Adv.clone st = some st ∧ ∀ c, Adv.clone st = some c → Adv.eq c st = true := by
  refine ⟨Adv.clone_eq st, fun c h => ?_⟩
  rw [Adv.clone_eq st] at h
  injection h with h
  subst h
  simp [Adv.eq]

/-- the four `BasicHasher` kinds and every `AdvHasher` configuration `ChooseHasher` can produce
(bucket_bits + block_bits ≤ 15 + 9) satisfy the hash hypotheses -/
theorem concrete_kinds_ok :
    H2.Ok ∧ H3.Ok ∧ H4.Ok ∧ H54.Ok ∧
    (∀ bucketBits blockBits, bucketBits + blockBits ≤ 32 → (adv32P bucketBits blockBits).Ok) ∧
    (∀ bucketBits blockBits hashLen, bucketBits + blockBits ≤ 32 →
      (adv64P bucketBits blockBits hashLen).Ok) :=
  ⟨H2_ok, H3_ok, H4_ok, H54_ok, adv32P_ok, adv64P_ok⟩

/-- e.g. the quality-3 index (sweep 2), whatever the start alignment and the mask -/
theorem store_range_eq_fold_store_H3 (data : ByteArray) (k s e : Nat) (b : Tab) :
    Basic.storeRange H3 data (2 ^ k - 1) s e b
      = forRange (Basic.store H3 data (2 ^ k - 1)) s (e - s) b :=
  Basic.storeRange_eq_fold H3_ok data k s e b

/-- `StoreLookaheadThenStore` (custom-dictionary priming) over the bulk entry point of an
`AdvHasher` is the fold of `Store` over `[0, size - (lookahead - 1))` -/
theorem store_lookahead_then_store_adv (P : AdvP) (hP : P.Ok) (data : ByteArray) (size : Nat)
    (hsize : size ≤ 2 ^ 64) (st : AdvSt) (hsz : Adv.sizesAsserted P st = true) :
    storeLookaheadThenStore (Adv.bulkStoreRange P data) P.lookahead size st
      = forRange (Adv.store P data USIZE_MAX) 0 (size - (P.lookahead - 1)) st := by
  unfold storeLookaheadThenStore
  simp only []
  split
  · rw [Adv.bulkStoreRange_eq_fold hP data USIZE_MAX 0 _ (by omega) st hsz]; rfl
  · rename_i h
    rw [show size - (P.lookahead - 1) = 0 by omega]; rfl

/-- the hypotheses are satisfiable together, with a range long enough to enter the batched path
at an unaligned start under a ring mask with positions beyond the mask -/
example : H3.Ok ∧ (adv32P 14 4).Ok ∧
    Adv.sizesAsserted (adv32P 14 4) ⟨Array.replicate (adv32P 14 4).bucketSize 0,
      Array.replicate ((adv32P 14 4).bucketSize * (1 <<< (adv32P 14 4).blockBits)) 0⟩ = true ∧
    Sorted 69 [(false, 90), (true, 90), (true, 131)] ∧ endOf 69 [(false, 90), (true, 90), (true, 131)] = 131 :=
  ⟨H3_ok, adv32P_ok 14 4 (by decide), Adv.init_sizesAsserted _, by simp [Sorted], rfl⟩

def toyP : BasicP := { sweep := 2, hash := fun w => w.headD 0 % 8 }
def toyData : ByteArray := ByteArray.mk ((Array.range 80).map fun i => (i * 37 + 11).toUInt8)

example : toyP.Ok := ⟨fun w => by simp only [toyP, U32]; omega⟩

/-- on a 80-byte buffer with mask 63 the batched path is really taken over positions 61..79 (straddling the ring end),
changes the table, and agrees with the loop -/
example :
    (Basic.storeRange toyP toyData 63 61 80 (Array.replicate 16 0)).isSome = true ∧
    Basic.storeRange toyP toyData 63 61 80 (Array.replicate 16 0) ≠ some (Array.replicate 16 0) ∧
    Basic.storeRange toyP toyData 63 61 80 (Array.replicate 16 0)
      = forRange (Basic.store toyP toyData 63) 61 19 (Array.replicate 16 0) := by
  decide +kernel

end BV.Props.C19
