/-
C02/C06, translator tie: the Lean definition GENERATED from the current Rust text of `get_range`
(tools/rs2lean.py -> BV/Gen/FnC02.lean) is the model's range function, for every argument triple.
-/
import BV.Gen.FnC02
import BV.Model.Multi

namespace BV.Props.C02Gen
open BV.Gen.FnC02 BV.Multi

/-- release semantics: the generated function is `getRangeWrap` wherever that does not panic
(`num_threads ≠ 0`; the Rust division panics at 0, which the generated `Nat` division does not show) -/
theorem get_range_generated_wrap (i t n : Nat) (ht : t ≠ 0) :
    getRangeWrap i t n = Res.ok (get_range i t n) := by
  unfold getRangeWrap get_range
  simp [ht, U64]

/-- debug semantics (the checked model) -/
theorem get_range_generated (i t n : Nat) (r : Nat × Nat) (h : getRange i t n = Res.ok r) :
    r = get_range i t n := by
  unfold getRange at h
  unfold get_range
  have h64 : U64 = 18446744073709551616 := by decide
  rw [h64] at h
  -- the four checks of `getRange`: `i * n`, `t = 0`, `i + 1`, `(i + 1) * n`
  split at h <;> try contradiction
  split at h <;> try contradiction
  split at h <;> try contradiction
  split at h <;> try contradiction
  injection h with h
  subst h
  rw [Nat.mod_eq_of_lt (by omega), Nat.mod_eq_of_lt (a := i + 1) (by omega), Nat.mod_eq_of_lt (by omega)]

example : get_range 3 7 1000 = (428, 571) := by decide
example : getRange 3 7 1000 = Res.ok (428, 571) := by decide

end BV.Props.C02Gen
