/-
C17, translator tie: the Lean definitions GENERATED from the current Rust text (tools/rs2lean.py -> BV/Gen/FnC17.lean) of
functions of src/enc/entropy_encode.rs and of the tree-storing part of src/enc/brotli_bit_stream.rs are what the
hand-written model `BV.Huffman` (over which C17's theorems are stated) computes, whenever the model returns.
`BrotliSetDepth` is translated but not tied here: its model is compared with the compiled function by the harness's
correspondence run only.
-/
import BV.Gen.FnC17
import BV.Model.Huffman
import BV.Lemmas.RsPrelude
import BV.Lemmas.RsWriter
import BV.Lemmas.Bits

namespace BV.Props.C17Gen
open BV.Gen.FnC17 BV.Huffman BV.Rs BV.Bits BV.Bits.Out

/-- the generated constant tables as literals, so that `rw` exposes their entries (`klut`, and below `kso`, `kbl`, `ksy`) -/
theorem klut : BV.Gen.kReverseLut = [0, 8, 4, 12, 2, 10, 6, 14, 1, 9, 5, 13, 3, 11, 7, 15] := rfl

/-- `kLut[(bits & 0xf) as usize]` -/
theorem lut_generated (b : Nat) (hb : b < 65536) :
    List.getD [0, 8, 4, 12, 2, 10, 6, 14, 1, 9, 5, 13, 3, 11, 7, 15]
      (toU 64 (sop (fun x y => x &&& y) 32 ((b : Nat) : Int) (15 : Int))) 0 = lut b := by
  have h15 : (15 : Int) = ((15 : Nat) : Int) := rfl
  have hand : b &&& 15 = b % 16 := Nat.and_two_pow_sub_one_eq_mod b 4
  have hlt : b % 16 < 16 := Nat.mod_lt _ (by decide)
  rw [h15, sop32_ofNat _ b 15 (by omega) (by decide) (by show b &&& 15 < _; omega)]
  show List.getD _ (toU 64 ((b &&& 15 : Nat) : Int)) 0 = _
  rw [toU64_ofNat _ (by omega), hand]
  unfold lut
  rw [klut]

theorem shr4_generated (b : Nat) (hb : b < 65536) : toU 16 (((b : Nat) : Int) / (2 : Int) ^ (4 % 32)) = b / 16 := by
  rw [show ((b : Nat) : Int) / (2 : Int) ^ (4 % 32) = ((b / 16 : Nat) : Int) from (Int.natCast_ediv b 16).symm, toU_natCast]
  exact Nat.mod_eq_of_lt (by omega)

/-- body of the generated `while i < num_bits` loop of `BrotliReverseBits`, copied from `FnC17` (`reverse_bits_unfold` is `rfl`) -/
def rbBody (num_bits : Nat) : Nat × Nat × Nat → Ctl (Nat × Nat × Nat) Empty :=
  fun (bits, retval, i) =>
    let kLut : List Nat := [0, 8, 4, 12, 2, 10, 6, 14, 1, 9, 5, 13, 3, 11, 7, 15]
    if (decide (i < num_bits)) then
      let retval : Nat := ((retval <<< (BV.Rs.toU 64 (4 : Int) % 64)) % 18446744073709551616)
      let bits : Nat := (BV.Rs.toU 16 (((bits : Nat) : Int) / (2 : Int) ^ (4 % 32)))
      let retval : Nat := (retval ||| (List.getD kLut (BV.Rs.toU 64 (BV.Rs.sop (fun x y => x &&& y) 32 ((bits : Nat) : Int) (15 : Int))) 0))
      let i : Nat := ((i + 4) % 18446744073709551616)
      BV.Rs.Ctl.next (bits, retval, i)
    else
      BV.Rs.Ctl.brk (bits, retval, i)

theorem reverse_bits_unfold (num_bits bits : Nat) :
    BrotliReverseBits num_bits bits =
      ((whileLoop 16 (bits, List.getD [0, 8, 4, 12, 2, 10, 6, 14, 1, 9, 5, 13, 3, 11, 7, 15]
          (toU 64 (sop (fun x y => x &&& y) 32 ((bits : Nat) : Int) (15 : Int))) 0, 4) (rbBody num_bits)).2.1
        >>> ((((0 + 18446744073709551616 - num_bits) % 18446744073709551616) &&& 3) % 64)) % 65536 := rfl

/-- the `while i < num_bits` loop: `k` iterations are left.  The `1000` is arbitrary: any bound that keeps `i + 4` from wrapping
at 2^64 does (the caller has `i + 4 * k ≤ 20`) -/
theorem rb_loop (nb : Nat) : ∀ (k fuel bits retval i : Nat), k < fuel → bits < 65536 → i + 4 * k < 1000 →
    nb ≤ i + 4 * k → (k = 0 ∨ i + 4 * (k - 1) < nb) →
    (whileLoop fuel (bits, retval, i) (rbBody nb)).2.1 = reverseLoop k retval bits := by
  intro k
  induction k with
  | zero =>
    intro fuel bits retval i hf hb hi h1 _
    obtain ⟨f, rfl⟩ : ∃ f, fuel = f + 1 := ⟨fuel - 1, by omega⟩
    unfold whileLoop
    have : decide (i < nb) = false := by simp; omega
    simp only [rbBody, this]
    rfl
  | succ k ih =>
    intro fuel bits retval i hf hb hi h1 h2
    obtain ⟨f, rfl⟩ : ∃ f, fuel = f + 1 := ⟨fuel - 1, by omega⟩
    unfold whileLoop
    have : decide (i < nb) = true := by simp; omega
    simp only [rbBody, this, if_true]
    rw [shr4_generated bits hb, lut_generated (bits / 16) (by omega)]
    have e4 : toU 64 (4 : Int) % 64 = 4 := by decide
    have ei : (i + 4) % 18446744073709551616 = i + 4 := by omega
    rw [e4, ei, Nat.shiftLeft_eq]
    have := ih f (bits / 16) ((retval * 2 ^ 4) % 18446744073709551616 ||| lut (bits / 16)) (i + 4) (by omega) (by omega) (by omega) (by omega) (by omega)
    rw [this]
    rfl

theorem reverse_bits_generated (num_bits bits : Nat) (hn : num_bits ≤ 16) (hb : bits < 65536) :
    BrotliReverseBits num_bits bits = reverseBits num_bits bits := by
  rw [reverse_bits_unfold, lut_generated bits hb]
  rw [rb_loop num_bits ((num_bits - 1) / 4) 16 bits (lut bits) 4 (by omega) hb (by omega) (by omega) (by omega)]
  unfold reverseBits
  have e : (0 + 18446744073709551616 - num_bits) % 18446744073709551616 &&& 3 = ((0 + 18446744073709551616 - num_bits) % 18446744073709551616) % 4 :=
    Nat.and_two_pow_sub_one_eq_mod _ 2
  rw [e]
  have e2 : ((0 + 18446744073709551616 - num_bits) % 18446744073709551616) % 4 % 64 = (u64 - num_bits % u64) % 4 := by
    unfold u64; omega
  rw [e2]

theorem store_static_code_length_code_generated (w : Writer) :
    runOps StoreStaticCodeLengthCode w = storeStaticCodeLengthCode w := by
  unfold StoreStaticCodeLengthCode storeStaticCodeLengthCode
  simp only [List.nil_append, runOps_bits]
  cases writeBits 40 1096648316244 w <;> rfl

theorem getAt_ok_getD {α : Type} (l : List α) (i : Nat) (x d : α) (h : getAt l i = ok x) : l.getD i d = x :=
  (getAt_eq_ok d h).2.1.symm

theorem setAt_ok_set {α : Type} (l l' : List α) (i : Nat) (v : α) (h : setAt l i v = ok l') : l' = l.set i v :=
  (setAt_eq_ok h).2

theorem bind_eq_ok {α β : Type} (x : Out α) (f : α → Out β) (b : β) (h : (x >>= f) = ok b) :
    ∃ a, x = ok a ∧ f a = ok b :=
  (Out.bind_eq_ok x f b).mp h

/-- bodies of the two generated `for` loops of the sort in `StoreSimpleHuffmanTree` -/
def ssInnerBody (depths : List Nat) (i : Nat) : Nat → List Nat → List Nat :=
  fun j symbols =>
    if (decide ((List.getD depths (List.getD symbols j 0) 0) < (List.getD depths (List.getD symbols i 0) 0))) then
      let symbols : List Nat := (List.set (List.set symbols j (List.getD symbols i 0)) i (List.getD symbols j 0))
      symbols
    else
      symbols

theorem ss_inner (depths : List Nat) (i : Nat) : ∀ (c j : Nat) (s s' : List Nat),
    sortSymbolsInner depths i c j s = ok s' → forRangeAux (ssInnerBody depths i) c j s = s' := by
  intro c
  induction c with
  | zero => intro j s s' h; simp [sortSymbolsInner] at h; simpa [forRangeAux] using h
  | succ c ih =>
    intro j s s' h
    unfold sortSymbolsInner at h
    obtain ⟨sj, h1, h⟩ := bind_eq_ok _ _ _ h
    obtain ⟨si, h2, h⟩ := bind_eq_ok _ _ _ h
    obtain ⟨dj, h3, h⟩ := bind_eq_ok _ _ _ h
    obtain ⟨di, h4, h⟩ := bind_eq_ok _ _ _ h
    obtain ⟨s1, h5, h⟩ := bind_eq_ok _ _ _ h
    unfold forRangeAux
    have e : ssInnerBody depths i j s = s1 := by
      unfold ssInnerBody
      rw [getAt_ok_getD _ _ _ 0 h1, getAt_ok_getD _ _ _ 0 h2, getAt_ok_getD _ _ _ 0 h3, getAt_ok_getD _ _ _ 0 h4]
      by_cases hlt : dj < di
      · simp only [hlt, if_true] at h5
        obtain ⟨s0, h6, h5⟩ := bind_eq_ok _ _ _ h5
        rw [setAt_ok_set _ _ _ _ h6] at h5
        rw [setAt_ok_set _ _ _ _ h5]
        simp [hlt]
      · simp only [hlt, if_false] at h5
        injection h5 with h5
        simp [hlt, h5]
    rw [e]
    exact ih _ _ _ h

def ssOuterBody (depths : List Nat) (num : Nat) : Nat → List Nat → List Nat :=
  fun i symbols => forRange ((i + 1) % 18446744073709551616) num symbols (ssInnerBody depths i)

theorem ss_outer (depths : List Nat) (n : Nat) (hn : n < 2 ^ 64) : ∀ (c i : Nat) (s s' : List Nat), i + c ≤ n →
    sortSymbolsOuter depths n c i s = ok s' → forRangeAux (ssOuterBody depths n) c i s = s' := by
  rw [two_pow_64] at hn
  intro c
  induction c with
  | zero => intro i s s' _ h; simp [sortSymbolsOuter] at h; simpa [forRangeAux] using h
  | succ c ih =>
    intro i s s' hic h
    unfold sortSymbolsOuter at h
    obtain ⟨s1, h1, h⟩ := bind_eq_ok _ _ _ h
    unfold forRangeAux
    have e : ssOuterBody depths n i s = s1 := by
      unfold ssOuterBody forRange
      have : (i + 1) % 18446744073709551616 = i + 1 := by omega
      rw [this]
      exact ss_inner depths i _ _ _ _ h1
    rw [e]
    exact ih _ _ _ (by omega) h

/-- the part of the generated `StoreSimpleHuffmanTree` behind the sort -/
def ssTail (depths symbols : List Nat) (num_symbols max_bits : Nat) : List Nat × List WOp :=
  let w_ : List BV.Rs.WOp := []
  let w_ := w_ ++ [BV.Rs.WOp.bits 2 1]
  let w_ := w_ ++ [BV.Rs.WOp.bits 2 ((num_symbols + 18446744073709551616 - 1) % 18446744073709551616)]
  if (num_symbols == 2) then
    let w_ := w_ ++ [BV.Rs.WOp.bits (max_bits % 256) (List.getD symbols 0 0)]
    let w_ := w_ ++ [BV.Rs.WOp.bits (max_bits % 256) (List.getD symbols 1 0)]
    (symbols, w_)
  else
    if (num_symbols == 3) then
      let w_ := w_ ++ [BV.Rs.WOp.bits (max_bits % 256) (List.getD symbols 0 0)]
      let w_ := w_ ++ [BV.Rs.WOp.bits (max_bits % 256) (List.getD symbols 1 0)]
      let w_ := w_ ++ [BV.Rs.WOp.bits (max_bits % 256) (List.getD symbols 2 0)]
      (symbols, w_)
    else
      let w_ := w_ ++ [BV.Rs.WOp.bits (max_bits % 256) (List.getD symbols 0 0)]
      let w_ := w_ ++ [BV.Rs.WOp.bits (max_bits % 256) (List.getD symbols 1 0)]
      let w_ := w_ ++ [BV.Rs.WOp.bits (max_bits % 256) (List.getD symbols 2 0)]
      let w_ := w_ ++ [BV.Rs.WOp.bits (max_bits % 256) (List.getD symbols 3 0)]
      let w_ := w_ ++ [BV.Rs.WOp.bits 1 (BV.Rs.toU 64 (if ((((List.getD depths (List.getD symbols 0 0) 0) : Nat) : Int) == (1 : Int)) then ( (1 : Int)) else ( (0 : Int))))]
      (symbols, w_)

theorem store_simple_unfold (depths symbols : List Nat) (num max_bits : Nat) :
    StoreSimpleHuffmanTree depths symbols num max_bits =
      ssTail depths (forRangeAux (ssOuterBody depths num) num 0 symbols) num max_bits := rfl

theorem ssTail_fst (depths s : List Nat) (num mb : Nat) : (ssTail depths s num mb).1 = s := by
  unfold ssTail
  simp only []
  split
  · rfl
  · split <;> rfl

theorem store_simple_symbols_generated (depths symbols : List Nat) (num mb : Nat) (hn : num < 2 ^ 64) (s : List Nat)
    (h : sortSymbolsOuter depths num num 0 symbols = ok s) :
    (StoreSimpleHuffmanTree depths symbols num mb).1 = s := by
  rw [store_simple_unfold, ssTail_fst]
  exact ss_outer depths num hn num 0 symbols s (by omega) h

/-- `(depths[symbols[0]] == 1) as usize`, the tree-select bit of the four-symbol form -/
theorem tree_select (d0 : Nat) :
    toU 64 (if (((d0 : Nat) : Int) == (1 : Int)) then (1 : Int) else (0 : Int)) = if d0 = 1 then 1 else 0 := by
  by_cases h : d0 = 1
  · subst h; decide
  · have : (((d0 : Nat) : Int) == (1 : Int)) = false := by simp; omega
    simp [this, h]; decide

theorem ssTail_two (depths s : List Nat) (mb : Nat) :
    (ssTail depths s 2 mb).2 = [WOp.bits 2 1, WOp.bits 2 1, WOp.bits (mb % 256) (s.getD 0 0), WOp.bits (mb % 256) (s.getD 1 0)] := rfl

theorem ssTail_three (depths s : List Nat) (mb : Nat) :
    (ssTail depths s 3 mb).2 = [WOp.bits 2 1, WOp.bits 2 2, WOp.bits (mb % 256) (s.getD 0 0), WOp.bits (mb % 256) (s.getD 1 0),
      WOp.bits (mb % 256) (s.getD 2 0)] := rfl

theorem ssTail_four (depths s : List Nat) (num mb : Nat) (n2 : (num == 2) = false) (n3 : (num == 3) = false) :
    (ssTail depths s num mb).2 = [WOp.bits 2 1, WOp.bits 2 ((num + 18446744073709551616 - 1) % 18446744073709551616),
      WOp.bits (mb % 256) (s.getD 0 0), WOp.bits (mb % 256) (s.getD 1 0), WOp.bits (mb % 256) (s.getD 2 0), WOp.bits (mb % 256) (s.getD 3 0),
      WOp.bits 1 (toU 64 (if ((((List.getD depths (List.getD s 0 0) 0) : Nat) : Int) == (1 : Int)) then (1 : Int) else (0 : Int)))] := by
  unfold ssTail
  simp only [n2, n3]
  rfl

theorem run2 (n v : Nat) (rest : List WOp) (w w1 : Writer) (h : writeBits n v w = ok w1) :
    runOps (WOp.bits n v :: rest) w = runOps rest w1 := by
  rw [runOps_bits, h, bind_ok]

theorem ssTail_ops (depths s : List Nat) (num mb : Nat) (w w1 w2 w' : Writer)
    (h1 : writeBits 2 1 w = ok w1) (h2 : writeBits 2 ((num + 18446744073709551616 - 1) % 18446744073709551616) w1 = ok w2)
    (h : storeSimpleTail depths s num mb w2 = ok w') :
    runOps (ssTail depths s num mb).2 w = ok w' := by
  unfold storeSimpleTail at h
  obtain ⟨s0, g0, q1⟩ := bind_eq_ok _ _ _ h
  obtain ⟨s1, g1, q2⟩ := bind_eq_ok _ _ _ q1
  obtain ⟨w3, k3, q3⟩ := bind_eq_ok _ _ _ q2
  obtain ⟨w4, k4, q4⟩ := bind_eq_ok _ _ _ q3
  clear h q1 q2 q3
  have a0 := getAt_ok_getD _ _ _ 0 g0
  have a1 := getAt_ok_getD _ _ _ 0 g1
  by_cases n2 : num = 2
  · rw [if_pos n2] at q4
    have hw := Out.ok.inj q4
    subst hw
    subst n2
    rw [ssTail_two, a0, a1, run2 _ _ _ _ _ h1, run2 _ _ _ _ _ h2,
      run2 _ _ _ _ _ k3, run2 _ _ _ _ _ k4]
    rfl
  · rw [if_neg n2] at q4
    obtain ⟨s2, g2, q5⟩ := bind_eq_ok _ _ _ q4
    obtain ⟨w5, k5, q6⟩ := bind_eq_ok _ _ _ q5
    clear q4 q5
    have a2 := getAt_ok_getD _ _ _ 0 g2
    by_cases n3 : num = 3
    · rw [if_pos n3] at q6
      have hw := Out.ok.inj q6
      subst hw
      subst n3
      rw [ssTail_three, a0, a1, a2, run2 _ _ _ _ _ h1, run2 _ _ _ _ _ h2,
        run2 _ _ _ _ _ k3, run2 _ _ _ _ _ k4, run2 _ _ _ _ _ k5]
      rfl
    · rw [if_neg n3] at q6
      obtain ⟨s3, g3, q7⟩ := bind_eq_ok _ _ _ q6
      obtain ⟨w6, k6, q8⟩ := bind_eq_ok _ _ _ q7
      obtain ⟨d0, gd, q9⟩ := bind_eq_ok _ _ _ q8
      clear q6 q7 q8
      have a3 := getAt_ok_getD _ _ _ 0 g3
      have n2' : (num == 2) = false := by simp [n2]
      have n3' : (num == 3) = false := by simp [n3]
      rw [ssTail_four depths s num mb n2' n3', a0, a1, a2, a3, getAt_ok_getD _ _ _ 0 gd, tree_select,
        run2 _ _ _ _ _ h1, run2 _ _ _ _ _ h2,
        run2 _ _ _ _ _ k3, run2 _ _ _ _ _ k4, run2 _ _ _ _ _ k5,
        run2 _ _ _ _ _ k6, run2 _ _ _ _ _ q9]
      rfl

theorem store_simple_generated (depths symbols : List Nat) (num mb : Nat) (hn : num < 2 ^ 64) (w w' : Writer)
    (h : storeSimpleHuffmanTree depths symbols num mb w = ok w') :
    runOps (StoreSimpleHuffmanTree depths symbols num mb).2 w = ok w' := by
  unfold storeSimpleHuffmanTree at h
  obtain ⟨w1, h1, h⟩ := bind_eq_ok _ _ _ h
  obtain ⟨w2, h2, h⟩ := bind_eq_ok _ _ _ h
  obtain ⟨s, hs, h⟩ := bind_eq_ok _ _ _ h
  rw [store_simple_unfold, ss_outer depths num hn num 0 symbols s (by omega) hs]
  exact ssTail_ops depths s num mb w w1 w2 w' h1 h2 h

theorem kso : BV.Gen.kStorageOrder = [1, 2, 3, 4, 0, 5, 17, 6, 16, 7, 8, 9, 10, 11, 12, 13, 14, 15] := rfl
theorem kbl : BV.Gen.kHuffmanBitLengthHuffmanCodeBitLengths = [2, 4, 3, 2, 2, 4] := rfl
theorem ksy : BV.Gen.kHuffmanBitLengthHuffmanCodeSymbols = [0, 7, 3, 2, 1, 15] := rfl

/-- body of the generated `while codes_to_store > 0` loop -/
def ctsBody (cl : List Nat) : Nat → Ctl Nat Empty :=
  fun codes_to_store =>
    let kStorageOrder : List Nat := [1, 2, 3, 4, 0, 5, 17, 6, 16, 7, 8, 9, 10, 11, 12, 13, 14, 15]
    if (decide (codes_to_store > 0)) then
      if ((((List.getD cl (List.getD kStorageOrder ((codes_to_store + 18446744073709551616 - 1) % 18446744073709551616) 0) 0) : Nat) : Int) != (0 : Int)) then
        BV.Rs.Ctl.brk codes_to_store
      else
        let codes_to_store : Nat := ((codes_to_store + 18446744073709551616 - 1) % 18446744073709551616)
        BV.Rs.Ctl.next codes_to_store
    else
      BV.Rs.Ctl.brk codes_to_store

theorem cts_loop (cl : List Nat) : ∀ (c fuel r : Nat), c < fuel → c ≤ 18 →
    codesToStoreLoop cl c = ok r → whileLoop fuel c (ctsBody cl) = r := by
  intro c
  induction c with
  | zero =>
    intro fuel r hf _ h
    obtain ⟨f, rfl⟩ : ∃ f, fuel = f + 1 := ⟨fuel - 1, by omega⟩
    unfold codesToStoreLoop at h
    have := Out.ok.inj h
    subst this
    rfl
  | succ c ih =>
    intro fuel r hf hc h
    obtain ⟨f, rfl⟩ : ∃ f, fuel = f + 1 := ⟨fuel - 1, by omega⟩
    unfold codesToStoreLoop at h
    obtain ⟨ix, g1, q1⟩ := bind_eq_ok _ _ _ h
    obtain ⟨d, g2, q2⟩ := bind_eq_ok _ _ _ q1
    rw [kso] at g1
    unfold whileLoop
    have e1 : (c + 1 + 18446744073709551616 - 1) % 18446744073709551616 = c := by omega
    have e0 : decide (c + 1 > 0) = true := by simp
    simp only [ctsBody, e0, e1, if_true, getAt_ok_getD _ _ _ 0 g1, getAt_ok_getD _ _ _ 0 g2, bne_iff_ne, ne_eq,
      Int.natCast_eq_zero]
    by_cases hd : d = 0
    · rw [if_neg (not_not_intro hd)] at q2 ⊢
      exact ih f r (by omega) (by omega) q2
    · rw [if_pos hd] at q2 ⊢
      exact Out.ok.inj q2

/-- body of the generated `for i in skip_some..codes_to_store` loop -/
def sclBody (cl : List Nat) : Nat → List WOp → List WOp :=
  fun i w_ =>
    let kStorageOrder : List Nat := [1, 2, 3, 4, 0, 5, 17, 6, 16, 7, 8, 9, 10, 11, 12, 13, 14, 15]
    let kHuffmanBitLengthHuffmanCodeSymbols : List Nat := [0, 7, 3, 2, 1, 15]
    let kHuffmanBitLengthHuffmanCodeBitLengths : List Nat := [2, 4, 3, 2, 2, 4]
    let l : Nat := (List.getD cl (List.getD kStorageOrder i 0) 0)
    let w_ := w_ ++ [BV.Rs.WOp.bits (List.getD kHuffmanBitLengthHuffmanCodeBitLengths l 0) (List.getD kHuffmanBitLengthHuffmanCodeSymbols l 0)]
    w_

theorem runOps_append (a b : List WOp) (w : Writer) : runOps (a ++ b) w = (runOps a w) >>= (runOps b) :=
  BV.Rs.runOps_append a b w

theorem scl_loop (cl : List Nat) : ∀ (c i : Nat) (w w' : Writer), storeClLoop cl c i w = ok w' →
    ∀ ops : List WOp, ∃ L, forRangeAux (sclBody cl) c i ops = ops ++ L ∧ runOps L w = ok w' := by
  intro c
  induction c with
  | zero =>
    intro i w w' h ops
    unfold storeClLoop at h
    exact ⟨[], by simp [forRangeAux], by simpa using h⟩
  | succ c ih =>
    intro i w w' h ops
    unfold storeClLoop at h
    obtain ⟨ix, g1, q1⟩ := bind_eq_ok _ _ _ h
    obtain ⟨l, g2, q2⟩ := bind_eq_ok _ _ _ q1
    obtain ⟨nb, g3, q3⟩ := bind_eq_ok _ _ _ q2
    obtain ⟨sy, g4, q4⟩ := bind_eq_ok _ _ _ q3
    obtain ⟨w1, k1, q5⟩ := bind_eq_ok _ _ _ q4
    rw [kso] at g1
    rw [kbl] at g3
    rw [ksy] at g4
    unfold forRangeAux
    have e : sclBody cl i ops = ops ++ [WOp.bits nb sy] := by
      simp only [sclBody, getAt_ok_getD _ _ _ 0 g1, getAt_ok_getD _ _ _ 0 g2, getAt_ok_getD _ _ _ 0 g3, getAt_ok_getD _ _ _ 0 g4]
    rw [e]
    obtain ⟨L, hL1, hL2⟩ := ih (i + 1) w1 w' q5 (ops ++ [WOp.bits nb sy])
    refine ⟨WOp.bits nb sy :: L, ?_, ?_⟩
    · rw [hL1]; simp
    · simp [runOps_bits, k1, hL2]

def shtGen (num_codes : Int) (cl : List Nat) : List WOp :=
  let kStorageOrder : List Nat := [1, 2, 3, 4, 0, 5, 17, 6, 16, 7, 8, 9, 10, 11, 12, 13, 14, 15]
  let codes_to_store : Nat := (if (decide (num_codes > (1 : Int))) then whileLoop 19 18 (ctsBody cl) else 18)
  let skip_some : Nat := (if (((((List.getD cl (List.getD kStorageOrder 0 0) 0) : Nat) : Int) == (0 : Int)) && ((((List.getD cl (List.getD kStorageOrder 1 0) 0) : Nat) : Int) == (0 : Int))) then
    (if ((((List.getD cl (List.getD kStorageOrder 2 0) 0) : Nat) : Int) == (0 : Int)) then 3 else 2)
  else 0)
  forRange skip_some codes_to_store ([] ++ [BV.Rs.WOp.bits 2 skip_some]) (sclBody cl)

theorem sht_unfold (num_codes : Int) (cl : List Nat) :
    BrotliStoreHuffmanTreeOfHuffmanTreeToBitMask num_codes cl = shtGen num_codes cl := rfl

/-- `num_codes` is an `i32` in Rust and a `Nat` in the model -/
theorem store_huffman_tree_of_huffman_tree_generated (numCodes : Nat) (cl : List Nat) (w w' : Writer)
    (h : storeHuffmanTreeOfHuffmanTreeToBitMask numCodes cl w = ok w') :
    runOps (BrotliStoreHuffmanTreeOfHuffmanTreeToBitMask (numCodes : Int) cl) w = ok w' := by
  rw [sht_unfold]
  unfold storeHuffmanTreeOfHuffmanTreeToBitMask at h
  obtain ⟨cts, hc, q1⟩ := bind_eq_ok _ _ _ h
  obtain ⟨o0, g0, q2⟩ := bind_eq_ok _ _ _ q1
  obtain ⟨o1, g1, q3⟩ := bind_eq_ok _ _ _ q2
  obtain ⟨o2, g2, q4⟩ := bind_eq_ok _ _ _ q3
  obtain ⟨d0, gd0, q5⟩ := bind_eq_ok _ _ _ q4
  obtain ⟨d1, gd1, q6⟩ := bind_eq_ok _ _ _ q5
  obtain ⟨d2, gd2, q7⟩ := bind_eq_ok _ _ _ q6
  obtain ⟨w1, k1, q8⟩ := bind_eq_ok _ _ _ q7
  clear h q1 q2 q3 q4 q5 q6 q7
  rw [kso] at g0 g1 g2
  have e0 := Out.ok.inj (show ok 1 = ok o0 from g0)
  have e1 := Out.ok.inj (show ok 2 = ok o1 from g1)
  have e2 := Out.ok.inj (show ok 3 = ok o2 from g2)
  subst e0 e1 e2
  have hcts : (if (decide ((numCodes : Int) > (1 : Int))) then whileLoop 19 18 (ctsBody cl) else 18) = cts := by
    by_cases hn : numCodes > 1
    · rw [if_pos hn] at hc
      rw [if_pos (decide_eq_true (by omega))]
      exact cts_loop cl 18 19 cts (by decide) (by decide) hc
    · rw [if_neg hn] at hc
      rw [if_neg (by simp only [decide_eq_true_eq]; omega)]
      exact Out.ok.inj hc
  have hskip : (if (((((List.getD cl 1 0) : Nat) : Int) == (0 : Int)) && ((((List.getD cl 2 0) : Nat) : Int) == (0 : Int))) then
        (if ((((List.getD cl 3 0) : Nat) : Int) == (0 : Int)) then 3 else 2) else 0)
      = (if d0 = 0 ∧ d1 = 0 then (if d2 = 0 then 3 else 2) else 0) := by
    simp only [beq_iff_eq, Bool.and_eq_true, Int.natCast_eq_zero]
    rw [getAt_ok_getD _ _ _ 0 gd0]
    by_cases h0 : d0 = 0
    · rw [if_pos h0] at gd1
      rw [getAt_ok_getD _ _ _ 0 gd1]
      by_cases h1 : d1 = 0
      · rw [if_pos ⟨h0, h1⟩] at gd2
        rw [getAt_ok_getD _ _ _ 0 gd2]
      · rw [if_neg (fun h => h1 h.2), if_neg (fun h => h1 h.2)]
    · rw [if_neg (fun h => h0 h.1), if_neg (fun h => h0 h.1)]
  unfold shtGen
  simp only [List.getD_cons_zero, List.getD_cons_succ, hcts, hskip, List.nil_append]
  unfold forRange
  obtain ⟨L, hL1, hL2⟩ := scl_loop cl _ _ w1 w' q8 [WOp.bits 2 (if d0 = 0 ∧ d1 = 0 then (if d2 = 0 then 3 else 2) else 0)]
  rw [hL1]
  simp [runOps_bits, k1, hL2]

/-- `x += 1` on a `u16` as the translator writes it (through `i32`); `code = (code + bl_count[i - 1]) << 1` on `i32`, read as
`u32` (the model's `code`) and as the `u16` stored into `next_code` -/
theorem u16_inc (c : Nat) : toU 16 (wrapS 32 (((c : Nat) : Int) + (1 : Int))) = (c + 1) % 65536 := by
  rw [toU_wrapS (by decide)]
  exact toU_natCast 16 (c + 1)

theorem code_step32 (codeI : Int) (b : Nat) :
    toU 32 (wrapS 32 ((wrapS 32 (codeI + ((b : Nat) : Int))) * (2 : Int) ^ (1 % 32))) = ((toU 32 codeI + b) % 4294967296 * 2) % 4294967296 := by
  rw [toU_wrapS (Nat.le_refl _), toU_mul, toU_wrapS (Nat.le_refl _), toU_add, toU_natCast]
  show ((toU 32 codeI + b % 4294967296) % 4294967296 * 2) % 4294967296 = _
  rw [Nat.add_mod_mod]

theorem code_step16 (codeI : Int) (b : Nat) :
    toU 16 (wrapS 32 ((wrapS 32 (codeI + ((b : Nat) : Int))) * (2 : Int) ^ (1 % 32))) = ((toU 32 codeI + b) % 4294967296 * 2) % 4294967296 % 65536 := by
  rw [toU_toU_mod (show 16 ≤ 32 by decide), code_step32]

theorem take_set_succ {α : Type} : ∀ (l : List α) (i : Nat) (x : α), i < l.length → (l.set i x).take (i + 1) = l.take i ++ [x] :=
  BV.take_set_succ

theorem drop_take_succ (l : List Nat) (i n : Nat) (h : i < l.length) :
    (l.drop i).take (n + 1) = l[i] :: (l.drop (i + 1)).take n := by
  rw [List.drop_eq_getElem_cons h]
  rfl

/-- body of the first generated loop (`bl_count[depth[i]] += 1`) -/
def cbBody1 (depth : List Nat) : Nat → List Nat → List Nat :=
  fun i bl_count =>
    let _rhs : Int := (1 : Int)
    let ix_1 : Nat := (List.getD depth i 0)
    let bl_count : List Nat := (List.set bl_count ix_1 (BV.Rs.toU 16 (BV.Rs.wrapS 32 ((((List.getD bl_count ix_1 0) : Nat) : Int) + _rhs))))
    bl_count

theorem cb_loop1 (depth : List Nat) : ∀ (n i : Nat) (bl r : List Nat), i + n ≤ depth.length →
    blCountLoop ((depth.drop i).take n) bl = ok r → forRangeAux (cbBody1 depth) n i bl = r := by
  intro n
  induction n with
  | zero => intro i bl r _ h; simp [blCountLoop] at h; simpa [forRangeAux] using h
  | succ n ih =>
    intro i bl r hi h
    have hlt : i < depth.length := by omega
    rw [drop_take_succ depth i n hlt] at h
    unfold blCountLoop at h
    obtain ⟨c, g1, q1⟩ := bind_eq_ok _ _ _ h
    unfold forRangeAux
    have e : cbBody1 depth i bl = bl.set depth[i] ((c + 1) % 65536) := by
      unfold cbBody1
      simp only [BV.getD_of_lt depth i 0 hlt, getAt_ok_getD _ _ _ 0 g1, u16_inc]
    rw [e]
    exact ih (i + 1) _ r (by omega) q1

/-- body of the second generated loop (`code = (code + bl_count[i-1]) << 1; next_code[i] = code as u16`) -/
def cbBody2 (bl_count : List Nat) : Nat → List Nat × Int → List Nat × Int :=
  fun i (next_code, code) =>
    let code : Int := (BV.Rs.wrapS 32 ((BV.Rs.wrapS 32 (code + (((List.getD bl_count ((i + 18446744073709551616 - 1) % 18446744073709551616) 0) : Nat) : Int))) * (2 : Int) ^ (1 % 32)))
    let next_code : List Nat := (List.set next_code i (BV.Rs.toU 16 code))
    (next_code, code)

theorem cb_loop2 (bl : List Nat) : ∀ (n i : Nat) (nc : List Nat) (codeI : Int) (r : List Nat), 1 ≤ i → i + n = 16 →
    nc.length = 16 → i - 1 + n ≤ bl.length →
    nextCodeLoop ((bl.drop (i - 1)).take n) (toU 32 codeI) = ok r →
    (forRangeAux (cbBody2 bl) n i (nc, codeI)).1 = nc.take i ++ r := by
  intro n
  induction n with
  | zero =>
    intro i nc codeI r _ hi hl _ h
    simp [nextCodeLoop] at h
    subst h
    have hi16 : nc.length ≤ i := by omega
    simp [forRangeAux, List.take_of_length_le hi16]
  | succ n ih =>
    intro i nc codeI r h1 hi hl hb h
    have hlt : i - 1 < bl.length := by omega
    rw [drop_take_succ bl (i - 1) n hlt] at h
    unfold nextCodeLoop at h
    split at h
    · cases h
    obtain ⟨rest, g1, q1⟩ := bind_eq_ok _ _ _ h
    have hr := Out.ok.inj q1
    unfold forRangeAux
    have ei : (i + 18446744073709551616 - 1) % 18446744073709551616 = i - 1 := wsub_of_le (by omega) (by omega)
    have eb : List.getD bl (i - 1) 0 = bl[i - 1] := BV.getD_of_lt bl _ 0 hlt
    have e : cbBody2 bl i (nc, codeI) =
        (nc.set i ((((toU 32 codeI + bl[i - 1]) % u32) * 2) % u32 % 65536),
          BV.Rs.wrapS 32 ((BV.Rs.wrapS 32 (codeI + ((bl[i - 1] : Nat) : Int))) * (2 : Int) ^ (1 % 32))) := by
      unfold cbBody2
      simp only [ei, eb, code_step16]
      rfl
    rw [e]
    have e1 : i + 1 - 1 = i - 1 + 1 := by omega
    have := ih (i + 1) (nc.set i ((((toU 32 codeI + bl[i - 1]) % u32) * 2) % u32 % 65536)) _ rest (by omega) (by omega)
      (by rw [List.length_set]; exact hl) (by omega) (by rw [e1, code_step32]; exact g1)
    rw [this, take_set_succ nc i _ (by omega), ← hr]
    simp

/-- body of the third generated loop (`bits[i] = BrotliReverseBits(depth[i], next_code[depth[i]]++)` for `depth[i] != 0`) -/
def cbBody3 (depth : List Nat) : Nat → List Nat × List Nat → List Nat × List Nat :=
  fun i (bits, next_code) =>
    if ((List.getD depth i 0) != 0) then
      let arg_2 : Nat := (List.getD depth i 0)
      let _rhs : Int := (1 : Int)
      let ix_4 : Nat := (List.getD depth i 0)
      let _old : Nat := (List.getD next_code ix_4 0)
      let next_code : List Nat := (List.set next_code ix_4 (BV.Rs.toU 16 (BV.Rs.wrapS 32 ((((List.getD next_code ix_4 0) : Nat) : Int) + _rhs))))
      let arg_3 : Nat := _old
      let bits : List Nat := (List.set bits i (BrotliReverseBits arg_2 arg_3))
      (bits, next_code)
    else
      (bits, next_code)

theorem cb_loop3 (depth : List Nat) : ∀ (n i : Nat) (next bits r : List Nat), i + n ≤ depth.length →
    next.length = 16 → (∀ x ∈ next, x < 65536) →
    assignLoop ((depth.drop i).take n) i next bits = ok r →
    (forRangeAux (cbBody3 depth) n i (bits, next)).1 = r := by
  intro n
  induction n with
  | zero => intro i next bits r _ _ _ h; simp [assignLoop] at h; simpa [forRangeAux] using h
  | succ n ih =>
    intro i next bits r hi hl hN h
    have hlt : i < depth.length := by omega
    rw [drop_take_succ depth i n hlt] at h
    unfold assignLoop at h
    unfold forRangeAux
    have ed : List.getD depth i 0 = depth[i] := BV.getD_of_lt depth i 0 hlt
    by_cases hd : depth[i] = 0
    · rw [if_neg (by simpa using hd)] at h
      have e : cbBody3 depth i (bits, next) = (bits, next) := by
        unfold cbBody3
        simp only [ed, hd, bne_self_eq_false, if_false, Bool.false_eq_true]
      rw [e]
      exact ih (i + 1) next bits r (by omega) hl hN h
    · rw [if_pos hd] at h
      obtain ⟨c, g1, q1⟩ := bind_eq_ok _ _ _ h
      obtain ⟨bits', g2, q2⟩ := bind_eq_ok _ _ _ q1
      obtain ⟨hd16, hc, hcm⟩ := getAt_eq_ok 0 g1
      rw [hl] at hd16
      have hc16 : c < 65536 := hN c hcm
      have e : cbBody3 depth i (bits, next) = (bits', next.set depth[i] ((c + 1) % 65536)) := by
        unfold cbBody3
        have g' : (depth[i] != 0) = true := by rw [bne_iff_ne]; exact hd
        simp only [ed, g', if_true, ← hc, u16_inc, reverse_bits_generated depth[i] c (by omega) hc16]
        rw [setAt_ok_set _ _ _ _ g2]
      rw [e]
      refine ih (i + 1) _ bits' r (by omega) (by rw [List.length_set]; exact hl) ?_ q2
      intro x hx
      rcases List.mem_or_eq_of_mem_set hx with h1 | h1
      · exact hN x h1
      · rw [h1]; exact Nat.mod_lt _ (by decide)

theorem convert_unfold (depth : List Nat) (len : Nat) (bits : List Nat) :
    BrotliConvertBitDepthsToSymbols depth len bits =
      (forRangeAux (cbBody3 depth) (len - 0) 0
        (bits, (forRangeAux (cbBody2 (List.set (forRangeAux (cbBody1 depth) (len - 0) 0 (List.replicate 16 0)) 0 0)) (16 - 1) 1
          (List.set (List.replicate 16 0) 0 0, (0 : Int))).1)).1 := by
  unfold BrotliConvertBitDepthsToSymbols forRange
  -- with the iteration count a variable, `rfl` destructures the loop results by eta and does not run the fifteen iterations
  generalize 16 - 1 = n
  rfl

theorem blCountLoop_length : ∀ (ds bl r : List Nat), blCountLoop ds bl = ok r → r.length = bl.length := by
  intro ds
  induction ds with
  | nil => intro bl r h; simp [blCountLoop] at h; rw [h]
  | cons d ds ih =>
    intro bl r h
    unfold blCountLoop at h
    obtain ⟨c, _, q1⟩ := bind_eq_ok _ _ _ h
    rw [ih _ _ q1, List.length_set]

theorem nextCodeLoop_lt : ∀ (bs : List Nat) (code : Nat) (r : List Nat), nextCodeLoop bs code = ok r →
    r.length = bs.length ∧ ∀ x ∈ r, x < 65536 := by
  intro bs
  induction bs with
  | nil => intro code r h; simp [nextCodeLoop] at h; subst h; simp
  | cons b bs ih =>
    intro code r h
    unfold nextCodeLoop at h
    split at h
    · cases h
    obtain ⟨rest, g1, q1⟩ := bind_eq_ok _ _ _ h
    have hr := Out.ok.inj q1
    obtain ⟨h1, h2⟩ := ih _ _ g1
    rw [← hr]
    refine ⟨by simp [h1], ?_⟩
    intro x hx
    rcases List.mem_cons.mp hx with hx | hx
    · rw [hx]; exact Nat.mod_lt _ (by decide)
    · exact h2 x hx

/-- the model panics when `len` exceeds the depth array, on a depth of 16 or more, on an `i32` overflow of `code` and
when `bits` is shorter than `len` -/
theorem convert_bit_depths_to_symbols_generated (depth : List Nat) (len : Nat) (bits r : List Nat)
    (h : convertBitDepthsToSymbols depth len bits = ok r) :
    BrotliConvertBitDepthsToSymbols depth len bits = r := by
  unfold convertBitDepthsToSymbols at h
  split at h
  · cases h
  rename_i hlen
  have h16 : BV.Gen.MAX_HUFFMAN_BITS = 16 := rfl
  rw [h16] at h
  obtain ⟨bl, g1, q1⟩ := bind_eq_ok _ _ _ h
  obtain ⟨next, g2, q2⟩ := bind_eq_ok _ _ _ q1
  have hdt : depth.take len = (depth.drop 0).take len := by simp
  rw [hdt] at g1 q2
  have hbl : bl.length = 16 := by rw [blCountLoop_length _ _ _ g1]; simp
  have e1 := cb_loop1 depth len 0 (List.replicate 16 0) bl (by omega) g1
  obtain ⟨hnl, hnlt⟩ := nextCodeLoop_lt _ _ _ g2
  have hset : (bl.set 0 0).length = 16 := by rw [List.length_set]; exact hbl
  have hnl15 : next.length = 15 := by rw [hnl, List.length_take, hset]; rfl
  have t0 : toU 32 (0 : Int) = 0 := by decide
  have g2' : nextCodeLoop (((bl.set 0 0).drop (1 - 1)).take 15) (toU 32 (0 : Int)) = ok next := by
    rw [t0]; simpa using g2
  have e2 := cb_loop2 (bl.set 0 0) 15 1 (List.set (List.replicate 16 0) 0 0) (0 : Int) next (by omega) (by omega)
    (by simp) (by rw [hset]; omega) g2'
  rw [convert_unfold]
  have l0 : len - 0 = len := by omega
  rw [l0, e1]
  have l15 : 16 - 1 = 15 := rfl
  rw [l15, e2]
  have e0 : (List.set (List.replicate 16 0) 0 0).take 1 ++ next = 0 :: next := by rfl
  rw [e0]
  refine cb_loop3 depth len 0 (0 :: next) bits r (by omega) (by simp [hnl15]) ?_ q2
  intro x hx
  rcases List.mem_cons.mp hx with hx | hx
  · rw [hx]; decide
  · exact hnlt x hx

example : BrotliReverseBits 5 0b10110 = 0b01101 := by decide +kernel
example : BrotliReverseBits 16 1 = 32768 := by decide +kernel
example : (StoreSimpleHuffmanTree [2, 1, 3, 3] [0, 1, 2, 3] 4 2).1 = [1, 0, 2, 3] := by decide +kernel
example : sortSymbolsOuter [2, 1, 3, 3] 4 4 0 [0, 1, 2, 3] = ok [1, 0, 2, 3] := by decide +kernel
example : convertBitDepthsToSymbols [2, 1, 3, 3] 4 [0, 0, 0, 0] = ok (BrotliConvertBitDepthsToSymbols [2, 1, 3, 3] 4 [0, 0, 0, 0]) := by
  decide +kernel
example : BrotliConvertBitDepthsToSymbols [2, 1, 3, 3] 4 [0, 0, 0, 0] = [1, 0, 3, 7] := by decide +kernel
/-- non-vacuity of the "whenever the model returns" hypotheses -/
example : ∃ w', storeSimpleHuffmanTree [2, 1, 3, 3] [0, 1, 2, 3] 4 2 [] = ok w' ∧ w'.length = 13 := ⟨_, rfl, by decide +kernel⟩
example : ∃ w', storeHuffmanTreeOfHuffmanTreeToBitMask 2 [0, 0, 0, 1, 1, 0, 0, 0, 0, 0, 0, 0, 0, 0, 0, 0, 0, 0] [] = ok w' ∧ w'.length = 10 :=
  ⟨_, rfl, by decide +kernel⟩

end BV.Props.C17Gen
