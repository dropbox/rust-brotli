/-
C11 addendum: `EncSane (streamEnc o)` — a `compress_stream` call of the modelled encoder never reports more input
consumed than was offered nor more output produced than there was room for — for EVERY payload oracle.  The proof is
`streamEnc_sane` (`Lemmas/AdaptersStream`): the cursor balance of the byte ledger (`call_ledger`, an invariant of every
atomic step).
-/
import BV.Lemmas.AdaptersStream
namespace BV.Props.C11
open BV.Adapters BV.Stream

theorem enc_sane_stream_free (o : Oracle) : EncSane (streamEnc o) := streamEnc_sane o

/-- non-vacuity: the statement is about a real step function — a fresh, initialised encoder is inside
the envelope `streamEnc` works in -/
example (o : Oracle) : ((streamEnc o).step (some (ensureInitialized St.new)) .process [1, 2, 3] 10).2.consumed ≤ 3 :=
  (enc_sane_stream_free o).1 _ .process [1, 2, 3] 10

end BV.Props.C11
