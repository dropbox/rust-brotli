/-
C01 (match finder chain), translator tie: the Lean definition GENERATED from the current Rust text of
`ComputeDistanceCode` (src/enc/command.rs; tools/rs2lean.py -> BV/Gen/FnC01m.lean) is what the
hand-written match-finder model `BV.MatchFinder.computeDistanceCode` — the step that turns an accepted
match into a distance code in `emitCommand` — computes, for every distance and every distance cache of
at least four entries (the encoder passes its 16-entry `dist_cache_`); on such caches the Rust function
cannot panic (`ComputeDistanceCode_ok`).
-/
import BV.Gen.FnC01m
import BV.Model.MatchFinder
import BV.Lemmas.RsPrelude

namespace BV.Props.C01mGen
open BV.Gen.FnC01m BV.MatchFinder

/-- the two nibble tables of `ComputeDistanceCode` (command.rs: `0x09750468`, `0x0fdb1ace`; the generated text has them in
decimal, `158663784` and `266017486`): nibble `o` as the generated `i32` expression reads it and as the model does -/
theorem nib0 : ∀ o : Fin 7, BV.Rs.toU 64 (BV.Rs.sop (fun x y => x &&& y) 32
    ((158663784 : Int) / (2 : Int) ^ (((4 * o.val) % 18446744073709551616) % 32)) (15 : Int))
    = (0x09750468 >>> (4 * o.val)) &&& 0xf := by decide

theorem nib1 : ∀ o : Fin 7, BV.Rs.toU 64 (BV.Rs.sop (fun x y => x &&& y) 32
    ((266017486 : Int) / (2 : Int) ^ (((4 * o.val) % 18446744073709551616) % 32)) (15 : Int))
    = (0x0fdb1ace >>> (4 * o.val)) &&& 0xf := by decide

theorem toU_eq (c : Int) : i32ToUsize c = BV.Rs.toU 64 c := rfl

theorem toU_lt (c : Int) : BV.Rs.toU 64 c < 18446744073709551616 := BV.Rs.toU_lt 64 c

/-- both texts of the function on the unsigned values of the four cache entries (`x_i = c_i as usize`): on the left the MODEL
(`computeDistanceCode`, unfolded; a `match` on an `Option`), on the right the GENERATED definition (one `if` chain with the
translator's wrapping arithmetic and `i32` nibble reads) -/
theorem core (d m x0 x1 x2 x3 : Nat) (hd : d < 18446744073709551616) (h0 : x0 < 18446744073709551616)
    (h1 : x1 < 18446744073709551616) :
    (match (if d ≤ m then
          if d = x0 then some 0
          else if d = x1 then some 1
          else if ((d + 3) % 18446744073709551616 + 18446744073709551616 - x0 % 18446744073709551616) % 18446744073709551616 < 7 then
            some ((0x09750468 >>> (4 * (((d + 3) % 18446744073709551616 + 18446744073709551616 - x0 % 18446744073709551616) % 18446744073709551616))) &&& 0xf)
          else if ((d + 3) % 18446744073709551616 + 18446744073709551616 - x1 % 18446744073709551616) % 18446744073709551616 < 7 then
            some ((0x0fdb1ace >>> (4 * (((d + 3) % 18446744073709551616 + 18446744073709551616 - x1 % 18446744073709551616) % 18446744073709551616))) &&& 0xf)
          else if d = x2 then some 2
          else if d = x3 then some 3
          else none
        else (none : Option Nat)) with
      | some c => some c
      | none => some ((d + 16 + 18446744073709551616 - 1) % 18446744073709551616)) =
    some (if d ≤ m then
        if d = x0 then 0
        else if d = x1 then 1
        else if ((d + 3) % 18446744073709551616 + 18446744073709551616 - x0) % 18446744073709551616 < 7 then
          BV.Rs.toU 64 (BV.Rs.sop (fun x y => x &&& y) 32 ((158663784 : Int) / (2 : Int) ^
            (((4 * (((d + 3) % 18446744073709551616 + 18446744073709551616 - x0) % 18446744073709551616)) % 18446744073709551616) % 32)) (15 : Int))
        else if ((d + 3) % 18446744073709551616 + 18446744073709551616 - x1) % 18446744073709551616 < 7 then
          BV.Rs.toU 64 (BV.Rs.sop (fun x y => x &&& y) 32 ((266017486 : Int) / (2 : Int) ^
            (((4 * (((d + 3) % 18446744073709551616 + 18446744073709551616 - x1) % 18446744073709551616)) % 18446744073709551616) % 32)) (15 : Int))
        else if d = x2 then 2
        else if d = x3 then 3
        else ((d + 16) % 18446744073709551616 + 18446744073709551616 - 1) % 18446744073709551616
      else ((d + 16) % 18446744073709551616 + 18446744073709551616 - 1) % 18446744073709551616) := by
  have e16 : (d + 16 + 18446744073709551616 - 1) % 18446744073709551616
      = ((d + 16) % 18446744073709551616 + 18446744073709551616 - 1) % 18446744073709551616 := by omega
  have m0 : x0 % 18446744073709551616 = x0 := Nat.mod_eq_of_lt h0
  have m1 : x1 % 18446744073709551616 = x1 := Nat.mod_eq_of_lt h1
  rw [m0, m1, e16]
  generalize ((d + 3) % 18446744073709551616 + 18446744073709551616 - x0) % 18446744073709551616 = o0
  generalize ((d + 3) % 18446744073709551616 + 18446744073709551616 - x1) % 18446744073709551616 = o1
  by_cases hle : d ≤ m
  · simp only [hle, if_true]
    by_cases c0 : d = x0
    · simp only [c0, if_true]
    · simp only [c0, if_false]
      by_cases c1 : d = x1
      · simp only [c1, if_true]
      · simp only [c1, if_false]
        by_cases p0 : o0 < 7
        · simp only [p0, if_true, nib0 ⟨o0, p0⟩]
        · simp only [p0, if_false]
          by_cases p1 : o1 < 7
          · simp only [p1, if_true, nib1 ⟨o1, p1⟩]
          · simp only [p1, if_false]
            by_cases c2 : d = x2
            · simp only [c2, if_true]
            · simp only [c2, if_false]
              by_cases c3 : d = x3
              · simp only [c3, if_true]
              · simp only [c3, if_false]
  · simp only [hle, if_false]

theorem compute_distance_code_generated (d m : Nat) (c0 c1 c2 c3 : Int) (rest : List Int) (hd : d < 2 ^ 64) :
    computeDistanceCode d m (c0 :: c1 :: c2 :: c3 :: rest) = some (ComputeDistanceCode d m (c0 :: c1 :: c2 :: c3 :: rest)) := by
  rw [BV.Rs.two_pow_64] at hd
  unfold computeDistanceCode ComputeDistanceCode
  simp only [List.getElem?_cons_zero, List.getElem?_cons_succ, List.getD_cons_zero, List.getD_cons_succ,
    toU_eq, wsub, BV.Hasher.U64, decide_eq_true_eq, beq_iff_eq]
  exact core d m _ _ _ _ hd (toU_lt c0) (toU_lt c1)

theorem compute_distance_code_ok_generated (d m : Nat) (c0 c1 c2 c3 : Int) (rest : List Int) :
    ComputeDistanceCode_ok d m (c0 :: c1 :: c2 :: c3 :: rest) = true := by
  unfold ComputeDistanceCode_ok
  simp only [List.length_cons, List.getD_cons_zero, List.getD_cons_succ, decide_eq_true_eq,
    show 0 < rest.length + 1 + 1 + 1 + 1 by omega, show 1 < rest.length + 1 + 1 + 1 + 1 by omega,
    show 2 < rest.length + 1 + 1 + 1 + 1 by omega, show 3 < rest.length + 1 + 1 + 1 + 1 by omega, decide_true, Bool.and_self,
    Bool.true_and]
  generalize ((d + 3) % 18446744073709551616 + 18446744073709551616 - BV.Rs.toU 64 c0) % 18446744073709551616 = o0
  generalize ((d + 3) % 18446744073709551616 + 18446744073709551616 - BV.Rs.toU 64 c1) % 18446744073709551616 = o1
  refine BV.Rs.ite_eq_true_of (fun _ => ?_) (fun _ => rfl)
  refine BV.Rs.ite_eq_true_of (fun _ => rfl) (fun _ => ?_)
  refine BV.Rs.ite_eq_true_of (fun _ => rfl) (fun _ => ?_)
  refine BV.Rs.ite_eq_true_of (fun h0 => decide_eq_true (by omega)) (fun _ => ?_)
  refine BV.Rs.ite_eq_true_of (fun h1 => decide_eq_true (by omega)) (fun _ => ?_)
  refine BV.Rs.ite_eq_true_of (fun _ => rfl) (fun _ => ?_)
  exact BV.Rs.ite_eq_true_of (fun _ => rfl) (fun _ => rfl)

example : ComputeDistanceCode 100 1000 [100, 7, 8, 9] = 0 := by decide
example : ComputeDistanceCode 101 1000 [100, 7, 8, 9] = 5 := by decide
example : ComputeDistanceCode 5000 1000 [100, 7, 8, 9] = 5015 := by decide

end BV.Props.C01mGen
