/-
C08, translator tie: the Lean definitions GENERATED from the current Rust text of
`BrotliEncoderMaxCompressedSize(+Multi)` (tools/rs2lean.py -> BV/Gen/FnC08.lean) compute, for
every `usize` argument, what the hand-written model `BV.Stored` (over which C08's theorems are
stated) computes.  A change of the Rust body changes the generated definition; these equations
are then re-checked by the kernel against the new text.  So do the generated `Log2FloorNonZero`, `BrotliEncodeMlen` and the
operation list of `BrotliStoreUncompressedMetaBlockHeader` against the header model.  `MakeUncompressedStream` is translated
into the same module but not tied here.
`BrotliEncodeMlen` has two hand-written models: `BV.Header.encodeMlen` (an `Out`, with the Rust assertions; tied here) and
`BV.PrefixArith.encodeMlen` (the plain triple; tied in C01Gen and C18Gen from the same text lemma `BV.Rs.encode_mlen_text`).
-/
import BV.Gen.FnC08
import BV.Model.Stored
import BV.Lemmas.RsWriter
import BV.Lemmas.RsPrelude

namespace BV.Props.C08Gen
open BV.Gen.FnC08

/-- the two casts of the generated text that are not arithmetic: `(if … {4} else {3}) as usize` and `(1i32 << 20) as usize` -/
theorem toU_if (c : Prop) [Decidable c] :
    BV.Rs.toU 64 (if c then (4 : Int) else (3 : Int)) = if c then 4 else 3 := by
  split <;> decide

theorem tw : BV.Rs.toU 64 (BV.Rs.wrapS 32 ((1 : Int) * (2 : Int) ^ (20 % 32))) = 1 <<< 20 := by
  decide

theorem max_compressed_size_generated (n : Nat) (hn : n < 2 ^ 64) :
    BrotliEncoderMaxCompressedSize n = BV.Stored.maxCompressedSize n := by
  unfold BrotliEncoderMaxCompressedSize BV.Stored.maxCompressedSize BV.Stored.maxResult
  simp only [toU_if, tw, BV.Stored.litsMax, BV.Gen.lits_MaxCompressedSize, BV.Header.lit, BV.Stored.W64,
    List.getD_cons_zero, List.getD_cons_succ]
  simp only [Nat.shiftRight_eq_div_pow, Nat.shiftLeft_eq, beq_iff_eq, decide_eq_true_eq,
    Nat.reducePow, Nat.reduceMod, Nat.reduceMul, Nat.reduceAdd]
  -- the two texts differ only in where the sum `overhead` is reduced modulo 2^64
  simp only [Nat.mod_add_mod]

theorem max_compressed_size_multi_generated (n t : Nat) (hn : n < 2 ^ 64) :
    BrotliEncoderMaxCompressedSizeMulti n t = BV.Stored.maxCompressedSizeMulti n t := by
  unfold BrotliEncoderMaxCompressedSizeMulti BV.Stored.maxCompressedSizeMulti
  rw [max_compressed_size_generated n hn]
  simp [BV.Gen.lits_MaxCompressedSizeMulti, BV.Header.lit, BV.Stored.W64]

example : BrotliEncoderMaxCompressedSize 100000 = 100000 + 2 + 4 * 6 + 4 + 1 + 16 := by decide

open BV.Rs BV.Header BV.Bits BV.Bits.Out

theorem log2_floor_non_zero_generated (v : Nat) (h0 : v ≠ 0) (h : v < 2 ^ 64) :
    Log2FloorNonZero v = Nat.log2 v :=
  xor63_clz v h0 h

theorem encode_mlen_generated (len a b c : Nat) (h1 : 1 ≤ len) (h : len ≤ 2 ^ 24) :
    BV.Header.encodeMlen len = ok (BrotliEncodeMlen len a b c) := by
  have hlt : len - 1 < 2 ^ 64 := Nat.lt_of_le_of_lt (Nat.sub_le _ _) (Nat.lt_of_le_of_lt h (by decide))
  have hg := encode_mlen_text Log2FloorNonZero len h1 h
    (fun h1' => log2_floor_non_zero_generated (len - 1) (by omega) hlt)
  have hL : len ≠ 1 → Nat.log2 (len - 1) < 24 := fun h1' => (Nat.log2_lt (by omega)).2 (by omega)
  unfold BV.Header.encodeMlen BV.Header.log2Floor
  rw [show BrotliEncodeMlen len a b c = _ from hg, two_pow_32, wsub_of_le h1 (show len < 4294967296 by omega),
    if_neg (show ¬ ¬ len > 0 by omega), if_neg (show ¬ ¬ len ≤ 16777216 by omega), if_neg]
  intro hc
  by_cases h1' : len = 1
  · rw [if_pos h1'] at hc; omega
  · rw [if_neg h1'] at hc; have := hL h1'; omega

theorem runOps_bind_nil : ∀ (x : Out Writer), (x >>= runOps []) = x :=
  BV.Rs.runOps_bind_nil

theorem run_four_writes (m : Nat × Nat × Nat) (w : Writer) :
    runOps [WOp.bits 1 0, WOp.bits 2 m.2.2, WOp.bits (m.2.1 % 256) m.1, WOp.bits 1 1] w =
      (writeBits 1 0 w >>= fun w => writeBits 2 m.2.2 w >>= fun w => writeBits (m.2.1 % 256) m.1 w >>= fun w => writeBits 1 1 w) := by
  simp only [runOps_cons_bits, runOps_nil, bind_ok_right]

theorem store_uncompressed_header_ops (length : Nat) : BrotliStoreUncompressedMetaBlockHeader length =
    [WOp.bits 1 0, WOp.bits 2 (BrotliEncodeMlen (length % 4294967296) 0 0 0).2.2,
      WOp.bits ((BrotliEncodeMlen (length % 4294967296) 0 0 0).2.1 % 256) (BrotliEncodeMlen (length % 4294967296) 0 0 0).1, WOp.bits 1 1] := by
  unfold BrotliStoreUncompressedMetaBlockHeader
  rfl

theorem store_uncompressed_header_model (length : Nat) (w : Writer) (m : Nat × Nat × Nat) (hm : encodeMlen (length % 2 ^ 32) = ok m) :
    storeUncompressedMetaBlockHeader length w =
      (writeBits 1 0 w >>= fun w => writeBits 2 m.2.2 w >>= fun w => writeBits (m.2.1 % 256) m.1 w >>= fun w => writeBits 1 1 w) := by
  unfold storeUncompressedMetaBlockHeader
  have l3 : lit litsUnc 3 = 1 := rfl
  have l4 : lit litsUnc 4 = 0 := rfl
  have l5 : lit litsUnc 5 = 2 := rfl
  have l6 : lit litsUnc 6 = 1 := rfl
  have l7 : lit litsUnc 7 = 1 := rfl
  rw [l3, l4, l5, l6, l7, hm]
  rfl

theorem store_uncompressed_header_generated (length : Nat) (w : Writer)
    (h1 : 1 ≤ length % 2 ^ 32) (h : length % 2 ^ 32 ≤ 2 ^ 24) :
    runOps (BrotliStoreUncompressedMetaBlockHeader length) w = storeUncompressedMetaBlockHeader length w := by
  have hm := encode_mlen_generated (length % 2 ^ 32) 0 0 0 h1 h
  rw [store_uncompressed_header_model length w _ hm, store_uncompressed_header_ops length, run_four_writes]

example : BrotliStoreUncompressedMetaBlockHeader 65536 =
    [WOp.bits 1 0, WOp.bits 2 0, WOp.bits 16 65535, WOp.bits 1 1] := by decide

end BV.Props.C08Gen
