/-
C01 (greedy module) — the GREEDY meta-block builder `BrotliBuildMetaBlockGreedy` (quality 4..9), model `BV/Model/Greedy.lean`.
Every `floatX` computation of the code goes through an ORACLE `FOps F`; the theorems hold for EVERY oracle that satisfies the
one IEEE-754 fact `OracleOK` (`x < x - 20.0` is false).  Tied to the code by the `build` / `log2` lines of engine `greedy`
(`/verif/harness/src/greedy.rs`): the real builder against the model with `F = Float32`, every split, context map and
histogram entry identical.  SPEC side: the hypotheses `MBOK` / `Covers` of `full_metablock_roundtrip` and, through it, the
general RFC 7932 reader.
-/
import BV.Lemmas.GreedyOpt
import BV.Props.C01MetaBlockFull

namespace BV.Props.C01Greedy
open BV.Gen BV.Bits BV.Huffman BV.PrefixArith BV.Recoder BV.MetaBlock BV.Greedy

/-- **greedy_split_wellformed** — `BrotliBuildMetaBlockGreedy` on a fresh `MetaBlockSplit`.
For EVERY float oracle `ops` with `x < x − 20.0` false (`OracleOK`; no other property of `BitsEntropy`, of `+`, `−`, `<`,
`>` or of the three thresholds is used), `|mb| + 512 ≤ 2^24`, at most `2^24 − 1024` commands, `num_contexts = 1` or 2..13
contexts with a static context map of at least 64 entries `< num_contexts` (`StaticOK`; the maps of `encode.rs` have 2, 3,
13 contexts), and a command array with `cmdOK`, `copy_len() ≥ 2` for copying commands and `lockstep` (only its position
bookkeeping is used: every command stays inside the meta-block):
* the model of the builder does NOT PANIC — no index beyond `split.types` / `split.lengths` (allocated with
  `max_num_blocks = num_symbols / min_block_size + 1` entries, indexed with `num_blocks_`, `num_blocks_ − 1`,
  `num_blocks_ − 2`), none beyond the `min(max_num_blocks, max_block_types + 1) · num_contexts` histograms (indexed with
  `curr_histogram_ix_ (+ context)` and `last_histogram_ix_[j] (+ i)`), none in a histogram, in the ring, in the static map
  or in the context map, no `assert!`, no division by zero;
* the `MetaBlockSplit` it returns meets the hypotheses `MBOK` and `Covers` of `full_metablock_roundtrip`.
`OracleOK` is NEEDED (second example below). -/
theorem greedy_split_wellformed {F : Type} (ops : FOps F) (hirr : OracleOK ops) (wo : WordOracle) (window : Nat) (ring : Bytes)
    (start mask prevByte prevByte2 : Nat) (mb : Bytes) (dp : DistP) (mode numContexts : Nat) (scm : List Nat)
    (cmds : List Cmd) (hist : Bytes) (dc : List Int)
    (hR : RingHolds ring mask start mb) (h256 : ∀ b ∈ mb, b < 256) (hh256 : ∀ b ∈ hist, b < 256)
    (h64 : start + mb.length < 2 ^ 64) (hprev : prevByte = lastB hist ∧ prevByte2 = last2B hist) (hmode : mode < 4)
    (hst : StaticOK numContexts scm) (hA544 : dp.alphabetSize ≤ 544)
    (hok : ∀ c ∈ cmds, cmdOK dp.alphabetSize dp.npostfix dp.ndirect c = true)
    (hcl2 : ∀ c ∈ cmds, copyLen c ≠ 0 → 2 ≤ copyLen c)
    (hlock : lockstep wo dp.npostfix dp.ndirect window mb ⟨hist, dc, 0⟩ 0 cmds = true)
    (hsz1 : mb.length + 512 ≤ 2 ^ 24) (hsz2 : cmds.length + 1024 ≤ 2 ^ 24) :
    ∃ mbs, buildGreedy ops ring start mask prevByte prevByte2 mode numContexts scm cmds = .ok mbs ∧
      MBOK mbs dp.alphabetSize ∧
      Covers mbs.litHistos (effMap mbs.litCmap mbs.litCmapSize mbs.lit.numTypes 64) 64
        (remTypes mbs.lit 0 (mbs.lit.lengths.getD 0 0)) (litSymsOf mode hist mb 0 cmds) ∧
      Covers mbs.cmdHistos (trivialMap mbs.cmd.numTypes 1) 1
        (remTypes mbs.cmd 0 (mbs.cmd.lengths.getD 0 0)) (cmds.map fun c => (0, c.cmdPrefix)) ∧
      Covers mbs.distHistos (effMap mbs.distCmap mbs.distCmapSize mbs.dist.numTypes 4) 4
        (remTypes mbs.dist 0 (mbs.dist.lengths.getD 0 0)) (distSymsOf cmds) := by
  obtain ⟨mbs, e, hM, hcL, hcI, hcD, _⟩ := buildGreedy_ok ops hirr ring start mask prevByte prevByte2 mode numContexts scm cmds
    mb hist dp.alphabetSize dp.npostfix dp.ndirect hR h256 hh256 (by unfold two64; simpa using h64) hprev hmode hst hA544 hok
    hcl2 (lockstep_le wo dp.npostfix dp.ndirect window mb cmds _ 0 hlock).2 hsz1 hsz2
  exact ⟨mbs, e, hM, hcL, hcI, hcD⟩

/-- **greedy_metablock_roundtrip** — `BrotliBuildMetaBlockGreedy` ∘ `BrotliStoreMetaBlock` (the quality 4..9 path of
`WriteMetaBlockInternal` without `BrotliOptimizeHistograms`): the conclusion of `full_metablock_roundtrip` with NO hypothesis
on the `MetaBlockSplit` — it is the one the greedy builder computes, for every float oracle with `OracleOK` and every static
context map with `StaticOK` —, under `|mb| + 512 ≤ 2^24` and at most `2^24 − 1024` commands; neither the builder nor the
writer panics. -/
theorem greedy_metablock_roundtrip {F : Type} (ops : FOps F) (hirr : OracleOK ops) (wo : WordOracle) (window : Nat)
    (ring : Bytes) (start mask prevByte prevByte2 : Nat) (mb : Bytes) (isLast : Bool) (dp : DistP)
    (mode numContexts : Nat) (scm : List Nat) (cmds : List Cmd) (hist : Bytes) (dc : List Int) (w : List Bool)
    (hR : RingHolds ring mask start mb) (h256 : ∀ b ∈ mb, b < 256) (hh256 : ∀ b ∈ hist, b < 256)
    (h1 : 1 ≤ mb.length) (hsz1 : mb.length + 512 ≤ 2 ^ 24) (hsz2 : cmds.length + 1024 ≤ 2 ^ 24)
    (h64 : start + mb.length < 2 ^ 64)
    (hIP : inputPairCheck ring start mb.length mask = .ok ())
    (hprev : prevByte = lastB hist ∧ prevByte2 = last2B hist) (hmode : mode < 4)
    (hst : StaticOK numContexts scm)
    (hnp : dp.npostfix ≤ 3) (hnd1 : dp.ndirect % 2 ^ dp.npostfix = 0) (hnd2 : dp.ndirect / 2 ^ dp.npostfix < 16)
    (hA : dp.alphabetSize = distAlphabetSize dp.large dp.npostfix dp.ndirect) (hA544 : dp.alphabetSize ≤ 544)
    (hok : ∀ c ∈ cmds, cmdOK dp.alphabetSize dp.npostfix dp.ndirect c = true)
    (hcl2 : ∀ c ∈ cmds, copyLen c ≠ 0 → 2 ≤ copyLen c)
    (hlock : lockstep wo dp.npostfix dp.ndirect window mb ⟨hist, dc, 0⟩ 0 cmds = true)
    (hfa : faithful wo dp.npostfix dp.ndirect window mb hist ⟨hist, dc, 0⟩ cmds) :
    ∃ mbs bits out ring',
      buildGreedy ops ring start mask prevByte prevByte2 mode numContexts scm cmds = .ok mbs ∧
      storeMetaBlockFull ring start mb.length mask prevByte prevByte2 isLast dp mode cmds mbs w = .ok (w ++ bits) ∧
      replayCommands wo dp.npostfix dp.ndirect window mb dc hist cmds = some out ∧
      (∀ rest, readMetaBlockFullG wo window dp.large w.length ⟨hist, dc⟩ (bits ++ rest)
        = some (⟨out, ring'⟩, isLast, (w ++ bits).length, rest)) ∧
      (replayCommands wo dp.npostfix dp.ndirect window mb dc hist cmds = some (hist ++ mb) → out = hist ++ mb) := by
  obtain ⟨mbs, e, hM, hcL, hcI, hcD⟩ := greedy_split_wellformed ops hirr wo window ring start mask prevByte prevByte2 mb dp mode
    numContexts scm cmds hist dc hR h256 hh256 h64 hprev hmode hst hA544 hok hcl2 hlock hsz1 hsz2
  obtain ⟨bits, out, ring', a1, a2, a3, a4⟩ := BV.Props.C01MetaBlockFull.full_metablock_roundtrip wo window ring start mask
    prevByte prevByte2 mb isLast dp mode cmds mbs hist dc w hR h256 hh256 h1 (by omega) h64 hIP hprev hmode hnp hnd1 hnd2
    hA hA544 hok hcl2 hlock hfa hM hcL hcI hcD
  exact ⟨mbs, bits, out, ring', e, a1, a2, a3, a4⟩

open BV.Stored (writeMetaBlockInternal MbOracle) in
/-- **greedy_wmbi_roundtrip** — `WriteMetaBlockInternal` at quality 4..9 with the greedy builder's split: the hypotheses of
`wmbi_full_roundtrip` without any on the `MetaBlockSplit`.  For every verdict of `should_compress`, appendable / catable /
last or not, what the call leaves in the storage is read by the general RFC reader from `(hist, dc)` to `hist ++ mb`. -/
theorem greedy_wmbi_roundtrip {F : Type} (ops : FOps F) (hirr : OracleOK ops) (wo : WordOracle) (window : Nat) (ring : Bytes)
    (start mask prevByte prevByte2 : Nat) (mb : Bytes) (appendable catable actualIsLast shouldCompress : Bool) (dp : DistP)
    (mode numContexts : Nat) (scm : List Nat) (cmds : List Cmd) (hist : Bytes) (dc : List Int) (w : List Bool)
    (hR : RingHolds ring mask start mb) (h256 : ∀ b ∈ mb, b < 256) (hh256 : ∀ b ∈ hist, b < 256)
    (h1 : 1 ≤ mb.length) (hsz1 : mb.length + 512 ≤ 2 ^ 24) (hsz2 : cmds.length + 1024 ≤ 2 ^ 24)
    (h64 : start + mb.length < 2 ^ 64)
    (hIP : inputPairCheck ring start mb.length mask = .ok ())
    (hprev : prevByte = lastB hist ∧ prevByte2 = last2B hist) (hmode : mode < 4)
    (hst : StaticOK numContexts scm)
    (hnp : dp.npostfix ≤ 3) (hnd1 : dp.ndirect % 2 ^ dp.npostfix = 0) (hnd2 : dp.ndirect / 2 ^ dp.npostfix < 16)
    (hA : dp.alphabetSize = distAlphabetSize dp.large dp.npostfix dp.ndirect) (hA544 : dp.alphabetSize ≤ 544)
    (hok : ∀ c ∈ cmds, cmdOK dp.alphabetSize dp.npostfix dp.ndirect c = true)
    (hcl2 : ∀ c ∈ cmds, copyLen c ≠ 0 → 2 ≤ copyLen c)
    (hlock : lockstep wo dp.npostfix dp.ndirect window mb ⟨hist, dc, 0⟩ 0 cmds = true)
    (hfa : faithful wo dp.npostfix dp.ndirect window mb hist ⟨hist, dc, 0⟩ cmds)
    (hpay : replayCommands wo dp.npostfix dp.ndirect window mb dc hist cmds = some (hist ++ mb))
    (hcat : catable = true → appendable = true) (hw : w.length < 256) :
    ∃ mbs att r bits s'',
      buildGreedy ops ring start mask prevByte prevByte2 mode numContexts scm cmds = .ok mbs ∧
      storeMetaBlockFull ring start mb.length mask prevByte prevByte2 (if appendable then false else actualIsLast)
        dp mode cmds mbs w = .ok (w ++ att) ∧
      writeMetaBlockInternal appendable catable actualIsLast mb ⟨shouldCompress, att⟩ w = .ok r ∧
      r.fin = w ++ bits ∧ s''.out = hist ++ mb ∧
      (actualIsLast = true → ∀ rest f,
        readMetaBlocksG wo window dp.large (f + 2) w.length ⟨hist, dc⟩ (bits ++ rest) = some (s'', rest)) ∧
      (actualIsLast = false →
        ReadsToG wo window dp.large w.length ⟨hist, dc⟩ bits false (w.length + bits.length) s'') := by
  obtain ⟨mbs, e, hM, hcL, hcI, hcD⟩ := greedy_split_wellformed ops hirr wo window ring start mask prevByte prevByte2 mb dp mode
    numContexts scm cmds hist dc hR h256 hh256 h64 hprev hmode hst hA544 hok hcl2 hlock hsz1 hsz2
  obtain ⟨att, r, bits, s'', a1, a2, a3, a4, a5, a6⟩ := BV.Props.C01MetaBlockFull.wmbi_full_roundtrip wo window ring start mask
    prevByte prevByte2 mb appendable catable actualIsLast shouldCompress dp mode cmds mbs hist dc w hR h256 hh256 h1 (by omega)
    h64 hIP hprev hmode hnp hnd1 hnd2 hA hA544 hok hcl2 hlock hfa hpay hM hcL hcI hcD hcat hw
  exact ⟨mbs, att, r, bits, s'', e, a1, a2, a3, a4, a5, a6⟩

/-- **greedy_block_lengths** — what "the block lengths cover the symbols" means for the greedy builder.  Whatever split it
returns: every literal / command / distance block records at least `min_block_size` = 512 / 1024 / 512 symbols, and the
lengths of a category sum to its symbol count plus a padding of at most `min_block_size` — NOT to the symbol count itself:
the final `FinishBlock` raises a short (or empty) last block to `min_block_size`, so e.g. a meta-block with no distance
symbol gets one distance block of length 512 (the last example of this file, at `min_block_size = 2`).  The padding sits in the last block (`Covers` of
`greedy_split_wellformed` aligns the k-th symbol with the k-th position of the length sequence). -/
theorem greedy_block_lengths {F : Type} (ops : FOps F) (hirr : OracleOK ops) (wo : WordOracle) (window : Nat) (ring : Bytes)
    (start mask prevByte prevByte2 : Nat) (mb : Bytes) (dp : DistP) (mode numContexts : Nat) (scm : List Nat)
    (cmds : List Cmd) (hist : Bytes) (dc : List Int) (mbs : MBSplit)
    (hR : RingHolds ring mask start mb) (h256 : ∀ b ∈ mb, b < 256) (hh256 : ∀ b ∈ hist, b < 256)
    (h64 : start + mb.length < 2 ^ 64) (hprev : prevByte = lastB hist ∧ prevByte2 = last2B hist) (hmode : mode < 4)
    (hst : StaticOK numContexts scm) (hA544 : dp.alphabetSize ≤ 544)
    (hok : ∀ c ∈ cmds, cmdOK dp.alphabetSize dp.npostfix dp.ndirect c = true)
    (hcl2 : ∀ c ∈ cmds, copyLen c ≠ 0 → 2 ≤ copyLen c)
    (hlock : lockstep wo dp.npostfix dp.ndirect window mb ⟨hist, dc, 0⟩ 0 cmds = true)
    (hsz1 : mb.length + 512 ≤ 2 ^ 24) (hsz2 : cmds.length + 1024 ≤ 2 ^ 24)
    (hb : buildGreedy ops ring start mask prevByte prevByte2 mode numContexts scm cmds = .ok mbs) :
    HLens mbs (litSymsOf mode hist mb 0 cmds).length cmds.length (distSymsOf cmds).length := by
  obtain ⟨mbs', e, _, _, _, _, _, hL⟩ := buildGreedy_ok ops hirr ring start mask prevByte prevByte2 mode numContexts scm cmds mb
    hist dp.alphabetSize dp.npostfix dp.ndirect hR h256 hh256 (by unfold two64; simpa using h64) hprev hmode hst hA544 hok hcl2
    (lockstep_le wo dp.npostfix dp.ndirect window mb cmds _ 0 hlock).2 hsz1 hsz2
  rw [hb] at e
  injection e with e
  subst e
  exact hL

theorem rewritten_histograms_wellformed (mbs mbs' : MBSplit) (A : Nat) (mode : Nat) (hist mb : Bytes) (cmds : List Cmd)
    (hr : Rewritten mbs mbs' A) (hM : MBOK mbs A)
    (hcL : Covers mbs.litHistos (effMap mbs.litCmap mbs.litCmapSize mbs.lit.numTypes 64) 64
      (remTypes mbs.lit 0 (mbs.lit.lengths.getD 0 0)) (litSymsOf mode hist mb 0 cmds))
    (hcI : Covers mbs.cmdHistos (trivialMap mbs.cmd.numTypes 1) 1
      (remTypes mbs.cmd 0 (mbs.cmd.lengths.getD 0 0)) (cmds.map fun c => (0, c.cmdPrefix)))
    (hcD : Covers mbs.distHistos (effMap mbs.distCmap mbs.distCmapSize mbs.dist.numTypes 4) 4
      (remTypes mbs.dist 0 (mbs.dist.lengths.getD 0 0)) (distSymsOf cmds)) :
    MBOK mbs' A ∧
    Covers mbs'.litHistos (effMap mbs'.litCmap mbs'.litCmapSize mbs'.lit.numTypes 64) 64
      (remTypes mbs'.lit 0 (mbs'.lit.lengths.getD 0 0)) (litSymsOf mode hist mb 0 cmds) ∧
    Covers mbs'.cmdHistos (trivialMap mbs'.cmd.numTypes 1) 1
      (remTypes mbs'.cmd 0 (mbs'.cmd.lengths.getD 0 0)) (cmds.map fun c => (0, c.cmdPrefix)) ∧
    Covers mbs'.distHistos (effMap mbs'.distCmap mbs'.distCmapSize mbs'.dist.numTypes 4) 4
      (remTypes mbs'.dist 0 (mbs'.dist.lengths.getD 0 0)) (distSymsOf cmds) :=
  BV.Greedy.rewritten_histograms_wellformed mbs mbs' A mode hist mb cmds hr hM hcL hcI hcD

/-- **optimize_histograms_keeps_wellformed** — `BrotliOptimizeHistograms(num_distance_codes, mb)` (model
`optimizeHistograms`: `BrotliOptimizeHuffmanCountsForRle` of C17 over every literal, command and distance histogram) on a
`MetaBlockSplit` that is well formed with exact histogram shapes and totals `≤ 2^24` (`HSharp`, proved of the greedy builder's
result): WHENEVER it returns, the result differs from the input only in the histograms, and they are `HistosOK` again —
same lengths, every total grew by at most `2 · length + 1` (so `≤ 2^25`), nothing at or above `num_distance_codes ≤`
alphabet size was touched — and still count every symbol they counted (C17 `optimize_keep`). -/
theorem optimize_histograms_keeps_wellformed (mbs mbs' : MBSplit) (A nd : Nat) (hnd : nd ≤ A) (hA : A ≤ 544) (hM : MBOK mbs A)
    (hS : HSharp mbs) (h : optimizeHistograms nd mbs = .ok mbs') : Rewritten mbs mbs' A := by
  unfold optimizeHistograms at h
  obtain ⟨l, h1, h⟩ := (Out.bind_eq_ok _ _ _).mp h
  obtain ⟨c, h2, h⟩ := (Out.bind_eq_ok _ _ _).mp h
  obtain ⟨d, h3, h⟩ := (Out.bind_eq_ok _ _ _).mp h
  injection h with h
  subst h
  obtain ⟨l1, l2⟩ := optimizeHistos_ok 256 256 256 _ _ _ (Nat.le_refl _) (Nat.le_refl _) (by decide) hM.hl hS.l h1
  obtain ⟨c1, c2⟩ := optimizeHistos_ok 704 704 704 _ _ _ (Nat.le_refl _) (Nat.le_refl _) (by decide) hM.hc hS.c h2
  have hdok : HistosOK mbs.distHistos mbs.distHistosSize 544 A :=
    ⟨hM.hd.sz, hM.hd.sz1, hM.hd.sz256, fun i hi => ⟨by rw [(hS.d i hi).1]; exact Nat.le_refl _, (hM.hd.each i hi).2⟩⟩
  obtain ⟨d1, d2⟩ := optimizeHistos_ok nd 544 A _ _ _ (by omega) hnd (by decide) hdok hS.d h3
  exact ⟨rfl, rfl, rfl, rfl, rfl, rfl, rfl, rfl, rfl, rfl, l1, c1,
    ⟨d1.sz, d1.sz1, d1.sz256, fun i hi => ⟨Nat.le_trans hA (d1.each i hi).1, (d1.each i hi).2⟩⟩, l2, c2, d2⟩

/-- **optimize_histograms_total** — `BrotliOptimizeHistograms(num_distance_codes ≤ 544, mb)` ALWAYS returns on a well-formed
`MetaBlockSplit` with histograms of the declared shapes (256 / 704 / 544 entries): none of the six loops of
`BrotliOptimizeHuffmanCountsForRle` (count, trim, smallest, zero filling, `good_for_rle` marking with its backward runs,
stride smoothing with its backward runs and the three-cell look-ahead of the limit) leaves the histogram or the 704-byte
`good_for_rle` buffer. -/
theorem optimize_histograms_total (mbs : MBSplit) (A nd : Nat) (hnd : nd ≤ 544) (hM : MBOK mbs A) (hS : HSharp mbs) :
    ∃ mbs', optimizeHistograms nd mbs = .ok mbs' := by
  unfold optimizeHistograms
  obtain ⟨l, h1, _⟩ := (optimizeHistos_run 256 _ mbs.litHistos hM.hl.sz).2
    ⟨by decide, fun i hi => by rw [(hS.l i hi).1]; exact Nat.le_refl _⟩
  obtain ⟨c, h2, _⟩ := (optimizeHistos_run 704 _ mbs.cmdHistos hM.hc.sz).2
    ⟨Nat.le_refl _, fun i hi => by rw [(hS.c i hi).1]; exact Nat.le_refl _⟩
  obtain ⟨d, h3, _⟩ := (optimizeHistos_run nd _ mbs.distHistos hM.hd.sz).2
    ⟨Nat.le_trans hnd (by decide), fun i hi => by rw [(hS.d i hi).1]; exact hnd⟩
  rw [h1, Out.bind_ok, h2, Out.bind_ok, h3, Out.bind_ok]
  exact ⟨_, rfl⟩

/-- **greedy_optimized_roundtrip** — the quality 4..9 pipeline of `WriteMetaBlockInternal` as `encode.rs` runs it:
`BrotliBuildMetaBlockGreedy`, then `BrotliOptimizeHistograms(min(alphabet_size, 544), mb)`, then `BrotliStoreMetaBlock`.
Hypotheses and conclusion of `greedy_metablock_roundtrip`; none of the three panics. -/
theorem greedy_optimized_roundtrip {F : Type} (ops : FOps F) (hirr : OracleOK ops) (wo : WordOracle) (window : Nat)
    (ring : Bytes) (start mask prevByte prevByte2 : Nat) (mb : Bytes) (isLast : Bool) (dp : DistP)
    (mode numContexts : Nat) (scm : List Nat) (cmds : List Cmd) (hist : Bytes) (dc : List Int) (w : List Bool)
    (hR : RingHolds ring mask start mb) (h256 : ∀ b ∈ mb, b < 256) (hh256 : ∀ b ∈ hist, b < 256)
    (h1 : 1 ≤ mb.length) (hsz1 : mb.length + 512 ≤ 2 ^ 24) (hsz2 : cmds.length + 1024 ≤ 2 ^ 24)
    (h64 : start + mb.length < 2 ^ 64)
    (hIP : inputPairCheck ring start mb.length mask = .ok ())
    (hprev : prevByte = lastB hist ∧ prevByte2 = last2B hist) (hmode : mode < 4)
    (hst : StaticOK numContexts scm)
    (hnp : dp.npostfix ≤ 3) (hnd1 : dp.ndirect % 2 ^ dp.npostfix = 0) (hnd2 : dp.ndirect / 2 ^ dp.npostfix < 16)
    (hA : dp.alphabetSize = distAlphabetSize dp.large dp.npostfix dp.ndirect) (hA544 : dp.alphabetSize ≤ 544)
    (hok : ∀ c ∈ cmds, cmdOK dp.alphabetSize dp.npostfix dp.ndirect c = true)
    (hcl2 : ∀ c ∈ cmds, copyLen c ≠ 0 → 2 ≤ copyLen c)
    (hlock : lockstep wo dp.npostfix dp.ndirect window mb ⟨hist, dc, 0⟩ 0 cmds = true)
    (hfa : faithful wo dp.npostfix dp.ndirect window mb hist ⟨hist, dc, 0⟩ cmds) :
    ∃ mbs mbs' bits out ring',
      buildGreedy ops ring start mask prevByte prevByte2 mode numContexts scm cmds = .ok mbs ∧
      optimizeHistograms dp.alphabetSize mbs = .ok mbs' ∧
      storeMetaBlockFull ring start mb.length mask prevByte prevByte2 isLast dp mode cmds mbs' w = .ok (w ++ bits) ∧
      replayCommands wo dp.npostfix dp.ndirect window mb dc hist cmds = some out ∧
      (∀ rest, readMetaBlockFullG wo window dp.large w.length ⟨hist, dc⟩ (bits ++ rest)
        = some (⟨out, ring'⟩, isLast, (w ++ bits).length, rest)) ∧
      (replayCommands wo dp.npostfix dp.ndirect window mb dc hist cmds = some (hist ++ mb) → out = hist ++ mb) := by
  obtain ⟨mbs, e, hM, hcL, hcI, hcD, hS, _⟩ := buildGreedy_ok ops hirr ring start mask prevByte prevByte2 mode numContexts scm cmds mb
    hist dp.alphabetSize dp.npostfix dp.ndirect hR h256 hh256 (by unfold two64; simpa using h64) hprev hmode hst hA544 hok hcl2
    (lockstep_le wo dp.npostfix dp.ndirect window mb cmds _ 0 hlock).2 hsz1 hsz2
  obtain ⟨mbs', ho⟩ := optimize_histograms_total mbs dp.alphabetSize dp.alphabetSize hA544 hM hS
  have hr := optimize_histograms_keeps_wellformed mbs mbs' dp.alphabetSize dp.alphabetSize (Nat.le_refl _) hA544 hM hS ho
  obtain ⟨hM', hcL', hcI', hcD'⟩ := BV.Greedy.rewritten_histograms_wellformed mbs mbs' dp.alphabetSize mode hist mb cmds hr hM hcL
    hcI hcD
  obtain ⟨bits, out, ring', a1, a2, a3, a4⟩ := BV.Props.C01MetaBlockFull.full_metablock_roundtrip wo window ring start mask prevByte
    prevByte2 mb isLast dp mode cmds mbs' hist dc w hR h256 hh256 h1 (by omega) h64 hIP hprev hmode hnp hnd1 hnd2 hA hA544 hok hcl2
    hlock hfa hM' hcL' hcI' hcD'
  exact ⟨mbs, mbs', bits, out, ring', e, ho, a1, a2, a3, a4⟩

/-- the trivial oracle: every entropy is the same value, no comparison ever holds (every block is merged) -/
def unitOps : FOps Unit :=
  ⟨fun _ _ => (), (), fun _ _ => (), fun _ _ => (), fun _ _ => false, fun _ _ => false, (), (), (), ()⟩

/-- an oracle that always takes the new-type branch (`diff > threshold`) -/
def splitOps : FOps Unit :=
  ⟨fun _ _ => (), (), fun _ _ => (), fun _ _ => (), fun _ _ => true, fun _ _ => false, (), (), (), ()⟩

/-- an oracle violating `OracleOK`: it claims `diff[1] < diff[0] − 20.0` although both are the same value -/
def badOps : FOps Unit :=
  ⟨fun _ _ => (), (), fun _ _ => (), fun _ _ => (), fun _ _ => false, fun _ _ => true, (), (), (), ()⟩

open BV.Props.C01MetaBlock (exMb exRing exCmds noWords) in
/-- the hypotheses hold of the real quality-5 command array of the second module's example, with `num_contexts = 1` and
with the three-context static map of `encode.rs` -/
example : OracleOK unitOps ∧ OracleOK splitOps ∧ StaticOK 1 [] ∧
    StaticOK 3 ([1, 1, 2, 2] ++ List.replicate 60 0) ∧
    RingHolds exRing 31 19 exMb ∧ exMb.length + 512 ≤ 2 ^ 24 ∧ exCmds.length + 1024 ≤ 2 ^ 24 ∧
    (∀ c ∈ exCmds, cmdOK 64 0 0 c = true) ∧ (∀ c ∈ exCmds, copyLen c ≠ 0 → 2 ≤ copyLen c) ∧
    lockstep noWords 0 0 1008 exMb ⟨[], [4, 11, 15, 16], 0⟩ 0 exCmds = true := by
  refine ⟨fun _ => rfl, fun _ => rfl, Or.inl rfl, Or.inr ⟨by decide, by decide, by decide, by decide⟩, ?_, by decide, by decide,
    by decide, by decide, by decide⟩
  intro k hk
  have hk' : k < 21 := hk
  revert k
  decide

/-- the state machine on a small alphabet (`min_block_size = 2`, four symbols per histogram): with the oracle that always
splits every block gets a new type; with the one that never does all blocks are merged into one (the last, short block
is padded to `min_block_size`); with the oracle that violates `OracleOK` the second `FinishBlock` reads
`split.types[num_blocks_ − 2]` with `num_blocks_ = 1` and panics. -/
example :
    ((initBS splitOps true 1 4 4 2 () 7).bind fun s => (feed splitOps s [(0, 1), (0, 1), (0, 2), (0, 3), (0, 0), (0, 0), (0, 1)]).bind
      fun s => (finishBlock splitOps s true).bind fun s => .ok (s.toSplit, s.flat.take s.histosSize))
      = .ok (⟨4, 4, [0, 1, 2, 3], [2, 2, 2, 2]⟩, [[0, 2, 0, 0], [0, 0, 1, 1], [2, 0, 0, 0], [0, 1, 0, 0]]) ∧
    ((initBS unitOps true 1 4 4 2 () 7).bind fun s => (feed unitOps s [(0, 1), (0, 1), (0, 2), (0, 3), (0, 0), (0, 0), (0, 1)]).bind
      fun s => (finishBlock unitOps s true).bind fun s => .ok (s.toSplit, s.flat.take s.histosSize))
      = .ok (⟨1, 1, [0], [8]⟩, [[2, 3, 1, 1]]) ∧
    ((initBS badOps true 1 4 4 2 () 7).bind fun s => (feed badOps s [(0, 1), (0, 1), (0, 2), (0, 3)]).bind
      fun s => .ok s.numBlocks) = .panic := by
  refine ⟨by decide +kernel, by decide +kernel, by decide +kernel⟩

/-- `greedy_block_lengths`, the padding: no symbol at all leaves one block of length `min_block_size` = 2 (the `[8]` of the
example above is the same padding behind seven symbols: 7 + 1). -/
example :
    ((initBS unitOps true 1 4 4 2 () 0).bind fun s => (finishBlock unitOps s true).bind fun s => .ok s.toSplit)
      = .ok ⟨1, 1, [0], [2]⟩ := by
  decide +kernel

end BV.Props.C01Greedy
