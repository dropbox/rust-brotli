/-
C11 — Reader/writer adapters terminate and are transparent to short I/O and I/O errors.

Model: `BV/Model/Adapters.lean` (writer.rs, reader.rs, the copy loop of enc/mod.rs, the
`Interrupted`-retry wrappers of brotli-decompressor's io_wrappers.rs), tied to the code by the
`adapters` correspondence run.  Every theorem below quantifies over

* EVERY encoder `E : Enc σ` (any state type) subject only to the named hypotheses
  `EncSane` (stays inside the slices) and `EncProgress E ops rank` (a successful call of a kind in
  `ops` that was demanded, had output room and consumed nothing lowers a rank) — theorems of the
  stream-machine model `BV.Stream` (the `…_stream` theorems at the end), discharged for a toy encoder in
  `toy_sane` / `toy_progress`, and checked on every answer of the real encoder by the harness
  (`adapters:oracle-hypothesis`);
* EVERY script of the wrapped stream: per raw call `full | atMost k | intr | err c | zero`,
  followed by a tail behaviour that lasts forever (never `intr`: "Interrupted is returned
  finitely often" is the only assumption on the wrapped stream);
* every caller-side size including 0 and every own-buffer size ≥ 1 (writer, copy) / ≥ 0 (reader).

`fuel` counts loop iterations; `Out.livelock` = fuel exhausted.  "Returns" therefore reads:
there is an `N` such that for every `fuel ≥ N` the outcome is not `livelock`.

What is NOT claimed: `into_inner` / `Drop` return no `Result` (API design), so an I/O error during
the final FINISH is dropped by the code and by the model alike; `error_reported` covers `write`,
`flush`, `read` and the copy function.  At the generic `CustomIo` layer the stock error values
are handed out by move: the theorems there assume `armed` (both present at call entry); the std
layer re-arms after every `Err` (`stdWrite_armed`), so there the hypothesis is an invariant.
-/
import BV.Lemmas.AdaptersWriter
import BV.Lemmas.AdaptersReader
import BV.Lemmas.AdaptersCopy
import BV.Lemmas.AdaptersStream
namespace BV.Props.C11
open BV.Adapters
variable {σ : Type}

/-- `read_empty_is_zero`: a read into an empty buffer returns `Ok(0)` at once — no encoder call,
no call on the wrapped reader, state untouched -/
theorem read_empty_is_zero (E : Enc σ) (fuel : Nat) (r : Reader σ) :
    Reader.read E fuel r 0 = (r, .done (.ok [])) := by
  simp [Reader.read]

/-- `read_returns`: every `read`, for every buffer length including 0, every script of the wrapped
reader and every state reachable through the API, returns after finitely many loop iterations -/
theorem read_returns (E : Enc σ) (ops : Op → Prop) (rank : σ → Nat) (hp : EncProgress E ops rank)
    (hops : ops .process ∧ ops .finish) (r : Reader σ) (hwf : r.WF)
    (cap : Nat) : ∃ N, ∀ fuel, N ≤ fuel → (Reader.read E fuel r cap).2 ≠ .livelock := by
  by_cases hc : cap = 0
  · subst hc; exact ⟨0, fun fuel _ => by rw [read_empty_is_zero]; simp⟩
  · have hcap := Nat.pos_of_ne_zero hc
    simp only [Reader.read_eq E _ r hwf hc]
    exact (readLoop_fuelLoop E cap).returns (invImage (Reader.measure rank) lex3) (I := Reader.WF)
      (live := fun t => t.2 ≠ .livelock)
      (fun r t hwf ht => (Reader.iter_stop E cap r t.1 t.2 hwf ht).live)
      (fun r r' hwf hn => Reader.iter_cont_measure E ops rank hp hops cap hcap r r' hwf hn) r hwf

/-- every successful `read` keeps `WF`: first conjunct of `all_ok_complete_reader` -/
theorem reader_wf_new (b : Nat) (e : σ) (src : Source) : (Reader.new b e src).WF := Reader.new_WF b e src

theorem write_returns (E : Enc σ) (ops : Op → Prop) (rank : σ → Nat) (hp : EncProgress E ops rank) (hops : ops .process) (w : Writer σ)
    (hb : 0 < w.bufSize) (buf : Bytes) :
    ∃ N, ∀ fuel, N ≤ fuel → (Writer.write E fuel w buf).2 ≠ .livelock :=
  writeLoop_terminates E ops rank hp hops buf.length w hb buf

theorem into_inner_returns (E : Enc σ) (ops : Op → Prop) (rank : σ → Nat) (hp : EncProgress E ops rank) (hops : ops .finish) (w : Writer σ)
    (hb : 0 < w.bufSize) :
    ∃ N, ∀ fuel, N ≤ fuel → (Writer.intoInner E fuel w).2 ≠ .livelock := by
  obtain ⟨N, hN⟩ := flushOrClose_terminates E ops rank hp .finish hops (by simp) w hb
  refine ⟨N, fun fuel hf => ?_⟩
  have := hN fuel hf
  unfold Writer.intoInner
  split <;> simp_all

theorem flush_returns (E : Enc σ) (ops : Op → Prop) (rank : σ → Nat) (hp : EncProgress E ops rank) (hops : ops .flush) (w : Writer σ)
    (hb : 0 < w.bufSize) :
    ∃ N, ∀ fuel, N ≤ fuel → (Writer.flush E fuel w).2 ≠ .livelock := by
  obtain ⟨N, hN⟩ := flushOrClose_terminates E ops rank hp .flush hops (by simp) w hb
  refine ⟨N, fun fuel hf => ?_⟩
  have := hN fuel hf
  unfold Writer.flush
  split
  · split <;> simp
  · next hne =>
    generalize Writer.flushOrClose E .flush fuel w = x at *
    obtain ⟨w', o⟩ := x
    exact this

/-- `copy_terminates`: the copy function returns for every pair of scripts — in particular a
wrapped writer that answers `Ok(0)` (once, or forever) ends it with an error instead of spinning -/
theorem copy_terminates (E : Enc σ) (ops : Op → Prop) (rank : σ → Nat) (hp : EncProgress E ops rank)
    (hops : ops .process ∧ ops .finish) (ib ob : Nat) (e : σ)
    (src : Source) (sink : Sink) :
    ∃ N, ∀ fuel, N ≤ fuel → (Copy.run E fuel ib ob e src sink).2 ≠ .livelock := by
  by_cases h0 : 0 < ib ∧ 0 < ob
  · simp only [Copy.run_eq E _ e src sink h0]
    exact (Copy.loop_fuelLoop E).returns (invImage (Copy.measure rank) lex3) (I := Copy.WF)
      (live := fun t => t.2 ≠ .livelock)
      (fun c t hwf ht => (Copy.iter_stop E c t.1 t.2 hwf ht).elim fun _ h => h.live)
      (fun c c' hwf hn => Copy.iter_cont_measure E ops rank hp hops c c' hwf hn) _ (Copy.init_WF ib e src sink h0.2)
  · exact ⟨0, fun fuel _ => by rw [Copy.run_panic E fuel e src sink h0]; simp⟩

theorem write_no_panic (E : Enc σ) (hs : EncSane E) (fuel : Nat) (w : Writer σ) (h : w.armed) (buf : Bytes) :
    (Writer.write E fuel w buf).2 ≠ .panic := by
  obtain ⟨_, _, _, q⟩ := writeLoop_spec E buf.length fuel w buf h
  exact q.noPanic hs

theorem read_no_panic (E : Enc σ) (hs : EncSane E) (fuel : Nat) (r : Reader σ) (hwf : r.WF)
    (h : r.errInvalid = true) (cap : Nat) : (Reader.read E fuel r cap).2 ≠ .panic := by
  by_cases hc : cap = 0
  · subst hc; simp [Reader.read]
  · rw [Reader.read_eq E fuel r hwf hc]
    exact (readLoop_fuelLoop E cap).rule (I := fun r => r.WF ∧ r.errInvalid = true) (Q := fun _ t => t.2 ≠ .panic)
      (fun _ _ => by simp)
      (fun r t hI ht hp => by
        have := (Reader.iter_stop E cap r t.1 t.2 hI.1 ht).panic hp hs
        rw [hI.2] at this; cases this)
      (fun r r' hI hn => by
        obtain ⟨r1, st, k, _⟩ := Reader.iter_cont E cap r r' hI.1 hn
        obtain ⟨_, hR⟩ := k.run hI.1
        exact ⟨⟨hR.wf, by rw [hR.errInvalid]; exact hI.2⟩, fun _ h => h⟩)
      fuel r ⟨hwf, h⟩

theorem copy_no_panic (E : Enc σ) (hs : EncSane E) (fuel ib ob : Nat) (hib : 0 < ib) (hob : 0 < ob) (e : σ)
    (src : Source) (sink : Sink) : (Copy.run E fuel ib ob e src sink).2 ≠ .panic := by
  rw [Copy.run_eq E fuel e src sink ⟨hib, hob⟩]
  exact (Copy.loop_fuelLoop E).rule (I := Copy.WF) (Q := fun _ t => t.2 ≠ .panic)
    (fun _ _ => by simp)
    (fun c t hwf ht hp => by
      obtain ⟨_, g⟩ := Copy.iter_stop E c t.1 t.2 hwf ht
      obtain ⟨_, _, f⟩ := Copy.refill_spec c hwf
      apply g.panic hp
      have hwl := Copy.window_length c.refill f.wf.1
      exact ⟨by rw [← hwl]; exact hs.consumed_le _ _ _ _, hs.produced_le _ _ _ _⟩)
    (fun c c' hwf hn => (Copy.iter_cont E c c' hwf hn).elim fun _ k => ⟨k.1.wf, fun _ h => h⟩)
    fuel _ (Copy.init_WF ib e src sink hob)

/-- `write_all_progress`: `write_all` is defined by recursion on the bytes still to hand over (no
fuel): every call of the wrapped writer that is not `Interrupted` either hands over at least one
byte or ends the loop.  Conservation: the `Ok(k)` answers logged during the call add up to exactly
the bytes that reached the sink, those are a prefix of the request, and at most
`delivered + 1` calls were answered. -/
theorem write_all_progress (ez ei : Bool) (s : Sink) (buf : Bytes) :
    ∃ (new : List LogE) (p : Bytes),
      (writeAll ez ei s buf).2.2.1.log = new ++ s.log ∧
      (writeAll ez ei s buf).2.2.1.got = s.got ++ p ∧ p <+: buf ∧
      bytesOf new = p.length ∧ answered new ≤ p.length + 1 := by
  obtain ⟨new, p, h, _⟩ := writeAll_spec ez ei s buf
  exact ⟨new, p, h.log, h.got, h.isPrefix, h.bytes, h.calls⟩

/-- `error_reported` (`write`): with the stock error values present, a hard error or a zero-length
write of the wrapped writer at ANY point of the call makes `write` return `Err` — it cannot
return `Ok` -/
theorem error_reported_write (E : Enc σ) (fuel : Nat) (w : Writer σ) (h : w.armed) (buf : Bytes)
    (newL : List LogE) (hlog : (Writer.write E fuel w buf).1.sink.log = newL ++ w.sink.log)
    (hf : ∃ e ∈ newL, e.faulty = true) : ∀ n, (Writer.write E fuel w buf).2 ≠ .done (.ok n) := by
  intro n hok
  obtain ⟨_, newE, newL', hR, hD⟩ := writeLoop_ok E buf.length fuel w _ buf n h (Prod.ext rfl hok)
  have : newL = newL' := List.append_cancel_right (hlog.symm.trans hR.log)
  subst this
  obtain ⟨e, he, hfe⟩ := hf
  rw [hD.clean e he] at hfe
  exact absurd hfe (by simp)

/-- `error_reported` (`flush`): same for `flush`, including an error of the wrapped `flush()` -/
theorem error_reported_flush (E : Enc σ) (fuel : Nat) (w : Writer σ) (h : w.armed)
    (newL : List LogE) (hlog : (Writer.flush E fuel w).1.sink.log = newL ++ w.sink.log)
    (hf : ∃ e ∈ newL, e.faulty = true) : (Writer.flush E fuel w).2 ≠ .done (.ok ()) := by
  intro hok
  obtain ⟨w1, hfc, hs, hw⟩ := Writer.flush_ok E fuel w hok
  obtain ⟨newE, newL', hC⟩ := flushOrClose_ok E .flush fuel w w1 h hfc
  have hR := hC.reach
  obtain ⟨pre, p1, p2⟩ := Sink.flush_spec w1.sink
  rw [hw] at hlog
  have hall : newL = pre ++ newL' := by
    apply List.append_cancel_right (bs := w.sink.log)
    rw [← hlog]
    show w1.sink.flush.1.log = _
    rw [p1, hR.log, List.append_assoc]
  obtain ⟨e, he, hfe⟩ := hf
  rw [hall] at he
  rcases List.mem_append.mp he with h' | h'
  · rw [p2 hs e h'] at hfe; cases hfe
  · rw [hC.done.clean e h'] at hfe; cases hfe

/-- the std layer keeps the error values in stock: whatever a std call returns, both are present
afterwards — so `armed` is an invariant of every call sequence on `CompressorWriter`, and
`error_reported_write` / `error_reported_flush` apply to every call of every history -/
theorem stdWrite_armed (E : Enc σ) (fuel : Nat) (w : Writer σ) (h : w.armed) (buf : Bytes)
    (r : Except Err Nat) (hd : (Writer.stdWrite E fuel w buf).2 = .done r) :
    (Writer.stdWrite E fuel w buf).1.armed := by
  unfold Writer.stdWrite at hd ⊢
  generalize hw : Writer.write E fuel w buf = x at hd ⊢
  obtain ⟨w', o⟩ := x
  cases o with
  | panic => simp at hd
  | livelock => simp at hd
  | done rr =>
    cases rr with
    | error e => exact ⟨rfl, rfl⟩
    | ok n =>
      obtain ⟨_, _, _, _, hD⟩ := writeLoop_ok E buf.length fuel w w' buf n h hw
      exact hD.armed

theorem stdFlush_armed (E : Enc σ) (fuel : Nat) (w : Writer σ) (h : w.armed)
    (r : Except Err Unit) (hd : (Writer.stdFlush E fuel w).2 = .done r) :
    (Writer.stdFlush E fuel w).1.armed := by
  unfold Writer.stdFlush at hd ⊢
  generalize hw : Writer.flush E fuel w = x at hd ⊢
  obtain ⟨w', o⟩ := x
  cases o with
  | panic => simp at hd
  | livelock => simp at hd
  | done rr =>
    cases rr with
    | error e => exact ⟨rfl, rfl⟩
    | ok u =>
      -- flush_or_close returned Ok, which leaves the slots untouched, and only the sink changed after it
      obtain ⟨w1, hfc, _, hw1⟩ := Writer.flush_ok E fuel w (by rw [hw])
      rw [hw] at hw1
      rw [show w' = { w1 with sink := w1.sink.flush.1 } from hw1]
      obtain ⟨_, _, hC⟩ := flushOrClose_ok E .flush fuel w w1 h hfc
      exact hC.done.armed

/-- `error_reported` (`read`): a hard error of the wrapped reader at any point of the call makes
`read` return `Err` -/
theorem error_reported_read (E : Enc σ) (fuel : Nat) (r : Reader σ) (hwf : r.WF) (cap : Nat) (hc : 0 < cap)
    (newL : List LogE) (hlog : (Reader.read E fuel r cap).1.src.log = newL ++ r.src.log)
    (hf : ∃ e ∈ newL, ∃ c, e.res = .err c) : ∀ bs, (Reader.read E fuel r cap).2 ≠ .done (.ok bs) := by
  intro bs hok
  rw [Reader.read_eq E fuel r hwf (by omega)] at hok hlog
  obtain ⟨newE, newL', k⟩ := readLoop_ok E cap fuel r _ bs hwf (Prod.ext rfl hok)
  have : newL = newL' := List.append_cancel_right (hlog.symm.trans k.run.log)
  subst this
  obtain ⟨e, he, c, hce⟩ := hf
  exact k.run.noErr e he c hce

/-- `copy_reports_first_read_error` and `error_reported` (copy function): when the function
returns, (a) if the wrapped reader failed, the result is `Err` of a read error that occurred —
whatever the wrapped writer did afterwards; (b) if it returns `Ok`, neither wrapped stream
reported a hard error and the writer never answered `Ok(0)` -/
theorem copy_reports_first_read_error (E : Enc σ) (fuel ib ob : Nat) (e : σ) (src : Source) (sink : Sink)
    (res : Except Err Nat) (h : (Copy.run E fuel ib ob e src sink).2 = .done res)
    (newR : List LogE) (hlog : (Copy.run E fuel ib ob e src sink).1.src.log = newR ++ src.log)
    (hf : ∃ x ∈ newR, ∃ k, x.res = .err k) :
    ∃ k, res = .error (.inner k) ∧ ∃ x ∈ newR, x.res = .err k := by
  by_cases h0 : 0 < ib ∧ 0 < ob
  · rw [Copy.run_eq E fuel e src sink h0] at h hlog
    obtain ⟨newE, newR', newW, d⟩ := Copy.loop_done E fuel _ _ res
      (Copy.init_WF ib e src sink h0.2) (Prod.ext rfl h)
    have : newR = newR' := List.append_cancel_right (hlog.symm.trans d.srcLog)
    subst this
    rcases d.reads rfl with ⟨_, hnone⟩ | ⟨k, hk, x, hx, hxk⟩
    · obtain ⟨x, hx, k, hk⟩ := hf
      exact absurd hk (hnone x hx k)
    · exact ⟨k, d.errRes _ hk, x, hx, hxk⟩
  · rw [Copy.run_panic E fuel e src sink h0] at h; cases h

theorem error_reported_copy (E : Enc σ) (fuel ib ob : Nat) (e : σ) (src : Source) (sink : Sink) (n : Nat)
    (h : (Copy.run E fuel ib ob e src sink).2 = .done (.ok n))
    (newR newW : List LogE) (hr : (Copy.run E fuel ib ob e src sink).1.src.log = newR ++ src.log)
    (hw : (Copy.run E fuel ib ob e src sink).1.sink.log = newW ++ sink.log) :
    (∀ x ∈ newR, ∀ k, x.res ≠ .err k) ∧ (∀ x ∈ newW, x.faulty = false) := by
  by_cases h0 : 0 < ib ∧ 0 < ob
  · rw [Copy.run_eq E fuel e src sink h0] at h hr hw
    obtain ⟨newE, newR', newW', d⟩ := Copy.loop_done E fuel _ _ (.ok n)
      (Copy.init_WF ib e src sink h0.2) (Prod.ext rfl h)
    have e1 : newR = newR' := List.append_cancel_right (hr.symm.trans d.srcLog)
    have e2 : newW = newW' := List.append_cancel_right (hw.symm.trans d.sinkLog)
    subst e1 e2
    refine ⟨?_, (d.ok n rfl).clean⟩
    rcases d.reads rfl with ⟨_, hnone⟩ | ⟨k, hk, _⟩
    · exact hnone
    · have := d.errRes _ hk; simp at this
  · rw [Copy.run_panic E fuel e src sink h0] at h; cases h

/-- `short_writes_transparent` (`write`, strong form): over EVERY script of short writes and
`Interrupted`s (no hard error, no `Ok(0)`) the writer makes exactly the encoder calls of the
reference automaton `specWriteLoop` (which knows no wrapped stream), returns its verdict, and the
sink has received exactly the bytes the encoder produced, in order -/
theorem short_writes_transparent_write (E : Enc σ) (fuel : Nat) (w : Writer σ) (buf : Bytes)
    (hf : w.sink.faultFree) (ha : w.errInvalid = true) :
    (Writer.write E fuel w buf).2 = (specWriteLoop E w.bufSize buf.length fuel w.enc buf).2.2 ∧
    (Writer.write E fuel w buf).1.enc = (specWriteLoop E w.bufSize buf.length fuel w.enc buf).1 ∧
    (Writer.write E fuel w buf).1.elog = (specWriteLoop E w.bufSize buf.length fuel w.enc buf).2.1 ++ w.elog ∧
    (Writer.write E fuel w buf).1.sink.got = w.sink.got ++ emitted (specWriteLoop E w.bufSize buf.length fuel w.enc buf).2.1 := by
  have h := writeLoop_faultFree_eq_spec E buf.length fuel w buf hf ha
  exact ⟨h.out, h.enc, h.elog, h.got⟩

/-- the same for `flush_or_close` (the FLUSH of `flush`, the FINISH of `into_inner` / `Drop`) -/
theorem short_writes_transparent_close (E : Enc σ) (op : Op) (fuel : Nat) (w : Writer σ)
    (hf : w.sink.faultFree) (ha : w.errInvalid = true) :
    (Writer.flushOrClose E op fuel w).2 = (specFlushOrClose E w.bufSize op fuel w.enc).2.2 ∧
    (Writer.flushOrClose E op fuel w).1.enc = (specFlushOrClose E w.bufSize op fuel w.enc).1 ∧
    (Writer.flushOrClose E op fuel w).1.elog = (specFlushOrClose E w.bufSize op fuel w.enc).2.1 ++ w.elog ∧
    (Writer.flushOrClose E op fuel w).1.sink.got = w.sink.got ++ emitted (specFlushOrClose E w.bufSize op fuel w.enc).2.1 := by
  have h := flushOrClose_faultFree_eq_spec E op fuel w hf ha
  exact ⟨h.out, h.enc, h.elog, h.got⟩

/-- `short_writes_transparent` (prefix form, ANY script incl. hard errors and zero-length writes):
what has reached the sink when a `write` returns — whatever it returns — is what was there before
plus a prefix of what the encoder produced during the call -/
theorem sink_gets_prefix_of_encoder_output (E : Enc σ) (fuel : Nat) (w : Writer σ) (h : w.armed) (buf : Bytes) :
    ∃ (newE : List ERec) (p : Bytes),
      (Writer.write E fuel w buf).1.elog = newE ++ w.elog ∧
      (Writer.write E fuel w buf).1.sink.got = w.sink.got ++ p ∧ p <+: emitted newE := by
  obtain ⟨newE, _, p, q⟩ := writeLoop_spec E buf.length fuel w buf h
  have hR := q.reach
  exact ⟨newE, p, hR.elog, hR.got, hR.isPrefix⟩

/-- `short_reads_transparent` (strong form): two readers over the same source bytes whose wrapped
readers follow DIFFERENT scripts of short reads and `Interrupted`s make the same encoder calls,
return the same result from every `read` (any buffer length), and stay related — so the whole
sequence of results of any sequence of `read`s is the same.  `short_reads_transparent_start` starts the induction. -/
theorem short_reads_transparent (E : Enc σ) (fuel cap : Nat) {a b : Reader σ} (h : Reader.Sim a b) :
    (Reader.read E fuel a cap).2 = (Reader.read E fuel b cap).2 ∧
    ((Reader.read E fuel a cap).2 ≠ .panic →
      Reader.Sim (Reader.read E fuel a cap).1 (Reader.read E fuel b cap).1) := by
  unfold Reader.read
  by_cases hc : cap = 0
  · subst hc; exact ⟨rfl, fun _ => h⟩
  · simp only [hc, if_false]
    rw [if_neg (show ¬ a.inputLen < a.inputOffset by have := h.wf.1; omega),
        if_neg (show ¬ b.inputLen < b.inputOffset by have := h.wfb.1; omega)]
    exact (readLoop_fuelLoop E cap).sim (R := Reader.Sim) (Q := fun t t' => t.2 = t'.2 ∧ (t.2 ≠ .panic → Reader.Sim t.1 t'.1))
      (fun _ _ h => ⟨rfl, fun _ => h⟩)
      (fun a b h => by
        have hi := Reader.iter_sim E cap h
        cases ha : Reader.iter E cap a <;> cases hb : Reader.iter E cap b <;> rw [ha, hb] at hi
        · exact Or.inl ⟨(_, _), (_, _), rfl, rfl, hi⟩
        · exact hi.elim
        · exact hi.elim
        · exact Or.inr ⟨_, _, rfl, rfl, hi⟩)
      fuel a b h

theorem short_reads_transparent_start (bufSize : Nat) (e : σ) (data : Bytes) (s1 s2 : List Beh) (t1 t2 : Tail)
    (h1 : ∀ b ∈ s1, b.faultFree = true) (h2 : ∀ b ∈ s2, b.faultFree = true)
    (ht1 : t1.faultFree = true) (ht2 : t2.faultFree = true) :
    Reader.Sim (Reader.new bufSize e ⟨data, s1, t1, []⟩) (Reader.new bufSize e ⟨data, s2, t2, []⟩) := by
  exact ⟨rfl, rfl, rfl, rfl, rfl, rfl, rfl, rfl, rfl, rfl, ⟨h1, ht1⟩, ⟨h2, ht2⟩, Reader.new_WF _ _ _⟩

theorem sim_same_encoder_calls {a b : Reader σ} (h : Reader.Sim a b) : a.elog = b.elog ∧ a.enc = b.enc :=
  ⟨h.elog, h.enc⟩

/-- `short_reads_transparent` + `short_writes_transparent` for the copy function (strong form): two
runs of `BrotliCompressCustomIoCustomDict` over the same source bytes whose wrapped reader AND wrapped
writer follow different scripts of short reads / short writes / `Interrupted`s (no hard error, no
premature `Ok(0)` read, no zero-length write) return the same result; unless that result is a panic
they have made the same encoder calls (`elog`), left the encoder in the same state and handed the
same bytes to the sink -/
theorem short_io_transparent_copy (E : Enc σ) (fuel ib ob : Nat) (e : σ) (data : Bytes)
    (r1 r2 w1 w2 : List Beh) (rt1 rt2 wt1 wt2 : Tail)
    (hr1 : ∀ b ∈ r1, b.faultFree = true) (hr2 : ∀ b ∈ r2, b.faultFree = true)
    (hw1 : ∀ b ∈ w1, b.faultFree = true) (hw2 : ∀ b ∈ w2, b.faultFree = true)
    (hrt1 : rt1.faultFree = true) (hrt2 : rt2.faultFree = true) (hwt1 : wt1.faultFree = true) (hwt2 : wt2.faultFree = true) :
    (Copy.run E fuel ib ob e ⟨data, r1, rt1, []⟩ ⟨w1, wt1, [], [], []⟩).2
      = (Copy.run E fuel ib ob e ⟨data, r2, rt2, []⟩ ⟨w2, wt2, [], [], []⟩).2 ∧
    ((Copy.run E fuel ib ob e ⟨data, r1, rt1, []⟩ ⟨w1, wt1, [], [], []⟩).2 ≠ .panic →
      (Copy.run E fuel ib ob e ⟨data, r1, rt1, []⟩ ⟨w1, wt1, [], [], []⟩).1.elog
        = (Copy.run E fuel ib ob e ⟨data, r2, rt2, []⟩ ⟨w2, wt2, [], [], []⟩).1.elog ∧
      (Copy.run E fuel ib ob e ⟨data, r1, rt1, []⟩ ⟨w1, wt1, [], [], []⟩).1.enc
        = (Copy.run E fuel ib ob e ⟨data, r2, rt2, []⟩ ⟨w2, wt2, [], [], []⟩).1.enc ∧
      (Copy.run E fuel ib ob e ⟨data, r1, rt1, []⟩ ⟨w1, wt1, [], [], []⟩).1.sink.got
        = (Copy.run E fuel ib ob e ⟨data, r2, rt2, []⟩ ⟨w2, wt2, [], [], []⟩).1.sink.got) := by
  by_cases h0 : 0 < ib ∧ 0 < ob
  · rw [Copy.run_eq E fuel e _ _ h0, Copy.run_eq E fuel e _ _ h0]
    have hsim : Copy.Sim (Copy.init ib ob e ⟨data, r1, rt1, []⟩ ⟨w1, wt1, [], [], []⟩)
        (Copy.init ib ob e ⟨data, r2, rt2, []⟩ ⟨w2, wt2, [], [], []⟩) :=
      ⟨rfl, rfl, rfl, rfl, rfl, rfl, rfl, rfl, rfl, rfl, rfl, rfl, rfl, ⟨hr1, hrt1⟩, ⟨hr2, hrt2⟩, ⟨hw1, hwt1⟩,
        ⟨hw2, hwt2⟩, Nat.zero_le _⟩
    obtain ⟨k1, k2⟩ := (Copy.loop_fuelLoop E).sim (R := Copy.Sim) (Q := fun t t' => t.2 = t'.2 ∧ (t.2 ≠ .panic → Copy.Sim t.1 t'.1))
      (fun _ _ h => ⟨rfl, fun _ => h⟩)
      (fun a b h => by
        have hi := Copy.iter_sim E h
        cases ha : Copy.iter E a <;> cases hb : Copy.iter E b <;> rw [ha, hb] at hi
        · exact Or.inl ⟨(_, _), (_, _), rfl, rfl, hi⟩
        · exact hi.elim
        · exact hi.elim
        · exact Or.inr ⟨_, _, rfl, rfl, hi⟩)
      fuel _ _ hsim
    exact ⟨k1, fun hne => ⟨(k2 hne).elog, (k2 hne).enc, (k2 hne).got⟩⟩
  · rw [Copy.run_panic E fuel e _ _ h0, Copy.run_panic E fuel e _ _ h0]
    exact ⟨rfl, fun hne => absurd rfl hne⟩

/-- `caller_read_sizes_do_not_move_chunk_boundaries`: after every successful `read` — whatever
buffer length the caller passed — the reader's own buffer is "full or empty" (`Reader.Full`: a
complete load, or EOF, or nothing left), and in such a state, while bytes are still waiting, the
next `read` makes NO call on the wrapped reader and leaves the buffer as it is.  So the wrapped
reader is only ever asked when the window is empty, every input offered to the encoder is a suffix
of one complete load of the own buffer, and the load boundaries (multiples of the buffer size in
the source) do not depend on the caller's read sizes.  That the BYTES are then independent of
the read sizes is the encoder's half — C05 — and is compared on the real code by the pair oracle of
the harness (`adapters:reader-bytes-depend-on-read-sizes`). -/
theorem caller_read_sizes_do_not_move_chunk_boundaries (E : Enc σ) (fuel : Nat) (r : Reader σ) (hwf : r.WF)
    (cap : Nat) (hc : 0 < cap) (r' : Reader σ) (bs : Bytes) (h : Reader.read E fuel r cap = (r', .done (.ok bs))) :
    r'.Full ∧ r'.WF ∧
    (r'.window ≠ [] → r'.fill.2 = none ∧ r'.fill.1.src = r'.src ∧ r'.fill.1.buf = r'.buf ∧
      r'.fill.1.window = r'.window) := by
  rw [Reader.read_eq E fuel r hwf (by omega)] at h
  obtain ⟨_, _, k⟩ := readLoop_ok E cap fuel r r' bs hwf h
  have hW := k.run.wf
  have hF := k.run.full
  refine ⟨hF, hW, fun hw => ?_⟩
  rw [Reader.fill_no_top_up r' hW hF hw]
  exact ⟨rfl, rfl, rfl, rfl⟩

example : (Reader.new 4196 (⟨[], false⟩ : Toy) ⟨[1, 2, 3], [], .full, []⟩).Full := Reader.new_Full _ _ _

/-- `true` = every `write` returned `Ok` -/
def session (E : Enc σ) (fuel : Nat) : Writer σ → List Bytes → Writer σ × Bool
  | w, [] => (w, true)
  | w, b :: bs =>
    match Writer.stdWrite E fuel w b with
    | (w', .done (.ok _)) => session E fuel w' bs
    | (w', _) => (w', false)

theorem session_ok (E : Enc σ) (fuel : Nat) : ∀ (bs : List Bytes) (w w1 : Writer σ), w.armed →
    session E fuel w bs = (w1, true) →
    w1.armed ∧ w1.bufSize = w.bufSize ∧
    ∃ (newE : List ERec) (newL : List LogE), w1.elog = newE ++ w.elog ∧ w1.sink.log = newL ++ w.sink.log ∧
      w1.sink.got = w.sink.got ++ emitted newE ∧ fed newE = bs.flatten ∧
      (∀ e ∈ newL, e.faulty = false) ∧ (∀ r ∈ newE, r.ans.ok = true) := by
  intro bs
  induction bs with
  | nil =>
    intro w w1 ha h
    simp only [session, Prod.mk.injEq] at h
    obtain ⟨h1, _⟩ := h
    subst h1
    exact ⟨ha, rfl, [], [], by simp, by simp, by simp, by simp, by simp, by simp⟩
  | cons b bs ih =>
    intro w w1 ha h
    simp only [session] at h
    unfold Writer.stdWrite at h
    generalize hw : Writer.write E fuel w b = x at h
    obtain ⟨w', o⟩ := x
    cases o with
    | panic => simp at h
    | livelock => simp at h
    | done r =>
      cases r with
      | error e => simp at h
      | ok n =>
        simp only at h
        obtain ⟨_, newE, newL, hR, hD⟩ := writeLoop_ok E b.length fuel w w' b n ha hw
        obtain ⟨i1, i2, newE', newL', j1, j2, j3, j4, j5, j6⟩ := ih w' w1 hD.armed h
        refine ⟨i1, by rw [i2, hR.bufSize], newE' ++ newE, newL' ++ newL, by rw [j1, hR.elog]; simp,
          by rw [j2, hR.log]; simp, ?_, ?_, ?_, ?_⟩
        · rw [j3, hR.got, emitted_append]; simp
        · rw [fed_append, hD.fedAll, j4]; simp
        · exact List.forall_mem_append.mpr ⟨j5, hD.clean⟩
        · exact List.forall_mem_append.mpr ⟨j6, fun r h' => (hD.calls r h').2.1⟩

/-- `all_ok_complete` (writer): start from a fresh `CompressorWriter`; if every `write` returned
`Ok` and the closing FINISH (what `into_inner` / `Drop` run) went through, then the encoder has
been fed exactly the concatenation of everything written, in PROCESS calls followed by FINISH
calls, it reports `is_finished`, every one of its calls reported success, and the wrapped sink
holds exactly the bytes it produced, in order, none missing, none twice.  (That these bytes are a
complete brotli stream for the input is the encoder's property — C01.) -/
theorem all_ok_complete_writer (E : Enc σ) (fuel bufSize : Nat) (e : σ) (sink : Sink) (hs : sink.got = [])
    (bs : List Bytes) (w1 w2 : Writer σ)
    (h1 : session E fuel (Writer.new bufSize e sink) bs = (w1, true))
    (h2 : Writer.flushOrClose E .finish fuel w1 = (w2, .done (.ok ()))) :
    w2.sink.got = emitted w2.elog ∧ fed w2.elog = bs.flatten ∧ E.isFinished w2.enc = true ∧
    (∀ r ∈ w2.elog, r.ans.ok = true) ∧ (∀ x ∈ w2.sink.log, x ∈ sink.log ∨ x.faulty = false) := by
  obtain ⟨a1, a2, newE, newL, k1, k2, k3, k4, k5, k6⟩ := session_ok E fuel bs (Writer.new bufSize e sink) w1 ⟨rfl, rfl⟩ h1
  obtain ⟨newE', newL', hC⟩ := flushOrClose_ok E .finish fuel w1 w2 a1 h2
  have hfin := hC.exit
  have j4 := hC.done.fedAll
  have j5 := hC.done.clean
  have j1 := hC.reach.elog
  have j2 := hC.reach.log
  have j3 := hC.reach.got
  have hnew : (Writer.new bufSize e sink).elog = [] := rfl
  have hnews : (Writer.new bufSize e sink).sink = sink := rfl
  rw [hnew, List.append_nil] at k1
  rw [hnews] at k2 k3
  refine ⟨?_, ?_, by simpa using hfin, ?_, ?_⟩
  · rw [j3, k3, hs, j1, k1, emitted_append]; simp
  · rw [j1, k1, fed_append, j4, k4]; simp
  · rw [j1, k1]
    exact List.forall_mem_append.mpr ⟨fun r h' => (hC.done.calls r h').2.1, k6⟩
  · rw [j2, k2]
    exact List.forall_mem_append.mpr ⟨fun x h' => Or.inr (j5 x h'),
      List.forall_mem_append.mpr ⟨fun x h' => Or.inr (k5 x h'), fun x h' => Or.inl h'⟩⟩

/-- `all_ok_complete` (reader): a `read` that returns `Ok` hands the caller exactly the bytes the
encoder produced during the call (only its last encoder call produced any), and nothing read from
the source is lost or fed twice: consumed-by-the-encoder ++ waiting-in-the-buffer ++
still-in-the-source is the same byte string before and after.  `Ok(0)` for a non-empty buffer is
only returned once the encoder reports `is_finished`. -/
theorem all_ok_complete_reader (E : Enc σ) (fuel : Nat) (r : Reader σ) (hwf : r.WF) (cap : Nat) (hc : 0 < cap)
    (r' : Reader σ) (bs : Bytes) (h : Reader.read E fuel r cap = (r', .done (.ok bs))) :
    r'.WF ∧ r'.total = r.total ∧
    ∃ newE, r'.elog = newE ++ r.elog ∧ emitted newE = bs ∧ (∀ rc ∈ newE, rc.ans.ok = true) ∧
      (bs = [] → E.isFinished r'.enc = true) := by
  rw [Reader.read_eq E fuel r hwf (by omega)] at h
  obtain ⟨newE, _, k⟩ := readLoop_ok E cap fuel r r' bs hwf h
  refine ⟨k.run.wf, k.run.total, newE, k.run.elog, k.out, fun rc hrc => (k.run.calls rc hrc).2.1, ?_⟩
  intro hb
  rcases k.fin with h' | h'
  · exact h'
  · exact absurd hb h'

/-- `all_ok_complete` (copy function): if it returns `Ok(n)`, the encoder reports `is_finished`,
every encoder call succeeded, nothing is staged any more, the wrapped sink has received exactly
the bytes the encoder produced (in order), `n` is the encoder's running total, and the bytes fed
to the encoder are exactly the bytes the wrapped reader delivered before it signalled EOF -/
theorem all_ok_complete_copy (E : Enc σ) (fuel ib ob : Nat) (e : σ) (src : Source) (sink : Sink) (n : Nat)
    (c' : Copy σ) (h : Copy.run E fuel ib ob e src sink = (c', .done (.ok n))) :
    E.isFinished c'.enc = true ∧ n = c'.totalOut ∧ c'.pending = [] ∧
    c'.sink.got = sink.got ++ emitted c'.elog ∧ fed c'.elog ++ c'.window ++ c'.src.data = src.data ∧
    (∀ r ∈ c'.elog, r.ans.ok = true) := by
  by_cases h0 : 0 < ib ∧ 0 < ob
  · rw [Copy.run_eq E fuel e src sink h0] at h
    obtain ⟨newE, newR, newW, d⟩ := Copy.loop_done E fuel _ c' (.ok n)
      (Copy.init_WF ib e src sink h0.2) h
    have k1 := d.elog
    have j := d.ok n rfl
    have j5 := j.got
    have j6 := j.conserved
    simp only [Copy.init, List.append_nil] at k1 j5
    simp only [Copy.init, Copy.window, List.take_zero, List.nil_append] at j6
    subst k1
    exact ⟨j.fin, j.total, j.pending, by simpa using j5, by simpa [Copy.window] using j6, j.allOk⟩
  · have := Copy.run_panic E fuel e src sink h0
    rw [h] at this; cases this

/-! ## the same for the modelled stream machine instead of an assumed encoder

`streamEnc o` wraps `BV.Stream.compressStream` (the model of encode.rs) as an `Enc`; `EncSane` and
`EncProgress` hold for it with nothing assumed about the payload encoder: the rank is a function of the
state alone (`rankPF` / `rankFl` over `stateCap s`, the bound the machine's own storage sizing puts on what
the one encode still due can leave pending).  A call in which the stream model panics, or that leaves
the envelope `Good` (positions ≥ 2^64), makes the wrapped encoder answer `ok = false` from then on — the
adapters then return `Err`; absence of panics inside the stream machine is C20/C01's subject. -/

section Modelled
open BV.Stream

theorem write_returns_stream (o : Oracle) (w : Writer (Option St))
    (hb : 0 < w.bufSize) (buf : List Nat) :
    ∃ N, ∀ fuel, N ≤ fuel → (Writer.write (streamEnc o) fuel w buf).2 ≠ .livelock :=
  write_returns (streamEnc o) opsPF _ (streamEnc_progress_pf o) (Or.inl rfl) w hb buf

theorem flush_returns_stream (o : Oracle) (w : Writer (Option St))
    (hb : 0 < w.bufSize) :
    ∃ N, ∀ fuel, N ≤ fuel → (Writer.flush (streamEnc o) fuel w).2 ≠ .livelock :=
  flush_returns (streamEnc o) opsFl _ (streamEnc_progress_fl o) rfl w hb

theorem into_inner_returns_stream (o : Oracle) (w : Writer (Option St))
    (hb : 0 < w.bufSize) :
    ∃ N, ∀ fuel, N ≤ fuel → (Writer.intoInner (streamEnc o) fuel w).2 ≠ .livelock :=
  into_inner_returns (streamEnc o) opsPF _ (streamEnc_progress_pf o) (Or.inr rfl) w hb

theorem read_returns_stream (o : Oracle) (r : Reader (Option St))
    (hwf : r.WF) (cap : Nat) :
    ∃ N, ∀ fuel, N ≤ fuel → (Reader.read (streamEnc o) fuel r cap).2 ≠ .livelock :=
  read_returns (streamEnc o) opsPF _ (streamEnc_progress_pf o) ⟨Or.inl rfl, Or.inr rfl⟩ r hwf cap

theorem copy_terminates_stream (o : Oracle) (ib ob : Nat) (e : Option St)
    (src : Source) (sink : Sink) :
    ∃ N, ∀ fuel, N ≤ fuel → (Copy.run (streamEnc o) fuel ib ob e src sink).2 ≠ .livelock :=
  copy_terminates (streamEnc o) opsPF _ (streamEnc_progress_pf o) ⟨Or.inl rfl, Or.inr rfl⟩ ib ob e src sink

theorem stream_encoder_is_sane (o : Oracle) : EncSane (streamEnc o) :=
  streamEnc_sane o

theorem stream_encoder_stays_alive (o : Oracle) (s : Option St) (op : Op)
    (inp : List Nat) (cap : Nat) (s' : St) (h : ((streamEnc o).step s op inp cap).1 = some s') : Good s' :=
  streamEnc_alive o s op inp cap s' h

example : Good (ensureInitialized St.new) := good_fresh ⟨{}, rfl⟩

end Modelled

example : EncSane toyEnc := toy_sane
example : EncProgress toyEnc allOps toyRank := toy_progress
example : (Writer.new 3 (⟨[], false⟩ : Toy) ⟨[.atMost 1, .intr, .zero], .full, [], [], []⟩).armed := ⟨rfl, rfl⟩
example : 0 < (Writer.new 1 (⟨[], false⟩ : Toy) ⟨[], .zero, [], [], []⟩).bufSize := by decide
example : (Reader.new 1 (⟨[], false⟩ : Toy) ⟨[1, 2, 3], [.atMost 1, .intr], .atMost 2, []⟩).WF := Reader.new_WF _ _ _
example : (⟨[.atMost 1, .intr, .full], .atMost 3, [], [], []⟩ : Sink).faultFree := by
  constructor
  · intro b hb; simp at hb; rcases hb with h | h | h <;> subst h <;> rfl
  · rfl
example : LogE.faulty ⟨0, 5, .n 0⟩ = true := rfl
example : LogE.faulty ⟨0, 5, .err 3⟩ = true := rfl
example : LogE.faulty ⟨0, 5, .n 2⟩ = false := rfl
example : Reader.Sim (Reader.new 4 (⟨[], false⟩ : Toy) ⟨[7, 8, 9], [.atMost 1, .intr], .full, []⟩)
                     (Reader.new 4 (⟨[], false⟩ : Toy) ⟨[7, 8, 9], [], .atMost 2, []⟩) :=
  short_reads_transparent_start 4 _ _ _ _ _ _
    (by intro b hb; simp at hb; rcases hb with h | h <;> subst h <;> rfl) (by intro b hb; simp at hb) rfl rfl

end BV.Props.C11
