/-
C16/C03/C12, translator tie: the Lean definitions GENERATED from the current Rust text of src/concat/mod.rs
(tools/rs2lean.py -> BV/Gen/FnC16.lean; `match` arms as a chain of tests, `Result<_, ()>` as `Option`, `BroCatli` and
`NewStreamData` as Lean structures read through `toState` / `toNsd`) compute what the concatenator model `BV.Concat`
computes whenever the model returns: a Rust panic is an outcome of the model, which the generated `List.getD` cannot show.
Tied here: `parse_window_size`, `NewStreamData::new`, `sufficient`, `new_brotli_file`, `new_with_window_size`,
`append_eof_metablock_to_last_bytes`, `detect_varlen_offset`.  `flush_previous_stream`, `finish`, `serialize_to_buffer` and
`deserialize_from_buffer` are translated into the same module but not tied here.
-/
import BV.Gen.FnC16
import BV.Model.Concat
import BV.Lemmas.RsPrelude

namespace BV.Props.C16Gen
open BV.Gen.FnC16 BV.Concat BV.Concat.Outcome BV.Rs

theorem ite_ok {α : Type} (c : Prop) [Decidable c] (a : α) (X : Outcome α) (Y : α) (h : X = Outcome.ok Y) :
    (if c then Outcome.ok a else X) = Outcome.ok (if c then a else Y) := by
  split <;> simp_all

theorem ite_ok_ok {α : Type} (c : Prop) [Decidable c] {A B : Outcome α} {a b : α} (hA : A = ok a) (hB : B = ok b) :
    (if c then A else B) = ok (if c then a else b) := by
  split <;> assumption

theorem parse_window_size_generated (b0 b1 : Nat) (rest : List Nat) :
    parseWindowSize (b0 :: b1 :: rest) = Outcome.ok (parse_window_size (b0 :: b1 :: rest)) := by
  unfold parseWindowSize parse_window_size idx
  simp only [List.getElem?_cons_zero, List.getElem?_cons_succ, List.getD_cons_zero, List.getD_cons_succ,
    Outcome.bind, beq_iff_eq, bne_iff_ne, ne_eq]
  repeat' apply ite_ok
  by_cases h1 : 10 ≤ b1 &&& 63 <;> by_cases h2 : b1 &&& 63 ≤ 30 <;> simp [h1, h2]

theorem parse_window_size_generated_one (b0 : Nat) (r : Option (Nat × Nat))
    (h : parseWindowSize [b0] = Outcome.ok r) : r = parse_window_size [b0] := by
  have key : ∀ (c : Prop) [Decidable c] (a : Option (Nat × Nat)) (X : Outcome (Option (Nat × Nat))) (Y : Option (Nat × Nat)),
      (X = Outcome.ok r → r = Y) → ((if c then Outcome.ok a else X) = Outcome.ok r → r = (if c then a else Y)) := by
    intro c _ a X Y hXY hh
    split at hh
    · injection hh with hh; simp_all
    · simp_all
  revert h
  unfold parseWindowSize parse_window_size idx
  simp only [List.getElem?_cons_zero, List.getElem?_cons_succ, List.getElem?_nil, List.getD_cons_zero,
    List.getD_cons_succ, List.getD_nil, Outcome.bind, beq_iff_eq, bne_iff_ne, ne_eq]
  repeat' apply key
  intro h
  cases h

theorem parse_window_size_generated_of_ok (bs : List Nat) (r : Option (Nat × Nat))
    (h : parseWindowSize bs = Outcome.ok r) : r = parse_window_size bs := by
  match bs, h with
  | [], h => simp [parseWindowSize, idx, Outcome.bind] at h
  | [b0], h => exact parse_window_size_generated_one b0 r h
  | b0 :: b1 :: rest, h =>
    rw [parse_window_size_generated] at h
    injection h with h
    exact h.symm

/-- a generated `[u8; 5]` (a list) as the model's five-field record; missing entries read as 0 -/
def toB5 (l : List Nat) : B5 := ⟨l.getD 0 0, l.getD 1 0, l.getD 2 0, l.getD 3 0, l.getD 4 0⟩

def toNsd (d : BV.Gen.FnC16.NewStreamData) : BV.Concat.NewStreamData :=
  ⟨toB5 d.bytes_so_far, d.num_bytes_read, d.num_bytes_written⟩

def toState (s : BroCatli) : State :=
  { last_bytes := (s.last_bytes.getD 0 0, s.last_bytes.getD 1 0), last_bytes_len := s.last_bytes_len,
    last_byte_sanitized := s.last_byte_sanitized, any_bytes_emitted := s.any_bytes_emitted,
    last_byte_bit_offset := s.last_byte_bit_offset, window_size := s.window_size,
    new_stream_pending := s.new_stream_pending.map toNsd }

theorem new_stream_data_new_generated : toNsd NewStreamData_new = BV.Concat.NewStreamData.new := rfl

theorem sufficient_generated (d : BV.Gen.FnC16.NewStreamData) : sufficient d = (toNsd d).sufficient := by
  unfold sufficient BV.Concat.NewStreamData.sufficient toNsd toB5
  by_cases h4 : d.num_bytes_read = 4 <;> by_cases h17 : (127 &&& d.bytes_so_far.getD 0 0) = 17 <;>
    by_cases h5 : d.num_bytes_read = 5 <;> simp [h4, h5]

theorem new_brotli_file_generated (s : BroCatli) : toState (new_brotli_file s) = newBrotliFile (toState s) := rfl

def nwwsAgree (w : Nat) : Bool :=
  match State.newWithWindowSize w with
  | .ok s => decide (toState (new_with_window_size w) = s) && new_with_window_size_ok w
  | .panic _ => !new_with_window_size_ok w

theorem new_with_window_size_fin : ∀ w : Fin 256, nwwsAgree w.val = true := by decide +kernel

theorem new_with_window_size_generated (w : Nat) (hw : w < 256) (s : State) (h : State.newWithWindowSize w = .ok s) :
    toState (new_with_window_size w) = s ∧ new_with_window_size_ok w = true := by
  have := new_with_window_size_fin ⟨w, hw⟩
  unfold nwwsAgree at this
  simp only [h, Bool.and_eq_true, decide_eq_true_eq] at this
  exact this

theorem new_with_window_size_panics (w : Nat) (hw : w < 256) (site : Site) (h : State.newWithWindowSize w = .panic site) :
    new_with_window_size_ok w = false := by
  have := new_with_window_size_fin ⟨w, hw⟩
  unfold nwwsAgree at this
  simp only [h] at this
  simpa using this

theorem of_guard_ok {α : Type} {c : Prop} [Decidable c] {site : Site} {X : Outcome α} {r : α}
    (h : (if c then panic site else X) = ok r) : ¬ c ∧ X = ok r := by
  by_cases hc : c
  · rw [if_pos hc] at h; cases h
  · rw [if_neg hc] at h; exact ⟨hc, h⟩

theorem appendEof_ok (s s' : State) (h : appendEofMetablockToLastBytes s = ok s') :
    s.last_byte_sanitized = true ∧ 1 ≤ s.last_bytes_len ∧
    (s.last_bytes_len - 1) * 8 + s.last_byte_bit_offset < 16 ∧
    (8 < s.last_byte_bit_offset + 2 → s.last_bytes_len + 1 < 256) ∧
    s' = { s with
      last_bytes :=
        ((s.last_bytes.1 ||| (s.last_bytes.2 <<< 8) ||| ((3 <<< ((s.last_bytes_len - 1) * 8 + s.last_byte_bit_offset)) % 65536)) % 256,
         ((s.last_bytes.1 ||| (s.last_bytes.2 <<< 8) ||| ((3 <<< ((s.last_bytes_len - 1) * 8 + s.last_byte_bit_offset)) % 65536)) >>> 8) % 256)
      last_byte_sanitized := false
      last_byte_bit_offset := if 8 ≤ s.last_byte_bit_offset + 2 then s.last_byte_bit_offset + 2 - 8 else s.last_byte_bit_offset + 2
      last_bytes_len := if 8 < s.last_byte_bit_offset + 2 then s.last_bytes_len + 1 else s.last_bytes_len } := by
  unfold appendEofMetablockToLastBytes at h
  obtain ⟨c1, h⟩ := of_guard_ok h
  obtain ⟨c2, h⟩ := of_guard_ok h
  obtain ⟨c3, h⟩ := of_guard_ok h
  obtain ⟨c4, h⟩ := of_guard_ok h
  obtain ⟨c5, h⟩ := of_guard_ok h
  obtain ⟨c6, h⟩ := of_guard_ok h
  refine ⟨by simpa using c1, by omega, by omega, ?_⟩
  by_cases b1 : 8 ≤ s.last_byte_bit_offset + 2
  · rw [if_pos b1] at h
    by_cases b2 : s.last_byte_bit_offset + 2 - 8 ≠ 0
    · rw [if_pos b2] at h
      obtain ⟨b3, h⟩ := of_guard_ok h
      cases h
      have b4 : 8 < s.last_byte_bit_offset + 2 := by omega
      rw [if_pos b1, if_pos b4]
      exact ⟨fun _ => by omega, rfl⟩
    · rw [if_neg b2] at h
      cases h
      have b4 : ¬ 8 < s.last_byte_bit_offset + 2 := by omega
      rw [if_pos b1, if_neg b4]
      exact ⟨fun hh => absurd hh b4, rfl⟩
  · rw [if_neg b1] at h
    cases h
    have b4 : ¬ 8 < s.last_byte_bit_offset + 2 := by omega
    rw [if_neg b1, if_neg b4]
    exact ⟨fun hh => absurd hh b4, rfl⟩

theorem append_eof_eq (g : BroCatli) (x y : Nat) (hl : g.last_bytes = [x, y]) (hs : g.last_byte_sanitized = true)
    (h1 : 1 ≤ g.last_bytes_len) (h16 : (g.last_bytes_len - 1) * 8 + g.last_byte_bit_offset < 16)
    (hlen : 8 < g.last_byte_bit_offset + 2 → g.last_bytes_len + 1 < 256) :
    append_eof_metablock_to_last_bytes g = { g with
      last_bytes :=
        [(x ||| (y <<< 8 % 65536) ||| ((3 <<< ((g.last_bytes_len - 1) * 8 + g.last_byte_bit_offset)) % 65536)) % 256,
         ((x ||| (y <<< 8 % 65536) ||| ((3 <<< ((g.last_bytes_len - 1) * 8 + g.last_byte_bit_offset)) % 65536)) >>> 8) % 256]
      last_byte_sanitized := false
      last_byte_bit_offset := if 8 ≤ g.last_byte_bit_offset + 2 then g.last_byte_bit_offset + 2 - 8 else g.last_byte_bit_offset + 2
      last_bytes_len := if 8 < g.last_byte_bit_offset + 2 then g.last_bytes_len + 1 else g.last_bytes_len } ∧
    append_eof_metablock_to_last_bytes_ok g = true := by
  have m1 : (g.last_bytes_len - 1) * 8 < 256 := by omega
  have m2 : (g.last_bytes_len - 1) * 8 + g.last_byte_bit_offset < 256 := by omega
  have m3 : g.last_byte_bit_offset + 2 < 256 := by omega
  unfold append_eof_metablock_to_last_bytes append_eof_metablock_to_last_bytes_ok
  simp only [hl, hs, List.getD_cons_zero, List.getD_cons_succ, List.set_cons_zero, List.set_cons_succ,
    List.length_cons, List.length_nil,
    wsub_of_le h1 (show g.last_bytes_len < 256 by omega), Nat.mod_eq_of_lt m1, Nat.mod_eq_of_lt m2, Nat.mod_eq_of_lt h16,
    Nat.mod_eq_of_lt m3, h1, h16, m1, m2, m3, Nat.reduceAdd, Nat.reduceLT, Nat.reduceMod, Nat.lt_add_one, decide_true, Bool.and_self,
    decide_eq_true_eq, bne_iff_ne, ge_iff_le]
  -- `simp only [if_pos …]`, not `rw`: on this pair of record terms each `rw` of a condition costs millions of heartbeats
  by_cases b1 : 8 ≤ g.last_byte_bit_offset + 2
  · by_cases b2 : 8 < g.last_byte_bit_offset + 2
    · have b3 : g.last_byte_bit_offset + 2 - 8 ≠ 0 := by omega
      simp only [if_pos b2, if_pos b3, Nat.mod_eq_of_lt (hlen b2), hlen b2, b1, decide_true, Bool.and_self,
        wsub_of_le b1 m3, and_self, if_true]
    · have b3 : ¬ g.last_byte_bit_offset + 2 - 8 ≠ 0 := by omega
      simp only [if_neg b2, if_neg b3, b1, decide_true, Bool.and_self, wsub_of_le b1 m3, and_self, if_true]
  · simp only [if_neg b1, if_neg (show ¬ 8 < g.last_byte_bit_offset + 2 by omega), and_self]

theorem append_eof_generated (g : BroCatli) (x y : Nat) (hl : g.last_bytes = [x, y]) (hy : y < 256) (s' : State)
    (h : appendEofMetablockToLastBytes (toState g) = .ok s') :
    toState (append_eof_metablock_to_last_bytes g) = s' := by
  obtain ⟨hs, h1, h16, hlen, rfl⟩ := appendEof_ok _ _ h
  have e8 : y <<< 8 % 65536 = y <<< 8 := by rw [Nat.shiftLeft_eq]; omega
  rw [(append_eof_eq g x y hl hs h1 h16 hlen).1, e8]
  simp only [toState, hl, List.getD_cons_zero, List.getD_cons_succ]

/-- `…_ok` is the generated debug-build no-panic condition -/
theorem append_eof_ok_generated (g : BroCatli) (x y : Nat) (hl : g.last_bytes = [x, y]) (s' : State)
    (h : appendEofMetablockToLastBytes (toState g) = .ok s') :
    append_eof_metablock_to_last_bytes_ok g = true := by
  obtain ⟨hs, h1, h16, hlen, -⟩ := appendEof_ok _ _ h
  exact (append_eof_eq g x y hl hs h1 h16 hlen).2

def offOf : Option (Nat × Nat) → Nat
  | some (_, o) => o
  | none => 0

theorem offOf_ite (c : Prop) [Decidable c] (a b : Option (Nat × Nat)) (ha : offOf a ≤ 14) (hb : offOf b ≤ 14) :
    offOf (if c then a else b) ≤ 14 := by
  split <;> assumption

theorem pws_off_aux (bs : List Nat) : offOf (parse_window_size bs) ≤ 14 := by
  unfold parse_window_size
  repeat' apply offOf_ite
  all_goals first | decide | simp [offOf]

theorem pws_off (bs : List Nat) (w off : Nat) (h : parse_window_size bs = some (w, off)) : off ≤ 14 := by
  have := pws_off_aux bs
  rw [h] at this
  exact this

/-- body of the generated `for (index, item) in bytes_so_far.iter().enumerate()` loop -/
def packBody (bs : List Nat) : Nat → Nat → Nat :=
  fun index bytes =>
    let item : Nat := (List.getD bs index 0)
    let bytes : Nat := (bytes ||| ((item <<< (((index * 8) % 18446744073709551616) % 64)) % 18446744073709551616))
    bytes

theorem pack_loop (site : Site) (bs : List Nat) (hb : ∀ b ∈ bs, b < 256) : ∀ (n i acc r : Nat), i + n = bs.length →
    packLE site (bs.drop i) i acc = ok r → forRangeAux (packBody bs) n i acc = r := by
  intro n
  induction n with
  | zero =>
    intro i acc r hi h
    have : bs.drop i = [] := List.drop_eq_nil_of_le (by omega)
    rw [this] at h
    simp only [packLE] at h
    exact (Outcome.ok.inj h)
  | succ n ih =>
    intro i acc r hi h
    have hlt : i < bs.length := by omega
    rw [List.drop_eq_getElem_cons hlt] at h
    unfold packLE at h
    split at h
    · cases h
    rename_i h64
    unfold forRangeAux
    have hitem : bs[i] < 256 := hb _ (List.getElem_mem hlt)
    have e : packBody bs i acc = acc ||| (bs[i] <<< (i * 8)) := by
      unfold packBody
      simp only [List.getD_eq_getElem?_getD, List.getElem?_eq_getElem hlt, Option.getD_some]
      have e1 : ((i * 8) % 18446744073709551616) % 64 = i * 8 := by omega
      rw [e1]
      have hpow : 2 ^ (i * 8) ≤ 2 ^ 56 := Nat.pow_le_pow_right (by decide) (by omega)
      have : bs[i] <<< (i * 8) < 18446744073709551616 := by
        rw [Nat.shiftLeft_eq]
        have h1 : bs[i] * 2 ^ (i * 8) ≤ 255 * 2 ^ 56 := Nat.mul_le_mul (by omega) hpow
        have h2 : (255 : Nat) * 2 ^ 56 < 18446744073709551616 := by decide
        omega
      rw [Nat.mod_eq_of_lt this]
    rw [e]
    exact ih (i + 1) _ r (by omega) h

/-- the part of the generated `detect_varlen_offset` behind the ISLAST test (it occurs twice in the generated text) -/
def genTail (bytes offset : Nat) : Option Nat :=
  let bytes : Nat := (bytes >>> (1 % 64))
  let mnibbles : Nat := (bytes &&& 3)
  let bytes : Nat := (bytes >>> (2 % 64))
  let offset : Nat := ((offset + 2) % 18446744073709551616)
  if (mnibbles == 3) then
    if ((bytes &&& 1) != 0) then
      none
    else
      let bytes : Nat := (bytes >>> (1 % 64))
      let offset : Nat := ((offset + 1) % 18446744073709551616)
      let mskipbytes : Nat := (bytes &&& ((((1 <<< (2 % 64)) % 18446744073709551616) + 18446744073709551616 - 1) % 18446744073709551616))
      let offset : Nat := ((offset + 2) % 18446744073709551616)
      let offset : Nat := ((offset + ((mskipbytes * 8) % 18446744073709551616)) % 18446744073709551616)
      (some offset)
  else
    let mnibbles : Nat := ((mnibbles + 4) % 18446744073709551616)
    let offset : Nat := ((offset + ((mnibbles * 4) % 18446744073709551616)) % 18446744073709551616)
    let bytes : Nat := (bytes >>> (((mnibbles * 4) % 18446744073709551616) % 64))
    let offset : Nat := ((offset + 1) % 18446744073709551616)
    if ((bytes &&& 1) == 0) then
      none
    else
      (some offset)

theorem detect_unfold (bs : List Nat) :
    detect_varlen_offset bs =
      (if (Option.isSome (parse_window_size bs)) then
        (let bytes : Nat := (forRangeAux (packBody bs) (bs.length - 0) 0 0) >>> ((Option.getD (parse_window_size bs) (0, 0)).2 % 64)
         let offset : Nat := (((Option.getD (parse_window_size bs) (0, 0)).2 + 1) % 18446744073709551616)
         if ((bytes &&& 1) != 0) then
           (let bytes : Nat := (bytes >>> (1 % 64))
            let offset : Nat := ((offset + 1) % 18446744073709551616)
            if ((bytes &&& 1) != 0) then (some offset) else genTail bytes offset)
         else genTail bytes offset)
      else none) := rfl

def modelTail (bytes offset : Nat) : Outcome (Option Nat) :=
  let bytes := bytes >>> 1
  let mnibbles := bytes &&& 3
  let bytes := bytes >>> 2
  let offset := offset + 2
  if mnibbles = 3 then
    if bytes &&& 1 ≠ 0 then ok none else
    let bytes := bytes >>> 1
    let offset := offset + 1
    let mskipbytes := bytes &&& ((1 <<< 2) - 1)
    let offset := offset + 2
    let offset := offset + mskipbytes * 8
    ok (some offset)
  else
    let mnibbles := mnibbles + 4
    let offset := offset + mnibbles * 4
    let bytes := bytes >>> (mnibbles * 4)
    let offset := offset + 1
    if bytes &&& 1 = 0 then ok none else ok (some offset)

/-- `100` is arbitrary (callers have `offset ≤ 16`): the bound only keeps the offset sums of the generated
text from wrapping at 2^64 -/
theorem tail_eq (bytes offset : Nat) (ho : offset ≤ 100) : modelTail bytes offset = ok (genTail bytes offset) := by
  unfold modelTail genTail
  have hm : (bytes >>> 1) &&& 3 ≤ 3 := Nat.and_le_right
  have hs : (bytes >>> 1 >>> 2 >>> 1) &&& ((1 <<< 2) - 1) ≤ 3 := Nat.and_le_right
  have emask : ((((1 <<< (2 % 64)) % 18446744073709551616) + 18446744073709551616 - 1) % 18446744073709551616) = (1 <<< 2) - 1 := by decide
  simp only [show (1 % 64) = 1 from rfl, show (2 % 64) = 2 from rfl, emask, beq_iff_eq, bne_iff_ne, ne_eq]
  generalize (bytes >>> 1) &&& 3 = mn at hm
  generalize (bytes >>> 1 >>> 2 >>> 1) &&& ((1 <<< 2) - 1) = ms at hs
  rw [Nat.mod_eq_of_lt (show mn + 4 < 18446744073709551616 by omega), Nat.mod_eq_of_lt (show (mn + 4) * 4 < 18446744073709551616 by omega),
    Nat.mod_eq_of_lt (show (mn + 4) * 4 < 64 by omega)]
  refine ite_ok_ok _ (ite_ok_ok _ rfl (congrArg (fun x => ok (some x)) ?_)) (ite_ok_ok _ rfl (congrArg (fun x => ok (some x)) ?_))
  · omega
  · omega

theorem model_unfold (bs : List Nat) (w off0 bytes0 : Nat)
    (h1 : parseWindowSize bs = ok (some (w, off0))) (h2 : packLE .dvoShl bs 0 0 = ok bytes0) :
    detectVarlenOffset bs =
      (if (bytes0 >>> off0) &&& 1 ≠ 0 then
        (if (bytes0 >>> off0 >>> 1) &&& 1 ≠ 0 then ok (some (off0 + 1 + 1)) else modelTail (bytes0 >>> off0 >>> 1) (off0 + 1 + 1))
       else modelTail (bytes0 >>> off0) (off0 + 1)) := by
  unfold detectVarlenOffset
  rw [h1]
  simp only [Outcome.bind, h2]
  by_cases b1 : (bytes0 >>> off0) &&& 1 ≠ 0
  · have d1 : decide ((bytes0 >>> off0) &&& 1 ≠ 0) = true := decide_eq_true b1
    by_cases b2 : (bytes0 >>> off0 >>> 1) &&& 1 ≠ 0
    · simp only [d1, ↓reduceIte]
      rw [if_pos ⟨trivial, b2⟩, if_pos b1, if_pos b2]
    · simp only [d1, ↓reduceIte, modelTail]
      rw [if_neg (fun hh => b2 hh.2), if_pos b1, if_neg b2]
  · have d1 : decide ((bytes0 >>> off0) &&& 1 ≠ 0) = false := decide_eq_false b1
    simp only [d1, ↓reduceIte, Bool.false_eq_true, modelTail]
    rw [if_neg (fun hh => nomatch hh.1), if_neg b1]

theorem detect_varlen_offset_generated (bs : List Nat) (hb : ∀ b ∈ bs, b < 256) (r : Option Nat)
    (h : detectVarlenOffset bs = ok r) : r = detect_varlen_offset bs := by
  cases hpw : parseWindowSize bs with
  | panic s => unfold detectVarlenOffset at h; rw [hpw] at h; simp [Outcome.bind] at h
  | ok pw =>
    have hgen := parse_window_size_generated_of_ok bs pw hpw
    rw [detect_unfold, ← hgen]
    cases pw with
    | none =>
      unfold detectVarlenOffset at h
      rw [hpw] at h
      simp only [Outcome.bind] at h
      have := Outcome.ok.inj h
      rw [← this]
      rfl
    | some p =>
      obtain ⟨w, off0⟩ := p
      have hoff : off0 ≤ 14 := pws_off bs w off0 hgen.symm
      cases hpk : packLE .dvoShl bs 0 0 with
      | panic s => unfold detectVarlenOffset at h; rw [hpw] at h; simp [Outcome.bind, hpk] at h
      | ok bytes0 =>
        rw [model_unfold bs w off0 bytes0 hpw hpk] at h
        have hloop : forRangeAux (packBody bs) (bs.length - 0) 0 0 = bytes0 :=
          pack_loop .dvoShl bs hb (bs.length - 0) 0 0 bytes0 (by omega) (by simpa using hpk)
        simp only [Option.isSome_some, if_true, Option.getD_some, hloop]
        have eo : off0 % 64 = off0 := by omega
        have eo1 : (off0 + 1) % 18446744073709551616 = off0 + 1 := by omega
        have eo2 : (off0 + 1 + 1) % 18446744073709551616 = off0 + 1 + 1 := by omega
        have e164 : (1 % 64) = 1 := rfl
        simp only [eo, eo1, eo2, e164, bne_iff_ne]
        exact Outcome.ok.inj (h.symm.trans
          (ite_ok_ok _ (ite_ok_ok _ rfl (tail_eq _ _ (by omega))) (tail_eq _ _ (by omega))))

example : parse_window_size [0x5b, 0] = some (22, 4) := by decide
example : parse_window_size [0x11, 0x1e] = some (30, 14) := by decide
example : parse_window_size [0x11, 0x09] = none := by decide
example : (toState (new_with_window_size 22)).last_bytes = (0x3b, 0) := by decide
example : new_with_window_size_ok 9 = false := by decide
example : detectVarlenOffset [0x5b, 0, 0, 0] = .ok (detect_varlen_offset [0x5b, 0, 0, 0]) := by decide +kernel
example : (appendEofMetablockToLastBytes (toState { (new_with_window_size 22) with last_byte_sanitized := true, last_byte_bit_offset := 4 })).isPanic = false := by decide

end BV.Props.C16Gen
