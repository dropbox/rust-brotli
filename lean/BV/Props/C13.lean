/-
C13 — the C ABI behaves as the Rust API: exact cursor accounting, `total_out`, `take_output`,
no unwinding, thread-count clamp.

Model: `BV/Model/FFI.lean` (the wrappers of src/ffi/compressor.rs and the dispatch of
src/ffi/multicompress/mod.rs), over the answers of the Rust calls (`compress_stream`,
`take_output`) as an oracle; tied to the code by the `ffi` correspondence run, in which the harness
passes the model what the C caller passed and what the TWIN Rust call answered, and the model must
predict every value the real C function wrote through its out-pointers.  For the second half of the file:
`BV/Model/FFIStream.lean`, the entry points as functions of the modelled encoder state `BV.Stream.St` and
histories of C ABI calls on one instance (`ffiRun`).

Proved here: the cursor arithmetic, the `total_out` bookkeeping, the partition property of
`take_output`, what the panic barrier returns, the dispatch of the multi-threaded entry points; and,
over the stream-machine model `BV.Stream`, that the hypotheses `CursorsAgree` and `TotalTracks` are
theorems, that the wrapper performs exactly the Rust call, and that `TakeOutput` cannot panic after
any history of calls.  `catch_unwind` itself, the `extern "C"` ABI and the validity of the caller's
pointers are runtime facts outside the model.
-/
import BV.Lemmas.FFI
import BV.Lemmas.FFIStream
namespace BV.Props.C13
open BV.FFI

/-- `ffi_cursor_exact`: after every stream call that did not unwind, each pointer has advanced by
exactly the amount its counter decreased — also when a count is 0 (the pointer, null or not, is
not touched) — and a null pointer stays null when its count is 0 -/
theorem ffi_cursor_exact (c : StreamCall) (a : StreamAns) (hp : a.panicked = false) (h : CursorsAgree c a) :
    (compressStream c a).availIn ≤ c.availIn ∧ (compressStream c a).availOut ≤ c.availOut ∧
    (∀ p, c.nextIn = some p → (compressStream c a).nextIn = some (p + (c.availIn - (compressStream c a).availIn))) ∧
    (∀ p, c.nextOut = some p → (compressStream c a).nextOut = some (p + (c.availOut - (compressStream c a).availOut))) ∧
    (c.availIn = 0 → (compressStream c a).nextIn = c.nextIn) ∧
    (c.availOut = 0 → (compressStream c a).nextOut = c.nextOut) := by
  obtain ⟨h1, h2⟩ := h
  simp only [compressStream, hp, Bool.false_eq_true, if_false]
  refine ⟨by omega, by omega, ?_, ?_, ?_, ?_⟩
  · intro p hpn
    by_cases h0 : c.availIn = 0
    · have : a.inOff = 0 := by omega
      simp [h0, hpn]
    · have : (c.availIn != 0) = true := by simpa using h0
      simp only [this, if_true, hpn, ptrAdd_some]
      congr 1; omega
  · intro p hpn
    by_cases h0 : c.availOut = 0
    · have : a.outOff = 0 := by omega
      simp [h0, hpn]
    · have : (c.availOut != 0) = true := by simpa using h0
      simp only [this, if_true, hpn, ptrAdd_some]
      congr 1; omega
  · intro h0; simp [h0]
  · intro h0; simp [h0]

theorem ffi_passes_results_through (c : StreamCall) (a : StreamAns) (hp : a.panicked = false) :
    (compressStream c a).availIn = a.availIn ∧ (compressStream c a).availOut = a.availOut ∧
    (compressStream c a).ret = (if a.ok then 1 else 0) := by
  simp [compressStream, hp]

/-- `total_out_is_sum` (one step): if the encoder's running total before the call is the number
of bytes delivered so far (`D`), then after a call that did not unwind `*total_out` is `D` plus
the bytes this call delivered — in particular it is still `D` after a call that delivered nothing -/
theorem total_out_is_sum_step (c : StreamCall) (a : StreamAns) (D : Nat) (hD : c.encTotal = D)
    (hp : a.panicked = false) (ht : TotalTracks c a) (hptr : c.totalOutPtr = true) :
    (compressStream c a).totalOutCell = D + a.outOff := by
  unfold TotalTracks at ht
  simp only [compressStream, hp, Bool.false_eq_true, if_false, hptr, if_true, ht]
  by_cases h0 : a.outOff = 0
  · simp [h0, hD]
  · simp [h0, hD]

theorem total_out_null_untouched (c : StreamCall) (a : StreamAns) (hptr : c.totalOutPtr = false) :
    (compressStream c a).totalOutCell = c.totalOutCell := by
  by_cases hp : a.panicked = true
  · simp [compressStream, hp]
  · have : a.panicked = false := by simpa using hp
    simp [compressStream, this, hptr]

/-- `D` = bytes delivered before the history -/
def historyOK : Nat → List (StreamCall × StreamAns) → Prop
  | _, [] => True
  | D, (c, a) :: rest =>
    c.encTotal = D ∧ a.panicked = false ∧ TotalTracks c a ∧ c.totalOutPtr = true ∧ historyOK (D + a.outOff) rest

/-- `total_out_is_sum`: along any history, after every call `*total_out` equals the number of
bytes delivered up to and including that call -/
theorem total_out_is_sum : ∀ (D : Nat) (hs : List (StreamCall × StreamAns)), historyOK D hs →
    ∀ (pre : List (StreamCall × StreamAns)) (c : StreamCall) (a : StreamAns) (post : List (StreamCall × StreamAns)),
      hs = pre ++ (c, a) :: post →
      (compressStream c a).totalOutCell = D + (pre.map (fun x => x.2.outOff)).sum + a.outOff := by
  intro D hs
  induction hs generalizing D with
  | nil => intro _ pre c a post h; simp at h
  | cons x rest ih =>
    intro hok pre c a post h
    obtain ⟨c0, a0⟩ := x
    obtain ⟨h1, h2, h3, h4, h5⟩ := hok
    cases pre with
    | nil =>
      simp only [List.nil_append, List.cons.injEq, Prod.mk.injEq] at h
      obtain ⟨⟨hc, ha⟩, _⟩ := h
      subst hc ha
      simpa using total_out_is_sum_step c0 a0 D h1 h2 h3 h4
    | cons y pre' =>
      simp only [List.cons_append, List.cons.injEq] at h
      obtain ⟨hy, hrest⟩ := h
      subst hy
      have := ih (D + a0.outOff) h5 pre' c a post hrest
      rw [this]; simp; omega

/-- `take_output_partition` (one call): the slice handed out and what stays pending are the
pending bytes split in two; `*size` reports the length of the slice; `size = 0` asks for everything -/
theorem take_output_splits (pending : Bytes) (size : Nat) :
    (takeOutput pending size).1 ++ (takeOutput pending size).2.2 = pending ∧
    (takeOutput pending size).2.1 = (takeOutput pending size).1.length ∧
    (takeOutput pending size).1.length = (if size = 0 then pending.length else min size pending.length) :=
  takeOutput_spec pending size

/-- `take_output_partition`: for ANY interleaving of `take_output(size)` calls and pushes by stream
calls, the chunks handed out, in order, followed by what is still pending, are exactly the pending
bytes — each byte once, none lost, order kept -/
theorem take_output_partition : ∀ (evs : List Hand) (pending : Bytes),
    (handOut pending evs).1.flatten ++ (handOut pending evs).2 = pending := by
  intro evs
  induction evs with
  | nil => intro pending; simp [handOut]
  | cons e rest ih =>
    intro pending
    cases e with
    | take size =>
      obtain ⟨h1, _, _⟩ := takeOutput_spec pending size
      simp only [handOut]
      have := ih (takeOutput pending size).2.2
      simp only [List.flatten_cons, List.append_assoc, this]
      exact h1
    | push k =>
      simp only [handOut]
      have := ih (pending.drop (min k pending.length))
      simp only [List.flatten_cons, List.append_assoc, this, List.take_append_drop]

/-- `unwrapped_entry_points_cannot_panic_partial`: `BrotliEncoderTakeOutput` is not wrapped in
`catch_panic`; this is its arithmetic half, over the pending bytes alone (`BV.FFI.takeOutput`): the slice handed
out and what stays pending cannot leave them.  The four un-wrapped entry points as functions of the modelled
encoder state, `GetNextOut!`'s slice start included, are `unwrapped_entry_points_cannot_panic` below. -/
theorem unwrapped_entry_points_cannot_panic_partial (pending : Bytes) (size : Nat) :
    (takeOutput pending size).1.length ≤ pending.length ∧ (takeOutput pending size).2.2.length ≤ pending.length := by
  obtain ⟨h1, _, _⟩ := takeOutput_spec pending size
  have : ((takeOutput pending size).1 ++ (takeOutput pending size).2.2).length = pending.length := by rw [h1]
  simp only [List.length_append] at this
  omega

/-- `wrapped_entry_points_return_zero`: a Rust call that unwinds inside `catch_panic` makes the
entry point return 0 (NULL for constructors); for the stream call the two pointers and
`*total_out` are as before -/
theorem wrapped_entry_points_return_zero (c : StreamCall) (a : StreamAns) (hp : a.panicked = true) :
    catchPanic none = 0 ∧ (compressStream c a).ret = 0 ∧ (compressStream c a).nextIn = c.nextIn ∧
    (compressStream c a).nextOut = c.nextOut ∧ (compressStream c a).totalOutCell = c.totalOutCell := by
  simp [catchPanic, compressStream, hp]

/-- thread-count clamp: `n = 0 ⇒ 0` before anything is touched; otherwise `min(n, 16)` threads -/
theorem thread_count_clamp (n : Nat) :
    (n = 0 → multiDispatch n = .reject) ∧
    (n = 1 → multiDispatch n = .single) ∧
    (2 ≤ n → multiDispatch n = .multi (min n 16) ∧ min n 16 ≤ 16 ∧ min n 16 ≤ n ∧ (n ≤ 16 → min n 16 = n)) := by
  refine ⟨?_, ?_, ?_⟩
  · intro h; simp [multiDispatch, h]
  · intro h; simp [multiDispatch, h, maxThreads]
  · intro h
    refine ⟨?_, by omega, by omega, by omega⟩
    unfold multiDispatch maxThreads
    rw [if_neg (by omega), if_neg (by omega)]

/-- the allocator-opaque index of every one of the 16 allocator slots is in range (no panic in
the array literal of 16 `make_send_alloc!`), for the caller's array of `n` entries as well as for
the 16 nulls, whenever `n ≥ 1` -/
theorem opaque_index_in_range (n : Nat) (hn : 0 < n) (callerArray : Bool) (k : Nat) (hk : k < 16) :
    ∃ i, opaqueIndex n callerArray k = some i ∧ i < (if callerArray then n else 16) := by
  unfold opaqueIndex maxThreads
  rw [if_neg (by omega)]
  simp only
  have hmod : k % n < n := Nat.mod_lt _ hn
  have hmod16 : k % n < 16 := Nat.lt_of_le_of_lt (Nat.mod_le _ _) hk
  by_cases h0 : k = 0
  · subst h0
    cases callerArray
    · exact ⟨0, by simp, by simp⟩
    · exact ⟨0, by simp [hn], by simpa using hn⟩
  · cases callerArray
    · exact ⟨k % n, by simp [h0, hmod16], by simpa using hmod16⟩
    · exact ⟨k % n, by simp [h0, hmod], by simpa using hmod⟩

section OverStream
open BV.Stream BV.Bits

/-- `unwrapped_entry_points_cannot_panic` (in full): the four entry points that are NOT wrapped in
`catch_panic`, as functions of the modelled encoder state.
* `BrotliEncoderSetParameter`, `BrotliEncoderIsFinished`, `BrotliEncoderHasMoreOutput` are total
  (their models have no panic outcome: field updates and comparisons only) and answer 0/1;
  `SetParameter` answers 1 exactly when the Rust method returns `true` (C20 `set_parameter_table`,
  `params_frozen` say when that is);
* `BrotliEncoderTakeOutput` has exactly one panic site — the slice start `storage_[off..]` /
  `tiny_buf_[off..]` of `GetNextOut!` — and that cannot fire while the pending bytes lie inside the
  buffer `next_out_` points into (`OutOk`), a condition `take_output` itself preserves; it never
  loops.  (Every push of `compress_stream` checks the same bound and panics INSIDE `catch_panic`
  otherwise, so a state handed back by a stream call satisfies it.) -/
theorem unwrapped_entry_points_cannot_panic (s : St) :
    (∀ id v, (ffiSetParameter s id v).2 ≤ 1 ∧ ((ffiSetParameter s id v).2 = 1 ↔ (setParameter s id v).2 = true) ∧
             (ffiSetParameter s id v).1 = (setParameter s id v).1) ∧
    ffiIsFinished s ≤ 1 ∧ ffiHasMoreOutput s ≤ 1 ∧
    (∀ size, ffiTakeOutput s size ≠ .fuel) ∧
    (∀ size, OutOk s → ∃ s' n bytes, ffiTakeOutput s size = .ok (s', n, bytes) ∧ n = bytes.length ∧ OutOk s' ∧
                        s.pending = bytes ++ s'.pending) := by
  refine ⟨?_, ?_, ?_, ffiTakeOutput_ne_fuel s, ?_⟩
  · intro id v
    unfold ffiSetParameter
    cases h : setParameter s id v with
    | mk s' b => cases b <;> simp
  · unfold ffiIsFinished; split <;> omega
  · unfold ffiHasMoreOutput; split <;> omega
  · intro size hok
    have hs := takeSliceOk_of_outOk hok
    cases ht : BV.Stream.takeOutput s size with
    | panic => exact absurd ((takeOutput_panic_iff s size).mp ht) (by rw [hs]; simp)
    | fuel => exact absurd ht (takeOutput_ne_fuel s size)
    | ok x =>
      obtain ⟨s', bytes⟩ := x
      refine ⟨s', bytes.length, bytes, by unfold ffiTakeOutput; rw [ht], rfl, takeOutput_outOk hok ht, ?_⟩
      rcases takeOutput_cases ht with ⟨rfl, rfl⟩ | ⟨rfl, rfl⟩
      · rfl
      · rw [checkFlushComplete_eq]
        exact (List.take_append_drop _ _).symm

/-- `ffi_refines_requests`: on an instance in state `s`, `BrotliEncoderCompressStream` performs
EXACTLY the Rust call `compress_stream(op, the caller's bytes, available_out)` on that very state —
whatever the addresses, and with a null or dangling pointer never looked at when its count is 0 —
ends in the state that call ends in, stores the bytes that call produced, and hands back its
return value and counters.  Byte identity with the Rust API follows because `compress_stream` is a
function of (state, op, input bytes, capacity). -/
theorem ffi_refines_requests (o : Oracle) (fuel : Nat) (s : St) (mem : Mem) (op : Nat) (c : StreamCall)
    (input : List Nat)
    (hin : (c.availIn = 0 ∧ input = []) ∨ (c.availIn ≠ 0 ∧ ∃ p, c.nextIn = some p ∧ mem p c.availIn = input))
    (s' : St) (io' : Io) (r : Bool)
    (h : BV.Stream.compressStream o fuel s op input c.availOut = .ok (s', io', r)) :
    (ffiCompressStream o fuel s mem op c).1 = s' ∧
    (ffiCompressStream o fuel s mem op c).2.2 = io'.out ∧
    (ffiCompressStream o fuel s mem op c).2.1.ret = (if r then 1 else 0) ∧
    (ffiCompressStream o fuel s mem op c).2.1.availIn = io'.availIn ∧
    (ffiCompressStream o fuel s mem op c).2.1.availOut = io'.availOut := by
  have hslice : inputSlice mem c.nextIn c.availIn = input := by
    unfold inputSlice
    rcases hin with ⟨h0, h1⟩ | ⟨h0, p, h1, h2⟩
    · rw [if_pos h0, h1]
    · rw [if_neg h0, h1]; exact h2
  unfold ffiCompressStream
  simp only [hslice, h]
  simp [BV.FFI.compressStream, ansOfStream]

/-- compared: the instance state, the output bytes, and what the C caller reads back (return value, the two counters) -/
theorem ffi_independent_of_addresses (o : Oracle) (fuel : Nat) (s : St) (mem1 mem2 : Mem) (op : Nat) (c1 c2 : StreamCall)
    (hai : c1.availIn = c2.availIn) (hao : c1.availOut = c2.availOut)
    (hbytes : inputSlice mem1 c1.nextIn c1.availIn = inputSlice mem2 c2.nextIn c2.availIn) :
    (ffiCompressStream o fuel s mem1 op c1).1 = (ffiCompressStream o fuel s mem2 op c2).1 ∧
    (ffiCompressStream o fuel s mem1 op c1).2.2 = (ffiCompressStream o fuel s mem2 op c2).2.2 ∧
    (ffiCompressStream o fuel s mem1 op c1).2.1.ret = (ffiCompressStream o fuel s mem2 op c2).2.1.ret ∧
    (ffiCompressStream o fuel s mem1 op c1).2.1.availIn = (ffiCompressStream o fuel s mem2 op c2).2.1.availIn ∧
    (ffiCompressStream o fuel s mem1 op c1).2.1.availOut = (ffiCompressStream o fuel s mem2 op c2).2.1.availOut := by
  unfold ffiCompressStream
  simp only
  rw [hbytes, hai, hao]
  cases BV.Stream.compressStream o fuel s op (inputSlice mem2 c2.nextIn c2.availIn) c2.availOut with
  | ok x => obtain ⟨s', io', r⟩ := x; simp [BV.FFI.compressStream, ansOfStream]
  | panic => simp [BV.FFI.compressStream, ansOfStream]
  | fuel => simp [BV.FFI.compressStream, ansOfStream]

/-- `ffi_cursor_exact` for the modelled machine, ALL FOUR operations (PROCESS / FLUSH / FINISH /
EMIT_METADATA), accepted or refused calls, from a fresh instance or any state satisfying the
invariant, with NO hypothesis on the payload encoder: the hypothesis `CursorsAgree` is a theorem
(byte ledger of `BV.Stream.compressStream`, `Lemmas/StreamTotal`), so both pointers advance by
exactly the decrease of their counters; the bytes stored at `*next_out` are as many as
`available_out` lost; and the part of the input slice the callee has not read is the caller's slice
minus its first `available_in(before) - available_in(after)` bytes (the Rust `input_offset`) -/
theorem ffi_cursor_exact_stream (o : Oracle) (fuel : Nat) (s : St) (mem : Mem)
    (op : Nat) (hop : op ≤ 3) (c : StreamCall) (hR : IsFresh s ∨ Inv s)
    (hlen : (inputSlice mem c.nextIn c.availIn).length = c.availIn)
    (hw : s.inputPos + c.availIn < two64)
    (s' : St) (io' : Io) (r : Bool)
    (h : BV.Stream.compressStream o fuel s op (inputSlice mem c.nextIn c.availIn) c.availOut = .ok (s', io', r)) :
    (∀ p, c.nextIn = some p → (ffiCompressStream o fuel s mem op c).2.1.nextIn
        = some (p + (c.availIn - (ffiCompressStream o fuel s mem op c).2.1.availIn))) ∧
    (∀ p, c.nextOut = some p → (ffiCompressStream o fuel s mem op c).2.1.nextOut
        = some (p + (c.availOut - (ffiCompressStream o fuel s mem op c).2.1.availOut))) ∧
    (ffiCompressStream o fuel s mem op c).2.2.length = c.availOut - (ffiCompressStream o fuel s mem op c).2.1.availOut ∧
    (ffiCompressStream o fuel s mem op c).2.1.availIn ≤ c.availIn ∧
    io'.input = (inputSlice mem c.nextIn c.availIn).drop (c.availIn - (ffiCompressStream o fuel s mem op c).2.1.availIn) := by
  obtain ⟨hca, hin⟩ := cursorsAgree_of_stream_all c hop hR hlen (by rw [hlen]; exact hw) h
  have hca' : CursorsAgree { c with encTotal := s.totalOut } (ansOfStream c.availIn c.availOut (.ok (s', io', r))) := ⟨hca.inEq, hca.outEq⟩
  obtain ⟨e1, _, e3, e4, _, _⟩ := ffi_cursor_exact { c with encTotal := s.totalOut } _ (by simp [ansOfStream]) hca'
  unfold ffiCompressStream
  simp only [h]
  refine ⟨e3, e4, ?_, e1, ?_⟩
  · have := hca.outEq
    simp only [ansOfStream] at this
    simp only [BV.FFI.compressStream, ansOfStream, Bool.false_eq_true, if_false]
    omega
  · simp only [BV.FFI.compressStream, ansOfStream, Bool.false_eq_true, if_false]
    exact hin

/-- the hypothesis `TotalTracks` of `total_out_is_sum` is a theorem of the modelled machine — all four
operations, no hypothesis on the payload encoder — as long as the 64-bit counter cannot wrap in this
call (fewer than 2^64 bytes delivered so far plus the capacity offered) -/
theorem total_tracks_stream (o : Oracle) (fuel : Nat) (s : St) (mem : Mem) (op : Nat) (hop : op ≤ 3) (c : StreamCall)
    (hR : IsFresh s ∨ Inv s) (hlen : (inputSlice mem c.nextIn c.availIn).length = c.availIn)
    (hw : s.inputPos + c.availIn < two64) (hnw : s.totalOut + c.availOut < two64)
    (s' : St) (io' : Io) (r : Bool)
    (h : BV.Stream.compressStream o fuel s op (inputSlice mem c.nextIn c.availIn) c.availOut = .ok (s', io', r)) :
    TotalTracks { c with encTotal := s.totalOut } (ansOfStream c.availIn c.availOut (.ok (s', io', r))) :=
  totalTracks_of_stream c hop hR (by rw [hlen]; exact hw) hnw h

/-- `total_out_is_sum`, one call, over the modelled machine and exact in 64-bit arithmetic: a stream
call (any operation, accepted or refused) made with a non-null `total_out` leaves in `*total_out` the
instance's `total_out_`, and that is the value before the call plus the bytes this call stored at
`*next_out`, wrapping at 2^64 — also when it stored nothing.  No hypothesis on the Rust call. -/
theorem total_out_cell_stream (o : Oracle) (fuel : Nat) (s : St) (mem : Mem) (op : Nat) (hop : op ≤ 3) (c : StreamCall)
    (hR : IsFresh s ∨ Inv s) (hlen : (inputSlice mem c.nextIn c.availIn).length = c.availIn)
    (hw : s.inputPos + c.availIn < two64) (hT : s.totalOut < two64) (hptr : c.totalOutPtr = true)
    (s' : St) (io' : Io) (r : Bool)
    (h : BV.Stream.compressStream o fuel s op (inputSlice mem c.nextIn c.availIn) c.availOut = .ok (s', io', r)) :
    (ffiCompressStream o fuel s mem op c).2.1.totalOutCell = s'.totalOut ∧
    s'.totalOut = (s.totalOut + (ffiCompressStream o fuel s mem op c).2.2.length) % two64 := by
  have hw0 : s.inputPos + (inputSlice mem c.nextIn c.availIn).length < two64 := by rw [hlen]; exact hw
  refine ⟨ffi_cell_is_total o fuel s mem op c s' io' r hptr hT hR hop hw0 h, ?_⟩
  rw [(ffiCompressStream_ok o fuel s mem op c h).2]
  exact totalOut_of_stream s.totalOut hop hR hw0 (Nat.mod_eq_of_lt hT).symm h

/-- what `BrotliEncoderTakeOutput` does to the total: the bytes it hands out by pointer ARE counted
into `total_out_` (encode.rs `take_output`: `total_out_ += consumed_size`), exactly like bytes copied
to `next_out` — so `*total_out` of the next stream call includes them -/
theorem take_output_counts_into_total (s s' : St) (size n : Nat) (bytes : List Nat)
    (h : ffiTakeOutput s size = .ok (s', n, bytes)) :
    s'.totalOut = (s.totalOut + n) % two64 ∨ (n = 0 ∧ s' = s) := by
  have hn : n = bytes.length := by
    unfold ffiTakeOutput at h
    split at h
    · simp only [Out.ok.injEq, Prod.mk.injEq] at h; obtain ⟨_, h2, h3⟩ := h; rw [← h2, ← h3]
    · simp at h
    · simp at h
  rcases take_total (ffiTakeOutput_ok h) with h1 | ⟨h1, h2⟩
  · left; rw [hn]; exact h1
  · right; exact ⟨by rw [hn, h1]; rfl, h2⟩

/-- `total_out_is_sum` over the modelled machine (`total_out_is_sum_stream`): on an instance that
starts fresh, after ANY history of `SetParameter` / `CompressStream` (PROCESS, FLUSH, FINISH,
EMIT_METADATA; accepted or refused; any capacities, null pointers with zero counts) / `TakeOutput` /
`HasMoreOutput` / `IsFinished` calls in which no Rust call unwound, every value a stream call left in
`*total_out` equals the number of bytes delivered to the caller up to and including that call —
bytes stored at `*next_out` PLUS bytes handed out by `TakeOutput` — modulo 2^64, and so does the
instance's `total_out_` at the end.  The only hypotheses are the caller's (operation codes in range,
input pointers address `available_in` bytes, fewer than 2^64 bytes offered in total). -/
theorem total_out_is_sum_stream (o : Oracle) (fuel : Nat) (mem : Mem) (calls : List FfiCall) (s0 : St)
    (hf : IsFresh s0) (hok : FfiHistOK mem calls) (hw : ffiHistLen calls < two64)
    (s : St) (seen : FfiSeen) (h : ffiRun o fuel mem calls s0 {} = some (s, seen)) :
    (∀ x ∈ seen.cells, x.1 = x.2 % two64) ∧ s.totalOut = seen.delivered.length % two64 := by
  have hip := hf.inputPos
  have hT0 : s0.totalOut = ([] : List Nat).length % two64 := by
    obtain ⟨p, rfl⟩ := hf; rfl
  obtain ⟨_, h1, h2⟩ := ffiRun_inv (histInv_fresh hf) hok (by rw [hip]; omega) hT0 (by intro x hx; cases hx) h
  exact ⟨h2, h1⟩

/-- `unwrapped_entry_points_cannot_panic`, closed over histories (`take_output_never_panics_stream`):
after ANY history of C ABI calls on a fresh instance in which no Rust call unwound (any operations,
capacities, take sizes; no hypothesis on the payload encoder), the pending bytes lie inside the buffer
`next_out_` points into (`OutOk`), so `BrotliEncoderTakeOutput`, which is NOT behind `catch_panic`, returns
normally for every `size`, hands out a prefix of the pending bytes and leaves `OutOk` in place.
(Invariants used: `StoreOK` of C01, `TinyOK` + carry ≤ 14 bits of `Lemmas/StreamTinyFree`.) -/
theorem take_output_never_panics_stream (o : Oracle) (fuel : Nat) (mem : Mem) (calls : List FfiCall) (s0 : St)
    (hf : IsFresh s0) (hok : FfiHistOK mem calls) (hw : ffiHistLen calls < two64)
    (s : St) (seen : FfiSeen) (h : ffiRun o fuel mem calls s0 {} = some (s, seen)) :
    OutOk s ∧ ∀ size, ∃ s' n bytes, ffiTakeOutput s size = .ok (s', n, bytes) ∧ n = bytes.length ∧ OutOk s' ∧
      s.pending = bytes ++ s'.pending := by
  have hip := hf.inputPos
  have hT0 : s0.totalOut = ([] : List Nat).length % two64 := by
    obtain ⟨p, rfl⟩ := hf; rfl
  have hO := outOk_of_histInv (ffiRun_inv (histInv_fresh hf) hok (by rw [hip]; omega) hT0 (by intro x hx; cases hx) h).1
  exact ⟨hO, fun size => (unwrapped_entry_points_cannot_panic s).2.2.2.2 size hO⟩

/-! ### the hypothesis `OracleBounded` (of `encodeData_pending_le`; no property assumes it)

`OracleBounded o B` asks for ONE bound on all answers; what `encode_data`'s own storage sizing
(`get_brotli_storage(2 * span + 527)`, C01 `encode_data_storage_suffices`) relies on is the per-request
bound `OracleOK.fits` (`≤ 8 * (2 * span + 500)` bits for a request over `span` bytes).  The two are
related as follows: `fits` gives `OracleBounded` as soon as the payload encoder is only asked — or only
answers — about spans of at most `N` bytes; and every `OracleOK` oracle can be cut down to such a one
without leaving `OracleOK`.  What is NOT proved is that the stream machine only issues requests of
bounded span: `hi - lo ≤ 2^lgblock` is part of the state invariant, but `hi - lf` (the meta-block
being accumulated) is bounded only by the emit policy of the payload encoder, which is an oracle. -/

def reqSpan (r : Req) : Nat := if r.site = 2 then r.lo else max (r.hi - r.lo) (r.hi - r.lf)

theorem oracle_bounded_of_fits (o : Oracle) (hO : OracleOK o) (N : Nat)
    (hN : ∀ k r, N < reqSpan r → (o k r).bits = []) : OracleBounded o (8 * (2 * N + 500)) := by
  intro k r
  by_cases h : N < reqSpan r
  · rw [hN k r h]; exact Nat.zero_le _
  · have := hO.fits k r
    unfold reqSpan at h
    have hle : (if r.site = 2 then r.lo else max (r.hi - r.lo) (r.hi - r.lf)) ≤ N := by omega
    have h2 : 8 * (2 * (if r.site = 2 then r.lo else max (r.hi - r.lo) (r.hi - r.lf)) + 500) ≤ 8 * (2 * N + 500) := by omega
    exact Nat.le_trans this h2

def clampOracle (N : Nat) (o : Oracle) : Oracle :=
  fun k r => if reqSpan r ≤ N then o k r else { result := true, emit := true, bits := [] }

theorem clampOracle_ok (o : Oracle) (hO : OracleOK o) (N : Nat) :
    OracleOK (clampOracle N o) ∧ OracleBounded (clampOracle N o) (8 * (2 * N + 500)) ∧
    (∀ k r, reqSpan r ≤ N → clampOracle N o k r = o k r) := by
  have hok : OracleOK (clampOracle N o) := by
    refine ⟨?_, ?_, ?_⟩
    · intro k r; unfold clampOracle; split
      · exact hO.result_true k r
      · rfl
    · intro k r h; unfold clampOracle; split
      · exact hO.emits_when_forced k r h
      · rfl
    · intro k r; unfold clampOracle; split
      · exact hO.fits k r
      · exact Nat.zero_le _
  refine ⟨hok, oracle_bounded_of_fits _ hok N ?_, ?_⟩
  · intro k r h; unfold clampOracle; rw [if_neg (by omega)]
  · intro k r h; unfold clampOracle; rw [if_pos h]

end OverStream

example : CursorsAgree ⟨5, some 1000, 10, some 2000, true, 0, 40⟩ ⟨5, 0, 3, 7, true, false, some 43⟩ := ⟨rfl, rfl⟩
example : TotalTracks ⟨5, some 1000, 10, some 2000, true, 0, 40⟩ ⟨5, 0, 3, 7, true, false, some 43⟩ := rfl
example : TotalTracks ⟨0, none, 0, none, true, 9, 43⟩ ⟨0, 0, 0, 0, true, false, none⟩ := rfl
example : compressStream ⟨0, none, 0, none, true, 9, 43⟩ ⟨0, 0, 0, 0, true, false, none⟩ = ⟨1, 0, none, 0, none, 43⟩ := rfl
example : historyOK 40 [(⟨5, some 1000, 10, some 2000, true, 0, 40⟩, ⟨5, 0, 3, 7, true, false, some 43⟩),
                        (⟨0, none, 0, none, true, 43, 43⟩, ⟨0, 0, 0, 0, true, false, none⟩)] :=
  ⟨rfl, rfl, rfl, rfl, rfl, rfl, rfl, rfl, trivial⟩
example : handOut [1, 2, 3, 4, 5] [.take 2, .push 1, .take 0] = ([[1, 2], [3], [4, 5]], []) := rfl
example : multiDispatch 32 = .multi 16 := rfl
example : BV.Stream.OracleOK (clampOracle 100 (fun _ _ => { bits := [true] })) :=
  (clampOracle_ok _ ⟨fun _ _ => rfl, fun _ _ _ => rfl, fun _ _ => by simp; omega⟩ 100).1

/-- a concrete history through `ffiRun` (quality 5; the payload encoder answers 41 one-bits): PROCESS
3 bytes with no output room, FLUSH into 2 bytes, `TakeOutput(1)`, a 2-byte metadata block in two
calls (the first is refused: the flush is still draining), FINISH.  The cell after the refused call
is 3 although only 2 bytes went through `next_out`: the byte taken by pointer is counted. -/
example : (ffiRun (fun _ _ => { bits := List.replicate 41 true }) 100 (fun _ n => List.replicate n 65)
      [.setParam 1 5, .stream 0 ⟨3, some 1000, 0, none, true, 7, 0⟩, .stream 1 ⟨0, none, 2, some 100, true, 0, 0⟩, .take 1,
       .stream 3 ⟨2, some 1000, 10, some 100, true, 0, 0⟩, .stream 3 ⟨2, some 1000, 10, some 100, true, 0, 0⟩,
       .stream 2 ⟨0, none, 10, some 100, true, 0, 0⟩] BV.Stream.St.new {}).map (fun x => (x.2.cells, x.2.delivered.length, x.1.totalOut))
    = some ([(0, 0), (2, 2), (3, 3), (3, 3), (7, 7)], 7, 7) := by decide +kernel
example : FfiHistOK (fun _ n => List.replicate n 65) [.setParam 1 5, .stream 0 ⟨3, some 1000, 0, none, true, 7, 0⟩, .take 1] :=
  ⟨by decide, by simp [inputSlice], trivial⟩
example : BV.Stream.IsFresh (BV.Stream.setParameter BV.Stream.St.new 1 5).1 := BV.Stream.setParameter_fresh ⟨{}, rfl⟩ 1 5

end BV.Props.C13
