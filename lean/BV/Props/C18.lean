/-
C18 — Length and distance prefix arithmetic is exact on its whole domain.  Model: BV/Model/PrefixArith.lean; the tables
(`kInsBase`, `kInsExtra`, `kCopyBase`, `kCopyExtra`, `kBlockLengthPrefixCode`, `BROTLI_NUM_DISTANCE_SHORT_CODES`) are the
generated BV/Gen/Source.lean: an edited table entry in /repo changes the Lean input and these proofs are re-checked.
-/
import BV.Lemmas.PrefixArith

namespace BV.Props.C18
open BV.Gen BV.PrefixArith BV.Lemmas.PrefixArith

theorem ins_table_is_rfc : kInsBase.zip kInsExtra = rfcInsTable := by decide
theorem copy_table_is_rfc : kCopyBase.zip kCopyExtra = rfcCopyTable := by decide
theorem block_len_table_is_rfc : kBlockLengthPrefixCode = rfcBlockLenTable := by decide

/-! ## insert / copy length codes: every representable length lies in the bucket
of the code computed for it (so `length - base` is the extra-bits value and it
fits in `extra` bits) -/

theorem ins_code_exact (n : Nat) (h : n < 22594 + 2 ^ 24) : InsBucket n (getInsertLengthCode n) := by
  by_cases a : n < 6
  · have row : ∀ c : Fin 6, kInsBase.getD c 0 = c ∧ kInsExtra.getD c 0 = 0 := by decide
    obtain ⟨r1, r2⟩ := row ⟨n, a⟩
    have e : getInsertLengthCode n = n := if_pos a
    rw [e]
    exact ⟨by omega, by rw [r1]; exact Nat.le_refl n, by rw [r1, r2]; exact Nat.lt_succ_self n⟩
  by_cases b : n < 130
  · exact ins_small n (by omega) b
  by_cases c : n < 2114
  · exact ins_mid n (by omega) c
  have rows : kInsBase.getD 21 0 = 2114 ∧ kInsExtra.getD 21 0 = 12 ∧ kInsBase.getD 22 0 = 6210 ∧
      kInsExtra.getD 22 0 = 14 ∧ kInsBase.getD 23 0 = 22594 ∧ kInsExtra.getD 23 0 = 24 := by decide
  obtain ⟨b21, e21, b22, e22, b23, e23⟩ := rows
  unfold getInsertLengthCode
  rw [if_neg a, if_neg b, if_neg c]
  by_cases d : n < 6210
  · rw [if_pos d]; exact ⟨by decide, by omega, by rw [b21, e21]; omega⟩
  rw [if_neg d]
  by_cases e : n < 22594
  · rw [if_pos e]; exact ⟨by decide, by omega, by rw [b22, e22]; omega⟩
  · rw [if_neg e]; exact ⟨by decide, by omega, by rw [b23, e23]; omega⟩

theorem copy_code_exact (n : Nat) (h2 : 2 ≤ n) (h : n < 2118 + 2 ^ 24) :
    CopyBucket n (getCopyLengthCode n) := by
  by_cases a : n < 10
  · have row : ∀ c : Fin 8, kCopyBase.getD c 0 = c + 2 ∧ kCopyExtra.getD c 0 = 0 := by decide
    obtain ⟨r1, r2⟩ := row ⟨n - 2, by omega⟩
    have e : getCopyLengthCode n = n - 2 := by unfold getCopyLengthCode; rw [if_pos a, if_pos h2]
    rw [e]
    exact ⟨by omega, by rw [r1]; show n - 2 + 2 ≤ n; omega, by rw [r1, r2]; show n < n - 2 + 2 + 2 ^ 0; omega⟩
  by_cases b : n < 134
  · exact copy_small n (by omega) b
  by_cases c : n < 2118
  · exact copy_mid n (by omega) c
  · have row : kCopyBase.getD 23 0 = 2118 ∧ kCopyExtra.getD 23 0 = 24 := by decide
    have e : getCopyLengthCode n = 23 := by unfold getCopyLengthCode; rw [if_neg a, if_neg b, if_neg c]
    rw [e]
    exact ⟨by decide, by omega, by rw [row.1, row.2]; omega⟩

/-- non-vacuity: concrete lengths in the top buckets meet the hypotheses -/
example : InsBucket 16777215 (getInsertLengthCode 16777215) := ins_code_exact _ (by decide)
example : CopyBucket 16777216 (getCopyLengthCode 16777216) := copy_code_exact _ (by decide) (by decide)

theorem cmd_symbol_exact : ∀ (ins copy : Fin 24) (useLast : Bool),
    combineLengthCodes ins copy useLast < 704 ∧
    rfcCmdDecode (combineLengthCodes ins copy useLast)
      = (ins.val, copy.val, useLast && decide (ins.val < 8) && decide (copy.val < 16)) := by
  decide +kernel

theorem cmd_symbol_onto : ∀ s : Fin 704,
    combineLengthCodes (rfcCmdDecode s).1 (rfcCmdDecode s).2.1 (rfcCmdDecode s).2.2 = s.val := by
  decide +kernel

theorem block_len_exact (len : Nat) (h1 : 1 ≤ len) (h2 : len ≤ 2 ^ 24) :
    blockLengthPrefixCode len < 26 ∧
    blOff (blockLengthPrefixCode len) ≤ len ∧
    len < blOff (blockLengthPrefixCode len) + 2 ^ blBits (blockLengthPrefixCode len) := by
  have key : ∀ start, start ≤ 25 → blOff start ≤ len →
      blockLenWalk len 26 start < 26 ∧ blOff (blockLenWalk len 26 start) ≤ len ∧
      len < blOff (blockLenWalk len 26 start) + 2 ^ blBits (blockLenWalk len 26 start) := by
    intro start hs ho
    obtain ⟨_, b, c, d⟩ := walk_spec len 26 start hs (by omega) ho
    refine ⟨by omega, c, ?_⟩
    rcases d with d | d
    · rw [d]; show len < 16625 + 2 ^ 24; omega
    · have hlt : blockLenWalk len 26 start < 25 :=
        Nat.lt_of_le_of_ne b (fun e => by rw [e] at d; exact Nat.not_lt_zero _ d)
      have := bl_contiguous ⟨_, hlt⟩
      dsimp only at this
      omega
  have o20 : blOff 20 = 753 := by decide
  have o14 : blOff 14 = 177 := by decide
  have o7 : blOff 7 = 41 := by decide
  have o0 : blOff 0 = 1 := by decide
  unfold blockLengthPrefixCode
  by_cases a : len ≥ 177
  · by_cases b : len ≥ 753
    · simp only [a, b, if_true]; exact key 20 (by omega) (by omega)
    · simp only [a, b, if_true, if_false]; exact key 14 (by omega) (by omega)
  · by_cases b : len ≥ 41
    · simp only [a, b, if_true, if_false]; exact key 7 (by omega) (by omega)
    · simp only [a, b, if_false]; exact key 0 (by omega) (by omega)

example : blockLengthPrefixCode 16777216 = 25 := by decide

/-! ## distance codes (RFC 7932 section 4): for EVERY postfix-bit count, every
number of direct codes and every distance code (no upper bound), the
(symbol, nbits, extra) triple denotes exactly that code -/

theorem dist_encode_exact (p ndirect dc : Nat) (hdc : 16 + ndirect ≤ dc) :
    (prefixEncodeCopyDistance dc ndirect p).nbits
        = rfcDistNBits p ndirect (prefixEncodeCopyDistance dc ndirect p).sym ∧
    1 ≤ (prefixEncodeCopyDistance dc ndirect p).nbits ∧
    (prefixEncodeCopyDistance dc ndirect p).extra < 2 ^ (prefixEncodeCopyDistance dc ndirect p).nbits ∧
    16 + ndirect ≤ (prefixEncodeCopyDistance dc ndirect p).sym ∧
    rfcDistDecode p ndirect (prefixEncodeCopyDistance dc ndirect p).sym
        (prefixEncodeCopyDistance dc ndirect p).extra + 15 = dc := by
  obtain ⟨d, rfl⟩ : ∃ d, dc = 16 + ndirect + d := ⟨dc - 16 - ndirect, by omega⟩
  obtain ⟨nb, q, r, hnb, hq, hr, hL, hquot, hrem, hsum⟩ := dist_long_decomp p d
  have hP : 0 < 2 ^ p := Nat.pow_pos (by decide)
  obtain ⟨hn, hdec⟩ := rfc_of_codes p ndirect (2 * (nb - 1) + q % 2) (r % 2 ^ p) (r / 2 ^ p) (Nat.mod_lt _ hP)
  have hhalf : (2 * (nb - 1) + q % 2) / 2 = nb - 1 := by omega
  have hpar : (2 * (nb - 1) + q % 2) % 2 = q % 2 := by omega
  rw [hhalf, show 1 + (nb - 1) = nb by omega] at hn hdec
  rw [hpar] at hdec
  rw [encode_long p ndirect d nb q r hq hL hquot hrem]
  dsimp only
  refine ⟨hn.symm, hnb, (Nat.div_lt_iff_lt_mul hP).mpr (by rw [Nat.mul_comm]; exact hr), by omega, ?_⟩
  have hN : 2 ≤ 2 ^ nb := Nat.le_self_pow (by omega) 2
  have := dist_core (2 ^ p) (2 ^ nb) q r d hN hq hsum
  clear hL hquot hrem hsum hr hn
  rw [hdec]
  omega
/-- short and direct distance codes are emitted as themselves, without extra bits -/
theorem dist_direct_exact (p ndirect dc : Nat) (h : dc < 16 + ndirect) :
    prefixEncodeCopyDistance dc ndirect p = ⟨dc, 0, 0⟩ ∧
    (16 ≤ dc → rfcDistDecode p ndirect dc 0 + 15 = dc) := by
  constructor
  · simp [prefixEncodeCopyDistance, short_codes_is_16, h]
  · intro h16; simp [rfcDistDecode, h]; omega

/-- the symbol is inside the distance alphabet `16 + ndirect + (maxnbits << (npostfix+1))`
whenever the distance needs at most `maxnbits` extra bits -/
theorem dist_symbol_lt_alphabet (p ndirect dc : Nat) (hdc : 16 + ndirect ≤ dc) (mb : Nat)
    (hnb : (prefixEncodeCopyDistance dc ndirect p).nbits ≤ mb) :
    (prefixEncodeCopyDistance dc ndirect p).sym < 16 + ndirect + mb * 2 ^ (p + 1) := by
  obtain ⟨h1, h2, _, h4, _⟩ := dist_encode_exact p ndirect dc hdc
  rw [h1] at hnb h2
  unfold rfcDistNBits at hnb h2
  have hp : 0 < 2 ^ (p + 1) := Nat.pow_pos (by decide)
  have : ((prefixEncodeCopyDistance dc ndirect p).sym - ndirect - 16) / 2 ^ (p + 1) < mb := by omega
  have := (Nat.div_lt_iff_lt_mul hp).mp this
  omega

example : (prefixEncodeCopyDistance 67108864 12 2) = ⟨200, 22, 4194301⟩ := by decide
example : rfcDistDecode 2 12 200 4194301 + 15 = 67108864 := by decide

theorem dist_nbits_le (p nd dc : Nat) (hdc : dc < 2 ^ 31) (hp : p ≤ 3) :
    (prefixEncodeCopyDistance dc nd p).nbits ≤ 30 := by
  have hpw : 2 ^ (p + 2) ≤ 2 ^ 5 := Nat.pow_le_pow_right (by decide) (by omega)
  have := pecd_nbits_le dc nd p 30 (by omega)
  omega

/-- Recovering a distance code from a stored command returns the code it was built from:
for every postfix-bit count, every number of direct codes the format allows and every
distance code below 2^31 (the encoder's distances are below 2^31: `BROTLI_MAX_ALLOWED_DISTANCE`
= 0x7fffffc), including the u16 / u32 packing of `dist_prefix_` / `dist_extra_`. -/
theorem restore_inverts_encode (p nd dc : Nat) (hp : p ≤ 3) (hnd : nd ≤ 120) (hdc : dc < 2 ^ 31) :
    restoreDistanceCode (prefixEncodeCopyDistance dc nd p).packed
      (prefixEncodeCopyDistance dc nd p).extra32 nd p = dc := by
  by_cases hs : dc < 16 + nd
  · have := (dist_direct_exact p nd dc hs).1
    rw [this]
    simp only [DistCode.packed, DistCode.extra32]
    have h1 : (0 * 1024 ||| dc) % 65536 = dc := by simp; omega
    rw [h1]
    unfold restoreDistanceCode
    have : dc % 1024 = dc := by omega
    simp [short_codes_is_16, this, hs]
  · have hge : 16 + nd ≤ dc := by omega
    obtain ⟨e1, e2, e3, e4, e5⟩ := dist_encode_exact p nd dc hge
    have hnb := dist_nbits_le p nd dc hdc hp
    have hsym := dist_symbol_lt_alphabet p nd dc hge 30 hnb
    have hpw : 2 ^ (p + 1) ≤ 2 ^ 4 := Nat.pow_le_pow_right (by decide) (by omega)
    have h16 : (2:Nat) ^ 4 = 16 := by decide
    have hsym' : (prefixEncodeCopyDistance dc nd p).sym < 1024 := by
      have : 30 * 2 ^ (p + 1) ≤ 30 * 16 := by omega
      omega
    have hpow : 2 ^ (prefixEncodeCopyDistance dc nd p).nbits ≤ 2 ^ 30 := Nat.pow_le_pow_right (by decide) hnb
    have h30 : (2:Nat) ^ 30 = 1073741824 := by decide
    have h32 : (2:Nat) ^ 32 = 4294967296 := by decide
    have h31 : (2:Nat) ^ 31 = 2147483648 := by decide
    simp only [DistCode.packed, DistCode.extra32]
    rw [restore_eq_rfc p nd _ _ _ e4 hsym' (by omega) e1 e2 (by omega) ?_ (by omega)]
    · exact e5
    · have hm : (2 + ((prefixEncodeCopyDistance dc nd p).sym - nd - 16) / 2 ^ p % 2) ≤ 3 := by omega
      have := Nat.mul_le_mul hm hpow
      omega

/-- `BrotliEncodeMlen`: for every meta-block length 1..2^24 the (MNIBBLES, MLEN-1) fields
read back (RFC 7932 section 9.2) to that length: MNIBBLES ∈ {4,5,6}, the value fits in
4·MNIBBLES bits, and the encoding is minimal (the RFC rejects a zero top nibble when
MNIBBLES > 4).  About `BV.PrefixArith.encodeMlen`; the header path has its own model of the function,
`BV.Header.encodeMlen` (`encodeMlen_spec`, `mlen_fits`). -/
theorem mlen_exact (length : Nat) (h1 : 1 ≤ length) (h2 : length ≤ 2 ^ 24) :
    (encodeMlen length).1 + 1 = length ∧
    (encodeMlen length).2.1 = 4 * ((encodeMlen length).2.2 + 4) ∧
    (encodeMlen length).2.2 ≤ 2 ∧
    (encodeMlen length).1 < 2 ^ (encodeMlen length).2.1 ∧
    (0 < (encodeMlen length).2.2 → 2 ^ (4 * ((encodeMlen length).2.2 + 3)) ≤ (encodeMlen length).1) := by
  have p16 : (2:Nat) ^ 16 = 65536 := by decide
  have p20 : (2:Nat) ^ 20 = 1048576 := by decide
  have p24 : (2:Nat) ^ 24 = 16777216 := by decide
  by_cases hone : length = 1
  · subst hone; decide
  have hne : length - 1 ≠ 0 := by omega
  have key : ∀ mn, (mn = (if log2Floor (length - 1) + 1 < 16 then 16 else log2Floor (length - 1) + 1 + 3) / 4) →
      encodeMlen length = (length - 1, mn * 4, mn - 4) := by
    intro mn h; unfold encodeMlen; simp [hone, h]
  by_cases a : length - 1 < 2 ^ 16
  · have hk : log2Floor (length - 1) < 16 := (Nat.log2_lt hne).mpr a
    have := key 4 (by split <;> omega)
    rw [this]; simp; omega
  by_cases b : length - 1 < 2 ^ 20
  · have hk : log2Floor (length - 1) < 20 := (Nat.log2_lt hne).mpr b
    have hk2 : 16 ≤ log2Floor (length - 1) := (Nat.le_log2 hne).mpr (by omega)
    have := key 5 (by split <;> omega)
    rw [this]; simp; omega
  · have hk : log2Floor (length - 1) < 24 := (Nat.log2_lt hne).mpr (by omega)
    have hk2 : 20 ≤ log2Floor (length - 1) := (Nat.le_log2 hne).mpr (by omega)
    have := key 6 (by split <;> omega)
    rw [this]; simp; omega

/-- `StoreVarLenUint8`: for every n < 256 the emitted fields read back (RFC 7932 section 9.2,
NBLTYPES-style "1 + variable length" without the +1) to n. -/
theorem varlen_uint8_exact (n : Nat) (h : n < 256) :
    (n = 0 → storeVarLenUint8 n = [(1, 0)]) ∧
    (0 < n → ∃ nb e, storeVarLenUint8 n = [(1, 1), (3, nb), (nb, e)] ∧ nb < 8 ∧ e < 2 ^ nb ∧ 2 ^ nb + e = n) := by
  constructor
  · intro h0; simp [storeVarLenUint8, h0]
  · intro hpos
    have hne : n ≠ 0 := by omega
    obtain ⟨hlo, hhi⟩ := log2_bounds n hne
    refine ⟨log2Floor n, n - 2 ^ log2Floor n, by simp [storeVarLenUint8, hne], ?_, ?_, by omega⟩
    · have : (2:Nat) ^ 8 = 256 := by decide
      exact (Nat.log2_lt hne).mpr (by omega)
    · rw [Nat.pow_succ] at hhi; omega

example : storeVarLenUint8 255 = [(1, 1), (3, 7), (7, 127)] := by decide
example : encodeMlen 16777216 = (16777215, 24, 2) := by decide
example : encodeMlen 65536 = (65535, 16, 0) := by decide
example : encodeMlen 65537 = (65536, 20, 1) := by decide

end BV.Props.C18
