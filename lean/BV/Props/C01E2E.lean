/-
C01E2E — the payload model of `encode_data` for quality 2/3 (BV/Model/E2E.lean `encodeDataPayload`: hasher setup,
StitchToPreviousBlock, extend_last_command, CreateBackwardReferences, the emit decision, the last_insert_len merge,
WriteMetaBlockInternal with its stored fallback and distance-cache rollback) — a CONCRETE instance of the oracle of the
stream machine — round-trips through the RFC 7932 reader.

Proved: `payload_single_roundtrip` — ONE `encode_data` invocation that covers ONE whole meta-block (no commands pending
from an earlier invocation, forced by FLUSH / FINISH): for every verdict of should_compress the bits it appends are
read by the RFC reader, from the decoder state (history, the encoder's distance cache), to history ++ block.
Full statement (neither stated nor proved in Lean, see the note at the end): for every call history at quality 2/3 the
delivered stream decodes to the input.
-/
import BV.Lemmas.E2EStep

namespace BV.Props.C01E2E
open BV.Hasher BV.MatchFinder BV.Recoder BV.PrefixArith BV.MetaBlock BV.Cbr BV.E2E BV.Bits BV.Props.C01Chain

theorem payload_single_core (e : EParams) (P : BasicP) (cells : Nat) (kindDict : Bool)
    (hch : chooseHasher e.quality = some (P, cells, kindDict))
    (wo : WordOracle) (dict : ByteArray → Nat → Option (List DictItem)) (data : ByteArray) (k tail : Nat) (hk : k ≤ 32)
    (hist mb : Bytes) (lo : Nat) (hb : BlockOK e.cbr e.large data k tail hist mb lo)
    (hsize : 2 ^ k ≤ data.size) (hmbk : mb.length ≤ 2 ^ k)
    (hd : DictFaithful wo (if e.useDict then dict else fun _ _ => none) data)
    (ps : PSt) (hcm : ps.cmds = []) (hli : ps.lastInsertLen = 0)
    (hc : CacheI32 ps.distCache) (hcl : 4 ≤ ps.distCache.length)
    (lp lf ip : Nat) (hlf : lf = hist.length) (hlp : lp = hist.length) (hip : ip = hist.length + mb.length)
    (hsmall : ip < 2 ^ 30) (h1 : 1 ≤ mb.length) (hcat : e.catable = true → e.appendable = true)
    (isLast forceFlush verdict : Bool) (hforce : isLast = true ∨ forceFlush = true)
    (w : List Bool) (hw : w.length < 256) (r : Res)
    (h : encodeDataPayload e dict data (2 ^ k - 1) lp lf ip isLast forceFlush verdict ps w = .ok r) :
    ∃ bits s'', r.w = w ++ bits ∧ r.emit = true ∧ r.wrote = true ∧ s''.out = hist ++ mb ∧
      (isLast = true → ∀ rest f, readMetaBlocks wo (maxBackwardLimit e.cbr) e.large (f + 2) w.length
          ⟨hist, ps.distCache.take 4⟩ (bits ++ rest) = some (s'', rest)) ∧
      (isLast = false → ReadsTo wo (maxBackwardLimit e.cbr) e.large w.length ⟨hist, ps.distCache.take 4⟩ bits false
          (w.length + bits.length) s'') := by
  obtain ⟨bits, s'', c⟩ := payload_core e P cells kindDict hch wo dict data k tail hk hist mb lo hb hsize
    hd ps hcm hli hc hcl lp lf ip hlf hlp hip hsmall h1 hcat isLast forceFlush verdict hforce w hw r h
  exact ⟨bits, s'', c.app, c.emit, c.wrote, c.out, reads_iff.mp c.reads⟩

/-- One `encode_data` invocation at quality 2 or 3 that covers one whole meta-block:
`mb` = the bytes `[last_flush_pos_, input_pos_)`, `hist` = everything before; no commands pending from an earlier
invocation (`ps.cmds = []`, `ps.lastInsertLen = 0`: the previous invocation closed its meta-block — or this is the first),
forced by FLUSH / FINISH (`isLast ∨ forceFlush`).  For EVERY hasher table the encoder may hold (`ps.hasher`: fresh or
whatever earlier invocations left), every i32 distance cache, every verdict of `should_compress`, catable / appendable or
not: if the model returns (it has explicit panic outcomes; none is assumed away), then it emitted (`emit`, `wrote`), the
storage is `w ++ bits`, and the RFC 7932 reader started in the decoder state `(hist, dist_cache_[..4])` reads `bits` —
as the end of the stream when `is_last` (incl. the separate empty last meta-block of appendable streams), as one
non-last meta-block otherwise — to a state whose output is `hist ++ mb`.
Hypotheses: `BlockOK` (C01Chain: the ring slice holds the text: `RingViewW`, proved from `RingOK`; window and
length bounds), the slice is at least one ring long, positions below 2^30 (`WrapPosition` is the identity), the
dictionary slots are faithful to the decoder's word oracle (`DictFaithful`, vacuous with the dictionary off), at most
255 bits already in the storage (stream header + carry, C08). -/
theorem payload_single_roundtrip (e : EParams) (hq : e.quality = 2 ∨ e.quality = 3)
    (wo : WordOracle) (dict : ByteArray → Nat → Option (List DictItem)) (data : ByteArray) (k tail : Nat) (hk : k ≤ 32)
    (hist mb : Bytes) (lo : Nat) (hb : BlockOK e.cbr e.large data k tail hist mb lo)
    (hsize : 2 ^ k ≤ data.size) (hmbk : mb.length ≤ 2 ^ k)
    (hd : DictFaithful wo (if e.useDict then dict else fun _ _ => none) data)
    (ps : PSt) (hcm : ps.cmds = []) (hli : ps.lastInsertLen = 0)
    (hc : CacheI32 ps.distCache) (hcl : 4 ≤ ps.distCache.length)
    (lp lf ip : Nat) (hlf : lf = hist.length) (hlp : lp = hist.length) (hip : ip = hist.length + mb.length)
    (hsmall : ip < 2 ^ 30) (h1 : 1 ≤ mb.length) (hcat : e.catable = true → e.appendable = true)
    (isLast forceFlush verdict : Bool) (hforce : isLast = true ∨ forceFlush = true)
    (w : List Bool) (hw : w.length < 256) (r : Res)
    (h : encodeDataPayload e dict data (2 ^ k - 1) lp lf ip isLast forceFlush verdict ps w = .ok r) :
    ∃ bits s'', r.w = w ++ bits ∧ r.emit = true ∧ r.wrote = true ∧ s''.out = hist ++ mb ∧
      (isLast = true → ∀ rest f, readMetaBlocks wo (maxBackwardLimit e.cbr) e.large (f + 2) w.length
          ⟨hist, ps.distCache.take 4⟩ (bits ++ rest) = some (s'', rest)) ∧
      (isLast = false → ReadsTo wo (maxBackwardLimit e.cbr) e.large w.length ⟨hist, ps.distCache.take 4⟩ bits false
          (w.length + bits.length) s'') := by
  rcases hq with hq | hq
  · exact payload_single_core e H2 65537 true (by simp [chooseHasher, hq]) wo dict data k tail hk hist mb lo hb hsize hmbk hd
      ps hcm hli hc hcl lp lf ip hlf hlp hip hsmall h1 hcat isLast forceFlush verdict hforce w hw r h
  · exact payload_single_core e H3 65538 false (by simp [chooseHasher, hq]) wo dict data k tail hk hist mb lo hb hsize hmbk hd
      ps hcm hli hc hcl lp lf ip hlf hlp hip hsmall h1 hcat isLast forceFlush verdict hforce w hw r h

/-! non-vacuity: the 32-byte first-lap ring of `BV.Cbr.Example` (BV/Lemmas/CbrDict.lean; also C01Chain's example),
quality 2, FINISH: every hypothesis holds -/
def exE : EParams := ⟨2, 10, 14, false, false, false, false, 540⟩

example : BlockOK exE.cbr exE.large BV.Cbr.Example.data 6 32 [] BV.Cbr.Example.text 0 ∧
    2 ^ 6 ≤ BV.Cbr.Example.data.size ∧ BV.Cbr.Example.text.length ≤ 2 ^ 6 ∧
    DictFaithful (fun _ _ _ => none) (if exE.useDict then (fun _ _ => none) else fun _ _ => none) BV.Cbr.Example.data ∧
    CacheI32 ({} : PSt).distCache ∧ 4 ≤ ({} : PSt).distCache.length :=
  ⟨⟨rfl, rfl, BV.Cbr.Example.ring_ok, by decide, by decide, by decide, by decide, fun _ => by decide, fun _ => by decide,
      by decide, by decide⟩, by decide, by decide, by simpa [exE] using dictFaithful_none _ _,
    by intro x hx; simp [PSt.distCache] at hx; rcases hx with rfl | rfl | rfl | rfl <;> decide, by decide⟩

/- On this instance `encodeDataPayload exE (fun _ _ => none) Example.data 63 0 0 32 true false true {} []` evaluates
(`#eval`; too large for kernel `decide`: the 65537-cell H2 table) to `.ok` with `emit = wrote = stored = true` and 288 bits:
the incompressible block ends up stored through the size fallback.  Every correspondence line of the `e2e` stage is a
further instance on which the model returns. -/

/-
STATUS of the whole-history statement (for every call history at quality 2/3 the delivered stream decodes to the input,
with no payload hypothesis): it has no Lean statement and is NOT proved.  BV/Props/C01E2ERun.lean chains forced invocations with the
reader's state threaded through (the ring state `s''.ring`, existentially quantified above, is `dist_cache_[..4]` after the
invocation there); what is still missing — meta-blocks that span several invocations, the bit position, the induction over the
log of the stream machine — is listed at its end.  The `e2e` stage exercises all of it on every run (bit-exact agreement of
the composed model with the real encoder, and the real output decodes to the input).
-/

end BV.Props.C01E2E
