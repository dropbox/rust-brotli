/-
C18, translator tie: the Lean definitions GENERATED from the current Rust text of the length/
distance code arithmetic (tools/rs2lean.py -> BV/Gen/FnC18.lean) equal the hand-written model
`BV.PrefixArith` — over which C18's exactness theorems are stated — on every `usize` argument the
Rust functions are defined for.  `Command::distance_context` is translated into the same module but not tied here.
-/
import BV.Gen.FnC18
import BV.Model.PrefixArith
import BV.Lemmas.PrefixArith
import BV.Lemmas.RsPrelude

namespace BV.Props.C18Gen
open BV.Gen.FnC18 BV.PrefixArith BV.Lemmas.PrefixArith BV.Rs

/-- `63 ^ v.leading_zeros()` is the floor of the binary logarithm, for every non-zero `u64` -/
theorem log2_floor_non_zero_generated (v : Nat) (h0 : v ≠ 0) (h : v < 2 ^ 64) :
    Log2FloorNonZero v = Nat.log2 v :=
  xor63_clz v h0 h

theorem ins_small : ∀ k : Fin 130, GetInsertLengthCode k.val = getInsertLengthCode k.val := by
  decide +kernel

theorem copy_small : ∀ k : Fin 134, 2 ≤ k.val → GetCopyLengthCode k.val = getCopyLengthCode k.val := by
  decide +kernel

theorem get_insert_length_code_generated (n : Nat) (h : n < 2 ^ 64) :
    GetInsertLengthCode n = getInsertLengthCode n := by
  by_cases h130 : n < 130
  · exact ins_small ⟨n, h130⟩
  · have h64 : (2 : Nat) ^ 64 = 18446744073709551616 := by decide
    rw [h64] at h
    unfold GetInsertLengthCode getInsertLengthCode log2Floor
    have e : (n + 18446744073709551616 - 66) % 18446744073709551616 = n - 66 := wsub_of_le (by omega) h
    have hz : n - 66 ≠ 0 := by omega
    have hlt : n - 66 < 2 ^ 64 := by omega
    have hl : Nat.log2 (n - 66) < 64 := (Nat.log2_lt hz).2 hlt
    simp only [e, log2_floor_non_zero_generated (n - 66) hz hlt, decide_eq_true_eq]
    repeat' split
    all_goals omega

/-- from 2: the format has no shorter copy -/
theorem get_copy_length_code_generated (n : Nat) (h2 : 2 ≤ n) (h : n < 2 ^ 64) :
    GetCopyLengthCode n = getCopyLengthCode n := by
  by_cases h134 : n < 134
  · exact copy_small ⟨n, h134⟩ h2
  · have h64 : (2 : Nat) ^ 64 = 18446744073709551616 := by decide
    rw [h64] at h
    unfold GetCopyLengthCode getCopyLengthCode log2Floor
    have e : (n + 18446744073709551616 - 70) % 18446744073709551616 = n - 70 := wsub_of_le (by omega) h
    have hz : n - 70 ≠ 0 := by omega
    have hlt : n - 70 < 2 ^ 64 := by omega
    have hl : Nat.log2 (n - 70) < 64 := (Nat.log2_lt hz).2 hlt
    simp only [e, log2_floor_non_zero_generated (n - 70) hz hlt, decide_eq_true_eq]
    repeat' split
    all_goals omega

theorem combine_length_codes_generated :
    ∀ (i c : Fin 24) (u : Bool), combine_length_codes i.val c.val u = combineLengthCodes i.val c.val u := by
  decide +kernel

theorem two_pow_small (p : Nat) (hp : p ≤ 3) : (2:Nat) ^ p ≤ 8 := by
  have : p = 0 ∨ p = 1 ∨ p = 2 ∨ p = 3 := by omega
  rcases this with rfl | rfl | rfl | rfl <;> decide

/-- the long codes.  With `D = 2^(p+2) + d` (`d` = the distance code above the short and direct ones), `dist_long_decomp p d`
(Lemmas/PrefixArith) gives bucket, prefix bit and offset of `D`; the generated text is rewritten to these -/
theorem pecd_long (dc nd p a b : Nat) (hp : p ≤ 3) (hnd : nd ≤ 120) (hdc : dc < 2 ^ 62) (hge : 16 + nd ≤ dc) :
    PrefixEncodeCopyDistance dc nd p a b =
      ((prefixEncodeCopyDistance dc nd p).packed, (prefixEncodeCopyDistance dc nd p).extra32) := by
  obtain ⟨d, rfl⟩ : ∃ d, dc = 16 + nd + d := ⟨dc - 16 - nd, by omega⟩
  have hP8 := two_pow_small p hp
  have hp2 : (2:Nat) ^ (p + 2) = 4 * 2 ^ p := by rw [Nat.pow_add]; omega
  have hD64 : 2 ^ (p + 2) + d < 18446744073709551616 := by
    have : (2:Nat) ^ 62 = 4611686018427387904 := by decide
    omega
  have hdc64 : 16 + nd + d < 18446744073709551616 := by
    have : (2:Nat) ^ 62 = 4611686018427387904 := by decide
    omega
  clear hdc
  obtain ⟨nb, q, r, hnb, hq, hr, hL, hquot, hrem, hsum⟩ := dist_long_decomp p d
  unfold PrefixEncodeCopyDistance prefixEncodeCopyDistance
  have hdist : (1 <<< ((p + 2) % 18446744073709551616 % 64) % 18446744073709551616 +
      ((16 + nd + d + 18446744073709551616 - 16) % 18446744073709551616 + 18446744073709551616 - nd) % 18446744073709551616) %
      18446744073709551616 = 2 ^ (p + 2) + d := by
    rw [Nat.mod_eq_of_lt (show p + 2 < 18446744073709551616 by omega), Nat.mod_eq_of_lt (show p + 2 < 64 by omega),
      Nat.one_shiftLeft, Nat.mod_eq_of_lt (show 2 ^ (p + 2) < 18446744073709551616 by omega),
      wsub_of_le (show 16 ≤ 16 + nd + d by omega) hdc64,
      wsub_of_le (show nd ≤ 16 + nd + d - 16 by omega) (show 16 + nd + d - 16 < 18446744073709551616 by omega),
      show 16 + nd + d - 16 - nd = d by omega, Nat.mod_eq_of_lt hD64]
  rw [if_neg (by rw [decide_eq_true_eq, Nat.mod_eq_of_lt (show 16 + nd < 18446744073709551616 by omega)]; omega),
    if_neg (by rw [short_codes_is_16]; omega)]
  simp only [hdist, short_codes_is_16, show 16 + nd + d - 16 - nd = d by omega]
  have hDpos : 0 < 2 ^ (p + 2) + d := Nat.add_pos_left (Nat.pow_pos (by decide)) d
  generalize 2 ^ (p + 2) + d = D at hD64 hL hquot hrem hDpos ⊢
  have hD0 : D ≠ 0 := Nat.pos_iff_ne_zero.mp hDpos
  have hl64 : Nat.log2 D < 64 := (Nat.log2_lt hD0).2 hD64
  unfold log2Floor at hL ⊢
  have hpnb : p + nb ≤ 62 := by omega
  have hq2 : 2 + q % 2 = q := by rcases hq with rfl | rfl <;> rfl
  have hY : q * 2 ^ (p + nb) ≤ D := by rw [← hquot]; exact Nat.div_mul_le_self D _
  have hin : (2 * (nb - 1) + q % 2) * 2 ^ p ≤ 1000 :=
    Nat.le_trans (Nat.mul_le_mul_left _ hP8) (by omega)
  rw [log2_floor_non_zero_generated D hD0 hD64, wsub_of_le (show 1 ≤ Nat.log2 D by omega) (show Nat.log2 D < 4294967296 by omega), hL,
    Nat.mod_eq_of_lt (show p + nb < 64 by omega), wsub_of_le (Nat.le_add_right p nb) (show p + nb < 18446744073709551616 by omega),
    Nat.add_sub_cancel_left, shl_mask (show p < 32 by omega) (show 2 ^ p < 4294967296 by omega), Nat.and_two_pow_sub_one_eq_mod,
    Nat.shiftRight_eq_div_pow, hquot, Nat.and_one_is_mod, hq2, Nat.mod_eq_of_lt (show q < 18446744073709551616 by omega),
    Nat.shiftLeft_eq q, Nat.mod_eq_of_lt (Nat.lt_of_le_of_lt hY hD64), wsub_of_le hY hD64]
  have hm : D % 2 ^ p < 2 ^ p := Nat.mod_lt _ (Nat.pow_pos (by decide))
  have hq1 : q % 2 < 2 := Nat.mod_lt _ (by decide)
  rw [show nb <<< (10 % 64) = nb * 1024 from Nat.shiftLeft_eq nb 10, wsub_of_le hnb (show nb < 18446744073709551616 by omega),
    Nat.mod_eq_of_lt (show p < 64 by omega), Nat.shiftLeft_eq, Nat.shiftRight_eq_div_pow]
  -- every remaining `% 2^64` is of a sum below 16 + 120 + 1000 + 8
  simp (disch := omega) only [Nat.mod_eq_of_lt]
  rfl

/-- NPOSTFIX ≤ 3 and NDIRECT ≤ 120 are the format's ranges; the two `&mut` results are the model's packed `u16`
(nbits << 10 | symbol) and `u32` extra bits -/
theorem prefix_encode_copy_distance_generated (dc nd p a b : Nat) (hp : p ≤ 3) (hnd : nd ≤ 120)
    (hdc : dc < 2 ^ 62) :
    PrefixEncodeCopyDistance dc nd p a b =
      ((prefixEncodeCopyDistance dc nd p).packed, (prefixEncodeCopyDistance dc nd p).extra32) := by
  by_cases hge : 16 + nd ≤ dc
  · exact pecd_long dc nd p a b hp hnd hdc hge
  · have hlt : dc < 16 + nd := by omega
    have hlt' : dc < (16 + nd) % 18446744073709551616 := by omega
    unfold PrefixEncodeCopyDistance
    simp [hlt', prefixEncodeCopyDistance, short_codes_is_16, hlt, DistCode.packed, DistCode.extra32]

/-- the three `&mut` results, in the order (bits, numbits, nibblesbits) -/
theorem encode_mlen_generated (len a b c : Nat) (h1 : 1 ≤ len) (h : len ≤ 2 ^ 24) :
    BrotliEncodeMlen len a b c = encodeMlen len := by
  have hlt : len - 1 < 2 ^ 64 := Nat.lt_of_le_of_lt (Nat.sub_le _ _) (Nat.lt_of_le_of_lt h (by decide))
  exact encode_mlen_text Log2FloorNonZero len h1 h
    (fun h1' => log2_floor_non_zero_generated (len - 1) (by omega) hlt)

example : PrefixEncodeCopyDistance 1000 0 0 7 7 = (8 * 1024 + 31, 220) := by decide
example : BrotliEncodeMlen 65536 0 0 0 = (65535, 16, 0) := by decide
example : BrotliEncodeMlen 65537 9 9 9 = (65536, 20, 1) := by decide

/-- `Command::restore_distance_code`: for every stored `dist_prefix_` whose extra-bit count is at most 31
(beyond that `<< nbits` panics in a debug build and is masked in a release build; the format never
produces it), every `dist_extra_`, NPOSTFIX ≤ 3 and NDIRECT ≤ 120 -/
theorem restore_distance_code_generated (prefix_ extra p nd : Nat) (hpre : prefix_ < 32768)
    (hp : p ≤ 3) (hnd : nd ≤ 120) :
    restore_distance_code extra prefix_ p nd = restoreDistanceCode prefix_ extra nd p := by
  unfold restore_distance_code restoreDistanceCode
  have hland : sop (fun x y => x &&& y) 32 ((prefix_ : Nat) : Int) (1023 : Int) = ((prefix_ % 1024 : Nat) : Int) := by
    have := sop32_ofNat (fun x y => x &&& y) prefix_ 1023 (by omega) (by decide)
      (by show prefix_ &&& 1023 < 2147483648; rw [and_1023]; omega)
    simp only [and_1023] at this
    exact this
  have hsum : wrapS 32 (wrapS 32 ((16 : Nat) : Int) + wrapS 32 ((nd : Nat) : Int)) = ((16 + nd : Nat) : Int) := by
    rw [wrapS32_of_range ((16 : Nat) : Int) (by omega) (by omega), wrapS32_of_range ((nd : Nat) : Int) (by omega) (by omega),
      wrapS32_of_range _ (by omega) (by omega)]
    omega
  simp only [hland, hsum, and_1023, short_codes_is_16, two_pow_32]
  by_cases hc : prefix_ % 1024 < 16 + nd
  · have hc' : ((prefix_ % 1024 : Nat) : Int) < ((16 + nd : Nat) : Int) := by omega
    simp only [hc, hc', decide_true, if_true]
  · have hc' : ¬ ((prefix_ % 1024 : Nat) : Int) < ((16 + nd : Nat) : Int) := by omega
    simp only [hc, hc', decide_false, if_false, Bool.false_eq_true]
    have hdn : nd ≤ prefix_ % 1024 := by omega
    have hd16 : 16 ≤ prefix_ % 1024 - nd := by omega
    have hlt : prefix_ % 1024 < 4294967296 := by omega
    have hb1 : ((prefix_ % 1024 + 4294967296 - nd) % 4294967296 + 4294967296 - 16) % 4294967296
        = prefix_ % 1024 - nd - 16 := by
      rw [wsub_of_le hdn hlt, wsub_of_le hd16 (by omega)]
    have hb2 : (prefix_ % 1024 + 4294967296 - nd % 4294967296 + 4294967296 - 16) % 4294967296
        = prefix_ % 1024 - nd - 16 := by
      rw [Nat.mod_eq_of_lt (show nd < 4294967296 by omega), wsub_wsub_of_le hdn hd16 hlt]
    have hp32 : p % 32 = p := by omega
    have hnb : prefix_ >>> (10 % 16) % 32 = prefix_ / 1024 := by
      rw [Nat.shiftRight_eq_div_pow]
      have : (2:Nat) ^ (10 % 16) = 1024 := by decide
      rw [this]; omega
    have hPpos : 0 < 2 ^ p := Nat.pow_pos (by decide)
    have hP8 := two_pow_small p hp
    have hmask : (1 <<< p % 4294967296 + 4294967296 - 1) % 4294967296 = 2 ^ p - 1 := by
      rw [Nat.one_shiftLeft, Nat.mod_eq_of_lt (show 2 ^ p < 4294967296 by omega), wsub_of_le hPpos (by omega)]
    rw [hb1, hb2, hp32, hnb, hmask]
    simp only [Nat.shiftRight_eq_div_pow, Nat.shiftLeft_eq, Nat.and_one_is_mod, Nat.and_two_pow_sub_one_eq_mod]
    have hh : (prefix_ % 1024 - nd - 16) / 2 ^ p % 2 < 2 := Nat.mod_lt _ (by decide)
    rw [Nat.mod_eq_of_lt (a := 2 + (prefix_ % 1024 - nd - 16) / 2 ^ p % 2) (by omega)]
    omega

theorem copy_len_generated (f : Nat) : copy_len f = f % 33554432 :=
  Nat.and_two_pow_sub_one_eq_mod f 25

example : restore_distance_code 220 (8 * 1024 + 31) 0 0 = 1000 := by decide

theorem store_var_len_uint8_generated (n : Nat) (h : n < 2 ^ 64) :
    StoreVarLenUint8 n = (storeVarLenUint8 n).map (fun p => BV.Rs.WOp.bits p.1 p.2) := by
  unfold StoreVarLenUint8 storeVarLenUint8 log2Floor
  by_cases h0 : n = 0
  · subst h0; rfl
  · have hl : Nat.log2 n < 64 := (Nat.log2_lt h0).2 h
    have hle : 2 ^ Nat.log2 n ≤ n := Nat.log2_self_le h0
    have e1 : Nat.log2 n % 256 = Nat.log2 n := by omega
    have e2 : Nat.log2 n % 64 = Nat.log2 n := by omega
    simp only [h0, beq_iff_eq, if_false, log2_floor_non_zero_generated n h0 h, e1, e2, Nat.shiftLeft_eq, Nat.one_mul,
      List.nil_append, List.cons_append, List.map_cons, List.map_nil]
    rw [two_pow_64] at h
    generalize 2 ^ Nat.log2 n = X at hle ⊢
    have e3 : (n + 18446744073709551616 - X % 18446744073709551616) % 18446744073709551616 = n - X := by omega
    rw [e3]

example : StoreVarLenUint8 200 = [BV.Rs.WOp.bits 1 1, BV.Rs.WOp.bits 3 7, BV.Rs.WOp.bits 7 72] := by decide

example : GetInsertLengthCode 22593 = 22 := by decide
example : GetCopyLengthCode 2117 = 22 := by decide

end BV.Props.C18Gen
