/-
C06 — Multi-threaded output is a function of input, settings and thread count only.

Property theorems ONLY (helper lemmas: BV/Lemmas/Multi*.lean).  Model: BV/Model/Multi.lean
(`CompressMulti` with the three spawners; jobs are an oracle `jobs : index → result`),
BV/Model/Pool.lean + BV.Props.C07 for the pool's scheduling, and an abstract hasher
(`HasherModel`: `bulk` = `BulkStoreRange`) for the shared pre-built index.

PURITY HYPOTHESIS (explicit in every statement that needs it): what job `i` returns is a
function of (input, params, i, t) — in the model: two runs are described by two oracles that
agree on every index.  It stands for the determinism of the single-stream encoder
(independence of allocator history, of output-buffer slicing — C05 — and of the thread it runs
on); it is exercised by the harness (byte comparison across spawners, fresh/reused pools,
repeated runs, favor on/off), not proved.
-/
import BV.Lemmas.MultiSound
import BV.Lemmas.MultiFavor
import BV.Props.C07

namespace BV.Props.C06
open BV.Multi BV.Multi.Res BV.Lemmas.Multi

/-- the submitter program of ONE `CompressMulti` call with `t` threads on a pool:
`spawn(index 0) … spawn(index t-2)`, then the stitch loop's `join`s in index order, then
`OwnedRetriever::unwrap`; given as (indices spawned, indices joined) -/
def callBatch (t : Nat) : List Nat × List Nat := (List.range (t - 1), List.range (t - 1))

/-- ANY history of calls on one (reused) pool — thread counts `ts`, each `≤ MAX_THREADS + 1` —
followed by dropping it obeys the caller contract of C07; hence (C07 `join_returns_own`) in
EVERY reachable state of EVERY schedule (any number of workers, spurious wake-ups included)
every `join` that has returned work id `id` returned the value of the job whose `index` was
passed to the `id`-th `spawn`; (C07 `arc_one_after_all_joined`) once all spawned jobs are
joined the input's strong count is 1, so the hand-back succeeds; (C07 `exactly_once`) every
joined job ran exactly once. -/
theorem pool_joins_own_job (workers : Nat) (ts : List Nat) (hts : ∀ t, t ∈ ts → t ≤ BV.Gen.MAX_THREADS + 1)
    (s : BV.Pool.State)
    (hr : BV.Lemmas.Pool.Reachable workers (BV.Lemmas.Pool.batchesOps 0 (ts.map callBatch) ++ [.dropPool]) s) :
    (∀ tid id v, (tid, BV.Pool.Ev.join id v) ∈ s.hist →
      (BV.Lemmas.Pool.spawnIdxs (BV.Lemmas.Pool.batchesOps 0 (ts.map callBatch) ++ [.dropPool]))[id]? = some v) ∧
    ((∀ id, id < s.curWorkId → id ∈ BV.Lemmas.Pool.joinedIds s.hist) → s.arc = 1) ∧
    (∀ id, id ∈ BV.Lemmas.Pool.joinedIds s.hist → BV.Lemmas.Pool.runCount id s.hist = 1) := by
  have hok : BV.Lemmas.Pool.BatchesOk (ts.map callBatch) := by
    intro b hb
    simp only [List.mem_map] at hb
    obtain ⟨t, ht, rfl⟩ := hb
    have := hts t ht
    exact ⟨by simp [callBatch]; omega, by simp [callBatch]⟩
  have hc := BV.Props.C07.batches_obey_contract (ts.map callBatch) hok
  exact ⟨fun tid id v h => BV.Props.C07.join_returns_own hc hr h,
    fun hall => BV.Props.C07.arc_one_after_all_joined hc hr hall,
    fun id hid => (BV.Props.C07.exactly_once hc hr id).2 hid⟩

/-- non-vacuity: a 4-thread call, then a 3-thread call on the same pool: the spawn indices by
work id are `0,1,2` then `0,1` — work id 3 (first job of the second call) carries index 0 -/
example : BV.Lemmas.Pool.spawnIdxs (BV.Lemmas.Pool.batchesOps 0 ([4, 3].map callBatch) ++ [.dropPool]) = [0, 1, 2, 0, 1] := by
  decide

theorem multi_congr (sp : Spawner) (t : Nat) (jobs1 jobs2 : Nat → JobRes) (cap : Nat)
    (h : ∀ i, i < t → jobs1 i = jobs2 i) : compressMulti sp t jobs1 cap = compressMulti sp t jobs2 cap := by
  unfold compressMulti
  by_cases ht : t = 0
  · rw [if_pos ht, if_pos ht]
  · have hlist : (List.range (t - 1)).map jobs1 = (List.range (t - 1)).map jobs2 :=
      List.map_congr_left fun i hi => h i (by simp at hi; omega)
    have hin : ∀ (is : List Nat), (∀ i, i ∈ is → i < t) → inlineSpawns jobs1 is = inlineSpawns jobs2 is := by
      intro is
      induction is with
      | nil => intro _; rfl
      | cons i is ih =>
        intro hi
        simp only [inlineSpawns, h i (hi i List.mem_cons_self)]
        rw [ih fun j hj => hi j (List.mem_cons_of_mem _ hj)]
    rw [hlist, h (t - 1) (by omega), hin _ fun i hi => by simp at hi; omega]

/-- `inline_equals_pool_equals_threads`.  For 1 ≤ t ≤ MAX_THREADS, any capacity, and two runs
whose jobs return the same values (PURITY) without panicking or spinning: the thread-per-job
spawner, the worker pool (fresh or reused, any schedule: `pool_joins_own_job`) and the inline spawner
give the same result — same `Ok(k)`/error, same bytes, input handed back. -/
theorem inline_equals_pool_equals_threads (sp1 sp2 : Spawner) (t : Nat) (jobs1 jobs2 : Nat → JobRes) (cap : Nat)
    (ht : 1 ≤ t) (ht16 : t ≤ BV.Gen.MAX_THREADS) (hpure : ∀ i, i < t → jobs1 i = jobs2 i) (hc : Clean jobs1 t) :
    compressMulti sp1 t jobs1 cap = compressMulti sp2 t jobs2 cap := by
  rw [← multi_congr sp2 t jobs1 jobs2 cap hpure]
  rw [compressMulti_clean sp1 t jobs1 cap (by omega) (fun _ => ht16) hc,
    compressMulti_clean sp2 t jobs1 cap (by omega) (fun _ => ht16) hc]
  have : allJoined sp1 t jobs1 = allJoined sp2 t jobs1 := by
    apply List.map_congr_left
    intro i hi
    have := hc i (List.mem_range.mp hi)
    cases hji : jobs1 i <;> simp_all [joined]
  rw [this]

/-- the cleanliness hypothesis is needed: with a panicking job the spawners differ
(`Err(ThreadExecError)` / a `join` that never returns / the caller's panic) -/
example : compressMulti .threads 2 (fun i => if i = 0 then .panic else .ok [0x3b]) 10 ≠
    compressMulti .pool 2 (fun i => if i = 0 then .panic else .ok [0x3b]) 10 := by decide

/-- the output as a function: whenever a call returns `Ok(k)`, the bytes are the reference
splice of the job outputs in index order (C02 `multi_ok_sound`) — a function of the job values
(hence, under PURITY, of (input, params, t)) and of nothing else the spawner or schedule could
influence. -/
theorem ok_bytes_function_of_jobs (sp1 sp2 : Spawner) (t : Nat) (jobs : Nat → JobRes) (cap : Nat)
    (r1 r2 : MultiRet) (k1 k2 : Nat)
    (h1 : compressMulti sp1 t jobs cap = ok r1) (h2 : compressMulti sp2 t jobs cap = ok r2)
    (hk1 : r1.result = .ok k1) (hk2 : r2.result = .ok k2) : r1.out = r2.out ∧ k1 = k2 := by
  obtain ⟨bs1, hl1, hj1, hs1, hk1', _⟩ := compressMulti_ok_sound h1 hk1
  obtain ⟨bs2, hl2, hj2, hs2, hk2', _⟩ := compressMulti_ok_sound h2 hk2
  have hbs : bs1 = bs2 := by
    apply List.ext_getElem (by omega)
    intro i hi1 hi2
    have e1 := hj1 i bs1[i] (List.getElem?_eq_getElem hi1)
    have e2 := hj2 i bs2[i] (List.getElem?_eq_getElem hi2)
    rw [e1] at e2
    injection e2
  subst hbs
  rw [hs1] at hs2
  injection hs2 with hs2
  exact ⟨hs2, by rw [hk1', hk2', hs2]⟩

/-- `favor_cpu_equiv`.  For job `j+1` (prefix = `bnd (j+1)` bytes, quality ≥ 2, window
`lgwin ≥ 10`), over ANY hasher whose `BulkStoreRange` is additive over consecutive ranges
(C19) and reads only `overlap` bytes past the last stored position: if the job's prefix is not
truncated (`≤ 2^lgwin − 16`), the index pre-built by the favor branch (cumulative stores,
`stored_end`) EQUALS the index the job builds itself.  Hence (PURITY: the job is a function of
its hasher state too) favor on/off give the same job values and, by
`inline_equals_pool_equals_threads`, the same bytes. -/
theorem favor_cpu_equiv {H : Type} (M : HasherModel H) (overlap : Nat) (hA : Additive M) (hL : Local M overlap)
    (input : List Nat) (t n lgwin quality j : Nat) (hq : 2 ≤ quality) (hl : 10 ≤ lgwin)
    (hnt : bnd t n (j + 1) ≤ 2 ^ lgwin - 16) :
    (prebuilt M input t n overlap (j + 1)).1 = selfbuilt M input (bnd t n (j + 1)) lgwin quality overlap :=
  favor_cpu_equiv_upto M overlap input t n lgwin quality j hq hnt
    (fun b c hbc _ => hA M.empty input 0 b c (Nat.zero_le _) hbc) (fun d' hd => hL M.empty input d' 0 _ hd)

def posHasher : HasherModel (List (Nat × Nat)) :=
  ⟨[], fun h d lo hi => h ++ (List.range (hi - lo)).map fun k => (lo + k, d.getD (lo + k) 0)⟩

theorem posHasher_additive : Additive posHasher := by
  intro h d a b c hab hbc
  simp only [posHasher, List.append_assoc, List.append_cancel_left_eq]
  have e : c - a = (b - a) + (c - b) := by omega
  rw [e, List.range_add, List.map_append, List.map_map]
  congr 1
  apply List.map_congr_left
  intro k _
  simp only [Function.comp]
  have : a + (b - a + k) = b + k := by omega
  rw [this]

theorem posHasher_local (ov : Nat) : Local posHasher ov := by
  intro h d d' a b hd
  simp only [posHasher, List.append_cancel_left_eq]
  apply List.map_congr_left
  intro k hk
  simp only [List.mem_range] at hk
  have hi : a + k < b + ov := by omega
  have e1 : d.getD (a + k) 0 = (d.take (b + ov)).getD (a + k) 0 := by
    simp only [List.getD_eq_getElem?_getD, List.getElem?_take, if_pos hi]
  have e2 : d'.getD (a + k) 0 = (d'.take (b + ov)).getD (a + k) 0 := by
    simp only [List.getD_eq_getElem?_getD, List.getElem?_take, if_pos hi]
  rw [e1, e2, hd]

/-- non-vacuity of `favor_cpu_equiv`: the reference hasher meets both hypotheses, so for every
input, thread count and job with an untruncated prefix its shared and own index coincide -/
example (input : List Nat) (t n j : Nat) (h : bnd t n (j + 1) ≤ 2 ^ 22 - 16) :
    (prebuilt posHasher input t n 3 (j + 1)).1 = selfbuilt posHasher input (bnd t n (j + 1)) 22 5 3 :=
  favor_cpu_equiv posHasher 3 posHasher_additive (posHasher_local 3) input t n 22 5 j (by decide) (by decide) h

/-- (a) TRUNCATED prefix (/verif/proposed/D16-favor-cpu-shared-index.md; the job discards the shared index in this
case, C06Hasher `truncated_job_uses_own_index`): the shared index holds absolute positions 0,1,…, the job's own index
the positions of the kept tail, restarting at 0 with other bytes.  Evaluated on a scaled-down window
(`lgwin = 5`: 16 bytes kept of a 30-byte prefix) so that the kernel can compute it; the
arithmetic is the same for the real windows (1008 bytes kept at lgwin 10, …). -/
theorem favor_needs_untruncated :
    (prebuilt posHasher (List.range 60) 2 60 3 1).1 ≠ selfbuilt posHasher (List.range 60) (bnd 2 60 1) 5 5 3 ∧
    (dictPlan (bnd 2 60 1) 5 5) = ⟨true, 14, 16⟩ := by
  decide

/-- a NON-additive `BulkStoreRange`: the sweep slot is taken from the offset inside the call's range (the shape of a
`StoreRangeOptBasic` that counts from the start of its range, qualities 3–4) -/
def sweepHasher : HasherModel (List (Nat × Nat)) :=
  ⟨[], fun h _ lo hi => h ++ (List.range (hi - lo)).map fun k => (lo + k, k % 2)⟩

/-- (b) with `sweepHasher`: three jobs, the shared index is built by two calls, the job's own by one -/
theorem favor_needs_additive :
    (prebuilt sweepHasher (List.replicate 30 7) 3 30 3 2).1 ≠ selfbuilt sweepHasher (List.replicate 30 7) (bnd 3 30 2) 22 4 3 := by
  decide

/-- (c) Regression target (/verif/proposed/D16b-favor-cpu-short-ranges.md): the per-RANGE guard of `prebuiltV0` skips ranges not longer
than the look-ahead — 5 jobs of 2 bytes, look-ahead 4: its shared index for job 4 is empty, the job's
own index (and `prebuilt`) hold positions 0..4 -/
theorem short_ranges_v0 :
    prebuiltV0 posHasher (List.range 10) 5 10 3 4 = [] ∧
    (prebuilt posHasher (List.range 10) 5 10 3 4).1 = selfbuilt posHasher (List.range 10) (bnd 5 10 4) 22 5 3 ∧
    selfbuilt posHasher (List.range 10) (bnd 5 10 4) 22 5 3 = [(0, 0), (1, 1), (2, 2), (3, 3), (4, 4)] := by
  decide

end BV.Props.C06
