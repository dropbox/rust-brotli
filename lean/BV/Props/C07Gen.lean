/-
C07, translator tie: the Lean definitions GENERATED from the current Rust text of `FixedQueue`
(src/enc/fixed_queue.rs: `new`, `can_push`, `size`, `push`, `pop`, `how_much_free_space`; the type
parameter `T` instantiated with `usize` job ids; tools/rs2lean.py -> BV/Gen/FnC07.lean, struct by value,
`data : [Option<T>; MAX_THREADS]` as a `List (Option Nat)`) compute what the hand-written model
`BV.FixedQueue` — over which the queue-discipline lemmas of C07 are stated — computes, on every queue
whose `data` has its 16 slots (which the Rust array type guarantees) and whose counters are below the
`usize` wrap-around the model abstracts from (`start + size + 1 < 2^64`: `start` only grows by one per
`pop`).  The `_ok` companions (no panic in a debug build: index in bounds, no overflow, no underflow)
hold on the same queues.
-/
import BV.Gen.FnC07
import BV.Model.FixedQueue
import BV.Lemmas.RsPrelude

namespace BV.Props.C07Gen
open BV.Gen.FnC07

abbrev MQ := BV.FixedQueue.FixedQueue Nat

def toModel (q : FixedQueue) : MQ :=
  ⟨Vector.ofFn (fun i : Fin BV.Gen.MAX_THREADS => q.data.getD i.val none), q.size, q.start⟩

/-- what the Rust type guarantees: the array has `MAX_THREADS` slots -/
def WF (q : FixedQueue) : Prop := q.data.length = BV.Gen.MAX_THREADS

theorem max_threads_16 : BV.Gen.MAX_THREADS = 16 := rfl

theorem new_generated : toModel new = (BV.FixedQueue.new : MQ) := by
  decide

theorem new_wf : WF new := rfl

theorem can_push_generated (q : FixedQueue) (h : WF q) : can_push q = (toModel q).canPush := by
  unfold can_push BV.FixedQueue.FixedQueue.canPush toModel
  rw [h]

theorem size_generated (q : FixedQueue) : size q = (toModel q).size := rfl

theorem how_much_free_space_generated (q : FixedQueue) (h : WF q) (hs : q.size ≤ BV.Gen.MAX_THREADS) :
    how_much_free_space q = (toModel q).howMuchFreeSpace := by
  unfold how_much_free_space BV.FixedQueue.FixedQueue.howMuchFreeSpace toModel
  rw [h]
  simp only [max_threads_16] at hs ⊢
  omega

theorem toModel_set (q : FixedQueue) (h : WF q) (i : Nat) (hi : i < BV.Gen.MAX_THREADS) (v : Option Nat) :
    (toModel { q with data := q.data.set i v }).data = (toModel q).data.set i v hi := by
  apply Vector.ext
  intro j hj
  simp only [toModel, Vector.getElem_ofFn, Vector.getElem_set]
  by_cases hij : i = j
  · subst hij
    have hl : i < q.data.length := by rw [h]; exact hi
    simp [List.getD_eq_getElem?_getD, hl]
  · simp [List.getD_eq_getElem?_getD, hij]

theorem push_generated (q : FixedQueue) (x : Nat) (h : WF q) (hb : q.start + q.size + 1 < 2 ^ 64) :
    (match (toModel q).push x with
     | none => push q x = (none, q)
     | some q' => (push q x).1 = some () ∧ toModel (push q x).2 = q' ∧ WF (push q x).2) := by
  rw [BV.Rs.two_pow_64] at hb
  unfold BV.FixedQueue.FixedQueue.push push
  have hsz : (toModel q).size = q.size := rfl
  rw [hsz, h]
  by_cases hfull : q.size = BV.Gen.MAX_THREADS
  · simp [hfull]
  · have hne : (q.size == BV.Gen.MAX_THREADS) = false := by simp [hfull]
    simp only [hfull, hne, if_false, Bool.false_eq_true]
    refine ⟨trivial, ?_, ?_⟩
    · have e1 : (q.start + q.size) % 18446744073709551616 = q.start + q.size := by omega
      have e2 : (q.size + 1) % 18446744073709551616 = q.size + 1 := by omega
      simp only [e1, e2]
      have hi : (q.start + q.size) % BV.Gen.MAX_THREADS < BV.Gen.MAX_THREADS := Nat.mod_lt _ (by decide)
      have := toModel_set q h _ hi (some x)
      unfold BV.FixedQueue.FixedQueue.put BV.FixedQueue.slot
      simp only [toModel] at this ⊢
      rw [this]
    · show (List.set q.data _ _).length = _
      rw [List.length_set]; exact h

theorem push_ok_generated (q : FixedQueue) (x : Nat) (h : WF q) (hb : q.start + q.size + 1 < 2 ^ 64) :
    push_ok q x = true := by
  rw [BV.Rs.two_pow_64] at hb
  unfold push_ok
  rw [h]
  have hi : (q.start + q.size) % 18446744073709551616 % BV.Gen.MAX_THREADS < BV.Gen.MAX_THREADS :=
    Nat.mod_lt _ (by decide)
  split
  · rfl
  · simp only [Bool.true_and, Bool.and_eq_true, decide_eq_true_eq, bne_iff_ne, ne_eq]
    refine ⟨⟨⟨by omega, by decide⟩, hi⟩, by omega⟩

theorem pop_generated (q : FixedQueue) (h : WF q) (hb : q.start + 1 < 2 ^ 64) (hs : q.size < 2 ^ 64) :
    (pop q).1 = ((toModel q).pop).1 ∧ toModel (pop q).2 = ((toModel q).pop).2 ∧ WF (pop q).2 := by
  rw [BV.Rs.two_pow_64] at hb hs
  unfold BV.FixedQueue.FixedQueue.pop pop
  have hsz : (toModel q).size = q.size := rfl
  rw [hsz, h]
  by_cases h0 : q.size = 0
  · simp [h0, WF]; exact h
  · have hne : (q.size == 0) = false := by simp [h0]
    simp only [h0, hne, if_false, Bool.false_eq_true]
    have hi : q.start % BV.Gen.MAX_THREADS < BV.Gen.MAX_THREADS := Nat.mod_lt _ (by decide)
    refine ⟨?_, ?_, ?_⟩
    · simp [BV.FixedQueue.FixedQueue.at, BV.FixedQueue.slot, toModel, Vector.getElem_ofFn]
    · have e1 : (q.start + 1) % 18446744073709551616 = q.start + 1 := by omega
      have e2 : (q.size + 18446744073709551616 - 1) % 18446744073709551616 = q.size - 1 := by omega
      simp only [e1, e2]
      have := toModel_set q h _ hi none
      unfold BV.FixedQueue.FixedQueue.put BV.FixedQueue.slot
      simp only [toModel] at this ⊢
      rw [this]
    · show (List.set q.data _ _).length = _
      rw [List.length_set]; exact h

theorem pop_ok_generated (q : FixedQueue) (h : WF q) (hb : q.start + 1 < 2 ^ 64) : pop_ok q = true := by
  rw [BV.Rs.two_pow_64] at hb
  unfold pop_ok
  rw [h]
  have hi : q.start % BV.Gen.MAX_THREADS < BV.Gen.MAX_THREADS := Nat.mod_lt _ (by decide)
  split
  · rfl
  · rename_i hz
    have : q.size ≠ 0 := by simpa using hz
    simp only [Bool.true_and, Bool.and_eq_true, decide_eq_true_eq, bne_iff_ne, ne_eq]
    refine ⟨⟨⟨⟨by decide, hi⟩, hi⟩, by omega⟩, by omega⟩

example : (push new 7).2.size = 1 := by decide
example : (pop (push (push new 7).2 9).2).1 = some 7 := by decide
example : push_ok new 3 = true := by decide

end BV.Props.C07Gen
