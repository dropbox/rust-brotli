/-
C14Chain — the payload hypothesis of C14 (`PayloadOK`) and its `CmdsWF` discharged for quality 2–9 by composition with
the C01 chain: for the closed command array of ONE `CreateBackwardReferences` call (NPOSTFIX = NDIRECT = 0, any hasher
satisfying `OpsOK`), and for a meta-block MERGED from several calls (`Merged`, BV/Lemmas/CbrMerge.lean; encode.rs keeps
appending the commands of successive input blocks, `extend_last_command` is `Merged.extend`).  No new model.

What is left are the chain's own hypotheses (`BlockOK`, `OpsOK`, the word oracle agreeing with the dictionary slots) and
`OracleOK` (the recoder's `TransformDictionaryWord` callee is the same word oracle).  Out of scope: quality 10/11
(Zopfli), quality 0/1 (no commands), NPOSTFIX/NDIRECT ≠ 0, the 3 GiB position wrap, and the link from
`extend_last_command`'s own tests (`distance_code`, `dist_cache_[0] ≤ max_distance`, the byte comparisons) to the
decoder-level hypotheses of `Merged.extend`; only its field part is derived (`merged_extend_of_e2e`).
-/
import BV.Props.C01Chain
import BV.Props.C14
import BV.Lemmas.CbrMerge
import BV.Lemmas.ExtendFields

namespace BV.Props.C14Chain
open BV.Hasher BV.MatchFinder BV.Recoder BV.PrefixArith BV.MetaBlock BV.Cbr BV.Props.C01Chain BV.Props.C14

theorem distWF_of_cmdOK (A : Nat) (c : Cmd) (h : cmdOK A 0 0 c = true) (hc : copyLen c ≠ 0) : DistWF c ⟨0, 0⟩ := by
  have H := cmdOK_elim h
  refine ⟨H.dp, fun hge => ?_⟩
  obtain ⟨h1, _, h3⟩ := H.long hc (by omega)
  exact ⟨h1, h3⟩

/-- the closing insert-only command (`Command::init_insert`: `dist_prefix_ = 1 << 10 | 16`, no extra bits) -/
theorem distWF_initInsert (l : Nat) : DistWF (initInsert l) ⟨0, 0⟩ := by
  have hdp : (initInsert l).distPrefix = 1040 := by simp only [initInsert]; decide
  have hde : (initInsert l).distExtra = 0 := rfl
  refine ⟨by rw [hdp]; decide, ?_⟩
  intro _
  rw [hdp, hde]
  decide

theorem emitHyp_mono {slotOK : DictItem → Prop} {C : Ctx} {p : Params} {G1 G2 : Cmd → Prop}
    (h : EmitHyp slotOK C p G1) (hg : ∀ c, G1 c → copyLen c ≠ 0 → G2 c) : EmitHyp slotOK C p G2 :=
  emitHyp_sound_mono h fun c _ _ g e9 e10 _ _ => hg c g (e9 ▸ e10)

def GoodCmd (large : Bool) (c : Cmd) : Prop :=
  cmdOK (distAlphabetSize large 0 0) 0 0 c = true ∧ DistWF c ⟨0, 0⟩ ∧ c.insertLen < 2 ^ 32

/-- the per-call obligation of `Merged.call` from the chain's `BlockOK` of the call's LOCAL view (history =
everything the decoder has produced when the call's first command starts, block = pending literals ++ the call's
`num_bytes`) -/
theorem emitHyp_good (wo : WordOracle) (p : Params) (large : Bool) (data : ByteArray) (k tail : Nat) (hist mb : Bytes)
    (lo : Nat) (hb : BlockOK p large data k tail hist mb lo) :
    EmitHyp (SlotOK wo) ⟨wo, data, k, hist, mb, lo⟩ p (GoodCmd large) :=
  emitHyp_mono
    (hb.emitHyp wo)
    (fun c hc hne => ⟨hc, distWF_of_cmdOK _ c hc hne, by
      have := (cmdOK_elim hc).ins
      omega⟩)

theorem commands_lockstep_wf {H : Type} (ops : HasherOps H) (p : Params) (large : Bool) (wo : WordOracle)
    (data : ByteArray) (k tail : Nat) (hist mb : Bytes) (lo : Nat)
    (hb : BlockOK p large data k tail hist mb lo) (hops : OpsOK (SlotOK wo) ops p data k)
    (numBytes position : Nat) (h0 : H) (cache : List Int) (lastInsertLen numLiterals : Nat) (res : Result H)
    (hpos : position = hist.length + lastInsertLen) (hmb : mb.length = lastInsertLen + numBytes)
    (hc : CacheI32 cache) (hcl : 4 ≤ cache.length)
    (h : createBackwardReferences ops p numBytes position h0 cache lastInsertLen numLiterals = some res) :
    CmdsWF (closeMetaBlock res.cmds res.lastInsertLen) ⟨0, 0⟩ := by
  have hemit := emitHyp_mono (emitHyp_good wo p large data k tail hist mb lo hb)
    (G2 := fun c => DistWF c ⟨0, 0⟩ ∧ c.insertLen < 2 ^ 32) (fun c hc _ => hc.2)
  obtain ⟨_, b, _⟩ := cbr_lockstep (C := ⟨wo, data, k, hist, mb, lo⟩) hops hemit
    (fun l _ hl => ⟨distWF_initInsert l, by
      have := hb.len
      simp only [initInsert]
      exact Nat.mod_lt _ (by decide)⟩)
    numBytes position h0 cache lastInsertLen numLiterals res hpos hmb
    (show mb.length < 2 ^ 32 by have := hb.len; omega) hb.total hc hcl h
  exact b

theorem windowSize_eq (p : Params) : windowSize p.lgwin = maxBackwardLimit p := by
  unfold windowSize maxBackwardLimit
  rw [Nat.one_shiftLeft]

/-- the distance cache the logger receives (`saved_dist_cache_`: the first four entries at the start of the block) -/
theorem cacheOk_take4 (cache : List Int) (hc : CacheI32 cache) (hcl : 4 ≤ cache.length) : CacheOk (cache.take 4) :=
  ⟨by rw [List.length_take]; omega, hc⟩

/-- C14's payload hypothesis `PayloadOK` holds for the command array of one
`CreateBackwardReferences` call (any hasher satisfying `OpsOK`), for EVERY history `hist` (custom-dictionary tail ++
earlier input), every i32 distance cache and every carried `last_insert_len`.  `e` is any recoder environment with the
block's window and distance parameters (block splits, detection settings and the dictionary callee are free). -/
theorem payload_ok_q29 {H : Type} (ops : HasherOps H) (p : Params) (large : Bool) (wo : WordOracle)
    (data : ByteArray) (k tail : Nat) (hist mb : Bytes) (lo : Nat)
    (hb : BlockOK p large data k tail hist mb lo) (hops : OpsOK (SlotOK wo) ops p data k)
    (numBytes position : Nat) (h0 : H) (cache : List Int) (lastInsertLen numLiterals : Nat) (res : Result H)
    (hpos : position = hist.length + lastInsertLen) (hmb : mb.length = lastInsertLen + numBytes)
    (hc : CacheI32 cache) (hcl : 4 ≤ cache.length)
    (h : createBackwardReferences ops p numBytes position h0 cache lastInsertLen numLiterals = some res)
    (e : Env) (hdp : e.dp = ⟨0, 0⟩) (hlg : e.lgwin = p.lgwin) :
    PayloadOK wo e mb (cache.take 4) hist (closeMetaBlock res.cmds res.lastInsertLen) := by
  unfold PayloadOK
  rw [hdp, hlg, windowSize_eq]
  obtain ⟨_cmdOK, _lockstep, hreplay⟩ := commands_lockstep ops p large wo data k tail hist mb lo hb hops numBytes position
    h0 cache lastInsertLen numLiterals res hpos hmb hc hcl h
  exact hreplay

theorem cmds_wf_q29 {H : Type} (ops : HasherOps H) (p : Params) (large : Bool) (wo : WordOracle)
    (data : ByteArray) (k tail : Nat) (hist mb : Bytes) (lo : Nat)
    (hb : BlockOK p large data k tail hist mb lo) (hops : OpsOK (SlotOK wo) ops p data k)
    (numBytes position : Nat) (h0 : H) (cache : List Int) (lastInsertLen numLiterals : Nat) (res : Result H)
    (hpos : position = hist.length + lastInsertLen) (hmb : mb.length = lastInsertLen + numBytes)
    (hc : CacheI32 cache) (hcl : 4 ≤ cache.length)
    (h : createBackwardReferences ops p numBytes position h0 cache lastInsertLen numLiterals = some res)
    (e : Env) (hdp : e.dp = ⟨0, 0⟩) :
    CmdsWF (closeMetaBlock res.cmds res.lastInsertLen) e.dp := by
  rw [hdp]
  exact commands_lockstep_wf ops p large wo data k tail hist mb lo hb hops numBytes position h0 cache lastInsertLen
    numLiterals res hpos hmb hc hcl h

/-- The end-to-end statement of C14 for quality 2–9 WITHOUT the payload hypothesis:
the meta-block `i0 ++ i1` (the two ring-buffer halves of the `InputPair`) was searched by `CreateBackwardReferences`
(abstract hasher satisfying `OpsOK`) and its closed command array is logged by `LogMetaBlock` (any block-split
description, any detection settings) at recoder position `hist.length` with the distance cache of the start of the
block.  If the logger does not panic, the IR handed to the callback replays to `hist ++ input` byte for byte — every
copy has `1 ≤ distance ≤ produced + dictionary` and `≤ window`, every dictionary command expands to `final_size` — and
`num_bytes_encoded` advances by exactly the meta-block length. -/
theorem recode_replays_input_q29 {H : Type} (ops : HasherOps H) (p : Params) (large : Bool) (wo : WordOracle)
    (data : ByteArray) (k tail : Nat) (hist i0 i1 : Bytes) (lo : Nat)
    (hb : BlockOK p large data k tail hist (i0 ++ i1) lo) (hops : OpsOK (SlotOK wo) ops p data k)
    (numBytes position : Nat) (h0 : H) (cache : List Int) (lastInsertLen numLiterals : Nat) (res : Result H)
    (hpos : position = hist.length + lastInsertLen) (hmb : (i0 ++ i1).length = lastInsertLen + numBytes)
    (hc : CacheI32 cache) (hcl : 4 ≤ cache.length)
    (h : createBackwardReferences ops p numBytes position h0 cache lastInsertLen numLiterals = some res)
    (e : Env) (hdp : e.dp = ⟨0, 0⟩) (hlg : e.lgwin = p.lgwin) (horacle : OracleOK e.expand wo)
    (ir : List IR) (nbe' : Nat)
    (hm : logMetaBlock e i0 i1 (closeMetaBlock res.cmds res.lastInsertLen) (cache.take 4) hist.length = some (ir, nbe')) :
    replayIR wo (windowSize e.lgwin) (i0 ++ i1) ir hist = some (hist ++ (i0 ++ i1)) ∧
      nbe' = hist.length + (i0 ++ i1).length := by
  have hE : EnvOK e wo (windowSize e.lgwin) :=
    ⟨rfl, by rw [hlg, windowSize_eq]; have := hb.window; omega, horacle⟩
  exact recode_replays_input wo e i0 i1 _ (cache.take 4) hist ir nbe' hE
    (by have := hb.len; omega) (cacheOk_take4 cache hc hcl)
    (cmds_wf_q29 ops p large wo data k tail hist (i0 ++ i1) lo hb hops numBytes position h0 cache lastInsertLen numLiterals
      res hpos hmb hc hcl h e hdp) hm
    (payload_ok_q29 ops p large wo data k tail hist (i0 ++ i1) lo hb hops numBytes position h0 cache lastInsertLen
      numLiterals res hpos hmb hc hcl h e hdp hlg)

/-- the three bucketed hasher families: nothing about the hasher is assumed (`OpsOK` is `match_sound_*`) -/
theorem recode_replays_input_q29_basic (P : BasicP) (useDict : Bool) (lbs : Nat) (p : Params) (large : Bool)
    (wo : WordOracle) (data : ByteArray) (k tail : Nat) (hk : k ≤ 32) (hist i0 i1 : Bytes) (lo : Nat)
    (hb : BlockOK p large data k tail hist (i0 ++ i1) lo)
    (dict : ByteArray → Nat → Option (List DictItem)) (hd : DictFaithful wo dict data)
    (numBytes position : Nat) (b0 : Tab) (c0 : Common) (cache : List Int) (lastInsertLen numLiterals : Nat)
    (res : Result (Tab × Common))
    (hpos : position = hist.length + lastInsertLen) (hmb : (i0 ++ i1).length = lastInsertLen + numBytes)
    (hc : CacheI32 cache) (hcl : 4 ≤ cache.length)
    (h : createBackwardReferences (basicOps P useDict lbs dict data (2 ^ k - 1)) p numBytes position
      (b0, c0) cache lastInsertLen numLiterals = some res)
    (e : Env) (hdp : e.dp = ⟨0, 0⟩) (hlg : e.lgwin = p.lgwin) (horacle : OracleOK e.expand wo)
    (ir : List IR) (nbe' : Nat)
    (hm : logMetaBlock e i0 i1 (closeMetaBlock res.cmds res.lastInsertLen) (cache.take 4) hist.length = some (ir, nbe')) :
    replayIR wo (windowSize e.lgwin) (i0 ++ i1) ir hist = some (hist ++ (i0 ++ i1)) ∧
      nbe' = hist.length + (i0 ++ i1).length :=
  recode_replays_input_q29 _ p large wo data k tail hist i0 i1 lo hb (basicOps_ok _ P useDict lbs _ data k hk p hd)
    numBytes position (b0, c0) cache lastInsertLen numLiterals res hpos hmb hc hcl h e hdp hlg horacle ir nbe' hm

theorem recode_replays_input_q29_adv (P : AdvP) (hla : 4 ≤ P.lookahead) (numLast lbs : Nat) (p : Params) (large : Bool)
    (wo : WordOracle) (data : ByteArray) (k tail : Nat) (hk : k ≤ 32) (hist i0 i1 : Bytes) (lo : Nat)
    (hb : BlockOK p large data k tail hist (i0 ++ i1) lo)
    (dict : ByteArray → Nat → Option (List DictItem)) (hd : DictFaithful wo dict data)
    (numBytes position : Nat) (st0 : AdvSt) (c0 : Common) (cache : List Int) (lastInsertLen numLiterals : Nat)
    (res : Result (AdvSt × Common))
    (hpos : position = hist.length + lastInsertLen) (hmb : (i0 ++ i1).length = lastInsertLen + numBytes)
    (hc : CacheI32 cache) (hcl : 4 ≤ cache.length)
    (h : createBackwardReferences (advOps P numLast lbs dict data (2 ^ k - 1)) p numBytes position
      (st0, c0) cache lastInsertLen numLiterals = some res)
    (e : Env) (hdp : e.dp = ⟨0, 0⟩) (hlg : e.lgwin = p.lgwin) (horacle : OracleOK e.expand wo)
    (ir : List IR) (nbe' : Nat)
    (hm : logMetaBlock e i0 i1 (closeMetaBlock res.cmds res.lastInsertLen) (cache.take 4) hist.length = some (ir, nbe')) :
    replayIR wo (windowSize e.lgwin) (i0 ++ i1) ir hist = some (hist ++ (i0 ++ i1)) ∧
      nbe' = hist.length + (i0 ++ i1).length :=
  recode_replays_input_q29 _ p large wo data k tail hist i0 i1 lo hb (advOps_ok _ P numLast lbs _ data k hk p hla hd)
    numBytes position (st0, c0) cache lastInsertLen numLiterals res hpos hmb hc hcl h e hdp hlg horacle ir nbe' hm

theorem recode_replays_input_q29_h9 (P : H9P) (lbs : Nat) (p : Params) (large : Bool)
    (wo : WordOracle) (data : ByteArray) (k tail : Nat) (hk : k ≤ 32) (hist i0 i1 : Bytes) (lo : Nat)
    (hb : BlockOK p large data k tail hist (i0 ++ i1) lo)
    (dict : ByteArray → Nat → Option (List DictItem)) (hd : DictFaithful wo dict data)
    (numBytes position : Nat) (st0 : AdvSt) (c0 : Common) (cache : List Int) (lastInsertLen numLiterals : Nat)
    (res : Result (AdvSt × Common))
    (hpos : position = hist.length + lastInsertLen) (hmb : (i0 ++ i1).length = lastInsertLen + numBytes)
    (hc : CacheI32 cache) (hcl : 4 ≤ cache.length)
    (h : createBackwardReferences (h9Ops P lbs dict data (2 ^ k - 1)) p numBytes position
      (st0, c0) cache lastInsertLen numLiterals = some res)
    (e : Env) (hdp : e.dp = ⟨0, 0⟩) (hlg : e.lgwin = p.lgwin) (horacle : OracleOK e.expand wo)
    (ir : List IR) (nbe' : Nat)
    (hm : logMetaBlock e i0 i1 (closeMetaBlock res.cmds res.lastInsertLen) (cache.take 4) hist.length = some (ir, nbe')) :
    replayIR wo (windowSize e.lgwin) (i0 ++ i1) ir hist = some (hist ++ (i0 ++ i1)) ∧
      nbe' = hist.length + (i0 ++ i1).length :=
  recode_replays_input_q29 _ p large wo data k tail hist i0 i1 lo hb (h9Ops_ok _ P lbs _ data k hk p hd)
    numBytes position (st0, c0) cache lastInsertLen numLiterals res hpos hmb hc hcl h e hdp hlg horacle ir nbe' hm

/-- A meta-block `M` (≤ 2^24 bytes) whose commands were produced by ANY sequence of
`CreateBackwardReferences` calls (`Merged`: each call continues where the previous one stopped, with the distance cache
and `last_insert_len` the previous call returned), closed by the insert-only command: every command is `cmdOK`, the
array satisfies `lockstep` and `CmdsWF`, and the RFC decoder started with the history and the distance cache of the
START of the meta-block (`saved_dist_cache_`) replays it to `hist ++ M`. -/
theorem merged_metablock_q29 (wo : WordOracle) (p : Params) (large : Bool) (hnp : p.npostfix = 0) (hnd : p.ndirect = 0)
    (hist M : Bytes) (cache0 : List Int) (h24 : M.length ≤ 2 ^ 24) (h64 : hist.length + M.length < 2 ^ 64)
    (hc0 : CacheI32 cache0) (hcl0 : 4 ≤ cache0.length)
    (cmds : List Cmd) (c : Nat) (cache : List Int) (lil : Nat)
    (hm : Merged (SlotOK wo) wo p (GoodCmd large) hist M cache0 cmds c cache lil M.length) :
    (∀ x ∈ closeMetaBlock cmds lil, cmdOK (distAlphabetSize large 0 0) 0 0 x = true) ∧
    lockstep wo 0 0 (maxBackwardLimit p) M ⟨hist, cache0.take 4, 0⟩ 0 (closeMetaBlock cmds lil) = true ∧
    CmdsWF (closeMetaBlock cmds lil) ⟨0, 0⟩ ∧
    replayCommands wo 0 0 (maxBackwardLimit p) M (cache0.take 4) hist (closeMetaBlock cmds lil) = some (hist ++ M) := by
  obtain ⟨a, b, c'⟩ := merged_close h64 (by omega) hc0 hcl0
    (fun l _ hl => (⟨cmdOK_initInsert large l (Nat.le_trans hl h24), distWF_initInsert l, by
      simp only [initInsert]; exact Nat.mod_lt _ (by decide)⟩ : GoodCmd large (initInsert l))) hm
  rw [hnp, hnd] at a c'
  exact ⟨fun x hx => (b x hx).1, a, fun x hx => (b x hx).2, c'⟩

/-- C14's end-to-end statement for a meta-block merged from any number of
`CreateBackwardReferences` calls, no payload hypothesis: if `LogMetaBlock` does not panic on the closed array, the IR
replays to `hist ++ input` and `num_bytes_encoded` advances by the meta-block length. -/
theorem recode_replays_input_q29_merged (wo : WordOracle) (p : Params) (large : Bool) (hnp : p.npostfix = 0)
    (hnd : p.ndirect = 0) (hwin : maxBackwardLimit p ≤ 2 ^ 30)
    (hist i0 i1 : Bytes) (cache0 : List Int) (h24 : (i0 ++ i1).length ≤ 2 ^ 24)
    (h64 : hist.length + (i0 ++ i1).length < 2 ^ 64) (hc0 : CacheI32 cache0) (hcl0 : 4 ≤ cache0.length)
    (cmds : List Cmd) (c : Nat) (cache : List Int) (lil : Nat)
    (hm : Merged (SlotOK wo) wo p (GoodCmd large) hist (i0 ++ i1) cache0 cmds c cache lil (i0 ++ i1).length)
    (e : Env) (hdp : e.dp = ⟨0, 0⟩) (hlg : e.lgwin = p.lgwin) (horacle : OracleOK e.expand wo)
    (ir : List IR) (nbe' : Nat)
    (hlog : logMetaBlock e i0 i1 (closeMetaBlock cmds lil) (cache0.take 4) hist.length = some (ir, nbe')) :
    replayIR wo (windowSize e.lgwin) (i0 ++ i1) ir hist = some (hist ++ (i0 ++ i1)) ∧
      nbe' = hist.length + (i0 ++ i1).length := by
  obtain ⟨_, _, hwf, hrep⟩ := merged_metablock_q29 wo p large hnp hnd hist (i0 ++ i1) cache0 h24 h64 hc0 hcl0 cmds c cache
    lil hm
  have hE : EnvOK e wo (windowSize e.lgwin) := ⟨rfl, by rw [hlg, windowSize_eq]; omega, horacle⟩
  exact recode_replays_input wo e i0 i1 _ (cache0.take 4) hist ir nbe' hE (by omega) (cacheOk_take4 cache0 hc0 hcl0)
    (by rw [hdp]; exact hwf) hlog (by unfold PayloadOK; rw [hdp, hlg, windowSize_eq]; exact hrep)

/-- `Merged.extend` with its FIELD hypotheses discharged against the tied model of
`extend_last_command` (`BV.E2E.extendLastCommand`, engine `e2e`): whatever the function returns for the last
command `c` — `(c', n)` —, the record of the merged meta-block continues with `c'` in place of `c`, `n` bytes further,
provided the decoder-level facts hold: `c` was executed as an LZ77 copy at distance `D` (`LastCopy`), copying `n` more
bytes at that distance reproduces the next `n` input bytes, `c'` is `GoodCmd`; and the 25-bit length field does not carry
(`copy_len + n < 2^25`, delta `< 64`). -/
theorem merged_extend_of_e2e (wo : WordOracle) (p : Params) (large : Bool) (hist M : Bytes) (cache0 : List Int)
    (cmds : List Cmd) (c c' : Cmd) (cur : Nat) (cache : List Int) (n D : Nat)
    (hm : Merged (SlotOK wo) wo p (GoodCmd large) hist M cache0 (cmds ++ [c]) cur cache 0 cur)
    (e : BV.E2E.EParams) (data : ByteArray) (mask lp : Nat) (dc0 : Int) (bytes wlp : Nat)
    (hx : BV.E2E.extendLastCommand e data mask lp dc0 c bytes wlp = some (c', n))
    (hd : c.copyLenField >>> 25 < 64) (hn : copyLen c + n < 33554432) (hle : cur + n ≤ M.length)
    (hg : GoodCmd large c') (hlast : LastCopy wo p hist M cache0 cmds c D)
    (hcopy : copyBytes n D (hist ++ M.take cur) = hist ++ M.take (cur + n)) :
    Merged (SlotOK wo) wo p (GoodCmd large) hist M cache0 (cmds ++ [c']) (cur + n) cache 0 (cur + n) := by
  obtain ⟨a1, a2, a3, a4, a5⟩ := BV.E2E.extendLastCommand_fields e data mask lp dc0 c c' bytes wlp n hx hd hn
  exact Merged.extend cmds c c' cur cache n D hm hle a1 a2 a3 a4 a5 hg hlast hcopy

/-! ### non-vacuity: the run of `BV.Cbr.Example` (8 literals, the static-dictionary word "time", 20 closing literals),
logged by `LogMetaBlock` — every hypothesis of `recode_replays_input_q29_basic` is met by concrete values, and its
conclusion is the replay of the IR -/

/-- the recoder's dictionary callee for the example: the same word oracle, addressed by `dictionary_offset` -/
def exEnv : Env :=
  { dp := ⟨0, 0⟩, lgwin := 10, hedq := 0, ctxSome := true, btl := Split.nop, btc := Split.nop, btd := Split.nop,
    expand := fun cl off => Example.oracle cl (off % 2 ^ (dictSizeBits.getD cl 0)) (off / 2 ^ (dictSizeBits.getD cl 0)) }

theorem exEnv_oracle : OracleOK exEnv.expand Example.oracle := by
  refine ⟨fun _ _ _ _ => rfl, ?_⟩
  intro ws id tr word h
  unfold Example.oracle at h
  split at h
  · -- the four transforms under which the one word of the example is known
    split at h
    · cases h; exact ⟨by omega, by decide⟩
    split at h
    · cases h; exact ⟨by omega, by decide⟩
    split at h
    · cases h; exact ⟨by omega, by decide⟩
    split at h
    · cases h; exact ⟨by omega, by decide⟩
    · cases h
  · cases h

example : ∃ res ir, createBackwardReferences (basicOps Example.hasher true 540 Example.dict Example.data (2 ^ 6 - 1))
      Example.params 32 0 (Array.replicate 32 0, ⟨0, 0⟩) [4, 11, 15, 16] 0 0 = some res ∧
    logMetaBlock exEnv Example.text [] (closeMetaBlock res.cmds res.lastInsertLen) [4, 11, 15, 16] 0 = some (ir, 32) ∧
    ir = [IR.bsl 0, IR.lit 0 8 false, IR.dict 4 0 4 5, IR.lit 12 20 false] ∧
    replayIR Example.oracle (windowSize 10) Example.text ir [] = some Example.text := by
  have hb : BlockOK Example.params false Example.data 6 32 [] (Example.text ++ []) 0 :=
    { np := rfl, nd := rfl, ring := by rw [List.append_nil]; exact Example.ring_ok, tail_le := by decide,
      block_le := by decide, lo_le := by decide, window := by decide, std := fun _ => by decide,
      dist := fun _ => by decide, len := by decide, total := by decide }
  cases hr : createBackwardReferences (basicOps Example.hasher true 540 Example.dict Example.data (2 ^ 6 - 1))
      Example.params 32 0 (Array.replicate 32 0, ⟨0, 0⟩) [4, 11, 15, 16] 0 0 with
  | none => have := Example.run; rw [hr] at this; cases this
  | some res =>
    have hrun := Example.run
    rw [hr] at hrun
    simp only [Option.map_some, Option.some.injEq, Prod.mk.injEq] at hrun
    have hcm : closeMetaBlock res.cmds res.lastInsertLen = [⟨8, 4, 1, 186, 3092⟩, initInsert 20] := by
      rw [hrun.1, hrun.2.1]; rfl
    have hlog : logMetaBlock exEnv Example.text [] (closeMetaBlock res.cmds res.lastInsertLen) [4, 11, 15, 16] 0
        = some ([IR.bsl 0, IR.lit 0 8 false, IR.dict 4 0 4 5, IR.lit 12 20 false], 32) := by
      rw [hcm]; decide +kernel
    obtain ⟨hrep, _⟩ := recode_replays_input_q29_basic Example.hasher true 540 Example.params false Example.oracle
      Example.data 6 32 (by decide) [] Example.text [] 0 hb Example.dict Example.dict_ok 32 0 (Array.replicate 32 0) ⟨0, 0⟩
      [4, 11, 15, 16] 0 0 res rfl (by decide)
      (by intro x hx; simp at hx; rcases hx with rfl | rfl | rfl | rfl <;> decide) (by decide) hr
      exEnv rfl rfl exEnv_oracle _ 32 hlog
    exact ⟨res, _, rfl, hlog, rfl, by simpa [exEnv] using hrep⟩

/-- non-vacuity of `Merged` / `merged_metablock_q29`: the same 32-byte text searched in TWO calls (24 bytes, then 8 bytes
with the 12 literals pending after the first call carried over); the merged, closed array is the one of the single call -/
example : ∃ cmds c cache lil,
    Merged (SlotOK Example.oracle) Example.oracle Example.params (GoodCmd false) [] Example.text [4, 11, 15, 16] cmds c cache
      lil Example.text.length ∧
    closeMetaBlock cmds lil = [⟨8, 4, 1, 186, 3092⟩, initInsert 20] ∧
    replayCommands Example.oracle 0 0 (maxBackwardLimit Example.params) Example.text [4, 11, 15, 16] []
      (closeMetaBlock cmds lil) = some Example.text := by
  let ops := basicOps Example.hasher true 540 Example.dict Example.data (2 ^ 6 - 1)
  have hops : OpsOK (SlotOK Example.oracle) ops Example.params Example.data 6 :=
    basicOps_ok _ Example.hasher true 540 _ Example.data 6 (by decide) Example.params Example.dict_ok
  have hring : ∀ n, n ≤ 32 → RingView Example.data 6 32 (Example.text.take n) 0 n := by
    intro n hn
    refine ⟨?_, fun p _ hp h64 => absurd h64 (by omega)⟩
    intro p _ hp
    have h1 : ∀ p, p < 32 → ringBytes Example.data (p % 2 ^ 6) = Example.text.getD p 0 := by decide +kernel
    rw [h1 p (by omega)]
    simp only [List.getD_eq_getElem?_getD, List.getElem?_take, if_pos hp]
  have hrun1 : (createBackwardReferences ops Example.params 24 0 (Array.replicate 32 0, ⟨0, 0⟩) [4, 11, 15, 16] 0 0).map
      (fun r => (r.cmds, r.lastInsertLen, r.cache)) = some ([⟨8, 4, 1, 186, 3092⟩], 12, [4, 11, 15, 16]) := by
    decide +kernel
  have hrun2 : (createBackwardReferences ops Example.params 8 24 (Array.replicate 32 0, ⟨0, 0⟩) [4, 11, 15, 16] 12 0).map
      (fun r => (r.cmds, r.lastInsertLen, r.cache)) = some ([], 20, [4, 11, 15, 16]) := by
    decide +kernel
  cases hr1 : createBackwardReferences ops Example.params 24 0 (Array.replicate 32 0, ⟨0, 0⟩) [4, 11, 15, 16] 0 0 with
  | none => rw [hr1] at hrun1; cases hrun1
  | some res1 =>
    rw [hr1] at hrun1
    simp only [Option.map_some, Option.some.injEq, Prod.mk.injEq] at hrun1
    obtain ⟨e1, e2, e3⟩ := hrun1
    cases hr2 : createBackwardReferences ops Example.params 8 24 (Array.replicate 32 0, ⟨0, 0⟩) [4, 11, 15, 16] 12 0 with
    | none => rw [hr2] at hrun2; cases hrun2
    | some res2 =>
      rw [hr2] at hrun2
      simp only [Option.map_some, Option.some.injEq, Prod.mk.injEq] at hrun2
      obtain ⟨f1, f2, f3⟩ := hrun2
      have hb1 : BlockOK Example.params false Example.data 6 32 ([] ++ Example.text.take 0)
          ((Example.text.drop 0).take (0 + 24)) 0 :=
        { np := rfl, nd := rfl, tail_le := by decide, block_le := by decide, lo_le := by decide, window := by decide,
          std := fun _ => by decide, dist := fun _ => by decide, len := by decide, total := by decide,
          ring := by
            have e : [] ++ Example.text.take 0 ++ (Example.text.drop 0).take (0 + 24) = Example.text.take 24 := by decide
            have e' : ([] ++ Example.text.take 0).length + ((Example.text.drop 0).take (0 + 24)).length = 24 := by decide
            rw [e, e']
            exact hring 24 (by decide) }
      have m1 := Merged.call (slotOK := SlotOK Example.oracle) (w := Example.oracle) (p := Example.params)
        (Good := GoodCmd false) (hist := []) (M := Example.text) (cache0 := [4, 11, 15, 16]) ops Example.data 6 0 [] 0
        [4, 11, 15, 16] 0 0 24 0 0 (Array.replicate 32 0, ⟨0, 0⟩) res1 Merged.start (by decide) rfl hops
        (emitHyp_good _ _ false _ _ 32 _ _ _ hb1) hr1
      rw [e1, e2, e3] at m1
      have hb2 : BlockOK Example.params false Example.data 6 32 ([] ++ Example.text.take (0 + 24 - 12))
          ((Example.text.drop (0 + 24 - 12)).take (12 + 8)) 0 :=
        { np := rfl, nd := rfl, tail_le := by decide, block_le := by decide, lo_le := by decide, window := by decide,
          std := fun _ => by decide, dist := fun _ => by decide, len := by decide, total := by decide,
          ring := by
            have e : [] ++ Example.text.take (0 + 24 - 12) ++ (Example.text.drop (0 + 24 - 12)).take (12 + 8)
                = Example.text.take 32 := by decide
            have e' : ([] ++ Example.text.take (0 + 24 - 12)).length +
                ((Example.text.drop (0 + 24 - 12)).take (12 + 8)).length = 32 := by decide
            rw [e, e']
            exact hring 32 (by decide) }
      have m2 := Merged.call ops Example.data 6 0 _ _ _ _ _ 8 24 0 (Array.replicate 32 0, ⟨0, 0⟩) res2 m1 (by decide) rfl hops
        (emitHyp_good _ _ false _ _ 32 _ _ _ hb2) hr2
      rw [f1, f2, f3] at m2
      have hlen : (0 + 24 + 8 : Nat) = Example.text.length := by decide
      rw [hlen] at m2
      obtain ⟨_, _, _, hrep⟩ := merged_metablock_q29 Example.oracle Example.params false rfl rfl [] Example.text
        [4, 11, 15, 16] (by decide) (by decide)
        (by intro x hx; simp at hx; rcases hx with rfl | rfl | rfl | rfl <;> decide) (by decide) _ _ _ _ m2
      exact ⟨_, _, _, _, m2, rfl, by simpa using hrep⟩

end BV.Props.C14Chain
