import BV.Props.C04
import BV.Props.C01
import BV.Model.MetaBlock
import BV.Lemmas.StreamRunMdRead
import BV.Props.C15
import BV.Lemmas.StreamRunMd
/-
C04Run — "a completed flush makes all prior input decodable", over WHOLE HISTORIES and with the reader side
explicit.  Composes `flush_complete` (C04), `delivered_is_framed_concat` / `run_facts` and the piece
composition of C01 (`PiecesOK`, the same payload hypothesis as `C01_roundtrip_run`).

Specification side, written here from RFC 7932 §9.2 on top of the independent meta-block reader
`BV.MetaBlock.readMetaBlockFull` (itself on `BV.HeaderSpec.readMetaBlock`), nothing of the encoder model:
`readPrefix` / `readStreamPrefix`, a STREAMING reader that consumes whole meta-blocks while bits are available and
answers `done` (ISLAST seen), `needMore out` (the bits end exactly at a meta-block boundary without ISLAST) or `stuck`
(malformed, or cut inside a meta-block — this reader does not tell those two apart).  `DecRd` is the decode relation of
C01's `PiecesOK` INSTANTIATED with that reader; `decRd_nil`, `decRd_append` are proved, not assumed.

What stays a hypothesis: that the pieces of the payload encoder decode to their ranges (`PiecesOK`; in histories with
metadata `PayloadDecode`).  Every piece the state machine writes itself — stream header, sync blocks, metadata headers and
bodies — is PROVED to be read by that reader (`stream_header_is_declared_window`, `body_blocks`).
-/
namespace BV.Props.C04Run
open BV.Stream BV.Bits
open BV.MetaBlock (readMetaBlockFull RdSt)
open BV.Recoder (WordOracle)

inductive Yield where
  | done (out : Bytes) (rest : List Bool)
  | needMore (out : Bytes)
  | stuck (out : Bytes)
deriving Repr, DecidableEq

/-- `fuel` bounds the number of meta-blocks read (`bits + 1` always suffices: every meta-block has at least one bit) -/
def readPrefix (wo : WordOracle) (window : Nat) (large : Bool) : Nat → Nat → RdSt → List Bool → Yield
  | 0, _, s, _ => .stuck s.out
  | f + 1, pos, s, bs =>
    if bs.isEmpty then .needMore s.out
    else
      match readMetaBlockFull wo window large pos s bs with
      | none => .stuck s.out
      | some (s', true, _, r) => .done s'.out r
      | some (s', false, pos', r) => readPrefix wo window large f pos' s' r

/-- RFC 7932 §9.1 + §9.2 on a PREFIX of a stream (bits of its bytes, first bit first): window bits, then
meta-blocks as far as they go; the decoder starts with an empty output and the distance ring 4, 11, 15, 16 -/
def readStreamPrefix (wo : WordOracle) (bs : List Bool) : Yield :=
  match BV.HeaderSpec.readWbits bs with
  | none => .stuck []
  | some (lgwin, large, r) =>
    readPrefix wo (2 ^ lgwin - 16) large (r.length + 1) (bs.length - r.length) ⟨[], [4, 11, 15, 16]⟩ r

/-- `bits` is a sequence of complete NON-LAST meta-blocks: the reader, started at bit position `pos` in
state `s`, consumes exactly `bits` (whatever follows) and ends in state `s'` -/
inductive Blocks (wo : WordOracle) (window : Nat) (large : Bool) : Nat → RdSt → List Bool → RdSt → Prop where
  | nil (pos : Nat) (s : RdSt) : Blocks wo window large pos s [] s
  | cons {pos : Nat} {s s1 s2 : RdSt} {b bs : List Bool}
      (h : ∀ rest, readMetaBlockFull wo window large pos s (b ++ rest) = some (s1, false, pos + b.length, rest))
      (t : Blocks wo window large (pos + b.length) s1 bs s2) : Blocks wo window large pos s (b ++ bs) s2

theorem readMetaBlockFull_nil (wo : WordOracle) (window : Nat) (large : Bool) (pos : Nat) (s : RdSt) :
    readMetaBlockFull wo window large pos s [] = none := by
  simp [readMetaBlockFull, BV.HeaderSpec.readMetaBlock]

theorem blocks_append {wo : WordOracle} {window : Nat} {large : Bool} {pos : Nat} {s s1 s2 : RdSt} {a b : List Bool}
    (h1 : Blocks wo window large pos s a s1) (h2 : Blocks wo window large (pos + a.length) s1 b s2) :
    Blocks wo window large pos s (a ++ b) s2 := by
  induction h1 with
  | nil pos s => simpa using h2
  | @cons pos s s1' s2' b0 bs h t ih =>
    rw [List.append_assoc]
    refine Blocks.cons h (ih ?_)
    have : pos + b0.length + bs.length = pos + (b0 ++ bs).length := by simp [Nat.add_assoc]
    rw [this]; exact h2

/-- one complete non-last meta-block is `Blocks` — the bridge from the writer round-trip theorems
(`cbr_fast_roundtrip`, `cbr_trivial_roundtrip`, `fast_metablock_roundtrip`, … of C01Chain / C01MetaBlock, whose
conclusion for `isLast = false` is literally the hypothesis here) to the pieces of `PayloadDecode` -/
theorem blocks_one {wo : WordOracle} {window : Nat} {large : Bool} {pos : Nat} {s s' : RdSt} {bits : List Bool}
    (h : ∀ rest, readMetaBlockFull wo window large pos s (bits ++ rest) = some (s', false, pos + bits.length, rest)) :
    Blocks wo window large pos s bits s' := by
  have := Blocks.cons (bs := []) h (Blocks.nil _ _)
  simpa using this

/-- **reader_needs_more_at_boundary** (part of the claim of C04): bits that end at a meta-block boundary without ISLAST get
"need more input" with the content so far — not an error -/
theorem reader_needs_more_at_boundary {wo : WordOracle} {window : Nat} {large : Bool} {pos : Nat} {s s' : RdSt}
    {bits : List Bool} (h : Blocks wo window large pos s bits s') :
    ∀ fuel, bits.length < fuel → readPrefix wo window large fuel pos s bits = .needMore s'.out := by
  induction h with
  | nil pos s =>
    intro fuel hf
    cases fuel with
    | zero => omega
    | succ f => simp [readPrefix]
  | @cons pos s s1 s2 b bs h t ih =>
    intro fuel hf
    have hb : b ≠ [] := by
      intro hb; subst hb
      have := h []
      rw [List.append_nil, readMetaBlockFull_nil] at this; cases this
    have hbl : 1 ≤ b.length := by
      cases b with
      | nil => exact absurd rfl hb
      | cons _ _ => simp
    cases fuel with
    | zero => omega
    | succ f =>
      have hne : (b ++ bs).isEmpty = false := by
        cases b with
        | nil => exact absurd rfl hb
        | cons _ _ => rfl
      unfold readPrefix
      rw [hne, h bs]
      simp only [Bool.false_eq_true, if_false]
      exact ih f (by simp only [List.length_append] at hf; omega)

/-- what makes `readPrefix` a STREAMING reader: bits that arrive later are read from the state it had reached -/
theorem reader_resumes {wo : WordOracle} {window : Nat} {large : Bool} {pos : Nat} {s s' : RdSt}
    {bits : List Bool} (h : Blocks wo window large pos s bits s') (more : List Bool) :
    ∀ fuel, bits.length + more.length < fuel →
      ∃ fuel', more.length < fuel' ∧
        readPrefix wo window large fuel pos s (bits ++ more) = readPrefix wo window large fuel' (pos + bits.length) s' more := by
  induction h with
  | nil pos s => intro fuel hf; exact ⟨fuel, by simpa using hf, by simp⟩
  | @cons pos s s1 s2 b bs h t ih =>
    intro fuel hf
    have hb : b ≠ [] := by
      intro hb; subst hb
      have := h []
      rw [List.append_nil, readMetaBlockFull_nil] at this; cases this
    have hbl : 1 ≤ b.length := by
      cases b with
      | nil => exact absurd rfl hb
      | cons _ _ => simp
    cases fuel with
    | zero => omega
    | succ f =>
      have hne : ((b ++ bs) ++ more).isEmpty = false := by
        cases b with
        | nil => exact absurd rfl hb
        | cons _ _ => rfl
      obtain ⟨f', hf', e⟩ := ih f (by simp only [List.length_append] at hf; omega)
      refine ⟨f', hf', ?_⟩
      have hpos : pos + b.length + bs.length = pos + (b ++ bs).length := by simp [Nat.add_assoc]
      rw [← hpos, ← e]
      conv => lhs; unfold readPrefix
      rw [hne]
      simp only [Bool.false_eq_true, if_false]
      rw [List.append_assoc, h (bs ++ more)]

/-- `Dec bits bytes` of `PiecesOK`, read as a statement about the RFC reader: wherever the reader stands
after complete meta-blocks `pre` from the start of the stream (bit position `p0`, state `s0`), if its
output followed by `bytes` is still a prefix of the input, then `bits` are further complete meta-blocks
that append exactly `bytes`.  (The reader state — output so far AND distance ring — is the one the
preceding bits produced: the relation is context aware, as decoding a compressed meta-block is.) -/
def DecRd (wo : WordOracle) (window : Nat) (large : Bool) (p0 : Nat) (s0 : RdSt) (input : Bytes)
    (bits : List Bool) (bytes : Bytes) : Prop :=
  ∀ pre s, Blocks wo window large p0 s0 pre s → (s.out ++ bytes) <+: input →
    ∃ s', Blocks wo window large (p0 + pre.length) s bits s' ∧ s'.out = s.out ++ bytes

theorem decRd_nil (wo : WordOracle) (window : Nat) (large : Bool) (p0 : Nat) (s0 : RdSt) (input : Bytes) :
    DecRd wo window large p0 s0 input [] [] :=
  fun _ s _ _ => ⟨s, Blocks.nil _ _, by simp⟩

theorem decRd_append (wo : WordOracle) (window : Nat) (large : Bool) (p0 : Nat) (s0 : RdSt) (input : Bytes)
    (a b : List Bool) (x y : Bytes) (h1 : DecRd wo window large p0 s0 input a x) (h2 : DecRd wo window large p0 s0 input b y) :
    DecRd wo window large p0 s0 input (a ++ b) (x ++ y) := by
  intro pre s hpre hpfx
  have hpx : (s.out ++ x) <+: input := by
    obtain ⟨t, ht⟩ := hpfx
    exact ⟨y ++ t, by rw [← ht]; simp [List.append_assoc]⟩
  obtain ⟨s1, b1, o1⟩ := h1 pre s hpre hpx
  have hpre1 : Blocks wo window large p0 s0 (pre ++ a) s1 := blocks_append hpre b1
  obtain ⟨s2, b2, o2⟩ := h2 (pre ++ a) s1 hpre1 (by rw [o1, List.append_assoc]; exact hpfx)
  refine ⟨s2, blocks_append b1 ?_, by rw [o2, o1, List.append_assoc]⟩
  have : p0 + pre.length + a.length = p0 + (pre ++ a).length := by simp [Nat.add_assoc]
  rw [this]; exact b2

theorem sync_block_blocks (wo : WordOracle) (window : Nat) (large : Bool) (lbb pos : Nat) (hp : pos % 8 = lbb % 8) (s : RdSt) :
    Blocks wo window large pos s (padBits lbb) s := by
  have := Blocks.cons (wo := wo) (window := window) (large := large) (pos := pos) (s := s) (s1 := s) (s2 := s)
    (b := padBits lbb) (bs := []) (fun rest => by simp [readMetaBlockFull, pad_readMetaBlock lbb pos hp rest]) (Blocks.nil _ _)
  simpa using this

/-- **sync_block_read_by_stream_reader**: the byte-padding block `inject_byte_padding_block` appends behind a
carry of `lbb < 8` bits (`padBits lbb` = `0 11 0 00` ++ zero fill) is, at any bit position congruent to
`lbb` modulo 8 (where the encoder puts it), ONE complete non-last meta-block for the streaming reader that
leaves its state — output and distance ring — untouched and ends on a byte boundary -/
theorem sync_block_read_by_stream_reader (wo : WordOracle) (window : Nat) (large : Bool) (lbb : Nat)
    (pos : Nat) (hp : pos % 8 = lbb) (s : RdSt) :
    Blocks wo window large pos s (padBits lbb) s ∧ (pos + (padBits lbb).length) % 8 = 0 := by
  refine ⟨sync_block_blocks wo window large lbb pos (by omega) s, ?_⟩
  · simp only [padBits, syncBits, List.length_append, List.length_cons, List.length_nil, List.length_replicate]
    omega

/-- a completed flush, as the final state shows it (the conclusion of `flush_complete`) -/
structure Flushed (s : St) : Prop where
  drained : s.pending = []
  aligned : s.lastBytesBits = 0
  allFlushed : s.lastFlushPos = s.inputPos

/-- `flush_complete` in that form, on the slow path (in the quality 0/1 one-shot path `last_flush_pos_` is not
maintained — no input is ever buffered there) -/
theorem flush_call_flushed {o : Oracle} {fuel cap : Nat} {input : Bytes} {s s' : St} {io' : Io}
    (hI : Inv s) (hrm : s.remainingMetadata = u32Max) (hw : s.inputPos + input.length < two64)
    (hst : s.streamState = .processing ∨ s.streamState = .flushRequested)
    (h : compressStream o fuel s 1 input cap = .ok (s', io', true))
    (hdrained : hasMoreOutput s' = false) (hslow : ¬ fastMode s'.params) :
    Flushed s' ∧ io'.availIn = 0 := by
  obtain ⟨a, _, c, d⟩ := BV.Props.C04.flush_complete hI hrm hw hst h hdrained
  have hp : s'.pending = [] := by
    have : s'.pending.length = 0 := by simpa [hasMoreOutput] using hdrained
    exact List.eq_nil_of_length_eq_zero this
  rcases d with d | d
  · exact ⟨⟨hp, c, d⟩, a⟩
  · exact absurd d hslow

theorem deliveredBits_flushed {t : Trace} {s : St} (hF : Flushed s) : deliveredBits t s = bytesBits t.delivered := by
  unfold deliveredBits St.carry
  rw [hF.drained, hF.aligned]
  simp [bitsOf]

def isTransparent : Ev → Bool
  | .pad _ => true
  | .mdHeader _ _ => true
  | .mdBody _ => true
  | _ => false

/-- **metadata_does_not_change_yield**: removing the sync blocks and the metadata blocks (headers and
bodies) from a log changes neither the positions it reaches nor the number of input bytes its pieces
cover — what a reader of the flushed prefix yields does not depend on the metadata in between -/
theorem metadata_does_not_change_yield (p : Pos) (log : List Ev) :
    logAdv p (log.filter (fun e => !isTransparent e)) = logAdv p log ∧
    logPos p (log.filter (fun e => !isTransparent e)) = logPos p log := by
  induction log generalizing p with
  | nil => exact ⟨rfl, rfl⟩
  | cons e es ih =>
    have keep : isTransparent e = false →
        logAdv p ((e :: es).filter (fun e => !isTransparent e)) = logAdv p (e :: es) ∧
        logPos p ((e :: es).filter (fun e => !isTransparent e)) = logPos p (e :: es) := by
      intro he
      have hf : (e :: es).filter (fun e => !isTransparent e) = e :: es.filter (fun e => !isTransparent e) := by
        simp [List.filter, he]
      rw [hf]
      obtain ⟨a, b'⟩ := ih (e.step p)
      refine ⟨?_, ?_⟩
      · show e.adv p + logAdv (e.step p) _ = e.adv p + logAdv (e.step p) es
        rw [a]
      · show logPos (e.step p) _ = logPos (e.step p) es
        exact b'
    have skip : isTransparent e = true → e.adv p = 0 → e.step p = p →
        logAdv p ((e :: es).filter (fun e => !isTransparent e)) = logAdv p (e :: es) ∧
        logPos p ((e :: es).filter (fun e => !isTransparent e)) = logPos p (e :: es) := by
      intro he h0 hs
      have hf : (e :: es).filter (fun e => !isTransparent e) = es.filter (fun e => !isTransparent e) := by
        simp [List.filter, he]
      rw [hf]
      obtain ⟨a, b'⟩ := ih p
      refine ⟨?_, ?_⟩
      · show _ = e.adv p + logAdv (e.step p) es
        rw [h0, hs, a]; simp
      · show _ = logPos (e.step p) es
        rw [hs]; exact b'
    cases e with
    | pad l => exact skip rfl rfl rfl
    | mdHeader n l => exact skip rfl rfl rfl
    | mdBody b => exact skip rfl rfl rfl
    | _ => exact keep rfl

/-- **flush_prefix_decodes_run** — for every history on a fresh encoder (any parameters, any interleaving of
PROCESS / FLUSH / EMIT_METADATA calls and `take_output`s, any capacities, any payload oracle) that ends with a
completed flush (`Flushed`, see `flush_call_flushed`), there is a log (the one of `delivered_is_framed_concat`) with
* the delivered BYTES — no pending output, no carry bits, so the prefix is byte aligned — are exactly the
  stream header followed by the log's pieces in order (payload pieces, skeleton pieces, sync padding,
  metadata headers and bodies): `bytesBits t.delivered = header ++ logBodyBits o log`, a whole number of bytes;
* `input_pos_` is the number of input bytes copied in so far, and the requests are the trace's;
* under `PiecesOK` (every piece decodes to the range it covers — exactly the hypothesis of
  `C01_roundtrip_run`; the payload encoder is the only un-proved part of it) and without one-shot
  (quality 0/1 fast path) blocks, those bytes decode to EVERY input byte supplied so far:
  `Dec body (input.take input_pos_)` — no ISLAST, no later input is needed for that. -/
theorem flush_prefix_decodes_run {o : Oracle} {fuel : Nat}
    {calls : List Call} {s0 s : St} {t : Trace}
    (hf : IsFresh s0) (hops : HistOK calls) (hw : histLen calls < two64)
    (h : run o fuel calls s0 {} = .ok (s, t)) (hF : Flushed s) :
    ∃ (log : List Ev) (header : List Bool),
      bytesBits t.delivered = header ++ logBodyBits o log ∧
      (bytesBits t.delivered).length % 8 = 0 ∧
      (log = [] ∧ header = [] ∨ ∃ rest, log = .window header :: rest ∧ NoWindow rest) ∧
      log.filterMap Ev.req = t.reqs ∧ s.inputPos = logCopied log ∧
      (∀ (Dec : List Bool → Bytes → Prop) (input : Bytes),
        BV.Props.C01.PiecesOK Dec input o log → (∀ e ∈ log, ∀ k r, e ≠ .fast k r) →
        Dec (logBodyBits o log) (input.take s.inputPos)) := by
  obtain ⟨log, hb, hwin, hr, hok, hpos⟩ := BV.Props.C01.delivered_is_framed_concat hf hops hw h
  rw [deliveredBits_flushed hF] at hb
  have hip : s.inputPos = logCopied log := by
    have := congrArg Pos.ip hpos
    rw [logPos_ip] at this
    simpa [St.pos] using this
  have hdec : ∀ (Dec : List Bool → Bytes → Prop) (input : Bytes),
      BV.Props.C01.PiecesOK Dec input o log → (∀ e ∈ log, ∀ k r, e ≠ .fast k r) →
      Dec (logBodyBits o log) (input.take s.inputPos) := by
    intro Dec input hP hnf
    have hd := pieces_compose hP.nil hP.append input o log 0 ⟨0, 0, 0, 0⟩ hP.pieces
    simp only [List.drop_zero] at hd
    have hadv := logAdv_lf hok hnf
    have hl : s.lastFlushPos = (logPos ⟨0, 0, 0, 0⟩ log).lf := congrArg Pos.lf hpos
    have : logAdv ⟨0, 0, 0, 0⟩ log = s.inputPos := by rw [← hF.allFlushed, hl, ← hadv]; simp
    rw [this] at hd; exact hd
  have hlen : (bytesBits t.delivered).length % 8 = 0 := by
    rw [bytesBits_length]; omega
  rcases hwin with rfl | ⟨b, rest, rfl, hnw⟩
  · exact ⟨[], [], by rw [hb]; rfl, hlen, Or.inl ⟨rfl, rfl⟩, hr, hip, hdec⟩
  · refine ⟨.window b :: rest, b, ?_, hlen, Or.inr ⟨rest, rfl, hnw⟩, hr, hip, hdec⟩
    rw [hb]
    exact logBits_window o b hnw

/-- **flush_prefix_read_by_stream_reader** — the same with the reader explicit.  `Dec` is `DecRd`: the RFC
reader, started behind the stream header (`header` is read by the §9.1 reader as window `lgwin` in form
`large`: `declared_window` of C15 for this encoder's header), in the initial decoder state.  If every piece of
the log decodes to its range in that sense (`PiecesOK (DecRd …)`: its `nil` / `append` fields are PROVED,
`decRd_nil` / `decRd_append`; what is left is `pieces`, the payload hypothesis of C01), then the STREAMING
reader fed exactly the bytes delivered up to the completed flush answers `needMore (input.take input_pos_)`:
it yields every input byte supplied so far, does not error, and does not need the missing ISLAST. -/
theorem flush_prefix_read_by_stream_reader {wo : WordOracle} {o : Oracle} {fuel : Nat}
    {calls : List Call} {s0 s : St} {t : Trace}
    (hf : IsFresh s0) (hops : HistOK calls) (hw : histLen calls < two64)
    (h : run o fuel calls s0 {} = .ok (s, t)) (hF : Flushed s) :
    ∃ (log : List Ev) (header : List Bool),
      bytesBits t.delivered = header ++ logBodyBits o log ∧ s.inputPos = logCopied log ∧
      ∀ (input : Bytes) (lgwin : Nat) (large : Bool),
        (∀ rest, BV.HeaderSpec.readWbits (header ++ rest) = some (lgwin, large, rest)) →
        PiecesDecode (DecRd wo (2 ^ lgwin - 16) large header.length ⟨[], [4, 11, 15, 16]⟩ input) input o 0 ⟨0, 0, 0, 0⟩ log →
        (∀ e ∈ log, ∀ k r, e ≠ .fast k r) →
        readStreamPrefix wo (bytesBits t.delivered) = .needMore (input.take s.inputPos) := by
  obtain ⟨log, header, hb, _, _, _, hip, hdec⟩ := flush_prefix_decodes_run (o := o) hf hops hw h hF
  refine ⟨log, header, hb, hip, ?_⟩
  intro input lgwin large hhdr hpieces hnf
  have hD := hdec (DecRd wo (2 ^ lgwin - 16) large header.length ⟨[], [4, 11, 15, 16]⟩ input) input
    ⟨decRd_nil _ _ _ _ _ _, decRd_append _ _ _ _ _ _, hpieces⟩ hnf
  obtain ⟨s', hbl, hout⟩ := hD [] ⟨[], [4, 11, 15, 16]⟩ (Blocks.nil _ _) (by simpa using List.take_prefix _ _)
  have hout' : s'.out = input.take s.inputPos := by simpa using hout
  unfold readStreamPrefix
  rw [hb, hhdr (logBodyBits o log)]
  simp only [List.length_append, Nat.add_sub_cancel]
  have := reader_needs_more_at_boundary hbl (logBodyBits o log).length.succ (Nat.lt_succ_self _)
  simp only [List.length_nil, Nat.add_zero] at this
  rw [this, hout']

/-- the stream model's `EncodeWindowBits` is the header model's (the one C15's `wbits_roundtrip` is about) on
every window `ensure_initialized` can pass (10..30, both forms) -/
theorem stream_encodeWindowBits_eq_header :
    ∀ (w : Fin 21) (lw : Bool), BV.Stream.encodeWindowBits ((w.val + 10 : Nat) : Int) lw
      = BV.Header.encodeWindowBits ((w.val + 10 : Nat) : Int) lw := by
  decide +kernel

/-- **stream_header_is_declared_window**: the bits the stream model's `ensure_initialized` stages for a fresh
encoder with parameters `p` (the `window` event of every log) are read by the RFC 9.1 reader as the window
`clampWindow p.quality p.lgwin p.large_window` in the requested form — C15's `declared_window`, here for the
STREAM model (no correspondence step in between) -/
theorem stream_header_is_declared_window {sf : St} (hf : IsFresh sf) (rest : List Bool) :
    BV.HeaderSpec.readWbits ((ensureInitialized sf).carry ++ rest)
      = some ((BV.HeaderSpec.clampWindow sf.params.quality sf.params.lgwin sf.params.largeWindow).toNat,
          sf.params.largeWindow, rest) := by
  obtain ⟨p, rfl⟩ := hf
  obtain ⟨h1, h2, h3⟩ := BV.Header.clampWindow_range p.quality p.lgwin p.largeWindow
  have hcl : (if (sanitize p).quality = 0 ∨ (sanitize p).quality = 1 then max (sanitize p).lgwin 18 else (sanitize p).lgwin)
      = BV.HeaderSpec.clampWindow p.quality p.lgwin p.largeWindow := by
    rw [sanitize_lgwin_eq]
    have hq : ((sanitize p).quality = 0 ∨ (sanitize p).quality = 1) ↔ p.quality ≤ 1 := by
      show (min 11 (max 0 p.quality) = 0 ∨ min 11 (max 0 p.quality) = 1) ↔ _
      omega
    unfold BV.HeaderSpec.clampWindow
    simp only [hq]
  obtain ⟨w, hw⟩ : ∃ w : Fin 21, BV.HeaderSpec.clampWindow p.quality p.lgwin p.largeWindow = ((w.val + 10 : Nat) : Int) :=
    ⟨⟨(BV.HeaderSpec.clampWindow p.quality p.lgwin p.largeWindow).toNat - 10, by omega⟩, by simp only []; omega⟩
  have hcarry : (ensureInitialized { St.new with params := p }).carry
      = bitsOf (BV.Header.encodeWindowBits (BV.HeaderSpec.clampWindow p.quality p.lgwin p.largeWindow) p.largeWindow).2
          (BV.Header.encodeWindowBits (BV.HeaderSpec.clampWindow p.quality p.lgwin p.largeWindow) p.largeWindow).1 := by
    have hlw : (sanitize p).largeWindow = p.largeWindow := rfl
    simp only [ensureInitialized, St.new, St.carry, Bool.false_eq_true, if_false, hcl, hlw]
    rw [hw, stream_encodeWindowBits_eq_header w p.largeWindow]
  rw [hcarry]
  exact (BV.Props.C15.wbits_roundtrip _ _ h1 h2 h3 rest).1

/-! `run_factsX` (BV/Lemmas/StreamRunMd.lean) adds to the log of a history the ALIGNMENT of every padding block
and metadata header (bit offset ≡ carry mod 8) and the GROUPING of metadata events (a header for `n` bytes
is followed by body chunks totalling `n` before any other bit-carrying event): what `body_blocks` needs to read the
pieces the state machine writes itself (reader lemmas: BV/Lemmas/StreamRunMdRead.lean). -/

theorem md_block_blocks (wo : WordOracle) (window : Nat) (large : Bool) (n lbb pos : Nat) (hn : n ≤ 16777216)
    (hp : pos % 8 = lbb % 8) (payload : List Bool) (hpl : payload.length = 8 * n) (s : RdSt) :
    Blocks wo window large pos s (mdHeaderTail n lbb ++ payload) s := by
  have := Blocks.cons (wo := wo) (window := window) (large := large) (pos := pos) (s := s) (s1 := s) (s2 := s)
    (b := mdHeaderTail n lbb ++ payload) (bs := []) (fun rest => by
      obtain ⟨bytes, hb, _⟩ := md_block_readMetaBlock n lbb pos hn hp payload rest hpl
      unfold readMetaBlockFull
      rw [hb]) (Blocks.nil _ _)
  simpa using this

/-- the payload hypothesis: `Dec` for the payload-encoder events only (cf. `PiecesDecode`, which asks it of
every event) -/
def PayloadDecode (Dec : List Bool → Bytes → Prop) (input : Bytes) (o : Oracle) : Nat → Pos → List Ev → Prop
  | _, _, [] => True
  | c, p, .enc k r pre sk tk :: es =>
    Dec ((Ev.enc k r pre sk tk).bits o) ((input.drop c).take ((Ev.enc k r pre sk tk).adv p)) ∧
      PayloadDecode Dec input o (c + (Ev.enc k r pre sk tk).adv p) ((Ev.enc k r pre sk tk).step p) es
  | c, p, .fast k r :: es =>
    Dec ((Ev.fast k r).bits o) ((input.drop c).take ((Ev.fast k r).adv p)) ∧
      PayloadDecode Dec input o (c + (Ev.fast k r).adv p) ((Ev.fast k r).step p) es
  | c, p, e :: es => PayloadDecode Dec input o (c + e.adv p) (e.step p) es

/-- where the reader stands inside a log: at a boundary (`opn = 0`, nothing accumulated), or inside a metadata
block whose header and first chunks are `acc`, `opn` payload bytes still to come -/
def MidShape (p0 : Nat) (pre acc : List Bool) (opn : Nat) : Prop :=
  (opn = 0 ∧ acc = []) ∨
  (∃ n l chunks, 0 < opn ∧ acc = mdHeaderTail n l ++ chunks ∧ chunks.length + 8 * opn = 8 * n ∧
    (p0 + pre.length) % 8 = l % 8 ∧ n ≤ 16777216)

theorem take_add_drop (input : Bytes) (c a : Nat) : input.take c ++ (input.drop c).take a = input.take (c + a) := by
  rw [List.take_add]

/-- **body_blocks**: a log accepted by the metadata / alignment automaton, whose payload events decode
(`DecRd`), is — from any reachable reader position — complete non-last meta-blocks that append exactly the
input bytes the log covers -/
theorem body_blocks (wo : WordOracle) (window : Nat) (large : Bool) (p0 : Nat) (s0 : RdSt) (input : Bytes) (o : Oracle) :
    ∀ (log : List Ev), NoWindow log → ∀ (pre acc : List Bool) (s : RdSt) (opn c : Nat) (p : Pos),
      Blocks wo window large p0 s0 pre s → MidShape p0 pre acc opn → s.out = input.take c →
      MdLog o (p0 + pre.length + acc.length) opn log → logOpen opn log = 0 →
      PayloadDecode (DecRd wo window large p0 s0 input) input o c p log →
      ∃ s', Blocks wo window large p0 s0 (pre ++ acc ++ logBodyBits o log) s' ∧ s'.out = input.take (c + logAdv p log) := by
  intro log
  induction log with
  | nil =>
    intro _ pre acc s opn c p hre hsh hout _ hfin _
    have h0 : opn = 0 := hfin
    rcases hsh with ⟨_, rfl⟩ | ⟨n, l, ch, hpos, _⟩
    · exact ⟨s, by simpa [logBodyBits] using hre, by simpa [logAdv] using hout⟩
    · omega
  | cons e es ih =>
    intro hnw pre acc s opn c p hre hsh hout hmd hfin hpay
    have hnw' : NoWindow es := fun e' he' => hnw e' (List.mem_cons_of_mem _ he')
    obtain ⟨hg, hmd'⟩ := hmd
    have hfin' : logOpen (evOpen opn e) es = 0 := hfin
    have bitless : (e.bits o = []) → evOpen opn e = opn → e.adv p = 0 →
        PayloadDecode (DecRd wo window large p0 s0 input) input o (c + e.adv p) (e.step p) es →
        (∀ b, logBodyBits o (e :: es) = b → b = logBodyBits o es) →
        ∃ s', Blocks wo window large p0 s0 (pre ++ acc ++ logBodyBits o (e :: es)) s' ∧
          s'.out = input.take (c + logAdv p (e :: es)) := by
      intro hb ho ha hp' hbody
      rw [hb, List.length_nil, Nat.add_zero, ho] at hmd'
      rw [ho] at hfin'
      rw [ha, Nat.add_zero] at hp'
      obtain ⟨s', b1, b2⟩ := ih hnw' pre acc s opn c (e.step p) hre hsh hout hmd' hfin' hp'
      refine ⟨s', ?_, ?_⟩
      · rw [hbody _ rfl]; exact b1
      · show s'.out = input.take (c + (e.adv p + logAdv (e.step p) es))
        rw [ha, Nat.zero_add]; exact b2
    have piece : opn = 0 → evOpen opn e = opn →
        DecRd wo window large p0 s0 input (e.bits o) ((input.drop c).take (e.adv p)) ∧
          PayloadDecode (DecRd wo window large p0 s0 input) input o (c + e.adv p) (e.step p) es →
        logBodyBits o (e :: es) = e.bits o ++ logBodyBits o es →
        ∃ s', Blocks wo window large p0 s0 (pre ++ acc ++ logBodyBits o (e :: es)) s' ∧
          s'.out = input.take (c + logAdv p (e :: es)) := by
      intro ho hev hpay hbody
      rw [hev] at hmd' hfin'
      subst ho
      rcases hsh with ⟨_, rfl⟩ | ⟨n, l', chs, hpos, _⟩
      · obtain ⟨hd, hpay'⟩ := hpay
        simp only [List.length_nil, Nat.add_zero] at hmd'
        obtain ⟨s1, b1, o1⟩ := hd pre s hre (by rw [hout, take_add_drop]; exact List.take_prefix _ _)
        have hre' := blocks_append hre b1
        have hmd2 : MdLog o (p0 + (pre ++ e.bits o).length + ([] : List Bool).length) 0 es := by
          simpa [Nat.add_assoc] using hmd'
        obtain ⟨s', c1, c2⟩ := ih hnw' (pre ++ e.bits o) [] s1 0 (c + e.adv p) (e.step p) hre' (Or.inl ⟨rfl, rfl⟩)
          (by rw [o1, hout, take_add_drop]) hmd2 hfin' hpay'
        refine ⟨s', ?_, ?_⟩
        · simpa [hbody, List.append_assoc] using c1
        · show s'.out = input.take (c + (e.adv p + logAdv (e.step p) es))
          rw [← Nat.add_assoc]; exact c2
      · omega
    cases e with
    | window b => exact absurd rfl (hnw _ List.mem_cons_self b)
    | pad l =>
      obtain ⟨ho, hal⟩ := hg
      subst ho
      rcases hsh with ⟨_, rfl⟩ | ⟨n, l', chs, hpos, _⟩
      · simp only [List.length_nil, Nat.add_zero] at hal hmd'
        have hb := sync_block_blocks wo window large l (p0 + pre.length) hal s
        have hre' := blocks_append hre hb
        have hmd2 : MdLog o (p0 + (pre ++ padBits l).length + ([] : List Bool).length) 0 es := by
          simpa [Ev.bits, evOpen, Nat.add_assoc] using hmd'
        obtain ⟨s', b1, b2⟩ := ih hnw' (pre ++ padBits l) [] s 0 c ((Ev.pad l).step p) hre' (Or.inl ⟨rfl, rfl⟩) hout hmd2 hfin' hpay
        refine ⟨s', ?_, ?_⟩
        · simpa [logBodyBits, Ev.bits, List.append_assoc] using b1
        · simpa [logAdv, Ev.adv] using b2
      · omega
    | enc k r pr sk tk => exact piece hg rfl hpay rfl
    | fast k r => exact piece hg rfl hpay rfl
    | mdHeader n l =>
      obtain ⟨ho, hal, hn⟩ := hg
      subst ho
      rcases hsh with ⟨_, rfl⟩ | ⟨n', l', chs, hpos, _⟩
      · simp only [List.length_nil, Nat.add_zero] at hal hmd'
        have hpay' : PayloadDecode (DecRd wo window large p0 s0 input) input o c p es := by
          have := hpay
          simpa [PayloadDecode, Ev.adv, Ev.step] using this
        by_cases h0 : n = 0
        · subst h0
          have hb := md_block_blocks wo window large 0 l (p0 + pre.length) hn hal [] rfl s
          rw [List.append_nil] at hb
          have hre' := blocks_append hre hb
          have hmd2 : MdLog o (p0 + (pre ++ mdHeaderTail 0 l).length + ([] : List Bool).length) 0 es := by
            simpa [Ev.bits, evOpen, Nat.add_assoc] using hmd'
          obtain ⟨s', b1, b2⟩ := ih hnw' (pre ++ mdHeaderTail 0 l) [] s 0 c p hre' (Or.inl ⟨rfl, rfl⟩) hout hmd2 hfin' hpay'
          refine ⟨s', ?_, ?_⟩
          · simpa [logBodyBits, Ev.bits, List.append_assoc] using b1
          · simpa [logAdv, Ev.adv, Ev.step] using b2
        · have hmd2 : MdLog o (p0 + pre.length + (mdHeaderTail n l).length) n es := by
            simpa [Ev.bits, evOpen, Nat.add_assoc] using hmd'
          obtain ⟨s', b1, b2⟩ := ih hnw' pre (mdHeaderTail n l) s n c p hre
            (Or.inr ⟨n, l, [], by omega, by simp, by simp, hal, hn⟩) hout hmd2 hfin' hpay'
          refine ⟨s', ?_, ?_⟩
          · simpa [logBodyBits, Ev.bits, List.append_assoc] using b1
          · simpa [logAdv, Ev.adv, Ev.step] using b2
      · omega
    | mdBody b =>
      have hle : b.length ≤ opn := hg
      have hpay' : PayloadDecode (DecRd wo window large p0 s0 input) input o c p es := by
        have := hpay
        simpa [PayloadDecode, Ev.adv, Ev.step] using this
      rcases hsh with ⟨h0, rfl⟩ | ⟨n, l, chs, hpos, hacc, hcnt, hal, hn⟩
      · subst h0
        have hb : b = [] := List.eq_nil_of_length_eq_zero (by omega)
        subst hb
        have hmd2 : MdLog o (p0 + pre.length + ([] : List Bool).length) 0 es := by
          simpa [Ev.bits, evOpen, bytesBits] using hmd'
        obtain ⟨s', b1, b2⟩ := ih hnw' pre [] s 0 c p hre (Or.inl ⟨rfl, rfl⟩) hout hmd2 (by simpa [evOpen] using hfin') hpay'
        refine ⟨s', ?_, ?_⟩
        · simpa [logBodyBits, Ev.bits, bytesBits] using b1
        · simpa [logAdv, Ev.adv, Ev.step] using b2
      · subst hacc
        have hbl : (bytesBits b).length = 8 * b.length := bytesBits_length b
        by_cases hc : opn - b.length = 0
        · -- the block is complete
          have hb := md_block_blocks wo window large n l (p0 + pre.length) hn hal (chs ++ bytesBits b)
            (by rw [List.length_append, hbl]; omega) s
          have hre' := blocks_append hre hb
          have hmd2 : MdLog o (p0 + (pre ++ (mdHeaderTail n l ++ (chs ++ bytesBits b))).length + ([] : List Bool).length) 0 es := by
            have := hmd'
            simp only [Ev.bits, evOpen, hc] at this
            simpa [Nat.add_assoc] using this
          obtain ⟨s', b1, b2⟩ := ih hnw' (pre ++ (mdHeaderTail n l ++ (chs ++ bytesBits b))) [] s 0 c p hre' (Or.inl ⟨rfl, rfl⟩) hout hmd2
            (by simpa [evOpen, hc] using hfin') hpay'
          refine ⟨s', ?_, ?_⟩
          · simpa [logBodyBits, Ev.bits, List.append_assoc] using b1
          · simpa [logAdv, Ev.adv, Ev.step] using b2
        · have hmd2 : MdLog o (p0 + pre.length + (mdHeaderTail n l ++ (chs ++ bytesBits b)).length) (opn - b.length) es := by
            have := hmd'
            simp only [Ev.bits, evOpen] at this
            simpa [Nat.add_assoc] using this
          obtain ⟨s', b1, b2⟩ := ih hnw' pre (mdHeaderTail n l ++ (chs ++ bytesBits b)) s (opn - b.length) c p hre
            (Or.inr ⟨n, l, chs ++ bytesBits b, by omega, rfl, by rw [List.length_append, hbl]; omega, hal, hn⟩) hout hmd2
            (by simpa [evOpen] using hfin') hpay'
          refine ⟨s', ?_, ?_⟩
          · simpa [logBodyBits, Ev.bits, List.append_assoc] using b1
          · simpa [logAdv, Ev.adv, Ev.step] using b2
    | _ => exact bitless rfl rfl rfl hpay (fun _ h => by rw [← h]; rfl)

theorem flush_call_processing {o : Oracle} {fuel cap : Nat} {input : Bytes} {s s' : St} {io' : Io}
    (hI : Inv s) (hrm : s.remainingMetadata = u32Max) (hw : s.inputPos + input.length < two64)
    (hst : s.streamState = .processing ∨ s.streamState = .flushRequested)
    (h : compressStream o fuel s 1 input cap = .ok (s', io', true))
    (hdrained : hasMoreOutput s' = false) : s'.streamState = .processing :=
  (BV.Props.C04.flush_complete hI hrm hw hst h hdrained).2.1

/-- **flush_prefix_read_by_stream_reader_md** — histories WITH metadata, only the payload assumed.
For every history on a fresh encoder (any interleaving of PROCESS / FLUSH / EMIT_METADATA calls and
`take_output`s, any capacities, any oracle) that ends with a completed flush in state PROCESSING
(`Flushed` and `stream_state_ = PROCESSING`: both conclusions of `flush_complete`), there is a log with
`bytesBits t.delivered = header ++ logBodyBits o log` such that: if the header is read by the RFC 9.1 reader as
`(lgwin, large)` and the PAYLOAD-ENCODER events of the log decode in the reader's sense (`PayloadDecode (DecRd …)`:
nothing is asked of sync blocks, metadata headers or metadata bodies — those are proved), then the streaming
reader fed exactly the delivered bytes answers `needMore` with the input bytes the log covers, which without
one-shot blocks are ALL the input bytes supplied so far. -/
theorem flush_prefix_read_by_stream_reader_md {wo : WordOracle} {o : Oracle} {fuel : Nat}
    {calls : List Call} {s0 s : St} {t : Trace}
    (hf : IsFresh s0) (hops : HistOK calls) (hw : histLen calls < two64)
    (h : run o fuel calls s0 {} = .ok (s, t)) (hF : Flushed s) (hst : s.streamState = .processing) :
    ∃ (log : List Ev) (header : List Bool),
      bytesBits t.delivered = header ++ logBodyBits o log ∧ s.inputPos = logCopied log ∧
      ((∀ e ∈ log, ∀ k r, e ≠ .fast k r) → logAdv ⟨0, 0, 0, 0⟩ log = s.inputPos) ∧
      (log = [] ∨ ∃ sf, IsFresh sf ∧ header = (ensureInitialized sf).carry) ∧
      ∀ (input : Bytes) (lgwin : Nat) (large : Bool),
        (∀ rest, BV.HeaderSpec.readWbits (header ++ rest) = some (lgwin, large, rest)) →
        PayloadDecode (DecRd wo (2 ^ lgwin - 16) large header.length ⟨[], [4, 11, 15, 16]⟩ input) input o 0 ⟨0, 0, 0, 0⟩ log →
        readStreamPrefix wo (bytesBits t.delivered) = .needMore (input.take (logAdv ⟨0, 0, 0, 0⟩ log)) := by
  have hip0 : s0.inputPos = 0 := hf.inputPos
  obtain ⟨log, f⟩ := run_factsX (o := o) (fuel := fuel) (t0 := {}) (runOK_fresh hf) hops (by rw [hip0]; omega) h
  have hb := f.bits
  rw [deliveredBits_fresh hf, List.nil_append, deliveredBits_flushed hF] at hb
  have hp0 := pos_fresh hf
  have hpos := f.pos
  rw [hp0] at hpos
  have hlok := f.lok
  rw [hp0] at hlok
  have hipc : s.inputPos = logCopied log := by
    have := congrArg Pos.ip hpos
    rw [logPos_ip] at this
    simpa [St.pos] using this
  have hadv : (∀ e ∈ log, ∀ k r, e ≠ .fast k r) → logAdv ⟨0, 0, 0, 0⟩ log = s.inputPos := by
    intro hnf
    have h1 := logAdv_lf hlok hnf
    have hl : s.lastFlushPos = (logPos ⟨0, 0, 0, 0⟩ log).lf := congrArg Pos.lf hpos
    rw [← hF.allFlushed, hl, ← h1]; simp
  have hmd := f.md
  rw [deliveredBits_fresh hf, mdOpen_fresh hf] at hmd
  have hopn := f.opn
  rw [mdOpen_fresh hf, mdOpen_of_not_md (by rw [hst]; simp)] at hopn
  have hini0 : s0.isInitialized = false := isFreshInit hf
  rcases f.win with ⟨_, _, rfl⟩ | ⟨_, _, b, rest, rfl, hnw⟩ | ⟨a1, _, _⟩
  · refine ⟨[], [], by rw [hb]; rfl, hipc, hadv, Or.inl rfl, ?_⟩
    intro input lgwin large hhdr _
    have := hhdr []
    simp [BV.HeaderSpec.readWbits] at this
  · refine ⟨.window b :: rest, b, ?_, hipc, hadv, Or.inr (f.hdr _ List.mem_cons_self b rfl), ?_⟩
    · rw [hb]
      exact logBits_window o b hnw
    · intro input lgwin large hhdr hpay
      obtain ⟨_, hmd'⟩ := hmd
      have hmd2 : MdLog o (b.length + ([] : List Bool).length + ([] : List Bool).length) 0 rest := by
        simpa [Ev.bits, evOpen] using hmd'
      have hpay' : PayloadDecode (DecRd wo (2 ^ lgwin - 16) large b.length ⟨[], [4, 11, 15, 16]⟩ input) input o 0 ⟨0, 0, 0, 0⟩ rest := by
        simpa [PayloadDecode, Ev.adv, Ev.step] using hpay
      obtain ⟨s', b1, b2⟩ := body_blocks wo (2 ^ lgwin - 16) large b.length ⟨[], [4, 11, 15, 16]⟩ input o rest hnw [] []
        ⟨[], [4, 11, 15, 16]⟩ 0 0 ⟨0, 0, 0, 0⟩ (Blocks.nil _ _) (Or.inl ⟨rfl, rfl⟩) (by simp) hmd2
        (by simpa [logOpen, evOpen] using hopn.symm) hpay'
      have hbody : logBits o (.window b :: rest) = b ++ logBodyBits o rest := logBits_window o b hnw
      unfold readStreamPrefix
      rw [hb, hbody, hhdr (logBodyBits o rest)]
      simp only [List.length_append, Nat.add_sub_cancel]
      have hrd := reader_needs_more_at_boundary b1 (logBodyBits o rest).length.succ (by simp)
      simp only [List.nil_append] at hrd
      rw [hrd, b2]
      have : logAdv ⟨0, 0, 0, 0⟩ (Ev.window b :: rest) = logAdv ⟨0, 0, 0, 0⟩ rest := by
        simp [logAdv, Ev.adv, Ev.step]
      rw [this, Nat.zero_add]
  · rw [hini0] at a1; cases a1

/-- **flush_prefix_read_by_stream_reader_closed** — no hypothesis about the header left.  For every history on a
fresh encoder with at least one `compress_stream` call that ends with a completed flush in state PROCESSING there
are a log and the parameters `p` in force at the first call such that the delivered bytes start with the window
bits for `W = clampWindow p.quality p.lgwin p.large_window` (`stream_header_is_declared_window`), and if the
payload-encoder events decode for a reader with the window `2^W − 16` in form `p.large_window`
(`PayloadDecode (DecRd …)`), the streaming RFC reader fed exactly the delivered bytes answers `needMore` with the
input covered so far. -/
theorem flush_prefix_read_by_stream_reader_closed {wo : WordOracle} {o : Oracle} {fuel : Nat}
    {calls : List Call} {s0 s : St} {t : Trace}
    (hf : IsFresh s0) (hops : HistOK calls) (hw : histLen calls < two64)
    (h : run o fuel calls s0 {} = .ok (s, t)) (hF : Flushed s) (hst : s.streamState = .processing) :
    ∃ (log : List Ev) (header : List Bool),
      bytesBits t.delivered = header ++ logBodyBits o log ∧
      ((∀ e ∈ log, ∀ k r, e ≠ .fast k r) → logAdv ⟨0, 0, 0, 0⟩ log = s.inputPos) ∧
      (log = [] ∨ ∃ p : BV.Stream.Params,
        (∀ rest, BV.HeaderSpec.readWbits (header ++ rest)
          = some ((BV.HeaderSpec.clampWindow p.quality p.lgwin p.largeWindow).toNat, p.largeWindow, rest)) ∧
        ∀ input : Bytes,
          PayloadDecode (DecRd wo (2 ^ (BV.HeaderSpec.clampWindow p.quality p.lgwin p.largeWindow).toNat - 16) p.largeWindow
            header.length ⟨[], [4, 11, 15, 16]⟩ input) input o 0 ⟨0, 0, 0, 0⟩ log →
          readStreamPrefix wo (bytesBits t.delivered) = .needMore (input.take (logAdv ⟨0, 0, 0, 0⟩ log))) := by
  obtain ⟨log, header, hb, _, hadv, hh, hrd⟩ := flush_prefix_read_by_stream_reader_md (wo := wo) hf hops hw h hF hst
  refine ⟨log, header, hb, hadv, ?_⟩
  rcases hh with h0 | ⟨sf, hsf, rfl⟩
  · exact Or.inl h0
  · refine Or.inr ⟨sf.params, fun rest => stream_header_is_declared_window hsf rest, ?_⟩
    intro input hpay
    exact hrd input _ _ (fun rest => stream_header_is_declared_window hsf rest) hpay

/-- a concrete flushed prefix: stream header `0` (WBITS 16), one stored meta-block holding the bytes 61 62
(ISLAST 0, MNIBBLES 4, MLEN − 1 = 1, ISUNCOMPRESSED 1, fill, the two bytes), then the sync padding block -/
def examplePrefix : List Bool :=
  [false] ++ ([false] ++ [false, false] ++ bitsOf 16 1 ++ [true] ++ [false, false, false] ++ bitsOf 8 0x61 ++ bitsOf 8 0x62)
    ++ padBits 0

/-- the streaming reader yields "ab" and asks for more input; on the same bytes cut inside the sync block it
does not (this reader then reports `stuck`); with a last-empty meta-block (`11` + fill) appended it is done -/
example : readStreamPrefix (fun _ _ _ => none) examplePrefix = .needMore [0x61, 0x62] := by decide
example : readStreamPrefix (fun _ _ _ => none) (examplePrefix.take 45) = .stuck [0x61, 0x62] := by decide
example : readStreamPrefix (fun _ _ _ => none) (examplePrefix ++ [true, true, false, false, false, false, false, false])
    = .done [0x61, 0x62] [] := by decide
example : examplePrefix.length = 48 := by decide

/-- a flushed prefix WITH a metadata block: header `0`, a metadata block of two bytes written behind the 1-bit
carry (header `0 11 0 10 00000001`, fill, AA BB), the stored block "ab", the sync block: the reader yields "ab"
and asks for more — the metadata does not show -/
example : readStreamPrefix (fun _ _ _ => none)
    ([false] ++ (mdHeaderTail 2 1 ++ bytesBits [0xAA, 0xBB])
      ++ ([false] ++ [false, false] ++ bitsOf 16 1 ++ [true] ++ [false, false, false, false] ++ bitsOf 8 0x61 ++ bitsOf 8 0x62)
      ++ padBits 0) = .needMore [0x61, 0x62] := by decide

/-- a concrete history with EMIT_METADATA between the input and the FLUSH ends `Flushed` in state PROCESSING -/
def flushedMdB (r : Out (St × Trace)) : Bool :=
  match r with
  | .ok (s, t) => s.pending.length == 0 && s.lastBytesBits == 0 && s.lastFlushPos == s.inputPos && s.inputPos == 3 &&
      s.streamState == .processing && t.mdata == [7, 8] && t.delivered.length != 0
  | _ => false
example : flushedMdB (run BV.Props.C01.exampleOracle 40
    [.setParam 1 5, .stream 0 [1, 2, 3] 100, .stream 3 [7, 8] 100, .stream 1 [] 100] St.new {}) = true := by decide

/-- `Blocks` / `DecRd` are inhabited by real meta-blocks: the sync block at every carry -/
example : Blocks (fun _ _ _ => none) 65520 false 3 ⟨[7], [4, 11, 15, 16]⟩ (padBits 3) ⟨[7], [4, 11, 15, 16]⟩ :=
  (sync_block_read_by_stream_reader _ _ _ 3 3 (by decide) _).1

/-- a concrete history ends `Flushed`: quality 5, FLUSH with three bytes and ample room
(the oracle of C01's example) -/
def flushedB (r : Out (St × Trace)) : Bool :=
  match r with
  | .ok (s, t) => s.pending.length == 0 && s.lastBytesBits == 0 && s.lastFlushPos == s.inputPos && s.inputPos == 3 &&
      t.delivered.length != 0 && t.reqs.length == 1
  | _ => false
example : flushedB (run BV.Props.C01.exampleOracle 40 [.setParam 1 5, .stream 1 [1, 2, 3] 100] St.new {}) = true := by decide

end BV.Props.C04Run
